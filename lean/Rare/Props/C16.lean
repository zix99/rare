import Rare.Proofs.C16Views
import Rare.Proofs.C16Seam
import Rare.Proofs.C16Dissect
import Rare.Proofs.C16Special
import Rare.Proofs.C16Src
import Rare.Proofs.C16Key
import Rare.Proofs.C16SrcEsc
import Rare.Proofs.C16Ctx
import Rare.Proofs.C16CtxSeam
import Rare.Gen.C16
/-!
Property C16: the JSON views `{.}`, `{#}`, `{.#}` of a match are valid, faithful and deterministic.

`Rare.Gen.C16.*` is regenerated from pkg/minijson/minijson.go on every run; the first group of
theorems is about those generated definitions.  The model (`Rare/Model/C16.lean`) mirrors the code
after the `fix:` commits listed in known_findings/C16.json.

Quantification.  A Go map is its list of entries in the order one `range` produced them; every
theorem about a name table holds for every such order (`order`, `o₁ o₂`, `σ`).  `GoTyped` collects the
typing facts of Go values (`int` group numbers, `int` slice length) that the unbounded `Int`/`List` of
the model do not carry; `regex_table_typed` / `dissect_table_typed` derive them – and the
distinctness of names – from how the matchers build their tables, so that no assumption on the size of
group numbers remains: `GetMatch` is modelled with Go's wrap-around `idx * 2`.
-/
namespace Rare.C16

/-! ### the generated table and literals -/

/-- The hand-written table of the model is the table in the source. -/
theorem escape_table_is_source : Gen.C16.escapeLookup = escapeLookup := by
  decide +kernel

/-- Every byte RFC 8259 forbids raw inside a string (control characters, `"` and `\`) has an
entry in the source's `escapeLookup`.  (False before the fix: only 7 of the 34 were mapped.) -/
theorem escape_complete : ∀ n, n < 256 → (n < 0x20 ∨ n = 0x22 ∨ n = 0x5c) →
    n < Gen.C16.escapeLookup.length ∧ Gen.C16.escapeLookup.getD n [] ≠ [] := by
  intro n _ h
  rw [escape_table_is_source, escapeLookup_getD]
  exact ⟨by simp only [escapeLookup, List.length_map, List.length_range]; omega, (escapeEntry_ne_nil_iff n).mpr h⟩

/-- Conversely only those bytes are mapped, so all other bytes (UTF-8 sequences included) pass
through unchanged. -/
theorem escape_only_needed : ∀ n, n < Gen.C16.escapeLookup.length → Gen.C16.escapeLookup.getD n [] ≠ [] →
    (n < 0x20 ∨ n = 0x22 ∨ n = 0x5c) := by
  intro n _
  rw [escape_table_is_source, escapeLookup_getD]
  exact (escapeEntry_ne_nil_iff n).mp

/-- The literal pieces the model's builder writes are the ones in the source. -/
theorem builder_literals_are_source :
    Gen.C16.openLits = [[0x7b]] ∧ Gen.C16.closeLits = [[0x7d]] ∧
    Gen.C16.writeKeyLits = [[0x2c, 0x20], [0x22], [0x22, 0x3a, 0x20]] ∧
    Gen.C16.writeStringLits = [[0x22], [0x22]] ∧
    Gen.C16.inferredFoldLits = [litTrue, litFalse] ∧ Gen.C16.inferredLiterals = [litTrue, litFalse] :=
  ⟨rfl, rfl, rfl, rfl, rfl, rfl⟩

/-- Each entry of the source's table is an escape sequence that the RFC 8259 string grammar reads
back as exactly the byte it stands for. -/
theorem escape_entries_decode (c : UInt8) (tail : Bytes)
    (h : c.toNat < Gen.C16.escapeLookup.length ∧ Gen.C16.escapeLookup.getD c.toNat [] ≠ []) :
    strBody .norm (Gen.C16.escapeLookup.getD c.toNat [] ++ tail) =
      (strBody .norm tail).map fun p => (c :: p.1, p.2) := by
  rw [escape_table_is_source] at h ⊢
  have hl : lookup c = escapeLookup.getD c.toNat [] := by simp [lookup, h.1]
  have := strBody_esc1 c tail
  rw [esc1, if_pos (by rw [hl]; exact h.2), hl] at this
  exact this

/-- The only `\u` escapes the writer can produce are `\u00XX` of control characters: every entry of
the source's table is empty, a two-character escape, or `\u00` followed by two more characters.  In
particular the writer never emits a surrogate escape (`\ud800` …), lone or paired; a capture that
contains the *characters* `\ud800` gets its backslash escaped like any other (`escape_roundtrip`). -/
theorem escapes_are_control_only : ∀ n, n < Gen.C16.escapeLookup.length →
    Gen.C16.escapeLookup.getD n [] = [] ∨
    ((Gen.C16.escapeLookup.getD n []).length = 2 ∧ (Gen.C16.escapeLookup.getD n []).head? = some 0x5c ∧
      (Gen.C16.escapeLookup.getD n []).getD 1 0 ≠ 0x75) ∨
    ((Gen.C16.escapeLookup.getD n []).length = 6 ∧
      (Gen.C16.escapeLookup.getD n []).take 4 = [0x5c, 0x75, 0x30, 0x30] ∧ n < 0x20) := by
  intro n _
  rw [escape_table_is_source, escapeLookup_getD]
  rcases escapeEntry_cases n with ⟨h, _⟩ | ⟨x, h, hx, _⟩ | ⟨h, hn⟩
  · exact .inl h
  · rw [h]; exact .inr (.inl ⟨rfl, rfl, hx⟩)
  · rw [h]; exact .inr (.inr ⟨rfl, rfl, hn⟩)

/-- **Exactly what `escape` emits**, for every byte string, well-formed UTF-8 or not: byte by byte, the
entry of the source's table for the 34 bytes that have one, and the byte itself – unchanged, in
place – for every other byte (so in particular for every byte ≥ 0x80 of an ill-formed capture). -/
theorem escape_bytewise (s : Bytes) :
    escape s = s.flatMap fun c =>
      if c.toNat < Gen.C16.escapeLookup.length ∧ Gen.C16.escapeLookup.getD c.toNat [] ≠ []
      then Gen.C16.escapeLookup.getD c.toNat [] else [c] := by
  rw [escape_eq_flatMap, escape_table_is_source]
  congr 1
  funext c
  unfold esc1 lookup
  by_cases h : c.toNat < escapeLookup.length
  · by_cases h2 : escapeLookup.getD c.toNat [] ≠ []
    · simp only [h, if_true, h2, and_self, ne_eq, not_false_eq_true]
    · simp [h]
  · simp [h]

/-! ### strings, keys, numbers -/

/-- `escape` is exact for ALL byte strings: written between quotes it reads back as the original
bytes (arbitrary bytes, not only valid UTF-8). -/
theorem escape_roundtrip (s tail : Bytes) : strBody .norm (escape s ++ 0x22 :: tail) = some (s, tail) :=
  strBody_escape s tail

/-- Member names go through `escape` (false before the fix), so any name – quotes, backslashes,
control bytes – is read back unchanged. -/
theorem key_escaped (j : JB) (key tail : Bytes) :
    (j.writeKey key).sb =
      (if 0 < j.keyCount then j.sb ++ [0x2c, 0x20] else j.sb) ++ [0x22] ++ escape key ++ [0x22, 0x3a, 0x20] ∧
    strBody .norm (escape key ++ 0x22 :: tail) = some (key, tail) :=
  ⟨rfl, strBody_escape key tail⟩

/-- Whatever `isNumeric` accepts is a JSON number (RFC 8259 grammar) whose value is the decimal
reading of the text.  (False before the fix: `007`.) -/
theorem isNumeric_subset_json (s : Bytes) (h : isNumeric s = true) :
    ∃ m e, parseNumber s = some (.num m e, []) ∧ decimalValue s = some (m, e) := by
  have := isNumeric_parse s [] h endsNumber_nil
  simpa using this

/-- **Same value, over ℚ.**  For every capture `isNumeric` accepts, the bare literal that is emitted
is read by the RFC 8259 number grammar completely, and the rational number it denotes
(`mantissa × 10^exponent`) is the rational number the capture denotes when read as a decimal numeral
(integer digits plus fraction digits over a power of ten – `decimalRat`, defined without mantissa /
exponent pairs). -/
theorem numeric_same_rational (s : Bytes) (h : isNumeric s = true) :
    ∃ v q, parseNumber s = some (v, []) ∧ v.toRat = some q ∧ decimalRat s = some q := by
  have := isNumeric_rat s [] h endsNumber_nil
  simpa using this

/-- The integer-pair comparison used by `decodesTo` (and therefore by `json_valid_faithful`) is equality
of rationals: a number member that decodes to a capture denotes the capture's decimal value. -/
theorem decoded_number_same_rational (m e : Int) (capture : Bytes) (h : decodesTo (.num m e) capture = true) :
    decimalRat capture = some (ratOf m e) :=
  decodesTo_num_rat m e capture h

/-- What is *not* a number for the writer, although a reader of decimals might take it for one:
signs, exponents, a leading or trailing point, leading zeros.  These stay strings (and so decode to
the exact capture). -/
theorem numeric_shape (s : Bytes) (h : isNumeric s = true) :
    ∃ ip fp, ip ≠ [] ∧ ip.all isDig = true ∧ fp.all isDig = true ∧ ¬ (1 < ip.length ∧ ip.head? = some 0x30) ∧
      ((s = ip ∧ fp = []) ∨ (s = ip ++ 0x2e :: fp ∧ fp ≠ [])) :=
  isNumeric_shape s h

/-- **Booleans only for the exact ASCII spellings.**  The value is written as the bare literal `true`
(resp. `false`) exactly when the capture is one of the 16 (resp. 32) spellings of that word with each
letter in upper or lower ASCII case – nothing that merely case-folds to it under Unicode rules
(`fal\u017fe`, Kelvin sign), nothing padded. -/
theorem bool_only_ascii_spellings (val : Bytes) (b : Bool) :
    inferredVal val = .bool b ↔ val ∈ spellings (if b then litTrue else litFalse) :=
  inferredVal_bool_iff val b

/-! ### group look-up and the name tables -/

/-- `GetMatch` with Go's wrap-around arithmetic agrees with the specification of a capture for EVERY
`int` group number – negative, in range, out of range, and from 2^62 on, where `idx * 2` wraps. -/
theorem getMatch_every_int (indices : List Int) (line : Bytes) (idx : Int) (v : Bytes)
    (hi : minInt64 ≤ idx ∧ idx ≤ maxInt64) (hl : (indices.length : Int) ≤ maxInt64)
    (h : getMatch indices line idx = .ok v) : v = capture indices line idx :=
  getMatch_ok indices line idx v hi hl h

/-- Group numbers that cannot name a group read as empty, without a panic and without touching the
index slice, whatever the wrapped product is. -/
theorem getMatch_out_of_range (indices : List Int) (line : Bytes) (idx : Int)
    (hi : minInt64 ≤ idx ∧ idx ≤ maxInt64) (hl : (indices.length : Int) ≤ maxInt64)
    (h : idx < 0 ∨ (indices.length : Int) ≤ 2 * idx + 1) : getMatch indices line idx = .ok [] := by
  unfold getMatch
  simp only []
  rw [if_pos ((getMatch_guard indices idx hi hl).mpr (by omega))]

/-- The table `fastregex.createGroupNameTable` builds from `SubexpNames()`: names are distinct and
every entry `(name, k)` is a real group: `0 ≤ k < len(SubexpNames())` and the `k`-th name is the
non-empty `name`.  Every non-empty name of the expression has an entry. -/
theorem regex_table_typed (names : List Bytes) :
    ((regexNameTable names).map (·.1)).Nodup ∧
    (∀ p ∈ regexNameTable names, 0 ≤ p.2 ∧ p.2 < names.length ∧ names[p.2.toNat]? = some p.1 ∧ p.1 ≠ []) ∧
    (∀ n ∈ names, n ≠ [] → n ∈ (regexNameTable names).map (·.1)) :=
  ⟨regexNameTable_nodup names, regexNameTable_entry names,
   fun n hn hne => regexTableGo_covers names [] 0 n (Or.inr ⟨hn, hne⟩)⟩

/-- The table `dissect.CompileEx` builds: distinct names, group numbers `1 … number of tokens`. -/
theorem dissect_table_typed (tokens : List (Bytes × Bool)) (table : List (Bytes × Int))
    (h : dissectNameTable tokens = .ok table) :
    (table.map (·.1)).Nodup ∧ ∀ p ∈ table, 1 ≤ p.2 ∧ p.2 ≤ tokens.length :=
  dissectNameTable_inv tokens table h

/-! ### the views -/

/-- **Valid and faithful.**  For every name table (as any iteration order `order` of a map with
distinct names), every index slice and every line of arbitrary bytes: if `json` returns (the only
other outcome is the slice-bounds panic on an index slice that does not fit the line), its text
parses as one JSON object, and its members are, in order, the named captures (a permutation of the
name table) followed by the non-empty numbered captures, each with the right name and a value
that decodes to the captured text. -/
theorem json_valid_faithful (named numbered : Bool) (order : List (Bytes × Int)) (indices : List Int)
    (line out : Bytes) (hty : GoTyped order indices) (hnd : (order.map (·.1)).Nodup)
    (h : json named numbered order indices line = .ok out) :
    ∃ ms es, parseObj out = some ms ∧
      es.Perm (if named then expectedNamed order indices line else []) ∧
      es.Pairwise (fun a b => bytesLe a.1 b.1 = true) ∧
      membersDecode ms (es ++ (if numbered then expectedNumbered indices line else [])) = true :=
  json_faithful_of_perm named numbered order order indices line out (.refl _) hty hnd h

/-- **Member sets and order of the four keys.**  `GetKey` maps `"."` to the named members only, `"#"`
to the numbered members only, `".#"` and `"#."` – the same text for both spellings – to the named
members followed by the numbered ones.  The member names are, in this order: the group names in
ascending byte order, then the decimal numerals of the groups whose text is not empty, ascending
(group 0, the whole match, included).  The numerals read back as the group numbers and are distinct,
and so are the group names. -/
theorem view_members (key : Bytes) (order : List (Bytes × Int)) (indices : List Int) (line out : Bytes)
    (hty : GoTyped order indices) (hnd : (order.map (·.1)).Nodup)
    (h : getKeyJson key order indices line = some (.ok out)) :
    ∃ named numbered ms, viewFlags key = some (named, numbered) ∧ parseObj out = some ms ∧
      ms.map (·.1) =
        (if named then sortNames (order.map (·.1)) else []) ++
        (if numbered then (expectedNumbered indices line).map (·.1) else []) ∧
      (sortNames (order.map (·.1))).Perm (order.map (·.1)) ∧
      (sortNames (order.map (·.1))).Pairwise (fun a b => bytesLe a b = true) ∧
      (sortNames (order.map (·.1))).Nodup ∧
      ((expectedNumbered indices line).map (·.1)).Nodup ∧
      (∀ i : Nat, (natAscii i, capture indices line (i : Nat)) ∈ expectedNumbered indices line ↔
        (i < indices.length / 2 ∧ capture indices line (i : Nat) ≠ [])) ∧
      (∀ i : Nat, digVal (natAscii i) = i) := by
  rw [getKeyJson_eq_map] at h
  obtain ⟨⟨named, numbered⟩, hf, hj⟩ := Option.map_eq_some_iff.mp h
  have ht := json_ok_text named numbered order indices line out hty hj
  refine ⟨named, numbered, _, hf, by rw [ht]; exact parseObj_objText _ _, ?_, sortNames_perm _, sortNames_sorted _,
    (sortNames_perm _).nodup_iff.mpr hnd, numbered_names_nodup indices line, ?_, digVal_natAscii⟩
  · rw [dec_names]; exact viewMembers_names named numbered order indices line
  · intro i
    rw [mem_expectedNumbered]
    constructor
    · rintro ⟨j, hj, hne, e⟩
      cases natAscii_inj _ _ (Prod.mk.inj e).1
      exact ⟨hj, hne⟩
    · rintro ⟨hi, hne⟩
      exact ⟨i, hi, hne, rfl⟩

/-- `".#"` and `"#."` are the same view; `"."`, `"#"`, `".#"`, `"#."` are the only JSON keys. -/
theorem view_keys (key : Bytes) (order : List (Bytes × Int)) (indices : List Int) (line : Bytes) :
    getKeyJson key order indices line =
      (viewFlags key).map (fun f => json f.1 f.2 order indices line) ∧
    getKeyJson [0x2e, 0x23] order indices line = getKeyJson [0x23, 0x2e] order indices line ∧
    (viewFlags key ≠ none ↔ key = [0x2e] ∨ key = [0x23] ∨ key = [0x2e, 0x23] ∨ key = [0x23, 0x2e]) := by
  refine ⟨getKeyJson_eq_map key order indices line, rfl, ?_⟩
  rw [← viewFlags_isSome_iff, Option.isSome_iff_ne_none]

/-- **Duplicate member names.**  Within the named part and within the numbered part names are distinct
(`view_members`); in `{.#}` a name is repeated exactly when a group is *named* by the decimal numeral
of a group with non-empty text (Go's regexp accepts `(?P<1>…)`).  RFC 8259 allows this
syntactically (names SHOULD be unique); the text still parses and both members decode to their
captures. -/
theorem view_names_nodup_iff (order : List (Bytes × Int)) (indices : List Int) (line : Bytes)
    (hnd : (order.map (·.1)).Nodup) :
    ((viewMembers true true order indices line).map (·.1)).Nodup ↔
      ∀ p ∈ order, ∀ i : Nat, i < indices.length / 2 → capture indices line (i : Nat) ≠ [] → p.1 ≠ natAscii i := by
  rw [viewMembers_names]
  simp only [if_true]
  rw [List.nodup_append]
  have h1 : (sortNames (order.map (·.1))).Nodup := (sortNames_perm _).nodup_iff.mpr hnd
  have h2 := numbered_names_nodup indices line
  constructor
  · rintro ⟨_, _, hd⟩ p hp i hi hne e
    exact hd p.1 ((sortNames_perm _).mem_iff.mpr (List.mem_map_of_mem hp)) (natAscii i)
      (List.mem_map.mpr ⟨_, (mem_expectedNumbered indices line _).mpr ⟨i, hi, hne, rfl⟩, rfl⟩) e
  · intro h
    refine ⟨h1, h2, ?_⟩
    intro a ha b hb e
    subst e
    obtain ⟨p, hp, e⟩ := List.mem_map.mp ((sortNames_perm _).mem_iff.mp ha)
    obtain ⟨m, hm, e2⟩ := List.mem_map.mp hb
    obtain ⟨i, hi, hne, rfl⟩ := (mem_expectedNumbered indices line m).mp hm
    exact h p hp i hi hne (by rw [e, ← e2])

/-- **Well-formed UTF-8.**  `parseObj` is byte level; RFC 8259 §8.1 additionally wants the text to be
UTF-8.  That is inherited exactly from the input: when the group names and every captured text are
well-formed UTF-8 (RFC 3629 DFA `validUtf8`), so is the whole text.  (For captures that are not
valid UTF-8 the bytes are copied unchanged – `escape_roundtrip` – and the text is as ill-formed as
the capture; `encoding/json` reads such bytes as U+FFFD.) -/
theorem json_utf8 (named numbered : Bool) (order : List (Bytes × Int)) (indices : List Int)
    (line out : Bytes) (hty : GoTyped order indices) (h : json named numbered order indices line = .ok out)
    (hk : ∀ p ∈ order, validUtf8 p.1 = true)
    (hv : ∀ i, validUtf8 (capture indices line i) = true) : validUtf8 out = true :=
  json_text_utf8 named numbered order indices line out hty h hk hv

/-- **Ill-formed UTF-8 comes from the captures only, and is never hidden.**  The text is well-formed
UTF-8 if AND ONLY IF every group name written and every captured text written is. -/
theorem json_utf8_iff (named numbered : Bool) (order : List (Bytes × Int)) (indices : List Int)
    (line out : Bytes) (hty : GoTyped order indices) (hnd : (order.map (·.1)).Nodup)
    (h : json named numbered order indices line = .ok out) :
    validUtf8 out = true ↔
      ((named = true → ∀ p ∈ order, validUtf8 p.1 = true ∧ validUtf8 (capture indices line p.2) = true) ∧
       (numbered = true → ∀ i : Nat, validUtf8 (capture indices line (i : Nat)) = true)) := by
  rw [json_ok_text named numbered order indices line out hty h, valid_objText_eq]
  exact viewMembers_all_valid named numbered order indices line hnd

/-- **Valid JSON modulo the captures' own ill-formed bytes.**  `json_valid_faithful` already holds for
arbitrary bytes under the byte-level grammar (ill-formed bytes are string content and are returned
as they are).  For a reader that insists on UTF-8 and substitutes U+FFFD for every ill-formed byte
(`sanitize`: what `encoding/json` and Go's `range` do – one U+FFFD per ill-formed byte): the substituted text is
well-formed UTF-8, is unchanged when the text was well-formed, parses under the same grammar, and
its members are – in the same order, none lost or merged – the substituted names with values that
decode to the substituted captures.  So the only difference to a fully valid document is the
U+FFFD a reader sees in place of each ill-formed byte of a capture. -/
theorem json_sanitized (named numbered : Bool) (order : List (Bytes × Int)) (indices : List Int)
    (line out : Bytes) (hty : GoTyped order indices) (hnd : (order.map (·.1)).Nodup)
    (h : json named numbered order indices line = .ok out) :
    validUtf8 (sanitize out) = true ∧ (validUtf8 out = true → sanitize out = out) ∧
    ∃ ms es, parseObj (sanitize out) = some ms ∧
      es.Perm (if named then expectedNamed order indices line else []) ∧
      membersDecode ms ((es ++ (if numbered then expectedNumbered indices line else [])).map
        fun m => (sanitize m.1, sanitize m.2)) = true := by
  have ht := json_ok_text named numbered order indices line out hty h
  refine ⟨valid_sanitize out, sanitize_valid out,
    ((viewMembers named numbered order indices line).map san2).map (dec inferredR),
    (if named then namedMembers order indices line else []), ?_, ?_, ?_⟩
  · rw [ht, objText_sanitize]; exact parseObj_objText _ _
  · cases named with
    | false => simp
    | true => simpa using namedMembers_perm order indices line hnd
  · exact membersDecode_dec inferredR decodesTo_inferred _

/-- The same three theorems for a table as the regex wrapper builds it from `SubexpNames()`, in any
iteration order `σ` of the map: no hypothesis on group numbers or on distinctness is left. -/
theorem json_valid_faithful_regex (named numbered : Bool) (names : List Bytes) (σ : List (Bytes × Int))
    (indices : List Int) (line out : Bytes) (hσ : σ.Perm (regexNameTable names))
    (hn : (names.length : Int) ≤ maxInt64) (hl : (indices.length : Int) ≤ maxInt64)
    (h : json named numbered σ indices line = .ok out) :
    ∃ ms es, parseObj out = some ms ∧
      es.Perm (if named then expectedNamed (regexNameTable names) indices line else []) ∧
      es.Pairwise (fun a b => bytesLe a.1 b.1 = true) ∧
      membersDecode ms (es ++ (if numbered then expectedNumbered indices line else [])) = true := by
  obtain ⟨hty, hnd⟩ := regex_typed names σ indices hσ hn hl
  exact json_faithful_of_perm named numbered σ _ indices line out hσ hty hnd h

/-- … and as `dissect.CompileEx` builds it. -/
theorem json_valid_faithful_dissect (named numbered : Bool) (tokens : List (Bytes × Bool))
    (table σ : List (Bytes × Int)) (indices : List Int) (line out : Bytes)
    (ht : dissectNameTable tokens = .ok table) (hσ : σ.Perm table)
    (hn : (tokens.length : Int) ≤ maxInt64) (hl : (indices.length : Int) ≤ maxInt64)
    (h : json named numbered σ indices line = .ok out) :
    ∃ ms es, parseObj out = some ms ∧
      es.Perm (if named then expectedNamed table indices line else []) ∧
      es.Pairwise (fun a b => bytesLe a.1 b.1 = true) ∧
      membersDecode ms (es ++ (if numbered then expectedNumbered indices line else [])) = true := by
  obtain ⟨hty, hnd⟩ := dissect_typed tokens table σ indices ht hσ hn hl
  exact json_faithful_of_perm named numbered σ _ indices line out hσ hty hnd h

/-- **No panic.**  When the index slice fits the line (what every matcher returns: each group
absent or a range inside the line) `json` always returns a text – for any name table, including
group numbers that are out of range. -/
theorem json_no_panic (named numbered : Bool) (order : List (Bytes × Int)) (indices : List Int)
    (line : Bytes) (hf : FitsLine indices line) :
    ∃ out, json named numbered order indices line = .ok out :=
  json_total named numbered order indices line hf

/-- **Deterministic.**  Two iteration orders of the same name table give the same outcome (text
or panic), so the view can serve as an aggregation key.  (False before the fix.) -/
theorem json_deterministic (named numbered : Bool) (o₁ o₂ : List (Bytes × Int)) (indices : List Int)
    (line : Bytes) (hp : o₁.Perm o₂) (hnd : (o₁.map (·.1)).Nodup) :
    json named numbered o₁ indices line = json named numbered o₂ indices line := by
  have h1 : sortNames (o₁.map (·.1)) = sortNames (o₂.map (·.1)) := sortNames_eq_of_perm _ _ (hp.map _)
  have h2 : mapGet (0 : Int) o₁ = mapGet 0 o₂ := mapGet_perm 0 o₁ o₂ hp hnd
  have h3 : namedStep o₁ indices line = namedStep o₂ indices line := by
    funext jb name; simp [namedStep, h2]
  simp [json, h1, h3]

/-- **Same match ⇒ same text**, for tables as the matchers build them: any two iteration orders
`σ₁ σ₂` of the regex wrapper's map give the same outcome. -/
theorem json_deterministic_regex (named numbered : Bool) (names : List Bytes) (σ₁ σ₂ : List (Bytes × Int))
    (indices : List Int) (line : Bytes) (h1 : σ₁.Perm (regexNameTable names)) (h2 : σ₂.Perm (regexNameTable names)) :
    json named numbered σ₁ indices line = json named numbered σ₂ indices line :=
  json_deterministic named numbered σ₁ σ₂ indices line (h1.trans h2.symm)
    ((h1.map (·.1)).nodup_iff.mpr (regexNameTable_nodup names))

/-- Same for the `{.}`/`{.#}` keys of `rare expression -k …` (cmd/expressions.go). -/
theorem special_deterministic (texts : List Bytes) (o₁ o₂ : List (Bytes × Bytes))
    (hp : o₁.Perm o₂) (hnd : (o₁.map (·.1)).Nodup) :
    buildSpecialKeyJson texts o₁ = buildSpecialKeyJson texts o₂ := by
  have h1 : sortNames (o₁.map (·.1)) = sortNames (o₂.map (·.1)) := sortNames_eq_of_perm _ _ (hp.map _)
  have h2 : mapGet ([] : Bytes) o₁ = mapGet [] o₂ := mapGet_perm [] o₁ o₂ hp hnd
  simp [buildSpecialKeyJson, h1, h2]

/-- The same for `rare expression`: the text parses as one object whose members are the indexed
arguments `0, 1, …` followed by a permutation of the `-k` pairs, every value the exact string. -/
theorem special_valid_faithful (texts : List Bytes) (order : List (Bytes × Bytes))
    (hnd : (order.map (·.1)).Nodup) :
    ∃ ms es, parseObj (buildSpecialKeyJson texts order) = some ms ∧ es.Perm order ∧
      membersDecode ms (indexedMembers 0 texts ++ es) = true ∧
      ∀ m ∈ ms, ∃ v, m.2 = .str v := by
  refine ⟨_, (sortNames (order.map (·.1))).map fun k => (k, mapGet [] order k),
    by rw [special_text]; exact parseObj_objText _ _, ?_, ?_, ?_⟩
  · exact sortedEntries_perm [] order hnd
  · exact membersDecode_dec stringR decodesTo_string _
  · intro m hm
    obtain ⟨x, _, hx⟩ := List.mem_map.mp hm
    exact ⟨x.2, by rw [← hx]; rfl⟩

/-! ### the exact number grammar, `-k` arguments, the rest of minijson, the C02 seam -/

/-- **The shapes `isNumeric` accepts, exactly** (the converse of `numeric_shape`): `int` or `int.frac` with
at least one digit on each side of the point and no superfluous leading zero – and nothing else. -/
theorem numeric_iff_shape (s : Bytes) :
    isNumeric s = true ↔
      ∃ ip fp, ip ≠ [] ∧ ip.all isDig = true ∧ fp.all isDig = true ∧ ¬ (1 < ip.length ∧ ip.head? = some 0x30) ∧
        ((s = ip ∧ fp = []) ∨ (s = ip ++ 0x2e :: fp ∧ fp ≠ [])) :=
  isNumeric_iff_shape s

/-- **Bare number ⇔ RFC 8259 number without sign and exponent.**  For every byte string: the capture is
written as a bare literal by the numeric branch of `WriteInferred` if and only if the whole capture is a
JSON number (`parseNumber`, the grammar of RFC 8259 §6, consumes it completely) that is written with
digits and the decimal point only.  So nothing that is not a JSON number is ever emitted bare, and the
JSON numbers that stay strings are exactly those with a minus sign or an exponent (`numeric_boundary`). -/
theorem numeric_iff_plain_json_number (s : Bytes) :
    isNumeric s = true ↔ (∃ v, parseNumber s = some (v, [])) ∧ plainChars s = true :=
  isNumeric_iff_plain_number s

/-- captures around the boundary of the class: `(text, is a complete RFC 8259 number, is emitted bare)` -/
def numericBoundaryTable : List (String × Bool × Bool) :=
  [-- JSON numbers written with a sign or an exponent: kept as strings
   ("-0", true, false), ("-1.5", true, false), ("1e5", true, false), ("1E+5", true, false), ("0.0e-0", true, false),
   ("-12345678901234567890", true, false),
   -- JSON numbers written with digits and point only: bare
   ("0", true, true), ("0.0", true, true), ("10.050", true, true), ("12345678901234567890123", true, true),
   -- not JSON numbers, not bare
   ("1.", false, false), (".5", false, false), ("+1", false, false), ("007", false, false), ("00", false, false),
   ("00.5", false, false), ("-007", false, false), ("0x10", false, false), ("Infinity", false, false),
   ("NaN", false, false), ("1,000", false, false), ("1 ", false, false), (" 1", false, false),
   ("1.2.3", false, false), ("1..2", false, false), ("-", false, false), (".", false, false), ("", false, false),
   ("1e", false, false), ("1e+", false, false), ("null", false, false), ("\\u0031", false, false)]

/-- **The boundary of the class, kernel-checked.**  JSON numbers that are NOT emitted bare (sign, exponent)
– they become strings and decode to the exact capture; and numeral-looking captures that are not JSON
numbers at all and are (rightly) not bare: trailing/leading point, plus sign, leading zeros, hexadecimal,
`Infinity`, `NaN`, digit groups, white space.  Every row of `numericBoundaryTable` is as stated, and no
row has a capture emitted bare that is not a complete JSON number. -/
theorem numeric_boundary : ∀ r ∈ numericBoundaryTable,
    ((parseNumber (lit r.1)).map (·.2) == some []) = r.2.1 ∧ isNumeric (lit r.1) = r.2.2 ∧
    (r.2.2 = true → r.2.1 = true) := by
  decide +kernel

/-- **Which kind of JSON value a capture becomes**, for every byte string: a number exactly when `isNumeric`
(and then the number is the capture's decimal reading), `null` never (the word `null` stays a string, in
any case), otherwise – unless it is one of the 48 boolean spellings (`bool_only_ascii_spellings`) – the
string with exactly the capture's bytes. -/
theorem value_kind_exact (val : Bytes) :
    (isNumeric val = true → ∃ m e, inferredVal val = .num m e ∧ decimalValue val = some (m, e)) ∧
    ((∃ m e, inferredVal val = .num m e) → isNumeric val = true) ∧
    inferredVal val ≠ .null ∧
    (isNumeric val = false → val ∉ spellings litTrue → val ∉ spellings litFalse → inferredVal val = .str val) := by
  rw [← equalFoldLen_iff val litTrue litTrue_lower, ← equalFoldLen_iff val litFalse litFalse_lower]
  rcases writeInferred_cases val with ⟨hn, h1, h2, _, _, m, e, hd, hv⟩ | ⟨hn, h1, h2, _, _, hv⟩ | ⟨hn, h1, h2, _, _, hv⟩ |
    ⟨hn, h1, h2, _, _, hv⟩ <;> simp [hv, hn, h1, h2]
  exact ⟨m, e, ⟨rfl, rfl⟩, hd⟩

/-- a group that did not take part in the match (or matched the empty text): the named views still have
its member, with the empty string as value; the numbered views leave it out (`view_members`) -/
theorem empty_capture_rendering :
    inferredVal [] = .str [] ∧ valueText [] = [0x22, 0x22] ∧
    ∀ (indices : List Int) (line : Bytes) (i : Nat), capture indices line (i : Nat) = [] →
      natAscii i ∉ (expectedNumbered indices line).map (·.1) := by
  refine ⟨by decide, by decide, ?_⟩
  intro indices line i h hm
  obtain ⟨m, hm, e⟩ := List.mem_map.mp hm
  obtain ⟨j, _, hne, rfl⟩ := (mem_expectedNumbered indices line m).mp hm
  cases natAscii_inj _ _ e
  exact hne h

/-- **`-k name=value`: how one argument is split.**  At the FIRST `=`: the name is everything before it (so
a name cannot contain `=`, the value can), the name may be empty (`=v`), the value may be empty (`k=`);
an argument without `=` is both its own name and its own value. -/
theorem kv_parse (s : Bytes) :
    ((0x3d : UInt8) ∉ s ∧ parseKeyValue s = (s, s)) ∨
    (s = (parseKeyValue s).1 ++ 0x3d :: (parseKeyValue s).2 ∧ (0x3d : UInt8) ∉ (parseKeyValue s).1) :=
  parseKeyValue_cases s

/-- **Repeated `-k` names: the last one wins, and the map has no duplicates** – so the `hnd` hypothesis of
`special_valid_faithful` / `special_deterministic` always holds for the map `rare expression` builds. -/
theorem kv_map_last_wins (kvs : List Bytes) :
    ((parseKeyValuesIntoMap kvs).map (·.1)).Nodup ∧
    ∀ q : Bytes × Bytes, q ∈ parseKeyValuesIntoMap kvs ↔ lastValue (kvs.map parseKeyValue) q.1 = some q.2 :=
  kvMap_spec kvs

/-- **`rare expression -d … -k …`, without hypotheses.**  For every list of `-d` and `-k` arguments (arbitrary
bytes, repeated names, empty names, no `=`) and every two iteration orders `σ₁ σ₂` of the map built from
the `-k` arguments: the text is the same, it parses as one object, and its members are the `-d` values
under `0, 1, …` followed by the `-k` names in ascending byte order, each with the exact string of the last
value given for it. -/
theorem special_args_valid_faithful (data kvs : List Bytes) (σ₁ σ₂ : List (Bytes × Bytes))
    (h1 : σ₁.Perm (parseKeyValuesIntoMap kvs)) (h2 : σ₂.Perm (parseKeyValuesIntoMap kvs)) :
    buildSpecialKeyJson data σ₁ = buildSpecialKeyJson data σ₂ ∧
    ∃ ms es, parseObj (buildSpecialKeyJson data σ₁) = some ms ∧ es.Perm (parseKeyValuesIntoMap kvs) ∧
      es.Pairwise (fun a b => bytesLe a.1 b.1 = true) ∧
      (∀ q ∈ es, lastValue (kvs.map parseKeyValue) q.1 = some q.2) ∧
      ms = (indexedMembers 0 data ++ es).map (fun m => (m.1, JVal.str m.2)) := by
  have hnd0 := (kv_map_last_wins kvs).1
  have hnd : (σ₁.map (·.1)).Nodup := (h1.map (·.1)).nodup_iff.mpr hnd0
  refine ⟨special_deterministic data σ₁ σ₂ (h1.trans h2.symm) hnd, ?_⟩
  refine ⟨_, (sortNames (σ₁.map (·.1))).map fun k => (k, mapGet [] σ₁ k),
    by rw [special_text]; exact parseObj_objText _ _, ?_, ?_, ?_, ?_⟩
  · exact (sortedEntries_perm [] σ₁ hnd).trans h1
  · rw [List.pairwise_map]
    exact sortNames_sorted _
  · intro q hq
    obtain ⟨k, hk, e⟩ := List.mem_map.mp hq
    obtain ⟨p, hp, e2⟩ := List.mem_map.mp ((sortNames_perm _).mem_iff.mp hk)
    have : q = p := by
      rw [← e, ← e2, mapGet_mem [] σ₁ p hnd hp]
    rw [this]
    exact ((kv_map_last_wins kvs).2 p).mp (h1.mem_iff.mp hp)
  · rfl

/-- **Repeated member names in `{.#}` of `rare expression`.**  The `-d` numerals are distinct, the `-k` names
are distinct; the two parts share a name exactly when a `-k` name is the decimal numeral of a `-d`
position (`-d x -k 0=y` gives `{"0": "x", "0": "y"}` – syntactically valid, names SHOULD be unique). -/
theorem special_names_nodup_iff (data : List Bytes) (order : List (Bytes × Bytes))
    (hnd : (order.map (·.1)).Nodup) :
    ((specialMembers data order).map (·.1)).Nodup ↔ ∀ p ∈ order, ∀ i < data.length, p.1 ≠ natAscii i := by
  rw [specialMembers_names, List.nodup_append]
  have h1 := indexed_names_nodup data.length
  have h2 : (sortNames (order.map (·.1))).Nodup := (sortNames_perm _).nodup_iff.mpr hnd
  constructor
  · rintro ⟨_, _, hd⟩ p hp i hi e
    exact hd (natAscii i) (List.mem_map.mpr ⟨i, List.mem_range.mpr hi, rfl⟩) p.1
      ((sortNames_perm _).mem_iff.mpr (List.mem_map_of_mem hp)) e.symm
  · intro h
    refine ⟨h1, h2, ?_⟩
    intro a ha b hb e
    obtain ⟨i, hi, e1⟩ := List.mem_map.mp ha
    obtain ⟨p, hp, e2⟩ := List.mem_map.mp ((sortNames_perm _).mem_iff.mp hb)
    exact h p hp i (List.mem_range.mp hi) (by rw [e2, ← e, e1])

/-- the four JSON keys of `rare expression`: `{.}` has the `-k` pairs only, `{#}` the `-d` values only,
`{.#}` and `{#.}` are the same text with both -/
theorem expression_keys (key : Bytes) (data : List Bytes) (order : List (Bytes × Bytes)) :
    expressionJsonKey key data order =
      (viewFlags key).map (fun f => buildSpecialKeyJson (if f.2 then data else []) (if f.1 then order else [])) ∧
    expressionJsonKey [0x2e, 0x23] data order = expressionJsonKey [0x23, 0x2e] data order :=
  ⟨expressionJsonKey_eq_map key data order, rfl⟩

/-- **`MarshalStringMapInferred` (pkg/minijson/util.go) is valid and faithful for EVERY map and every
iteration order**: the text parses, and its members are the entries in the order `range` produced them,
every value the exact string (in spite of the function's name nothing is inferred). -/
theorem marshal_valid_faithful (order : List (Bytes × Bytes)) :
    parseObj (marshalStringMap order) = some (order.map fun p => (p.1, JVal.str p.2)) ∧
    membersDecode (order.map fun p => (p.1, JVal.str p.2)) order = true := by
  rw [marshal_text]
  exact ⟨parseObj_objText _ _, membersDecode_dec stringR decodesTo_string order⟩

/-- … but it is NOT deterministic: the entries are written in map iteration order (no sort), so two
evaluations on the same map may give different texts.  The function is exported but no command calls it
(the views go through `json` / `buildSpecialKeyJson`, which sort), so the property is not affected; the
member *sets* agree (`marshal_valid_faithful`: a permutation of the entries). -/
theorem marshal_order_counterexample :
    ∃ o₁ o₂ : List (Bytes × Bytes), o₁.Perm o₂ ∧ (o₁.map (·.1)).Nodup ∧ marshalStringMap o₁ ≠ marshalStringMap o₂ :=
  ⟨[(lit "a", lit "1"), (lit "b", lit "2")], [(lit "b", lit "2"), (lit "a", lit "1")],
    List.Perm.swap _ _ _, by decide, by decide⟩

/-- **`WriteInt`** (`strconv.Itoa` as a bare literal) is a JSON number of exactly that value for EVERY `int`,
negative ones included. -/
theorem writeInt_valid (key : Bytes) (n : Int) :
    parseObj ((JB.opened.writeInt key n).close.sb) = some [(key, .num n 0)] := by
  have h := writeAllW_opened (writeInt_eq n) [(key, [])]
  simp only [writeAllW, List.foldl_cons, List.foldl_nil] at h
  rw [h, parseObj_objText]
  rfl

/-- **Seam with C02's model of `GetKey`**: C02 answers the placeholder `.json` ("property C16") for exactly
the keys C16 models as JSON views, and those keys are decided BEFORE the name table is consulted – a
dissect field named `#` or `.` can never be read through `{#}` / `{.}`. -/
theorem getKey_json_iff_view (c : C02.MatchCtx) (key : Bytes) :
    (getKeyJson key c.names c.indices c.line).isSome = (viewFlags key).isSome ∧
    (C02.getKey c key = .ok .json ↔ (viewFlags key).isSome = true) := by
  refine ⟨by rw [getKeyJson_eq_map]; cases viewFlags key <;> rfl, ?_⟩
  rw [show C02.getKey c key = _ from c02_getKey_eq ⟨c.line, c.indices, c.names, c.source, c.lineNum⟩ key]
  cases (viewFlags key).isSome with
  | true => simp
  | false => cases Ctx.getKey _ key <;> simp [Except.map]

/-! ### the translator tie: `isNumeric` statement by statement, the key switch, control skeletons -/

/-- **The hand model of `isNumeric` is the source's function.**  `Rare.Gen.C16.isNumeric` is regenerated on
every run from the body of `isNumeric` in pkg/minijson/minijson.go, statement by statement (the
leading-zero guard, `i := 0`, the two `for ; i < len(s); i++` loops with their `if`s, early `return`s,
`i++` and `break`, the final `return i > 0`; index arithmetic over `Int`, bytes by `s[i]`).  For EVERY byte
string it computes what the list-recursive model (`numLoop1`, `numLoop2`) computes – so
`numeric_iff_plain_json_number`, `numeric_same_rational`, … are theorems about the code as it is in /repo,
and a changed comparison, constant, branch or statement order there breaks this theorem. -/
theorem isNumeric_matches_source (s : Bytes) : isNumeric s = Gen.C16.isNumeric s := by
  unfold isNumeric Gen.C16.isNumeric
  simp only []
  by_cases hg : 1 < s.length ∧ s.head? = some 0x30 ∧ s.tail.head? ≠ some 0x2e
  · rw [if_pos hg, if_pos ((guard_eq s).mpr hg)]
  · rw [if_neg hg, if_neg (fun h => hg ((guard_eq s).mp h))]
    refine (loops_eq s _ _ ?_ ?_).symm
    · intro pre c r hs
      subst hs
      simp only [byteAt_mid, decide_eq_true_eq, dot_iff, Bool.or_eq_true, bad_iff]
      by_cases hdot : c = 0x2e
      · simp only [hdot, if_true]
        by_cases h0 : pre.length = 0
        · simp [h0]
        · have h0' : ¬ ((pre.length : Int) = 0) := by omega
          simp only [h0, h0', if_false]
          by_cases hr : r = []
          · simp [hr]
          · have hp := List.length_pos_iff.mpr hr
            have : ¬ ((pre.length : Int) + 1 ≥ ((pre ++ 0x2e :: r).length : Int)) := by
              simp only [List.length_append, List.length_cons]; omega
            simp only [this, if_false, hr]
      · simp only [hdot, if_false]
    · intro pre c r hs
      subst hs
      simp only [byteAt_mid, decide_eq_true_eq, Bool.or_eq_true, bad_iff]

/-- **The key switch of `GetKey`**: the cases that answer with `s.json(named, numbered)`, taken from the
source, are exactly `viewFlags` (and therefore `getKeyJson`, `view_keys`): `"."` ↦ named only, `"#"` ↦
numbered only, `".#"` and `"#."` ↦ both; every other key is not a JSON view. -/
theorem key_switch_is_source (key : Bytes) :
    viewFlags key = ((Gen.C16.jsonKeyCases.find? fun row => row.1.contains key).map fun row => row.2) := by
  have e : Gen.C16.jsonKeyCases =
      [([[0x2e]], true, false), ([[0x23]], false, true), ([[0x2e, 0x23], [0x23, 0x2e]], true, true)] := rfl
  rw [e]
  rcases viewFlags_cases key with ⟨rfl, h⟩ | ⟨rfl, h⟩ | ⟨rfl | rfl, h⟩ | ⟨⟨h1, h2, h3, h4⟩, h⟩
  · rw [h]; rfl
  · rw [h]; rfl
  · rw [h]; rfl
  · rw [h]; rfl
  · rw [h]; simp [h1, h2, h3, h4]

/-- **Control skeletons of the functions the model mirrors**, regenerated from /repo (statement texts without
white space, blocks bracketed): `json` (names collected, `sort.Strings`, named loop BEFORE the numbered loop,
numbered loop from 0 to `len(indices)/2` skipping empty values, every value through `WriteInferred`),
`buildSpecialKeyJson` (indexed arguments first, then the sorted keys, all through `WriteString`),
`parseKeyValue` / `parseKeyValuesIntoMap`, `MarshalStringMapInferred` (no sort), `WriteInferred` (numeric test,
then the two length-guarded `EqualFold`s, then string), `WriteInt`, `writeKey` (separator, quote, ESCAPED key),
`WriteString` (ESCAPED value between quotes), `WriteLiteral`, `escape` and `createGroupNameTable`.
`Model/C16.lean` was written against these; a reordered loop, a dropped sort, a changed bound or a changed
call in /repo breaks this theorem. -/
theorem control_skeletons_are_source :
    Gen.C16.jsonOutline =
      ["varjbminijson.JsonObjectBuilder", "jb.OpenEx(len(s.nameTable)*50)", "if named{",
       "names:=make([]string,0,len(s.nameTable))", "range name:=s.nameTable{", "names=append(names,name)", "}",
       "sort.Strings(names)", "range _,name:=names{", "jb.WriteInferred(name,s.GetMatch(s.nameTable[name]))", "}", "}",
       "if numbered{", "for i:=0;i<len(s.indices)/2;i++{", "if val:=s.GetMatch(i);val!=\"\"{",
       "jb.WriteInferred(strconv.Itoa(i),val)", "}", "}", "}", "jb.Close()", "returnjb.String()"] ∧
    Gen.C16.specialOutline =
      ["varjsonminijson.JsonObjectBuilder", "json.Open()", "range i,val:=matches{",
       "json.WriteString(strconv.Itoa(i),val)", "}", "keys:=make([]string,0,len(values))", "range k:=values{",
       "keys=append(keys,k)", "}", "sort.Strings(keys)", "range _,k:=keys{", "json.WriteString(k,values[k])", "}",
       "json.Close()", "returnjson.String()"] ∧
    Gen.C16.parseKeyValueOutline =
      ["idx:=strings.IndexByte(s,'=')", "if idx<0{", "returns,s", "}", "returns[:idx],s[idx+1:]"] ∧
    Gen.C16.parseKeyValuesIntoMapOutline =
      ["ret:=make(map[string]string)", "range _,item:=kvs{", "k,v:=parseKeyValue(item)", "ret[k]=v", "}", "returnret"] ∧
    Gen.C16.marshalOutline =
      ["varjbJsonObjectBuilder", "jb.OpenEx(len(s)*50)", "range k,v:=s{", "jb.WriteString(k,v)", "}", "jb.Close()",
       "returnjb.String()"] ∧
    Gen.C16.writeInferredOutline =
      ["if isNumeric(val){", "s.WriteLiteral(key,val)", "}", "else{",
       "if len(val)==4&&strings.EqualFold(val,\"true\"){", "s.WriteLiteral(key,\"true\")", "}", "else{",
       "if len(val)==5&&strings.EqualFold(val,\"false\"){", "s.WriteLiteral(key,\"false\")", "}", "else{",
       "s.WriteString(key,val)", "}", "}", "}"] ∧
    Gen.C16.writeIntOutline = ["s.writeKey(key)", "s.sb.WriteString(strconv.Itoa(val))"] ∧
    Gen.C16.writeKeyOutline =
      ["if s.keyCount>0{", "s.sb.WriteString(\",\")", "}", "s.sb.WriteRune('\"')", "s.sb.WriteString(escape(key))",
       "s.sb.WriteString(\"\\\":\")", "s.keyCount++"] ∧
    Gen.C16.writeStringOutline =
      ["s.writeKey(key)", "s.sb.WriteRune('\"')", "s.sb.WriteString(escape(val))", "s.sb.WriteRune('\"')"] ∧
    Gen.C16.writeLiteralOutline = ["s.writeKey(key)", "s.sb.WriteString(literal)"] ∧
    Gen.C16.escapeOutline =
      ["varsbstrings.Builder", "hasMapped:=false", "for i:=0;i<len(s);i++{", "c:=s[i]",
       "if int(c)<len(escapeLookup)&&escapeLookup[c]!=\"\"{", "if !hasMapped{", "sb.Grow(len(s)+5)",
       "sb.WriteString(s[:i])", "hasMapped=true", "}", "sb.WriteString(escapeLookup[c])", "}", "else{",
       "if hasMapped{", "sb.WriteByte(c)", "}", "}", "}", "if hasMapped{", "returnsb.String()", "}", "returns"] ∧
    Gen.C16.regexTableOutline =
      ["ret=make(map[string]int)", "range idx,name:=re.SubexpNames(){", "if name!=\"\"{", "ret[name]=idx", "}", "}",
       "return"] :=
  ⟨rfl, rfl, rfl, rfl, rfl, rfl, rfl, rfl, rfl, rfl, rfl, rfl⟩

/-- **No shared mutable state behind the views** (why evaluating them on several worker goroutines at once
cannot make them non-deterministic), read off the source on every run: pkg/minijson has exactly one
package-level variable, the escape table, and no statement of the package assigns to it, takes its address
or passes it on; every function that builds a view declares its `JsonObjectBuilder` as a local variable and
does nothing with it but call its methods (no `&jb`, no closure, no `go`), so each evaluation has a builder
of its own.  The match itself (`linePtr`, `indices`, `nameTable`) is only read (`GetMatch`, `range`, index).
(`extra/C16.py` runs the built CLI with the race detector under 8 workers in the thorough tier.) -/
theorem views_share_no_mutable_state :
    Gen.C16.packageVars = ["escapeLookup"] ∧ Gen.C16.packageVarWrites = [] ∧
    Gen.C16.builderUses =
      [("SliceSpaceExpressionContext.json",
          ["local:jb", "call:OpenEx", "call:WriteInferred", "call:WriteInferred", "call:Close", "call:String"]),
       ("buildSpecialKeyJson",
          ["local:json", "call:Open", "call:WriteString", "call:WriteString", "call:Close", "call:String"]),
       ("MarshalStringMapInferred", ["local:jb", "call:OpenEx", "call:WriteString", "call:Close", "call:String"])] :=
  ⟨rfl, rfl, rfl⟩

/-! ### non-vacuity -/

/-- a match with two named groups and a numbered view: `json` returns, hypotheses are satisfiable -/
example :
    (json true true [(lit "b\"", 2), (lit "a", 1)] [0, 7, 0, 3, 4, 7] (lit "007 x\ny")).toOption
      = some (lit "{\"a\": \"007\", \"b\\\"\": \"x\\ny\", \"0\": \"007 x\\ny\", \"1\": \"007\", \"2\": \"x\\ny\"}") := by
  simp -index only [lit_ofList]
  decide +kernel

example : ([(lit "b\"", (2 : Int)), (lit "a", 1)].map (·.1)).Nodup := by
  simp -index only [lit_ofList]
  decide +kernel

/-- numbers, booleans and control bytes really occur as such -/
example : parseObj (lit "{\"n\": 10.25, \"t\": true, \"s\": \"\\u0001\"}")
    = some [(lit "n", .num 1025 (-2)), (lit "t", .bool true), (lit "s", .str [1])] := by
  simp -index only [lit_ofList]
  decide +kernel

example : isNumeric (lit "10.25") = true ∧ isNumeric (lit "007") = false ∧ isNumeric (lit "0.5") = true := by
  simp -index only [lit_ofList]
  decide +kernel

/-- the parser is not trivially accepting: raw control bytes, leading zeros, unescaped quotes fail -/
example : parseObj [0x7b, 0x22, 0x30, 0x22, 0x3a, 0x20, 0x22, 0x01, 0x22, 0x7d] = none := by decide +kernel
example : parseObj (lit "{\"0\": 007}") = none := by
  simp -index only [lit_ofList]
  decide +kernel
example : parseObj (lit "{\"a\"\": 1}") = none := by
  simp -index only [lit_ofList]
  decide +kernel

example : FitsLine [0, 7, 0, 3, 4, 7, -1, -1] (lit "007 x\ny") := by
  intro k hk
  have : k = 0 ∨ k = 1 ∨ k = 2 ∨ k = 3 := by simp at hk; omega
  rcases this with h | h | h | h <;> subst h <;> decide

example : (buildSpecialKeyJson [lit "x\"y"] [(lit "k", lit "007"), (lit "a", lit "\t")])
    = lit "{\"0\": \"x\\\"y\", \"a\": \"\\t\", \"k\": \"007\"}" := by
  simp -index only [lit_ofList]
  decide +kernel

/-- the UTF-8 DFA accepts and rejects what it should -/
example : validUtf8 [0x68, 0xc3, 0xa9, 0xe6, 0x97, 0xa5, 0xf0, 0x9f, 0x98, 0x80] = true ∧
    validUtf8 [0xc0, 0x80] = false ∧ validUtf8 [0xed, 0xa0, 0x80] = false ∧
    validUtf8 [0xf4, 0x90, 0x80, 0x80] = false ∧ validUtf8 [0xe2, 0x82] = false ∧ validUtf8 [0xff] = false := by
  decide +kernel

/-- the slice-bounds panic is reachable (so `= .ok out` is a real hypothesis) -/
example : (json false true [] [0, 9] (lit "abc")).toBool = false := by
  simp -index only [lit_ofList]
  decide +kernel

/-- `GoTyped` and distinct names hold of the table above -/
example : GoTyped [(lit "b\"", 2), (lit "a", 1)] [0, 7, 0, 3, 4, 7] :=
  ⟨by intro p hp; simp at hp; rcases hp with h | h <;> subst h <;> decide, by decide⟩

/-- the tables as built: `(?P<a>…)(…)(?P<b>…)(?P<a>…)` – a repeated name keeps its last group – and a
dissect pattern with a skipped token; a repeated dissect key is a compile error -/
example : regexNameTable [[], lit "a", [], lit "b", lit "a"] = [(lit "a", 4), (lit "b", 3)] := by
  simp -index only [lit_ofList]
  decide +kernel
example : (dissectNameTable [(lit "x", false), (lit "", true), (lit "y\"", false)]).toOption
    = some [(lit "x", 1), (lit "y\"", 2)] := by
  simp -index only [lit_ofList]
  decide +kernel
example : (dissectNameTable [(lit "x", false), (lit "x", false)]).toBool = false := by
  simp -index only [lit_ofList]
  decide +kernel

/-- huge group numbers: from 2^62 on `idx * 2` wraps; the answer is the empty text, as for any group
that does not exist (with unbounded arithmetic `4611686018427387904 * 2` would not be negative) -/
example : (getMatch [0, 3] (lit "abc") 4611686018427387904).toOption = some [] ∧
    (getMatch [0, 3] (lit "abc") 9223372036854775807).toOption = some [] ∧
    (getMatch [0, 3] (lit "abc") (-9223372036854775808)).toOption = some [] ∧
    (getMatch [0, 3] (lit "abc") 0).toOption = some (lit "abc") := by
  simp -index only [lit_ofList]
  decide +kernel

/-- the four keys on one match: member sets and order -/
example :
    (getKeyJson (lit ".") [(lit "z", 1), (lit "b", 2)] [0, 3, 0, 1, 2, 3, -1, -1] (lit "x y")).map Except.toOption
      = some (some (lit "{\"b\": \"y\", \"z\": \"x\"}")) ∧
    (getKeyJson (lit "#") [(lit "z", 1), (lit "b", 2)] [0, 3, 0, 1, 2, 3, -1, -1] (lit "x y")).map Except.toOption
      = some (some (lit "{\"0\": \"x y\", \"1\": \"x\", \"2\": \"y\"}")) ∧
    (getKeyJson (lit "#.") [(lit "z", 1), (lit "b", 2)] [0, 3, 0, 1, 2, 3, -1, -1] (lit "x y")).map Except.toOption
      = some (some (lit "{\"b\": \"y\", \"z\": \"x\", \"0\": \"x y\", \"1\": \"x\", \"2\": \"y\"}")) ∧
    (getKeyJson (lit "src") [] [0, 1] (lit "x")).isNone = true := by
  simp -index only [lit_ofList]
  decide +kernel

/-- a repeated member name is possible: `(b)(?P<1>a)` on `ba` -/
example : (json true true [(lit "1", 2)] [0, 2, 0, 1, 1, 2] (lit "ba")).toOption
    = some (lit "{\"1\": \"a\", \"0\": \"ba\", \"1\": \"b\", \"2\": \"a\"}") := by
  simp -index only [lit_ofList]
  decide +kernel

/-- numbers: what is and is not numeric for the writer -/
example : isNumeric (lit "0") = true ∧ isNumeric (lit "0.50") = true ∧ isNumeric (lit "12345678901234567890123") = true ∧
    isNumeric (lit "-0") = false ∧ isNumeric (lit "+1") = false ∧ isNumeric (lit ".5") = false ∧
    isNumeric (lit "5.") = false ∧ isNumeric (lit "1e400") = false ∧ isNumeric (lit "1E5") = false ∧
    isNumeric (lit "00") = false ∧ isNumeric (lit "") = false ∧ isNumeric (lit "1.2.3") = false := by
  simp -index only [lit_ofList]
  decide +kernel

example : parseNumber (lit "10.250") = some (.num 10250 (-3), []) ∧ decimalValue (lit "10.250") = some (10250, -3) := by
  simp -index only [lit_ofList]
  decide +kernel

/-- booleans: the spellings, and what is not one -/
example : (spellings litTrue).length = 16 ∧ (spellings litFalse).length = 32 ∧
    lit "tRuE" ∈ spellings litTrue ∧ lit "FALSE" ∈ spellings litFalse ∧
    [0x66, 0x61, 0x6c, 0xc5, 0xbf, 0x65] ∉ spellings litFalse ∧ lit " true" ∉ spellings litTrue := by
  simp -index only [lit_ofList]
  decide +kernel

/-- ill-formed captures: the bytes are copied, the text is not UTF-8, and with U+FFFD substituted it is
the text of the substituted capture -/
example : (json false true [] [0, 3] [0x61, 0xff, 0x22]).toOption
      = some (lit "{\"0\": \"a" ++ [0xff] ++ lit "\\\"\"}") ∧
    validUtf8 (lit "{\"0\": \"a" ++ [0xff] ++ lit "\\\"\"}") = false ∧
    sanitize (lit "{\"0\": \"a" ++ [0xff] ++ lit "\\\"\"}") = lit "{\"0\": \"a" ++ fffd ++ lit "\\\"\"}" ∧
    sanitize [0x61, 0xe2, 0x82, 0x41, 0xc3, 0xa9, 0xed, 0xa0, 0x80]
      = [0x61] ++ fffd ++ fffd ++ [0x41, 0xc3, 0xa9] ++ fffd ++ fffd ++ fffd := by
  simp -index only [lit_ofList]
  decide +kernel

example : parseKeyValue (lit "a=b=c") = (lit "a", lit "b=c") ∧ parseKeyValue (lit "abc") = (lit "abc", lit "abc") ∧
    parseKeyValue (lit "=v") = ([], lit "v") ∧ parseKeyValue (lit "k=") = (lit "k", []) := by
  simp -index only [lit_ofList]
  decide +kernel
example : parseKeyValuesIntoMap [lit "a=1", lit "b=2", lit "a=3"] = [(lit "a", lit "3"), (lit "b", lit "2")] := by
  simp -index only [lit_ofList]
  decide +kernel
example : lastValue ([lit "a=1", lit "b=2", lit "a=3"].map parseKeyValue) (lit "a") = some (lit "3") := by
  simp -index only [lit_ofList]
  decide +kernel
example : buildSpecialKeyJson [lit "x"] (parseKeyValuesIntoMap [lit "0=y"]) = lit "{\"0\": \"x\", \"0\": \"y\"}" := by
  simp -index only [lit_ofList]
  decide +kernel
example : (JB.opened.writeInt (lit "n") (-42)).close.sb = lit "{\"n\": -42}" ∧
    (JB.opened.writeInt (lit "n") 0).close.sb = lit "{\"n\": 0}" := by
  simp -index only [lit_ofList]
  decide +kernel
example : marshalStringMap [(lit "b", lit "007"), (lit "a", lit "true")] = lit "{\"b\": \"007\", \"a\": \"true\"}" := by
  simp -index only [lit_ofList]
  decide +kernel
example : expressionJsonKey (lit "#") [lit "d"] [(lit "k", lit "v")] = some (lit "{\"0\": \"d\"}") ∧
    expressionJsonKey (lit ".") [lit "d"] [(lit "k", lit "v")] = some (lit "{\"k\": \"v\"}") ∧
    expressionJsonKey (lit "#.") [lit "d"] [(lit "k", lit "v")] = some (lit "{\"0\": \"d\", \"k\": \"v\"}") := by
  simp -index only [lit_ofList]
  decide +kernel
example : plainChars (lit "10.5") = true ∧ plainChars (lit "1e5") = false := by
  simp -index only [lit_ofList]
  decide +kernel

/-! ### seams: the same code modelled for C02 / C08 and for C12 -/

/-- **The two hand models of `SliceSpaceExpressionContext.GetMatch` are one function**: C16's
`getMatch` (this property) and C02's `C02.getMatch` (the one C08 ties, guard by guard, to the chain
generated from the Go source: `c02_getMatch_eq_gen` in `Props/C08.lean`) agree on every index slice,
line and index – results, empty answers and the slice-bounds panic alike.  Every theorem above about
`json` is therefore a theorem about the `GetMatch` of C02/C08. -/
theorem getMatch_models_agree (indices : List Int) (line : Bytes) (idx : Int) :
    getMatch indices line idx = C02.getMatch line indices idx :=
  getMatch_eq_c02 indices line idx

/-- **The dissect name table assumed here is the one `CompileEx` builds** (C12's model of
`dissect.CompileEx`, `Rare/Model/C12.lean`).  For EVERY pattern text and either mode:

* if `CompileEx` succeeds with `d`, then `dissectNameTable` run on the compiled tokens – `(name, skip)`
  in pattern order – succeeds with exactly `d.groupNames` (the Go map, same names, same numbers), these
  names are the names of the capturing tokens in pattern order, and they are numbered `1 … groupCount`;
* if `CompileEx` answers `ErrorKeyConflict`, the text is `p.render ++ tail` of a well-formed `p`
  (+ optionally an unclosed token) and `dissectNameTable` answers `key conflict` on `p`'s tokens;
* a token list on which `dissectNameTable` fails is never compiled. -/
theorem dissect_name_table_is_compile (pat : Bytes) (ic : Bool) :
    (∀ d, C12.compileEx pat ic = .ok d →
        dissectNameTable (d.tokens.map tokenView) = .ok (castTable d.groupNames) ∧
        d.groupNames.map (·.1) = (d.tokens.filter (fun t => !t.skip)).map (·.name) ∧
        d.groupNames.map (·.2) = List.range' 1 d.groupCount) ∧
    (C12.compileEx pat ic = .error .conflict →
        ∃ (p : C12.Pat) (tail : Option Bytes), p.Shape ∧ pat = p.render ++ C12.tailText tail ∧
          dissectNameTable (p.toks.map tokView) = .error "key conflict") ∧
    (∀ (p : C12.Pat) (m : String), p.Shape → pat = p.render →
        dissectNameTable (p.toks.map tokView) = .error m → ∃ e, C12.compileEx pat ic = .error e) := by
  refine ⟨?_, ?_, ?_⟩
  · intro d h
    obtain ⟨p, hp, hs⟩ := C12.compiles_is_pattern h
    subst hs
    obtain ⟨he, hd⟩ := C12.compileEx_ok hp h
    subst hd
    have hn := nameTable_numbers p.toks
    refine ⟨?_, ?_, hn.1⟩
    · simp only [C12.compiled, tokenView_tokOf]
      exact dissectNameTable_compiled he
    · simp only [C12.compiled]
      rw [hn.2]
      simp [C12.tokOf, List.filter_map, Function.comp_def]
  · intro h
    obtain ⟨p, tail, hp, ht, hs⟩ := C12.parse_total pat
    refine ⟨p, tail, hp, hs, ?_⟩
    rw [hs, C12.compileEx_render ic p hp tail ht] at h
    cases he : C12.specErrors tail.isSome p.toks [] with
    | none => rw [he] at h; cases h
    | some e =>
      rw [he] at h
      cases e <;> simp [C12.cerr] at h
      exact (dissectTableGo_specErrors tail.isSome p.toks [] 0 [] (by simp)).2 he
  · intro p m hp hs hm
    subst hs
    rw [C12.compileEx_pat ic p hp]
    cases he : C12.specErrors false p.toks [] with
    | some e => exact ⟨_, rfl⟩
    | none => rw [dissectNameTable_compiled he] at hm; cases hm

/-- `json_valid_faithful_dissect` with the table taken from C12's `CompileEx` itself: whatever pattern
text compiles (either mode), in any iteration order `σ` of its `SubexpNameTable()`, the JSON views
are valid and faithful.  (`hn` is the Go typing fact "a slice length is an `int`".) -/
theorem json_valid_faithful_compiled (named numbered : Bool) (pat : Bytes) (ic : Bool) (d : C12.Dissect)
    (hc : C12.compileEx pat ic = .ok d) (σ : List (Bytes × Int)) (indices : List Int) (line out : Bytes)
    (hσ : σ.Perm (castTable d.groupNames))
    (hn : (d.tokens.length : Int) ≤ maxInt64) (hl : (indices.length : Int) ≤ maxInt64)
    (h : json named numbered σ indices line = .ok out) :
    ∃ ms es, parseObj out = some ms ∧
      es.Perm (if named then expectedNamed (castTable d.groupNames) indices line else []) ∧
      es.Pairwise (fun a b => bytesLe a.1 b.1 = true) ∧
      membersDecode ms (es ++ (if numbered then expectedNumbered indices line else [])) = true :=
  json_valid_faithful_dissect named numbered (d.tokens.map tokenView) (castTable d.groupNames) σ indices line out
    ((dissect_name_table_is_compile pat ic).1 d hc).1 hσ (by simpa using hn) hl h

/-! non-vacuity of the seam theorems: `k=%{x} %{?s};%{y}` compiles to the table `x ↦ 1, y ↦ 2`,
`%{a} %{a}` is a key conflict in both models, and the two `GetMatch` models compute a group -/
example : ∃ d, C12.compileEx (lit "k=%{x} %{?s};%{y}") false = .ok d ∧
    castTable d.groupNames = [(lit "x", 1), (lit "y", 2)] ∧
    (dissectNameTable (d.tokens.map tokenView)).toOption = some [(lit "x", 1), (lit "y", 2)] :=
  ⟨C12.compiled false ⟨lit "k=", [⟨lit "x", lit " "⟩, ⟨lit "?s", lit ";"⟩, ⟨lit "y", []⟩]⟩, by rfl, by decide +kernel, by decide +kernel⟩
example : C12.compileEx (lit "%{a} %{a}") false = .error .conflict ∧
    (dissectNameTable [(lit "a", false), (lit "a", false)]).toBool = false := by
  exact ⟨by rfl, by decide +kernel⟩
example : (getMatch [0, 7, 0, 3, 4, 7] (lit "007 x\ny") 2).toOption = some (lit "x\ny") ∧
    (C02.getMatch (lit "007 x\ny") [0, 7, 0, 3, 4, 7] 2).toOption = some (lit "x\ny") := by
  simp -index only [lit_ofList]
  decide +kernel

/-! ### the view as an aggregation key: one line, one array element, a complete invariant -/

/-- **No control byte in a view** – whatever bytes the groups captured and whatever the group names are: every
byte of the text is ≥ 0x20.  So the text is ONE line (no LF / CR inside a key that a line-oriented consumer reads
back), has no tab (the column separator of `--csv`-style outputs) and no NUL – rare's `ArraySeparator`, which
the aggregators use to split a key into its parts.  The same for the emulated views of `rare expression` and for
`MarshalStringMapInferred`. -/
theorem view_text_no_control_bytes :
    (∀ (named numbered : Bool) (order : List (Bytes × Int)) (indices : List Int) (line out : Bytes),
      GoTyped order indices → json named numbered order indices line = .ok out → ∀ b ∈ out, 0x20 ≤ b) ∧
    (∀ (texts : List Bytes) (order : List (Bytes × Bytes)), ∀ b ∈ buildSpecialKeyJson texts order, 0x20 ≤ b) ∧
    (∀ (order : List (Bytes × Bytes)), ∀ b ∈ marshalStringMap order, 0x20 ≤ b) := by
  refine ⟨fun named numbered order indices line out hty h =>
      (printable_iff out).mp (json_printable named numbered order indices line out hty h),
    fun texts order => (printable_iff _).mp (special_printable texts order), fun order => (printable_iff _).mp ?_⟩
  rw [marshal_text]
  exact objText_printable stringR stringText_printable _

/-- **A view survives rare's array convention and the printing of `rare expression`.**  For every view text
`out`: `smartFormatResult` (which rewrites any result containing the array separator as `[a, b, …]`) prints it
unchanged; split at the separator it is one element; and placed anywhere in an array (`MakeArray`) among other
elements without control bytes – other views, for instance – the split gives back exactly the elements.  So
`{.}` can be a part of a multi-part aggregation key (`{.}` NUL `{1}`) without the parts shifting. -/
theorem view_survives_arrays_and_printing (named numbered : Bool) (order : List (Bytes × Int)) (indices : List Int)
    (line out : Bytes) (hty : GoTyped order indices) (h : json named numbered order indices line = .ok out) :
    smartFormatResult out = out ∧ splitSep arraySeparator out = [out] ∧
    ∀ before after : List Bytes, (∀ x ∈ before ++ after, ∀ b ∈ x, 0x20 ≤ b) →
      splitSep arraySeparator (makeArray (before ++ out :: after)) = before ++ out :: after := by
  have hp := json_printable named numbered order indices line out hty h
  refine ⟨smartFormat_of_printable out hp, splitSep_not_mem _ out (not_mem_of_printable out hp), ?_⟩
  intro before after hx
  have hall : ∀ x ∈ before ++ out :: after, printable x = true := by
    intro x hm
    rcases List.mem_append.mp hm with hm | hm
    · exact (printable_iff x).mpr (hx x (List.mem_append_left _ hm))
    · rcases List.mem_cons.mp hm with rfl | hm
      · exact hp
      · exact (printable_iff x).mpr (hx x (List.mem_append_right _ hm))
  cases before with
  | nil => exact split_makeArray out after hall
  | cons b bs => exact split_makeArray b (bs ++ out :: after) hall

/-- **What `canonVal` forgets**: two captures have the same canonical form iff they are the same bytes or two
spellings (ASCII letter case) of the same boolean word. -/
theorem canon_forgets_only_bool_case (a b : Bytes) :
    canonVal a = canonVal b ↔
      a = b ∨ (a ∈ spellings litTrue ∧ b ∈ spellings litTrue) ∨ (a ∈ spellings litFalse ∧ b ∈ spellings litFalse) :=
  canonVal_eq_iff a b

/-- **The value text determines the capture** (up to the case of `true`/`false`): `WriteInferred` writes the same
text after the key for two captures iff their canonical forms agree.  In particular `1`, `1.0`, `1.00`, `01`,
`"1"` all get different texts although some denote the same number – nothing is merged by the numeric reading. -/
theorem value_text_injective (a b : Bytes) : valueText a = valueText b ↔ canonVal a = canonVal b :=
  valueText_eq_iff a b

/-- **The view is a complete invariant of what it shows – it can serve as an aggregation key.**  Two lines matched
by the same extractor (same name table, in any two iteration orders `σ₁ σ₂` of its map) get the SAME view text
if and only if every group the view shows captured the same text in both, up to the letter case of the words
`true` / `false`: all named groups for `{.}`, all numbered groups for `{#}` (a group that is absent and one that
matched the empty text are the same), both for `{.#}`.  `⇐` is determinism (same match ⇒ same key, whatever the
map order), `⇒` says no two different matches are ever merged under one key except by that letter case.
`sameShown` is the decidable form of the right-hand side (the correspondence op `keyeq` compares it with the
equality of the two texts the real `GetKey` returns). -/
theorem json_key_iff (named numbered : Bool) (order σ₁ σ₂ : List (Bytes × Int)) (i1 i2 : List Int)
    (l1 l2 out1 out2 : Bytes) (hσ₁ : σ₁.Perm order) (hσ₂ : σ₂.Perm order)
    (t1 : GoTyped order i1) (t2 : GoTyped order i2) (hnd : (order.map (·.1)).Nodup)
    (h1 : json named numbered σ₁ i1 l1 = .ok out1) (h2 : json named numbered σ₂ i2 l2 = .ok out2) :
    (out1 = out2 ↔ sameShown named numbered order i1 l1 i2 l2 = true) ∧
    (sameShown named numbered order i1 l1 i2 l2 = true ↔
      ((named = true → ∀ p ∈ order, canonVal (capture i1 l1 p.2) = canonVal (capture i2 l2 p.2)) ∧
       (numbered = true → ∀ i : Nat, canonVal (capture i1 l1 (i : Nat)) = canonVal (capture i2 l2 (i : Nat))))) := by
  refine ⟨?_, sameShown_iff named numbered order i1 i2 l1 l2⟩
  have hnd1 : (σ₁.map (·.1)).Nodup := (hσ₁.map (·.1)).nodup_iff.mpr hnd
  have hnd2 : (σ₂.map (·.1)).Nodup := (hσ₂.map (·.1)).nodup_iff.mpr hnd
  rw [json_deterministic named numbered σ₁ order i1 l1 hσ₁ hnd1] at h1
  rw [json_deterministic named numbered σ₂ order i2 l2 hσ₂ hnd2] at h2
  rw [json_ok_text named numbered order i1 l1 out1 t1 h1, json_ok_text named numbered order i2 l2 out2 t2 h2,
    sameShown_iff, objText_eq_iff]
  exact viewMembers_canon_iff named numbered order i1 i2 l1 l2 hnd

/-- `json_key_iff` for a table as the regex wrapper builds it from `SubexpNames()`, in any two iteration orders of
the map: no hypothesis on group numbers or on distinctness is left. -/
theorem json_key_iff_regex (named numbered : Bool) (names : List Bytes) (σ₁ σ₂ : List (Bytes × Int)) (i1 i2 : List Int)
    (l1 l2 out1 out2 : Bytes) (hσ₁ : σ₁.Perm (regexNameTable names)) (hσ₂ : σ₂.Perm (regexNameTable names))
    (hn : (names.length : Int) ≤ maxInt64) (hl1 : (i1.length : Int) ≤ maxInt64) (hl2 : (i2.length : Int) ≤ maxInt64)
    (h1 : json named numbered σ₁ i1 l1 = .ok out1) (h2 : json named numbered σ₂ i2 l2 = .ok out2) :
    out1 = out2 ↔ sameShown named numbered (regexNameTable names) i1 l1 i2 l2 = true :=
  (json_key_iff named numbered (regexNameTable names) σ₁ σ₂ i1 i2 l1 l2 out1 out2 hσ₁ hσ₂
    (regex_typed names _ i1 (List.Perm.refl _) hn hl1).1 (regex_typed names _ i2 (List.Perm.refl _) hn hl2).1
    (regexNameTable_nodup names) h1 h2).1

/-- **The boundary of `json_key_iff`, kernel-checked**: what IS merged under one key.  Two different lines whose
only difference is the letter case of a boolean word get the same `{.}` text; a group that did not take part in the
match and one that matched the empty text get the same `{#}` text (and so do index slices of different length
whose extra groups are absent).  Everything else is told apart – e.g. `1` / `1.0` / `01`, `true` / `true `. -/
theorem key_boundary_witnesses :
    (json true false [(lit "ok", 1)] [0, 4, 0, 4] (lit "TRUE")).toOption =
      (json true false [(lit "ok", 1)] [0, 4, 0, 4] (lit "true")).toOption ∧
    (json false true [] [0, 1, -1, -1] (lit "a")).toOption = (json false true [] [0, 1, 1, 1] (lit "a")).toOption ∧
    (json false true [] [0, 1, -1, -1, -1, -1] (lit "a")).toOption = (json false true [] [0, 1] (lit "a")).toOption ∧
    (json false true [] [0, 1] (lit "1")).toOption ≠ (json false true [] [0, 3] (lit "1.0")).toOption ∧
    (json false true [] [0, 1] (lit "1")).toOption ≠ (json false true [] [0, 2] (lit "01")).toOption ∧
    (json false true [] [0, 4] (lit "true")).toOption ≠ (json false true [] [0, 5] (lit "true ")).toOption := by
  simp -index only [lit_ofList]
  decide +kernel

/-- The same for `rare expression` (every value a string, nothing inferred): the text determines the members
EXACTLY – names and values, byte for byte.  (Not the arguments: `-d x` and `-k 0=x` both give `{"0": "x"}`.) -/
theorem special_text_iff_members (d1 d2 : List Bytes) (o1 o2 : List (Bytes × Bytes)) :
    buildSpecialKeyJson d1 o1 = buildSpecialKeyJson d2 o2 ↔ specialMembers d1 o1 = specialMembers d2 o2 := by
  rw [special_text, special_text]
  exact ⟨objText_string_inj _ _, fun h => by rw [h]⟩

/-- **`rare expression '{.}'` prints the view, whatever `-k` says.**  The emulated keys are assigned after the
`-k` pairs went into the map, so `-k .=x`, `-k '#=y'`, `-k .#=z` cannot replace a view; `{.}` `{#}` `{.#}` `{#.}`
print `buildSpecialKeyJson` of the `-k` pairs / the `-d` values / both, unchanged by `smartFormatResult` (with
or without `--raw`), followed by a line feed unless `-n`. -/
theorem expression_prints_view (raw skipNewline : Bool) (data kvs : List Bytes) (σ : List (Bytes × Bytes))
    (key : Bytes) (f : Bool × Bool) (h : viewFlags key = some f) :
    expressionPrints raw skipNewline data kvs σ key =
      buildSpecialKeyJson (if f.2 then data else []) (if f.1 then σ else []) ++ (if skipNewline then [] else [0x0a]) ∧
    some (buildSpecialKeyJson (if f.2 then data else []) (if f.1 then σ else [])) = expressionJsonKey key data σ := by
  have hp := special_printable (if f.2 then data else []) (if f.1 then σ else [])
  refine ⟨?_, ?_⟩
  · unfold expressionPrints
    simp only [expressionKeys_view data kvs σ key f h]
    cases raw with
    | true => rfl
    | false => simp only [Bool.false_eq_true, if_false, smartFormat_of_printable _ hp]
  · rw [(expression_keys key data σ).1, h]; rfl

/-- **The hand model of `escape` is the source's function.**  `Rare.Gen.C16.escape` is regenerated on every run
from the body of `escape` in pkg/minijson/minijson.go, statement by statement: the locals (`hasMapped`, the
`strings.Builder`) as a record, `for i := 0; i < len(s); i++` as a fold over the indices, `c := s[i]`, the test
`int(c) < len(escapeLookup) && escapeLookup[c] != ""` against the GENERATED table, the lazy copy of `s[:i]` on the
first mapped byte, `WriteString(escapeLookup[c])`, `WriteByte(c)`, and the final `if hasMapped { return sb.String() };
return s`.  For EVERY byte string it computes what the list-recursive model (`escapeLoop`) computes – so
`escape_roundtrip`, `escape_bytewise`, `view_text_no_control_bytes`, … are theorems about the code as it is in /repo,
and a changed condition, branch, statement order or table entry there breaks this theorem. -/
theorem escape_matches_source (s : Bytes) : escape s = Gen.C16.escape s := by
  rw [escape_eq_of_bodySpec s _ (escapeBody_spec escape_table_is_source s)]
  rfl

/-- **The array convention and the printing of `rare expression`, from the source**: the separator constant
(`expressions.ArraySeparator`), the skeletons of `smartFormatResult` and `MakeArray`, and the "Emulate special keys"
block of `expressionFunction` – `expCtx.Keys` starts as the map of the `-k` pairs and the seven emulated keys are
assigned AFTERWARDS, in this order, with these right-hand sides (`Model/C16Cmd.lean: expressionKeys` was written
against them). -/
theorem array_and_printing_are_source :
    Gen.C16.arraySeparator = arraySeparator.toNat ∧
    Gen.C16.smartFormatOutline =
      ["if strings.ContainsRune(s,expressions.ArraySeparator){", "varsbstrings.Builder", "sb.WriteRune('[')", "range idx,val:=strings.Split(s,expressions.ArraySeparatorString){", "if idx>0{", "sb.WriteString(\",\")", "}", "sb.WriteString(val)", "}", "sb.WriteRune(']')", "returnsb.String()", "}", "returns"] ∧
    Gen.C16.makeArrayOutline =
      ["varsbstrings.Builder", "for i:=0;i<len(args);i++{", "if i>0{", "sb.WriteRune(ArraySeparator)", "}", "sb.WriteString(args[i])", "}", "returnsb.String()"] ∧
    Gen.C16.expressionKeysInit = "parseKeyValuesIntoMap(keyPairs...)" ∧
    Gen.C16.emulatedKeys =
      [([0x73, 0x72, 0x63], "\"<args>\""),
      ([0x6c, 0x69, 0x6e, 0x65], "\"0\""),
      ([0x2e], "buildSpecialKeyJson(nil,keys)"),
      ([0x23], "buildSpecialKeyJson(data,nil)"),
      ([0x2e, 0x23], "buildSpecialKeyJson(data,keys)"),
      ([0x23, 0x2e], "expCtx.Keys[\".#\"]"),
      ([0x40], "expressions.MakeArray(data...)")] :=
  ⟨rfl, rfl, rfl, rfl, rfl⟩

example : canonVal (lit "tRuE") = litTrue ∧ canonVal (lit "FALSE") = litFalse ∧ canonVal (lit "truee") = lit "truee" ∧
    canonVal (lit "007") = lit "007" ∧ canonVal [] = [] := by
  simp -index only [lit_ofList]
  decide +kernel
example : valueText (lit "1") ≠ valueText (lit "1.0") ∧ valueText (lit "1") ≠ valueText (lit "\"1\"") ∧
    valueText (lit "TRUE") = valueText (lit "true") ∧ valueText (lit "true ") ≠ valueText (lit "true") := by
  simp -index only [lit_ofList]
  decide +kernel
/-- two different lines, same key: only the case of a boolean word differs; and a pair that differs -/
example : sameShown true true [(lit "ok", 1)] [0, 6, 0, 4, 4, 6] (lit "TRUE 7") [0, 6, 0, 4, 4, 6] (lit "true 7") = false ∧
    sameShown true false [(lit "ok", 1)] [0, 6, 0, 4, 4, 6] (lit "TRUE 7") [0, 6, 0, 4, 4, 6] (lit "true 7") = true ∧
    sameShown false true [] [0, 1, -1, -1] (lit "a") [0, 1] (lit "a") = true ∧
    sameShown false true [] [0, 1] (lit "a") [0, 1] (lit "b") = false := by
  simp -index only [lit_ofList]
  decide +kernel
example : smartFormatResult [0x61, 0, 0x62] = lit "[a, b]" ∧ smartFormatResult (lit "{\"0\": \"a\\u0000b\"}") = lit "{\"0\": \"a\\u0000b\"}" ∧
    splitSep arraySeparator [0x61, 0, 0, 0x62] = [[0x61], [], [0x62]] ∧ makeArray [[0x61], [], [0x62]] = [0x61, 0, 0, 0x62] := by
  simp -index only [lit_ofList]
  decide +kernel
example : expressionPrints false false [lit "d"] [lit ".=x", lit "k=v"] (parseKeyValuesIntoMap [lit ".=x", lit "k=v"]) (lit ".")
    = lit "{\".\": \"x\", \"k\": \"v\"}\n" ∧
    expressionPrints false true [lit "a", lit "b"] [] [] (lit "@") = lit "[a, b]" ∧
    expressionPrints true true [lit "a", lit "b"] [] [] (lit "@") = [0x61, 0, 0x62] ∧
    expressionPrints false true [] [lit "src=me"] (parseKeyValuesIntoMap [lit "src=me"]) (lit "src") = lit "<args>" := by
  simp -index only [lit_ofList]
  decide +kernel

/-! ## One context object over a history of matches

The extractor does not build a context per match.  Every worker goroutine owns one
`SliceSpaceExpressionContext` and `processLineSync` re-points it at each matched line; sources are mixed in
the worker's input and line numbers restart at 1 in every source.  "The same match always yields the same
text" is therefore a statement about an object with a past: the text must be a function of the CURRENT
match only. -/

/-- **The worker's loop is the map of a context-free function.**  One worker (`runWorker`: a context created
once with the name table, then `processLineSync` for every line it is handed, expression `{k₁}|{k₂}|…` over
arbitrary keys) produces, for EVERY history `hs` – any sources in any order, equal or restarting line numbers,
unmatched lines in between, the same match again – exactly what the context-free `extractOf` gives line by
line (same panics too). -/
theorem worker_history_is_map (keys : List Bytes) (nt : List (Bytes × Int)) (hs : List Hit) :
    runWorker keys nt hs = hs.mapM (extractOf keys nt) :=
  runWorker_eq_mapM keys nt hs

/-- Pointwise: the outcome at position `i` of a history is determined by the line at position `i` alone. -/
theorem view_is_function_of_current_match (keys : List Bytes) (nt : List (Bytes × Int)) (hs : List Hit)
    (outs : List (Option Bytes)) (hrun : runWorker keys nt hs = .ok outs) :
    outs.length = hs.length ∧
    ∀ (i : Nat) (x : Hit), hs[i]? = some x → ∃ o, outs[i]? = some o ∧ extractOf keys nt x = .ok o := by
  rw [worker_history_is_map] at hrun
  exact mapM_ok_pointwise _ hs outs hrun

/-- The state a context is in does not matter: from ANY context `c` (whatever line, indices, source and line
number an earlier match – or nobody – left in it) `processLineSync` extracts what a fresh context would; only
the name table, which is set at construction and never again, is kept. -/
theorem context_state_is_irrelevant (keys : List Bytes) (c : Ctx) (h : Hit) :
    (processLine keys c h).map (·.2) = extractOf keys c.nameTable h ∧
    ∀ c' o, processLine keys c h = .ok (c', o) → c'.nameTable = c.nameTable := by
  refine ⟨?_, fun c' o hp => processLine_nameTable keys c c' h o hp⟩
  rw [processLine_eq]
  cases extractOf keys c.nameTable h <;> rfl

/-- What the keys read: a view key is `json` of (name table, indices, line) – neither the source nor the line
number enters –, while `{src}` and `{line}` answer exactly those two fields. -/
theorem view_key_reads_match_only (nt : List (Bytes × Int)) (h : Hit) :
    (∀ key a b, viewFlags key = some (a, b) → keyOf nt h key = json a b nt h.indices h.line) ∧
    keyOf nt h keySrc = .ok h.source ∧ keyOf nt h keyLine = .ok (natAscii h.lineNum) :=
  ⟨fun key a b hv => keyOf_view nt h key a b hv, keyOf_src_line nt h⟩

/-- **Aggregation key over a history.**  In the output of one worker for the expression `{key}` (a view key),
the texts at two positions of the history are equal IF AND ONLY IF the two matches show the same captures (up
to the letter case of true/false) – wherever the two lines stand in the history, whatever their sources and
line numbers are (equal line numbers in different sources included).  `⇒` : a match never gets the text of
another match; `⇐` : the same match gets the same text every time. -/
theorem history_key_iff (key : Bytes) (named numbered : Bool) (hv : viewFlags key = some (named, numbered))
    (nt : List (Bytes × Int)) (hs : List Hit) (outs : List (Option Bytes))
    (hrun : runWorker [key] nt hs = .ok outs)
    (i j : Nat) (x y : Hit) (hi : hs[i]? = some x) (hj : hs[j]? = some y)
    (hx : x.indices ≠ []) (hy : y.indices ≠ [])
    (tx : GoTyped nt x.indices) (ty : GoTyped nt y.indices) (hnd : (nt.map (·.1)).Nodup) :
    outs[i]? = outs[j]? ↔ sameShown named numbered nt x.indices x.line y.indices y.line = true := by
  obtain ⟨_, hp⟩ := view_is_function_of_current_match [key] nt hs outs hrun
  obtain ⟨o1, ho1, he1⟩ := hp i x hi
  obtain ⟨o2, ho2, he2⟩ := hp j y hj
  obtain ⟨t1, h1, rfl⟩ := extractOf_view nt x key named numbered hv hx o1 he1
  obtain ⟨t2, h2, rfl⟩ := extractOf_view nt y key named numbered hv hy o2 he2
  rw [ho1, ho2, ← (json_key_iff named numbered nt nt nt x.indices y.indices x.line y.line t1 t2
    (List.Perm.refl _) (List.Perm.refl _) tx ty hnd h1 h2).1]
  by_cases e1 : t1 = [] <;> by_cases e2 : t2 = [] <;> simp [e1, e2]

/-- the history the seeded change `C16-json-memo-linenum` gets wrong, in the model: three one-line files
through one worker, every match is line 1 of its source – each gets its own text; and the same match later in
the history gets the same text again -/
theorem history_witness :
    (runWorker [lit "#"] []
      [⟨lit "f1", 1, [0, 1], lit "a"⟩, ⟨lit "f2", 1, [0, 1], lit "b"⟩, ⟨lit "f3", 1, [], lit "zz"⟩,
       ⟨lit "f1", 1, [0, 1], lit "a"⟩]).toOption
      = some [some (lit "{\"0\": \"a\"}"), some (lit "{\"0\": \"b\"}"), none, some (lit "{\"0\": \"a\"}")] := by
  simp -index only [lit_ofList]
  decide +kernel

/-- fields `processLineSync` assigns, from the generated event list -/
def loadSetFields (ev : List (String × String × String)) : List String :=
  ev.filterMap fun e => if e.1 = "set" then some e.2.1 else none

/-- no assignment to the context comes after the first call the context is handed to -/
def setsBeforeUses (ev : List (String × String × String)) : Bool :=
  (ev.dropWhile fun e => e.1 ≠ "use").all fun e => e.1 ≠ "set"

/-- fields any method of the context reads / may write, from the generated method table -/
def methodReads (ms : List (String × List String × List String × List String × List String)) : List String :=
  ms.flatMap fun m => m.2.1
def methodWrites (ms : List (String × List String × List String × List String × List String)) : List String :=
  ms.flatMap fun m => m.2.2.1

/-- **The context's fields, their writers and their readers ARE the source's** (regenerated from
pkg/extractor/sliceSpaceExpressionContext.go and extractor.go on every run).  The struct has exactly the five
fields of `Ctx`; `processLineSync` binds the worker's context, assigns exactly `linePtr`, `indices`, `source`,
`lineNum` (= `Ctx.load`) and only then hands the context to `IgnoreMatch` / `BuildKey`; the only constructor
site sets `nameTable` (= `Ctx.fresh`), nothing else in the package assigns such a field; NO method of the
context writes a field, takes its address, hands a map/slice field on, or lets the receiver escape; the
methods read no field but the five.  A per-line memo, a cache keyed by line number, a lazily filled field –
any state a method could carry from one match to the next – changes one of these lists. -/
theorem context_is_repointed_per_match_source :
    Gen.C16.ctxFields = [("linePtr", "string"), ("indices", "[]int"), ("nameTable", "map[string]int"),
      ("source", "string"), ("lineNum", "uint64")] ∧
    Gen.C16.ctxLoadEvents = [("bind", "expContext", "s.context"), ("set", "linePtr", "lineStringPtr"),
      ("set", "indices", "matches"), ("set", "source", "source"), ("set", "lineNum", "lineNum"),
      ("use", "s.ignore.IgnoreMatch", ""), ("use", "s.keyBuilder.BuildKey", "")] ∧
    loadSetFields Gen.C16.ctxLoadEvents = ["linePtr", "indices", "source", "lineNum"] ∧
    setsBeforeUses Gen.C16.ctxLoadEvents = true ∧
    Gen.C16.ctxLiterals = ["asyncWorker:nameTable"] ∧ Gen.C16.ctxFieldSetsElsewhere = [] ∧
    Gen.C16.ctxMethods =
      [("GetMatch", ["indices", "linePtr"], [], [], []),
       ("GetKey", ["source", "lineNum", "nameTable"], [], ["json", "array", "GetMatch"], []),
       ("json", ["nameTable", "indices"], [], ["GetMatch"], []),
       ("array", ["indices"], [], ["GetMatch"], [])] ∧
    methodWrites Gen.C16.ctxMethods = [] ∧
    (∀ f ∈ methodReads Gen.C16.ctxMethods,
      f ∈ loadSetFields Gen.C16.ctxLoadEvents ∨ f ∈ ["nameTable"]) :=
  ⟨rfl, rfl, by decide +kernel, by decide +kernel, rfl, rfl, rfl, by decide +kernel, by decide +kernel⟩

/-- **History independence from the source's own read/write sets.**  Take the fields `processLineSync`
assigns (`W`), the fields the context's methods may write (`MW`) and the fields they read (`R`) as the
translator found them in /repo.  Then for ANY function `view` of the object that reads only `R`, after ANY
history of re-pointings and method calls (`before`), a re-pointing at the match `m` and any number of further
method calls on that match (`after`), `view` answers what it answers on the constructed object re-pointed once
at `m`.  The only premise, `R ∩ MW = ∅`, is decided on the generated lists – with a memo field it is false
(`frame_counterexample` shows the conclusion then fails). -/
theorem context_history_frame_source {V β : Type} (view : Obj V → β)
    (hv : ReadsOnly (methodReads Gen.C16.ctxMethods) view)
    (o₀ : Obj V) (before : List (ObjStep V)) (m : Obj V) (after : List (Obj V)) :
    view ((after.map ObjStep.method).foldl
        (ObjStep.apply (loadSetFields Gen.C16.ctxLoadEvents) (methodWrites Gen.C16.ctxMethods))
        (ObjStep.apply (loadSetFields Gen.C16.ctxLoadEvents) (methodWrites Gen.C16.ctxMethods)
          (before.foldl (ObjStep.apply (loadSetFields Gen.C16.ctxLoadEvents) (methodWrites Gen.C16.ctxMethods)) o₀)
          (.repoint m)))
      = view (ObjStep.apply (loadSetFields Gen.C16.ctxLoadEvents) (methodWrites Gen.C16.ctxMethods) o₀ (.repoint m)) :=
  frame _ _ _ (by decide) view hv o₀ before m after

/-- `GetMatch`, `GetKey` and `array()` – the rest of the context's methods, which `Ctx.getMatch`, `Ctx.getKey`
and `Ctx.array` mirror – statement skeletons from the AST -/
theorem context_methods_are_source :
    Gen.C16.getMatchOutline =
      ["sliceIndex:=idx*2", "if idx<0||sliceIndex<0||sliceIndex+1>=len(s.indices){", "return\"\"", "}",
       "start:=s.indices[sliceIndex]", "end:=s.indices[sliceIndex+1]", "if start<0||end<0{", "return\"\"", "}",
       "returns.linePtr[start:end]"] ∧
    Gen.C16.getKeyOutline =
      ["switchkey{case\"src\":returns.sourcecase\"line\":returnstrconv.FormatUint(s.lineNum,10)case\".\":returns.json(true,false)case\"#\":returns.json(false,true)case\".#\",\"#.\":returns.json(true,true)case\"@\":returns.array()}",
       "if idx,ok:=s.nameTable[key];ok{", "returns.GetMatch(idx)", "}", "returnstdlib.ErrorArgName"] ∧
    Gen.C16.arrayOutline =
      ["varsbstrings.Builder", "for i:=1;i<len(s.indices)/2;i++{", "val:=s.GetMatch(i)", "if i>1{",
       "sb.WriteRune(expressions.ArraySeparator)", "}", "sb.WriteString(val)", "}", "returnsb.String()"] :=
  ⟨rfl, rfl, rfl⟩

/-- the context as C02's model sees it -/
def Ctx.toC02 (c : Ctx) : C02.MatchCtx := ⟨c.linePtr, c.indices, c.nameTable, c.source, c.lineNum⟩

/-- **The two hand models of the whole `GetKey` are one function** (seam with C02, which C08's expression model
evaluates keys through): for EVERY context and key, C02's `getKey` answers its placeholder `.json` exactly on
the view keys, and on every other key – `src`, `line`, `@` (the NUL-joined groups), a group name, an unknown
name – the very bytes (or the panic) of C16's `Ctx.getKey`.  So `worker_history_is_map` and
`context_state_is_irrelevant` speak about the `GetKey` C02/C08 model too. -/
theorem getKey_models_agree (c : Ctx) (key : Bytes) :
    C02.getKey c.toC02 key =
      if (viewFlags key).isSome then .ok .json else (c.getKey key).map C02.KeyAns.val :=
  c02_getKey_eq c key

/-- a history with two sources at the same line number; hypotheses of `history_key_iff` hold on it -/
example : (runWorker [lit "."] [(lit "g", 1)]
      [⟨lit "a.log", 7, [0, 1, 0, 1], lit "x"⟩, ⟨lit "b.log", 7, [0, 1, 0, 1], lit "y"⟩]).toOption
      = some [some (lit "{\"g\": \"x\"}"), some (lit "{\"g\": \"y\"}")] ∧
    ([(lit "g", (1 : Int))].map (·.1)).Nodup := ⟨by decide +kernel, by decide⟩
example : GoTyped [(lit "g", 1)] [0, 1, 0, 1] :=
  ⟨by intro p hp; simp at hp; subst hp; decide, by decide⟩
example : (extractOf [lit "g", lit "src", lit "line", lit "@", lit "nope"] [(lit "g", 1)]
      ⟨lit "f", 12, [0, 3, 0, 1, 2, 3], lit "a b"⟩).toOption
    = some (some ((lit "a|f|12|a") ++ [0] ++ (lit "b|<NAME>"))) := by
  simp -index only [lit_ofList]
  decide +kernel
/-- a view that reads what the source's methods read: `ReadsOnly` is satisfiable and not trivial -/
example : ReadsOnly (methodReads Gen.C16.ctxMethods) (fun o : Obj Nat => o "indices" + o "linePtr") :=
  fun o o' h => by simp [h "indices" (by decide), h "linePtr" (by decide)]

end Rare.C16

import Rare.Proofs.C10
import Rare.Proofs.C10Tree
import Rare.Proofs.C10State
import Rare.Proofs.C10Src
import Rare.Proofs.C10Fold
import Rare.Proofs.C10Conc
import Rare.Proofs.C10ConcG
import Rare.Gen.C10
/-!
# C10 — optimisation and user-defined functions never change an expression's value

The model identifies a compiled stage with its *interaction tree* (`Comp`): everything a Go stage
closure can do with its context is `GetMatch`, `GetKey`, panic or return, and a function builder can
observe its argument stages only by running them.  The theorems below hold for **every** registry
of function builders (all helper families, user functions, builders not yet written).
-/
namespace Rare.C10
open Rare Rare.Expr Rare.C09

/-- `EvalStaticStage` reports "constant" only for a stage that makes no look-up at all; such a stage
    is a literal and has the same value in every context (so folding it is sound). -/
theorem probe_constant {α : Type} (c : Comp α) (v : α) (h : c.probe = .ok (v, true)) :
    c = .ret v ∧ ∀ ctx, c.run ctx = .ok v := by
  have := Comp.probe_constant c v h
  exact ⟨this, fun ctx => by rw [this]; rfl⟩

/-- A value defined to vary (`{time live}`, `{time delta}` touch the context with `GetMatch(-1)`)
    is never reported constant, whatever follows the look-up: the optimiser cannot freeze it. -/
theorem varying_not_frozen {α : Type} (i : Int) (k : Bytes → Comp α) (v : α) :
    (Comp.getMatch i k).probe ≠ .ok (v, true) := by
  intro h
  have := Comp.probe_constant _ v h
  cases this

/-- `optimize` (merging statically evaluable stages into literals) does not change the built key. -/
theorem optimize_preserves (stages out : List Stage) (h : optimize stages = .ok out) :
    buildKey out = buildKey stages :=
  optimize_sound stages out h

/-- **Optimisation is invisible.**  For every registry, every template: if compilation with static
    optimisation succeeds then compilation without it succeeds with the same compile errors, and for
    every match context both compiled expressions evaluate to the same result (same string, or both
    panic). -/
theorem optimize_sound (reg : Registry) (t : List Char) (s : List Stage) (e : List CErr)
    (h : compile reg true t = .ok (s, e)) :
    ∃ s', compile reg false t = .ok (s', e) ∧ ∀ ctx, (buildKey s').run ctx = (buildKey s).run ctx := by
  obtain ⟨s', h1, h2⟩ := compile_opt_sound reg t s e h
  exact ⟨s', h1, fun ctx => by rw [h2]⟩

/-- **A user function behaves like its body.**  Calling `{name a₀ a₁ …}` evaluates the body in a
    context where `{i}` is the value of `aᵢ` in the caller's match, missing arguments are empty and
    named keys are the caller's — for every body, every argument list and every context in which
    the arguments evaluate. -/
theorem call_eq_body (body : List Stage) (args : List Stage) (ctx : Ctx) (vals : List Bytes)
    (hargs : args.map (·.run ctx) = vals.map .ok) :
    ∃ st, userFunction body args = .ok ⟨some st, none⟩ ∧
      st.run ctx = (buildKey body).run (argCtx ctx args.length vals) :=
  ⟨_, rfl, withArgs_run args ctx vals hargs _⟩

/-- …and so does a call compiled with or without optimisation (the body itself was compiled when
    the file was loaded; the call site goes through `optimize_sound`). -/
theorem call_opt_eq (reg : Registry) (name : List Char) (body : List Stage) (t : List Char)
    (s : List Stage) (e : List CErr) (h : compile (extend reg name (userFunction body)) true t = .ok (s, e)) :
    ∃ s', compile (extend reg name (userFunction body)) false t = .ok (s', e) ∧
      ∀ ctx, (buildKey s').run ctx = (buildKey s).run ctx :=
  optimize_sound _ t s e h

/-- **Substitution composes ("doubly inlined").**  A function `outer` whose body calls `inner` with the
    argument stages `innerArgs` (which mention `outer`'s own parameters `{0}`, `{1}`, …), called with
    `outerArgs`: the stage is the inner body with ITS parameters replaced by `innerArgs` in which `outer`'s
    parameters have been replaced by `outerArgs` – literally, as interaction trees.  (A forwarded parameter
    is resolved against the caller's arguments, never against the match; the seeded change
    `C10-nested-userfn-unwrap` breaks exactly this.) -/
theorem call_inline_compose {α : Type} (outerArgs innerArgs : List Stage) (body : Comp α) :
    withArgs outerArgs (withArgs innerArgs body) = withArgs (innerArgs.map (withArgs outerArgs)) body :=
  withArgs_compose outerArgs innerArgs body

/-- **Nested user functions, every depth, any bodies.**  `levels` lists the argument stages of a chain of
    calls from the innermost (made in the body of the function one level out) to the outermost (made by the
    template); `Levels ctx levels inner` says `inner` is the context built level by level: each level's
    arguments evaluated in the context of the level OUTSIDE it (`argCtx`).  Then the whole nest evaluates, in
    the caller's match `ctx`, to the innermost body evaluated in `inner`; named keys and negative indices
    are the outermost caller's at every level; at every level an index beyond that level's arguments is the
    empty string. -/
theorem call_nested_eq_body_stages {α : Type} (ctx inner : Ctx) (levels : List (List Stage)) (body : Comp α)
    (h : Levels ctx levels inner) :
    (nest body levels).run ctx = body.run inner ∧ inner.getKey = ctx.getKey ∧
      (∀ i : Int, i < 0 → inner.getMatch i = ctx.getMatch i) ∧
      (∀ (as : List Stage) (outer : List (List Stage)) (i : Nat), levels = as :: outer → as.length ≤ i →
        inner.getMatch i = []) := by
  refine ⟨nest_run ctx levels inner body h, (levels_passthrough h).1, (levels_passthrough h).2, ?_⟩
  intro as outer i hl hi
  subst hl
  cases h with
  | cons mid _ _ vals _ _ => exact (argCtx_facts mid as.length vals).2.2.1 i hi

/-- **A call equals its inlined body, at every depth of nesting – on templates.**  A definitions file whose
    bodies are expression trees over the standard fragment of C09 and the functions defined EARLIER in the
    file (`DefsOk`; any print style per definition), loaded by the `LoadDefinitions` model into the standard
    registry (induction over the definition order, as the loader builds the registry): every definition is
    added, and every tree `e` over the fragment and the file's functions, printed with any style, compiles
    without errors – optimiser on or off – and evaluates in every match context to `evalTree` under `semDefs`,
    i.e. with every funcs-file call replaced by its body, `{i}` bound to the call's argument values
    (`call_body_unfold`), the body's own calls unfolded the same way. -/
theorem call_nested_eq_body (known : List String) (defs : List (Def × Style)) (hok : DefsOk (fun _ => stdSem) [] defs)
    (opt : Bool) (σ : Style) (e : C09.Expr) (ha : AdmissibleTop e)
    (hf : fragOkS (semDefs (fun _ => stdSem) (defs.map (·.1))) ((defs.map (·.1.1)).reverse) e = true) :
    ∃ fs, loadDefs (stdRegistry known) (defs.map phrase) = .ok (withFuncs (stdRegistry known) fs, fs) ∧
      ∃ stages, compile (withFuncs (stdRegistry known) fs) opt (printTop σ e) = .ok (stages, []) ∧
        ∀ ctx, (buildKey stages).run ctx = .ok (evalTree (envC (semDefs (fun _ => stdSem) (defs.map (·.1))) ctx) e) :=
  call_nested_tree known defs hok opt σ e ha hf

/-- What `semDefs` says about a call of the function just defined: the body tree where `{i}` is the value of
    the call's `i`-th argument in the caller's match, an index beyond the arguments is empty, named keys and
    negative indices are the caller's – and the names inside the body mean what they meant before this
    definition (so a body cannot call itself or a later function: see `loader_rejects_unknown_callee`). -/
theorem call_body_unfold (sem : Sem) (n : List Char) (B : C09.Expr) (ctx : Ctx) (args : List C09.Expr) :
    let vals := evalArgs (envC (semAdd sem (n, B)) ctx) args
    let inner := argCtx ctx args.length vals
    evalTree (envC (semAdd sem (n, B)) ctx) (.call n args) = evalTree (envC sem inner) B ∧
    inner.getKey = ctx.getKey ∧ (∀ i : Int, i < 0 → inner.getMatch i = ctx.getMatch i) ∧
    (∀ i : Nat, args.length ≤ i → inner.getMatch i = []) ∧
    (∀ i : Nat, i < args.length → inner.getMatch i = vals.getD i []) := by
  intro vals inner
  exact ⟨semAdd_call sem n B ctx args, argCtx_facts ctx args.length vals⟩

/-- **What the loader adds to the registry.**  `LoadDefinitions` succeeds with `(r, fs)` iff `fs` is the
    list of accepted definitions in file order (`Loaded`: a phrase without expression is skipped; a phrase
    whose expression has a compile error – or whose name is not well-formed UTF-8, hence uncallable – is
    skipped; every other phrase adds `userFunction` of its expression compiled, optimiser on, against the
    registry extended by exactly the functions added BEFORE it) and `r` is the registry extended by `fs` in
    that order (later definitions shadow earlier ones and builtins). -/
theorem loader_registry (reg r : Registry) (defs : List (Option (Bytes × Bytes))) (fs : List (List Char × Builder)) :
    loadDefs reg defs = .ok (r, fs) ↔ Loaded reg defs fs ∧ r = withFuncs reg fs := by
  constructor
  · exact loadDefs_spec defs reg r fs
  · rintro ⟨h, rfl⟩; exact loadDefs_of_loaded h

/-- **No forward references, no recursion.**  A definition whose body is a call `{g …}` of a name unknown
    at that point of the file – not a builtin, not defined earlier: its own name, or a name defined later –
    is a compile error (`ErrorMissingFunction`), is logged and NOT added; the loader continues as if the line
    were absent. -/
theorem loader_rejects_unknown_callee (reg : Registry) (name : Bytes) (w0 g w1 : List Char) (p1 : C09.Piece)
    (more : List (List Char × C09.Piece)) (trail : List Char) (rest : List (Option (Bytes × Bytes)))
    (hl : LayoutOk true ((w0, .bare g) :: (w1, p1) :: more)) (ht : allSpace trail = true) (hg : reg g = none) :
    loadDefs reg (some (name, encodeRunes ('{' :: ((layout ((w0, .bare g) :: (w1, p1) :: more) ++ trail) ++ ['}']))) :: rest)
      = loadDefs reg rest :=
  loadDefs_unknown_callee reg name w0 g w1 p1 more trail rest hl ht hg

/-- **Layout of a definitions file is irrelevant.**  Comments (`#` to end of line), blank lines and
    surrounding white space may appear anywhere, also between the lines of a `\`-continued
    definition: the phrases are those of the cleaned non-blank lines, a line ending in `\` being
    joined with the next one. -/
theorem loader_layout (text : Bytes) :
    joinPhrases (scanLines text) [] =
      groupCont (((scanLines text).map clean).filter fun l => !l.isEmpty) [] :=
  joinPhrases_eq_groupCont _ _

/-- A definition is a name, one space, and the expression. -/
theorem loader_split (name expr : Bytes) (hn : 32 ∉ name) :
    splitName (name ++ 32 :: expr) = some (name, expr) := by
  induction name with
  | nil => simp [splitName]
  | cons b r ih =>
    have hb : b ≠ 32 := fun e => hn (by simp [e])
    have hr : 32 ∉ r := fun e => hn (by simp [e])
    simp [splitName, hb, ih hr]

/-! ## Hidden state: the date-layout cache of `{time}` / `{buckettime}`, pooled context objects

`Model/C10State.lean` lists every closure of the expression packages that keeps something between calls.  The only
state an evaluation changes observably is the layout cache of the `cache` date stage; a stage is then a
state-passing interaction tree (`SStage`, told whether it serves a static analysis), its life a list of events
(`Ev`): evaluations on real matches and static-analysis evaluations (`EvalStaticStage`: the optimiser's and those of
enclosing builders). -/

/-- **Static analysis leaves no trace the input can see.**  For every date library (`detect` =
    `dateparse.ParseFormat`, `parse` = `time.ParseInLocation` + formatting), every stateless date expression, every
    cache content and every history: the answers on the real matches are those of the history with every
    static-analysis evaluation removed – however many there are and wherever they occur. -/
theorem time_cache_probe_invisible {L : Type} (lib : TimeLib L) (date : Stage) (st : TimeSt L) (evs : List Ev) :
    runEvents (timeCache lib date) st evs = runEvents (timeCache lib date) st (evs.filter Ev.isReal) :=
  time_probe_invisible lib date evs st

/-- **`optimize_sound` for the stateful date stage.**  What the optimiser makes of the stage (a literal if its
    probe made no look-up, the stage otherwise; the probe runs on the fresh cache) answers every history – real
    matches and further static analyses in any order – exactly like the unoptimised stage from the fresh cache. -/
theorem time_cache_optimize_sound {L : Type} (lib : TimeLib L) (date : Stage) (evs : List Ev) :
    runEvents (optimizeS (timeCache lib date) TimeSt.fresh) ((timeCache lib date).probeStep TimeSt.fresh).2 evs
      = runEvents (timeCache lib date) TimeSt.fresh evs :=
  time_optimize_events lib date evs

/-- …in particular on every list of matches (`--no-optimize` = the right-hand side). -/
theorem time_cache_optimize_sound_real {L : Type} (lib : TimeLib L) (date : Stage) (h : List Ctx) :
    runReal (optimizeS (timeCache lib date) TimeSt.fresh) ((timeCache lib date).probeStep TimeSt.fresh).2 h
      = runReal (timeCache lib date) TimeSt.fresh h :=
  time_optimize_events lib date _

/-- **The same through sub-contexts.**  A `cache` stage `{time {0}}` evaluated by a binder on every element of an
    array (`{@map <arr> "{time {0}}"}`) or by a funcs-file function on its argument (`ts {time {0}}`,
    `{ts "2020-01-{0}"}`), the values being ANY stages of the caller's context – constant, dynamic or mixed: static
    analysis of the enclosing stage is invisible in every history (sub-contexts pass `InStaticAnalysis` on). -/
theorem time_cache_subcontext_probe_invisible {L : Type} (lib : TimeLib L) (elems : List Stage) (st : TimeSt L)
    (evs : List Ev) :
    runEvents (timeMapStage .cur lib elems) st evs = runEvents (timeMapStage .cur lib elems) st (evs.filter Ev.isReal) :=
  timeMap_probe_invisible lib elems evs st

/-- **Why b6010cd was needed (histories that differ, upstream code).**  With every detected layout remembered, the
    optimiser's probe of `{time "ab{0}"}` caches the layout of `"ab"`; the first real line then fails to parse
    while the unoptimised stage parses it (toy library: the layout of a date is its length). -/
theorem time_cache_v0_counterexample :
    runReal (optimizeS (timeCacheRev .v0 toyLib toyDate) TimeSt.fresh)
        ((timeCacheRev .v0 toyLib toyDate).probeStep TimeSt.fresh).2 [toyCtx [99]] = [.ok ErrorParsing] ∧
      runReal (timeCacheRev .v0 toyLib toyDate) TimeSt.fresh [toyCtx [99]] = [.ok [97, 98, 99]] :=
  ⟨rfl, rfl⟩

/-- **Why cb6fa4b was needed (b6010cd's own defect).**  Answering `<PARSE-ERROR>` for the static-analysis value
    made every CONSTANT date an error although the library detects and parses it; the present code parses it. -/
theorem time_cache_v1_counterexample :
    runReal (timeCacheRev .v1 toyLib (.ret [97, 98])) TimeSt.fresh [toyCtx [99]] = [.ok ErrorParsing] ∧
      toyLib.detect [97, 98] = some 2 ∧ toyLib.parse 2 [97, 98] = some [97, 98] ∧
      runReal (timeCache toyLib (.ret [97, 98])) TimeSt.fresh [toyCtx [99]] = [.ok [97, 98]] :=
  ⟨rfl, rfl, rfl, rfl⟩

/-- **Why 3acd3a0 was needed (cb6fa4b's code, `{ts "2020-01-{0}"}` / `{@map {@ {0} 2020-01-01} "{time {0}}"}`).**
    Through a sub-context the probe's value is not the date expression's own static-analysis value: with one cell
    for both worlds the probe of `[{0}, "99"]` caches the constant's layout; the first real line's first element
    then fails to parse, while without optimisation it decides the layout and the constant fails.  With the cell
    of its own (the code as it is) both answer the same. -/
theorem time_cache_v2_counterexample :
    runReal (optimizeS (timeMapStage .v2 toyLib [Comp.match_ 0, Stage.lit [57, 57]]) TimeSt.fresh)
        ((timeMapStage .v2 toyLib [Comp.match_ 0, Stage.lit [57, 57]]).probeStep TimeSt.fresh).2 [toyCtx [55]]
      = [.ok (ErrorParsing ++ [57, 57])] ∧
    runReal (timeMapStage .v2 toyLib [Comp.match_ 0, Stage.lit [57, 57]]) TimeSt.fresh [toyCtx [55]]
      = [.ok (55 :: ErrorParsing)] ∧
    runReal (optimizeS (timeMapStage .cur toyLib [Comp.match_ 0, Stage.lit [57, 57]]) TimeSt.fresh)
        ((timeMapStage .cur toyLib [Comp.match_ 0, Stage.lit [57, 57]]).probeStep TimeSt.fresh).2 [toyCtx [55]]
      = [.ok (55 :: ErrorParsing)] :=
  -- the evaluation ends in `ErrorParsing ++ []`, which reduces only if `ascii` of the literal may be unfolded
  ⟨rfl, by with_unfolding_all rfl, by with_unfolding_all rfl⟩

/-- **Why 6998c9c was needed (folding a constant array; the code of 6998c9c is `TimeRev.v3`).**  A static analysis
    that remembers nothing parses every constant by its own layout; on input the first one decides.  With the two
    cells the folded value of `["99", "7"]` is what the first evaluation on input computes.  (Since 1dba502 the
    stage is not folded at all – last conjunct – because the next theorems show that no folded value can be right
    for the real library.) -/
theorem time_cache_fold_const_array :
    ((timeMapStage .v3 toyLib [Stage.lit [57, 57], Stage.lit [55]]).probeStep TimeSt.fresh).1
      = .ok ([57, 57] ++ ErrorParsing, true) ∧
    runReal (timeMapStage .v3 toyLib [Stage.lit [57, 57], Stage.lit [55]]) TimeSt.fresh [toyCtx [1], toyCtx [2]]
      = [.ok ([57, 57] ++ ErrorParsing), .ok ([57, 57] ++ ErrorParsing)] ∧
    ((timeMapStage .cur toyLib [Stage.lit [57, 57], Stage.lit [55]]).probeStep TimeSt.fresh).1
      = .ok ([57, 57] ++ ErrorParsing, false) :=
  ⟨by with_unfolding_all rfl, by with_unfolding_all rfl, by with_unfolding_all rfl⟩

/-- **Pooled sub-contexts: stale content is never observed.**  Whatever objects lie in `subContextPool` (left by
    earlier evaluations of ANY expression – the pool is global), one sub-evaluation of a binder
    (`Get; *sub = subContext{parent: context}; sub.Eval(stage, a, b); Return`) answers what the stateless model
    (`Comp.withSub`) says, and hands exactly one object back. -/
theorem pool_stale_independent (pool : Pool) (ctx : Ctx) (inner : Stage) (a b : Bytes) :
    (evalSubPooled true pool ctx inner a b).1 = (inner.withSub a b).run ctx ∧
      (evalSubPooled true pool ctx inner a b).2.length = max pool.length 1 := by
  constructor
  · rw [withSub_run']; simp [evalSubPooled]
  · simp only [evalSubPooled, Pool.get, Pool.ret]
    cases h : pool.reverse with
    | nil => simp [List.reverse_eq_nil_iff.mp h]
    | cons o r =>
      have : pool.length = r.length + 1 := by
        have := congrArg List.length h; simpa using this
      simp [this]

/-- …and the reset line is what makes it so: without `*sub = subContext{parent: context}` (as `@for` once was,
    DESIGN.md F7) the answer depends on what the previous user of the object left in it. -/
theorem pool_no_reset_counterexample :
    (evalSubPooled false [⟨toyCtx [1], [], []⟩] (toyCtx [2]) (Comp.match_ (-1)) [] []).1 = .ok [1] ∧
      (evalSubPooled false [] (toyCtx [2]) (Comp.match_ (-1)) [] []).1 = .ok [] ∧
      (evalSubPooled true [⟨toyCtx [1], [], []⟩] (toyCtx [2]) (Comp.match_ (-1)) [] []).1 = .ok [2] := ⟨rfl, rfl, rfl⟩

/-- **Pooled call-site contexts of funcs-file functions.**  Whatever `sub` the pooled `lazySubContext` still holds
    from an earlier call, the call answers `withArgs args body` in the caller's context (`call_eq_body`). -/
theorem userfn_pool_stale_independent (stale : LazyObj) (args : List Stage) (body : Stage) (ctx : Ctx) :
    (evalArgsPooled stale args body ctx).1 = (withArgs args body).run ctx := rfl

/-- **Duplicate names and names of builtins: the last definition wins.**  After loading, a name defined several
    times (or naming a builtin) means its LAST accepted definition; every other name is untouched by it. -/
theorem loader_last_wins (reg : Registry) (fs : List (List Char × Builder)) (n : List Char) (b : Builder) :
    withFuncs reg (fs ++ [(n, b)]) n = some b ∧
      ∀ m, m ≠ n → withFuncs reg (fs ++ [(n, b)]) m = withFuncs reg fs m := by
  simp only [withFuncs, List.foldl_append, List.foldl_cons, List.foldl_nil, extend]
  exact ⟨by simp, fun m hm => by simp [hm]⟩

/-- File shapes: CRLF line ends, a last line without newline, a continuation on the last line (joined with
    nothing after it), a lone `\` line – the phrases of `f {0}\r\n`, `g x\` + CRLF + ` y` (no final newline) and of
    `h 1\` at the very end. -/
example : joinPhrases (scanLines [102, 32, 123, 48, 125, 13, 10, 103, 32, 120, 92, 13, 10, 32, 121]) []
      = [[102, 32, 123, 48, 125], [103, 32, 120, 121]] ∧
    joinPhrases (scanLines [104, 32, 49, 92]) [] = [[104, 32, 49]] ∧
    joinPhrases (scanLines [92, 10, 104, 32, 49, 10, 92]) [] = [[104, 32, 49]] := by decide +kernel

/-- Non-vacuity: a definitions file with a comment, a continuation with an interleaved comment, and
    a blank line yields the two expected phrases. -/
example : joinPhrases (scanLines [102, 32, 120, 92, 10, 35, 99, 10, 32, 121, 32, 35, 122, 10, 10, 103, 32, 49, 10]) []
    = [[102, 32, 120, 121], [103, 32, 49]] := by decide +kernel

/-! ### Non-vacuity of the nesting theorems -/

/-- `double {sumi {0} {0}}`, `quad {double {double {0}}}`, `wrap {if {1} {double {0}} {src}}` – three levels of
    nesting, a forwarded parameter, a named key, an argument that may be missing. -/
def exStyle : Style := fun p =>
  { quote := p.length % 2 == 1, lead := [0], trail := if p = [] then [] else [24, 1],
    sep := fun i => (i % 2, if i = 0 then [12] else []) }

def exDefs : List (Def × Style) :=
  [(("double".toList, .call "sumi".toList [.group 0, .group 0]), exStyle),
   (("quad".toList, .call "double".toList [.call "double".toList [.group 0]]), exStyle),
   (("wrap".toList, .call "if".toList [.group 1, .call "quad".toList [.group 0], .key "src".toList]), exStyle)]

example : DefsOk (fun _ => stdSem) [] exDefs := by
  refine ⟨by decide +kernel, ?_, by decide +kernel, by decide +kernel, ?_, by decide +kernel, by decide +kernel, ?_,
    by decide +kernel, trivial⟩ <;>
  · simp only [AdmissibleTop, Admissible, AdmissibleArgs]; decide +kernel

/-- `{wrap 5 x}` = 20, `{wrap 5}` (argument missing at the outer level) = the caller's `src` key. -/
example : evalTree (envC (semDefs (fun _ => stdSem) (exDefs.map (·.1))) ⟨fun _ => ascii "9", fun _ => ascii "f.log"⟩)
      (.call "wrap".toList [.lit "5".toList, .lit "x".toList]) = ascii "20" ∧
    evalTree (envC (semDefs (fun _ => stdSem) (exDefs.map (·.1))) ⟨fun _ => ascii "9", fun _ => ascii "f.log"⟩)
      (.call "wrap".toList [.lit "5".toList]) = ascii "f.log" := by decide +kernel

example : fragOkS (semDefs (fun _ => stdSem) (exDefs.map (·.1))) ((exDefs.map (·.1.1)).reverse)
    (.call "wrap".toList [.group 0, .call "quad".toList [.key "k".toList]]) = true := by decide +kernel

/-- Two levels: `{outer a b}` with body `{inner {1} {0}}` – the contexts of `call_nested_eq_body_stages`. -/
example : Levels ⟨fun _ => [1], fun _ => [2]⟩ [[Comp.match_ 1, Comp.match_ 0], [Stage.lit [7], Stage.lit [8]]]
    (argCtx (argCtx ⟨fun _ => [1], fun _ => [2]⟩ 2 [[7], [8]]) 2 [[8], [7]]) :=
  .cons _ _ _ _ [[8], [7]] (.cons _ _ _ _ [[7], [8]] (.nil _) rfl) rfl

/-- `f {f {0}}` with no earlier `f`: rejected (recursion); so is `f {g {0}}` with `g` defined later. -/
example : LayoutOk true [([], .bare "f".toList), ([' '], .braced "0".toList)] ∧ allSpace [] = true :=
  ⟨⟨rfl, Or.inl rfl, (by decide : bare "f".toList = true), by decide, Or.inr (by decide),
    Inner.char '0' _ (by decide) Inner.nil, trivial⟩, rfl⟩

/-! ## A cache stage behind a binder or a funcs-file function is folded only when it cannot remember (1dba502) -/

/-- **`optimize_sound` for the stateful date stage reached through sub-contexts – unconditional.**
    `{@map <arr> "{time {0}}"}` (any binder) or a funcs-file function `ts {time {0}}` called on any arguments: for
    EVERY date library (in particular the real one, whose `time.Parse` accepts under a remembered layout values
    `dateparse.ParseFormat` cannot detect), ANY element stages (constant, dynamic, mixed, panicking), any cell
    contents the optimiser's static analysis starts from, and every history of evaluations on input and static
    analyses in any order: what `optimize` makes of the stage answers exactly like the unoptimised stage.
    (The code before /repo 1dba502 did not have this property: known finding `fold-lenient`,
    `time_cache_fold_const_array_counterexample`.) -/
theorem time_cache_fold_sound {L : Type} (lib : TimeLib L) (elems : List Stage) (st : TimeSt L) (evs : List Ev) :
    runEvents (optimizeS (timeMapStage .cur lib elems) st) ((timeMapStage .cur lib elems).probeStep st).2 evs
      = runEvents (timeMapStage .cur lib elems) st evs :=
  timeMap_optimize lib elems st evs

/-- **What `optimize` makes of such a stage IS the stage.**  As a state-passing function the optimised stage equals the
    unoptimised one – it is left alone, or it is replaced by a literal it was equal to (it never consulted its
    memory).  Hence everything that shares the hidden state with it sees the same in both modes: the other call sites
    of the same funcs-file function (`{ts "2020-01-01"}|{ts {0}}` share the closure of `ts`'s body – `seqS`), in any
    number and order. -/
theorem time_cache_optimize_is_identity {L : Type} (lib : TimeLib L) (elems : List Stage) (st : TimeSt L) :
    optimizeS (timeMapStage .cur lib elems) st = timeMapStage .cur lib elems ∧
    ∀ (other : SStage (TimeSt L)),
      seqS (optimizeS (timeMapStage .cur lib elems) st) other = seqS (timeMapStage .cur lib elems) other ∧
      seqS other (optimizeS (timeMapStage .cur lib elems) st) = seqS other (timeMapStage .cur lib elems) := by
  have h := timeMap_optimizeS_eq lib elems st
  exact ⟨h, fun other => ⟨by rw [h], by rw [h]⟩⟩

/-- **Why that matters (second face of `fold-lenient`, found while repairing it; the code of 6998c9c = `TimeRev.v3`).**
    No lenient parser is needed when call sites share the closure: `{ts "99"}|{ts {0}}` on the line `7` (toy library:
    layout = length).  Without optimisation the constant call decides the layout and the line fails to parse; the
    old optimiser folded the constant call, so the line's own layout was remembered and it parsed.  (Real code:
    `tb {buckettime {0} day}`, `{tb "2014-04-26 17:24:37.123"}|{tb {0}}` on the line `oct 7, 1970`.)  The code as it
    is does not fold the constant call: both modes answer alike. -/
theorem time_cache_shared_closure_counterexample :
    runReal (seqS (optimizeS (timeMapStage .v3 toyLib [Stage.lit [57, 57]]) TimeSt.fresh)
        (timeMapStage .v3 toyLib [Comp.match_ 0]))
        ((timeMapStage .v3 toyLib [Stage.lit [57, 57]]).probeStep TimeSt.fresh).2 [toyCtx [55]]
      = [.ok [57, 57, 55]] ∧
    runReal (seqS (timeMapStage .v3 toyLib [Stage.lit [57, 57]]) (timeMapStage .v3 toyLib [Comp.match_ 0]))
        TimeSt.fresh [toyCtx [55]]
      = [.ok ([57, 57] ++ ErrorParsing)] ∧
    runReal (seqS (optimizeS (timeMapStage .cur toyLib [Stage.lit [57, 57]]) TimeSt.fresh)
        (timeMapStage .cur toyLib [Comp.match_ 0]))
        ((timeMapStage .cur toyLib [Stage.lit [57, 57]]).probeStep TimeSt.fresh).2 [toyCtx [55]]
      = [.ok ([57, 57] ++ ErrorParsing)] :=
  ⟨rfl, by with_unfolding_all rfl, by with_unfolding_all rfl⟩

/-- **What is still folded, and why that is right.**  Over constant values the stage is reported constant only if
    every value is the empty string (first part: one non-empty value and the static analysis says "not constant",
    whatever the library and the cells); and a stage the static analysis does report constant is a literal without
    memory – every evaluation, static or on input, from any cells, answers that value and leaves the cells alone. -/
theorem time_cache_folded_only_without_memory {L : Type} (lib : TimeLib L) :
    (∀ (vals : List Bytes) (st : TimeSt L), (∃ v ∈ vals, v ≠ []) →
      ∀ r, ((timeMapStage .cur lib (vals.map Stage.lit)).probeStep st).1 ≠ .ok (r, true)) ∧
    (∀ (elems : List Stage) (st st1 : TimeSt L) (v : Bytes), timeMapStage .cur lib elems true st = .ret (v, st1) →
      timeMapStage .cur lib elems = fun _ st' => .ret (v, st')) :=
  ⟨fun vals st h => timeMap_nonempty_not_constant lib vals st h,
   fun elems st st1 v h => timeMap_static_ret lib elems st v st1 h⟩

/-- Non-vacuity of both: the lenient library on `[" 7", "7"]`, a static analysis between two lines – the first line
    cannot detect `" 7"`, the second parses it by the layout `"7"` left behind, optimised and unoptimised alike; and
    `["", ""]` IS folded (to two error markers). -/
example :
    runEvents (timeMapStage .cur lenientLib [Stage.lit [32, 55], Stage.lit [55]]) TimeSt.fresh
        [.real (toyCtx [1]), .probe, .real (toyCtx [2])] = [.ok (ErrorParsing ++ [55]), .ok [55, 55]] ∧
    ((timeMapStage .cur lenientLib [Stage.lit [], Stage.lit []]).probeStep TimeSt.fresh).1
      = .ok (ErrorParsing ++ ErrorParsing, true) :=
  ⟨rfl, by with_unfolding_all rfl⟩

/-- **Why 1dba502 was needed (finding `fold-lenient`, the code of 6998c9c = `TimeRev.v3`).**  A library whose parser
    is more lenient than its detector – as the real one is: `dateparse.ParseFormat` rejects `"oct 7,  1970"` (two
    spaces) while `time.Parse` with the layout of `"oct 7, 1970"` accepts it.  The constant array `[" 7", "7"]`: the
    static analysis of the old code (like the first line) cannot detect the first value and folds `<PARSE-ERROR>7`
    for every line; without optimisation the second line parses it by the layout the second value left behind.
    Optimised ≠ unoptimised from the second line on – the unoptimised value of a "constant" depends on the history,
    so NO folded value can be right.  The code as it is does not fold the stage: both answer alike (last conjunct). -/
theorem time_cache_fold_const_array_counterexample :
    lenientLib.detect [32, 55] = none ∧ lenientLib.parse 1 [32, 55] = some [55] ∧
    runReal (optimizeS (timeMapStage .v3 lenientLib [Stage.lit [32, 55], Stage.lit [55]]) TimeSt.fresh)
        ((timeMapStage .v3 lenientLib [Stage.lit [32, 55], Stage.lit [55]]).probeStep TimeSt.fresh).2
        [toyCtx [1], toyCtx [2]]
      = [.ok (ErrorParsing ++ [55]), .ok (ErrorParsing ++ [55])] ∧
    runReal (timeMapStage .v3 lenientLib [Stage.lit [32, 55], Stage.lit [55]]) TimeSt.fresh [toyCtx [1], toyCtx [2]]
      = [.ok (ErrorParsing ++ [55]), .ok [55, 55]] ∧
    runReal (optimizeS (timeMapStage .cur lenientLib [Stage.lit [32, 55], Stage.lit [55]]) TimeSt.fresh)
        ((timeMapStage .cur lenientLib [Stage.lit [32, 55], Stage.lit [55]]).probeStep TimeSt.fresh).2
        [toyCtx [1], toyCtx [2]]
      = [.ok (ErrorParsing ++ [55]), .ok [55, 55]] :=
  ⟨rfl, rfl, rfl, rfl, rfl⟩

/-! ## The code the theorems above rest on, regenerated from /repo -/

/-- **`Comp.probe` is `EvalStaticStage`.**  The model's probe equals running the stage against a counting context
    whose `GetMatch` / `GetKey` are the bodies of `monitorContext`'s methods as they stand in /repo (count every
    look-up, answer ""), starting from the zero monitor, with `ok` the comparison written in `EvalStaticStage`. -/
theorem probe_is_eval_static_stage {α : Type} (c : Comp α) :
    c.probe = evalStatic Gen.C10.monitorGetMatch Gen.C10.monitorGetKey Gen.C10.evalStaticInit Gen.C10.evalStaticOk c :=
  (evalStatic_probe c).symm

/-- **`timeStep` / `timeTouches` are the closure in /repo.**  The closure of `smartDateParseWrapper`'s cache mode,
    translated statement by statement (`Gen.C10.cacheClosure : CProg`, semantics `execProg`), computes for every
    library, every `emptyTime`, constant or not date expression, both worlds, every date string and every cache
    content exactly what the hand model says – answer and cells (`timeStep .cur`) and the touches of the context
    (`timeTouches .cur`: `GetMatch(-1)` once, under static analysis, when the date expression is not constant by
    itself, past the empty check; none otherwise – in particular none on input); the clause is the one for
    `""`/`cache`, both cells start empty and `emptyTime, constTime` are the two results of
    `EvalStaticStage(dateStage)` (`emptyOf`, `constOf`).  A dropped guard (`strTime != emptyTime`, `!constTime`), a
    dropped `format = &staticFormat` or touch, a changed order of statements in /repo changes the program and
    breaks this proof. -/
theorem time_step_matches_source {L : Type} (lib : TimeLib L) (emptyTime : Bytes) (constTime static : Bool) (s : Bytes)
    (st : TimeSt L) :
    cacheStepOf Gen.C10.cacheClosure lib emptyTime constTime static s st
        = some ((timeStep .cur lib emptyTime static s st).1, (timeStep .cur lib emptyTime static s st).2,
            if timeTouches .cur constTime static s then [-1] else []) ∧
      Gen.C10.cacheLabels = ["", "cache"] ∧
      Gen.C10.cacheInit = ["stmt:varatomicFormat,staticFormatatomic.Value", "do:atomicFormat.Store(\"\")",
        "do:staticFormat.Store(\"\")", "stmt:emptyTime,constTime:=EvalStaticStage(dateStage)"] :=
  ⟨cacheStepOf_expected lib emptyTime constTime static s st, rfl, rfl⟩

/-- **`subContext` in the model is `subContext` in /repo.**  `GetMatch` of the pooled object (`SubObj.ctx`) and the
    re-interpretation of look-ups by `Comp.withSub` resolve an index as the method's if-chain in /repo does
    (`idx < 0` to the parent, `idx < len(vals)` an element with `vals [2]string`, "" otherwise); `GetKey` goes to the parent. -/
theorem sub_context_from_source (o : SubObj) (i : Int) (v0 v1 : Bytes) {α : Type} (k : Bytes → Comp α) :
    o.ctx.getMatch i = o.resolve (Gen.C10.subContextGetMatch Gen.C10.subContextVals i) ∧
    Gen.C10.subContextGetKey = .parent ∧
    (Comp.getMatch i k).withSub v0 v1 =
      (match Gen.C10.subContextGetMatch Gen.C10.subContextVals i with
       | .parent j => .getMatch j fun b => (k b).withSub v0 v1
       | r => (k (SubObj.resolve ⟨emptyCtx, v0, v1⟩ r)).withSub v0 v1) := by
  refine ⟨?_, rfl, ?_⟩
  · simp only [SubObj.ctx, Gen.C10.subContextGetMatch, Gen.C10.subContextVals]
    by_cases h0 : i < 0
    · simp [h0, SubObj.resolve]
    · by_cases h1 : i = 0
      · subst h1; simp [SubObj.resolve]
      · by_cases h2 : i = 1
        · subst h2; simp [SubObj.resolve]
        · have : ¬ i < 2 := by omega
          simp [h0, h1, h2, this, SubObj.resolve]
  · simp only [Comp.withSub, Gen.C10.subContextGetMatch, Gen.C10.subContextVals]
    by_cases h0 : i < 0
    · simp [h0]
    · by_cases h1 : i = 0
      · subst h1; simp [SubObj.resolve]
      · by_cases h2 : i = 1
        · subst h2; simp [SubObj.resolve]
        · have : ¬ i < 2 := by omega
          simp [h0, h1, h2, this, SubObj.resolve]

/-- **`lazySubContext` in the model is `lazySubContext` in /repo.**  `withArgs` (the tree transformer) and `argCtx`
    (the context of `call_eq_body`) resolve `{i}` as `(*lazySubContext).GetMatch` in /repo does: negative to the caller,
    `idx >= len(args)` empty, else the argument stage evaluated in the caller's context; `GetKey` goes to the caller. -/
theorem lazy_context_from_source (args : List Stage) (i : Int) {α : Type} (k : Bytes → Comp α) (ctx : Ctx)
    (vals : List Bytes) :
    withArgs args (.getMatch i k) =
      (match Gen.C10.lazySubContextGetMatch args.length i with
       | .parent j => .getMatch j fun b => withArgs args (k b)
       | .arg n => (args.getD n (.ret [])).bind fun v => withArgs args (k v)
       | _ => withArgs args (k [])) ∧
    (argCtx ctx args.length vals).getMatch i =
      (match Gen.C10.lazySubContextGetMatch args.length i with
       | .parent j => ctx.getMatch j
       | .arg n => vals.getD n []
       | _ => []) ∧
    Gen.C10.lazySubContextGetKey = .parent := by
  refine ⟨?_, ?_, rfl⟩
  · simp only [withArgs, Gen.C10.lazySubContextGetMatch]
    by_cases h0 : i < 0
    · simp [h0]
    · by_cases h1 : i ≥ (args.length : Int)
      · simp [h0, h1]
      · simp [h0, h1]
  · simp only [argCtx, Gen.C10.lazySubContextGetMatch]
    by_cases h0 : i < 0
    · simp [h0]
    · by_cases h1 : i ≥ (args.length : Int)
      · simp [h0, h1]
      · simp [h0, h1]

/-- **The touch of `{time live}` / `{time delta}` reaches the root through every wrapper.**  The closures of `live`
    and `delta` in /repo begin with `context.GetMatch(i)` for one index `i` (that of `now` does not touch), and both
    wrapping contexts of /repo, whatever their size, pass that index on to their parent – so the monitor counts it
    (`varying_not_frozen`) also inside binders and funcs-file functions (seeded change `C10-time-touch-zero`). -/
theorem varying_touch_reaches_root :
    ∃ i : Int, Gen.C10.liveTouch = some i ∧ Gen.C10.deltaTouch = some i ∧ Gen.C10.nowTouch = none ∧
      ∀ n : Nat, Gen.C10.subContextGetMatch n i = .parent i ∧ Gen.C10.lazySubContextGetMatch n i = .parent i :=
  ⟨-1, rfl, rfl, rfl, fun n => ⟨by simp [Gen.C10.subContextGetMatch], by simp [Gen.C10.lazySubContextGetMatch]⟩⟩

/-- **`InStaticAnalysis` is the root's answer through any chain of sub-contexts.**  The list of ALL context types of
    /repo: three wrap another context – `subContext` and `lazySubContext` forward the question,
    `trackingExpressionContext` (`rare expression --stats`, wraps the command's own context on real data) does not
    answer; of the six roots only `monitorContext` answers true.  Hence for every chain of `subContext` /
    `lazySubContext` objects of any length over any root, `expressions.InStaticAnalysis` is true iff the root is the
    monitor – the assumption of `time_cache_subcontext_probe_invisible` (`static` handed down unchanged). -/
theorem static_analysis_forwarded :
    (Gen.C10.contextTypes.filter (·.wraps)).map (fun c => (c.name, c.static))
      = [("trackingExpressionContext", .absent), ("lazySubContext", .forward), ("subContext", .forward)] ∧
    (Gen.C10.contextTypes.filter (fun c => !c.wraps)).map (fun c => (c.name, c.static))
      = [("accumulatorGroupSortContext", .absent), ("exprAccumulatorContext", .absent), ("KeyBuilderContextArray", .absent),
         ("monitorContext", .const true), ("SliceSpaceExpressionContext", .absent), ("formatExpressionContext", .absent)] ∧
    ∀ (ws : List CtxImpl) (root : CtxImpl),
      (∀ w ∈ ws, w ∈ Gen.C10.contextTypes ∧ (w.name = "subContext" ∨ w.name = "lazySubContext")) →
      root ∈ Gen.C10.contextTypes → root.wraps = false →
      inStaticChain Gen.C10.inStaticDefault (ws.map (·.static) ++ [root.static]) = decide (root.name = "monitorContext") := by
  refine ⟨rfl, rfl, ?_⟩
  intro ws root hws hroot hw
  have hf : ∀ w ∈ Gen.C10.contextTypes, (w.name = "subContext" ∨ w.name = "lazySubContext") → w.static = .forward := by
    decide +kernel
  rw [inStaticChain_forwards]
  · have : ∀ r ∈ Gen.C10.contextTypes, r.wraps = false →
        inStaticChain Gen.C10.inStaticDefault [r.static] = decide (r.name = "monitorContext") := by decide +kernel
    exact this root hroot hw
  · intro a ha
    obtain ⟨w, hw1, rfl⟩ := List.mem_map.mp ha
    exact hf w (hws w hw1).1 (hws w hw1).2

/-- **Every `Pool.Get()` of the expression packages is followed by a reset of everything an earlier user left.**
    The six sites of /repo; at each, `defer pool.Return(obj)` follows and every field of the object type is overwritten
    (`*obj = T{…}`) or the same in every object of the pool (`args`, given by `newer`); and the stale-independence
    theorems instantiated with what the source says (`resetsAll` read off the site): removing a reset line in /repo
    makes `resetsAll` false and this proof fail (cf. `pool_no_reset_counterexample`). -/
theorem pool_sites_from_source :
    Gen.C10.poolSites.map (fun s => (s.fn, s.pool, s.objType))
      = [("keyBuilderToFunction", "ctxPool", "lazySubContext"), ("kfMath", "ctxPool", "keyBuilderContextWrapper"),
         ("kfArrayMap", "subContextPool", "subContext"), ("kfArrayReduce", "subContextPool", "subContext"),
         ("kfArrayFor", "subContextPool", "subContext"), ("kfArrayFilter", "subContextPool", "subContext")] ∧
    (∀ s ∈ Gen.C10.poolSites, s.resetsAll = true) ∧
    (∀ s ∈ Gen.C10.poolSites, s.objType = "subContext" → ∀ (pool : Pool) (ctx : Ctx) (inner : Stage) (a b : Bytes),
      (evalSubPooled s.resetsAll pool ctx inner a b).1 = (inner.withSub a b).run ctx) ∧
    (∀ s ∈ Gen.C10.poolSites, s.objType = "lazySubContext" → ∀ (stale : LazyObj) (args : List Stage) (body : Stage) (ctx : Ctx),
      (evalArgsPooledR s.resetsAll stale args body ctx).1 = (withArgs args body).run ctx) := by
  have hall : ∀ s ∈ Gen.C10.poolSites, s.resetsAll = true := by decide +kernel
  refine ⟨rfl, hall, ?_, ?_⟩
  · intro s hs _ pool ctx inner a b
    rw [hall s hs]
    exact (pool_stale_independent pool ctx inner a b).1
  · intro s hs _ stale args body ctx
    rw [hall s hs]
    rfl

/-- Control skeletons (every statement with its conditions, in source order) of the functions the model mirrors by
    hand: `EvalStaticStage`, `InStaticAnalysis`, `(*subContext).Eval`, `optimize` (`optimizeGo`), `BuildKey` / `joinStages`
    (`buildKey`), `keyBuilderToFunction` (`userFunction`, `evalArgsPooledR`). -/
theorem control_skeletons_are_source :
    Gen.C10.evalStaticStageCtl = ["stmt:varmonitormonitorContext", "stmt:ret=stage(&monitor)", "stmt:ok=(monitor.keyLookups==0)", "return:"] ∧
    Gen.C10.inStaticAnalysisCtl = ["if:aware,ok:=context.(StaticAnalysisAware);ok{", "return:aware.InStaticAnalysis()", "}", "return:false"] ∧
    Gen.C10.subContextEvalCtl = ["stmt:s.vals[0]=v0", "stmt:s.vals[1]=v1", "return:stage(s)"] ∧
    Gen.C10.optimizeCtl = ["stmt:ret:=&CompiledKeyBuilder{stages:make([]KeyBuilderStage,0,len(s.stages)),}", "stmt:varsbstrings.Builder", "range:s.stages{", "if:constVal,ok:=EvalStaticStage(stage);ok{", "do:sb.WriteString(constVal)", "}else{", "if:sb.Len()>0{", "stmt:ret.stages=append(ret.stages,stageLiteral(sb.String()))", "do:sb.Reset()", "}", "stmt:ret.stages=append(ret.stages,stage)", "}", "}", "if:sb.Len()>0{", "stmt:ret.stages=append(ret.stages,stageLiteral(sb.String()))", "}", "return:ret"] ∧
    Gen.C10.buildKeyCtl = ["if:len(s.stages)==0{", "return:\"\"", "}", "if:len(s.stages)==1{", "return:s.stages[0](context)", "}", "stmt:varsbstrings.Builder", "range:s.stages{", "do:sb.WriteString(stage(context))", "}", "return:sb.String()"] ∧
    Gen.C10.joinStagesCtl = ["if:len(s.stages)==0{", "return:stageLiteral(\"\")", "}", "if:len(s.stages)==1{", "return:s.stages[0]", "}", "return:KeyBuilderStage(func(contextKeyBuilderContext)string{varsbstrings.Builderfor_,stage:=ranges.stages{sb.WriteString(stage(context))}returnsb.String()})"] ∧
    Gen.C10.keyBuilderToFunctionCtl = ["return:func(args[]expressions.KeyBuilderStage)(expressions.KeyBuilderStage,error){ctxPool:=slicepool.NewObjectPoolEx(5,func()*lazySubContext{return&lazySubContext{args:args,}})returnfunc(kbcexpressions.KeyBuilderContext)string{subCtx:=ctxPool.Get()deferctxPool.Return(subCtx)subCtx.sub=kbcreturnstage.BuildKey(subCtx)},nil}"] := by
  exact ⟨rfl, rfl, rfl, rfl, rfl, rfl, rfl⟩

/-! ## Several workers on one compiled expression (`Model/C10Conc.lean`) -/

/-- **The call-site pool under EVERY schedule.**  Any number of workers evaluate one compiled call `{name args…}` of a
    funcs-file function, each with its own context `ctxs w`; every atomic action (`ctxPool.Get()`, `subCtx.sub = kbc`,
    ONE look-up of the body through the pooled object reading `sub` at that moment, the deferred `Return`) of one
    worker may be followed by any actions of the others (`sched` is an arbitrary list of worker numbers); the pool
    starts with any distinct objects carrying arbitrary stale `sub` fields.  Then at every moment: no object is
    checked out by two workers, no checked-out object lies in the free list, the free list has no duplicates, the
    object a worker evaluates against carries THAT worker's context – and every worker that has returned has
    returned what the stateless model answers in its own context (`withArgs args body`, which `call_nested_eq_body`
    equates with the body written inline). -/
theorem userfn_pool_all_schedules (args : List Stage) (body : Stage) (ctxs : Nat → Ctx) (st : Conc.St) (hs : Conc.Start st)
    (sched : List Nat) :
    let st' := Conc.exec true args body ctxs sched st
    (∀ w w' o, (st'.pcs w).holds = some o → (st'.pcs w').holds = some o → w = w') ∧
    (∀ w o, (st'.pcs w).holds = some o → o ∉ st'.free) ∧
    st'.free.Nodup ∧
    (∀ w o c, st'.pcs w = .run o c → st'.sub o = ctxs w) ∧
    (∀ w r, st'.pcs w = .done r → r = (withArgs args body).run (ctxs w)) := by
  have h := Conc.exec_inv (args := args) (body := body) (ctxs := ctxs) sched (Conc.start_inv hs)
  exact ⟨h.excl, fun w o e => (h.held w o e).2, h.nodup, fun w o c e => (h.run w o c e).1, h.done⟩

/-- **Nobody is starved or blocked.**  The pool never blocks (`Get` makes a new object when none is free), so a
    worker needs exactly the actions of its own sequential run – `Get`, the store, one per look-up of the body, the
    answer, `Return` – however the others are interleaved: in every schedule that gives worker `w` that many turns,
    `w` has returned, with the stateless model's answer. -/
theorem userfn_pool_every_worker_returns (args : List Stage) (body : Stage) (ctxs : Nat → Ctx) (st : Conc.St)
    (hs : Conc.Start st) (sched : List Nat) (w : Nat) (hw : Conc.stepsLeft args (ctxs w) body + 3 ≤ sched.count w) :
    (Conc.exec true args body ctxs sched st).pcs w = .done ((withArgs args body).run (ctxs w)) :=
  Conc.exec_returns hs sched w hw

/-- A worker that has not returned can always act, and its action moves it on (with or without the store of `sub`). -/
theorem userfn_pool_never_blocks (install : Bool) (args : List Stage) (body : Stage) (ctxs : Nat → Ctx) (w : Nat) (st : Conc.St)
    (h : ∀ r, st.pcs w ≠ .done r) : (Conc.step install args body ctxs w st).pcs w ≠ st.pcs w :=
  Conc.step_progress install args body ctxs w st h

/-- The hypotheses are satisfiable and the machine does what the code does: two workers, the pool holding ONE object with
    a stale context; worker 0 takes it, worker 1 finds the pool empty and gets a new object (number 1), both look `{0}`
    up in turn, both return; each has its own line, and both objects are back in the pool (in the order of the
    `Return`s).  Without the store `subCtx.sub = kbc` worker 0 answers from the stale context. -/
example :
    let ctxs : Nat → Ctx := fun w => if w = 0 then toyCtx [1] else toyCtx [2]
    let st0 : Conc.St := ⟨[0], 1, fun _ => toyCtx [9], fun _ => .idle⟩
    Conc.Start st0 ∧
    (match (Conc.exec true [Comp.match_ 0] (Comp.match_ 0) ctxs [0, 1, 0, 1, 1, 0, 1, 0, 1, 0] st0).pcs 0 with
      | .done r => r = .ok [1] | _ => False) ∧
    (match (Conc.exec true [Comp.match_ 0] (Comp.match_ 0) ctxs [0, 1, 0, 1, 1, 0, 1, 0, 1, 0] st0).pcs 1 with
      | .done r => r = .ok [2] | _ => False) ∧
    (Conc.exec true [Comp.match_ 0] (Comp.match_ 0) ctxs [0, 1, 0, 1, 1, 0, 1, 0, 1, 0] st0).free = [1, 0] ∧
    (match (Conc.exec false [Comp.match_ 0] (Comp.match_ 0) ctxs [0, 1, 0, 1, 1, 0, 1, 0, 1, 0] st0).pcs 0 with
      | .done r => r = .ok [9] | _ => False) :=
  ⟨⟨fun _ => rfl, by simp, by simp⟩, rfl, rfl, rfl, rfl⟩

/-- **One pool shared by workers that evaluate DIFFERENT stages** (`Model/C10ConcG.lean`): worker `w` overwrites the object it
    checked out with its own context `ctxs w` and its own values / argument stages `argsOf w`, and evaluates its own body
    `bodyOf w` – the situation of the process-wide `subContextPool`, which all binder stages of all compiled expressions
    (and all workers) share.  Under every schedule, from every pool content: exclusive ownership, nothing checked out in the
    free list, every returned answer the stateless one, and a worker that gets the turns of its own sequential run has
    returned.  (`userfn_pool_all_schedules` is the instance with constant `argsOf`, `bodyOf`.) -/
theorem shared_pool_all_schedules (argsOf : Nat → List Stage) (bodyOf : Nat → Stage) (ctxs : Nat → Ctx) (st : ConcG.St)
    (hs : ConcG.Start st) (sched : List Nat) :
    let st' := ConcG.exec true argsOf bodyOf ctxs sched st
    (∀ w w' o, (st'.pcs w).holds = some o → (st'.pcs w').holds = some o → w = w') ∧
    (∀ w o, (st'.pcs w).holds = some o → o ∉ st'.free) ∧
    st'.free.Nodup ∧
    (∀ w r, st'.pcs w = .done r → r = (withArgs (argsOf w) (bodyOf w)).run (ctxs w)) ∧
    (∀ w, Conc.stepsLeft (argsOf w) (ctxs w) (bodyOf w) + 3 ≤ sched.count w →
      st'.pcs w = .done ((withArgs (argsOf w) (bodyOf w)).run (ctxs w))) := by
  have hi := ConcG.start_inv (argsOf := argsOf) (bodyOf := bodyOf) (ctxs := ctxs) hs
  have h := ConcG.exec_inv sched hi
  exact ⟨h.excl, fun w o e => (h.held w o e).2, h.nodup, h.done, ConcG.exec_returns hs sched⟩

/-- **The binders' global pool under every schedule.**  Worker `w` evaluates the inner stage `inner w` of ITS binder on the
    element values `a w`, `b w` in its context (`sub.Eval(stage, a, b)` on a pooled `subContext{parent, vals}`); all of them
    take their objects from one pool.  Whatever the schedule and the stale contents, a worker returns `Comp.withSub` – the
    stateless sub-evaluation `pool_stale_independent` speaks about sequentially (and which `optimize_sound` / the inlining
    theorems are stated for). -/
theorem binder_pool_all_schedules (inner : Nat → Stage) (a b : Nat → Bytes) (ctxs : Nat → Ctx) (st : ConcG.St)
    (hs : ConcG.Start st) (sched : List Nat) (w : Nat) (r : Except String Bytes)
    (h : (ConcG.exec true (fun w => [.ret (a w), .ret (b w)]) inner ctxs sched st).pcs w = .done r) :
    r = ((inner w).withSub (a w) (b w)).run (ctxs w) := by
  rw [ConcG.withSub_eq_withArgs]
  exact (shared_pool_all_schedules (fun w => [.ret (a w), .ret (b w)]) inner ctxs st hs sched).2.2.2.1 w r h

/-- The two atomic actions of the machine are atomic in the code: `ObjectPool.Get` and `Return` run under the pool's
    mutex from their first statement to their return; `Get` pops the LAST free object or calls `newer()`, `Return`
    appends (`Conc.step`: `getLast?`/`dropLast`, `next`, `free ++ [o]`); and the closure's statements come in the
    machine's order – `Get`, `defer Return`, `subCtx.sub = kbc`, the body. -/
theorem pool_actions_are_source :
    Gen.C10.objectPoolGetCtl = ["do:s.m.Lock()", "defer:s.m.Unlock()", "if:len(s.pool)==0{", "return:s.newer()", "}",
      "stmt:end:=len(s.pool)-1", "stmt:ret=s.pool[end]", "stmt:s.pool=s.pool[:end]", "return:"] ∧
    Gen.C10.objectPoolReturnCtl = ["do:s.m.Lock()", "defer:s.m.Unlock()", "stmt:s.pool=append(s.pool,obj)"] ∧
    Gen.C10.keyBuilderToFunctionCtl = ["return:func(args[]expressions.KeyBuilderStage)(expressions.KeyBuilderStage,error){ctxPool:=slicepool.NewObjectPoolEx(5,func()*lazySubContext{return&lazySubContext{args:args,}})returnfunc(kbcexpressions.KeyBuilderContext)string{subCtx:=ctxPool.Get()deferctxPool.Return(subCtx)subCtx.sub=kbcreturnstage.BuildKey(subCtx)},nil}"] :=
  ⟨rfl, rfl, rfl⟩

/-- **The layout cell under every schedule.**  Any number of workers evaluate one `{time {0}}`-like stage (layout
    remembered in `atomicFormat`), worker `w` on the date `dates w`; `Load` and `Store` are separate atomic actions and
    the workers interleave arbitrarily.  Whatever the schedule, an answer is never torn or foreign: it is
    `<PARSE-ERROR>` for an empty or undetectable date, and otherwise the date parsed by the layout of SOME worker's
    non-empty date (its own, or one another worker stored first). -/
theorem time_cache_workers_any_schedule {L : Type} (lib : TimeLib L) (dates : Nat → Bytes) (sched : List Nat) (w : Nat) (v : Bytes)
    (h : (Conc.texec lib dates sched Conc.TSt.fresh).pcs w = .done v) : Conc.Good lib dates w v :=
  (Conc.texec_inv sched (Conc.tfresh_inv lib dates)).done w v h

/-- **One log format: every schedule is sequential.**  If all non-empty dates have the same layout (the situation the
    cache is made for) then under every schedule every worker answers exactly what a sequential evaluation answers –
    whether it comes first (empty cell) or after others (the cell holds that layout). -/
theorem time_cache_workers_same_layout {L : Type} (lib : TimeLib L) (dates : Nat → Bytes) (l0 : L)
    (hl : ∀ w, dates w ≠ [] → lib.detect (dates w) = some l0) (sched : List Nat) (w : Nat) (v : Bytes)
    (h : (Conc.texec lib dates sched Conc.TSt.fresh).pcs w = .done v) :
    v = (timeStep .cur lib [] false (dates w) TimeSt.fresh).1 ∧
    v = (timeStep .cur lib [] false (dates w) ⟨some l0, none⟩).1 := by
  have hg := time_cache_workers_any_schedule lib dates sched w v h
  by_cases he : dates w = []
  · rcases hg with ⟨_, hv⟩ | ⟨_, hv⟩ | ⟨hne, _⟩
    · simp [timeStep, he, hv]
    · simp [timeStep, he, hv]
    · exact absurd he hne
  · have hdw := hl w he
    rcases hg with ⟨h1, _⟩ | ⟨h1, _⟩ | ⟨_, w', l, hn, hd, hv⟩
    · exact absurd h1 he
    · rw [hdw] at h1; cases h1
    · have : l = l0 := by have := hl w' hn; rw [hd] at this; exact Option.some.inj this
      subst this
      simp [timeStep, he, hv, hdw, TimeSt.fresh]

/-- **… and with two formats it is not, by design** (the code's comment: "may end up run by a few different
    threads").  Toy library (the layout of a date is its length), worker 0 on `7`, worker 1 on `99`: when both `Load`
    the empty cell before either `Store`s, each parses its date by its own layout – both succeed; evaluated one after
    the other, in either order, the second is `<PARSE-ERROR>` (the first one's layout is remembered).  So the answers
    of this schedule are those of NO sequential order: the concurrency clause of C10 cannot hold for an expression that
    remembers a layout when the input mixes formats – it holds for every schedule when it does not
    (`time_cache_workers_same_layout`), and for every stage without memory (`userfn_pool_all_schedules`). -/
theorem time_cache_two_workers_counterexample :
    let dates : Nat → Bytes := fun w => if w = 0 then [55] else [57, 57]
    let both := Conc.texec toyLib dates [0, 1, 0, 1, 0, 1] Conc.TSt.fresh
    let seq01 := Conc.texec toyLib dates [0, 0, 0, 1, 1, 1] Conc.TSt.fresh
    let seq10 := Conc.texec toyLib dates [1, 1, 1, 0, 0, 0] Conc.TSt.fresh
    ((both.pcs 0).answer, (both.pcs 1).answer) = (some [55], some [57, 57]) ∧
    ((seq01.pcs 0).answer, (seq01.pcs 1).answer) = (some [55], some ErrorParsing) ∧
    ((seq10.pcs 0).answer, (seq10.pcs 1).answer) = (some ErrorParsing, some [57, 57]) ∧
    Conc.seqAnswers toyLib [55] [57, 57] = ([55], ErrorParsing) ∧
    Conc.seqAnswers toyLib [57, 57] [55] = ([57, 57], ErrorParsing) := by
  decide +kernel

/-- The machine's sequential schedules are the sequential model: worker `a` to the end, then worker `b`, answers what
    `timeStep .cur` (the closure read from /repo, `time_step_matches_source`) answers on the two dates in that order. -/
theorem time_cache_sequential_schedule {L : Type} (lib : TimeLib L) (dates : Nat → Bytes) (a b : Nat) (hab : a ≠ b) :
    let st := Conc.texec lib dates [a, a, a, b, b, b] Conc.TSt.fresh
    (st.pcs a).answer = some (Conc.seqAnswers lib (dates a) (dates b)).1 ∧
    (st.pcs b).answer = some (Conc.seqAnswers lib (dates a) (dates b)).2 := by
  intro st
  have ha := Conc.texec_alone lib dates a Conc.TSt.fresh none rfl
  have hb := Conc.texec_alone lib dates b (Conc.texec lib dates [a, a, a] Conc.TSt.fresh)
    (timeStep .cur lib [] false (dates a) TimeSt.fresh).2.static (by rw [ha.2.2 b (Ne.symm hab)]; rfl)
  show ((Conc.texec lib dates [b, b, b] (Conc.texec lib dates [a, a, a] Conc.TSt.fresh)).pcs a).answer = _ ∧
    ((Conc.texec lib dates [b, b, b] (Conc.texec lib dates [a, a, a] Conc.TSt.fresh)).pcs b).answer = _
  rw [hb.2.2 a hab, ha.2.1, hb.2.1, ha.1]
  exact ⟨rfl, rfl⟩

/-- **The funcs files are loaded after every global output switch is in force** (main.go, `app.Before`): `--nocolor` /
    `--color`, `--noformat`, `--notrim`, `--nounicode`, `--noload` are applied first, then the `--funcs` /
    `RARE_FUNC_FILES` definitions are compiled (with the optimiser folding their constant sub-expressions) – so a
    constant `{hi 1234567}`, `{color red x}`, `{load f}` inside a funcs-file body is folded under the same switches as the
    same text written inline, which the command compiles later (seeded change `C10-funcs-before-switches`). -/
theorem before_hook_switches_then_funcs :
    Gen.C10.beforeHookCtl = ["if:c.Bool(\"nocolor\"){", "stmt:color.Enabled=false", "}else{", "if:c.Bool(\"color\"){", "stmt:color.Enabled=true", "}", "}", "if:c.Bool(\"noformat\"){", "stmt:humanize.Enabled=false", "}", "if:c.Bool(\"notrim\"){", "stmt:multiterm.AutoTrim=false", "}", "if:c.Bool(\"nounicode\"){", "stmt:termunicode.UnicodeEnabled=false", "}", "if:c.Bool(\"noload\"){", "stmt:stdlib.DisableLoad=true", "}", "if:funcs:=c.StringSlice(\"funcs\");len(funcs)>0{", "stmt:cmplr:=funclib.NewKeyBuilder()", "range:funcs{", "do:funclib.TryAddFunctions(funcfile.LoadDefinitionsFile(cmplr,ff))", "}", "}", "return:nil"] := rfl

end Rare.C10

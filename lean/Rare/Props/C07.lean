import Rare.Proofs.C07SubKey
import Rare.Proofs.C07MinMax
import Rare.Proofs.C07Num
import Rare.Proofs.C07TrimLink
import Rare.Proofs.C07Acc
import Rare.Proofs.C07Mode
import Rare.Proofs.C07Sorted
import Rare.Spec.C07Mode
import Rare.Proofs.C07NumF64Arith
import Rare.Proofs.C07AccOpt
import Rare.Proofs.C07GroupKey
import Rare.Proofs.C07NumF64Err
import Rare.Proofs.C07NumF64Acc
import Rare.Proofs.C07NumF64Var
import Rare.Proofs.C07ModeNaN
import Rare.Model.C07NumErr
import Rare.Proofs.C07Sqrt
import Rare.Proofs.C07NumHist
import Rare.Proofs.C07NumExact
import Rare.Gen.C07
/-!
C07 – Aggregators compute the exact fold of their sample history.

Spec: `Rare/Spec/C07.lean` (folds over the parsed history).  Model: `Rare/Model/C07.lean`
(mirror of counter.go, countersubkey.go, table.go, numerical.go, splitter.go after the `fix:` commits)
and `Rare/Model/C07Acc.lean` (accumulator.go; spec `Rare/Spec/C07Acc.lean`).
Every theorem quantifies over ALL histories (`List Bytes` of raw sample strings); int64 results are
`wrap64` of the exact sum, i.e. the exact sum whenever it is representable (`total_exact`).
Floating point: `welford_exact` … `mode_spec` are about the model instantiated with `Rat`; the `num_f64_*`
theorems are about the SAME polymorphic definitions instantiated with the kernel-checkable software binary64
`Rare.F64` (`Model/C07NumF64.lean`), which the correspondence compares bit for bit with the Go code
(`agg numf` / `agg numfv`; Lean's opaque `Float` occurs only in drivers, as a second opinion).
-/
namespace Rare.C07
open Rare.Expr (Comp Stage Ctx)

/-! ## the splitter (F9 fixed: advance by `len(Delim)`) -/

/-- The three reads every `Sample` performs return the first three fields of `strings.Split(e, d)`
and report correctly whether a 2nd / 3rd field exists – for every non-empty delimiter, including
multi-byte ones. -/
theorem splitter_fields_spec (d e : Bytes) (hd : d ≠ []) :
    let s0 : Splitter := { S := e, delim := d }
    let r0 := s0.next'
    let r1 := r0.2.nextOk
    let r2 := r1.2.2.nextOk
    let fs := splitOn d e
    r0.1 = fs.headD [] ∧
    r1.1 = fs.tail.headD [] ∧ r1.2.1 = !fs.tail.isEmpty ∧
    r2.1 = fs.tail.tail.headD [] ∧ r2.2.1 = !fs.tail.tail.isEmpty :=
  splitter_fields d e hd

/-- General form: a splitter positioned in front of the remaining fields `fs` yields `fs` one by one,
then "" forever, and `Done()` is true exactly when nothing is left. -/
theorem splitter_next_spec (s : Splitter) (fs : List Bytes) (hd : s.delim ≠ []) (h : Tracks s fs) :
    s.next'.1 = fs.headD [] ∧ Tracks s.next'.2 fs.tail ∧ s.done = fs.isEmpty :=
  ⟨(tracks_next s fs hd h).1, (tracks_next s fs hd h).2.1, tracks_done s fs h⟩

/-! ## int64 sums -/

/-- `total` is the exact sum whenever that sum is an int64. -/
theorem total_exact (sel : Parsed → Bool) (hp : List Parsed) (h : inInt64 (sumBy (incIf sel) hp) = true) :
    total sel hp = sumBy (incIf sel) hp := wrap64_of_inRange _ h

/-! ## histogram counter -/

/-- After any history: per-key counts (present exactly for the keys sampled with a valid increment),
the running total and the parse-error count are the folds of the history. -/
theorem counter_fold (h : List Bytes) :
    let c := Counter.run h
    let hp := h.map parseCounter
    (∀ k, aget c.items k = if present (selKey k) hp then some (total (selKey k) hp) else none) ∧
    c.total = total selAll hp ∧ c.errors = errorCount hp :=
  let inv := counterInv_run h
  ⟨inv.items, inv.total, inv.errors⟩

/-- Order independence: permuting the history changes nothing observable. -/
theorem counter_perm (h1 h2 : List Bytes) (hperm : h1.Perm h2) :
    (∀ k, aget (Counter.run h1).items k = aget (Counter.run h2).items k) ∧
    (Counter.run h1).total = (Counter.run h2).total ∧ (Counter.run h1).errors = (Counter.run h2).errors := by
  have i1 := counterInv_run h1
  have i2 := counterInv_run h2
  have hp := hperm.map parseCounter
  refine ⟨fun k => ?_, ?_, ?_⟩
  · rw [i1.items, i2.items, present_perm _ hp, total_perm _ hp]
  · rw [i1.total, i2.total, total_perm _ hp]
  · rw [i1.errors, i2.errors, errorCount_perm hp]

/-! ## sub-key counter -/

/-- After any history `Sample` never panics (no index out of range), the sub-key list is the sorted
duplicate-free list of the sub-keys seen, the index map is its inverse, every row vector is aligned with
it (`SubInv.items`), and counts / cells are the folds of the history. -/
theorem subkey_fold (h : List Bytes) :
    ∃ s, SubKeyCounter.run h = .ok s ∧
      let hp := h.map parseSubKey
      IsSortedSetOf s.subKeys (fun x => present (selSub x) hp = true) ∧
      (∀ x i, aget s.subKeyIdx x = some i ↔ s.subKeys[i]? = some x) ∧
      (∀ k, (aget s.items k).isSome = present (selKey k) hp) ∧
      (∀ k it, aget s.items k = some it →
        it.count = total (selKey k) hp ∧ it.submatches.length = s.subKeys.length ∧
        ∀ (j : Nat) (x : Bytes), s.subKeys[j]? = some x → it.submatches[j]? = some (total (selKeySub k x) hp)) ∧
      s.errors = errorCount hp := by
  obtain ⟨s, hs, inv⟩ := subInv_run h
  refine ⟨s, hs, ⟨inv.sorted, inv.mem⟩, inv.idx, inv.itemsPresent, ?_, inv.errors⟩
  intro k it hk
  obtain ⟨c1, c2⟩ := inv.items k it hk
  refine ⟨c1, by rw [c2]; simp, ?_⟩
  intro j x hj
  rw [c2, List.getElem?_map, hj]; rfl

/-- Two strictly sorted lists with the same members are equal. -/
theorem sortedSet_unique (l1 l2 : List Bytes) (mem : Bytes → Prop) (h1 : IsSortedSetOf l1 mem) (h2 : IsSortedSetOf l2 mem) :
    l1 = l2 := by
  have p : l1.Perm l2 := (List.perm_ext_iff_of_nodup (sorted_nodup h1.1) (sorted_nodup h2.1)).mpr
    (fun a => (h1.2 a).trans (h2.2 a).symm)
  refine List.Perm.eq_of_pairwise ?_ h1.1 h2.1 p
  intro a b _ _ hab hba
  have := bLt_trans hab hba
  rw [bLt_irrefl] at this; exact Bool.noConfusion this

/-- Order independence of the sub-key counter: same sub-key list, same rows, same vectors. -/
theorem subkey_perm (h1 h2 : List Bytes) (hperm : h1.Perm h2) :
    ∃ s1 s2, SubKeyCounter.run h1 = .ok s1 ∧ SubKeyCounter.run h2 = .ok s2 ∧
      s1.subKeys = s2.subKeys ∧ s1.errors = s2.errors ∧
      (∀ k, (aget s1.items k).isSome = (aget s2.items k).isSome) ∧
      (∀ k it1 it2, aget s1.items k = some it1 → aget s2.items k = some it2 →
        it1.count = it2.count ∧ it1.submatches = it2.submatches) := by
  obtain ⟨s1, r1, i1⟩ := subInv_run h1
  obtain ⟨s2, r2, i2⟩ := subInv_run h2
  have hp := hperm.map parseSubKey
  have hk : s1.subKeys = s2.subKeys :=
    sortedSet_unique _ _ (fun x => present (selSub x) (h1.map parseSubKey) = true) ⟨i1.sorted, i1.mem⟩
      ⟨i2.sorted, fun x => by
        show x ∈ s2.subKeys ↔ present (selSub x) (h1.map parseSubKey) = true
        rw [present_perm _ hp]; exact i2.mem x⟩
  refine ⟨s1, s2, r1, r2, hk, ?_, ?_, ?_⟩
  · rw [i1.errors, i2.errors, errorCount_perm hp]
  · intro k; rw [i1.itemsPresent, i2.itemsPresent, present_perm _ hp]
  · intro k it1 it2 g1 g2
    obtain ⟨a1, a2⟩ := i1.items k it1 g1
    obtain ⟨b1, b2⟩ := i2.items k it2 g2
    refine ⟨by rw [a1, b1, total_perm _ hp], ?_⟩
    rw [a2, b2, hk]
    apply List.map_congr_left
    intro x _
    exact total_perm _ hp

/-! ## table -/

/-- After any sample history (non-empty delimiter): column totals, row sums, cells and the grand total
are the sums of the corresponding increments; rows/columns/cells exist exactly when sampled. -/
theorem table_fold (d : Bytes) (hd : d ≠ []) (h : List Bytes) :
    let t := Table.run d h
    let hp := h.map (parseTable d)
    (∀ c, aget t.cols c = if present (selCol c) hp then some (total (selCol c) hp) else none) ∧
    (∀ r, (aget t.rows r).isSome = present (selRow r) hp) ∧
    (∀ r row, aget t.rows r = some row →
      row.name = r ∧ row.sum = total (selRow r) hp ∧
      (∀ c, aget row.cols c = if present (selCell c r) hp then some (total (selCell c r) hp) else none) ∧
      (∀ c, row.value c = total (selCell c r) hp)) ∧
    (∀ c, t.colTotal c = total (selCol c) hp) ∧
    t.sum = total selAll hp ∧ t.errors = errorCount hp := by
  intro t hp
  have inv := tableInv_run d hd h
  refine ⟨inv.cols, inv.rowsPresent, ?_, ?_, sum_spec _ _ inv, inv.errors⟩
  · intro r row hr
    have ok := inv.rows r row hr
    exact ⟨ok.name, ok.sum, ok.cells, row_value _ _ inv r row hr⟩
  · intro c
    show (aget t.cols c).getD 0 = _
    rw [inv.cols c]
    show (if present (selCol c) (h.map (parseTable d)) = true then some (total (selCol c) (h.map (parseTable d))) else none).getD 0 =
      total (selCol c) (h.map (parseTable d))
    cases hc : present (selCol c) (h.map (parseTable d)) with
    | true => simp
    | false => simp [total_of_not_present _ _ hc]

/-- `ComputeMinMax` returns the minimum and maximum over the full rows × columns grid (absent cells = 0),
whatever order Go's map iteration produces; (0, 0) for an empty table. -/
theorem table_minmax (d : Bytes) (hd : d ≠ []) (h : List Bytes) (rs : List TableRow) (cs : List Bytes)
    (hrs : rs.Perm ((Table.run d h).rows.map (·.2))) (hcs : cs.Perm (akeys (Table.run d h).cols)) :
    IsGridMin (h.map (parseTable d)) (Table.computeMinMaxWith rs cs).1 ∧
    IsGridMax (h.map (parseTable d)) (Table.computeMinMaxWith rs cs).2 :=
  minmax_spec _ _ (tableInv_run d hd h) rs cs hrs hcs

theorem gridMin_unique (hp : List Parsed) (m1 m2 : Int) (h1 : IsGridMin hp m1) (h2 : IsGridMin hp m2) : m1 = m2 := by
  unfold IsGridMin at h1 h2
  by_cases hpres : present selAll hp = true
  · simp only [hpres, if_true] at h1 h2
    obtain ⟨⟨c1, r1, a1, b1, e1⟩, l1⟩ := h1
    obtain ⟨⟨c2, r2, a2, b2, e2⟩, l2⟩ := h2
    have := l1 c2 r2 a2 b2
    have := l2 c1 r1 a1 b1
    omega
  · rw [if_neg hpres] at h1 h2
    omega

theorem gridMax_unique (hp : List Parsed) (m1 m2 : Int) (h1 : IsGridMax hp m1) (h2 : IsGridMax hp m2) : m1 = m2 := by
  unfold IsGridMax at h1 h2
  by_cases hpres : present selAll hp = true
  · simp only [hpres, if_true] at h1 h2
    obtain ⟨⟨c1, r1, a1, b1, e1⟩, l1⟩ := h1
    obtain ⟨⟨c2, r2, a2, b2, e2⟩, l2⟩ := h2
    have := l1 c2 r2 a2 b2
    have := l2 c1 r1 a1 b1
    omega
  · rw [if_neg hpres] at h1 h2
    omega

/-- Order independence of the table: every public observable agrees for permuted histories. -/
theorem table_perm (d : Bytes) (hd : d ≠ []) (h1 h2 : List Bytes) (hperm : h1.Perm h2) :
    let t1 := Table.run d h1
    let t2 := Table.run d h2
    (∀ c, aget t1.cols c = aget t2.cols c) ∧
    (∀ r, (aget t1.rows r).isSome = (aget t2.rows r).isSome) ∧
    (∀ r row1 row2, aget t1.rows r = some row1 → aget t2.rows r = some row2 →
      row1.name = row2.name ∧ row1.sum = row2.sum ∧ ∀ c, aget row1.cols c = aget row2.cols c) ∧
    t1.sum = t2.sum ∧ t1.errors = t2.errors ∧ t1.computeMinMax = t2.computeMinMax := by
  intro t1 t2
  have i1 := tableInv_run d hd h1
  have i2 := tableInv_run d hd h2
  have hp := hperm.map (parseTable d)
  have pp : ∀ sel, present sel (h1.map (parseTable d)) = present sel (h2.map (parseTable d)) := fun sel => present_perm sel hp
  have tp : ∀ sel, total sel (h1.map (parseTable d)) = total sel (h2.map (parseTable d)) := fun sel => total_perm sel hp
  refine ⟨?_, ?_, ?_, ?_, ?_, ?_⟩
  · intro c; rw [i1.cols, i2.cols, pp, tp]
  · intro r; rw [i1.rowsPresent, i2.rowsPresent, pp]
  · intro r row1 row2 g1 g2
    have o1 := i1.rows r row1 g1
    have o2 := i2.rows r row2 g2
    refine ⟨by rw [o1.name, o2.name], by rw [o1.sum, o2.sum, tp], fun c => ?_⟩
    rw [o1.cells, o2.cells, pp, tp]
  · rw [sum_spec _ _ i1, sum_spec _ _ i2, tp]
  · rw [i1.errors, i2.errors, errorCount_perm hp]
  · unfold Table.computeMinMax
    have m1 := minmax_spec t1 _ i1 _ _ (List.Perm.refl _) (List.Perm.refl _)
    have m2 := minmax_spec t2 _ i2 _ _ (List.Perm.refl _) (List.Perm.refl _)
    have e1 : IsGridMin (h2.map (parseTable d)) (Table.computeMinMaxWith (t1.rows.map (·.2)) (akeys t1.cols)).1 := by
      have := m1.1; unfold IsGridMin at this ⊢; simpa only [pp, tp] using this
    have e2 : IsGridMax (h2.map (parseTable d)) (Table.computeMinMaxWith (t1.rows.map (·.2)) (akeys t1.cols)).2 := by
      have := m1.2; unfold IsGridMax at this ⊢; simpa only [pp, tp] using this
    exact Prod.ext (gridMin_unique _ _ _ e1 m2.1) (gridMax_unique _ _ _ e2 m2.2)

/-! ## Table.Trim (after the fixes f6f463b, 907408d) -/

/-- For every well-formed table, every predicate and every pair of map iteration orders that cover the
maps: the remaining cells are exactly the unselected ones with unchanged values, a row / column survives
iff it still has a cell (rows and columns left empty are removed, nothing else is), the result is again
well-formed. -/
theorem trim_exact (t : Table) (p : Pred) (colOrder : List Bytes) (rowOrder : Bytes → List Bytes)
    (hwf : t.WF) (hcov : Covers t colOrder rowOrder) :
    let t' := (t.trim p colOrder rowOrder).1
    (∀ c r, t'.cell c r = trimmedCell p c r (t.cell c r)) ∧
    (∀ r, (aget t'.rows r).isSome ↔ ∃ c, (t'.cell c r).isSome) ∧
    (∀ c, (aget t'.cols c).isSome ↔ ∃ r, (t'.cell c r).isSome) ∧
    t'.WF :=
  ⟨trim_cells t p colOrder rowOrder hwf hcov, trim_rows t p colOrder rowOrder hwf hcov,
   trim_cols t p colOrder rowOrder hwf hcov, trim_wf t p colOrder rowOrder hwf hcov⟩

/-- The result of `Trim` does not depend on Go's map iteration order (cells, row set, column set, and –
for duplicate-free orders, as `range` produces – the returned count, which is the number of existing
selected cells). -/
theorem trim_deterministic (t : Table) (p : Pred) (co co' : List Bytes) (ro ro' : Bytes → List Bytes)
    (hwf : t.WF) (hcov : Covers t co ro) (hcov' : Covers t co' ro') :
    (∀ c r, (t.trim p co ro).1.cell c r = (t.trim p co' ro').1.cell c r) ∧
    (∀ r, (aget (t.trim p co ro).1.rows r).isSome = (aget (t.trim p co' ro').1.rows r).isSome) ∧
    (∀ c, (aget (t.trim p co ro).1.cols c).isSome = (aget (t.trim p co' ro').1.cols c).isSome) ∧
    (co.Nodup → (∀ c, (ro c).Nodup) → co'.Nodup → (∀ c, (ro' c).Nodup) →
      (t.trim p co ro).2 = (t.trim p co' ro').2 ∧
      (t.trim p co ro).2 = (co.map fun c => (ro c).countP fun r => selected p c r (t.cell c r)).sum) := by
  obtain ⟨a, b, c⟩ := trim_order_independent t p co ro co' ro' hwf hcov hcov'
  refine ⟨a, b, c, fun n1 n2 n3 n4 => ⟨?_, trim_count t p co ro hwf hcov n1 n2⟩⟩
  exact trim_count_order_independent t p co co' ro ro' hwf hcov hcov' n1 n2 n3 n4

/-- Every table reachable by interleaving samples and trims is well-formed, and any permutation of the
key sets is a covering order – so `trim_exact` applies to every `Trim` call of every history. -/
theorem trim_applies_to_every_history (d : Bytes) (t : Table) (h : Reach d t)
    (colOrder : List Bytes) (rowOrder : Bytes → List Bytes)
    (hc : colOrder.Perm (akeys t.cols)) (hr : ∀ c, (rowOrder c).Perm (akeys t.rows)) :
    t.WF ∧ Covers t colOrder rowOrder :=
  ⟨reach_wf h, covers_of_perm t colOrder rowOrder hc hr⟩

/-- F23 fixed: `Trim` keeps every row sum equal to the sum of the row's remaining cells, and every column
total equal to the sum of the column's remaining cells (`R` = any duplicate-free list naming the rows).
Tables built from samples satisfy the row-sum invariant (`SumsOK`). -/
theorem trim_totals (t : Table) (p : Pred) (colOrder : List Bytes) (rowOrder : Bytes → List Bytes) :
    (SumsOK t → SumsOK (t.trim p colOrder rowOrder).1) ∧
    (∀ R : List Bytes, R.Nodup → CellsIn R t → ColsOK R t → ColsOK R (t.trim p colOrder rowOrder).1) ∧
    (∀ d h, d ≠ [] → t = Table.run d h → SumsOK t) := by
  refine ⟨trim_sums t p colOrder rowOrder, fun R => trim_colTotals t p colOrder rowOrder R, ?_⟩
  intro d h hd ht
  subst ht
  exact sumsOK_of_inv _ _ (tableInv_run d hd h)

/-- Parse-error counts of all three count-style aggregators. -/
theorem errors_count (h : List Bytes) :
    (Counter.run h).errors = errorCount (h.map parseCounter) ∧
    (∀ s, SubKeyCounter.run h = .ok s → s.errors = errorCount (h.map parseSubKey)) ∧
    (∀ d, d ≠ [] → (Table.run d h).errors = errorCount (h.map (parseTable d))) := by
  refine ⟨(counterInv_run h).errors, ?_, fun d hd => (tableInv_run d hd h).errors⟩
  intro s hs
  obtain ⟨s', hs', inv⟩ := subInv_run h
  rw [hs] at hs'
  cases hs'
  exact inv.errors

/-! ## numerical aggregator (exact arithmetic) -/

/-- Welford's recurrence yields exactly the count, mean, M2 and sample variance of the sample list. -/
theorem welford_exact (keep : Bool) (l : List Rat) :
    (runQ keep l).samples = l.length ∧ (runQ keep l).mean = mean l ∧ (runQ keep l).variance = m2 l ∧
    (runQ keep l).varianceOf ratOps = sampleVariance l ∧ (keep = true → (runQ keep l).values = l) :=
  ⟨welford_samples keep l, welford_mean keep l, welford_m2 keep l, welford_variance keep l,
   fun hk => by subst hk; exact welford_values l⟩

/-- Min / Max are the least / greatest sample (samples within ±MaxFloat64, as every finite double is). -/
theorem numerical_minmax (keep : Bool) (l : List Rat) (hne : l ≠ [])
    (hb : ∀ x ∈ l, ratOps.negMaxVal ≤ x ∧ x ≤ ratOps.maxVal) :
    IsMin l (runQ keep l).min ∧ IsMax l (runQ keep l).max := welford_minmax keep l hne hb

/-- `Analyze` sorts; `Median` is the element of rank ⌊n/2⌋ and `Quantile p` the element of rank ⌊n·p⌋ of the
sorted samples for 0 ≤ p < 1.  The raw index ⌊n·p⌋ is inside the slice iff p < 1 (at p = 1 it is n: the old
out-of-range panic, F20); with the clamp `Quantile` is total and `Quantile 1` is the last element. -/
theorem order_stats (rev : Bool) (l : List Rat) (hne : l ≠ []) :
    IsSortedOf rev (analyze ratOps rev l) l ∧
    IsRank rev l (l.length / 2) (median 0 (analyze ratOps rev l)) ∧
    (∀ p : Rat, 0 ≤ p → p < 1 → ∃ x, quantileAt 0 (analyze ratOps rev l) (((l.length : Rat) * p).floor) = .ok x ∧
      IsRank rev l (((l.length : Rat) * p).floor.toNat) x) ∧
    (∀ p : Rat, 0 ≤ p →
      ((0 ≤ ((l.length : Rat) * p).floor ∧ ((l.length : Rat) * p).floor < (l.length : Int)) ↔ p < 1)) ∧
    (∀ idx : Int, ∃ x, quantileAt 0 (analyze ratOps rev l) idx = .ok x ∧ x ∈ l) ∧
    (∃ x, quantileAt 0 (analyze ratOps rev l) (l.length : Int) = .ok x ∧ IsRank rev l (l.length - 1) x) := by
  refine ⟨analyze_sorted rev l, median_rank rev l hne, fun p h0 h1 => quantile_rank rev l hne p h0 h1, ?_, ?_,
    quantile_one rev l hne⟩
  · intro p h0
    exact quantile_index_in_bounds_iff l.length (List.length_pos_iff.mpr hne) p h0
  · intro idx
    obtain ⟨x, hx, hm⟩ := quantile_total rev l idx
    exact ⟨x, hx, hm hne⟩

/-- `Mode()` exactly.  The returned value is a sample of maximal multiplicity (`IsMode`).  Ties are NOT left
to chance: `Mode` scans the ordered values for the longest run and keeps the first one, so among several
values of maximal multiplicity it returns the smallest (the largest when `Reverse` is set) – there is no map
iteration in `Mode`, and the result is the same for every arrival order of the samples. -/
theorem mode_spec (rev : Bool) (l : List Rat) (hne : l ≠ []) :
    let m := mode 0 (fun a b => decide (a = b)) (analyze ratOps rev l)
    IsMode l m ∧
    (∀ y, l.count y = l.count m → y ≠ m → if rev then y < m else m < y) ∧
    (∀ l' : List Rat, l'.Perm l → mode 0 (fun a b => decide (a = b)) (analyze ratOps rev l') = m) := by
  intro m
  obtain ⟨hperm, hsorted⟩ := analyze_sorted rev l
  have hne' : analyze ratOps rev l ≠ [] := by
    intro h; rw [h] at hperm; exact hne hperm.symm.eq_nil
  obtain ⟨hm, hb, ht⟩ := mode_scan (fun a b => if rev then b ≤ a else a ≤ b) (dirLe_antisymm rev) _ hne' hsorted
  have hc : ∀ y, (analyze ratOps rev l).count y = l.count y := fun y => hperm.count_eq y
  refine ⟨⟨hperm.mem_iff.mp hm, fun y => by rw [← hc y, ← hc m]; exact hb y⟩, ?_, ?_⟩
  · intro y hy hne2
    have := ht y (by rw [hc y, hc]; exact hy) hne2
    cases rev
    · simp only [Bool.false_eq_true, if_false] at this ⊢
      exact Rat.lt_of_le_of_ne this (fun e => hne2 e.symm)
    · simp only [if_true] at this ⊢
      exact Rat.lt_of_le_of_ne this hne2
  · intro l' hp
    obtain ⟨hperm', hsorted'⟩ := analyze_sorted rev l'
    rw [isSortedOf_unique rev _ _ l ⟨hperm'.trans hp, hsorted'⟩ ⟨hperm, hsorted⟩]

/-! ## non-vacuity: the hypotheses are satisfiable on concrete non-trivial values -/

/-- `a NUL 2`, `b`, `a`, `a NUL x` (bad increment). -/
def exHist : List Bytes := [[97, 0, 50], [98], [97], [97, 0, 120]]

example : (Counter.run exHist).total = 4 ∧ aget (Counter.run exHist).items [97] = some 3 ∧
    (Counter.run exHist).errors = 1 := by decide
example : exHist.Perm exHist.reverse := (List.reverse_perm exHist).symm
example : (Counter.run exHist.reverse).total = 4 := by decide
example : ([58, 58] : Bytes) ≠ [] := by decide
example : Tracks { S := [49, 58, 58, 50], delim := [58, 58] } (splitOn [58, 58] [49, 58, 58, 50]) := tracks_init _ _
example : (Table.run [58, 58] [[120, 58, 58, 97], [121, 58, 58, 97, 58, 58, 53]]).sum = 6 := by decide
example : ([(1 : Rat), 2, 4] : List Rat) ≠ [] := by decide
/-- two columns x, y; rows a, b; the trim selects column x: a non-trivial well-formed table with a covering order. -/
def exTable : Table := Table.run [0] [[120, 0, 97], [121, 0, 97], [120, 0, 98, 0, 53]]
example : Reach [0] exTable := by
  show Reach [0] ((({ delim := [0] } : Table).sample [120, 0, 97]).sample [121, 0, 97] |>.sample [120, 0, 98, 0, 53])
  exact Reach.sample _ _ (Reach.sample _ _ (Reach.sample _ _ Reach.init))
example : exTable.WF ∧ Covers exTable (akeys exTable.cols) (fun _ => akeys exTable.rows) :=
  ⟨wf_of_inv _ _ (tableInv_run [0] (by decide) _), covers_of_perm _ _ _ (List.Perm.refl _) (fun _ => List.Perm.refl _)⟩
example : (exTable.trim (fun c _ _ => c == [120]) (akeys exTable.cols) (fun _ => akeys exTable.rows)).2 = 2 ∧
    akeys (exTable.trim (fun c _ _ => c == [120]) (akeys exTable.cols) (fun _ => akeys exTable.rows)).1.rows = [[97]] ∧
    (exTable.trim (fun c _ _ => c == [120]) (akeys exTable.cols) (fun _ => akeys exTable.rows)).1.sum = 1 := by decide
example : SumsOK exTable := sumsOK_of_inv _ _ (tableInv_run [0] (by decide) _)
example : inInt64 (sumBy (incIf selAll) [⟨[97], [], some 5⟩, ⟨[98], [], none⟩]) = true := by decide

/-! ## accumulating group (`rare reduce`, accumulator.go after the fixes 392a859, b9dd8f5)

Spec: `Rare/Spec/C07Acc.lean`; model: `Rare/Model/C07Acc.lean`.  A compiled expression is ANY tree of
context look-ups (`Stage`), so every statement holds for every expression language and every function
library; `.error` stands for a Go panic inside an expression and is propagated, never swallowed. -/

/-- What the accumulator context answers: `{0}` is the whole element, `{n}` (n ≥ 1) the n-th
NUL-separated part – computed by the splitter loop, for every index including negative and huge ones –
and the sort context numbers the parts of the group key from 0. -/
theorem accgroup_context (m : Bytes) (idx : Int) :
    accGetMatch m idx = partOf m idx ∧
    sortGetMatch m idx = (if idx < 0 then [] else (splitOn nul m).getD idx.toNat []) :=
  ⟨congrFun (accGetMatch_eq m) idx, sortGetMatch_eq m idx⟩

/-- Invariant of every reachable aggregator (any sequence of AddGroupExpr / AddDataExpr / SetSort / Sample
calls that did not panic): data-column names are distinct, the name→index map is exactly the inverse of the
column list, every row has exactly one entry per data column, every index the look-up closure can use is
inside every row (so no `rowData[idx]` can panic and no default value is ever taken), each group is stored
once. -/
theorem accgroup_invariant (s : AccGroup) (h : AccReach s) :
    s.dataCols.Nodup ∧ s.groupCols.Nodup ∧
    (∀ k j, aget s.colIdx k = some j ↔ s.dataCols[j]? = some k) ∧
    (∀ g row, aget s.data g = some row → row.length = s.colDef.length) ∧
    (∀ g row key j, aget s.data g = some row → aget s.colIdx key = some j → j < row.length) ∧
    (akeys s.data).Nodup := by
  have wf := reach_accwf h
  refine ⟨wf.names_nodup, wf.gnames_nodup, wf.idx, wf.rows, ?_, reach_keys_nodup h⟩
  intro g row key j hg hk
  exact accKeyLookup_in_range s wf key j row (wf.rows g row hg) hk

/-- MAIN THEOREM.  For every reachable aggregator (every definition list, whatever rows it already holds)
and every further sample sequence: the model and the spec fold – started from the map the aggregator holds –
either both fail with the same panic, or both succeed and the aggregator holds exactly the spec map; the
definitions are untouched. -/
theorem accgroup_fold (s0 : AccGroup) (h0 : AccReach s0) (h : List Bytes) :
    match s0.run h, h.foldlM (specSample s0.specGroups s0.specCols) (fun k => aget s0.data k) with
    | .ok s, .ok st => (∀ k, aget s.data k = st k) ∧ SameDefs s0 s ∧ AccReach s0
    | .error m, .error m' => m = m'
    | _, _ => False := by
  rcases (run_refines s0 (reach_accwf h0) _ (holds_self s0) h).cases with ⟨s, st, e1, e2, hh, _, sd⟩ | ⟨m, e1, e2⟩
  · rw [e1, e2]; exact ⟨hh, sd, h0⟩
  · rw [e1, e2]

/-- The same from a freshly configured aggregator: the state after a history is `specRun` of it. -/
theorem accgroup_fold_init (s0 : AccGroup) (h0 : AccReach s0) (hempty : s0.data = []) (h : List Bytes) :
    match s0.run h, specRun s0.specGroups s0.specCols h with
    | .ok s, .ok st => (∀ k, aget s.data k = st k) ∧ SameDefs s0 s
    | .error m, .error m' => m = m'
    | _, _ => False := by
  have hh : Holds s0 (fun _ => none) := by intro k; rw [hempty]; rfl
  unfold specRun
  rcases (run_refines s0 (reach_accwf h0) _ hh h).cases with ⟨s, st, e1, e2, hh', _, sd⟩ | ⟨m, e1, e2⟩
  · rw [e1, e2]; exact ⟨hh', sd⟩
  · rw [e1, e2]

/-- Per group: after any accepted history the row of group `k` is the fold of the row update over exactly
the samples whose group key is `k` (in order) starting from the initial values, and a group exists iff it
was sampled.  Consequently the state depends only on the per-group sub-histories. -/
theorem accgroup_group_history (s0 s : AccGroup) (h0 : AccReach s0) (hempty : s0.data = []) (h : List Bytes)
    (hr : s0.run h = .ok s) (k : Bytes) :
    ∃ row, (subHistory s0.specGroups h k).foldlM (updRow s0.specCols) (initialRow s0.specCols) = .ok row ∧
      aget s.data k = if subHistory s0.specGroups h k = [] then none else some row := by
  have := accgroup_fold_init s0 h0 hempty h
  rw [hr] at this
  cases hs : specRun s0.specGroups s0.specCols h with
  | error m => rw [hs] at this; exact this.elim
  | ok st =>
    rw [hs] at this
    obtain ⟨row, a, b⟩ := specRun_sub _ _ h st hs k
    exact ⟨row, a, by rw [this.1 k]; exact b⟩

/-- Two histories with the same per-group sub-histories (any interleaving of the groups) that are both
accepted leave the same rows. -/
theorem accgroup_interleave (s0 s1 s2 : AccGroup) (h0 : AccReach s0) (hempty : s0.data = []) (h1 h2 : List Bytes)
    (hsub : ∀ k, subHistory s0.specGroups h1 k = subHistory s0.specGroups h2 k)
    (r1 : s0.run h1 = .ok s1) (r2 : s0.run h2 = .ok s2) (k : Bytes) : aget s1.data k = aget s2.data k := by
  obtain ⟨row1, a1, b1⟩ := accgroup_group_history s0 s1 h0 hempty h1 r1 k
  obtain ⟨row2, a2, b2⟩ := accgroup_group_history s0 s2 h0 hempty h2 r2 k
  rw [hsub k] at a1 b1
  rw [a1] at a2; cases a2
  rw [b1, b2]

/-- Samples of different groups commute (accumulators are order-sensitive WITHIN a group; that is not
claimed and not true): if `e1; e2` is accepted so is `e2; e1`, with the same rows. -/
theorem accgroup_comm (s s12 : AccGroup) (h0 : AccReach s) (e1 e2 k1 k2 : Bytes)
    (hk1 : s.buildGroupKey (accCtx e1 [] none) = .ok k1) (hk2 : s.buildGroupKey (accCtx e2 [] none) = .ok k2)
    (hne : k1 ≠ k2) (h : s.run [e1, e2] = .ok s12) :
    ∃ s21, s.run [e2, e1] = .ok s21 ∧ (∀ k, aget s12.data k = aget s21.data k) ∧ SameDefs s12 s21 :=
  sample_comm_model s s12 (reach_accwf h0) e1 e2 k1 k2 hk1 hk2 hne h

/-- One sample touches only the row of its own group (which exists afterwards). -/
theorem accgroup_other_groups_untouched (s s' : AccGroup) (e gk : Bytes)
    (hk : s.buildGroupKey (accCtx e [] none) = .ok gk) (h : s.sample e = .ok s') :
    (∀ k, k ≠ gk → aget s'.data k = aget s.data k) ∧ (aget s'.data gk).isSome := by
  unfold AccGroup.sample at h
  rw [hk] at h
  simp only at h
  split at h
  · cases h
  · simp only [Except.ok.injEq] at h
    subst h
    refine ⟨fun k hne => ?_, ?_⟩
    · show aget (aset s.data gk _) k = _
      rw [aget_aset_ne _ _ _ _ (fun e => hne e.symm)]
    · show (aget (aset s.data gk _) gk).isSome
      rw [aget_aset_self]; rfl

/-- `ParseErrors()` is constantly 0. -/
theorem accgroup_parse_errors (s : AccGroup) : s.parseErrors = 0 := rfl

/-- Group keys and `Parts`.  (1) The parts of ANY key joined by NUL give the key back.  (2) A built key is the
NUL-join of the group values, one per group expression.  (3) `Parts` returns exactly those values iff no value
contains NUL and the key was not built from a single empty value: (4) a single empty group value gives the key
"" which has NO parts (not one empty part), and a value containing NUL splits into extra parts. -/
theorem groupkey_parts (s : AccGroup) (ctx : Ctx) :
    (∀ k, nulJoin (groupKeyParts k) = k) ∧
    (∀ k, s.buildGroupKey ctx = .ok k →
      ∃ vs, s.groupDef.mapM (m := Except String) (fun g => g.expr.run ctx) = .ok vs ∧
        vs.length = s.groupColCount ∧ k = nulJoin vs ∧
        (groupKeyParts k = vs ↔ (∀ v ∈ vs, (0 : UInt8) ∉ v) ∧ vs ≠ [[]])) ∧
    groupKeyParts (nulJoin [[]]) = [] ∧
    groupKeyParts (nulJoin [[97, 0, 98]]) = [[97], [98]] := by
  refine ⟨nulJoin_parts, ?_, by decide, ?_⟩
  case refine_2 =>
    have h1 : splitOn nul ([97] ++ 0 :: [98]) = [97] :: splitOn nul [98] := splitOn_free_append [97] [98] (by decide)
    have h2 : splitOn nul [98] = [[98]] := splitOn_free [98] (by decide)
    show (if ([97, 0, 98] : Bytes) = [] then [] else splitOn nul [97, 0, 98]) = _
    rw [if_neg (by decide)]
    exact h1.trans (by rw [h2])
  intro k hk
  rw [buildGroupKey_eq] at hk
  cases hm : s.groupDef.mapM (m := Except String) (fun g => g.expr.run ctx) with
  | error m => rw [hm] at hk; cases hk
  | ok vs =>
    rw [hm] at hk
    simp only [Except.map, Except.ok.injEq] at hk
    subst hk
    refine ⟨vs, rfl, ?_, rfl, parts_nulJoin_iff vs⟩
    have : ∀ (l : List AccGroupDef) (r : List Bytes),
        l.mapM (m := Except String) (fun g => g.expr.run ctx) = .ok r → r.length = l.length := by
      intro l
      induction l with
      | nil => intro r h; simp [pure, Except.pure] at h; subst h; rfl
      | cons g l ih =>
        intro r h
        rw [mapM_except_cons] at h
        cases hg : g.expr.run ctx with
        | error m => rw [hg] at h; cases h
        | ok v =>
          rw [hg] at h
          simp only at h
          cases hl : l.mapM (m := Except String) (fun g => g.expr.run ctx) with
          | error m => rw [hl] at h; cases h
          | ok r' => rw [hl] at h; simp only [Except.ok.injEq] at h; subst h; simp [ih r' hl]
    exact this _ _ hm

/-- Group keys at EVERY arity (no, one, two, … group expressions) and with empty values at any position.
For the values `vs` the group expressions yield: the key is their NUL-join and there is one value per group column;
the cells the consumers show (`groupCells`: `GroupColCount()` cells, cell `i` = `Parts()[i]`, surplus parts dropped,
missing ones empty – `cmd/reduce.go`, `csv.WriteAccumulator`) are EXACTLY the values iff no value contains NUL.  In
particular a single empty value (key "", no parts) is shown as one empty cell, and leading / trailing / inner empty
values of a longer tuple keep their positions (seeded/C07-groupkey-leading-empty breaks this equation). -/
theorem groupkey_cells (s : AccGroup) (ctx : Ctx) (k : Bytes) (vs : List Bytes)
    (hvs : s.groupDef.mapM (m := Except String) (fun g => g.expr.run ctx) = .ok vs)
    (hk : s.buildGroupKey ctx = .ok k) :
    k = nulJoin vs ∧ vs.length = s.groupColCount ∧
    (groupCells s.groupColCount k = vs ↔ ∀ v ∈ vs, (0 : UInt8) ∉ v) := by
  rw [buildGroupKey_eq, hvs] at hk
  simp only [Except.map, Except.ok.injEq] at hk
  subst hk
  have hl : vs.length = s.groupColCount := mapM_run_length ctx _ _ hvs
  refine ⟨rfl, hl, ?_⟩
  rw [← hl]
  exact groupCells_nulJoin_iff vs

/-- Distinct group tuples never share a row: for NUL-free group values, two samples get the same group key IFF
their group tuples are equal – whatever the arity and wherever the empty values are. -/
theorem groupkey_injective (s : AccGroup) (c1 c2 : Ctx) (k1 k2 : Bytes) (vs ws : List Bytes)
    (h1 : s.groupDef.mapM (m := Except String) (fun g => g.expr.run c1) = .ok vs)
    (h2 : s.groupDef.mapM (m := Except String) (fun g => g.expr.run c2) = .ok ws)
    (hk1 : s.buildGroupKey c1 = .ok k1) (hk2 : s.buildGroupKey c2 = .ok k2)
    (hv : ∀ v ∈ vs, (0 : UInt8) ∉ v) (hw : ∀ w ∈ ws, (0 : UInt8) ∉ w) :
    k1 = k2 ↔ vs = ws := by
  obtain ⟨e1, l1, _⟩ := groupkey_cells s c1 k1 vs h1 hk1
  obtain ⟨e2, l2, _⟩ := groupkey_cells s c2 k2 ws h2 hk2
  subst e1 e2
  exact ⟨fun h => nulJoin_injective vs ws (l1.trans l2.symm) hv hw h, fun h => by rw [h]⟩

/-- Just outside that class: group values that contain the separator.  Two different tuples of the same arity share
one key (their samples are accumulated into ONE row), and the displayed cells are not the values. -/
theorem groupkey_nul_counterexample :
    nulJoin [[97, 0, 98], [99]] = nulJoin [[97], [98, 0, 99]] ∧
    ([[97, 0, 98], [99]] : List Bytes) ≠ [[97], [98, 0, 99]] ∧
    groupCells 2 (nulJoin [[97, 0, 98], [99]]) ≠ [[97, 0, 98], [99]] := by
  refine ⟨by decide, by decide, ?_⟩
  intro h
  have := (groupCells_nulJoin_iff [[97, 0, 98], [99]]).mp h [97, 0, 98] (by simp)
  exact this (by decide)

/-- Which definitions a sequence of configuration calls leaves behind: those whose expression compiled,
the first of each name, in call order (group names and data names are separate name spaces); no call panics. -/
theorem accgroup_config (ops : List AccOp) (hcfg : ∀ op ∈ ops, op.isSample = false) :
    ∃ s, ({} : AccGroup).applyAll ops = .ok s ∧ s.data = [] ∧
      s.groupDef = (acceptedBy (·.1) (·.2.isSome) (groupCalls ops)).filterMap toGDef ∧
      s.colDef = (acceptedBy (·.1) (·.2.1.isSome) (dataCalls ops)).filterMap toDDef := by
  obtain ⟨s, hs, inv⟩ := cfg_applyAll ops hcfg {} [] [] cfg_init
  refine ⟨s, hs, inv.nodata, ?_, ?_⟩
  · rw [inv.groups, accept_foldl]
    have : ∀ l : List GCall, l.filter (fun _ => true) = l := fun l => List.filter_eq_self.mpr (by simp)
    simp [this]
  · rw [inv.cols, accept_foldl]
    have : ∀ l : List DCall, l.filter (fun _ => true) = l := fun l => List.filter_eq_self.mpr (by simp)
    simp [this]

/-- Once data exists both `Add…` calls are refused and change nothing; a duplicate name is refused. -/
theorem accgroup_frozen (s : AccGroup) (n i : Bytes) (c : Option Stage) :
    (s.data ≠ [] → s.addGroupExpr n c = (s, some "existing-data") ∧ s.addDataExpr n c i = (s, some "existing-data")) ∧
    (s.data = [] → n ∈ s.groupCols → s.addGroupExpr n c = (s, some "duplicate")) ∧
    (s.data = [] → (aget s.colIdx n).isSome → s.addDataExpr n c i = (s, some "duplicate")) := by
  refine ⟨?_, ?_, ?_⟩
  · intro h
    have : s.data.length > 0 := List.length_pos_iff.mpr h
    simp [AccGroup.addGroupExpr, AccGroup.addDataExpr, this]
  · intro h hn
    have hany : s.groupDef.any (fun g => g.name == n) = true := by
      obtain ⟨g, hg, hgn⟩ := List.mem_map.mp hn
      exact List.any_eq_true.mpr ⟨g, hg, by simp [hgn]⟩
    simp [AccGroup.addGroupExpr, h, hany]
  · intro h hn
    simp [AccGroup.addDataExpr, h, hn]

/-- `Groups(sort)` for a sorter that is a strict total order (e.g. `ByName` = `bLt`): the answer is a
permutation of the group keys, sorted by `less` – or, with a sort expression, by (sort key under `less`,
then group key) – and it does not depend on Go's map iteration order. -/
theorem accgroup_groups (s : AccGroup) (less : Bytes → Bytes → Bool) (hlt : StrictTotal less)
    (order res : List Bytes) (h : s.groupsWith less order = .ok res) :
    res.Perm order ∧
    (match s.sortExpr with
     | none => res.Pairwise fun a b => (!less b a) = true
     | some e => res.Pairwise fun a b => (!sortLess less (b, s.sortKeyD e b) (a, s.sortKeyD e a)) = true) ∧
    (∀ order' res', order'.Perm order → s.groupsWith less order' = .ok res' → res' = res) :=
  ⟨(groupsWith_spec s less hlt order res h).1, (groupsWith_spec s less hlt order res h).2,
   fun order' res' hp h' => groupsWith_deterministic s less hlt order' order res' res hp h' h⟩

/-- `Data` / `DataNoCopy` / `DataCount` of a reachable aggregator: the stored row as it is (`Data` pads
nothing and cuts nothing), an all-empty row of the right width / nil for an unknown group. -/
theorem accgroup_data_accessors (s : AccGroup) (h : AccReach s) (k : Bytes) :
    (∀ row, aget s.data k = some row → s.dataOf k = row ∧ s.dataNoCopy k = row) ∧
    (aget s.data k = none → s.dataOf k = List.replicate s.colDef.length [] ∧ s.dataNoCopy k = []) ∧
    (s.dataOf k).length = s.dataCols.length ∧ s.colCount = s.groupCols.length + s.dataCols.length ∧
    s.dataCount = (akeys s.data).length := by
  have wf := reach_accwf h
  refine ⟨?_, ?_, by simp [AccGroup.dataOf, AccGroup.dataCols], by simp [AccGroup.colCount, AccGroup.groupCols, AccGroup.dataCols],
    by simp [AccGroup.dataCount, akeys]⟩
  · intro row hr
    exact ⟨dataOf_row s k row hr (wf.rows k row hr), by simp [AccGroup.dataNoCopy, hr]⟩
  · intro hn
    exact ⟨dataOf_missing s k hn, by simp [AccGroup.dataNoCopy, hn]⟩

/-! ## non-vacuity for the accumulating group and `Mode` -/

example : IsMode [3, 1, 3, 1, 2] (mode 0 (fun a b => decide (a = b)) (analyze ratOps false [3, 1, 3, 1, 2])) :=
  (mode_spec false [3, 1, 3, 1, 2] (by decide)).1

/-- `{.}x`: appends an `x` per sample. -/
def exCount : Stage := Comp.getKey dot fun cur => .ret (cur ++ [120])
/-- `{c}:{2}`: reads the ALREADY UPDATED column `c` and the second part of the element. -/
def exLast : Stage := Comp.getKey [99] fun c => Comp.getMatch 2 fun v => .ret (c ++ [58] ++ v)
/-- `{n}` (the NOT YET updated column `n`, declared after it). -/
def exPrev : Stage := Comp.key [110]
/-- group `g={1}`; columns `p={n}`, `c={.}x`, `l={c}:{2}`, `n={2}`. -/
def exAcc : AccGroup :=
  let s0 : AccGroup := {}
  let s1 := (s0.addGroupExpr [103] (some (Comp.match_ 1))).1
  let s2 := (s1.addDataExpr [112] (some exPrev) []).1
  let s3 := (s2.addDataExpr [99] (some exCount) []).1
  let s4 := (s3.addDataExpr [108] (some exLast) [45]).1
  (s4.addDataExpr [110] (some (Comp.match_ 2)) [48]).1

example : AccReach exAcc :=
  AccReach.step _ _ (.addData [110] (some (Comp.match_ 2)) [48]) none
    (AccReach.step _ _ (.addData [108] (some exLast) [45]) none
      (AccReach.step _ _ (.addData [99] (some exCount) []) none
        (AccReach.step _ _ (.addData [112] (some exPrev) []) none
          (AccReach.step _ _ (.addGroup [103] (some (Comp.match_ 1))) none AccReach.init rfl) rfl) rfl) rfl) rfl
example : exAcc.data = [] := rfl
/-- `a NUL p`, `b NUL q`, `a NUL r`. -/
def exAccHist : List Bytes := [[97, 0, 112], [98, 0, 113], [97, 0, 114]]
/-- group a after two samples: p = previous n, c = "xx", l = "xx:r" (sees the new c), n = "r". -/
example : (match exAcc.run exAccHist with | .ok s => aget s.data [97] | .error _ => none) =
    some [[112], [120, 120], [120, 120, 58, 114], [114]] := by decide
example : (match exAcc.run exAccHist with | .ok s => aget s.data [98] | .error _ => none) =
    some [[48], [120], [120, 58, 113], [113]] := by decide
example : (match exAcc.buildGroupKey (accCtx [97, 0, 112] [] none), exAcc.buildGroupKey (accCtx [98, 0, 113] [] none) with
    | .ok k1, .ok k2 => decide (k1 ≠ k2) | _, _ => false) = true := by decide
/-- hypotheses of `accgroup_comm`: both orders are accepted from the configured aggregator. -/
example : ∃ s12, exAcc.run [[97, 0, 112], [98, 0, 113]] = .ok s12 := ⟨_, rfl⟩
example : ∃ s', exAcc.sample [97, 0, 112] = .ok s' := ⟨_, rfl⟩
example : groupCells 1 (nulJoin [[]]) = [[]] ∧ groupCells 0 (nulJoin []) = [] ∧
    groupCells 3 (nulJoin [[], [120], []]) = [[], [120], []] :=
  ⟨groupCells_nulJoin [[]] (by decide), groupCells_nulJoin [] (by decide), groupCells_nulJoin [[], [120], []] (by decide)⟩
example : StrictTotal bLt := bLt_strictTotal
example : ∀ val : Bytes → Int, StrictTotal (keyLess nvNameSorter val) ∧ StrictTotal (keyLess nvValueSorter val) :=
  fun val => ⟨nvName_strictTotal val, nvValue_strictTotal val⟩
example : ∃ res, exAcc.groupsWith bLt [[98], [97]] = .ok res := ⟨_, rfl⟩
example : ∀ op ∈ [AccOp.addGroup [103] none, AccOp.addData [99] (some exCount) [], AccOp.addData [99] (some exLast) []],
    op.isSample = false := by decide

/-! ## counted and sorted accessors (GroupCount, ItemsSortedBy, ItemsSorted, ColumnCount, RowCount,
OrderedColumns, OrderedRows) -/

/-- `sorting.SortBy` over the keys of a map with a sorter that is a strict total order on the (name, value)
pairs of those keys: the answer is a permutation of the keys, sorted, and the same for every map iteration
order. -/
theorem sorted_accessors (less : NVLess) (val : Bytes → Int) (hst : StrictTotal (keyLess less val)) (order : List Bytes) :
    (orderedKeys less val order).Perm order ∧
    (orderedKeys less val order).Pairwise (fun a b => (!keyLess less val b a) = true) ∧
    (∀ order', order'.Perm order → orderedKeys less val order' = orderedKeys less val order) :=
  orderedKeys_spec less val hst order

/-- The sorters the commands use by default are strict total orders on the keys of any map:
`NVNameSorter` = by name; `NVValueSorter` = larger value first, equal values by name. -/
theorem default_sorters_total (val : Bytes → Int) :
    StrictTotal (keyLess nvNameSorter val) ∧ StrictTotal (keyLess nvValueSorter val) ∧
    (∀ a b, keyLess nvNameSorter val a b = bLt a b) ∧
    (∀ a b, keyLess nvValueSorter val a b = if val a = val b then bLt a b else decide (val b < val a)) :=
  ⟨nvName_strictTotal val, nvValue_strictTotal val, fun _ _ => rfl, keyLess_nvValue val⟩

/-- `minSlice`: the first `count` items (all of them when there are fewer); a negative `count` panics
(since bb14ba5 the CLI refuses a negative `-n`; before, `rare histo -n -1` died even earlier, in `NewHistogram`). -/
theorem minSlice_exact {α : Type} (items : List α) (count : Int) :
    minSlice items count = if count < 0 then .error "slice bounds out of range" else .ok (items.take count.toNat) :=
  minSlice_spec items count

/-- Histogram counter: each key is stored once (`GroupCount` = number of distinct keys sampled with a valid
increment) and `ItemsSortedBy(count, sorter)` is the first `count` entries of the sorted (key, fold) list,
whatever the map order. -/
theorem counter_items_sorted (h : List Bytes) (less : NVLess)
    (hst : StrictTotal (keyLess less (Counter.run h).countOf)) (order : List Bytes)
    (hp : order.Perm (akeys (Counter.run h).items)) (count : Int) :
    let c := Counter.run h
    (akeys c.items).Nodup ∧ c.groupCount = (akeys c.items).length ∧
    (∀ k, k ∈ akeys c.items ↔ present (selKey k) (h.map parseCounter) = true) ∧
    c.itemsSortedBy less order count =
      (if count < 0 then .error "slice bounds out of range"
       else .ok (((orderedKeys less c.countOf (akeys c.items)).map
              fun k => (k, total (selKey k) (h.map parseCounter))).take count.toNat)) := by
  intro c
  have inv := counterInv_run h
  have hmem : ∀ k, k ∈ akeys c.items ↔ present (selKey k) (h.map parseCounter) = true := by
    intro k
    rw [mem_akeys_iff, inv.items k]
    split <;> simp_all
  refine ⟨counter_keys_nodup h, by simp [Counter.groupCount, akeys], hmem, ?_⟩
  unfold Counter.itemsSortedBy
  rw [minSlice_spec, (orderedKeys_spec less c.countOf hst _).2.2 order hp]
  have hval : ∀ k ∈ orderedKeys less c.countOf (akeys c.items), (k, c.countOf k) = (k, total (selKey k) (h.map parseCounter)) := by
    intro k hk
    have hk' := ((orderedKeys_spec less c.countOf hst _).1.mem_iff).mp hk
    have := (hmem k).mp hk'
    unfold Counter.countOf
    rw [inv.items k, if_pos this]; rfl
  rw [List.map_congr_left hval]

/-- Sub-key counter: `ItemsSorted(sorter)` lists every key exactly once, in sorted order, whatever the map order. -/
theorem subkey_items_sorted (s : SubKeyCounter) (less : NVLess) (hst : StrictTotal (keyLess less s.countOf))
    (order : List Bytes) (hp : order.Perm (akeys s.items)) :
    (s.itemsSorted less order).map (·.1) = orderedKeys less s.countOf (akeys s.items) ∧
    (∀ p ∈ s.itemsSorted less order, aget s.items p.1 = some p.2) := by
  have hsame := (orderedKeys_spec less s.countOf hst _).2.2 order hp
  have hall : ∀ k ∈ orderedKeys less s.countOf order, (aget s.items k).isSome = true := by
    intro k hk
    have := (List.mergeSort_perm order _).mem_iff.mp hk
    exact (mem_akeys_iff s.items k).mp (hp.mem_iff.mp this)
  refine ⟨?_, ?_⟩
  · unfold SubKeyCounter.itemsSorted
    rw [filterMap_keys s.items _ hall, hsame]
  · intro p hpm
    unfold SubKeyCounter.itemsSorted at hpm
    obtain ⟨k, _, hk⟩ := List.mem_filterMap.mp hpm
    cases hg : aget s.items k with
    | none => rw [hg] at hk; cases hk
    | some v => rw [hg] at hk; simp only [Option.map_some, Option.some.injEq] at hk; subst hk; exact hg

/-- Table: every column / row is stored once (`ColumnCount`, `RowCount` count distinct names), and
`OrderedColumns` / `OrderedRows` list each of them exactly once in sorted order, whatever the map order. -/
theorem table_ordered (d : Bytes) (hd : d ≠ []) (h : List Bytes) (less : NVLess) :
    let t := Table.run d h
    (akeys t.cols).Nodup ∧ (akeys t.rows).Nodup ∧
    t.columnCount = (akeys t.cols).length ∧ t.rowCount = (akeys t.rows).length ∧
    (StrictTotal (keyLess less t.colTotal) → ∀ order, order.Perm (akeys t.cols) →
      t.orderedColumns less order = t.orderedColumns less (akeys t.cols) ∧ (t.orderedColumns less order).Perm (akeys t.cols)) ∧
    (StrictTotal (keyLess less t.rowSum) → ∀ order, order.Perm (akeys t.rows) →
      (t.orderedRows less order).map (·.name) = orderedKeys less t.rowSum (akeys t.rows) ∧
      ∀ row ∈ t.orderedRows less order, aget t.rows row.name = some row) := by
  intro t
  have inv := tableInv_run d hd h
  refine ⟨inv.nodupCols, inv.nodupRows, by simp [Table.columnCount, akeys], by simp [Table.rowCount, akeys], ?_, ?_⟩
  · intro hst order hp
    have sp := orderedKeys_spec less t.colTotal hst (akeys t.cols)
    unfold Table.orderedColumns
    rw [sp.2.2 order hp]
    exact ⟨rfl, sp.1⟩
  · intro hst order hp
    have sp := orderedKeys_spec less t.rowSum hst (akeys t.rows)
    have hall : ∀ k ∈ orderedKeys less t.rowSum order, ∃ row, aget t.rows k = some row ∧ row.name = k := by
      intro k hk
      have := (List.mergeSort_perm order _).mem_iff.mp hk
      have hs := (mem_akeys_iff t.rows k).mp (hp.mem_iff.mp this)
      obtain ⟨row, hr⟩ := Option.isSome_iff_exists.mp hs
      exact ⟨row, hr, (inv.rows k row hr).name⟩
    unfold Table.orderedRows
    rw [← sp.2.2 order hp]
    refine ⟨?_, ?_⟩
    · generalize orderedKeys less t.rowSum order = ks at hall
      induction ks with
      | nil => rfl
      | cons k ks ih =>
        obtain ⟨row, hr, hn⟩ := hall k (by simp)
        simp only [List.filterMap_cons, hr, List.map_cons, hn]
        rw [ih (fun k' hk' => hall k' (List.mem_cons_of_mem _ hk'))]
    · intro row hrow
      obtain ⟨k, hk, hkr⟩ := List.mem_filterMap.mp hrow
      obtain ⟨row', hr', hn'⟩ := hall k hk
      rw [hr'] at hkr; cases hkr
      rw [hn']; exact hr'

example : StrictTotal (keyLess nvValueSorter (Counter.run exHist).countOf) := nvValue_strictTotal _
example : (akeys (Counter.run exHist).items).Perm (akeys (Counter.run exHist).items) := List.Perm.refl _
example : minSlice [1, 2, 3] 2 = Except.ok [1, 2] ∧ minSlice [1, 2, 3] 7 = Except.ok [1, 2, 3] := ⟨rfl, rfl⟩

/-! ## numerical aggregator in IEEE-754 binary64

Model: `Rare/Model/C07NumF64.lean` – `MatchNumerical` / `StatisticalAnalysis` over the kernel-checkable software
float `Rare.F64` (every operation = the exact rational result rounded once, ties to even; NaN, ±Inf, ±0,
subnormals included), compared bit for bit with the Go code by the driver ops `agg numf` / `agg numfv`.
`runF` = a history of raw strings through `Sample` (`strconv.ParseFloat`), `runFv` = `Samplef` calls. -/

/-- Counting.  `Sample` parses with `strconv.ParseFloat`; what does not parse (syntax, or range: the value rounds
to ±Inf) only counts a parse error, the others go through `Samplef` in order.  `Count()` + `ParseErrors()` is the
number of samples offered, and the kept values are the parsed samples in arrival order. -/
theorem num_f64_count (keep : Bool) (h : List Bytes) :
    let ok := h.filterMap F64.parseFloat
    runF keep h = { runFv keep ok with parseErrors := h.countP (fun e => (F64.parseFloat e).isNone) } ∧
    (runF keep h).samples = ok.length ∧
    (runF keep h).samples + (runF keep h).parseErrors = h.length ∧
    (runF keep h).values = (if keep then ok else []) := by
  intro ok
  have e := runF_eq keep h
  refine ⟨e, ?_, ?_, ?_⟩
  · rw [e]; exact runFv_samples keep ok
  · rw [e]
    show (runFv keep ok).samples + h.countP (fun e => (F64.parseFloat e).isNone) = h.length
    rw [runFv_samples]; exact length_filterMap_add_countP _ _
  · rw [e]; exact runFv_values keep ok

/-- `Min()` / `Max()` are exact – comparisons do not round.  After any `Samplef` sequence `l`: neither is NaN (a NaN
sample never wins a comparison, so NaN samples are ignored); `Min()` is ≤ and `Max()` is ≥ every non-NaN sample in
the IEEE order; as soon as ONE sample is not NaN both ARE samples (after the fix bda1842: they start at `+Inf` /
`-Inf`; the old sentinels `±MaxFloat64` made `Min()` of samples that are all `+Inf` equal to `MaxFloat64`), and
with only NaN samples (or none) they are still `+Inf` / `-Inf`.  Hence for finite samples they are the least /
greatest sample VALUE: on finite floats the IEEE order is the order of the exact values. -/
theorem num_f64_minmax (keep : Bool) (l : List F64) :
    let r := runFv keep l
    r.min.isNaN = false ∧ r.max.isNaN = false ∧
    (∀ y ∈ l, y.isNaN = false → F64.le r.min y = true ∧ F64.le y r.max = true) ∧
    ((∃ y ∈ l, y.isNaN = false) → r.min ∈ l ∧ r.max ∈ l) ∧
    ((∀ y ∈ l, y.isNaN = true) → r.min = F64.inf false ∧ r.max = F64.inf true) ∧
    (l ≠ [] → (∀ x ∈ l, x.isFinite = true) →
      r.min ∈ l ∧ r.max ∈ l ∧ ∀ y ∈ l, r.min.toRat ≤ y.toRat ∧ y.toRat ≤ r.max.toRat) := by
  intro r
  have mm := minmax_fold keep l NumF.new isNaN_posInf isNaN_negInf
  simp only [] at mm
  obtain ⟨a1, a2, _, _, a5, _, _, _, a9, _⟩ := mm
  refine ⟨a1, a2, fun y hy hn => ⟨a5 y hy hn, a9 y hy hn⟩, minmax_mem keep l, ?_, ?_⟩
  · intro hall
    refine ⟨min_unchanged keep l NumF.new fun y hy => ?_, max_unchanged keep l NumF.new fun y hy => ?_⟩
    · cases h : F64.lt y NumF.new.min
      · rfl
      · have := ((lt_iff_key _ _).mp h).1; rw [hall y hy] at this; cases this
    · cases h : F64.lt NumF.new.max y
      · rfl
      · have := ((lt_iff_key _ _).mp h).2.1; rw [hall y hy] at this; cases this
  · intro hne hf
    obtain ⟨y0, l', rfl⟩ := List.exists_cons_of_ne_nil hne
    obtain ⟨m1, m2⟩ := minmax_mem keep (y0 :: l') ⟨y0, by simp, F64.not_nan_of_finite (hf y0 (by simp))⟩
    refine ⟨m1, m2, fun y hy => ?_⟩
    have fy := hf y hy
    exact ⟨(F64.le_iff_toRat_le (hf _ m1) fy).mp (a5 y hy (F64.not_nan_of_finite fy)),
      (F64.le_iff_toRat_le fy (hf _ m2)).mp (a9 y hy (F64.not_nan_of_finite fy))⟩

/-- Order statistics involve no arithmetic on the samples, hence no rounding: they ARE samples.
`sort.Float64s` / `sort.Sort(sort.Reverse(…))` is specified by its contract only (Go's pdqsort is not stable): `s` is
ANY arrangement of the kept samples `l` that is sorted for Go's order `goLess` (NaN before every number, `-0` and
`+0` equal); the model's merge sort is one (1).  For every such `s`:
(2) `Median()` is the element of rank ⌊n/2⌋;
(3) `Quantile(p)` is the element of rank `clamp(int(float64(n)·p))` – the product is ONE correctly rounded float
    multiplication, the conversion truncates (NaN / ±Inf / out of range give MinInt64 on amd64, i.e. rank 0), and the
    clamps make every rank valid;
(4) the element of any rank is the same for every sorted arrangement up to the sign of a zero / the identity of NaNs,
    so the answers do not depend on the sorting algorithm;
(5) ranks are ordered: nothing at a later rank sorts before anything at an earlier one (NaN samples occupy the
    first ranks, the last ones when `Reverse` is set: `Median` / `Quantile` can return NaN only then);
(6) for a probability `0 ≤ p ≤ 1` and at most 2^53 samples the raw index is ⌊fl(n·p)⌋ ∈ [0, n]: only the upper clamp
    can act, and only when the rounded product reaches `n` (p = 1, or p within half an ulp of it – F20). -/
theorem num_f64_order_stats (rev : Bool) (l s : List F64) (hne : l ≠ []) (hs : IsSortedF rev s l) :
    IsSortedF rev (analyzeF rev l) l ∧
    (∃ x, s[l.length / 2]? = some x ∧ medianF s = x ∧ x ∈ l) ∧
    (∀ p : F64, ∃ x, s[clampIdx l.length (quantileIdx l.length p)]? = some x ∧ quantileF s p = .ok x ∧ x ∈ l) ∧
    (∀ (s' : List F64) (k : Nat) (x x' : F64), IsSortedF rev s' l → s[k]? = some x → s'[k]? = some x' → sameF x x' = true) ∧
    (∀ (i j : Nat) (x y : F64), i < j → s[i]? = some x → s[j]? = some y → (if rev then goLess x y else goLess y x) = false) ∧
    (∀ p : F64, l.length ≤ 9007199254740992 → p.isFinite = true → 0 ≤ p.toRat → p.toRat ≤ 1 →
      0 ≤ quantileIdx l.length p ∧ quantileIdx l.length p ≤ l.length ∧
      quantileIdx l.length p =
        (F64.ofRatS ((F64.ofInt l.length).sign != p.sign) ((l.length : Rat) * p.toRat)).toRat.floor) := by
  have hlen : s.length = l.length := hs.1.length_eq
  have hsne : s ≠ [] := by intro e; rw [e] at hs; exact hne hs.1.symm.eq_nil
  have hpos : 0 < s.length := List.length_pos_iff.mpr hsne
  refine ⟨analyzeF_sorted rev l, ?_, ?_, ?_, ?_, ?_⟩
  · obtain ⟨x, hx, hm⟩ := medianF_eq s hsne
    rw [hlen] at hx
    exact ⟨x, hx, hm, hs.1.mem_iff.mp (List.mem_of_getElem? hx)⟩
  · intro p
    obtain ⟨x, hx, hq⟩ := quantileF_ok s hpos p
    rw [hlen] at hx
    exact ⟨x, hx, hq, hs.1.mem_iff.mp (List.mem_of_getElem? hx)⟩
  · intro s' k x x' hs' hx hx'
    exact rank_unique rev s s' l hs hs' k x x' hx hx'
  · intro i j x y hij hx hy
    exact sorted_rank_bounds rev s l hs i j hij x y hx hy
  · intro p hn hp h0 h1
    exact quantileIdx_bounds l.length hn p hp h0 h1

/-- `Mode()` in floats, for samples without NaN.  The scan compares neighbours with the IEEE `!=`, so `-0` and `+0`
are one value: the result `m` is not NaN, equals (`==`) a sample, no value occurs more often than `m` (multiplicities
counted with `==`), and among the values of maximal multiplicity it is the smallest (the largest when `Reverse` is
set) – for every sorted arrangement `s`.  With NaN samples: `num_f64_mode_any` below (every NaN
starts a run of length one, so NaN can be returned only when no number occurs twice). -/
theorem num_f64_mode (rev : Bool) (l s : List F64) (hne : l ≠ []) (hs : IsSortedF rev s l)
    (hn : ∀ x ∈ l, x.isNaN = false) :
    let m := modeF s
    m.isNaN = false ∧ (∃ x ∈ l, F64.eq m x = true) ∧
    (∀ y, l.countP (fun x => F64.eq y x) ≤ l.countP (fun x => F64.eq m x)) ∧
    (∀ y ∈ l, l.countP (fun x => F64.eq y x) = l.countP (fun x => F64.eq m x) → F64.eq y m = false →
      (if rev then F64.lt y m else F64.lt m y) = true) :=
  modeF_scan rev s l hs hne hn

/-- `Mode()` FOR ALL SAMPLES, NaN INCLUDED (drops the hypothesis of `num_f64_mode`).  `sort.Float64s` puts the NaN samples
first (last with `Reverse`), and the scan's `val != currValue` is true for every NaN: each NaN is a run of length one.
For every sorted arrangement `s` of any non-empty sample list `l`:

* ascending: `Mode()` is NaN exactly when some sample is NaN and NO number occurs twice (`==`-multiplicities ≤ 1) – a
  number replaces the first NaN only with a run of length 2;
* `Reverse`: `Mode()` is NaN exactly when ALL samples are NaN (the numbers are scanned first; a NaN run never exceeds
  the count already observed);
* a NaN result is one of the samples; a result that is a number satisfies the three clauses of `num_f64_mode`
  (it `==` a sample, has maximal multiplicity, and is the first such value in the sort order). -/
theorem num_f64_mode_any (rev : Bool) (l s : List F64) (hne : l ≠ []) (hs : IsSortedF rev s l) :
    let m := modeF s
    (m.isNaN = true ↔ (if rev then ∀ x ∈ l, x.isNaN = true
        else (∃ x ∈ l, x.isNaN = true) ∧ ∀ y, l.countP (fun x => F64.eq y x) ≤ 1)) ∧
    (m.isNaN = true → m ∈ l) ∧
    (m.isNaN = false →
      (∃ x ∈ l, F64.eq m x = true) ∧
      (∀ y, l.countP (fun x => F64.eq y x) ≤ l.countP (fun x => F64.eq m x)) ∧
      (∀ y ∈ l, l.countP (fun x => F64.eq y x) = l.countP (fun x => F64.eq m x) → F64.eq y m = false →
        (if rev then F64.lt y m else F64.lt m y) = true)) :=
  modeF_general rev s l hs hne

/-- **The float order statistics ARE the spec's nearest-rank statistics of the sample VALUES** (finite samples; with NaN or
±Inf there is no exact value to speak of – `num_f64_order_stats` / `num_f64_mode_any` cover those).  For every sorted
arrangement `s` of finite samples `l` (the view of any `Analyze()`, `num_f64_analyze_any_schedule`), with `q` the exact
rational values of the samples:

* read as rationals, `s` is THE sorted list of the values – the exact model's `analyze ratOps rev q` (`-0`/`+0` are the
  one value 0; Go's float order is the order of the exact values);
* `Median()` is the element of rank ⌊n/2⌋ of `q` in the sense of the spec (`IsRank`, `Spec/C07.lean`), `Quantile(p)` the
  element of rank `clamp(int(float64(n)·p))`;
* `Mode()` is a value of maximal multiplicity among the VALUES (`IsMode`), the smallest such (largest with `Reverse`).

No rounding is involved: the results are samples. -/
theorem num_f64_order_stats_exact (rev : Bool) (l s : List F64) (hne : l ≠ []) (hf : ∀ x ∈ l, x.isFinite = true)
    (hs : IsSortedF rev s l) :
    let q := l.map F64.toRat
    s.map F64.toRat = analyze ratOps rev q ∧
    IsRank rev q (l.length / 2) (medianF s).toRat ∧
    (∀ p : F64, ∃ x, quantileF s p = .ok x ∧ IsRank rev q (clampIdx l.length (quantileIdx l.length p)) x.toRat) ∧
    IsMode q (modeF s).toRat ∧
    (∀ y, q.count y = q.count (modeF s).toRat → y ≠ (modeF s).toRat →
      if rev then y < (modeF s).toRat else (modeF s).toRat < y) := by
  intro q
  have hso := isSortedOf_map_toRat rev l s hf hs
  have hmap := sorted_map_toRat rev l s hf hs
  obtain ⟨_, ⟨x, hx, hm, _⟩, hq, _⟩ := num_f64_order_stats rev l s hne hs
  have hqne : q ≠ [] := by intro e; exact hne (List.map_eq_nil_iff.mp e)
  have hfs : ∀ x ∈ s, x.isFinite = true := fun x hx => hf x (hs.1.mem_iff.mp hx)
  have hmode : (modeF s).toRat = mode 0 (fun a b => decide (a = b)) (analyze ratOps rev q) := by
    rw [modeF_toRat s hfs, hmap]
  obtain ⟨m1, m2, _⟩ := mode_spec rev q hqne
  refine ⟨hmap, ⟨_, hso, ?_⟩, ?_, ?_, ?_⟩
  · rw [List.getElem?_map, hx, hm]; rfl
  · intro p
    obtain ⟨y, hy, hqy, _⟩ := hq p
    exact ⟨y, hqy, _, hso, by rw [List.getElem?_map, hy]; rfl⟩
  · rw [hmode]; exact m1
  · rw [hmode]; exact m2

/-- A SUFFICIENT EXACTNESS CONDITION.  If the samples are finite and every intermediate value of the exact
(rational) Welford recurrence on their values – `x − mean`, `(x − mean)/k`, the new mean, `x − mean'`, the product
and the new `M2` – is a float (`AllRep`; decidable on concrete lists: `allRepB`), then no operation rounds: the float
aggregator holds EXACTLY the mean and `M2 = Σ (x − mean)²` of the sample values (`welford_exact`), and `Variance()`
is exactly the sample variance whenever that quotient is a float.  Small integers with dyadic running means are
such lists (examples below); constant samples are the simplest case (`num_f64_constant_exact`). -/
theorem num_f64_exact_run (keep : Bool) (l : List F64) (hf : ∀ x ∈ l, x.isFinite = true)
    (hn : l.length ≤ 9007199254740992) (hr : AllRep (Numerical.new ratOps) (l.map F64.toRat)) :
    let r := runFv keep l
    let q := l.map F64.toRat
    r.samples = l.length ∧ r.mean.toRat? = some (mean q) ∧ r.variance.toRat? = some (m2 q) ∧
    (F64.Rep (sampleVariance q) → r.varianceF.toRat? = some (sampleVariance q)) := by
  intro r q
  have hs := exact_run keep l hf hn hr
  obtain ⟨w1, w2, w3, w4, _⟩ := welford_exact false q
  have hlen : q.length = l.length := by simp [q]
  refine ⟨runFv_samples keep l, ?_, ?_, ?_⟩
  · rw [F64.toRat?_eq_some]; exact ⟨hs.meanF, by rw [hs.meanV, w2]⟩
  · rw [F64.toRat?_eq_some]; exact ⟨hs.varF, by rw [hs.varV, w3]⟩
  · intro hrep
    have hsv : sampleVariance q = if l.length > 1 then m2 q / ((l.length : Rat) - 1) else 0 := by
      unfold sampleVariance; rw [hlen]
    rw [hsv] at hrep ⊢
    show (runFv keep l).varianceF.toRat? = _
    rw [runFv_varianceF, F64.toRat?_eq_some]
    by_cases hgt : l.length > 1
    · rw [if_pos hgt] at hrep ⊢
      rw [if_pos hgt]
      obtain ⟨kf, kv, kz⟩ := ofInt_count (l.length - 1) (by omega) (by omega)
      rw [F64.div_finite hs.varF kf kz, kv, hs.varV, w3, natCast_pred (by omega)]
      exact F64.ofRatS_rep _ hrep
    · rw [if_neg hgt, if_neg hgt]
      exact F64.zero_finite false

/-- Small integers.  For integer samples `|x| ≤ 2^53` (at most 2^53 of them) that pass the decidable check `allRepB`
(every intermediate value of the exact recurrence is a float – e.g. whenever the running means are dyadic with
few bits, as for 1, 2, 3, 4 or the odd numbers 1 … 15 below; it fails for 2, 4, 4 whose mean 10/3 is no float):
`Mean()·n` is EXACTLY the integer sum and `M2` EXACTLY `Σ (x − mean)²` – nothing was rounded. -/
theorem num_f64_small_ints_exact (keep : Bool) (l : List Int) (hl : ∀ x ∈ l, x.natAbs ≤ 9007199254740992)
    (hn : l.length ≤ 9007199254740992)
    (hr : allRepB (Numerical.new ratOps) (l.map fun (x : Int) => (x : Rat)) = true) :
    let r := runFv keep (l.map F64.ofInt)
    let q := l.map fun (x : Int) => (x : Rat)
    r.mean.isFinite = true ∧ r.mean.toRat * (l.length : Rat) = ratSum q ∧
    r.variance.toRat? = some (m2 q) := by
  intro r q
  have hmap : (l.map F64.ofInt).map F64.toRat = q := by
    rw [List.map_map]
    show List.map (F64.toRat ∘ F64.ofInt) l = List.map (fun (x : Int) => (x : Rat)) l
    apply List.map_congr_left
    intro x hx
    exact (F64.isFinite_ofInt x (hl x hx)).2
  have hf : ∀ y ∈ l.map F64.ofInt, y.isFinite = true := by
    intro y hy
    obtain ⟨x, hx, rfl⟩ := List.mem_map.mp hy
    exact (F64.isFinite_ofInt x (hl x hx)).1
  obtain ⟨_, h2, h3, _⟩ := num_f64_exact_run keep (l.map F64.ofInt) hf (by simpa using hn)
    (by rw [hmap]; exact allRep_of_allRepB _ _ hr)
  rw [hmap] at h2 h3
  obtain ⟨mf, mv⟩ := F64.toRat?_eq_some.mp h2
  refine ⟨mf, ?_, h3⟩
  show (runFv keep (l.map F64.ofInt)).mean.toRat * (l.length : Rat) = ratSum q
  rw [mv]
  have hlen : q.length = l.length := by simp [q]
  unfold mean
  rw [hlen]
  cases l with
  | nil => simp [q, ratSum]
  | cons x l' =>
    have hne := natCast_succ_ne_zero l'.length
    have : (((x :: l').length : Nat) : Rat) = (l'.length : Rat) + 1 := by simp [Rat.natCast_add]
    rw [this]
    exact Rat.div_mul_cancel hne

example : allRepB (Numerical.new ratOps) ([1, 3, 5, 7, 9, 11, 13, 15].map fun x : Int => (x : Rat)) = true := by decide_rep
example : ∀ x ∈ ([1, 3, 5, 7, 9, 11, 13, 15] : List Int), x.natAbs ≤ 9007199254740992 := by decide

/-- Constant samples (any finite float, up to 2^53 of them): after every prefix the mean is EXACTLY the sample
(the same bit pattern unless the sample is `-0`, whose mean is `+0`), `M2`, `Variance()` and `StdDev()` are exactly 0 –
Welford's update has nothing to cancel (the sum-of-squares formula of seeded/C07-variance-sumsq does not have this
property). -/
theorem num_f64_constant_exact (keep : Bool) (x : F64) (hx : x.isFinite = true) (n : Nat) (hn : n + 1 ≤ 9007199254740992) :
    let r := runFv keep (List.replicate (n + 1) x)
    r.mean.toRat? = some x.toRat ∧ (x.toRat ≠ 0 → r.mean = x) ∧
    r.variance.toRat? = some 0 ∧ r.varianceF.toRat? = some 0 ∧ r.stdDev.toRat? = some 0 := by
  intro r
  obtain ⟨a, b, c, d⟩ := const_run keep x hx n hn
  have hvF : r.varianceF.isFinite = true ∧ r.varianceF.toRat = 0 := by
    show (runFv keep (List.replicate (n + 1) x)).varianceF.isFinite = true ∧ _
    rw [runFv_varianceF, List.length_replicate]
    by_cases hgt : n + 1 > 1
    · rw [if_pos hgt]
      obtain ⟨kf, kv, kz⟩ := ofInt_count (n + 1 - 1) (by omega) (by omega)
      rw [F64.div_finite c kf kz, d, Rat.div_def, Rat.zero_mul]
      exact F64.ofRatS_rep _ F64.rep_zero
    · rw [if_neg hgt]
      exact F64.zero_finite false
  refine ⟨by rw [F64.toRat?_eq_some]; exact ⟨a, b⟩, fun hne => F64.eq_of_toRat_eq a hx b (by rw [b]; exact hne),
    by rw [F64.toRat?_eq_some]; exact ⟨c, d⟩, by rw [F64.toRat?_eq_some]; exact hvF, ?_⟩
  have hz : r.varianceF.isZero = true := (F64.isZero_iff _).mpr ((F64.toRat_eq_zero_iff _).mp hvF.2)
  have : r.stdDev = r.varianceF := by
    show F64.sqrt r.varianceF = r.varianceF
    unfold F64.sqrt
    rw [F64.not_nan_of_finite hvF.1, hz]; rfl
  rw [this, F64.toRat?_eq_some]; exact hvF

/-- The mean lies between `Min()` and `Max()`.  For a non-empty list of at most 2^53 finite samples of magnitude at
most 2^1021 (so that no difference of two of them overflows): `Min()` and `Max()` are samples, the mean is finite, and
`Min() ≤ Mean() ≤ Max()` in the IEEE order = in exact value – after every prefix, since this holds for every list.
Rounding is monotone, so no update can push the mean past the old mean or the new sample.  Without the magnitude
bound it is false: for `-MaxFloat64, MaxFloat64` the difference overflows and the mean is `+Inf` (corpus case). -/
theorem num_f64_mean_between_min_max (keep : Bool) (l : List F64) (hne : l ≠ []) (hn : l.length ≤ 9007199254740992)
    (hl : ∀ x ∈ l, x.isFinite = true ∧ -((2 ^ 1021 : Nat) : Rat) ≤ x.toRat ∧ x.toRat ≤ ((2 ^ 1021 : Nat) : Rat)) :
    let r := runFv keep l
    r.min ∈ l ∧ r.max ∈ l ∧ r.mean.isFinite = true ∧
    F64.le r.min r.mean = true ∧ F64.le r.mean r.max = true ∧
    r.min.toRat ≤ r.mean.toRat ∧ r.mean.toRat ≤ r.max.toRat := by
  intro r
  have hf : ∀ x ∈ l, x.isFinite = true := fun x hx => (hl x hx).1
  obtain ⟨_, _, _, _, _, hfin⟩ := num_f64_minmax keep l
  obtain ⟨m1, m2, hb⟩ := hfin hne hf
  have b1 := hl _ m1
  have b2 := hl _ m2
  rw [← bigB_eq] at b1 b2
  obtain ⟨mf, lo, hi⟩ := mean_between keep r.min.toRat r.max.toRat b1.2.1 b2.2.2 l hne hn
    (fun x hx => ⟨hf x hx, (hb x hx).1, (hb x hx).2⟩)
  exact ⟨m1, m2, mf, (F64.le_iff_toRat_le b1.1 mf).mpr lo, (F64.le_iff_toRat_le mf b2.1).mpr hi, lo, hi⟩

/-- `M2` never goes negative: under the same hypotheses (the empty list included) the accumulated `M2`, `Variance()`
and `StdDev()` are never NaN and never below zero (`+Inf` when a product overflows) – each increment
`(x − oldMean)·(x − newMean)` is a product of two differences of the same sign, because the new mean lies between
the old mean and the sample.  No clamp is needed (the sum-of-squares variant needs one and still cancels). -/
theorem num_f64_variance_nonneg (keep : Bool) (l : List F64) (hn : l.length ≤ 9007199254740992)
    (hl : ∀ x ∈ l, x.isFinite = true ∧ -((2 ^ 1021 : Nat) : Rat) ≤ x.toRat ∧ x.toRat ≤ ((2 ^ 1021 : Nat) : Rat)) :
    let r := runFv keep l
    F64.le (F64.zero false) r.variance = true ∧ F64.le (F64.zero false) r.varianceF = true ∧
    F64.le (F64.zero false) r.stdDev = true ∧ r.stdDev.isNaN = false := by
  intro r
  obtain ⟨a, b, c⟩ := var_nonneg keep l hn (fun x hx => by rw [bigB_eq]; exact hl x hx)
  have hz : (F64.zero false).isNaN = false := by decide
  have hk : (F64.zero false).key = 0 := by decide
  have conv : ∀ v : F64, VarOK v → F64.le (F64.zero false) v = true := by
    intro v hv
    rw [le_iff_key]; exact ⟨hz, hv.1, by rw [hk]; exact hv.2⟩
  exact ⟨conv _ a, conv _ b, conv _ c, c.1⟩

/-- THE STANDARD MODEL OF FLOATING-POINT ARITHMETIC holds for the software binary64 the aggregator is modelled on: every
correctly rounded result `fl q` (each `+ - * /` of finite operands is `ofRatS _ (exact result)`) that is finite
differs from the exact rational `q` by at most `|q|·u + η` AND by at most `|fl q|·u + η`, with the unit roundoff
`u = 2^-53` and `η = 2^-1075` (half the smallest subnormal; it only matters when the result is subnormal).  All `q`,
no magnitude restriction other than "the result did not overflow". -/
theorem num_f64_rounding_error (s : Bool) (q : Rat) (hf : (F64.ofRatS s q).isFinite = true) :
    let r := (F64.ofRatS s q).toRat
    (r - q ≤ F64.absRat q * uF + F64.etaF ∧ q - r ≤ F64.absRat q * uF + F64.etaF) ∧
    (r - q ≤ F64.absRat r * uF + F64.etaF ∧ q - r ≤ F64.absRat r * uF + F64.etaF) ∧
    uF = 1 / ((2 ^ 53 : Nat) : Rat) ∧ F64.etaF = 1 / (2 * ((2 ^ 1074 : Nat) : Rat)) := by
  intro r
  obtain ⟨a, b⟩ := F64.ofRatS_err s q hf
  simp only [div_P53] at a b
  refine ⟨a, b, rfl, ?_⟩
  unfold F64.etaF; rw [F64.two1074_eq]

/-- ERROR OF ONE WELFORD MEAN UPDATE (the float error bound of the running mean, per step).  For a state that has seen
at least one and fewer than 2^53 samples, with a finite mean, and a finite sample, both of magnitude at most 2^1021:
the computed difference `d = val − oldMean` and the new mean are finite, and the new mean differs from the EXACT update
`oldMean + (val − oldMean)/n` of the same state by at most

    (|mean'|·u + η) + (|d/n|·u + η) + (|val − oldMean|·u + η)/n          (u = 2^-53, η = 2^-1075)

– one term per rounding (`+`, `/`, `−`).  With all magnitudes ≤ M this is about `(1 + 4/n)·u·M`, so over a run the
deviation from the exact mean grows at most linearly, ≈ `n·u·max|x|` (the accumulated bound: `num_f64_mean_error`).
The first sample is exact (`num_f64_constant_exact` with n = 0). -/
theorem num_f64_mean_step_error (keep : Bool) (s : NumF) (x : F64) (hk : 1 ≤ s.samples) (hn : s.samples + 1 ≤ 9007199254740992)
    (hm : s.mean.isFinite = true) (hx : x.isFinite = true)
    (bm : -((2 ^ 1021 : Nat) : Rat) ≤ s.mean.toRat ∧ s.mean.toRat ≤ ((2 ^ 1021 : Nat) : Rat))
    (bx : -((2 ^ 1021 : Nat) : Rat) ≤ x.toRat ∧ x.toRat ≤ ((2 ^ 1021 : Nat) : Rat)) :
    let s' := NumF.samplef keep s x
    let n : Rat := ((s.samples + 1 : Nat) : Rat)
    let d := F64.sub x s.mean
    let exact := s.mean.toRat + (x.toRat - s.mean.toRat) / n
    let B := (F64.absRat s'.mean.toRat * uF + F64.etaF) + (F64.absRat (d.toRat / n) * uF + F64.etaF) +
      (F64.absRat (x.toRat - s.mean.toRat) * uF + F64.etaF) / n
    s'.samples = s.samples + 1 ∧ s'.mean.isFinite = true ∧ d.isFinite = true ∧
    s'.mean.toRat - exact ≤ B ∧ exact - s'.mean.toRat ≤ B := by
  intro s' n d exact B
  rw [← bigB_eq] at bm bx
  obtain ⟨a, b, c⟩ := mean_step_error_full keep s x hk hn hm hx bm bx
  exact ⟨rfl, a, b, c.1, c.2⟩

/-- ACCUMULATED ERROR OF THE RUNNING MEAN ("equal to the mean of the full sample list within floating-point tolerance",
with the tolerance made explicit).  For every non-empty list of at most 2^53 finite samples of magnitude at most `M`
(any rational `M ≤ 2^1021`): `Mean()` is finite, lies in `[-M, M]`, and differs from the EXACT mean of the sample
values by at most

    (n + 11)/2 · u · M  +  (n + 3) · η                    (n = Count(), u = 2^-53, η = 2^-1075)

– linear growth in `n` with constant 1/2; e.g. a million samples: `|Mean() − exact| < 5.6·10^-11 · max|x|`.  The list is
arbitrary, so the bound holds after every prefix of every history.  Proof: `num_f64_mean_step_error` per step; scaled
by the count the error recurrence becomes additive, `k·m_k − S_k = ((k−1)·m_{k−1} − S_{k−1}) + k·δ_k` with
`k·|δ_k| ≤ (k+5)·M·u + (2k+2)·η` (`Proofs/C07NumF64Acc.lean`).  Outside the magnitude class the statement fails
(`-MaxFloat64, MaxFloat64`: the mean is `+Inf`, see the example below). -/
theorem num_f64_mean_error (keep : Bool) (M : Rat) (hM : M ≤ ((2 ^ 1021 : Nat) : Rat)) (l : List F64) (hne : l ≠ [])
    (hn : l.length ≤ 9007199254740992)
    (hl : ∀ x ∈ l, x.isFinite = true ∧ -M ≤ x.toRat ∧ x.toRat ≤ M) :
    let r := runFv keep l
    let n : Rat := (l.length : Rat)
    let R := (n + 11) / 2 * (M * uF) + (n + 3) * F64.etaF
    r.samples = l.length ∧ r.mean.isFinite = true ∧ -M ≤ r.mean.toRat ∧ r.mean.toRat ≤ M ∧
    r.mean.toRat - mean (l.map F64.toRat) ≤ R ∧ mean (l.map F64.toRat) - r.mean.toRat ≤ R := by
  intro r n R
  rw [← bigB_eq] at hM
  obtain ⟨a, b, c, d⟩ := mean_acc_error keep M hM l hne hn hl
  exact ⟨runFv_samples keep l, a, b, c, d.1, d.2⟩


/-- Just outside the magnitude class of `num_f64_mean_error` (`M ≤ 2^1021`): the two finite samples `-MaxFloat64, MaxFloat64`
have the exact mean 0, but `val − oldMean` overflows and `Mean()` is `+Inf` – no tolerance can hold beyond the class. -/
theorem num_f64_mean_overflow_counterexample :
    let l := [F64.neg maxF64, maxF64]
    (∀ x ∈ l, x.isFinite = true) ∧ mean (l.map F64.toRat) = 0 ∧
    (runFv false l).mean = F64.inf false ∧ (runFv false l).mean.isFinite = false := by
  decide_run

/-- ACCUMULATED ERROR OF `M2` AND OF `Variance()` (the "sample standard deviation … within floating-point tolerance" part,
with the tolerance explicit).  For every non-empty list of at most 2^53 finite samples of magnitude at most `M = 2^e`
(`e ≤ 480`, so that no product of two differences overflows; smaller data are covered by `e = 0`):

* the accumulated `M2` (field `variance`) is finite, `|M2| ≤ 8n·M²`, and differs from the EXACT `Σ (x − mean)²` of the
  sample values by at most `G = (15·n(n+1)/2 + 55n)·u·M² + 2n·η`;
* with at least two samples `Variance()` is finite and differs from the exact sample variance `Σ (x − mean)²/(n−1)` by
  at most `G/(n−1) + 16·u·M² + η` – about `7.5·n·u·M²`: linear in the number of samples, like the mean.

Every rounding of the update `variance += (val − oldMean)·(val − mean)` is accounted for: the two differences (each also
carries the accumulated error of its mean, `num_f64_mean_error`), the product, and the sum, whose magnitude is bounded by
monotone rounding against the float `8K·M²` (`Proofs/C07NumF64Var.lean`).  The list is arbitrary: the bound holds after
every prefix.  `StdDev()` is `math.Sqrt` of `Variance()`, one more correctly rounded operation (not bounded here). -/
theorem num_f64_variance_error (keep : Bool) (e : Nat) (he : e ≤ 480) (l : List F64) (hne : l ≠ [])
    (hn : l.length ≤ 9007199254740992)
    (hl : ∀ x ∈ l, x.isFinite = true ∧ -((2 ^ e : Nat) : Rat) ≤ x.toRat ∧ x.toRat ≤ ((2 ^ e : Nat) : Rat)) :
    let r := runFv keep l
    let q := l.map F64.toRat
    let n : Rat := (l.length : Rat)
    let M : Rat := ((2 ^ e : Nat) : Rat)
    let G := (15 * (n * (n + 1)) / 2 + 55 * n) * (M * (M * uF)) + 2 * n * F64.etaF
    let T := G / (n - 1) + 16 * (M * M * uF) + F64.etaF
    (r.variance.isFinite = true ∧ -(n * (8 * M * M)) ≤ r.variance.toRat ∧ r.variance.toRat ≤ n * (8 * M * M) ∧
      r.variance.toRat - m2 q ≤ G ∧ m2 q - r.variance.toRat ≤ G) ∧
    (2 ≤ l.length → r.varianceF.isFinite = true ∧
      r.varianceF.toRat - sampleVariance q ≤ T ∧ sampleVariance q - r.varianceF.toRat ≤ T) := by
  intro r q n M G T
  have hcls := magClass_pow2 e he
  exact ⟨var_acc_error_gen keep _ hcls l hne hn hl, fun h2 => variance_acc_error_gen keep _ hcls l h2 hn hl⟩

/-- `num_f64_variance_error` FOR DATA OF ANY SCALE, small magnitudes included: the same statement for every power of two
`M = 2^j / 2^1074 = 2^(j − 1074)` with `536 ≤ j ≤ 1554`, i.e. `2^-538 ≤ M ≤ 2^480` (e.g. `j = 1064`: samples within
`±2^-10`), so the tolerance scales with the data (`u·M²`) down to the point where `8·M²` leaves the normal range.  The proof
is the same run invariant; the magnitude class is abstracted as `MagClass M` (`0 ≤ M ≤ 2^1021`, `η ≤ M·u`, `K·8·M²` a float
for every count `K ≤ 2^53`), `Proofs/C07NumF64Var.lean`. -/
theorem num_f64_variance_error_scaled (keep : Bool) (j : Nat) (h1 : 536 ≤ j) (h2 : j ≤ 1554) (l : List F64) (hne : l ≠ [])
    (hn : l.length ≤ 9007199254740992)
    (hl : ∀ x ∈ l, x.isFinite = true ∧ -(((2 ^ j : Nat) : Rat) / F64.two1074) ≤ x.toRat ∧
      x.toRat ≤ ((2 ^ j : Nat) : Rat) / F64.two1074) :
    let r := runFv keep l
    let q := l.map F64.toRat
    let n : Rat := (l.length : Rat)
    let M : Rat := ((2 ^ j : Nat) : Rat) / F64.two1074
    let G := (15 * (n * (n + 1)) / 2 + 55 * n) * (M * (M * uF)) + 2 * n * F64.etaF
    let T := G / (n - 1) + 16 * (M * M * uF) + F64.etaF
    (r.variance.isFinite = true ∧ -(n * (8 * M * M)) ≤ r.variance.toRat ∧ r.variance.toRat ≤ n * (8 * M * M) ∧
      r.variance.toRat - m2 q ≤ G ∧ m2 q - r.variance.toRat ≤ G) ∧
    (2 ≤ l.length → r.varianceF.isFinite = true ∧
      r.varianceF.toRat - sampleVariance q ≤ T ∧ sampleVariance q - r.varianceF.toRat ≤ T) ∧
    F64.two1074 = ((2 ^ 1074 : Nat) : Rat) := by
  intro r q n M G T
  have hcls := magClass_scaled j h1 h2
  exact ⟨var_acc_error_gen keep _ hcls l hne hn hl, fun h => variance_acc_error_gen keep _ hcls l h hn hl,
    F64.two1074_eq⟩

/-- Just outside the magnitude class of `num_f64_variance_error` (but inside that of `num_f64_mean_error`): for the two
samples `2^600, −2^600` the mean is exactly 0, yet the product `(−2^601)·(−2^600)` overflows – `M2`, `Variance()` and
`StdDev()` are `+Inf` (the exact `M2 = 2^1201` exceeds `MaxFloat64`): beyond the class there is no finite result to bound. -/
theorem num_f64_variance_overflow_counterexample :
    let l := [F64.ofSM false (1623 * 4503599627370496), F64.ofSM true (1623 * 4503599627370496)]
    (∀ x ∈ l, x.isFinite = true ∧ -((2 ^ 600 : Nat) : Rat) ≤ x.toRat ∧ x.toRat ≤ ((2 ^ 600 : Nat) : Rat)) ∧
    (runFv false l).mean.toRat = 0 ∧ (runFv false l).variance = F64.inf false ∧
    (runFv false l).varianceF = F64.inf false ∧ (runFv false l).stdDev = F64.inf false := by
  decide_run

/-- THE TOLERANCE CHECK OF THE CORRESPONDENCE IS THE PROVED ONE.  The driver op `agg numerr` evaluates `numErrCheck`
(`Model/C07NumErr.lean`: is `Mean()` within `meanErrBound`, `M2` within `m2ErrBound`, `Variance()` within
`varianceErrBound` of the exact rational statistics?), and the harness evaluates the same inequalities for the REAL
`MatchNumerical` with `math/big`.  For every list of the class (`inErrClass`: `e ≤ 480`, non-empty, finite samples of
magnitude ≤ 2^e; at most 2^53 of them) all three flags are `true` – so a real run that prints a `0` contradicts
`num_f64_mean_error` / `num_f64_variance_error` (or the bit-for-bit tie `agg numfv`), e.g. a variance computed by the
cancelling sum-of-squares formula. -/
theorem num_f64_error_check_true (e : Nat) (l : List F64) (hc : inErrClass e l = true)
    (hn : l.length ≤ 9007199254740992) : numErrCheck e l = (true, true, true) := by
  unfold inErrClass at hc
  simp only [Bool.and_eq_true, decide_eq_true_eq, Bool.not_eq_true', List.all_eq_true] at hc
  obtain ⟨⟨he, hne⟩, hall⟩ := hc
  have hne' : l ≠ [] := by intro h; rw [h] at hne; simp at hne
  have hl : ∀ x ∈ l, x.isFinite = true ∧ -((2 ^ e : Nat) : Rat) ≤ x.toRat ∧ x.toRat ≤ ((2 ^ e : Nat) : Rat) :=
    fun x hx => ⟨(hall x hx).1.1, (hall x hx).1.2, (hall x hx).2⟩
  have hM : ((2 ^ e : Nat) : Rat) ≤ ((2 ^ 1021 : Nat) : Rat) :=
    Rat.natCast_le_natCast.mpr (Nat.pow_le_pow_right (by decide) (by omega))
  obtain ⟨_, mf, _, _, m1, m2'⟩ := num_f64_mean_error false _ hM l hne' hn hl
  obtain ⟨⟨vf, _, _, v1, v2⟩, hv⟩ := num_f64_variance_error false e he l hne' hn hl
  unfold numErrCheck within meanErrBound m2ErrBound varianceErrBound
  simp only [Prod.mk.injEq, Bool.and_eq_true, Bool.or_eq_true, decide_eq_true_eq]
  refine ⟨⟨mf, m1, m2'⟩, ⟨vf, v1, v2⟩, ?_⟩
  by_cases h2 : l.length < 2
  · exact Or.inl h2
  · obtain ⟨a, b, c⟩ := hv (by omega)
    exact Or.inr ⟨a, b, c⟩

/-- THE SAME FOR DATA OF ANY SCALE: `agg numerr` with a NEGATIVE exponent (`M = 2^e`, `-538 ≤ e < 0`, `j = 1074 + e`)
evaluates `numErrCheckJ`, whose tolerances are `num_f64_mean_error` / `num_f64_variance_error_scaled` at `M = 2^(j − 1074)` –
proportional to the scale of the data (`u·M`, `u·M²`), so an error that is small against 1 but large against the samples
(readings like 0.0003 ± 0.0001) is a `0` flag.  All three flags are `true` on the whole class `inErrClassJ`
(`536 ≤ j ≤ 1554`, which also covers the exponents `0 … 480` of `num_f64_error_check_true`). -/
theorem num_f64_error_check_scaled_true (j : Nat) (l : List F64) (hc : inErrClassJ j l = true)
    (hn : l.length ≤ 9007199254740992) : numErrCheckJ j l = (true, true, true) := by
  unfold inErrClassJ at hc
  simp only [Bool.and_eq_true, decide_eq_true_eq, Bool.not_eq_true', List.all_eq_true] at hc
  obtain ⟨⟨⟨h1, h2⟩, hne⟩, hall⟩ := hc
  have hne' : l ≠ [] := by intro h; rw [h] at hne; simp at hne
  have hl : ∀ x ∈ l, x.isFinite = true ∧ -(scaleOf j) ≤ x.toRat ∧ x.toRat ≤ scaleOf j :=
    fun x hx => ⟨(hall x hx).1.1, (hall x hx).1.2, (hall x hx).2⟩
  have hcls := magClass_scaled j h1 h2
  have hM : scaleOf j ≤ ((2 ^ 1021 : Nat) : Rat) := by rw [← bigB_eq]; exact hcls.le
  obtain ⟨_, mf, _, _, m1, m2'⟩ := num_f64_mean_error false _ hM l hne' hn hl
  obtain ⟨vf, _, _, v1, v2⟩ := var_acc_error_gen false _ hcls l hne' hn hl
  unfold numErrCheckJ within meanErrBound m2ErrBound varianceErrBound
  simp only [Prod.mk.injEq, Bool.and_eq_true, Bool.or_eq_true, decide_eq_true_eq]
  refine ⟨⟨mf, m1, m2'⟩, ⟨vf, v1, v2⟩, ?_⟩
  by_cases h2' : l.length < 2
  · exact Or.inl h2'
  · obtain ⟨a, b, c⟩ := variance_acc_error_gen false _ hcls l (by omega) hn hl
    exact Or.inr ⟨a, b, c⟩

/-- `StdDev()` = `math.Sqrt(Variance())`, FOR EVERY SAMPLE LIST.  The software `F64.sqrt` (compared bit for bit with
`math.Sqrt` by `agg numf` / `numfv`) takes the integer square root `s` of the scaled argument by Newton's iteration –
proved correct for every natural number (`F64.isqrt_spec`: `s² ≤ N < (s+1)²`, the fuel always suffices) – and rounds once.
Hence, whenever `Variance()` is finite and positive: `StdDev()` is FINITE, it is the correct rounding of a rational `t`
with `(t − 2^-603)² ≤ Variance() ≤ (t + 2^-603)²` (the exact root lies within `2^-603` of `t`, and `t² = Variance()` when
the root is rational at that scale), and `|StdDev() − t| ≤ t·u + η`.  A zero variance (either sign) is returned as it
is.  Within the class of `num_f64_variance_error` (finite samples of magnitude ≤ 2^e, e ≤ 480, at least two of them)
`Variance()` is finite and not negative, so `StdDev()` is always finite there: the chain
samples → `M2` → `Variance()` → `StdDev()` has an explicit tolerance at every link. -/
theorem num_f64_stddev (keep : Bool) (l : List F64) :
    let r := runFv keep l
    r.stdDev = F64.sqrt r.varianceF ∧
    (r.varianceF.isZero = true → r.stdDev = r.varianceF) ∧
    (r.varianceF.isFinite = true → 0 < r.varianceF.toRat →
      r.stdDev.isFinite = true ∧
      ∃ t : Rat, F64.sqrtEps ≤ t ∧ r.stdDev = F64.ofRatS false t ∧
        (t - F64.sqrtEps) * (t - F64.sqrtEps) ≤ r.varianceF.toRat ∧
        r.varianceF.toRat ≤ (t + F64.sqrtEps) * (t + F64.sqrtEps) ∧
        r.stdDev.toRat - t ≤ t * uF + F64.etaF ∧ t - r.stdDev.toRat ≤ t * uF + F64.etaF) ∧
    (∀ e : Nat, e ≤ 480 → 2 ≤ l.length → l.length ≤ 9007199254740992 →
      (∀ x ∈ l, x.isFinite = true ∧ -((2 ^ e : Nat) : Rat) ≤ x.toRat ∧ x.toRat ≤ ((2 ^ e : Nat) : Rat)) →
      r.stdDev.isFinite = true) ∧
    F64.sqrtEps = 1 / ((2 ^ 603 : Nat) : Rat) := by
  intro r
  have hz : r.varianceF.isZero = true → r.stdDev = r.varianceF := by
    intro hz
    have hm : r.varianceF.mag = 0 := (F64.isZero_iff _).mp hz
    have hn : r.varianceF.isNaN = false := by simp [F64.isNaN, hm]
    show F64.sqrt r.varianceF = r.varianceF
    unfold F64.sqrt
    rw [hn, hz]; rfl
  refine ⟨rfl, hz, fun hf hp => sqrt_finite_err r.varianceF hf hp, ?_, rfl⟩
  intro e he h2 hn hl
  have hne : l ≠ [] := by intro h; rw [h] at h2; simp at h2
  obtain ⟨vf, _, _⟩ := (num_f64_variance_error keep e he l hne hn hl).2 h2
  have hl' : ∀ x ∈ l, x.isFinite = true ∧ -((2 ^ 1021 : Nat) : Rat) ≤ x.toRat ∧ x.toRat ≤ ((2 ^ 1021 : Nat) : Rat) := by
    intro x hx
    obtain ⟨a, b, c⟩ := hl x hx
    have hM : ((2 ^ e : Nat) : Rat) ≤ ((2 ^ 1021 : Nat) : Rat) :=
      Rat.natCast_le_natCast.mpr (Nat.pow_le_pow_right (by decide) (by omega))
    exact ⟨a, Rat.le_trans (Rat.neg_le_neg hM) b, Rat.le_trans c hM⟩
  obtain ⟨_, nn, _, _⟩ := num_f64_variance_nonneg keep l hn hl'
  have h0 : 0 ≤ r.varianceF.toRat := by
    have := (F64.le_iff_toRat_le (F64.zero_finite false).1 vf).mp nn
    rwa [(F64.zero_finite false).2] at this
  by_cases hpos : 0 < r.varianceF.toRat
  · exact (sqrt_finite_err r.varianceF vf hpos).1
  · have h00 : r.varianceF.toRat = 0 := Rat.le_antisymm (Rat.not_lt.mp hpos) h0
    have hzz : r.varianceF.isZero = true := (F64.isZero_iff _).mpr ((F64.toRat_eq_zero_iff _).mp h00)
    rw [hz hzz]; exact vf

/-- END TO END: `StdDev()` against the EXACT sample variance `σ²` of the sample values.  In the class of
`num_f64_variance_error` (finite samples of magnitude ≤ 2^e, e ≤ 480, between 2 and 2^53 of them) with a positive
`Variance()`: `StdDev()` is finite and is the correct rounding of a rational `t`, `|StdDev() − t| ≤ t·u + η`, with

    (t − 2^-603)² − T  ≤  σ²  ≤  (t + 2^-603)² + T,        T = `varianceErrBound 2^e n` (the tolerance of `Variance()`).

(Square roots are irrational, so the tolerance is stated on the squares.)  With `num_f64_mean_error` this makes every
clause of "count, mean, sample standard deviation, min and max equal those of the full sample list within floating-point
tolerance" a theorem with an explicit tolerance; count, min and max are exact (`num_f64_count`, `num_f64_minmax`). -/
theorem num_f64_stddev_error (keep : Bool) (e : Nat) (he : e ≤ 480) (l : List F64) (h2 : 2 ≤ l.length)
    (hn : l.length ≤ 9007199254740992)
    (hl : ∀ x ∈ l, x.isFinite = true ∧ -((2 ^ e : Nat) : Rat) ≤ x.toRat ∧ x.toRat ≤ ((2 ^ e : Nat) : Rat))
    (hpos : 0 < (runFv keep l).varianceF.toRat) :
    let r := runFv keep l
    let σ2 := sampleVariance (l.map F64.toRat)
    let T := varianceErrBound ((2 ^ e : Nat) : Rat) l.length
    r.stdDev.isFinite = true ∧
    ∃ t : Rat, F64.sqrtEps ≤ t ∧ r.stdDev = F64.ofRatS false t ∧
      r.stdDev.toRat - t ≤ t * uF + F64.etaF ∧ t - r.stdDev.toRat ≤ t * uF + F64.etaF ∧
      (t - F64.sqrtEps) * (t - F64.sqrtEps) - T ≤ σ2 ∧ σ2 ≤ (t + F64.sqrtEps) * (t + F64.sqrtEps) + T := by
  intro r σ2 T
  have hne : l ≠ [] := by intro h; rw [h] at h2; simp at h2
  obtain ⟨vf, v1, v2⟩ := (num_f64_variance_error keep e he l hne hn hl).2 h2
  obtain ⟨_, _, hs, _, _⟩ := num_f64_stddev keep l
  obtain ⟨sf, t, t0, t1, b1, b2, e1, e2⟩ := hs vf hpos
  -- `T` is the bound of `num_f64_variance_error`, by definition
  have v1' : r.varianceF.toRat - σ2 ≤ T := v1
  have v2' : σ2 - r.varianceF.toRat ≤ T := v2
  exact ⟨sf, t, t0, t1, e1, e2, by grind, by grind⟩

/-! ### non-vacuity of the float theorems -/

/-- "1.5", "x", "-2", "1e999" (range error), "0x1p-1", "nan". -/
def exNumHist : List Bytes := [[49, 46, 53], [120], [45, 50], [49, 101, 57, 57, 57], [48, 120, 49, 112, 45, 49], [110, 97, 110]]
example : ((runF true exNumHist).samples, (runF true exNumHist).parseErrors, (runF true exNumHist).values.length) = (4, 2, 4) := by
  decide +kernel
/-- 1, 2, 3, 4 (running means 1, 1.5, 2, 2.5) and the odd numbers 1 … 15 (running means 1 … 8) as floats. -/
def exInts : List F64 := [1, 2, 3, 4].map F64.ofInt
def exInts8 : List F64 := [1, 3, 5, 7, 9, 11, 13, 15].map F64.ofInt
example : ∀ x ∈ exInts8, x.isFinite = true := by decide_run exInts8
example : AllRep (Numerical.new ratOps) (exInts.map F64.toRat) := allRep_of_allRepB _ _ (by decide_rep exInts)
example : AllRep (Numerical.new ratOps) (exInts8.map F64.toRat) := allRep_of_allRepB _ _ (by decide_rep exInts8)
/-- mean 8, M2 168, sample variance 24 (a float), computed without any rounding. -/
example : (runFv true exInts8).mean = F64.ofInt 8 ∧ (runFv true exInts8).variance = F64.ofInt 168 ∧
    (runFv true exInts8).varianceF = F64.ofInt 24 := by decide_run exInts8
example : F64.Rep (sampleVariance (exInts8.map F64.toRat)) := rep_of_repB (by decide +kernel)
/-- 2, 4, 4: the running mean 10/3 is not a float – the condition fails, the mean is rounded. -/
example : allRepB (Numerical.new ratOps) (([2, 4, 4].map F64.ofInt).map F64.toRat) = false := by decide_rep
/-- 0.1 + 0.2 + 0.3 does round: the condition is not vacuous. -/
example : allRepB (Numerical.new ratOps) ([F64.ofRat (1/10), F64.ofRat (2/10), F64.ofRat (3/10)].map F64.toRat) = false := by
  decide_rep
example : ∀ x ∈ exInts, x.isFinite = true ∧ -((2 ^ 1021 : Nat) : Rat) ≤ x.toRat ∧ x.toRat ≤ ((2 ^ 1021 : Nat) : Rat) := by
  decide_run exInts
/-- a sorted arrangement with both zeros and a NaN: `[NaN, -0, +0, 1]` and `[NaN, +0, -0, 1]` are both sorted. -/
example : 1 ≤ (runFv true exInts).samples ∧ (runFv true exInts).samples + 1 ≤ 9007199254740992 ∧
    (runFv true exInts).mean.isFinite = true ∧ (F64.ofRat (1/10)).isFinite = true := by decide_run exInts
example : (F64.ofRatS false (1/10)).isFinite = true ∧ (F64.ofRatS false (1/10)).toRat ≠ 1/10 := by decide +kernel
def exMixed : List F64 := [F64.ofInt 1, F64.zero true, F64.nan, F64.zero false]
/-- `[1, -0, NaN, +0]`: the zeros are one value with multiplicity 2, so the mode is a zero – ascending and reversed;
`[1, NaN, 2]`: ascending the mode is the NaN (no number twice), reversed it is 2. -/
example : (modeF [F64.nan, F64.zero true, F64.zero false, F64.ofInt 1]).isNaN = false ∧
    F64.eq (modeF [F64.nan, F64.zero true, F64.zero false, F64.ofInt 1]) (F64.zero false) = true ∧
    (modeF [F64.nan, F64.ofInt 1, F64.ofInt 2]).isNaN = true ∧
    modeF [F64.ofInt 2, F64.ofInt 1, F64.nan] = F64.ofInt 2 := by decide +kernel
example : IsSortedF false [F64.nan, F64.ofInt 1, F64.ofInt 2] [F64.ofInt 1, F64.nan, F64.ofInt 2] ∧
    IsSortedF true [F64.ofInt 2, F64.ofInt 1, F64.nan] [F64.ofInt 1, F64.nan, F64.ofInt 2] :=
  ⟨⟨by decide +kernel, by decide +kernel⟩, ⟨by decide +kernel, by decide +kernel⟩⟩
/-- hypotheses of `num_f64_order_stats_exact`: finite samples with both zeros, and a sorted arrangement of them -/
example : (∀ x ∈ [F64.ofInt 1, F64.zero true, F64.zero false], x.isFinite = true) ∧
    IsSortedF true [F64.ofInt 1, F64.zero false, F64.zero true] [F64.ofInt 1, F64.zero true, F64.zero false] :=
  ⟨by decide +kernel, by decide +kernel, by decide +kernel⟩
example : IsSortedF false [F64.nan, F64.zero true, F64.zero false, F64.ofInt 1] exMixed ∧
    IsSortedF false [F64.nan, F64.zero false, F64.zero true, F64.ofInt 1] exMixed := by
  exact ⟨⟨by decide +kernel, by decide +kernel⟩, ⟨by decide +kernel, by decide +kernel⟩⟩
/-- all samples `+Inf`: `Min()` is `+Inf` (was `MaxFloat64` before bda1842); the overflow witness is real -/
example : (runFv false [F64.inf false, F64.inf false]).min = F64.inf false := by decide +kernel
example : (runFv false [F64.neg maxF64, maxF64]).mean = F64.inf false := by decide_run
example : inErrClass 0 [F64.ofRat (1/10), F64.ofRat (2/10), F64.ofRat (3/10)] = true := by decide +kernel
/-- j = 1064 (M = 2^-10): 0.0001, 0.0002, 0.0003 are in the scaled class of `num_f64_error_check_scaled_true`. -/
example : inErrClassJ 1064 [F64.ofRat (1/10000), F64.ofRat (2/10000), F64.ofRat (3/10000)] = true := by decide +kernel
/-- hypotheses of `num_f64_variance_error_scaled` with j = 1064 (M = 2^-10) on 0.0001, 0.0002, 0.0003. -/
example : ∀ x ∈ [F64.ofRat (1/10000), F64.ofRat (2/10000), F64.ofRat (3/10000)],
    x.isFinite = true ∧ -(((2 ^ 1064 : Nat) : Rat) / F64.two1074) ≤ x.toRat ∧
      x.toRat ≤ ((2 ^ 1064 : Nat) : Rat) / F64.two1074 := by decide +kernel
/-- hypotheses of `num_f64_stddev_error` on 1, 3, …, 15 (e = 4). -/
example : (∀ x ∈ exInts8, x.isFinite = true ∧ -((2 ^ 4 : Nat) : Rat) ≤ x.toRat ∧ x.toRat ≤ ((2 ^ 4 : Nat) : Rat)) ∧
    0 < (runFv false exInts8).varianceF.toRat := by decide_run exInts8
/-- `num_f64_stddev`: 1, 3, … , 15 have the positive finite variance 24 (√24 is irrational: the bracket is strict). -/
example : (runFv true exInts8).varianceF.isFinite = true ∧ 0 < (runFv true exInts8).varianceF.toRat := by decide_run exInts8
/-- hypotheses of `num_f64_variance_error` (e = 0) on 0.1, 0.2, 0.3: `M2` is rounded (it is not the exact value). -/
example : (runFv false [F64.ofRat (1/10), F64.ofRat (2/10), F64.ofRat (3/10)]).variance.toRat ≠
    m2 ([F64.ofRat (1/10), F64.ofRat (2/10), F64.ofRat (3/10)].map F64.toRat) := by decide_run
example : ∀ x ∈ [F64.ofRat (1/10), F64.ofRat (2/10), F64.ofRat (3/10)],
    x.isFinite = true ∧ -((2 ^ 0 : Nat) : Rat) ≤ x.toRat ∧ x.toRat ≤ ((2 ^ 0 : Nat) : Rat) := by decide +kernel
/-- hypotheses of `num_f64_mean_error` on 0.1, 0.2, 0.3 (M = 1): the mean IS rounded, and the bound holds with room. -/
example : ∀ x ∈ [F64.ofRat (1/10), F64.ofRat (2/10), F64.ofRat (3/10)],
    x.isFinite = true ∧ -(1 : Rat) ≤ x.toRat ∧ x.toRat ≤ 1 := by decide +kernel
example : (runFv false [F64.ofRat (1/10), F64.ofRat (2/10), F64.ofRat (3/10)]).mean.toRat ≠
    mean ([F64.ofRat (1/10), F64.ofRat (2/10), F64.ofRat (3/10)].map F64.toRat) := by decide_run

/-! ## `Analyze()` between the samples: the numerical aggregator as a state machine

`Model/C07NumHist.lean`.  `Analyze()` is not a pure accessor – it sorts `s.values` IN PLACE and hands out a view of that
slice – and `rare analyze --extra` calls it on every 100 ms refresh, between the samples.  A history is a list of calls
`Samplef(v)` / `Sample(element)` / `Analyze()`; `HistRun` runs it with the sort specified by its contract only (any sorted
arrangement, Go's pdqsort is not stable), `histRun` is the executable instance the correspondence op `agg numh` compares
with the real aggregator after EVERY prefix of the history. -/

/-- **Every schedule of `Analyze()` calls gives the same answers.**  For every history `ops` of calls on a new aggregator,
every run `h` of it (any sorting algorithm), with `l` the samples handed to `Samplef` in arrival order:

1. `Count`, `Mean`, `Variance`, `StdDev`, `Min`, `Max`, `ParseErrors` are those of the plain `Samplef` fold over `l`
   (`runFv`: everything the other `num_f64_*` theorems say about it applies) – `Analyze()` touches no moment;
2. the stored values are an arrangement of the kept samples: nothing is lost or duplicated by the in-place sorts;
3. one view per `Analyze()` call, and the view of EVERY `Analyze()` – however many came before it, wherever they were –
   is a sorted arrangement of ALL samples kept before that call;
4. so is the view `o` of any further `Analyze()` on the final state, and its `Median()`, every `Quantile(p)` and `Mode()`
   are those of a fresh sort of the kept samples (up to the sign of a zero / the identity of a NaN): `num_f64_order_stats`,
   `num_f64_mode_any` describe them.  The order statistics depend on the multiset of samples only – not on the arrival
   order, not on the refresh schedule;
5. the executable machine `histRun` (merge sort in place) is one such run. -/
theorem num_f64_analyze_any_schedule (keep rev : Bool) (ops : List NumOp) (s : NumF) (vs : List (List F64))
    (h : HistRun keep rev NumF.new ops s vs) :
    let l := histSamples ops
    let kept := keptOf keep l
    (s.samples = l.length ∧ s.mean = (runFv keep l).mean ∧ s.varianceF = (runFv keep l).varianceF ∧
      s.stdDev = (runFv keep l).stdDev ∧ s.min = (runFv keep l).min ∧ s.max = (runFv keep l).max ∧
      s.parseErrors = ops.countP NumOp.isParseError) ∧
    s.values.Perm kept ∧
    (vs.length = ops.countP NumOp.isAnalyze ∧
      ∀ pre post, ops = pre ++ NumOp.analyze :: post →
        ∃ o, vs[pre.countP NumOp.isAnalyze]? = some o ∧ IsSortedF rev o (keptOf keep (histSamples pre))) ∧
    (∀ o, IsSortedF rev o s.values →
      IsSortedF rev o kept ∧
      sameF (medianF o) (medianF (analyzeF rev kept)) = true ∧
      (∀ p, ∃ x x', quantileF o p = .ok x ∧ quantileF (analyzeF rev kept) p = .ok x' ∧ sameF x x' = true) ∧
      sameF (modeF o) (modeF (analyzeF rev kept)) = true) ∧
    HistRun keep rev NumF.new ops (histRun keep rev ops).1 (histRun keep rev ops).2 := by
  intro l kept
  obtain ⟨⟨h1, h2, h3, h4, h5, h6, _⟩, hperm⟩ := histRun_final keep rev ops s vs h
  have hv : s.varianceF = (runFv keep l).varianceF := by
    unfold NumF.varianceF Numerical.varianceOf
    rw [h1, h3]
  refine ⟨⟨?_, h2, hv, ?_, h4, h5, h6⟩, hperm, ⟨histRun_views_length keep rev h, ?_⟩, ?_, histRun_is_run keep rev ops NumF.new⟩
  · rw [h1]; exact runFv_samples keep l
  · unfold NumF.stdDev; rw [hv]
  · intro pre post e
    exact histRun_view keep rev ops s vs h pre post e
  · intro o ho
    have hs : IsSortedF rev o kept := ⟨ho.1.trans hperm, ho.2⟩
    have hf := analyzeF_sorted rev kept
    exact ⟨hs, medianF_sorted_unique rev o _ kept hs hf, fun p => quantileF_sorted_unique rev o _ kept hs hf p,
      modeF_sorted_unique rev o _ kept hs hf⟩

/-- **What `Reverse` (`rare analyze --reverse`) means.**  The view sorted with `Reverse` is the ascending view read
backwards: rank `k` of the ascending arrangement and rank `n-1-k` of the reversed one are the same value (up to the sign of
a zero / the identity of a NaN), for every pair of sorted arrangements.  So `Quantile(p)` with `Reverse` is the
`(n-1-⌊n·p⌋)`-th smallest sample, and `Median()` (rank `⌊n/2⌋` in both) is the UPPER median ascending but the LOWER
median with `Reverse` when `n` is even (`n = 4`: ascending rank 2, reversed rank 2 = ascending rank 1). -/
theorem num_f64_reverse_mirrors (l s s' : List F64) (hs : IsSortedF false s l) (hs' : IsSortedF true s' l)
    (k : Nat) (hk : k < l.length) :
    ∃ x x', s[k]? = some x ∧ s'[l.length - 1 - k]? = some x' ∧ sameF x x' = true := by
  have h1 : IsSortedF true s.reverse l := (isSortedF_reverse false s l).mp hs
  have len : s.length = l.length := hs.1.length_eq
  have len' : s'.length = l.length := hs'.1.length_eq
  have hk1 : k < s.length := by omega
  have hk2 : l.length - 1 - k < s'.length := by omega
  refine ⟨s[k], s'[l.length - 1 - k], List.getElem?_eq_getElem hk1, List.getElem?_eq_getElem hk2, ?_⟩
  have e : s.reverse[l.length - 1 - k]? = some s[k] := by
    rw [List.getElem?_reverse (by omega)]
    have : s.length - 1 - (l.length - 1 - k) = k := by omega
    rw [this]; exact List.getElem?_eq_getElem hk1
  exact rank_unique true s.reverse s' l h1 hs' _ _ _ e (List.getElem?_eq_getElem hk2)

/-- **When could a re-sort be skipped?**  Appending a sample `v` to a non-empty sorted slice `o` leaves it sorted IFF `v`
is not before the LAST stored value in the sort order – ascending: `v` is not below it; with `Reverse`: `v` is not ABOVE
it (the direction flips with the flag; NaN sorts below every number in both).  In every other case the slice `Analyze()`
finds is unsorted and it has to sort again – which it always does. -/
theorem num_f64_append_keeps_sorted_iff (rev : Bool) (o l : List F64) (last v : F64) (h : IsSortedF rev o l)
    (hl : o.getLast? = some last) :
    IsSortedF rev (o ++ [v]) (l ++ [v]) ↔ (if rev then goLess last v else goLess v last) = false :=
  sorted_append_iff rev o l last v h hl

/-- Just outside: the ASCENDING test `v >= last` does not license skipping the sort when `Reverse` is set.  Samples 1, 2,
a refresh (stored: 2, 1), then 3: `3 >= 1`, yet `2, 1, 3` is not sorted for `Reverse`; read as it stands its median would
be 1 and its mode 2, while EVERY run of the aggregator (which sorts again) answers median 2 and mode 3 at the second
`Analyze()`.  (This is the history with which `agg numh` catches seeded/C07-analyze-ordered-flag.) -/
theorem num_f64_stale_order_counterexample :
    let one := F64.ofInt 1; let two := F64.ofInt 2; let three := F64.ofInt 3
    IsSortedF true [two, one] [one, two] ∧ F64.le one three = true ∧
    ¬ IsSortedF true [two, one, three] [one, two, three] ∧
    medianF [two, one, three] = one ∧ modeF [two, one, three] = two ∧
    (∀ s vs, HistRun true true NumF.new [.samplef one, .samplef two, .analyze, .samplef three, .analyze] s vs →
      ∃ o, vs[1]? = some o ∧ sameF (medianF o) two = true ∧ sameF (modeF o) three = true) := by
  intro one two three
  have hs : IsSortedF true [two, one] [one, two] := ⟨by decide +kernel, by decide +kernel⟩
  refine ⟨hs, by decide +kernel, ?_, by decide +kernel, by decide +kernel, ?_⟩
  · intro hbad
    have := (sorted_append_iff true [two, one] [one, two] one three hs rfl).mp hbad
    revert this
    decide +kernel
  · intro s vs h
    obtain ⟨o, ho, hso⟩ := histRun_view true true _ s vs h [.samplef one, .samplef two, .analyze, .samplef three] [] rfl
    have h3 : IsSortedF true [three, two, one] [one, two, three] := ⟨by decide +kernel, by decide +kernel⟩
    have hso' : IsSortedF true o [one, two, three] := hso
    refine ⟨o, ho, ?_, ?_⟩
    · have := medianF_sorted_unique true o _ _ hso' h3
      have e : medianF [three, two, one] = two := by decide +kernel
      rw [e] at this; exact this
    · have := modeF_sorted_unique true o _ _ hso' h3
      have e : modeF [three, two, one] = three := by decide +kernel
      rw [e] at this; exact this

/-- a history with refreshes, a parse error and a NaN: hypotheses of `num_f64_analyze_any_schedule` on the executable run -/
def exHistOps : List NumOp :=
  [.analyze, .samplef (F64.ofInt 1), .samplef (F64.ofInt 2), .analyze, .sample [120], .samplef F64.nan, .sample [51], .analyze]
example : HistRun true true NumF.new exHistOps (histRun true true exHistOps).1 (histRun true true exHistOps).2 :=
  histRun_is_run true true exHistOps NumF.new
example : (histRun true true exHistOps).1.parseErrors = 1 ∧ (histRun true true exHistOps).1.samples = 4 ∧
    histSamples exHistOps = [F64.ofInt 1, F64.ofInt 2, F64.nan, F64.ofInt 3] ∧ exHistOps.countP NumOp.isAnalyze = 3 := by
  decide +kernel
example : IsSortedF true [F64.ofInt 2, F64.ofInt 1] [F64.ofInt 1, F64.ofInt 2] ∧
    [F64.ofInt 2, F64.ofInt 1].getLast? = some (F64.ofInt 1) := ⟨⟨by decide +kernel, by decide +kernel⟩, rfl⟩

/-! ## `rare reduce` with the static optimiser on (C07 × C10)

`Model/C07AccCompile.lean`: the configuration calls with TEMPLATES, compiled by the shared expression model
`Rare.Expr.compile reg opt` exactly where accumulator.go calls `s.compiler.Compile` (after the "data exists" /
"duplicate name" checks).  `opt` is the static-optimisation switch of the key builder (on in `rare reduce`). -/

/-- The optimiser is invisible to the aggregator: whenever a call sequence (configuration and samples, in any
order) runs with the optimising compiler without a compile-time panic, the same sequence with the plain
compiler yields the SAME aggregator – same definitions (the compiled expressions are equal as interaction trees:
C10 `compile_opt_sound`), same rows, same returned errors. -/
theorem accgroup_optimizer_invisible (reg : Rare.Expr.Registry) (ops : List AccTOp) (s : AccGroup)
    (r : AccGroup × List (Option String)) (h : s.applyAllT reg true ops = .ok r) :
    s.applyAllT reg false ops = .ok r :=
  applyAllT_opt reg ops s r h

/-- `accgroup_fold` for expressions compiled with the optimiser ON.  Configure a fresh aggregator through the
optimising compiler (`cfg`: any `AddGroupExpr` / `AddDataExpr` / `SetSort` calls; hypothesis: no compile-time
panic).  Then (1) the plain compiler gives the same aggregator `s0`, so (2) for every sample history the state is
the left fold of the spec whose column functions are the UNOPTIMISED compiled templates of `s0` – both fail with
the same panic, or both succeed with the same rows. -/
theorem accgroup_fold_optimized (reg : Rare.Expr.Registry) (cfg : List AccTOp) (s0 : AccGroup) (errs : List (Option String))
    (h : ({} : AccGroup).applyAllT reg true cfg = .ok (s0, errs)) (hist : List Bytes) :
    ({} : AccGroup).applyAllT reg false cfg = .ok (s0, errs) ∧ AccReach s0 ∧
    (match s0.run hist, hist.foldlM (specSample s0.specGroups s0.specCols) (fun k => aget s0.data k) with
     | .ok s, .ok st => (∀ k, aget s.data k = st k) ∧ SameDefs s0 s
     | .error m, .error m' => m = m'
     | _, _ => False) := by
  have hr : AccReach s0 := reach_applyAllT reg true cfg {} (s0, errs) AccReach.init h
  refine ⟨applyAllT_opt reg cfg {} _ h, hr, ?_⟩
  have := accgroup_fold s0 hr hist
  revert this
  cases s0.run hist <;> cases hist.foldlM (specSample s0.specGroups s0.specCols) (fun k => aget s0.data k) <;> simp
  intro a b _; exact ⟨a, b⟩

/-- For a registry of panic-free builders (C08 `SafeRegistry`, e.g. the standard helpers that are modelled) the
hypothesis always holds: configuration never panics, with or without the optimiser, both give the same fresh
aggregator (no rows), and its state after any history is `specRun` of that history. -/
theorem accgroup_fold_optimized_safe (reg : Rare.Expr.Registry) (hreg : Rare.Expr.SafeRegistry reg)
    (cfg : List AccTOp) (hcfg : ∀ op ∈ cfg, op.isSample = false) (hist : List Bytes) :
    ∃ s0 errs, ({} : AccGroup).applyAllT reg true cfg = .ok (s0, errs) ∧
      ({} : AccGroup).applyAllT reg false cfg = .ok (s0, errs) ∧ AccReach s0 ∧ s0.data = [] ∧
      (match s0.run hist, specRun s0.specGroups s0.specCols hist with
       | .ok s, .ok st => (∀ k, aget s.data k = st k) ∧ SameDefs s0 s
       | .error m, .error m' => m = m'
       | _, _ => False) := by
  obtain ⟨s0, errs, h, hd⟩ := applyAllT_cfg_ok reg hreg true cfg {} hcfg
  have hr : AccReach s0 := reach_applyAllT reg true cfg {} (s0, errs) AccReach.init h
  exact ⟨s0, errs, h, applyAllT_opt reg cfg {} _ h, hr, hd, accgroup_fold_init s0 hr hd hist⟩

/-- non-vacuity: the registry without helpers is (vacuously) safe; `g={1}`, `c={.}x`, `l={c}:{2}`, a duplicate and a sort. -/
def exReg : Rare.Expr.Registry := fun _ => none
example : Rare.Expr.SafeRegistry exReg := by intro name b h; cases h
def exCfg : List AccTOp :=
  [.addGroup [103] "{1}".toList, .addData [99] "{.}x".toList [], .addData [108] "{c}:{2}".toList [45],
   .addData [99] "{2}".toList [], .setSort "{c}".toList]
example : ∀ op ∈ exCfg, op.isSample = false := by decide

/-! ## translator tie: the model equals what `harness/extract/c07.go` reads from /repo (`Gen/C07.lean`) -/

/-- **The splitter's conditions and index arithmetic are the source's.**  `Done()` is the source's returned expression;
the two `if` conditions of `Next` are the model's two tests (exhausted, delimiter not found – `strings.Index` = -1);
when the delimiter is found at offset `i` of the rest, the field boundaries and the new position are the source's
assignments `idx += s.next; s.next = idx + len(s.Delim)` (the F9 defect was `idx + 1` here). -/
theorem splitter_matches_source (s : Splitter) :
    s.done = Gen.C07.splitterDone s.next ∧
    (∀ idx : Int, Gen.C07.splitterNextConds s.next idx = [s.done, decide (idx < 0)]) ∧
    (s.done = false → ∀ i : Nat, indexOf s.delim (s.S.drop s.next.toNat) = some i →
      s.next' = ((s.S.take (Gen.C07.splitterAdvance s.next i s.delim.length).1.toNat).drop s.next.toNat,
                 { s with next := (Gen.C07.splitterAdvance s.next i s.delim.length).2 })) ∧
    (s.done = false → indexOf s.delim (s.S.drop s.next.toNat) = none →
      s.next' = (s.S.drop s.next.toNat, { s with next := -1 })) := by
  refine ⟨rfl, fun _ => rfl, ?_, ?_⟩
  · intro hd i hi
    have hn : ¬ s.next < 0 := by simpa [Splitter.done] using hd
    unfold Splitter.next'
    rw [if_neg hn]
    simp only [hi, Gen.C07.splitterAdvance]
  · intro hd hi
    have hn : ¬ s.next < 0 := by simpa [Splitter.done] using hd
    unfold Splitter.next'
    rw [if_neg hn]
    simp only [hi]

/-- **`Samplef` / `Variance` compute the source's expressions**, for every number type: the new count, mean and `M2` are
the source's four statements `s.samples++; oldMean := s.mean; s.mean += (val - oldMean) / float64(s.samples);
s.variance += (val - oldMean) * (val - s.mean)` (so the sum-of-squares variant of seeded/C07-variance-sumsq is a
different function), `Min` / `Max` are updated under the source's two comparisons, `Variance()` is the source's guarded
quotient, and they start at `math.Inf(1)` / `math.Inf(-1)`. -/
theorem welford_matches_source {α : Type} (o : NumOps α) (keep : Bool) (s : Numerical α) (val : α) :
    let r := Numerical.samplef o keep s val
    (r.samples, r.mean, r.variance) = Gen.C07.welford o.add o.sub o.mul o.div o.ofNat s.samples s.mean s.variance val ∧
    (r.min, r.max) = Gen.C07.minMaxUpdate o.lt s.min s.max val ∧
    Numerical.varianceOf o s = Gen.C07.varianceOf o.div o.ofNat o.zero s.samples s.variance ∧
    (f64Ops.maxVal, f64Ops.negMaxVal) =
      (F64.inf (decide (Gen.C07.initInfSigns.1 < 0)), F64.inf (decide (Gen.C07.initInfSigns.2 < 0))) := by
  refine ⟨rfl, rfl, ?_, by decide⟩
  unfold Numerical.varianceOf Gen.C07.varianceOf
  by_cases h : s.samples > 1 <;> simp [h]

/-- **`Median` / `Quantile` index as the source says** (`n` = number of kept values): the empty test, `n/2`, and the two
clamps `idx >= n → n-1`, `idx < 0 → 0` (F20 was the missing first clamp); the raw index is still
`int(float64(len) * p)` and `Mode` is still the scan the model mirrors. -/
theorem order_stats_match_source {α : Type} (zero : α) (ordered : List α) (idx : Int) :
    median zero ordered =
      (if (Gen.C07.medianIdx ordered.length).1 then zero
       else ordered[(Gen.C07.medianIdx ordered.length).2.toNat]?.getD zero) ∧
    quantileAt zero ordered idx =
      (if (Gen.C07.quantileIdx ordered.length idx).1 then .ok zero
       else match ordered[(Gen.C07.quantileIdx ordered.length idx).2.toNat]? with
         | some v => .ok v
         | none => .error "index out of range") ∧
    Gen.C07.quantileRaw = "int(float64(len(s.orderedValues))*p)" ∧
    Gen.C07.modeSource = ["if len(s.orderedValues) == 0 {", "return 0.0", "}", "maxObserved := 0", "maxValue := 0.0",
      "currObserved := 0", "currValue := 0.0", "for i := 0; i < len(s.orderedValues); i++ {", "val := s.orderedValues[i]",
      "if val != currValue {", "currValue = val", "currObserved = 0", "}", "currObserved++",
      "if currObserved > maxObserved {", "maxValue = currValue", "maxObserved = currObserved", "}", "}", "return maxValue"] := by
  refine ⟨?_, ?_, rfl, rfl⟩
  · unfold median Gen.C07.medianIdx
    by_cases h : ordered.length = 0
    · simp [h]
    · have h' : ¬ ((ordered.length : Int) = 0) := by omega
      simp only [h, h', if_false, decide_false, Bool.false_eq_true]
      have : (Int.tdiv (ordered.length : Int) 2).toNat = ordered.length / 2 := by
        rw [Int.tdiv_eq_ediv_of_nonneg (by omega)]; omega
      rw [this]
  · unfold quantileAt Gen.C07.quantileIdx
    by_cases h : ordered.length = 0
    · simp [h]
    · have h' : ¬ ((ordered.length : Int) = 0) := by omega
      simp only [h, h', if_false, decide_false, Bool.false_eq_true, decide_eq_true_eq]
      rfl

/-- **`ComputeMinMax` / `minSlice` test and start as the source says**: the empty-table test, the start values
`math.MaxInt64` / `math.MinInt64`, the two guarded assignments of the inner loop; `minSlice`'s `len(items) < count`. -/
theorem minmax_matches_source (rs : List TableRow) (cs : List Bytes) :
    Table.computeMinMaxWith rs cs =
      (if Gen.C07.minMaxEmpty rs.length cs.length then (0, 0)
       else rs.foldl (fun acc r => cs.foldl (fun (acc : Int × Int) c => Gen.C07.minMaxStep acc.1 acc.2 (r.value c)) acc)
              Gen.C07.minMaxInit) ∧
    (∀ {β : Type} (items : List β) (count : Int),
      minSlice items count =
        (if (Gen.C07.minSliceConds items.length count).headD false then .ok items
         else if count < 0 then .error "slice bounds out of range" else .ok (items.take count.toNat))) := by
  refine ⟨?_, ?_⟩
  · unfold Table.computeMinMaxWith Gen.C07.minMaxEmpty Gen.C07.minMaxInit Gen.C07.minMaxStep
    by_cases h : rs.length = 0 ∨ cs.length = 0
    · have : ((decide ((rs.length : Int) = 0)) || (decide ((cs.length : Int) = 0))) = true := by
        rcases h with h | h <;> simp [h]
      rw [if_pos h, if_pos this]
    · have : ¬ (((decide ((rs.length : Int) = 0)) || (decide ((cs.length : Int) = 0))) = true) := by
        simp only [Bool.or_eq_true, decide_eq_true_eq]; omega
      rw [if_neg h, if_neg this]
      simp only [decide_eq_true_eq]
  · intro β items count
    unfold minSlice Gen.C07.minSliceConds
    by_cases h : (items.length : Int) < count <;> simp [h]

/-- **Group keys and the part look-ups follow the source's conditions**: `buildGroupKey` tests the number of group
expressions for 0 and 1 in that order and its loop writes the separator before part `i` exactly when the source's
condition (`i > 0`) holds – seeded/C07-groupkey-leading-empty replaces it by `sb.Len() > 0`, which is not a condition
on `i` at all; `exprAccumulatorContext.GetMatch` runs its loop for `i < idx`, the sort context for `i <= idx`;
`Parts` is still the `""` test followed by `strings.Split`. -/
theorem groupkey_matches_source :
    (∀ (ctx : Ctx) (g : AccGroupDef) (rest : List AccGroupDef) (i : Nat) (sb : Bytes),
      joinGroupKey ctx (g :: rest) i sb =
        match g.expr.run ctx with
        | .error m => .error m
        | .ok v => joinGroupKey ctx rest (i + 1) ((if Gen.C07.groupKeySep i then sb ++ nul else sb) ++ v)) ∧
    (∀ (s : AccGroup) (ctx : Ctx), s.buildGroupKey ctx =
      if (Gen.C07.groupKeyArity s.groupDef.length).getD 0 false then .ok []
      else if (Gen.C07.groupKeyArity s.groupDef.length).getD 1 false then
        (match s.groupDef.head? with | some g => g.expr.run ctx | none => .ok [])
      else joinGroupKey ctx s.groupDef 0 []) ∧
    (∀ (i : Nat) (idx : Int), Gen.C07.accGetMatchLoop i idx = decide (i < idx.toNat)) ∧
    (∀ (i : Nat) (idx : Int), Gen.C07.sortGetMatchLoop i idx = (decide (0 ≤ idx) && decide (i < idx.toNat + 1))) ∧
    (∀ (idx : Int) (d : Bool), Gen.C07.accGetMatchConds idx d = [decide (idx = 0), d]) ∧
    (∀ d : Bool, Gen.C07.sortGetMatchConds d = [d]) ∧
    Gen.C07.partsSource = ["if s == \"\" {", "return make([]string, 0)", "}",
      "return strings.Split(string(s), expressions.ArraySeparatorString)"] := by
  refine ⟨?_, ?_, ?_, ?_, fun _ _ => rfl, fun _ => rfl, rfl⟩
  · intro ctx g rest i sb
    rw [joinGroupKey]
    have : Gen.C07.groupKeySep (i : Int) = decide (i > 0) := by
      unfold Gen.C07.groupKeySep; by_cases h : i > 0 <;> simp [h] <;> omega
    rw [this]
    cases g.expr.run ctx <;> simp
  · intro s ctx
    unfold AccGroup.buildGroupKey Gen.C07.groupKeyArity
    match s.groupDef with
    | [] => simp
    | [g] => simp
    | g :: g' :: r =>
      have h0 : ¬ ((r.length : Int) + 1 + 1 = 0) := by omega
      have h1 : ¬ ((r.length : Int) + 1 + 1 = 1) := by omega
      simp [h0, h1]
  · intro i idx
    unfold Gen.C07.accGetMatchLoop
    by_cases h : (i : Int) < idx <;> simp [h] <;> omega
  · intro i idx
    unfold Gen.C07.sortGetMatchLoop
    by_cases h : (i : Int) ≤ idx <;> simp [h] <;> omega

/-- **The `Sample` methods, `Trim` and the sub-key insertion are still the statements the model mirrors** (text of the
function bodies, statement by statement): the presence flag of `NextOk` decides between the explicit increment
(`strconv.ParseInt(…, 10, 64)`, a failure only counts an error) and the default increment 1 (seeded/C07-empty-increment
tests the value instead), `Trim` decides "column empty" from `removeAllInCol` (seeded/C07-trim-zero-col and C07-trim-zero-total test the
running total instead), a new sub-key is inserted before the first greater one and every row is widened at its index. -/
theorem sample_sources_match :
    Gen.C07.counterSampleSource = ["splitter := stringSplitter.Splitter{ S: element, Delim: expressions.ArraySeparatorString, }",
      "key := splitter.Next()", "val, hasVal := splitter.NextOk()", "if hasVal {", "valNum, err := strconv.ParseInt(val, 10, 64)",
      "if err != nil {", "s.errors++", "} else {", "s.SampleValue(key, valNum)", "}", "} else {", "s.SampleValue(key, 1)", "}"] ∧
    Gen.C07.subKeySampleSource = ["splitter := stringSplitter.Splitter{ S: element, Delim: expressions.ArraySeparatorString, }",
      "key := splitter.Next()", "subkey := splitter.Next()", "sVal, hasVal := splitter.NextOk()", "if hasVal {",
      "valNum, err := strconv.ParseInt(sVal, 10, 64)", "if err != nil {", "s.errors++", "} else {",
      "s.SampleValue(key, subkey, valNum)", "}", "} else {", "s.SampleValue(key, subkey, 1)", "}"] ∧
    Gen.C07.tableSampleSource = ["splitter := stringSplitter.Splitter{ S: ele, Delim: s.delim, }", "part0 := splitter.Next()",
      "part1, has1 := splitter.NextOk()", "part2, has2 := splitter.NextOk()", "if has2 {",
      "inc, err := strconv.ParseInt(part2, 10, 64)", "if err != nil {", "s.errors++", "} else {", "s.SampleItem(part0, part1, inc)", "}",
      "} else if has1 {", "s.SampleItem(part0, part1, 1)", "} else {", "s.SampleItem(part0, \"\", 1)", "}"] ∧
    Gen.C07.trimSource = ["trimmed := 0", "for colName := range s.cols {", "removeAllInCol := true",
      "for rowName, row := range s.rows {", "if val, hasCell := row.cols[colName]; hasCell {",
      "if predicate(colName, rowName, val) {", "delete(row.cols, colName)", "row.sum -= val", "s.cols[colName] -= val", "trimmed++",
      "} else {", "removeAllInCol = false", "}", "}", "if len(row.cols) == 0 {", "delete(s.rows, rowName)", "}", "}",
      "if removeAllInCol {", "delete(s.cols, colName)", "}", "}", "return trimmed"] ∧
    Gen.C07.subkeyIndexSource = ["if idx, ok := s.subKeyIdx[subkey]; !ok {", "s.subKeys, idx = insertAlphanumeric(s.subKeys, subkey)",
      "for i, name := range s.subKeys {", "s.subKeyIdx[name] = i", "}", "for _, item := range s.matches {",
      "item.submatches = insertAti64(item.submatches, idx, 0)", "}", "return idx", "} else {", "return idx", "}"] ∧
    Gen.C07.insertAlphanumericSource = ["for i, val := range slice {", "if ele < val {", "ret = insertAt(slice, i, ele)", "idx = i",
      "return", "}", "}", "idx = len(slice)", "ret = append(slice, ele)", "return"] :=
  ⟨rfl, rfl, rfl, rfl, rfl, rfl⟩

/-- **The aggregator is still the state machine the model runs** (`Model/C07NumHist.lean`): its state is the eight fields
below (no cached "already sorted" flag or other hidden state), `Samplef` appends the sample under `KeepValuesForAnalysis`
and nothing else touches `s.values`, `Sample` counts a parse error or calls `Samplef`, and `Analyze()` sorts `s.values`
unconditionally – ascending or reversed by `s.config.Reverse` – and returns the view `s.values[0:len(s.values)]`; a
`StatisticalAnalysis` is that one slice.  (seeded/C07-analyze-ordered-flag adds the field `ordered` and guards the sort.) -/
theorem analyze_machine_matches_source :
    Gen.C07.numericalFields = ["samples uint64", "mean float64", "variance float64", "min float64", "max float64",
      "parseErrors uint64", "values []float64", "config *NumericalConfig"] ∧
    Gen.C07.analysisFields = ["orderedValues []float64"] ∧
    Gen.C07.numericalConfigFields = ["Reverse bool", "KeepValuesForAnalysis bool"] ∧
    Gen.C07.samplefSource = ["s.samples++", "oldMean := s.mean", "s.mean += (val - oldMean) / float64(s.samples)",
      "s.variance += (val - oldMean) * (val - s.mean)", "if s.config.KeepValuesForAnalysis {", "s.values = append(s.values, val)", "}",
      "if val < s.min {", "s.min = val", "}", "if val > s.max {", "s.max = val", "}"] ∧
    Gen.C07.numSampleSource = ["val, err := strconv.ParseFloat(element, 64)", "if err != nil {", "s.parseErrors++", "} else {",
      "s.Samplef(val)", "}"] ∧
    Gen.C07.analyzeSource = ["if s.config.Reverse {", "sort.Sort(sort.Reverse(sort.Float64Slice(s.values)))", "} else {",
      "sort.Float64s(s.values)", "}", "out := &StatisticalAnalysis{ orderedValues: s.values[0:len(s.values)], }", "return out"] :=
  ⟨rfl, rfl, rfl, rfl, rfl, rfl⟩


end Rare.C07

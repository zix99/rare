import Rare.Proofs.C11Str
import Rare.Proofs.C11Float
import Rare.Gen.C11
import Rare.Proofs.C11Format
import Rare.Proofs.C11Hf
import Rare.Proofs.C11CaseC13
import Rare.Proofs.C11R4
import Rare.Proofs.C11Log
import Rare.Proofs.C17Atoi
import Rare.Proofs.C11Arity
import Rare.Proofs.C11Percent
import Rare.Proofs.C11CaseIdemStr
/-!
# C11 — scalar helper functions follow their documented semantics

Vocabulary (defined in `Rare/Proofs/C11.lean`): an argument `Arg` is a constant written in the
template, a match group or a named key; `Arg.val c a` is its value in context `c`;
`callHelper builder args c` builds the helper with those arguments exactly as the compiler does
(static evaluation of constants included) and evaluates the resulting stage in `c`
(`.error` = the Go code would panic).  Theorems are therefore statements about both the
static-evaluation path and the run-time path.  Value-level theorems (`bucket_floor`, `substr_spec`,
`hi_only_separators` …) are about the pure functions those stages call; the `*_call` theorems tie
the two levels together.

Float-valued helpers (`sumf … divf`, `floor ceil round sqrt`, `lt … gte`, `isnum`, `hf`, `percent`,
`bytesize…`) are modelled on the software binary64 model `Rare/Base/F64.lean` (a float is its bit
pattern; every operation is the correctly rounded exact rational result; no `Float` anywhere) with
the modelled `strconv.ParseFloat` / `FormatFloat` of `Rare/Base/F64Str.lean`.  The last two sections
state the IEEE facts (`f64_*`: round trip, exact integers, monotone rounding, exact operations,
order = order of values, floor/ceil/trunc/round) and what the helpers compute from them.  `ln` / `log10` /
`log2` / `pow` (Go's `math.Log*`, `math.Pow`) are mirrored in `Rare/Model/C11Log.lean` (last sections).
-/
namespace Rare.C11
open Rare Rare.Expr Rare.Expr.Funcs

/-- `{op a₀ a₁ … aₙ}` (n ≥ 1), every argument an integer, constants and match groups alike:
    the result is the left fold of the wrapped int64 operation, printed in decimal; when the
    operation rejects its operands (division by zero) the result is the `<VALUE>` marker.
    No panic. -/
theorem fold_int (op : Arith.IntOp) (c : Ctx) (as : List Arg) (n : Int) (ns : List Int)
    (hp : as.map (fun a => atoi (a.val c)) = (n :: ns).map some) (hlen : 1 ≤ ns.length) :
    callHelper (Arith.intHelper op) as c = .ok (match foldOp op n ns with
      | some r => itoa r
      | none => ErrorValue) := by
  have hl : as.length = ns.length + 1 := by
    have := congrArg List.length hp; simpa using this
  rcases intHelper_call op c as (by omega) with ⟨_, a, ha, hnone⟩ | ⟨typed, h, ht⟩
  · exfalso
    have : atoi (a.val c) ∈ as.map (fun a => atoi (a.val c)) := List.mem_map.mpr ⟨a, ha, rfl⟩
    rw [hp, hnone] at this
    simp at this
  · rw [h]
    cases typedOk_parsed atoi c typed as ht (n :: ns) hp with
    | cons h1 h2 => exact intRun_run c op _ _ n ns h1 h2

/-- For the five total operations the checked fold is the plain left fold of `Spec.foldInts`. -/
theorem fold_int_total (f : Int → Int → Int) (n : Int) (ns : List Int) :
    foldOp (fun a b => some (f a b)) n ns = Spec.foldInts f (n :: ns) := by
  unfold Spec.foldInts
  induction ns generalizing n with
  | nil => rfl
  | cons x r ih => simp only [foldOp, List.foldl_cons]; exact ih (f n x)

/-- The table of `funcs.go`, spelled out: each helper is the fold of this wrapped operation. -/
theorem fold_int_ops (a b : Int) :
    Arith.opSum a b = some (wrap64 (a + b)) ∧ Arith.opSub a b = some (wrap64 (a - b)) ∧
    Arith.opMul a b = some (wrap64 (a * b)) ∧
    Arith.opMax a b = some (max a b) ∧ Arith.opMin a b = some (min a b) ∧
    (b ≠ 0 → Arith.opDiv a b = some (goDiv a b) ∧ Arith.opMod a b = some (goMod a b)) ∧
    Arith.opDiv a 0 = none ∧ Arith.opMod a 0 = none := by
  refine ⟨rfl, rfl, rfl, ?_, ?_, ?_, by simp [Arith.opDiv], by simp [Arith.opMod]⟩
  · simp only [Arith.opMax]; congr 1; split <;> omega
  · simp only [Arith.opMin]; congr 1; split <;> omega
  · intro hb; simp [Arith.opDiv, Arith.opMod, hb]

example : (callHelper (Arith.intHelper Arith.opSum)
    [.const (ascii "9223372036854775807"), .group 0] ⟨fun _ => ascii "1", fun _ => []⟩).toOption
    = some (ascii "-9223372036854775808") := by decide +kernel

example : (callHelper (Arith.intHelper Arith.opDiv)
    [.const (ascii "1"), .const (ascii "0")] ⟨fun _ => [], fun _ => []⟩).toOption = some ErrorValue := by
  decide +kernel

/-! ## non-numeric input yields the marker, never a number -/

/-- If any argument of an integer fold does not parse as an int64, the result is `<BAD-TYPE>`
    (or `<VALUE>` when a division by zero is met first) — never digits. -/
theorem nonnumeric_marker (op : Arith.IntOp) (c : Ctx) (as : List Arg) (hlen : 2 ≤ as.length)
    (hbad : ∃ a ∈ as, atoi (a.val c) = none) :
    callHelper (Arith.intHelper op) as c = .ok ErrorNum ∨
    (callHelper (Arith.intHelper op) as c = .ok ErrorValue ∧ ∃ x y, op x y = none) := by
  rcases intHelper_call op c as hlen with ⟨h, _⟩ | ⟨typed, h, ht⟩
  · exact .inl h
  · rw [h]
    cases ht with
    | nil => simp at hlen
    | @cons t a ts as' h1 h2 =>
      simp only [Arith.intRun, Comp.bind_eq, Comp.run_bind, h1]
      cases hp : atoi (a.val c) with
      | none => left; rfl
      | some x => exact foldRun_marker c op ts as' h2 x (bad_arg_tail hbad hp)

/-- The unary integer helpers: an unparsable argument gives `<BAD-TYPE>`, a parsable one the value. -/
theorem nonnumeric_marker_unary (c : Ctx) (a : Arg) (h : atoi (a.val c) = none) :
    callHelper Strings.kfHumanizeInt [a] c = .ok ErrorNum ∧
    callHelper Arith.kfExpBucket [a] c = .ok ErrorNum ∧
    (∀ sz s, atoi sz = some s → 0 < s → callHelper Arith.kfBucket [a, .const sz] c = .ok ErrorNum) ∧
    (∀ sz s, atoi sz = some s → 0 < s → callHelper Arith.kfBucketRange [a, .const sz] c = .ok ErrorNum) ∧
    (∀ lo hi mn mx, atoi lo = some mn → atoi hi = some mx →
      callHelper Arith.kfClamp [a, .const lo, .const hi] c = .ok ErrorNum) := by
  refine ⟨?_, ?_, ?_, ?_, ?_⟩
  · rw [hi_call, h]
  · rw [expbucket_call, h]
  · intro sz s hs hpos; unfold Arith.kfBucket; rw [bucket_call _ c a sz s hs hpos, h]
  · intro sz s hs hpos; unfold Arith.kfBucketRange; rw [bucket_call _ c a sz s hs hpos, h]
  · intro lo hi mn mx h1 h2; rw [clamp_call c a lo hi mn mx h1 h2, h]

/-- The markers contain no digit, so they cannot be mistaken for a number. -/
theorem markers_not_numeric :
    atoi ErrorNum = none ∧ atoi ErrorValue = none ∧
    ErrorNum.all (fun b => !isDigitB b) = true ∧ ErrorValue.all (fun b => !isDigitB b) = true := by
  decide +kernel

example : ∃ a : Arg, atoi (a.val ⟨fun _ => ascii "12x", fun _ => []⟩) = none := ⟨.group 0, by decide +kernel⟩

/-- `{bucket v s}` for `s > 0`: the multiple `b` of `s` with `b ≤ v < b + s` (which is unique),
    whenever that multiple is representable (`≥ MinInt64`). -/
theorem bucket_floor (v s : Int) (hs : 0 < s) (hv : inInt64 v = true) (hs64 : s ≤ maxInt64)
    (hr : minInt64 ≤ Spec.floorBucket v s) :
    Arith.bucketVal v s = Spec.floorBucket v s ∧ Spec.IsBucket v s (Arith.bucketVal v s) ∧
    ∀ b, Spec.IsBucket v s b → b = Arith.bucketVal v s := by
  have e := bucketVal_eq_floor v s hs hv hs64 hr
  refine ⟨e, ?_, ?_⟩
  · rw [e]; exact floorBucket_isBucket v s hs
  · intro b hb; rw [e]; exact isBucket_unique v s b hs hb

/-- The call: value from a constant or a group, size a positive constant. -/
theorem bucket_call_spec (c : Ctx) (a : Arg) (sz : Bytes) (v s : Int) (hs : atoi sz = some s) (hpos : 0 < s)
    (hv : atoi (a.val c) = some v) :
    callHelper Arith.kfBucket [a, .const sz] c = .ok (itoa (Arith.bucketVal v s)) := by
  unfold Arith.kfBucket; rw [bucket_call _ c a sz s hs hpos, hv]

example : Arith.bucketVal (-100) 50 = -100 ∧ Arith.bucketVal (-101) 50 = -150 ∧ Arith.bucketVal 149 50 = 100 := by
  decide

/-- `{bucketrange v s}` = "`b - (b+s-1)`" for the same bucket `b`, when both ends are representable. -/
theorem bucketrange_spec (v s : Int) (hs : 0 < s) (hv : inInt64 v = true) (hs64 : s ≤ maxInt64)
    (hlo : minInt64 ≤ Spec.floorBucket v s) (hhi : Spec.floorBucket v s + s - 1 ≤ maxInt64) :
    Arith.bucketRangeStr v s = Spec.bucketRange v s := by
  unfold Arith.bucketRangeStr Spec.bucketRange Arith.bucketEnd
  rw [bucketVal_eq_floor v s hs hv hs64 hlo]
  have hb := (floorBucket_isBucket v s hs).2.1
  rw [inInt64_iff] at hv
  have e1 : wrap64 (s - 1) = s - 1 := wrap64_id (by i64) (by i64)
  have e2 : wrap64 (Spec.floorBucket v s + (s - 1)) = Spec.floorBucket v s + s - 1 := by
    rw [wrap64_id (by i64) (by i64)]; omega
  simp only [e1, e2]

example : Arith.bucketRangeStr (-100) 50 = ascii "-100 - -51" := by decide +kernel

/-- `{clamp v min max}` returns its argument unchanged iff `min ≤ v ≤ max`; otherwise the words
    `min` / `max`. -/
theorem clamp_iff (a : Bytes) (v mn mx : Int) (h : atoi a = some v) :
    (Arith.clampVal a v mn mx = a ↔ mn ≤ v ∧ v ≤ mx) ∧
    (v < mn → Arith.clampVal a v mn mx = ascii "min") ∧
    (mn ≤ v → mx < v → Arith.clampVal a v mn mx = ascii "max") := by
  refine ⟨clampVal_iff a v mn mx h, ?_, ?_⟩
  · intro h1; simp [Arith.clampVal, h1]
  · intro h1 h2
    have : ¬ (v < mn) := by omega
    simp [Arith.clampVal, this, h2]

theorem clamp_call_spec (c : Ctx) (a : Arg) (lo hi : Bytes) (v mn mx : Int)
    (h1 : atoi lo = some mn) (h2 : atoi hi = some mx) (hv : atoi (a.val c) = some v) :
    callHelper Arith.kfClamp [a, .const lo, .const hi] c = .ok (Arith.clampVal (a.val c) v mn mx) := by
  rw [clamp_call c a lo hi mn mx h1 h2, hv]

example : Arith.clampVal (ascii "5") 5 5 5 = ascii "5" := by decide +kernel

/-- `{expbucket v}` for `v ≥ 1`: the largest power of ten that is `≤ v` (integer arithmetic, exact
    on the whole int64 range); `0` for `v ≤ 0`. -/
theorem expbucket_spec (v : Int) (h2 : v ≤ maxInt64) :
    (1 ≤ v → Spec.IsExpBucket v (Arith.expBucketVal v)) ∧ (v ≤ 0 → Arith.expBucketVal v = 0) := by
  refine ⟨fun h1 => expBucketVal_spec v h1 h2, ?_⟩
  intro h; have : ¬ (v > 0) := by omega
  simp [Arith.expBucketVal, this]

example : Arith.expBucketVal 1000000000000000 = 1000000000000000 ∧ Arith.expBucketVal 999 = 100 := by decide

/-- Truthiness logic, for every argument value: `not`, `if`, `unless` test `Truthy`
    (non-blank), `and` / `or` test non-emptiness, `eq` / `neq` compare bytes. -/
theorem logic_truth_tables (c : Ctx) :
    (∀ a, callHelper Logic.kfNot [a] c = .ok (truthyStr (!truthy (a.val c)))) ∧
    (∀ as, callHelper Logic.kfAnd as c = .ok (truthyStr (as.all fun a => a.val c != []))) ∧
    (∀ as, callHelper Logic.kfOr as c = .ok (truthyStr (as.any fun a => a.val c != []))) ∧
    (∀ a t e, callHelper Logic.kfIf [a, t, e] c = .ok (if truthy (a.val c) then t.val c else e.val c)) ∧
    (∀ a t, callHelper Logic.kfIf [a, t] c = .ok (if truthy (a.val c) then t.val c else [])) ∧
    (∀ a t, callHelper Logic.kfUnless [a, t] c = .ok (if truthy (a.val c) then [] else t.val c)) ∧
    (∀ a b, callHelper (Logic.stringComparator fun x y => if x = y then TruthyVal else FalsyVal) [a, b] c =
      .ok (truthyStr (decide (a.val c = b.val c)))) ∧
    (∀ a b, callHelper (Logic.stringComparator fun x y => if x ≠ y then TruthyVal else FalsyVal) [a, b] c =
      .ok (truthyStr (decide (a.val c ≠ b.val c)))) :=
  ⟨not_call c, and_call c, or_call c, if_call c, if2_call c, unless_call c, eq_call c, neq_call c⟩

/-- On the two canonical values the helpers are the Boolean connectives. -/
theorem logic_truth_tables_bool (x y : Bool) (c : Ctx) :
    callHelper Logic.kfAnd [.const (truthyStr x), .const (truthyStr y)] c = .ok (truthyStr (x && y)) ∧
    callHelper Logic.kfOr [.const (truthyStr x), .const (truthyStr y)] c = .ok (truthyStr (x || y)) ∧
    callHelper Logic.kfNot [.const (truthyStr x)] c = .ok (truthyStr (!x)) := by
  rw [and_call, or_call, not_call]
  simp only [Arg.val, List.all_cons, List.all_nil, List.any_cons, List.any_nil, Except.ok.injEq]
  cases x <;> cases y <;> decide +kernel

/-- `{substr s left len}`: never out of bounds (the model's `Except` never fails — the Go slice
    expression cannot panic) and equal to the specification: a negative `left` wraps around from
    the end, both ends are clamped to the string, a negative length is 0. -/
theorem substr_spec (s : Bytes) (left len : Int) (hs : (s.length : Int) ≤ maxInt64)
    (hl : inInt64 left = true) (hlen : inInt64 len = true) :
    Strings.substrVal s left len = .ok (Spec.substr s left len) :=
  substrVal_spec s left len hs hl hlen

/-- The call: any mixture of constants and groups; no argument value makes it panic. -/
theorem substr_call_spec (c : Ctx) (a l n : Arg) (hs : ((a.val c).length : Int) ≤ maxInt64) :
    ∃ r, callHelper Strings.kfSubstr [a, l, n] c = .ok r := by
  rw [substr_call c a l n hs]
  by_cases he : (a.val c).isEmpty = true
  · exact ⟨[], by simp [he]⟩
  · rw [if_neg he]
    cases h1 : atoi (l.val c) with
    | none => exact ⟨ErrorNum, rfl⟩
    | some left =>
      cases h2 : atoi (n.val c) with
      | none => exact ⟨ErrorNum, rfl⟩
      | some len =>
        exact ⟨_, substrVal_spec _ left len hs (atoi_inInt64 h1) (atoi_inInt64 h2)⟩

example : (Strings.substrVal (ascii "abc") 1 9223372036854775807).toOption = some (ascii "bc") ∧
    (Strings.substrVal (ascii "abcde") (-2) 5).toOption = some (ascii "de") := by decide +kernel

/-- `{csv a₁ … aₙ}` (n ≥ 1) parses back, with an RFC 4180 record parser, to exactly its arguments —
    for arbitrary bytes in the arguments (quotes, commas, CR, LF, NUL, non-UTF-8). -/
theorem csv_item_roundtrip (c : Ctx) (as : List Arg) (h : as ≠ []) :
    ∃ out, callHelper Strings.kfCsv as c = .ok out ∧
      Spec.parseCsvRecord out = some (as.map (Arg.val c)) := by
  refine ⟨_, kfCsv_call c as h, ?_⟩
  have := csv_record (as.map (Arg.val c)) [] (by simpa using h)
  simpa [Spec.parseCsvRecord] using this

example : Spec.parseCsvRecord (Strings.csvRecord [ascii "a,b", ascii "say \"hi\"", [], ascii "x\ny"])
    = some [ascii "a,b", ascii "say \"hi\"", [], ascii "x\ny"] := by decide +kernel

/-- `{hi n}` only inserts thousands separators: for every int64 `n` the output is an optional `-`
    followed by a body whose digits (separators removed) are the decimal digits of `|n|` and
    whose `,`-separated groups have 1–3 digits first and exactly 3 afterwards.  In particular
    removing `,` gives `strconv.Itoa(n)`. -/
theorem hi_only_separators (n : Int) (h1 : minInt64 ≤ n) (h2 : n ≤ maxInt64) :
    Spec.stripCommas (Strings.humanizeInt n) = itoa n ∧
    ∃ body, Strings.humanizeInt n = (if n < 0 then [45] else []) ++ body ∧
      Spec.stripCommas body = natDigits n.natAbs ∧ Spec.groupedInThrees body = true := by
  refine ⟨?_, humanizeInt_spec n h1 h2⟩
  obtain ⟨body, hb, hs, _⟩ := humanizeInt_spec n h1 h2
  rw [hb, stripCommas_append, hs]
  unfold itoa
  by_cases hneg : n < 0 <;> simp [hneg, Spec.stripCommas]

example : Strings.humanizeInt (-9223372036854775808) = ascii "-9,223,372,036,854,775,808" ∧
    Strings.humanizeInt 1000 = ascii "1,000" ∧ Strings.humanizeInt 999 = ascii "999" := by decide +kernel

/-- `{select s i}` on words separated by single spaces (words: non-empty, free of white space, NUL
    and quotes): the `i`-th word, counting from 0; the empty string when `i` is out of range or
    negative. -/
theorem select_spec (ws : List Bytes) (idx : Int) (hne : ws ≠ []) (hw : ∀ w ∈ ws, Spec.IsWord w) :
    Strings.selectField (Spec.joinWords ws) idx = if 0 ≤ idx then ws.getD idx.toNat [] else [] := by
  have := sel_words idx ws [] 0 hne hw
  simpa [Strings.selectField] using this

example : Strings.selectField (Spec.joinWords [ascii "ab", ascii "c", ascii "def"]) 2 = ascii "def" ∧
    Spec.IsWord (ascii "def") := by
  refine ⟨by decide +kernel, by decide +kernel, ?_⟩
  have : ascii "def" = [100, 101, 102] := by decide +kernel
  rw [this]; decide

/-- The table builder is a function of the lines alone: every non-comment line with one or two
    fields contributes one entry, in order (so the model's table is this association list).
    Lines are those `bufio.Scanner` delivers (a line of 64 KiB or more ends the scan), fields those
    of `strings.Fields` (ASCII and Unicode white space). -/
theorem lookup_table_spec (content commentPrefix : Bytes) :
    Misc.buildLookupTable content commentPrefix =
      (((Misc.splitLinesGo content [] 0).map Misc.dropCR).filterMap (lineEntry commentPrefix)) := by
  unfold Misc.buildLookupTable
  rw [table_eq_filterMap]; rfl

/-- `{lookup key table}`: later lines win — an entry for `key` followed by no other entry for `key`
    is the answer; and the call returns the value (or "" when the key is absent). -/
theorem lookup_spec (c : Ctx) (key : Arg) (content : Bytes) :
    callHelper Misc.kfLookupKey [key, .const content] c =
      .ok ((Misc.tableGet (Misc.buildLookupTable content []) (key.val c)).getD []) ∧
    ∀ (pre post : List (Bytes × Bytes)) (k v : Bytes), (∀ e ∈ post, e.1 ≠ k) →
      Misc.tableGet (pre ++ [(k, v)] ++ post) k = some v :=
  ⟨lookup_call c _ key content, tableGet_hit⟩

/-- `{haskey key table}` is truthy iff some line of the table has an entry for the key. -/
theorem haskey_spec (c : Ctx) (key : Arg) (content : Bytes) :
    callHelper Misc.kfHasKey [key, .const content] c =
      .ok (truthyStr (Misc.tableGet (Misc.buildLookupTable content []) (key.val c)).isSome) ∧
    ∀ (tbl : List (Bytes × Bytes)) (k : Bytes), (Misc.tableGet tbl k).isSome = true ↔ ∃ e ∈ tbl, e.1 = k := by
  refine ⟨lookup_call c _ key content, fun tbl k => ?_⟩
  rw [Option.isSome_iff_ne_none, ne_eq, tableGet_none_iff]
  simp

example : Misc.tableGet (Misc.buildLookupTable (ascii "a 1\n#a 9\nb\na 2\nx y z") (ascii "#")) (ascii "a")
    = some (ascii "2") := by decide +kernel

/-! ## the same laws for the definitions regenerated from /repo on every run

`Rare.Gen.C11` is produced by `harness/extract/c11.go` from the Go AST of `kfBucket` /
`kfBucketRange` (statement blocks of the run-time closures), `pkg/humanize/units.go` and
`stdlib/errors.go`.  A changed comparison, operator or table entry in /repo changes these
definitions and the theorems below stop checking. -/

theorem gen_bucket_eq_model (v s : Int) : Gen.C11.bucket v s = Arith.bucketVal v s := by
  simp [Gen.C11.bucket, Arith.bucketVal]

/-- `bucket_floor` for the code as it is in /repo now. -/
theorem gen_bucket_floor (v s : Int) (hs : 0 < s) (hv : inInt64 v = true) (hs64 : s ≤ maxInt64)
    (hr : minInt64 ≤ Spec.floorBucket v s) :
    Gen.C11.bucket v s = Spec.floorBucket v s ∧ Spec.IsBucket v s (Gen.C11.bucket v s) := by
  rw [gen_bucket_eq_model]
  exact ⟨(bucket_floor v s hs hv hs64 hr).1, (bucket_floor v s hs hv hs64 hr).2.1⟩

/-- `bucketrange_spec` for the code as it is in /repo now: the two ends are `b` and `b + s - 1`. -/
theorem gen_bucketrange_spec (v s : Int) (hs : 0 < s) (hv : inInt64 v = true) (hs64 : s ≤ maxInt64)
    (hlo : minInt64 ≤ Spec.floorBucket v s) (hhi : Spec.floorBucket v s + s - 1 ≤ maxInt64) :
    Gen.C11.bucketRange v s = (Spec.floorBucket v s, Spec.floorBucket v s + s - 1) := by
  have e : Gen.C11.bucketRange v s = (Arith.bucketVal v s, Arith.bucketEnd (Arith.bucketVal v s) s) := by
    simp [Gen.C11.bucketRange, Arith.bucketVal, Arith.bucketEnd]
  rw [e, bucketVal_eq_floor v s hs hv hs64 hlo]
  have hb := (floorBucket_isBucket v s hs).2.1
  rw [inInt64_iff] at hv
  unfold Arith.bucketEnd
  rw [wrap64_id (x := s - 1) (by i64) (by i64), wrap64_id (by i64) (by i64)]
  congr 1; omega

/-- Unit tables and error markers of the model are the ones in /repo. -/
theorem gen_tables :
    Gen.C11.iecSizes = Strings.iecSizes ∧ Gen.C11.siSizes = Strings.siSizes ∧ Gen.C11.unitSize = Strings.unitSize ∧
    ascii Gen.C11.markerErrorNum = ErrorNum ∧ ascii Gen.C11.markerErrorValue = ErrorValue ∧
    ascii Gen.C11.markerErrorArgCount = ErrorArgCount ∧ ascii Gen.C11.markerErrorConst = ErrorConst := by
  decide +kernel

example : Gen.C11.bucket (-100) 50 = -100 ∧ Gen.C11.bucketRange (-100) 50 = (-100, -51) := by decide

/-! ## binary64: the software model under the float helpers (`Rare/Base/F64.lean`)

A float is its 64-bit pattern; `toRat` is the exact value of a finite pattern; `ofRat q` is the
float nearest to `q` (ties to even, overflow to ±Inf, gradual underflow); `add/sub/mul/div` of
finite operands are `ofRat` of the exact rational result (`F64.add_finite` …).  The model is compared
bit for bit with Go's float64 and with Lean's native `Float` on every run (`f64 …` ops). -/

/-- **Round trip.** Rounding the exact value of a finite float returns the float (an exact zero is
    given the float's own sign); with the default `+0` this is `ofRat (toRat x) = x` for every finite
    `x` except `-0`, and `-0 ↦ +0`. -/
theorem f64_ofRat_toRat (x : F64) (hf : x.isFinite = true) :
    F64.ofRatS x.sign x.toRat = x ∧
    (¬(x.sign = true ∧ x.mag = 0) → F64.ofRat x.toRat = x) ∧
    F64.ofRat (F64.zero true).toRat = F64.zero false :=
  ⟨F64.ofRatS_toRat x hf, F64.ofRat_toRat x hf, F64.ofRat_toRat_negZero⟩

example : (F64.ofInt 3).isFinite = true ∧ ¬((F64.ofInt 3).sign = true ∧ (F64.ofInt 3).mag = 0) := by decide +kernel

/-- **Integers up to `2^53` are floats**, and so is every `±m·2^e/2^1074` with `m < 2^53` below the
    overflow threshold (`e` counts from the smallest subnormal exponent, so subnormals are included). -/
theorem f64_ofRat_exact_int (n : Int) (h : n.natAbs ≤ 9007199254740992) :
    (F64.ofRat (n : Rat)).toRat? = some (n : Rat) :=
  F64.ofRat_exact_int h

theorem f64_ofRat_exact_dyadic (neg : Bool) (m e : Nat) (hm : m < 9007199254740992) (hr : m * 2 ^ e < 2 ^ 2098) :
    let q : Rat := (if neg then -1 else 1) * (((m * 2 ^ e : Nat) : Rat) / F64.two1074)
    (F64.ofRat q).toRat? = some q :=
  F64.ofRat_exact_dyadic neg m e hm hr

example : (F64.ofRat ((9007199254740992 : Int) : Rat)).toRat? = some ((9007199254740992 : Int) : Rat) :=
  f64_ofRat_exact_int _ (by decide)

/-- `2^53 + 1` is *not* a float: it rounds (ties to even) to `2^53`. -/
example : F64.ofInt 9007199254740993 = F64.ofInt 9007199254740992 := by decide +kernel

/-- **Rounding is monotone**: `q₁ ≤ q₂ → ofRat q₁ ≤ ofRat q₂` in the IEEE order, for all rationals
    (overflow to ±Inf and underflow to ±0 included; any signs of zero). -/
theorem f64_ofRat_mono (q₁ q₂ : Rat) (h : q₁ ≤ q₂) :
    F64.le (F64.ofRat q₁) (F64.ofRat q₂) = true ∧
    ∀ s₁ s₂, F64.le (F64.ofRatS s₁ q₁) (F64.ofRatS s₂ q₂) = true :=
  ⟨F64.ofRat_mono h, fun s₁ s₂ => F64.ofRatS_le_ofRatS s₁ s₂ h⟩

/-- The result of rounding is never NaN, and the nearest-integer function behind it errs by at most
    one half (ties to even). -/
theorem f64_round_basic (s : Bool) (q x : Rat) :
    (F64.ofRatS s q).isNaN = false ∧
    x - 1/2 ≤ (F64.roundNE x : Rat) ∧ (F64.roundNE x : Rat) ≤ x + 1/2 :=
  ⟨F64.isNaN_ofRatS s q, F64.roundNE_err x⟩

/-- **The float order is the order of the exact values** (finite operands; `-0 = +0`). -/
theorem f64_order_is_value_order (x y : F64) (hx : x.isFinite = true) (hy : y.isFinite = true) :
    (F64.le x y = true ↔ x.toRat ≤ y.toRat) ∧ (F64.lt x y = true ↔ x.toRat < y.toRat) :=
  ⟨F64.le_iff_toRat_le hx hy, F64.lt_iff_toRat_lt hx hy⟩

/-- **Exact operations.** Integer-valued operands whose exact sum / difference / product has
    magnitude at most `2^53`: `add` / `sub` / `mul` return exactly that integer. -/
theorem f64_exact_ops_int (x y : F64) (a b : Int)
    (hx : x.toRat? = some (a : Rat)) (hy : y.toRat? = some (b : Rat)) :
    ((a + b).natAbs ≤ 9007199254740992 → (F64.add x y).toRat? = some ((a + b : Int) : Rat)) ∧
    ((a - b).natAbs ≤ 9007199254740992 → (F64.sub x y).toRat? = some ((a - b : Int) : Rat)) ∧
    ((a * b).natAbs ≤ 9007199254740992 → (F64.mul x y).toRat? = some ((a * b : Int) : Rat)) :=
  ⟨F64.add_exact_int hx hy, F64.sub_exact_int hx hy, F64.mul_exact_int hx hy⟩

example : (F64.ofInt 4503599627370496).toRat? = some ((4503599627370496 : Int) : Rat) ∧
    (F64.ofInt (-3)).toRat? = some ((-3 : Int) : Rat) :=
  ⟨f64_ofRat_exact_int _ (by decide), f64_ofRat_exact_int _ (by decide)⟩

/-- More generally, whenever the exact result of `+ − ×` on finite floats is itself a float, it is returned. -/
theorem f64_exact_ops (x y : F64) (hx : x.isFinite = true) (hy : y.isFinite = true) :
    (F64.Rep (x.toRat + y.toRat) → (F64.add x y).toRat? = some (x.toRat + y.toRat)) ∧
    (F64.Rep (x.toRat - y.toRat) → (F64.sub x y).toRat? = some (x.toRat - y.toRat)) ∧
    (F64.Rep (x.toRat * y.toRat) → (F64.mul x y).toRat? = some (x.toRat * y.toRat)) :=
  ⟨F64.add_exact hx hy, F64.sub_exact hx hy, F64.mul_exact hx hy⟩

/-- **Division by a positive float is monotone** in the dividend, and so is addition of a fixed float
    (this is what proportional scaling — C14 — needs). -/
theorem f64_div_add_mono (x x' d : F64) (hx : x.isFinite = true) (hx' : x'.isFinite = true)
    (hd : d.isFinite = true) (h : x.toRat ≤ x'.toRat) :
    (0 < d.toRat → F64.le (F64.div x d) (F64.div x' d) = true) ∧
    F64.le (F64.add x d) (F64.add x' d) = true :=
  ⟨fun hpos => F64.div_mono_left hx hx' hd hpos h, F64.add_mono_left hx hx' hd h⟩

example : (F64.ofInt 7).isFinite = true ∧ 0 < (F64.ofInt 7).toRat := by decide +kernel

/-- Further monotonicity: multiplication by a non-negative float, subtraction (monotone / antitone),
    and `float64(·)` on integers. -/
theorem f64_mul_sub_ofInt_mono (x x' y y' : F64) (hx : x.isFinite = true) (hx' : x'.isFinite = true)
    (hy : y.isFinite = true) (hy' : y'.isFinite = true) (h : x.toRat ≤ x'.toRat) :
    (0 ≤ y.toRat → F64.le (F64.mul x y) (F64.mul x' y) = true) ∧
    (y'.toRat ≤ y.toRat → F64.le (F64.sub x y) (F64.sub x' y') = true) ∧
    (∀ a b : Int, a ≤ b → F64.le (F64.ofInt a) (F64.ofInt b) = true) :=
  ⟨fun hpos => F64.mul_mono_left hx hx' hy hpos h, fun h2 => F64.sub_mono hx hx' hy hy' h h2,
   fun _ _ hab => F64.ofInt_mono hab⟩

/-- **floor / ceil / trunc / round** (`math.Floor`, `math.Ceil`, `math.Trunc`, `math.Round`) of a
    finite float return *exactly* `⌊v⌋`, `⌈v⌉`, `v` truncated toward zero, and `v` rounded half away
    from zero — integer-valued floats bracketing the argument. -/
theorem f64_floor_ceil_bracket (x : F64) (hx : x.isFinite = true) :
    (F64.floor x).toRat? = some ((x.toRat.floor : Int) : Rat) ∧
    (F64.ceil x).toRat? = some ((x.toRat.ceil : Int) : Rat) ∧
    (F64.trunc x).toRat? = some ((F64.truncRat x.toRat : Int) : Rat) ∧
    ((x.toRat.floor : Int) : Rat) ≤ x.toRat ∧ x.toRat < ((x.toRat.floor + 1 : Int) : Rat) ∧
    x.toRat ≤ ((x.toRat.ceil : Int) : Rat) ∧ ((x.toRat.ceil - 1 : Int) : Rat) < x.toRat :=
  ⟨F64.floor_spec hx, F64.ceil_spec hx, F64.trunc_spec hx, Rat.floor_le _, Rat.lt_floor_add_one _,
   Rat.le_ceil, Rat.lt_ceil_iff.mp (by omega)⟩

/-- `math.Round`: half away from zero, exactly. -/
theorem f64_round_half_away (x : F64) (hx : x.isFinite = true) :
    (F64.roundHalfAway x).toRat? = some ((F64.roundAwayRat x.toRat : Int) : Rat) ∧
    F64.roundAwayRat (5 / 2) = 3 ∧ F64.roundAwayRat (-5 / 2) = -3 ∧ F64.roundAwayRat (7 / 2) = 4 ∧
    F64.roundNE (5 / 2) = 2 ∧ F64.roundNE (7 / 2) = 4 :=
  ⟨F64.roundHalfAway_spec hx, by decide +kernel, by decide +kernel, by decide +kernel, by decide +kernel,
   by decide +kernel⟩

example : F64.floor (F64.ofRat (-5 / 2)) = F64.ofInt (-3) ∧ F64.ceil (F64.ofRat (-5 / 2)) = F64.ofInt (-2) ∧
    F64.roundHalfAway (F64.ofRat (-5 / 2)) = F64.ofInt (-3) ∧ F64.trunc (F64.ofRat (-1 / 2)) = F64.zero true := by
  decide +kernel

/-- `{sumf a₀ … aₙ}` etc. (n ≥ 1), every argument accepted by `strconv.ParseFloat`: the result is
    the left fold of the IEEE operation over the parsed values, rendered by
    `FormatFloat(·, 'f', -1, 64)`; constants and match groups alike.  No panic. -/
theorem float_fold (op : F64 → F64 → F64) (c : Ctx) (as : List Arg) (x : F64) (xs : List F64)
    (hp : as.map (fun a => Float.parseF (a.val c)) = (x :: xs).map some) (hlen : 1 ≤ xs.length) :
    callHelper (Float.floatHelper op) as c = .ok (Float.fmtF (xs.foldl op x)) := by
  have hl : as.length = xs.length + 1 := by
    have := congrArg List.length hp; simpa using this
  rcases floatHelper_call op c as (by omega) with ⟨_, a, ha, hnone⟩ | ⟨typed, h, ht⟩
  · exfalso
    have : Float.parseF (a.val c) ∈ as.map (fun a => Float.parseF (a.val c)) := List.mem_map.mpr ⟨a, ha, rfl⟩
    rw [hp, hnone] at this
    simp at this
  · rw [h]
    cases typedOk_parsed Float.parseF c typed as ht (x :: xs) hp with
    | cons h1 h2 =>
      simp only [Float.floatRun, Comp.bind_eq, Comp.run_bind, h1]
      exact foldRunF_run c op _ xs h2 x

example : (callHelper (Float.floatHelper F64.add) [.const (ascii "0.1"), .group 0]
    ⟨fun _ => ascii "0.2", fun _ => []⟩).toOption = some (ascii "0.30000000000000004") := by decide +kernel

example : (callHelper (Float.floatHelper F64.mul) [.const (ascii "1e200"), .const (ascii "1E200")]
    ⟨fun _ => [], fun _ => []⟩).toOption = some (ascii "+Inf") := by decide +kernel

/-- **`sumf` on small integers is exact**: arguments that parse to integer-valued floats `n₀ … nₖ`
    (any spelling: `7`, `7.0`, `0.7e1`, `0x7p0` …) whose partial sums all have magnitude ≤ 2^53 give
    exactly the decimal rendering of the integer sum `Σ nᵢ` — `strconv.Itoa` of it.  The only other
    output is `-0`, when the sum is zero and IEEE makes it a negative zero (`{sumf -0 -0}`), as the
    code has it. -/
theorem sumf_exact_small_ints (c : Ctx) (as : List Arg) (x : F64) (xs : List F64) (n : Int) (ns : List Int)
    (hp : as.map (fun a => Float.parseF (a.val c)) = (x :: xs).map some) (hlen : 1 ≤ xs.length)
    (hx : x.toRat? = some (n : Rat))
    (hxs : All2 (fun x n => x.toRat? = some ((n : Int) : Rat)) xs ns)
    (hsmall : PartialSumsSmall n ns) :
    callHelper (Float.floatHelper F64.add) as c = .ok (itoa (ns.foldl (· + ·) n)) ∨
    (ns.foldl (· + ·) n = 0 ∧ callHelper (Float.floatHelper F64.add) as c = .ok (ascii "-0")) := by
  rw [float_fold F64.add c as x xs hp hlen]
  have hy := foldl_add_exact xs ns x n hx hxs hsmall
  obtain ⟨fy, vy⟩ := F64.toRat?_eq_some.mp hy
  -- the last partial sum is small, hence the total is a float
  have hsm : ∀ (ns : List Int) (n : Int), n.natAbs ≤ 9007199254740992 → PartialSumsSmall n ns →
      (ns.foldl (· + ·) n).natAbs ≤ 9007199254740992 := by
    intro ns
    induction ns with
    | nil => intro n h _; exact h
    | cons m r ih => intro n _ hs; exact ih (n + m) hs.1 hs.2
  cases ns with
  | nil => cases hxs; simp at hlen
  | cons m r =>
    have hb := hsm r (n + m) hsmall.1 hsmall.2
    by_cases hne : List.foldl (· + ·) n (m :: r) = 0
    · -- a zero sum prints as 0 or -0
      rw [hne] at vy
      have : (xs.foldl F64.add x).toRat = 0 := by rw [vy]; rfl
      rcases fmtF_zero this with e | e
      · left; rw [e, hne]; exact congrArg Except.ok (by decide +kernel)
      · right; exact ⟨hne, by rw [e]⟩
    · left
      obtain ⟨fo, vo⟩ := F64.isFinite_ofInt _ hb
      have heq : xs.foldl F64.add x = F64.ofInt (List.foldl (· + ·) n (m :: r)) := by
        apply F64.eq_of_toRat_eq fy fo
        · rw [vy]; exact vo.symm
        · rw [vy]; intro h0
          exact hne (by
            have : ((List.foldl (· + ·) n (m :: r) : Int) : Rat) = ((0 : Int) : Rat) := by simpa using h0
            exact Rat.intCast_inj.mp this)
      rw [heq]
      show Except.ok (F64.format _ (-1)) = _
      have hb' : (List.foldl (· + ·) n (m :: r)).natAbs ≤ 9007199254740992 := hb
      rw [F64.format_ofInt hb']

/-- The same for arguments that are *integer spellings* (whatever `strconv.Atoi` accepts, constants
    or match groups), each of magnitude ≤ 2^53, with partial sums of magnitude ≤ 2^53: `{sumf …}`
    prints the integer sum (or `-0` for `{sumf -0 -0}`). -/
theorem sumf_of_int_spellings (c : Ctx) (as : List Arg) (n : Int) (ns : List Int)
    (hp : as.map (fun a => atoi (a.val c)) = (n :: ns).map some) (hlen : 1 ≤ ns.length)
    (hb : ∀ m ∈ n :: ns, m.natAbs ≤ 9007199254740992) (hsmall : PartialSumsSmall n ns) :
    callHelper (Float.floatHelper F64.add) as c = .ok (itoa (ns.foldl (· + ·) n)) ∨
    (ns.foldl (· + ·) n = 0 ∧ callHelper (Float.floatHelper F64.add) as c = .ok (ascii "-0")) := by
  obtain ⟨xs, hx, hall⟩ := ints_parse_as_floats c as (n :: ns) hp hb
  cases hall with
  | cons h1 h2 =>
    rename_i x xs'
    exact sumf_exact_small_ints c as x xs' n ns hx (by
      have := congrArg List.length hx
      have l2 := congrArg List.length hp
      simp at this l2; omega) h1 h2 hsmall

/-- **`FormatFloat(float64(n), 'f', -1, 64) = strconv.Itoa(n)`** for every integer `|n| ≤ 2^53`: the
    shortest-digits rendering of an integer-valued float is the integer's decimal spelling (no
    exponent, no fraction) — what makes the float helpers agree with the integer helpers on integers. -/
theorem format_float_of_int (n : Int) (h : n.natAbs ≤ 9007199254740992) :
    Float.fmtF (F64.ofInt n) = itoa n :=
  F64.format_ofInt h

example : Float.fmtF (F64.ofInt (-9007199254740992)) = ascii "-9007199254740992" ∧
    Float.fmtF (F64.ofInt 9007199254740993) = ascii "9007199254740992" ∧
    Float.fmtF (F64.ofInt 1000000) = ascii "1000000" := by decide +kernel

/-- An integer spelling is a float spelling: `ParseFloat` accepts whatever `Atoi` accepts and returns the
    correctly rounded integer (so the integer helpers' inputs are also inputs of the float helpers). -/
theorem int_spelling_is_float (s : Bytes) (n : Int) (h : atoi s = some n) :
    Float.parseF s = some (F64.ofRatS (s.head? == some 45) (n : Rat)) ∧
    (n.natAbs ≤ 9007199254740992 → ∃ y, Float.parseF s = some y ∧ y.toRat? = some (n : Rat)) :=
  ⟨F64.parseFloat_of_atoi h, fun hs => F64.parseFloat_of_atoi_small h hs⟩

example : atoi (ascii "-9007199254740992") = some (-9007199254740992) ∧ atoi (ascii "+007") = some 7 := by
  decide +kernel

example : PartialSumsSmall 9007199254740000 [900, 92, -9007199254740992] := by
  unfold PartialSumsSmall PartialSumsSmall PartialSumsSmall PartialSumsSmall; decide

example : (callHelper (Float.floatHelper F64.add) [.const (ascii "9007199254740000"), .group 0, .group 1]
    ⟨fun i => if i = 0 then ascii "900" else ascii "92", fun _ => []⟩).toOption = some (ascii "9007199254740992") := by
  decide +kernel

/-- **`{divf a 0}` as the code has it**: IEEE division, no marker — a finite non-zero dividend gives
    `+Inf` / `-Inf` (sign = xor of the signs, so `1 ÷ -0 = -Inf`), `0/0` gives `NaN`. -/
theorem divf_zero_marker (c : Ctx) (a b : Arg) (x z : F64)
    (ha : Float.parseF (a.val c) = some x) (hb : Float.parseF (b.val c) = some z)
    (hx : x.isFinite = true) (hz : z.mag = 0) :
    callHelper (Float.floatHelper F64.div) [a, b] c =
      .ok (if x.mag = 0 then ascii "NaN" else if (x.sign != z.sign) then ascii "-Inf" else ascii "+Inf") := by
  rw [float_fold F64.div c [a, b] x [z] (by simp [ha, hb]) (by simp)]
  simp only [List.foldl_cons, List.foldl_nil, Float.fmtF, F64.div_by_zero hx hz]
  split
  · rw [F64.format_nan]
  · rw [F64.format_inf]

example : (callHelper (Float.floatHelper F64.div) [.const (ascii "-1.5"), .const (ascii "0")]
    ⟨fun _ => [], fun _ => []⟩).toOption = some (ascii "-Inf") ∧
    (callHelper (Float.floatHelper F64.div) [.const (ascii "0"), .const (ascii "-0")]
    ⟨fun _ => [], fun _ => []⟩).toOption = some (ascii "NaN") := by decide +kernel

/-- **`{floor a}` / `{ceil a}`**: for an argument that parses to a finite float `v` whose floor / ceiling
    fits an int64 the output is the decimal integer `⌊v⌋` / `⌈v⌉`, which brackets `v`
    (`⌊v⌋ ≤ v < ⌊v⌋+1`, `⌈v⌉-1 < v ≤ ⌈v⌉`); NaN and ±Inf print `MinInt64` (amd64's `int64(x)`). -/
theorem floor_ceil_bracket (c : Ctx) (a : Arg) (x : F64) (ha : Float.parseF (a.val c) = some x) :
    (x.isFinite = true → minInt64 ≤ x.toRat.floor → x.toRat.floor ≤ maxInt64 →
      callHelper (Float.unaryF Float.floorStr) [a] c = .ok (itoa x.toRat.floor) ∧
      ((x.toRat.floor : Int) : Rat) ≤ x.toRat ∧ x.toRat < ((x.toRat.floor + 1 : Int) : Rat)) ∧
    (x.isFinite = true → minInt64 ≤ x.toRat.ceil → x.toRat.ceil ≤ maxInt64 →
      callHelper (Float.unaryF Float.ceilStr) [a] c = .ok (itoa x.toRat.ceil) ∧
      ((x.toRat.ceil - 1 : Int) : Rat) < x.toRat ∧ x.toRat ≤ ((x.toRat.ceil : Int) : Rat)) ∧
    (x.isFinite = false →
      callHelper (Float.unaryF Float.floorStr) [a] c = .ok (itoa minInt64) ∧
      callHelper (Float.unaryF Float.ceilStr) [a] c = .ok (itoa minInt64)) := by
  refine ⟨?_, ?_, ?_⟩
  · intro hf h1 h2
    rw [unaryF_call, ha]
    refine ⟨?_, Rat.floor_le _, Rat.lt_floor_add_one _⟩
    simp only [Float.floorStr, F64.toInt64_of_int (F64.floor_spec hf) h1 h2]
  · intro hf h1 h2
    rw [unaryF_call, ha]
    refine ⟨?_, Rat.lt_ceil_iff.mp (by omega), Rat.le_ceil⟩
    simp only [Float.ceilStr, F64.toInt64_of_int (F64.ceil_spec hf) h1 h2]
  · intro hf
    rw [unaryF_call, unaryF_call, ha]
    simp only [Float.floorStr, Float.ceilStr, F64.floor, F64.ceil,
      F64.toInt64_not_finite (F64.integral_not_finite _ hf)]
    first | exact ⟨rfl, rfl⟩ | trivial | simp

example : (callHelper (Float.unaryF Float.floorStr) [.group 0] ⟨fun _ => ascii "-2.5", fun _ => []⟩).toOption
      = some (ascii "-3") ∧
    (callHelper (Float.unaryF Float.ceilStr) [.group 0] ⟨fun _ => ascii "-2.5", fun _ => []⟩).toOption
      = some (ascii "-2") ∧
    (callHelper (Float.unaryF Float.floorStr) [.group 0] ⟨fun _ => ascii "1e300", fun _ => []⟩).toOption
      = some (ascii "-9223372036854775808") := by decide +kernel

/-- **`{round a p}`** (constant `0 ≤ p ≤ 1024`) is `FormatFloat(v, 'f', p, 64)`: sign, then the digits of
    the integer `N = roundNE (|v|·10^p)` with the point `p` places from the right; `N` is within one
    half of `|v|·10^p` and exact ties go to the even digit (`roundNE`) — `{round 2.5}` is `2`,
    `{round 3.5}` is `4`, `{round 0.125 2}` is `0.12`: round-half-even on the exact binary value, not
    `math.Round`. -/
theorem round_half_even (c : Ctx) (a : Arg) (pb : Bytes) (p : Nat) (x : F64)
    (hp : atoi pb = some (p : Int)) (hmax : p ≤ 1024)
    (ha : Float.parseF (a.val c) = some x) (hf : x.isFinite = true) :
    callHelper Float.kfRound [a, .const pb] c =
      .ok ((if x.sign then [45] else []) ++
           F64.placePoint (natDigits (F64.roundNE (F64.magVal x.mag * F64.pow10 p)).toNat) p) ∧
    F64.magVal x.mag * F64.pow10 p - 1/2 ≤ ((F64.roundNE (F64.magVal x.mag * F64.pow10 p) : Int) : Rat) ∧
    ((F64.roundNE (F64.magVal x.mag * F64.pow10 p) : Int) : Rat) ≤ F64.magVal x.mag * F64.pow10 p + 1/2 := by
  refine ⟨?_, F64.fixed_digits_err _ _⟩
  rw [round_call c a pb p hp (by omega), ha]
  have h1 := F64.not_nan_of_finite hf
  have h2 := F64.not_inf_of_finite hf
  have h3 : ¬ ((p : Int) < 0) := by omega
  simp only [F64.format, h1, h2, Bool.false_eq_true, if_false, h3, Int.toNat_natCast, F64.fixedBody_eq]
  cases x.sign <;> simp

example : (callHelper Float.kfRound [.group 0] ⟨fun _ => ascii "2.5", fun _ => []⟩).toOption = some (ascii "2") ∧
    (callHelper Float.kfRound [.group 0] ⟨fun _ => ascii "3.5", fun _ => []⟩).toOption = some (ascii "4") ∧
    (callHelper Float.kfRound [.group 0, .const (ascii "2")] ⟨fun _ => ascii "0.125", fun _ => []⟩).toOption
      = some (ascii "0.12") ∧
    (callHelper Float.kfRound [.group 0, .const (ascii "1")] ⟨fun _ => ascii "-0.05", fun _ => []⟩).toOption
      = some (ascii "-0.1") := by decide +kernel

/-- **Comparisons** `{lt a b}` … `{gte a b}` on arguments that parse to finite floats compare the exact
    values; a NaN operand makes every comparison falsy (as IEEE and the code have it). -/
theorem float_compare_spec (c : Ctx) (a b : Arg) (x y : F64)
    (ha : Float.parseF (a.val c) = some x) (hb : Float.parseF (b.val c) = some y) :
    (x.isFinite = true → y.isFinite = true →
      callHelper (Float.cmpHelper fun a b => F64.lt a b) [a, b] c = .ok (truthyStr (decide (x.toRat < y.toRat))) ∧
      callHelper (Float.cmpHelper fun a b => F64.lt b a) [a, b] c = .ok (truthyStr (decide (y.toRat < x.toRat))) ∧
      callHelper (Float.cmpHelper fun a b => F64.le a b) [a, b] c = .ok (truthyStr (decide (x.toRat ≤ y.toRat))) ∧
      callHelper (Float.cmpHelper fun a b => F64.le b a) [a, b] c = .ok (truthyStr (decide (y.toRat ≤ x.toRat)))) ∧
    ((x.isNaN = true ∨ y.isNaN = true) →
      callHelper (Float.cmpHelper fun a b => F64.lt a b) [a, b] c = .ok FalsyVal ∧
      callHelper (Float.cmpHelper fun a b => F64.lt b a) [a, b] c = .ok FalsyVal ∧
      callHelper (Float.cmpHelper fun a b => F64.le a b) [a, b] c = .ok FalsyVal ∧
      callHelper (Float.cmpHelper fun a b => F64.le b a) [a, b] c = .ok FalsyVal) := by
  have e : ∀ test, callHelper (Float.cmpHelper test) [a, b] c = .ok (truthyStr (test x y)) := by
    intro test; rw [cmp_call, ha, hb]
  constructor
  · intro hx hy
    have l1 := F64.lt_iff_toRat_lt hx hy
    have l2 := F64.lt_iff_toRat_lt hy hx
    have l3 := F64.le_iff_toRat_le hx hy
    have l4 := F64.le_iff_toRat_le hy hx
    refine ⟨?_, ?_, ?_, ?_⟩ <;> rw [e] <;> congr 2
    · exact Bool.eq_iff_iff.mpr (by simpa using l1)
    · exact Bool.eq_iff_iff.mpr (by simpa using l2)
    · exact Bool.eq_iff_iff.mpr (by simpa using l3)
    · exact Bool.eq_iff_iff.mpr (by simpa using l4)
  · intro hn
    have f1 : F64.lt x y = false ∧ F64.lt y x = false ∧ F64.le x y = false ∧ F64.le y x = false := by
      unfold F64.lt F64.le
      rcases hn with h | h <;> simp [h]
    refine ⟨?_, ?_, ?_, ?_⟩ <;> rw [e] <;> simp [f1, truthyStr]

example : (callHelper (Float.cmpHelper fun a b => F64.lt a b) [.const (ascii "0.1"), .group 0]
      ⟨fun _ => ascii "1e-1", fun _ => []⟩).toOption = some FalsyVal ∧
    (callHelper (Float.cmpHelper fun a b => F64.le a b) [.const (ascii "0.1"), .group 0]
      ⟨fun _ => ascii "0x1.999999999999ap-4", fun _ => []⟩).toOption = some TruthyVal ∧
    (callHelper (Float.cmpHelper fun a b => F64.lt a b) [.const (ascii "9007199254740992"), .group 0]
      ⟨fun _ => ascii "9007199254740993", fun _ => []⟩).toOption = some FalsyVal ∧
    (callHelper (Float.cmpHelper fun a b => F64.le a b) [.const (ascii "nan"), .group 0]
      ⟨fun _ => ascii "nan", fun _ => []⟩).toOption = some FalsyVal := by decide +kernel

/-- **Non-numeric input yields the marker, never a number** — every float-valued helper: a value
    that `strconv.ParseFloat` rejects (syntax error, or out of range) gives `<BAD-TYPE>`
    (`isnum`: falsy), whether it is a constant or arrives from a match group; and the marker itself
    is not a float. -/
theorem float_nonnumeric_marker (c : Ctx) :
    (∀ (op : F64 → F64 → F64) (as : List Arg), 2 ≤ as.length → (∃ a ∈ as, Float.parseF (a.val c) = none) →
      callHelper (Float.floatHelper op) as c = .ok ErrorNum) ∧
    (∀ (f : F64 → Bytes) (a : Arg), Float.parseF (a.val c) = none →
      callHelper (Float.unaryF f) [a] c = .ok ErrorNum) ∧
    (∀ (a : Arg), Float.parseF (a.val c) = none →
      callHelper Float.kfRound [a] c = .ok ErrorNum ∧
      (∀ pb p, atoi pb = some p → p ≤ 1024 → callHelper Float.kfRound [a, .const pb] c = .ok ErrorNum) ∧
      callHelper Float.kfIsNum [a] c = .ok FalsyVal) ∧
    (∀ (test : F64 → F64 → Bool) (a b : Arg), (Float.parseF (a.val c) = none ∨ Float.parseF (b.val c) = none) →
      callHelper (Float.cmpHelper test) [a, b] c = .ok ErrorNum) ∧
    Float.parseF ErrorNum = none ∧ Float.parseF ErrorValue = none ∧ Float.parseF [] = none := by
  refine ⟨fun op as hl hb => floatHelper_marker op c as hl hb, ?_, ?_, ?_, by decide +kernel, by decide +kernel,
    by decide +kernel⟩
  · intro f a h; rw [unaryF_call, h]
  · intro a h
    refine ⟨by rw [round_call0, h], fun pb p hp hm => by rw [round_call c a pb p hp hm, h], ?_⟩
    rw [isnum_call, h]; rfl
  · intro test a b h
    rw [cmp_call]
    rcases h with h | h
    · rw [h]
    · rw [h]; cases Float.parseF (a.val c) <;> rfl

example : Float.parseF (ascii "12x") = none ∧ Float.parseF (ascii "1e999") = none ∧ Float.parseF (ascii "1__0") = none ∧
    Float.parseF (ascii "0x10") = none ∧ Float.parseF (ascii "+nan") = none ∧ Float.parseF (ascii " 1") = none ∧
    (Float.parseF (ascii "0x1_0p0")).isSome = true ∧ (Float.parseF (ascii "1_0")).isSome = true ∧ (Float.parseF (ascii "-Infinity")).isSome = true ∧
    (Float.parseF (ascii "1e-999")).isSome = true ∧ (Float.parseF (ascii ".5e1")).isSome = true := by decide +kernel

/-- `{isnum a}` is truthy exactly when `strconv.ParseFloat` accepts the value. -/
theorem isnum_spec (c : Ctx) (a : Arg) :
    callHelper Float.kfIsNum [a] c = .ok (if (Float.parseF (a.val c)).isSome then TruthyVal else FalsyVal) :=
  isnum_call c a

/-- `{hf a}`, `{sqrt a}`: the run-time path, for constants and groups alike. -/
theorem hf_sqrt_call (c : Ctx) (a : Arg) (x : F64) (ha : Float.parseF (a.val c) = some x) :
    callHelper (Float.unaryF Float.hfStr) [a] c = .ok (Float.humanizeFloat x 4) ∧
    callHelper (Float.unaryF Float.sqrtStr) [a] c = .ok (Float.fmtF (F64.sqrt x)) := by
  rw [unaryF_call, unaryF_call, ha]; exact ⟨rfl, rfl⟩

/-- `bytesize` / `bytesizesi` / `downscale`: below one step the integer is printed as is; otherwise the
    scaling loop stops at or before the last unit (`units[rank]` never indexes out of range). -/
theorem unitize_spec (n step precision : Int) (delim : Bytes) (units : List String) :
    ((-step < n ∧ n < step) →
      Float.unitize n step precision delim units = Strings.withUnit (itoa n) delim (units.headD "")) ∧
    (∀ (fuel : Nat) (nf : F64), (Float.unitLoop (F64.ofInt step) (units.length - 1) fuel nf 0).2 ≤ units.length - 1) := by
  constructor
  · intro h
    unfold Float.unitize
    have : n > -step ∧ n < step := ⟨by omega, h.2⟩
    simp [this]
  · intro fuel nf
    exact unitLoop_rank_le _ _ fuel nf 0 (by omega)

example : Float.hfStr (F64.ofInt (-1234567)) = ascii "-1,234,567.0000" ∧
    Float.hfStr (F64.ofRat (999.99996)) = ascii "1000.0000" ∧
    Float.sqrtStr (F64.ofInt 2) = ascii "1.4142135623730951" ∧
    Float.unitize 1536 1024 1 [32] Strings.iecSizes = ascii "1.5 KB" ∧
    Float.unitize (-1) 1024 0 [32] Strings.iecSizes = ascii "-1 B" ∧
    Float.unitize 9007199254740993 1000 3 [] Strings.unitSize = ascii "9007.199T" ∧
    Float.percentStr (F64.ofRat 0.25) (F64.zero false) F64.one 1 = ascii "25.0%" := by decide +kernel

/-! ## format: `fmt.Sprintf` on string operands (`Funcs/Format.lean`)

`{format f a₁ … aₙ}` evaluates every argument to a string and calls `fmt.Sprintf(f, a₁, …, aₙ)`.  The model
mirrors Go's `fmt` restricted to string operands (flags, width, precision, `*`, `[n]`, the verbs `s v q x X T`,
`%!verb(string=…)`, `(MISSING)`, `(BADINDEX)`, `(NOVERB)`, `(EXTRA …)`, `(BADWIDTH)`, `(BADPREC)`); the only
parameter is `unicode.IsPrint` for non-ASCII runes (`%q`).  The theorems hold for every such oracle. -/

/-- **What a call computes**: `{format f a₁ … aₙ}` – constants, match groups and keys alike – is the model's
    `Sprintf` of the argument values; it never panics (`Format.sprintf_total`). -/
theorem format_is_sprintf (isPrint : Nat → Bool) (c : Ctx) (f : Arg) (as : List Arg) :
    callHelper (Format.kfFormat isPrint) (f :: as) c = Format.sprintf isPrint (f.val c) (as.map (Arg.val c)) ∧
    ∃ out, Format.sprintf isPrint (f.val c) (as.map (Arg.val c)) = .ok out :=
  ⟨format_call isPrint c f as, Format.sprintf_total isPrint _ _⟩

/-- **`{format "%s" x}` is `x`**, for every byte string (valid UTF-8 or not). -/
theorem format_s_identity (isPrint : Nat → Bool) (c : Ctx) (a : Arg) :
    callHelper (Format.kfFormat isPrint) [.const [37, 115], a] c = .ok (a.val c) := by
  rw [format_call]; exact sprintf_s isPrint (a.val c)

/-- **Literal text is copied and `%%` is one percent sign**: a format `l₁ %% l₂` whose parts contain no `%`,
    with no operands, yields `l₁ % l₂` (in particular a format without `%` yields itself). -/
theorem format_percent_literal (isPrint : Nat → Bool) (l1 l2 : Bytes)
    (h1 : ∀ b ∈ l1, b ≠ 37) (h2 : ∀ b ∈ l2, b ≠ 37) :
    Format.sprintf isPrint (l1 ++ 37 :: 37 :: l2) [] = .ok (l1 ++ 37 :: l2) ∧
    Format.sprintf isPrint l1 [] = .ok l1 := by
  refine ⟨sprintf_percent isPrint l1 l2 h1 h2, ?_⟩
  have := formatLoop_literal isPrint [] l1 1 [] {} h1
  simp only [List.append_nil] at this
  unfold Format.sprintf
  rw [show l1.length + 1 = 1 + l1.length by omega, this]
  simp [Format.formatLoop]

/-- **Width pads with blanks to at least `w` runes; `-` left-justifies**: for a width field `w` written as a
    decimal numeral `d ds` (first digit not `0`, value at most 9 999 999), `%<w>s` puts `w - runes(x)` blanks
    in front of `x` and `%-<w>s` behind it – runes counted the way Go counts them (every invalid byte is one) –
    so the result has `max w (runes x)` runes and always contains `x` unaltered. -/
theorem format_pad_width (isPrint : Nat → Bool) (d : UInt8) (ds x : Bytes) (hd : 49 ≤ d ∧ d ≤ 57)
    (hds : ds.all isDigitB = true) (hw : digitsVal (d :: ds) 0 ≤ 9999999) :
    ∃ pad : Bytes, pad = List.replicate (digitsVal (d :: ds) 0 - Format.runeCount x) 32 ∧
      Format.sprintf isPrint (37 :: d :: ds ++ [115]) [x] = .ok (pad ++ x) ∧
      Format.sprintf isPrint (37 :: 45 :: d :: ds ++ [115]) [x] = .ok (x ++ pad) ∧
      Format.runeCount (pad ++ x) = max (digitsVal (d :: ds) 0) (Format.runeCount x) ∧
      Format.runeCount (x ++ pad) = max (digitsVal (d :: ds) 0) (Format.runeCount x) := by
  obtain ⟨h1, h2⟩ := sprintf_width isPrint d ds x hd hds hw
  refine ⟨_, rfl, h1, h2, ?_, ?_⟩
  · rw [runeCount_spaces_append]; omega
  · rw [runeCount_append_spaces]; omega

/-- `%12s` / `%-12s` of a 3-rune string (one invalid byte among them): nine blanks. -/
example : ∃ pad : Bytes, pad = List.replicate 9 32 ∧
    Format.sprintf (fun _ => true) (Format.lit "%12s") [[0xC3, 0xA9, 0xFF, 120]] = .ok (pad ++ [0xC3, 0xA9, 0xFF, 120]) ∧
    Format.sprintf (fun _ => true) (Format.lit "%-12s") [[0xC3, 0xA9, 0xFF, 120]] = .ok ([0xC3, 0xA9, 0xFF, 120] ++ pad) := by
  obtain ⟨pad, hp, h1, h2, _, _⟩ := format_pad_width (fun _ => true) 49 [50] [0xC3, 0xA9, 0xFF, 120]
    (by decide) (by decide) (by decide)
  refine ⟨pad, ?_, h1, h2⟩
  rw [hp]
  decide +kernel

example : Format.sprintf (fun _ => false) (Format.lit "100" ++ 37 :: 37 :: Format.lit " done") [] =
    .ok (Format.lit "100" ++ 37 :: Format.lit " done") :=
  (format_percent_literal _ _ _ (by decide) (by decide)).1

example : (Format.sprintf (fun _ => true) (Format.lit "%5s|%-5s|") [Format.lit "ab", [0xC3, 0xA9, 0xFF]]).toOption =
      some (Format.lit "   ab|" ++ [0xC3, 0xA9, 0xFF] ++ Format.lit "   |") ∧
    (Format.sprintf (fun _ => true) (Format.lit "%q %x %d %[1]s %s %! %") [Format.lit "a\"b", Format.lit "hi"]).toOption =
      some (Format.lit "\"a\\\"b\" 6869 %!d(MISSING) a\"b hi %!!(MISSING) %!(NOVERB)") ∧
    (Format.sprintf (fun _ => true) (Format.lit "100%% %s") [Format.lit "x", Format.lit "y"]).toOption =
      some (Format.lit "100% x%!(EXTRA string=y)") := by decide +kernel

/-- `{len s}` is the number of BYTES of the value (not runes: `{len é}` is 2), in decimal. -/
theorem len_spec (c : Ctx) (a : Arg) :
    callHelper Strings.kfLen [a] c = .ok (itoa ((a.val c).length : Int)) := by
  simp only [callHelper, Strings.kfLen, List.map, ok, Comp.bind_eq, Comp.run_bind, Arg.run_stage]; rfl

/-- `{like s x}` / `{prefix s x}` / `{suffix s x}` return `s` itself when `x` occurs in `s` as a contiguous
    block / at its start / at its end, and the empty string otherwise – byte-wise, for arbitrary bytes; an empty
    `x` always matches. -/
theorem like_prefix_suffix_spec (c : Ctx) (a b : Arg) :
    callHelper (Strings.testHelper fun v x => Strings.containsB v x) [a, b] c =
      .ok (if b.val c <:+: a.val c then a.val c else []) ∧
    callHelper (Strings.testHelper fun v x => x.isPrefixOf v) [a, b] c =
      .ok (if b.val c <+: a.val c then a.val c else []) ∧
    callHelper (Strings.testHelper fun v x => x.isSuffixOf v) [a, b] c =
      .ok (if b.val c <:+ a.val c then a.val c else []) ∧
    ([] <:+: a.val c ∧ [] <+: a.val c ∧ [] <:+ a.val c) := by
  have key : ∀ (test : Bytes → Bytes → Bool) (P : Prop) [Decidable P], (test (a.val c) (b.val c) = true ↔ P) →
      callHelper (Strings.testHelper test) [a, b] c = .ok (if P then a.val c else []) := by
    intro test P _ h
    rw [test_call]
    simp only [h]
  exact ⟨key _ _ (containsB_iff _ _), key _ _ List.isPrefixOf_iff_prefix, key _ _ List.isSuffixOf_iff_suffix,
    List.nil_infix, List.nil_prefix, List.nil_suffix⟩

example : Strings.containsB (ascii "hello world") (ascii "o w") = true ∧ Strings.containsB (ascii "abc") (ascii "ac") = false ∧
    Strings.containsB [] [] = true := by decide +kernel

/-- `{isint a}` is truthy exactly when `strconv.Atoi` accepts the value. -/
theorem isint_spec (c : Ctx) (a : Arg) :
    callHelper Arith.kfIsInt [a] c = .ok (if (atoi (a.val c)).isSome then TruthyVal else FalsyVal) := by
  simp only [callHelper, Arith.kfIsInt, List.map, ok, Comp.bind_eq, Comp.run_bind, Arg.run_stage]; rfl

/-- The spellings at the edge of the two number grammars (a finite table, fully enumerated): `Atoi` takes an
    optional sign and decimal digits within int64 – no blanks, point, exponent, base prefix, underscore or
    non-ASCII digits; `ParseFloat` additionally takes points, exponents, hex floats, `_` between digits, `inf`,
    `nan`.  So `{eq 1 1.0}` is falsy (strings), `{lte 1 1.0}` truthy (floats), `{sumi 1 1.0}` the marker. -/
theorem number_spellings_table :
    ([ascii "+1", ascii "-0", ascii "007", ascii "-9223372036854775808", ascii "9223372036854775807"].all
        (fun s => (atoi s).isSome)) = true ∧
    ([ascii "1.0", ascii " 1", ascii "1 ", ascii "0x1", ascii "1e0", ascii "1_000", [], ascii "+", ascii "-", ascii "--1",
      ascii "9223372036854775808", ascii "-9223372036854775809", [0xD9, 0xA1]].all (fun s => (atoi s).isNone)) = true ∧
    ([ascii "1.0", ascii "1e0", ascii "1_000", ascii "0x1p0", ascii "+1", ascii ".5", ascii "5.", ascii "Inf", ascii "nan"].all
        (fun s => (Float.parseF s).isSome)) = true ∧
    ([ascii " 1", ascii "1 ", ascii "0x1", ascii "1e", ascii "1__0", ascii "_1", ascii "1_", [], ascii ".", [0xD9, 0xA1]].all
        (fun s => (Float.parseF s).isNone)) = true := by
  decide +kernel

/-- **The integer grammar, as an iff** (closing the seam with C17's `atoi_iff`): `{isint a}` is truthy exactly when the
    value is an optional sign `+` / `-` followed by one or more ASCII digits whose signed decimal value fits int64 –
    no blanks, point, exponent, base prefix, underscore or non-ASCII digit; every integer helper (`sumi … modi`,
    `bucket`, `clamp`, `hi` …) accepts exactly these spellings and answers `<BAD-TYPE>` on all others
    (`nonnumeric_marker`, `nonnumeric_marker_unary`). -/
theorem isint_grammar (c : Ctx) (a : Arg) :
    callHelper Arith.kfIsInt [a] c = .ok TruthyVal ↔
      ∃ sign ds, a.val c = sign ++ ds ∧ (sign = [] ∨ sign = [43] ∨ sign = [45]) ∧ ds ≠ [] ∧ ds.all isDigitB = true ∧
        minInt64 ≤ (if sign = [45] then -(C17.decVal ds : Int) else (C17.decVal ds : Int)) ∧
        (if sign = [45] then -(C17.decVal ds : Int) else (C17.decVal ds : Int)) ≤ maxInt64 := by
  rw [isint_spec]
  have hne : TruthyVal ≠ FalsyVal := by decide +kernel
  constructor
  · intro h
    cases hv : atoi (a.val c) with
    | none =>
      rw [hv] at h
      simp only [Option.isSome_none, Bool.false_eq_true, if_false, Except.ok.injEq] at h
      exact absurd h.symm hne
    | some v =>
      obtain ⟨sign, ds, h1, h2, h3, h4, h5, h6, h7⟩ := (C17.atoi_iff _ v).mp hv
      exact ⟨sign, ds, h1, h2, h3, h4, by rw [← h5]; exact h6, by rw [← h5]; exact h7⟩
  · rintro ⟨sign, ds, h1, h2, h3, h4, h6, h7⟩
    have := (C17.atoi_iff (a.val c) _).mpr ⟨sign, ds, h1, h2, h3, h4, rfl, h6, h7⟩
    rw [this]; rfl

example : ∃ sign ds, ascii "-007" = sign ++ ds ∧ (sign = [] ∨ sign = [43] ∨ sign = [45]) ∧ ds ≠ [] ∧ ds.all isDigitB = true :=
  ⟨[45], ascii "007", by decide +kernel, Or.inr (Or.inr rfl), by decide +kernel, by decide +kernel⟩
/-- `{coalesce a₁ … aₙ}`: the first non-empty value (empty when there is none, also for no arguments). -/
theorem coalesce_spec (c : Ctx) (as : List Arg) :
    callHelper Logic.kfCoalesce as c = .ok (coalesceSpec (as.map (Arg.val c))) ∧
    (∀ vs : List Bytes, coalesceSpec vs = (vs.find? (· ≠ [])).getD []) := by
  refine ⟨coalesce_call c as, ?_⟩
  intro vs
  induction vs with
  | nil => rfl
  | cons v r ih =>
    by_cases h : v = []
    · simp [coalesceSpec, h, ih]
    · simp [coalesceSpec, h]

/-- `{switch c₁ v₁ c₂ v₂ … [default]}` (at least two arguments): the value paired with the first truthy
    condition; with none truthy the trailing default if the argument count is odd, else the empty string.
    Conditions after the first truthy one are not looked at. -/
theorem switch_spec (c : Ctx) (as : List Arg) (h : 2 ≤ as.length) :
    callHelper Logic.kfSwitch as c = .ok (switchSpec (as.map (Arg.val c))) ∧
    (∀ cnd v rest, truthy cnd = true → switchSpec (cnd :: v :: rest) = v) ∧
    (∀ cnd v rest, truthy cnd = false → switchSpec (cnd :: v :: rest) = switchSpec rest) ∧
    (∀ d, switchSpec [d] = d) ∧ switchSpec [] = [] :=
  ⟨switch_call c as h, fun _ _ _ ht => by simp [switchSpec, ht], fun _ _ _ ht => by simp [switchSpec, ht],
   fun _ => rfl, rfl⟩

example : switchSpec [ascii " ", ascii "a", ascii "x", ascii "b", ascii "dflt"] = ascii "b" ∧
    switchSpec [[], ascii "a", ascii "\t", ascii "b", ascii "dflt"] = ascii "dflt" ∧
    switchSpec [[], ascii "a", [], ascii "b"] = [] := by decide +kernel

/-- `{tab a₁ … aₙ}` (and `{$ …}`, `{@ …}` with the NUL separator): the values joined by ONE separator byte
    between neighbours, none at the ends; empty values keep their separators; no arguments give "". -/
theorem tab_join_spec (c : Ctx) (as : List Arg) :
    callHelper (Strings.kfJoin [9]) as c = .ok (joinSpec [9] (as.map (Arg.val c))) ∧
    callHelper (Strings.kfJoin [0]) as c = .ok (joinSpec [0] (as.map (Arg.val c))) ∧
    (∀ (d v : Bytes) (rest : List Bytes), joinSpec d (v :: rest) = v ++ rest.flatMap (d ++ ·)) :=
  ⟨join_call [9] c as, join_call [0] c as, joinSpec_cons⟩

example : joinSpec [9] [ascii "a", [], ascii "b"] = ascii "a\t\tb" := by decide +kernel

/-- **Path helpers** (`filepath.Base`, `filepath.Ext` on `/`-separated paths; every byte string): `{basename p}` is
    never empty and holds a `/` only when it is the root `/` itself; `{extname p}` is empty or a suffix `.xyz` of
    `p` (from the LAST dot of the last element) whose tail has neither `.` nor `/`; the calls never panic. -/
theorem path_spec (c : Ctx) (a : Arg) :
    callHelper (Misc.pathHelper Misc.pathBase) [a] c = .ok (Misc.pathBase (a.val c)) ∧
    callHelper (Misc.pathHelper Misc.pathDir) [a] c = .ok (Misc.pathDir (a.val c)) ∧
    callHelper (Misc.pathHelper Misc.pathExt) [a] c = .ok (Misc.pathExt (a.val c)) ∧
    (∀ p, Misc.pathBase p ≠ [] ∧ (47 ∈ Misc.pathBase p → Misc.pathBase p = [47])) ∧
    (∀ p, Misc.pathExt p = [] ∨
      ∃ pre k, p = pre ++ 46 :: k ∧ Misc.pathExt p = 46 :: k ∧ ∀ b ∈ k, b ≠ 46 ∧ b ≠ 47) := by
  refine ⟨?_, ?_, ?_, pathBase_facts, pathExt_facts⟩ <;>
    simp only [callHelper, Misc.pathHelper, List.map, ok, Comp.bind_eq, Comp.run_bind, Arg.run_stage] <;> rfl

example : Misc.pathBase [] = ascii "." ∧ Misc.pathBase (ascii "//") = ascii "/" ∧ Misc.pathBase (ascii "a/b/") = ascii "b" ∧
    Misc.pathExt (ascii ".bashrc") = ascii ".bashrc" ∧ Misc.pathExt (ascii "a.b/c") = [] ∧ Misc.pathExt (ascii "x.tar.gz") = ascii ".gz" ∧
    Misc.pathExt (ascii "x.") = ascii "." ∧ Misc.pathDir (ascii "a/b/../c/x") = ascii "a/c" ∧ Misc.pathDir (ascii "/..") = ascii "/" ∧
    Misc.pathDir [] = ascii "." ∧ Misc.pathDir (ascii "../../a") = ascii "../.." ∧ Misc.pathDir (ascii "a//b//") = ascii "a/b" := by
  decide +kernel

/-! ## more of /repo regenerated on every run: constants, delimiter set, dispatch table -/

/-- Caps and separators the model relies on are the ones in /repo (`util.go`, `drawing.go`, `humanize`,
    `stage.go`). -/
theorem gen_constants :
    Gen.C11.maxPrecision = Float.maxPrecision ∧ Gen.C11.maxRepeatBytes = Misc.maxRepeatBytes ∧
    Gen.C11.hfDecimals = Float.hfDecimals ∧ Gen.C11.baseSeparator = 44 ∧ Gen.C11.decimalSeparator = 46 ∧
    Gen.C11.arraySeparator = 0 := by decide +kernel

/-- The bytes `selectField` compares with – its delimiters and the quote – are exactly the model's. -/
theorem gen_select_chars : ∀ n : Nat, n < 256 →
    ((Strings.isSelDelim (UInt8.ofNat n) || UInt8.ofNat n == 34) = Gen.C11.selectFieldChars.contains n) := by
  decide +kernel

/-- Every C11 helper name is bound in `stdlib.StandardFunctions` to the builder – and, for the operator
    lambdas, the Go operator – the model mirrors (`lt` is `a < b`, `gte` is `a >= b`, `maxi` keeps `a` when
    `a > b`, `divi` / `modi` reject `b == 0` …). -/
theorem gen_dispatch :
    (c11Dispatch.all fun p => dispatchLookup Gen.C11.dispatch p.1 == some p.2) = true := by decide +kernel

/-- **`{percent a p min max}`** – value, min and max constants, groups or keys that parse as floats, `p` a constant
    precision `≤ 1024`: the float expression `(v - min)·100 / (max - min)` (each operation correctly rounded) rendered
    with `p` decimals, then `%`. -/
theorem percent_call_spec (c : Ctx) (a mn mx : Arg) (pb : Bytes) (p : Int) (hp : atoi pb = some p) (hmax : p ≤ 1024)
    (x lo hi : F64) (ha : Float.parseF (a.val c) = some x) (hlo : Float.parseF (mn.val c) = some lo)
    (hhi : Float.parseF (mx.val c) = some hi) :
    callHelper Float.kfPercent [a, .const pb, mn, mx] c = .ok (Float.percentStr x lo hi p) ∧
    Float.percentStr x lo hi p =
      F64.format (F64.div (F64.mul (F64.sub x lo) (F64.ofInt 100)) (F64.sub hi lo)) p ++ [37] :=
  ⟨percent_call4 c a mn mx pb p hp hmax x lo hi ha hlo hhi, rfl⟩

/-- **Default range** `0 … 1`: `{percent v p}` is the rendering of the single float product `v·100` (no further
    rounding from the subtraction of 0 and the division by 1), for every finite `v` – `-0` and overflow to `±Inf`
    included. -/
theorem percent_default_range (v : F64) (d : Int) (hv : v.isFinite = true) :
    Float.percentStr v (F64.zero false) F64.one d = F64.format (F64.mul v (F64.ofInt 100)) d ++ [37] := by
  unfold Float.percentStr
  have h10 : F64.sub F64.one (F64.zero false) = F64.one := by decide +kernel
  rw [F64.sub_pos_zero hv, h10,
    F64.div_one (F64.mul_not_nan (F64.not_nan_of_finite hv) (by decide +kernel) (by decide +kernel))]

/-- **Boundary `min = max`** (finite): the code divides by `max - min = +0`; the answer is `NaN%` when `(v - min)·100`
    is zero, else `+Inf%` / `-Inf%` by its sign – as IEEE has it, no marker, never digits. -/
theorem percent_min_eq_max (val m : F64) (d : Int) (hv : val.isFinite = true) (hm : m.isFinite = true) :
    Float.percentStr val m m d =
      (if (F64.mul (F64.sub val m) (F64.ofInt 100)).mag = 0 then ascii "NaN"
       else if (F64.mul (F64.sub val m) (F64.ofInt 100)).sign then ascii "-Inf" else ascii "+Inf") ++ [37] := by
  unfold Float.percentStr
  rw [F64.sub_self_zero hm]
  have hn : (F64.mul (F64.sub val m) (F64.ofInt 100)).isNaN = false :=
    F64.mul_not_nan (F64.sub_not_nan_of_finite hv hm) (by decide +kernel) (by decide +kernel)
  rw [F64.div_pos_zero hn]
  split
  · rw [F64.format_nan]
  · rw [F64.format_inf]

example : Float.percentStr (F64.ofInt 5) (F64.ofInt 3) (F64.ofInt 3) 1 = ascii "+Inf%" ∧
    Float.percentStr (F64.ofInt 3) (F64.ofInt 3) (F64.ofInt 3) 1 = ascii "NaN%" ∧
    Float.percentStr (F64.ofInt 1) (F64.ofInt 3) (F64.ofInt 3) 0 = ascii "-Inf%" ∧
    Float.percentStr (F64.ofRat 0.125) (F64.zero false) F64.one 1 = ascii "12.5%" ∧
    (callHelper Float.kfPercent [.group 0, .const (ascii "2"), .const (ascii "10"), .group 1]
      ⟨fun i => if i = 0 then ascii "15" else ascii "30", fun _ => []⟩).toOption = some (ascii "25.00%") := by
  decide +kernel

/-! ## admissible arities: the argument-count guard of every helper, for argument lists of every length

The property quantifies over "all admissible arities".  Which arities are admissible is decided by the guard at the
head of each builder (`len(args) != 3`, `!isArgCountBetween(args, 1, 4)`, `len(args) < 2` …).  `c11Builders` lists, for
all 63 helper names of this property, the builder the driver's registry binds to the name and the interval `[lo, hi]`
(`hi = none`: unbounded). -/

/-- **Every helper rejects exactly the inadmissible argument counts**, for argument lists of EVERY length: the builder
    answers with the `<ARGN>` stage and the `argcount` compile error IFF the number of arguments is outside the
    helper's interval (so inside the interval the answer is never the argument-count error, outside it nothing is
    evaluated and nothing panics); the builder is the one registered under the name; and a rejected call evaluates to
    `<ARGN>` in every context. -/
theorem arity_guards (isPrint : Nat → Bool) :
    (∀ e ∈ c11Builders isPrint, ∀ as : List Stage,
      argRejected (e.2.1 as) = !inArity e.2.2.1 e.2.2.2 as.length) ∧
    (∀ e ∈ c11Builders isPrint, e.1 = "format" ∨ lookupTable c11Table e.1 = some e.2.1) ∧
    (∀ (b : Builder) (as : List Arg) (c : Ctx), argRejected (b (as.map Arg.stage)) = true →
      callHelper b as c = .ok ErrorArgCount) :=
  ⟨c11Builders_arity isPrint, c11Builders_registered isPrint, argRejected_call⟩

/-- **The intervals are the guards of /repo** (regenerated on every run: the translator finds the guard of each builder
    bound in `StandardFunctions` – through helper-makers such as `arithmaticHelperi` → `arithmaticHelperiChecked` and
    `kfPathManip` – and evaluates its condition, `isArgCountBetween` through its own body, for 0 … 12 arguments). -/
theorem gen_arity :
    ((c11Builders fun _ => true).all fun e => Gen.C11.arity.lookup e.1 == some (e.2.2.1, e.2.2.2)) = true ∧
    (c11Builders fun _ => true).length = 63 := by decide +kernel

/-- `{substr a 1}`, `{clamp 5}` and `{if}` are `<ARGN>`; `{percent 1 2 3 4}` is not an arity error. -/
example : (∀ c, callHelper Strings.kfSubstr [.group 0, .const (ascii "1")] c = .ok ErrorArgCount) ∧
    (∀ c, callHelper Arith.kfClamp [.const (ascii "5")] c = .ok ErrorArgCount) ∧
    (∀ c, callHelper Logic.kfIf [] c = .ok ErrorArgCount) ∧
    argRejected (Float.kfPercent ([Arg.const (ascii "1"), .const (ascii "2"), .const (ascii "3"), .const (ascii "4")].map Arg.stage)) = false :=
  ⟨fun c => argRejected_call _ _ c (by decide +kernel), fun c => argRejected_call _ _ c (by decide +kernel),
   fun c => argRejected_call _ _ c (by decide +kernel), by decide +kernel⟩

/-! ## upper / lower: `strings.ToUpper` / `strings.ToLower` for every byte string

`Rare/Model/C11Case.lean` mirrors `strings.ToUpper` / `ToLower` completely: the ASCII scan and its fast paths,
`strings.Map` over Go's UTF-8 decoding (an invalid byte is one U+FFFD and comes back as `EF BF BD`), and
`unicode.ToUpper` / `ToLower` as the search over `unicode.CaseRanges` (simple case mapping, no `SpecialCase`).
The direct op `case` compares it with the real `{upper {0}}` / `{lower {0}}` on every code point of every plane,
raw surrogates, truncated and overlong sequences. -/

/-- **The case table of the model is the toolchain's `unicode.CaseRanges`** (regenerated on every run). -/
theorem case_table_is_go :
    Gen.C11.caseRanges = Case.caseRanges ∧ Gen.C11.maxRune = Case.maxRune ∧ Gen.C11.upperLower = Case.upperLower :=
  ⟨rfl, rfl, rfl⟩

/-- **What a call computes**: `{upper a}` / `{lower a}` – constant, match group or key alike – is
    `strings.ToUpper` / `ToLower` of the value; no argument value makes it panic. -/
theorem upper_lower_call (c : Ctx) (a : Arg) :
    callHelper (Case.caseHelperU Case.goToUpper) [a] c = .ok (Case.goToUpper (a.val c)) ∧
    callHelper (Case.caseHelperU Case.goToLower) [a] c = .ok (Case.goToLower (a.val c)) := by
  constructor <;> simp only [callHelper, Case.caseHelperU, List.map, ok, Comp.bind_eq, Comp.run_bind, Arg.run_stage] <;> rfl

/-- **ASCII text**: the result is the byte-wise shift of `a–z` / `A–Z`; it has the same length, is ASCII again,
    and the helpers are idempotent on it. -/
theorem upper_lower_ascii (s : Bytes) (h : s.all (fun c => c < 128) = true) :
    Case.goToUpper s = s.map Case.upperB ∧ Case.goToLower s = s.map Case.lowerB ∧
    (Case.goToUpper s).length = s.length ∧ (Case.goToLower s).length = s.length ∧
    Case.goToUpper (Case.goToUpper s) = Case.goToUpper s ∧ Case.goToLower (Case.goToLower s) = Case.goToLower s := by
  have hu := Case.goToUpper_ascii s h
  have hl := Case.goToLower_ascii s h
  exact ⟨hu, hl, by rw [hu, List.length_map], by rw [hl, List.length_map], Case.goToUpper_idem s,
    Case.goToLower_idem s⟩

/-- On ASCII values the full model and the ASCII-only builders of the shared expression table (the ones other
    properties' theorems are stated about) give the same answer. -/
theorem case_ascii_agrees_shared (c : Ctx) (a : Arg) (h : (a.val c).all (fun b => b < 128) = true) :
    callHelper (Strings.caseHelper Strings.upperB) [a] c = callHelper (Case.caseHelperU Case.goToUpper) [a] c ∧
    callHelper (Strings.caseHelper Strings.lowerB) [a] c = callHelper (Case.caseHelperU Case.goToLower) [a] c := by
  have h' : (a.val c).all (fun b => decide (b < 128)) = true := h
  rw [(upper_lower_call c a).1, (upper_lower_call c a).2, Case.goToUpper_ascii _ h, Case.goToLower_ascii _ h]
  constructor <;>
    simp only [callHelper, Strings.caseHelper, List.map, ok, Comp.bind_eq, Comp.run_bind, Arg.run_stage, h', if_true] <;> rfl

/-- **Where case mapping crosses the ASCII border** (all 1 114 112 code points and beyond): on ASCII runes
    `unicode.ToUpper` / `ToLower` are the ASCII shift; a non-ASCII rune is mapped into ASCII exactly for
    `ı` U+0131 ↦ `I`, `ſ` U+017F ↦ `S` (upper) and `İ` U+0130 ↦ `i`, `K` U+212A ↦ `k` (lower) – so `{upper}` of a
    non-ASCII word can be an ASCII word (`{upper ſıx}` = `SIX`) only through these. -/
theorem rune_case_ascii_border :
    (∀ r, r < 128 → Case.toUpperR r = (if 97 ≤ r ∧ r ≤ 122 then r - 32 else r) ∧
                    Case.toLowerR r = (if 65 ≤ r ∧ r ≤ 90 then r + 32 else r)) ∧
    (∀ r, 128 ≤ r → (Case.toUpperR r < 128 ↔ r = 0x131 ∨ r = 0x17F)) ∧
    (∀ r, 128 ≤ r → (Case.toLowerR r < 128 ↔ r = 0x130 ∨ r = 0x212A)) ∧
    Case.toUpperR 0x131 = 0x49 ∧ Case.toUpperR 0x17F = 0x53 ∧ Case.toLowerR 0x130 = 0x69 ∧ Case.toLowerR 0x212A = 0x6B := by
  exact ⟨Case.toRune_ascii, fun r hr => Case.toRune_lt_128_iff false r hr,
    fun r hr => Case.toRune_lt_128_iff true r hr, Case.toRune_exceptions⟩

/-- **`unicode.ToUpper` / `unicode.ToLower` are idempotent on every rune** (all code points and beyond): a rune that
    came out of the table is left alone by the table.  Range-level argument: the table is sorted, so a rune lies in
    one range only; an alternating range maps into itself, and what any other range makes of its runes lies inside
    one range with delta 0 for this case (or is a single rune that the table fixes) – one check per range in the
    kernel, then arithmetic.  The mixed composition is NOT the identity on images:
    `upper (lower İ) = I ≠ İ = upper İ` (example below). -/
theorem rune_case_idempotent (r : Nat) :
    Case.toUpperR (Case.toUpperR r) = Case.toUpperR r ∧ Case.toLowerR (Case.toLowerR r) = Case.toLowerR r :=
  ⟨Case.toRune_idem false r, Case.toRune_idem true r⟩

example : Case.toUpperR (Case.toLowerR 0x130) = 0x49 ∧ Case.toUpperR 0x130 = 0x130 ∧
    Case.toLowerR (Case.toUpperR 0x17F) = 0x73 ∧ Case.toLowerR 0x17F = 0x17F ∧
    Case.toUpperR (Case.toUpperR 0x1C6) = 0x1C4 ∧ Case.toUpperR 0x1C5 = 0x1C4 := by decide +kernel

/-- **`{upper}` / `{lower}` are idempotent on EVERY value** (all byte strings: non-ASCII text, ill-formed
    UTF-8, values whose image leaves or enters ASCII such as `ſıx` ↦ `SIX`): `strings.ToUpper (strings.ToUpper s)`
    = `strings.ToUpper s`, likewise `ToLower`.  Lifts `rune_case_idempotent` through `strings.Map` by the UTF-8
    round trip (a rune `AppendRune` cannot write becomes U+FFFD, which both tables fix) and joins the ASCII fast
    path by `goMap_ascii` (on ASCII text the table and the byte shift agree). -/
theorem upper_lower_idempotent (s : Bytes) :
    Case.goToUpper (Case.goToUpper s) = Case.goToUpper s ∧ Case.goToLower (Case.goToLower s) = Case.goToLower s :=
  ⟨Case.goToUpper_idem s, Case.goToLower_idem s⟩

/-- The same at the level of a call: `{upper {upper a}}` = `{upper a}` for every argument and context. -/
theorem upper_lower_call_idempotent (c : Ctx) (a : Arg) :
    Case.goToUpper (Case.goToUpper (a.val c)) = Case.goToUpper (a.val c) ∧
    callHelper (Case.caseHelperU Case.goToUpper) [a] c = .ok (Case.goToUpper (a.val c)) ∧
    Case.goToLower (Case.goToLower (a.val c)) = Case.goToLower (a.val c) ∧
    callHelper (Case.caseHelperU Case.goToLower) [a] c = .ok (Case.goToLower (a.val c)) :=
  ⟨Case.goToUpper_idem _, (upper_lower_call c a).1, Case.goToLower_idem _, (upper_lower_call c a).2⟩

/-- `strings.Map` with either table is idempotent by itself (the non-ASCII path of both helpers). -/
theorem case_map_idempotent (lower : Bool) (s : Bytes) :
    Case.goMap (Case.toRune lower) (Case.goMap (Case.toRune lower) s) = Case.goMap (Case.toRune lower) s :=
  Case.goMap_case_idem lower s

/-- **`{upper}` / `{lower}` of a non-ASCII value is well-formed UTF-8**, whatever the input bytes (each ill-formed
    byte comes out as U+FFFD): the `strings.Map` path of both helpers only writes what `AppendRune` writes. -/
theorem upper_lower_nonascii_wellformed (s : Bytes) (h : s.all (fun c => c < 128) = false) :
    Rare.C20.ValidUtf8 (Case.goToUpper s) ∧ Rare.C20.ValidUtf8 (Case.goToLower s) := by
  rw [Case.goToUpper_eq_goCase, Case.goToLower_eq_goCase, Case.goCase_not_ascii _ _ _ s h,
    Case.goCase_not_ascii _ _ _ s h]
  exact ⟨Case.goMap_valid _ _, Case.goMap_valid _ _⟩

/-- **`{upper}` / `{lower}` always answer well-formed UTF-8** – for every byte string, ill-formed ones included
    (ASCII values stay ASCII; on the other path each ill-formed byte comes out as U+FFFD). -/
theorem upper_lower_wellformed (s : Bytes) :
    Rare.C20.ValidUtf8 (Case.goToUpper s) ∧ Rare.C20.ValidUtf8 (Case.goToLower s) :=
  ⟨Case.goToUpper_valid s, Case.goToLower_valid s⟩

/-- non-vacuity: a value that leaves ASCII-free text for ASCII (`ſıx`), and an ill-formed one (lone 0xFF, 0xC3). -/
example : Case.goToUpper [0xC5, 0xBF, 0xC4, 0xB1, 0x78] = [0x53, 0x49, 0x58] ∧
    Case.goToUpper [0x53, 0x49, 0x58] = [0x53, 0x49, 0x58] ∧
    Case.goToLower [0xFF, 0x41, 0xC3] = [0xEF, 0xBF, 0xBD, 0x61, 0xEF, 0xBF, 0xBD] := by decide +kernel

/-- **C11 × C13**: the sorters' model takes `unicode.ToLower` as a parameter and assumes the contract
    `C13.RuneLower` (checked there by correspondence only).  The table-driven `toLowerR` – tied to Go's table by
    `case_table_is_go` – satisfies it, and C13's `strings.ToLower` instantiated with it is C11's. -/
theorem lower_meets_c13_contract :
    Rare.C13.RuneLower Case.toLowerR ∧ ∀ s, Case.goToLower s = Rare.C13.goToLower Case.toLowerR s :=
  ⟨Case.runeLower_toLowerR, Case.goToLower_eq_c13⟩

/-- No `SpecialCase`: `ß` stays `ß`; `ſ` `ı` become ASCII (the string gets shorter); the title-case digraph `ǅ`
    goes to `Ǆ` / `ǆ`; `Ⱥ` (2 bytes) lower-cases to `ⱥ` (3 bytes); an invalid byte comes back as U+FFFD. -/
example : Case.goToUpper [0xC3, 0x9F] = [0xC3, 0x9F] ∧ Case.goToUpper [0xC5, 0xBF, 0xC4, 0xB1, 120] = [83, 73, 88] ∧
    Case.goToUpper [0xC7, 0x85] = [0xC7, 0x84] ∧ Case.goToLower [0xC7, 0x85] = [0xC7, 0x86] ∧
    Case.goToLower [0xC8, 0xBA] = [0xE2, 0xB1, 0xA5] ∧ Case.goToUpper [97, 0xFF] = [65, 0xEF, 0xBF, 0xBD] ∧
    Case.goToLower [0xC4, 0xB0] = [105] ∧ Case.goToUpper [0xF0, 0x90, 0x90, 0xA8] = [0xF0, 0x90, 0x90, 0x80] := by
  decide +kernel

/-! ## ln / log10 / log2 / pow: `math.Log*` and `math.Pow` as they run (`Rare/Model/C11Log.lean`)

`math.Log` on amd64 is the assembly routine `log_amd64.s`; the model mirrors it instruction by instruction on the
software binary64 model, `math.Log10` / `math.Log2` / `math.Pow` are the pure-Go functions on top (a `pow` that reaches
`math.Exp` – fractional exponent other than ±0.5 – stays `unmodelled`).  The direct ops `lg` / `pw` compare them bit
for bit with the real helpers (every binade, the rescaling threshold `sqrt(2)/2`, subnormals, powers of two and ten). -/

/-- **What a call computes**: `{ln a}` / `{log10 a}` / `{log2 a}` – constant, group or key – parse the value with
    `strconv.ParseFloat`, apply the function, render with `FormatFloat(·, 'f', -1, 64)`; a value that does not parse
    gives `<BAD-TYPE>`; no argument value panics. -/
theorem log_call (c : Ctx) (a : Arg) :
    (∀ x, Float.parseF (a.val c) = some x →
      callHelper (Float.unaryF Log.lnStr) [a] c = .ok (Float.fmtF (Log.logAsm x)) ∧
      callHelper (Float.unaryF Log.log10Str) [a] c = .ok (Float.fmtF (Log.log10 x)) ∧
      callHelper (Float.unaryF Log.log2Str) [a] c = .ok (Float.fmtF (Log.log2 x))) ∧
    (Float.parseF (a.val c) = none →
      callHelper (Float.unaryF Log.lnStr) [a] c = .ok ErrorNum ∧
      callHelper (Float.unaryF Log.log10Str) [a] c = .ok ErrorNum ∧
      callHelper (Float.unaryF Log.log2Str) [a] c = .ok ErrorNum) := by
  constructor
  · intro x hx; rw [unaryF_call, unaryF_call, unaryF_call, hx]; exact ⟨rfl, rfl, rfl⟩
  · intro hx; rw [unaryF_call, unaryF_call, unaryF_call, hx]; exact ⟨rfl, rfl, rfl⟩

/-- **Special values of `ln`, for every argument**: `ln ±0 = -Inf`, `ln NaN = NaN`, `ln x = NaN` for every negative `x`
    (`-Inf` included), `ln +Inf = +Inf`; and `ln 1 = log10 1 = log2 1 = 0` exactly. -/
theorem log_special_values (x : F64) :
    (x.mag = 0 → Log.logAsm x = F64.inf true) ∧
    (x.isNaN = true → Log.logAsm x = F64.nan) ∧
    (x.sign = true → x.mag ≠ 0 → Log.logAsm x = F64.nan) ∧
    (x.sign = false → x.isInf = true → Log.logAsm x = x) ∧
    Log.logAsm F64.one = F64.zero false ∧ Log.log10 F64.one = F64.zero false ∧ Log.log2 F64.one = F64.zero false :=
  ⟨(Log.logAsm_special x).1, (Log.logAsm_special x).2.1, (Log.logAsm_special x).2.2.1, (Log.logAsm_special x).2.2.2,
   Log.log_one.1, Log.log_one.2.1, Log.log_one.2.2⟩

/-- **`log2` of a power of two is exactly the exponent**: for every positive normal float with fraction field 0 –
    `x = 2^(E-1023)`, `E` its biased exponent – `{log2 x}` is the float `E - 1023`; and for the 52 subnormal powers of
    two `2^(j-1074)` it is `j - 1074` (a finite table). -/
theorem log2_power_of_two :
    (∀ x : F64, x.sign = false → x.isFinite = true → 4503599627370496 ≤ x.mag → x.frac = 0 →
      Log.log2 x = F64.ofInt ((x.expField : Int) - 1023)) ∧
    ((List.range 52).all fun j => Log.log2 (F64.ofSM false (2 ^ j)) == F64.ofInt ((j : Int) - 1074)) = true :=
  ⟨Log.log2_pow2_normal, Log.log2_pow2_subnormal⟩

/-- the hypotheses are satisfiable: `1024 = 2^10`. -/
example : (F64.ofInt 1024).sign = false ∧ (F64.ofInt 1024).isFinite = true ∧ 4503599627370496 ≤ (F64.ofInt 1024).mag ∧
    (F64.ofInt 1024).frac = 0 ∧ ((F64.ofInt 1024).expField : Int) - 1023 = 10 ∧ Log.log2Str (F64.ofInt 1024) = ascii "10" := by
  decide +kernel

/-- Finite tables: `{log10 10^k}` is exactly `k` for `k = 0 … 22` except `k = 15` (`14.999999999999998`: the code
    computes `Log(x) * (1/Ln10)`); `{pow 10 k}` is exactly `10^k` for `k = 0 … 22`; `{pow 2 e}` is exactly `2^e`
    for `|e| ≤ 40` and at both ends of the range (`2^1024 = +Inf`, `2^-1074` the smallest subnormal, `2^-1075 = 0`). -/
theorem log_pow_tables :
    ((List.range 23).filter fun (k : Nat) =>
      !(Log.log10 (F64.ofInt (((10 ^ k : Nat) : Int))) == F64.ofInt (k : Int))) = [15] ∧
    ((List.range 23).all fun (k : Nat) =>
      Log.pow (F64.ofInt 10) (F64.ofInt (k : Int)) == some (F64.ofInt (((10 ^ k : Nat) : Int)))) = true ∧
    (((List.range 81).map (fun (j : Nat) => (j : Int) - 40) ++ [-1075, -1074, -1073, -1023, -1022, -1021, 1022, 1023, 1024]).all
      fun e => Log.pow Log.two (F64.ofInt e) == some (Log.ldexp F64.one e)) = true ∧
    Log.ldexp F64.one 1024 = F64.inf false ∧ Log.ldexp F64.one (-1075) = F64.zero false ∧
    Log.ldexp F64.one 10 = F64.ofInt 1024 :=
  ⟨Log.log10_table, Log.pow10_table, Log.pow2_table⟩

/-- **The platform the model mirrors is the platform of the run** (regenerated by the translator, which is built with
    the same toolchain as the harness): GOARCH is amd64 (where `math.Log` is `log_amd64.s`), the constants
    `1/Ln10`, `1/Ln2`, `Sqrt2/2` are the model's, and on the probe arguments (a subnormal, the rescaling threshold
    and its neighbour, powers of two and ten, the largest float; `3^y` up to overflow and down to underflow) the
    toolchain's `math.Log` / `Log10` / `Log2` / `Pow` return bit for bit what the model computes. -/
theorem gen_log_platform :
    Gen.C11.goarch = "amd64" ∧
    Gen.C11.invLn10Bits = Log.invLn10.bits ∧ Gen.C11.invLn2Bits = Log.invLn2.bits ∧ Gen.C11.hSqrt2Bits = Log.hSqrt2.bits ∧
    (Gen.C11.logProbes.all fun p => (Log.logAsm (Log.bitsF p.1)).bits == p.2) = true ∧
    (Gen.C11.log10Probes.all fun p => (Log.log10 (Log.bitsF p.1)).bits == p.2) = true ∧
    (Gen.C11.log2Probes.all fun p => (Log.log2 (Log.bitsF p.1)).bits == p.2) = true ∧
    (Gen.C11.pow3Probes.all fun p => (Log.pow (F64.ofInt 3) (Log.bitsF p.1)).map F64.bits == some p.2) = true ∧
    Gen.C11.logProbes.length = 15 ∧ Gen.C11.pow3Probes.length = 9 := by
  have hlog : (Gen.C11.logProbes.all fun p => (Log.logAsm (Log.bitsF p.1)).bits == p.2) = true := by
    unfold Log.logAsm Log.logCore
    simp (config := { zeta := false }) only [F64.Fast.ops]
    decide +kernel
  have h10 : ((Gen.C11.logProbes.zip Gen.C11.log10Probes).all fun pq =>
      pq.1.1 == pq.2.1 && (F64.mul (Log.bitsF pq.1.2) Log.invLn10).bits == pq.2.2) = true := by
    simp (config := { zeta := false }) only [F64.Fast.ops]
    decide +kernel
  refine ⟨rfl, by decide +kernel, by decide +kernel, by decide +kernel, hlog,
    Log.log10Probes_of_logProbes _ _ hlog (by decide +kernel) h10, ?_, by decide +kernel, by decide +kernel,
    by decide +kernel⟩
  unfold Log.log2 Log.frexpGo Log.logAsm Log.logCore
  simp (config := { zeta := false }) only [F64.Fast.ops]
  decide +kernel

/-- **`{pow a b}`**: the leading special cases of `math.Pow` for ALL arguments – `x^±0 = 1` and `1^y = 1` (also for NaN),
    `x^1 = x`, otherwise NaN in gives NaN out. -/
theorem pow_special_cases (x y : F64) :
    (y.mag = 0 → Log.pow x y = some F64.one) ∧
    (F64.eq x F64.one = true → Log.pow x y = some F64.one) ∧
    (y.mag ≠ 0 → F64.eq x F64.one = false → F64.eq y F64.one = true → Log.pow x y = some x) ∧
    (y.mag ≠ 0 → F64.eq x F64.one = false → F64.eq y F64.one = false → (x.isNaN = true ∨ y.isNaN = true) →
      Log.pow x y = some F64.nan) := by
  refine ⟨?_, ?_, ?_, ?_⟩
  · intro h; unfold Log.pow; rw [if_pos (by simp [h])]
  · intro h; unfold Log.pow; rw [if_pos (by simp [h])]
  · intro h1 h2 h3; unfold Log.pow; rw [if_neg (by simp [h1, h2]), if_pos h3]
  · intro h1 h2 h3 h4; unfold Log.pow
    rw [if_neg (by simp [h1, h2]), if_neg (by simp [h3]), if_pos (by rcases h4 with h | h <;> simp [h])]

/-- The call `{pow a b}`, constants and groups alike: the rendering of `math.Pow` of the parsed values; a value that
    is not a float gives `<BAD-TYPE>`. -/
theorem pow_call_spec (c : Ctx) (a b : Arg) :
    (∀ x y r, Float.parseF (a.val c) = some x → Float.parseF (b.val c) = some y → Log.pow x y = some r →
      callHelper Log.kfPow [a, b] c = .ok (Float.fmtF r)) ∧
    ((Float.parseF (a.val c) = none ∨ Float.parseF (b.val c) = none) → callHelper Log.kfPow [a, b] c = .ok ErrorNum) :=
  ⟨fun x y r ha hb hr => Log.pow_call c a b x y r ha hb hr, Log.pow_marker c a b⟩

example : (callHelper Log.kfPow [.const (ascii "2"), .group 0] ⟨fun _ => ascii "-3", fun _ => []⟩).toOption = some (ascii "0.125") ∧
    (callHelper Log.kfPow [.const (ascii "-2"), .group 0] ⟨fun _ => ascii "3", fun _ => []⟩).toOption = some (ascii "-8") ∧
    (callHelper Log.kfPow [.const (ascii "-8"), .group 0] ⟨fun _ => ascii "x", fun _ => []⟩).toOption = some ErrorNum := by
  decide +kernel

/-! ### KNOWN FINDING: `{ln v}` / `{log10 v}` of a subnormal `v` is a wrong number

The full statement is `∀ x, Log.logAsm x = Log.logNorm x` – the code's `ln` is the documented algorithm applied to the
`Frexp` decomposition of the argument (what `math.Log` computes on every other architecture).  It is FALSE for the code
as it runs: `log_amd64.s` reads exponent and fraction straight from the bit pattern and never normalises a subnormal,
so `{ln 5e-324}` is `-709.0895657128241` (the logarithm is `-744.44…`) and `{log10 5e-324}` is `-307.95…` (`-323.3…`),
while `{log2 5e-324}` is the correct `-1074`.  Proved instead: the statement off the subnormal range
(`ln_is_documented_algorithm_partial`) and its negation at the witness, where the code's answer also violates the
elementary enclosure `ln x ≤ -e·0.693` for `x ≤ 2^-e` (`ln_subnormal_counterexample`).  The cases `C11 spec ln 35652d333234`
and `C11 spec log10 35652d333234` are listed in `known_findings/C11.json` (root cause in the Go runtime, not in rare's
own code: recorded, not repaired). -/

/-- Every argument that is not subnormal (normal, zero excluded by `mag ≥ 2^52`, ±Inf, NaN): the code's `ln` / `log10`
    is the documented algorithm's. -/
theorem ln_is_documented_algorithm_partial (x : F64) (h : 4503599627370496 ≤ x.mag) :
    Log.logAsm x = Log.logNorm x ∧ Log.log10 x = Log.log10Norm x := by
  have := Log.logAsm_eq_logNorm x h
  exact ⟨this, by unfold Log.log10 Log.log10Norm; rw [this]⟩

/-- The witness `5e-324 = 2^-1074`: it parses, the code answers `-709.0895657128241` / `-307.9536855642528`, the
    documented algorithm `-744.4400719213812` / `-323.30621534311575`; the code's `ln` breaks the enclosure
    `Spec.LnUpperOK` (at `e = 1074`: `ln x ≤ -744.28`), the documented algorithm's answer respects that bound; `log2`
    of the same value is right. -/
theorem ln_subnormal_counterexample :
    Float.parseF (ascii "5e-324") = some Log.tiny ∧
    Log.lnStr Log.tiny = ascii "-709.0895657128241" ∧ Log.log10Str Log.tiny = ascii "-307.9536855642528" ∧
    Float.fmtF (Log.logNorm Log.tiny) = ascii "-744.4400719213812" ∧
    Float.fmtF (Log.log10Norm Log.tiny) = ascii "-323.30621534311575" ∧
    Log.logAsm Log.tiny ≠ Log.logNorm Log.tiny ∧
    ¬ Spec.LnUpperOK Log.tiny (Log.logAsm Log.tiny) ∧
    (Log.logNorm Log.tiny).toRat ≤ -((((1074 : Nat) : Int) : Rat) * (693 / 1000)) ∧
    Log.log2Str Log.tiny = ascii "-1074" ∧
    (∀ c : Ctx, callHelper (Float.unaryF Log.lnStr) [.const (ascii "5e-324")] c = .ok (ascii "-709.0895657128241")) := by
  obtain ⟨hp, hv, h1, h2, h3, h4, h5⟩ := Log.tiny_facts
  refine ⟨hp, h1, h2, h3, h4, ?_, ?_, Log.tiny_bound.2, h5, ?_⟩
  · intro he
    have : Float.fmtF (Log.logAsm Log.tiny) = Float.fmtF (Log.logNorm Log.tiny) := by rw [he]
    rw [h3] at this
    have h1' : Float.fmtF (Log.logAsm Log.tiny) = ascii "-709.0895657128241" := h1
    rw [h1'] at this
    revert this
    decide +kernel
  · intro hok
    exact Log.tiny_bound.1 (hok 1074 (by rw [hv]; exact Rat.le_refl))
  · intro c
    have := ((log_call c (.const (ascii "5e-324"))).1 Log.tiny hp).1
    rw [this]
    exact congrArg Except.ok h1

/-! ## hf: the sign of the rendering (KNOWN FINDING: `{hf -Inf}` prints `Inf`)

"`hf` only inserts thousands separators": in particular the rendering keeps the sign of the value.  The full
statement is

    ∀ x, Spec.SignFaithful x (Float.hfStr x)        -- the output starts with `-` iff the sign bit is set (x not NaN)

It is FALSE for the code as it is: `humanizeFloat` answers `"Inf"` for both infinities
(pkg/humanize/numeric.go; pinned by the repository's own test `numeric_test.go:47`), so `{hf -Inf}` – and a
`-Inf` statistic of `rare analyze` – loses its sign.  Proved instead: the statement for every other value
(`hf_sign_partial`) and the negation at the witness (`hf_neg_inf_counterexample`); the case
`C11 spec hf 2d496e66` is listed in `known_findings/C11.json`. -/

/-- Every value except `-Inf` keeps its sign: finite values of either sign (zeros and values that round to
    zero included), and `+Inf`; NaN is the marker `NaN`. -/
theorem hf_sign_partial (x : F64) (hi : ¬ (x.isInf = true ∧ x.sign = true)) :
    Spec.SignFaithful x (Float.hfStr x) ∧
    (x.isNaN = true → Float.hfStr x = ascii "NaN") ∧
    Float.hfStr (F64.inf false) = Spec.hfInfSpec false := by
  refine ⟨fun hn => humanizeFloat_sign x Float.hfDecimals (by decide) hn hi, ?_, by decide +kernel⟩
  intro hn
  simp [Float.hfStr, Float.humanizeFloat, hn]

/-- The witness: `-Inf` parses (`strconv.ParseFloat("-Inf")`), is rendered `Inf` – the very text of `+Inf` –,
    which is neither sign-faithful nor the specified `-Inf`; at the call level `{hf -Inf}` = `Inf`. -/
theorem hf_neg_inf_counterexample :
    Float.parseF (ascii "-Inf") = some (F64.inf true) ∧
    Float.hfStr (F64.inf true) = ascii "Inf" ∧
    Float.hfStr (F64.inf true) = Float.hfStr (F64.inf false) ∧
    ¬ Spec.SignFaithful (F64.inf true) (Float.hfStr (F64.inf true)) ∧
    Float.hfStr (F64.inf true) ≠ Spec.hfInfSpec true ∧
    (∀ c : Ctx, callHelper (Float.unaryF Float.hfStr) [.const (ascii "-Inf")] c = .ok (ascii "Inf")) := by
  have hp : Float.parseF (ascii "-Inf") = some (F64.inf true) := by decide +kernel
  have hs : Float.hfStr (F64.inf true) = ascii "Inf" := by decide +kernel
  refine ⟨hp, hs, by decide +kernel, ?_, by decide +kernel, ?_⟩
  · intro h
    have := h (by decide +kernel)
    revert this
    decide +kernel
  · intro c
    have := (hf_sqrt_call c (.const (ascii "-Inf")) (F64.inf true) hp).1
    rw [this]
    show Except.ok (Float.hfStr (F64.inf true)) = _
    rw [hs]

example : Spec.SignFaithful (F64.ofInt (-1234567)) (Float.hfStr (F64.ofInt (-1234567))) ∧
    Float.hfStr (F64.ofInt (-1234567)) = ascii "-1,234,567.0000" ∧
    Float.hfStr (F64.zero true) = ascii "-0.0000" :=
  ⟨(hf_sign_partial _ (by decide +kernel)).1, by decide +kernel, by decide +kernel⟩

end Rare.C11

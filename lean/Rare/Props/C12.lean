import Rare.Proofs.C12Parse
import Rare.Proofs.C12Grammar
import Rare.Proofs.C12Scan
import Rare.Proofs.C12Ext
import Rare.Proofs.C12Amd64
import Rare.Proofs.C12Utf8
import Rare.Proofs.C12LazyM
import Rare.Gen.C12
/-!
Property C12 – dissect matching equals its specification; ignore-case only adds matches.

Vocabulary (definitions in `Rare/Spec/C12.lean`, `Rare/Model/C12.lean`):

* `Pat` = leading literal + tokens `(key, trailing literal)`; `p.render` is the pattern TEXT
  `lit₀%{key₁}lit₁…`; `p.Shape` = literals contain no `%{`, keys contain no `}` (the grammar);
  every byte string that compiles is such a text (`compile_errors` covers texts ending in an
  unclosed token as well).
* `compileEx text ic` mirrors `dissect.CompileEx`; `matchAll d lines` mirrors
  `inst := d.CreateInstance(); for each line: inst.FindSubmatchIndex(line)` with the `IntPool`
  as explicit memory and every returned slice read only AFTER THE LAST CALL.
* `specDissect p line` / `specDissectIC p line` / `firstIndex` are the specification;
  `specFor ic` picks the one for the mode.

The model is of the code after the two `fix:` commits (F16: one byte-wise ASCII fold for pattern
and line; F17: a delimiter ends at the next `%{`).  With the old code `ci_monotone` was false
(`héllo=%{v}` vs `héllo=1`) – see `known_findings/C12.json`.
-/
namespace Rare.C12

/-- `firstIndex` is the least position where the needle is a prefix of the remainder. -/
theorem firstIndex_least (needle hay : Bytes) (i : Nat) :
    firstIndex needle hay = some i ↔
      (i ≤ hay.length ∧ needle <+: hay.drop i ∧ ∀ j < i, ¬ needle <+: hay.drop j) :=
  firstIndex_spec needle hay i

/-- **The result equals the specification** – for every well-formed pattern text that compiles
(either mode) and every SEQUENCE of lines matched by one instance, each index slice, re-read after
the last call, is exactly the specification's answer for its line (`none` = no match).
For `ic = false` the right-hand side is `specDissect p line`. -/
theorem dissect_eq_spec (ic : Bool) (p : Pat) (hp : p.Shape) (d : Dissect)
    (hc : compileEx p.render ic = .ok d) (lines : List Bytes) :
    matchAll d lines = .ok (lines.map fun l => (specFor ic p l).map (·.map Int.ofNat)) :=
  matchAll_eq hp hc lines

/-- **Every byte string is a pattern text**: `p.render` for a well-formed `p`, optionally followed
by an unclosed token – so `compile_errors` below decides `CompileEx` on ALL inputs. -/
theorem every_text_is_pattern (s : Bytes) :
    ∃ (p : Pat) (tail : Option Bytes), p.Shape ∧ (∀ j, tail = some j → rbrace ∉ j) ∧
      s = p.render ++ tailText tail :=
  parse_total s

/-- `dissect_eq_spec` for an arbitrary byte string as pattern: whatever compiles IS the text of a
well-formed pattern, and the results are that pattern's specification. -/
theorem dissect_eq_spec_all (ic : Bool) (pat : Bytes) (d : Dissect) (hc : compileEx pat ic = .ok d) :
    ∃ p : Pat, p.Shape ∧ pat = p.render ∧ ∀ lines : List Bytes,
      matchAll d lines = .ok (lines.map fun l => (specFor ic p l).map (·.map Int.ofNat)) := by
  obtain ⟨p, hp, hs⟩ := compiles_is_pattern hc
  exact ⟨p, hp, hs, fun lines => dissect_eq_spec ic p hp d (hs ▸ hc) lines⟩

/-- single line, case-sensitive: the statement of the property verbatim -/
theorem dissect_eq_spec_one (p : Pat) (hp : p.Shape) (d : Dissect)
    (hc : compileEx p.render false = .ok d) (line : Bytes) :
    matchAll d [line] = .ok [(specDissect p line).map (·.map Int.ofNat)] := by
  simpa [specFor] using dissect_eq_spec false p hp d hc [line]

/-- **All offsets are ordered and within the line**: a returned slice is
`[s, e, c₁s, c₁e, c₂s, c₂e, …]` with `s ≤ c₁s ≤ c₁e ≤ c₂s ≤ … ≤ e ≤ len(line)`; the first
capture starts no earlier than the end of the leading literal. -/
theorem offsets_ordered_in_line (ic : Bool) (p : Pat) (hp : p.Shape) (d : Dissect)
    (hc : compileEx p.render ic = .ok d) (line : Bytes) (r : List Int)
    (hr : matchAll d [line] = .ok [some r]) :
    ∃ (s e : Nat) (caps : List Nat), r = (s :: e :: caps).map Int.ofNat ∧
      (s :: (caps ++ [e])).Pairwise (· ≤ ·) ∧ e ≤ line.length ∧
      ∀ x ∈ caps, s + p.pre.length ≤ x := by
  obtain ⟨r0, hs, rfl⟩ := matchAll_some hp hc hr
  rw [specFor_patFor] at hs
  obtain ⟨s, e, caps, rfl, h2, h3, h4⟩ := specDissect_ordered hs
  rw [patFor_pre, foldFor_length] at h4
  exact ⟨s, e, caps, rfl, h2, by rwa [foldFor_length] at h3, h4⟩

/-- **Compile errors.**  A pattern text is `p.render` optionally followed by an unclosed token
`%{junk` (`junk` without `}`).  `CompileEx` answers exactly what `specErrors` says: scanning the
tokens left to right, an empty trailing literal although something follows is `sequential`
(adjacent tokens), a captured name seen before is `conflict`, reaching the unclosed tail is
`unclosed`; otherwise the compiled structure is: tokens with (name, delimiter – lowered when
ignore-case –, skip flag), the (lowered) prefix, the name table numbering captured names 1, 2, …
and that count. -/
theorem compile_errors (ic : Bool) (p : Pat) (hp : p.Shape) (tail : Option Bytes)
    (htail : ∀ j, tail = some j → rbrace ∉ j) :
    compileEx (p.render ++ tailText tail) ic =
      match specErrors tail.isSome p.toks [] with
      | some e => .error (cerr e)
      | none => .ok { tokens := p.toks.map (tokOf ic), pre := if ic then lower p.pre else p.pre, ic := ic,
                      groupNames := nameTable p.toks, groupCount := capCount p.toks } :=
  compileEx_render ic p hp tail htail

/-- **Ignore-case only adds matches**: every line matched case-sensitively is matched with
ignore-case (same pattern text, all bytes – no ASCII restriction). -/
theorem ci_monotone (p : Pat) (hp : p.Shape) (d dI : Dissect)
    (hc : compileEx p.render false = .ok d) (hcI : compileEx p.render true = .ok dI)
    (line : Bytes) (r : List Int) (hr : matchAll d [line] = .ok [some r]) :
    ∃ r', matchAll dI [line] = .ok [some r'] := by
  obtain ⟨r0, hs, rfl⟩ := matchAll_some hp hc hr
  obtain ⟨r', h'⟩ := specDissect_ci_mono (p := p) (line := line) hs
  exact ⟨r'.map Int.ofNat, (matchAll_one hp hcI line _).mpr (by simp [specFor, h'])⟩

/-- the two modes accept the same pattern texts -/
theorem ci_compiles_iff (p : Pat) (hp : p.Shape) :
    (∃ d, compileEx p.render false = .ok d) ↔ (∃ d, compileEx p.render true = .ok d) := by
  rw [compileEx_pat false p hp, compileEx_pat true p hp]
  cases specErrors false p.toks [] <;> simp

/-- **Ignore-case = case-sensitive on lower-cased pattern and line.**  `lower` lowers ASCII
letters byte-wise (on ASCII text this is `strings.ToLower`); `p.lowerLits` lowers the literals of
the pattern (key names do not influence offsets).  Holds for all bytes, in particular for ASCII
pattern and line; the lowered pattern is again a well-formed text and compiles whenever `p` does. -/
theorem ci_ascii (p : Pat) (hp : p.Shape) (dI : Dissect) (hcI : compileEx p.render true = .ok dI) :
    ∃ dL, compileEx p.lowerLits.render false = .ok dL ∧
      ∀ lines : List Bytes, matchAll dI lines = matchAll dL (lines.map lower) := by
  have hpl := shape_lowerLits hp
  have hok := (compileEx_ok hp hcI).1
  have hcl : compileEx p.lowerLits.render false = .ok (compiled false p.lowerLits) := by
    rw [compileEx_pat false p.lowerLits hpl]
    have : specErrors false p.lowerLits.toks [] = none := by
      simp only [Pat.lowerLits, specErrors_lowerLit, hok]
    rw [this]
  refine ⟨_, hcl, fun lines => ?_⟩
  rw [dissect_eq_spec true p hp dI hcI, dissect_eq_spec false p.lowerLits hpl _ hcl]
  simp [specFor, specDissectIC, Function.comp_def]

/-- **Slices handed out by `IntPool.Get` never overlap** – for every pool size and every sequence
of requests (across any number of refills): the views are pairwise disjoint, lie inside allocated
arrays, and have the requested lengths. -/
theorem pool_disjoint (size : Nat) (ns : List Nat) (vs : List View) (p' : Pool)
    (h : getMany (Pool.new size) ns = .ok (vs, p')) :
    vs.Pairwise View.Disjoint ∧ (∀ v ∈ vs, p'.Valid v) ∧ vs.map (·.len) = ns := by
  obtain ⟨_, ⟨hb, _, hpw⟩, hl⟩ := getMany_spec ns (Pool.new size) (Pool.new_wf size) vs p' h
  exact ⟨hpw, fun v hv => (hb v hv).1, hl⟩

/-- `Get` panics only when a single request exceeds the pool size (never in dissect: the size is
1024 requests) -/
theorem pool_no_panic (size : Nat) (ns : List Nat) (h : ∀ n ∈ ns, n ≤ size) :
    ∃ vs p', getMany (Pool.new size) ns = .ok (vs, p') := by
  obtain ⟨vs, p', hm, _⟩ := getMany_succeeds ns (Pool.new size) (by simpa [Pool.new] using h)
  exact ⟨vs, p', hm⟩

/-- **Results returned for earlier lines are not altered by matching later lines**: what the
slices of the first lines hold after ALL calls is what they held after only those first calls. -/
theorem earlier_results_unaltered (ic : Bool) (p : Pat) (hp : p.Shape) (d : Dissect)
    (hc : compileEx p.render ic = .ok d) (lines more : List Bytes) :
    ∃ r rAll, matchAll d lines = .ok r ∧ matchAll d (lines ++ more) = .ok rAll ∧
      rAll.take lines.length = r := by
  refine ⟨_, _, dissect_eq_spec ic p hp d hc lines, dissect_eq_spec ic p hp d hc (lines ++ more), ?_⟩
  simp [List.map_append]

/-- the slices one instance returns for a sequence of lines are pairwise disjoint in the pool -/
theorem results_disjoint (ic : Bool) (p : Pat) (hp : p.Shape) (d : Dissect)
    (hc : compileEx p.render ic = .ok d) (lines : List Bytes) :
    ∃ vs s', runLines d.createInstance lines = .ok (vs, s') ∧
      (vs.filterMap id).Pairwise View.Disjoint := by
  rw [(compileEx_ok hp hc).2]
  obtain ⟨vs, s', hr, _, hpw⟩ := runLines_compiled ic p lines
  exact ⟨vs, s', hr, hpw⟩

/-- **Tie to the source (regenerated on every run)**: the pool sizing expressions of
`CreateInstance` / `FindSubmatchIndex` and the needles of `CompileEx`, extracted from the Go AST
into `Rare.Gen.C12`, are the ones the model uses; every request fits the pool 1024 times. -/
theorem gen_pool_sizing (d : Dissect) :
    d.createInstance.pool.size = Gen.C12.poolSize d.groupCount ∧
    (∀ g, Gen.C12.getSize g = g * 2 + 2) ∧
    (∀ g, 1024 * Gen.C12.getSize g ≤ Gen.C12.poolSize g) ∧
    Gen.C12.compileNeedles = [[pct, lbrace], [rbrace], [pct, lbrace]] := by
  refine ⟨by simp [Dissect.createInstance, Pool.new, Gen.C12.poolSize], fun g => rfl, ?_, by decide +kernel⟩
  intro g; simp only [Gen.C12.getSize, Gen.C12.poolSize]; omega

/-! ### Pattern compilation against the grammar of dissect patterns (`Spec/C12Grammar.lean`)

    pattern ::= literal ( "%{" key "}" literal )*      literal: no "%{" inside      key: no "}" inside

delimiters between adjacent tokens non-empty, names of capturing tokens pairwise different. -/

/-- **`CompileEx` succeeds iff the text is a pattern of the grammar** – for every byte string and
either mode.  `PatternText s` = there is a derivation `p` (`p.Grammar`: leading literal and every
delimiter free of `%{`, keys free of `}`, a non-empty delimiter between adjacent tokens, captured names
pairwise different) whose text `p.render` is `s`.  In particular a `%` that is not followed by `{` is
an ordinary literal byte wherever it stands (the repaired F17 behaviour), and a `%{` without a later
`}` is not derivable. -/
theorem compile_iff_pattern_grammar (s : Bytes) (ic : Bool) :
    (∃ d, compileEx s ic = .ok d) ↔ PatternText s :=
  compileEx_ok_iff_grammar s ic

/-- …and the compiled structure of a derivation: one token per grammar token with its name (without
the `?` flag), its delimiter EXACTLY as written (lowered when ignore-case) and its skip flag; the
(lowered) leading literal; the name table numbering the capturing tokens 1, 2, …; their count. -/
theorem compile_of_derivation (p : Pat) (g : p.Grammar) (ic : Bool) :
    compileEx p.render ic =
      .ok { tokens := p.toks.map (tokOf ic), pre := if ic then lower p.pre else p.pre, ic := ic,
            groupNames := nameTable p.toks, groupCount := capCount p.toks } :=
  compileEx_of_grammar p g ic

/-- Everything outside the grammar is rejected with one of the three Go errors (the model's `fuel`
error – "the loop did not terminate" – never occurs): "rejected" and "not a pattern" coincide.
Which of the three errors is reported is `compile_errors` (+ `every_text_is_pattern`). -/
theorem compile_rejects_iff_not_grammar (s : Bytes) (ic : Bool) :
    (∃ e, compileEx s ic = .error e ∧ e ≠ .fuel) ↔ ¬ PatternText s := by
  rw [← compile_iff_pattern_grammar s ic]
  constructor
  · rintro ⟨e, he, _⟩ ⟨d, hd⟩
    rw [hd] at he; cases he
  · intro hno
    cases hc : compileEx s ic with
    | ok d => exact absurd ⟨d, hc⟩ hno
    | error e => exact ⟨e, rfl, fun hf => compileEx_no_fuel s ic (hf ▸ hc)⟩

/-- The grammar is decidable by ONE left-to-right pass with two states (`scanPattern`: inside a
literal / inside a key; it never looks at `CompileEx`'s `strings.Index` searches).  The correspondence
runs this recogniser against the real `CompileEx` (op `grammar`). -/
theorem accepts_iff_grammar (s : Bytes) : acceptsPattern s = true ↔ PatternText s := by
  rw [← compile_iff_pattern_grammar s false]
  exact accepts_iff_compiles s false

/-- A `%` not followed by `{`, a lone `{` and a `}` are literal bytes: a text without the two-byte
sequence `%{` is a pattern (with no token), compiles, and its whole text is the leading literal. -/
theorem bare_percent_is_literal (s : Bytes) (h : ¬ tokOpen <:+: s) (ic : Bool) :
    PatternText s ∧ compileEx s ic = .ok (compiled ic ⟨s, []⟩) := by
  have g : (⟨s, []⟩ : Pat).Grammar := ⟨h, by simp, by simp, trivial, by simp [capturedNames]⟩
  have hr : (⟨s, []⟩ : Pat).render = s := by simp [Pat.render]
  exact ⟨⟨⟨s, []⟩, g, hr.symm⟩, by simpa [hr] using compileEx_of_grammar ⟨s, []⟩ g ic⟩

/-- **Tie to the source (regenerated on every run)**: the searches, the slice expressions and the
branch conditions of `CompileEx` printed from the Go AST are the ones `compileStep` mirrors:
`start := Index(expr, "%{")`, `expr[start+2:]`, `stop := Index(expr, "}")`, `expr[:stop]`,
`expr[stop+1:]`, `end := Index(expr, "%{")` (NOT a search for a bare `%`), `end == 0` = sequential,
`keyName[0] == '?'` = named skip, the duplicate test on `groupNames`. -/
theorem compile_code_matches_source :
    Gen.C12.compileSearches = [("strings.Index", [37, 123]), ("strings.Index", [125]), ("strings.Index", [37, 123])] ∧
    Gen.C12.compileSlices = ["expr[:start]", "expr[start+2:]", "expr[:stop]", "expr[stop+1:]", "expr[:end]", "expr[end:]", "keyName[1:]"] ∧
    Gen.C12.compileConds = ["start < 0", "len(parts) == 0", "len(parts) == 0", "stop < 0", "end < 0", "end == 0",
      "ignoreCase", "len(keyName) == 0", "keyName[0] == '?'", "!skipped", "_, ok := groupNames[keyName]; ok", "ignoreCase"] :=
  ⟨rfl, rfl, rfl⟩


/-! ### What Go runs behind `strings.Index`, the exact fold, named slots, source ties -/

/-- **`strings.Index` is no longer "by contract"**: the executable mirror of go1.23
`stringslite.Index` (`goIndex`: the four `switch` arms, the `IndexByte`-skip loop with its `fails`
cut-over, `IndexRabinKarp` with the wrap-around `uint32` rolling hash and `HashStr`'s
square-and-multiply `pow`) returns, for ALL byte strings, the contract value `stringsIndex` the
dissect model is written against.  (The amd64 assembly `bytealg.IndexString` used for needles of at
most 63 bytes stays an oracle; the correspondence op `index` runs the real `strings.Index` and
`bytes.Index` against `goIndex`.) -/
theorem go_index_eq_contract (s sub : Bytes) : goIndex s sub = stringsIndex s sub :=
  goIndex_eq s sub

/-- …spelled out: `goIndex` is the LEAST position where the needle is a prefix of the remainder,
`-1` exactly when there is none, and never one of the model's "Go would panic" (`-3`) / "fuel"
(`-2`) sentinels – the index expressions `s[i]`, `s[i+1]`, `s[i-n]` of the loops stay in range. -/
theorem go_index_least (s sub : Bytes) :
    (∀ i : Nat, goIndex s sub = (i : Int) ↔
      (i ≤ s.length ∧ sub <+: s.drop i ∧ ∀ j < i, ¬ sub <+: s.drop j)) ∧
    (goIndex s sub = -1 ↔ ∀ k ≤ s.length, ¬ sub <+: s.drop k) ∧
    -1 ≤ goIndex s sub := by
  rw [goIndex_eq]
  refine ⟨fun i => ?_, ?_, stringsIndex_ge s sub⟩
  · rw [← firstIndex_spec]
    unfold stringsIndex
    cases firstIndex sub s <;> simp <;> omega
  · rw [← firstIndex_none_iff]
    unfold stringsIndex
    cases firstIndex sub s <;> simp <;> omega

/-- the edge cases the property text names: the empty needle is found at 0 (also in the empty
string), a needle longer than the hay is not found, a string is found in itself at 0 -/
theorem go_index_edges (s sub : Bytes) :
    goIndex s [] = 0 ∧ (s.length < sub.length → goIndex s sub = -1) ∧ goIndex s s = 0 := by
  refine ⟨by simp [goIndex, goIndexWith], fun h => ?_, ?_⟩
  · rw [goIndex_eq]
    simp [stringsIndex, firstIndex_none_of_short h]
  · rw [goIndex_eq]
    simpa using stringsIndex_of_least (s := s) (sub := s) (i := 0) (by omega) (by simp) (by omega)

/-- `bytealg.IndexRabinKarp` (the fall-back of long searches) computes the contract whenever Go may
call it, i.e. `len(sep) ≤ len(s)` – hash collisions cannot produce a wrong answer (every hash hit
is verified) and the rolling hash cannot miss an occurrence (it IS the hash of the window, in
`uint32` arithmetic). -/
theorem rabin_karp_eq_contract (s sub : Bytes) (h : sub.length ≤ s.length) :
    indexRabinKarp s sub = stringsIndex s sub :=
  indexRabinKarp_eq s sub h

/-- **`indexIgnoreCase` (case.go), all four `switch` arms and both loops**, for ANY second argument
(also one that is not lowered, also the empty one): the least position where it is a prefix of the
byte-wise ASCII-lowered line. -/
theorem index_ignore_case_contract (s low : Bytes) :
    indexIgnoreCase s low = goIndex (lower s) low ∧
    (∀ i : Nat, indexIgnoreCase s low = (i : Int) ↔
      (i ≤ s.length ∧ low <+: lower (s.drop i) ∧ ∀ j < i, ¬ low <+: lower (s.drop j))) := by
  refine ⟨by rw [indexIgnoreCase_eq, goIndex_eq], fun i => ?_⟩
  rw [indexIgnoreCase_eq]
  have := (go_index_least (lower s) low).1 i
  rw [goIndex_eq] at this
  simpa [lower_length, lower_drop] using this

/-- the search function a compiled pattern installs (`indexOf`) is one of the two executable
searches: `strings.Index` as Go runs it, or `indexIgnoreCase` -/
theorem dissect_runs_go_index (d : Dissect) (src of_ : Bytes) :
    d.indexOf src of_ = if d.ic then indexIgnoreCase src of_ else goIndex src of_ := by
  simp [Dissect.indexOf, goIndex_eq]

/-- **The fold of ignore-case, exactly** (`lowerASCII`'s `for i := range b` loop = `lower`): it is
positional and length-preserving – byte `i` of the folded text is `lowerByte` of byte `i` – so every
offset computed on the folded line IS an offset of the original line; it changes `A`–`Z` only, in
particular no byte ≥ 0x80 (no UTF-8 lead or continuation byte), and it is idempotent. -/
theorem ci_fold_exact (s : Bytes) :
    lowerASCII s = lower s ∧ (lower s).length = s.length ∧
    (∀ i : Nat, (lower s)[i]? = s[i]?.map lowerByte) ∧
    (∀ c : UInt8, ¬ (65 ≤ c ∧ c ≤ 90) → lowerByte c = c) ∧
    (∀ c : UInt8, 65 ≤ c ∧ c ≤ 90 → lowerByte c = c + 32) ∧
    lower (lower s) = lower s := by
  exact ⟨lowerASCII_eq s, lower_length s, lower_getElem? s, fun c h => lowerByte_of_not_upper h,
    fun c h => by simp [lowerByte, h], lower_of_noUpper (noUpper_lower s)⟩

/-- **Offsets of an ignore-case match index the ORIGINAL line**: the reported start `s` satisfies
`s + len(prefix) ≤ len(line)`, the original bytes `line[s : s+len(prefix)]` fold to the folded
leading literal, and no earlier position of the original line does. -/
theorem ci_offsets_index_original (p : Pat) (hp : p.Shape) (dI : Dissect)
    (hcI : compileEx p.render true = .ok dI) (line : Bytes) (r : List Int)
    (hr : matchAll dI [line] = .ok [some r]) :
    ∃ (s : Nat) (rest : List Int), r = (s : Int) :: rest ∧ s + p.pre.length ≤ line.length ∧
      lower ((line.drop s).take p.pre.length) = lower p.pre ∧
      ∀ j < s, ¬ lower p.pre <+: lower (line.drop j) := by
  obtain ⟨r0, hs, rfl⟩ := matchAll_some hp hcI hr
  obtain ⟨s, rest, rfl, h2, h3, h4⟩ := specFor_leading hs
  exact ⟨s, rest.map Int.ofNat, rfl, h2, h3, h4⟩

/-- `ci_monotone`, quantitatively (all bytes): when the case-sensitive run matches a line with `{0}`
= `[s, e)`, the ignore-case run matches it with `{0}` = `[s', e')` where `s' ≤ s` and `e' ≤ e` – the
leading literal and every delimiter are found no later – and with the same number of captures.
(`ci_boundary_counterexamples` shows `s' < s` happens.) -/
theorem ci_monotone_no_later (p : Pat) (hp : p.Shape) (d dI : Dissect)
    (hc : compileEx p.render false = .ok d) (hcI : compileEx p.render true = .ok dI)
    (line : Bytes) (r : List Int) (hr : matchAll d [line] = .ok [some r]) :
    ∃ (s e s' e' : Nat) (caps caps' : List Int), r = (s : Int) :: (e : Int) :: caps ∧
      matchAll dI [line] = .ok [some ((s' : Int) :: (e' : Int) :: caps')] ∧
      s' ≤ s ∧ e' ≤ e ∧ caps'.length = caps.length := by
  obtain ⟨r0, hs, rfl⟩ := matchAll_some hp hc hr
  obtain ⟨s, e, caps, s', e', caps', rfl, h2, h3, h4, h5⟩ := specDissect_ci_mono_le (p := p) (line := line) hs
  exact ⟨s, e, s', e', caps.map Int.ofNat, caps'.map Int.ofNat, rfl,
    (matchAll_one hp hcI line _).mpr (by simp [specFor, h2]), h3, h4, by simp [h5]⟩

/-- **Where the two modes coincide**: when neither the line nor the literals of the pattern contain
an ASCII upper-case letter (any other bytes, e.g. arbitrary UTF-8, are allowed) ignore-case matching
IS case-sensitive matching – same matches, same offsets. -/
theorem ci_eq_cs_without_upper (p : Pat) (hp : p.Shape) (d dI : Dissect)
    (hc : compileEx p.render false = .ok d) (hcI : compileEx p.render true = .ok dI)
    (hpre : NoUpper p.pre) (hlits : ∀ t ∈ p.toks, NoUpper t.lit)
    (lines : List Bytes) (hl : ∀ l ∈ lines, NoUpper l) :
    matchAll dI lines = matchAll d lines := by
  rw [dissect_eq_spec true p hp dI hcI, dissect_eq_spec false p hp d hc]
  congr 1
  apply List.map_congr_left
  intro l hlm
  simp only [specFor, if_true, Bool.false_eq_true, if_false]
  rw [specDissectIC_of_noUpper (hl l hlm) hpre hlits]

/-- …and just outside that class they differ, in both ways (kernel-checked witnesses).
(1) The fold is ASCII-only: the pattern `É=%{v}` does not match the line `é=1` with ignore-case
although U+00C9 lower-cases to U+00E9 (nor does U+212A KELVIN SIGN match `k`).
(2) With an upper-case letter in the line, both modes may match and report DIFFERENT offsets:
`a=%{v}` on `A=1 a=2` gives `[4,7,6,7]` case-sensitively and `[0,7,2,7]` with ignore-case
(ignore-case finds the earlier `A=`), so `ci_monotone` cannot be strengthened to equal results. -/
theorem ci_boundary_counterexamples :
    matchAll (compiled true ⟨[195, 137, 61], [⟨[118], []⟩]⟩) [[195, 169, 61, 49]] = .ok [none] ∧
    matchAll (compiled true ⟨[226, 132, 170, 61], [⟨[118], []⟩]⟩) [[107, 61, 49]] = .ok [none] ∧
    matchAll (compiled false ⟨[97, 61], [⟨[118], []⟩]⟩) [[65, 61, 49, 32, 97, 61, 50]] = .ok [some [4, 7, 6, 7]] ∧
    matchAll (compiled true ⟨[97, 61], [⟨[118], []⟩]⟩) [[65, 61, 49, 32, 97, 61, 50]] = .ok [some [0, 7, 2, 7]] := by
  simp only [matchAll_compiled, Except.ok.injEq]
  decide +kernel

/-- **Named-field view** (`SubexpNameTable` + the index slice): a result has exactly
`2·groupCount + 2` entries, and for every entry `(name, i)` of the name table, `name` is the `i`-th
capturing token of the pattern (1-based, in pattern order) and the slots `r[2i]`, `r[2i+1]` exist,
are ordered, and lie inside the line – so `line[r[2i]:r[2i+1]]` never panics. -/
theorem named_slots (ic : Bool) (p : Pat) (hp : p.Shape) (d : Dissect)
    (hc : compileEx p.render ic = .ok d) (line : Bytes) (r : List Int)
    (hr : matchAll d [line] = .ok [some r]) :
    r.length = 2 * d.groupCount + 2 ∧
    ∀ nm i, (nm, i) ∈ d.groupNames →
      1 ≤ i ∧ i ≤ d.groupCount ∧ (capturedNames p.toks)[i - 1]? = some nm ∧
      ∃ a b : Nat, r[2 * i]? = some (a : Int) ∧ r[2 * i + 1]? = some (b : Int) ∧ a ≤ b ∧ b ≤ line.length := by
  obtain ⟨r0, hs, rfl⟩ := matchAll_some hp hc hr
  obtain ⟨hlen, hslot⟩ := specFor_slots hs
  cases (compileEx_ok hp hc).2
  refine ⟨by simpa [compiled] using hlen, fun nm i hm => ?_⟩
  have hm' : (nm, i) ∈ nameTable p.toks := hm
  obtain ⟨h1, h2⟩ := mem_nameTable.mp hm'
  have hi : i ≤ capCount p.toks := by
    rw [capCount_eq_names]
    rcases Nat.lt_or_ge (i - 1) (capturedNames p.toks).length with h' | h'
    · omega
    · rw [List.getElem?_eq_none h'] at h2; cases h2
  obtain ⟨a, b, ha, hb, hab, hbl⟩ := hslot i h1 hi
  exact ⟨h1, hi, h2, a, b, by simp [ha], by simp [hb], hab, hbl⟩

/-- The name table of a compiled pattern is a function (a Go map): a name has ONE index, the
indices are exactly `1 … groupCount`, and skipped tokens (`%{}`, `%{?name}`) have no entry even when
a captured token carries the same name. -/
theorem name_table_is_map (s : Bytes) (ic : Bool) (d : Dissect) (hc : compileEx s ic = .ok d) :
    (∀ nm i j, (nm, i) ∈ d.groupNames → (nm, j) ∈ d.groupNames → i = j) ∧
    (∀ i, 1 ≤ i → i ≤ d.groupCount → ∃ nm, (nm, i) ∈ d.groupNames) ∧
    d.groupNames.length = d.groupCount := by
  obtain ⟨p, g, hs⟩ := (compile_iff_pattern_grammar s ic).mp ⟨d, hc⟩
  have hd : d = compiled ic p := by
    have := compile_of_derivation p g ic
    rw [← hs, hc] at this
    exact Except.ok.inj this
  subst hd
  refine ⟨fun nm i j hi hj => nameTable_functional g.names hi hj, fun i h1 h2 => ?_, ?_⟩
  · have h2' : i - 1 < (capturedNames p.toks).length := by
      have : i ≤ capCount p.toks := h2
      rw [capCount_eq_names] at this; omega
    exact ⟨(capturedNames p.toks)[i - 1], mem_nameTable.mpr ⟨h1, List.getElem?_eq_getElem h2'⟩⟩
  · show (nameTable p.toks).length = capCount p.toks
    rw [nameTable_eq, capCount_eq_names]; simp

/-- **Instances and goroutines**: `FindSubmatchIndex` never changes the compiled pattern – the
instance it returns carries the same `Dissect` – so all it mutates is the instance's own pool.
Together with `find_access_table` (the real method assigns nothing through its receiver and the
only receiver calls are `s.indexOf` and `s.groupPool.Get`) and the wiring (each extractor worker
calls `CreateInstance` once: `pkg/extractor/extractor.go asyncWorker`) instances of one pattern on
different goroutines share only read-only data. -/
theorem find_preserves_dissect (s s' : Instance) (str : Bytes) (r : Option View)
    (h : findSubmatchIndex s str = .ok (r, s')) : s'.d = s.d :=
  find_same_dissect h

/-- **Two instances of one compiled pattern do not disturb each other** (two extractor workers):
for EVERY interleaving of calls to two instances created from the same `Dissect` the run succeeds,
and what each instance's slices hold after all calls is the specification's answer for the lines
THAT instance was given, in order – as if the other instance did not exist. -/
theorem instances_independent (ic : Bool) (p : Pat) (hp : p.Shape) (d : Dissect)
    (hc : compileEx p.render ic = .ok d) (sched : List (Bool × Bytes)) :
    ∃ rs a' b', runTwo d.createInstance d.createInstance sched = .ok (rs, a', b') ∧
      (pick true rs).map (·.map a'.pool.read) =
        (pick true sched).map (fun l => (specFor ic p l).map (·.map Int.ofNat)) ∧
      (pick false rs).map (·.map b'.pool.read) =
        (pick false sched).map (fun l => (specFor ic p l).map (·.map Int.ofNat)) := by
  obtain ⟨va, a', ha, _⟩ := results_disjoint ic p hp d hc (pick true sched)
  obtain ⟨vb, b', hb, _⟩ := results_disjoint ic p hp d hc (pick false sched)
  obtain ⟨rs, hrs, h1, h2⟩ := runTwo_of_runLines sched _ _ va a' vb b' ha hb
  refine ⟨rs, a', b', hrs, ?_, ?_⟩
  · have := dissect_eq_spec ic p hp d hc (pick true sched)
    simp only [matchAll, ha, Except.ok.injEq] at this
    rw [h1]; exact this
  · have := dissect_eq_spec ic p hp d hc (pick false sched)
    simp only [matchAll, hb, Except.ok.injEq] at this
    rw [h2]; exact this

/-- **Tie to the source (regenerated on every run)**: what `FindSubmatchIndex` and `IntPool.Get` do
through their receivers, from the Go AST: `FindSubmatchIndex` assigns nothing through `s` (all its
assignments go to locals and to the fresh slice `ret`), its receiver calls are the two searches and
one `Get`; `Get` writes `s.pool` only. -/
theorem find_access_table :
    Gen.C12.findReceiverWrites = [] ∧
    Gen.C12.findReceiverCalls = ["s.indexOf", "s.groupPool.Get", "s.indexOf"] ∧
    Gen.C12.poolGetReceiverWrites = ["s.pool", "s.pool"] :=
  ⟨rfl, rfl, rfl⟩

/-- **Tie to the source**: the match loop of `FindSubmatchIndex` statement by statement – the
guard on the empty prefix, `start += len(s.prefix)`, `ret[0] = start - len(s.prefix)`, the empty
delimiter taking `len(str[start:])`, the search in `str[start:]`, the two capture slots and
`idx += 2` under `!token.skip`, `start + endOffset + len(token.until)`, `ret[1] = start` – is the
text `findSubmatchIndex` / `tokenLoop` of the model mirror. -/
theorem find_code_matches_source :
    Gen.C12.findSkeleton =
      ["str := *(*string)(unsafe.Pointer(&b))", "start := 0", "if s.prefix != \"\"",
       "start = s.indexOf(str, s.prefix)", "if start < 0", "return nil", "end",
       "start += len(s.prefix)", "end", "ret := s.groupPool.Get(s.groupCount*2 + 2)",
       "ret[0] = start - len(s.prefix)", "idx := 2", "range _, token := s.tokens", "endOffset := 0",
       "if token.until == \"\"", "endOffset = len(str[start:])", "else",
       "endOffset = s.indexOf(str[start:], token.until)", "if endOffset < 0", "return nil", "end", "end",
       "if !token.skip", "ret[idx] = start", "ret[idx+1] = start + endOffset", "idx += 2", "end",
       "start = start + endOffset + len(token.until)", "end", "ret[1] = start", "return ret"] := by
  rfl

/-- **Tie to the source**: the WHOLE of `CompileEx`, statement by statement – in particular which
search function is installed (`indexOfFunc := strings.Index`, `indexOfFunc = indexIgnoreCase` under
`ignoreCase`), that both the delimiters and the prefix are lowered with `lowerASCII`, and the fields
of the returned `Dissect` – is the text `compileStep` / `compileEx` mirror (`compile_code_matches_source`
pins searches, slices and conditions only). -/
theorem compile_skeleton_matches_source :
    Gen.C12.compileSkeleton =
      ["parts := make([]token, 0)", "groupNames := make(map[string]int)", "var prefix string",
       "groupIndex := 0", "for ; ; ", "start := strings.Index(expr, \"%{\")", "if start < 0",
       "if len(parts) == 0", "prefix = expr", "end", "break", "end", "if len(parts) == 0",
       "prefix = expr[:start]", "end", "expr = expr[start+2:]", "stop := strings.Index(expr, \"}\")",
       "if stop < 0", "return nil, ErrorUnclosedToken", "end", "keyName := expr[:stop]",
       "expr = expr[stop+1:]", "end := strings.Index(expr, \"%{\")", "if end < 0", "end = len(expr)", "else",
       "if end == 0", "return nil, ErrorSequentialToken", "end", "end", "keyUntil := expr[:end]",
       "expr = expr[end:]", "if ignoreCase", "keyUntil = lowerASCII(keyUntil)", "end", "skipped := false",
       "switch", "case len(keyName) == 0", "skipped = true", "case keyName[0] == '?'", "skipped = true",
       "keyName = keyName[1:]", "end",
       "parts = append(parts, token{ name: keyName, until: keyUntil, skip: skipped, })", "if !skipped",
       "if _, ok := groupNames[keyName]; ok", "return nil, ErrorKeyConflict", "end", "groupIndex++",
       "groupNames[keyName] = groupIndex", "end", "end", "indexOfFunc := strings.Index", "if ignoreCase",
       "indexOfFunc = indexIgnoreCase", "prefix = lowerASCII(prefix)", "end",
       "return &Dissect{ groupNames: groupNames, groupCount: groupIndex, tokens: parts, prefix: prefix, indexOf: indexOfFunc, }, nil"] := by
  rfl

/-- **Tie to the source**: `indexIgnoreCase` (four arms, loop bounds `i < n`, `i <= len(s)-n`,
`j < n`, the comparison `lowerByte(s[i+j]) != loweredSubstr[j]`) and `lowerASCII`, statement by
statement, are what `indexIgnoreCase` / `icLoop` / `foldEq` / `lowerASCIILoop` mirror. -/
theorem ic_code_matches_source :
    Gen.C12.icSkeleton =
      ["n := len(loweredSubstr)", "switch", "case n == 0", "return 0", "case len(s) < n", "return -1",
       "case len(s) == n", "for i := 0; i < n; i++", "if lowerByte(s[i]) != loweredSubstr[i]", "return -1",
       "end", "end", "return 0", "default", "for i := 0; i <= len(s)-n; i++", "match := true",
       "for j := 0; j < n; j++", "if lowerByte(s[i+j]) != loweredSubstr[j]", "match = false", "break",
       "end", "end", "if match", "return i", "end", "end", "return -1", "end"] ∧
    Gen.C12.lowerASCIISkeleton =
      ["b := []byte(s)", "range i := b", "b[i] = lowerByte(b[i])", "end", "return string(b)"] :=
  ⟨rfl, rfl⟩

/-- **Tie to the source**: `IntPool.Get` and `CreateInstance`, statement by statement (refill test
`len(s.pool) < n`, panic test `n > s.size`, `ret = s.pool[:n]`, `s.pool = s.pool[n:]`; nothing is
ever handed back) are what `Pool.get` / `createInstance` mirror. -/
theorem pool_code_matches_source :
    Gen.C12.poolGetSkeleton =
      ["if len(s.pool) < n", "if n > s.size", "panic(\"pool not large enough\")", "end",
       "s.pool = make([]int, s.size)", "end", "ret = s.pool[:n]", "s.pool = s.pool[n:]", "return"] ∧
    Gen.C12.createInstanceSkeleton =
      ["return &DissectInstance{ s, slicepool.NewIntPool((s.groupCount*2 + 2) * 1024), }"] :=
  ⟨rfl, rfl⟩

/-- `MustCompile` panics exactly on the texts outside the grammar (and `Compile` is the
case-sensitive `CompileEx`). -/
theorem must_compile_panics_iff_not_pattern (s : Bytes) :
    (∃ m, mustCompile s = .error m) ↔ ¬ PatternText s := by
  rw [← compile_iff_pattern_grammar s false]
  unfold mustCompile compile
  cases compileEx s false with
  | ok d => simp
  | error e => simp

/-- **Tie to the source**: `lowerByte` of case.go, translated from the Go AST (`'A' <= c && c <=
'Z'`, `c + ('a' - 'A')`), is the fold of the specification on every byte. -/
theorem gen_lowerByte_eq (c : UInt8) : Gen.C12.lowerByte c = lowerByte c := by
  simp [Gen.C12.lowerByte, lowerByte]

/-! ### Histories on one instance, the amd64 arm of `strings.Index`, state of the types -/

/-- **The answer for a line does not depend on what the instance matched before or after**
("forall sequences of lines matched by one instance"): in ANY history `hist ++ line :: more` run by
one instance, the slice returned for `line` – re-read after the last call – is the answer a fresh
instance gives for `line` alone.  An instance that remembered anything about earlier lines (a column
at which a literal was found, a previous result) and let it influence a later answer would make this
false; the correspondence op `hist` runs the real code three ways (one instance / fresh instance per
line / one instance over a re-used buffer) on histories built to tempt such a memory. -/
theorem history_independent (ic : Bool) (p : Pat) (hp : p.Shape) (d : Dissect)
    (hc : compileEx p.render ic = .ok d) (hist : List Bytes) (line : Bytes) (more : List Bytes) :
    ∃ before r after, matchAll d (hist ++ line :: more) = .ok (before ++ r :: after) ∧
      before.length = hist.length ∧ matchAll d [line] = .ok [r] := by
  refine ⟨hist.map fun l => (specFor ic p l).map (·.map Int.ofNat), (specFor ic p line).map (·.map Int.ofNat),
    more.map fun l => (specFor ic p l).map (·.map Int.ofNat), ?_, by simp, ?_⟩
  · rw [dissect_eq_spec ic p hp d hc]; simp
  · rw [dissect_eq_spec ic p hp d hc]; simp

/-- …hence the ORDER in which one instance is given the lines is irrelevant: a permutation of the
lines yields the same permutation of the results (batches may reach a worker in any order). -/
theorem order_irrelevant (ic : Bool) (p : Pat) (hp : p.Shape) (d : Dissect)
    (hc : compileEx p.render ic = .ok d) (l₁ l₂ : List Bytes) (h : l₁.Perm l₂) :
    ∃ r₁ r₂, matchAll d l₁ = .ok r₁ ∧ matchAll d l₂ = .ok r₂ ∧ r₁.Perm r₂ :=
  ⟨_, _, dissect_eq_spec ic p hp d hc l₁, dissect_eq_spec ic p hp d hc l₂, h.map _⟩

/-- **The leading literal is located at its FIRST occurrence – after any history, in both modes.**
Whatever lines the instance matched before, a match of `line` starts at an `s` with
`s + len(prefix) ≤ len(line)`, the bytes `line[s : s+len(prefix)]` equal the prefix (after the mode's
fold: identity, or the byte-wise ASCII fold for ignore-case), and NO earlier position `j < s` holds
the (folded) prefix.  (`ci_offsets_index_original` is the single-line ignore-case instance.) -/
theorem leading_literal_first (ic : Bool) (p : Pat) (hp : p.Shape) (d : Dissect)
    (hc : compileEx p.render ic = .ok d) (hist : List Bytes) (line : Bytes)
    (before : List (Option (List Int))) (r : List Int)
    (h : matchAll d (hist ++ [line]) = .ok (before ++ [some r])) (hlen : before.length = hist.length) :
    ∃ (s : Nat) (rest : List Int), r = (s : Int) :: rest ∧ s + p.pre.length ≤ line.length ∧
      foldFor ic ((line.drop s).take p.pre.length) = foldFor ic p.pre ∧
      ∀ j < s, ¬ foldFor ic p.pre <+: foldFor ic (line.drop j) := by
  rw [dissect_eq_spec ic p hp d hc] at h
  simp only [List.map_append, List.map_cons, List.map_nil, Except.ok.injEq] at h
  have h2 := (List.append_inj h (by simp [hlen])).2
  simp only [List.cons.injEq, and_true] at h2
  cases hs : specFor ic p line with
  | none => rw [hs] at h2; cases h2
  | some r0 =>
    rw [hs] at h2
    simp only [Option.map_some, Option.some.injEq] at h2
    obtain ⟨s, rest, h1, h3, h4, h5⟩ := specFor_leading hs
    exact ⟨s, rest.map Int.ofNat, by rw [← h2, h1]; rfl, h3, h4, h5⟩

/-- Kernel-checked histories in which a remembered column would be valid evidence for a wrong answer.
(1) `id=%{v};` on `xxxxxid=1;` (prefix at column 5) and then `id=2;id=3;` (prefix at column 0 AND at
column 5): the second answer is `[0,5,3,4]` (v = `2`), not `[5,10,8,9]`.  (2) `a%{v}b` on `..a1b` and
then `aba`: `[0,2,1,1]` – starting at the remembered column 2 there would be no match at all.
(3) the same as (1) with ignore-case and mixed-case lines.  (4) ignore-case finds the first occurrence
in ANY case: `user=%{u} msg=%{m}` on `USER=bob MSG=hello user=x msg=y` gives u = `bob` ([5,8]), not `x`. -/
theorem history_witnesses :
    matchAll (compiled false histPat)
      [[120, 120, 120, 120, 120, 105, 100, 61, 49, 59], [105, 100, 61, 50, 59, 105, 100, 61, 51, 59]] =
      .ok [some [5, 10, 8, 9], some [0, 5, 3, 4]] ∧
    matchAll (compiled false ⟨[97], [⟨[118], [98]⟩]⟩) [[46, 46, 97, 49, 98], [97, 98, 97]] =
      .ok [some [2, 5, 3, 4], some [0, 2, 1, 1]] ∧
    matchAll (compiled true histPat)
      [[120, 120, 120, 120, 120, 105, 100, 61, 49, 59], [73, 100, 61, 50, 59, 105, 68, 61, 51, 59]] =
      .ok [some [5, 10, 8, 9], some [0, 5, 3, 4]] ∧
    matchAll (compiled true ⟨[117, 115, 101, 114, 61], [⟨[117], [32, 109, 115, 103, 61]⟩, ⟨[109], []⟩]⟩)
      [[85, 83, 69, 82, 61, 98, 111, 98, 32, 77, 83, 71, 61, 104, 101, 108, 108, 111, 32,
        117, 115, 101, 114, 61, 120, 32, 109, 115, 103, 61, 121]] = .ok [some [0, 31, 5, 8, 13, 31]] := by
  simp only [matchAll_compiled, Except.ok.injEq]
  decide +kernel

/-- **`strings.Index` as this platform runs it** (go1.23 `stringslite.Index` compiled for amd64):
the arm `case n <= bytealg.MaxLen` – a hay of at most `MaxBruteForce` = 64 bytes goes straight to the
assembly routine `bytealg.IndexString`, a longer one through the `IndexByte`-skip loop that hands the
rest `s[i:]` to `IndexString` once `fails > Cutover(i) = (i+16)/8` – and for longer needles the
portable loop with Rabin–Karp.  For EVERY `MaxLen` (63 with AVX2, 31 without) and every routine `asm`
that meets the documented contract of `IndexString` on needles of `2 … MaxLen` bytes (any hay, also
one shorter than the needle – the loop does hand it such a rest), the result is the contract
`stringsIndex` for ALL byte strings.  So the only thing taken on trust for needles up to 63 bytes is
the assembly routine itself (compared by the `index` op); the dispatch around it is proved. -/
theorem go_index_amd64_eq_contract (maxLen : Nat) (asm : Bytes → Bytes → Int)
    (hasm : ∀ s' u : Bytes, 2 ≤ u.length → u.length ≤ maxLen → asm s' u = stringsIndex s' u)
    (s sub : Bytes) :
    goIndexAmd64 maxLen asm s sub = stringsIndex s sub ∧ goIndexAmd64 maxLen asm s sub = goIndex s sub := by
  have h := goIndexAmd64_eq maxLen asm hasm s sub
  exact ⟨h, by rw [h, goIndex_eq]⟩

/-- With `MaxLen = 0` (a platform without the assembly routine) the amd64 text IS the portable
search: the oracle is never consulted. -/
theorem go_index_amd64_no_asm (asm : Bytes → Bytes → Int) (s sub : Bytes) :
    goIndexAmd64 0 asm s sub = goIndex s sub := by
  rw [(go_index_amd64_eq_contract 0 asm (fun _ u h2 h0 => by omega) s sub).2]

/-- **Tie to the source (regenerated on every run)**: the STATE of the types.  A `DissectInstance`
is the shared `*Dissect` plus its pool and nothing else (the model's `Instance`: `d`, `pool`) – there
is no field in which an instance could remember anything about earlier lines; `Dissect` has the five
fields of the model's `Dissect` (the function value `indexOf` is the model's flag `ic`), a token is
(name, until, skip), an `IntPool` is (size, pool).  And the inventory of the three files: no further
function, method or package-level variable stands next to the mirrored ones. -/
theorem state_matches_source :
    Gen.C12.instanceFields = ["*Dissect", "groupPool *slicepool.IntPool"] ∧
    Gen.C12.dissectFields = ["tokens []token", "prefix string", "indexOf func(src, of string) int",
      "groupNames map[string]int", "groupCount int"] ∧
    Gen.C12.tokenFields = ["name string", "until string", "skip bool"] ∧
    Gen.C12.intPoolFields = ["size int", "pool []int"] ∧
    Gen.C12.dissectDecls = ["CompileEx", "Compile", "MustCompile", "Dissect.CreateInstance",
      "DissectInstance.FindSubmatchIndex", "Dissect.SubexpNameTable"] ∧
    Gen.C12.caseDecls = ["lowerByte", "lowerASCII", "indexIgnoreCase"] ∧
    Gen.C12.intPoolDecls = ["NewIntPool", "IntPool.Get"] :=
  ⟨rfl, rfl, rfl, rfl, rfl, rfl, rfl⟩

/-- **Tie to the source**: the small functions around the mirrored ones – `NewIntPool` (one array of
`size` ints: `Pool.new`), `SubexpNameTable` (the compiled map itself), `Compile` (= `CompileEx(expr,
false)`: `compile`), `MustCompile` (`mustCompile`), and the factory of `pkg/matchers/factory.go`:
`ToFactory` wraps the compiled pattern and EVERY `CreateInstance` of the wrapper calls the pattern's
`CreateInstance` – no instance is cached or shared between workers (the `par` op also demands two
distinct objects from two calls). -/
theorem aux_code_matches_source :
    Gen.C12.newIntPoolSkeleton = ["return &IntPool{ size: size, pool: make([]int, size), }"] ∧
    Gen.C12.nameTableSkeleton = ["return s.groupNames"] ∧
    Gen.C12.compileFnSkeleton = ["return CompileEx(expr, false)"] ∧
    Gen.C12.mustCompileSkeleton = ["d, err := Compile(expr)", "if err != nil", "panic(err)", "end", "return d"] ∧
    Gen.C12.toFactorySkeleton = ["return &factoryWrapper[T]{f}"] ∧
    Gen.C12.factoryCreateSkeleton = ["return s.matcher.CreateInstance()"] :=
  ⟨rfl, rfl, rfl, rfl, rfl, rfl⟩

/-- **Tie to the TOOLCHAIN's source (regenerated on every run from GOROOT/src of the Go that builds
`rare`)**: the library code the model mirrors is not part of /repo, so its text is pinned as well –
`internal/stringslite.Index` statement by statement (the five `switch` arms, the amd64 arm with
`MaxBruteForce`, `fails++; i++`, `fails > bytealg.Cutover(i)`, `IndexString(s[i:], substr)`; the
portable loop with `i++; fails++`, `fails >= 4+i>>4 && i < t`, `IndexRabinKarp(s[i:], substr)`),
`bytealg.IndexRabinKarp`, `bytealg.HashStr`, `Cutover`, the two values of `MaxLen`, and the constants
`PrimeRK`, `MaxBruteForce` – are what `goIndexAmd64` / `goIndexLoopAsm` / `goIndexLoop` / `indexRabinKarp`
/ `hashBytes` / `powLoop` / `cutoverAmd64` mirror.  A toolchain whose search differs breaks this theorem
instead of leaving `go_index_eq_contract` to speak about code that no longer runs. -/
theorem stdlib_index_matches_source :
    Gen.C12.stdIndexSkeleton =
      ["n := len(substr)", "switch", "case n == 0", "return 0", "case n == 1", "return IndexByte(s, substr[0])",
       "case n == len(s)", "if substr == s", "return 0", "end", "return -1", "case n > len(s)", "return -1",
       "case n <= bytealg.MaxLen", "if len(s) <= bytealg.MaxBruteForce", "return bytealg.IndexString(s, substr)", "end",
       "c0 := substr[0]", "c1 := substr[1]", "i := 0", "t := len(s) - n + 1", "fails := 0", "for ; i < t; ",
       "if s[i] != c0", "o := IndexByte(s[i+1:t], c0)", "if o < 0", "return -1", "end", "i += o + 1", "end",
       "if s[i+1] == c1 && s[i:i+n] == substr", "return i", "end", "fails++", "i++", "if fails > bytealg.Cutover(i)",
       "r := bytealg.IndexString(s[i:], substr)", "if r >= 0", "return r + i", "end", "return -1", "end", "end",
       "return -1", "end",
       "c0 := substr[0]", "c1 := substr[1]", "i := 0", "t := len(s) - n + 1", "fails := 0", "for ; i < t; ",
       "if s[i] != c0", "o := IndexByte(s[i+1:t], c0)", "if o < 0", "return -1", "end", "i += o + 1", "end",
       "if s[i+1] == c1 && s[i:i+n] == substr", "return i", "end", "i++", "fails++", "if fails >= 4+i>>4 && i < t",
       "j := bytealg.IndexRabinKarp(s[i:], substr)", "if j < 0", "return -1", "end", "return i + j", "end", "end",
       "return -1"] ∧
    Gen.C12.stdRabinKarpSkeleton =
      ["hashss, pow := HashStr(sep)", "n := len(sep)", "var h uint32", "for i := 0; i < n; i++",
       "h = h*PrimeRK + uint32(s[i])", "end", "if h == hashss && string(s[:n]) == string(sep)", "return 0", "end",
       "for i := n; i < len(s); ", "h *= PrimeRK", "h += uint32(s[i])", "h -= pow * uint32(s[i-n])", "i++",
       "if h == hashss && string(s[i-n:i]) == string(sep)", "return i - n", "end", "end", "return -1"] ∧
    Gen.C12.stdHashStrSkeleton =
      ["hash := uint32(0)", "for i := 0; i < len(sep); i++", "hash = hash*PrimeRK + uint32(sep[i])", "end",
       "var pow, sq uint32 = 1, PrimeRK", "for i := len(sep); i > 0; i >>= 1", "if i&1 != 0", "pow *= sq", "end",
       "sq *= sq", "end", "return hash, pow"] ∧
    Gen.C12.stdCutoverSkeleton = ["return (n + 16) / 8"] ∧
    Gen.C12.stdAmd64InitSkeleton = ["if cpu.X86.HasAVX2", "MaxLen = 63", "else", "MaxLen = 31", "end"] ∧
    Gen.C12.stdPrimeRK = primeRK.toNat ∧ Gen.C12.stdMaxBruteForce = maxBruteForce ∧
    (∀ n, cutoverAmd64 n = (n + 16) / 8) :=
  ⟨rfl, rfl, rfl, rfl, rfl, by decide +kernel, by decide +kernel, fun _ => rfl⟩

/-- **UTF-8 text is never cut inside a character** ("any literals incl. multi-byte UTF-8"): when the
line, the leading literal and every delimiter are structurally valid UTF-8 (`Utf8`: each lead byte is
followed by exactly the continuation bytes it announces – every really valid UTF-8 string is), EVERY
offset of a result – start and end of `{0}`, start and end of every capture – is a character
boundary of the line (`Boundary line n`: `line[:n]` and `line[n:]` are both valid), in BOTH modes.  So
`{name}` and `{0}` are always valid UTF-8 again.  Ignore-case keeps this because its fold changes
single-byte characters only (the repaired F16 defect folded lead bytes of multi-byte characters). -/
theorem offsets_on_char_boundaries (ic : Bool) (p : Pat) (hp : p.Shape) (d : Dissect)
    (hc : compileEx p.render ic = .ok d) (line : Bytes) (r : List Int)
    (hr : matchAll d [line] = .ok [some r])
    (hl : Utf8 line) (hpre : Utf8 p.pre) (hlits : ∀ t ∈ p.toks, Utf8 t.lit) :
    ∀ x ∈ r, ∃ n : Nat, x = (n : Int) ∧ Boundary line n := by
  obtain ⟨r0, hs, rfl⟩ := matchAll_some hp hc hr
  intro x hx
  obtain ⟨n, hn, rfl⟩ := List.mem_map.mp hx
  exact ⟨n, rfl, specFor_boundaries hl hpre hlits hs n hn⟩

/-- …and a captured text of valid UTF-8 input is valid UTF-8: for slots `a ≤ b` of a result,
`line[a:b]` is `Utf8`. -/
theorem captures_are_utf8 (line : Bytes) (a b : Nat) (hab : a ≤ b) (ha : Boundary line a) (hb : Boundary line b) :
    Utf8 ((line.drop a).take (b - a)) := by
  -- `line[:a]` is a valid prefix of the valid `line[:b]`: decode in lock-step, the rest is `line[a:b]`
  have hpre : line.take a <+: line.take b := by
    have : line.take a = (line.take b).take a := by rw [List.take_take, Nat.min_eq_left hab]
    rw [this]; exact List.take_prefix _ _
  have h := utf8_prefix_rest ha.2.1 hb.2.1 hpre
  rw [List.length_take, Nat.min_eq_left ha.1, List.drop_take] at h
  exact h

/-- Just outside the class (kernel-checked): a delimiter that is NOT valid UTF-8 – the lone
continuation byte `A9` – cuts the character `é` = `C3 A9` in two: `%{a}\xA9` on `é` captures `[0,1]`
= the lone lead byte `C3`; position 1 is not a boundary.  The line itself is valid. -/
theorem char_boundary_counterexample :
    matchAll (compiled false ⟨[], [⟨[97], [169]⟩]⟩) [[195, 169]] = .ok [some [0, 2, 0, 1]] ∧
    Utf8 [195, 169] ∧ ¬ Utf8 [169] ∧ ¬ Boundary [195, 169] 1 := by
  refine ⟨?_, utf8_of_chk (by decide +kernel), ?_, not_boundary_inside_char⟩
  · simp only [matchAll_compiled, Except.ok.injEq]; decide +kernel
  · exact fun h => absurd (utf8Chk_iff.mpr h) (by decide +kernel)

/-! ### The declarative specification: leftmost, laziest split ("replicates logic from regex") -/

/-- **The scan never needs to backtrack.**  `lazyFor` is the dissect pattern read as the regular
expression `lit₀(.*?)lit₁(.*?)lit₂…` and run by a BACKTRACKING matcher (`Spec/C12Lazy.lean`: starts
of the leading literal and token lengths tried in increasing order; a choice is undone when the
rest of the pattern fails after it).  For every compiled pattern, both modes and every history
matched by one instance, each returned slice – re-read after the last call – is the backtracking
matcher's answer: committing to the FIRST occurrence of every literal loses no match and changes
no offset.  (The correspondence op `lazy` runs the real code against this matcher AND against Go's
`regexp` on that expression.) -/
theorem dissect_eq_backtracking (ic : Bool) (p : Pat) (hp : p.Shape) (d : Dissect)
    (hc : compileEx p.render ic = .ok d) (lines : List Bytes) :
    matchAll d lines = .ok (lines.map fun l => (lazyFor ic p l).map (·.map Int.ofNat)) := by
  rw [dissect_eq_spec ic p hp d hc]
  simp only [lazyFor_eq_specFor]

/-- …for specification and matcher alone, and for EVERY pattern value (also those no text denotes:
empty literals between tokens): the one-pass scan equals the backtracking matcher. -/
theorem spec_eq_backtracking (p : Pat) (line : Bytes) :
    specDissect p line = lazyDissect p line ∧ specDissectIC p line = lazyDissectIC p line :=
  ⟨(lazyDissect_eq_spec p line).symm, (lazyDissect_eq_spec _ _).symm⟩

/-- **A line matches iff it CAN be read as an instance of the pattern – and the answer is the
leftmost, laziest reading.**  `IsMatch q l s ns`: the leading literal stands at `s` and the token
texts have the lengths `ns`, each followed by its trailing literal (a token without one ends the
line).  With `q`/`l` the pattern and line as the mode compares them (`patFor`, `foldFor`: as
written, or ASCII-folded): the real answer is `some r` exactly when `r` is the index slice
(`offsetsOf`) of the reading whose choice vector `(s, n₁, n₂, …)` is lexicographically least –
earliest start, then shortest first token, then shortest second token, … -/
theorem match_is_least_split (ic : Bool) (p : Pat) (hp : p.Shape) (d : Dissect)
    (hc : compileEx p.render ic = .ok d) (line : Bytes) (r : List Int) :
    matchAll d [line] = .ok [some r] ↔
      ∃ s ns, IsMatch (patFor ic p) (foldFor ic line) s ns ∧
        (∀ s' ns', IsMatch (patFor ic p) (foldFor ic line) s' ns' → lexLE (s :: ns) (s' :: ns')) ∧
        r = (offsetsOf (patFor ic p) s ns).map Int.ofNat := by
  constructor
  · intro h
    obtain ⟨r0, hs, rfl⟩ := matchAll_some hp hc h
    rw [specFor_patFor] at hs
    obtain ⟨s, ns, hm, hmin, rfl⟩ := (specDissect_least_split _ _ _).mp hs
    exact ⟨s, ns, hm, hmin, rfl⟩
  · rintro ⟨s, ns, hm, hmin, rfl⟩
    rw [matchAll_one hp hc, specFor_patFor, (specDissect_least_split _ _ _).mpr ⟨s, ns, hm, hmin, rfl⟩]
    rfl

/-- **No match means that NO reading exists** (completeness): the real code answers `nil` exactly
when the line cannot be split according to the pattern in any way – not merely when the split
that starts at the first occurrences fails. -/
theorem no_match_iff_no_split (ic : Bool) (p : Pat) (hp : p.Shape) (d : Dissect)
    (hc : compileEx p.render ic = .ok d) (line : Bytes) :
    matchAll d [line] = .ok [none] ↔ ¬ ∃ s ns, IsMatch (patFor ic p) (foldFor ic line) s ns := by
  rw [matchAll_one hp hc, specFor_patFor, ← specDissect_none_iff]
  cases specDissect (patFor ic p) (foldFor ic line) <;> simp

/-- **No match iff the line is not an instance of the pattern – the specification without any
position or search.**  `IsInstance q l`: `l = before ++ lit₀ v₁ lit₁ … vₙ litₙ ++ after` for SOME
texts `vᵢ` (one per token, captured or skipped), `after` empty when the last token has no trailing
literal.  The real code answers `nil` exactly when the line (as the mode compares it) is no such
text, and a match otherwise. -/
theorem match_iff_instance (ic : Bool) (p : Pat) (hp : p.Shape) (d : Dissect)
    (hc : compileEx p.render ic = .ok d) (line : Bytes) :
    (matchAll d [line] = .ok [none] ↔ ¬ IsInstance (patFor ic p) (foldFor ic line)) ∧
    ((∃ r, matchAll d [line] = .ok [some r]) ↔ IsInstance (patFor ic p) (foldFor ic line)) := by
  have hi := isInstance_iff_isMatch (patFor ic p) (midLits_patFor hp hc) (foldFor ic line)
  have hn := no_match_iff_no_split ic p hp d hc line
  refine ⟨by rw [hn, hi], ?_⟩
  rw [hi]
  constructor
  · rintro ⟨r, hr⟩
    obtain ⟨s, ns, hm, _, _⟩ := (match_is_least_split ic p hp d hc line r).mp hr
    exact ⟨s, ns, hm⟩
  · intro hex
    rw [matchAll_one hp hc] at hn
    cases hs : specFor ic p line with
    | none => exact absurd hex (hn.mp (by rw [hs]; rfl))
    | some r0 => exact ⟨r0.map Int.ofNat, by rw [matchAll_one hp hc, hs]; rfl⟩

/-- **`{0}` is the pattern with the token texts filled in.**  A match `[s, e, …]` comes with one
text per token (captured or skipped), cut out of the line, such that `line[s:e]` IS
`lit₀ v₁ lit₁ v₂ lit₂ … vₙ litₙ` (`instantiate`) – byte for byte when case-sensitive, after the
ASCII fold of both sides with ignore-case.  So `{0}` starts with the leading literal, ends with
the last delimiter and contains every delimiter in order. -/
theorem span_is_instantiated_pattern (ic : Bool) (p : Pat) (hp : p.Shape) (d : Dissect)
    (hc : compileEx p.render ic = .ok d) (line : Bytes) (r : List Int)
    (h : matchAll d [line] = .ok [some r]) :
    ∃ (s e : Nat) (rest : List Int) (vs : List Bytes), r = (s : Int) :: (e : Int) :: rest ∧ s ≤ e ∧
      e ≤ line.length ∧ vs.length = p.toks.length ∧
      foldFor ic ((line.drop s).take (e - s)) = instantiate (patFor ic p) vs := by
  obtain ⟨r0, hs, rfl⟩ := matchAll_some hp hc h
  rw [specFor_patFor] at hs
  obtain ⟨s, e, caps, vs, rfl, hse, he, hvs, hspan⟩ := specDissect_span hs
  exact ⟨s, e, caps.map Int.ofNat, vs, rfl, hse, by simpa [foldFor_length] using he,
    by rw [hvs, patFor_toks_length], by rw [foldFor_take, foldFor_drop, hspan]⟩

/-- **Nothing behind `{0}` matters when the pattern ends in a literal.**  If every token has a
trailing literal (for a compiled pattern: the last one has) and a line matches with `{0}` ending at
`e`, then EVERY line that agrees with it on the first `e` bytes – cut off there, or continued by any
other bytes – gets the same answer: the scan never looks past the last delimiter it found. -/
theorem match_ignores_text_after_span (ic : Bool) (p : Pat) (hp : p.Shape) (d : Dissect)
    (hc : compileEx p.render ic = .ok d) (hlit : ∀ t ∈ p.toks, t.lit ≠ [])
    (line : Bytes) (s e : Nat) (rest : List Int)
    (h : matchAll d [line] = .ok [some ((s : Int) :: (e : Int) :: rest)]) (other : Bytes) :
    matchAll d [line.take e ++ other] = .ok [some ((s : Int) :: (e : Int) :: rest)] := by
  obtain ⟨r0, hs, hr⟩ := matchAll_some hp hc h
  rw [specFor_patFor] at hs
  match r0, hr, hs with
  | [], hr, _ => simp at hr
  | [_], hr, _ => simp at hr
  | s0 :: e0 :: caps, hr, hs =>
    simp only [List.map_cons, List.cons.injEq] at hr
    obtain ⟨h1, h2, h3⟩ := hr
    cases Int.ofNat_inj.mp h1
    cases Int.ofNat_inj.mp h2
    have := specDissect_take_append (foldFor ic other) (patFor_lit_ne ic p hlit) hs
    rw [matchAll_one hp hc, specFor_patFor, foldFor_append, foldFor_take, this, h3]
    rfl

/-- Just outside that class (kernel-checked): `a=%{v}` – the last token has no trailing literal –
on `a=1` and on `a=1x`: `[0,3,2,3]` and `[0,4,2,4]`; and the boundary of `no_match_iff_no_split`:
`ab%{v}ba` on `aba` has no reading (the literals would have to overlap), on `abba` it has one. -/
theorem after_span_counterexample :
    matchAll (compiled false ⟨[97, 61], [⟨[118], []⟩]⟩) [[97, 61, 49], [97, 61, 49, 120]] =
      .ok [some [0, 3, 2, 3], some [0, 4, 2, 4]] ∧
    matchAll (compiled false ⟨[97, 98], [⟨[118], [98, 97]⟩]⟩) [[97, 98, 97], [97, 98, 98, 97]] =
      .ok [none, some [0, 4, 2, 2]] := by
  simp only [matchAll_compiled, Except.ok.injEq]
  decide +kernel

/-- Kernel-checked readings: on `k=1;k=2;x` the pattern `k=%{v};` has the readings `(0,[1])`,
`(0,[5])` (v = `1;k=2`) and `(4,[1])`; the least is the answer `[0,4,2,3]`.  With a backtracking
matcher the second token of `%{a}-%{b}:` on `1-2-3:4` is tried at lengths 0..2 before the `:` follows;
the answer `[0,6,0,1,2,5]` (a = `1`, b = `2-3`) is the first-occurrence answer. -/
theorem lazy_witnesses :
    IsMatch ⟨[107, 61], [⟨[118], [59]⟩]⟩ [107, 61, 49, 59, 107, 61, 50, 59, 120] 0 [1] ∧
    IsMatch ⟨[107, 61], [⟨[118], [59]⟩]⟩ [107, 61, 49, 59, 107, 61, 50, 59, 120] 0 [5] ∧
    IsMatch ⟨[107, 61], [⟨[118], [59]⟩]⟩ [107, 61, 49, 59, 107, 61, 50, 59, 120] 4 [1] ∧
    lexLE [0, 1] [0, 5] ∧ lexLE [0, 1] [4, 1] ∧
    offsetsOf ⟨[107, 61], [⟨[118], [59]⟩]⟩ 0 [1] = [0, 4, 2, 3] ∧
    lazyDissect ⟨[107, 61], [⟨[118], [59]⟩]⟩ [107, 61, 49, 59, 107, 61, 50, 59, 120] = some [0, 4, 2, 3] ∧
    lazyDissect ⟨[], [⟨[97], [45]⟩, ⟨[98], [58]⟩]⟩ [49, 45, 50, 45, 51, 58, 52] = some [0, 6, 0, 1, 2, 5] := by
  refine ⟨?_, ?_, ?_, ?_, ?_, ?_, ?_, ?_⟩ <;> decide +kernel

/-! ### Seam C12 / C02: the pattern as an expression of C02's model of Go's regexp engine -/

/-- **"replicates logic from regex", as a theorem between the two matchers' models.**  `patRe p` is
the dissect pattern as an expression of C02's regex model (`Model/C02Rx.lean`, the engine behind
`--match`): `lit₀(.*?)lit₁(.*?)…litₙ` with `(?s)`, captured tokens numbered groups around a lazy
loop, skipped tokens the bare loop, a last token without trailing literal the greedy loop.
`rxDissect` is C02's `FindSubmatchIndex` (leftmost-first backtracking priority, `-1` for groups
that did not take part) on that expression.  For every compiled pattern, both modes (pattern and
line as the mode compares them) and every history, the dissect instance returns exactly what the
regex engine's model returns – offsets, group order, match/no match. -/
theorem dissect_eq_regexp_model (ic : Bool) (p : Pat) (hp : p.Shape) (d : Dissect)
    (hc : compileEx p.render ic = .ok d) (lines : List Bytes) :
    matchAll d lines = .ok (lines.map fun l => rxDissect (patFor ic p) (foldFor ic l)) := by
  have hm' := midLits_patFor hp hc
  rw [dissect_eq_spec ic p hp d hc]
  congr 1
  apply List.map_congr_left
  intro l _
  rw [rxDissect_eq_spec _ _ hm', specFor_patFor]

/-- the same for specification and regex model alone – every pattern VALUE whose tokens all but the
last have a trailing literal, also values no text denotes -/
theorem spec_eq_regexp_model (p : Pat) (hm : midLits p.toks = true) (line : Bytes) :
    rxDissect p line = (specDissect p line).map (·.map Int.ofNat) :=
  rxDissect_eq_spec p line hm

/-- Just outside the class (kernel-checked): with an EMPTY literal between two tokens (no pattern
text denotes this; `CompileEx` answers "sequential token") the regular expression is `(.*)(.*?)a`
and a regex engine gives bytes back: on `ba` it matches (`[0,2,0,1,1,1]`), the scan – the first
token takes the rest of the line – does not. -/
theorem regexp_model_counterexample :
    midLits [⟨[120], []⟩, ⟨[121], [97]⟩] = false ∧
    specDissect ⟨[], [⟨[120], []⟩, ⟨[121], [97]⟩]⟩ [98, 97] = none ∧
    rxDissect ⟨[], [⟨[120], []⟩, ⟨[121], [97]⟩]⟩ [98, 97] = some [0, 2, 0, 1, 1, 1] := by
  refine ⟨by decide +kernel, by decide +kernel, by decide +kernel⟩

/-! ### Extending a pattern; the command line's choice of the matcher -/

/-- **More tokens at the end of a pattern never change what the earlier tokens capture.**  Let a
pattern and its extension by further tokens both compile (same mode).  Whenever the LONGER pattern
matches a line, the shorter one matches it too – same start, same captures for the common tokens;
the extension only appends captures and moves the end of `{0}` to the right.  (A pattern can be
written token by token, left to right, without the earlier fields ever changing.) -/
theorem longer_pattern_keeps_earlier_captures (ic : Bool) (pre : Bytes) (ts us : List Tok)
    (hp : (⟨pre, ts⟩ : Pat).Shape) (hp' : (⟨pre, ts ++ us⟩ : Pat).Shape) (d d' : Dissect)
    (hc : compileEx (Pat.render ⟨pre, ts⟩) ic = .ok d)
    (hc' : compileEx (Pat.render ⟨pre, ts ++ us⟩) ic = .ok d')
    (line : Bytes) (r' : List Int) (h : matchAll d' [line] = .ok [some r']) :
    ∃ (s e e' : Nat) (caps more : List Int),
      matchAll d [line] = .ok [some ((s : Int) :: (e : Int) :: caps)] ∧
      r' = (s : Int) :: (e' : Int) :: (caps ++ more) ∧ e ≤ e' := by
  obtain ⟨r0, hs, rfl⟩ := matchAll_some hp' hc' h
  have hpat : patFor ic ⟨pre, ts ++ us⟩ = ⟨(patFor ic ⟨pre, ts⟩).pre, (patFor ic ⟨pre, ts⟩).toks ++
      (if ic then us.map Tok.lowerLit else us)⟩ := by
    cases ic <;> simp [patFor, Pat.lowerLits]
  rw [specFor_patFor, hpat] at hs
  obtain ⟨s, e, e', caps, more, h1, rfl, h3⟩ := specDissect_append hs
  refine ⟨s, e, e', caps.map Int.ofNat, more.map Int.ofNat, ?_, by simp, h3⟩
  rw [matchAll_one hp hc, specFor_patFor]
  exact congrArg (Option.map (·.map Int.ofNat)) h1.symm

/-- **Tie to the source (regenerated on every run): how the command line chooses the matcher.**
`BuildMatcherFromArguments` statement by statement – `-d` and `-m` together are refused; the dissect
arm calls `dissect.CompileEx(dissectExpr, ignoreCase)` with `ignoreCase = c.Bool("ignore-case")` and
wraps the result with `matchers.ToFactory`; the regex arm puts `(?i)` in front of the expression;
neither flag gives `AlwaysMatch` – and the model `buildMatcher` of that switch: `-I` reaches BOTH
matchers, each in its own way (byte-wise ASCII fold / Unicode fold of `regexp`), which is why
`-d PAT -I` and `-m REGEX -I` agree on ASCII literals only (`ci_boundary_counterexamples`; the CLI
step runs all arms). -/
theorem matcher_wiring_matches_source :
    Gen.C12.matcherWiringSkeleton =
      ["var ( matchExpr = c.String(\"match\") dissectExpr = c.String(\"dissect\") posix = c.Bool(\"posix\") ignoreCase = c.Bool(\"ignore-case\") )",
       "switch", "case c.IsSet(\"match\") && c.IsSet(\"dissect\")", "return nil, errors.New(\"match and dissect conflict\")",
       "case c.IsSet(\"dissect\")", "d, err := dissect.CompileEx(dissectExpr, ignoreCase)", "if err != nil", "return nil, err", "end",
       "return matchers.ToFactory(d), nil",
       "case c.IsSet(\"match\")", "if ignoreCase", "matchExpr = \"(?i)\" + matchExpr", "end",
       "r, err := fastregex.CompileEx(matchExpr, posix)", "if err != nil", "return nil, err", "end",
       "return matchers.ToFactory(r), nil", "default", "return &matchers.AlwaysMatch{}, nil", "end"] ∧
    (∀ m d px ic, buildMatcher true true m d px ic = .conflict) ∧
    (∀ m d px ic, buildMatcher false true m d px ic = .dissect d ic) ∧
    (∀ m d px, buildMatcher true false m d px true = .regex (icPrefix ++ m) px) ∧
    (∀ m d px, buildMatcher true false m d px false = .regex m px) ∧
    (∀ m d px ic, buildMatcher false false m d px ic = .always) := by
  refine ⟨by rfl, ?_, ?_, ?_, ?_, ?_⟩ <;> intros <;> rfl

/-! ### Non-vacuity: the hypotheses above are satisfiable on concrete, non-trivial values -/

/-- `k=%{x} %{?s};%{y}` -/
def exPat : Pat := ⟨[107, 61], [⟨[120], [32]⟩, ⟨[63, 115], [59]⟩, ⟨[121], []⟩]⟩
/-- `ak=1 2;3` -/
def exLine : Bytes := [97, 107, 61, 49, 32, 50, 59, 51]
/-- `aK=1 2;3` -/
def exLineUpper : Bytes := [97, 75, 61, 49, 32, 50, 59, 51]

example : exPat.Shape := by decide +kernel
example : exPat.render = [107, 61, 37, 123, 120, 125, 32, 37, 123, 63, 115, 125, 59, 37, 123, 121, 125] := by decide +kernel
example : ∃ d, compileEx exPat.render false = .ok d ∧ d.groupNames = [([120], 1), ([121], 2)] :=
  ⟨compiled false exPat, by rfl, by decide +kernel⟩
example : ∃ d, compileEx exPat.render true = .ok d := ⟨compiled true exPat, by rfl⟩
-- a match with a skipped token, a capture to the end of the line, and a non-zero start
example : specDissect exPat exLine = some [1, 8, 3, 4, 7, 8] := by decide +kernel
example : (matchAll (compiled false exPat) [exLine, [], exLine]).toOption =
    some [some [1, 8, 3, 4, 7, 8], none, some [1, 8, 3, 4, 7, 8]] := by
  rw [matchAll_compiled]; decide +kernel
-- ignore-case adds a match the case-sensitive run does not have
example : specDissect exPat exLineUpper = none ∧ specDissectIC exPat exLineUpper = some [1, 8, 3, 4, 7, 8] := by decide +kernel
-- F16 (repaired): `héllo=%{v}` on `héllo=1` matches in both modes
example : ((matchAll (compiled false ⟨[104, 195, 169, 108, 108, 111, 61], [⟨[118], []⟩]⟩) [[104, 195, 169, 108, 108, 111, 61, 49]]).toOption,
           (matchAll (compiled true ⟨[104, 195, 169, 108, 108, 111, 61], [⟨[118], []⟩]⟩) [[104, 195, 169, 108, 108, 111, 61, 49]]).toOption) =
    (some [some [0, 8, 7, 8]], some [some [0, 8, 7, 8]]) := by
  rw [matchAll_compiled, matchAll_compiled]; decide +kernel
-- F17 (repaired): `%{a} 100% done %{b}` keeps the literal ` 100% done `
example : (compileEx [37, 123, 97, 125, 32, 49, 48, 48, 37, 32, 100, 111, 110, 101, 32, 37, 123, 98, 125] false).toOption.map
    (fun d => d.tokens.map (·.until_)) = some [[32, 49, 48, 48, 37, 32, 100, 111, 110, 101, 32], []] := by decide +kernel
-- the three compile errors: `%{a}%{b}`, `%{a} %{b`, `%{a} %{a}`
example : compileEx [37, 123, 97, 125, 37, 123, 98, 125] false = .error .sequential := by rfl
example : compileEx [37, 123, 97, 125, 32, 37, 123, 98] false = .error .unclosed := by rfl
example : compileEx [37, 123, 97, 125, 32, 37, 123, 97, 125] false = .error .conflict := by rfl
-- the pool: the third request does not fit and is served from a fresh array
example : (getMany (Pool.new 5) [2, 2, 2]).toOption.map (·.1) = some [⟨0, 0, 2⟩, ⟨0, 2, 2⟩, ⟨1, 0, 2⟩] := by decide +kernel

-- the grammar: `k=%{x} %{?s};%{y}` is derivable; so is the F17 text `%{a} 100% done %{b}` with the
-- delimiter ` 100% done `; `%{a}%{b}`, `%{a} %{a}`, `%{a} %{b` are not
example : exPat.Grammar := (grammar_iff exPat).mpr ⟨by decide +kernel, by decide +kernel⟩
example : PatternText exPat.render := ⟨exPat, (grammar_iff exPat).mpr ⟨by decide +kernel, by decide +kernel⟩, rfl⟩
example : (⟨[], [⟨[97], [32, 49, 48, 48, 37, 32, 100, 111, 110, 101, 32]⟩, ⟨[98], []⟩]⟩ : Pat).Grammar :=
  (grammar_iff _).mpr ⟨by decide +kernel, by decide +kernel⟩
example : acceptsPattern [37, 123, 97, 125, 32, 49, 48, 48, 37, 32, 100, 111, 110, 101, 32, 37, 123, 98, 125] = true ∧
    acceptsPattern [37, 123, 97, 125, 37, 123, 98, 125] = false ∧
    acceptsPattern [37, 123, 97, 125, 32, 37, 123, 97, 125] = false ∧
    acceptsPattern [37, 123, 97, 125, 32, 37, 123, 98] = false ∧
    acceptsPattern [37, 37, 123, 97, 125, 37] = true := by decide +kernel
example : ¬ PatternText [37, 123, 97, 125, 37, 123, 98, 125] := by
  rw [← accepts_iff_grammar]; decide +kernel

-- goIndex on a periodic text: the needle `aab` in `aaaaaaab` (overlapping partial matches)
example : goIndex [97, 97, 97, 97, 97, 97, 97, 98] [97, 97, 98] = 5 := by decide +kernel
-- a search long enough to reach the Rabin–Karp fall-back (period 7, needle = the last 9 bytes + `!`)
example : goIndex ((List.replicate 12 [1, 1, 1, 1, 1, 1, 2]).flatten ++ [1, 1, 3]) [1, 1, 2, 1, 1, 3] = 81 := by decide +kernel
example : indexRabinKarp [1, 2, 1, 2, 1, 2, 3] [1, 2, 3] = 4 := by decide +kernel
-- `NoUpper` holds for UTF-8 text without ASCII capitals: `héllo=1`
example : NoUpper [104, 195, 169, 108, 108, 111, 61, 49] := by decide +kernel
-- two instances, calls interleaved A B A B: each sees only its own lines
example : (runTwo (compiled false exPat).createInstance (compiled false exPat).createInstance
    [(true, exLine), (false, []), (true, []), (false, exLine)]).toOption.map (fun t => t.1.map (·.2.isSome)) =
    some [true, false, false, true] := by decide +kernel
-- named slots: `k=%{x} %{?s};%{y}` on `ak=1 2;3`: x ↦ 1 ↦ [3,4], y ↦ 2 ↦ [7,8]
example : (compiled false exPat).groupNames = [([120], 1), ([121], 2)] ∧ (compiled false exPat).groupCount = 2 := by decide +kernel

-- the contract itself is a routine that meets `hasm` (so `go_index_amd64_eq_contract` is not vacuous),
-- and the amd64 text evaluated with it: a short hay (brute-force arm: the routine is called directly),
-- a 70-byte hay whose needle sits at the very end (loop arm, cut-over to the routine after 3 fails)
example : ∀ s' u : Bytes, 2 ≤ u.length → u.length ≤ 63 → stringsIndex s' u = stringsIndex s' u := fun _ _ _ _ => rfl
example : goIndexAmd64 63 stringsIndex [97, 97, 97, 97, 97, 97, 97, 98] [97, 97, 98] = 5 := by decide +kernel
example : goIndexAmd64 63 stringsIndex (List.replicate 67 97 ++ [97, 97, 98]) [97, 97, 98] = 67 := by decide +kernel
-- a routine that is WRONG on short hays is visible through the amd64 text (the hypothesis is needed)
example : goIndexAmd64 63 (fun _ _ => -1) [97, 97, 98] [97, 98] = -1 ∧ stringsIndex [97, 97, 98] [97, 98] = 1 := by decide +kernel
-- `leading_literal_first`: a history and a result that satisfy its hypotheses
example : matchAll (compiled false histPat)
    ([[120, 120, 120, 120, 120, 105, 100, 61, 49, 59]] ++ [[105, 100, 61, 50, 59, 105, 100, 61, 51, 59]]) =
    .ok ([some [5, 10, 8, 9]] ++ [some [0, 5, 3, 4]]) := by
  simp only [matchAll_compiled, Except.ok.injEq]; decide +kernel
example : histPat.Shape ∧ compileEx histPat.render false = .ok (compiled false histPat) := ⟨by decide +kernel, by rfl⟩
-- `offsets_on_char_boundaries`: the hypotheses hold for `é=%{v}世` on `xÉé=a世b世` (2- and 3-byte characters);
-- the match `[3,10,6,7]`: every offset is a boundary (3 = after `xÉ`, 6 = after `é=`, 7 = before the first `世`, 10 = after it)
example : Utf8 [120, 195, 137, 195, 169, 61, 97, 228, 184, 150, 98, 228, 184, 150] ∧ Utf8 [195, 169, 61] ∧ Utf8 [228, 184, 150] :=
  ⟨utf8_of_chk (by decide +kernel), utf8_of_chk (by decide +kernel), utf8_of_chk (by decide +kernel)⟩
example : specDissect ⟨[195, 169, 61], [⟨[118], [228, 184, 150]⟩]⟩
    [120, 195, 137, 195, 169, 61, 97, 228, 184, 150, 98, 228, 184, 150] = some [3, 10, 6, 7] := by decide +kernel
example : Boundary [120, 195, 137, 195, 169, 61, 97, 228, 184, 150, 98, 228, 184, 150] 3 :=
  ⟨by decide +kernel, utf8_of_chk (by decide +kernel), utf8_of_chk (by decide +kernel)⟩

-- `match_ignores_text_after_span` – a pattern whose tokens all have a trailing literal, a match, its cut
example : (∀ t ∈ histPat.toks, t.lit ≠ []) ∧
    matchAll (compiled false histPat) [[120, 105, 100, 61, 49, 59, 122, 122]] = .ok [some [1, 6, 4, 5]] ∧
    matchAll (compiled false histPat) [[120, 105, 100, 61, 49, 59]] = .ok [some [1, 6, 4, 5]] := by
  refine ⟨by decide +kernel, ?_, ?_⟩ <;> (simp only [matchAll_compiled, Except.ok.injEq]; decide +kernel)
-- a reading that is NOT the least one exists (so the minimality clause of `match_is_least_split` says something)
example : IsMatch (patFor true histPat) (foldFor true [73, 68, 61, 49, 59, 105, 100, 61, 50, 59]) 5 [1] ∧
    IsMatch (patFor true histPat) (foldFor true [73, 68, 61, 49, 59, 105, 100, 61, 50, 59]) 0 [1] := by
  constructor <;> decide +kernel
-- the regex model on a pattern with a skipped token and a token to the end of the line
example : midLits exPat.toks = true ∧ rxDissect exPat exLine = some [1, 8, 3, 4, 7, 8] := by
  constructor <;> decide +kernel
-- `longer_pattern_keeps_earlier_captures`: `id=%{v};` and its extension `id=%{v};%{w};` both compile; a line both match
example : compileEx (Pat.render ⟨[105, 100, 61], [⟨[118], [59]⟩]⟩) false = .ok (compiled false ⟨[105, 100, 61], [⟨[118], [59]⟩]⟩) ∧
    compileEx (Pat.render ⟨[105, 100, 61], [⟨[118], [59]⟩] ++ [⟨[119], [59]⟩]⟩) false =
      .ok (compiled false ⟨[105, 100, 61], [⟨[118], [59]⟩] ++ [⟨[119], [59]⟩]⟩) ∧
    matchAll (compiled false ⟨[105, 100, 61], [⟨[118], [59]⟩] ++ [⟨[119], [59]⟩]⟩) [[105, 100, 61, 49, 59, 50, 59]] =
      .ok [some [0, 7, 3, 4, 5, 6]] ∧
    matchAll (compiled false ⟨[105, 100, 61], [⟨[118], [59]⟩]⟩) [[105, 100, 61, 49, 59, 50, 59]] = .ok [some [0, 5, 3, 4]] := by
  refine ⟨by rfl, by rfl, ?_, ?_⟩ <;> (simp only [matchAll_compiled, Except.ok.injEq]; decide +kernel)
-- `match_iff_instance`: an instance (`x` + `id=` `1` `;` + `zz`), and a line that is none
example : IsInstance histPat [120, 105, 100, 61, 49, 59, 122, 122] ∧ ¬ IsInstance histPat [105, 100, 59, 61] := by
  refine ⟨⟨[120], [[49]], [122, 122], rfl, by decide +kernel, by decide +kernel⟩, ?_⟩
  rw [isInstance_iff_isMatch histPat (by decide +kernel), ← specDissect_none_iff]
  decide +kernel

end Rare.C12

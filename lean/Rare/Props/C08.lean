import Rare.Proofs.C08
import Rare.Proofs.C08Logic
import Rare.Proofs.C08Arith
import Rare.Proofs.C08Strings
import Rare.Proofs.C08Misc
import Rare.Proofs.C08Range
import Rare.Proofs.C08Math
import Rare.Model.Expr.Std
import Rare.Gen.Tables
import Rare.Proofs.C08Guards
import Rare.Proofs.C08Extra
import Rare.Proofs.C08Loops
import Rare.Proofs.C08Sites
import Rare.Proofs.C08Size
import Rare.Proofs.C08Doubling
import Rare.Proofs.C08ArrayBound
import Rare.Proofs.C08ReduceBound
import Rare.Proofs.C08Unmodelled
import Rare.Proofs.C08Dedup
import Rare.Proofs.C08Format
import Rare.Proofs.C08TimeW
import Rare.Proofs.C08TimeSeam
import Rare.Proofs.C18Cal
import Rare.Proofs.C11
import Rare.Model.C02
import Rare.Gen.C08
/-!
# C08 — no template and no input line can crash expression compilation or evaluation

`Safe c`: no panic is reachable in the stage `c` whatever the context answers.  `SafeBuilder b`: on
safe argument stages the builder neither panics at compile time nor returns a stage that can.

* `compile_total`, `eval_total` hold for EVERY registry of safe builders (so also for user functions
  and helpers written later): every template – well formed or not, any length, any nesting – compiles,
  with or without optimisation (no panic, and the recursion always returns), and evaluating the result
  against any context returns a string.
* `std_safe`: every modelled helper of `stdlib.StandardFunctions` is a safe builder (proved per
  family); `functions_covered` (over the table regenerated from /repo): every one of the 85 Go helpers is
  proved panic-free (78: `safeTable`, the world-dependent `color bar load json`, the six time helpers
  relative to a time world, `format`) or is a modelled helper that can answer `unmodelled` for part of its
  inputs (7: `math.Pow` / `math.Log*` / non-ASCII case / `{! }` rendering; `unmodelled_helpers_safe_mod`: these stop
  only at an explicit marker in front of the library call).  No helper is outside the model.
* `format_safe`: `{format}` = `fmt.Sprintf` on string operands (`Funcs/Format.lean`) returns for every format and
  operand list; `time_safe`, `time_name_tables_safe`: `time`, `timeformat`, `timeattr`, `buckettime`, `duration`,
  `durationformat` (`Funcs/TimeW.lean` over `Model/C18.lean`) are panic-free in every time world (zone
  database, dateparse, wall clock) whose calls return; `all_safe`, `full_compile_eval_total` put everything together.
* second half of the file: every size / index guard in front of a panicking Go operation, as
  regenerated from /repo (`Gen/C08.lean`), admits only safe arguments for all int64 inputs, and equals
  the guard of the hand model (`repeat_guard_safe`, `substr_bounds_safe`, `select_slices_safe`,
  `slice_bounds_safe`, `precision_guard_safe`, `divi_guard_safe`, `modi_guard_safe`,
  `bucket_guard_safe`, `getmatch_bounds_safe`, `compile_escape_safe`, `bar_guard_safe` and the `…_eq_model` / `…_eq_gen` ties).
* `expbucket_terminates`, `range_counter_safe`, `range_eq_model`, `for_counter_safe`: the loop condition and the
  loop body of `kfExpBucket` and the counter guards of `@range` / `@for`, regenerated from /repo as step
  functions, reach their exit without overflow for every int64 value ("never fails to return" as a theorem).
* `ext_safe`, `world_compile_eval_total`: `color`, `bar`, `load`, `json` (`Funcs/Extra.lean`) are
  panic-free in every world (any float arithmetic, colour/unicode switches, file system), assuming only
  that the gjson library call returns.
-/
namespace Rare.C08
open Rare.Expr

/-- Helpers whose builder can answer `unmodelled` (`math.Pow` / `math.Log*`, non-ASCII case mapping, the float
    rendering of `{! …}`): outside the `Safe` theorems below, see `unmodelled_helpers_safe_mod`.
    (`bytesize` `bytesizesi` `downscale` are not in this list: the registry resolves them to the binary64 builders of
    `Funcs/Float.lean`, which are safe; the integer-only entries of `Funcs/Strings.lean` are shadowed.) -/
def unmodelledNames : List String :=
  Funcs.Arith.arithUnmodelled ++ ["upper", "lower"] ++ Funcs.Misc.miscUnmodelled ++
  Funcs.Range.rangeUnmodelled ++ Funcs.Math.mathUnmodelled

/-- The modelled helpers that are proved panic-free: the entries `lookupTable stdTable` can resolve (the first of
    every name), without the unmodelled names. -/
def safeTable : Table := (dedup stdTable []).filter fun p => !unmodelledNames.contains p.1

theorem std_safe : ∀ p ∈ safeTable, SafeBuilder p.2 := by
  intro p hp
  obtain ⟨hded, hnot⟩ := List.mem_filter.mp hp
  obtain ⟨hfind, _⟩ := mem_dedup_find stdTable [] p hded
  have hmem : p ∈ stdTable := List.mem_of_find?_eq_some hfind
  have hn : p.1 ∉ unmodelledNames := by
    intro h; simp at hnot; exact hnot h
  have hn' : ∀ l : List String, (∀ x ∈ l, x ∈ unmodelledNames) → p.1 ∉ l := fun l hl h => hn (hl _ h)
  simp only [stdTable, List.mem_append] at hmem
  rcases hmem with (((((h | h) | h) | h) | h) | h) | h
  · exact Funcs.Logic.logic_safe p h
  · exact Funcs.Arith.arith_safe p h (hn' _ fun x hx => by simp [unmodelledNames, hx])
  · -- the Strings family: `upper` / `lower` are excluded by name; an entry named `bytesize` / `bytesizesi` /
    -- `downscale` that survived `dedup` is the FIRST of its name in `stdTable`, i.e. the binary64 builder
    by_cases hb : p.1 = "bytesize" ∨ p.1 = "bytesizesi" ∨ p.1 = "downscale"
    · rcases hb with e | e | e <;>
      · rw [e] at hfind
        have := Option.some.inj (hfind.symm.trans (by rfl : stdTable.find? (fun x => x.1 == _) = some (_, _)))
        rw [this]
        exact Funcs.Float.unitHelper_safe _ _ _ _
    · refine Funcs.Strings.strings_safe p h ?_
      intro hin
      simp only [Funcs.Strings.stringsUnmodelled, List.mem_cons, List.not_mem_nil, or_false] at hin
      rcases hin with e | e | e | e | e
      · exact hn (by simp [unmodelledNames, e])
      · exact hn (by simp [unmodelledNames, e])
      · exact hb (.inl e)
      · exact hb (.inr (.inl e))
      · exact hb (.inr (.inr e))
  · exact Funcs.Range.range_safe p h
  · simp only [Funcs.Math.table, List.mem_singleton] at h
    exact absurd (h ▸ by decide) hn
  · simp [Funcs.Time.table] at h
  · exact Funcs.Misc.misc_safe p h

/-- **The safe table resolves names as the full table does**: for every name outside `unmodelledNames`, looking it
    up in `safeTable` gives exactly the builder `lookupTable stdTable` gives (so `safeRegistry` and the registry of
    the correspondence driver agree on every helper the theorems speak about; the first entry of a name wins in
    both). -/
theorem safe_table_agrees (n : String) (hn : n ∉ unmodelledNames) :
    lookupTable safeTable n = lookupTable stdTable n := by
  rw [← lookup_dedup stdTable n]
  unfold lookupTable safeTable
  rw [List.find?_filter]
  congr 1
  apply find?_congr'
  intro x _
  by_cases hx : (x.1 == n) = true
  · have e : x.1 = n := by simpa using hx
    have hnx : x.1 ∉ unmodelledNames := e ▸ hn
    simp [hx, hnx]
  · have : (x.1 == n) = false := by simpa using hx
    simp [this]

/-- **The seven helpers outside `safeTable` stop only at their library call**: for each of `pow log10 log2 ln upper
    lower !` the builder the registry resolves, given argument expressions that cannot
    panic, never fails at compile time, and the stage it returns has no panic node except an explicit
    `unmodelled:…` marker (`math.Pow` / `math.Log*` on parsed floats, the Unicode case tables on non-ASCII input,
    the float64 rendering of a formula value): every arity check, constant
    evaluation, number parse and `<…>` marker in front of the library call is panic-free for all inputs; evaluated in
    any context such a stage returns or stops at a marker.  For `bytesize bytesizesi downscale` the builder the
    registry resolves is the binary64 one of `Funcs/Float.lean`, a full `SafeBuilder` without markers: they are in
    `safeTable`.
    (One level deep: the arguments are assumed panic-free
    WITHOUT markers; nesting one of the ten inside another helper is covered by the correspondence only.) -/
theorem unmodelled_helpers_safe_mod :
    (∀ n ∈ unmodelledNames, ∃ b, lookupTable stdTable n = some b ∧ SafeUBuilder b) ∧
    (∀ (s : Stage), SafeU s → ∀ ctx : Ctx, (∃ v, s.run ctx = .ok v) ∨ (∃ w, s.run ctx = .error ("unmodelled:" ++ w))) ∧
    (∀ n ∈ ["bytesize", "bytesizesi", "downscale"], ∃ b, lookupTable stdTable n = some b ∧ SafeBuilder b) := by
  refine ⟨?_, fun s h ctx => h.run ctx, ?_⟩
  rotate_left
  · intro n hn
    simp only [List.mem_cons, List.not_mem_nil, or_false] at hn
    rcases hn with rfl | rfl | rfl <;> exact ⟨_, rfl, Funcs.Float.unitHelper_safe _ _ _ _⟩
  intro n hn
  simp only [unmodelledNames, Funcs.Arith.arithUnmodelled, Funcs.Float.floatUnmodelled,
    Funcs.Misc.miscUnmodelled, Funcs.Range.rangeUnmodelled, Funcs.Math.mathUnmodelled, List.append_nil, List.cons_append,
    List.nil_append, List.mem_cons, List.not_mem_nil, or_false] at hn
  rcases hn with rfl | rfl | rfl | rfl | rfl | rfl | rfl
  · exact ⟨_, rfl, floatHelperU_safeU "pow"⟩
  · exact ⟨_, rfl, unaryU_safeU "log10"⟩
  · exact ⟨_, rfl, unaryU_safeU "log2"⟩
  · exact ⟨_, rfl, unaryU_safeU "ln"⟩
  · exact ⟨_, rfl, caseHelper_safeU _⟩
  · exact ⟨_, rfl, caseHelper_safeU _⟩
  · exact ⟨_, rfl, kfMath_safeU⟩

example : ∃ built, Funcs.Float.floatHelperU "pow" [.ret (ascii "2"), Comp.match_ 0] = .ok built ∧
    ∀ s, built.stage = some s → SafeU s := floatHelperU_safeU "pow" _ (by
  intro a ha
  simp only [List.mem_cons, List.not_mem_nil, or_false] at ha
  rcases ha with rfl | rfl
  · exact .ret _
  · exact Safe.match_ 0)

/-- The registry of the proved-safe helpers. -/
def safeRegistry : Registry := mkRegistry safeTable []

theorem safeRegistry_safe : SafeRegistry safeRegistry := mkRegistry_safe std_safe

/-- **Compilation never crashes and always returns** – for any registry of safe builders, any
    template, with or without optimisation; every compiled stage is panic-free. -/
theorem compile_total (reg : Registry) (hreg : SafeRegistry reg) (opt : Bool) (t : List Char) :
    ∃ stages errs, compile reg opt t = .ok (stages, errs) ∧ ∀ s ∈ stages, Safe s :=
  Rare.Expr.compile_total reg hreg opt t

/-- **Evaluation never crashes** – any compiled expression against any match context (arbitrary bytes,
    any number of groups, missing keys) returns a string. -/
theorem eval_total (reg : Registry) (hreg : SafeRegistry reg) (opt : Bool) (t : List Char) (ctx : Ctx) :
    ∃ stages errs v, compile reg opt t = .ok (stages, errs) ∧ (buildKey stages).run ctx = .ok v :=
  Rare.Expr.eval_total reg hreg opt t ctx

/-- The two theorems instantiated with the standard helpers that are modelled. -/
theorem std_compile_eval_total (opt : Bool) (t : List Char) (ctx : Ctx) :
    ∃ stages errs v, compile safeRegistry opt t = .ok (stages, errs) ∧ (buildKey stages).run ctx = .ok v :=
  eval_total safeRegistry safeRegistry_safe opt t ctx

/-- User functions preserve panic-freedom: a funcs-file function whose body is safe is a safe builder
    (so `compile_total`/`eval_total` extend to any definitions file over safe helpers). -/
theorem user_function_safe (body : List Stage) (hb : ∀ s ∈ body, Safe s) :
    SafeBuilder (C10.userFunction body) := by
  intro args hargs
  refine ⟨_, rfl, fun s hs => ?_⟩
  simp only [Option.some.injEq] at hs
  subst hs
  have hbody : Safe (buildKey body) := Safe.concat hb
  generalize buildKey body = c at hbody
  induction hbody with
  | ret a => exact .ret a
  | getKey k f _ ih => exact .getKey _ _ ih
  | getMatch i f _ ih =>
    simp only [C10.withArgs]
    split
    · exact .getMatch _ _ ih
    split
    · exact ih _
    · rename_i h0 h1
      have hlt : i.toNat < args.length := by omega
      have : Safe (args.getD i.toNat (.ret [])) := by
        rw [List.getD_eq_getElem?_getD, List.getElem?_eq_getElem hlt]
        exact hargs _ (List.getElem_mem hlt)
      exact Safe.bind this ih

/-! ### helpers that consult the world outside the template (`color`, `bar`, `load`, `json`) -/

/-- The proved-safe helpers in a world `w` (float arithmetic, colour/unicode switches, file system, gjson). -/
def safeTableW {α : Type} (w : Funcs.Extra.World α) : Table := safeTable ++ Funcs.Extra.table w

/-- `color`, `bar`, `load`, `json` are safe builders in every world whose gjson call returns; with
    `std_safe` every entry of `safeTableW w` is. -/
theorem ext_safe {α : Type} (w : Funcs.Extra.World α) (hg : ∀ j p, Safe (w.gjson j p)) :
    ∀ p ∈ safeTableW w, SafeBuilder p.2 := by
  intro p hp
  rcases List.mem_append.mp hp with h | h
  · exact std_safe p h
  · exact Funcs.Extra.extra_safe w hg p h

def safeRegistryW {α : Type} (w : Funcs.Extra.World α) : Registry := mkRegistry (safeTableW w) []

theorem safeRegistryW_safe {α : Type} (w : Funcs.Extra.World α) (hg : ∀ j p, Safe (w.gjson j p)) :
    SafeRegistry (safeRegistryW w) := mkRegistry_safe (ext_safe w hg)

/-- `compile_total` / `eval_total` with `color`, `bar`, `load` and `json` included, for every world:
    any float arithmetic (so whatever IEEE rounding does), either value of the colour / unicode
    switches, any file system; the one assumption is that the gjson library call returns. -/
theorem world_compile_eval_total {α : Type} (w : Funcs.Extra.World α) (hg : ∀ j p, Safe (w.gjson j p))
    (opt : Bool) (t : List Char) (ctx : Ctx) :
    ∃ stages errs v, compile (safeRegistryW w) opt t = .ok (stages, errs) ∧ (buildKey stages).run ctx = .ok v :=
  eval_total (safeRegistryW w) (safeRegistryW_safe w hg) opt t ctx

/-- A concrete world (exact rational arithmetic, colours on, one file, gjson answering "") in which a
    template over the four helpers compiles and evaluates. -/
example : ∃ stages errs v,
    compile (safeRegistryW (α := Int) ⟨⟨id, (· + ·), (· - ·), (· * ·), (· / ·), id, id, (fun a b => decide (a ≤ b)), (· == ·), id, id, id, id, id⟩,
      ⟨true, true⟩, false, (fun p => if p = ascii "f" then some (ascii "x") else none), fun _ _ => .ret []⟩) true
      "{color red {0}}{bar {0} 10 5}{load f}{json a.b}".toList = .ok (stages, errs) ∧
    (buildKey stages).run ⟨fun _ => ascii "3", fun _ => []⟩ = .ok v :=
  world_compile_eval_total _ (fun _ _ => .ret _) true _ _

/-! ### `format` (`fmt.Sprintf` on string operands) and the time helpers (relative to a time world) -/

/-- **`{format}` is panic-free**: the model of `fmt.Sprintf` on string operands (`Funcs/Format.lean`: flags,
    width, precision, `*`, `[n]`, every verb, the `%!…` error forms, `strconv.Quote`) returns for every
    format and operand list – no operand index out of range, the loop over the format ends – whatever
    `unicode.IsPrint` answers for non-ASCII runes. -/
theorem format_safe (isPrint : Nat → Bool) :
    (∀ p ∈ Funcs.Format.table isPrint, SafeBuilder p.2) ∧
    (∀ (format : Bytes) (a : List Bytes), ∃ out, Funcs.Format.sprintf isPrint format a = .ok out) :=
  ⟨Funcs.Format.format_safe isPrint, Funcs.Format.sprintf_total isPrint⟩

/-- **The time helpers are panic-free in every time world**: `time` (incl. `now` / `live` / `delta`, `auto`,
    `cache` and explicit formats), `timeformat`, `timeattr`, `buckettime`, `duration`, `durationformat`
    (`Funcs/TimeW.lean`, over the layout tokenizer / formatter / parser / calendar of `Model/C18.lean`) are
    safe builders for every zone database, every `dateparse` behaviour and every wall clock; the one
    assumption is that the calls into the world return. -/
theorem time_safe (tw : Funcs.TimeW.TimeWorld) (hw : tw.Returns) : ∀ p ∈ Funcs.TimeW.table tw, SafeBuilder p.2 :=
  Funcs.TimeW.time_safe tw hw

/-- The name-table look-ups of the layout formatter (`longMonthNames[m-1]`, `longDayNames[wd]` and their
    short forms) are inside their tables for every instant and every zone offset: the calendar always
    answers a month in 1..12 and a weekday in 0..6 (so `C18.nameAt` never uses its default). -/
theorem time_name_tables_safe (unix off : Int) (abbr : Bytes) :
    0 ≤ (C18.timeVOf unix off abbr).dt.m - 1 ∧ (C18.timeVOf unix off abbr).dt.m - 1 < C18.longMonthNames.length ∧
    0 ≤ (C18.timeVOf unix off abbr).wd ∧ (C18.timeVOf unix off abbr).wd < C18.longDayNames.length := by
  have hm := C18.civil_month_day (C18.localDays unix off)
  have hw := C18.weekday_range' (C18.localDays unix off)
  have e1 : (C18.timeVOf unix off abbr).dt.m = (C18.civilFromDays (C18.localDays unix off)).m := rfl
  have e2 : (C18.timeVOf unix off abbr).wd = C18.weekday (C18.localDays unix off) := rfl
  have l1 : C18.longMonthNames.length = 12 := rfl
  have l2 : C18.longDayNames.length = 7 := rfl
  rw [e1, e2, l1, l2]
  omega

/-! ### the zone of a parsed text: the time-world model and C18's zone-table model are one function -/

/-- **C08 / C18 seam**: for every transition table, zone list, location other than `time.UTC` and parsed text, the
    tail of `time.ParseInLocation` as the expression model has it (`Funcs.TimeW.timeOfParsed`, in the world made of
    that table) returns – no panic, no oracle beside the table – the instant `Rare.C18.instantInN` computes from
    the table: numeric offset, an abbreviation the location knows (both loops of `Location.lookupName`), a fabricated
    zone for one it does not know (NOT shifted, `GMT+3` included) and `time.Date`'s two look-ups when the text has
    no zone.  (`WallInRange`: the wall clock minus its offset is an int64 below MaxInt64, so that Go's
    `alpha` / `omega` mean "no bound"; `wallInRange_of_bounds`: true whenever both are below 2^61 in size.) -/
theorem time_parse_instant_eq_c18 (z : C18.ZoneTab) (zones : List (Bytes × Int)) (loc : C18.Loc) (hl : loc ≠ .utc)
    (p : C18.Parsed) (hr : p.zone = .default → Funcs.TimeW.WallInRange z (C18.wallSeconds p.dt)) :
    ∃ t, Funcs.TimeW.timeOfParsed (Funcs.TimeW.tabWorld z zones) loc p = .ret t ∧
      t.unix = C18.instantInN z zones p ∧ t.nsec = p.dt.ns :=
  Funcs.TimeW.timeOfParsed_tab z zones hl p hr

example : Funcs.TimeW.WallInRange ⟨(-17762, C18.asc "LMT"), [(-2717650800, -18000, C18.asc "EST")]⟩ 1460653945 :=
  Funcs.TimeW.wallInRange_of_bounds _ _ (by decide) (by decide +kernel)

/-- The same for `time.UTC` (one segment, no zone list), in EVERY time world. -/
theorem time_parse_instant_utc (tw : Funcs.TimeW.TimeWorld) (p : C18.Parsed) :
    ∃ t, Funcs.TimeW.timeOfParsed tw .utc p = .ret t ∧ t.unix = C18.instantInN Funcs.TimeW.utcTab [] p ∧ t.nsec = p.dt.ns :=
  Funcs.TimeW.timeOfParsed_utc tw p

/-- **A fabricated zone does not move the instant**: when the text carries an abbreviation `Location.lookupName`
    does not find, the parsed time is the wall clock read as UTC, in every world and location – Go only attaches
    `FixedZone(name, offset)` (`offset` = the hours of `GMT±h`, else 0).  Kernel-checked witness:
    `{time "Thu, 14 Apr 2016 17:12:25 GMT+3" RFC1123}` is 1460653945 = 17:12:25 UTC shown at +03:00 (not
    14:12:25 UTC; reproduced on the real code, corpus/C08/r4b.case). -/
theorem time_unknown_abbr_not_shifted :
    (∀ (tw : Funcs.TimeW.TimeWorld) (loc : C18.Loc) (p : C18.Parsed) (n : Bytes), p.zone = .name n →
      Funcs.TimeW.lookupName tw loc n (C18.wallSeconds p.dt) = .ret none →
      ∃ t, Funcs.TimeW.timeOfParsed tw loc p = .ret t ∧ t.unix = C18.wallSeconds p.dt ∧ t.abbr = n) ∧
    (∃ p, C18.parseLayout (C18.asc "Mon, 02 Jan 2006 15:04:05 MST") (C18.asc "Thu, 14 Apr 2016 17:12:25 GMT+3") = .ok p ∧
      p.zone = .name (C18.asc "GMT+3") ∧ C18.wallSeconds p.dt = 1460653945 ∧
      ∀ tw, Funcs.TimeW.timeOfParsed tw .utc p = .ret ⟨1460653945, 0, 10800, C18.asc "GMT+3"⟩) :=
  ⟨Funcs.TimeW.timeOfParsed_unknown_abbr, Funcs.TimeW.gmt_plus3_witness⟩

/-- Every proved-safe helper: the standard ones, `color` / `bar` / `load` / `json` in a world `w`, the time
    helpers in a time world `tw`, `format` for an `IsPrint` oracle. -/
def safeTableX {α : Type} (w : Funcs.Extra.World α) (tw : Funcs.TimeW.TimeWorld) (isPrint : Nat → Bool) : Table :=
  safeTableW w ++ Funcs.TimeW.table tw ++ Funcs.Format.table isPrint

theorem all_safe {α : Type} (w : Funcs.Extra.World α) (hg : ∀ j p, Safe (w.gjson j p))
    (tw : Funcs.TimeW.TimeWorld) (hw : tw.Returns) (isPrint : Nat → Bool) :
    ∀ p ∈ safeTableX w tw isPrint, SafeBuilder p.2 := by
  intro p hp
  simp only [safeTableX, List.mem_append] at hp
  rcases hp with (h | h) | h
  · exact ext_safe w hg p h
  · exact time_safe tw hw p h
  · exact (format_safe isPrint).1 p h

def safeRegistryX {α : Type} (w : Funcs.Extra.World α) (tw : Funcs.TimeW.TimeWorld) (isPrint : Nat → Bool) : Registry :=
  mkRegistry (safeTableX w tw isPrint) []

theorem safeRegistryX_safe {α : Type} (w : Funcs.Extra.World α) (hg : ∀ j p, Safe (w.gjson j p))
    (tw : Funcs.TimeW.TimeWorld) (hw : tw.Returns) (isPrint : Nat → Bool) :
    SafeRegistry (safeRegistryX w tw isPrint) := mkRegistry_safe (all_safe w hg tw hw isPrint)

/-- `compile_total` / `eval_total` with 78 of the 85 helpers of `stdlib.StandardFunctions`: the 67 standard
    ones of `safeTable`, `color` `bar` `load` `json`, the six time helpers and `format` – for every world. -/
theorem full_compile_eval_total {α : Type} (w : Funcs.Extra.World α) (hg : ∀ j p, Safe (w.gjson j p))
    (tw : Funcs.TimeW.TimeWorld) (hw : tw.Returns) (isPrint : Nat → Bool)
    (opt : Bool) (t : List Char) (ctx : Ctx) :
    ∃ stages errs v, compile (safeRegistryX w tw isPrint) opt t = .ok (stages, errs) ∧
      (buildKey stages).run ctx = .ok v :=
  eval_total (safeRegistryX w tw isPrint) (safeRegistryX_safe w hg tw hw isPrint) opt t ctx

/-- A concrete time world: UTC only (no other zone loads), `dateparse` recognising nothing, a clock. -/
def utcWorld : Funcs.TimeW.TimeWorld :=
  { loadOk := fun _ => some false, zones := fun _ => [], lookup := fun _ _ => .ret ⟨C18.asc "UTC", 0, Funcs.TimeW.alpha, Funcs.TimeW.omega⟩,
    detect := fun _ => .ret none, parseAny := fun _ _ => .ret none,
    nowBuild := .ret (ascii "1700000000"), nowLive := .ret (ascii "1700000001"), nowDelta := .ret (ascii "1"),
    lib := fun _ => .ret [] }

theorem utcWorld_returns : utcWorld.Returns :=
  ⟨fun _ _ => .ret _, fun _ => .ret _, fun _ _ => .ret _, .ret _, .ret _, .ret _, fun _ => .ret _⟩

example : ∃ stages errs v,
    compile (safeRegistryX (α := Int) ⟨⟨id, (· + ·), (· - ·), (· * ·), (· / ·), id, id, (fun a b => decide (a ≤ b)), (· == ·), id, id, id, id, id⟩,
      ⟨true, true⟩, false, (fun _ => none), fun _ _ => .ret []⟩ utcWorld (fun _ => true)) true
      "{format \"%5s|%q\" {timeformat {0} RFC3339} {time now}} {buckettime {1} day} {timeattr {0} quarter} {duration 1h}".toList
        = .ok (stages, errs) ∧
    (buildKey stages).run ⟨fun _ => ascii "1609556645", fun _ => []⟩ = .ok v :=
  full_compile_eval_total _ (fun _ _ => .ret _) utcWorld utcWorld_returns _ true _ _

/-- Every helper of `stdlib.StandardFunctions` (names regenerated from /repo) is accounted for: it is
    proved panic-free – in `safeTable`, or one of the world-dependent four (`Funcs.Extra.names`), the six
    time helpers (`Funcs.TimeW.names`), `format` (`Funcs.Format.names`) – or it is a modelled helper that can
    answer `unmodelled` for part of its inputs (`unmodelledNames`).  No helper is outside the model.
    A helper added to the Go table makes this fail. -/
theorem functions_covered :
    Gen.stdFunctionNames.all (fun n =>
      (safeTable.map (·.1)).contains n || Funcs.Extra.names.contains n || Funcs.TimeW.names.contains n ||
      Funcs.Format.names.contains n || unmodelledNames.contains n) = true ∧
    Gen.stdFunctionNames.length = 85 ∧
    (Gen.stdFunctionNames.filter fun n => (safeTable.map (·.1)).contains n || Funcs.Extra.names.contains n ||
      Funcs.TimeW.names.contains n || Funcs.Format.names.contains n).length = 78 ∧
    (Gen.stdFunctionNames.filter fun n => unmodelledNames.contains n).length = 7 := by decide +kernel

/-- The name lists are exactly the names of the tables (in every world). -/
theorem time_format_names (tw : Funcs.TimeW.TimeWorld) (isPrint : Nat → Bool) :
    (Funcs.TimeW.table tw).map (·.1) = Funcs.TimeW.names ∧ (Funcs.Format.table isPrint).map (·.1) = Funcs.Format.names :=
  ⟨rfl, rfl⟩

/-- `Funcs.Extra.names` are exactly the names of `Funcs.Extra.table` (in every world). -/
theorem extra_names {α : Type} (w : Funcs.Extra.World α) : (Funcs.Extra.table w).map (·.1) = Funcs.Extra.names := rfl

/-- Non-vacuity: a malformed template with stray braces, a trailing backslash and an unknown function
    compiles (reporting errors) and evaluates. -/
example : ∃ stages errs v, compile safeRegistry true "{sumi {0} x} }{ {nofn 1} \\".toList = .ok (stages, errs) ∧
    (buildKey stages).run ⟨fun _ => [], fun _ => []⟩ = .ok v :=
  std_compile_eval_total true _ _


/-! ## Size and index guards, as regenerated from /repo on every run (`Gen/C08.lean`)

Every guard that stands in front of a panicking (or unbounded) Go operation of the expression helpers is
translated from the Go AST into a Lean definition over `Int` with Go's wrap-around semantics.  The
theorems below are stated ABOUT THOSE DEFINITIONS: for all int64 inputs the guard admits only arguments
for which the guarded operation cannot panic (the products and sums in the conclusions are true `Int`
arithmetic, not wrapped), and each generated definition equals the expression the hand model uses, so
the model is tied to the code through the kernel as well as through the correspondence run.  A guard
rewritten in /repo (e.g. `count > max/len` → `count*len > max`) changes the generated definition and
the corresponding theorem stops checking. -/

/-! ### `{repeat}` : `strings.Repeat(char, count)` behind `count < 0 || (len(char) > 0 && count > maxRepeatBytes/len(char))` -/

/-- The guard of `kfRepeat` passes exactly the counts whose true product with the pattern length is
    within the cap. -/
theorem repeat_guard_exact (count len : Int) (hl0 : 0 ≤ len) (hl : len ≤ maxInt64) :
    Gen.C08.repeatGuard count len = false ↔ (0 ≤ count ∧ count * len ≤ Gen.C08.maxRepeatBytes) := by
  unfold Gen.C08.repeatGuard Gen.C08.maxRepeatBytes goDiv
  by_cases hz : len = 0
  · subst hz; simp
  · have hpos : 0 < len := by omega
    have hq : Int.tdiv 1048576 len = 1048576 / len := Int.tdiv_eq_ediv_of_nonneg (by omega)
    have hq0 : 0 ≤ (1048576 : Int) / len := Int.ediv_nonneg (by omega) (by omega)
    have hq1 : (1048576 : Int) / len ≤ 1048576 := Int.ediv_le_self _ (by omega)
    have hw : wrap64 (Int.tdiv 1048576 len) = 1048576 / len := by
      rw [hq]; exact wrap64_id (by unfold minInt64; omega) (by unfold maxInt64; omega)
    rw [hw]
    have key : count ≤ 1048576 / len ↔ count * len ≤ 1048576 := (Int.le_ediv_iff_mul_le hpos)
    simp only [Bool.or_eq_false_iff, Bool.and_eq_false_iff, decide_eq_false_iff_not, Int.not_lt]
    constructor
    · rintro ⟨h1, h2 | h2⟩
      · omega
      · exact ⟨h1, key.mp (by omega)⟩
    · rintro ⟨h1, h2⟩
      exact ⟨h1, Or.inr (by have := key.mpr h2; omega)⟩

/-- When the guard passes, `strings.Repeat` cannot panic (count ≥ 0, no length overflow) and the
    output is at most `maxRepeatBytes` long. -/
theorem repeat_guard_safe (count len : Int) (hl0 : 0 ≤ len) (hl : len ≤ maxInt64)
    (h : Gen.C08.repeatGuard count len = false) :
    0 ≤ count ∧ count * len ≤ Gen.C08.maxRepeatBytes ∧ ¬ repeatPanics len count := by
  obtain ⟨h1, h2⟩ := (repeat_guard_exact count len hl0 hl).mp h
  refine ⟨h1, h2, ?_⟩
  unfold repeatPanics
  rw [Int.mul_comm]
  unfold Gen.C08.maxRepeatBytes at h2; unfold maxInt64
  omega

example : Gen.C08.repeatGuard 524288 2 = false ∧ Gen.C08.repeatGuard 524289 2 = true ∧
    Gen.C08.repeatGuard 4611686018427387904 2 = true ∧ Gen.C08.repeatGuard (-1) 1 = true := by decide +kernel

/-- What the run-time closure of `{repeat}` answers for a parsed count, in terms of the generated guard. -/
def repeatAns (char : Bytes) (count : Int) : Bytes :=
  if Gen.C08.repeatGuard count char.length then ErrorValue
  else if char.isEmpty then [] else Funcs.Misc.repeatB char count.toNat

/-- The hand model of `kfRepeat` decides with the generated guard (and the guarded call is the one the
    code makes). -/
theorem repeat_eq_model (char : Bytes) (a1 : Stage) :
    Funcs.Misc.kfRepeat [Stage.lit char, a1] =
      ok (a1.bind fun c => match atoi c with
        | none => .ret ErrorNum
        | some count => .ret (repeatAns char count)) ∧
    Gen.C08.repeatCalls = ["strings.Repeat(char, count)"] ∧
    Gen.C08.maxRepeatBytes = Funcs.Misc.maxRepeatBytes := by
  refine ⟨?_, rfl, rfl⟩
  unfold Funcs.Misc.kfRepeat
  simp only [Stage.lit, Comp.probe, Comp.probeN, show ((0:Nat) == 0) = true from rfl]
  congr 1
  show a1.bind _ = a1.bind _
  congr 1
  funext c
  cases atoi c with
  | none => rfl
  | some count =>
    simp only [repeatAns, Gen.C08.repeatGuard, Gen.C08.maxRepeatBytes, Funcs.Misc.maxRepeatBytes, goDiv]
    have hw : wrap64 (Int.tdiv 1048576 (char.length : Int)) = Int.tdiv 1048576 (char.length : Int) := by
      rw [Int.tdiv_eq_ediv_of_nonneg (by omega)]
      have h0 : 0 ≤ (1048576 : Int) / (char.length : Int) := Int.ediv_nonneg (by omega) (by omega)
      have h1 : (1048576 : Int) / (char.length : Int) ≤ 1048576 := Int.ediv_le_self _ (by omega)
      unfold wrap64; omega
    simp only [hw, apply_ite (Comp.ret (α := Bytes)), gt_iff_lt, Int.natCast_pos]
    rfl

/-! ### `{bar}` : the block-writing loop of `termunicode.BarWrite` behind `maxLen > maxBarLen`; `{color}` -/

/-- A constant length that passes the guard of `kfBar` is at most 65536, so `maxLen * barUnicodePartCount`
    cannot wrap and (the scaled value being at most 1) the loop writes at most `maxLen` blocks. -/
theorem bar_guard_safe (maxLen : Int) (h : Gen.C08.barLenGuard maxLen = false) :
    maxLen ≤ 65536 ∧ maxLen * C14.barUnicodePartCount ≤ maxInt64 ∧
    (0 ≤ maxLen → wrap64 (maxLen * C14.barUnicodePartCount) = maxLen * 9) := by
  unfold Gen.C08.barLenGuard Gen.C08.maxBarLen at h
  simp only [decide_eq_false_iff_not, Int.not_lt] at h
  have hpc : C14.barUnicodePartCount = 9 := rfl
  rw [hpc]
  unfold maxInt64 wrap64
  omega

/-- The cap and the colour table of the hand model are the ones of the code. -/
theorem draw_eq_model (maxLen : Int) :
    Gen.C08.maxBarLen = Funcs.Draw.maxBarLen ∧
    Gen.C08.barLenGuard maxLen = decide (maxLen > Funcs.Draw.maxBarLen) ∧
    Gen.C08.barCalls = ["termunicode.BarWrite(&sb, scaler.Scale(val, 0, maxVal), maxLen)"] ∧
    Gen.C08.colorMap = Funcs.Draw.colorMap ∧
    Gen.C08.colorLookup = ["colorMap[strings.ToLower(s)]"] := by
  refine ⟨rfl, rfl, rfl, ?_, rfl⟩
  decide +kernel

example : Gen.C08.barLenGuard 65536 = false ∧ Gen.C08.barLenGuard 65537 = true ∧
    Gen.C08.barLenGuard (-9223372036854775808) = false := by decide +kernel

/-! ### `{substr}` : `s[left:right]` behind the clamping statements -/

/-- The bounds computed by the code are the bounds of the hand model. -/
theorem substr_eq_model (lenS left length : Int) :
    Gen.C08.substrBounds lenS left length = Funcs.Strings.substrIdx lenS left length ∧
    Gen.C08.substrExits = ["lenS == 0", "err1 != nil || err2 != nil"] := by
  refine ⟨?_, rfl⟩
  unfold Gen.C08.substrBounds Funcs.Strings.substrIdx
  by_cases h : left < 0 <;> simp [h]

/-- `0 ≤ lo ≤ hi ≤ len(s)` for every string length and every pair of int64 arguments: the slice
    expression of `kfSubstr` can never be out of range. -/
theorem substr_bounds_safe (lenS left length : Int) (h0 : 0 ≤ lenS) (hS : lenS ≤ maxInt64)
    (hl : inInt64 left = true) (hn : inInt64 length = true) :
    0 ≤ (Gen.C08.substrBounds lenS left length).1 ∧
    (Gen.C08.substrBounds lenS left length).1 ≤ (Gen.C08.substrBounds lenS left length).2 ∧
    (Gen.C08.substrBounds lenS left length).2 ≤ lenS := by
  rw [(substr_eq_model lenS left length).1, C11.substrIdx_spec lenS left length h0 hS hl hn]
  simp only []
  split <;> omega

example : Gen.C08.substrBounds 3 1 9223372036854775807 = (1, 3) ∧
    Gen.C08.substrBounds 3 (-9223372036854775808) 2 = (0, 2) ∧
    Gen.C08.substrBounds 3 9223372036854775807 9223372036854775807 = (3, 3) := by decide +kernel

/-! ### `{select}` : `s[wordStart:i]`, `s[wordStart:]` inside the rune loop of `selectField` -/

/-- The slice bounds of `selectField` are loop variables (`wordStart` is only ever assigned the loop
    index); with those assignments `wordStart ≤ i ≤ len(s)` is an invariant, i.e. the loop with Go's
    bounds checks made explicit never fails and is the model's loop. -/
theorem select_slices_safe (s : Bytes) (idx : Int) :
    Gen.C08.selectFieldShape =
      ["wordStart := 0", "wordStart = i", "s[wordStart:i]", "s[wordStart:]", "range i, c over s"] ∧
    Funcs.Strings.selLoopC s idx s 0 {} = .ok (Funcs.Strings.selectField s idx) :=
  ⟨rfl, Funcs.Strings.selLoopC_ok s idx s 0 {} (Nat.le_refl _) (by simp)⟩

/-! ### `{@slice}` / `{@select}` : index normalisation -/

theorem slice_start_eq_model (start : Int) (s : Bytes) :
    Gen.C08.arraySliceStart start (Funcs.Range.countSep s) = Funcs.Range.sliceStart start s := by
  unfold Gen.C08.arraySliceStart Funcs.Range.sliceStart
  simp only []
  by_cases h1 : start < 0 <;> by_cases h2 : wrap64 (start + wrap64 (Funcs.Range.countSep s + 1)) < 0 <;> simp [h1, h2]

/-- The start of `@slice` is computed without wrap-around and is never negative (`cnt` is a
    `strings.Count`, so `0 ≤ cnt < MaxInt64`). -/
theorem slice_bounds_safe (start cnt : Int) (hs : inInt64 start = true) (h0 : 0 ≤ cnt) (h1 : cnt < maxInt64) :
    Gen.C08.arraySliceStart start cnt = (if start < 0 then max (start + (cnt + 1)) 0 else start) ∧
    0 ≤ Gen.C08.arraySliceStart start cnt := by
  rw [C11.inInt64_iff] at hs
  have e1 : wrap64 (cnt + 1) = cnt + 1 := wrap64_id (by i64) (by i64)
  unfold Gen.C08.arraySliceStart
  by_cases h : start < 0
  · have e2 : wrap64 (start + (cnt + 1)) = start + (cnt + 1) := wrap64_id (by i64) (by i64)
    by_cases h2 : start + (cnt + 1) < 0 <;>
      simp only [e1, e2, h, h2, decide_true, decide_false, Bool.and_self, Bool.and_false, if_true, if_false,
        Bool.false_eq_true] <;> omega
  · simp only [h, decide_false, Bool.false_and, if_false, Bool.false_eq_true, true_and]; omega

/-- The loop guard of `@slice` compares the true difference `i - realStart` (a counter and a start ≥ 0
    cannot wrap), and it is the guard expression of the model. -/
theorem slice_guard_exact (len i rs : Int) (hi0 : 0 ≤ i) (hi : i ≤ maxInt64) (hr0 : 0 ≤ rs) (hr : rs ≤ maxInt64) :
    Gen.C08.arraySliceGuard len i rs = (decide (len < 0) || decide (i - rs < len)) ∧
    Gen.C08.arraySliceGuard len i rs = (decide (len < 0) || decide (wrap64 (i - rs) < len)) := by
  refine ⟨?_, rfl⟩
  unfold maxInt64 at *
  unfold Gen.C08.arraySliceGuard wrap64
  have : (i - rs + 9223372036854775808) % 18446744073709551616 - 9223372036854775808 = i - rs := by omega
  rw [this]

theorem select_index_eq_model (index : Int) (s : Bytes) :
    Gen.C08.arraySelectIndex index (Funcs.Range.countSep s) = Funcs.Range.selectIndex index s := by
  unfold Gen.C08.arraySelectIndex Funcs.Range.selectIndex
  simp only []
  by_cases h1 : index < 0 <;> simp [h1]

/-- A negative `@select` index is counted from the end with true arithmetic (no wrap-around). -/
theorem select_index_exact (index cnt : Int) (hs : inInt64 index = true) (h0 : 0 ≤ cnt) (h1 : cnt < maxInt64) :
    Gen.C08.arraySelectIndex index cnt = (if index < 0 then index + (cnt + 1) else index) := by
  rw [C11.inInt64_iff] at hs
  have e1 : wrap64 (cnt + 1) = cnt + 1 := wrap64_id (by i64) (by i64)
  unfold Gen.C08.arraySelectIndex
  by_cases h : index < 0
  · have e2 : wrap64 (index + (cnt + 1)) = index + (cnt + 1) := wrap64_id (by i64) (by i64)
    simp only [e1, e2, h, decide_true, if_true]
  · simp only [h, decide_false, if_false, Bool.false_eq_true]

example : Gen.C08.arraySliceStart (-9223372036854775808) 2 = 0 ∧ Gen.C08.arraySliceStart (-2) 2 = 1 ∧
    Gen.C08.arraySelectIndex (-1) 2 = 2 ∧ Gen.C08.arraySliceGuard 9223372036854775807 1 1 = true := by decide +kernel

/-! ### precision caps (`strconv.FormatFloat` / `AppendFloat` allocate `precision` digits) -/

/-- A constant precision that passes any of the five guards is at most 1024. -/
theorem precision_guard_safe (p : Int) :
    (Gen.C08.roundPrecisionGuard p = false → p ≤ 1024) ∧
    (Gen.C08.percentPrecisionGuard p = false → p ≤ 1024) ∧
    (Gen.C08.bytesizePrecisionGuard p = false → p ≤ 1024) ∧
    (Gen.C08.bytesizesiPrecisionGuard p = false → p ≤ 1024) ∧
    (Gen.C08.downscalePrecisionGuard p = false → p ≤ 1024) := by
  unfold Gen.C08.roundPrecisionGuard Gen.C08.percentPrecisionGuard Gen.C08.bytesizePrecisionGuard
    Gen.C08.bytesizesiPrecisionGuard Gen.C08.downscalePrecisionGuard Gen.C08.maxPrecision
  simp only [decide_eq_false_iff_not, Int.not_lt]
  omega

/-- The cap is the 1024 the models of `round` / `percent` / `bytesize…` / `downscale` use (a literal
    in `Funcs/Strings.lean`, `maxPrecision` in the float family), and the guarded variable is the one
    handed to the formatting call. -/
theorem precision_eq_model (p : Int) :
    Gen.C08.maxPrecision = 1024 ∧
    Gen.C08.roundPrecisionGuard p = decide (p > 1024) ∧
    Gen.C08.percentPrecisionGuard p = decide (p > 1024) ∧
    Gen.C08.bytesizePrecisionGuard p = decide (p > 1024) ∧
    Gen.C08.bytesizesiPrecisionGuard p = decide (p > 1024) ∧
    Gen.C08.downscalePrecisionGuard p = decide (p > 1024) ∧
    Gen.C08.precisionUses = ["round: precision -> strconv.FormatFloat", "percent: decimals -> strconv.AppendFloat",
      "bytesize: precision -> humanize.AlwaysByteSize", "bytesizesi: precision -> humanize.AlwaysByteSizeSi",
      "downscale: precision -> humanize.AlwaysDownscale"] := ⟨rfl, rfl, rfl, rfl, rfl, rfl, rfl⟩

/-! ### `divi` / `modi` : zero-divisor guards -/

/-- When the guard of `divi` passes the divisor is non-zero (no "integer divide by zero" panic); the
    quotient is an int64; `MinInt64 / -1` does not trap in Go, it wraps to `MinInt64`. -/
theorem divi_guard_safe (a b : Int) (h : Gen.C08.diviGuard a b = false) :
    b ≠ 0 ∧ inInt64 (Gen.C08.diviVal a b) = true ∧ Gen.C08.diviVal minInt64 (-1) = minInt64 := by
  refine ⟨by simpa [Gen.C08.diviGuard] using h, wrap64_inInt64 _, by decide⟩

/-- Same for `modi`; `MinInt64 % -1` is 0. -/
theorem modi_guard_safe (a b : Int) (ha : inInt64 a = true) (h : Gen.C08.modiGuard a b = false) :
    b ≠ 0 ∧ inInt64 (Gen.C08.modiVal a b) = true ∧ Gen.C08.modiVal minInt64 (-1) = 0 := by
  refine ⟨by simpa [Gen.C08.modiGuard] using h, tmod_inInt64 a b ha, by decide⟩

/-- The checked operations of the hand model are the generated guard + value, and
    `arithmaticHelperiChecked` turns a refusal into `<VALUE>` before using the value. -/
theorem divi_eq_model (a b : Int) :
    Funcs.Arith.opDiv a b = (if Gen.C08.diviGuard a b then none else some (Gen.C08.diviVal a b)) ∧
    Funcs.Arith.opMod a b = (if Gen.C08.modiGuard a b then none else some (Gen.C08.modiVal a b)) ∧
    Gen.C08.checkedHelperShape = ["final, ok := typedArgs[0](context)", "final, ok = equation(final, val)",
      "if !ok return ErrorValue"] := by
  refine ⟨?_, ?_, rfl⟩
  · unfold Funcs.Arith.opDiv Gen.C08.diviGuard Gen.C08.diviVal
    by_cases h : b = 0 <;> simp [h]
  · unfold Funcs.Arith.opMod Gen.C08.modiGuard Gen.C08.modiVal
    by_cases h : b = 0 <;> simp [h]

example : Gen.C08.diviGuard 1 0 = true ∧ Gen.C08.diviGuard minInt64 (-1) = false ∧ Gen.C08.diviVal 7 (-2) = -3 ∧
    Gen.C08.modiVal (-7) 2 = -1 := by decide +kernel

/-! ### `{! …}` : the integer operators of stdmath (`%`, `<<`, `>>`) -/

/-- **stdmath's integer operators are guarded, as regenerated from /repo**: the three entries of `ops` that can
    panic are `v := int64(right); if GUARD { return math.NaN() }; return float64(int64(left) OP v)` (every statement
    pinned), and for all integers the regenerated guard admits only a non-zero divisor (`%`) / a non-negative
    shift count (`<<`, `>>`: Go panics on negative counts only, counts ≥ 64 are defined) and is exactly where the
    formula model (`Rare.C19.modI` / `shlI` / `shrI`, the operators behind `C19.int_ops_guarded`) answers
    "not a number"; no OTHER entry of the table contains an integer remainder, quotient or shift.  A guard turned
    into `r < 0`, `n <= -2`, or dropped, breaks this theorem. -/
theorem math_int_ops_guarded (l v : Int) :
    (Gen.C08.mathModGuard v = false → v ≠ 0) ∧ ((C19.modI l v).isNone = Gen.C08.mathModGuard v) ∧
    (Gen.C08.mathShlGuard v = false → 0 ≤ v) ∧ ((C19.shlI l v).isNone = Gen.C08.mathShlGuard v) ∧
    (Gen.C08.mathShrGuard v = false → 0 ≤ v) ∧ ((C19.shrI l v).isNone = Gen.C08.mathShrGuard v) ∧
    Gen.C08.mathIntOpShape =
      ["%: r := int64(right)", "%: if r == 0 { return math.NaN() }", "%: return float64(int64(left) % r)",
       "<<: n := int64(right)", "<<: if n < 0 { return math.NaN() }", "<<: return float64(int64(left) << n)",
       ">>: n := int64(right)", ">>: if n < 0 { return math.NaN() }", ">>: return float64(int64(left) >> n)"] ∧
    Gen.C08.mathOtherIntOps = [] := by
  refine ⟨?_, ?_, ?_, ?_, ?_, ?_, rfl, rfl⟩
  · simp [Gen.C08.mathModGuard]
  · by_cases h : v = 0 <;> simp [Gen.C08.mathModGuard, C19.modI, h]
  · simp [Gen.C08.mathShlGuard]
  · by_cases h : v < 0 <;> simp [Gen.C08.mathShlGuard, C19.shlI, h]
  · simp [Gen.C08.mathShrGuard]
  · by_cases h : v < 0 <;> simp [Gen.C08.mathShrGuard, C19.shrI, h]

example : Gen.C08.mathModGuard 0 = true ∧ Gen.C08.mathModGuard (-3) = false ∧ Gen.C08.mathShlGuard (-1) = true ∧
    Gen.C08.mathShlGuard 64 = false ∧ C19.shlI 1 64 = some 0 ∧ C19.shrI (-8) 70 = some (-1) ∧ C19.modI (-7) 2 = some (-1) := by decide +kernel

/-! ### `bucket` / `bucketrange` : the constant size is the divisor of `val / bucketSize` -/

/-- A constant bucket size that passes the guard is positive: `val / bucketSize` cannot divide by zero
    (and, the divisor being positive, `MinInt64 / -1` cannot occur); the guard is the model's, and the
    guarded divisions are the only `/` `%` of the two closures. -/
theorem bucket_guard_safe (size : Int) :
    (Gen.C08.bucketSizeGuard size = false → 0 < size) ∧
    (Gen.C08.bucketRangeSizeGuard size = false → 0 < size) ∧
    Gen.C08.bucketSizeGuard size = decide (size ≤ 0) ∧
    Gen.C08.bucketRangeSizeGuard size = decide (size ≤ 0) ∧
    Gen.C08.bucketDivisions = ["kfBucket: val / bucketSize", "kfBucketRange: val / bucketSize"] := by
  refine ⟨?_, ?_, rfl, rfl, rfl⟩
  · unfold Gen.C08.bucketSizeGuard
    simp only [decide_eq_false_iff_not, Int.not_le]
    exact id
  · unfold Gen.C08.bucketRangeSizeGuard
    simp only [decide_eq_false_iff_not, Int.not_le]
    exact id

example : Gen.C08.bucketSizeGuard 0 = true ∧ Gen.C08.bucketSizeGuard (-9223372036854775808) = true ∧
    Gen.C08.bucketRangeSizeGuard 1 = false := by decide +kernel

/-! ### `GetMatch` implementations : sub-contexts and match contexts -/

/-- `SliceSpaceExpressionContext.GetMatch` without wrap-around: what the guard chain computes and
    which entries of `indices` it reads. -/
theorem slicespace_char (idx n : Int) (indices : Int → Int) (hidx : inInt64 idx = true) (hn : n ≤ maxInt64) :
    Gen.C08.sliceSpaceGetMatch idx n indices =
      (if idx < 0 ∨ 2 * idx + 1 ≥ n then .empty
       else if indices (2 * idx) < 0 ∨ indices (2 * idx + 1) < 0 then .empty
       else .slice (indices (2 * idx)) (indices (2 * idx + 1))) ∧
    Gen.C08.sliceSpaceGetMatchReads idx n indices =
      (if idx < 0 ∨ 2 * idx + 1 ≥ n then [] else [2 * idx, 2 * idx + 1]) := by
  rw [C11.inInt64_iff] at hidx
  unfold Gen.C08.sliceSpaceGetMatch Gen.C08.sliceSpaceGetMatchReads
  simp only []
  by_cases h0 : idx < 0
  · simp [h0]
  · rcases wrap_double idx (by omega) hidx.2 with ⟨h1, h2, h3⟩ | ⟨h1, h2⟩
    · rw [h3, h2]
      have : ¬ (2 * idx < 0) := by omega
      by_cases h4 : 2 * idx + 1 ≥ n
      · simp [h0, this, h4]
      · have h4' : ¬ (n ≤ 2 * idx + 1) := by omega
        simp [h0, this, h4']
    · have : 2 * idx + 1 ≥ n := by omega
      simp [h0, h2, this]

/-- Every table read of the four `GetMatch` implementations (`subContext`, `lazySubContext`,
    `KeyBuilderContextArray`, `SliceSpaceExpressionContext`) happens at an index inside the table, for
    every int64 index and every table length. -/
theorem getmatch_bounds_safe :
    (∀ idx n : Int, ∀ i ∈ Gen.C08.subContextGetMatchReads idx n, 0 ≤ i ∧ i < n) ∧
    (∀ idx n : Int, ∀ i ∈ Gen.C08.lazySubContextGetMatchReads idx n, 0 ≤ i ∧ i < n) ∧
    (∀ idx n : Int, ∀ i ∈ Gen.C08.contextArrayGetMatchReads idx n, 0 ≤ i ∧ i < n) ∧
    (∀ (idx n : Int) (indices : Int → Int), inInt64 idx = true → n ≤ maxInt64 →
      ∀ i ∈ Gen.C08.sliceSpaceGetMatchReads idx n indices, 0 ≤ i ∧ i < n) := by
  refine ⟨?_, ?_, ?_, ?_⟩
  · intro idx n i hi
    unfold Gen.C08.subContextGetMatchReads at hi
    split at hi
    · simp at hi
    · split at hi
      · simp at hi; subst hi; simp_all
      · simp at hi
  · intro idx n i hi
    unfold Gen.C08.lazySubContextGetMatchReads at hi
    split at hi
    · simp at hi
    · split at hi
      · simp at hi
      · simp at hi; subst hi; simp_all
  · intro idx n i hi
    unfold Gen.C08.contextArrayGetMatchReads at hi
    split at hi
    · simp at hi; subst hi; simp_all
    · simp at hi
  · intro idx n indices hidx hn i hi
    rw [(slicespace_char idx n indices hidx hn).2] at hi
    split at hi
    · simp at hi
    · simp at hi; omega

/-- An element answered by a chain is the requested one, of the table measured, and inside it. -/
theorem getmatch_index_safe (idx n m i : Int) :
    (Gen.C08.subContextGetMatch idx n = .index m i → m = n ∧ i = idx ∧ 0 ≤ i ∧ i < n) ∧
    (Gen.C08.lazySubContextGetMatch idx n = .index m i → m = n ∧ i = idx ∧ 0 ≤ i ∧ i < n) ∧
    (Gen.C08.contextArrayGetMatch idx n = .index m i → m = n ∧ i = idx ∧ 0 ≤ i ∧ i < n) := by
  unfold Gen.C08.subContextGetMatch Gen.C08.lazySubContextGetMatch Gen.C08.contextArrayGetMatch
  refine ⟨?_, ?_, ?_⟩
  · intro h; split at h
    · cases h
    · split at h
      · cases h; simp_all
      · cases h
  · intro h; split at h
    · cases h
    · split at h
      · cases h
      · cases h; simp_all
  · intro h; split at h
    · cases h; simp_all
    · cases h

example : Gen.C08.subContextGetMatch 1 2 = .index 2 1 ∧ Gen.C08.subContextGetMatch 2 2 = .empty ∧
    Gen.C08.subContextGetMatch (-1) 2 = .passThrough (-1) ∧
    Gen.C08.lazySubContextGetMatch 9223372036854775807 3 = .empty ∧
    Gen.C08.contextArrayGetMatch (-9223372036854775808) 3 = .empty ∧
    Gen.C08.sliceSpaceGetMatchReads 4611686018427387904 6 (fun _ => 0) = [] ∧
    Gen.C08.sliceSpaceGetMatchReads 2 6 (fun _ => 0) = [4, 5] := by decide +kernel

/-- The model of `subContext` (`Comp.withSub`, used by `@map` / `@reduce` / `@filter` / `@for`) answers a
    look-up exactly as the generated chain says (`len(s.vals)` is the array length of the field). -/
theorem withSub_eq_gen {α : Type} (i : Int) (k : Bytes → Comp α) (v0 v1 : Bytes) :
    (Comp.getMatch i k).withSub v0 v1 =
      (match Gen.C08.subContextGetMatch i Gen.C08.subContextValsLen with
       | .passThrough j => .getMatch j fun b => (k b).withSub v0 v1
       | .index _ j => (k ([v0, v1].getD j.toNat [])).withSub v0 v1
       | .slice _ _ => .panic "not a sub-context action"
       | .empty => (k []).withSub v0 v1) := by
  unfold Gen.C08.subContextGetMatch Gen.C08.subContextValsLen
  simp only [Comp.withSub]
  by_cases h0 : i < 0
  · simp [h0]
  · by_cases h1 : i = 0
    · subst h1; simp
    · by_cases h2 : i = 1
      · subst h2; simp
      · have : ¬ i < 2 := by omega
        simp [h0, h1, h2, this]

/-- The model of `lazySubContext` (`C10.withArgs`, user functions) answers a look-up exactly as the
    generated chain says. -/
theorem withArgs_eq_gen {α : Type} (args : List Stage) (i : Int) (k : Bytes → Comp α) :
    C10.withArgs args (Comp.getMatch i k) =
      (match Gen.C08.lazySubContextGetMatch i args.length with
       | .passThrough j => .getMatch j fun b => C10.withArgs args (k b)
       | .index _ j => (args.getD j.toNat (.ret [])).bind fun v => C10.withArgs args (k v)
       | .slice _ _ => .panic "not a sub-context action"
       | .empty => C10.withArgs args (k [])) := by
  unfold Gen.C08.lazySubContextGetMatch
  simp only [C10.withArgs]
  by_cases h0 : i < 0
  · simp [h0]
  · by_cases h1 : i ≥ args.length <;> simp [h0, h1]

/-- The model of `SliceSpaceExpressionContext.GetMatch` (`C02.getMatch`) is the generated chain. -/
theorem c02_getMatch_eq_gen (line : Bytes) (indices : List Int) (idx : Int) (hidx : inInt64 idx = true)
    (hn : (indices.length : Int) ≤ maxInt64) :
    C02.getMatch line indices idx =
      (match Gen.C08.sliceSpaceGetMatch idx indices.length (fun i => indices.getD i.toNat 0) with
       | .slice lo hi => C02.goSlice line lo hi
       | .empty => .ok []
       | _ => .error "not a match-context action") := by
  rw [(slicespace_char idx indices.length _ hidx hn).1]
  rw [C11.inInt64_iff] at hidx
  unfold C02.getMatch
  simp only []
  by_cases h0 : idx < 0
  · simp [h0]
  · rcases wrap_double idx (by omega) hidx.2 with ⟨h1, h2, h3⟩ | ⟨h1, h2⟩
    · rw [h2]
      have e3 : (2 * idx).toNat + 1 = (2 * idx + 1).toNat := by omega
      rw [e3]
      have : ¬ (2 * idx < 0) := by omega
      by_cases h4 : 2 * idx + 1 ≥ indices.length
      · simp [h0, this, h4]
      · simp only [h0, this, h4, false_or, if_false]
        split <;> rfl
    · have : 2 * idx + 1 ≥ indices.length := by omega
      simp [h0, h2, this]

/-! ### `Compile` : the escape look-ahead `r == '\\' && i+1 < len(runes)` in front of `i++; runes[i]` -/

/-- When the look-ahead holds, `runes[i+1]` exists (the former `Compile("abc\\")` index panic). -/
theorem compile_escape_safe (i n : Int) (h0 : 0 ≤ i) (hi : i < n) (hn : n ≤ maxInt64)
    (h : Gen.C08.compileEscapeGuard i n = true) : 0 ≤ i + 1 ∧ i + 1 < n := by
  unfold maxInt64 at *
  unfold Gen.C08.compileEscapeGuard wrap64 at h
  simp only [decide_eq_true_eq] at h
  omega

/-- The guard holds exactly when a rune follows the backslash – which is what the model's pattern
    match on the rest of the rune list tests; the guarded statements are `i++; …runes[i]…`. -/
theorem compile_escape_eq_model (all : List Char) (i : Nat) (hi : i < all.length) (hn : (all.length : Int) ≤ maxInt64) :
    Gen.C08.compileEscapeGuard i all.length = !(all.drop (i + 1)).isEmpty ∧
    Gen.C08.compileEscapeSteps = ["i++", "sb.WriteRune(unescape(runes[i]))"] ∧
    Gen.C08.compileRuneAccesses = ["runes[i]", "runes[i]", "runes[startStatement : i+1]", "runes[startStatement:]"] := by
  refine ⟨?_, rfl, rfl⟩
  unfold maxInt64 at *
  unfold Gen.C08.compileEscapeGuard wrap64
  have e : ((i : Int) + 1 + 9223372036854775808) % 18446744073709551616 - 9223372036854775808 = i + 1 := by omega
  rw [e]
  by_cases h : i + 1 < all.length
  · have : all.drop (i + 1) ≠ [] := by
      intro hd; have := congrArg List.length hd; simp at this; omega
    have h' : ((i : Int) + 1 < all.length) := by omega
    simp [h', this]
  · have : all.drop (i + 1) = [] := List.drop_eq_nil_of_le (by omega)
    have h' : ¬ ((i : Int) + 1 < all.length) := by omega
    simp [h', this]

example : Gen.C08.compileEscapeGuard 3 4 = false ∧ Gen.C08.compileEscapeGuard 2 4 = true := by decide +kernel


/-! ## Loops, as regenerated from /repo: the loop condition and the loop body are step functions -/

/-- `k` rounds of the loop body of `kfExpBucket` (the generated `expBucketStep`) from `(val, bucket)`. -/
def expBucketIter (k : Nat) (val bucket : Int) : Int × Int :=
  iterate Gen.C08.expBucketStep k (val, bucket)

/-- **The scaling loop of `{expbucket}` returns**: from every int64 value (and `bucket = 1`, as the code
    enters it) the generated loop condition becomes false after at most 18 rounds – 19 evaluations of
    the condition –, in every round it does run the product `bucket * 10` is a true int64 product (no
    wrap-around), it leaves with `bucket = 10^n`, for positive values this is the power of ten that
    brackets the value, and the fuelled loop of the hand model (`Arith.expBucketVal`) computes exactly
    this.  The statements around the loop are pinned.  (A loop rewritten as
    `for bucket*10 <= val { bucket *= 10 }` changes the generated condition and step, and this theorem
    stops checking: for `val` near `MaxInt64` that loop never exits.) -/
theorem expbucket_terminates (val : Int) (h : inInt64 val = true) :
    ∃ n, n ≤ 18 ∧
      (∀ k, k < n →
        Gen.C08.expBucketLoopCond (expBucketIter k val 1).1 (expBucketIter k val 1).2 = true ∧
        1 ≤ (expBucketIter k val 1).2 ∧ (expBucketIter k val 1).2 * 10 ≤ maxInt64) ∧
      Gen.C08.expBucketLoopCond (expBucketIter n val 1).1 (expBucketIter n val 1).2 = false ∧
      (expBucketIter n val 1).2 = 10 ^ n ∧
      (1 ≤ val → (10 : Int) ^ n ≤ val ∧ val < 10 * 10 ^ n ∧
        Funcs.Arith.expBucketVal val = (expBucketIter n val 1).2) ∧
      Gen.C08.expBucketShape = ["bucket := 0", "bucket = 1", "bucket *= 10",
        "val, err := strconv.Atoi(args[0](context))", "val /= 10", "return ErrorNum",
        "if val > 0 { … for val >= 10 }", "return strconv.Itoa(bucket)"] := by
  rw [C11.inInt64_iff] at h
  obtain ⟨n, hn, hrun, hexit, hval, hrange, hmodel⟩ :=
    expLoop_rounds Gen.C08.expBucketStep (fun _ _ => rfl) 18 val 1
      (by have := h.2; unfold maxInt64 at this; omega) (by omega) (fun _ => by have := h.2; omega)
  refine ⟨n, hn, ?_, ?_, ?_, ?_, rfl⟩
  · intro k hk
    obtain ⟨a, b, c⟩ := hrun k hk
    exact ⟨by simpa [Gen.C08.expBucketLoopCond, expBucketIter] using a, b, c⟩
  · simpa [Gen.C08.expBucketLoopCond, expBucketIter] using hexit
  · simpa [expBucketIter] using hval
  · intro h1
    obtain ⟨r1, r2⟩ := hrange h1
    refine ⟨r1, r2, ?_⟩
    have hpos : val > 0 := by omega
    simp only [Funcs.Arith.expBucketVal, hpos, if_true]
    exact hmodel 19 (by omega)

example : expBucketIter 18 9223372036854775807 1 = (9, 1000000000000000000) ∧
    Gen.C08.expBucketLoopCond 9 1000000000000000000 = false ∧
    expBucketIter 0 (-5) 1 = (-5, 1) ∧ Gen.C08.expBucketLoopCond (-5) 1 = false ∧
    expBucketIter 2 1234 1 = (12, 100) := by decide +kernel

/-- **The counter of `{@range}` cannot overflow**: whenever the generated loop condition holds and the
    generated `break` condition in front of the post statement does not, `i += incr` is a true int64 sum
    that moves `i` strictly towards `stop` (so with the round cap the loop returns). -/
theorem range_counter_safe (i stop incr : Int) (hi : inInt64 i = true) (hs : inInt64 stop = true)
    (hc : inInt64 incr = true) (hcond : Gen.C08.rangeLoopCond i stop incr = true)
    (hbrk : Gen.C08.rangeOverflowBreak i incr = false) :
    Gen.C08.rangeStep i incr = i + incr ∧ inInt64 (i + incr) = true ∧
    (incr > 0 → i < i + incr) ∧ (incr < 0 → i + incr < i) :=
  -- the `break` condition alone keeps the sum in range: neither `hs` nor `hcond` is used
  range_step_exact i incr hi hc hbrk

example : Gen.C08.rangeLoopCond 9223372036854775800 9223372036854775807 5 = true ∧
    Gen.C08.rangeOverflowBreak 9223372036854775800 5 = false ∧
    Gen.C08.rangeOverflowBreak 9223372036854775805 5 = true ∧
    Gen.C08.rangeOverflowBreak (-9223372036854775805) (-5) = true := by decide +kernel

/-- One round of the hand model's `@range` loop is the generated condition, round cap, `break`
    condition and post statement, in the order of the code's loop body. -/
theorem range_eq_model (fuel : Nat) (i stop incr : Int) (count : Nat) (sb : Funcs.Range.Sb) :
    Funcs.Range.rangeLoop (fuel + 1) i stop incr count sb =
      (if Gen.C08.rangeLoopCond i stop incr then
        let sb' := (if sb.len > 0 then sb.write Funcs.Range.ArraySeparatorString else sb).write (itoa i)
        if Gen.C08.rangeCountGuard ((count + 1 : Nat) : Int) then .ok none
        else if Gen.C08.rangeOverflowBreak i incr then .ok (some sb')
        else Funcs.Range.rangeLoop fuel (Gen.C08.rangeStep i incr) stop incr (count + 1) sb'
      else .ok (some sb)) ∧
    Gen.C08.rangeLoopShape = ["init i := start", "if sb.Len() > 0", "call", "count++", "inf-if", "break-if"] := by
  refine ⟨?_, rfl⟩
  rw [Funcs.Range.rangeLoop]
  unfold Gen.C08.rangeLoopCond Gen.C08.rangeCountGuard Gen.C08.rangeOverflowBreak Gen.C08.rangeStep
  have e : (decide (((count + 1 : Nat) : Int) > 1000000)) = decide (count + 1 > Gen.maxIterations) := by
    unfold Gen.maxIterations
    by_cases h : count + 1 > 1000000
    · have : ((count + 1 : Nat) : Int) > 1000000 := by omega
      rw [decide_eq_true h, decide_eq_true this]
    · have : ¬ ((count + 1 : Nat) : Int) > 1000000 := by omega
      rw [decide_eq_false h, decide_eq_false this]
  simp only [e, decide_eq_true_eq]

/-- **The round counters of `{@for}` and `{@range}` cannot overflow**: both loops give up (`<INF>`) as soon as
    the counter exceeds `MAX_ITERATIONS`, so `idx++` / `count++` are only ever executed on values
    `≤ MAX_ITERATIONS`; the cap is the one of the hand model. -/
theorem for_counter_safe (idx : Int) (h0 : 0 ≤ idx) :
    (Gen.C08.forCountGuard idx = false → idx ≤ Gen.maxIterations ∧ wrap64 (idx + 1) = idx + 1) ∧
    (Gen.C08.rangeCountGuard idx = false → idx ≤ Gen.maxIterations ∧ wrap64 (idx + 1) = idx + 1) ∧
    Gen.C08.forCountGuard idx = decide (idx > (Gen.maxIterations : Int)) ∧
    Gen.C08.rangeCountGuard idx = decide (idx > (Gen.maxIterations : Int)) ∧
    Gen.C08.forCounterShape = ["idx := 0", "idx++"] := by
  refine ⟨?_, ?_, rfl, rfl, rfl⟩
  · intro h
    unfold Gen.C08.forCountGuard at h
    simp only [decide_eq_false_iff_not, Int.not_lt] at h
    unfold Gen.maxIterations
    refine ⟨by omega, ?_⟩
    unfold wrap64; omega
  · intro h
    unfold Gen.C08.rangeCountGuard at h
    simp only [decide_eq_false_iff_not, Int.not_lt] at h
    unfold Gen.maxIterations
    refine ⟨by omega, ?_⟩
    unfold wrap64; omega

example : Gen.C08.forCountGuard 1000000 = false ∧ Gen.C08.forCountGuard 1000001 = true := by decide +kernel

/-! ## Every operation that can panic: the census regenerated from /repo -/

/-- **The arithmetic of the `{@range}` closure is exactly the loop's**: the closure consists of the three
    parses, the three validations, the builder, the counter, the loop and the return - nothing else -, and
    its only arithmetic is `i += incr` (`range_counter_safe`), `count++` (`for_counter_safe`) and the two
    differences of the overflow `break`, which are evaluated only behind `incr > 0 &&` / `incr < 0 &&` and
    are true int64 differences there.  (A statement added next to the loop - such as pre-sizing the
    builder with `sb.Grow((stop-start)/incr)`, whose difference is not an int64 for a span beyond
    `MaxInt64`: `range_span_not_int64` - is a new line of `rangeClosureShape` and of `rangeArith`.) -/
theorem range_arith_safe (incr : Int) (hc : inInt64 incr = true) :
    Gen.C08.rangeClosureShape = ["start, err := strconv.Atoi(sStart(context))", "if err != nil { return ErrorNum }",
      "stop, err := strconv.Atoi(sStop(context))", "if err != nil { return ErrorNum }",
      "incr, err := strconv.Atoi(sIncr(context))", "if err != nil { return ErrorNum }",
      "if incr == 0 { return ErrorValue }", "if incr > 0 && start > stop { return ErrorValue }",
      "if incr < 0 && start < stop { return ErrorValue }", "var sb strings.Builder", "count := 0",
      "for i := start; (incr > 0 && i < stop) || (incr < 0 && i > stop); i += incr", "return sb.String()"] ∧
    Gen.C08.rangeArith = ["arith: i += incr", "arith: count++", "arith: math.MaxInt - incr", "arith: math.MinInt - incr"] ∧
    (incr > 0 → wrap64 (maxInt64 - incr) = maxInt64 - incr ∧ 0 ≤ maxInt64 - incr) ∧
    (incr < 0 → wrap64 (minInt64 - incr) = minInt64 - incr ∧ minInt64 - incr ≤ 0) := by
  rw [C11.inInt64_iff] at hc
  refine ⟨rfl, rfl, ?_, ?_⟩ <;> intro h <;> unfold wrap64 <;> unfold minInt64 maxInt64 at * <;> omega

/-- Why the number of rounds of `{@range}` cannot be computed up-front as `(stop-start)/incr`: the span of two
    int64 values that pass the validation (`start ≤ stop`, `incr > 0`) need not be an int64 - the wrapped
    difference is negative (`strings.Builder.Grow` panics on it), or, doubled, wraps back to a harmless
    small number. -/
theorem range_span_not_int64 :
    inInt64 minInt64 = true ∧ inInt64 maxInt64 = true ∧ minInt64 ≤ maxInt64 ∧
    wrap64 (maxInt64 - minInt64) = -1 ∧
    wrap64 (5000000000000000000 - (-5000000000000000000)) = -8446744073709551616 ∧
    goDiv (wrap64 (5000000000000000000 - (-5000000000000000000))) 1000000000000000000 = -8 ∧
    wrap64 (2 * wrap64 (1 - minInt64)) = 2 := by decide +kernel

/-- **Literal indices into the argument list are behind an arity check**: for every `args[k]` with a literal
    `k` in the helper library and in `Compile` (and `s.stages[0]` in `BuildKey` / `joinStages`), the arity
    checks that enclose the access (`if len(args) != 2 { return … }`, `if !isArgCountBetween(args, 1, 3)`,
    `if len(args) >= 3 { … }`, `switch len(args) { case 2: … }` - followed by the translator) establish
    `len(args) > k`. -/
theorem arg_indexes_guarded : ∀ e ∈ Gen.C08.argIndexes, e.2.1 < e.2.2 := by decide +kernel

example : ("funcsRange.go kfArrayRange", 2, 3) ∈ Gen.C08.argIndexes ∧ ("keyBuilder.go BuildKey s.stages", 0, 1) ∈ Gen.C08.argIndexes ∧
    Gen.C08.argIndexes.length = 103 :=
  ⟨List.mem_of_getElem? (i := 55) rfl, List.mem_of_getElem? (i := 101) rfl, rfl⟩

/-- **`Splitter.Next` keeps its position inside the string**: when `0 ≤ next ≤ len(S)` and `strings.Index`
    found the delimiter at `idx` of the remainder (`0 ≤ idx`, `idx + len(Delim) ≤ len(S) - next`), the slice
    `s.S[next : next+idx]` is in range and the new position `next + idx + len(Delim)` is again `≤ len(S)`,
    all sums being true int64 sums; the statements around them are pinned (the `next < 0` exit in front,
    the not-found branch that ends the iteration). -/
theorem splitter_next_safe (next idx lenDelim lenS : Int) (h0 : 0 ≤ next) (h1 : next ≤ lenS) (hS : lenS ≤ maxInt64)
    (hi : 0 ≤ idx) (hd : 0 ≤ lenDelim) (hfound : idx + lenDelim ≤ lenS - next) :
    Gen.C08.splitterNext next idx lenDelim = (next, next + idx, next + idx + lenDelim) ∧
    0 ≤ next ∧ next ≤ next + idx ∧ next + idx ≤ lenS ∧
    0 ≤ next + idx + lenDelim ∧ next + idx + lenDelim ≤ lenS ∧
    Gen.C08.splitterNextShape = ["if s.next < 0 { return \"\" }", "idx := strings.Index(s.S[s.next:], s.Delim)", "if idx < 0",
      "idx += s.next", "ret = s.S[s.next:idx]", "s.next = idx + len(s.Delim)", "return"] := by
  have e1 : wrap64 (idx + next) = next + idx := by unfold wrap64; unfold maxInt64 at hS; omega
  have e2 : wrap64 (next + idx + lenDelim) = next + idx + lenDelim := by unfold wrap64; unfold maxInt64 at hS; omega
  refine ⟨?_, h0, by omega, by omega, by omega, by omega, rfl⟩
  simp only [Gen.C08.splitterNext, e1, e2]

example : Gen.C08.splitterNext 2 3 2 = (2, 5, 7) := by decide +kernel

set_option maxRecDepth 4096 in
/-- **Every operation of the anchor files that can panic is accounted for**: the divisions and remainders by
    a non-constant, the shifts by a non-constant, the index and slice expressions, the sizing calls (`Grow`,
    `make`, `strings.Repeat`), the explicit `panic`, the unchecked type assertions and the sums / differences
    / products of two non-constant operands of keyBuilder.go, argSplitter.go, every file of the helper
    library (pkg/expressions/stdlib), the formula compiler (pkg/expressions/stdmath), contextArray.go,
    stageAnalysis.go, funcfile/stage.go and stringSplitter/splitter.go - as listed by the translator from
    /repo on every run - are exactly the lines of `siteTable`, each of which names the guard (a theorem of
    this file, or the structural reason) that makes it safe. -/
theorem panic_sites_classified :
    Gen.C08.panicSites = siteTable.map (·.1) ∧ (siteTable.all fun p => p.2 != "") = true :=
  ⟨rfl, by decide +kernel⟩

/-! ## Output sizes: what the caps bound, and the family they do not

The known finding of this property is resource exhaustion by a growing value.  The theorems below bound what IS
bounded - a single helper with a cap cannot blow up whatever its arguments are - and name the remaining family:
a loop helper (`@for`, `@reduce`) whose argument EXPRESSION is evaluated on its own previous result and returns
more than it was given. -/

/-- **`{@range}` answers at most 21 MB**: whatever its (one, two or three) argument expressions evaluate to in
    whatever context, the result is at most `21 * MAX_ITERATIONS` bytes (each of at most `MAX_ITERATIONS` elements
    is an int64 in decimal - at most 20 bytes - and a separator). -/
theorem range_output_bound (c : Ctx) (s0 s1 s2 : Stage) (out : Bytes)
    (h : (Funcs.Range.rangeStage s0 s1 s2).run c = .ok out) :
    out.length ≤ 21000000 ∧
    Funcs.Range.kfArrayRange [s1] = ok (Funcs.Range.rangeStage (Stage.lit (ascii "0")) s1 (Stage.lit (ascii "1"))) ∧
    Funcs.Range.kfArrayRange [s0, s1] = ok (Funcs.Range.rangeStage s0 s1 (Stage.lit (ascii "1"))) ∧
    Funcs.Range.kfArrayRange [s0, s1, s2] = ok (Funcs.Range.rangeStage s0 s1 s2) :=
  ⟨rangeStage_length c s0 s1 s2 out h, rfl, rfl, rfl⟩

/-- **`{repeat}` answers at most 1 MiB**: for every pattern and every parsed count the closure's answer
    (`repeat_eq_model`) is the marker or at most `maxRepeatBytes` bytes. -/
theorem repeat_output_bound (char : Bytes) (count : Int) (hl : (char.length : Int) ≤ maxInt64) :
    (repeatAns char count).length ≤ 1048576 := by
  unfold repeatAns
  split
  · rw [errorValue_length]; omega
  · rename_i hg
    split
    · simp
    · have hg' : Gen.C08.repeatGuard count char.length = false := by simpa using hg
      obtain ⟨h0, h1⟩ := (repeat_guard_exact count char.length (by omega) hl).mp hg'
      rw [repeatB_length]
      unfold Gen.C08.maxRepeatBytes at h1
      have : ((char.length * count.toNat : Nat) : Int) = count * char.length := by
        rw [Int.natCast_mul, Int.toNat_of_nonneg h0, Int.mul_comm]
      omega

/-- **`{@for}` is linear in its rounds unless the increment feeds on itself**: when the start value and every
    value the increment expression returns (in the sub-context of any previous value and round number) are at
    most `B` bytes, the result is at most `(B + 1) * (MAX_ITERATIONS + 1) + 5` bytes. -/
theorem for_output_bound (c : Ctx) (a0 cond incr : Stage) (B : Nat) (out : Bytes)
    (h0 : ∀ v, a0.run c = .ok v → v.length ≤ B)
    (hB : ∀ v i o, (incr.withSub v i).run c = .ok o → o.length ≤ B)
    (h : (Funcs.Range.forStage a0 cond incr).run c = .ok out) :
    out.length ≤ (B + 1) * (Gen.maxIterations + 1) + 5 := by
  unfold Funcs.Range.forStage at h
  rw [Comp.run_bind] at h
  split at h
  · rename_i v hv
    have := forLoop_length c cond incr B hB _ v 0 {} out (h0 v hv) (by omega) h
    simpa using this
  · cases h

/-- **The remaining family**: an increment whose value is not bounded by any `B` - it returns its own previous value
    twice - makes `{@for}` answer `2^n - 1` bytes (and `n - 1` separators) after `n` rounds: 12 rounds from one
    byte give 4106 bytes, and every further round doubles that (`{@for a "{lt {1} 40}" "{0}{0}"}` is the recorded
    out-of-memory witness; `{@reduce … "{0}{0}"}` is the same family).  The hypothesis `hB` of `for_output_bound`
    fails for this increment at every `B`. -/
theorem for_doubling_counterexample :
    (((Funcs.Range.forStage (.ret [97]) (untilRound 12) dblIncr).run ⟨fun _ => [], fun _ => []⟩).toOption.map List.length)
      = some (2 ^ 12 - 1 + 11) ∧
    (∀ B : Nat, ∃ v i o, (dblIncr.withSub v i).run ⟨fun _ => [], fun _ => []⟩ = .ok o ∧ o.length > B) := by
  refine ⟨?_, ?_⟩
  · obtain ⟨out, h, hl⟩ := forStage_doubling ⟨fun _ => [], fun _ => []⟩ [97] 12 (by decide)
    have : out.length = 2 ^ 12 - 1 + 11 := by simp at hl; omega
    rw [h, ← this]; rfl
  intro B
  refine ⟨List.replicate (B + 1) 97, [], List.replicate (B + 1) 97 ++ List.replicate (B + 1) 97, rfl, ?_⟩
  simp only [List.length_append, List.length_replicate]; omega

/-- **`{@filter}` never grows its input**: for every context, every array expression and every predicate expression
    that cannot panic, the answer has at most as many bytes as the array value (it is the array's own elements, a
    sub-list, re-joined). -/
theorem filter_output_bound (c : Ctx) (a0 a1 : Stage) (h0 : Safe a0) (h1 : Safe a1) :
    ∃ arr out, a0.run c = .ok arr ∧ (Funcs.Range.filterStage a0 a1).run c = .ok out ∧ out.length ≤ arr.length :=
  filterStage_length c a0 a1 h0 h1

/-- **`{@map}` is linear in its elements**: if every value of the mapped expression (evaluated with `{0}` = an
    element) has at most `B` bytes, the answer has fewer than `n·(B+1)` bytes, `n` = the number of elements
    (`≤ len(array) + 1`).  Together with `range_output_bound`, `repeat_output_bound`, `for_output_bound` and
    `filter_output_bound` this leaves exactly the accumulator family (`@reduce` / `@for` with an increment that
    returns its own previous value: `for_doubling_all`) without a bound. -/
theorem map_output_bound (c : Ctx) (a0 a1 : Stage) (h0 : Safe a0) (h1 : Safe a1) (B : Nat)
    (hB : ∀ v0 v1 o, a1.run (C17.subCtx c v0 v1) = .ok o → o.length ≤ B) :
    ∃ arr out, a0.run c = .ok arr ∧ (Funcs.Range.mapStage a0 a1).run c = .ok out ∧
      out.length + 1 ≤ (C17.elems arr).length * (B + 1) ∧ (C17.elems arr).length ≤ arr.length + 1 :=
  mapStage_length c a0 a1 h0 h1 B hB

/-- **`{@reduce}` answers an accumulator value**: the initial value, the first element, or the last value of the
    reducer - at most `max B (max |init| |array|)` bytes when every value of the reducer has at most `B` bytes (for
    every context, initial value, array expression and reducer that cannot panic).  The unbounded case is a reducer
    whose value grows with its own argument (`{0}{0}`), `for_doubling_all`. -/
theorem reduce_output_bound (c : Ctx) (init : Bytes) (a0 a1 : Stage) (h0 : Safe a0) (h1 : Safe a1) (B : Nat)
    (hB : ∀ v0 v1 o, a1.run (C17.subCtx c v0 v1) = .ok o → o.length ≤ B) :
    ∃ arr out, a0.run c = .ok arr ∧ (Funcs.Range.reduceStage init a0 a1).run c = .ok out ∧
      out.length ≤ max B (max init.length arr.length) :=
  reduceStage_length c init a0 a1 h0 h1 B hB

/-- non-vacuity: `{@map {0} "[{0}]"}`-like stage - the mapped value of a 3-byte-bounded element expression -/
example : ∃ arr out, (Comp.match_ 0).run ⟨fun _ => [97, 0, 98, 99], fun _ => []⟩ = .ok arr ∧
    (Funcs.Range.mapStage (Comp.match_ 0) (.ret [120, 121, 122])).run ⟨fun _ => [97, 0, 98, 99], fun _ => []⟩ = .ok out ∧
    out.length + 1 ≤ (C17.elems arr).length * (3 + 1) ∧ (C17.elems arr).length ≤ arr.length + 1 :=
  map_output_bound _ _ _ (Safe.match_ 0) (.ret _) 3 (fun _ _ o h => by
    have : o = [120, 121, 122] := by injection h with h; exact h.symm
    subst this; decide)

/-- **Doubling for every round count**: for every start value `s`, every
    `n ≤ MAX_ITERATIONS` and every context, `{@for s <until round n> "{0}{0}"}` returns, and its answer has exactly
    `|s|·(2^n − 1)` bytes of values plus `n − 1` separators – the size of the answer is exponential in a number the
    template author writes in decimal, which no per-helper cap bounds (known finding `oom-accumulator`). -/
theorem for_doubling_all (c : Ctx) (s : Bytes) (n : Nat) (hn : n ≤ Gen.maxIterations) :
    ∃ out, (Funcs.Range.forStage (.ret s) (untilRound n) dblIncr).run c = .ok out ∧
      out.length + s.length + (if 0 < n then 1 else 0) = s.length * 2 ^ n + n :=
  forStage_doubling c s n hn

example : ∃ out, (Funcs.Range.forStage (.ret [97]) (untilRound 40) dblIncr).run ⟨fun _ => [], fun _ => []⟩ = .ok out ∧
    out.length = 2 ^ 40 - 1 + 39 := by
  obtain ⟨out, h, hl⟩ := for_doubling_all ⟨fun _ => [], fun _ => []⟩ [97] 40 (by decide)
  refine ⟨out, h, ?_⟩
  simp at hl
  omega

end Rare.C08

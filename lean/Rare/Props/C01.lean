import Rare.Proofs.Batcher
import Rare.Proofs.Pipeline
import Rare.Model.C01
import Rare.Gen.Tables
import Rare.Gen.Skeleton
import Rare.Model.PipelineSkeleton
import Rare.Proofs.PipelineTrace
import Rare.Proofs.C01Classify
import Rare.Proofs.C01Trim
import Rare.Proofs.C01Summary
import Rare.Proofs.C01Flags
import Rare.Proofs.C01Unbuffered
import Rare.Proofs.C01Chunk
import Rare.Proofs.C01Colour
import Rare.Proofs.C01Readers
import Rare.Proofs.C01Order
import Rare.Proofs.C01FilterLine
import Rare.Proofs.C01Batches
import Rare.Model.C01Source
import Rare.Gen.C01
/-!
# C01 — every input line is read exactly once and classified exactly once

* `batches_concat`: the batching loops (plain and timer-flushed, any timer behaviour, any batch size)
  neither lose, duplicate nor reorder lines, never send an empty batch, and `BatchStart + idx`
  is the true 1-based line number.
* `pipeline_invariant` … `pipeline_final`: for the goroutine/channel protocol of
  `OpenFilesToChan`/`OpenReaderToChan` → `extractor.New` → consumer, for **every** interleaving,
  every number of readers/workers ≥ 1 and every channel capacity ≥ 1: line conservation at every
  reachable state, no deadlock, termination, no send on a closed channel, and in every terminal state
  the consumer's multiset of matches and the three counters equal the sequential evaluation.
* `context_src_line`, `classification_spec`, `worker_line_number`, `pipeline_final_classified`,
  `mem_reference_lines`: the class and key of a line are `processLineSync`'s evaluation of the configured ignore
  and extract expressions in the line's OWN context (its source name, its 1-based number, its bytes and
  groups), and the terminal state of every execution is the sequential evaluation of exactly that.
* `truthy_spec`: `Truthy` = `strings.TrimSpace(s) != ""` mirrored byte for byte, for every byte string.
* `trace_*`: the event log of a real run is a path of the transition system, with the class of every line
  checked against the configured classifier.
-/
namespace Rare.C01
open Rare.Pipeline Rare.Batcher

/-- Batching is a partition of the line sequence into non-empty consecutive runs, and the line
    number attached to the `idx`-th line of a batch is its 1-based position in the input.
    `ls` pairs every line with the flush-timer oracle's answer at that line. -/
theorem batches_concat {α : Type} (batchSize : Nat) (ls : List (α × Bool)) :
    (run batchSize ls).flatMap (·.lines) = ls.map (·.1) ∧
    (∀ b ∈ run batchSize ls, b.lines ≠ []) ∧
    (run batchSize ls).flatMap lineNumbers = (ls.map (·.1)).zipIdx 1 :=
  ⟨run_lines batchSize ls, (run_spec batchSize ls).2, (run_spec batchSize ls).1⟩

/-- Without a timer (the file batcher) every batch except possibly the last has exactly
    `batchSize` lines — stated as: no batch exceeds `max batchSize 1`. -/
theorem batches_bounded {α : Type} (batchSize : Nat) (ls : List α) :
    ∀ b ∈ run batchSize (ls.map fun l => (l, false)), b.lines.length ≤ max batchSize 1 := by
  suffices h : ∀ (ls : List α) (s : LoopSt α), s.cur.length < max batchSize 1 →
      (∀ b ∈ s.out, b.lines.length ≤ max batchSize 1) →
      ∀ b ∈ finish ((ls.map fun l => (l, false)).foldl (step batchSize) s), b.lines.length ≤ max batchSize 1 by
    exact h ls ⟨[], [], 1⟩ (by simp; omega) (by simp)
  intro ls
  induction ls with
  | nil =>
    intro s hc ho b hb
    simp only [List.map_nil, List.foldl_nil, finish] at hb
    split at hb
    · simp at hb; rcases hb with hb | rfl
      · exact ho b hb
      · simp; omega
    · exact ho b hb
  | cons x xs ih =>
    intro s hc ho
    simp only [List.map_cons, List.foldl_cons]
    apply ih
    · unfold step; dsimp only; split <;> simp at * <;> omega
    · unfold step; dsimp only
      split
      · intro b hb; simp at hb
        rcases hb with hb | rfl
        · exact ho b hb
        · simp; omega
      · exact ho

variable {α : Type} [DecidableEq α]
set_option linter.unusedSectionVars false

/-- Conservation at every reachable state, for every schedule: every input line is in exactly one
    place (unread, in the batch channel, held by a worker, or processed), every processed matched
    line is in exactly one place (worker's match batch, match channel, or consumed), the three
    counters equal the class counts of the processed lines, a closed channel has no remaining
    senders, and the channels respect their capacities. -/
theorem pipeline_invariant (cls : α → Cls) (R B K W : Nat) (inputs : List (List (List α))) {s : St α}
    (hr : Reach cls R B K (init inputs W) s) :
    Inv cls B K (inputs.flatMap List.flatten) s :=
  inv_reach (inv_init cls B K inputs W) hr

/-- No deadlock: until the consumer has seen the end of the stream some goroutine can always move. -/
theorem pipeline_progress (cls : α → Cls) {R B K : Nat} (hR : 1 ≤ R) (hB : 1 ≤ B) (hK : 1 ≤ K) (s : St α)
    (hd : s.consDone = false) : ∃ s', Step cls R B K s s' :=
  progress hR hB hK hd

/-- Termination: every step strictly decreases a natural-number measure, so every execution is
    finite (at most `measure (init …)` steps). -/
theorem pipeline_terminates (cls : α → Cls) {R B K : Nat} {s s' : St α} (hs : Step cls R B K s s') :
    measure s' < measure s :=
  step_measure hs

/-- No send on a closed channel: once `c` is closed every reader goroutine has returned, once
    `readChan` is closed every worker has returned (so no goroutine that could send exists). -/
theorem pipeline_no_send_on_closed (cls : α → Cls) (R B K W : Nat) (inputs : List (List (List α))) {s : St α}
    (hr : Reach cls R B K (init inputs W) s) :
    (s.cClosed = true → s.srcs.all SrcSt.isDone = true) ∧
    (s.rcClosed = true → s.workers.all WSt.isExited = true) :=
  let h := pipeline_invariant cls R B K W inputs hr
  ⟨h.cclosed, h.rcclosed⟩

/-- In every terminal state, whatever the schedule, batch size, reader/worker counts and channel
    capacities were: the consumer holds exactly the multiset of matched lines of a sequential
    evaluation, and `R = M + I + U` with each counter equal to its true class count. -/
theorem pipeline_final (cls : α → Cls) (R B K W : Nat) (hW : 1 ≤ W) (inputs : List (List (List α))) {s : St α}
    (hr : Reach cls R B K (init inputs W) s) (hd : s.consDone = true) :
    let all := inputs.flatMap List.flatten
    s.consumed.Perm (all.filter (isMatched cls)) ∧
    s.nRead = all.length ∧
    s.nMatched = (all.filter (isMatched cls)).length ∧
    s.nIgnored = (all.filter (isIgnored cls)).length ∧
    s.nRead = s.nMatched + s.nIgnored + (all.filter fun x => cls x = .unmatched).length := by
  have hinv := pipeline_invariant cls R B K W inputs hr
  have hlen := reach_workers_length hr
  have hne : s.workers ≠ [] := by
    intro h; rw [h] at hlen; simp [init] at hlen; omega
  obtain ⟨h1, h2, h3, h4⟩ := final_state hinv hne hd
  refine ⟨List.perm_iff_count.mpr h1, h2, h3, h4, ?_⟩
  rw [h2, h3, h4]
  exact length_eq_class_counts cls _

/-- The same, stated for byte streams: the sources' bytes are split by the C04 specification,
    batched by the real batching loop with ANY batch size and ANY flush-timer behaviour, and pushed
    through the pipeline under ANY schedule; the outcome is the sequential one. -/
theorem pipeline_final_bytes (cls : Line → Cls) (R B K W batchSize : Nat) (hW : 1 ≤ W)
    (datas : List Bytes) (timer : Nat → Nat → Bool) {s : St Line}
    (hr : Reach cls R B K
      (init ((datas.zipIdx 0).map fun p =>
        (run batchSize ((linesOf p.2 p.1).map fun l => (l, timer p.2 l.num))).map (·.lines)) W) s)
    (hd : s.consDone = true) :
    s.consumed.Perm (seqMatches cls (allLines datas)) ∧
    (⟨s.nRead, s.nMatched, s.nIgnored⟩ : Totals) = seqTotals cls (allLines datas) := by
  have := pipeline_final cls R B K W hW _ hr hd
  simp only [batched_allLines] at this
  exact ⟨this.1, by simp [seqTotals, this.2.1, this.2.2.1, this.2.2.2.1]⟩

/-! ## Classification: a function of the line's own source, number, bytes and groups

`Model/C01Classify.lean`: `processLine e l` mirrors `processLineSync` for an extractor configuration `e`
(matcher, name table, compiled ignore expressions, compiled extract expression, source names); the
expressions are stages of the shared expression model evaluated against the `SliceSpaceExpressionContext`
of the line (`C02.getMatch` / `C02.getKey`: groups, `{src}`, `{line}`, `{@}`, named groups). -/

/-- The context the expressions of line `l` are evaluated in answers `{src}` with the name of `l`'s own
    source and `{line}` with `l`'s own number (decimal). -/
theorem context_src_line (e : Extractor) (l : Line) :
    ctxGetKey (ctxOf e l) (ascii "src") = .ok (e.sourceName l.src) ∧
    ctxGetKey (ctxOf e l) (ascii "line") = .ok (itoa l.num) := by
  have h1 : (ascii "line" = ascii "src") = False := by
    have : ascii "line" ≠ ascii "src" := by decide +kernel
    simp [this]
  constructor
  · simp [ctxGetKey, C02.getKey, ctxOf]
  · simp only [ctxGetKey, C02.getKey, ctxOf, h1, if_false, if_true]

/-- The JSON views `{.}`, `{#}`, `{.#}` inside an ignore or extract expression are property C16's
    `json(named, numbered)` of the line's OWN matcher result and bytes (named groups in sorted order, then the
    numbered groups), so expressions using them are classified by `processLine` like any other. -/
theorem context_json_keys (e : Extractor) (l : Line) :
    ctxGetKey (ctxOf e l) (ascii ".") = C16.json true false e.names (e.matcher l.text) l.text ∧
    ctxGetKey (ctxOf e l) (ascii "#") = C16.json false true e.names (e.matcher l.text) l.text ∧
    ctxGetKey (ctxOf e l) (ascii ".#") = C16.json true true e.names (e.matcher l.text) l.text := by
  have a1 : ascii "." = [0x2e] := by decide +kernel
  have a2 : ascii "#" = [0x23] := by decide +kernel
  have a3 : ascii ".#" = [0x2e, 0x23] := by decide +kernel
  have a4 : ascii "#." = [0x23, 0x2e] := by decide +kernel
  have s1 : ascii "src" = [115, 114, 99] := by decide +kernel
  have s2 : ascii "line" = [108, 105, 110, 101] := by decide +kernel
  refine ⟨?_, ?_, ?_⟩ <;>
    simp [ctxGetKey, C02.getKey, ctxOf, C16.getKeyJson, a1, a2, a3, a4, s1, s2]

/-- Non-vacuity: with the harness matcher with named groups, `{.#}` of the line `k:v` is the JSON object of the
    three named groups (sorted) followed by the numbered ones, and an ignore expression over it is evaluated. -/
example :
    (ctxGetKey (ctxOf { exampleExtractor with matcher := harnessIndicesN, names := harnessNamesN } ⟨0, 1, ascii "k:v"⟩) (ascii ".#")).toOption
      = some (ascii "{\"all\": \"k:v\", \"key\": \"k\", \"val\": \"v\", \"0\": \"k:v\", \"1\": \"v\", \"2\": \"k\"}") := by
  decide +kernel

/-- The classification clause of the property, for every configuration and every line: the line is
    unmatched iff the matcher finds nothing; otherwise it is ignored iff SOME ignore expression is truthy
    for THAT line (its own groups, source name and line number) or the extracted key is empty, and matched
    with exactly that key otherwise – `classify` is the specification (`Model/C01.lean`).
    Hypotheses: the evaluations do not panic (`rs`, `key` are their results). -/
theorem classification_spec (e : Extractor) (l : Line) (rs : List Bytes) (key : Bytes)
    (hig : evalAll (ctxOf e l) (e.ignore.getD []) = .ok rs)
    (hkey : evalStage (ctxOf e l) e.extract = .ok key) :
    clsOf e l = classify (decide ((e.matcher l.text).length > 0)) rs key ∧
    (clsOf e l = .matched → processLine e l = .ok (.matched key) ∧ keyOf e l = key ∧ key ≠ []) := by
  obtain ⟨o, ho, hc, hk⟩ := processLine_classify e l rs key hig hkey
  refine ⟨by rw [clsOf_of_ok ho, hc], fun hm => ?_⟩
  rw [clsOf_of_ok ho] at hm
  have := hk hm
  subst this
  exact ⟨ho, keyOf_of_matched ho, matched_key_nonempty ho⟩

/-- Non-vacuity of `classification_spec`, and the reason the line number must be the line's own: with the
    ignore expression `{eq {line} 1}` and extract `{src}:{0}` (`exampleExtractor`), the SAME bytes are ignored
    as line 1 and matched as line 2, with the key built from the line's own source name. -/
example :
    (processLine exampleExtractor ⟨0, 1, ascii "k:v"⟩).toOption = some .ignored ∧
    (processLine exampleExtractor ⟨1, 2, ascii "k:v"⟩).toOption = some (.matched (ascii "b.log:k:v")) ∧
    (evalAll (ctxOf exampleExtractor ⟨1, 2, ascii "k:v"⟩) (exampleExtractor.ignore.getD [])).toOption = some [[]] := by
  decide +kernel

/-- `IgnoreMatch` returns at the FIRST truthy result: a line whose first ignore expression is truthy is ignored
    whatever the later expressions and the extract expression would do (they are not evaluated – not even when
    they would panic).  Conversely an evaluation that does panic is not recovered anywhere in the pipeline
    (`processLine = .error`: the worker goroutine's panic ends the process); `NoPanic` is property C08's. -/
theorem ignore_first_truthy (e : Extractor) (l : Line) (st : Expr.Stage) (rest : List Expr.Stage) (r : Bytes)
    (hm : (e.matcher l.text).length > 0) (hig : e.ignore = some (st :: rest))
    (hr : evalStage (ctxOf e l) st = .ok r) (ht : Expr.truthy r = true) :
    processLine e l = .ok .ignored := by
  unfold processLine
  simp only [hm, if_true, hig, ignoreMatch, List.length_cons, Nat.add_eq_zero_iff, Nat.succ_ne_self, and_false,
    if_false, ignoreLoop, hr, ht]

/-- Non-vacuity: first expression truthy on line 1, second one a look-up that panics (a slice beyond the line):
    ignored; the same set in the other order panics. -/
example :
    let boom : Expr.Stage := Expr.Comp.panic "boom"
    let first : Expr.Stage := Expr.Comp.getKey (ascii "line") fun v => .ret (if v = ascii "1" then ascii "1" else [])
    (processLine { exampleExtractor with ignore := some [first, boom] } ⟨0, 1, ascii "k:v"⟩).toOption = some .ignored ∧
    (processLine { exampleExtractor with ignore := some [boom, first] } ⟨0, 1, ascii "k:v"⟩).toOption = none := by
  decide +kernel

/-- What a worker computes as the line number of the `idx`-th line of a batch (`BatchStart + idx`) is the
    number the reference gives that line, for every batch size and timer behaviour, and the line is the
    `number`-th segment of its own source (C02's `lineNumber_true`, here for the lines of source `i`). -/
theorem worker_line_number (batchSize i : Nat) (data : Bytes) (timer : Nat → Bool) :
    ∀ b ∈ run batchSize ((linesOf i data).map fun l => (l, timer l.num)), ∀ p ∈ lineNumbers b,
      p.2 = p.1.num ∧ p.1.src = i ∧ (C04.splitLines data)[p.2 - 1]? = some p.1.text := by
  intro b hb p hp
  have hmem : p ∈ (linesOf i data).zipIdx 1 := by
    have := List.mem_flatMap.mpr ⟨b, hb, hp⟩
    rw [(run_spec _ _).1, List.map_map] at this
    exact (List.map_id (linesOf i data)) ▸ this
  have hnum := zipIdx_linesOf hmem
  have hl : p.1 ∈ linesOf i data := by
    have := List.mem_map_of_mem (f := Prod.fst) hmem
    rwa [List.zipIdx_map_fst] at this
  obtain ⟨h1, _, h3⟩ := mem_linesOf hl
  exact ⟨hnum, h1, by rw [hnum]; exact h3⟩

/-- `pipeline_final` for the configured extractor: in every terminal state – whatever the batch size,
    flush-timer behaviour, reader/worker counts, channel capacities and schedule – the consumer holds
    exactly the multiset of lines that the sequential evaluation matches WHEN EVERY LINE IS CLASSIFIED IN ITS
    OWN CONTEXT (`processLine e l`: `l`'s own source name, its 1-based position in its own source – see
    `mem_reference_lines` –, its bytes and groups), each with the key of that evaluation, and the three
    counters are the sequential class counts.  Hypothesis `NoPanic`: no expression evaluation panics. -/
theorem pipeline_final_classified (e : Extractor) (R B K W batchSize : Nat) (hW : 1 ≤ W)
    (datas : List Bytes) (timer : Nat → Nat → Bool) (hnp : NoPanic e (allLines datas)) {s : St Line}
    (hr : Reach (clsOf e) R B K
      (init ((datas.zipIdx 0).map fun p =>
        (run batchSize ((linesOf p.2 p.1).map fun l => (l, timer p.2 l.num))).map (·.lines)) W) s)
    (hd : s.consDone = true) :
    s.consumed.Perm ((allLines datas).filter (outcomeIs e .matched)) ∧
    (∀ l ∈ s.consumed, processLine e l = .ok (.matched (keyOf e l)) ∧ keyOf e l ≠ []) ∧
    s.nRead = (allLines datas).length ∧
    s.nMatched = ((allLines datas).filter (outcomeIs e .matched)).length ∧
    s.nIgnored = ((allLines datas).filter (outcomeIs e .ignored)).length ∧
    s.nRead = s.nMatched + s.nIgnored + ((allLines datas).filter (outcomeIs e .unmatched)).length := by
  obtain ⟨hperm, htot⟩ := pipeline_final_bytes (clsOf e) R B K W batchSize hW datas timer hr hd
  -- the class filters, restated over `processLine`
  have hC := fun c => decide_clsOf_eq hnp c
  have hfM := filter_matched_eq hnp
  have hfI := filter_ignored_eq hnp
  simp only [seqMatches, seqTotals, Totals.mk.injEq] at hperm htot
  rw [hfM] at hperm
  refine ⟨hperm, ?_, htot.1, by rw [htot.2.1, hfM], by rw [htot.2.2, hfI], ?_⟩
  · intro l hl
    have hmem := (hperm.mem_iff).mp hl
    simp only [List.mem_filter] at hmem
    have hcl : clsOf e l = .matched := by
      have := hC .matched l hmem.1
      rw [hmem.2] at this
      simpa using this
    have := matched_of_clsOf hcl
    exact ⟨this, matched_key_nonempty this⟩
  · rw [htot.1, htot.2.1, htot.2.2, hfM, hfI]
    exact class_counts e _ hnp

/-- The lines of the sequential reference are exactly "segment `k` of `splitLines` of source `i`, numbered
    `k + 1`": the source index and the line number a line is classified with are its own. -/
theorem mem_reference_lines {datas : List Bytes} {l : Line} (h : l ∈ allLines datas) :
    ∃ data, datas[l.src]? = some data ∧ 1 ≤ l.num ∧ (C04.splitLines data)[l.num - 1]? = some l.text :=
  mem_allLines h

/-- `expressions.Truthy(s)` = `strings.TrimSpace(s) != ""`, for EVERY byte string (valid UTF-8 or not).
    `trimSpace` (Model/C01Trim.lean) mirrors Go's `strings.TrimSpace` loop by loop (ASCII fast path,
    `TrimLeftFunc` over `utf8.DecodeRune`, `TrimRightFunc` over `utf8.DecodeLastRune`, `unicode.IsSpace` = the
    Latin-1 switch + the `White_Space` table; compared byte for byte with the real function by the `trim`
    op).  The `truthy` that the model's classifier and the expression functions use
    (i) is truthy exactly when that trimmed string is not empty, and
    (ii) is truthy exactly when some rune of `[]rune(s)` – an invalid byte counts as U+FFFD – is not
    white space.  So an ignore expression whose result is made only of white space (any of the 25
    `White_Space` runes) does not ignore the line, and one with any other rune or any invalid byte does. -/
theorem truthy_spec (s : Bytes) :
    (Expr.truthy s = true ↔ trimSpace s ≠ []) ∧
    (Expr.truthy s = true ↔ ∃ r ∈ C20.decodeUtf8 s, isSpaceR r = false) := by
  have h1 := truthy_iff_not_allSp s
  refine ⟨?_, ?_⟩
  · rw [h1, ← trimSpace_empty_iff]
  · rw [h1]
    unfold AllSp
    constructor
    · intro h
      apply Classical.byContradiction
      intro hn
      apply h
      intro r hr
      cases hsp : isSpaceR r with
      | true => rfl
      | false => exact absurd ⟨r, hr, hsp⟩ hn
    · rintro ⟨r, hr, hsp⟩ h
      rw [h r hr] at hsp; cases hsp

/-- Non-vacuity / the interesting values: NBSP + EM SPACE + tab is blank (falsy, trimmed to nothing); a
    ZERO WIDTH SPACE (U+200B, not `White_Space`) is truthy; a lone continuation byte `0xA0` is truthy
    (U+FFFD); `TrimSpace` of `" \u00a0a\u3000"` is `a`. -/
example :
    Expr.truthy [0xC2, 0xA0, 0xE2, 0x80, 0x83, 9] = false ∧ trimSpace [0xC2, 0xA0, 0xE2, 0x80, 0x83, 9] = [] ∧
    Expr.truthy [0xE2, 0x80, 0x8B] = true ∧ Expr.truthy [0xA0] = true ∧
    trimSpace [32, 0xC2, 0xA0, 97, 0xE3, 0x80, 0x80] = [97] := by decide +kernel

/-- The channel capacity and constants the model was instantiated with are the ones in the source. -/
theorem constants_from_source : Gen.readChanCap = 5 ∧ Gen.readAheadBufferSize = 131072 ∧
    Gen.autoFlushTimeout = 250000000 := by decide

/-- The goroutine/channel skeleton regenerated from /repo is the one the transition system models
    (sends, receives, closes, WaitGroup and counter operations of the readers, batching loops,
    workers and closers, in source order). -/
theorem skeleton_matches_source :
    Gen.Skeleton.openFilesToChan = PipelineSkeleton.openFilesToChan ∧
    Gen.Skeleton.openReaderToChan = PipelineSkeleton.openReaderToChan ∧
    Gen.Skeleton.syncReaderToBatcher = PipelineSkeleton.syncReaderToBatcher ∧
    Gen.Skeleton.syncReaderToBatcherWithTimeFlush = PipelineSkeleton.syncReaderToBatcher ∧
    Gen.Skeleton.batcherClose = PipelineSkeleton.batcherClose ∧
    Gen.Skeleton.processLineSync = PipelineSkeleton.processLineSync ∧
    Gen.Skeleton.asyncWorker = PipelineSkeleton.asyncWorker ∧
    Gen.Skeleton.extractorNew = PipelineSkeleton.extractorNew := by
  refine ⟨rfl, rfl, rfl, rfl, rfl, rfl, rfl, rfl⟩

/-- Every state can run to completion: from any state some execution reaches the consumer's end of
    stream (with `pipeline_terminates`: every maximal execution does).  In particular the hypotheses
    of `pipeline_final` are satisfiable for every input and configuration. -/
theorem pipeline_reaches_end {β : Type} (cls : β → Cls) {R B K : Nat} (hR : 1 ≤ R) (hB : 1 ≤ B) (hK : 1 ≤ K) :
    ∀ (n : Nat) (s0 s : St β), Reach cls R B K s0 s → measure s ≤ n →
      ∃ s', Reach cls R B K s0 s' ∧ s'.consDone = true := by
  intro n s0
  exact exists_done measure (·.consDone) (Reach cls R B K s0)
    (fun s hr hd => let ⟨s', hs⟩ := progress (cls := cls) hR hB hK hd; ⟨s', .step hr hs, step_measure hs⟩) n

/-- Non-vacuity of `pipeline_final`: a terminal state is reachable for a concrete input with two
    sources, three workers, and it carries the sequential result. -/
example : ∃ s, Reach (fun n : Nat => if n % 2 = 0 then Cls.matched else Cls.unmatched) 2 1 5
    (init [[[2, 3], [4]], [[6]]] 3) s ∧ s.consDone = true ∧ s.consumed.Perm [2, 4, 6] := by
  obtain ⟨s, hr, hd⟩ := pipeline_reaches_end (fun n : Nat => if n % 2 = 0 then Cls.matched else Cls.unmatched)
    (R := 2) (B := 1) (K := 5) (by decide) (by decide) (by decide) _ _ _ .refl (Nat.le_refl _)
  exact ⟨s, hr, hd, (pipeline_final _ 2 1 5 3 (by decide) _ hr hd).1⟩

/-! ## The summary line `Matched: M / R (Ignored: I)` (cmd/helpers/summary.go)

`Model/C01Summary.lean`: `extractorSummary fmt col matched read ignored errors parts` mirrors
`FWriteExtractorSummary` (with `FWriteMatchSummary`, `humanize.Hui` = `humanizeInt[uint64]` / `FormatUint` under
`--noformat`, `color.Wrapi` / `color.Wrapf`); `readSummary` is the specification side: the three numbers a reader
of the line takes it to report. -/

/-- How a counter is printed: without the separators it is the decimal representation of the counter
    (`strconv.FormatUint`), with `--noformat` it is exactly that, and otherwise the digits are grouped in
    threes from the right – for every uint64. -/
theorem summary_number_format (n : Nat) (h : n < 2 ^ 64) :
    C11.Spec.stripCommas (hui true n) = natDigits n ∧ hui false n = natDigits n ∧
    C11.Spec.groupedInThrees (hui true n) = true ∧ C17.decVal (natDigits n) = n := by
  have h' : n < 10 ^ 20 := Nat.lt_trans h (by decide)
  exact ⟨hui_strip true n h', rfl, hui_grouped n h', C17.decVal_natDigits n⟩

/-- The line shows the three counters: reading the number after `Matched: `, the number after ` / ` and the number
    of the ` (Ignored: …)` part (0 when the part is absent – it is absent exactly when the counter is 0) gives back
    `(matched, read, ignored)`, with or without thousands separators and whatever the error count. -/
theorem summary_shows_counters (fmt : Bool) (m r i e : Nat) (hm : m < 2 ^ 64) (hr : r < 2 ^ 64) (hi : i < 2 ^ 64) :
    readSummary (extractorSummary fmt false m r i e []) = some (m, r, i) :=
  readSummary_extractorSummary fmt m r i e (Nat.lt_trans hm (by decide)) (Nat.lt_trans hr (by decide))
    (Nat.lt_trans hi (by decide))

/-- Shape and boundary values: 0, 99/100 (the `FormatInt` shortcut), 999/1000 (first separator), seven digits,
    the largest uint64, `--noformat`, the ignored part only for a non-zero counter, the errors part, additional
    parts, and the colour codes. -/
example :
    summaryLine true false 0 0 0 = ascii "Matched: 0 / 0\n" ∧
    summaryLine true false 99 100 0 = ascii "Matched: 99 / 100\n" ∧
    summaryLine true false 999 1000 1 = ascii "Matched: 999 / 1,000 (Ignored: 1)\n" ∧
    summaryLine true false 1000 1234567 234567 = ascii "Matched: 1,000 / 1,234,567 (Ignored: 234,567)\n" ∧
    summaryLine false false 1000 1234567 234567 = ascii "Matched: 1000 / 1234567 (Ignored: 234567)\n" ∧
    hui true 18446744073709551615 = ascii "18,446,744,073,709,551,615" ∧
    extractorSummary true false 5 7 2 3 [ascii "(R: 1)"] = ascii "Matched: 5 / 7 (R: 1) (Ignored: 2) (Errors: 3)" ∧
    extractorSummary true true 5 1000 2 0 [] =
      ascii "Matched: \x1b[32;1m5\x1b[0m / \x1b[37;1m1,000\x1b[0m (Ignored: \x1b[31m2\x1b[0m)" := by
  decide +kernel

/-- The colour codes are transparent: what a terminal displays of the coloured line (`color.Enabled`: every
    `ESC … m` sequence is not shown) is byte for byte the uncoloured line – for all counters, with or without
    separators, with the ignored / errors parts and any additional parts that carry no `ESC` themselves. -/
theorem summary_colours_transparent (fmt : Bool) (m r i e : Nat) (parts : List Bytes)
    (hp : ∀ p ∈ parts, (27 : UInt8) ∉ p) :
    stripAnsi (extractorSummary fmt true m r i e parts) = extractorSummary fmt false m r i e parts ∧
    stripAnsi (extractorSummary fmt false m r i e parts) = extractorSummary fmt false m r i e parts :=
  ⟨stripAnsi_extractorSummary fmt m r i e parts hp, stripAnsi_extractorSummary_plain fmt m r i e parts hp⟩

/-- `summary_shows_counters` without the restriction to `--nocolor`: the displayed line shows the three counters
    whether colours are on or off. -/
theorem summary_shows_counters_any_colour (fmt col : Bool) (m r i e : Nat) (hm : m < 2 ^ 64) (hr : r < 2 ^ 64)
    (hi : i < 2 ^ 64) :
    readSummary (stripAnsi (extractorSummary fmt col m r i e [])) = some (m, r, i) := by
  have h := summary_colours_transparent fmt m r i e [] (by simp)
  cases col
  · rw [h.2]; exact summary_shows_counters fmt m r i e hm hr hi
  · rw [h.1]; exact summary_shows_counters fmt m r i e hm hr hi

/-- Non-vacuity: the coloured line of the example above is displayed as the plain one. -/
example : stripAnsi (extractorSummary true true 5 1000 2 3 [ascii "(R: 1)"]) =
    ascii "Matched: 5 / 1,000 (R: 1) (Ignored: 2) (Errors: 3)" := by decide +kernel

/-- The summary printed after ANY complete run is the summary of the sequential evaluation: the line written from
    the three counters of a terminal state reads back as (matched, read, ignored) of `seqTotals`, and
    `read = matched + ignored + unmatched`.  The counters are uint64: fewer than 2^64 lines. -/
theorem pipeline_final_summary (cls : Line → Cls) (R B K W batchSize : Nat) (hW : 1 ≤ W)
    (datas : List Bytes) (timer : Nat → Nat → Bool) (hsize : (allLines datas).length < 2 ^ 64) {s : St Line}
    (hr : Reach cls R B K
      (init ((datas.zipIdx 0).map fun p =>
        (run batchSize ((linesOf p.2 p.1).map fun l => (l, timer p.2 l.num))).map (·.lines)) W) s)
    (hd : s.consDone = true) (fmt : Bool) :
    let t := seqTotals cls (allLines datas)
    summaryLine fmt false s.nMatched s.nRead s.nIgnored = summaryLine fmt false t.matched t.read t.ignored ∧
    readSummary (extractorSummary fmt false s.nMatched s.nRead s.nIgnored 0 []) = some (t.matched, t.read, t.ignored) ∧
    t.read = t.matched + t.ignored + ((allLines datas).filter fun l => cls l = .unmatched).length := by
  obtain ⟨_, htot⟩ := pipeline_final_bytes cls R B K W batchSize hW datas timer hr hd
  simp only [seqTotals, Totals.mk.injEq] at htot
  obtain ⟨h1, h2, h3⟩ := htot
  have hm : ((allLines datas).filter (isMatched cls)).length ≤ (allLines datas).length := List.length_filter_le _ _
  have hi : ((allLines datas).filter (isIgnored cls)).length ≤ (allLines datas).length := List.length_filter_le _ _
  simp only [seqTotals]
  refine ⟨by rw [h1, h2, h3], ?_, ?_⟩
  · rw [h1, h2, h3]
    exact summary_shows_counters fmt _ _ _ 0 (by omega) (by omega) (by omega)
  · exact length_eq_class_counts cls _

/-! ## From the command line to the parameters of the transition system (cmd/helpers/extractorBuilder.go)

`Model/C01Flags.lean`: `configure f input` mirrors `BuildBatcherFromArguments` + `BuildExtractorFromArgumentsEx` +
the constructors as far as the four tuning flags go: the usage guards (interpreted from the table that
`flag_plumbing_matches_source` proves equal to the source's), which value becomes which parameter, the worker
fallback. -/

/-- A flag set is accepted exactly when `--batch >= 1`, `--batch-buffer >= 0` and `--readers >= 1`; `--workers` is
    never rejected. -/
theorem flags_accepted_iff (f : Flags) (input : Input) :
    (∃ cfg, configure f input = .ok cfg) ↔ (1 ≤ f.batch ∧ 0 ≤ f.batchBuffer ∧ 1 ≤ f.readers) := by
  unfold configure
  rw [checkGuards_usageGuards]
  by_cases h1 : f.batch < 1
  · simp only [h1, if_true]; constructor
    · rintro ⟨_, h⟩; cases h
    · intro h; omega
  · by_cases h2 : f.batchBuffer < 0
    · simp only [h1, h2, if_true, if_false]; constructor
      · rintro ⟨_, h⟩; cases h
      · intro h; omega
    · by_cases h3 : f.readers < 1
      · simp only [h1, h2, h3, if_true, if_false]; constructor
        · rintro ⟨_, h⟩; cases h
        · intro h; omega
      · simp only [h1, h2, h3, if_false]
        exact ⟨fun _ => by omega, fun _ => ⟨_, rfl⟩⟩

/-- Every rejection is an invalid-usage exit (code 2), with the message of the FIRST guard that fires. -/
theorem flags_rejected (f : Flags) (input : Input) (u : Usage) (h : configure f input = .error u) :
    u.code = 2 ∧
    (f.batch < 1 → u.msg = fmtMsg "Batch size must be >= 1, is %d" f.batch) ∧
    (1 ≤ f.batch → f.batchBuffer < 0 → u.msg = fmtMsg "Batch buffer must be >= 0, is %d" f.batchBuffer) ∧
    (1 ≤ f.batch → 0 ≤ f.batchBuffer → u.msg = "Must have at least 1 reader") := by
  unfold configure at h
  rw [checkGuards_usageGuards] at h
  by_cases h1 : f.batch < 1
  · simp only [h1, if_true] at h
    injection h with h; subst h
    exact ⟨rfl, fun _ => rfl, fun _ => by omega, fun _ => by omega⟩
  · by_cases h2 : f.batchBuffer < 0
    · simp only [h1, h2, if_true, if_false] at h
      injection h with h; subst h
      exact ⟨rfl, fun _ => by omega, fun _ _ => rfl, fun _ _ => by omega⟩
    · by_cases h3 : f.readers < 1
      · simp only [h1, h2, h3, if_true, if_false] at h
        injection h with h; subst h
        exact ⟨rfl, fun _ => by omega, fun _ _ => by omega, fun _ _ => rfl⟩
      · simp only [h1, h2, h3, if_false] at h
        cases h

/-- Which value goes where, for every accepted flag set: the batch size of the batching loop is `--batch` (≥ 1),
    the capacity of the batch channel is `--batch-buffer`, the semaphore holds `--readers` slots for files and
    stdin is a single reader running the time-flushing loop, `readChan` has capacity 5, and the number of workers
    is `--workers` when that is at least 1 and 2 otherwise – never 0. -/
theorem flags_config (f : Flags) (input : Input) (cfg : PipeCfg) (h : configure f input = .ok cfg) :
    (cfg.batch : Int) = f.batch ∧ 1 ≤ cfg.batch ∧ (cfg.B : Int) = f.batchBuffer ∧ cfg.K = 5 ∧
    1 ≤ cfg.W ∧ (1 ≤ f.workers → (cfg.W : Int) = f.workers) ∧ (f.workers ≤ 0 → cfg.W = 2) ∧
    1 ≤ cfg.R ∧ (input = .files → (cfg.R : Int) = f.readers ∧ cfg.timed = false) ∧
    (input = .stdin → cfg.R = 1 ∧ cfg.timed = true) := by
  have hacc := (flags_accepted_iff f input).mp ⟨cfg, h⟩
  obtain ⟨h1, h2, h3⟩ := hacc
  unfold configure at h
  split at h
  · cases h
  · injection h with h
    subst h
    simp only [getWorkerCount]
    refine ⟨by omega, by omega, by omega, (by first | rfl | trivial), ?_, ?_, ?_, ?_, ?_, ?_⟩
    · split <;> omega
    · intro hw; have : ¬ f.workers ≤ 0 := by omega
      simp only [this, if_false]; omega
    · intro hw; simp [hw]
    · cases input <;> simp <;> omega
    · intro hi; subst hi; simp; omega
    · intro hi; subst hi; simp

/-- The defaults are accepted on every machine: batch 1000, three readers, `NumCPU/2+1` workers and twice as
    many buffered batches. -/
theorem flags_default_accepted (numCPU : Nat) (input : Input) :
    ∃ cfg, configure (Flags.default numCPU) input = .ok cfg ∧ cfg.batch = 1000 ∧ cfg.W = numCPU / 2 + 1 ∧
      cfg.B = 2 * (numCPU / 2 + 1) ∧ cfg.K = 5 := by
  have hacc : 1 ≤ (Flags.default numCPU).batch ∧ 0 ≤ (Flags.default numCPU).batchBuffer ∧ 1 ≤ (Flags.default numCPU).readers := by
    simp only [Flags.default, workerCount]; omega
  obtain ⟨cfg, h⟩ := (flags_accepted_iff _ input).mpr hacc
  obtain ⟨hb, _, hB, hK, _, hW, _⟩ := flags_config _ input cfg h
  refine ⟨cfg, h, ?_, ?_, ?_, hK⟩
  · simp only [Flags.default] at hb; omega
  · have := hW (by simp only [Flags.default, workerCount]; omega)
    simp only [Flags.default, workerCount] at this; omega
  · simp only [Flags.default, workerCount] at hB; omega

/-- Boundary values: `--batch 0`, `--batch-buffer -1`, `--readers 0` are usage errors (exit code 2, the real
    messages); `--batch-buffer 0` (an unbuffered channel) and `--workers 0` / `-3` (two workers) are accepted. -/
example :
    configure ⟨0, 4, 2, 3⟩ .files = .error ⟨2, "Batch size must be >= 1, is 0"⟩ ∧
    configure ⟨-7, -1, 2, 0⟩ .files = .error ⟨2, "Batch size must be >= 1, is -7"⟩ ∧
    configure ⟨1, -1, 2, 0⟩ .stdin = .error ⟨2, "Batch buffer must be >= 0, is -1"⟩ ∧
    configure ⟨1, 0, 2, 0⟩ .files = .error ⟨2, "Must have at least 1 reader"⟩ ∧
    configure ⟨1, 0, 0, 1⟩ .files = .ok ⟨1, 1, 0, 2, 5, false⟩ ∧
    configure ⟨7, 3, -3, 4⟩ .files = .ok ⟨7, 4, 3, 2, 5, false⟩ ∧
    configure ⟨7, 3, 6, 4⟩ .stdin = .ok ⟨7, 1, 3, 6, 5, true⟩ := by
  refine ⟨rfl, rfl, rfl, rfl, rfl, rfl, rfl⟩

/-- The end-to-end statement for the command line: for EVERY accepted flag set with a buffered batch channel
    (`--batch-buffer >= 1`), files or stdin, every extractor configuration and every input, (i) some execution of
    the pipeline with the parameters the flags configure reaches the end of the stream, and (ii) every execution
    that does ends with the sequential outcome: the consumer holds exactly the lines matched in their own
    context, with their own keys, and the counters are the sequential class counts. -/
theorem cli_final (f : Flags) (input : Input) (cfg : PipeCfg) (hc : configure f input = .ok cfg)
    (hB : 1 ≤ f.batchBuffer) (e : Extractor) (datas : List Bytes) (timer : Nat → Nat → Bool)
    (hnp : NoPanic e (allLines datas)) :
    let s0 := init ((datas.zipIdx 0).map fun p =>
        (run cfg.batch ((linesOf p.2 p.1).map fun l => (l, timer p.2 l.num))).map (·.lines)) cfg.W
    (∃ s, Reach (clsOf e) cfg.R cfg.B cfg.K s0 s ∧ s.consDone = true) ∧
    ∀ s, Reach (clsOf e) cfg.R cfg.B cfg.K s0 s → s.consDone = true →
      s.consumed.Perm ((allLines datas).filter (outcomeIs e .matched)) ∧
      (∀ l ∈ s.consumed, processLine e l = .ok (.matched (keyOf e l)) ∧ keyOf e l ≠ []) ∧
      s.nRead = (allLines datas).length ∧
      s.nMatched = ((allLines datas).filter (outcomeIs e .matched)).length ∧
      s.nIgnored = ((allLines datas).filter (outcomeIs e .ignored)).length := by
  obtain ⟨_, _, hBe, hK, hW, _, _, hR, _, _⟩ := flags_config f input cfg hc
  intro s0
  refine ⟨?_, ?_⟩
  · exact pipeline_reaches_end (clsOf e) hR (by omega) (by omega) _ s0 s0 .refl (Nat.le_refl _)
  · intro s hr hd
    obtain ⟨h1, h2, h3, h4, h5, _⟩ := pipeline_final_classified e cfg.R cfg.B cfg.K cfg.W cfg.batch hW datas timer hnp hr hd
    exact ⟨h1, h2, h3, h4, h5⟩

/-! ## An unbuffered batch channel (`--batch-buffer 0`, accepted by the command line)

`Model/C01Unbuffered.lean`: with `make(chan InputBatch, 0)` a batch goes from a reader to a worker in one
rendezvous (`Step0.handoff`); every other transition is the buffered system's. -/

/-- Every execution with an unbuffered batch channel is an execution of the buffered system with capacity 1 (a
    hand-over = a send immediately followed by the receive), so every reachable state satisfies the conservation
    invariant; the channel is empty in every state. -/
theorem pipeline_unbuffered_refines (cls : α → Cls) (R K W : Nat) (inputs : List (List (List α))) {s : St α}
    (h : Reach0 cls R K (init inputs W) s) :
    s.c = [] ∧ Reach cls R 1 K (init inputs W) s ∧ Inv cls 1 K (inputs.flatMap List.flatten) s := by
  obtain ⟨hc, hr⟩ := reach0_reach (by simp [init]) h
  exact ⟨hc, hr, pipeline_invariant cls R 1 K W inputs hr⟩

/-- No deadlock and termination with an unbuffered batch channel: while the consumer has not seen the end of the
    stream some goroutine (or a reader/worker pair) can move, and every move decreases the measure. -/
theorem pipeline_unbuffered_progress (cls : α → Cls) {R K : Nat} (hR : 1 ≤ R) (hK : 1 ≤ K) (W : Nat)
    (inputs : List (List (List α))) {s : St α} (h : Reach0 cls R K (init inputs W) s) (hd : s.consDone = false) :
    ∃ s', Step0 cls R K s s' ∧ measure s' < measure s := by
  have hc := (reach0_reach (by simp [init]) h).1
  obtain ⟨s', hs⟩ := progress0 (cls := cls) hR hK hc hd
  exact ⟨s', hs, step0_measure hs hc⟩

/-- `pipeline_final` for the unbuffered batch channel: in every terminal state the consumer holds exactly the
    sequential multiset of matches and the counters are the sequential class counts. -/
theorem pipeline_unbuffered_final (cls : α → Cls) (R K W : Nat) (hW : 1 ≤ W) (inputs : List (List (List α))) {s : St α}
    (h : Reach0 cls R K (init inputs W) s) (hd : s.consDone = true) :
    let all := inputs.flatMap List.flatten
    s.consumed.Perm (all.filter (isMatched cls)) ∧
    s.nRead = all.length ∧
    s.nMatched = (all.filter (isMatched cls)).length ∧
    s.nIgnored = (all.filter (isIgnored cls)).length ∧
    s.nRead = s.nMatched + s.nIgnored + (all.filter fun x => cls x = .unmatched).length :=
  pipeline_final cls R 1 K W hW inputs (reach0_reach (by simp [init]) h).2 hd

/-- Some execution with an unbuffered batch channel reaches the end of the stream (with
    `pipeline_unbuffered_progress`: every maximal one does). -/
theorem pipeline_unbuffered_reaches_end {β : Type} (cls : β → Cls) {R K : Nat} (hR : 1 ≤ R) (hK : 1 ≤ K) (W : Nat)
    (inputs : List (List (List β))) :
    ∀ (n : Nat) (s : St β), Reach0 cls R K (init inputs W) s → measure s ≤ n →
      ∃ s', Reach0 cls R K (init inputs W) s' ∧ s'.consDone = true := by
  refine exists_done measure (·.consDone) (Reach0 cls R K (init inputs W)) fun s hr hd => ?_
  have hc := (reach0_reach (by simp [init]) hr).1
  obtain ⟨s', hs⟩ := progress0 (cls := cls) hR hK hc hd
  exact ⟨s', .step hr hs, step0_measure hs hc⟩

/-- Non-vacuity: two sources, two workers, unbuffered: a terminal state exists and carries the sequential result. -/
example : ∃ s, Reach0 (fun n : Nat => if n % 2 = 0 then Cls.matched else Cls.unmatched) 2 5
    (init [[[2, 3], [4]], [[6]]] 2) s ∧ s.consDone = true ∧ s.consumed.Perm [2, 4, 6] := by
  obtain ⟨s, hr, hd⟩ := pipeline_unbuffered_reaches_end (fun n : Nat => if n % 2 = 0 then Cls.matched else Cls.unmatched)
    (R := 2) (K := 5) (by decide) (by decide) 2 [[[2, 3], [4]], [[6]]] _ _ .refl (Nat.le_refl _)
  exact ⟨s, hr, hd, (pipeline_unbuffered_final _ 2 5 2 (by decide) _ hr hd).1⟩

/-- `cli_final` for the remaining accepted value `--batch-buffer 0`: some execution reaches the end of the stream
    and every execution that does ends with the sequential outcome.  Together with `cli_final`: for EVERY flag set
    the command line accepts. -/
theorem cli_final_unbuffered (f : Flags) (input : Input) (cfg : PipeCfg) (hc : configure f input = .ok cfg)
    (hB : f.batchBuffer = 0) (e : Extractor) (datas : List Bytes) (timer : Nat → Nat → Bool)
    (hnp : NoPanic e (allLines datas)) :
    let s0 := init ((datas.zipIdx 0).map fun p =>
        (run cfg.batch ((linesOf p.2 p.1).map fun l => (l, timer p.2 l.num))).map (·.lines)) cfg.W
    cfg.B = 0 ∧ (∃ s, Reach0 (clsOf e) cfg.R cfg.K s0 s ∧ s.consDone = true) ∧
    ∀ s, Reach0 (clsOf e) cfg.R cfg.K s0 s → s.consDone = true →
      s.consumed.Perm ((allLines datas).filter (outcomeIs e .matched)) ∧
      (∀ l ∈ s.consumed, processLine e l = .ok (.matched (keyOf e l)) ∧ keyOf e l ≠ []) ∧
      s.nRead = (allLines datas).length ∧
      s.nMatched = ((allLines datas).filter (outcomeIs e .matched)).length ∧
      s.nIgnored = ((allLines datas).filter (outcomeIs e .ignored)).length := by
  obtain ⟨_, _, hBe, hK, hW, _, _, hR, _, _⟩ := flags_config f input cfg hc
  intro s0
  refine ⟨by omega, ?_, ?_⟩
  · exact pipeline_unbuffered_reaches_end (clsOf e) hR (by omega) cfg.W _ _ s0 .refl (Nat.le_refl _)
  · intro s hr hd
    have hr1 := (reach0_reach (by simp [s0, init]) hr).2
    obtain ⟨h1, h2, h3, h4, h5, _⟩ := pipeline_final_classified e cfg.R 1 cfg.K cfg.W cfg.batch hW datas timer hnp hr1 hd
    exact ⟨h1, h2, h3, h4, h5⟩

/-! ## Read chunking, read errors and the exit code (C04's scanner in front of the pipeline)

`Model/C01Chunk.lean`: a source is the byte stream behind an `io.Reader` that delivers it in chunks of any size, with
stalls, and with `io.EOF` or another error at any position (C04's scripted reader), or a file that cannot be opened.
`scannedInputs` = the batches the reader goroutines cut from what the REAL scanner configuration
(`readahead.NewImmediate(reader, ReadAheadBufferSize)`, C04's model) hands them. -/

/-- The property's "for every read chunking", with the seam to C04 closed: whatever the chunking / stall / fault
    script of every source's reader, batch size, flush-timer behaviour, R/B/K/W and schedule, a terminal state
    carries the sequential evaluation of the bytes the readers DELIVERED; those are a prefix of every stream, and
    the whole stream when the source could be opened and no `Read` reported an error before the end – so then the
    outcome does not depend on the chunking at all. -/
theorem pipeline_final_chunked (cls : Line → Cls) (R B K W batchSize : Nat) (hW : 1 ≤ W)
    (srcs : List SrcIn) (timer : Nat → Nat → Bool) {s : St Line}
    (hr : Reach cls R B K (init (scannedInputs batchSize srcs timer) W) s) (hd : s.consDone = true) :
    let delivered := srcs.map deliveredOf
    s.consumed.Perm (seqMatches cls (allLines delivered)) ∧
    (⟨s.nRead, s.nMatched, s.nIgnored⟩ : Totals) = seqTotals cls (allLines delivered) ∧
    (∀ src ∈ srcs, deliveredOf src <+: src.data) ∧
    ((∀ src ∈ srcs, src.opened = true ∧ ∀ st ∈ src.script, st.err = none) → delivered = srcs.map (·.data)) := by
  intro delivered
  rw [scannedInputs_eq] at hr
  obtain ⟨h1, h2⟩ := pipeline_final_bytes cls R B K W batchSize hW delivered timer hr hd
  refine ⟨h1, h2, fun src _ => deliveredOf_prefix src, fun h => ?_⟩
  apply List.map_congr_left
  intro src hs
  exact deliveredOf_full src (h src hs).1 (h src hs).2

/-- Non-vacuity and the interesting cases: a reader that delivers `a\nb\nc` in chunks of 1, 0, 2 bytes and then
    fails (the bytes read so far are kept: lines `a`, `b`, one error); the same stream chunked without a fault (all
    three lines, no error); a directory given as a file (first `Read` fails: no line, one error); a missing file. -/
example :
    (scanSrc ⟨true, ascii "a\nb\nc", [⟨1, none⟩, ⟨0, none⟩, ⟨2, none⟩, ⟨1, some .fail⟩]⟩).tokens = [ascii "a", ascii "b"] ∧
    (scanSrc ⟨true, ascii "a\nb\nc", [⟨1, none⟩, ⟨0, none⟩, ⟨2, none⟩, ⟨1, some .fail⟩]⟩).errs = 1 ∧
    (scanSrc ⟨true, ascii "a\nb\nc", [⟨1, none⟩, ⟨0, none⟩, ⟨2, none⟩]⟩).tokens = [ascii "a", ascii "b", ascii "c"] ∧
    (scanSrc ⟨true, ascii "a\nb\nc", [⟨1, none⟩, ⟨0, none⟩, ⟨2, none⟩]⟩).errs = 0 ∧
    (scanSrc ⟨true, [], [⟨0, some .fail⟩]⟩).tokens = [] ∧ (scanSrc ⟨true, [], [⟨0, some .fail⟩]⟩).errs = 1 ∧
    (scanSrc ⟨false, ascii "zz", []⟩).tokens = [] ∧ (scanSrc ⟨false, ascii "zz", []⟩).errs = 1 := by
  decide +kernel

/-- `Batcher.ReadErrors()` after the run: at most one per source (the scanner's error callback fires at most once,
    C04 `imm_error_once`; a failed open ends the goroutine), none when every file opens and no `Read` fails, at
    least one as soon as one file cannot be opened. -/
theorem read_errors_spec (srcs : List SrcIn) :
    readErrors srcs ≤ srcs.length ∧
    ((∀ src ∈ srcs, src.opened = true ∧ ∀ st ∈ src.script, st.err ≠ some .fail) → readErrors srcs = 0) ∧
    ((∃ src ∈ srcs, src.opened = false) → 0 < readErrors srcs) := by
  unfold readErrors
  induction srcs with
  | nil => simp
  | cons a rest ih =>
    obtain ⟨ih1, ih2, ih3⟩ := ih
    have ha := srcErrs_le_one a
    simp only [List.map_cons, List.sum_cons, List.length_cons, List.mem_cons, forall_eq_or_imp, exists_eq_or_imp]
    refine ⟨by omega, ?_, ?_⟩
    · rintro ⟨⟨ho, hs⟩, hr⟩
      rw [srcErrs_zero a ho hs, ih2 hr]
    · rintro (ho | hr)
      · rw [srcErrs_closed a ho]; omega
      · have := ih3 hr; omega

/-- `DetermineErrorState` (the guard table it is interpreted from is the source's, `exit_and_read_path_match_source`):
    read errors win (exit 2), then parse errors of the aggregator (exit 2; `none` = no aggregator, `rare filter`),
    then "no line matched" (exit 1, empty message); otherwise `nil` (exit 0). -/
theorem exit_code_spec (re : Nat) (pe : Option Nat) (m : Nat) :
    determineErrorState re pe m =
      if re > 0 then some ("Read errors", 2)
      else if pe.getD 0 > 0 then some ("Parse errors", 2)
      else if m = 0 then some ("", 1) else none := by
  simp only [determineErrorState, exitGuards, runExitGuards, exitCond]
  by_cases h1 : re > 0
  · simp [h1, exitCodeOf]
  · by_cases h3 : m = 0 <;> cases pe with
    | none => simp [h1, h3, exitCodeOf]
    | some p => by_cases h2 : p > 0 <;> simp [h1, h2, h3, exitCodeOf]

/-- The exit code of `rare filter` after ANY complete run is a function of the inputs alone: 2 when some source had
    a read / open error, else 1 when the sequential evaluation of the delivered bytes matches no line, else 0 – for
    every chunking, batch size, timer behaviour, R/B/K/W and schedule (`s.nMatched` is the counter
    `DetermineErrorState` reads). -/
theorem cli_exit_code (e : Extractor) (R B K W batchSize : Nat) (hW : 1 ≤ W)
    (srcs : List SrcIn) (timer : Nat → Nat → Bool) (hnp : NoPanic e (allLines (srcs.map deliveredOf))) {s : St Line}
    (hr : Reach (clsOf e) R B K (init (scannedInputs batchSize srcs timer) W) s) (hd : s.consDone = true) :
    let ms := (allLines (srcs.map deliveredOf)).filter (outcomeIs e .matched)
    s.consumed.Perm ms ∧ s.nMatched = ms.length ∧
    exitCode (readErrors srcs) none s.nMatched =
      (if readErrors srcs > 0 then 2 else if ms = [] then 1 else 0) := by
  intro ms
  rw [scannedInputs_eq] at hr
  obtain ⟨h1, _, _, h4, _, _⟩ := pipeline_final_classified e R B K W batchSize hW _ timer hnp hr hd
  refine ⟨h1, h4, ?_⟩
  simp only [exitCode, exit_code_spec, Option.getD_none]
  rw [h4]
  change (match (if readErrors srcs > 0 then some ("Read errors", (2:Int)) else if 0 > 0 then some ("Parse errors", 2)
      else if ms.length = 0 then some ("", 1) else none) with | none => (0:Int) | some (_, c) => c) = if readErrors srcs > 0 then 2 else if ms = [] then 1 else 0
  generalize ms = l
  by_cases hre : readErrors srcs > 0
  · simp [hre]
  · cases l <;> simp [hre]

/-- Boundary values of the exit code: errors beat everything, a parse error beats "no data", no aggregator. -/
example :
    determineErrorState 1 (some 5) 0 = some ("Read errors", 2) ∧ determineErrorState 0 (some 1) 7 = some ("Parse errors", 2) ∧
    determineErrorState 0 (some 0) 0 = some ("", 1) ∧ determineErrorState 0 none 0 = some ("", 1) ∧
    determineErrorState 0 none 1 = none ∧ exitCode 0 none 3 = 0 ∧ exitCode 2 none 3 = 2 := by decide +kernel

/-- **Everything a user observes of a complete run is a function of the delivered input alone.**  For EVERY command
    line the usage guards accept (`--batch-buffer >= 1`: buffered system; `= 0`: rendezvous system), files or stdin,
    every extractor configuration, every behaviour of every source's reader (chunking, stalls, faults, failed open),
    every flush-timer behaviour: some execution reaches the end of the stream, and in EVERY execution that does
    (every interleaving of readers, workers and the consumer) the consumer has received exactly the sequentially
    matched lines, the stderr line `Matched: M / R (Ignored: I)` is byte for byte the line of the sequential totals,
    and the exit code is 2 / 1 / 0 for "a source failed" / "nothing matched" / otherwise. -/
theorem cli_run_observables (f : Flags) (input : Input) (cfg : PipeCfg) (hc : configure f input = .ok cfg)
    (e : Extractor) (srcs : List SrcIn) (timer : Nat → Nat → Bool)
    (hnp : NoPanic e (allLines (srcs.map deliveredOf))) (fmt : Bool) :
    let s0 := init (scannedInputs cfg.batch srcs timer) cfg.W
    let ls := allLines (srcs.map deliveredOf)
    let ms := ls.filter (outcomeIs e .matched)
    let ig := ls.filter (outcomeIs e .ignored)
    let Final : St Line → Prop := fun s =>
      s.consumed.Perm ms ∧
      summaryLine fmt false s.nMatched s.nRead s.nIgnored = summaryLine fmt false ms.length ls.length ig.length ∧
      exitCode (readErrors srcs) none s.nMatched = (if readErrors srcs > 0 then 2 else if ms = [] then 1 else 0)
    (1 ≤ f.batchBuffer →
      (∃ s, Reach (clsOf e) cfg.R cfg.B cfg.K s0 s ∧ s.consDone = true) ∧
      ∀ s, Reach (clsOf e) cfg.R cfg.B cfg.K s0 s → s.consDone = true → Final s) ∧
    (f.batchBuffer = 0 →
      (∃ s, Reach0 (clsOf e) cfg.R cfg.K s0 s ∧ s.consDone = true) ∧
      ∀ s, Reach0 (clsOf e) cfg.R cfg.K s0 s → s.consDone = true → Final s) := by
  obtain ⟨_, _, hBe, hK, hW, _, _, hR, _, _⟩ := flags_config f input cfg hc
  intro s0 ls ms ig Final
  have key : ∀ B s, Reach (clsOf e) cfg.R B cfg.K s0 s → s.consDone = true → Final s := by
    intro B s hr hd
    obtain ⟨h1, h2, h3⟩ := cli_exit_code e cfg.R B cfg.K cfg.W cfg.batch hW srcs timer hnp hr hd
    have hr' := hr
    simp only [s0] at hr'
    rw [scannedInputs_eq] at hr'
    obtain ⟨_, _, g3, g4, g5, _⟩ := pipeline_final_classified e cfg.R B cfg.K cfg.W cfg.batch hW _ timer hnp hr' hd
    exact ⟨h1, by rw [g3, g4, g5], h3⟩
  refine ⟨fun hB => ⟨?_, fun s hr hd => key _ s hr hd⟩, fun hB => ⟨?_, fun s hr hd => ?_⟩⟩
  · exact pipeline_reaches_end (clsOf e) hR (by omega) (by omega) _ s0 s0 .refl (Nat.le_refl _)
  · exact pipeline_unbuffered_reaches_end (clsOf e) hR (by omega) cfg.W _ _ s0 .refl (Nat.le_refl _)
  · exact key 1 s (reach0_reach (by simp [s0, init]) hr).2 hd

/-! ## Reader concurrency (`--readers`) -/

/-- In every reachable state at most `R` reader goroutines are running (sources `active`): the semaphore bound of
    `OpenFilesToChan`, for every schedule. -/
theorem pipeline_reader_bound (cls : α → Cls) (R B K W : Nat) (inputs : List (List (List α))) {s : St α}
    (hr : Reach cls R B K (init inputs W) s) : activeCount s ≤ R :=
  activeCount_reach hr (by rw [activeCount_init]; omega)

/-- … and the bound is attained: a state with `min R n` readers running at the same time is reachable (the spawner
    starts goroutines until the semaphore is full or the file names run out) – so `--readers` is exactly the number
    of files read concurrently when there are enough files (the `rdopen` op observes this number on the real code). -/
theorem pipeline_readers_saturate (cls : α → Cls) (R B K W : Nat) (inputs : List (List (List α))) :
    ∃ s, Reach cls R B K (init inputs W) s ∧ activeCount s = min R inputs.length := by
  refine ⟨started inputs W (min R inputs.length), started_reach cls R B K W inputs _ (Nat.min_le_left _ _) (Nat.min_le_right _ _), ?_⟩
  rw [activeCount_started]; omega

/-! ## Arrival order (`--workers 1`) -/

/-- **One worker keeps every source's order.**  With `--workers 1` – for every number of readers, batch size, channel
    capacities and schedule – the lines selected by any predicate `p` whose lines all live in ONE source `i0` reach
    the consumer in their input order: at every reachable state what the consumer has of them is a prefix of the
    sequential list of matches, and at the end it is that list.  (Lines of different sources may interleave.) -/
theorem pipeline_single_worker_order (cls : α → Cls) (R B K : Nat) (inputs : List (List (List α))) (p : α → Bool) (i0 : Nat)
    (hp : ∀ (j : Nat) bs, j ≠ i0 → inputs[j]? = some bs → ∀ x ∈ bs.flatten, p x = false) {s : St α}
    (hr : Reach cls R B K (init inputs 1) s) :
    s.consumed.filter p <+: ((inputs.flatMap List.flatten).filter (isMatched cls)).filter p ∧
    (s.consDone = true → s.consumed.filter p = ((inputs.flatMap List.flatten).filter (isMatched cls)).filter p) := by
  obtain ⟨_, _, ho⟩ := order_reach cls p hr (by simp [init]) (othersClean_init p i0 inputs 1 hp)
  rw [order0_init] at ho
  have hinv := pipeline_invariant cls R B K 1 inputs hr
  have hcm : ∀ y ∈ s.consumed, isMatched cls y = true := by
    intro y hy
    have h1 := hinv.mats y
    have h2 : 0 < s.consumed.count y := List.count_pos_iff.mpr hy
    have h3 : 0 < (s.processed.filter (isMatched cls)).count y := by omega
    have := List.count_pos_iff.mp h3
    exact (List.mem_filter.mp this).2
  have hsel : s.consumed.filter (sel cls p) = s.consumed.filter p := by
    apply List.filter_congr
    intro y hy
    simp [sel, hcm y hy]
  have hall : (inputs.flatMap List.flatten).filter (sel cls p) = ((inputs.flatMap List.flatten).filter (isMatched cls)).filter p := by
    rw [List.filter_filter]
    apply List.filter_congr
    intro y _
    simp [sel, Bool.and_comm]
  have hpre : s.consumed.filter p <+: ((inputs.flatMap List.flatten).filter (isMatched cls)).filter p := by
    rw [← hall, ← ho, order0, List.filter_append, hsel]
    exact List.prefix_append _ _
  refine ⟨hpre, fun hd => ?_⟩
  have hperm := (pipeline_final cls R B K 1 (by omega) inputs hr hd).1
  exact hpre.eq_of_length (hperm.filter p).length_eq

/-- … for byte inputs: with one worker the matches of file `i` are emitted in the order of the file's lines (what
    `rare filter --workers 1` prints per file is in line order), whatever `--readers`, `--batch`, `--batch-buffer`,
    the flush timer and the schedule; with a single input the whole output is in input order. -/
theorem single_worker_file_order (cls : Line → Cls) (R B K batchSize : Nat) (datas : List Bytes)
    (timer : Nat → Nat → Bool) (i : Nat) {s : St Line}
    (hr : Reach cls R B K
      (init ((datas.zipIdx 0).map fun p =>
        (run batchSize ((linesOf p.2 p.1).map fun l => (l, timer p.2 l.num))).map (·.lines)) 1) s) :
    s.consumed.filter (fun l => l.src == i) <+: (seqMatches cls (allLines datas)).filter (fun l => l.src == i) ∧
    (s.consDone = true →
      s.consumed.filter (fun l => l.src == i) = (seqMatches cls (allLines datas)).filter (fun l => l.src == i)) := by
  have h := pipeline_single_worker_order cls R B K _ (fun l : Line => l.src == i) i ?_ hr
  · rwa [batched_allLines] at h
  · intro j bs hj hbs x hx
    simp only [List.getElem?_map, Option.map_eq_some_iff] at hbs
    obtain ⟨p, hp, rfl⟩ := hbs
    rw [run_flatten] at hx
    have hsrc := (mem_linesOf hx).1
    have hp2 : p.2 = j := by
      rw [List.getElem?_zipIdx] at hp
      cases hd : datas[j]? with
      | none => simp [hd] at hp
      | some d => simp [hd] at hp; rw [← hp]
    have : x.src ≠ i := by rw [hsrc, hp2]; exact hj
    simpa using this

/-- What travels on the match channel, for ANY number of workers, readers, capacities and ANY schedule: every batch
    waiting on `ReadChan()` at any reachable state is non-empty and is exactly the matched lines, IN ORDER, of ONE
    input batch (`b.filter matched` for a batch `b` of some source) - workers may overtake each other
    (`two_workers_reorder_counterexample`), but a delivered batch never mixes lines of two input batches and never
    reorders or drops matched lines inside one; and a busy worker's `matchBatch` so far, followed by the matches
    among the lines it still has to process, is the matched part of the batch it is walking. -/
theorem pipeline_match_batches {α : Type} (cls : α → Cls) (R B K W : Nat) (inputs : List (List (List α))) (s : St α)
    (hr : Reach cls R B K (init inputs W) s) :
    (∀ mb ∈ s.rc, mb ≠ [] ∧ ∃ src ∈ inputs, ∃ b ∈ src, mb = b.filter (isMatched cls)) ∧
    (∀ (j : Nat) (todo acc : List α), s.workers[j]? = some (WSt.busy todo acc) →
      ∃ src ∈ inputs, ∃ b ∈ src, acc ++ todo.filter (isMatched cls) = b.filter (isMatched cls)) := by
  have hi := batchInv_reach cls inputs W hr
  constructor
  · intro mb hmb
    obtain ⟨h1, b, hb, he⟩ := hi.rc mb hmb
    obtain ⟨src, hsrc, hbs⟩ := List.mem_flatten.mp hb
    exact ⟨h1, src, hsrc, b, hbs, he⟩
  · intro j todo acc hj
    obtain ⟨b, hb, he⟩ := hi.workers j todo acc hj
    obtain ⟨src, hsrc, hbs⟩ := List.mem_flatten.mp hb
    exact ⟨src, hsrc, b, hbs, he⟩

/-- non-vacuity of `pipeline_match_batches`: a reachable state (two workers, the second has just sent) with a batch
    waiting on the match channel while the other worker is still inside its batch; line 3 is not matched. -/
example : ∃ s, Reach (fun n : Nat => if n = 3 then Cls.unmatched else Cls.matched) 1 2 5 (init [[[1, 3], [3, 2, 4]]] 2) s ∧
    s.rc = [[2, 4]] ∧ s.workers[0]? = some (WSt.busy [3] [1]) := by
  have h : applyAll (fun n : Nat => if n = 3 then Cls.unmatched else Cls.matched) 1 2 5 (init [[[1, 3], [3, 2, 4]]] 2)
      [.start 0, .send 0, .send 0, .wrecv 0, .wrecv 1, .wproc 1, .wproc 1, .wproc 1, .wproc 0, .wsend 1] =
      some { srcs := [.active []], c := [], cClosed := false, workers := [.busy [3] [1], .idle], rc := [[2, 4]], rcClosed := false,
             consumed := [], consDone := false, processed := [3, 2, 4, 1], nRead := 4, nMatched := 3, nIgnored := 0 } := by
    rfl
  exact ⟨_, (applyAll_lpath _ _ _ h).reach .refl, rfl, rfl⟩

/-- With two workers the order is NOT preserved: one source, two batches `[1]`, `[2]`, everything matched – the
    second worker can overtake the first, and the consumer receives `2` before `1`. -/
theorem two_workers_reorder_counterexample :
    ∃ s, Reach (fun _ : Nat => Cls.matched) 1 2 5 (init [[[1], [2]]] 2) s ∧ s.consDone = true ∧ s.consumed = [2, 1] := by
  have h : applyAll (fun _ : Nat => Cls.matched) 1 2 5 (init [[[1], [2]]] 2)
      [.start 0, .send 0, .send 0, .finish 0, .closeC, .wrecv 0, .wrecv 1, .wproc 1, .wsend 1, .wproc 0, .wsend 0,
       .crecv, .crecv, .wexit 0, .wexit 1, .closeRC, .cdone] =
      some { srcs := [.done], c := [], cClosed := true, workers := [.exited, .exited], rc := [], rcClosed := true,
             consumed := [2, 1], consDone := true, processed := [2, 1], nRead := 2, nMatched := 2, nIgnored := 0 } := by
    rfl
  exact ⟨_, (applyAll_lpath _ _ _ h).reach .refl, rfl, rfl⟩

/-- Non-vacuity of `pipeline_single_worker_order`: two sources, one worker, every line of source 1 (the even
    numbers) selected. -/
example : ∀ (j : Nat) bs, j ≠ 1 → ([[[1, 3], [5]], [[2], [4, 6]]] : List (List (List Nat)))[j]? = some bs →
    ∀ x ∈ bs.flatten, (fun n : Nat => n % 2 == 0) x = false := by
  intro j bs hj hbs x hx
  match j, hj with
  | 0, _ => simp at hbs; subst hbs; simp at hx; rcases hx with rfl | rfl | rfl <;> rfl
  | j + 2, _ => simp at hbs

/-! ## `rare filter --line`: the source and number printed in front of a match (Model/C01FilterLine.lean) -/

/-- `rare filter --line` prints `"<source> <number>: "` in front of every match.  For EVERY matched line of the
    sequential reference (any inputs, any extractor configuration), source names without a space, colours off: the
    printed line reads back as exactly (name of the line's OWN source, its own number, its key) whatever bytes the
    key contains, and that number is the 1-based position of the line's text in its source's `splitLines` - the
    prefix a user sees points at the line that matched.  (`hnum`: `LineNumber` is a uint64.)  The pipeline
    theorems (`pipeline_final_classified`, `worker_line_number`) say that the matches the consumer receives carry
    exactly these fields; the `filtern … l` op compares the printed bytes with the real command. -/
theorem filter_line_prefix (names : Nat → Bytes) (hnames : ∀ i, ∀ c ∈ names i, c ≠ 32)
    (e : Extractor) (datas : List Bytes) (l : Line)
    (h : l ∈ seqMatches (clsOf e) (allLines datas)) (hnum : l.num < 2 ^ 64) :
    readLinePrefix (filterLine true false (names l.src) l.num (keyOf e l)) = some (names l.src, l.num, keyOf e l) ∧
    ∃ data, datas[l.src]? = some data ∧ 1 ≤ l.num ∧ (C04.splitLines data)[l.num - 1]? = some l.text := by
  refine ⟨readLinePrefix_filterLine _ _ _ (hnames l.src) (by omega), ?_⟩
  exact mem_allLines (List.mem_filter.mp h).1

/-- The boundary of `filter_line_prefix`: a file NAME containing a space makes the prefix ambiguous - line 1 of a
    file called `a 7: b` prints exactly like line 7 of a file called `a` whose match starts with `b 1: `. -/
theorem filter_line_prefix_space_counterexample :
    readLinePrefix (filterLine true false (ascii "a 7: b") 1 (ascii "k")) = some (ascii "a", 7, ascii "b 1: k") := by
  decide +kernel

/-- the hypotheses of `filter_line_prefix` are satisfiable (second line of the second file), and the coloured bytes -/
example : (⟨1, 2, ascii "k:v"⟩ : Line) ∈ seqMatches (clsOf exampleExtractor) (allLines [ascii "a\n", ascii "x\nk:v\n"]) := by
  decide +kernel

example : filterLine true true (ascii "f") 12 (ascii "k") =
    [27] ++ ascii "[32;1mf" ++ [27] ++ ascii "[0m " ++ [27] ++ ascii "[33;1m12" ++ [27] ++ ascii "[0m: k" := by decide +kernel

/-! ## The source the models were written against (translator tie, `harness/extract/c01.go`) -/

/-- Every statement (with its conditions, in source order) of the functions the classification, summary and
    plumbing models mirror is the one the models were written against (`Model/C01Source.lean`): in
    `processLineSync` the context's `linePtr`, `indices`, `source`, `lineNum` are assigned before
    `IgnoreMatch(expContext)`, which is evaluated before `BuildKey(expContext)`; `IgnoreMatch` returns at the first
    truthy result; `Truthy` is `strings.TrimSpace(s) != ""`; `asyncWorker` sends the matches of ONE input batch,
    in order, iff there is at least one, and does nothing else between two batches (the counters move line by line
    inside `processLineSync`, there is no per-worker tally to publish); `New` makes `readChan` with capacity 5, starts
    `getWorkerCount()` workers on the same channel and closes `readChan` after `wg.Wait()`. -/
theorem source_statements_match :
    Gen.C01.stmts_processLineSync = Source.stmts_processLineSync ∧
    Gen.C01.stmts_ignoreMatch = Source.stmts_ignoreMatch ∧
    Gen.C01.stmts_newIgnoreExpressions = Source.stmts_newIgnoreExpressions ∧
    Gen.C01.stmts_truthy = Source.stmts_truthy ∧
    Gen.C01.stmts_getWorkerCount = Source.stmts_getWorkerCount ∧
    Gen.C01.stmts_buildBatcherFromArguments = Source.stmts_buildBatcherFromArguments ∧
    Gen.C01.stmts_buildExtractorFromArgumentsEx = Source.stmts_buildExtractorFromArgumentsEx ∧
    Gen.C01.stmts_newBatcher = Source.stmts_newBatcher ∧
    Gen.C01.stmts_fWriteMatchSummary = Source.stmts_fWriteMatchSummary ∧
    Gen.C01.stmts_fWriteExtractorSummary = Source.stmts_fWriteExtractorSummary ∧
    Gen.C01.stmts_writeExtractorSummary = Source.stmts_writeExtractorSummary ∧
    Gen.C01.stmts_hui = Source.stmts_hui ∧
    Gen.C01.stmts_humanizeInt = Source.stmts_humanizeInt ∧
    Gen.C01.stmts_colorWrap = Source.stmts_colorWrap ∧
    Gen.C01.stmts_colorWrapi = Source.stmts_colorWrapi ∧
    Gen.C01.stmts_colorWrapf = Source.stmts_colorWrapf ∧
    Gen.C01.stmts_filterFunction = Source.stmts_filterFunction ∧
    Gen.C01.stmts_asyncWorker = Source.stmts_asyncWorker ∧
    Gen.C01.stmts_extractorNew = Source.stmts_extractorNew := by
  refine ⟨rfl, rfl, rfl, rfl, rfl, rfl, rfl, rfl, rfl, rfl, rfl, rfl, rfl, rfl, rfl, rfl, rfl, rfl, rfl⟩

/-- The guard table `configure` interprets IS the source's (variable, comparison, bound, exit code, message, in
    order); each guarded variable is read from the flag the model says; the constructors receive
    `batchSize`/`batchBuffer`/`concurrentReaders` in the positions of their `batchSize`/`batchBuffer`/`concurrency`
    parameters and use them as channel capacity / semaphore size / batch size; the exit code, the worker fallback
    and the flag defaults are the model's. -/
theorem flag_plumbing_matches_source :
    Gen.C01.usageGuards = usageGuards ∧
    Gen.C01.flagReads = Source.flagReads ∧
    Gen.C01.constructorCalls = Source.constructorCalls ∧
    Gen.C01.params_openFilesToChan = Source.params_openFilesToChan ∧
    Gen.C01.params_openReaderToChan = Source.params_openReaderToChan ∧
    Gen.C01.params_newBatcher = Source.params_newBatcher ∧
    Gen.C01.params_syncReaderToBatcher = Source.params_syncReaderToBatcher ∧
    Gen.C01.params_syncReaderToBatcherWithTimeFlush = Source.params_syncReaderToBatcherWithTimeFlush ∧
    Gen.C01.uses_openFilesToChan = Source.uses_openFilesToChan ∧
    Gen.C01.uses_openReaderToChan = Source.uses_openReaderToChan ∧
    Gen.C01.uses_newBatcher = Source.uses_newBatcher ∧
    Gen.C01.uses_syncReaderToBatcher = Source.uses_syncReaderToBatcher ∧
    Gen.C01.uses_syncReaderToBatcherWithTimeFlush = Source.uses_syncReaderToBatcherWithTimeFlush ∧
    Gen.C01.uses_extractorNew = Source.uses_extractorNew ∧
    Gen.C01.extractorFlags = Source.extractorFlags ∧
    Gen.C01.workerCountExpr = "runtime.NumCPU()/2+1" ∧
    exitCodeOf "ExitCodeInvalidUsage" = Gen.C01.exitCodeInvalidUsage ∧
    exitCodeOf "ExitCodeNoData" = Gen.C01.exitCodeNoData ∧
    (∀ w : Int, getWorkerCount w = if w ≤ Gen.C01.workersBound then Gen.C01.workersFallback.toNat else w.toNat) := by
  refine ⟨rfl, rfl, rfl, rfl, rfl, rfl, rfl, rfl, rfl, rfl, rfl, rfl, rfl, rfl, rfl, rfl, rfl, rfl, ?_⟩
  intro w; rfl

/-- The format strings, colours and number-format constants of the summary line are the model's. -/
theorem summary_constants_from_source :
    Gen.C01.lits_fWriteMatchSummary = Source.lits_fWriteMatchSummary ∧
    Gen.C01.lits_fWriteExtractorSummary = Source.lits_fWriteExtractorSummary ∧
    Gen.C01.colorReset = cReset ∧ Gen.C01.colorBrightGreen = cBrightGreen ∧
    Gen.C01.colorBrightWhite = cBrightWhite ∧ Gen.C01.colorRed = cRed ∧
    Gen.C01.baseSeparator = 44 ∧ Gen.C01.huiSmall = 100 ∧ Gen.C01.huiGroup = 3 := by
  refine ⟨rfl, rfl, ?_, ?_, ?_, ?_, rfl, rfl, rfl⟩ <;> decide +kernel

/-- The exit-code guards `determineErrorState` interprets ARE the source's (condition, message, exit-code constant,
    in order, `return nil` last); both batching loops read through `readahead.NewImmediate(newReaderMetrics(reader),
    ReadAheadBufferSize)` – the scanner configuration C04's theorems are about – and count an error in the callback
    (`s.incErrors()`); a file that cannot be opened is logged, counted (`out.incErrors()`) and skipped. -/
theorem exit_and_read_path_match_source :
    Gen.C01.exitGuards = exitGuards ∧
    Gen.C01.stmts_determineErrorState = Source.stmts_determineErrorState ∧
    Gen.C01.scanner_syncReaderToBatcher = Source.scanner_syncReaderToBatcher ∧
    Gen.C01.scanner_syncReaderToBatcherWithTimeFlush = Source.scanner_syncReaderToBatcherWithTimeFlush ∧
    Gen.C01.openError_openFilesToChan = Source.openError_openFilesToChan ∧
    exitCodeOf "ExitCodeInvalidUsage" = Gen.C01.exitCodeInvalidUsage ∧
    exitCodeOf "ExitCodeNoData" = Gen.C01.exitCodeNoData := by
  refine ⟨rfl, rfl, rfl, rfl, rfl, rfl, rfl⟩

/-! ## A consumer that stops early (`rare filter -n NUM`)

`cmd/filter.go` breaks out of its receive loop after NUM printed matches and never reads `ReadChan()` again; the
reader and worker goroutines then block on their sends until the process exits (there is no cancellation path in
`pkg/extractor`).  In the transition system this is "the consumer takes no further step", so everything the
consumer has seen is what some reachable state's `consumed` holds. -/

/-- What `filter -n limit` prints is the first `limit` matches received (all when `limit = 0`), independent of how
    the matches were grouped into batches. -/
theorem filter_limit_prefix {β : Type} (limit : Nat) (bs : List (List β)) :
    filterLoop limit bs [] = if limit = 0 then bs.flatten else bs.flatten.take limit :=
  filterLoop_eq limit bs

/-- Early stop is safe: at EVERY reachable state (so wherever the consumer stops), for every limit and every
    grouping `bs` of what it has received, each printed match is a matched input line, printed no more often than
    it occurs in the input (no duplicate, nothing invented), at most `limit` are printed, and the `matched`
    counter already covers them. -/
theorem pipeline_early_stop (cls : α → Cls) (R B K W : Nat) (inputs : List (List (List α))) {s : St α}
    (hr : Reach cls R B K (init inputs W) s) (limit : Nat) (bs : List (List α)) (hbs : bs.flatten = s.consumed) :
    let printed := filterLoop limit bs []
    (∀ y, printed.count y ≤ ((inputs.flatMap List.flatten).filter (isMatched cls)).count y) ∧
    (0 < limit → printed.length ≤ limit) ∧ printed.length ≤ s.nMatched := by
  have hinv := pipeline_invariant cls R B K W inputs hr
  have hsub : (filterLoop limit bs []).Sublist s.consumed := by
    rw [filterLoop_eq, hbs]
    split
    · exact List.Sublist.refl _
    · exact List.take_sublist _ _
  refine ⟨fun y => Nat.le_trans (hsub.count_le y) (consumed_le_final hinv y), ?_, ?_⟩
  · intro hl
    rw [filterLoop_eq]
    have : limit ≠ 0 := by omega
    simp only [this, if_false, List.length_take]
    omega
  · exact Nat.le_trans hsub.length_le (matched_ge_consumed hinv)

/-- When the run does complete (the limit was not reached before the stream ended, or there is none), exactly
    `min limit M` matches were printed, `M` the sequential number of matches. -/
theorem filter_limit_complete (cls : α → Cls) (R B K W : Nat) (hW : 1 ≤ W) (inputs : List (List (List α))) {s : St α}
    (hr : Reach cls R B K (init inputs W) s) (hd : s.consDone = true) (limit : Nat) (hl : 0 < limit)
    (bs : List (List α)) (hbs : bs.flatten = s.consumed) :
    (filterLoop limit bs []).length = min limit ((inputs.flatMap List.flatten).filter (isMatched cls)).length := by
  have hp := (pipeline_final cls R B K W hW inputs hr hd).1
  rw [filterLoop_eq, hbs]
  have : limit ≠ 0 := by omega
  simp only [this, if_false, List.length_take, hp.length_eq]

/-- Non-vacuity: two batches `[a, b]`, `[c, d]`, limit 3 – the loop stops inside the second batch. -/
example : filterLoop 3 [[1, 2], [3, 4]] ([] : List Nat) = [1, 2, 3] ∧ filterLoop 0 [[1, 2], [3, 4]] ([] : List Nat) = [1, 2, 3, 4] ∧
    filterSummary true false 3 3 4 9 1 = ascii "Matched: 3 / 3\n" := by decide +kernel

/-! ## Trace inclusion: the event log of a real run is a path of the transition system

`Rare.PipelineTrace` (Model/PipelineTrace.lean, Model/C01C05TraceOrder.lean): the `verif` hooks log one event
per channel / semaphore / close operation, per line classified and per goroutine start/exit of the real
batcher + extractor.  The checker accepts a log when some *admissible* reordering of it (every goroutine's
events in their logged order; every event inside the time interval that "logged before / after its
action" leaves open) replays through the named transition function `Pipeline.apply` from `init` to a
state where the consumer has seen the end of the stream. -/

section Trace
open Rare.TraceOrder Rare.PipelineTrace

/-- The named transition function the trace checker executes is exactly the transition relation the
    theorems above are about (no transition is missing, none is added). -/
theorem trace_labels_are_steps (cls : α → Cls) (R B K : Nat) (s s' : St α) :
    Step cls R B K s s' ↔ ∃ l, Pipeline.apply cls R B K s l = some s' :=
  ⟨apply_complete, fun ⟨_, h⟩ => apply_sound h⟩

/-- `accepts_sound`: if the checker accepts the log `tr` of a real run, then there are an admissible
    reordering `sched` of the log and a labelled path of the transition system from `init` whose labels
    are, event by event in that order, the transitions the logged events stand for (`EvPath`), and it
    ends with the consumer at the end of the stream.  In particular the final state is reachable. -/
theorem trace_accepts_sound (cfg : Cfg) (wg : List Nat) (L : Lin PSt) (batches : List (List (List Line)))
    (tr : Array Ev) (h : TraceOrder.accepts (machine cfg wg) L (initSt cfg batches) tr = true) :
    ∃ sched labels ps, Admissible tr sched ∧
      EvPath cfg wg (initSt cfg batches) (sched.map (evAt tr)) labels ps ∧
      LPath cfg.cls cfg.R cfg.B cfg.K (init batches cfg.W) labels ps.lts ∧
      Reach cfg.cls cfg.R cfg.B cfg.K (init batches cfg.W) ps.lts ∧
      ps.lts.consDone = true := by
  obtain ⟨sched, ps, hadm, hrep, hfin⟩ := TraceOrder.accepts_sound h
  obtain ⟨labels, hev⟩ := replay_evpath _ _ _ hrep
  have hl := hev.lpath
  refine ⟨sched, labels, ps, hadm, hev, hl, hl.reach .refl, ?_⟩
  simp only [machine, Bool.and_eq_true] at hfin
  exact hfin.1

/-- Every state the accepted run goes through (after any number of its events) is a reachable state of
    the transition system, so every invariant proved for reachable states — line conservation, counter
    equalities, closed-channel discipline, capacities — holds of the states of the real run. -/
theorem trace_states_invariant (cfg : Cfg) (wg : List Nat) (batches : List (List (List Line)))
    (evs : List Ev) (ps : PSt) (h : replay (machine cfg wg) (initSt cfg batches) evs = some ps) (k : Nat) :
    ∃ psk, replay (machine cfg wg) (initSt cfg batches) (evs.take k) = some psk ∧
      Reach cfg.cls cfg.R cfg.B cfg.K (init batches cfg.W) psk.lts ∧
      Inv cfg.cls cfg.B cfg.K (batches.flatMap List.flatten) psk.lts := by
  rw [← List.take_append_drop k evs] at h
  obtain ⟨psk, h1, _⟩ := replay_append _ _ _ _ _ h
  obtain ⟨labels, hev⟩ := replay_evpath _ _ _ h1
  have hr : Reach cfg.cls cfg.R cfg.B cfg.K (init batches cfg.W) psk.lts := hev.lpath.reach .refl
  exact ⟨psk, h1, hr, pipeline_invariant cfg.cls cfg.R cfg.B cfg.K cfg.W batches hr⟩

/-- **`wg.Wait()` returns only after every reader's status bookkeeping**: the deferred exit block of a reader of
    `OpenFilesToChan` is `<-sema; out.stopFileReading(name); wg.Done()` (/repo 7025f4b; `skeleton_matches_source`
    pins it), and the trace machine demands exactly that of a real run's log: a `cw` event (logged right after
    `wg.Wait()` returned) is possible only in a state in which every source is done AND has logged its `sc`
    (entry of `stopFileReading`); it is a stuttering step.  With the older order (`wg.Done()` first) a `cw` could
    overtake an `sc` – such a log is rejected. -/
theorem trace_wait_after_status (cfg : Cfg) (wg : List Nat) (ps ps' : PSt) (e : Ev) (hk : e.kind = "cw")
    (h : (machine cfg wg).step ps e = some ps') :
    ps.lts.srcs.all SrcSt.isDone = true ∧ (∀ i, i < ps.lts.srcs.length → i ∈ ps.stopped) ∧
      ps'.lts = ps.lts ∧ ps'.stopped = ps.stopped := by
  obtain ⟨ls, hl, hp⟩ := pstep_sound (cfg := cfg) (wg := wg) h
  have hst : ps'.stopped = ps.stopped := by rw [pstep_stopped h, hk]; rfl
  simp only [evLabels, hk] at hl
  split at hl
  · rename_i hc
    simp only [Option.some.injEq] at hl
    subst hl
    simp only [Bool.and_eq_true, List.all_eq_true, List.mem_range, List.contains_eq_mem, decide_eq_true_eq] at hc
    exact ⟨by simpa [List.all_eq_true] using hc.1, hc.2, lpath_nil_eq hp, hst⟩
  · simp at hl

/-- … and an `sc` event of source `i` is possible only once, after that source's `rl` (its goroutine is in the exit
    block: the source is `done`); it records `i` in `PSt.stopped` and is a stuttering step. -/
theorem trace_status_once (cfg : Cfg) (wg : List Nat) (ps ps' : PSt) (e : Ev) (hk : e.kind = "sc")
    (h : (machine cfg wg).step ps e = some ps') :
    srcDone ps.lts e.src = true ∧ e.src ∉ ps.stopped ∧ ps'.stopped = e.src :: ps.stopped ∧ ps'.lts = ps.lts := by
  obtain ⟨ls, hl, hp⟩ := pstep_sound (cfg := cfg) (wg := wg) h
  have hst : ps'.stopped = e.src :: ps.stopped := by rw [pstep_stopped h, hk]; rfl
  simp only [evLabels, hk] at hl
  split at hl
  · rename_i hc
    simp only [Option.some.injEq] at hl
    subst hl
    simp only [Bool.and_eq_true, Bool.not_eq_true', List.contains_eq_mem, decide_eq_false_iff_not] at hc
    exact ⟨hc.1, hc.2, hst, lpath_nil_eq hp⟩
  · simp at hl

/-- An accepted log ends in a state whose consumer multiset and counters are those of the sequential
    evaluation of the configured inputs' bytes: the batches the checker derived from the logged flushes
    (and checked against the batching-loop model) partition the inputs' lines.  `cfg.cls` is the configured
    classifier (`clsOf e` for the case's extractor configuration `e`: every line classified with its own source
    name and line number); the checker has compared the class logged for every line with it. -/
theorem trace_final (cfg : Cfg) (hW : 1 ≤ cfg.W) (wg : List Nat) (L : Lin PSt) (evs : List Ev)
    (batches : List (List (List Line))) (hb : batchesOf cfg evs = some batches)
    (tr : Array Ev) (h : TraceOrder.accepts (machine cfg wg) L (initSt cfg batches) tr = true) :
    ∃ ps : PSt, Reach cfg.cls cfg.R cfg.B cfg.K (init batches cfg.W) ps.lts ∧
      ps.lts.consumed.Perm (seqMatches cfg.cls (allLines cfg.inputs)) ∧
      (⟨ps.lts.nRead, ps.lts.nMatched, ps.lts.nIgnored⟩ : Totals) = seqTotals cfg.cls (allLines cfg.inputs) := by
  obtain ⟨_, _, ps, _, _, _, hr, hd⟩ := trace_accepts_sound cfg wg L batches tr h
  have hf := pipeline_final cfg.cls cfg.R cfg.B cfg.K cfg.W hW batches hr hd
  simp only [batchesOf_lines hb] at hf
  exact ⟨ps, hr, hf.1, by simp [seqTotals, hf.2.1, hf.2.2.1, hf.2.2.2.1]⟩

/-- `trace_final` for a case's extractor configuration `e` (the classifier the driver hands the checker is
    `clsOf e`): an accepted log of a real run ends with the consumer holding exactly the lines whose
    evaluation IN THEIR OWN CONTEXT is `matched`, and with the counters of that sequential evaluation. -/
theorem trace_final_classified (e : Extractor) (cfg : Cfg) (hcls : cfg.cls = clsOf e) (hW : 1 ≤ cfg.W)
    (hnp : NoPanic e (allLines cfg.inputs)) (wg : List Nat) (L : Lin PSt) (evs : List Ev)
    (batches : List (List (List Line))) (hb : batchesOf cfg evs = some batches)
    (tr : Array Ev) (h : TraceOrder.accepts (machine cfg wg) L (initSt cfg batches) tr = true) :
    ∃ ps : PSt, Reach (clsOf e) cfg.R cfg.B cfg.K (init batches cfg.W) ps.lts ∧
      ps.lts.consumed.Perm ((allLines cfg.inputs).filter (outcomeIs e .matched)) ∧
      ps.lts.nRead = (allLines cfg.inputs).length ∧
      ps.lts.nMatched = ((allLines cfg.inputs).filter (outcomeIs e .matched)).length ∧
      ps.lts.nIgnored = ((allLines cfg.inputs).filter (outcomeIs e .ignored)).length := by
  obtain ⟨ps, hr, hp, ht⟩ := trace_final cfg hW wg L evs batches hb tr h
  rw [hcls] at hr hp ht
  simp only [seqMatches, seqTotals, Totals.mk.injEq] at hp ht
  rw [filter_matched_eq hnp] at hp ht
  rw [filter_ignored_eq hnp] at ht
  exact ⟨ps, hr, hp, ht.1, ht.2.1, ht.2.2⟩

/-- Non-vacuity of `trace_final_classified`: for the configured classifier of `exampleExtractor` the log
    `exampleLog2` (line 1 logged as ignored, line 2 as unmatched, nothing sent) is accepted, and no
    evaluation panics. -/
example : exampleCfg2.cls = clsOf exampleExtractor ∧ NoPanic exampleExtractor (allLines exampleCfg2.inputs) ∧
    ∃ batches, batchesOf exampleCfg2 exampleLog2 = some batches ∧
      TraceOrder.accepts (machine exampleCfg2 (workerGs exampleLog2)) (lin (workerGs exampleLog2) exampleLog2)
        (initSt exampleCfg2 batches) exampleLog2.toArray = true := by
  refine ⟨rfl, ?_, [[[⟨0, 1, [97, 98]⟩], [⟨0, 2, [120]⟩]]], by decide +kernel, by decide +kernel⟩
  have h : allLines exampleCfg2.inputs = [⟨0, 1, [97, 98]⟩, ⟨0, 2, [120]⟩] := by decide +kernel
  rw [h]
  intro l hl
  simp only [List.mem_cons, List.not_mem_nil, or_false] at hl
  rcases hl with rfl | rfl
  · exact ⟨.ignored, ok_of_toOption (by decide +kernel)⟩
  · exact ⟨.unmatched, ok_of_toOption (by decide +kernel)⟩

/-- The reorderings the checker may use are limited by the log: an event logged AFTER its action (a
    receive, a classified line, …) that precedes in the log an event logged BEFORE its action (a send, a
    close, …) precedes it in every admissible schedule — so e.g. a send can never be moved in front of a
    receive that was logged before it. -/
theorem trace_order_respected {tr : Array Ev} {sched : List Nat} (h : Admissible tr sched)
    {i j : Nat} (hij : i < j) (hia : beforeAt tr i = false) (hjb : beforeAt tr j = true)
    {p q : Nat} (hp : p < sched.length) (hq : q < sched.length) (hpi : sched[p] = i) (hqj : sched[q] = j) :
    p < q :=
  admissible_after_before h hij hia hjb hp hq hpi hqj

/-- Non-vacuity: the logged order of `exampleLog` is itself admissible (not a path, see below), and in it
    the worker's start (`ws`, position 3, after-type) precedes the reader's second send (`fl`, position 5,
    before-type). -/
example : Admissible exampleLog.toArray (List.range 19) ∧
    beforeAt exampleLog.toArray 3 = false ∧ beforeAt exampleLog.toArray 5 = true :=
  ⟨admissibleB_sound (by decide +kernel), by decide +kernel, by decide +kernel⟩

/-- Non-vacuity of `trace_accepts_sound` / `trace_final`: the small real-shaped log
    `PipelineTrace.exampleLog` (the worker logs its first receive late) is accepted (the schedule found
    must move the late `wr` before the second `fl`, because the batch channel has capacity 1) … -/
example : ∃ batches, batchesOf exampleCfg exampleLog = some batches ∧
    TraceOrder.accepts (machine exampleCfg (workerGs exampleLog)) (lin (workerGs exampleLog) exampleLog)
      (initSt exampleCfg batches) exampleLog.toArray = true :=
  ⟨_, batchesOf_exampleLog, by decide +kernel⟩

/-- … the log order itself is NOT a path (the second send finds the channel full): the reordering is
    needed, and it is constrained — … -/
example : ∀ batches, batchesOf exampleCfg exampleLog = some batches →
    replay (machine exampleCfg (workerGs exampleLog)) (initSt exampleCfg batches) exampleLog = none := by
  intro batches hb
  rw [batchesOf_exampleLog] at hb
  cases hb
  decide +kernel

/-- … a log in which the worker classifies the unmatched line `x` as matched is rejected. -/
example : ∀ batches, batchesOf exampleCfg exampleLog = some batches →
    TraceOrder.accepts (machine exampleCfg (workerGs exampleLog)) (lin (workerGs exampleLog) exampleLog)
      (initSt exampleCfg batches)
      (exampleLog.map fun e => if e.kind = "lu" then { e with kind := "lm" } else e).toArray = false := by
  intro batches hb
  rw [batchesOf_exampleLog] at hb
  cases hb
  decide +kernel

/-- … and so is the unchanged log when the configured classifier says otherwise: under the extractor
    `exampleExtractor` (ignore `{eq {line} 1}`) line 1 must be logged as ignored, so the log – in which the
    worker reports it as matched, as a worker whose context still held another line's number would – is not
    a path of the system. -/
example : ∀ batches, batchesOf { exampleCfg with cls := clsOf exampleExtractor } exampleLog = some batches →
    TraceOrder.accepts (machine { exampleCfg with cls := clsOf exampleExtractor } (workerGs exampleLog))
      (lin (workerGs exampleLog) exampleLog)
      (initSt { exampleCfg with cls := clsOf exampleExtractor } batches) exampleLog.toArray = false := by
  intro batches hb
  have : batchesOf { exampleCfg with cls := clsOf exampleExtractor } exampleLog =
      some [[[⟨0, 1, [97, 98]⟩], [⟨0, 2, [120]⟩]]] := batchesOf_exampleLog
  rw [this] at hb
  cases hb
  decide +kernel

end Trace

end Rare.C01

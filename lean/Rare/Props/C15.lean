import Rare.Proofs.C15NotifyLive
import Rare.Proofs.C15PollLive
import Rare.Proofs.C15PollPlain
import Rare.Proofs.C15Drained
import Rare.Proofs.C15TailSpec
import Rare.Proofs.C15Live
import Rare.Model.C15Skeleton
import Rare.Proofs.C15Flush
import Rare.Proofs.C15MultiTail
import Rare.Proofs.C15TraceTail
import Rare.Proofs.C15Trunc
import Rare.Proofs.C15Starve
import Rare.Proofs.C15Api
import Rare.Proofs.C15Rename
import Rare.Proofs.C15StatOpen
import Rare.Proofs.C15Replace
import Rare.Proofs.C15CatchUp
import Rare.Proofs.C15PollFull
import Rare.Model.C15Wiring
import Rare.Model.C15Open
import Rare.Model.C15Switch
import Rare.Gen.C15
/-!
# C15 — follow mode delivers every appended byte exactly once, in order

Theorems about the transition systems `NStep` (notify.go) and `PStep` (poller.go) of
`Rare.Model.C15`, for ALL reachable states, i.e. for every finite history of
{append, remove, create} and every interleaving with the fsnotify goroutine and the reader.
The configurations are built from the constants regenerated from /repo (`Rare.Gen.C15`): channel
capacities and `ReadAttempts`; the hypotheses `1 ≤ capacity` / `1 ≤ ReadAttempts` are discharged
by `decide` on the generated values, so an unbuffered signal channel or `ReadAttempts = 0` in /repo
breaks these theorems.

Observation point (b) – the batches of `batchers.TailFilesToChan` – is the composition
`Rare.Model.C15Tail`: the follow reader's delivered stream (of a reachable state of the LTS) read by
the scanner of C04 (`Rare.C04.Imm`) inside the time-flush batching loop with the batch slice as a
heap object (`Rare.Model.C15Batch`): `tail_batches_concat`, `batch_contents_stable`,
`tail_follow_batches…`; `batch_heap_refines_batcher` transfers C01's `batches_concat`.

Assumptions (not proved): the atomicity granularity of the model; inotify reports every Write /
Remove / Create of the followed name, after the operation, in order, without queue overflow; the
Go scheduler is fair to the fsnotify goroutine and the reader (liveness statements are of the form
"some run of kernel goroutine + reader reaches …" together with a measure that every such step
decreases).  Out of the model: a writer that keeps appending to a file after it was unlinked or
renamed away.  A file renamed ONTO the followed path (atomic replace) is in the model since the `fix:` commit
f4a9570 (section "a file renamed ONTO the followed path"; `Create` raises the delete signal too with -F).
Rotation by rename (the followed file moved away) is in the model since the `fix:` commit 4cc14c1 (section
"rotation by rename").  In-place truncation (copytruncate) is outside the property; what
the readers do then is modelled by the extended systems of `Rare.Model.C15Trunc` and recorded in the
section "in-place truncation" below.
-/
namespace Rare.C15
open Rare.Follow Rare.C15.Spec Rare.C04 Rare.C15.Tail Rare.C15.Batch

variable {β : Type}

/-- notify.go as configured in /repo -/
def srcN (reopen : Bool) : NCfg :=
  { capW := Gen.C15.eventWriteCap, capD := Gen.C15.eventDeleteCap, reopen := reopen }

/-- poller.go with its default `ReadAttempts` -/
def srcP (reopen : Bool) : PCfg := { attempts := Gen.C15.readAttempts, reopen := reopen }

theorem capW_ok (r : Bool) : 1 ≤ (srcN r).capW := by show 1 ≤ Gen.C15.eventWriteCap; decide
theorem capD_ok (r : Bool) : 1 ≤ (srcN r).capD := by show 1 ≤ Gen.C15.eventDeleteCap; decide
theorem attempts_ok (r : Bool) : 1 ≤ (srcP r).attempts := by show 1 ≤ Gen.C15.readAttempts; decide

/-- The code regenerated from /repo has the shape the transition systems model: non-blocking
    sends, which event becomes which signal, the two `Read` loops and the re-open conditions. -/
theorem skeleton_matches_source :
    Gen.C15.signalIsNonBlocking = true ∧
    Gen.C15.watcherSwitch = Expected.watcherSwitch ∧
    Gen.C15.watcherSkeleton = Expected.watcherSkeleton ∧
    Gen.C15.notifyReadSkeleton = Expected.notifyReadSkeleton ∧
    Gen.C15.notifyReadConds = Expected.notifyReadConds ∧
    Gen.C15.reopenIfReplacedConds = Expected.reopenIfReplacedConds ∧
    Gen.C15.pollReadSkeleton = Expected.pollReadSkeleton ∧
    Gen.C15.pollReadConds = Expected.pollReadConds := by
  refine ⟨rfl, rfl, rfl, rfl, rfl, rfl, rfl, rfl⟩

/-- **dispatch_matches_source.**  The watcher's `switch` regenerated from /repo AS DATA
    (`Gen.C15.watcherSignals`: Op bit, `s.ReOpen` requirement, signals with their `if s.ReOpen` guards) does,
    for every configuration and state, exactly what the transition system's `dispatch1` does – for Write,
    Remove, Create (write signal, plus the delete signal with re-open: the repair of the atomic replace), for a
    Rename of the followed name (`renameEv`: delete signal with re-open, nothing without) and for an event kind
    without a case (Chmod: nothing). -/
theorem dispatch_matches_source (cfg : NCfg) (s : NSt β) :
    dispatch1 cfg s .write = applySignals cfg s (switchSignals Gen.C15.watcherSignals cfg.reopen opWrite) ∧
    dispatch1 cfg s .remove = applySignals cfg s (switchSignals Gen.C15.watcherSignals cfg.reopen opRemove) ∧
    dispatch1 cfg s .create = applySignals cfg s (switchSignals Gen.C15.watcherSignals cfg.reopen opCreate) ∧
    dispatch1 cfg s (renameEv cfg) = applySignals cfg s (switchSignals Gen.C15.watcherSignals cfg.reopen opRename) ∧
    dispatch1 cfg s .other = applySignals cfg s (switchSignals Gen.C15.watcherSignals cfg.reopen opChmod) := by
  cases hre : cfg.reopen <;>
    simp [switchSignals, applySignals, Gen.C15.watcherSignals, dispatch1, renameEv, hre,
      opWrite, opRemove, opCreate, opRename, opChmod, List.find?]

/-- Non-vacuity / what the table says: with re-open a Create raises both signals, without only the write signal. -/
example : switchSignals Gen.C15.watcherSignals true opCreate = [0, 1] ∧
    switchSignals Gen.C15.watcherSignals false opCreate = [0] ∧
    switchSignals Gen.C15.watcherSignals true opRename = [1] ∧
    switchSignals Gen.C15.watcherSignals false opRename = [] := by decide

/-! ## no loss, no duplication, in order -/

/-- **delivered_is_prefix (notify).** While the file stays in place (no removal so far), in every
    reachable state, for start-of-file and `--tail`, with or without re-open: the delivered stream is
    exactly the bytes of the file between the start position and the reader's offset. -/
theorem delivered_is_prefix (c0 : List β) (tail reopen : Bool) {s : NSt β}
    (hr : NReach (srcN reopen) (ninit (some c0) tail) s) (hrm : s.removes = 0) :
    ∃ pos, s.f = some ⟨0, start0 (some c0) tail, pos⟩ ∧
      InPlaceOK (s.fs.content 0) s.delivered (start0 (some c0) tail) pos :=
  ((ninv_reach (capW_ok reopen) (capD_ok reopen) (some c0) tail hr).inPlaceOK rfl hrm).2.2

/-- **delivered_is_prefix (poll).** Same statement for the polling reader; its offset is `readBytes`
    (the re-open of the same file at the same offset that `Read` may perform changes nothing). -/
theorem delivered_is_prefix_poll (c0 : List β) (tail reopen : Bool) {s : PSt β}
    (hr : PReach (srcP reopen) (pinit (some c0) tail) s) (hrm : s.removes = 0) :
    s.f = some ⟨0, start0 (some c0) tail, s.readBytes⟩ ∧
      InPlaceOK (s.fs.content 0) s.delivered (start0 (some c0) tail) s.readBytes :=
  (pinv_reach (cfg := srcP reopen) (some c0) tail hr).inPlaceOK rfl hrm

/-- Across removals and re-creations (any history, file present or absent at the start): the
    delivered stream is the concatenation of one segment per file handle, each within its file. -/
theorem delivered_is_segments (c0 : Option (List β)) (tail reopen : Bool) {s : NSt β}
    (hr : NReach (srcN reopen) (ninit c0 tail) s) :
    s.delivered = segments s.fs.content (s.hist ++ s.f.toList) ∧
    ∀ h ∈ s.hist ++ s.f.toList, h.start ≤ h.pos ∧ h.pos ≤ (s.fs.content h.ino).length := by
  have h := ninv_reach (capW_ok reopen) (capD_ok reopen) c0 tail hr
  exact ⟨h.core.deliv, fun x hx => ⟨(h.core.bounds x hx).1, h.strong x hx⟩⟩

theorem delivered_is_segments_poll (c0 : Option (List β)) (tail reopen : Bool) {s : PSt β}
    (hr : PReach (srcP reopen) (pinit c0 tail) s) :
    s.delivered = segments s.fs.content (s.hist ++ s.f.toList) ∧
    ∀ h ∈ s.hist ++ s.f.toList, h.start ≤ h.pos ∧
      (h.pos ≤ (s.fs.content h.ino).length ∨ h.pos = h.start) := by
  have h := pinv_reach (cfg := srcP reopen) c0 tail hr
  exact ⟨h.core.deliv, fun x hx => ⟨(h.core.bounds x hx).1, (h.core.bounds x hx).2.1⟩⟩

/-! ## no lost wake-up -/

/-- **no_lost_wakeup.** If the open file has unread bytes then a write signal is pending (a token in
    `eventWrite` or a Write event the goroutine has not dispatched yet) or the reader is not in its
    `select`: the reader is never blocked in front of unread data. -/
theorem no_lost_wakeup (c0 : Option (List β)) (tail reopen : Bool) {s : NSt β}
    (hr : NReach (srcN reopen) (ninit c0 tail) s) (h : Handle) (hf : s.f = some h)
    (hu : unread s.fs h ≠ []) : (0 < s.pw ∨ Ev.write ∈ s.evq) ∨ s.rd ≠ .selecting := by
  have hi := ninv_reach (capW_ok reopen) (capD_ok reopen) c0 tail hr
  rcases hi.wake h hf hu with h1 | h1 | h1
  · exact Or.inl (Or.inl h1)
  · exact Or.inl (Or.inr h1)
  · exact Or.inr h1

/-- In particular the reader is never blocked (in `select`, both channels empty) in front of unread
    data unless the kernel goroutine still has the Write event to dispatch. -/
theorem never_blocked_on_unread (c0 : Option (List β)) (tail reopen : Bool) {s : NSt β}
    (hr : NReach (srcN reopen) (ninit c0 tail) s) (h : Handle) (hf : s.f = some h)
    (hu : unread s.fs h ≠ []) : ¬ (s.blocked ∧ Ev.write ∉ s.evq) := by
  rintro ⟨hb, hq⟩
  rcases no_lost_wakeup c0 tail reopen hr h hf hu with (h1 | h1) | h1
  · have := hb.2.1; omega
  · exact hq h1
  · exact h1 hb.1

/-- …hence, while the file stays in place, with a silent writer the fsnotify goroutine and the reader
    deliver at least one more byte after finitely many steps (every appended byte is eventually
    delivered under a fair schedule); `nstep_terminates` bounds every such run. -/
theorem unread_eventually_delivered (c0 : List β) (tail reopen : Bool) {s : NSt β}
    (hr : NReach (srcN reopen) (ninit (some c0) tail) s) (hrm : s.removes = 0) (h : Handle)
    (hf : s.f = some h) (hu : unread s.fs h ≠ []) :
    ∃ s' bs, NSysReach (srcN reopen) s s' ∧ bs ≠ [] ∧ s'.delivered = s.delivered ++ bs := by
  have hi := ninv_reach (capW_ok reopen) (capD_ok reopen) (some c0) tail hr
  have hne : s.rd ≠ .ended := by
    intro he; have := (hi.ended he).2.1; omega
  exact eventually_delivered (capW_ok reopen) (capD_ok reopen) hi rfl hrm h hf hu hne

/-- Every step of the fsnotify goroutine or the reader delivers a byte or decreases the measure
    `nmu`: between two deliveries they take at most `nmu` steps, whatever the schedule. -/
theorem nstep_terminates (cfg : NCfg) {w : Who} {s s' : NSt β} (hw : w ≠ .writer) (hs : NStep cfg w s s') :
    (∃ bs, bs ≠ [] ∧ s'.delivered = s.delivered ++ bs) ∨ nmu s' < nmu s :=
  nstep_measure hw hs

/-- The polling reader never blocks: until it has returned EOF it always has a next step… -/
theorem poll_never_blocks (c0 : Option (List β)) (tail reopen : Bool) {s : PSt β}
    (hr : PReach (srcP reopen) (pinit c0 tail) s) (hne : s.rd ≠ .ended) :
    ∃ s', PStep (srcP reopen) .reader s s' :=
  poll_progress (pinv_reach (cfg := srcP reopen) c0 tail hr) hne

/-- …and while the file stays in place unread bytes are delivered after finitely many reader steps. -/
theorem poll_unread_eventually_delivered (c0 : List β) (tail reopen : Bool) {s : PSt β}
    (hr : PReach (srcP reopen) (pinit (some c0) tail) s) (hrm : s.removes = 0)
    (hu : unread s.fs ⟨0, start0 (some c0) tail, s.readBytes⟩ ≠ []) :
    ∃ s' bs, PSysReach (srcP reopen) s s' ∧ bs ≠ [] ∧ s'.delivered = s.delivered ++ bs :=
  poll_eventually_delivered (attempts_ok reopen) rfl (pinv_reach (cfg := srcP reopen) (some c0) tail hr) hrm hu

/-! ## blocks rather than ends while the file exists -/

/-- **blocks_while_exists.** `Read` returns EOF only in plain follow and only after a removal; in
    particular never while the file has stayed in place, and never in re-open mode. -/
theorem blocks_while_exists (c0 : Option (List β)) (tail reopen : Bool) {s : NSt β}
    (hr : NReach (srcN reopen) (ninit c0 tail) s) (he : s.rd = .ended) :
    reopen = false ∧ 0 < s.removes := by
  have h := (ninv_reach (capW_ok reopen) (capD_ok reopen) c0 tail hr).ended he
  exact ⟨h.1, h.2.1⟩

theorem blocks_while_exists_poll (c0 : List β) (tail reopen : Bool) {s : PSt β}
    (hr : PReach (srcP reopen) (pinit (some c0) tail) s) (he : s.rd = .ended) :
    reopen = false ∧ 0 < s.removes := by
  have h := (pinv_reach (cfg := srcP reopen) (some c0) tail hr).ended he
  exact ⟨h.1, h.2 rfl⟩

/-! ## plain follow ends after removal -/

/-- **plain_ends_after_removal (notify).** In plain follow, once the file was removed the delete
    signal is latched (token or undelivered event) until the stream has ended, the fsnotify goroutine
    and the reader can always move until then, and some run of theirs ends the stream… -/
theorem plain_ends_after_removal (c0 : Option (List β)) (tail : Bool) {s : NSt β}
    (hr : NReach (srcN false) (ninit c0 tail) s) (hrm : 0 < s.removes) :
    (s.rd = .ended ∨ 0 < s.pd ∨ Ev.remove ∈ s.evq) ∧
    ∃ s', NSysReach (srcN false) s s' ∧ s'.rd = .ended := by
  have hi := ninv_reach (capW_ok false) (capD_ok false) c0 tail hr
  exact ⟨hi.latch rfl hrm, plain_ends (capW_ok false) (capD_ok false) rfl hi hrm⟩

/-- …and every run does: each step of goroutine or reader in plain follow decreases `nmuP`. -/
theorem plain_steps_terminate {w : Who} {s s' : NSt β} (hw : w ≠ .writer) (hs : NStep (srcN false) w s s') :
    nmuP s' < nmuP s :=
  plain_step_measure hw hs rfl

/-- The stream that ended is a prefix of the file's content after the start position (bytes appended
    between the reader's last read and the removal are the only ones that can be missing – hence
    "remove-after-drain" in the property). -/
theorem plain_stream_is_prefix (c0 : Option (List β)) (tail : Bool) {s : NSt β}
    (hr : NReach (srcN false) (ninit c0 tail) s) :
    s.delivered = segments s.fs.content (s.hist ++ s.f.toList) ∧
    ((s.hist ++ s.f.toList).map (·.ino)).Pairwise (· < ·) :=
  ⟨(ninv_reach (capW_ok false) (capD_ok false) c0 tail hr).core.deliv,
   (ninv_reach (capW_ok false) (capD_ok false) c0 tail hr).incr⟩

/-- **remove-after-drain.** Plain notify follow: if the reader had delivered everything when the file
    was removed (no unread bytes at the moment of the removal), then in every state reachable
    afterwards – in particular when the stream has ended – the delivered stream is exactly the whole
    content of the file after the start position, whatever is created or appended at the path later. -/
theorem plain_delivers_all_when_removed_after_drain (c0 : List β) (tail : Bool) {s s2 : NSt β}
    (hr : NReach (srcN false) (ninit (some c0) tail) s) (hrm : s.removes = 0)
    (hdr : ∀ h, s.f = some h → unread s.fs h = [])
    (hr2 : NReach (srcN false)
      { s with fs := s.fs.remove, evq := s.evq ++ [.remove], removes := s.removes + 1 } s2) :
    s2.delivered = (s.fs.content 0).drop (start0 (some c0) tail) := by
  have hi := ninv_reach (capW_ok false) (capD_ok false) (some c0) tail hr
  obtain ⟨h1, h2, p, h3, _, hs, _⟩ := hi.inPlaceOK rfl hrm
  have hu := hdr _ h3
  simp only [unread, List.drop_eq_nil_iff] at hu
  have hp : p = (s.fs.content 0).length := by omega
  subst hp
  have hd1 : Drained (s.fs.content 0) (start0 (some c0) tail)
      { s with fs := s.fs.remove, evq := s.evq ++ [.remove], removes := s.removes + 1 } :=
    ⟨rfl, by simp [h1, h3], by simp [FS.remove], hi.core.pathLt 0 h2, by intro i hi'; cases hi'⟩
  have hd2 := drained_reach rfl hd1 hr2
  have hi2 := ninv_reach (capW_ok false) (capD_ok false) (some c0) tail
    (NReach.trans' (.step hr (.remove s 0 h2)) hr2)
  have := hi2.core.deliv
  rw [hd2.handles, segments_single] at this
  rw [this, hd2.content, extract_to_end]

/-- **plain_ends_after_removal (poll).** Plain polling follow: while the path is empty and the writer
    is silent, the reader delivers what is left in the old file, does its `ReadAttempts` empty reads,
    `Stat`s and returns EOF (some run – and, the reader being deterministic up to the size of each
    read, every run – ends the stream).  A file re-created before the poller looks is not noticed by
    plain polling follow (`Stat` succeeds, the old descriptor is kept): the hypothesis `path = none`
    is the "file stays away" part of the property. -/
theorem plain_ends_after_removal_poll (c0 : Option (List β)) (tail : Bool) {s : PSt β}
    (hr : PReach (srcP false) (pinit c0 tail) s) (hp : s.fs.path = none) :
    ∃ s', PSysReach (srcP false) s s' ∧ s'.rd = .ended :=
  poll_plain_ends rfl (pinv_reach (cfg := srcP false) c0 tail hr) hp

/-! ## re-open follow -/

/-- **reopen_reads_new_from_start (notify), safety.** Every file the reader opens after the start is
    read from its beginning (`start = 0`; only the initial handle may start elsewhere: `--tail`), files
    are opened in creation order and none twice (inode ids strictly increase along the handles): no
    duplicate delivery after a re-open. -/
theorem reopen_reads_new_from_start (c0 : Option (List β)) (tail reopen : Bool) {s : NSt β}
    (hr : NReach (srcN reopen) (ninit c0 tail) s) :
    (∀ h ∈ s.hist ++ s.f.toList, h.start = 0 ∨ (h.ino = 0 ∧ h.start = start0 c0 tail)) ∧
    ((s.hist ++ s.f.toList).map (·.ino)).Pairwise (· < ·) ∧
    s.delivered = segments s.fs.content (s.hist ++ s.f.toList) := by
  have h := ninv_reach (capW_ok reopen) (capD_ok reopen) c0 tail hr
  exact ⟨h.starts, h.incr, h.core.deliv⟩

/-- **reopen_reads_new_from_start (notify), no lost re-open.** In re-open mode, whenever a file exists
    at the path that the reader does not have open, a signal that will make it look is pending, and
    with a silent writer some run of goroutine + reader ends with that file open
    (`reopen_steps_terminate`: every run does). -/
theorem reopen_eventually_opens_new (c0 : Option (List β)) (tail : Bool) {s : NSt β}
    (hr : NReach (srcN true) (ninit c0 tail) s) (j : Nat) (hp : s.fs.path = some j) :
    (onPath s j ∨ 0 < s.pw ∨ Ev.create ∈ s.evq ∨ 0 < s.pd ∨ Ev.remove ∈ s.evq) ∧
    ∃ s', NSysReach (srcN true) s s' ∧ onPath s' j := by
  have hi := ninv_reach (capW_ok true) (capD_ok true) c0 tail hr
  exact ⟨reopen_pending hi rfl j hp, eventually_reopened (capW_ok true) (capD_ok true) rfl j hi hp⟩

theorem reopen_steps_terminate {w : Who} {s s' : NSt β} (hw : w ≠ .writer) (hs : NStep (srcN true) w s s')
    (j : Nat) (hp : s.fs.path = some j) : onPath s' j ∨ nmuP s' < nmuP s :=
  reopen_step_measure hw hs j hp

/-- **reopen_reads_new_from_start (poll), under the proviso.** As long as every re-open of a replaced
    file happened under the stated proviso – the new file was shorter than the old offset when the
    poller looked (`skips = 0` counts the re-opens with `readBytes ≤ size`, `0 < readBytes` of a file
    other than the one already open at that offset) – every file opened after the start is read from
    its beginning. -/
theorem reopen_reads_new_from_start_poll (c0 : Option (List β)) (tail : Bool) {s : PSt β}
    (hr : PReach (srcP true) (pinit c0 tail) s) (hsk : s.skips = 0) :
    (∀ h ∈ s.hist ++ s.f.toList, h.start = 0 ∨ (h.ino = 0 ∧ h.start = start0 c0 tail)) ∧
    s.delivered = segments s.fs.content (s.hist ++ s.f.toList) := by
  have h := pinv_reach (cfg := srcP true) c0 tail hr
  exact ⟨h.starts hsk, h.core.deliv⟩

/-- The proviso is exactly what keeps `skips` at zero: a re-open after a `Stat` that reported a size
    below `readBytes` restarts at offset 0 and does not count as a skip. -/
theorem poll_reopen_under_proviso {s : PSt β} (sz : Nat) (hlt : sz < s.readBytes) :
    (openStep s sz).skips = s.skips ∧ (openStep s sz).readBytes = 0 ∧ (openStep s sz).f = openAt s.fs 0 := by
  rw [openStep_of_lt hlt]
  exact ⟨rfl, rfl, rfl⟩

/-- Outside the proviso (expected behaviour, recorded): old file `[1,2,3]` fully delivered, removed,
    new file `[7,8,9,10]` already longer than the old offset when the poller looks → the poller seeks
    to offset 3 of the NEW file and delivers only `[10]`: the first three bytes are never delivered. -/
theorem poll_outside_proviso_skips :
    ∃ s : PSt Nat, PReach ⟨1, true⟩ (pinit (some [1, 2, 3]) false) s ∧
      s.fs.content 1 = [7, 8, 9, 10] ∧ s.delivered = [1, 2, 3, 10] ∧ s.skips = 1 := by
  have hr : PReach ⟨1, true⟩ (pinit (some [(1 : Nat), 2, 3]) false) _ :=
    .step (.step (.step (.step (.step (.step (.step (.step (.step (.refl (s0 := pinit (some [(1 : Nat), 2, 3]) false))
    (.readSome _ ⟨0, 0, 0⟩ 0 3 rfl (by decide) rfl (by decide) (by decide)))
    (.remove _ 0 rfl)) (.create _ rfl)) (.append _ 1 [7, 8, 9, 10] rfl (by decide)))
    (.readEmpty _ ⟨0, 0, 3⟩ 0 rfl (by decide) rfl rfl)) (.loopDone _ ⟨0, 0, 3⟩ rfl rfl))
    (.statDiff _ 1 rfl rfl rfl (by decide))) (.reopen _ 4 rfl))
    (.readSome _ ⟨1, 3, 3⟩ 0 1 rfl (by decide) rfl (by decide) (by decide))
  exact ⟨_, hr, rfl, rfl, rfl⟩

/-! ## observation point (b): the batches of `batchers.TailFilesToChan` -/

/-- The batching loop and `TailFilesToChan` regenerated from /repo have the shape `Rare.C15.Batch` /
    `Rare.C15.Tail` model: `batch` is only ever assigned `make(…)` or `append(batch, …)` (so every send
    is followed by a fresh backing array – `batch = batch[:0]` anywhere breaks this theorem), the slice
    header is what is sent, the flush condition is "full or timer expired" evaluated after an append,
    the remainder is flushed after the loop, and a followed file is `followreader.New` [+ `Drain`] read
    by that loop. -/
theorem batching_loop_matches_source :
    Gen.C15.batchAssigns = Expected.batchAssigns ∧
    Gen.C15.batchSends = Expected.batchSends ∧
    Gen.C15.batchLoopConds = Expected.batchLoopConds ∧
    Gen.C15.tailFilesConds = Expected.tailFilesConds ∧
    Gen.C15.tailFilesCalls = Expected.tailFilesCalls := by
  refine ⟨rfl, rfl, rfl, rfl, rfl⟩

/-- The loop with the batch slice as a heap object (`Model/C15Batch`) sends exactly the batches of the
    value-level loop of `Model/Batcher` (for which C01 proves `batches_concat`), when every sent header
    is read through the heap at the end. -/
theorem batch_heap_refines_batcher {α : Type} (source : String) (batchSize : Nat) (ls : List (α × Bool)) :
    (Batch.run source batchSize ls).out.map (Batch.run source batchSize ls).read = Batcher.run batchSize ls :=
  run_refines source batchSize ls

/-- …so C01's `batches_concat` holds for the heap-explicit loop: read through the heap after the loop,
    the batches are a partition of the lines into non-empty runs with true 1-based line numbers. -/
theorem batch_heap_batches_concat {α : Type} (source : String) (batchSize : Nat) (ls : List (α × Bool)) :
    let bs := (Batch.run source batchSize ls).out.map (Batch.run source batchSize ls).read
    bs.flatMap Batcher.lineNumbers = (ls.map (·.1)).zipIdx 1 ∧ (∀ b ∈ bs, b.lines ≠ []) ∧
    bs.flatMap (·.lines) = ls.map (·.1) := by
  intro bs
  have hr : bs = Batcher.run batchSize ls := run_refines source batchSize ls
  rw [hr]
  exact ⟨(Batcher.run_spec batchSize ls).1, (Batcher.run_spec batchSize ls).2, Batcher.run_lines batchSize ls⟩

example : ((Batch.run "f" 2 [((1 : Nat), true), (2, false), (3, false), (4, false)]).out.map
    (Batch.run "f" 2 [((1 : Nat), true), (2, false), (3, false), (4, false)]).read).map (fun b => (b.lines, b.start)) =
    [([1], 1), ([2, 3], 2), ([4], 4)] := by decide

/-- The batcher goroutine of a followed file ends when the follow reader does: for every stream, every
    shape of the `Read` calls (incl. failing ones), every timer behaviour, every batch size and every
    scanner buffer size ≥ 1 the loop reaches "channel closed" – and no `Scan()` of any of its trips
    runs out of the model's fuel. -/
theorem tail_terminates (source : String) (bufSize batchSize : Nat) (timer : Nat → Bool) (data : Bytes)
    (script : List Step) (hb : 1 ≤ bufSize) :
    (tailToChan source bufSize batchSize timer data script).status = .closed ∧
    ∀ k, (tailAfter source bufSize batchSize timer data script k).status ≠ .stuck :=
  ⟨tail_closed source bufSize batchSize timer data script hb,
   after_nostuck source bufSize batchSize timer data script hb⟩

/-- **tail_batches_concat.**  For every delivered stream `data`, every way the follow reader's `Read`
    calls cut it up (`script`, incl. a failing `Read`), every behaviour of the flush timer, every batch
    size (0 included) and scanner buffer size: the batches on the channel – each read through its slice
    header and each line through its own header, AFTER the loop has ended – are, in order, a partition
    of the lines (`splitLines`, C04) of the bytes the follow reader delivered, each line paired with
    its true 1-based line number (`lineNumbers b` pairs line `i` of `b` with `BatchStart + i`); no batch
    is empty; every batch carries the source name; the delivered bytes are a prefix of `data`, and all
    of `data` when no `Read` failed. -/
theorem tail_batches_concat (source : String) (bufSize batchSize : Nat) (timer : Nat → Bool) (data : Bytes)
    (script : List Step) (hb : 1 ≤ bufSize) :
    let t := tailToChan source bufSize batchSize timer data script
    t.numbered.flatMap Batcher.lineNumbers = (splitLines t.imm.delivered).zipIdx 1 ∧
    t.numbered.flatMap (·.lines) = splitLines t.imm.delivered ∧
    (∀ b ∈ t.numbered, b.lines ≠ []) ∧
    (∀ b ∈ t.b.out, b.source = source) ∧
    t.imm.delivered <+: data ∧
    ((∀ st ∈ script, st.err = none) → t.imm.delivered = data) := by
  intro t
  have hj : J source t := j_after source bufSize batchSize timer data script hb _
  have hc := tail_closed source bufSize batchSize timer data script hb
  obtain ⟨h1, h2, _⟩ := closed_spec hj hc
  exact ⟨h1, Batcher.flat_of_numbers h1, h2, hj.src, after_delivered source bufSize batchSize timer data script hb _,
    closed_delivered source bufSize batchSize timer data script hb⟩


/-- Non-vacuity of `tail_batches_concat` / `tail_batch_start`: CRLF line, a line completed by a later
    `Read`, an unterminated last line, scanner buffer of 2 bytes (regrows), a 0-byte `Read`, timer
    expired at the first line, `batchSize = 2`. -/
example : (tailToChan "f" 2 2 (fun k => k == 0) [97, 13, 10, 98, 98, 10, 99] [⟨1, none⟩, ⟨0, none⟩, ⟨3, none⟩]).batches =
    [("f", 1, [[97]]), ("f", 2, [[98, 98], [99]])] := by decide

/-- `batchSize = 0` (not reachable from the CLI, which insists on ≥ 1): every line is its own batch. -/
example : (tailToChan "f" 2 0 (fun _ => false) [97, 13, 10, 98, 98, 10, 99] []).batches =
    [("f", 1, [[97]]), ("f", 2, [[98, 98]]), ("f", 3, [[99]])] := by decide

/-- `BatchStart` is the true line number of the batch's first line: one more than the number of lines
    in all earlier batches. -/
theorem tail_batch_start (source : String) (bufSize batchSize : Nat) (timer : Nat → Bool) (data : Bytes)
    (script : List Step) (hb : 1 ≤ bufSize) (pre post : List (Batcher.Batch Bytes)) (b : Batcher.Batch Bytes)
    (h : (tailToChan source bufSize batchSize timer data script).numbered = pre ++ b :: post) :
    b.start = 1 + (pre.flatMap (·.lines)).length := by
  obtain ⟨h1, _, h2, _⟩ := tail_batches_concat source bufSize batchSize timer data script hb
  exact numbers_start h1 pre post b h (h2 b (by rw [h]; simp))

/-- **batch_contents_stable.**  A batch, once sent, is never modified by later scanning: at every point
    `k` of the loop and after any number `j` of further trips (more `Read`s into the scanner's buffer,
    buffer regrowth, more `append`s to the batch slice, more flushes, the final flush),
    * the channel has only grown,
    * every batch that was on it reads – through its slice header into the batch heap and through each
      line's header into the scanner's buffers – exactly as it read at point `k`,
    * and that is what was recorded at the moment it was sent (`sentAt`). -/
theorem batch_contents_stable (source : String) (bufSize batchSize : Nat) (timer : Nat → Bool) (data : Bytes)
    (script : List Step) (hb : 1 ≤ bufSize) (k j : Nat) :
    let sk := tailAfter source bufSize batchSize timer data script k
    let sj := tailAfter source bufSize batchSize timer data script (k + j)
    sk.b.out <+: sj.b.out ∧
    (∀ x ∈ sk.b.out, sj.readBatch x.batch = sk.readBatch x.batch) ∧
    sk.sentAt = sk.b.out.map (fun x => sk.readBatch x.batch) ∧
    sj.sentAt = sj.b.out.map (fun x => sj.readBatch x.batch) := by
  intro sk sj
  obtain ⟨h1, h2⟩ := after_stable source bufSize batchSize timer data script hb k j
  exact ⟨h1, h2, (j_after source bufSize batchSize timer data script hb k).sent,
    (j_after source bufSize batchSize timer data script hb (k + j)).sent⟩

/-- In particular the consumer that looks at a batch only after everything has ended (late
    consumption) sees what was sent: the batches sent by trip `k` are a prefix of the final batches. -/
theorem batches_sent_are_final_prefix (source : String) (bufSize batchSize : Nat) (timer : Nat → Bool)
    (data : Bytes) (script : List Step) (hb : 1 ≤ bufSize) (k : Nat) :
    (tailAfter source bufSize batchSize timer data script k).numbered <+:
      (tailToChan source bufSize batchSize timer data script).numbered := by
  -- the final state is `tailAfter (k + j)` for a suitable `j`
  have hfin : ∃ j, tailAfter source bufSize batchSize timer data script (k + j) =
      tailToChan source bufSize batchSize timer data script := by
    by_cases hk : k ≤ budget data script
    · exact ⟨budget data script - k, by rw [Nat.add_sub_cancel' hk]; rfl⟩
    · exact ⟨0, after_closed_fix source bufSize batchSize timer data script hb k (by omega)⟩
  obtain ⟨j, hj⟩ := hfin
  obtain ⟨h1, h2⟩ := after_stable source bufSize batchSize timer data script hb k j
  rw [hj] at h1 h2
  obtain ⟨t, ht⟩ := h1
  refine ⟨t.map fun b => ⟨(tailToChan source bufSize batchSize timer data script).readBatch b.batch, b.start⟩, ?_⟩
  simp only [TSt.numbered]
  rw [← ht, List.map_append]
  congr 1
  apply List.map_congr_left
  intro x hx
  rw [h2 x hx]

/-- While the follow reader is still following (any point `k` of the loop): what has been sent plus
    what is waiting in `batch` is a numbered partition of the lines scanned so far, no sent batch is
    empty, and fewer than `batchSize` lines are waiting (they are sent when the next line arrives or
    the stream ends – there is no timer goroutine). -/
theorem tail_sent_so_far (source : String) (bufSize batchSize : Nat) (timer : Nat → Bool) (data : Bytes)
    (script : List Step) (hb : 1 ≤ bufSize) (k : Nat)
    (hrun : (tailAfter source bufSize batchSize timer data script k).status = .running) :
    let s := tailAfter source bufSize batchSize timer data script k
    s.numbered.flatMap Batcher.lineNumbers ++ s.pending.zipIdx s.b.start = (s.toks.map (·.2)).zipIdx 1 ∧
    (∀ b ∈ s.numbered, b.lines ≠ []) ∧ s.b.start + s.pending.length = 1 + s.toks.length :=
  running_spec (j_after source bufSize batchSize timer data script hb k) (by rw [hrun]; decide)


/-- Non-vacuity of `tail_sent_so_far` / `batch_contents_stable`: after two trips the loop is still
    running, one batch is on the channel and one line is waiting (it stays there until the next line
    arrives); the batch reads the same after the remaining trips. -/
example : (tailAfter "f" 2 3 (fun k => k == 0) [97, 13, 10, 98, 98, 10, 99] [] 2).status = .running ∧
    (tailAfter "f" 2 3 (fun k => k == 0) [97, 13, 10, 98, 98, 10, 99] [] 2).batches = [("f", 1, [[97]])] ∧
    (tailAfter "f" 2 3 (fun k => k == 0) [97, 13, 10, 98, 98, 10, 99] [] 2).pending = [[98, 98]] ∧
    (tailAfter "f" 2 3 (fun k => k == 0) [97, 13, 10, 98, 98, 10, 99] [] (2 + 5)).sentAt = [[[97]], [[98, 98], [99]]] := by
  decide

/-- **While the file is still being followed** (the follow reader has delivered `data` without error
    and is blocked in `Read`): the batcher goroutine is still in its loop (the channel is not closed:
    the consumer blocks rather than seeing the end), `data` splits into its newline-terminated part
    `C` and an unterminated rest that waits in the scanner's buffer, what has been sent plus the
    lines waiting in `batch` are exactly the numbered lines of `C`, no sent batch is empty, and fewer
    than `batchSize` lines are waiting – they are not lost, but they surface only when the next line
    arrives or the stream ends (the flush timer is only consulted when a line is appended). -/
theorem tail_live (source : String) (bufSize batchSize : Nat) (timer : Nat → Bool) (data : Bytes)
    (script : List Step) (hb : 1 ≤ bufSize) (hs : ∀ st ∈ script, st.err = none) :
    let s := live source bufSize batchSize timer data script
    s.status = .running ∧
    ∃ C r, data = C ++ r ∧ nl ∉ r ∧ (C = [] ∨ C.getLast? = some nl) ∧
      s.numbered.flatMap Batcher.lineNumbers ++ s.pending.zipIdx s.b.start = (splitLines C).zipIdx 1 ∧
      (∀ b ∈ s.numbered, b.lines ≠ []) ∧
      s.pending.length < max batchSize 1 := by
  intro s
  obtain ⟨hrun, C, r, h1, h2, h3, h4⟩ := live_spec source bufSize batchSize timer data script hb hs
  have hj : J source s := j_after source bufSize batchSize timer data script hb _
  obtain ⟨g1, g2, _⟩ := running_spec hj (by rw [hrun]; decide)
  refine ⟨hrun, C, r, h1, h2, h3, ?_, g2, ?_⟩
  · rw [g1, h4]
  · have hlen : s.pending.length = s.b.cur.len := by
      obtain ⟨hwf, _⟩ := hj.loop (by rw [hrun]; decide)
      simp [TSt.pending, TSt.readBatch, read_len hwf]
    rw [hlen]
    exact iterN_curBound source batchSize _ timer _ _ (by simp [TSt.init, St.init]; omega)

/-- Non-vacuity of `tail_live`: `a\n` `bb\n` delivered, `c` not yet terminated; timer expired at the
    first line: one batch sent, `bb` waiting in `batch`, `c` waiting in the scanner. -/
example : (live "f" 4 3 (fun k => k == 0) [97, 10, 98, 98, 10, 99] []).status = .running ∧
    (live "f" 4 3 (fun k => k == 0) [97, 10, 98, 98, 10, 99] []).batches = [("f", 1, [[97]])] ∧
    (live "f" 4 3 (fun k => k == 0) [97, 10, 98, 98, 10, 99] []).pending = [[98, 98]] ∧
    (live "f" 4 3 (fun k => k == 0) [97, 10, 98, 98, 10, 99] []).imm.pending = [99] := by decide

/-! ### composition with the follow reader -/

/-- the batches of an error-free stream `data`: the numbered lines of `data`, none empty -/
private theorem tail_batches_of_stream (source : String) (bufSize batchSize : Nat) (timer : Nat → Bool) (data : Bytes)
    (script : List Step) (hb : 1 ≤ bufSize) (hs : ∀ st ∈ script, st.err = none) :
    let t := tailToChan source bufSize batchSize timer data script
    t.numbered.flatMap Batcher.lineNumbers = (splitLines data).zipIdx 1 ∧ (∀ b ∈ t.numbered, b.lines ≠ []) := by
  obtain ⟨h1, _, h2, _, _, h3⟩ := tail_batches_concat source bufSize batchSize timer data script hb
  rw [h3 hs] at h1
  exact ⟨h1, h2⟩

/-- **Notify follow → batches.**  In every reachable state of the notify LTS while the file stays in
    place (any history of appends, any interleaving with the fsnotify goroutine and the reader,
    start-of-file or `--tail`, with or without re-open), if the stream ends there, the batches on the
    channel are the numbered lines of exactly the bytes of the file between the start position and
    the reader's offset – for every timer behaviour, batch size and `Read` chunking. -/
theorem tail_follow_batches (c0 : Bytes) (tail reopen : Bool) {s : NSt UInt8}
    (hr : NReach (srcN reopen) (ninit (some c0) tail) s) (hrm : s.removes = 0)
    (source : String) (bufSize batchSize : Nat) (timer : Nat → Bool) (script : List Step) (hb : 1 ≤ bufSize)
    (hs : ∀ st ∈ script, st.err = none) :
    ∃ pos, s.f = some ⟨0, start0 (some c0) tail, pos⟩ ∧ pos ≤ (s.fs.content 0).length ∧
      let t := tailToChan source bufSize batchSize timer s.delivered script
      t.numbered.flatMap Batcher.lineNumbers =
        (splitLines (extract (s.fs.content 0) (start0 (some c0) tail) pos)).zipIdx 1 ∧
      (∀ b ∈ t.numbered, b.lines ≠ []) := by
  obtain ⟨pos, hf, _, hle, hd⟩ := delivered_is_prefix c0 tail reopen hr hrm
  refine ⟨pos, hf, hle, ?_⟩
  rw [← hd]
  exact tail_batches_of_stream source bufSize batchSize timer s.delivered script hb hs

/-- …and once the reader has caught up (nothing unread), of ALL the bytes appended after the start
    position: every appended line exactly once, in order, with its true number. -/
theorem tail_follow_batches_caught_up (c0 : Bytes) (tail reopen : Bool) {s : NSt UInt8}
    (hr : NReach (srcN reopen) (ninit (some c0) tail) s) (hrm : s.removes = 0)
    (hcu : ∀ h, s.f = some h → unread s.fs h = [])
    (source : String) (bufSize batchSize : Nat) (timer : Nat → Bool) (script : List Step) (hb : 1 ≤ bufSize)
    (hs : ∀ st ∈ script, st.err = none) :
    (tailToChan source bufSize batchSize timer s.delivered script).numbered.flatMap Batcher.lineNumbers =
      (splitLines ((s.fs.content 0).drop (start0 (some c0) tail))).zipIdx 1 := by
  obtain ⟨pos, hf, hle, h1, _⟩ := tail_follow_batches c0 tail reopen hr hrm source bufSize batchSize timer script hb hs
  have hu := hcu _ hf
  simp only [unread, List.drop_eq_nil_iff] at hu
  have hp : pos = (s.fs.content 0).length := by omega
  rw [h1, hp, extract_to_end]


/-- Non-vacuity of `tail_follow_batches(_caught_up)`: `--tail` on a file holding `x\n`, `a\nb` appended
    and read in one `Read`: the batches are the lines of exactly the appended bytes. -/
example : ∃ s : NSt UInt8, NReach (srcN false) (ninit (some [120, 10]) true) s ∧ s.removes = 0 ∧
    (∀ h, s.f = some h → unread s.fs h = []) ∧
    (tailToChan "f" 4 10 (fun _ => false) s.delivered []).batches = [("f", 1, [[97], [98]])] := by
  have hr : NReach (srcN false) (ninit (some [(120 : UInt8), 10]) true) _ :=
    .step (.step (.step (.step (.step (.refl (s0 := ninit (some [(120 : UInt8), 10]) true))
    (.readEmpty _ ⟨0, 2, 2⟩ rfl rfl rfl)) (.append _ 0 [97, 10, 98] rfl (by decide)))
    (.dispatch _ .write [] rfl)) (.recvW _ rfl (by decide)))
    (.readSome _ ⟨0, 2, 2⟩ 3 rfl rfl (by decide) (by decide))
  refine ⟨_, hr, rfl, ?_, by decide⟩
  intro h hf
  cases hf
  decide

/-- **Polling follow → batches.**  Same statement for the polling reader. -/
theorem tail_follow_batches_poll (c0 : Bytes) (tail reopen : Bool) {s : PSt UInt8}
    (hr : PReach (srcP reopen) (pinit (some c0) tail) s) (hrm : s.removes = 0)
    (source : String) (bufSize batchSize : Nat) (timer : Nat → Bool) (script : List Step) (hb : 1 ≤ bufSize)
    (hs : ∀ st ∈ script, st.err = none) :
    s.readBytes ≤ (s.fs.content 0).length ∧
      let t := tailToChan source bufSize batchSize timer s.delivered script
      t.numbered.flatMap Batcher.lineNumbers =
        (splitLines (extract (s.fs.content 0) (start0 (some c0) tail) s.readBytes)).zipIdx 1 ∧
      (∀ b ∈ t.numbered, b.lines ≠ []) := by
  obtain ⟨_, _, hle, hd⟩ := delivered_is_prefix_poll c0 tail reopen hr hrm
  refine ⟨hle, ?_⟩
  rw [← hd]
  exact tail_batches_of_stream source bufSize batchSize timer s.delivered script hb hs

/-- Across removals and re-creations (re-open follow, any history): the batches are the numbered lines
    of the concatenation of one segment per file that was opened (`delivered_is_segments`). -/
theorem tail_follow_batches_segments (c0 : Option Bytes) (tail reopen : Bool) {s : NSt UInt8}
    (hr : NReach (srcN reopen) (ninit c0 tail) s)
    (source : String) (bufSize batchSize : Nat) (timer : Nat → Bool) (script : List Step) (hb : 1 ≤ bufSize)
    (hs : ∀ st ∈ script, st.err = none) :
    (tailToChan source bufSize batchSize timer s.delivered script).numbered.flatMap Batcher.lineNumbers =
      (splitLines (segments s.fs.content (s.hist ++ s.f.toList))).zipIdx 1 := by
  rw [← (delivered_is_segments c0 tail reopen hr).1]
  exact (tail_batches_of_stream source bufSize batchSize timer s.delivered script hb hs).1


/-! ## when do waiting lines surface?  (no timer goroutine)

`syncReaderToBatcherWithTimeFlush` evaluates `time.Since(lastBatchFlush) >= autoFlush` only right after a line
was appended to `batch`.  The liveness the code HAS is "flush on the next line"; the liveness a user of
`rare -f` might expect – "a line is on the channel at most `AutoFlushTimeout` after it was read" – it
does not have.  Both are theorems; /repo is left as it is. -/

/-- The state of the batcher goroutine blocked in `Read` (after the follow reader delivered `data`) depends
    on the flush timer only through its answers at the lines that HAVE arrived: whatever the clock does
    afterwards is not a transition of the loop. -/
theorem tail_timer_consulted_only_at_lines (source : String) (bufSize batchSize : Nat) (t1 t2 : Nat → Bool)
    (data : Bytes) (script : List Step) (h : ∀ j, j < completeLines data → t1 j = t2 j) :
    live source bufSize batchSize t1 data script = live source bufSize batchSize t2 data script :=
  live_timer_congr source bufSize batchSize t1 t2 data script h

/-- **tail_flush_on_next_line** – the liveness the code satisfies.  If the flush timer had expired when the
    LAST complete line of the delivered stream arrived (`timer (n-1)`, `n` = number of complete lines), then
    nothing is waiting in `batch`: every complete line delivered so far is on the channel, numbered, in
    order (`C` = the newline-terminated part of the stream).  So a line that waits (fewer than `batchSize`
    of them can, `tail_live`) is flushed by the next line that arrives `AutoFlushTimeout` or more after the
    previous flush – and by the end of the stream (`tail_batches_concat`). -/
theorem tail_flush_on_next_line (source : String) (bufSize batchSize : Nat) (timer : Nat → Bool) (data : Bytes)
    (script : List Step) (hb : 1 ≤ bufSize) (hs : ∀ st ∈ script, st.err = none)
    (hn : 0 < completeLines data) (ht : timer (completeLines data - 1) = true) :
    let s := live source bufSize batchSize timer data script
    s.pending = [] ∧
    ∃ C r, data = C ++ r ∧ nl ∉ r ∧ (C = [] ∨ C.getLast? = some nl) ∧
      s.numbered.flatMap Batcher.lineNumbers = (splitLines C).zipIdx 1 := by
  intro s
  have hp : s.pending = [] := live_flushed source bufSize batchSize timer data script hb hs hn ht
  obtain ⟨_, C, r, h1, h2, h3, h4, _⟩ := tail_live source bufSize batchSize timer data script hb hs
  refine ⟨hp, C, r, h1, h2, h3, ?_⟩
  have h4' : s.numbered.flatMap Batcher.lineNumbers ++ s.pending.zipIdx s.b.start = (splitLines C).zipIdx 1 := h4
  rw [hp] at h4'
  simpa using h4'

/-- Non-vacuity: `a⏎ b⏎` with the timer expired at the second line, `batchSize = 5`: both lines are on the
    channel in one batch, nothing waits; `c` (unterminated) waits in the scanner. -/
example : (live "f" 4 5 (fun k => k == 1) [97, 10, 98, 10, 99] []).pending = [] ∧
    (live "f" 4 5 (fun k => k == 1) [97, 10, 98, 10, 99] []).batches = [("f", 1, [[97], [98]])] := by decide

/-- **tail_no_flush_without_next_line** – the liveness a user might expect fails.  One complete line `a⏎`
    has been delivered, `batchSize = 2`, the timer had not expired when it arrived but is expired at every
    later moment (`timer k = true` for all `k ≥ 1`): the goroutine is running (blocked in `Read`), NOTHING
    is on the channel, `a` waits in `batch` – and no behaviour of the clock after the line arrived changes
    that state: the line surfaces only when another line arrives or the stream ends. -/
theorem tail_no_flush_without_next_line :
    ∃ (batchSize : Nat) (timer : Nat → Bool) (data : Bytes),
      (∀ k, completeLines data ≤ k → timer k = true) ∧
      (live "f" 4 batchSize timer data []).status = .running ∧
      (live "f" 4 batchSize timer data []).b.out = [] ∧
      (live "f" 4 batchSize timer data []).pending = [[97]] ∧
      ∀ timer' : Nat → Bool, (∀ k, k < completeLines data → timer' k = timer k) →
        live "f" 4 batchSize timer' data [] = live "f" 4 batchSize timer data [] := by
  refine ⟨2, fun k => k != 0, [97, 10], ?_, by decide, by decide, by decide, ?_⟩
  · intro k hk
    have : completeLines [97, 10] = 1 := by decide
    rw [this] at hk
    cases k with
    | zero => omega
    | succ k => rfl
  · intro timer' h
    exact live_timer_congr "f" 4 2 timer' _ [97, 10] [] h

/-! ## several followed files on ONE batch channel (`TailFilesToChan`)

`Rare.C15.Multi`: one follower goroutine per file, each running the loop above on its own follow reader,
scanner and batch heap; only the sends on `out.c` interleave.  `hist = recvd ++ q` is the order in which
the sends completed – the order in which the consumer receives.  All statements are for EVERY reachable
state, i.e. every schedule of the followers, the consumer and the closer, and every channel capacity
(0 included). -/

section Multi
open Rare.C15.Multi

/-- Any followers: the batches of follower `i` in the channel history are exactly the first `sent i`
    batches of its own sequence, in its own order – whatever the other followers do. -/
theorem multi_per_source_prefix (fs : List Follower) (B : Nat) {s : MSt} (hr : Reach fs B s)
    (i : Nat) (f : Follower) (p : Phase) (hf : fs[i]? = some f) (hp : s.ph[i]? = some p) :
    ofSource s.hist i = f.batches.take (sentOf f p) ∧ ofSource s.hist i <+: f.batches :=
  ⟨(inv_reach hr).part i f p hf hp, by rw [(inv_reach hr).part i f p hf hp]; exact List.take_prefix _ _⟩

/-- **Per-source partition, every schedule.**  Followers built from the single-file model: in every
    reachable state the batches of file `i` on the channel are, in order, a NUMBERED PREFIX of the lines
    `L` of that file's stream (`LinesOf`: all lines of the delivered bytes if its stream ends, the lines of
    the newline-terminated part while it is followed), none is empty, and once the follower has ended
    (`done`) they are ALL of them: exactly the numbered partition of `tail_batches_concat` for that file. -/
theorem multi_per_source_partition (runs : List FileRun) (bufSize batchSize B : Nat) (hb : 1 ≤ bufSize)
    {s : MSt} (hr : Reach (runs.map (FileRun.follower bufSize batchSize)) B s)
    (i : Nat) (r : FileRun) (hi : runs[i]? = some r) (hs : ∀ st ∈ r.script, st.err = none) :
    ∃ L, LinesOf r L ∧
      (ofSource s.hist i).flatMap Batcher.lineNumbers <+: L.zipIdx 1 ∧
      (∀ b ∈ ofSource s.hist i, b.lines ≠ []) ∧
      (s.ph[i]? = some .done → ofSource s.hist i = (r.follower bufSize batchSize).batches ∧
        (ofSource s.hist i).flatMap Batcher.lineNumbers = L.zipIdx 1 ∧
        (ofSource s.hist i).flatMap (·.lines) = L) := by
  obtain ⟨L, hL, h1, h2, h3⟩ := follower_lines bufSize batchSize hb r hs
  have hinv := inv_reach hr
  have hf := get_map_follower (bufSize := bufSize) (batchSize := batchSize) hi
  have hlt : i < s.ph.length := by rw [hinv.len]; exact lt_of_get hf
  obtain ⟨p, hp⟩ : ∃ p, s.ph[i]? = some p := ⟨s.ph[i], List.getElem?_eq_getElem hlt⟩
  have hpart := hinv.part i _ p hf hp
  have hpre : ofSource s.hist i <+: (r.follower bufSize batchSize).batches := by
    rw [hpart]; exact List.take_prefix _ _
  refine ⟨L, hL, (prefix_flatMap _ hpre).trans h1, fun b hb' => h3 b (hpre.subset hb'), ?_⟩
  intro hd
  rw [hp] at hd
  cases hd
  have hall : ofSource s.hist i = (r.follower bufSize batchSize).batches := by
    rw [hpart]; simp [sentOf]
  have hends : r.ends = true := hinv.doneEnds i _ hf hp
  refine ⟨hall, ?_, ?_⟩
  · rw [hall]; exact h2 hends
  · apply Batcher.flat_of_numbers; rw [hall]; exact h2 hends

/-- **No batch mixes sources.**  Every batch on the channel was sent by ONE follower `i`, is one of the
    batches of that follower's own loop, is not empty, and every line in it – with the line number the
    extractor will attach to it – is a numbered line of file `i`'s stream. -/
theorem multi_no_mixing (runs : List FileRun) (bufSize batchSize B : Nat) (hb : 1 ≤ bufSize)
    (hs : ∀ r ∈ runs, ∀ st ∈ r.script, st.err = none)
    {s : MSt} (hr : Reach (runs.map (FileRun.follower bufSize batchSize)) B s) (x : Item) (hx : x ∈ s.hist) :
    ∃ r L, runs[x.1]? = some r ∧ LinesOf r L ∧ x.2 ∈ (r.follower bufSize batchSize).batches ∧ x.2.lines ≠ [] ∧
      ∀ ln ∈ Batcher.lineNumbers x.2, ln ∈ L.zipIdx 1 := by
  have hinv := inv_reach hr
  have hlt : x.1 < runs.length := by simpa using hinv.idx x hx
  have hi : runs[x.1]? = some runs[x.1] := List.getElem?_eq_getElem hlt
  obtain ⟨L, hL, h1, h2, _⟩ := multi_per_source_partition runs bufSize batchSize B hb hr x.1 runs[x.1] hi
    (hs _ (List.getElem_mem hlt))
  have hmem : x.2 ∈ ofSource s.hist x.1 := by
    simp only [ofSource, List.mem_map, List.mem_filter]
    exact ⟨x, ⟨hx, by simp⟩, rfl⟩
  have hf := get_map_follower (bufSize := bufSize) (batchSize := batchSize) hi
  obtain ⟨p, hp⟩ : ∃ p, s.ph[x.1]? = some p :=
    ⟨s.ph[x.1]'(by rw [hinv.len]; simpa using hlt), List.getElem?_eq_getElem _⟩
  have hpre := (multi_per_source_prefix _ B hr x.1 _ p hf hp).2
  refine ⟨runs[x.1], L, hi, hL, hpre.subset hmem, h2 _ hmem, ?_⟩
  intro ln hln
  apply h1.subset
  exact List.mem_flatMap.mpr ⟨x.2, hmem, hln⟩

/-- **The channel is closed only after every follower has ended** (plain follow): in a state with the
    channel closed every follower's stream has ended, every follower has called `wg.Done()`, and the
    channel history holds ALL batches of every file. -/
theorem multi_close_only_after_all_ended (fs : List Follower) (B : Nat) {s : MSt} (hr : Reach fs B s)
    (hc : s.closed = true) (i : Nat) (f : Follower) (hf : fs[i]? = some f) :
    f.ends = true ∧ s.ph[i]? = some .done ∧ ofSource s.hist i = f.batches := by
  have hinv := inv_reach hr
  have hlt : i < s.ph.length := by rw [hinv.len]; exact lt_of_get hf
  have hp : s.ph[i]? = some s.ph[i] := List.getElem?_eq_getElem hlt
  have hd : s.ph[i] = .done := all_done_get (hinv.closedDone hc) hp
  rw [hd] at hp
  refine ⟨hinv.doneEnds i f hf hp, hp, ?_⟩
  rw [hinv.part i f _ hf hp]; simp [sentOf]

/-- …and hence a send never finds the channel closed (no `send on closed channel` panic): while any
    follower is still running the channel is open. -/
theorem multi_no_send_on_closed (fs : List Follower) (B : Nat) {s : MSt} (hr : Reach fs B s)
    (i k : Nat) (hp : s.ph[i]? = some (.running k)) : s.closed = false :=
  running_not_closed (inv_reach hr) hp

/-- **Re-open follow never closes the channel**: if some follower's stream never ends (`-F`: `Read` has no
    EOF path, `blocks_while_exists`), then in every reachable state the channel is open and the consumer
    has not been told that the stream ended. -/
theorem multi_reopen_never_closes (fs : List Follower) (B : Nat) (i : Nat) (f : Follower) (hf : fs[i]? = some f)
    (hne : f.ends = false) {s : MSt} (hr : Reach fs B s) : s.closed = false ∧ s.consDone = false := by
  have hcl : s.closed = false := by
    cases hc : s.closed with
    | false => rfl
    | true =>
      have := (multi_close_only_after_all_ended fs B hr hc i f hf).1
      rw [hne] at this; cases this
  refine ⟨hcl, ?_⟩
  cases hd : s.consDone with
  | false => rfl
  | true => have := ((inv_reach hr).consClosed hd).1; rw [hcl] at this; cases this

/-- When the consumer sees the end of the stream it has received everything: per file, exactly that
    file's batches, in order. -/
theorem multi_consumer_sees_all (fs : List Follower) (B : Nat) {s : MSt} (hr : Reach fs B s)
    (hd : s.consDone = true) (i : Nat) (f : Follower) (hf : fs[i]? = some f) :
    ofSource s.recvd i = f.batches := by
  obtain ⟨hc, hq⟩ := (inv_reach hr).consClosed hd
  have := (multi_close_only_after_all_ended fs B hr hc i f hf).2.2
  simpa [MSt.hist, hq] using this

/-- What the consumer can actually tell apart is `InputBatch.Source`: with pairwise different file names
    the batches carrying the name of file `i` are the batches of follower `i`. -/
theorem multi_by_source_name (fs : List Follower) (B : Nat) (hnd : (fs.map (·.src)).Nodup) {s : MSt}
    (hr : Reach fs B s) (i : Nat) (f : Follower) (hf : fs[i]? = some f) :
    ofName fs s.hist f.src = ofSource s.hist i :=
  ofName_eq_ofSource hnd (inv_reach hr).idx hf

/-- Non-vacuity (and that schedules really interleave): files `a⏎b⏎c⏎` (batch size 2, ends) and `x⏎`
    (re-open follow: blocked in `Read` with its line flushed by the timer), channel capacity 1: a reachable
    state in which the consumer has received file 0's first batch, then file 1's batch, then file 0's
    remainder; file 0's follower is done, file 1's never will be, the channel is open. -/
example : ∃ s : MSt, Reach ([(⟨"f0", fun _ => false, [97, 10, 98, 10, 99, 10], [], true⟩ : FileRun),
      ⟨"f1", fun k => k == 0, [120, 10], [], false⟩].map (FileRun.follower 4 2)) 1 s ∧
    s.recvd.map (fun x => (x.1, x.2.start, x.2.lines)) = [(0, 1, [[97], [98]]), (1, 1, [[120]]), (0, 3, [[99]])] ∧
    s.ph = [.done, .running 1] ∧ s.closed = false := by
  refine ⟨_, (applyAll_lpath [.spawn 0, .spawn 1, .send 0, .recv, .send 1, .recv, .send 0, .finish 0, .recv] _ _ rfl).reach .init,
    by decide, by decide, by decide⟩

end Multi

/-! ## the event log of a real run is a run of these models (trace inclusion) -/

section Trace
open Rare.TraceOrder Rare.C15.Multi Rare.C15.Trace

/-- The flush log the trace check compares the logged `flush`/`flush.eof` events with IS the batching loop
    of `Model/Batcher` (and hence of the heap loop `Model/C15Batch`, `batch_heap_refines_batcher`) with the
    lines forgotten: same `BatchStart`s, same sizes, for every batch size and timer behaviour. -/
theorem trace_flush_log_is_batching_loop {α : Type} (source : String) (batchSize : Nat) (ls : List (α × Bool)) :
    (flushLog batchSize (ls.map (·.2)) true).map fshape = (Batcher.run batchSize ls).map shape ∧
    (flushLog batchSize (ls.map (·.2)) true).map fshape =
      ((Batch.run source batchSize ls).out.map (Batch.run source batchSize ls).read).map shape := by
  refine ⟨flushLog_run batchSize ls, ?_⟩
  rw [run_refines]; exact flushLog_run batchSize ls

/-- …and of `tailToChan`: the starts and sizes of the batches of a followed file are those of the flush
    log under the oracle `timer 0, …, timer (L-1)`, `L` the number of lines of the delivered stream. -/
theorem trace_flush_log_is_tail_loop (source : String) (bufSize batchSize : Nat) (timer : Nat → Bool) (data : Bytes)
    (script : List Step) (hb : 1 ≤ bufSize) :
    let t := tailToChan source bufSize batchSize timer data script
    t.numbered.map shape =
      (flushLog batchSize ((List.range (splitLines t.imm.delivered).length).map timer) true).map fshape :=
  tail_shapes_eq_flushLog source bufSize batchSize timer data script hb

/-- **What a flush's reason means**, for every batch size, oracle and stream: a `full` flush has at least
    `batchSize` lines, a `timer` flush fewer, no flush is empty, and `eof` occurs only as the LAST flush of
    a stream that ended, with fewer than `batchSize` lines.  The trace check demands of every logged
    `flush` (`n ≥ batchSize`: full, `n < batchSize`: timer) and `flush.eof` that it is the model's next flush
    with that reason, start and size (`Trace.evLabels`, `Trace.flushesAgree`). -/
theorem trace_flush_reasons (batchSize : Nat) (oracle : List Bool) (ended : Bool) :
    ∀ e ∈ flushLog batchSize oracle ended, 1 ≤ e.n ∧ (e.reason = .full → batchSize ≤ e.n) ∧
      (e.reason = .timer → e.n < batchSize) ∧
      (e.reason = .eof → ended = true ∧ e.n < max batchSize 1 ∧ (flushLog batchSize oracle ended).getLast? = some e) :=
  flushLog_reasons batchSize oracle ended

/-- **Trace inclusion.**  If the checker accepts the event log `tr` of a real `TailFilesToChan` /
    `VerifOpenReaderToChan` run, then there is an admissible reordering of the log (`Rare.TraceOrder`) whose
    replay performs transitions of `Rare.C15.Multi` only and ends in a REACHABLE state that is final for the
    machine; so everything proved above for reachable states holds of the real run: what the consumer
    logged as received is, per source, a prefix of that follower's batches in order (all of them when the
    run ended), and the channel was closed only after every follower had ended. -/
theorem trace_accepts_sound_follow (cfg : Trace.Cfg) (L : Lin Trace.PSt) (tr : Array TraceOrder.Ev)
    (h : TraceOrder.accepts (Trace.machine cfg) L (Trace.initSt cfg) tr = true) :
    ∃ sched ps, Admissible tr sched ∧
      replay (Trace.machine cfg) (Trace.initSt cfg) (sched.map (evAt tr)) = some ps ∧
      Reach cfg.fs cfg.B ps.lts ∧ Trace.final cfg ps = true ∧
      (∀ i f, cfg.fs[i]? = some f → ofSource ps.lts.hist i <+: f.batches) ∧
      (cfg.ends = true → ps.lts.consDone = true ∧ ∀ i f, cfg.fs[i]? = some f → ofSource ps.lts.recvd i = f.batches) ∧
      (cfg.ends = false → ps.lts.closed = false) := by
  obtain ⟨sched, ps, hadm, hrep, hr, hfin⟩ := accepts_reach h
  refine ⟨sched, ps, hadm, hrep, hr, hfin, ?_, ?_, ?_⟩
  · intro i f hf
    have hinv := inv_reach hr
    have hlt : i < ps.lts.ph.length := by rw [hinv.len]; exact lt_of_get hf
    exact (multi_per_source_prefix cfg.fs cfg.B hr i f _ hf (List.getElem?_eq_getElem hlt)).2
  · intro he
    simp only [Trace.final, he, if_true, Bool.and_eq_true] at hfin
    exact ⟨hfin.1, fun i f hf => multi_consumer_sees_all cfg.fs cfg.B hr hfin.1 i f hf⟩
  · intro he
    simp only [Trace.final, he, Bool.false_eq_true, if_false, Bool.and_eq_true, Bool.not_eq_true'] at hfin
    exact hfin.1.1.1

/-- Non-vacuity: the real-shaped two-file log `Trace.exampleLog` (every follower's `src.close` is logged before
    the closer's `c.close`, because `stopFileReading` runs before `wg.Done()`) is accepted; … -/
example : TraceOrder.accepts (Trace.machine Trace.exampleCfg) (Trace.lin Trace.exampleLog)
    (Trace.initSt Trace.exampleCfg) Trace.exampleLog.toArray = true := by decide +kernel

/-- … the log order itself is not a path (follower 1 logs its `flush` while the channel of capacity 1 still
    holds follower 0's batch – the send itself completes later): the reordering is needed; … -/
example : replay (Trace.machine Trace.exampleCfg) (Trace.initSt Trace.exampleCfg) Trace.exampleLog = none := by
  decide +kernel

/-- … the same log with the timer flush of file 1 reported as an end-of-stream flush is rejected; … -/
example : TraceOrder.accepts (Trace.machine Trace.exampleCfg) (Trace.lin Trace.exampleLog)
    (Trace.initSt Trace.exampleCfg)
    (Trace.exampleLog.map fun e => if e.kind = "fl" ∧ e.src = 1 then { e with kind := "fe" } else e).toArray = false := by
  decide +kernel

/-- … and so is a log in which the consumer sees the end of the stream while follower 0 still has its
    remainder to send (moving the closer's `c.close` event earlier would NOT do: that hook sits before the
    `close`, which may happen any time later). -/
example : TraceOrder.accepts (Trace.machine Trace.exampleCfg) (Trace.lin Trace.exampleLog)
    (Trace.initSt Trace.exampleCfg)
    ((Trace.exampleLog.take 12 ++ [(⟨2, "bd", noSrc, 0, 0, []⟩ : TraceOrder.Ev)] ++ (Trace.exampleLog.drop 12).filter (·.kind != "bd"))).toArray = false := by
  decide +kernel

end Trace

/-! ## the poller's offset is written where the model writes it -/

/-- poller.go as regenerated from /repo writes `s.readBytes` in exactly the three places the polling LTS
    does (`Drain`: the tail offset; `Read`: `+= n` after every read and `= 0` on the "shorter file at the path"
    branch), replaces `s.f` only by the `os.Open` of the re-open block, and that block is "open; size ≥ offset
    → `Seek(readBytes)`, else `readBytes = 0`" (`openNew`).  A helper that resets the offset before the
    `Seek` – so that a re-open of the SAME, grown file starts again at 0 – breaks this theorem. -/
theorem poll_offset_writes_match_source :
    Gen.C15.pollOffsetWrites = Expected.pollOffsetWrites ∧
    Gen.C15.pollHandleWrites = Expected.pollHandleWrites ∧
    Gen.C15.pollReopenBlock = Expected.pollReopenBlock := by
  refine ⟨rfl, rfl, rfl⟩

/-- In the model, the re-open of the same file that has grown (an append landed in the last `PollDelay` sleep,
    after the last empty read and before the `Stat`) resumes at the offset: nothing is delivered twice.
    `openStep` then is the identity up to the attempt counter. -/
theorem poll_reopen_same_file_resumes {s : PSt β} (h : Handle) (sz : Nat) (hf : s.f = some h)
    (hp : s.fs.path = some h.ino) (hpos : h.pos = s.readBytes) (hsz : s.readBytes ≤ sz) :
    openStep s sz = { s with rd := .attempt 0 } := by
  have hm : merges s sz = true := by simp [merges, hf, hp, hpos, hsz]
  simp [openStep, hm]

/-- Non-vacuity, as a run of the LTS: `ab` delivered, two empty polls, `cd` appended during the last sleep,
    `Stat` sees size 4 ≠ 2, re-open, next read delivers `cd` – the stream is `abcd`, not `ababcd`. -/
example : ∃ s : PSt Nat, PReach ⟨2, true⟩ (pinit (some [1, 2]) false) s ∧ s.delivered = [1, 2, 3, 4] ∧ s.skips = 0 := by
  have hr : PReach ⟨2, true⟩ (pinit (some [(1 : Nat), 2]) false) _ :=
    .step (.step (.step (.step (.step (.step (.step (.step (.refl (s0 := pinit (some [(1 : Nat), 2]) false))
    (.readSome _ ⟨0, 0, 0⟩ 0 2 rfl (by decide) rfl (by decide) (by decide)))
    (.readEmpty _ ⟨0, 0, 2⟩ 0 rfl (by decide) rfl rfl)) (.readEmpty _ ⟨0, 0, 2⟩ 1 rfl (by decide) rfl rfl))
    (.append _ 0 [3, 4] rfl (by decide))) (.loopDone _ ⟨0, 0, 2⟩ rfl rfl))
    (.statDiff _ 0 rfl rfl rfl (by decide))) (.reopen _ 4 rfl))
    (.readSome _ ⟨0, 0, 2⟩ 0 2 rfl (by decide) rfl (by decide) (by decide))
  exact ⟨_, hr, rfl, rfl⟩

/-! ### sensitivity: the aliasing the heap model is there to exclude -/

/-- If the loop kept the backing array after a timer-forced flush of a short batch (`batch = batch[:0]`,
    NOT what the code does – `Batch.stepSeeded`), stability would fail: lines 1, 2, 3 with the timer
    expired at lines 1 and 3 and `batchSize = 5` are sent as `[1]`, `[2,3]`, and that is what the real
    loop's batches read as afterwards; with the re-used array the first batch reads as `[2]`
    afterwards – the consumer sees 2, 2, 3. -/
theorem batch_reuse_breaks_stability :
    let ls : List (Nat × Bool) := [(1, true), (2, false), (3, true)]
    let real := ls.foldl (Batch.step "f" 5) (St.init 5)
    let seeded := ls.foldl (Batch.stepSeeded "f" 5) (St.init 5)
    real.out.map (fun b => (real.read b).lines) = [[1], [2, 3]] ∧
    seeded.out.map (fun b => (seeded.read b).lines) = [[2], [2, 3]] ∧
    seeded.out.map (·.start) = [1, 2] := by
  decide


/-! ## the wiring: from the command line to the follow reader -/

section Wiring
open Rare.C15.Wiring

/-- The chain command line → `TailFilesToChan` → `followreader.New` → `NewNotify` / `NewPolling` regenerated from
    /repo is the one `Rare.C15.Wiring.plan` was written against: `-F` implies following, `--poll` / `--tail`
    without `-f`/`-F` are usage errors, the one call site passes `(reopen, poll, tail)` in the order of
    `TailFilesToChan`'s parameters, `New` passes `reopen` on and lets `poll` choose the reader, both
    constructors open `filename`, fail on a missing file exactly when `!reopen`, and store `reopen` in their
    option field; the poller's defaults are the model's; and `TailFilesToChan` starts one goroutine per
    file name with nothing but `wg` between them (no semaphore: `--readers` does not limit followed files). -/
theorem wiring_matches_source :
    Gen.C15.cliFollowFlags = Expected.cliFollowFlags ∧
    Gen.C15.cliFollowVars = Expected.cliFollowVars ∧
    Gen.C15.cliFatals = Expected.cliFatals ∧
    Gen.C15.cliBatcherConds = Expected.cliBatcherConds ∧
    Gen.C15.cliBatcherCalls = Expected.cliBatcherCalls ∧
    Gen.C15.tailFilesParams = Expected.tailFilesParams ∧
    Gen.C15.tailFilesSkeleton = Expected.tailFilesSkeleton ∧
    Gen.C15.tailFilesBookkeeping = Expected.tailFilesBookkeeping ∧
    Gen.C15.followNewParams = Expected.followNewParams ∧
    Gen.C15.followNewBody = Expected.followNewBody ∧
    Gen.C15.newNotifyWiring = Expected.newNotifyWiring ∧
    Gen.C15.newPollingWiring = Expected.newPollingWiring ∧
    Gen.C15.readAttempts = defaultAttempts ∧ Gen.C15.pollDelayMs = defaultDelayMs := by
  refine ⟨rfl, rfl, rfl, rfl, rfl, rfl, rfl, rfl, rfl, rfl, rfl, rfl, rfl, rfl⟩

/-- `plan` in closed form, for all sixteen flag combinations: without `-f`/`-F` the files are read once (and
    `--poll` / `--tail` are refused); with either, every file is followed by the notify reader, or the polling
    reader iff `--poll`, with re-open iff `-F` and from its end iff `--tail`. -/
theorem wiring_plan (fl : Flags) :
    plan fl = if fl.follow || fl.reopen then
        .follow ⟨if fl.poll then .poll else .notify, fl.reopen, fl.tail⟩
      else if fl.poll || fl.tail then .usage else .files := by
  obtain ⟨f, r, p, t⟩ := fl
  cases f <;> cases r <;> cases p <;> cases t <;> rfl

/-- **Every accepted flag combination is covered by the theorems above**: whatever follow plan the command
    line yields, the transition system it selects – notify or polling reader, configured from /repo, with
    that `reopen`, started at the end of the file iff `--tail` – delivers, while the file stays in place,
    exactly the bytes between the start position and the reader's offset, and `Read` does not end. -/
theorem cli_follow_in_place (fl : Flags) (w : Follow) (hp : plan fl = .follow w) (c0 : List β) :
    (w.kind = .notify → ∀ s : NSt β, NReach (srcN w.reopen) (ninit (some c0) w.tail) s → s.removes = 0 →
      s.rd ≠ .ended ∧ ∃ pos, s.f = some ⟨0, start0 (some c0) w.tail, pos⟩ ∧
        InPlaceOK (s.fs.content 0) s.delivered (start0 (some c0) w.tail) pos) ∧
    (w.kind = .poll → ∀ s : PSt β, PReach (srcP w.reopen) (pinit (some c0) w.tail) s → s.removes = 0 →
      s.rd ≠ .ended ∧ InPlaceOK (s.fs.content 0) s.delivered (start0 (some c0) w.tail) s.readBytes) ∧
    w.reopen = fl.reopen ∧ w.tail = fl.tail ∧ (w.kind = .poll ↔ fl.poll = true) := by
  refine ⟨?_, ?_, ?_⟩
  · intro _ s hr hrm
    refine ⟨?_, delivered_is_prefix c0 w.tail w.reopen hr hrm⟩
    intro he
    have := (blocks_while_exists (some c0) w.tail w.reopen hr he).2
    omega
  · intro _ s hr hrm
    refine ⟨?_, (delivered_is_prefix_poll c0 w.tail w.reopen hr hrm).2⟩
    intro he
    have := (blocks_while_exists_poll c0 w.tail w.reopen hr he).2
    omega
  · rw [wiring_plan] at hp
    obtain ⟨f, r, p, t⟩ := fl
    cases f <;> cases r <;> cases p <;> cases t <;> simp at hp <;> subst hp <;> simp

/-- Non-vacuity: `-F` alone follows (notify, re-open, from the start); `--poll --tail` alone is refused. -/
example : plan ⟨false, true, false, false⟩ = .follow ⟨.notify, true, false⟩ ∧
    plan ⟨false, false, true, true⟩ = .usage ∧ plan ⟨true, false, true, true⟩ = .follow ⟨.poll, false, true⟩ ∧
    plan ⟨false, false, false, false⟩ = .files := by decide

/-- **No followed file starves another.**  In every reachable state of `TailFilesToChan`'s goroutines
    (`Rare.C15.Multi`, any number of files, any channel capacity), whatever the other followers are doing –
    e.g. blocked in `Read` for ever, as every follower of a quiet file is –
    * a file whose follower has not been started yet can be started right away, and
    * a running follower that has a batch to send gets it to the consumer by steps of the consumer and ONE
      step of its own: after them the consumer has received everything that was in flight, then that batch. -/
theorem multi_no_starvation (fs : List Multi.Follower) (B : Nat) {s : Multi.MSt} (hr : Multi.Reach fs B s) (i : Nat) :
    (s.ph[i]? = some .waiting →
      Multi.apply fs B s (.spawn i) = some { s with ph := s.ph.set i (.running 0) }) ∧
    (∀ k f b, s.ph[i]? = some (.running k) → fs[i]? = some f → f.batches[k]? = some b →
      ∃ s', Multi.LPath fs B s (List.replicate s.q.length .recv ++ [.handoff i]) s' ∧
        s'.recvd = s.hist ++ [(i, b)] ∧ s'.ph = s.ph.set i (.running (k + 1))) := by
  refine ⟨Multi.spawn_enabled fs B s i, ?_⟩
  intro k f b hp hf hb
  obtain ⟨s', h1, h2, _, h4⟩ := Multi.batch_gets_through hr i k f b hp hf hb
  exact ⟨s', h1, h2, h4⟩

end Wiring

/-! ## `Read` / `Drain` / `Close` called from one goroutine (`Rare.C15.Api`, op `api`) -/

section Api
open Rare.C15.Api

/-- **api_stream_in_place.**  For every initial content and every sequence of `Read(buf)` (any buffer sizes),
    `Drain()`, `Close()` and appends issued from one goroutine: the bytes returned since the last `Drain`
    (since the start if there was none) are exactly the bytes of the file between that position and the
    reader's offset – nothing lost, duplicated or reordered, also across `Close`. -/
theorem api_stream_in_place (content : Api.Bytes) (calls : List Call) :
    let s := (Api.run (init content) calls).1
    InPlaceOK s.content s.delivered s.start s.pos :=
  inv_run calls (init content) (inv_init content)

/-- Without a `Drain`, ghost-free: the concatenation of what the `Read` calls returned is a prefix of the
    file's final content (`extract c 0 pos`). -/
theorem api_reads_are_prefix (content : Api.Bytes) (calls : List Call) (hnd : calls.all noDrain = true) :
    let r := Api.run (init content) calls
    bytesOf r.2 = extract r.1.content 0 r.1.pos ∧ bytesOf r.2 <+: r.1.content := by
  intro r
  obtain ⟨h1, hst⟩ := delivered_run calls (init content) hnd
  obtain ⟨_, _, h5⟩ := inv_run calls (init content) (inv_init content)
  have hd : bytesOf r.2 = extract r.1.content 0 r.1.pos := by
    rw [h5, hst] at h1
    exact h1.symm
  refine ⟨hd, ?_⟩
  rw [hd]
  simp only [extract, List.drop_zero, Nat.sub_zero]
  exact List.take_prefix _ _

/-- **api_closed_is_final.**  Once `Close` has been called, every later `Read` answers `io.EOF` without bytes
    (also when bytes are unread), `Drain` and `Close` answer nil, and the reader stays closed. -/
theorem api_closed_is_final (s : St) (hc : s.closed = true) (calls : List Call) :
    (Api.run s calls).1.closed = true ∧ (∀ r ∈ (Api.run s calls).2, r = .eof ∨ r = .ok) ∧
    ∀ n, Api.step s (.read n) = (s, .eof) := by
  obtain ⟨a, b⟩ := closed_run calls s hc
  exact ⟨a, b, fun n => by simp [Api.step, hc]⟩

/-- Non-vacuity: `abc`, Read(2), append `de`, Drain, append `f`, Read(8), Close, Read(1). -/
example : (Api.run (init [97, 98, 99]) [.read 2, .append [100, 101], .drain, .append [102], .read 8, .close, .read 1]).2 =
    [.bytes [97, 98], .ok, .ok, .ok, .bytes [102], .ok, .eof] := by decide

end Api

/-! ## the atomicity assumption narrowed: `reopenIfReplaced` is `Stat`, then `Open` -/

/-- **stat_open_linearizable.**  The notify LTS takes `reopenIfReplaced` as one transition; the code does
    `os.Stat(path)` + `os.SameFile` first and `os.Open(path)` later.  For every reachable state `s1` (the
    `Stat`) and EVERY interleaving of writer operations (append, remove, create, other events) and dispatches
    of the fsnotify goroutine leading to `s2` (the `Open`): the outcome of the split execution is the outcome of
    the atomic transition executed at the `Open` when the `Stat` saw another file or none (the path never gets
    an old inode back, so "not the open file" is still true), and – when the `Stat` saw the open file – of the
    atomic transition executed at the `Stat`, which does nothing.  What remains assumed: each single system
    call is atomic, and the delete token is consumed at the linearization point (a token that arrives between
    the two calls only causes one more, harmless, `reopenIfReplaced`). -/
theorem stat_open_linearizable (c0 : Option (List β)) (tail reopen : Bool) {s1 s2 : NSt β}
    (hr : NReach (srcN reopen) (ninit c0 tail) s1) (hs : EnvSteps (srcN reopen) s1 s2) :
    reopenAfterStat (sameFile s1) s2 = (if sameFile s1 then s2 else reopenIfReplaced s2) ∧
    (sameFile s1 = true → reopenIfReplaced s1 = s1) ∧ s2.f = s1.f ∧ s2.delivered = s1.delivered := by
  have hi := ninv_reach (capW_ok reopen) (capD_ok reopen) c0 tail hr
  have he := envInv_steps hs
  obtain ⟨h1, h2⟩ := reopenAfterStat_linearizable he fun h hf => (hi.core.bounds h (by simp [hf])).2.2
  exact ⟨h1, h2, he.handle, he.delivered⟩

/-- Non-vacuity: `Stat` sees that the open file is gone (removed), the writer creates a new file and appends
    before the `Open`: the split execution opens the NEW file from its beginning, like the atomic step there. -/
example : ∃ s1 s2 : NSt Nat, NReach (srcN true) (ninit (some [1]) false) s1 ∧ EnvSteps (srcN true) s1 s2 ∧
    sameFile s1 = false ∧ (reopenAfterStat (sameFile s1) s2).f = some ⟨1, 0, 0⟩ ∧ s2.fs.content 1 = [5] := by
  have hr : NReach (srcN true) (ninit (some [(1 : Nat)]) false) _ :=
    .step (.refl (s0 := ninit (some [(1 : Nat)]) false)) (.remove _ 0 rfl)
  refine ⟨_, _, hr, .step (w := .writer) (by decide) (.create _ rfl)
    (.step (w := .writer) (by decide) (.append _ 1 [5] rfl (by decide)) (.refl _)), rfl, rfl, rfl⟩

/-! ## rotation by rename (`mv file file.1`, new file at the path) -/

/-- **rename_is_removal_for_reopen.**  Re-open follow (-F), notify reader as configured in /repo: the writer
    step "the followed file is renamed away" is the step "the followed file is removed" (the watcher turns
    the Rename event into the delete signal – `skeleton_matches_source` ties that row of the switch to
    /repo), so every run with rotations by rename is a run of the system all theorems above are about:
    the delivered stream is one segment per file, every file opened after the start is read from its
    beginning, none twice (`reopen_reads_new_from_start`), `Read` never ends (`blocks_while_exists`), … -/
theorem rename_is_removal_for_reopen (c0 : Option (List β)) (tail : Bool) {s : NSt β}
    (hr : NReachR (srcN true) (ninit c0 tail) s) :
    NReach (srcN true) (ninit c0 tail) s ∧ s.rd ≠ .ended ∧
    (∀ h ∈ s.hist ++ s.f.toList, h.start = 0 ∨ (h.ino = 0 ∧ h.start = start0 c0 tail)) ∧
    ((s.hist ++ s.f.toList).map (·.ino)).Pairwise (· < ·) ∧
    s.delivered = segments s.fs.content (s.hist ++ s.f.toList) := by
  have h := nreachR_is_nreach (cfg := srcN true) rfl hr
  refine ⟨h, ?_, reopen_reads_new_from_start c0 tail true h⟩
  intro he
  have := (blocks_while_exists c0 tail true h he).1
  cases this

/-- …and the file created at the path after the rename IS followed: some run of the fsnotify goroutine and the
    reader opens it (every run does: `reopen_steps_terminate`). -/
theorem reopen_follows_after_rename (c0 : Option (List β)) (tail : Bool) {s : NSt β}
    (hr : NReachR (srcN true) (ninit c0 tail) s) (j : Nat) (hp : s.fs.path = some j) :
    ∃ s', NSysReach (srcN true) s s' ∧ onPath s' j :=
  (reopen_eventually_opens_new c0 tail (nreachR_is_nreach (cfg := srcN true) rfl hr) j hp).2

/-- Non-vacuity, the run that used to go wrong: `[1]` delivered, the file renamed away, a new file `[2,3]` at
    the path: the Rename event becomes the delete signal, the reader re-opens and delivers `[2,3]`. -/
example : ∃ s : NSt Nat, NReachR (srcN true) (ninit (some [1]) false) s ∧ s.delivered = [1, 2, 3] ∧
    s.f = some ⟨1, 0, 2⟩ ∧ s.hist = [⟨0, 0, 1⟩] := by
  have hr : NReachR (srcN true) (ninit (some [(1 : Nat)]) false) _ :=
    .step (.step (.step (.step (.step (.step (.step (.step (.step (.step
    (.refl (s0 := ninit (some [(1 : Nat)]) false))
    (.base (.readSome _ ⟨0, 0, 0⟩ 1 rfl rfl (by decide) (by decide))))
    (.rename _ 0 rfl)) (.base (.create _ rfl))) (.base (.append _ 1 [2, 3] rfl (by decide))))
    (.base (.dispatch _ .remove [.create, .write] rfl))) (.base (.dispatch _ .create [.write] rfl)))
    (.base (.dispatch _ .write [] rfl)))
    (.base (.readEmpty _ ⟨0, 0, 1⟩ rfl rfl rfl))) (.base (.recvD _ rfl (by decide) rfl)))
    (.base (.readSome _ ⟨1, 0, 0⟩ 2 rfl rfl (by decide) (by decide)))
  exact ⟨_, hr, rfl, rfl, rfl⟩

/-- **plain_rename_not_followed_counterexample** (expected behaviour of plain -f, recorded).  Without re-open
    the Rename event is ignored: `[1]` delivered, the file renamed away, a new file `[2,3]` at the path – the
    reader is back in its `select` with nothing pending, still holds the renamed file, the stream is `[1]`
    and has not ended. -/
theorem plain_rename_not_followed_counterexample :
    ∃ s : NSt Nat, NReachR (srcN false) (ninit (some [1]) false) s ∧ s.delivered = [1] ∧
      s.f = some ⟨0, 0, 1⟩ ∧ s.fs.path = some 1 ∧ s.fs.content 1 = [2, 3] ∧
      s.rd = .selecting ∧ s.pw = 0 ∧ s.pd = 0 ∧ s.evq = [] := by
  have hr : NReachR (srcN false) (ninit (some [(1 : Nat)]) false) _ :=
    .step (.step (.step (.step (.step (.step (.step (.step (.step (.step (.step (.step
    (.refl (s0 := ninit (some [(1 : Nat)]) false))
    (.base (.readSome _ ⟨0, 0, 0⟩ 1 rfl rfl (by decide) (by decide))))
    (.rename _ 0 rfl)) (.base (.create _ rfl))) (.base (.append _ 1 [2, 3] rfl (by decide))))
    (.base (.dispatch _ .other [.create, .write] rfl))) (.base (.dispatch _ .create [.write] rfl)))
    (.base (.dispatch _ .write [] rfl)))
    (.base (.readEmpty _ ⟨0, 0, 1⟩ rfl rfl rfl))) (.base (.recvW _ rfl (by decide))))
    (.base (.readEmpty _ ⟨0, 0, 1⟩ rfl rfl rfl)))
    (.base (.noise _))) (.base (.dispatch _ .other [] rfl))
  exact ⟨_, hr, rfl, rfl, rfl, rfl, rfl, rfl, rfl, rfl⟩

/-! ## a file renamed ONTO the followed path (atomic replace: write `f.tmp`, `rename(f.tmp, f)`) -/

/-- **reopen_follows_new_file.**  Re-open follow (-F), notify reader as configured in /repo, EVERY history of
    the full writer – append, remove, create, other events, rename away, and a new file renamed ONTO the path
    (one `Create` event, no `Remove`) – and every interleaving with the fsnotify goroutine and the reader:
    whenever a file `j` is at the path, the reader has it open or a signal that makes it look is pending
    (a token, or an event the goroutine has not dispatched yet), and with a silent writer some run of goroutine
    and reader ends with `j` open (`reopen_steps_terminate`: every run does).  Before the `fix:` commit
    f4a9570 this failed for an atomic replace: `Create` raised only the write signal, whose handler re-opens
    only when no file is open (`replace.case` of the corpus; the seeded change `C15-create-no-delete`). -/
theorem reopen_follows_new_file (c0 : Option (List β)) (tail : Bool) {s : NSt β}
    (hr : NReachO (srcN true) (ninit c0 tail) s) (j : Nat) (hp : s.fs.path = some j) :
    (onPath s j ∨ 0 < s.pw ∨ Ev.create ∈ s.evq ∨ 0 < s.pd ∨ Ev.remove ∈ s.evq) ∧
    ∃ s', NSysReach (srcN true) s s' ∧ onPath s' j := by
  have hi := ninvO_reach (capW_ok true) (capD_ok true) rfl c0 tail hr
  exact ⟨reopen_pending hi rfl j hp, eventually_reopened (capW_ok true) (capD_ok true) rfl j hi hp⟩

/-- **reopen_any_rotation_exactly_once.**  The safety half for the same histories (removal + re-creation,
    rotation by rename, atomic replace, in any mix): `Read` never ends, the delivered stream is one segment per
    file handle, every file opened after the start is read from its beginning (only the initial handle may start
    elsewhere: `--tail`), files are opened in creation order and none twice, every handle is within its file, and
    the reader is never blocked in front of unread bytes of the file it has open. -/
theorem reopen_any_rotation_exactly_once (c0 : Option (List β)) (tail : Bool) {s : NSt β}
    (hr : NReachO (srcN true) (ninit c0 tail) s) :
    s.rd ≠ .ended ∧
    s.delivered = segments s.fs.content (s.hist ++ s.f.toList) ∧
    (∀ h ∈ s.hist ++ s.f.toList, h.start = 0 ∨ (h.ino = 0 ∧ h.start = start0 c0 tail)) ∧
    ((s.hist ++ s.f.toList).map (·.ino)).Pairwise (· < ·) ∧
    (∀ h ∈ s.hist ++ s.f.toList, h.start ≤ h.pos ∧ h.pos ≤ (s.fs.content h.ino).length) ∧
    (∀ h, s.f = some h → unread s.fs h ≠ [] → 0 < s.pw ∨ Ev.write ∈ s.evq ∨ s.rd ≠ .selecting) := by
  have hi := ninvO_reach (capW_ok true) (capD_ok true) rfl c0 tail hr
  refine ⟨?_, hi.core.deliv, hi.starts, hi.incr, fun x hx => ⟨(hi.core.bounds x hx).1, hi.strong x hx⟩, hi.wake⟩
  intro he
  have := (hi.ended he).1
  cases this

/-- The system without rename and replace is part of the full one (so the two theorems above speak about
    every state the earlier sections speak about). -/
theorem full_writer_extends (cfg : NCfg) (n0 : NSt β) {s : NSt β} (hr : NReach cfg n0 s) : NReachO cfg n0 s := by
  induction hr with
  | refl => exact .refl
  | step _ hs ih => exact .step ih (.base (.base hs))

/-- Non-vacuity, the run that used to go wrong: `[1]` delivered, a new file
    `[2,3]` renamed onto the path – one `Create` event, which now raises BOTH signals; the write signal finds a
    file open and does nothing, the delete signal finds another file at the path: the reader re-opens and
    delivers `[2,3]` from the beginning. -/
example : ∃ s : NSt Nat, NReachO (srcN true) (ninit (some [1]) false) s ∧ s.delivered = [1, 2, 3] ∧
    s.f = some ⟨1, 0, 2⟩ ∧ s.hist = [⟨0, 0, 1⟩] ∧ s.fs.path = some 1 := by
  have hr : NReachO (srcN true) (ninit (some [(1 : Nat)]) false) _ :=
    .step (.step (.step (.step (.step (.step (.step (.step
    (.refl (s0 := ninit (some [(1 : Nat)]) false))
    (.base (.base (.readSome _ ⟨0, 0, 0⟩ 1 rfl rfl (by decide) (by decide)))))
    (.replace _ 0 [2, 3] rfl)) (.base (.base (.dispatch _ .create [] rfl))))
    (.base (.base (.readEmpty _ ⟨0, 0, 1⟩ rfl rfl rfl)))) (.base (.base (.recvW _ rfl (by decide)))))
    (.base (.base (.readEmpty _ ⟨0, 0, 1⟩ rfl rfl rfl)))) (.base (.base (.recvD _ rfl (by decide) rfl))))
    (.base (.base (.readSome _ ⟨1, 0, 0⟩ 2 rfl rfl (by decide) (by decide))))
  exact ⟨_, hr, rfl, rfl, rfl, rfl⟩

/-- **plain_replace_not_followed_counterexample** (expected behaviour of plain -f, recorded; `tail -f` does the
    same – it follows the descriptor).  Without re-open nothing tells the reader that its file was unlinked by
    the rename: `[1]` delivered, `[2,3]` renamed onto the path – the reader is back in its `select` with nothing
    pending, still holds the unlinked file, the stream is `[1]`, has not ended, and NO run of goroutine and
    reader from there changes that. -/
theorem plain_replace_not_followed_counterexample :
    ∃ (s : NSt Nat) (j : Nat), NReachO (srcN false) (ninit (some [1]) false) s ∧ s.fs.path = some j ∧
      s.fs.content j = [2, 3] ∧ s.delivered = [1] ∧ s.rd = .selecting ∧
      ∀ s', NSysReach (srcN false) s s' → ¬ onPath s' j ∧ s'.rd ≠ .ended ∧ s'.delivered = [1] := by
  have hr : NReachO (srcN false) (ninit (some [(1 : Nat)]) false) _ :=
    .step (.step (.step (.step (.step (.step
    (.refl (s0 := ninit (some [(1 : Nat)]) false))
    (.base (.base (.readSome _ ⟨0, 0, 0⟩ 1 rfl rfl (by decide) (by decide)))))
    (.replace _ 0 [2, 3] rfl)) (.base (.base (.dispatch _ .create [] rfl))))
    (.base (.base (.readEmpty _ ⟨0, 0, 1⟩ rfl rfl rfl)))) (.base (.base (.recvW _ rfl (by decide)))))
    (.base (.base (.readEmpty _ ⟨0, 0, 1⟩ rfl rfl rfl)))
  refine ⟨_, 1, hr, rfl, rfl, rfl, rfl, ?_⟩
  intro s' hs'
  rw [quiet_stays ⟨rfl, rfl, rfl, rfl⟩ hs']
  refine ⟨?_, by simp, rfl⟩
  rintro ⟨x, hx, hino⟩
  have hx' : some (⟨0, 0, 1⟩ : Handle) = some x := hx
  cases hx'
  cases hino

/-! ## catching up: every appended byte IS delivered -/

/-- **in_place_catches_up.**  Notify follow (-f or -F, from the start or `--tail`), the file stays in place:
    from every reachable state, with a silent writer, some run of the fsnotify goroutine and the reader ends
    with the delivered stream being EXACTLY the content of the file after the start position – every byte
    appended so far has been delivered, once, in order (`onpath_steps_terminate`: every run gets there, each
    step decreases `nmuP`). -/
theorem in_place_catches_up (c0 : List β) (tail reopen : Bool) {s : NSt β}
    (hr : NReach (srcN reopen) (ninit (some c0) tail) s) (hrm : s.removes = 0) :
    ∃ s', NSysReach (srcN reopen) s s' ∧ s'.fs = s.fs ∧
      s'.delivered = (s.fs.content 0).drop (start0 (some c0) tail) := by
  have hi := ninv_reach (capW_ok reopen) (capD_ok reopen) (some c0) tail hr
  obtain ⟨_, hp, p, hf⟩ := hi.inPlace rfl hrm
  obtain ⟨s', hr', hi', hfs', hrm', x, hfx, hxj, hu⟩ :=
    catch_up (capW_ok reopen) (capD_ok reopen) 0 hi hp ⟨_, hf, rfl⟩ (Or.inr ⟨rfl, hrm⟩)
  refine ⟨s', hr', hfs', ?_⟩
  obtain ⟨_, _, p', hf', _, hs, hd⟩ := hi'.inPlaceOK rfl (by rw [hrm']; exact hrm)
  rw [hf'] at hfx
  cases hfx
  simp only [unread, List.drop_eq_nil_iff] at hu
  have hpl : p' = (s'.fs.content 0).length := by omega
  rw [hd, hpl, extract_to_end, hfs']

/-- **reopen_catches_up.**  Re-open follow (-F), notify reader, after ANY history of the full writer (append,
    remove, create, rename away, atomic replace, other events): with a silent writer some run of goroutine and
    reader ends with the file `j` that is at the path open and read to its end, and the delivered stream then
    ends with the whole content of `j` from the handle's start – which is 0 for every file opened after the
    start (only the initial file under `--tail` starts elsewhere): everything in the file at the path is
    delivered, from its beginning, exactly once. -/
theorem reopen_catches_up (c0 : Option (List β)) (tail : Bool) {s : NSt β}
    (hr : NReachO (srcN true) (ninit c0 tail) s) (j : Nat) (hp : s.fs.path = some j) :
    ∃ s', NSysReach (srcN true) s s' ∧ s'.fs = s.fs ∧ ∃ x, s'.f = some x ∧ x.ino = j ∧
      (x.start = 0 ∨ (j = 0 ∧ x.start = start0 c0 tail)) ∧
      s'.delivered = segments s.fs.content s'.hist ++ (s.fs.content j).drop x.start := by
  have hi := ninvO_reach (capW_ok true) (capD_ok true) rfl c0 tail hr
  obtain ⟨s', hr', hi', hfs', _, x, hfx, hxj, hu⟩ :=
    reopen_catch_up (capW_ok true) (capD_ok true) rfl hi j hp
  refine ⟨s', hr', hfs', x, hfx, hxj, ?_, ?_⟩
  · rcases hi'.starts x (by simp [hfx]) with h1 | ⟨h1, h2⟩
    · exact Or.inl h1
    · exact Or.inr ⟨by rw [← hxj]; exact h1, h2⟩
  · have hs := hi'.strong x (by simp [hfx])
    simp only [unread, List.drop_eq_nil_iff] at hu
    have hpl : x.pos = (s'.fs.content x.ino).length := by omega
    have hd := hi'.core.deliv
    rw [hfx] at hd
    rw [hd, ← hfs', ← hxj]
    simp only [Option.toList_some, segments_append, segments_single, hpl, extract_to_end]

/-- Every run gets there: while the file at the path is open (and stays: re-open follow, or nothing removed
    from a file present at the start), each step of goroutine or reader keeps it open and decreases `nmuP`. -/
theorem onpath_steps_terminate (c0 : Option (List β)) (tail reopen : Bool) {w : Who} {s s' : NSt β}
    (hr : NReach (srcN reopen) (ninit c0 tail) s) (hw : w ≠ .writer) (hs : NStep (srcN reopen) w s s')
    (j : Nat) (hp : s.fs.path = some j) (hon : onPath s j)
    (hst : reopen = true ∨ (c0.isSome = true ∧ s.removes = 0)) : onPath s' j ∧ nmuP s' < nmuP s :=
  onpath_step (ninv_reach (capW_ok reopen) (capD_ok reopen) c0 tail hr) hw hs j hp hon hst

/-- **poll_in_place_catches_up.**  The polling reader (-f or -F, from the start or `--tail`), the file stays in
    place: from every reachable state, with a silent writer, finitely many steps of the reader end with the
    delivered stream being EXACTLY the content of the file after the start position (the reader is deterministic
    up to the size of each read: every run gets there). -/
theorem poll_in_place_catches_up (c0 : List β) (tail reopen : Bool) {s : PSt β}
    (hr : PReach (srcP reopen) (pinit (some c0) tail) s) (hrm : s.removes = 0) :
    ∃ s', PSysReach (srcP reopen) s s' ∧ s'.fs = s.fs ∧
      s'.delivered = (s.fs.content 0).drop (start0 (some c0) tail) := by
  have hi := pinv_reach (cfg := srcP reopen) (some c0) tail hr
  obtain ⟨s', hr', hi', hfs', hrm', hrb'⟩ :=
    poll_catch_up (attempts_ok reopen) rfl hi hrm
  refine ⟨s', hr', hfs', ?_⟩
  rw [(hi'.inPlaceOK rfl hrm').2.2.2, hrb', hfs', extract_to_end]

/-- Non-vacuity of `reopen_catches_up`: after an atomic replace with the reader not yet told (`Create` still
    queued) the hypotheses hold with `j = 1`. -/
example : ∃ s : NSt Nat, NReachO (srcN true) (ninit (some [1]) false) s ∧ s.fs.path = some 1 ∧
    s.fs.content 1 = [2, 3] ∧ s.f = some ⟨0, 0, 0⟩ :=
  ⟨_, .step (.refl (s0 := ninit (some [(1 : Nat)]) false)) (.replace _ 0 [2, 3] rfl), rfl, rfl, rfl⟩

/-- Non-vacuity of the in-place statements: `--tail` on `[8,9]`, `[5]` appended, nothing read yet. -/
example : ∃ s : NSt Nat, NReach (srcN false) (ninit (some [8, 9]) true) s ∧ s.removes = 0 ∧
    s.fs.content 0 = [8, 9, 5] ∧ s.delivered = [] :=
  ⟨_, .step (.refl (s0 := ninit (some [(8 : Nat), 9]) true)) (.append _ 0 [5] rfl (by decide)), rfl, rfl, rfl⟩

/-! ## the `Stat`/`Open` split of `reopenIfReplaced` under the full writer -/

/-- **stat_open_linearizable_full_writer.**  `stat_open_linearizable` with the FULL writer on both sides: the
    state in which `Stat` is called is any reachable state of -F notify under {append, remove, create, rename
    away, atomic replace}, and between the `Stat` and the `Open` the writer may do any of these (and the fsnotify
    goroutine may dispatch).  A file renamed onto the path is a fresh inode as well, so "the file at the path is
    not the open one" is stable: the split execution equals the atomic `reopenIfReplaced` at the `Open`, or – when
    `Stat` saw the open file – does nothing (linearised at the `Stat`; a replacement that arrives after it has
    queued its own `Create`, which raises the delete signal again: `reopen_follows_new_file`). -/
theorem stat_open_linearizable_full_writer (c0 : Option (List β)) (tail : Bool) {s1 s2 : NSt β}
    (hr : NReachO (srcN true) (ninit c0 tail) s1) (hs : EnvStepsO (srcN true) s1 s2) :
    reopenAfterStat (sameFile s1) s2 = (if sameFile s1 then s2 else reopenIfReplaced s2) ∧
    (sameFile s1 = true → reopenIfReplaced s1 = s1) ∧ s2.f = s1.f ∧ s2.delivered = s1.delivered := by
  have hi := ninvO_reach (capW_ok true) (capD_ok true) rfl c0 tail hr
  have he := envInv_stepsO (envInv_refl s1) hs
  obtain ⟨h1, h2⟩ := reopenAfterStat_linearizable he fun h hf => (hi.core.bounds h (by simp [hf])).2.2
  exact ⟨h1, h2, he.handle, he.delivered⟩

/-- The basic environment is part of the full one (the theorem above extends `stat_open_linearizable`). -/
theorem stat_open_env_extends (cfg : NCfg) {s1 s2 : NSt β} (hs : EnvSteps cfg s1 s2) : EnvStepsO cfg s1 s2 :=
  envSteps_is_envStepsO hs

/-- Non-vacuity, the two interesting interleavings.  (1) `Stat` sees the open file, THEN a new file is renamed onto
    the path: the split execution keeps the old file – and the `Create` of the replacement is queued, it will raise
    the delete signal again.  (2) `Stat` sees that the open file was renamed away, then a file is renamed onto the
    path before the `Open`: the new file `[2,3]` is opened from its beginning. -/
example : ∃ s1 s2 : NSt Nat, NReachO (srcN true) (ninit (some [1]) false) s1 ∧ EnvStepsO (srcN true) s1 s2 ∧
    sameFile s1 = true ∧ s2.fs.path = some 1 ∧ reopenAfterStat (sameFile s1) s2 = s2 ∧ s2.evq = [.create] :=
  ⟨_, _, .refl, .step (w := .writer) (by decide) (.replace _ 0 [2, 3] rfl) (.refl _), rfl, rfl, rfl, rfl⟩

example : ∃ s1 s2 : NSt Nat, NReachO (srcN true) (ninit (some [1]) false) s1 ∧ EnvStepsO (srcN true) s1 s2 ∧
    sameFile s1 = false ∧ (reopenAfterStat (sameFile s1) s2).f = some ⟨1, 0, 0⟩ ∧
    (reopenAfterStat (sameFile s1) s2).hist = [⟨0, 0, 0⟩] ∧ s2.fs.content 1 = [2, 3] := by
  refine ⟨_, _, .step .refl (.base (.rename _ 0 rfl)), .step (w := .writer) (by decide) (.base (.base (.create _ rfl)))
    (.step (w := .writer) (by decide) (.base (.base (.append _ 1 [2, 3] rfl (by decide)))) (.refl _)), rfl, rfl, rfl, rfl⟩

/-! ## the polling reader under the full writer (rotation by rename, atomic replace) -/

/-- **poll_full_writer_same_reach.**  poller.go never sees events, it only reads its descriptor, `Stat`s and
    `Open`s the path.  With "followed file renamed away" and "a file with content `bs` renamed ONTO the path"
    (one system call each) as additional writer steps (`PStepO`) the polling system reaches EXACTLY the states
    it reaches with {append, remove, create}: a rename away is a removal, an atomic replace leaves the file
    system as `remove; create; append bs` does (`FS.replace_eq_remove_create_append`) and no reader step can run in between to tell
    the difference.  So every theorem about `PReach` above and below is a theorem about every kind of rotation. -/
theorem poll_full_writer_same_reach (cfg : PCfg) (p0 s : PSt β) : PReachO cfg p0 s ↔ PReach cfg p0 s :=
  preachO_iff

/-- **poll_any_rotation_exactly_once.**  poll -F, every history of the full writer (append, remove, create,
    rename away, atomic replace), every interleaving with the poller: the stream is one segment per handle, in
    order; as long as every re-open happened under the proviso of the property (`skips = 0`) every file opened
    after the start was read from its beginning; every handle delivered a range of its own file. -/
theorem poll_any_rotation_exactly_once (c0 : Option (List β)) (tail : Bool) {s : PSt β}
    (hr : PReachO (srcP true) (pinit c0 tail) s) (hsk : s.skips = 0) :
    s.delivered = segments s.fs.content (s.hist ++ s.f.toList) ∧
    (∀ h ∈ s.hist ++ s.f.toList, h.start = 0 ∨ (h.ino = 0 ∧ h.start = start0 c0 tail)) ∧
    (∀ h ∈ s.hist ++ s.f.toList, h.start ≤ h.pos ∧ (h.pos ≤ (s.fs.content h.ino).length ∨ h.pos = h.start)) := by
  have hr' := (poll_full_writer_same_reach _ _ _).mp hr
  exact ⟨(delivered_is_segments_poll c0 tail true hr').1, (reopen_reads_new_from_start_poll c0 tail hr' hsk).1,
    (delivered_is_segments_poll c0 tail true hr').2⟩

/-- **poll_plain_full_writer_blocks**: plain poll -f and the full writer – the stream ends only after a
    removal / rename away / replace of the file (`removes` counts all three), never while the first file is in place. -/
theorem poll_plain_full_writer_blocks (c0 : List β) (tail : Bool) {s : PSt β}
    (hr : PReachO (srcP false) (pinit (some c0) tail) s) (hrm : s.removes = 0) : s.rd ≠ .ended := fun he =>
  have h := (blocks_while_exists_poll c0 tail false ((poll_full_writer_same_reach _ _ _).mp hr) he).2
  by omega

/-- Non-vacuity with a replace step: `[1,2,3]` delivered, `[7,8]` renamed onto the path (shorter than the
    offset: inside the proviso), two empty polls, `Stat` sees size 2 ≠ 3, re-open at 0: the stream is
    `[1,2,3,7,8]`, no skip. -/
example : ∃ s : PSt Nat, PReachO ⟨2, true⟩ (pinit (some [1, 2, 3]) false) s ∧ s.delivered = [1, 2, 3, 7, 8] ∧
    s.skips = 0 ∧ s.removes = 1 ∧ s.f = some ⟨1, 0, 2⟩ ∧ s.hist = [⟨0, 0, 3⟩] := by
  have hr : PReachO ⟨2, true⟩ (pinit (some [(1 : Nat), 2, 3]) false) _ :=
    .step (.step (.step (.step (.step (.step (.step (.step (.refl (s0 := pinit (some [(1 : Nat), 2, 3]) false))
    (.base (.readSome _ ⟨0, 0, 0⟩ 0 3 rfl (by decide) rfl (by decide) (by decide))))
    (.replace _ 0 [7, 8] rfl))
    (.base (.readEmpty _ ⟨0, 0, 3⟩ 0 rfl (by decide) rfl rfl))) (.base (.readEmpty _ ⟨0, 0, 3⟩ 1 rfl (by decide) rfl rfl)))
    (.base (.loopDone _ ⟨0, 0, 3⟩ rfl rfl)))
    (.base (.statDiff _ 1 rfl rfl rfl (by decide)))) (.base (.reopen _ 2 rfl)))
    (.base (.readSome _ ⟨1, 0, 0⟩ 0 2 rfl (by decide) rfl (by decide) (by decide)))
  exact ⟨_, hr, rfl, rfl, rfl, rfl, rfl⟩

/-! ## the prologue of the per-file goroutine of `TailFilesToChan` (regular file, pipe, missing file / directory)

`Rare.Model.C15Open`: `followreader.New`, the optional `Drain`, the error bookkeeping.  The shape of the code (one
`incErrors` + `return` after a failed `New`, one `incErrors` WITHOUT `return` after a failed `Drain`, then
`startFileReading` and the batching loop) is `Gen.C15.tailFilesSkeleton` / `tailFilesConds` in
`wiring_matches_source`; the correspondence op `prologue` runs the real `TailFilesToChan` on all four kinds of path. -/

section prologue
open Rare.C15.Open

/-- **prologue_regular_is_initial_state.**  On a regular file nothing fails, and what the prologue leaves is
    exactly the initial state of the two transition systems every theorem above starts from: the file open at
    offset 0, or (`--tail`) at its end; the poller's `readBytes` is that offset. -/
theorem prologue_regular_is_initial_state (w : Wiring.Follow) (c : List β) :
    prologue w .regular c.length = ⟨0, true, true, start0 (some c) w.tail⟩ ∧
    (ninit (some c) w.tail).f = some ⟨0, (prologue w .regular c.length).offset, (prologue w .regular c.length).offset⟩ ∧
    (pinit (some c) w.tail).f = some ⟨0, (prologue w .regular c.length).offset, (prologue w .regular c.length).offset⟩ ∧
    (pinit (some c) w.tail).readBytes = (prologue w .regular c.length).offset := by
  rcases w with ⟨k, r, t⟩
  cases k <;> cases r <;> cases t <;> exact ⟨rfl, rfl, rfl, rfl⟩

/-- **prologue_missing_file.**  Nothing at the path (the directory exists): with re-open the goroutine follows
    without a file (`ninit none` / `pinit none`), no error, `--tail` has nothing to skip; without re-open it
    counts one error and returns. -/
theorem prologue_missing_file (w : Wiring.Follow) (size : Nat) :
    prologue w .absent size = if w.reopen then ⟨0, true, false, 0⟩ else ⟨1, false, false, 0⟩ := by
  rcases w with ⟨k, r, t⟩
  cases k <;> cases r <;> cases t <;> rfl

/-- **prologue_started_iff.**  The goroutine gives up (one error, the file is never listed as being read, nothing
    is delivered) exactly when the file cannot be opened and re-open is off, or – notify reader only, also WITH
    re-open – there is no directory to watch.  The poller with re-open waits even for the directory. -/
theorem prologue_started_iff (w : Wiring.Follow) (st : FileState) (size : Nat) :
    ((prologue w st size).started = false ↔
      (opens st = false ∧ w.reopen = false) ∨ (w.kind = .notify ∧ st = .nodir)) ∧
    ((prologue w st size).started = false → (prologue w st size).errors = 1 ∧ (prologue w st size).hasFile = false) ∧
    (newOn w.kind w.reopen st = .err ↔ Wiring.newFails (opens st) w.reopen = true ∨ (w.kind = .notify ∧ st = .nodir)) := by
  rcases w with ⟨k, r, t⟩
  cases st <;> cases k <;> cases r <;> cases t <;>
    simp [prologue, newOn, opens, watchable, seekable, drain, Wiring.newFails]

/-- **prologue_errors.**  At most one error per file; a started follower has one exactly when `--tail` met a
    file it cannot seek in. -/
theorem prologue_errors (w : Wiring.Follow) (st : FileState) (size : Nat) :
    (prologue w st size).errors ≤ 1 ∧
    ((prologue w st size).started = true →
      ((prologue w st size).errors = 1 ↔ w.tail = true ∧ st = .fifo)) := by
  rcases w with ⟨k, r, t⟩
  cases st <;> cases k <;> cases r <;> cases t <;>
    simp [prologue, newOn, opens, watchable, seekable, drain]

/-- **tail_on_pipe_counts_error_and_reads_all** (behaviour of the code, recorded): `--tail` on a named pipe –
    `Drain` fails (ESPIPE), one error is counted, there is NO `return`: the pipe is followed from its beginning,
    what was already in it is delivered too.  On a regular file `--tail` skips exactly the content. -/
theorem tail_on_pipe_counts_error_and_reads_all (w : Wiring.Follow) (content extra : List β) :
    (w.tail = true → (prologue w .fifo content.length).errors = 1) ∧
    (prologue w .fifo content.length).started = true ∧
    delivers w .fifo content extra = content ++ extra ∧
    delivers w .regular content extra = (if w.tail then extra else content ++ extra) ∧
    (prologue w .regular content.length).errors = 0 := by
  rcases w with ⟨k, r, t⟩
  cases k <;> cases r <;> cases t <;>
    simp [delivers, following, readFails, readable, prologue, newOn, opens, watchable, seekable, drain]

/-- **read_error_ends_the_file** (behaviour of the code, recorded).  The followed path is a directory: `New` and
    `Drain` succeed, the first `Read` of the descriptor fails with a non-EOF error, which BOTH readers return at
    once (notify.go / poller.go `if err != nil && err != io.EOF { return n, err }`), also with re-open: one error
    is counted, nothing is delivered, the file is not followed any more.  In general: a file is being followed
    iff the prologue started it and it is not a directory; there is never more than one error per file. -/
theorem read_error_ends_the_file (w : Wiring.Follow) (st : FileState) (content extra : List β) :
    (following w st content.length = true ↔ (prologue w st content.length).started = true ∧ st ≠ .directory) ∧
    totalErrors w st content.length ≤ 1 ∧
    (st = .directory → totalErrors w st content.length = 1 ∧ delivers w st content extra = []) ∧
    (following w st content.length = false → delivers w st content extra = []) := by
  rcases w with ⟨k, r, t⟩
  cases st <;> cases k <;> cases r <;> cases t <;>
    simp [delivers, following, totalErrors, readFails, readable, prologue, newOn, opens, watchable, seekable, drain]

example : prologue ⟨.notify, true, true⟩ .nodir 0 = ⟨1, false, false, 0⟩ ∧
    prologue ⟨.poll, true, true⟩ .nodir 0 = ⟨0, true, false, 0⟩ ∧
    prologue ⟨.poll, false, true⟩ .fifo 7 = ⟨1, true, true, 0⟩ ∧
    prologue ⟨.poll, false, true⟩ .regular 7 = ⟨0, true, true, 7⟩ ∧
    delivers ⟨.notify, false, true⟩ .fifo [1, 2] [3] = [1, 2, 3] ∧
    delivers ⟨.notify, false, true⟩ .regular [1, 2] [3] = [3] ∧
    following ⟨.notify, true, false⟩ .directory 2 = false ∧ totalErrors ⟨.poll, true, true⟩ .directory 2 = 1 := by decide

end prologue

/-! ## in-place truncation (copytruncate rotation) – outside the property, behaviour recorded -/

/-- **notify_truncate_never_seeks_back.**  Notify follow under a writer that appends AND truncates in place
    (no removal): in every reachable state the file opened at the start is still the open one, and the
    number of delivered bytes is exactly the distance its offset has travelled from the start position –
    the reader never goes back, so nothing is ever delivered twice, and nothing written below the
    offset after a truncation is ever delivered. -/
theorem notify_truncate_never_seeks_back (c0 : List β) (tail reopen : Bool) {s : NSt β}
    (hr : NReachT (srcN reopen) (ninit (some c0) tail) s) (hrm : s.removes = 0) :
    ∃ pos, s.f = some ⟨0, start0 (some c0) tail, pos⟩ ∧ s.delivered.length + start0 (some c0) tail = pos ∧
      s.rd ≠ .ended :=
  let hi := ntinv_reach c0 tail hr hrm
  let ⟨p, h1, _, h3⟩ := hi.handle
  ⟨p, h1, h3, hi.alive⟩

/-- Every step of the extended notify LTS (writer incl. truncation, fsnotify goroutine, reader), seen through
    a descriptor that stays open: the offset only grows, and what is delivered is what the file held
    between the old and the new offset. -/
theorem notify_truncate_reads_forward (reopen : Bool) {w : Who} {s s' : NSt β} (hs : NStepT (srcN reopen) w s s')
    (h h' : Handle) (hf : s.f = some h) (hf' : s'.f = some h') (hino : h'.ino = h.ino) :
    h.pos ≤ h'.pos ∧ s'.delivered = s.delivered ++ extract (s.fs.content h.ino) h.pos h'.pos :=
  let ⟨a, _, c⟩ := nstepT_forward hs h h' hf hf' hino
  ⟨a, c⟩

/-- **notify_blind_below_offset.**  While the open file is the one at the path and is not longer than the
    reader's offset (after a truncation, however much has been written below the offset since), no step of
    the fsnotify goroutine or the reader delivers a byte. -/
theorem notify_blind_below_offset (reopen : Bool) {w : Who} {s s' : NSt β} (hw : w ≠ .writer)
    (hs : NStep (srcN reopen) w s s') (h : Handle) (hf : s.f = some h) (hp : s.fs.path = some h.ino)
    (hb : (s.fs.content h.ino).length ≤ h.pos) : s'.delivered = s.delivered ∧ s'.fs = s.fs :=
  let ⟨a, b, _⟩ := nstep_blind_beyond_end hw hs h hf hp hb
  ⟨a, b⟩

/-- **notify_truncate_loses_counterexample** (expected behaviour, recorded; -f and -F alike).  `[1,2,3]`
    delivered, the file truncated to nothing, `[7,8]` written, then `[9,10]`: the reader is back in its
    `select` with no signal pending and no event queued, the file holds `[7,8,9,10]`, and the stream is
    `[1,2,3,10]`: the first three bytes of the new generation are never delivered. -/
theorem notify_truncate_loses_counterexample (reopen : Bool) :
    ∃ s : NSt Nat, NReachT (srcN reopen) (ninit (some [1, 2, 3]) false) s ∧ s.removes = 0 ∧ s.quiet ∧
      s.fs.content 0 = [7, 8, 9, 10] ∧ s.delivered = [1, 2, 3, 10] := by
  have hr : NReachT (srcN reopen) (ninit (some [(1 : Nat), 2, 3]) false) _ :=
    .step (.step (.step (.step (.step (.step (.step (.step (.step (.step (.step (.step (.step (.step (.step
    (.refl (s0 := ninit (some [(1 : Nat), 2, 3]) false))
    (.base (.readSome _ ⟨0, 0, 0⟩ 3 rfl rfl (by decide) (by decide))))
    (.truncate _ 0 0 rfl (by decide)))
    (.base (.dispatch _ .write [] rfl)))
    (.base (.readEmpty _ ⟨0, 0, 3⟩ rfl rfl rfl)))
    (.base (.recvW _ rfl Nat.zero_lt_one)))
    (.base (.readEmpty _ ⟨0, 0, 3⟩ rfl rfl rfl)))
    (.base (.append _ 0 [7, 8] rfl (by decide))))
    (.base (.dispatch _ .write [] rfl)))
    (.base (.recvW _ rfl Nat.zero_lt_one)))
    (.base (.readEmpty _ ⟨0, 0, 3⟩ rfl rfl rfl)))
    (.base (.append _ 0 [9, 10] rfl (by decide))))
    (.base (.dispatch _ .write [] rfl)))
    (.base (.recvW _ rfl Nat.zero_lt_one)))
    (.base (.readSome _ ⟨0, 0, 3⟩ 1 rfl rfl (Nat.le_refl 1) (Nat.le_refl 1))))
    (.base (.readEmpty _ ⟨0, 0, 4⟩ rfl rfl rfl))
  exact ⟨_, hr, rfl, ⟨rfl, rfl, rfl, rfl⟩, rfl, rfl⟩

/-- **poll_reopen_restarts_shorter_file.**  Polling follow with re-open, reader at the top of `Read`, nothing
    left to read through the old descriptor, and the file at the path – the SAME inode after a truncation,
    or a new one after a rotation – shorter than the poller's offset: with a silent writer the reader does
    its `ReadAttempts` empty reads, `Stat`s, re-opens, resets its offset and delivers the whole file at the
    path from its beginning; no skip is counted.  (copytruncate rotation is handled like remove + create,
    under the same proviso.) -/
theorem poll_reopen_restarts_shorter_file (s : PSt β) (h : Handle) (j : Nat) (hf : s.f = some h)
    (hp : s.fs.path = some j) (hrd : s.rd = .attempt 0) (hu : unread s.fs h = [])
    (hlt : (s.fs.content j).length < s.readBytes) :
    ∃ s', PSysReach (srcP true) s s' ∧ s'.delivered = s.delivered ++ s.fs.content j ∧
      s'.f = some ⟨j, 0, (s.fs.content j).length⟩ ∧ s'.readBytes = (s.fs.content j).length ∧
      s'.skips = s.skips := by
  obtain ⟨s', h1, h2, h3, h4, h5, _⟩ := poll_restart_run (attempts_ok true) rfl s h j hf hp hrd hu hlt
  exact ⟨s', h1, h2, h3, h4, h5⟩

/-- Non-vacuity, as a run of the extended LTS: `[1,2,3]` delivered, truncated to nothing, `[7,8]` written; the
    hypotheses of `poll_reopen_restarts_shorter_file` hold in that reachable state (same inode!). -/
example : ∃ s : PSt Nat, PReachT (srcP true) (pinit (some [1, 2, 3]) false) s ∧ s.f = some ⟨0, 0, 3⟩ ∧
    s.fs.path = some 0 ∧ s.rd = .attempt 0 ∧ unread s.fs ⟨0, 0, 3⟩ = [] ∧
    (s.fs.content 0).length < s.readBytes ∧ s.fs.content 0 = [7, 8] := by
  have hr : PReachT (srcP true) (pinit (some [(1 : Nat), 2, 3]) false) _ :=
    .step (.step (.step (.refl (s0 := pinit (some [(1 : Nat), 2, 3]) false))
    (.base (.readSome _ ⟨0, 0, 0⟩ 0 3 rfl (by decide) rfl (by decide) (by decide))))
    (.truncate _ 0 0 rfl (by decide)))
    (.base (.append _ 0 [7, 8] rfl (by decide)))
  exact ⟨_, hr, rfl, rfl, rfl, rfl, by decide, rfl⟩

/-- **poll_plain_truncate_loses_counterexample** (expected behaviour, recorded).  Plain polling follow never
    re-opens: after the same history as `notify_truncate_loses_counterexample` the poller has done a full
    quiet cycle, the file holds `[7,8,9,10]` and the stream is `[1,2,3,10]`. -/
theorem poll_plain_truncate_loses_counterexample :
    ∃ s : PSt Nat, PReachT ⟨1, false⟩ (pinit (some [1, 2, 3]) false) s ∧ s.removes = 0 ∧ s.rd = .attempt 0 ∧
      s.fs.content 0 = [7, 8, 9, 10] ∧ s.delivered = [1, 2, 3, 10] ∧ unread s.fs ⟨0, 0, 4⟩ = [] := by
  have hr : PReachT ⟨1, false⟩ (pinit (some [(1 : Nat), 2, 3]) false) _ :=
    .step (.step (.step (.step (.step (.step (.step (.step (.step (.step (.step
    (.refl (s0 := pinit (some [(1 : Nat), 2, 3]) false))
    (.base (.readSome _ ⟨0, 0, 0⟩ 0 3 rfl (by decide) rfl (by decide) (by decide))))
    (.truncate _ 0 0 rfl (by decide)))
    (.base (.append _ 0 [7, 8] rfl (by decide))))
    (.base (.readEmpty _ ⟨0, 0, 3⟩ 0 rfl (by decide) rfl rfl)))
    (.base (.loopDone _ ⟨0, 0, 3⟩ rfl rfl)))
    (.base (.statThere _ 0 rfl rfl rfl)))
    (.base (.append _ 0 [9, 10] rfl (by decide))))
    (.base (.readSome _ ⟨0, 0, 3⟩ 0 1 rfl (by decide) rfl (by decide) (by decide))))
    (.base (.readEmpty _ ⟨0, 0, 4⟩ 0 rfl (by decide) rfl rfl)))
    (.base (.loopDone _ ⟨0, 0, 4⟩ rfl rfl)))
    (.base (.statThere _ 0 rfl rfl rfl))
  exact ⟨_, hr, rfl, rfl, rfl, rfl, rfl⟩

/-- **poll_reopen_truncate_duplicates_counterexample** (expected behaviour, recorded).  Polling follow with
    re-open takes a file that is shorter than its offset for a NEW file: after a truncation to `n > 0` bytes
    the surviving `n` bytes are delivered a second time.  `[1,2,3]` delivered, truncated to `[1,2]`: the
    stream is `[1,2,3,1,2]`. -/
theorem poll_reopen_truncate_duplicates_counterexample :
    ∃ s : PSt Nat, PReachT ⟨1, true⟩ (pinit (some [1, 2, 3]) false) s ∧ s.removes = 0 ∧
      s.fs.content 0 = [1, 2] ∧ s.delivered = [1, 2, 3, 1, 2] ∧ s.hist = [⟨0, 0, 3⟩] ∧ s.f = some ⟨0, 0, 2⟩ := by
  have hr : PReachT ⟨1, true⟩ (pinit (some [(1 : Nat), 2, 3]) false) _ :=
    .step (.step (.step (.step (.step (.step (.step
    (.refl (s0 := pinit (some [(1 : Nat), 2, 3]) false))
    (.base (.readSome _ ⟨0, 0, 0⟩ 0 3 rfl (by decide) rfl (by decide) (by decide))))
    (.truncate _ 0 2 rfl (by decide)))
    (.base (.readEmpty _ ⟨0, 0, 3⟩ 0 rfl (by decide) rfl rfl)))
    (.base (.loopDone _ ⟨0, 0, 3⟩ rfl rfl)))
    (.base (.statDiff _ 0 rfl rfl rfl (by decide))))
    (.base (.reopen _ 2 rfl)))
    (.base (.readSome _ ⟨0, 0, 0⟩ 0 2 rfl (by decide) rfl (by decide) (by decide)))
  exact ⟨_, hr, rfl, rfl, rfl, rfl, rfl⟩

/-- **poll_reopen_truncate_regrown_counterexample** (expected behaviour, recorded).  The size comparison is
    all the poller has: a file truncated and grown back to EXACTLY the old offset before the poller looks is
    not noticed (`statSame`), and what is appended later is delivered from the old offset on.  `[1,2,3]`
    delivered, truncated, `[7,8,9]` written, a quiet cycle, `[10]` appended: the stream is `[1,2,3,10]`. -/
theorem poll_reopen_truncate_regrown_counterexample :
    ∃ s : PSt Nat, PReachT ⟨1, true⟩ (pinit (some [1, 2, 3]) false) s ∧ s.removes = 0 ∧ s.skips = 0 ∧
      s.fs.content 0 = [7, 8, 9, 10] ∧ s.delivered = [1, 2, 3, 10] := by
  have hr : PReachT ⟨1, true⟩ (pinit (some [(1 : Nat), 2, 3]) false) _ :=
    .step (.step (.step (.step (.step (.step (.step (.step
    (.refl (s0 := pinit (some [(1 : Nat), 2, 3]) false))
    (.base (.readSome _ ⟨0, 0, 0⟩ 0 3 rfl (by decide) rfl (by decide) (by decide))))
    (.truncate _ 0 0 rfl (by decide)))
    (.base (.append _ 0 [7, 8, 9] rfl (by decide))))
    (.base (.readEmpty _ ⟨0, 0, 3⟩ 0 rfl (by decide) rfl rfl)))
    (.base (.loopDone _ ⟨0, 0, 3⟩ rfl rfl)))
    (.base (.statSame _ 0 rfl rfl rfl rfl)))
    (.base (.append _ 0 [10] rfl (by decide))))
    (.base (.readSome _ ⟨0, 0, 3⟩ 0 1 rfl (by decide) rfl (by decide) (by decide)))
  exact ⟨_, hr, rfl, rfl, rfl, rfl⟩

/-- The extended systems contain the original ones: every reachable state of `NStep` / `PStep` is one of
    `NStepT` / `PStepT` (so the witnesses above differ from the runs of the property only by `truncate`). -/
theorem truncate_extends (cn : NCfg) (cp : PCfg) (n0 : NSt β) (p0 : PSt β) :
    (∀ s, NReach cn n0 s → NReachT cn n0 s) ∧ (∀ s, PReach cp p0 s → PReachT cp p0 s) := by
  constructor
  · intro s h
    induction h with
    | refl => exact .refl
    | step _ hs ih => exact .step ih (.base hs)
  · intro s h
    induction h with
    | refl => exact .refl
    | step _ hs ih => exact .step ih (.base hs)

/-! ## non-vacuity (observation point (a)) -/

/-- A rotation handled in the order that used to lose the wake-up (create signal received before the
    delete signal): `[1]` delivered, file removed, new file `[2,3]`; the reader takes the write signal
    first (no-op, old file still open), then the delete signal, re-opens and delivers `[2,3]`. -/
example : ∃ s : NSt Nat, NReach (srcN true) (ninit (some [1]) false) s ∧ s.delivered = [1, 2, 3] ∧
    s.f = some ⟨1, 0, 2⟩ ∧ s.hist = [⟨0, 0, 1⟩] := by
  have hr : NReach (srcN true) (ninit (some [(1 : Nat)]) false) _ :=
    .step (.step (.step (.step (.step (.step (.step (.step (.step (.step (.step (.step
    (.refl (s0 := ninit (some [(1 : Nat)]) false))
    (.readSome _ ⟨0, 0, 0⟩ 1 rfl rfl (by decide) (by decide)))
    (.remove _ 0 rfl)) (.create _ rfl)) (.append _ 1 [2, 3] rfl (by decide)))
    (.dispatch _ .remove [.create, .write] rfl)) (.dispatch _ .create [.write] rfl))
    (.dispatch _ .write [] rfl))
    (.readEmpty _ ⟨0, 0, 1⟩ rfl rfl rfl)) (.recvW _ rfl (by decide)))
    (.readEmpty _ ⟨0, 0, 1⟩ rfl rfl rfl)) (.recvD _ rfl (by decide) rfl))
    (.readSome _ ⟨1, 0, 0⟩ 2 rfl rfl (by decide) (by decide))
  exact ⟨_, hr, rfl, rfl, rfl⟩

/-- `--tail` in place: start position 2, one append, delivered = exactly the appended bytes. -/
example : ∃ s : NSt Nat, NReach (srcN false) (ninit (some [8, 9]) true) s ∧ s.removes = 0 ∧
    s.delivered = [5, 6] ∧ InPlaceOK (s.fs.content 0) s.delivered 2 4 := by
  have hr : NReach (srcN false) (ninit (some [(8 : Nat), 9]) true) _ :=
    .step (.step (.step (.step (.step (.refl (s0 := ninit (some [(8 : Nat), 9]) true))
    (.readEmpty _ ⟨0, 2, 2⟩ rfl rfl rfl)) (.append _ 0 [5, 6] rfl (by decide)))
    (.dispatch _ .write [] rfl)) (.recvW _ rfl (by decide)))
    (.readSome _ ⟨0, 2, 2⟩ 2 rfl rfl (by decide) (by decide))
  exact ⟨_, hr, rfl, rfl, ⟨by decide, by decide, rfl⟩⟩

/-- The hypotheses of `unread_eventually_delivered` are satisfiable with the reader in its `select`:
    unread bytes, reader selecting, and indeed a write event is still queued. -/
example : ∃ s : NSt Nat, NReach (srcN false) (ninit (some []) false) s ∧ s.removes = 0 ∧
    s.rd = .selecting ∧ unread s.fs ⟨0, 0, 0⟩ = [4] ∧ Ev.write ∈ s.evq := by
  have hr : NReach (srcN false) (ninit (some ([] : List Nat)) false) _ :=
    .step (.step (.refl (s0 := ninit (some ([] : List Nat)) false))
    (.readEmpty _ ⟨0, 0, 0⟩ rfl rfl rfl)) (.append _ 0 [4] rfl (by decide))
  exact ⟨_, hr, rfl, rfl, rfl, by decide⟩

/-- Plain polling follow: a reachable ended state exists (after a removal), with everything delivered. -/
example : ∃ s : PSt Nat, PReach ⟨1, false⟩ (pinit (some [1, 2]) false) s ∧ s.rd = .ended ∧
    s.delivered = [1, 2] ∧ 0 < s.removes := by
  have hr : PReach ⟨1, false⟩ (pinit (some [(1 : Nat), 2]) false) _ :=
    .step (.step (.step (.step (.step (.refl (s0 := pinit (some [(1 : Nat), 2]) false))
    (.readSome _ ⟨0, 0, 0⟩ 0 2 rfl (by decide) rfl (by decide) (by decide)))
    (.remove _ 0 rfl)) (.readEmpty _ ⟨0, 0, 2⟩ 0 rfl (by decide) rfl rfl))
    (.loopDone _ ⟨0, 0, 2⟩ rfl rfl)) (.statGone _ rfl rfl rfl)
  exact ⟨_, hr, rfl, rfl, by decide⟩

end Rare.C15

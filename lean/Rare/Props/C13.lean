import Rare.Proofs.C13Main
import Rare.Proofs.C13Algo
import Rare.Proofs.C13Real
import Rare.Proofs.C13GoSort
import Rare.Proofs.F64Parse
import Rare.Proofs.C13Date
import Rare.Proofs.C13Groups
import Rare.Proofs.C13Axes
import Rare.Proofs.C13Survey
import Rare.Gen.C13
/-!
# C13 – Output ordering is a deterministic function of the aggregated data

Model: `Rare/Model/C13.lean` (the sorters of `pkg/aggregation/sorting` and `cmd/helpers/sorting.go`
after the two `fix:` commits for F18 and the calendar/instant ties), parametric in the library calls
(`Oracle`: `strings.ToLower`, `strconv.ParseFloat`, `dateparse.ParseFormat`, `time.Parse`); every
theorem stated for `o : Oracle` holds for every behaviour of these calls.  On top of it

* `Rare/Model/C13Num.lean`: `strconv.ParseFloat` IS modelled (`F64.parseFloat`, software binary64) –
  `byNameSmartF` mirrors `ByNameSmart` with it, `realNum`/`numVal` say what a key denotes.  Theorems
  `numeric_real_*`, `numeric_orders_by_magnitude`, `numeric_equal_values_by_text`, … are about the
  real semantics, for all byte strings.
* `Rare/Model/C13Lower.lean`: `strings.ToLower` IS modelled (`goToLower tl`: ASCII fast path +
  `strings.Map(unicode.ToLower, ·)` over Go's UTF-8 decoding), parametric only in the rune table
  `tl = unicode.ToLower`, of which `RuneLower` is assumed and re-checked against the toolchain on every
  run (`rune_lower_from_source`, harness op `lowtab`).  `contextual_table_lookup` is exact for all
  byte strings.
* `dateparse.ParseFormat` / `time.Parse` remain oracles (`DateLib`), universally quantified.

`sort.Sort` is NOT modelled.  It is any comparison-based algorithm (`Algo`, a decision tree asking
`less a b`) that satisfies the contract `SortContract` (`Rare/Spec/C13.lean`), stated once:

    within : it only compares elements of its input;
    sorted : on distinct elements, if `less` is asymmetric, total and transitive on them (`OrderOn`),
             the result is a permutation of the input that is pairwise sorted w.r.t. `less`.

Theorems that USE the contract (hypothesis `hc : SortContract alg`): `perm_invariant`,
`perm_invariant_partial`, `reverse_every_permutation`, `reverse_every_permutation_partial` (and
`sort_result` in `Proofs/C13Main.lean`).  All other theorems are about the comparators themselves
or about the reference sort `isort`.  `sort_contract_satisfiable` discharges the contract for a
verified insertion sort (`isortA`); nothing is claimed about Go's pdqsort beyond the contract.

`Rare/Model/C13Axes.lean`: the commands' use of the sorters – two `BuildSorter` closures for the two
axes of table/heatmap/spark, kept for the whole render loop (`table_axes_independent`,
`render_loop_deterministic`, `table_renders_deterministic`, `reduce_render_loop`,
`shared_sorter_counterexample`, `sorters_built_per_axis`), and `-n N` = sort first, cut afterwards
(`top_n_deterministic`, `top_rows_precede_hidden`, `cut_before_sort_counterexample`, `top_n_matches_source`,
`sort_wrappers_match_source`).

Full statement wanted for `contextual` / `date`:
  for EVERY key set, every permutation sorts to the same sequence
    (`sort_result` without the hypothesis `modeUniform`).
This is false for the code as it is (F19, known finding): the closures infer their mode from the
first key they see and switch to the fallback for good when they meet a stranger, so the answer to
`less a b` depends on the comparisons made before.  Proved instead: `contextual_partial`,
`date_partial` (hypothesis: all keys infer the same table / share one layout, or none does) and
`contextual_counterexample`, `date_counterexample`, `date_layout_counterexample` at the witnesses.
The one repair the repo's tests leave room for (an in-band "survey" of the keys before sorting) was examined on the
real code and on the model and rejected: `survey_harmless`, `survey_contextual_all_sets` (what it would gain),
`survey_repair_counterexample` (what it leaves open).
-/
namespace Rare.C13

/-! ## less is a strict total order, per mode -/

/-- `text` -/
theorem text_less_strict_total : StrictTotalOn (fun _ => True) byName :=
  bytesLt_strictTotal

/-- `numeric` (after the F18 fix), for every behaviour of `ParseFloat`. -/
theorem numeric_less_strict_total (num : Key → PF) : StrictTotalOn (fun _ => True) (byNameSmart num) := by
  rw [byNameSmart_eq_numeric]
  exact numericLess_strictTotal _

/-- `value` (ascending; the CLI default is its reverse): rows, not only names, are totally ordered. -/
theorem value_less_strict_total :
    StrictTotalOn (fun _ : NV => True) (fun a b => (valueSorterEx (pureCmp byName) () a b).1) := by
  rw [valueSorterEx_byName]
  exact valueLess_strictTotal

/-- `contextual`: what the mode denotes is a strict total order for EVERY key set … -/
theorem contextual_less_strict_total (o : Oracle) (sets : List SortSet) (keys : List Key) :
    StrictTotalOn (fun _ => True) (contextualSpec o sets keys) :=
  contextualSpec_strictTotal o sets keys

/-- … and `date` likewise. -/
theorem date_less_strict_total (o : Oracle) (sets : List SortSet) (keys : List Key) :
    StrictTotalOn (fun _ => True) (dateSpec o sets keys) :=
  dateSpec_strictTotal o sets keys

/-- Every mode, with or without `:reverse`, orders rows with distinct names (asymmetric, total and
transitive on distinct rows). -/
theorem less_order_all_modes (o : Oracle) (sets : List SortSet) (m : Mode) (rev : Bool) (items : List NV)
    (hnd : (items.map (·.name)).Nodup) : OrderOn (· ∈ items) (finalSpecLess o sets items m rev) :=
  finalSpec_orderOn o sets m rev items hnd

/-! ## unique sorted sequence ⇒ permutation invariance -/

/-- Two sorted arrangements of the same distinct keys are equal. -/
theorem sorted_unique {α : Type} {less : α → α → Bool} {keys o1 o2 : List α}
    (ho : OrderOn (· ∈ keys) less) (h1 : IsSorted less o1 keys) (h2 : IsSorted less o2 keys) : o1 = o2 :=
  sorted_unique' ho h1 h2

/-- `text`, `numeric`, `value` (any modifier): whatever order the map hands the rows over in,
`sort.Sort` with the closure rare builds returns the same sequence – the sorted arrangement of
the set under the specified order. -/
theorem perm_invariant (o : Oracle) (sets : List SortSet) (m : Mode)
    (hm : m = .text ∨ m = .numeric ∨ m = .value) (rev : Bool)
    (alg : List NV → Algo NV (List NV)) (hc : SortContract alg)
    (items a1 a2 : List NV) (hnd : (items.map (·.name)).Nodup) (h1 : a1.Perm items) (h2 : a2.Perm items) :
    (Algo.run (finalSorter o sets m rev).cmp (finalSorter o sets m rev).init (alg a1)).1
      = (Algo.run (finalSorter o sets m rev).cmp (finalSorter o sets m rev).init (alg a2)).1
    ∧ (Algo.run (finalSorter o sets m rev).cmp (finalSorter o sets m rev).init (alg a1)).1
      = isort (finalSpecLess o sets items m rev) items := by
  have hu := modeUniform_of_stateless o sets hm (items.map (·.name))
  rw [sort_result o sets m rev alg hc items a1 hnd h1 hu, sort_result o sets m rev alg hc items a2 hnd h2 hu]
  exact ⟨rfl, rfl⟩

/-- All modes at once, under the uniformity hypothesis (trivially true for text/numeric/value). -/
theorem perm_invariant_partial (o : Oracle) (sets : List SortSet) (m : Mode) (rev : Bool)
    (alg : List NV → Algo NV (List NV)) (hc : SortContract alg)
    (items a1 a2 : List NV) (hnd : (items.map (·.name)).Nodup) (h1 : a1.Perm items) (h2 : a2.Perm items)
    (hu : modeUniform o sets m (items.map (·.name)) = true) :
    (Algo.run (finalSorter o sets m rev).cmp (finalSorter o sets m rev).init (alg a1)).1
      = (Algo.run (finalSorter o sets m rev).cmp (finalSorter o sets m rev).init (alg a2)).1 := by
  rw [sort_result o sets m rev alg hc items a1 hnd h1 hu, sort_result o sets m rev alg hc items a2 hnd h2 hu]

/-! ## the inferring closures (F19) -/

/-- `contextual`, partial: if every key infers the same name table (or none does), the stateful
closure answers the specified order along every adaptive comparison sequence over these keys. -/
theorem contextual_partial (o : Oracle) (sets : List SortSet) (keys : List Key)
    (hu : ctxUniform o sets keys = true) {ρ : Type} (alg : Algo Key ρ) (hw : Algo.Within (· ∈ keys) alg) :
    (Algo.run (byContextual o sets) ({}, ()) alg).1 = Algo.runPure (contextualSpec o sets keys) alg :=
  (ctx_faithful o sets keys hu).run_eq alg hw

/-- `date`, partial: same with one shared layout (or no layout at all and `ctxUniform`). -/
theorem date_partial (o : Oracle) (sets : List SortSet) (keys : List Key)
    (hu : dateUniform o sets keys = true) {ρ : Type} (alg : Algo Key ρ) (hw : Algo.Within (· ∈ keys) alg) :
    (Algo.run (byDateWithContextual o sets) ({}, {}, ()) alg).1 = Algo.runPure (dateSpec o sets keys) alg :=
  (date_faithful o sets keys hu).run_eq alg hw

/-- Library behaviour at the witnesses (recorded from the real `ParseFloat`/`dateparse`/`time`). -/
def witnessOracle : Oracle where
  lower := asciiLower
  num := fun _ => .err
  dfmt := fun k => if k = asc "01/02/2022" ∨ k = asc "12/31/2021" then some 0 else none
  dparse := fun _ k =>
    if k = asc "01/02/2022" then some 1641081600000000000
    else if k = asc "12/31/2021" then some 1640908800000000000 else none

/-- F19 at the witness `{mon, fri, abc}`: the hypothesis of `contextual_partial` fails, Go's
insertion sort returns two different sequences for two arrival orders, and NO pure comparator
explains the closure (the answer to `mon < fri` depends on what was compared before). -/
theorem contextual_counterexample :
    ctxUniform witnessOracle sortSets [asc "mon", asc "fri", asc "abc"] = false
    ∧ (goInsertionSort (byContextual witnessOracle sortSets) ({}, ()) [asc "mon", asc "fri", asc "abc"]).1
        = [asc "abc", asc "mon", asc "fri"]
    ∧ (goInsertionSort (byContextual witnessOracle sortSets) ({}, ()) [asc "abc", asc "mon", asc "fri"]).1
        = [asc "abc", asc "fri", asc "mon"]
    ∧ ¬ ∃ less, Faithful (byContextual witnessOracle sortSets) ({}, ())
          (· ∈ [asc "mon", asc "fri", asc "abc"]) less := by
  rw [← and_assoc, ← and_assoc]
  refine ⟨by simp -index only [sortSets, weekdays, months, asc_ofList]; decide +kernel, ?_⟩
  intro ⟨less, hf⟩
  -- asked first the closure says `mon < fri`, asked again after it has met `abc` it says the opposite
  have h := hf.runSeq_eq [(asc "mon", asc "fri"), (asc "abc", asc "mon"), (asc "mon", asc "fri")]
    (by decide +kernel)
  have e : runSeq (byContextual witnessOracle sortSets) ({}, ())
      [(asc "mon", asc "fri"), (asc "abc", asc "mon"), (asc "mon", asc "fri")] = [true, true, false] := by
    simp -index only [sortSets, weekdays, months, asc_ofList]
    decide +kernel
  rw [e] at h
  simp only [List.map_cons, List.map_nil, List.cons.injEq] at h
  exact absurd (h.1.trans h.2.2.1.symm) (by decide)

/-- The same defect in `ByDate`, at `{01/02/2022, 12/31/2021, abc}`. -/
theorem date_counterexample :
    dateUniform witnessOracle sortSets [asc "01/02/2022", asc "12/31/2021", asc "abc"] = false
    ∧ (goInsertionSort (byDateWithContextual witnessOracle sortSets) ({}, {}, ())
          [asc "01/02/2022", asc "12/31/2021", asc "abc"]).1
        = [asc "12/31/2021", asc "01/02/2022", asc "abc"]
    ∧ (goInsertionSort (byDateWithContextual witnessOracle sortSets) ({}, {}, ())
          [asc "abc", asc "01/02/2022", asc "12/31/2021"]).1
        = [asc "01/02/2022", asc "12/31/2021", asc "abc"] := by
  simp -index only [witnessOracle, sortSets, weekdays, months, asc_ofList]
  decide +kernel

/-- Library behaviour at the third witness (recorded from the real `dateparse`/`time`): layout 0 =
`2006-01-02` (inferred from the zero-padded keys) does not parse `2022-9-3`; layout 1 = `2006-1-2`
(inferred from `2022-9-3`) parses all three.  `ParseFloat`/`ToLower` are the models. -/
def layoutWitness : Oracle := realOracle {
  dfmt := fun k => if k = asc "2022-9-3" then some 1 else if k = asc "2022-10-01" ∨ k = asc "2022-09-02" then some 0 else none
  dparse := fun f k =>
    if k = asc "2022-10-01" then some 1664582400000000000
    else if k = asc "2022-09-02" then some 1662076800000000000
    else if k = asc "2022-9-3" ∧ f = 1 then some 1662163200000000000 else none }

/-- F19 without any stranger: all three keys are dates, yet the layout is taken from whichever key
the closure is handed first.  Arrival `[2022-10-01, 2022-9-3, 2022-09-02]` (Go's insertion sort
first asks `Less(1, 0)`, i.e. sees `2022-9-3`) sorts chronologically, arrival
`[2022-9-3, 2022-10-01, 2022-09-02]` falls back to text. -/
theorem date_layout_counterexample :
    dateUniform layoutWitness sortSets [asc "2022-10-01", asc "2022-9-3", asc "2022-09-02"] = false
    ∧ (goInsertionSort (byDateWithContextual layoutWitness sortSets) ({}, {}, ())
          [asc "2022-10-01", asc "2022-9-3", asc "2022-09-02"]).1
        = [asc "2022-09-02", asc "2022-9-3", asc "2022-10-01"]
    ∧ (goInsertionSort (byDateWithContextual layoutWitness sortSets) ({}, {}, ())
          [asc "2022-9-3", asc "2022-10-01", asc "2022-09-02"]).1
        = [asc "2022-09-02", asc "2022-10-01", asc "2022-9-3"] := by
  simp -index only [layoutWitness, sortSets, weekdays, months, asc_ofList]
  decide +kernel

/-! ## a repair of F19 that was examined and rejected: the "survey" step

The repo's tests pin the sorters as plain funcs handed through the generic `Sort[TElem, TSort ~func(a, b TElem) bool]`
(`TestFallbackSort`: `Sort(list, ByContextual())` must give the SET-level fallback), so the only way `Sort`/`SortBy` can tell
a closure about the key set is to call it.  `survey` = show every element to the sorter as `less(x, x)` before `sort.Sort`
(`Proofs/C13Survey.lean`; tried on the real code in a scratch worktree: the whole suite passes unedited).  It is harmless
(`survey_harmless`) and repairs witnesses 1 and 2, but it is not a repair of F19 (`survey_repair_counterexample`). -/

/-- Wherever the closure already answers a pure order (the uniform key sets of `contextual_partial` / `date_partial`, every
key set of the other modes), it still does after having been shown any of these keys: a survey changes nothing there. -/
theorem survey_harmless {α σ : Type} {cmp : SCmp α σ} {init : σ} {P : α → Prop} {less : α → α → Bool}
    (h : Faithful cmp init P less) (arrival : List α) (hl : ∀ x ∈ arrival, P x) {ρ : Type} (alg : Algo α ρ)
    (hw : Algo.Within P alg) :
    (Algo.run cmp (survey cmp init arrival) alg).1 = Algo.runPure less alg :=
  (h.after_survey arrival hl).run_eq alg hw

/-- **What the survey WOULD repair – `contextual` on EVERY key set** (no uniformity hypothesis): with the survey step, whatever
order the keys arrive in, `sort.Sort` (any algorithm meeting the contract, any `n`) with the `ByContextual()` closure returns
the sorted arrangement of the set under the specified set-level order (all keys in one table: calendar order; otherwise the
fallback for the whole set).  Needs only that no name is in two tables (`sortSets_disjoint`: true of the weekday/month
tables).  This is what `--sort contextual` and `rare reduce --sort` would gain; `date` would not
(`survey_repair_counterexample`), which is why the patch was not committed. -/
theorem survey_contextual_all_sets (o : Oracle) (sets : List SortSet) (hd : TablesDisjoint o.lower sets)
    (alg : List Key → Algo Key (List Key)) (hc : SortContract alg)
    (keys a1 a2 : List Key) (hnd : keys.Nodup) (h1 : a1.Perm keys) (h2 : a2.Perm keys) :
    (Algo.run (byContextual o sets) (survey (byContextual o sets) ({}, ()) a1) (alg a1)).1
      = (Algo.run (byContextual o sets) (survey (byContextual o sets) ({}, ()) a2) (alg a2)).1
    ∧ (Algo.run (byContextual o sets) (survey (byContextual o sets) ({}, ()) a1) (alg a1)).1
      = isort (contextualSpec o sets keys) keys := by
  have ho : OrderOn (· ∈ keys) (contextualSpec o sets keys) :=
    (contextualSpec_strictTotal o sets keys).toOrderOn.mono (fun _ _ => trivial)
  have res : ∀ a : List Key, a.Perm keys →
      (Algo.run (byContextual o sets) (survey (byContextual o sets) ({}, ()) a) (alg a)).1
        = isort (contextualSpec o sets keys) keys :=
    fun a hp => sort_faithful_result alg hc keys a hnd hp (survey_ctx_faithful o sets hd keys a hp) ho
  exact ⟨(res a1 h1).trans (res a2 h2).symm, res a1 h1⟩

/-- its hypothesis holds for the real tables, whatever `strings.ToLower` does -/
example (o : Oracle) : TablesDisjoint o.lower sortSets := sortSets_disjoint o.lower

/-- What the survey repairs and what it does not (kernel computation on the model of the patched `Sort`):
* `{mon, fri, abc}` (witness 1) and `{01/02/2022, 12/31/2021, abc}` (witness 2): both arrival orders of
  `contextual_counterexample` / `date_counterexample` now give the set-level fallback order;
* `{2022-10-01, 2022-9-3, 2022-09-02}` (witness 3): the layout is still the one of the first key shown – the two arrival
  orders of `date_layout_counterexample` still give two sequences;
* `date` = `ByDate(ByContextual())`: `ByDate` hands a key to its inner closure only once it has fallen back (and must not
  before: `TestDateSort` passes a fallback that panics), so after ONE survey of `{2022-01-01, mon, fri}` the inner closure
  has seen `mon, fri` (arrival `2022-01-01` first: weekday table, `mon < fri`) or all three (arrival `mon` first: fallback,
  `fri < mon`) – the answer to `mon < fri` depends on the arrival order; a SECOND survey would settle it.  With Go's
  insertion sort the first comparison happens to involve the unseen key, so this shows only for `n > 12` (real code, 17
  keys: 93 different results in 2000 shuffles). -/
theorem survey_repair_counterexample :
    (surveyedSort (byContextual witnessOracle sortSets) ({}, ()) [asc "mon", asc "fri", asc "abc"]
        = [asc "abc", asc "fri", asc "mon"]
      ∧ surveyedSort (byContextual witnessOracle sortSets) ({}, ()) [asc "abc", asc "mon", asc "fri"]
        = [asc "abc", asc "fri", asc "mon"]
      ∧ surveyedSort (byDateWithContextual witnessOracle sortSets) ({}, {}, ())
          [asc "01/02/2022", asc "12/31/2021", asc "abc"] = [asc "01/02/2022", asc "12/31/2021", asc "abc"]
      ∧ surveyedSort (byDateWithContextual witnessOracle sortSets) ({}, {}, ())
          [asc "abc", asc "01/02/2022", asc "12/31/2021"] = [asc "01/02/2022", asc "12/31/2021", asc "abc"])
    ∧ (surveyedSort (byDateWithContextual layoutWitness sortSets) ({}, {}, ())
          [asc "2022-10-01", asc "2022-9-3", asc "2022-09-02"] = [asc "2022-09-02", asc "2022-10-01", asc "2022-9-3"]
      ∧ surveyedSort (byDateWithContextual layoutWitness sortSets) ({}, {}, ())
          [asc "2022-9-3", asc "2022-10-01", asc "2022-09-02"] = [asc "2022-09-02", asc "2022-9-3", asc "2022-10-01"])
    ∧ ((byDateWithContextual nestedWitness sortSets
          (survey (byDateWithContextual nestedWitness sortSets) ({}, {}, ()) [asc "2022-01-01", asc "mon", asc "fri"])
          (asc "mon") (asc "fri")).1 = true
      ∧ (byDateWithContextual nestedWitness sortSets
          (survey (byDateWithContextual nestedWitness sortSets) ({}, {}, ()) [asc "mon", asc "2022-01-01", asc "fri"])
          (asc "mon") (asc "fri")).1 = false
      ∧ (byDateWithContextual nestedWitness sortSets
          (survey (byDateWithContextual nestedWitness sortSets) ({}, {}, ())
            ([asc "2022-01-01", asc "mon", asc "fri"] ++ [asc "2022-01-01", asc "mon", asc "fri"]))
          (asc "mon") (asc "fri")).1 = false) := by
  simp -index only [layoutWitness, nestedWitness, sortSets, weekdays, months, asc_ofList]
  decide +kernel

/-- the hypothesis of `survey_harmless` is satisfiable on a non-trivial closure: weekday names in three spellings -/
example : (Algo.run (byContextual witnessOracle sortSets)
      (survey (byContextual witnessOracle sortSets) ({}, ()) [asc "Mon", asc "tues", asc "sunday"])
      (isortA [asc "tues", asc "sunday", asc "Mon"])).1 = [asc "sunday", asc "Mon", asc "tues"] := by
  simp -index only [sortSets, weekdays, months, asc_ofList]
  decide +kernel

/-! ## what each mode means -/

/-- `value`: in the default (descending) arrangement larger totals come first. -/
theorem value_desc {out items : List NV} (h : IsSorted (revLess valueLess) out items) :
    out.Pairwise (fun a b => a.value ≥ b.value) := by
  refine h.2.imp ?_
  intro a b hab
  simp only [revLess, valueLess, byRank, lexLt, intLt, Bool.not_eq_true', Bool.or_eq_false_iff,
    decide_eq_false_iff_not] at hab
  omega

/-- `value:asc`: smaller totals first, equal totals by name. -/
theorem value_asc {out items : List NV} (h : IsSorted valueLess out items) :
    out.Pairwise (fun a b => a.value < b.value ∨ (a.value = b.value ∧ bytesLt a.name b.name = true)) := by
  refine h.2.imp ?_
  intro a b hab
  simpa [valueLess, byRank, lexLt, intLt] using hab

/-- `numeric` orders numbers by magnitude (whatever their spelling) … -/
theorem numeric_by_magnitude (num : Key → PF) (a b : Key) (x y : Int)
    (ha : num a = .val x) (hb : num b = .val y) (hxy : x < y) :
    byNameSmart num a b = true ∧ byNameSmart num b a = false := by
  have hne : x ≠ y := by omega
  have hne' : y ≠ x := by omega
  have hnot : ¬ y < x := by omega
  simp [byNameSmart, ha, hb, PF.isNum, PF.ord, hne, hne', hxy, hnot]

/-- … puts every number before everything that is not a number (NaN counts as text) … -/
theorem numeric_numbers_first (num : Key → PF) (a b : Key) (x : Int)
    (ha : num a = .val x) (hb : (num b).isNum = false) :
    byNameSmart num a b = true ∧ byNameSmart num b a = false := by
  cases hnb : num b with
  | val y => rw [hnb] at hb; simp [PF.isNum] at hb
  | err => simp [byNameSmart, ha, hnb, PF.isNum]
  | nan => simp [byNameSmart, ha, hnb, PF.isNum]

/-- … and two spellings of one number, or two non-numbers, by text. -/
theorem numeric_ties_by_text (num : Key → PF) (a b : Key)
    (h : (num a).mag = (num b).mag) : byNameSmart num a b = bytesLt a b := by
  rw [byNameSmart_eq_numeric]
  simp only [numericLess, byRank, lexLt, h, decide_true, Bool.true_and]
  rw [optLt_strictTotal.irrefl _ trivial]
  rfl

/-- `date`: from a fresh closure, two keys that parse with the inferred layout are ordered
chronologically. -/
theorem date_chronological {σ : Type} (o : Oracle) (fb : SCmp Key σ) (s0 : σ) (a b : Key) (f : Nat) (x y : Int)
    (hf : o.dfmt a = some f) (ha : o.dparse f a = some x) (hb : o.dparse f b = some y) (hxy : x < y) :
    (byDate o fb ({}, s0) a b).1 = true := by
  have hne : x ≠ y := by omega
  simp [byDate, hf, ha, hb, hne, hxy]

/-- `date`, set level: with one shared layout the specified (and, by `date_partial`, the computed)
order is chronological. -/
theorem date_chronological_set (o : Oracle) (sets : List SortSet) (keys : List Key) (k0 : Key) (rest : List Key)
    (hk : keys = k0 :: rest) (f : Nat) (hf : o.dfmt k0 = some f)
    (hall : ∀ k ∈ keys, o.dfmt k = some f ∧ (o.dparse f k).isSome = true)
    (a b : Key) (x y : Int) (ha : o.dparse f a = some x) (hb : o.dparse f b = some y) (hxy : x < y) :
    dateSpec o sets keys a b = true := by
  subst hk
  unfold dateSpec dateSpecLess
  simp only [hf]
  rw [if_pos (by simpa [List.all_eq_true] using hall)]
  simp [chronoLess, byRank, lexLt, intLt, ha, hb, hxy]

/-! ## contextual: calendar positions, over the tables regenerated from the Go source -/

def weekdayNames : List String :=
  ["sunday", "monday", "tuesday", "wednesday", "thursday", "friday", "saturday"]

def monthNames : List String :=
  ["january", "february", "march", "april", "may", "june", "july", "august", "september",
   "october", "november", "december"]

/-- every entry abbreviates (is a prefix of) the full name at its position, and every full name is present -/
def calendarTable (table : List (String × Nat)) (names : List String) : Bool :=
  table.all (fun e => match names[e.2]? with
    | some full => e.1.toList.isPrefixOf full.toList
    | none => false)
  && (List.range names.length).all (fun i => table.contains (names.getD i "", i))

def asKeys (table : List (String × Nat)) : SortSet := table.map (fun e => (asc e.1, e.2))

/-- The generated weekday and month tables map every name and abbreviation to its calendar
position (Sunday = 0 … Saturday = 6, January = 0 … December = 11). -/
theorem contextual_calendar :
    calendarTable Gen.C13.weekdays weekdayNames = true ∧ calendarTable Gen.C13.months monthNames = true := by
  simp -index only [calendarTable, Gen.C13.weekdays, Gen.C13.months, List.all_cons, List.all_nil, String.toList_ofList]
  decide +kernel

/-- The hand-written tables of the model are the generated ones (same finite maps, same order of
`sortSets`), and the two tables share no key. -/
theorem tables_match_source :
    (∀ e ∈ Gen.C13.weekdays, weekdays.get (asc e.1) = some e.2) ∧ Gen.C13.weekdays.length = weekdays.length
    ∧ (∀ e ∈ Gen.C13.months, months.get (asc e.1) = some e.2) ∧ Gen.C13.months.length = months.length
    ∧ Gen.C13.sortSets = [Gen.C13.weekdays, Gen.C13.months] ∧ sortSets = [weekdays, months]
    ∧ (∀ e ∈ Gen.C13.weekdays, months.get (asc e.1) = none) := by
  simp -index only [sortSets, weekdays, months, asc_ofList]
  decide +kernel

/-- The closure, fresh, on any two generated weekday (month) spellings: earlier calendar position first. -/
theorem contextual_orders_by_calendar :
    (∀ e1 ∈ Gen.C13.weekdays, ∀ e2 ∈ Gen.C13.weekdays, e1.2 < e2.2 →
      (byContextual witnessOracle sortSets ({}, ()) (asc e1.1) (asc e2.1)).1 = true)
    ∧ (∀ e1 ∈ Gen.C13.months, ∀ e2 ∈ Gen.C13.months, e1.2 < e2.2 →
      (byContextual witnessOracle sortSets ({}, ()) (asc e1.1) (asc e2.1)).1 = true) := by
  simp -index only [sortSets, weekdays, months, asc_ofList]
  decide +kernel

/-- In general: two keys of the inferred table are ordered by position, then by text. -/
theorem contextual_calendar_step (o : Oracle) (sets : List SortSet) (set : SortSet) (a b : Key) (i j : Nat)
    (hinf : inferSortSetByValue sets o.lower a = some set)
    (ha : set.get (o.lower a) = some i) (hb : set.get (o.lower b) = some j) (hij : i < j) :
    (byContextual o sets ({}, ()) a b).1 = true := by
  have hne : i ≠ j := by omega
  simp [byContextual, byContextualEx, hinf, ha, hb, hne, hij]

/-! ## reversing -/

/-- `Reverse` negates every answer of the closure … -/
theorem reverse_negates {α σ : Type} (cmp : SCmp α σ) (s : σ) (a b : α) :
    (reverse cmp s a b).1 = !(cmp s a b).1 ∧ (reverse cmp s a b).2 = (cmp s a b).2 :=
  ⟨rfl, rfl⟩

/-- … and on distinct keys that reverses the sorted sequence. -/
theorem reverse_reverses {α : Type} {less : α → α → Bool} {out keys : List α} (hnd : keys.Nodup)
    (ho : OrderOn (· ∈ keys) less) :
    IsSorted (revLess less) out keys ↔ IsSorted less out.reverse keys :=
  isSorted_rev hnd ho

/-- The reversed sort returns the reverse of the forward sort (reference sort; by `sort_result` also
the real one). -/
theorem reverse_result {α : Type} {less : α → α → Bool} {keys : List α} (hnd : keys.Nodup)
    (ho : OrderOn (· ∈ keys) less) : isort (revLess less) keys = (isort less keys).reverse :=
  isort_rev hnd ho

/-! ## sort names and modifiers -/

def parsed (r : Except SortErr (Key × Bool)) : Option (Key × Bool) :=
  match r with
  | .ok x => some x
  | .error _ => none

def sortNames : List String := ["text", "numeric", "contextual", "context", "date", "value", ""]

/-- modifier ↦ expected `reverse` as a function of "the name is value" (`none` = error) -/
def modifierExpect : List (String × (Bool → Option Bool)) :=
  [("", fun v => some v), (":asc", fun _ => some false), (":desc", fun _ => some true),
   (":rev", fun v => some (!v)), (":reverse", fun v => some (!v)), (":ASC", fun _ => some false),
   (":Reverse", fun v => some (!v)), (":asc:whatever", fun _ => some false),
   (":", fun _ => none), (":bla", fun _ => none), (":ascending", fun _ => none)]

/-- `parseSort` on every name × modifier: `value` defaults to descending, `:asc`/`:desc` set the
direction, `:rev`/`:reverse` flip the default, anything else is an error. -/
theorem modifier_table :
    (sortNames.all fun n => modifierExpect.all fun me =>
      parsed (parseSort asciiLower (asc n ++ asc me.1))
        == (me.2 (n == "value")).map (fun r => (asc n, r))) = true := by
  simp -index only [sortNames, modifierExpect, List.all_cons, List.all_nil, asc_ofList]
  decide +kernel

def modeOfReturn (stmt : String) : Option Mode :=
  if stmt = "return sorting.ValueNilSorter(sorting.ByName), nil" then some .text
  else if stmt = "return sorting.ValueNilSorter(sorting.ByNameSmart), nil" then some .numeric
  else if stmt = "return sorting.ValueNilSorter(sorting.ByContextual()), nil" then some .contextual
  else if stmt = "return sorting.ValueNilSorter(sorting.ByDateWithContextual()), nil" then some .date
  else if stmt = "return sorting.ValueSorterEx(sorting.ByName), nil" then some .value
  else none

/-- The model's name table and modifier table are the switches found in the Go source now. -/
theorem switches_match_source :
    (Gen.C13.lookupSwitch.all fun row => (modeOfReturn row.2).isSome
        && row.1.all fun label => lookupMode asciiLower (asc label) == modeOfReturn row.2) = true
    ∧ Gen.C13.lookupSwitch.length = 5
    ∧ lookupMode asciiLower (asc "fake") = none
    ∧ Gen.C13.modifierSwitch =
        [(["rev", "reverse"], "reverse = !reverse"), (["desc"], "reverse = true"), (["asc"], "reverse = false"),
         (["<default>"], "return \"\", false, errors.New(\"invalid sort modifier\")")]
    ∧ Gen.C13.reverseDefault = "(realname == \"value\")" :=
  ⟨by decide +kernel, rfl, by decide +kernel, rfl, rfl⟩

/-! ## `numeric` over the REAL `strconv.ParseFloat` (software binary64, `Rare/Base/F64Str.lean`)

`byNameSmartF` mirrors `ByNameSmart` with `F64.parseFloat`, `F64.eq`, `F64.lt`; `numVal k` is what
the key denotes: not a number (syntax error, range error such as `1e400`, NaN), `-Inf`, an exact
rational (the value of the nearest float64), `+Inf`. -/

/-- The Go-shaped comparator is the parametric model at the real `ParseFloat`. -/
theorem numeric_real_is_model : byNameSmartF = byNameSmart realNum :=
  funext fun a => funext fun b => byNameSmartF_eq a b

/-- `numeric`, real `ParseFloat`: a strict total order on ALL byte strings – irreflexive, transitive,
and any two distinct keys (`1`/`1.0`/`1e0`/`+1`, `-0`/`0`, NaN and Inf spellings, hex floats,
underscores, text) are ordered one way or the other. -/
theorem numeric_real_strict_total : StrictTotalOn (fun _ => True) byNameSmartF := by
  rw [numeric_real_is_model]
  exact numeric_less_strict_total realNum

/-- **`numeric` orders numbers by magnitude**: if both keys parse and their exact values differ,
the smaller value comes first (`-Inf` < every finite value < `+Inf`), whatever the spellings. -/
theorem numeric_orders_by_magnitude (a b : Key) (h : NumVal.lt (numVal a) (numVal b)) :
    byNameSmartF a b = true ∧ byNameSmartF b a = false := by
  obtain ⟨p, q, hp, hq, hpq⟩ := (numVal_lt_iff a b).mp h
  rw [numeric_real_is_model]
  cases ha : realNum a <;> rw [ha] at hp <;> simp [PF.mag] at hp
  cases hb : realNum b <;> rw [hb] at hq <;> simp [PF.mag] at hq
  subst hp; subst hq
  exact numeric_by_magnitude realNum a b _ _ ha hb hpq

/-- Equal exact values (two spellings of one number, `-0` and `0`, the same infinity) and two
non-numbers are ordered by text – that is what keeps the order strict and total. -/
theorem numeric_equal_values_by_text (a b : Key) (h : numVal a = numVal b) :
    byNameSmartF a b = bytesLt a b := by
  rw [numeric_real_is_model]
  exact numeric_ties_by_text realNum a b ((numVal_eq_iff a b).mp h)

/-- Every number (incl. `±Inf`) sorts before every non-number (text, NaN, out-of-range spellings). -/
theorem numeric_numbers_before_text (a b : Key) (ha : (numVal a).isNum = true) (hb : numVal b = .notNum) :
    byNameSmartF a b = true ∧ byNameSmartF b a = false := by
  rw [numeric_real_is_model]
  have hb' := (numVal_notNum_iff b).mp hb
  have ha' : (realNum a).mag ≠ none := by
    intro h
    rw [(numVal_notNum_iff a).mpr h] at ha
    cases ha
  cases hna : realNum a with
  | val x =>
    refine numeric_numbers_first realNum a b x hna ?_
    cases hnb : realNum b <;> rw [hnb] at hb' <;> simp [PF.mag, PF.isNum] at hb' ⊢
  | err => rw [hna] at ha'; exact absurd rfl ha'
  | nan => rw [hna] at ha'; exact absurd rfl ha'

/-- Decimal integer spellings (what `strconv.Atoi` accepts, `|n| ≤ 2^53`) are ordered as integers. -/
theorem numeric_orders_integers (a b : Key) (m n : Int) (ha : atoi a = some m) (hb : atoi b = some n)
    (hm : m.natAbs ≤ 9007199254740992) (hn : n.natAbs ≤ 9007199254740992) (hmn : m < n) :
    byNameSmartF a b = true ∧ byNameSmartF b a = false := by
  apply numeric_orders_by_magnitude
  obtain ⟨x, hx, hxr⟩ := F64.parseFloat_of_atoi_small ha hm
  obtain ⟨y, hy, hyr⟩ := F64.parseFloat_of_atoi_small hb hn
  have fin : ∀ (z : F64) (q : Rat), z.toRat? = some q → numValOf z = .fin q := by
    intro z q hz
    unfold F64.toRat? at hz
    split at hz
    · rename_i hf
      cases hz
      have hn := F64.not_nan_of_finite hf
      have hi := F64.not_inf_of_finite hf
      simp [numValOf, hn, hi]
    · cases hz
  simp only [numVal, hx, hy, fin x _ hxr, fin y _ hyr, NumVal.lt]
  exact Rat.intCast_lt_intCast.mpr hmn

/-- The spellings the property names, evaluated by the model of `ParseFloat` (kernel computation):
one value in five spellings, signed zero, NaN / Inf spellings (case-insensitive, `+nan` is not one),
range errors are NOT numbers, hex floats need a `p` exponent, underscores only between digits. -/
theorem numeric_spellings :
    numVal (asc "1") = numVal (asc "1.0") ∧ numVal (asc "1") = numVal (asc "1e0")
    ∧ numVal (asc "1") = numVal (asc "+1") ∧ numVal (asc "1") = numVal (asc "0x1p0")
    ∧ numVal (asc "1") = numVal (asc "01") ∧ (numVal (asc "1")).isNum = true
    ∧ numVal (asc "-0") = numVal (asc "0") ∧ numVal (asc "1e-400") = numVal (asc "0")
    ∧ numVal (asc "nan") = .notNum ∧ numVal (asc "NaN") = .notNum ∧ numVal (asc "+nan") = .notNum
    ∧ numVal (asc "inf") = .posInf ∧ numVal (asc "+Inf") = .posInf ∧ numVal (asc "iNfInItY") = .posInf
    ∧ numVal (asc "-inf") = .negInf ∧ numVal (asc "infin") = .notNum
    ∧ numVal (asc "1e400") = .notNum ∧ numVal (asc "-1e400") = .notNum
    ∧ numVal (asc "0x1p4") = numVal (asc "16") ∧ numVal (asc "0x10") = .notNum
    ∧ numVal (asc "1_000") = numVal (asc "1000") ∧ numVal (asc "1__0") = .notNum ∧ numVal (asc "_1") = .notNum
    ∧ numVal (asc ".5") = numVal (asc "0.5") ∧ numVal (asc "5.") = numVal (asc "5") ∧ numVal (asc ".") = .notNum
    ∧ numVal (asc "") = .notNum ∧ numVal (asc "1a") = .notNum ∧ numVal (asc " 1") = .notNum := by
  simp -index only [asc_ofList]
  decide +kernel

example : NumVal.lt (numVal (asc "-inf")) (numVal (asc "-1.5")) ∧ NumVal.lt (numVal (asc "9")) (numVal (asc "1e1"))
    ∧ NumVal.lt (numVal (asc "0x1p4")) (numVal (asc "+Inf")) := by
  simp -index only [asc_ofList]
  decide +kernel

example : atoi (asc "-20") = some (-20) ∧ atoi (asc "+007") = some 7 := by
  simp -index only [asc_ofList]
  decide +kernel

/-- `numeric` on a key set with every kind of spelling: every arrival order gives the same sequence
(numbers by magnitude, the tie `-0`/`0` and `16`/`0x1p4` by text, then the non-numbers by text). -/
example :
    isort byNameSmartF [asc "nan", asc "inf", asc "-inf", asc "1e400", asc "0x1p4", asc "16", asc "0", asc "-0", asc "abc", asc "2"]
      = [asc "-inf", asc "-0", asc "0", asc "2", asc "0x1p4", asc "16", asc "inf", asc "1e400", asc "abc", asc "nan"]
    ∧ isort byNameSmartF [asc "2", asc "abc", asc "-0", asc "0", asc "16", asc "0x1p4", asc "1e400", asc "-inf", asc "inf", asc "nan"]
      = [asc "-inf", asc "-0", asc "0", asc "2", asc "0x1p4", asc "16", asc "inf", asc "1e400", asc "abc", asc "nan"] := by
  simp -index only [asc_ofList]
  decide +kernel

/-! ## `strings.ToLower` as the sorters use it (contextual / date keys, sort names)

`goToLower tl` mirrors `strings.ToLower` with `unicode.ToLower = tl`; `RuneLower tl` is all that is
assumed of the rune table, and it is regenerated from the Go toolchain on every run. -/

/-- The assumed facts about `unicode.ToLower`, enumerated over all code points by the translator:
only U+0130 (`İ` ↦ `i`) and U+212A (KELVIN SIGN ↦ `k`) lower-case into ASCII; ASCII is `A-Z ↦ a-z`.
The contract is satisfiable (`tlMin`). -/
theorem rune_lower_from_source :
    Gen.C13.lowerIntoAscii = [(0x130, 0x69), (0x212A, 0x6B)] ∧ Gen.C13.lowerAsciiExact = true
    ∧ Gen.C13.lowerIdempotent = true ∧ RuneLower tlMin := by
  refine ⟨by decide, by decide, by decide, ?_⟩
  refine ⟨?_, by decide, by decide, ?_⟩
  · intro r hr; simp [tlMin, hr]
  · intro r hr h1 h2
    have : ¬ r < 128 := by omega
    simp [tlMin, this, h1, h2]; omega

/-- ASCII keys: `strings.ToLower` is exactly the byte-wise `A-Z ↦ a-z` (no assumption on `tl`). -/
theorem to_lower_ascii_exact (tl : Nat → Nat) (k : Key) (hk : k.all (fun c => c < 128) = true) :
    goToLower tl k = asciiLower k := by
  unfold goToLower
  simp only [hk, if_true]
  have e : asciiLower k = k.map lowerB := rfl
  cases hu : k.any (fun c => 65 ≤ c ∧ c ≤ 90) with
  | false => simp [e, map_lowerB_noUpper k hu]
  | true => simp [e]

/-- ALL byte strings: comparing `strings.ToLower(k)` with an ASCII constant `c` (a table key, a
`switch` label) is comparing `lowerK k` with it. -/
theorem to_lower_lookup (tl : Nat → Nat) (h : RuneLower tl) (k c : Key) (hc : c.all (fun x => x < 128) = true) :
    goToLower tl k = c ↔ lowerK k = c :=
  lower_lookup tl h k c hc

/-- the weekday and month tables have ASCII keys only -/
theorem tables_ascii : AsciiKeys sortSets :=
  sortSets_keys.1

/-- **The table look-up of `contextual`, for all byte strings** (`v, ok := set[strings.ToLower(k)]`
for `set` = weekdays or months): `k` is at position `i` exactly when `foldLower k` – ASCII bytes
lower-cased, the two-byte sequence `C4 B0` (`İ`) read as `i`, `E2 84 AA` (KELVIN SIGN) as `k`, any
other non-ASCII byte (other runes, invalid UTF-8) making the key a stranger – is a table key with
value `i`.  So `FRIDAY`, `Friday`, `frİday` are Friday; `é`, `\xff`, `frıday` (dotless ı) are strangers. -/
theorem contextual_table_lookup (tl : Nat → Nat) (h : RuneLower tl) (set : SortSet) (hset : set ∈ sortSets)
    (k : Key) (i : Nat) :
    set.get (goToLower tl k) = (foldLower k).bind set.get
    ∧ (set.get (goToLower tl k) = some i ↔ ∃ name, foldLower k = some name ∧ (name, i) ∈ set) := by
  have hag := lookupAgree_lower tl h sortSets tables_ascii set hset k
  have hfold : set.get (lowerK k) = (foldLower k).bind set.get := by
    unfold lowerK
    cases hf : foldLower k with
    | some l => rfl
    | none =>
      simp only [Option.getD_none, Option.bind_none]
      -- `k` has a non-ASCII byte, every table key is ASCII
      unfold SortSet.get
      rw [List.lookup_eq_none_iff]
      intro e he
      simp only [bne_iff_ne, ne_eq]
      intro hke
      have hasc := tables_ascii set hset e he
      rw [← hke] at hasc
      rw [foldLower_ascii k hasc] at hf
      cases hf
  refine ⟨hag.trans hfold, ?_⟩
  rw [hag, hfold]
  cases foldLower k with
  | none => simp
  | some name =>
    simp only [Option.bind_some, Option.some.injEq, exists_eq_left']
    exact get_eq_some_iff_mem set (sortSets_keys.2.1 set hset)

example : foldLower (asc "FRIDAY") = some (asc "friday") ∧ foldLower [102, 114, 0xC4, 0xB0, 100, 97, 121] = some (asc "friday")
    ∧ foldLower [0xE2, 0x84, 0xAA] = some (asc "k") ∧ foldLower [102, 114, 0xC4, 0xB1, 100, 97, 121] = none
    ∧ foldLower [0xC3, 0xA9] = none ∧ foldLower [109, 111, 110, 0xFF] = none
    ∧ weekdays.get (lowerK [70, 82, 0xC4, 0xB0]) = some 5 ∧ months.get (lowerK [65, 80, 82, 0xC4, 0xB0, 76]) = some 3 := by
  simp -index only [asc_ofList]
  decide +kernel

/-- The closures rare builds for `contextual` and `date` give the same answers, along every
comparison sequence, whether they lower-case with `strings.ToLower` (`goOracle tl`) or with the
look-up equivalent `lowerK` (`realOracle`, what the driver executes). -/
theorem contextual_lower_irrelevant (tl : Nat → Nat) (h : RuneLower tl) (d : DateLib) {ρ : Type} (alg : Algo Key ρ) :
    Algo.run (byContextual (goOracle tl d) sortSets) ({}, ()) alg
      = Algo.run (byContextual (realOracle d) sortSets) ({}, ()) alg
    ∧ Algo.run (byDateWithContextual (goOracle tl d) sortSets) ({}, {}, ()) alg
      = Algo.run (byDateWithContextual (realOracle d) sortSets) ({}, {}, ()) alg :=
  ⟨contextual_lower_run tl h sortSets tables_ascii d alg, date_lower_run tl h sortSets tables_ascii d alg⟩

/-! ## `value`: ties and negative totals; `:asc` / `:desc` / `:reverse` -/

/-- `Reverse` of an order is the order with its arguments swapped – on distinct elements (on equal
ones Go's `!less(a, a)` is `true`; `sort.Sort` on distinct rows never depends on it). -/
theorem reverse_is_swap {α : Type} {P : α → Prop} {less : α → α → Bool} (h : OrderOn P less) :
    (∀ a b, P a → P b → a ≠ b → revLess less a b = less b a) ∧ OrderOn P (revLess less) :=
  ⟨h.rev_eq, h.rev⟩

/-- `--sort value` (default, = `value:desc`) on two distinct rows: the larger total first (totals
are signed: `-3` sorts after `0`), equal totals by name in DESCENDING text order (the whole
`value:asc` order is reversed, ties included). -/
theorem value_default_less (a b : NV) (hne : a ≠ b) :
    (reverse (valueSorterEx (pureCmp byName)) () a b).1 = true
      ↔ (b.value < a.value ∨ (a.value = b.value ∧ bytesLt b.name a.name = true)) := by
  have e : (reverse (valueSorterEx (pureCmp byName)) () a b).1 = revLess valueLess a b := by
    rw [valueSorterEx_byName]; rfl
  rw [e, valueLess_strictTotal.toOrderOn.rev_eq a b trivial trivial hne]
  simp only [valueLess, byRank, lexLt, intLt, Bool.or_eq_true, decide_eq_true_eq, Bool.and_eq_true]
  constructor
  · rintro (h | ⟨h1, h2⟩)
    · exact Or.inl h
    · exact Or.inr ⟨h1.symm, h2⟩
  · rintro (h | ⟨h1, h2⟩)
    · exact Or.inl h
    · exact Or.inr ⟨h1.symm, h2⟩

/-- … hence in the default arrangement of distinct rows every earlier row has a larger total, or the
same total and a textually larger name. -/
theorem value_desc_ties {out items : List NV} (hnd : items.Nodup) (h : IsSorted (revLess valueLess) out items) :
    out.Pairwise (fun a b => b.value < a.value ∨ (a.value = b.value ∧ bytesLt b.name a.name = true)) := by
  refine (h.2.and (h.1.nodup_iff.mpr hnd)).imp fun ⟨hab, hne⟩ => (value_default_less _ _ hne).mp ?_
  rw [valueSorterEx_byName]
  exact hab

/-- negative totals, a tie, both directions (reference sort = what `sort.Sort` must return) -/
example :
    isort (revLess valueLess) [⟨asc "a", -3⟩, ⟨asc "b", 0⟩, ⟨asc "c", 5⟩, ⟨asc "d", 0⟩, ⟨asc "e", -3⟩]
      = [⟨asc "c", 5⟩, ⟨asc "d", 0⟩, ⟨asc "b", 0⟩, ⟨asc "e", -3⟩, ⟨asc "a", -3⟩]
    ∧ isort valueLess [⟨asc "a", -3⟩, ⟨asc "b", 0⟩, ⟨asc "c", 5⟩, ⟨asc "d", 0⟩, ⟨asc "e", -3⟩]
      = [⟨asc "a", -3⟩, ⟨asc "e", -3⟩, ⟨asc "b", 0⟩, ⟨asc "d", 0⟩, ⟨asc "c", 5⟩] := by
  simp -index only [asc_ofList]
  decide +kernel

/-- **Reversing reverses, for every permutation**: whatever order the rows arrive in, `sort.Sort`
(any algorithm meeting `SortContract`) with the reversed closure returns exactly the reverse of what
it returns with the forward closure (`mode:desc` vs `mode:asc`, `mode:reverse` vs `mode`). -/
theorem reverse_every_permutation (o : Oracle) (sets : List SortSet) (m : Mode)
    (hm : m = .text ∨ m = .numeric ∨ m = .value)
    (alg : List NV → Algo NV (List NV)) (hc : SortContract alg)
    (items a1 a2 : List NV) (hnd : (items.map (·.name)).Nodup) (h1 : a1.Perm items) (h2 : a2.Perm items) :
    (Algo.run (finalSorter o sets m true).cmp (finalSorter o sets m true).init (alg a1)).1
      = ((Algo.run (finalSorter o sets m false).cmp (finalSorter o sets m false).init (alg a2)).1).reverse :=
  sort_result_rev o sets m alg hc items a1 a2 hnd h1 h2 (modeUniform_of_stateless o sets hm _)

/-- The same for all five modes under the uniformity hypothesis of the stateful closures (F19). -/
theorem reverse_every_permutation_partial (o : Oracle) (sets : List SortSet) (m : Mode)
    (alg : List NV → Algo NV (List NV)) (hc : SortContract alg)
    (items a1 a2 : List NV) (hnd : (items.map (·.name)).Nodup) (h1 : a1.Perm items) (h2 : a2.Perm items)
    (hu : modeUniform o sets m (items.map (·.name)) = true) :
    (Algo.run (finalSorter o sets m true).cmp (finalSorter o sets m true).init (alg a1)).1
      = ((Algo.run (finalSorter o sets m false).cmp (finalSorter o sets m false).init (alg a2)).1).reverse :=
  sort_result_rev o sets m alg hc items a1 a2 hnd h1 h2 hu

/-- `numeric:desc` of three rows from one arrival order = reverse of `numeric` from another -/
example (d : DateLib) :
    (Algo.run (finalSorter (realOracle d) sortSets .numeric true).cmp (finalSorter (realOracle d) sortSets .numeric true).init
        (isortA [⟨asc "10", 1⟩, ⟨asc "1a", 2⟩, ⟨asc "2", 3⟩])).1
    = ((Algo.run (finalSorter (realOracle d) sortSets .numeric false).cmp (finalSorter (realOracle d) sortSets .numeric false).init
        (isortA [⟨asc "2", 3⟩, ⟨asc "10", 1⟩, ⟨asc "1a", 2⟩])).1).reverse :=
  reverse_every_permutation _ sortSets .numeric (Or.inr (Or.inl rfl)) isortA isortA_contract
    [⟨asc "10", 1⟩, ⟨asc "1a", 2⟩, ⟨asc "2", 3⟩] _ _ (by decide) (List.Perm.refl _) (by decide)

/-- Sort names through the modelled `ToLower`: case variants and the `İ` spelling are accepted,
`value` defaults to descending, a non-ASCII stranger is an unknown sort. -/
theorem sort_name_spellings :
    parsed (parseSort lowerK (asc "NUMERIC:DESC")) = some (asc "numeric", true)
    ∧ parsed (parseSort lowerK (asc "Value")) = some (asc "value", true)
    ∧ parsed (parseSort lowerK (asc "value:Reverse")) = some (asc "value", false)
    ∧ parsed (parseSort lowerK ([110, 117, 109, 101, 114, 0xC4, 0xB0, 99] ++ asc ":rev")) = some (asc "numeric", true)
    ∧ lookupMode lowerK [110, 117, 109, 101, 114, 0xC4, 0xB0, 99] = some .numeric
    ∧ lookupMode lowerK [118, 97, 108, 117, 0xC3, 0xA9] = none
    ∧ lookupMode lowerK (asc "Context") = some .contextual := by
  simp -index only [asc_ofList]
  decide +kernel

/-! ## `date` over the REAL `time.Parse`

`timeParseNs layout key` (`Rare/Model/C13Date.lean`) is the instant `time.Parse(layout, key)` returns –
Go's layout tokenizer and parser as modelled for C18, instant = wall clock − zone offset written in
the key – and `Equal` / `Before` compare instants.  `layoutLib layouts lay` is the date library in
which only `dateparse.ParseFormat` (`lay`, returning the layout text) is still an oracle.
`realChrono l` = rank `(instant under l, text)`. -/

/-- For every layout: (instant, then text) is a strict total order on ALL byte strings. -/
theorem date_real_strict_total (l : Bytes) : StrictTotalOn (fun _ => True) (realChrono l) :=
  chronoLess_strictTotal _

/-- **`ByDate` on a set of keys that all have the inferred layout `l` and parse with it** answers, along
every adaptive comparison sequence (whatever was compared before, whichever key was seen first),
the strict total order (instant, then text) – for ALL such sets, including keys that denote the same
instant in different zones or spellings. -/
theorem date_real_order (layouts : List Bytes) (lay : Key → Option Bytes) (l : Bytes) (hl : l ∈ layouts)
    (keys : List Key) (hlay : ∀ k ∈ keys, lay k = some l) (hp : ∀ k ∈ keys, (timeParseNs l k).isSome = true)
    {ρ : Type} (alg : Algo Key ρ) (hw : Algo.Within (· ∈ keys) alg) :
    (Algo.run (byDateWithContextual (realOracle (layoutLib layouts lay)) sortSets) ({}, {}, ()) alg).1
      = Algo.runPure (realChrono l) alg :=
  (date_real_faithful layouts lay l hl _ _ (· ∈ keys) hlay hp).run_eq alg hw

/-- … hence `--sort date[:asc|:desc|:reverse]` of such rows: every arrival order gives the same
sequence, the sorted arrangement under (instant, text) (reversed when asked). -/
theorem date_real_perm_invariant (layouts : List Bytes) (lay : Key → Option Bytes) (l : Bytes) (hl : l ∈ layouts)
    (rev : Bool) (alg : List NV → Algo NV (List NV)) (hc : SortContract alg)
    (items a1 a2 : List NV) (hnd : (items.map (·.name)).Nodup) (h1 : a1.Perm items) (h2 : a2.Perm items)
    (hne : items ≠ [])
    (hlay : ∀ r ∈ items, lay r.name = some l) (hp : ∀ r ∈ items, (timeParseNs l r.name).isSome = true) :
    let o := realOracle (layoutLib layouts lay)
    (Algo.run (finalSorter o sortSets .date rev).cmp (finalSorter o sortSets .date rev).init (alg a1)).1
      = (Algo.run (finalSorter o sortSets .date rev).cmp (finalSorter o sortSets .date rev).init (alg a2)).1
    ∧ (Algo.run (finalSorter o sortSets .date rev).cmp (finalSorter o sortSets .date rev).init (alg a1)).1
      = isort (if rev then revLess (fun a b => realChrono l a.name b.name) else fun a b => realChrono l a.name b.name) items := by
  intro o
  have hk1 : ∀ k ∈ items.map (·.name), lay k = some l := by
    intro k hk
    obtain ⟨r, hr, rfl⟩ := List.mem_map.mp hk
    exact hlay r hr
  have hk2 : ∀ k ∈ items.map (·.name), (timeParseNs l k).isSome = true := by
    intro k hk
    obtain ⟨r, hr, rfl⟩ := List.mem_map.mp hk
    exact hp r hr
  obtain ⟨hu, hspec⟩ := dateUniform_real layouts lay l hl sortSets (items.map (·.name)) hk1 hk2
  have hne' : items.map (·.name) ≠ [] := by
    intro h
    exact hne (List.map_eq_nil_iff.mp h)
  have e : finalSpecLess o sortSets items .date rev
      = (if rev then revLess (fun a b => realChrono l a.name b.name) else fun a b => realChrono l a.name b.name) := by
    unfold finalSpecLess modeSpecLess
    simp only
    rw [hspec hne']
  rw [sort_result o sortSets .date rev alg hc items a1 hnd h1 hu, sort_result o sortSets .date rev alg hc items a2 hnd h2 hu, e]
  exact ⟨rfl, rfl⟩

/-- A fresh closure on two keys that parse with the layout inferred from the first: the earlier
instant first – whatever the wall clocks say – and ONE instant written twice by text. -/
theorem date_real_chronological {σ : Type} (layouts : List Bytes) (lay : Key → Option Bytes) (l : Bytes) (hl : l ∈ layouts)
    (fb : SCmp Key σ) (s0 : σ) (a b : Key) (x y : Int)
    (hlay : lay a = some l) (ha : timeParseNs l a = some x) (hb : timeParseNs l b = some y) :
    (x < y → (byDate (realOracle (layoutLib layouts lay)) fb ({}, s0) a b).1 = true)
    ∧ (y < x → (byDate (realOracle (layoutLib layouts lay)) fb ({}, s0) a b).1 = false)
    ∧ (x = y → (byDate (realOracle (layoutLib layouts lay)) fb ({}, s0) a b).1 = bytesLt a b) := by
  rw [byDate_fresh_real layouts lay l hl fb s0 a b x y hlay ha hb, byDateParsed_eq]
  refine ⟨fun h => ?_, fun h => ?_, fun h => ?_⟩
  · have : x ≠ y := by omega
    simp [this, h]
  · have h1 : x ≠ y := by omega
    have h2 : ¬ x < y := by omega
    simp [h1, h2]
  · simp [h]

open C18 in
/-- **One instant in two zones** (composition with C18's format/parse round trip `roundtrip_core`): for EVERY layout
of the round-trip class that carries the instant (date, time to the second, numeric offset,
four-digit year – e.g. `2006-01-02T15:04:05-0700`), every two instants and every two zone offsets
(whole minutes, |offset| < 25 h): the keys `time.Format` prints for them are ordered by INSTANT,
and two zone spellings of one instant by text – never left unordered. -/
theorem date_zones_same_instant {σ : Type} (layout : Bytes) (hRT : RT (tokenize layout) = true)
    (hC : carriesInstant (tokenize layout) = true)
    (u1 u2 off1 off2 : Int) (abbr1 abbr2 : Bytes) (ho1 : OffOK off1) (ho2 : OffOK off2)
    (hy1 : 0 ≤ (civilOf u1 off1).y ∧ (civilOf u1 off1).y ≤ 9999)
    (hy2 : 0 ≤ (civilOf u2 off2).y ∧ (civilOf u2 off2).y ≤ 9999)
    (ha1 : Tok.std .tz ∈ tokenize layout → AbbrOK abbr1 off1)
    (ha2 : Tok.std .tz ∈ tokenize layout → AbbrOK abbr2 off2)
    (layouts : List Bytes) (lay : Key → Option Bytes) (hl : layout ∈ layouts)
    (hlay : lay (formatLayout layout (timeVOf u1 off1 abbr1)) = some layout) (fb : SCmp Key σ) (s0 : σ) :
    let k1 := formatLayout layout (timeVOf u1 off1 abbr1)
    let k2 := formatLayout layout (timeVOf u2 off2 abbr2)
    (u1 < u2 → (byDate (realOracle (layoutLib layouts lay)) fb ({}, s0) k1 k2).1 = true)
    ∧ (u2 < u1 → (byDate (realOracle (layoutLib layouts lay)) fb ({}, s0) k1 k2).1 = false)
    ∧ (u1 = u2 → (byDate (realOracle (layoutLib layouts lay)) fb ({}, s0) k1 k2).1 = bytesLt k1 k2) := by
  intro k1 k2
  have p1 := timeParseNs_format layout hRT hC u1 off1 abbr1 ho1 hy1 ha1
  have p2 := timeParseNs_format layout hRT hC u2 off2 abbr2 ho2 hy2 ha2
  obtain ⟨c1, c2, c3⟩ := date_real_chronological layouts lay layout hl fb s0 k1 k2 _ _ hlay p1 p2
  exact ⟨fun h => c1 (by omega), fun h => c2 (by omega), fun h => c3 (by omega)⟩

/-- The layout dateparse infers for `2022-09-03T10:00:00+0000`. -/
def zoneLayout : Bytes := asc "2006-01-02T15:04:05-0700"

/-- 10:00 UTC of 2022-09-03 written in three zones, and two other instants of that day -/
def zoneKeys : List Key := [asc "2022-09-03T09:30:00+0000", asc "2022-09-03T10:00:00+0000",
  asc "2022-09-03T12:00:00+0200", asc "2022-09-03T05:00:00-0500", asc "2022-09-03T11:15:00+0000"]

/-- `date_zones_same_instant` is not vacuous and `timeParseNs` computes: the layout is in the class;
the three zone spellings of 10:00 UTC are what `Format` prints and parse to the one instant
1662199200 s; the closure, whatever arrival order Go's insertion sort is handed, returns the same
sequence – by instant, the tie by text (`05:00-0500` < `10:00+0000` < `12:00+0200`). -/
theorem date_zone_witness :
    C18.RT (C18.tokenize zoneLayout) = true ∧ carriesInstant (C18.tokenize zoneLayout) = true
    ∧ C18.formatLayout zoneLayout (C18.timeVOf 1662199200 7200 []) = asc "2022-09-03T12:00:00+0200"
    ∧ C18.formatLayout zoneLayout (C18.timeVOf 1662199200 (-18000) []) = asc "2022-09-03T05:00:00-0500"
    ∧ zoneKeys.map (timeParseNs zoneLayout)
        = [some 1662197400000000000, some 1662199200000000000, some 1662199200000000000, some 1662199200000000000,
           some 1662203700000000000]
    ∧ (∀ arrival ∈ [[1, 2, 3], [1, 3, 2], [2, 1, 3], [2, 3, 1], [3, 1, 2], [3, 2, 1], [0, 1, 2, 3, 4], [4, 3, 2, 1, 0], [2, 4, 1, 0, 3]],
        (goInsertionSort (byDateWithContextual (realOracle (oneLayoutLib zoneLayout)) sortSets) ({}, {}, ())
            (arrival.map (fun i => zoneKeys.getD i []))).1
          = (isort (realChrono zoneLayout) zoneKeys).filter (fun k => arrival.any (fun i => zoneKeys.getD i [] == k)))
    ∧ isort (realChrono zoneLayout) zoneKeys
        = [asc "2022-09-03T09:30:00+0000", asc "2022-09-03T05:00:00-0500", asc "2022-09-03T10:00:00+0000",
           asc "2022-09-03T12:00:00+0200", asc "2022-09-03T11:15:00+0000"] := by
  simp -index only [sortSets, weekdays, months, zoneKeys, zoneLayout, asc_ofList]
  decide +kernel

/-- What the modelled `time.Parse` does with the spellings the property names (kernel computation;
the same table is compared with the real `time.Parse` by the `tparse` op): a fraction the layout
does not mention is accepted and counts; `Z`, `+00:00` and `-05:45` under `Z07:00`; zone
abbreviations keep the wall clock (`time.Local` = UTC knows no names – also `GMT+2`); month names in
any case; out-of-range fields, a missing zone and a one-digit field under a padded layout are errors. -/
theorem date_parse_spellings :
    timeParseNs (asc "2006-01-02 15:04:05") (asc "2022-09-03 10:00:00") = some 1662199200000000000
    ∧ timeParseNs (asc "2006-01-02 15:04:05") (asc "2022-09-03 10:00:00.000") = some 1662199200000000000
    ∧ timeParseNs (asc "2006-01-02 15:04:05") (asc "2022-09-03 10:00:00,5") = some 1662199200500000000
    ∧ timeParseNs (asc "2006-01-02 15:04:05.000") (asc "2022-09-03 10:00:00") = none
    ∧ timeParseNs (asc "2006-01-02") (asc "2022-09-03") = some 1662163200000000000
    ∧ timeParseNs (asc "2006-01-02") (asc "2022-9-3") = none
    ∧ timeParseNs (asc "2006-1-2") (asc "2022-09-03") = some 1662163200000000000
    ∧ timeParseNs (asc "2006-01-02T15:04:05Z07:00") (asc "2022-09-03T10:00:00Z") = some 1662199200000000000
    ∧ timeParseNs (asc "2006-01-02T15:04:05Z07:00") (asc "2022-09-03T10:00:00+00:00") = some 1662199200000000000
    ∧ timeParseNs (asc "2006-01-02T15:04:05Z07:00") (asc "2022-09-03T04:15:00-05:45") = some 1662199200000000000
    ∧ timeParseNs (asc "2006-01-02 15:04:05 MST") (asc "2022-09-03 10:00:00 PST") = some 1662199200000000000
    ∧ timeParseNs (asc "2006-01-02 15:04:05 MST") (asc "2022-09-03 10:00:00 GMT+2") = some 1662199200000000000
    ∧ timeParseNs (asc "2006-01-02 15:04:05 MST") (asc "2022-09-03 10:00:00 UTC") = some 1662199200000000000
    ∧ timeParseNs (asc "Jan 2, 2006") (asc "SEP 3, 2022") = some 1662163200000000000
    ∧ timeParseNs (asc "02/Jan/2006:15:04:05 -0700") (asc "03/Sep/2022:15:30:00 +0530") = some 1662199200000000000
    ∧ timeParseNs zoneLayout (asc "2022-09-03T10:00:00") = none
    ∧ timeParseNs zoneLayout (asc "2022-09-03T24:00:00+0000") = none
    ∧ timeParseNs zoneLayout (asc "2022-02-29T10:00:00+0000") = none
    ∧ timeParseNs zoneLayout (asc "2022-09-03T10:00:00+2500") = none
    ∧ timeParseNs zoneLayout (asc "1969-12-31T23:59:59+0000") = some (-1000000000)
    ∧ layoutModelled zoneLayout = true ∧ layoutModelled (asc "2006-002") = false := by
  simp -index only [zoneLayout, asc_ofList]
  decide +kernel

/-! ## the comparators the model mirrors are the ones in the Go source

The translator regenerates, on every run, the control skeleton of each comparator – every `if`
condition, assignment and `return` expression with its nesting depth.  The tables below are what
`Rare/Model/C13.lean` mirrors line by line (`byNameSmart`, `byContextualEx`, `byDate` incl. the
`d0.Equal(d1)` tie rule = `byDateParsed`, `valueSorterEx`, `reverse`, `buildSorter`); a changed guard,
operator, tie-break or evaluation order in /repo makes this theorem false. -/

theorem comparators_match_source :
    Gen.C13.byNameSkel = [(0, "return", "a < b")]
    ∧ Gen.C13.byNameSmartSkel = [
        (0, "assign", "v0, err0 := strconv.ParseFloat(a, 64)"),
        (0, "assign", "v1, err1 := strconv.ParseFloat(b, 64)"),
        (0, "assign", "num0 := err0 == nil && v0 == v0"),
        (0, "assign", "num1 := err1 == nil && v1 == v1"),
        (0, "if", "num0 && num1"),
        (1, "if", "v0 != v1"),
        (2, "return", "v0 < v1"),
        (1, "return", "a < b"),
        (0, "if", "num0 != num1"),
        (1, "return", "num0"),
        (0, "return", "a < b")]
    ∧ Gen.C13.byContextualExSkel = [
        (0, "decl", "var set sortSet"),
        (0, "assign", "fallback := false"),
        (0, "return", "func(a, b string) bool"),
        (1, "if", "!fallback && set == nil"),
        (2, "assign", "set = inferSortSetByValue(a)"),
        (2, "if", "set == nil"),
        (3, "assign", "fallback = true"),
        (1, "if", "!fallback"),
        (2, "assign", "lowerA := strings.ToLower(a)"),
        (2, "assign", "lowerB := strings.ToLower(b)"),
        (2, "assign", "v0, ok0 := set[lowerA]"),
        (2, "assign", "v1, ok1 := set[lowerB]"),
        (2, "if", "!ok0 || !ok1"),
        (3, "assign", "fallback = true"),
        (2, "else", ""),
        (2, "if", "v0 != v1"),
        (3, "return", "v0 < v1"),
        (2, "else", ""),
        (3, "return", "a < b"),
        (1, "return", "fallbackSort(a, b)")]
    ∧ Gen.C13.byContextualSkel = [(0, "return", "ByContextualEx(ByNameSmart)")]
    ∧ Gen.C13.inferSkel = [
        (0, "assign", "val = strings.ToLower(val)"),
        (0, "for", "_, set := range sortSets"),
        (1, "if", "_, ok := set[val]; ok"),
        (2, "return", "set"),
        (0, "return", "nil")]
    ∧ Gen.C13.byDateSkel = [
        (0, "assign", "format := \"\""),
        (0, "assign", "fallback := false"),
        (0, "return", "func(a, b string) bool"),
        (1, "if", "!fallback"),
        (2, "if", "format == \"\""),
        (3, "decl", "var err error"),
        (3, "if", "format, err = dateparse.ParseFormat(a); err != nil"),
        (4, "assign", "fallback = true"),
        (2, "if", "format != \"\""),
        (3, "assign", "d0, err0 := time.Parse(format, a)"),
        (3, "assign", "d1, err1 := time.Parse(format, b)"),
        (3, "if", "err0 == nil && err1 == nil"),
        (4, "if", "d0.Equal(d1)"),
        (5, "return", "a < b"),
        (4, "return", "d0.Before(d1)"),
        (3, "else", ""),
        (4, "assign", "fallback = true"),
        (1, "return", "fallbackSort(a, b)")]
    ∧ Gen.C13.byDateWithContextualSkel = [(0, "return", "ByDate(ByContextual())")]
    ∧ Gen.C13.valueSorterExSkel = [
        (0, "return", "func(a, b NameValuePair) bool"),
        (1, "if", "a.Value == b.Value"),
        (2, "return", "fallback(a.Name, b.Name)"),
        (1, "return", "a.Value < b.Value")]
    ∧ Gen.C13.valueNilSorterSkel = [
        (0, "return", "func(a, b NameValuePair) bool"),
        (1, "return", "sorter(a.Name, b.Name)")]
    ∧ Gen.C13.reverseSkel = [
        (0, "return", "func(a, b TElem) bool"),
        (1, "return", "!sorter(a, b)")]
    ∧ Gen.C13.buildSorterSkel = [
        (0, "assign", "name, reverse, err := parseSort(fullName)"),
        (0, "if", "err != nil"),
        (1, "return", "nil, fmt.Errorf(\"error parsing sort: %v\", err)"),
        (0, "assign", "sorter, err := lookupSorter(name)"),
        (0, "if", "err != nil"),
        (1, "return", "nil, fmt.Errorf(\"unknown sort: %s\", name)"),
        (0, "if", "reverse"),
        (1, "assign", "sorter = sorting.Reverse(sorter)"),
        (0, "return", "sorter, nil")] :=
  ⟨rfl, rfl, rfl, rfl, rfl, rfl, rfl, rfl, rfl, rfl, rfl⟩

/-! ## row order of `rare reduce`

`AccumulatingGroup.Groups(sorter)` (`Rare/Model/C13Groups.lean`) with the sorter `cmd/reduce.go`
builds (`ByContextual()`, reversed for `--sort-reverse`).  With a `--sort` expression the groups are
ranked by (sort key under the sorter, then group key as TEXT); the stateful contextual closure is
consulted on SORT KEYS only, never on group names. -/

/-- Whenever the sorter orders the distinct sort keys, `Groups` orders the distinct groups. -/
theorem reduce_less_order {P : Key → Prop} {less : Key → Key → Bool} (sortKey : Key → Key)
    (h : OrderOn (fun k => ∃ g, P g ∧ sortKey g = k) less) : OrderOn P (groupsSpecLess less sortKey) :=
  groupsSpec_orderOn sortKey h

/-- **`reduce --sort <expr> [--sort-reverse]`: the row order is a function of the set of
(group, sort key) pairs** – every arrival order (Go map iteration) gives the same sequence, namely
the groups sorted by sort key (contextual order, reversed when asked), groups with EQUAL sort keys
by group key text (ascending in both directions).  Hypothesis: the SORT KEYS are `ctxUniform` (all
in one name table, or none in any – F19 otherwise); the group names are arbitrary – weekday and
month names included, the sticky contextual closure never sees them. -/
theorem reduce_rows_deterministic (o : Oracle) (sets : List SortSet) (rev : Bool) (sortKey : Key → Key)
    (alg : List Key → Algo Key (List Key)) (hc : SortContract alg)
    (groups a1 a2 : List Key) (hnd : groups.Nodup) (h1 : a1.Perm groups) (h2 : a2.Perm groups)
    (hu : ctxUniform o sets (groups.map sortKey) = true) :
    let less := if rev then revLess (contextualSpec o sets (groups.map sortKey)) else contextualSpec o sets (groups.map sortKey)
    (Algo.run (groupsCmp o sets rev (some sortKey)) ({}, ()) (alg a1)).1
      = (Algo.run (groupsCmp o sets rev (some sortKey)) ({}, ()) (alg a2)).1
    ∧ (Algo.run (groupsCmp o sets rev (some sortKey)) ({}, ()) (alg a1)).1
      = isort (groupsSpecLess less sortKey) groups := by
  intro less
  obtain ⟨hf, ho⟩ := groupsCmp_expr_spec o sets rev sortKey groups hu
  rw [sort_faithful_result alg hc groups a1 hnd h1 hf ho, sort_faithful_result alg hc groups a2 hnd h2 hf ho]
  exact ⟨rfl, rfl⟩

/-- `reduce` without `--sort`: the sorter runs on the group keys themselves. -/
theorem reduce_rows_deterministic_plain (o : Oracle) (sets : List SortSet) (rev : Bool)
    (alg : List Key → Algo Key (List Key)) (hc : SortContract alg)
    (groups a1 a2 : List Key) (hnd : groups.Nodup) (h1 : a1.Perm groups) (h2 : a2.Perm groups)
    (hu : ctxUniform o sets groups = true) :
    (Algo.run (groupsCmp o sets rev none) ({}, ()) (alg a1)).1
      = (Algo.run (groupsCmp o sets rev none) ({}, ()) (alg a2)).1
    ∧ (Algo.run (groupsCmp o sets rev none) ({}, ()) (alg a1)).1
      = isort (if rev then revLess (contextualSpec o sets groups) else contextualSpec o sets groups) groups := by
  have hfS : Faithful (groupsCmp o sets rev none) ({}, ()) (· ∈ groups) _ := reduceSorter_faithful o sets rev groups hu
  have ho := reduceLess_orderOn o sets rev groups (· ∈ groups)
  rw [sort_faithful_result alg hc groups a1 hnd h1 hfS ho, sort_faithful_result alg hc groups a2 hnd h2 hfS ho]
  exact ⟨rfl, rfl⟩

/-- The design that was rejected (and is what `Groups` must NOT do): breaking ties of the sort key
through the caller's sorter, `if ka == kb { return sort(a, b) }`.  With the sticky contextual
closure the same instance then sees group names AND sort keys; on weekday groups with counts
`Mon=2, Fri=2, Sun=1` two arrival orders give two different row orders (kernel computation with
Go's insertion sort), while the real comparator gives one. -/
def groupsCmpTieBySorter {σ : Type} (sort : SCmp Key σ) (sortKey : Key → Key) : SCmp Key σ := fun s a b =>
  if sortKey a = sortKey b then sort s a b else sort s (sortKey a) (sortKey b)

def reduceWitnessKey (g : Key) : Key := if g = asc "Sun" then asc "1" else asc "2"

theorem reduce_tie_by_sorter_counterexample :
    (goInsertionSort (groupsCmpTieBySorter (reduceSorter (realOracle noDates) sortSets false) reduceWitnessKey) ({}, ())
        [asc "Mon", asc "Fri", asc "Sun"]).1 = [asc "Sun", asc "Mon", asc "Fri"]
    ∧ (goInsertionSort (groupsCmpTieBySorter (reduceSorter (realOracle noDates) sortSets false) reduceWitnessKey) ({}, ())
        [asc "Sun", asc "Mon", asc "Fri"]).1 = [asc "Sun", asc "Fri", asc "Mon"]
    ∧ (goInsertionSort (groupsCmp (realOracle noDates) sortSets false (some reduceWitnessKey)) ({}, ())
        [asc "Mon", asc "Fri", asc "Sun"]).1 = [asc "Sun", asc "Fri", asc "Mon"]
    ∧ (goInsertionSort (groupsCmp (realOracle noDates) sortSets false (some reduceWitnessKey)) ({}, ())
        [asc "Sun", asc "Mon", asc "Fri"]).1 = [asc "Sun", asc "Fri", asc "Mon"]
    ∧ ctxUniform (realOracle noDates) sortSets ([asc "Mon", asc "Fri", asc "Sun"].map reduceWitnessKey) = true := by
  simp -index only [sortSets, weekdays, months, asc_ofList]
  decide +kernel

/-- `Groups` in the Go source is the comparator the model mirrors (regenerated skeleton). -/
theorem reduce_groups_match_source :
    Gen.C13.groupsSkel = [
      (0, "assign", "ret := make([]GroupKey, 0, len(s.data))"),
      (0, "for", "g := range s.data"),
      (1, "assign", "ret = append(ret, g)"),
      (0, "if", "s.sortExpr != nil"),
      (1, "assign", "ctx := accumulatorGroupSortContext{}"),
      (1, "assign", "sortKey := func(x GroupKey) string"),
      (2, "assign", "ctx.groupKey = string(x)"),
      (2, "assign", "ctx.rowLookup = func(row string) string"),
      (3, "if", "idx, ok := s.colIdxLookup[row]; ok"),
      (4, "return", "s.data[x][idx]"),
      (3, "return", "\"\""),
      (2, "return", "s.sortExpr.BuildKey(&ctx)"),
      (1, "expr", "sorting.Sort(ret, func(a, b GroupKey) bool { ka, kb := sortKey(a), sortKey(b) if ka == kb { return a < b } return sort(ka, kb) })"),
      (0, "else", ""),
      (1, "expr", "sorting.SortBy(ret, sort, func(x GroupKey) string { return string(x) })"),
      (0, "return", "ret")] :=
  rfl

/-! ## `numeric`: keys that `ParseFloat` rounds to one float64 are ties, broken by text -/

/-- Integers beyond 2^53, long fractions and exponent / hex / underscore spellings that denote the same
float64 are equal to `numeric`, so their order is the text order – from every arrival order; one
ulp further the values differ and magnitude decides (the boundary of the tie class). -/
theorem numeric_rounding_ties :
    numVal (asc "9007199254740993") = numVal (asc "9007199254740992")
    ∧ numVal (asc "9007199254740992.4") = numVal (asc "9007199254740992")
    ∧ numVal (asc "9007199254740994") ≠ numVal (asc "9007199254740992")
    ∧ numVal (asc "18014398509481985") = numVal (asc "18014398509481984")
    ∧ numVal (asc "9223372036854775807") = numVal (asc "9223372036854775808")
    ∧ numVal (asc "1e3") = numVal (asc "1000") ∧ numVal (asc "0x3e8p0") = numVal (asc "1000")
    ∧ numVal (asc "0.1") = numVal (asc "0.1000000000000000055511151231257827")
    ∧ numVal (asc "+0") = numVal (asc "-0") ∧ numVal (asc "0xff") = .notNum
    ∧ byNameSmartF (asc "9007199254740992") (asc "9007199254740993") = true
    ∧ byNameSmartF (asc "9007199254740993") (asc "9007199254740992") = false
    ∧ isort byNameSmartF [asc "9007199254740993", asc "1e3", asc "9007199254740992", asc "1000", asc "9007199254740994"]
        = [asc "1000", asc "1e3", asc "9007199254740992", asc "9007199254740993", asc "9007199254740994"]
    ∧ isort byNameSmartF [asc "9007199254740994", asc "1000", asc "9007199254740992", asc "1e3", asc "9007199254740993"]
        = [asc "1000", asc "1e3", asc "9007199254740992", asc "9007199254740993", asc "9007199254740994"] := by
  simp -index only [asc_ofList]
  decide +kernel

/-- In both directions groups with EQUAL sort keys are listed by group key text, ascending:
`--sort-reverse` reverses the sort keys only. -/
theorem reduce_ties_by_group_text (less : Key → Key → Bool) (sortKey : Key → Key) (a b : Key)
    (h : sortKey a = sortKey b) : groupsSpecLess less sortKey a b = bytesLt a b := by
  simp [groupsSpecLess, h]

/-- `contextual`: two spellings of ONE calendar position (`tue`/`Tues`, `Mon`/`mon`/`MON`) are ordered
by their ORIGINAL text – not by the lower-cased text, which would tie `Mon` with `mon`. -/
theorem contextual_same_position_by_text (o : Oracle) (sets : List SortSet) (set : SortSet) (a b : Key) (i : Nat)
    (hinf : inferSortSetByValue sets o.lower a = some set)
    (ha : set.get (o.lower a) = some i) (hb : set.get (o.lower b) = some i) :
    (byContextual o sets ({}, ()) a b).1 = bytesLt a b := by
  simp [byContextual, byContextualEx, hinf, ha, hb]

example : (byContextual (realOracle noDates) sortSets ({}, ()) (asc "Mon") (asc "mon")).1 = true
    ∧ (byContextual (realOracle noDates) sortSets ({}, ()) (asc "mon") (asc "Mon")).1 = false
    ∧ bytesLt (lowerK (asc "Mon")) (lowerK (asc "mon")) = false := by
  simp -index only [sortSets, weekdays, months, asc_ofList]
  decide +kernel

/-- the hypotheses of `date_real_order` / `date_real_perm_invariant` hold on the zone witness -/
example : (∀ k ∈ zoneKeys, (fun _ => some zoneLayout) k = some zoneLayout)
    ∧ (∀ k ∈ zoneKeys, (timeParseNs zoneLayout k).isSome = true) ∧ zoneKeys.Nodup := by
  simp -index only [zoneKeys, zoneLayout, asc_ofList]
  decide +kernel

/-- the hypothesis of `reduce_rows_deterministic` holds on weekday GROUPS with numeric sort keys -/
example : ctxUniform (realOracle noDates) sortSets ([asc "Mon", asc "Fri", asc "Wed", asc "Sun"].map reduceWitnessKey) = true
    ∧ ctxUniform (realOracle noDates) sortSets [asc "Mon", asc "Fri", asc "Wed", asc "Sun"] = true := by
  simp -index only [sortSets, weekdays, months, asc_ofList]
  decide +kernel


/-! ## the render loop and the two axes of `table` / `heatmap` / `spark`

`cmd/tabulate.go`, `heatmap.go`, `spark.go` build `rowSorter` and `colSorter` with two `BuildSorter` calls
before the aggregation loop and hand both to every render (`Rare/Model/C13Axes.lean`).  The captured
variables of a `contextual` / `date` closure therefore (a) survive from one render to the next and (b) must
belong to ONE axis: `lookupSorter` calls `ByContextual()` / `ByDateWithContextual()` inside its switch, so two
calls give two closures. -/

/-- **No information flows between the axes**, for any data, any sort names and any sort routine: the row
order of every render is what the row sorter alone makes of the rows seen so far – it does not depend on
the column keys (`--sort-rows contextual --sort-cols contextual` on weekday rows and month columns sorts
both by calendar), and vice versa. -/
theorem table_axes_independent {σr σc : Type} (rowRun : σr → List NV → List NV × σr)
    (colRun : σc → List NV → List NV × σc) (sr : σr) (sc : σc) (renders : List (List NV × List NV)) :
    tableRenders rowRun colRun sr sc renders
      = (axisRenders colRun sc (renders.map (·.1))).zip (axisRenders rowRun sr (renders.map (·.2)))
    ∧ (tableRenders rowRun colRun sr sc renders).map (·.2) = axisRenders rowRun sr (renders.map (·.2))
    ∧ (tableRenders rowRun colRun sr sc renders).map (·.1) = axisRenders colRun sc (renders.map (·.1)) := by
  have h := tableRenders_split rowRun colRun renders sr sc
  have hl : (axisRenders colRun sc (renders.map (·.1))).length = (axisRenders rowRun sr (renders.map (·.2))).length := by
    rw [axisRenders_length, axisRenders_length, List.length_map, List.length_map]
  refine ⟨h, ?_, ?_⟩
  · rw [h]; exact List.map_snd_zip (Nat.le_of_eq hl.symm)
  · rw [h]; exact List.map_fst_zip (Nat.le_of_eq hl)

/-- **The render loop**: one closure, built once, sorts the keys present at every refresh (live mode) and at
the end.  If the keys of the final screen are uniform for the mode (always, for text/numeric/value), EVERY
render – each showing some duplicate-free part of those keys in whatever order the map hands them over –
is that part sorted by the one specified order; what the closure inferred during earlier renders never
changes a later one, and two histories that differ only in map order give the same screens. -/
theorem render_loop_deterministic (o : Oracle) (sets : List SortSet) (m : Mode) (rev : Bool)
    (alg : List NV → Algo NV (List NV)) (hc : SortContract alg)
    (items : List NV) (hnd : (items.map (·.name)).Nodup)
    (hu : modeUniform o sets m (items.map (·.name)) = true)
    (arrivals : List (List NV)) (ha : ∀ a ∈ arrivals, a.Nodup ∧ ∀ x ∈ a, x ∈ items) :
    axisRenders (fun s l => Algo.run (finalSorter o sets m rev).cmp s (alg l)) (finalSorter o sets m rev).init arrivals
      = arrivals.map (isort (finalSpecLess o sets items m rev))
    ∧ ∀ arrivals', SameRenders arrivals arrivals' →
        axisRenders (fun s l => Algo.run (finalSorter o sets m rev).cmp s (alg l)) (finalSorter o sets m rev).init arrivals'
          = axisRenders (fun s l => Algo.run (finalSorter o sets m rev).cmp s (alg l)) (finalSorter o sets m rev).init arrivals := by
  have hf := finalSorter_faithful o sets m rev items hu
  have ho := finalSpec_orderOn o sets m rev items hnd
  refine ⟨axisRenders_faithful alg hc items hf ho arrivals ha, fun arrivals' hp => ?_⟩
  rw [axisRenders_faithful alg hc items hf ho arrivals ha,
    axisRenders_faithful alg hc items hf ho arrivals' (forall₂_perm_within hp ha)]
  exact (map_isort_perm ho hp ha).symm

/-- **`table` / `heatmap` / `spark` with `--sort-rows` and `--sort-cols`**: every render shows the columns
present sorted by the column mode's order and the rows present sorted by the row mode's order.  The two
axes may be of different kinds (weekday rows, month columns, both `contextual`): uniformity is asked of
each axis separately. -/
theorem table_renders_deterministic (o : Oracle) (sets : List SortSet) (mr mc : Mode) (revr revc : Bool)
    (alg : List NV → Algo NV (List NV)) (hc : SortContract alg)
    (rows cols : List NV) (hndr : (rows.map (·.name)).Nodup) (hndc : (cols.map (·.name)).Nodup)
    (hur : modeUniform o sets mr (rows.map (·.name)) = true) (huc : modeUniform o sets mc (cols.map (·.name)) = true)
    (renders : List (List NV × List NV))
    (hr : ∀ r ∈ renders, (r.1.Nodup ∧ ∀ x ∈ r.1, x ∈ cols) ∧ (r.2.Nodup ∧ ∀ x ∈ r.2, x ∈ rows)) :
    tableRenders (fun s l => Algo.run (finalSorter o sets mr revr).cmp s (alg l))
        (fun s l => Algo.run (finalSorter o sets mc revc).cmp s (alg l))
        (finalSorter o sets mr revr).init (finalSorter o sets mc revc).init renders
      = renders.map (fun r => (isort (finalSpecLess o sets cols mc revc) r.1, isort (finalSpecLess o sets rows mr revr) r.2)) := by
  rw [tableRenders_split]
  have hcols : ∀ a ∈ renders.map (·.1), a.Nodup ∧ ∀ x ∈ a, x ∈ cols := by
    intro a ha
    obtain ⟨r, hr', e⟩ := List.mem_map.mp ha
    exact e ▸ (hr r hr').1
  have hrows : ∀ a ∈ renders.map (·.2), a.Nodup ∧ ∀ x ∈ a, x ∈ rows := by
    intro a ha
    obtain ⟨r, hr', e⟩ := List.mem_map.mp ha
    exact e ▸ (hr r hr').2
  rw [(render_loop_deterministic o sets mc revc alg hc cols hndc huc _ hcols).1,
    (render_loop_deterministic o sets mr revr alg hc rows hndr hur _ hrows).1]
  clear hr hcols hrows
  induction renders with
  | nil => rfl
  | cons r rest ih => simp only [List.map_cons, List.zip_cons_cons, ih]

/-- The render loop of `rare reduce` (`aggr.Groups(sorter)` at every refresh with the one sorter built before
the loop): every render is the groups present, ranked by (sort key, group text). -/
theorem reduce_render_loop (o : Oracle) (sets : List SortSet) (rev : Bool) (sortKey : Key → Key)
    (alg : List Key → Algo Key (List Key)) (hc : SortContract alg)
    (groups : List Key) (hu : ctxUniform o sets (groups.map sortKey) = true)
    (arrivals : List (List Key)) (ha : ∀ a ∈ arrivals, a.Nodup ∧ ∀ x ∈ a, x ∈ groups) :
    let less := if rev then revLess (contextualSpec o sets (groups.map sortKey)) else contextualSpec o sets (groups.map sortKey)
    axisRenders (fun s l => Algo.run (groupsCmp o sets rev (some sortKey)) s (alg l)) ({}, ()) arrivals
      = arrivals.map (isort (groupsSpecLess less sortKey)) := by
  intro less
  obtain ⟨hf, ho⟩ := groupsCmp_expr_spec o sets rev sortKey groups hu
  exact axisRenders_faithful alg hc groups hf ho arrivals ha

/-- **Where the closures are created** (regenerated from /repo): no package-level variable of the sorting
package, of `cmd/helpers/sorting.go` or of the commands holds a closure made by `ByContextual`, `ByContextualEx`,
`ByDate` or `ByDateWithContextual` (such a variable would be shared by every `BuildSorter` call of the process –
`switches_match_source` pins that `lookupSorter` calls the constructors inside its switch); and every command
creates its sorters in its own function body, outside any closure (once, before the aggregation loop), one
`BuildSorterOrFail` call per axis – the shape `tableRenders` / `axisRenders` mirror. -/
theorem sorters_built_per_axis :
    Gen.C13.statefulGlobals = []
    ∧ Gen.C13.sorterSites = [
        ("cmd/histo.go", 0, "sorter := helpers.BuildSorterOrFail(sortName)"),
        ("cmd/bargraph.go", 0, "sorter := helpers.BuildSorterOrFail(sortName)"),
        ("cmd/tabulate.go", 0, "rowSorter := helpers.BuildSorterOrFail(sortRows)"),
        ("cmd/tabulate.go", 0, "colSorter := helpers.BuildSorterOrFail(sortCols)"),
        ("cmd/heatmap.go", 0, "rowSorter := helpers.BuildSorterOrFail(sortRows)"),
        ("cmd/heatmap.go", 0, "colSorter := helpers.BuildSorterOrFail(sortCols)"),
        ("cmd/spark.go", 0, "rowSorter := helpers.BuildSorterOrFail(sortRows)"),
        ("cmd/spark.go", 0, "colSorter := helpers.BuildSorterOrFail(sortCols)"),
        ("cmd/reduce.go", 0, "var sorter = sorting.ByContextual()")] :=
  ⟨rfl, rfl⟩

def axisNV (l : List String) : List NV := l.map (fun s => ⟨asc s, 0⟩)

/-- The contextual sorter `lookupSorter` returns, run by Go's insertion sort. -/
def ctxRun : CtxState × Unit → List NV → List NV × (CtxState × Unit) :=
  goInsertionSort (modeSorter (realOracle noDates) sortSets .contextual).cmp

/-- What must NOT happen (one closure per sort NAME, shared by `--sort-rows contextual --sort-cols contextual`):
weekday rows × month columns, kernel computation with Go's insertion sort.  The columns are sorted first and
fix the month table; the shared closure then meets `Thu`, falls back for good and lists the rows as text
(`Fri Mon Thu Tue Wed`), and from the second render on the columns as well (`Apr Feb Jan Mar`).  With the two
closures of the real code both axes are in calendar order at every render, and each axis alone is uniform. -/
theorem shared_sorter_counterexample :
    tableRendersShared ctxRun ctxRun ({}, ())
        [(axisNV ["Jan", "Feb", "Mar", "Apr"], axisNV ["Thu", "Mon", "Fri", "Tue", "Wed"]),
         (axisNV ["Mar", "Jan", "Apr", "Feb"], axisNV ["Thu", "Mon", "Fri", "Tue", "Wed"])]
      = [(axisNV ["Jan", "Feb", "Mar", "Apr"], axisNV ["Fri", "Mon", "Thu", "Tue", "Wed"]),
         (axisNV ["Apr", "Feb", "Jan", "Mar"], axisNV ["Fri", "Mon", "Thu", "Tue", "Wed"])]
    ∧ tableRenders ctxRun ctxRun ({}, ()) ({}, ())
        [(axisNV ["Jan", "Feb", "Mar", "Apr"], axisNV ["Thu", "Mon", "Fri", "Tue", "Wed"]),
         (axisNV ["Mar", "Jan", "Apr", "Feb"], axisNV ["Thu", "Mon", "Fri", "Tue", "Wed"])]
      = [(axisNV ["Jan", "Feb", "Mar", "Apr"], axisNV ["Mon", "Tue", "Wed", "Thu", "Fri"]),
         (axisNV ["Jan", "Feb", "Mar", "Apr"], axisNV ["Mon", "Tue", "Wed", "Thu", "Fri"])]
    ∧ ctxUniform (realOracle noDates) sortSets ((axisNV ["Thu", "Mon", "Fri", "Tue", "Wed"]).map (·.name)) = true
    ∧ ctxUniform (realOracle noDates) sortSets ((axisNV ["Jan", "Feb", "Mar", "Apr"]).map (·.name)) = true
    ∧ ctxUniform (realOracle noDates) sortSets
        ((axisNV ["Jan", "Feb", "Mar", "Apr"] ++ axisNV ["Thu", "Mon", "Fri", "Tue", "Wed"]).map (·.name)) = false := by
  decide +kernel

/-- the hypotheses of `table_renders_deterministic` hold on that data (a growing screen, two renders) -/
example : let rows := axisNV ["Thu", "Mon", "Fri", "Tue", "Wed"]; let cols := axisNV ["Jan", "Feb", "Mar", "Apr"]
    (rows.map (·.name)).Nodup ∧ (cols.map (·.name)).Nodup
    ∧ modeUniform (realOracle noDates) sortSets .contextual (rows.map (·.name)) = true
    ∧ modeUniform (realOracle noDates) sortSets .contextual (cols.map (·.name)) = true
    ∧ ∀ r ∈ [(axisNV ["Feb", "Jan"], axisNV ["Thu", "Mon"]), (axisNV ["Mar", "Jan", "Apr", "Feb"], axisNV ["Wed", "Thu", "Mon", "Fri", "Tue"])],
        (r.1.Nodup ∧ ∀ x ∈ r.1, x ∈ cols) ∧ (r.2.Nodup ∧ ∀ x ∈ r.2, x ∈ rows) := by
  simp -index only [axisNV, List.map_cons, List.map_nil, sortSets, weekdays, months, asc_ofList]
  decide +kernel

/-! ## `-n N` / top rows: the cut comes after the sort -/

/-- **Which rows `histo -n N` (and every `ItemsSortedBy(N, …)` caller) shows is a function of the data**: the
sorted sequence is cut AFTER sorting, so from every arrival order the answer is the first `N` rows of the one
specified order (all rows if there are fewer than `N`; a negative `N` with `0 ≤ rows` is Go's slice panic). -/
theorem top_n_deterministic (o : Oracle) (sets : List SortSet) (m : Mode) (rev : Bool)
    (alg : List NV → Algo NV (List NV)) (hc : SortContract alg)
    (items a1 a2 : List NV) (hnd : (items.map (·.name)).Nodup) (h1 : a1.Perm items) (h2 : a2.Perm items)
    (hu : modeUniform o sets m (items.map (·.name)) = true) (count : Int) :
    itemsSortedBy (fun s l => Algo.run (finalSorter o sets m rev).cmp s (alg l)) (finalSorter o sets m rev).init a1 count
      = itemsSortedBy (fun s l => Algo.run (finalSorter o sets m rev).cmp s (alg l)) (finalSorter o sets m rev).init a2 count
    ∧ itemsSortedBy (fun s l => Algo.run (finalSorter o sets m rev).cmp s (alg l)) (finalSorter o sets m rev).init a1 count
      = minSlice (isort (finalSpecLess o sets items m rev) items) count := by
  simp only [itemsSortedBy]
  rw [sort_result o sets m rev alg hc items a1 hnd h1 hu, sort_result o sets m rev alg hc items a2 hnd h2 hu]
  exact ⟨rfl, rfl⟩

/-- `minSlice` is a prefix: for `0 ≤ N` the first `N` rows … -/
theorem top_n_is_prefix {α : Type} (l : List α) (count : Int) (h : 0 ≤ count) :
    minSlice l count = .ok (l.take count.toNat) := by
  unfold minSlice
  by_cases hlt : (l.length : Int) < count
  · rw [if_pos hlt, List.take_of_length_le (by omega)]
  · rw [if_neg hlt, if_neg (by omega)]

/-- … and every row shown precedes every row cut off (`value`: no hidden row has a larger total than a shown one). -/
theorem top_rows_precede_hidden {α : Type} {less : α → α → Bool} {items : List α} (hnd : items.Nodup)
    (ho : OrderOn (· ∈ items) less) (n : Nat) :
    ∀ x ∈ (isort less items).take n, ∀ y ∈ (isort less items).drop n, less x y = true := by
  have hs := (isort_sorted hnd ho).2
  rw [← List.take_append_drop n (isort less items), List.pairwise_append] at hs
  exact fun x hx y hy => hs.2.2 x hx y hy

/-- `value` (default, descending): a row that is cut off never has a larger total than a row that is shown. -/
theorem top_n_largest_totals {items : List NV} (hnd : items.Nodup) (n : Nat) :
    ∀ x ∈ (isort (revLess valueLess) items).take n, ∀ y ∈ (isort (revLess valueLess) items).drop n, y.value ≤ x.value := by
  have ho : OrderOn (· ∈ items) (revLess valueLess) := (valueLess_strictTotal.mono (fun _ _ => trivial)).toOrderOn.rev
  intro x hx y hy
  have h := top_rows_precede_hidden hnd ho n x hx y hy
  simp only [revLess, valueLess, byRank, lexLt, intLt, Bool.not_eq_true', Bool.or_eq_false_iff, decide_eq_false_iff_not] at h
  omega

/-- `--sort value` (descending) run by Go's insertion sort -/
def cutRun : Unit → List NV → List NV × Unit :=
  goInsertionSort (finalSorter (realOracle noDates) sortSets .value true).cmp

def cutA1 : List NV := [⟨asc "a", 1⟩, ⟨asc "b", 5⟩, ⟨asc "c", 3⟩, ⟨asc "d", 9⟩, ⟨asc "e", 2⟩]
def cutA2 : List NV := [⟨asc "d", 9⟩, ⟨asc "e", 2⟩, ⟨asc "a", 1⟩, ⟨asc "b", 5⟩, ⟨asc "c", 3⟩]

/-- What must NOT happen (cut, then sort): the rows shown would depend on the map order – kernel computation on
five rows with `-n 2`, two arrival orders, two different screens; the real order of the two steps gives one. -/
theorem cut_before_sort_counterexample :
    (itemsCutThenSorted cutRun () cutA1 2).toOption = some [⟨asc "b", 5⟩, ⟨asc "a", 1⟩]
    ∧ (itemsCutThenSorted cutRun () cutA2 2).toOption = some [⟨asc "d", 9⟩, ⟨asc "e", 2⟩]
    ∧ (itemsSortedBy cutRun () cutA1 2).toOption = some [⟨asc "d", 9⟩, ⟨asc "b", 5⟩]
    ∧ (itemsSortedBy cutRun () cutA2 2).toOption = some [⟨asc "d", 9⟩, ⟨asc "b", 5⟩]
    ∧ (itemsSortedBy cutRun () cutA1 7).toOption
        = some [⟨asc "d", 9⟩, ⟨asc "b", 5⟩, ⟨asc "c", 3⟩, ⟨asc "e", 2⟩, ⟨asc "a", 1⟩]
    ∧ (itemsSortedBy cutRun () cutA1 (-1)).toOption = none ∧ (itemsSortedBy cutRun () [] (-1)).toOption = none
    ∧ cutA1.Perm cutA2 := by
  decide +kernel

/-- `ItemsSortedBy` / `minSlice` in the Go source are what the model mirrors: sort first, cut afterwards
(regenerated skeletons). -/
theorem top_n_matches_source :
    Gen.C13.itemsSortedBySkel = [
      (0, "assign", "items := s.Items()"),
      (0, "expr", "sorting.SortBy(items, sorter, func(obj MatchPair) sorting.NameValuePair { return sorting.NameValuePair{ Name: obj.Name, Value: obj.Item.count, } })"),
      (0, "return", "minSlice(items, count)")]
    ∧ Gen.C13.minSliceSkel = [
      (0, "if", "len(items) < count"),
      (1, "return", "items"),
      (0, "return", "items[:count]")] :=
  ⟨rfl, rfl⟩

/-- The glue between the aggregators, rare's `sort.Interface` wrapper and `sort.Sort` is what the model assumes
(regenerated skeletons): `Less(i, j)` asks the closure about `(arr[i], arr[j])` in this order (`insertBack` /
`Algo.ask`), `Swap` exchanges two slots, `Sort` / `SortBy` hand the wrapper to `sort.Sort` (not `sort.Stable`,
no pre-processing), `Items` / `OrderedColumns` / `OrderedRows` collect from the map and sort with the caller's
sorter on (name, total) – the column total `s.cols[name]`, the row sum `obj.sum`. -/
theorem sort_wrappers_match_source :
    Gen.C13.wrappedLessSkel = [(0, "return", "s.less(s.arr[i], s.arr[j])")]
    ∧ Gen.C13.wrappedSwapSkel = [(0, "assign", "s.arr[i], s.arr[j] = s.arr[j], s.arr[i]")]
    ∧ Gen.C13.wrappedLenSkel = [(0, "return", "len(s.arr)")]
    ∧ Gen.C13.sortSkel = [(0, "assign", "ws := wrappedSorter[TElem]{arr, sorter}"), (0, "expr", "sort.Sort(&ws)")]
    ∧ Gen.C13.sortBySkel = [
      (0, "assign", "ws := wrappedSorter[TElem]{arr, func(a, b TElem) bool { return sorter(extractor(a), extractor(b)) }}"),
      (0, "expr", "sort.Sort(&ws)")]
    ∧ Gen.C13.itemsSkel = [
      (0, "assign", "items := make([]MatchPair, 0, len(s.matches))"),
      (0, "for", "key, val := range s.matches"),
      (1, "assign", "items = append(items, MatchPair{ Item: *val, Name: key, })"),
      (0, "return", "items")]
    ∧ Gen.C13.orderedColumnsSkel = [
      (0, "assign", "keys := s.Columns()"),
      (0, "expr", "sorting.SortBy(keys, sorter, func(name string) sorting.NameValuePair { return sorting.NameValuePair{ Name: name, Value: s.cols[name], } })"),
      (0, "return", "keys")]
    ∧ Gen.C13.orderedRowsSkel = [
      (0, "assign", "rows := s.Rows()"),
      (0, "expr", "sorting.SortBy(rows, sorter, func(obj *TableRow) sorting.NameValuePair { return sorting.NameValuePair{ Name: obj.name, Value: obj.sum, } })"),
      (0, "return", "rows")] :=
  ⟨rfl, rfl, rfl, rfl, rfl, rfl, rfl, rfl⟩

/-! ## defaults and `SortsByValue` -/

/-- **What the user gets without a sort flag** (regenerated from the flag definitions of the commands): `histo`,
`table` (both axes) and the rows of `spark` default to `value` – which `parseSort` makes DESCENDING (larger totals
first) –, `bars`, `heatmap` (both axes) and the columns of `spark` to `helpers.DefaultSortFlag.Value` = `numeric`,
ascending; `reduce` has no default (`ByContextual()` on the group keys).  Every default is a name the model
resolves; `DefaultSortFlagWithDefault` / `SortsByValue` are the statements the model mirrors. -/
theorem default_sorts_from_source :
    Gen.C13.defaultSortValue = "numeric"
    ∧ Gen.C13.sortDefaults = [
        ("cmd/histo.go", "sort", "\"value\""),
        ("cmd/bargraph.go", "sort", "helpers.DefaultSortFlag.Value"),
        ("cmd/tabulate.go", "sort-rows", "\"value\""),
        ("cmd/tabulate.go", "sort-cols", "\"value\""),
        ("cmd/heatmap.go", "sort-rows", "helpers.DefaultSortFlag.Value"),
        ("cmd/heatmap.go", "sort-cols", "helpers.DefaultSortFlag.Value"),
        ("cmd/spark.go", "sort-rows", "\"value\""),
        ("cmd/spark.go", "sort-cols", "\"numeric\""),
        ("cmd/reduce.go", "sort", "<none>")]
    ∧ parsed (parseSort asciiLower (asc "value")) = some (asc "value", true)
    ∧ lookupMode asciiLower (asc "value") = some .value
    ∧ parsed (parseSort asciiLower (asc Gen.C13.defaultSortValue)) = some (asc "numeric", false)
    ∧ lookupMode asciiLower (asc Gen.C13.defaultSortValue) = some .numeric
    ∧ sortsByValue asciiLower (asc "value") = true ∧ sortsByValue asciiLower (asc "numeric") = false
    ∧ Gen.C13.sortsByValueSkel = [
        (0, "assign", "name, _, err := parseSort(fullName)"),
        (0, "return", "err == nil && name == \"value\"")]
    ∧ Gen.C13.defaultSortFlagWithDefaultSkel = [
        (0, "if", "_, err := lookupSorter(dflt); err != nil"),
        (1, "expr", "panic(err)"),
        (0, "assign", "flag := *DefaultSortFlag"),
        (0, "assign", "flag.Value = dflt"),
        (0, "return", "&flag")] := by
  refine ⟨rfl, rfl, ?_, ?_, ?_, ?_, ?_, ?_, rfl, rfl⟩ <;> decide +kernel

/-- `SortsByValue` on every name × modifier: true exactly for `value` with a valid (or no) modifier. -/
theorem sorts_by_value_table :
    (sortNames.all fun n => modifierExpect.all fun me =>
      sortsByValue asciiLower (asc n ++ asc me.1) == (n == "value" && (me.2 true).isSome)) = true := by
  simp -index only [sortNames, modifierExpect, List.all_cons, List.all_nil, asc_ofList]
  decide +kernel

/-- `SortsByValue(name)` implies that `BuildSorter(name)` succeeds with the `value` comparator (possibly reversed) –
for every `strings.ToLower` that leaves the word `value` alone. -/
theorem sorts_by_value_sound (o : Oracle) (sets : List SortSet) (h : o.lower (asc "value") = asc "value") (n : Key)
    (hv : sortsByValue o.lower n = true) :
    ∃ rev, parseSort o.lower n = .ok (asc "value", rev)
      ∧ buildSorter o sets n = .ok (if rev then (modeSorter o sets .value).reversed else modeSorter o sets .value) := by
  unfold sortsByValue at hv
  split at hv
  · rename_i name rev heq
    have hn : name = asc "value" := by simpa using hv
    subst hn
    have hm : lookupMode o.lower (asc "value") = some .value := by
      unfold lookupMode
      rw [h]
      simp -index only [asc_ofList]
      decide +kernel
    refine ⟨rev, heq, ?_⟩
    simp only [buildSorter, heq, lookupSorter, hm]
  · simp at hv

/-! ## non-vacuity -/

/-- The assumed `sort.Sort` contract is satisfiable: insertion sort, written as a comparison tree,
meets it – so `perm_invariant`, `perm_invariant_partial` and `sort_result` are not vacuous. -/
theorem sort_contract_satisfiable : SortContract (isortA (α := NV)) := isortA_contract

/-- A second discharge, on the Go-shaped code: `sort.insertionSort` (`goInsertionSort`: the loop
`for i := 1; i < n; i++ { for j := i; j > 0 && Less(j, j-1); j-- { Swap(j, j-1) } }` that `sort.Sort`
runs for `n ≤ 12`, and what the driver's `sort` op executes) with a comparator that orders the distinct
elements returns the sorted permutation – the reference sequence `isort`.  (Nothing is claimed about
pdqsort for longer inputs: that is the assumption `SortContract`.) -/
theorem go_insertion_sort_sorted {α : Type} {less : α → α → Bool} {l : List α} (hnd : l.Nodup)
    (ho : OrderOn (· ∈ l) less) :
    IsSorted less (goInsertionSort (pureCmp less) () l).1 l
    ∧ (goInsertionSort (pureCmp less) () l).1 = isort less l :=
  have e := goInsertionSort_eq_isort hnd ho
  ⟨e ▸ isort_sorted hnd ho, e⟩

example : (goInsertionSort (pureCmp byNameSmartF) () [asc "10", asc "1a", asc "2", asc "1.0", asc "1"]).1
    = [asc "1", asc "1.0", asc "2", asc "10", asc "1a"] := by
  simp -index only [asc_ofList]
  decide +kernel

/-- `perm_invariant` instantiated: numeric, reversed, three rows, two arrival orders. -/
example (o : Oracle) :
    (Algo.run (finalSorter o sortSets .numeric true).cmp (finalSorter o sortSets .numeric true).init
        (isortA [⟨asc "10", 1⟩, ⟨asc "1a", 2⟩, ⟨asc "2", 3⟩])).1
    = (Algo.run (finalSorter o sortSets .numeric true).cmp (finalSorter o sortSets .numeric true).init
        (isortA [⟨asc "2", 3⟩, ⟨asc "10", 1⟩, ⟨asc "1a", 2⟩])).1 :=
  (perm_invariant o sortSets .numeric (Or.inr (Or.inl rfl)) true isortA sort_contract_satisfiable
    [⟨asc "10", 1⟩, ⟨asc "1a", 2⟩, ⟨asc "2", 3⟩] _ _ (by decide) (List.Perm.refl _) (by decide)).1

/-- keys with two spellings of one number, a non-number and NaN: all hypotheses of the order theorems hold -/
example : OrderOn (· ∈ [asc "10", asc "1a", asc "2", asc "1.0", asc "1"]) (byNameSmart (fun _ => .err)) :=
  ((numeric_less_strict_total _).mono (fun _ _ => trivial)).toOrderOn

/-- a uniform weekday set in three spellings satisfies `ctxUniform` -/
example : ctxUniform witnessOracle sortSets [asc "Mon", asc "tues", asc "TUE", asc "sunday"] = true := by
  simp -index only [sortSets, weekdays, months, asc_ofList]
  decide +kernel

/-- a uniform date set satisfies `dateUniform` -/
example : dateUniform witnessOracle sortSets [asc "01/02/2022", asc "12/31/2021"] = true := by
  decide +kernel

/-- the reference sort sorts the F18 witness the same way from every arrival order -/
example : (isort (byNameSmart (fun k => if k = asc "10" then .val 10 else if k = asc "2" then .val 2 else .err)))
    [asc "10", asc "1a", asc "2"] = [asc "2", asc "10", asc "1a"]
  ∧ (isort (byNameSmart (fun k => if k = asc "10" then .val 10 else if k = asc "2" then .val 2 else .err)))
    [asc "1a", asc "2", asc "10"] = [asc "2", asc "10", asc "1a"] := by decide +kernel

end Rare.C13

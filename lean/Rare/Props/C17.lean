import Rare.Proofs.C17Gen
import Rare.Proofs.C17Wf
import Rare.Proofs.C17Range
import Rare.Proofs.C17Wrap
import Rare.Proofs.C17Laws
import Rare.Proofs.C17Pool
import Rare.Proofs.C17Sel
import Rare.Proofs.C17Iter
import Rare.Proofs.C17HeapI
import Rare.Proofs.C17Extra
import Rare.Model.Expr.Std
import Rare.Gen.C17
import Rare.Spec.C17Wf
/-!
# C17 — array helpers obey list semantics

A string is read as the list `elems s` of its NUL-separated elements; `pack xs` is the string with
elements `xs`.  Every theorem is about the stage a helper's builder returns
(`pkg/expressions/stdlib/funcsRange.go`, `stringSplitter`, `kfJoin`), run against an ARBITRARY
enclosing context `ctx`, with ARBITRARY argument stages.  Argument stages are only assumed to return
(`a.run ctx = .ok v`; a panicking argument is C08's subject).  Sub-expressions of `@map`, `@filter`,
`@reduce` are arbitrary stages `a1`; `f v0 v1` names what `a1` returns in `subCtx ctx v0 v1`, the context
where `{0}`/`{1}` are `v0`/`v1`, every other index is empty and every named key is resolved by `ctx`
(`sub_context_binding`).

"Well-formed": every array result below is literally `pack` of the specification's element list.
Section "Well-formed results" says what that means for the separators: `pack ys` has exactly
`ys.length - 1` joints and otherwise only the separators that sit INSIDE members of `ys`
(`wellformed_census`), reading it back gives the members' own elements in order (`wellformed_flatten`),
and it reads back as `ys` itself exactly when no member contains a separator (`wellformed_iff`).
Members can only contain a separator when a sub-expression (`@map`'s function, `@for`'s start/next,
an argument of `{@ ..}`/`{$ ..}`) or the string handed to `@split` does; `@filter`, `@slice`, `@range`
results are well-formed unconditionally (`*_wellformed`).

Integer arguments: `@select`/`@slice` take their constant arguments through `EvalStageInt`/`EvalArgInt`
(`evalStageInt`, `evalArgInt`), `@range` through `strconv.Atoi` (`atoi`); the theorems assume only
that, the int64 range of the parsed values is proved (`Proofs/C17Atoi.lean`: `atoi_range`, `atoi_iff`).
`len_spec/select_spec/slice_spec` keep ONE size hypothesis, `len(arr) < MaxInt64 = 2^63-1`: Go's `len` is an
`int`, so every Go string has `len ≤ 2^63-1`, and equality is impossible on any machine (the string would fill
the whole address space); for the model's unbounded lists the hypothesis is needed because
`strings.Count(..)+1` and the loop counter `i++` are wrapped int64 arithmetic.  `len_spec_wrapped`,
`select_spec_wrapped`, `slice_spec_wrapped` are the unconditional forms (every list, the wrap-around mirrored at
specification level: `Spec/C17Wrap.lean`), `wrapped_is_documented` says that below 2^63 elements they coincide.
-/
namespace Rare.C17
open Rare Rare.Expr Rare.Expr.Funcs.Range

/-! ## Sub-contexts: `{0}`/`{1}` bound, keys from the enclosing match -/

/-- Evaluating a stage inside the pooled `subContext{parent: ctx, vals: [v0, v1]}` is evaluating it
    in `subCtx ctx v0 v1`: index 0/1 are the bound values, larger indices are empty, a negative index
    (not an element index) and every key look-up are answered by the enclosing context. -/
theorem sub_context_binding {α : Type} (ctx : Ctx) (v0 v1 : Bytes) (c : Comp α) :
    (c.withSub v0 v1).run ctx = c.run (subCtx ctx v0 v1) ∧
    (subCtx ctx v0 v1).getMatch 0 = v0 ∧ (subCtx ctx v0 v1).getMatch 1 = v1 ∧
    (∀ i, 1 < i → (subCtx ctx v0 v1).getMatch i = []) ∧
    (∀ i, i < 0 → (subCtx ctx v0 v1).getMatch i = ctx.getMatch i) ∧
    (∀ k, (subCtx ctx v0 v1).getKey k = ctx.getKey k) := by
  refine ⟨withSub_run ctx v0 v1 c, rfl, rfl, ?_, ?_, fun _ => rfl⟩
  · intro i h
    have h1 : ¬ i < 0 := by omega
    have h2 : i ≠ 0 := by omega
    have h3 : i ≠ 1 := by omega
    simp [subCtx, h1, h2, h3]
  · intro i h
    simp [subCtx, h]

/-- `stringSplitter.Splitter` with any non-empty delimiter of any length: draining it (a loop that
    appends every `Next()` until `Done()`) never hangs and yields exactly `splitOn Delim S`. -/
theorem splitter_spec (ctx : Ctx) (s d : Bytes) (hd : d ≠ []) :
    (splitLoop (loopFuel s) { S := s, Delim := d } ([] : List Bytes) (fun _ => true)
      (fun acc x => .ret (acc ++ [x]))).run ctx = .ok (splitOn d s) := by
  rw [splitLoop_run_init ctx _ _ (fun acc x => acc ++ [x]) (fun _ _ => rfl) s d hd,
    foldWhile_true]
  have : ∀ (xs acc : List Bytes), xs.foldl (fun acc x => acc ++ [x]) acc = acc ++ xs := by
    intro xs; induction xs with
    | nil => simp
    | cons x xs ih => intro acc; simp [ih]
  simp [this]

/-- List level, any delimiter `d ≠ []` of ANY length, any string: joining the pieces gives `s` back. -/
theorem join_split_list (d : Bytes) (hd : d ≠ []) (s : Bytes) : join d (splitOn d s) = s :=
  join_splitOn d hd s

/-- List level: splitting a joined non-empty list gives the list back when the delimiter occurs
    nowhere but at the joints, i.e. in no `x ++ (d without its last byte)`.  For a one-byte delimiter
    this says "no element contains `d`". -/
theorem split_join_list (d : Bytes) (hd : d ≠ []) (xs : List Bytes) (hx : xs ≠ [])
    (h : ∀ x ∈ xs, ¬ d <:+: x ++ d.dropLast) : splitOn d (join d xs) = xs :=
  splitOn_join d hd xs hx h

/-- `{@split s d}` is `pack (splitOn d s)`. -/
theorem split_spec (ctx : Ctx) (a0 : Stage) (s d : Bytes) (hd : d ≠ []) (h0 : a0.run ctx = .ok s) :
    (splitStage d a0).run ctx = .ok (pack (splitOn d s)) := by
  unfold splitStage
  rw [Comp.run_bind_ok h0, arrayOperator_run ctx s d _ hd noopMapper id (noop_run ctx)]
  simp [pack, ArraySeparatorString, ArraySeparator, NUL]

/-- `{@join a d}` is `join d (elems a)` (`d` may be empty). -/
theorem join_spec (ctx : Ctx) (a0 : Stage) (arr d : Bytes) (h0 : a0.run ctx = .ok arr) :
    (joinStage d a0).run ctx = .ok (join d (elems arr)) := by
  unfold joinStage
  rw [Comp.run_bind_ok h0,
    arrayOperator_run ctx arr _ d (by simp [ArraySeparatorString]) noopMapper id (noop_run ctx)]
  simp [elems, ArraySeparatorString, ArraySeparator, NUL]

private theorem nul_free_pieces (d : Bytes) (hd : d ≠ []) (s : Bytes) (hs : NUL ∉ s) :
    ∀ x ∈ splitOn d s, ¬ [NUL] <:+: x ++ ([NUL] : Bytes).dropLast := by
  intro x hx hi
  have hi' : [NUL] <:+: x := by simpa using hi
  exact splitOn_nul_free d hd s hs x hx (hi'.subset (List.mem_singleton.mpr rfl))

/-- **@split and @join are inverse (1)**: for every delimiter `d ≠ ""` of any length and every string
    `s` that is itself one element (contains no separator), `{@join {@split s d} d}` is `s`. -/
theorem split_join_inverse (ctx : Ctx) (a0 : Stage) (s d : Bytes) (hd : d ≠ [])
    (h0 : a0.run ctx = .ok s) (hs : NUL ∉ s) :
    (joinStage d (splitStage d a0)).run ctx = .ok s := by
  rw [join_spec ctx _ _ d (split_spec ctx a0 s d hd h0)]
  unfold elems pack
  rw [splitOn_join [NUL] (by simp) _ (splitOn_ne_nil _ _)
    (nul_free_pieces d hd s hs), join_splitOn d hd s]

/-- **@split and @join are inverse (2)**: `{@split {@join a d} d}` is `a` when the delimiter occurs
    nowhere but at the joints (see `split_join_list`). -/
theorem join_split_inverse (ctx : Ctx) (a0 : Stage) (arr d : Bytes) (hd : d ≠ [])
    (h0 : a0.run ctx = .ok arr) (h : ∀ x ∈ elems arr, ¬ d <:+: x ++ d.dropLast) :
    (splitStage d (joinStage d a0)).run ctx = .ok arr := by
  rw [split_spec ctx _ _ d hd (join_spec ctx a0 arr d h0)]
  rw [splitOn_join d hd _ (elems_ne_nil _) h]
  unfold pack elems
  rw [join_splitOn [NUL] (by simp) arr]

/-- Reading a packed list back: a non-empty list of separator-free elements is recovered exactly,
    so a result of the form `pack ys` contains no separator that does not delimit an element. -/
theorem wellformed_readback (ys : List Bytes) (hy : ys ≠ []) (h : ∀ y ∈ ys, NUL ∉ y) :
    elems (pack ys) = ys := (elems_pack_iff ys hy).mpr h

/-- …and conversely every array value is the packing of its elements. -/
theorem pack_elems (s : Bytes) : pack (elems s) = s := join_splitOn [NUL] (by simp) s

private theorem elems_length_le (arr : Bytes) (hl : (arr.length : Int) < maxInt64) :
    ((elems arr).length : Int) ≤ maxInt64 := by
  have hc : arr.count NUL ≤ arr.length := List.count_le_length
  rw [elems_length]; omega

/-- `{@len a}` counts the elements; the empty string is the empty array.
    (`hl`: see the header – true of every Go string; needed because `strings.Count(..)+1` is int64.) -/
theorem len_spec (ctx : Ctx) (a0 : Stage) (arr : Bytes) (h0 : a0.run ctx = .ok arr)
    (hl : (arr.length : Int) < maxInt64) :
    (lenStage a0).run ctx = .ok (if arr = [] then ascii "0" else itoa (len arr)) := by
  rw [lenStage_run ctx a0 arr h0]
  by_cases he : arr = []
  · simp only [he, if_true]
  · have := elems_length_le arr hl
    rw [if_neg he, if_neg he, len_pos_eq arr he, wrap64_id (by unfold minInt64; omega) this]

/-- The same for ALL lists, with Go's wrap-around mirrored (no size hypothesis): the count is the
    number of elements reduced to int64.  (`len_spec` is the case where nothing wraps.) -/
theorem len_spec_wrapped (ctx : Ctx) (a0 : Stage) (arr : Bytes) (h0 : a0.run ctx = .ok arr) :
    (lenStage a0).run ctx =
      .ok (if arr = [] then ascii "0" else itoa (wrap64 ((elems arr).length : Nat))) :=
  lenStage_run ctx a0 arr h0

/-- `{@map a sub}`: `sub` applied to each element in order, `{0}` = the element, `{1}` empty. -/
theorem map_spec (ctx : Ctx) (a0 a1 : Stage) (arr : Bytes) (f : Bytes → Bytes → Bytes)
    (h0 : a0.run ctx = .ok arr) (h1 : ∀ v0 v1, a1.run (subCtx ctx v0 v1) = .ok (f v0 v1)) :
    (mapStage a0 a1).run ctx = .ok (pack ((elems arr).map fun x => f x [])) := by
  simp only [mapStage_runE, h0, h1, loopE_map_ok]
  rfl

/-- `{@filter a sub}`: the elements for which `sub` (with `{0}` = the element) is truthy, in order. -/
theorem filter_spec (ctx : Ctx) (a0 a1 : Stage) (arr : Bytes) (f : Bytes → Bytes → Bytes)
    (h0 : a0.run ctx = .ok arr) (h1 : ∀ v0 v1, a1.run (subCtx ctx v0 v1) = .ok (f v0 v1)) :
    (filterStage a0 a1).run ctx = .ok (pack ((elems arr).filter fun x => truthy (f x []))) := by
  simp only [filterStage_runE, h0, h1, loopE_filter_ok]
  rfl

/-- `{@reduce a sub [init]}`: left fold with `{0}` = the accumulator and `{1}` = the element.  The first
    element starts the fold ONLY when no initial value is given (`init = ""`: `EvalStageIndexOrDefault`
    reads an absent, empty or non-constant third argument as `""`), and only once, before the loop
    (`reduce`, `Spec/C17.lean`; spelled out in `reduce_spec_cases`, `reduce_empty_first`,
    `reduce_no_reseed` below). -/
theorem reduce_spec (ctx : Ctx) (a0 a1 : Stage) (arr init : Bytes) (f : Bytes → Bytes → Bytes)
    (h0 : a0.run ctx = .ok arr) (h1 : ∀ v0 v1, a1.run (subCtx ctx v0 v1) = .ok (f v0 v1)) :
    (reduceStage init a0 a1).run ctx = .ok (reduce f init (elems arr)) := by
  simp only [reduceStage_runE, h0, h1, loopE_ok, foldl_reduceStart]

/-- **The initial-value rule of `@reduce`, exactly.**  The array always has a first element `x` (the empty
    string is the array with the one element `""`).  With a non-empty initial value EVERY element, the first
    included, is passed to the reducer; without one (absent, or the empty string) the first element IS the
    starting accumulator and the reducer sees the remaining elements only.  That seeding happens once, before
    the loop: nothing in the result depends on whether an accumulator value is empty. -/
theorem reduce_spec_cases (ctx : Ctx) (a0 a1 : Stage) (arr init : Bytes) (f : Bytes → Bytes → Bytes)
    (h0 : a0.run ctx = .ok arr) (h1 : ∀ v0 v1, a1.run (subCtx ctx v0 v1) = .ok (f v0 v1)) :
    ∃ x r, elems arr = x :: r ∧
      (reduceStage init a0 a1).run ctx = .ok (if init = [] then r.foldl f x else (x :: r).foldl f init) := by
  cases he : elems arr with
  | nil => exact absurd he (elems_ne_nil arr)
  | cons x r =>
    refine ⟨x, r, rfl, ?_⟩
    rw [reduce_spec ctx a0 a1 arr init f h0 h1, he]
    by_cases hi : init = [] <;> simp [reduce, hi]

/-- **An empty accumulator is an ordinary accumulator** (first element empty, no initial value): the list
    `"" , y, r…` reduces to the fold of `r` from `f "" y` – the reducer IS called with `{0} = ""` and
    `{1} = y`; `y` does not silently become the accumulator. -/
theorem reduce_empty_first (ctx : Ctx) (a0 a1 : Stage) (arr y : Bytes) (r : List Bytes) (f : Bytes → Bytes → Bytes)
    (h0 : a0.run ctx = .ok arr) (h1 : ∀ v0 v1, a1.run (subCtx ctx v0 v1) = .ok (f v0 v1))
    (he : elems arr = [] :: y :: r) :
    (reduceStage [] a0 a1).run ctx = .ok (r.foldl f (f [] y)) := by
  rw [reduce_spec ctx a0 a1 arr [] f h0 h1, he]
  simp [reduce]

/-- **No re-seeding in the middle** (any initial value): cut the array after a non-empty prefix `pre`; the
    result is the fold of the rest from the prefix's result `m` – through the reducer, `f m y`, also when `m`
    is the empty string (a reducer may well return `""`). -/
theorem reduce_no_reseed (ctx : Ctx) (a0 a1 : Stage) (arr init : Bytes) (pre post : List Bytes)
    (f : Bytes → Bytes → Bytes)
    (h0 : a0.run ctx = .ok arr) (h1 : ∀ v0 v1, a1.run (subCtx ctx v0 v1) = .ok (f v0 v1))
    (he : elems arr = pre ++ post) (hp : pre ≠ []) :
    (reduceStage init a0 a1).run ctx = .ok (post.foldl f (reduce f init pre)) := by
  rw [reduce_spec ctx a0 a1 arr init f h0 h1, he]
  cases pre with
  | nil => exact absurd rfl hp
  | cons x r => by_cases hi : init = [] <;> simp [reduce, hi, List.foldl_append]

/-- `{@select a i}`: the i-th element; a negative `i` counts from the end; out of range (either
    side, however large) gives the empty string.  `i` is whatever `EvalStageInt` made of the constant
    second argument (`hi`; it is an int64 by `evalStageInt_range`, no assumption). -/
theorem select_spec (ctx : Ctx) (a0 a1 : Stage) (arr : Bytes) (index : Int)
    (hi : evalStageInt a1 = .ok (some index))
    (h0 : a0.run ctx = .ok arr) (hl : (arr.length : Int) < maxInt64) :
    kfArraySelect [a0, a1] = ok (selectStage index a0) ∧
    (selectStage index a0).run ctx = .ok (select (elems arr) index) := by
  obtain ⟨h1, h2⟩ := evalStageInt_range hi
  refine ⟨by simp only [kfArraySelect, hi], ?_⟩
  rw [selectStage_run ctx a0 arr index h1 h2 h0, selectW_eq_select _ _ (elems_length_le arr hl) h1 h2]

/-- `{@slice a start [len]}`: `len` elements from `start`; a negative `start` counts from the end and
    is CLAMPED to the first element; any `len` (however large; negative or absent = to the end).
    `start`/`len` are what `EvalStageInt`/`EvalArgInt` made of the constant arguments (`rest` is the
    optional third argument). -/
theorem slice_spec (ctx : Ctx) (a0 a1 : Stage) (rest : List Stage) (arr : Bytes) (start len : Int)
    (hr : rest.length ≤ 1)
    (hs : evalStageInt a1 = .ok (some start))
    (hn : evalArgInt (a0 :: a1 :: rest) 2 (-1) = .ok (some len))
    (h0 : a0.run ctx = .ok arr) (hl : (arr.length : Int) < maxInt64) :
    kfArraySlice (a0 :: a1 :: rest) = ok (sliceStage start len a0) ∧
    (sliceStage start len a0).run ctx = .ok (pack (slice (elems arr) start len)) := by
  obtain ⟨h1, h2⟩ := evalStageInt_range hs
  refine ⟨?_, ?_⟩
  · have hc : argCountBetween (a0 :: a1 :: rest) 2 3 = true := by
      simp only [argCountBetween, List.length_cons, Bool.and_eq_true, decide_eq_true_eq]; omega
    simp only [kfArraySlice, hc, Bool.not_true, Bool.false_eq_true, if_false, hs, hn]
  · rw [sliceStage_run ctx a0 arr start len h0, sliceW_eq_slice _ _ _ (elems_length_le arr hl) h1 h2]

/-- `{@select a i}` for ALL lists, Go's 64-bit counter mirrored (`selectW`, `Spec/C17Wrap.lean`): no size
    hypothesis.  (`select_spec` is the case where nothing wraps: `wrapped_is_documented`.) -/
theorem select_spec_wrapped (ctx : Ctx) (a0 a1 : Stage) (arr : Bytes) (index : Int)
    (hi : evalStageInt a1 = .ok (some index)) (h0 : a0.run ctx = .ok arr) :
    kfArraySelect [a0, a1] = ok (selectStage index a0) ∧
    (selectStage index a0).run ctx = .ok (selectW (elems arr) index) := by
  obtain ⟨h1, h2⟩ := evalStageInt_range hi
  exact ⟨by simp only [kfArraySelect, hi], selectStage_run ctx a0 arr index h1 h2 h0⟩

/-- `{@slice a start [len]}` for ALL lists, Go's 64-bit counter mirrored (`sliceW`): no size hypothesis. -/
theorem slice_spec_wrapped (ctx : Ctx) (a0 a1 : Stage) (rest : List Stage) (arr : Bytes) (start len : Int)
    (hr : rest.length ≤ 1)
    (hs : evalStageInt a1 = .ok (some start))
    (hn : evalArgInt (a0 :: a1 :: rest) 2 (-1) = .ok (some len))
    (h0 : a0.run ctx = .ok arr) :
    kfArraySlice (a0 :: a1 :: rest) = ok (sliceStage start len a0) ∧
    (sliceStage start len a0).run ctx = .ok (sliceW (elems arr) start len) := by
  refine ⟨?_, sliceStage_run ctx a0 arr start len h0⟩
  have hc : argCountBetween (a0 :: a1 :: rest) 2 3 = true := by
    simp only [argCountBetween, List.length_cons, Bool.and_eq_true, decide_eq_true_eq]; omega
  simp only [kfArraySlice, hc, Bool.not_true, Bool.false_eq_true, if_false, hs, hn]

/-- Below 2^63 elements – every array a Go program can hold – the wrapped forms ARE the documented list
    functions: `selectW = select`, `sliceW = pack ∘ slice`. -/
theorem wrapped_is_documented (xs : List Bytes) (i len : Int) (hl : (xs.length : Int) ≤ maxInt64)
    (h1 : minInt64 ≤ i) (h2 : i ≤ maxInt64) :
    selectW xs i = select xs i ∧ sliceW xs i len = pack (slice xs i len) :=
  ⟨selectW_eq_select xs i hl h1 h2, sliceW_eq_slice xs i len hl h1 h2⟩

/-- `{@for start cond next}`: `v₀ = start`, `vₖ₊₁ = next` evaluated with `{0} = vₖ`, `{1} = k`; the result
    packs exactly the values before the first `k` whose `cond` (same bindings) is not truthy — leading
    empty values included — and is `<INF>` iff more than `MAX_ITERATIONS` values would be produced.
    In particular the loop always returns (no fuel exhaustion). Keys inside `cond`/`next` are resolved
    by the enclosing context `ctx` (`subCtx`). -/
theorem for_spec (ctx : Ctx) (a0 a1 a2 : Stage) (start : Bytes) (fc fn : Bytes → Bytes → Bytes)
    (h0 : a0.run ctx = .ok start)
    (hc : ∀ v0 v1, a1.run (subCtx ctx v0 v1) = .ok (fc v0 v1))
    (hn : ∀ v0 v1, a2.run (subCtx ctx v0 v1) = .ok (fn v0 v1)) :
    (forStage a0 a1 a2).run ctx =
      .ok (match iterateWhile (fun v k => truthy (fc v (itoa (k : Nat)))) (fun v k => fn v (itoa (k : Nat)))
              Gen.maxIterations 0 start with
           | some ys => pack ys
           | none => InfMarker) := by
  simp only [forStage_runE, h0, hc, hn, forE_ok _ _ (Gen.maxIterations + 2) 0 _ [] (Nat.zero_le _) (by omega),
    Nat.sub_zero]
  cases iterateWhile (fun v k => truthy (fc v (itoa (k : Nat)))) (fun v k => fn v (itoa (k : Nat)))
      Gen.maxIterations 0 start <;> rfl

/-- `{@range start stop incr}` (defaults `start = 0`, `incr = 1` are literal stages, see `range_builders`).
    Arguments that are not integers give `<BAD-TYPE>`; a zero increment or one pointing away from
    `stop` gives `<VALUE>`; otherwise the result packs EXACTLY the terms `start + k·incr` (computed in
    unbounded integers) that lie strictly before `stop` — for every int64 `start`, `stop`, `incr`,
    however close to the limits (the wrapped loop counter never passes `stop` unnoticed) — and the
    loop always returns: `<INF>` iff there are more than `MAX_ITERATIONS` terms.
    (That the parsed values are int64 is `atoi_range`, not an assumption.) -/
theorem range_spec (ctx : Ctx) (sStart sStop sIncr : Stage) (a b c : Bytes) (start stop incr : Int)
    (ha : sStart.run ctx = .ok a) (hb : sStop.run ctx = .ok b) (hc : sIncr.run ctx = .ok c)
    (pa : atoi a = some start) (pb : atoi b = some stop) (pc : atoi c = some incr) :
    (rangeStage sStart sStop sIncr).run ctx =
      .ok (if incr = 0 ∨ (incr > 0 ∧ start > stop) ∨ (incr < 0 ∧ start < stop) then ErrorValue
           else match progWhile start stop incr Gen.maxIterations 0 with
             | some ys => pack (ys.map itoa)
             | none => InfMarker) := by
  obtain ⟨hs1, hs2⟩ := atoi_range pa
  obtain ⟨ht1, ht2⟩ := atoi_range pb
  obtain ⟨hi1, hi2⟩ := atoi_range pc
  unfold rangeStage
  rw [Comp.run_bind_ok ha]; simp only [pa]
  rw [Comp.run_bind_ok hb]; simp only [pb]
  rw [Comp.run_bind_ok hc]; simp only [pc]
  unfold rangeBody
  by_cases h0 : incr = 0
  · simp [h0, Comp.run]
  · by_cases h1 : incr > 0 ∧ start > stop
    · simp [h0, h1, Comp.run]
    · by_cases h2 : incr < 0 ∧ start < stop
      · have : ¬ (incr > 0) := by omega
        simp [h0, h2, this, Comp.run]
      · have e1 : (decide (incr > 0) && decide (start > stop)) = false := by
          simpa using fun hp => by omega
        have e2 : (decide (incr < 0) && decide (start < stop)) = false := by
          simpa using fun hp => by omega
        simp only [h0, if_false, e1, e2, Bool.false_eq_true, h1, h2, or_self]
        obtain ⟨r, hr1, hr2⟩ := rangeLoop_run start stop incr ht1 ht2 hi1 hi2
          (Gen.maxIterations + 2) 0 start {} (by simp) hs1 hs2 (by omega) (by omega) sbWf_empty
          (by simp [Sb.len])
        rw [hr1]
        simp only [Nat.sub_zero] at hr2
        cases hp : progWhile start stop incr Gen.maxIterations 0 with
        | none =>
          rw [hp] at hr2
          simp only [rangeResult] at hr2
          subst hr2; simp [Comp.run]
        | some ys =>
          rw [hp] at hr2
          obtain ⟨sb', h3, h4⟩ := hr2
          subst h3
          simp [Comp.run, h4]

/-- **The documented sequence in closed form.**  The term-by-term progression of `range_spec` is
    `range start stop incr`: the `rangeCount` terms `start + k·incr`, `k = 0, 1, …` (⌈(stop-start)/incr⌉
    of them), or "too many" when that count exceeds the limit. -/
theorem range_closed_form (start stop incr : Int) (h0 : incr ≠ 0) (limit : Nat) :
    progWhile start stop incr limit 0 =
      if rangeCount start stop incr ≤ limit then some (range start stop incr) else none :=
  progWhile_eq_range start stop incr h0 limit

/-- `{@range start stop incr}` with the closed form substituted: `<VALUE>` for a zero or contrary
    increment, `<INF>` iff ⌈(stop-start)/incr⌉ > `MAX_ITERATIONS`, else exactly the packed decimal
    renderings of `start, start+incr, …` below (above, for a negative increment) `stop`. -/
theorem range_spec_closed (ctx : Ctx) (sStart sStop sIncr : Stage) (a b c : Bytes) (start stop incr : Int)
    (ha : sStart.run ctx = .ok a) (hb : sStop.run ctx = .ok b) (hc : sIncr.run ctx = .ok c)
    (pa : atoi a = some start) (pb : atoi b = some stop) (pc : atoi c = some incr) :
    (rangeStage sStart sStop sIncr).run ctx =
      .ok (if incr = 0 ∨ (incr > 0 ∧ start > stop) ∨ (incr < 0 ∧ start < stop) then ErrorValue
           else if rangeCount start stop incr ≤ Gen.maxIterations then pack ((range start stop incr).map itoa)
           else InfMarker) := by
  rw [range_spec ctx sStart sStop sIncr a b c start stop incr ha hb hc pa pb pc]
  by_cases h0 : incr = 0
  · simp [h0]
  · rw [range_closed_form start stop incr h0]
    by_cases hl : rangeCount start stop incr ≤ Gen.maxIterations <;> simp [hl]

/-- A non-integer argument gives `<BAD-TYPE>`. -/
theorem range_bad_type (ctx : Ctx) (sStart sStop sIncr : Stage) (a : Bytes)
    (ha : sStart.run ctx = .ok a) (pa : atoi a = none) :
    (rangeStage sStart sStop sIncr).run ctx = .ok ErrorNum := by
  unfold rangeStage
  rw [Comp.run_bind_ok ha]; simp only [pa]; rfl

theorem range_builders (a0 a1 a2 : Stage) :
    kfArrayRange [a0] = ok (rangeStage (Stage.lit (ascii "0")) a0 (Stage.lit (ascii "1"))) ∧
    kfArrayRange [a0, a1] = ok (rangeStage a0 a1 (Stage.lit (ascii "1"))) ∧
    kfArrayRange [a0, a1, a2] = ok (rangeStage a0 a1 a2) := ⟨rfl, rfl, rfl⟩

/-- `{@in v a}` (with `a` constant: its static value is `set`) tests membership of `v` among the
    elements of `a`; the answer is the truthy `"1"` or the empty string. -/
theorem in_spec (ctx : Ctx) (a0 a1 : Stage) (v set : Bytes) (h0 : a0.run ctx = .ok v)
    (h1 : a1.probe = .ok (set, true)) :
    kfArrayIn [a0, a1] = ok (inStage (splitByte ArraySeparator set []) a0) ∧
    (inStage (splitByte ArraySeparator set []) a0).run ctx =
      .ok (if v ∈ elems set then TruthyVal else FalsyVal) := by
  refine ⟨by simp only [kfArrayIn, h1], ?_⟩
  unfold inStage
  rw [Comp.run_bind_ok h0, splitByte_eq]
  have : splitGo [ArraySeparator] set 0 [] = elems set := rfl
  simp [this, Comp.run]

/-- `{@ a₀ a₁ …}` and `{$ a₀ a₁ …}` concatenate their (two or more) arguments in order,
    separated by NUL. -/
theorem concat_spec (ctx : Ctx) (a0 : Stage) (rest : List Stage) (v0 : Bytes) (vs : List Bytes)
    (h0 : a0.run ctx = .ok v0) (hr : rest.map (fun a => a.run ctx) = vs.map Except.ok) :
    (joinArgsStage ArraySeparator a0 rest).run ctx = .ok (pack (v0 :: vs)) := by
  unfold joinArgsStage
  rw [Comp.run_bind_ok h0, joinArgsLoop_runAll, runAll_ok ctx rest vs hr]
  simp [Except.map, Sb.write, Sb.str, pack, join_cons_tail, ArraySeparator, NUL]

/-- With no argument the result is the empty array, with one argument the argument itself. -/
theorem concat_small (a : Stage) :
    joinArgs ArraySeparator [] = ok (Stage.lit []) ∧ joinArgs ArraySeparator [a] = ok a :=
  ⟨rfl, rfl⟩

/-- `{$ ..}` and `{@ ..}` are the same builder (`kfJoin(ArraySeparator)`) in the function table. -/
theorem concat_table :
    (table.find? (·.1 == "$")).map (·.2) = some (joinArgs ArraySeparator) ∧
    (table.find? (·.1 == "@")).map (·.2) = some (joinArgs ArraySeparator) := ⟨rfl, rfl⟩

/-! ## Well-formed results

"No separators appear that do not delimit an element of the result."  Every array-producing helper
returns `pack ys` for its specified element list `ys` (theorems above).  What that says about
separators, for ANY list `ys`: -/

/-- **Separator census.**  A packed non-empty list contains exactly `ys.length - 1` joints plus the
    separators that are inside its members; nothing leading, trailing or doubled is ever added. -/
theorem wellformed_census (ys : List Bytes) (hy : ys ≠ []) :
    (pack ys).count NUL + 1 = ys.length + (ys.map (List.count NUL)).sum := count_pack ys hy

/-- **Reading back.**  The elements of a packed non-empty list are the elements of its members, in
    order: a member that itself contains separators (it was produced by a sub-expression such as
    `{@ {0} x}`, or handed to `@split` with separators in it) contributes its own elements – this is
    how `{@ arr x}` appends to an array. -/
theorem wellformed_flatten (ys : List Bytes) (hy : ys ≠ []) : elems (pack ys) = ys.flatMap elems :=
  elems_pack_flatMap ys hy

/-- **The exact side condition**: the result reads back as the specified list itself if and only
    if no member contains a separator. -/
theorem wellformed_iff (ys : List Bytes) (hy : ys ≠ []) :
    elems (pack ys) = ys ↔ ∀ y ∈ ys, NUL ∉ y := elems_pack_iff ys hy

/-- Separator-free members ⇒ a well-formed array value (`IsArray`, `Spec/C17Wf.lean`). -/
theorem isArray_pack (ys : List Bytes) (h : ∀ y ∈ ys, NUL ∉ y) : IsArray (pack ys) ys :=
  ⟨rfl, fun e => by subst e; rfl, fun hy => (elems_pack_iff ys hy).mpr h⟩

/-- The elements of any array value are separator-free (so whatever a helper copies from its input
    array – `@filter`, `@slice`, `@select` – cannot introduce a stray separator). -/
theorem elements_separator_free (s : Bytes) : ∀ x ∈ elems s, NUL ∉ x := elems_nul_free s

/-- `@split`: well-formed when the string contains no separator (any delimiter `d ≠ ""`); in general
    it reads back as the pieces iff no piece contains a separator. -/
theorem split_wellformed (ctx : Ctx) (a0 : Stage) (s d : Bytes) (hd : d ≠ []) (h0 : a0.run ctx = .ok s) :
    ∃ out, (splitStage d a0).run ctx = .ok out ∧
      (elems out = splitOn d s ↔ ∀ x ∈ splitOn d s, NUL ∉ x) ∧
      (NUL ∉ s → IsArray out (splitOn d s)) := by
  refine ⟨_, split_spec ctx a0 s d hd h0, ?_, fun hs => isArray_pack _ (splitOn_nul_free d hd s hs)⟩
  exact elems_pack_iff _ (splitOn_ne_nil _ _)

/-- `@map`: reads back as the mapped list iff no value of the sub-expression contains a separator;
    otherwise as the flattening of the values. -/
theorem map_wellformed (ctx : Ctx) (a0 a1 : Stage) (arr : Bytes) (f : Bytes → Bytes → Bytes)
    (h0 : a0.run ctx = .ok arr) (h1 : ∀ v0 v1, a1.run (subCtx ctx v0 v1) = .ok (f v0 v1)) :
    ∃ out, (mapStage a0 a1).run ctx = .ok out ∧
      elems out = ((elems arr).map fun x => f x []).flatMap elems ∧
      (elems out = (elems arr).map (fun x => f x []) ↔ ∀ x ∈ elems arr, NUL ∉ f x []) := by
  refine ⟨_, map_spec ctx a0 a1 arr f h0 h1, elems_pack_flatMap _ (map_elems_ne_nil arr _), ?_⟩
  rw [elems_pack_iff _ (map_elems_ne_nil arr _)]
  simp [List.mem_map]

/-- `@filter`: unconditionally well-formed (the empty selection is the empty array). -/
theorem filter_wellformed (ctx : Ctx) (a0 a1 : Stage) (arr : Bytes) (f : Bytes → Bytes → Bytes)
    (h0 : a0.run ctx = .ok arr) (h1 : ∀ v0 v1, a1.run (subCtx ctx v0 v1) = .ok (f v0 v1)) :
    ∃ out, (filterStage a0 a1).run ctx = .ok out ∧
      IsArray out ((elems arr).filter fun x => truthy (f x [])) :=
  ⟨_, filter_spec ctx a0 a1 arr f h0 h1,
    isArray_pack _ (fun y hy => elems_nul_free arr y (List.mem_filter.mp hy).1)⟩

/-- `@slice`: unconditionally well-formed, for every start and length (this is F8's statement:
    no leading separator when the negative start reaches beyond the first element). -/
theorem slice_wellformed (ctx : Ctx) (a0 a1 : Stage) (rest : List Stage) (arr : Bytes) (start len : Int)
    (hr : rest.length ≤ 1) (hs : evalStageInt a1 = .ok (some start))
    (hn : evalArgInt (a0 :: a1 :: rest) 2 (-1) = .ok (some len))
    (h0 : a0.run ctx = .ok arr) (hl : (arr.length : Int) < maxInt64) :
    ∃ out, (sliceStage start len a0).run ctx = .ok out ∧ IsArray out (slice (elems arr) start len) :=
  ⟨_, (slice_spec ctx a0 a1 rest arr start len hr hs hn h0 hl).2,
    isArray_pack _ (fun y hy => elems_nul_free arr y ((slice_sublist _ _ _).subset hy))⟩

/-- `@select` and `@join` return scalars: a selected element never contains a separator, and a
    joined string contains one only if the delimiter does. -/
theorem select_join_no_separator (i : Int) (arr d : Bytes) (hd : NUL ∉ d) :
    NUL ∉ select (elems arr) i ∧ NUL ∉ join d (elems arr) := by
  constructor
  · rcases select_mem_or_nil (elems arr) i with h | h
    · rw [h]; simp
    · exact elems_nul_free arr _ h
  · have hj : ∀ ys : List Bytes, (∀ y ∈ ys, NUL ∉ y) → NUL ∉ join d ys := by
      intro ys
      induction ys with
      | nil => intro _; simp [join]
      | cons y r ih =>
        intro h
        cases r with
        | nil => simpa [join] using h y (by simp)
        | cons z r =>
          have e : join d (y :: z :: r) = y ++ d ++ join d (z :: r) := rfl
          rw [e]
          simp only [List.mem_append, not_or]
          exact ⟨⟨h y (by simp), hd⟩, ih (fun w hw => h w (by simp [hw]))⟩
    exact hj _ (elems_nul_free arr)

/-- `@range`: unconditionally well-formed – decimal renderings contain no separator; moreover
    every element parses back (`strconv.Atoi`) to the term it renders. -/
theorem range_wellformed (ys : List Int) :
    IsArray (pack (ys.map itoa)) (ys.map itoa) ∧
    (∀ y ∈ ys, minInt64 ≤ y → y ≤ maxInt64 → atoi (itoa y) = some y) :=
  ⟨isArray_pack _ (fun y hy => by
      obtain ⟨v, _, rfl⟩ := List.mem_map.mp hy
      exact itoa_nul_free v),
   fun y _ h1 h2 => atoi_itoa y h1 h2⟩

/-- `@for`: when the loop ends within `MAX_ITERATIONS` with values `ys`, the result reads back as the
    flattening of the values, and as `ys` itself iff no value (start value or value of `next`)
    contains a separator. -/
theorem for_wellformed (ctx : Ctx) (a0 a1 a2 : Stage) (start : Bytes) (fc fn : Bytes → Bytes → Bytes)
    (ys : List Bytes)
    (h0 : a0.run ctx = .ok start)
    (hc : ∀ v0 v1, a1.run (subCtx ctx v0 v1) = .ok (fc v0 v1))
    (hn : ∀ v0 v1, a2.run (subCtx ctx v0 v1) = .ok (fn v0 v1))
    (hy : iterateWhile (fun v k => truthy (fc v (itoa (k : Nat)))) (fun v k => fn v (itoa (k : Nat)))
            Gen.maxIterations 0 start = some ys) :
    (forStage a0 a1 a2).run ctx = .ok (pack ys) ∧
    (ys ≠ [] → elems (pack ys) = ys.flatMap elems ∧ (elems (pack ys) = ys ↔ ∀ y ∈ ys, NUL ∉ y)) ∧
    ((∀ y ∈ ys, NUL ∉ y) → IsArray (pack ys) ys) := by
  refine ⟨?_, fun hne => ⟨elems_pack_flatMap ys hne, elems_pack_iff ys hne⟩, isArray_pack ys⟩
  rw [for_spec ctx a0 a1 a2 start fc fn h0 hc hn, hy]

/-- `{@ ..}` / `{$ ..}` concatenate at the LIST level too: the result reads back as the elements of
    the first argument, then those of the second, … (arguments that are arrays are appended, scalars
    are single elements); it is the list of the argument values themselves iff none contains a
    separator. -/
theorem concat_wellformed (ctx : Ctx) (a0 : Stage) (rest : List Stage) (v0 : Bytes) (vs : List Bytes)
    (h0 : a0.run ctx = .ok v0) (hr : rest.map (fun a => a.run ctx) = vs.map Except.ok) :
    ∃ out, (joinArgsStage ArraySeparator a0 rest).run ctx = .ok out ∧
      elems out = (v0 :: vs).flatMap elems ∧
      (elems out = v0 :: vs ↔ ∀ y ∈ v0 :: vs, NUL ∉ y) :=
  ⟨_, concat_spec ctx a0 rest v0 vs h0 hr, elems_pack_flatMap _ (by simp), elems_pack_iff _ (by simp)⟩

/-! ## Composition laws

What the helpers do when one is handed the result of another.  A result is a VALUE (a string); the next helper
reads it with `elems` again.  Two facts govern every composition: (1) the empty list and the list `[""]` are the
same value (`pack_eq_nil_iff`), so a helper that receives an EMPTY result sees ONE empty element
(`elems_pack_of_free`); (2) a member that contains separators reads back as several elements
(`wellformed_flatten`) – nested arrays do not exist, they flatten. -/

/-- A helper nested INSIDE a sub-expression (`{@map a {@map {0} g}}`): the inner sub-context replaces the outer
    bindings completely – `{0}`/`{1}` are the inner values, never the outer ones – and keys / negative indices
    still come from the enclosing match. -/
theorem sub_context_nested (ctx : Ctx) (a b c d : Bytes) :
    subCtx (subCtx ctx a b) c d = subCtx ctx c d := by
  unfold subCtx
  congr 1
  funext i
  by_cases h : i < 0 <;> simp [h]

/-- `@len` of a packed list of separator-free members is the number of members – except that the list `[""]`
    (one empty element) has length 0: it IS the empty array. -/
theorem len_counts_packed (ys : List Bytes) (h : ∀ y ∈ ys, NUL ∉ y) :
    len (pack ys) = if ys = [[]] then 0 else ys.length := len_pack ys h

/-- **map ∘ map.**  `{@map {@map a f} g}`: `g` runs over the FLATTENED values of `f`; when no value of `f`
    contains a separator this is the fusion law `map g ∘ map f = map (g ∘ f)`. -/
theorem map_map (ctx : Ctx) (a0 f g : Stage) (arr : Bytes) (F G : Bytes → Bytes → Bytes)
    (h0 : a0.run ctx = .ok arr) (hf : ∀ v0 v1, f.run (subCtx ctx v0 v1) = .ok (F v0 v1))
    (hg : ∀ v0 v1, g.run (subCtx ctx v0 v1) = .ok (G v0 v1)) :
    (mapStage (mapStage a0 f) g).run ctx =
      .ok (pack ((((elems arr).map fun x => F x []).flatMap elems).map fun y => G y [])) ∧
    ((∀ x ∈ elems arr, NUL ∉ F x []) →
      (mapStage (mapStage a0 f) g).run ctx = .ok (pack ((elems arr).map fun x => G (F x []) []))) := by
  have h1 := map_spec ctx (mapStage a0 f) g _ G (map_spec ctx a0 f arr F h0 hf) hg
  refine ⟨by rw [h1, elems_pack_flatMap _ (map_elems_ne_nil arr _)], fun hfree => ?_⟩
  rw [h1, elems_pack_map arr _ hfree, List.map_map]
  rfl

/-- **filter ∘ map.**  `{@filter {@map a f} p}` keeps the (flattened) values of `f` that satisfy `p`. -/
theorem filter_map_spec (ctx : Ctx) (a0 f p : Stage) (arr : Bytes) (F P : Bytes → Bytes → Bytes)
    (h0 : a0.run ctx = .ok arr) (hf : ∀ v0 v1, f.run (subCtx ctx v0 v1) = .ok (F v0 v1))
    (hp : ∀ v0 v1, p.run (subCtx ctx v0 v1) = .ok (P v0 v1)) :
    (filterStage (mapStage a0 f) p).run ctx =
      .ok (pack ((((elems arr).map fun x => F x []).flatMap elems).filter fun y => truthy (P y []))) ∧
    ((∀ x ∈ elems arr, NUL ∉ F x []) →
      (filterStage (mapStage a0 f) p).run ctx =
        .ok (pack (((elems arr).map fun x => F x []).filter fun y => truthy (P y [])))) := by
  have h1 := filter_spec ctx (mapStage a0 f) p _ P (map_spec ctx a0 f arr F h0 hf) hp
  exact ⟨by rw [h1, elems_pack_flatMap _ (map_elems_ne_nil arr _)], fun hfree => by rw [h1, elems_pack_map arr _ hfree]⟩

/-- **map ∘ filter.**  `{@map {@filter a p} f}` maps the kept elements – and when NOTHING is kept the mapper
    still runs once, on the empty string (the empty array is the array `[""]`): the result is `f("")`, not the
    empty array. -/
theorem map_filter_spec (ctx : Ctx) (a0 f p : Stage) (arr : Bytes) (F P : Bytes → Bytes → Bytes)
    (h0 : a0.run ctx = .ok arr) (hf : ∀ v0 v1, f.run (subCtx ctx v0 v1) = .ok (F v0 v1))
    (hp : ∀ v0 v1, p.run (subCtx ctx v0 v1) = .ok (P v0 v1)) :
    (mapStage (filterStage a0 p) f).run ctx =
      .ok (if (elems arr).filter (fun x => truthy (P x [])) = [] then F [] []
           else pack (((elems arr).filter fun x => truthy (P x [])).map fun x => F x [])) := by
  rw [map_spec ctx (filterStage a0 p) f _ F (filter_spec ctx a0 p arr P h0 hp) hf,
    elems_pack_of_free _ (fun y hy => elems_nul_free arr y (List.mem_filter.mp hy).1)]
  by_cases he : (elems arr).filter (fun x => truthy (P x [])) = []
  · simp only [he, if_true]; rfl
  · simp only [he, if_false]

/-- **len ∘ filter ≤ len.**  Filtering never makes an array longer (in the sense of `@len`). -/
theorem len_filter_le (ctx : Ctx) (a0 p : Stage) (arr : Bytes) (P : Bytes → Bytes → Bytes)
    (h0 : a0.run ctx = .ok arr) (hp : ∀ v0 v1, p.run (subCtx ctx v0 v1) = .ok (P v0 v1)) :
    ∃ out, (filterStage a0 p).run ctx = .ok out ∧ len out ≤ len arr := by
  refine ⟨_, filter_spec ctx a0 p arr P h0 hp, ?_⟩
  have hfree : ∀ y ∈ (elems arr).filter (fun x => truthy (P x [])), NUL ∉ y :=
    fun y hy => elems_nul_free arr y (List.mem_filter.mp hy).1
  by_cases ha : arr = []
  · subst ha
    have : pack ((elems []).filter fun x => truthy (P x [])) = [] :=
      pack_sublist_unit _ (by rw [elems_nil]; exact List.filter_sublist)
    rw [this]; simp [len]
  · rw [len_pack _ hfree, len_pos_eq arr ha]
    have := List.length_filter_le (fun x => truthy (P x [])) (elems arr)
    split <;> omega

/-- **slice ∘ slice.**  `{@slice {@slice a s₁ l₁} s₂ l₂}` is the list-level composition, for ALL starts and
    lengths (an empty intermediate result included: the empty list and `[""]` slice to the same value). -/
theorem slice_slice_spec (ctx : Ctx) (a0 a1 a2 : Stage) (r1 r2 : List Stage) (arr : Bytes) (s1 l1 s2 l2 : Int)
    (hr1 : r1.length ≤ 1) (hr2 : r2.length ≤ 1)
    (hs1 : evalStageInt a1 = .ok (some s1)) (hn1 : evalArgInt (a0 :: a1 :: r1) 2 (-1) = .ok (some l1))
    (hs2 : evalStageInt a2 = .ok (some s2))
    (hn2 : evalArgInt (sliceStage s1 l1 a0 :: a2 :: r2) 2 (-1) = .ok (some l2))
    (h0 : a0.run ctx = .ok arr) (hl : (arr.length : Int) < maxInt64) :
    (sliceStage s2 l2 (sliceStage s1 l1 a0)).run ctx = .ok (pack (slice (slice (elems arr) s1 l1) s2 l2)) := by
  have hin := (slice_spec ctx a0 a1 r1 arr s1 l1 hr1 hs1 hn1 h0 hl).2
  have hfree : ∀ y ∈ slice (elems arr) s1 l1, NUL ∉ y :=
    fun y hy => elems_nul_free arr y ((slice_sublist _ _ _).subset hy)
  rw [(slice_spec_wrapped ctx (sliceStage s1 l1 a0) a2 r2 _ s2 l2 hr2 hs2 hn2 hin).2]
  obtain ⟨b1, b2⟩ := evalStageInt_range hs2
  have hlen : (((elems (pack (slice (elems arr) s1 l1))).length : Nat) : Int) ≤ maxInt64 := by
    rw [elems_pack_of_free _ hfree]
    have h1 := (slice_sublist (elems arr) s1 l1).length_le
    have h2 := elems_length_le arr hl
    have h3 : 0 < (elems arr).length := List.length_pos_iff.mpr (elems_ne_nil arr)
    split
    · simp only [List.length_singleton]; omega
    · omega
  rw [(wrapped_is_documented _ s2 l2 hlen b1 b2).2, pack_slice_pack _ hfree]

/-- …in closed form for non-negative starts: ONE slice from `s₁ + s₂`, the second length cut to what the
    first left. -/
theorem slice_slice_closed (xs : List Bytes) (s1 l1 s2 l2 : Int) (h1 : 0 ≤ s1) (h2 : 0 ≤ s2) :
    slice (slice xs s1 l1) s2 l2 =
      slice xs (s1 + s2) (if l1 < 0 then l2 else if l2 < 0 then max 0 (l1 - s2) else min l2 (max 0 (l1 - s2))) :=
  slice_slice_nonneg xs s1 l1 s2 l2 h1 h2

/-- **select ∘ map = map at the index.**  `{@select {@map a f} i}` (values of `f` separator-free) is `f` of the
    selected element when position `i` exists, and NOTHING otherwise (`f` is not applied to "nothing"). -/
theorem select_map_spec (ctx : Ctx) (a0 a1 f : Stage) (arr : Bytes) (F : Bytes → Bytes → Bytes) (i : Int)
    (hi : evalStageInt a1 = .ok (some i))
    (h0 : a0.run ctx = .ok arr) (hf : ∀ v0 v1, f.run (subCtx ctx v0 v1) = .ok (F v0 v1))
    (hfree : ∀ x ∈ elems arr, NUL ∉ F x []) (hl : (arr.length : Int) < maxInt64) :
    (selectStage i (mapStage a0 f)).run ctx =
      .ok (if inRange (elems arr).length i then F (select (elems arr) i) [] else []) := by
  rw [(select_spec_wrapped ctx (mapStage a0 f) a1 _ i hi (map_spec ctx a0 f arr F h0 hf)).2]
  obtain ⟨b1, b2⟩ := evalStageInt_range hi
  rw [elems_pack_map arr _ hfree]
  rw [(wrapped_is_documented _ i 0 (by simpa using elems_length_le arr hl) b1 b2).1, select_map]

/-- **reduce ∘ map.**  `{@reduce {@map a f} g init}` (values of `f` separator-free) reduces the mapped list;
    with an initial value that is the fused fold `foldl (fun acc x => g acc (f x)) init`. -/
theorem reduce_map_spec (ctx : Ctx) (a0 f g : Stage) (arr init : Bytes) (F G : Bytes → Bytes → Bytes)
    (h0 : a0.run ctx = .ok arr) (hf : ∀ v0 v1, f.run (subCtx ctx v0 v1) = .ok (F v0 v1))
    (hg : ∀ v0 v1, g.run (subCtx ctx v0 v1) = .ok (G v0 v1))
    (hfree : ∀ x ∈ elems arr, NUL ∉ F x []) :
    (reduceStage init (mapStage a0 f) g).run ctx = .ok (reduce G init ((elems arr).map fun x => F x [])) ∧
    (init ≠ [] → (reduceStage init (mapStage a0 f) g).run ctx =
      .ok ((elems arr).foldl (fun acc x => G acc (F x [])) init)) := by
  have h1 : (reduceStage init (mapStage a0 f) g).run ctx = .ok (reduce G init ((elems arr).map fun x => F x [])) := by
    rw [reduce_spec ctx (mapStage a0 f) g _ init G (map_spec ctx a0 f arr F h0 hf) hg, elems_pack_map arr _ hfree]
  refine ⟨h1, fun hi => ?_⟩
  rw [h1]; simp [reduce, hi, List.foldl_map]

/-- **join ∘ map.**  `{@join {@map a f} d}` (values of `f` separator-free) joins the mapped elements. -/
theorem join_map_spec (ctx : Ctx) (a0 f : Stage) (arr d : Bytes) (F : Bytes → Bytes → Bytes)
    (h0 : a0.run ctx = .ok arr) (hf : ∀ v0 v1, f.run (subCtx ctx v0 v1) = .ok (F v0 v1))
    (hfree : ∀ x ∈ elems arr, NUL ∉ F x []) :
    (joinStage d (mapStage a0 f)).run ctx = .ok (join d ((elems arr).map fun x => F x [])) := by
  rw [join_spec ctx (mapStage a0 f) _ d (map_spec ctx a0 f arr F h0 hf), elems_pack_map arr _ hfree]

/-- **len ∘ range.**  `{@len {@range start stop incr}}` is the number of terms ⌈(stop-start)/incr⌉ whenever the
    range is valid and within `MAX_ITERATIONS` ("0" for the empty range). -/
theorem len_range_spec (ctx : Ctx) (sStart sStop sIncr : Stage) (a b c : Bytes) (start stop incr : Int)
    (ha : sStart.run ctx = .ok a) (hb : sStop.run ctx = .ok b) (hc : sIncr.run ctx = .ok c)
    (pa : atoi a = some start) (pb : atoi b = some stop) (pc : atoi c = some incr)
    (hv : ¬ (incr = 0 ∨ (incr > 0 ∧ start > stop) ∨ (incr < 0 ∧ start < stop)))
    (hm : rangeCount start stop incr ≤ Gen.maxIterations) :
    (lenStage (rangeStage sStart sStop sIncr)).run ctx = .ok (itoa (rangeCount start stop incr : Nat)) := by
  have h1 := range_spec_closed ctx sStart sStop sIncr a b c start stop incr ha hb hc pa pb pc
  rw [if_neg hv, if_pos hm] at h1
  rw [len_spec_wrapped ctx _ _ h1]
  have hfree : ∀ y ∈ (range start stop incr).map itoa, NUL ∉ y := by
    intro y hy
    obtain ⟨v, _, rfl⟩ := List.mem_map.mp hy
    exact itoa_nul_free v
  by_cases h0 : rangeCount start stop incr = 0
  · have : range start stop incr = [] := List.eq_nil_of_length_eq_zero (by rw [range_length]; exact h0)
    rw [this, h0]
    exact congrArg Except.ok (by decide +kernel)
  · have hne : (range start stop incr).map itoa ≠ [] := by
      intro e
      have := congrArg List.length e
      rw [List.length_map, range_length] at this
      exact h0 (by simpa using this)
    have hp : pack ((range start stop incr).map itoa) ≠ [] := by
      intro e
      rcases (pack_eq_nil_iff _).mp e with e | e
      · exact hne e
      · have : itoa start ∈ ([[]] : List Bytes) := by
          rw [← e]
          have : start ∈ range start stop incr := by
            unfold range
            exact List.mem_map.mpr ⟨0, List.mem_range.mpr (by omega), by simp⟩
          exact List.mem_map.mpr ⟨start, this, rfl⟩
        exact itoa_ne_nil start (by simpa using this)
    rw [if_neg hp, (elems_pack_iff _ hne).mpr hfree, List.length_map, range_length]
    have hM : Gen.maxIterations = 1000000 := rfl
    rw [wrap64_id (by unfold minInt64; omega) (by unfold maxInt64; omega)]

/-- **Nested arrays flatten.**  `{@map {@split s d₁} {@split {0} d₂}}` (the inner helper sees ONE piece as
    `{0}`; `s` without separators): the pieces of the pieces, in order, as ONE flat array. -/
theorem nested_split_flattens (ctx : Ctx) (a0 : Stage) (s d1 d2 : Bytes) (hd1 : d1 ≠ []) (hd2 : d2 ≠ [])
    (h0 : a0.run ctx = .ok s) (hs : NUL ∉ s) :
    ∃ out, (mapStage (splitStage d1 a0) (splitStage d2 (Comp.match_ 0))).run ctx = .ok out ∧
      elems out = (splitOn d1 s).flatMap (splitOn d2) := by
  have hin : ∀ v0 v1, (splitStage d2 (Comp.match_ 0)).run (subCtx ctx v0 v1) =
      .ok ((fun x _ => pack (splitOn d2 x)) v0 v1) :=
    fun v0 v1 => split_spec (subCtx ctx v0 v1) (Comp.match_ 0) v0 d2 hd2 rfl
  obtain ⟨out, e1, e2, _⟩ := map_wellformed ctx (splitStage d1 a0) (splitStage d2 (Comp.match_ 0)) _
    (fun x _ => pack (splitOn d2 x)) (split_spec ctx a0 s d1 hd1 h0) hin
  refine ⟨out, e1, ?_⟩
  rw [e2, (elems_pack_iff _ (splitOn_ne_nil d1 s)).mpr (splitOn_nul_free d1 hd1 s hs), List.flatMap_map]
  apply flatMap_congr_mem
  intro x hx
  have hx' : NUL ∉ x := splitOn_nul_free d1 hd1 s hs x hx
  exact (elems_pack_iff _ (splitOn_ne_nil _ _)).mpr (splitOn_nul_free d2 hd2 x hx')

/-- With the right number of arguments (constant where the Go builder requires a constant) each
    builder returns the stage the theorems above talk about, and no compile error. -/
theorem builders_spec (a0 a1 a2 : Stage) (d : Bytes) (hd : d ≠ []) :
    kfArrayLen [a0] = ok (lenStage a0) ∧
    kfArraySplit [a0, Stage.lit d] = ok (splitStage d a0) ∧
    kfArraySplit [a0] = ok (splitStage (ascii " ") a0) ∧
    kfArrayJoin [a0, Stage.lit d] = ok (joinStage d a0) ∧
    kfArrayMap [a0, a1] = ok (mapStage a0 a1) ∧
    kfArrayFilter [a0, a1] = ok (filterStage a0 a1) ∧
    kfArrayReduce [a0, a1] = ok (reduceStage [] a0 a1) ∧
    kfArrayReduce [a0, a1, Stage.lit d] = ok (reduceStage d a0 a1) ∧
    kfArrayFor [a0, a1, a2] = ok (forStage a0 a1 a2) ∧
    joinArgs ArraySeparator (a0 :: a1 :: [a2]) = ok (joinArgsStage ArraySeparator a0 [a1, a2]) := by
  have hl : d.length ≠ 0 := by simpa using hd
  refine ⟨rfl, ?_, ?_, ?_, rfl, rfl, ?_, ?_, rfl, rfl⟩
  · simp [kfArraySplit, argCountBetween, evalStageIndexOrDefault, Comp.probe, Comp.probeN, Stage.lit, hl]
  · have hs : (ascii " ").length ≠ 0 := by decide +kernel
    simp [kfArraySplit, argCountBetween, evalStageIndexOrDefault, hs]
  · simp [kfArrayJoin, argCountBetween, evalStageIndexOrDefault, Comp.probe, Comp.probeN, Stage.lit]
  · simp [kfArrayReduce, argCountBetween, evalStageIndexOrDefault]
  · simp [kfArrayReduce, argCountBetween, evalStageIndexOrDefault, Comp.probe, Comp.probeN, Stage.lit]

/-- Wrong arity gives the `<ARGN>` marker and a compile error; an empty `@split` delimiter gives
    `<EMPTY>`; a non-constant `@select`/`@slice`/`@in` argument gives `<BAD-TYPE>`/`<CONST>`. -/
theorem builders_reject (a0 a1 a2 a3 : Stage) :
    kfArrayLen [] = errArgCount ∧ kfArrayLen [a0, a1] = errArgCount ∧
    kfArraySplit [] = errArgCount ∧ kfArraySplit [a0, a1, a2] = errArgCount ∧
    kfArraySplit [a0, Stage.lit []] = errEmpty ∧
    kfArrayMap [a0] = errArgCount ∧ kfArrayFilter [a0, a1, a2] = errArgCount ∧
    kfArrayReduce [a0] = errArgCount ∧ kfArraySelect [a0] = errArgCount ∧
    kfArraySelect [a0, Comp.match_ 0] = errNum ∧
    kfArraySlice [a0] = errArgCount ∧ kfArraySlice [a0, Comp.key [107]] = errConst ∧
    kfArrayIn [a0, Comp.match_ 1] = errConst ∧
    kfArrayRange [] = errArgCount ∧ kfArrayRange [a0, a1, a2, a3] = errArgCount ∧
    kfArrayFor [a0, a1] = errArgCount := by
  refine ⟨rfl, rfl, rfl, rfl, ?_, rfl, rfl, rfl, rfl, ?_, rfl, ?_, ?_, rfl, rfl, rfl⟩ <;> rfl

/-! ## The pooled sub-contexts

`@map`, `@filter`, `@reduce`, `@for` evaluate their sub-expressions against a `subContext` object taken from the
global `subContextPool` (`pkg/slicepool/objpool.go`).  The theorems above model the helpers WITHOUT a pool
(`Comp.withSub`).  That is sound because (1) the pool never hands out an object that somebody still holds, in any
order of `Get` and `Return` by any number of goroutines or nesting levels (`pool_exclusive`), (2) every helper
overwrites ALL fields of the object it got before it reads any (`no_stale_field`, `pooled_eval_fresh`), and
(3) the source says so (`pool_code_matches_source`, `sub_context_code_matches_source`: regenerated from /repo). -/

/-- **No object is ever handed out twice.**  From `NewObjectPool(n)`, after ANY sequence of `Get`s and of
    `Return`s of checked-out objects IN ANY ORDER (not only last-out-first-in): the object the next `Get` hands
    out is held by nobody, the held objects are pairwise distinct, and none of them lies in the pool. -/
theorem pool_exclusive (n : Nat) (w : World) (h : Reach n w) :
    w.pool.get.1 ∉ w.held ∧ w.held.Nodup ∧ (∀ o ∈ w.held, o ∉ w.pool.free) ∧ w.pool.free.Nodup := by
  have hd := List.nodup_append.mp (inv_reach h).1
  exact ⟨get_not_held (inv_reach h), hd.2.1, fun o ho hf => hd.2.2 o hf o ho rfl, hd.1⟩

/-- A returned object is the next one handed out, and the pool is as before (`Return` then `Get` is the identity):
    the pool is a stack of the RETURNED objects themselves, not of slots. -/
theorem pool_reuses_returned (p : C17Pool.Pool) (o : Nat) : (p.ret o).get = (o, p) := ret_get p o

/-- The scenario of a two-object pool with an out-of-order return (`g g r0 g`): the third `Get` hands out the
    RETURNED first object, not the second one, which is still held. -/
example : C17Pool.runScript [.get, .get, .ret 0, .get] (C17Pool.Pool.new 2) [] = [1, 0, 1] := by decide +kernel

/-- `objpool.go` is the code the pool model mirrors (regenerated from /repo on every run). -/
theorem pool_code_matches_source :
    Gen.C17.objPoolNew = ["ret := &ObjectPool[T]{ pool: make([]*T, size), newer: newer, }",
      "for i := 0; i < size; i++ { ret.pool[i] = newer() }", "return ret"] ∧
    Gen.C17.objPoolGet = ["s.m.Lock()", "defer s.m.Unlock()", "if len(s.pool) == 0 { return s.newer() }",
      "end := len(s.pool) - 1", "ret = s.pool[end]", "s.pool = s.pool[:end]", "return"] ∧
    Gen.C17.objPoolReturn = ["s.m.Lock()", "defer s.m.Unlock()", "s.pool = append(s.pool, obj)"] := ⟨rfl, rfl, rfl⟩

/-- `subContext`'s methods: `Eval` stores BOTH values and only then runs the stage; `GetMatch` reads `parent`
    (negative index) and `vals`; `GetKey` reads `parent` – the three fields `SubObj` has. -/
theorem sub_context_code_matches_source :
    Gen.C17.evalCode = ["s.vals[0] = v0", "s.vals[1] = v1", "return stage(s)"] ∧
    Gen.C17.getMatchCode = ["if idx < 0 { return s.parent.GetMatch(idx) }",
      "if idx < len(s.vals) { return s.vals[idx] }", "return \"\""] ∧
    Gen.C17.getKeyCode = ["return s.parent.GetKey(k)"] := ⟨rfl, rfl, rfl⟩

/-- **No stale field**: every helper that takes a pooled sub-context re-initialises it completely before its
    first `Eval` and returns exactly that object when the evaluation ends; nothing outside the per-evaluation
    closure touches the pool (an object taken once per compiled stage would be shared by all goroutines), and
    no other function of the package uses the pool.  (Access table regenerated from /repo.) -/
theorem no_stale_field :
    (∀ h ∈ Gen.C17.poolEvents, disciplined h.2 = true) ∧
    (Gen.C17.poolEvents.filter (fun h => !h.2.isEmpty)).map (·.1) = ["@map", "@reduce", "@for", "@filter"] ∧
    Gen.C17.otherPoolUsers = [] := by decide +kernel

/-- What the discipline buys, on the object's fields: after the overwrite, `Eval` answers what the pool-free
    model (`Comp.withSub`) answers – whatever the previous user left in the object – and the object still points
    at THIS evaluation's context afterwards (so every later `Eval` of the same helper does too). -/
theorem pooled_eval_fresh (stale : SubObj) (ctx : Ctx) (st : Stage) (a b : Bytes) :
    ((stale.reset ctx).eval st a b).1 = (st.withSub a b).run ctx ∧
    ((stale.reset ctx).eval st a b).2.parent = ctx ∧
    ∀ (st' : Stage) (a' b' : Bytes),
      (((stale.reset ctx).eval st a b).2.eval st' a' b').1 = (st'.withSub a' b').run ctx := by
  refine ⟨?_, rfl, fun st' a' b' => ?_⟩
  · rw [withSub_run]; rfl
  · rw [withSub_run]; rfl

/-- Without the overwrite a key look-up is answered by the PREVIOUS user's match (this was F7 for `@for`). -/
theorem pooled_eval_stale_counterexample :
    let old : Ctx := { getMatch := fun _ => [], getKey := fun _ => [111] }
    let cur : Ctx := { getMatch := fun _ => [], getKey := fun _ => [99] }
    ((⟨old, [], []⟩ : SubObj).eval (Comp.key [107]) [] []).1 = .ok [111] ∧
    (((⟨old, [], []⟩ : SubObj).reset cur).eval (Comp.key [107]) [] []).1 = .ok [99] := ⟨rfl, rfl⟩

/-! ## Constants, defaults, arities, documentation (regenerated from /repo) -/

/-- The constants the model uses are the ones in the source: the separator, BOTH iteration limits (`@range`
    has its own `MAX_ITERATIONS`), the defaults of the optional arguments. -/
theorem constants_match_source (a0 : Stage) :
    Gen.C17.arraySeparator = ArraySeparator.toNat ∧
    Gen.C17.maxIterationsRange = Gen.maxIterations ∧ Gen.C17.maxIterationsFor = Gen.maxIterations ∧
    kfArraySplit [a0] = ok (splitStage Gen.C17.splitDefault a0) ∧
    kfArrayJoin [a0] = ok (joinStage Gen.C17.joinDefault a0) ∧
    kfArrayRange [a0] = ok (rangeStage (Stage.lit Gen.C17.rangeDefaultStart) a0 (Stage.lit Gen.C17.rangeDefaultIncr)) ∧
    Gen.C17.reduceDefault = [] := by
  have es : Gen.C17.splitDefault = ascii " " := by decide +kernel
  have ej : Gen.C17.joinDefault = ascii " " := by decide +kernel
  have e0 : Gen.C17.rangeDefaultStart = ascii "0" := by decide +kernel
  have e1 : Gen.C17.rangeDefaultIncr = ascii "1" := by decide +kernel
  refine ⟨by decide, rfl, rfl, ?_, ?_, ?_, rfl⟩
  · rw [es]; exact (builders_spec a0 a0 a0 [32] (by simp)).2.2.1
  · rw [ej]; simp [kfArrayJoin, argCountBetween, evalStageIndexOrDefault]
  · rw [e0, e1]; rfl

/-- Every builder accepts exactly the argument counts the source checks for (tried with 0…5 constant
    arguments): `<ARGN>` outside `lo…hi`, no arity error inside. -/
theorem arity_matches_source :
    ∀ e ∈ Gen.C17.arity, ∀ n ∈ List.range 6,
      (table.find? (·.1 == e.1)).map (fun b => isArgCountErr (b.2 (List.replicate n (Stage.lit [49])))) =
        some (decide (n < e.2.1 ∨ e.2.2 < n)) := by decide +kernel

/-- Every helper of the documentation's array section is modelled, and the model has no helper the
    documentation does not mention. -/
theorem documented_helpers_covered :
    (∀ n ∈ Gen.C17.documentedHelpers, (table.find? (·.1 == n)).isSome = true) ∧
    (∀ e ∈ table, e.1 ∈ Gen.C17.documentedHelpers) ∧
    (∀ n ∈ Gen.C17.documentedHelpers, n ∈ Gen.stdFunctionNames) := by decide +kernel

/-- **`MAX_ITERATIONS`, the exact boundary.**  A range with exactly `MAX_ITERATIONS` terms is produced in full;
    one more term and the answer is `<INF>` (the same arguments, stop moved by one). -/
theorem range_limit_boundary (ctx : Ctx) :
    (rangeStage (Stage.lit (ascii "0")) (Stage.lit (ascii "1000000")) (Stage.lit (ascii "1"))).run ctx =
      .ok (pack ((range 0 1000000 1).map itoa)) ∧
    (rangeStage (Stage.lit (ascii "0")) (Stage.lit (ascii "1000001")) (Stage.lit (ascii "1"))).run ctx =
      .ok InfMarker ∧
    (rangeStage (Stage.lit (ascii "0")) (Stage.lit (ascii "-3000000")) (Stage.lit (ascii "-3"))).run ctx =
      .ok (pack ((range 0 (-3000000) (-3)).map itoa)) ∧
    (rangeStage (Stage.lit (ascii "0")) (Stage.lit (ascii "-3000001")) (Stage.lit (ascii "-3"))).run ctx =
      .ok InfMarker := by
  have hM : Gen.maxIterations = 1000000 := rfl
  refine ⟨?_, ?_, ?_, ?_⟩
  · rw [range_spec_closed ctx _ _ _ (ascii "0") (ascii "1000000") (ascii "1") 0 1000000 1 rfl rfl rfl
      (by decide +kernel) (by decide +kernel) (by decide +kernel)]
    have : rangeCount 0 1000000 1 = 1000000 := by decide +kernel
    simp [this, hM]
  · rw [range_spec_closed ctx _ _ _ (ascii "0") (ascii "1000001") (ascii "1") 0 1000001 1 rfl rfl rfl
      (by decide +kernel) (by decide +kernel) (by decide +kernel)]
    have : rangeCount 0 1000001 1 = 1000001 := by decide +kernel
    simp [this, hM]
  · rw [range_spec_closed ctx _ _ _ (ascii "0") (ascii "-3000000") (ascii "-3") 0 (-3000000) (-3) rfl rfl rfl
      (by decide +kernel) (by decide +kernel) (by decide +kernel)]
    have : rangeCount 0 (-3000000) (-3) = 1000000 := by decide +kernel
    simp [this, hM]
  · rw [range_spec_closed ctx _ _ _ (ascii "0") (ascii "-3000001") (ascii "-3") 0 (-3000001) (-3) rfl rfl rfl
      (by decide +kernel) (by decide +kernel) (by decide +kernel)]
    have : rangeCount 0 (-3000001) (-3) = 1000001 := by decide +kernel
    simp [this, hM]

/-- Bounds that only LOOK like numbers (`1.5`, `1e3`, `0x10`, the empty string) are not integers: whichever
    of the three arguments it is, the answer is `<BAD-TYPE>`. -/
theorem range_bad_type_any (ctx : Ctx) (sStart sStop sIncr : Stage) (a b c : Bytes)
    (ha : sStart.run ctx = .ok a) (hb : sStop.run ctx = .ok b) (hc : sIncr.run ctx = .ok c)
    (h : atoi a = none ∨ atoi b = none ∨ atoi c = none) :
    (rangeStage sStart sStop sIncr).run ctx = .ok ErrorNum := by
  unfold rangeStage
  rw [Comp.run_bind_ok ha]
  cases pa : atoi a with
  | none => rfl
  | some start =>
    simp only []
    rw [Comp.run_bind_ok hb]
    cases pb : atoi b with
    | none => rfl
    | some stop =>
      simp only []
      rw [Comp.run_bind_ok hc]
      cases pc : atoi c with
      | none => rfl
      | some incr => simp [pa, pb, pc] at h

example : atoi (ascii "1.5") = none ∧ atoi (ascii "1e3") = none ∧ atoi (ascii "0x10") = none ∧ atoi (ascii " 1") = none := by
  decide +kernel

/-! ## `{select}`, `tab`, and the `kfJoin` the registry finds

`{select s i}` (funcsFuncs.Strings.go `selectField`) numbers WORDS, and NUL is one of its delimiters: pointed at an
array it is a second way of taking an element – a different function from `{@select a i}`.  `tab` is
`kfJoin("\t")`, the builder behind `{$ ..}`/`{@ ..}` with another byte. -/

/-- **`{select s i}` is word selection**, for EVERY string without a double quote and every index: the `i`-th
    maximal run of bytes other than space, tab, newline and NUL (`words`, `Spec/C17Sel.lean`; a string that
    starts with a delimiter has the empty word 0, runs of delimiters count once, trailing ones not at all),
    nothing for an index that is negative or past the last word.  (The loop of `selectField` works on byte
    offsets `wordStart`/`i`; `selLoop_words` is its invariant.) -/
theorem word_select_spec (ctx : Ctx) (a0 a1 : Stage) (s i : Bytes) (idx : Int)
    (h0 : a0.run ctx = .ok s) (h1 : a1.run ctx = .ok i) (hi : atoi i = some idx) (hq : ∀ c ∈ s, c ≠ 34) :
    ∃ st, Funcs.Strings.kfSelect [a0, a1] = ok st ∧ st.run ctx = .ok (selectWord s idx) := by
  refine ⟨_, rfl, ?_⟩
  simp only [bind, pure]
  rw [Comp.run_bind_ok h0, Comp.run_bind_ok h1]
  simp only [hi, Comp.run]
  rw [selectField_words s idx hq]

/-- The boundary of `word_select_spec`: with a double quote in the string `selectField` is no longer word
    selection – white space (and NUL) between quotes does not separate, and a quote that opens the string stays
    in the answer: `"a b"` has the one word `"a b` for `{select}`, the words `"a` and `b"` for `selectWord`. -/
theorem word_select_quote_boundary :
    Funcs.Strings.selectField [34, 97, 32, 98, 34] 0 = [34, 97, 32, 98] ∧ selectWord [34, 97, 32, 98, 34] 0 = [34, 97] ∧
    Funcs.Strings.selectField [34, 97, 32, 98, 34] 1 = [] ∧ selectWord [34, 97, 32, 98, 34] 1 = [98, 34] := by
  decide +kernel

/-- Words contain no delimiter, and plain words joined by single delimiter bytes (an array of plain elements,
    the result of `tab`, a blank-separated line) are read back as themselves. -/
theorem words_read_back (d : UInt8) (hd : isWordDelim d = true) (ws : List Bytes) (hne : ws ≠ [])
    (hw : ∀ w ∈ ws, IsPlainWord w) :
    words (join [d] ws) = ws ∧ ∀ s, ∀ w ∈ words s, ∀ c ∈ w, isWordDelim c = false :=
  ⟨words_join d hd ws hne (fun w h => ⟨(hw w h).1, fun c hc => ((hw w h).2 c hc).1⟩),
   fun s => wordsGo_free s [] false (by simp)⟩

private theorem plain_no_quote (d : UInt8) (hd : isWordDelim d = true) (ws : List Bytes)
    (hw : ∀ w ∈ ws, IsPlainWord w) : ∀ c ∈ join [d] ws, c ≠ 34 := by
  intro c hc
  rcases mem_join d ws c hc with e | ⟨w, hm, hcw⟩
  · subst e; exact wordDelim_ne_quote c hd
  · exact ((hw w hm).2 c hcw).2

private theorem plain_nul_free (ws : List Bytes) (hw : ∀ w ∈ ws, IsPlainWord w) : ∀ y ∈ ws, NUL ∉ y := by
  intro y hy hn
  have := ((hw y hy).2 NUL hn).1
  simp [isWordDelim, NUL] at this

/-- **Where the two selections agree.**  On an array of plain elements (non-empty, free of white space, NUL and
    quotes) and an index `i ≥ 0`, `{select a i}` and `{@select a i}` both give the `i`-th element (nothing past
    the end). -/
theorem select_agrees_on_plain_arrays (ctx : Ctx) (a0 : Stage) (ws : List Bytes) (i : Bytes) (idx : Int)
    (hne : ws ≠ []) (hw : ∀ w ∈ ws, IsPlainWord w)
    (h0 : a0.run ctx = .ok (pack ws)) (hi : atoi i = some idx) (hpos : 0 ≤ idx)
    (hl : ((pack ws).length : Int) < maxInt64) :
    (∃ st, Funcs.Strings.kfSelect [a0, Stage.lit i] = ok st ∧ st.run ctx = .ok (ws.getD idx.toNat [])) ∧
    kfArraySelect [a0, Stage.lit i] = ok (selectStage idx a0) ∧
    (selectStage idx a0).run ctx = .ok (ws.getD idx.toNat []) := by
  have hd0 : isWordDelim NUL = true := by decide +kernel
  have hc : evalStageInt (Stage.lit i) = .ok (some idx) := by
    simp [evalStageInt, Stage.lit, Comp.probe, Comp.probeN, hi]
  refine ⟨?_, ?_⟩
  · obtain ⟨st, e, hr⟩ := word_select_spec ctx a0 (Stage.lit i) (pack ws) i idx h0 rfl hi
      (plain_no_quote NUL hd0 ws hw)
    refine ⟨st, e, ?_⟩
    rw [hr]
    have hneg : ¬ idx < 0 := by omega
    simp only [selectWord, hneg, if_false]
    have : words (pack ws) = ws := (words_read_back NUL hd0 ws hne hw).1
    rw [this]
  · obtain ⟨e, hr⟩ := select_spec ctx a0 (Stage.lit i) (pack ws) idx hc h0 hl
    refine ⟨e, ?_⟩
    rw [hr, select_elems_pack ws (plain_nul_free ws hw)]
    have hneg : ¬ idx < 0 := by omega
    simp [select, hneg]

/-- **Where they differ** (kernel-checked, `{select}` first, `{@select}` second in each pair): an empty element
    is skipped by `{select}` and counted by `{@select}`; a negative index selects nothing / counts from the end;
    an element with a blank is two words; between double quotes the separator does not separate (and the
    opening quote stays in the answer). -/
theorem select_differs_from_at_select :
    (Funcs.Strings.selectField (pack [ascii "a", [], ascii "b"]) 1 = ascii "b" ∧
      select (elems (pack [ascii "a", [], ascii "b"])) 1 = []) ∧
    (Funcs.Strings.selectField (pack [ascii "a", ascii "b"]) (-1) = [] ∧
      select (elems (pack [ascii "a", ascii "b"])) (-1) = ascii "b") ∧
    (Funcs.Strings.selectField (pack [ascii "a b", ascii "c"]) 1 = ascii "b" ∧
      select (elems (pack [ascii "a b", ascii "c"])) 1 = ascii "c") ∧
    (Funcs.Strings.selectField (pack [[34, 97], [98, 34], ascii "c"]) 0 = [34, 97, 0, 98] ∧
      select (elems (pack [[34, 97], [98, 34], ascii "c"])) 0 = [34, 97]) := by
  decide +kernel

/-- **`{tab a b …}`** (two or more arguments) joins the values with a tab; splitting the result at tabs is the
    array `{@ a b …}` of the same values when no value contains a tab. -/
theorem tab_spec (ctx : Ctx) (a0 a1 : Stage) (rest : List Stage) (v0 v1 : Bytes) (vs : List Bytes)
    (h0 : a0.run ctx = .ok v0) (h1 : a1.run ctx = .ok v1)
    (hr : rest.map (fun a => a.run ctx) = vs.map Except.ok) :
    ∃ st, Funcs.Strings.kfJoin [9] (a0 :: a1 :: rest) = ok st ∧ st.run ctx = .ok (join [9] (v0 :: v1 :: vs)) ∧
      ((∀ v ∈ v0 :: v1 :: vs, (9 : UInt8) ∉ v) →
        (splitStage [9] st).run ctx = .ok (pack (v0 :: v1 :: vs))) := by
  have hrun := kfJoin_run ctx [9] a0 (a1 :: rest) v0 (v1 :: vs) h0 (by simp [h1, hr])
  refine ⟨_, rfl, hrun, ?_⟩
  intro hfree
  rw [split_spec ctx _ _ [9] (by simp) hrun]
  rw [split_join_list [9] (by simp) (v0 :: v1 :: vs) (by simp)]
  intro x hx hin
  have : ([9] : Bytes) <:+: x := by simpa using hin
  exact hfree x hx (this.subset (List.mem_singleton.mpr rfl))

/-- **Which `kfJoin` the registry finds.**  `$`, `@` and `tab` resolve to `Funcs.Funcs.Strings.kfJoin` (the
    string-helper table comes first in `stdTable`); `concat_spec` speaks about `Funcs.Range.joinArgs`, a second
    transcription of the same Go function.  For every delimiter byte, every argument list and every context the
    two are the same: same stage result, same panic, same (absent) compile error. -/
theorem concat_models_agree (ctx : Ctx) (d : UInt8) (args : List Stage) :
    lookupTable stdTable "@" = some (Funcs.Strings.kfJoin [ArraySeparator]) ∧
    lookupTable stdTable "$" = some (Funcs.Strings.kfJoin [ArraySeparator]) ∧
    lookupTable stdTable "tab" = some (Funcs.Strings.kfJoin [9]) ∧
    builtRun ctx (Funcs.Strings.kfJoin [d] args) = builtRun ctx (joinArgs d args) :=
  ⟨rfl, rfl, rfl, kfJoin_models_agree ctx d args⟩

/-- **`MAX_ITERATIONS` of `@for`, the exact boundary, for every `N`.**  A loop whose condition is truthy exactly in
    the rounds `0 … N-1` (only the rounds the loop can reach are constrained: `k ≤ MAX_ITERATIONS`) produces its
    `N` values when `N ≤ MAX_ITERATIONS` – `N = MAX_ITERATIONS` included – and `<INF>` from `N = MAX_ITERATIONS+1`
    on; whatever the values are. -/
theorem for_limit_boundary (ctx : Ctx) (a0 a1 a2 : Stage) (start : Bytes) (fc fn : Bytes → Bytes → Bytes) (N : Nat)
    (h0 : a0.run ctx = .ok start)
    (hc : ∀ v0 v1, a1.run (subCtx ctx v0 v1) = .ok (fc v0 v1))
    (hn : ∀ v0 v1, a2.run (subCtx ctx v0 v1) = .ok (fn v0 v1))
    (hN : ∀ v (k : Nat), k ≤ Gen.maxIterations → truthy (fc v (itoa (k : Nat))) = decide (k < N)) :
    (forStage a0 a1 a2).run ctx =
      .ok (if N ≤ Gen.maxIterations then pack (iterN (fun v k => fn v (itoa (k : Nat))) N 0 start) else InfMarker) ∧
    (iterN (fun v k => fn v (itoa (k : Nat))) N 0 start).length = N := by
  refine ⟨?_, iterN_length _ _ _ _⟩
  rw [for_spec ctx a0 a1 a2 start fc fn h0 hc hn,
    iterateWhile_counted _ _ N Gen.maxIterations 0 start (fun w k' hk' => hN w k' (by omega))]
  by_cases h : N ≤ Gen.maxIterations <;> simp [h]

/-- The hypotheses are satisfiable: the condition `{1} < 3` as a function of the bound values. -/
example : ∀ v (k : Nat), k ≤ Gen.maxIterations →
    truthy ((fun (_ i : Bytes) => if (atoi i).any (· < 3) then [49] else []) v (itoa (k : Nat))) =
      decide (k < 3) := by
  intro v k hk
  have hM : Gen.maxIterations = 1000000 := rfl
  have e := atoi_itoa (k : Int) (by unfold minInt64; omega) (by unfold maxInt64; omega)
  have t1 : truthy [49] = true := by decide +kernel
  have t0 : truthy [] = false := by decide +kernel
  simp only [e, Option.any_some]
  by_cases h : k < 3
  · have : ((k : Int) < 3) := by omega
    simp [h, this, t1]
  · have : ¬ ((k : Int) < 3) := by omega
    simp [h, this, t0]

/-! ## Nested helpers over ONE shared heap

`Model/C17Heap.lean` is the machine with objects: a pool (`objpool.go`), objects with a `parent` pointer and two
slots, look-ups that chase pointers, and the closures of `@map`/`@filter`/`@reduce`/`@for` doing `Get`, overwrite,
`Eval`, deferred `Return` on that one heap – for templates in which helpers nest in arguments and in
sub-expressions to any depth.  `den` is the same template in the pool-free model the correspondence runs. -/

/-- The pool-free model computes the list reading `val` of every total template, in every context. -/
theorem den_val : ∀ (t : C17Heap.Tm) (ctx : Ctx), Total t → (C17Heap.den t).run ctx = .ok (val t ctx) :=
  fun t ctx ht => by rw [den_valE, valE_total t ctx ht]

/-- **The pool is invisible, for whole templates over one shared heap.**  Take ANY heap – the objects in the free
    list hold whatever their last users left (stale parents included), the pool has any size (empty too: `Get`
    then allocates) – whose free list has no duplicates, and any context value `ref` whose parent chain `l`
    consists of distinct checked-out objects (`Good`; the root context and an empty chain for a line's
    evaluation).  For every template `t` (helpers nested in arguments and sub-expressions to any depth; leaves that
    cannot panic) the machine that really takes objects from the pool, overwrites and fills them, evaluates
    sub-expressions against the OBJECT by pointer chasing and returns the object by `defer`,
    * does not run out of stack (`fuel` only has to exceed chain length + nesting depth: no cycle is ever built),
    * answers exactly what the pool-free model `den t` answers in the context the chain denotes, the list
      reading `val t`,
    * and leaves the heap `Frame`d: the free list has no duplicates, holds exactly the objects it held before
      plus freshly allocated ones (every `Get` was matched by its `Return`), and NO checked-out object – the
      enclosing helpers' objects, other goroutines' objects – had any field changed. -/
theorem pooled_template_spec (root : Ctx) (fuel : Nat) (t : C17Heap.Tm) (ht : Total t)
    (ref : C17Heap.Ref) (h : C17Heap.Heap) (l : List Nat) (g : Good h l ref) (hf : l.length + C17Heap.depth t < fuel) :
    ∃ h', C17Heap.ev root fuel t ref h = .ok (val t (ctxOf root h.objs l), h') ∧
      (C17Heap.den t).run (ctxOf root h.objs l) = .ok (val t (ctxOf root h.objs l)) ∧
      Frame h h' [] := by
  obtain ⟨h', e, fr⟩ := ev_val root fuel t ht ref h l g hf
  exact ⟨h', e, den_val t _ ht, fr⟩

/-- The evaluation of a line: root context, a pool in any state. -/
theorem pooled_template_line (root : Ctx) (t : C17Heap.Tm) (ht : Total t) (h : C17Heap.Heap) (hp : PoolOk h.pool) :
    ∃ v h', (C17Heap.den t).run root = .ok v ∧ C17Heap.ev root (C17Heap.depth t + 1) t .root h = .ok (v, h') ∧
      (∀ x, x ∈ h'.pool.free ↔ x ∈ h.pool.free ∨ (h.pool.next ≤ x ∧ x < h'.pool.next)) := by
  obtain ⟨h', e, d, fr⟩ := pooled_template_spec root (C17Heap.depth t + 1) t ht .root h [] (good_root h hp) (by simp)
  exact ⟨_, h', d, e, fr.free⟩

/-- **Every template – sub-expressions that panic included.**  No hypothesis on the template at all: whatever the
    pool-free model does with `t` in the context the chain denotes – a value, or a panic raised by some leaf while
    some element is being processed (elements left to right, the first panic ends the evaluation) – the heap
    machine does the same from every `Good` heap: the same value with a `Frame`d heap, or the same panic.
    (`valE`, Proofs/C17Heap.lean, is the common value-level reading: `den_valE`, `ev_valE`.) -/
theorem pooled_template_any (root : Ctx) (fuel : Nat) (t : C17Heap.Tm)
    (ref : C17Heap.Ref) (h : C17Heap.Heap) (l : List Nat) (g : Good h l ref) (hf : l.length + C17Heap.depth t < fuel) :
    match (C17Heap.den t).run (ctxOf root h.objs l) with
    | .ok v => ∃ h', C17Heap.ev root fuel t ref h = .ok (v, h') ∧ Frame h h' []
    | .error m => C17Heap.ev root fuel t ref h = .error m := by
  rw [den_valE]
  exact (ev_valE root fuel t ref h l g hf).bind (fun _ => rfl) fun _ h' fr => ⟨h', rfl, fr⟩

/-- **Another evaluation in between changes nothing this one can see.**  Between two steps of an evaluation whose
    context is the chain `l` (its helpers hold those objects), let ANY other total template `t2` be evaluated to
    the end on the same heap – another goroutine's line, with its own root context `root2`.  Afterwards this
    evaluation's chain is intact (same objects, still checked out, same parents) and denotes the same context.
    (Coarse-grained: the other evaluation runs to its end; `Get`/`Return` themselves are atomic by the mutex,
    `pool_exclusive` is the statement for arbitrary orders of those.) -/
theorem pooled_noninterference (root root2 : Ctx) (t2 : C17Heap.Tm) (ht2 : Total t2)
    (ref : C17Heap.Ref) (h : C17Heap.Heap) (l : List Nat) (g : Good h l ref) :
    ∃ v h', C17Heap.ev root2 (C17Heap.depth t2 + 1) t2 .root h = .ok (v, h') ∧
      Good h' l ref ∧ ctxOf root h'.objs l = ctxOf root h.objs l := by
  obtain ⟨h', e, _, fr⟩ := pooled_template_spec root2 (C17Heap.depth t2 + 1) t2 ht2 .root h []
    (good_root h g.pool) (by simp)
  exact ⟨_, h', e, g.frame fr (by simp), ctxOf_frame root g fr (by simp)⟩

/-- **Every pool state the process can be in satisfies the hypotheses of `pooled_template_spec`.**  From
    `NewObjectPool(n)`, after any sequence of `Get`s and `Return`s of checked-out objects in any order (`Reach`,
    the worlds of `pool_exclusive`): the free list has no duplicates and only allocated objects (`PoolOk`), and
    every object somebody holds is `Held` – so any chain of distinct objects held by the evaluating goroutine's
    enclosing helpers is `Good`, whatever the other goroutines hold. -/
theorem reachable_pool_good (n : Nat) (w : World) (h : Reach n w) :
    PoolOk w.pool ∧ ∀ o ∈ w.held, Held w.pool o := by
  obtain ⟨hn, hb⟩ := inv_reach h
  have hna := List.nodup_append.mp hn
  refine ⟨⟨hna.1, fun o ho => hb o (List.mem_append_left _ ho)⟩, fun o ho => ⟨hb o (List.mem_append_right _ ho), ?_⟩⟩
  intro hf
  exact hna.2.2 o hf o ho rfl

/-- The statement order `ev` follows – which helper evaluates its array argument before `Get`, which after; the
    stage and the two values of every `Eval` – is the one in funcsRange.go (regenerated table). -/
theorem heap_machine_matches_source : Gen.C17.helperSteps = C17Heap.sourceOrder := rfl

private def exRoot : Ctx := { getMatch := fun _ => [97, 0, 98], getKey := fun _ => [107] }
/-- `{@map {0} {@map {0} "{0}{k}"}}`: nested helpers, the inner sub-expression reads a key through two objects. -/
private def exNested : C17Heap.Tm :=
  .map (.scalar (Comp.match_ 0)) (.map (.scalar (Comp.match_ 0))
    (.scalar (do let a ← Comp.match_ 0; let k ← Comp.key [107]; pure (a ++ k))))

/-- **Exclusivity is needed** (what `pool_exclusive` provides and the seeded change `C17-objpool-return-reslice`
    breaks): with an object twice in the free list the inner helper of `{@map {0} {@map {0} "{0}{k}"}}` is handed the
    object the outer one holds, the overwrite makes it its own parent, and the key look-up never ends – Go's
    `fatal error: stack overflow`.  From a duplicate-free pool – here with stale garbage in every object, parents
    pointing at themselves – the same template evaluates to `ak␀bk`. -/
theorem pooled_template_needs_exclusive :
    (match C17Heap.ev exRoot 50 exNested .root ⟨⟨[0, 0], 1⟩, fun _ => ⟨.root, [], []⟩⟩ with
      | .error _ => true | .ok _ => false) = true ∧
    (match C17Heap.ev exRoot 50 exNested .root ⟨⟨[0, 1], 2⟩, fun n => ⟨.obj n, [1], [2]⟩⟩ with
      | .ok (v, h') => v == [97, 107, 0, 98, 107] && h'.pool.free == [0, 1] | .error _ => false) = true := by
  decide +kernel

/-- `{@map {0} <a leaf that panics on the element b>}` on `a␀b`: the model panics with the leaf's message while the
    second element is processed, and so does the machine. -/
example :
    (match C17Heap.ev exRoot 50 (.map (.scalar (Comp.match_ 0))
        (.scalar (.getMatch 0 fun v => if v = [98] then .panic "boom" else .ret v))) .root
        ⟨⟨[0, 1], 2⟩, fun n => ⟨.obj n, [1], [2]⟩⟩ with
      | .error m => m == "boom" | .ok _ => false) = true ∧
    (match (C17Heap.den (.map (.scalar (Comp.match_ 0))
        (.scalar (.getMatch 0 fun v => if v = [98] then .panic "boom" else .ret v)))).run exRoot with
      | .error m => m == "boom" | .ok _ => false) = true := by
  decide +kernel

example : Total exNested :=
  ⟨.getMatch _ _ fun _ => .ret _, .getMatch _ _ fun _ => .ret _,
   .getMatch _ _ fun _ => .getKey _ _ fun _ => .ret _⟩
/-- A non-root situation: the object 3 is checked out and heads the chain. -/
example : Good ⟨⟨[0, 1], 4⟩, fun _ => ⟨.root, [5], [6]⟩⟩ [3] (.obj 3) :=
  ⟨⟨by decide, by decide⟩, ⟨rfl, trivial⟩, by simp, by intro o ho; simp at ho; subst ho; exact ⟨by decide, by decide⟩⟩

/-- The splitter, `MakeArray`, and the index arithmetic and loops of `@select` / `@slice` are the code the model
    mirrors (`Splitter.Next`/`Done`, `C17Extra.nextOk`/`makeArrayLoop`, `selectIndex` and the `i == searchIndex`
    loop of `selectStage`, `sliceStart` with its clamp and the guard/body of `sliceStage`), statement by statement,
    regenerated from /repo: the advance by `len(s.Delim)`, the clamp `if realStart < 0 { realStart = 0 }`, the
    comparison `i-realStart < sliceLen` are the repaired forms of F9 and F8. -/
theorem splitter_and_index_code_matches_source :
    Gen.C17.splitterNext = ["if s.next < 0 { return \"\" }", "idx := strings.Index(s.S[s.next:], s.Delim)",
      "if idx < 0 { ret = s.S[s.next:] s.next = -1 return }", "idx += s.next", "ret = s.S[s.next:idx]",
      "s.next = idx + len(s.Delim)", "return"] ∧
    Gen.C17.splitterNextOk = ["ok = !s.Done()", "ret = s.Next()", "return"] ∧
    Gen.C17.splitterDone = ["return s.next < 0"] ∧
    Gen.C17.makeArrayCode = ["var sb strings.Builder",
      "for i := 0; i < len(args); i++ { if i > 0 { sb.WriteRune(ArraySeparator) } sb.WriteString(args[i]) }",
      "return sb.String()"] ∧
    Gen.C17.selectIndexCode = ["if searchIndex < 0 { searchIndex += strings.Count(splitter.S, splitter.Delim) + 1 }",
      "for i := 0; !splitter.Done(); i++ { val := splitter.Next() if i == searchIndex { return val } }"] ∧
    Gen.C17.sliceIndexCode = [
      "if realStart < 0 { realStart += strings.Count(splitter.S, ArraySeparatorString) + 1 if realStart < 0 { realStart = 0 } }",
      "for i := 0; (sliceLen < 0 || i-realStart < sliceLen) && !splitter.Done(); i++ { val := splitter.Next() if i >= realStart { if i > realStart { ret.WriteString(ArraySeparatorString) } ret.WriteString(val) } }"] :=
  ⟨rfl, rfl, rfl, rfl, rfl, rfl⟩

/-! ## … and with the other goroutines running in between

`Model/C17HeapI.lean`: the same machine with an interference oracle applied at every scheduling point (after
`Get`, after the overwrite, after each `Eval`'s stores, after every context look-up, after `Return`); the heap's
clock advances at each point, so the oracle can act differently every time. -/

/-- **Under every schedule.**  Let `env` be ANY interference that obeys `Rely`: at a scheduling point the other
    goroutines may take objects from the pool, allocate, hand back objects that are not this evaluation's, and
    write anything into every object this evaluation has not checked out – as long as the pool stays in order
    (`PoolInv`: no duplicates in the free list, none of this evaluation's objects in it; that the others return
    only what they hold is `pool_exclusive`) and this evaluation's checked-out objects keep their fields.  Then
    for every total template, from every heap and every context chain of checked-out objects, the interleaved
    machine answers what the pool-free model answers – `val t` – never overflows the stack, and afterwards this
    evaluation holds exactly the objects it held before, with their fields untouched. -/
theorem pooled_template_interleaved (env : C17HeapI.HeapI → C17HeapI.HeapI) (henv : ∀ h, Rely h (env h))
    (root : Ctx) (fuel : Nat) (t : C17Heap.Tm) (ht : Total t)
    (ref : C17Heap.Ref) (h : C17HeapI.HeapI) (l : List Nat) (g : GoodI h l ref)
    (hf : l.length + C17Heap.depth t < fuel) :
    ∃ h', C17HeapI.evI env root fuel t ref h = .ok (val t (ctxOf root h.objs l), h') ∧
      (C17Heap.den t).run (ctxOf root h.objs l) = .ok (val t (ctxOf root h.objs l)) ∧
      FrameI h h' [] := by
  obtain ⟨h', e, fr⟩ := evI_val henv root fuel t ht ref h l g hf
  exact ⟨h', e, den_val t _ ht, fr⟩

/-- **Every template under every schedule.**  `pooled_template_interleaved` without its hypothesis on the template:
    whatever the pool-free model does with `t` – a value or a panic of some sub-expression – the interleaved machine
    does the same under every interference that obeys `Rely`. -/
theorem pooled_template_interleaved_any (env : C17HeapI.HeapI → C17HeapI.HeapI) (henv : ∀ h, Rely h (env h))
    (root : Ctx) (fuel : Nat) (t : C17Heap.Tm)
    (ref : C17Heap.Ref) (h : C17HeapI.HeapI) (l : List Nat) (g : GoodI h l ref)
    (hf : l.length + C17Heap.depth t < fuel) :
    match (C17Heap.den t).run (ctxOf root h.objs l) with
    | .ok v => ∃ h', C17HeapI.evI env root fuel t ref h = .ok (v, h') ∧ FrameI h h' []
    | .error m => C17HeapI.evI env root fuel t ref h = .error m := by
  rw [den_valE]
  exact (evI_valE henv root fuel t ref h l g hf).bind (fun _ => rfl) fun _ h' fr => ⟨h', rfl, fr⟩

/-- **What the other goroutines actually do obeys `Rely`.**  The atomic steps of any OTHER evaluation on the shared
    heap – its `Get` (an object leaves the free list, or a fresh one is allocated), the `Return` of an object it
    holds (`o` allocated, not in the free list, not this evaluation's: what `pool_exclusive` guarantees for every
    object somebody else holds), and any write to an object that is not this evaluation's (its overwrite, its
    `Eval` stores) – each satisfy `Rely`; and so does any sequence of them (`Rely` is reflexive and transitive).
    So every real schedule is an interference `pooled_template_interleaved` covers. -/
theorem other_goroutines_obey_rely (h : C17HeapI.HeapI) :
    Rely h { h with pool := h.pool.get.2 } ∧
    (∀ o, o < h.pool.next → o ∉ h.pool.free → h.mine o = false → Rely h { h with pool := h.pool.ret o }) ∧
    (∀ o x, h.mine o = false → Rely h (h.set o x)) ∧
    Rely h h ∧
    (∀ h1 h2, Rely h h1 → Rely h1 h2 → Rely h h2) := by
  refine ⟨?_, ?_, ?_, ⟨id, Nat.le_refl _, fun _ => rfl, fun _ _ => rfl⟩, ?_⟩
  · -- Get
    refine ⟨fun ⟨hn, hb, hm⟩ => ?_, get_next_le h.pool, fun _ => rfl, fun _ _ => rfl⟩
    obtain ⟨hn1, _, hsub, hle, _, _⟩ := get_spec h.pool hn (fun o ho => (hb o ho).1)
    exact ⟨hn1, fun x hx => ⟨Nat.lt_of_lt_of_le (hb x (hsub x hx)).1 hle, (hb x (hsub x hx)).2⟩,
      fun o ho => Nat.lt_of_lt_of_le (hm o ho) hle⟩
  · -- Return of somebody else's object
    intro o hlt hnf hmo
    refine ⟨fun ⟨hn, hb, hm⟩ => ⟨?_, fun x hx => ?_, hm⟩, Nat.le_refl _, fun _ => rfl, fun _ _ => rfl⟩
    · show (h.pool.free ++ [o]).Nodup
      refine List.nodup_append.mpr ⟨hn, by simp, ?_⟩
      intro a ha b hb' e
      simp at hb'; subst hb'; subst e; exact hnf ha
    · have hx' : x ∈ h.pool.free ++ [o] := hx
      simp only [List.mem_append, List.mem_singleton] at hx'
      rcases hx' with e | e
      · exact hb x e
      · subst e; exact ⟨hlt, hmo⟩
  · -- a write to an object that is not this evaluation's
    intro o x hmo
    refine ⟨id, Nat.le_refl _, fun _ => rfl, fun y hy => ?_⟩
    have : y ≠ o := fun e => by rw [e, hmo] at hy; cases hy
    simp [C17HeapI.HeapI.set, this]
  · intro h1 h2 r1 r2
    exact ⟨fun hp => r2.inv (r1.inv hp), Nat.le_trans r1.next_le r2.next_le, fun x => by rw [r2.mine x, r1.mine x],
      fun x hx => by rw [r2.keep x (by rw [r1.mine x]; exact hx), r1.keep x hx]⟩

/-- An interference that uses its freedom: at every scheduling point it overwrites EVERY object this evaluation
    has not checked out (parent pointing at the object itself, garbage values) and allocates one more object. -/
private def envScribble (h : C17HeapI.HeapI) : C17HeapI.HeapI :=
  { h with objs := fun n => if h.mine n then h.objs n else ⟨.obj n, [33], [63]⟩,
           pool := { h.pool with next := h.pool.next + 1 } }

example : ∀ h, Rely h (envScribble h) := fun h =>
  ⟨fun ⟨a, b, c⟩ => ⟨a, fun o ho => ⟨Nat.lt_succ_of_lt (b o ho).1, (b o ho).2⟩, fun o ho => Nat.lt_succ_of_lt (c o ho)⟩,
   Nat.le_succ _, fun _ => rfl, fun x hx => by simp [envScribble, hx]⟩

private def exRootI : Ctx := { getMatch := fun _ => [97, 0, 98], getKey := fun _ => [107] }
private def exNestedI : C17Heap.Tm :=
  .map (.scalar (Comp.match_ 0)) (.map (.scalar (Comp.match_ 0))
    (.scalar (do let a ← Comp.match_ 0; let k ← Comp.key [107]; pure (a ++ k))))

/-- **`Rely` is needed, and it is all that is needed** (`{@map {0} {@map {0} "{0}{k}"}}` on `a␀b`, key `k`): under
    the scribbling interference the answer is `ak␀bk` as without any interference; an interference that also
    writes into the objects this evaluation holds changes the answer. -/
theorem interference_must_respect_ownership :
    (match C17HeapI.evI envScribble exRootI 50 exNestedI .root ⟨⟨[0, 1], 2⟩, fun n => ⟨.obj n, [1], [2]⟩, fun _ => false, 0⟩ with
      | .ok (v, _) => v == [97, 107, 0, 98, 107] | .error _ => false) = true ∧
    (match C17HeapI.evI (fun h => { h with objs := fun _ => ⟨.root, [33], [63]⟩ }) exRootI 50 exNestedI .root
        ⟨⟨[0, 1], 2⟩, fun n => ⟨.obj n, [1], [2]⟩, fun _ => false, 0⟩ with
      | .ok (v, _) => v == [97, 107, 0, 98, 107] | .error _ => false) = false := by
  decide +kernel

/-- The initial situation of a line's evaluation satisfies `GoodI`: nothing checked out, a pool in order. -/
example : GoodI ⟨⟨[0, 1], 2⟩, fun n => ⟨.obj n, [1], [2]⟩, fun _ => false, 0⟩ [] .root :=
  goodI_root _ ⟨by decide, by intro o ho; simp at ho; rcases ho with e | e <;> simp [e], by simp⟩

/-! ## `MakeArray` and `Splitter.NextOk` (the two functions of the anchor files no helper calls) -/

/-- `expressions.MakeArray(values…)` – how the commands hand several values to an expression as one array – is
    `pack`: the values in order with one separator between neighbours, nothing for no value, and (as for every
    array) the list is read back exactly when no value contains the separator (`wellformed_iff`). -/
theorem make_array_spec (xs : List Bytes) : C17Extra.makeArray xs = pack xs := makeArray_eq_pack xs

/-- Draining a splitter with `NextOk` (any delimiter `d ≠ ""`) yields exactly the pieces `splitOn d s` – the same
    list `Next`/`Done` give (`splitter_spec`) – within `len(s)+2` rounds; afterwards the splitter is finished and
    stays so: another `Next` answers the empty string and changes nothing. -/
theorem nextok_drain_spec (s d : Bytes) (hd : d ≠ []) :
    ∃ sp', C17Extra.drainOk (s.length + 2) { S := s, Delim := d } [] = some (splitOn d s, sp') ∧
      sp'.Done = true ∧ sp'.Next.1 = [] ∧ sp'.Next.2 = sp' := by
  obtain ⟨sp', e, h⟩ := drainOk_spec (s.length + 2) { S := s, Delim := d } [] hd (by simp [view_init, vlen])
  exact ⟨sp', by simpa [view_init, remaining] using e, h⟩

/-! ## Non-vacuity -/

/-- A concrete context and sub-expression: `{0}` and the key `k` (resolved by the enclosing match). -/
private def exCtx : Ctx := { getMatch := fun _ => [1, 0, 2, 0, 0, 3], getKey := fun _ => [9] }
private def exSub : Stage := do let a ← Comp.match_ 0; let k ← Comp.key [107]; pure (a ++ k)

example : ∀ v0 v1, exSub.run (subCtx exCtx v0 v1) = .ok ((fun a _ => a ++ [9]) v0 v1) := fun _ _ => rfl
/-- `{@map {0} "{0}{k}"}` on `1␀2␀␀3` appends the enclosing match's key to every element, incl. the empty one. -/
example : (mapStage (Comp.match_ 0) exSub).run exCtx = .ok [1, 9, 0, 2, 9, 0, 9, 0, 3, 9] := by
  rw [map_spec exCtx _ exSub [1, 0, 2, 0, 0, 3] (fun a _ => a ++ [9]) rfl (fun _ _ => rfl)]
  exact congrArg Except.ok (by decide +kernel)
/-- A two-byte delimiter (F9's input `1ab2ab3`, "ab"): the hypotheses of both inverse laws hold. -/
example : splitOn [97, 98] [49, 97, 98, 50, 97, 98, 51] = [[49], [50], [51]] := by decide +kernel
example : ∀ x ∈ ([[49], [50], [51]] : List Bytes), ¬ ([97, 98] : Bytes) <:+: x ++ ([97, 98] : Bytes).dropLast := by
  decide +kernel
/-- The side condition of `split_join_list` is needed: "a","x" joined by "aa" is "aaax", which splits as "", "ax". -/
example : splitOn [97, 97] (join [97, 97] [[97], [120]]) = [[], [97, 120]] := by decide +kernel
example : elems [1, 0, 2, 0, 0, 3] = [[1], [2], [], [3]] ∧ len [1, 0, 2, 0, 0, 3] = 4 ∧ len [] = 0 := by decide +kernel

/-- F8's input: `{@slice {@ a b c} -5}` is the whole array, `-5 2` its first two elements, and a huge length is harmless. -/
example : slice [[97], [98], [99]] (-5) (-1) = [[97], [98], [99]] ∧ slice [[97], [98], [99]] (-5) 2 = [[97], [98]] ∧
    slice [[97], [98], [99]] 1 maxInt64 = [[98], [99]] ∧ select [[97], [98], [99]] (-1) = [99] ∧
    select [[97], [98], [99]] (-4) = [] := by decide +kernel

/-- `{@for "" {neq {1} 3} "{0}a"}` (the input whose leading empty element used to be dropped). -/
example : iterateWhile (fun _ k => k != 3) (fun v _ => v ++ [97]) 1000000 0 [] = some [[], [97], [97, 97]] := by
  decide +kernel

example : rangeCount 3 10 3 = 3 ∧ range 3 10 3 = [3, 6, 9] ∧ rangeCount 10 3 (-3) = 3 ∧ rangeCount 5 5 1 = 0 ∧
    rangeCount 0 9223372036854775807 1 = 9223372036854775807 := by decide +kernel
/-- The term-by-term progression is the closed form; F10's input stops at the last term below `stop`
    instead of wrapping around. -/
example : progWhile 3 10 3 100 0 = some (range 3 10 3) ∧ progWhile 10 3 (-3) 100 0 = some [10, 7, 4] ∧
    progWhile 9223372036854775800 9223372036854775807 5 100 0 =
      some [9223372036854775800, 9223372036854775805] ∧
    progWhile 0 5 1 3 0 = none := by decide +kernel

example : slice (slice [[97], [98], [99], [100]] 1 (-1)) 1 1 = slice [[97], [98], [99], [100]] 2 1 ∧
    slice [[97], [98], [99], [100]] 2 1 = [[99]] ∧
    slice (slice [[97], [98], [99], [100]] 1 2) 1 5 = [[99]] := by decide +kernel
/-- The empty list and `[""]` are one value; `@len` says 0 for it and counts every other list. -/
example : len (pack [[]]) = 0 ∧ len (pack [[], []]) = 2 ∧ pack ([] : List Bytes) = pack [[]] ∧
    elems (pack ([] : List Bytes)) = [[]] := by decide +kernel
example : select ([[97], [98]].map (fun x => x ++ [33])) (-1) = [98, 33] ∧
    select ([[97], [98]].map (fun x => x ++ [33])) 2 = [] ∧ inRange 2 (-2) = true ∧ inRange 2 (-3) = false := by decide +kernel
/-- `{@map {@filter {0} ""} "{0}{k}"}`: nothing is kept, the mapper still runs once, on the empty string. -/
example : (mapStage (filterStage (Comp.match_ 0) (Stage.lit [])) exSub).run exCtx = .ok [9] := by
  rw [map_filter_spec exCtx (Comp.match_ 0) exSub (Stage.lit []) [1, 0, 2, 0, 0, 3] (fun a _ => a ++ [9]) (fun _ _ => [])
    rfl (fun _ _ => rfl) (fun _ _ => rfl)]
  exact congrArg Except.ok (by decide +kernel)
/-- `{@map {@split "a,b;c" ";"} {@split {0} ","}}` flattens: `a`, `b`, `c`. -/
example : (splitOn [59] [97, 44, 98, 59, 99]).flatMap (splitOn [44]) = [[97], [98], [99]] := by decide +kernel
/-- A reachable world with an out-of-order return (the hypotheses of `pool_exclusive` are satisfiable):
    two `Get`s, then the FIRST object comes back while the second is still out. -/
example : Reach 2 ⟨⟨[1], 2⟩, [0]⟩ := by
  have h1 : Reach 2 ⟨⟨[0], 2⟩, [1]⟩ := Reach.step Reach.init (Step.get (World.new 2))
  have h2 : Reach 2 ⟨⟨[], 2⟩, [0, 1]⟩ := Reach.step h1 (Step.get ⟨⟨[0], 2⟩, [1]⟩)
  exact Reach.step h2 (Step.ret ⟨⟨[], 2⟩, [0, 1]⟩ 1 (by decide))

/-! ### Integer arguments (the hypotheses of `select_spec`, `slice_spec`, `range_spec`, `in_spec`) -/

example : evalStageInt (Stage.lit [45, 50]) = .ok (some (-2)) := rfl
example : atoi (ascii "+5") = some 5 ∧ atoi (ascii "-0") = some 0 ∧ atoi (ascii "007") = some 7 ∧
    atoi (ascii "-9223372036854775808") = some minInt64 ∧ atoi (ascii "9223372036854775808") = none ∧
    atoi (ascii "1.5") = none ∧ atoi (ascii "") = none ∧ atoi (ascii "-") = none := by decide +kernel
/-- `{@select {0} -2}` on `1␀2␀␀3`: the second element from the end is the empty one;
    `{@select {0} 1}` is `2`. -/
example : (selectStage (-2) (Comp.match_ 0)).run exCtx = .ok [] ∧
    (selectStage 1 (Comp.match_ 0)).run exCtx = .ok [2] := by
  have hl : (([1, 0, 2, 0, 0, 3] : Bytes).length : Int) < maxInt64 := by decide +kernel
  refine ⟨?_, ?_⟩
  · rw [(select_spec exCtx (Comp.match_ 0) (Stage.lit [45, 50]) [1, 0, 2, 0, 0, 3] (-2)
      rfl rfl hl).2]
    exact congrArg Except.ok (by decide +kernel)
  · rw [(select_spec exCtx (Comp.match_ 0) (Stage.lit [49]) [1, 0, 2, 0, 0, 3] 1
      rfl rfl hl).2]
    exact congrArg Except.ok (by decide +kernel)
/-- `{@slice {0} -3 2}` and `{@slice {0} -9}` (no length) on `1␀2␀␀3`. -/
example : (sliceStage (-3) 2 (Comp.match_ 0)).run exCtx = .ok [2, 0] ∧
    (sliceStage (-9) (-1) (Comp.match_ 0)).run exCtx = .ok [1, 0, 2, 0, 0, 3] := by
  have hl : (([1, 0, 2, 0, 0, 3] : Bytes).length : Int) < maxInt64 := by decide +kernel
  refine ⟨?_, ?_⟩
  · rw [(slice_spec exCtx (Comp.match_ 0) (Stage.lit [45, 51]) [Stage.lit [50]] [1, 0, 2, 0, 0, 3]
      (-3) 2 (by decide) rfl rfl rfl hl).2]
    exact congrArg Except.ok (by decide +kernel)
  · rw [(slice_spec exCtx (Comp.match_ 0) (Stage.lit [45, 57]) [] [1, 0, 2, 0, 0, 3]
      (-9) (-1) (by decide) rfl rfl rfl hl).2]
    exact congrArg Except.ok (by decide +kernel)
/-- `{@in {k} {@ a "" b}}`: the key's value `[9]` is not a member, the empty string is. -/
example : (inStage (splitByte ArraySeparator [97, 0, 0, 98] []) (Comp.key [107])).run exCtx = .ok FalsyVal ∧
    (inStage (splitByte ArraySeparator [97, 0, 0, 98] []) (Stage.lit [])).run exCtx = .ok TruthyVal := by
  refine ⟨?_, ?_⟩
  · rw [(in_spec exCtx (Comp.key [107]) (Stage.lit [97, 0, 0, 98]) [9] [97, 0, 0, 98] rfl rfl).2]
    exact congrArg Except.ok (by decide +kernel)
  · rw [(in_spec exCtx (Stage.lit []) (Stage.lit [97, 0, 0, 98]) [] [97, 0, 0, 98] rfl rfl).2]
    exact congrArg Except.ok (by decide +kernel)
/-- `{@range 3 10 3}` with literal arguments. -/
example : (rangeStage (Stage.lit (ascii "3")) (Stage.lit (ascii "10")) (Stage.lit (ascii "3"))).run exCtx =
    .ok (pack [ascii "3", ascii "6", ascii "9"]) := by
  rw [range_spec exCtx _ _ _ (ascii "3") (ascii "10") (ascii "3") 3 10 3 rfl rfl rfl
    (by decide +kernel) (by decide +kernel) (by decide +kernel)]
  exact congrArg Except.ok (by decide +kernel)

/-- The reducer `"{0}-{1}"`. -/
private def exRed : Stage := do let a ← Comp.match_ 0; let b ← Comp.match_ 1; pure (a ++ [45] ++ b)
private def exRedF : Bytes → Bytes → Bytes := fun a b => a ++ [45] ++ b
example : ∀ v0 v1, exRed.run (subCtx exCtx v0 v1) = .ok (exRedF v0 v1) := fun _ _ => rfl
/-- `{@reduce {0} "{0}-{1}"}` on `␀a␀b` (elements `""`, `a`, `b`): `-a-b`, not `a-b` – the hypotheses of
    `reduce_empty_first` hold and its conclusion is that value. -/
example : elems [0, 97, 0, 98] = [] :: [97] :: [[98]] ∧ [[98]].foldl exRedF (exRedF [] [97]) = [45, 97, 45, 98] := by decide +kernel
/-- With the initial value `x` the first element goes through the reducer as well; an empty initial value is
    "no initial value". -/
example : reduce exRedF [120] [[], [97]] = [120, 45, 45, 97] ∧ reduce exRedF [] [[], [97]] = [45, 97] ∧
    reduce exRedF [] [[97]] = [97] ∧ reduce exRedF [] [[]] = [] := by decide +kernel
/-- A reducer that returns `""` for some pair (here: keeps `{1}` only when `{0}` is `x`): after `x, y` the
    accumulator is `y`; after `q, y` it is empty, and the next element is still REDUCED (gives `""` again), not
    adopted – `reduce_no_reseed` with `pre = [q, y]`. -/
example : reduce (fun a b => if a = [120] then b else []) [] ([[113], [121]] ++ [[122]]) =
    [[122]].foldl (fun a b => if a = [120] then b else []) (reduce (fun a b => if a = [120] then b else []) [] [[113], [121]]) ∧
    reduce (fun a b => if a = [120] then b else []) [] [[113], [121], [122]] = [] := by decide +kernel

example : selectW [[97], [98], [99]] (-1) = [99] ∧ selectW [[97], [98], [99]] (-4) = [] ∧ selectW [[97], [98], [99]] 1 = [98] ∧
    selectW [[97], [98], [99]] 9223372036854775807 = [] := by decide +kernel
example : sliceW [[97], [98], [99]] (-5) 2 = [97, 0, 98] ∧ sliceW [[97], [98], [99]] 1 9223372036854775807 = [98, 0, 99] ∧
    sliceW [[97], [98], [99]] 1 0 = [] ∧ sliceW [[97], [], [99]] (-2) (-1) = [0, 99] := by decide +kernel
/-- `{@select {0} -2}` / `{@slice {0} -3 2}` on `1␀2␀␀3` through the unconditional theorems. -/
example : (selectStage (-2) (Comp.match_ 0)).run exCtx = .ok [] ∧ (sliceStage (-3) 2 (Comp.match_ 0)).run exCtx = .ok [2, 0] := by
  refine ⟨?_, ?_⟩
  · rw [(select_spec_wrapped exCtx (Comp.match_ 0) (Stage.lit [45, 50]) [1, 0, 2, 0, 0, 3] (-2) rfl rfl).2]
    exact congrArg Except.ok (by decide +kernel)
  · rw [(slice_spec_wrapped exCtx (Comp.match_ 0) (Stage.lit [45, 51]) [Stage.lit [50]] [1, 0, 2, 0, 0, 3]
      (-3) 2 (by decide) rfl rfl rfl).2]
    exact congrArg Except.ok (by decide +kernel)

/-- A member with a separator inside (what `{@map {@ a b} {@ {0} x}}` produces: `a␀x`, `b␀x`): the
    result reads back flattened, has 3 separators = 1 joint + 2 inside members, and is NOT the
    two-element list – the side condition of `wellformed_iff` is exact. -/
example : elems (pack [[97, 0, 120], [98, 0, 120]]) = [[97], [120], [98], [120]] ∧
    (pack [[97, 0, 120], [98, 0, 120]]).count NUL = 3 ∧
    elems (pack [[97, 0, 120], [98, 0, 120]]) ≠ [[97, 0, 120], [98, 0, 120]] := by decide +kernel
example : IsArray (pack [[], [97], []]) [[], [97], []] := isArray_pack _ (by decide +kernel)
/-- F8's shape: a leading separator would read back as an extra empty first element. -/
example : elems (0 :: pack [[97], [98], [99]]) = [[], [97], [98], [99]] := by decide +kernel

/-- `ab␠␠cd␀e`: a run of delimiters ends one word; NUL separates like a blank. A leading delimiter gives the empty
    word 0, trailing ones nothing. -/
example : words [97, 98, 32, 32, 99, 100, 0, 101] = [[97, 98], [99, 100], [101]] ∧
    words [32, 97] = [[], [97]] ∧ words [97, 0, 0] = [[97]] ∧ words [] = [[]] ∧
    selectWord [97, 98, 32, 32, 99, 100, 0, 101] 2 = [101] ∧ selectWord [97, 98, 32, 32, 99, 100, 0, 101] 3 = [] ∧
    selectWord [97, 98, 32, 32, 99, 100, 0, 101] (-1) = [] := by decide +kernel
/-- The hypotheses of `select_agrees_on_plain_arrays` / `words_read_back` hold for `["ab", "é", "-3"]`. -/
example : ∀ w ∈ ([[97, 98], [195, 169], [45, 51]] : List Bytes), IsPlainWord w := by
  intro w hw
  simp only [List.mem_cons, List.not_mem_nil, or_false] at hw
  rcases hw with e | e | e <;> subst e <;> exact ⟨by decide, by decide⟩
example : (∀ c ∈ ([97, 32, 0, 98] : Bytes), c ≠ 34) ∧ isWordDelim 0 = true ∧ isWordDelim 9 = true ∧ isWordDelim 34 = false := by
  decide +kernel
/-- `{tab a b}` then `{select … 1}`: the second value. -/
example : Funcs.Strings.selectField (join [9] [[97], [98, 99]]) 1 = [98, 99] := by decide +kernel
/-- Three rounds of `"{0}a"` from `x`. -/
example : iterN (fun v _ => v ++ [97]) 3 0 [120] = [[120], [120, 97], [120, 97, 97]] := by decide +kernel
example : C17Extra.makeArray [[97], [], [98]] = [97, 0, 0, 98] ∧ C17Extra.makeArray [] = [] ∧
    (C17Extra.drainOk 7 { S := [97, 97, 97, 97, 97], Delim := [97, 97] } []).map (·.1) = some [[], [], [97]] := by
  decide +kernel

end Rare.C17

import Rare.Proofs.AggLoop
import Rare.Proofs.Pipeline
import Rare.Model.Lockset
import Rare.Proofs.Lockset
import Rare.Proofs.LocksetHB
import Rare.Proofs.C05Status
import Rare.Model.PipelineSkeleton
import Rare.Gen.Skeleton
import Rare.Proofs.AggLoopTrace
import Rare.Proofs.C05Signal
import Rare.Proofs.C05Logger
import Rare.Proofs.C05Close
import Rare.Proofs.C05CloseProg
import Rare.Proofs.C05CloseInv
import Rare.Proofs.C05SignalTrace
import Rare.Proofs.C05HB
import Rare.Proofs.C05HBTable
import Rare.Proofs.C05HBChan
import Rare.Proofs.C05HBChanDemo
import Rare.Proofs.C05Spawner
/-!
# C05 — race-free, atomic renders, complete final render

* Aggregation loop (`RunAggregationLoop`), for every stream of match batches, every arrival timing
  and every interleaving of main goroutine, ticker goroutine and extractor: mutual exclusion of
  rendering and sampling, no deadlock, the ticker is stopped before the final render, the final
  render sees every match, every intermediate render sees a prefix of the final sample history.
* Pipeline (with C01): termination/no deadlock/no send on closed, and the matched counter is never
  below the number of matches handed to the consumer.
* Data races: lockset discipline over the access tables regenerated from /repo – all fields of every
  shared object, referents of reference-typed fields included (aliases, escapes), the variables
  `RunAggregationLoop` shares with its ticker, the monitor behind `outputMutex` (partial: the tables are
  syntactic; the Go memory model is used in the form written down in Model/Lockset.lean; that the three
  disciplines of the check – common mutex with one side exclusive, both atomic, `go` edge – exclude data races is
  proved over abstract trace models in Proofs/LocksetHB.lean and Proofs/C05HB.lean).
* Close-after-WaitGroup: a closed batch channel implies a complete status (readers as programs whose exit block is
  read off the regenerated skeleton); signal path incl. trace inclusion of real SIGINT runs; pkg/logger.
-/
namespace Rare.C05
open Rare.AggLoop

variable {κ : Type}

/-- A render never runs while a match is being sampled, and vice versa, in every reachable state. -/
theorem render_sample_exclusive (stream : List (List κ)) {s : St κ} (hr : Reach (init stream) s) :
    ¬ (s.ticker = .rendering ∧ s.main.isSampling = true) :=
  have h := inv_reach hr
  exclusive_of h.mainOwns h.tickOwns

/-- While a periodic render runs, the aggregator it reads does not change. -/
theorem render_sees_frozen_state (stream : List (List κ)) {s : St κ} (hr : Reach (init stream) s)
    (ht : s.ticker = .rendering) : s.snap = s.sampled :=
  (inv_reach hr).frozen ht

/-- No deadlock: until the final render has happened some goroutine can move. -/
theorem aggloop_progress (stream : List (List κ)) {s : St κ} (hr : Reach (init stream) s)
    (hf : s.main ≠ .finished) : ∃ s', Step s s' :=
  progress (inv_reach hr) hf

/-- Termination under fairness: every step of main or of the extractor strictly decreases a
    measure; the only other steps are the ticker's, which change neither main nor the aggregator.
    (So an execution can be infinite only by scheduling the ticker for ever.) -/
theorem aggloop_measure {s s' : St κ} (hs : Step s s') :
    measure s' < measure s ∨ (measure s' = measure s ∧ s'.main = s.main ∧ s'.sampled = s.sampled) :=
  step_measure hs

/-- The final render happens after the last match was sampled and after the ticker stopped:
    when main is about to do / has done the last `writeOutput()`, every match of the stream has been
    sampled, in order, nothing is left in the channel, the ticker goroutine has returned and nobody
    holds the mutex. -/
theorem final_render_after_last_sample (stream : List (List κ)) {s : St κ} (hr : Reach (init stream) s)
    (hm : s.main = .finalRender ∨ s.main = .finished) :
    s.sampled = stream.flatten ∧ s.rc = [] ∧ s.future = [] ∧ s.ticker = .stopped ∧ s.mutex = .none := by
  have h := inv_reach hr
  have hd := h.drained (by rcases hm with h | h <;> simp [h])
  have hst := h.stopped.mpr hm
  exact ⟨hd.1, hd.2.1, hd.2.2, hst,
    mutex_none_of h.mainOwns h.tickOwns hst (by rcases hm with h' | h' <;> rw [h'] <;> rfl)⟩

/-- Final output reflects all matches: the last completed render saw the whole stream. -/
theorem final_render_sees_all (stream : List (List κ)) {s : St κ} (hr : Reach (init stream) s)
    (hm : s.main = .finished) : s.renders.getLast? = some stream.flatten :=
  (inv_reach hr).last hm

/-- Every render (intermediate or final) saw a prefix of the final sample history; hence, for
    count-style aggregation, the per-key counts it displays do not exceed the final counts. -/
theorem intermediate_counts_le_final [DecidableEq κ] (stream : List (List κ)) {s : St κ}
    (hr : Reach (init stream) s) :
    ∀ r ∈ s.renders, r <+: stream.flatten ∧ ∀ k, r.count k ≤ stream.flatten.count k := by
  intro r hmem
  have hp := (inv_reach hr).prefixes r hmem
  exact ⟨hp, fun k => hp.sublist.count_le k⟩

/-- What has been sampled (hence displayed) never exceeds what main has received from the extractor. -/
theorem sampled_le_received (stream : List (List κ)) {s : St κ} (hr : Reach (init stream) s) :
    s.sampled.length ≤ s.received.length := by
  have := (inv_reach hr).hand
  rw [← this]; simp

/-- …and what the consumer has received never exceeds the extractor's matched counter
    (pipeline invariant): a render's displayed total is never above the matched total. -/
theorem matched_ge_sum_displayed {α : Type} [DecidableEq α] (cls : α → Pipeline.Cls) (R B K W : Nat)
    (inputs : List (List (List α))) {s : Pipeline.St α}
    (hr : Pipeline.Reach cls R B K (Pipeline.init inputs W) s) :
    s.consumed.length ≤ s.nMatched :=
  Pipeline.matched_ge_consumed (Pipeline.inv_reach (Pipeline.inv_init cls B K inputs W) hr)

/-- **Final output reflects all matches – of the INPUT** (pipeline ∘ aggregation loop).  Composition at the seam
    `readChan`: the pipeline's consumer IS the loop's main goroutine, so the batches the loop receives (`stream`)
    are, concatenated, what the pipeline model's consumer holds when it has seen the channel closed (`hseam`; on
    real runs the `atrace` op checks exactly this equation between the two halves of one event log).  Then, for
    every schedule of readers, workers, main and ticker, every batch size, every channel capacity: the last render
    shows a permutation of the matched lines of a sequential pass over the input – so for count-style aggregation
    by any key function the final per-key counts are the sequential counts – and the matched total shown next to it
    is the number of those lines. -/
theorem final_render_reflects_input {α : Type} [DecidableEq α] (cls : α → Pipeline.Cls) (R B K W : Nat) (hW : 1 ≤ W)
    (inputs : List (List (List α))) {ps : Pipeline.St α}
    (hp : Pipeline.Reach cls R B K (Pipeline.init inputs W) ps) (hd : ps.consDone = true)
    (stream : List (List α)) (hseam : stream.flatten = ps.consumed)
    {s : St α} (hr : Reach (init stream) s) (hm : s.main = .finished) :
    ∃ r, s.renders.getLast? = some r ∧
      r.Perm ((inputs.flatMap List.flatten).filter (Pipeline.isMatched cls)) ∧
      r.length = ps.nMatched ∧
      ∀ {κ' : Type} [DecidableEq κ'] (key : α → κ') (k : κ'),
        (r.map key).count k = (((inputs.flatMap List.flatten).filter (Pipeline.isMatched cls)).map key).count k := by
  have hinv := Pipeline.inv_reach (Pipeline.inv_init cls B K inputs W) hp
  have hne : ps.workers ≠ [] := by
    intro h
    have hlen := Pipeline.reach_workers_length hp
    rw [h] at hlen; simp [Pipeline.init] at hlen; omega
  have hfin := Pipeline.final_state hinv hne hd
  have hperm : stream.flatten.Perm ((inputs.flatMap List.flatten).filter (Pipeline.isMatched cls)) := by
    rw [hseam]; exact List.perm_iff_count.mpr hfin.1
  refine ⟨stream.flatten, final_render_sees_all stream hr hm, hperm, ?_, ?_⟩
  · rw [hperm.length_eq]; exact hfin.2.2.1.symm
  · intro κ' _ key k
    exact (hperm.map key).count_eq k

/-- Non-vacuity of `final_render_reflects_input`: one source with the two lines 1 (matched) and 2 (unmatched) in one
    batch, one worker; the pipeline run to the end, the loop run to the end on the one batch it receives. -/
example : ∃ (ps : Pipeline.St Nat) (s : St Nat),
    Pipeline.Reach (fun x => if x = 1 then .matched else .unmatched) 1 1 1 (Pipeline.init [[[1, 2]]] 1) ps ∧
    ps.consDone = true ∧ [[1]].flatten = ps.consumed ∧ Reach (init [[1]]) s ∧ s.main = .finished := by
  have hp : Pipeline.Reach (fun x => if x = 1 then Pipeline.Cls.matched else .unmatched) 1 1 1 (Pipeline.init [[[(1 : Nat), 2]]] 1) _ :=
    .step (.step (.step (.step (.step (.step (.step (.step (.step (.step (.step (.step .refl
      (.start _ 0 [[1, 2]] rfl (by decide))) (.send _ 0 [1, 2] [] rfl (by decide))) (.finish _ 0 rfl))
      (.closeC _ rfl rfl)) (.wrecv _ 0 [1, 2] [] rfl rfl)) (.wproc _ 0 1 [2] [] rfl)) (.wproc _ 0 2 [] _ rfl))
      (.wsend _ 0 [1] rfl (by decide) (by decide))) (.wexit _ 0 rfl rfl rfl)) (.closeRC _ rfl rfl))
      (.crecv _ [1] [] rfl rfl)) (.cdone _ rfl rfl rfl)
  have hr : Reach (init [[(1 : Nat)]]) _ :=
    .step (.step (.step (.step (.step (.step (.step (.step (.step (.refl (s0 := init [[(1 : Nat)]]))
    (.arrive _ [1] [] rfl)) (.close _ rfl rfl)) (.recv _ [1] [] rfl rfl)) (.mlock _ [1] rfl rfl))
    (.sample _ 1 [] rfl)) (.munlock _ rfl)) (.eof _ rfl rfl rfl))
    (.handshake _ rfl rfl)) (.final _ rfl)
  exact ⟨_, _, hp, rfl, rfl, hr, rfl⟩

/-! ## The signal path: Ctrl-C / SIGINT

`RunAggregationLoop` registers `signal.Notify(exitSignal, os.Interrupt)` and its processing loop selects between
`readChan` and `exitSignal`; a signal leaves the loop like the end of the input does (same hand-shake, same final
`writeOutput()`), without stopping the extractor.  `Model/C05Signal.lean`: the transition system above plus the step
`signal` (enabled whenever main is in its select).  With a signal the run still ends with a complete render – of
what has been RECEIVED, not of the whole input. -/

/-- Mutual exclusion of rendering and sampling holds on the signal path too. -/
theorem signal_render_sample_exclusive (stream : List (List κ)) {s : SSt κ} (hr : SReach (sinit stream) s) :
    ¬ (s.base.ticker = .rendering ∧ s.base.main.isSampling = true) :=
  have h := sinv_reach hr
  exclusive_of h.mainOwns h.tickOwns

/-- No deadlock: until the final render has happened some goroutine can move (in particular main blocked in
    `outputDone <- true` after a signal is always released: the ticker finishes its render and takes the hand-shake). -/
theorem signal_progress (stream : List (List κ)) {s : SSt κ} (hr : SReach (sinit stream) s)
    (hf : s.base.main ≠ .finished) : ∃ s', SStep s s' :=
  sprogress (sinv_reach hr) hf

/-- Termination under ticker fairness, signal included: every step other than the ticker's (and, after a signal,
    the extractor's, whose output nobody reads any more) strictly decreases a measure; those steps change neither
    main nor the aggregator. -/
theorem signal_measure (stream : List (List κ)) {s s' : SSt κ} (hr : SReach (sinit stream) s) (hs : SStep s s') :
    smeasure s' < smeasure s ∨ (smeasure s' = smeasure s ∧ s'.base.main = s.base.main ∧ s'.base.sampled = s.base.sampled) :=
  sstep_measure hs (sinv_reach hr).sig

/-- Ends with a complete render, signal or not: when main has finished, the ticker goroutine has returned, nobody
    holds the mutex, the last `writeOutput()` saw the aggregator's final state, that state holds EVERY match main
    took off the channel (no batch is half-sampled), it is a prefix of the matches of the input – and it is all of
    them when no signal arrived. -/
theorem signal_final_render (stream : List (List κ)) {s : SSt κ} (hr : SReach (sinit stream) s)
    (hm : s.base.main = .finished) :
    s.base.ticker = .stopped ∧ s.base.mutex = .none ∧ s.base.renders.getLast? = some s.base.sampled ∧
    s.base.sampled = s.base.received ∧ s.base.sampled <+: stream.flatten ∧
    (s.signalled = false → s.base.sampled = stream.flatten) := by
  have h := sinv_reach hr
  have hst := h.stopped.mpr (Or.inr hm)
  exact ⟨hst, mutex_none_of h.mainOwns h.tickOwns hst (by rw [hm]; rfl), h.last hm,
    sampled_eq_received h (Or.inr (Or.inr (Or.inl hm))), ssampled_prefix h,
    fun hs => (h.drained (Or.inr (Or.inr hm)) hs).1⟩

/-- Every render on the signal path saw a prefix of the input's matches (counts never exceed the full counts). -/
theorem signal_renders_are_prefixes [DecidableEq κ] (stream : List (List κ)) {s : SSt κ} (hr : SReach (sinit stream) s) :
    ∀ r ∈ s.base.renders, r <+: stream.flatten ∧ ∀ k, r.count k ≤ stream.flatten.count k := by
  intro r hmem
  have hp := (sinv_reach hr).prefixes r hmem
  exact ⟨hp, fun k => hp.sublist.count_le k⟩

/-- The runs without a signal are exactly the runs of the transition system of the first section (so everything
    proved there – the final render sees ALL matches – is about them). -/
theorem signal_free_runs_are_base (stream : List (List κ)) (b : St κ) :
    SReach (sinit stream) ⟨b, false⟩ ↔ Reach (init stream) b :=
  ⟨fun h => sreach_unsignalled h rfl, reach_sreach⟩

/-- Boundary: with a signal "final output reflects all matches" does NOT hold (and is not claimed by the code): a
    signal right after the first batch ends the run with a final render of that batch only. -/
theorem signal_final_partial_counterexample :
    ∃ s : SSt Nat, SReach (sinit [[1], [2]]) s ∧ s.base.main = .finished ∧ s.signalled = true ∧
      s.base.renders.getLast? = some [1] ∧ s.base.sampled ≠ [[1], [2]].flatten := by
  have hr : SReach (sinit [[(1 : Nat)], [2]]) _ :=
    .step (.step (.step (.step (.step (.step (.step (.step (.refl (s0 := sinit [[(1 : Nat)], [2]]))
    (.base _ _ (.arrive _ [1] [[2]] rfl))) (.base _ _ (.recv _ [1] [] rfl rfl))) (.base _ _ (.mlock _ [1] rfl rfl)))
    (.base _ _ (.sample _ 1 [] rfl))) (.base _ _ (.munlock _ rfl))) (.signal _ rfl))
    (.base _ _ (.handshake _ rfl rfl))) (.base _ _ (.final _ rfl))
  exact ⟨_, hr, rfl, rfl, by decide, by decide⟩

/-! ## pkg/logger: errors reported by several goroutines while the terminal is live

`Model/C05Logger.lean`: any number of printing goroutines (`RLock; logger.Print…; RUnlock`), one goroutine calling
`DeferLogs` / `ImmediateLogs` (`Lock; …; Unlock`), every interleaving of their atomic steps. -/

/-- Exclusion: while `DeferLogs` / `ImmediateLogs` holds the lock (switching the logger, flushing the buffer to
    stderr) no goroutine is between its `RLock` and `RUnlock`, i.e. nobody prints into the buffer being flushed. -/
theorem logger_flush_excludes_printers (script : Nat → List String) (ctl : List C05Logger.Ctl) {s : C05Logger.St}
    (hr : C05Logger.Reach (C05Logger.init script ctl) s) (hw : s.writer.isSome = true) : ∀ i, (s.pr i).pc = 0 :=
  (C05Logger.inv_reach hr).excl hw

/-- Atomicity / nothing lost: in every reachable state stderr followed by the deferred buffer is exactly the
    messages printed so far, whole and in the order they were printed; the buffer is empty unless logs are deferred;
    and for every goroutine, what it has printed followed by what it still has to print is what it was given –
    no message is lost, duplicated or reordered within a goroutine, however many goroutines report errors. -/
theorem logger_nothing_lost (script : Nat → List String) (ctl : List C05Logger.Ctl) {s : C05Logger.St}
    (hr : C05Logger.Reach (C05Logger.init script ctl) s) :
    s.err ++ s.buf = s.emitted ∧ (s.deferred = false → s.buf = []) ∧
    ∀ i, C05Logger.printedBy s.emitted i ++ (s.pr i).todo = script i :=
  let h := C05Logger.inv_reach hr
  ⟨h.emit, h.bufNil, h.per⟩

/-- The deferred log is printed completely: once every goroutine has printed what it had to and the logger is back
    in immediate mode (`ImmediateLogs` in the command's `After` hook), stderr holds every message of every goroutine,
    each goroutine's messages in its program order, and the buffer is empty. -/
theorem logger_final_flush_complete (script : Nat → List String) (ctl : List C05Logger.Ctl) {s : C05Logger.St}
    (hr : C05Logger.Reach (C05Logger.init script ctl) s) (hdone : ∀ i, (s.pr i).todo = [])
    (himm : s.deferred = false) : s.buf = [] ∧ s.err = s.emitted ∧ ∀ i, C05Logger.printedBy s.err i = script i := by
  have h := C05Logger.inv_reach hr
  have hb := h.bufNil himm
  have he : s.err = s.emitted := by have := h.emit; rw [hb] at this; simpa using this
  refine ⟨hb, he, fun i => ?_⟩
  have := h.per i
  rw [hdone i] at this
  rw [he]; simpa using this

/-- `ImmediateLogs` itself: the whole buffer goes to stderr in one piece, behind what is already there, and the
    logger is in immediate mode afterwards. -/
theorem logger_immediate_flushes (s : C05Logger.St) :
    (C05Logger.ctlBody s .immediate).err ++ (C05Logger.ctlBody s .immediate).buf = s.err ++ s.buf ∧
    (C05Logger.ctlBody s .immediate).deferred = false ∧
    (s.deferred = true → (C05Logger.ctlBody s .immediate).buf = []) :=
  C05Logger.ctlBody_immediate s

/-- Non-vacuity: DeferLogs; goroutine 0 reports "e1" (it lands in the buffer, stderr stays empty); ImmediateLogs:
    the message is on stderr, the buffer is empty, everybody is done. -/
example : C05Logger.Reach C05Logger.Demo.t0 C05Logger.Demo.t7 ∧ (∀ i, (C05Logger.Demo.t7.pr i).todo = []) ∧
    C05Logger.Demo.t7.deferred = false ∧ C05Logger.Demo.t7.err = [(0, "e1")] ∧ C05Logger.Demo.t7.buf = [] ∧
    C05Logger.Demo.t4.buf = [(0, "e1")] ∧ C05Logger.Demo.t4.err = [] :=
  C05Logger.Demo.demo

/-! ## Close-after-WaitGroup, and what the status line shows once the batch channel is closed

`OpenFilesToChan` / `TailFilesToChan`: a reader goroutine's deferred exit block is `out.stopFileReading(name)` and
THEN `wg.Done()`; the spawner does `wg.Wait(); out.close()`.  `Model/C05Close.lean`.

Until /repo 7025f4b the two calls stood in the other order and the statement below did NOT hold (finding "closelag",
reproduced on the real `OpenFilesToChan`: about 1 run in 300 showed `[5/6] … | f5` right after the batch channel was
closed); `close_status_lag_counterexample` keeps that fact as a theorem about the OLD order, the corpus case
`C05 closelag 6 3 6000` re-runs the search on the real code. -/

/-- **A closed batch channel implies a complete status**, for any number of readers and any interleaving: with the
    exit block of the source (`stopFileReading`, then `wg.Done()`; `close` only after every `wg.Done()`), once the
    channel is closed no file is listed as active and all `n` are counted as read. -/
theorem close_status_complete (n : Nat) {s : C05Close.St}
    (hr : C05Close.Reach C05Close.code (C05Close.init n) s) (hc : s.closed = true) :
    C05Close.active C05Close.code s = 0 ∧ C05Close.readCount C05Close.code s = n :=
  C05Close.closed_status_complete (by decide) hr hc

/-- Whatever the order of the two exit actions: the status is complete once every reader goroutine has left its
    exit block (this is all that held of the old order). -/
theorem close_status_complete_when_quiescent (c : C05Close.Cfg) (hc : c.stoppedAt ≤ 2) (n : Nat) {s : C05Close.St}
    (hr : C05Close.Reach c (C05Close.init n) s)
    (hq : ∀ p ∈ s.pcs, p = 2) : C05Close.active c s = 0 ∧ C05Close.readCount c s = n :=
  C05Close.quiescent_status_complete c hc hr hq

/-- Counterexample for the OLD order (`wg.Done()`, then `stopFileReading`; the source before /repo 7025f4b): two
    readers; both have called `wg.Done()`, the channel gets closed, one of them has not yet reached
    `stopFileReading`: the status shows one active file and 1/2 read after the close. -/
theorem close_status_lag_counterexample :
    ∃ s : C05Close.St, C05Close.Reach C05Close.oldOrder (C05Close.init 2) s ∧ s.closed = true ∧
      C05Close.active C05Close.oldOrder s = 1 ∧ C05Close.readCount C05Close.oldOrder s = 1 := by
  have r1 : C05Close.Reach C05Close.oldOrder (C05Close.init 2) ⟨[1, 0], false⟩ :=
    .step .refl (.adv (C05Close.init 2) 0 (by decide) (by decide))
  have r2 : C05Close.Reach C05Close.oldOrder (C05Close.init 2) ⟨[1, 1], false⟩ :=
    .step r1 (.adv ⟨[1, 0], false⟩ 1 (by decide) (by decide))
  have r3 : C05Close.Reach C05Close.oldOrder (C05Close.init 2) ⟨[1, 1], true⟩ :=
    .step r2 (.close ⟨[1, 1], false⟩ rfl (by decide))
  have r4 : C05Close.Reach C05Close.oldOrder (C05Close.init 2) ⟨[2, 1], true⟩ :=
    .step r3 (.adv ⟨[1, 1], true⟩ 0 (by decide) (by decide))
  exact ⟨_, r4, rfl, by decide, by decide⟩

/-- Non-vacuity of `close_status_complete`: the same two readers under the order of the source – the channel can
    only be closed in the state in which both have finished the whole exit block. -/
example : ∃ s : C05Close.St, C05Close.Reach C05Close.code (C05Close.init 2) s ∧ s.closed = true ∧ s.pcs = [2, 2] := by
  have r1 : C05Close.Reach C05Close.code (C05Close.init 2) ⟨[1, 0], false⟩ :=
    .step .refl (.adv (C05Close.init 2) 0 (by decide) (by decide))
  have r2 : C05Close.Reach C05Close.code (C05Close.init 2) ⟨[1, 1], false⟩ :=
    .step r1 (.adv ⟨[1, 0], false⟩ 1 (by decide) (by decide))
  have r3 : C05Close.Reach C05Close.code (C05Close.init 2) ⟨[2, 1], false⟩ :=
    .step r2 (.adv ⟨[1, 1], false⟩ 0 (by decide) (by decide))
  have r4 : C05Close.Reach C05Close.code (C05Close.init 2) ⟨[2, 2], false⟩ :=
    .step r3 (.adv ⟨[2, 1], false⟩ 1 (by decide) (by decide))
  exact ⟨_, .step r4 (.close ⟨[2, 2], false⟩ rfl (by decide)), rfl, rfl⟩

/-- The order the model's `code` configuration stands for is the order in the source, in both batchers: the
    deferred exit block is `[<-sema;] out.stopFileReading(…); wg.Done()` and these are the only calls of the two
    in the function; and both channels (`Batcher.c`, `Extractor.readChan`) are closed right after `wg.Wait()` by
    the goroutine that waited – the only `close` of each (no send on a closed channel: senders are counted by the
    WaitGroup).  Swapping the two calls back breaks this theorem. -/
theorem close_after_waitgroup_skeleton :
    ["defer{", "recv:sema", "call:out.stopFileReading", "call:wg.Done", "}"] <:+: Gen.Skeleton.openFilesToChan ∧
    ["defer{", "call:out.stopFileReading", "call:wg.Done", "}"] <:+: Gen.Skeleton.tailFilesToChan ∧
    Gen.Skeleton.openFilesToChan.count "call:wg.Done" = 1 ∧ Gen.Skeleton.openFilesToChan.count "call:out.stopFileReading" = 1 ∧
    Gen.Skeleton.tailFilesToChan.count "call:wg.Done" = 1 ∧ Gen.Skeleton.tailFilesToChan.count "call:out.stopFileReading" = 1 ∧
    ["call:wg.Wait", "call:out.close"] <:+: Gen.Skeleton.openFilesToChan ∧
    ["call:wg.Wait", "call:out.close"] <:+: Gen.Skeleton.tailFilesToChan ∧
    ["call:wg.Wait", "close:extractor.readChan"] <:+: Gen.Skeleton.extractorNew ∧
    Gen.Skeleton.batcherClose = ["close:s.c"] ∧
    (Gen.Skeleton.openFilesToChan.filter (· == "call:out.close")).length = 1 ∧
    (Gen.Skeleton.tailFilesToChan.filter (· == "call:out.close")).length = 1 ∧
    (Gen.Skeleton.extractorNew.filter (· == "close:extractor.readChan")).length = 1 := by
  decide +kernel

/-! ### The whole reader goroutine as a program of bookkeeping actions (`Model/C05CloseProg.lean`)

A reader's program = its body (`incErrors` | `startFileReading`, then `send batch; incReadBytes` per batch) followed
by the deferred exit block, and the exit block is READ OFF the regenerated skeleton (`C05Prog.exitOf`).  The status
observables are a fold over the executed actions, faithful to `stopFileReading`.  Correspondence: op `closeord`
(the real batchers under a forced schedule, observed on the spawner goroutine right before `close(s.c)`). -/

/-- The deferred exit block of the reader goroutines in both batchers, as the source has it. -/
theorem close_exit_block_from_source :
    C05Prog.exitOf Gen.Skeleton.openFilesToChan = [.stop, .done] ∧
    C05Prog.exitOf Gen.Skeleton.tailFilesToChan = [.stop, .done] := by
  decide +kernel

private theorem exit_block_of_source {skel : List String}
    (hsk : skel = Gen.Skeleton.openFilesToChan ∨ skel = Gen.Skeleton.tailFilesToChan) :
    C05Prog.exitOf skel = [.stop, .done] := by
  rcases hsk with rfl | rfl
  · exact close_exit_block_from_source.1
  · exact close_exit_block_from_source.2

/-- … and the bodies: a failed open is `incErrors; return`, otherwise `startFileReading` and the sync loop, in which
    every send on the batch channel is directly followed by its `incReadBytes` (both loops, both sends). -/
theorem close_reader_body_skeleton :
    ["}", "call:out.incErrors", "return", "defer:file.Close", "call:out.startFileReading", "call:out.syncReaderToBatcher", "}"]
      <:+: Gen.Skeleton.openFilesToChan ∧
    ["}", "call:out.incErrors", "return", "call:out.incErrors", "call:out.startFileReading",
      "call:out.syncReaderToBatcherWithTimeFlush", "}"] <:+: Gen.Skeleton.tailFilesToChan ∧
    Gen.Skeleton.syncReaderToBatcher.drop 3 =
      ["for{", "call:readahead.Scan", "send:s.c", "call:s.incReadBytes", "}", "send:s.c", "call:s.incReadBytes"] ∧
    Gen.Skeleton.syncReaderToBatcherWithTimeFlush = Gen.Skeleton.syncReaderToBatcher := by
  decide +kernel

/-- **Closed ⇒ every reader has executed ALL its bookkeeping**, whatever its body did (open error, drain error, read
    errors, any number of batches), for any number of readers and every interleaving: with the exit block of the
    source, once the batch channel is closed each reader's executed actions are its whole program. -/
theorem close_all_bookkeeping_complete (skel : List String)
    (hsk : skel = Gen.Skeleton.openFilesToChan ∨ skel = Gen.Skeleton.tailFilesToChan)
    (bodies : List (List C05Prog.Act)) (hb : ∀ b ∈ bodies, C05Prog.Act.done ∉ b) {s : C05Prog.St}
    (hr : C05Prog.Reach (C05Prog.init (bodies.map (· ++ C05Prog.exitOf skel))) s) (hc : s.closed = true) :
    s.rs.map (·.exec) = bodies.map (· ++ [.stop, .done]) ∧ ∀ r ∈ s.rs, r.todo = [] := by
  rw [exit_block_of_source hsk] at hr
  refine C05Prog.closed_all_executed ?_ hr hc
  intro p hp
  obtain ⟨b, hbm, rfl⟩ := List.mem_map.mp hp
  refine ⟨b ++ [.stop], by simp, ?_⟩
  have := hb b hbm
  simp [this]

/-- **Closed ⇒ complete status, all of it**: for any set of sources (`none` = the open fails, `some bs` = read as
    batches of `bs` bytes) once the batch channel is closed no file is listed as active, every opened source is
    counted as read, every failed open as an error, and `readBytes` is the bytes of all batches – all of which
    have been handed to the channel. -/
theorem close_program_complete (skel : List String)
    (hsk : skel = Gen.Skeleton.openFilesToChan ∨ skel = Gen.Skeleton.tailFilesToChan)
    (fs : List C05Prog.Src) {s : C05Prog.St}
    (hr : C05Prog.Reach (C05Prog.init (fs.map (C05Prog.prog (C05Prog.exitOf skel)))) s) (hc : s.closed = true) :
    C05Prog.active s = 0 ∧ C05Prog.readCount s = C05Prog.present fs ∧ C05Prog.errors s = C05Prog.missing fs ∧
    C05Prog.readBytes s = C05Prog.totalBytes fs ∧ C05Prog.sentBytes s = C05Prog.totalBytes fs := by
  rw [exit_block_of_source hsk] at hr
  exact C05Prog.closed_status_complete fs hr hc

/-- **While the readers run** (every reachable state, not only the closed ones): the byte counter of the status line
    is never ahead of the bytes that have been handed to the batch channel (`incReadBytes` follows its send: with an
    unbuffered channel the consumer has received at least `readBytes` bytes – op `closeord`, field `ahead`), and
    listed-as-active plus counted-as-read never exceeds the number of sources (no source is shown in both roles or
    counted twice). -/
theorem close_running_status_bounds (skel : List String)
    (hsk : skel = Gen.Skeleton.openFilesToChan ∨ skel = Gen.Skeleton.tailFilesToChan)
    (fs : List C05Prog.Src) {s : C05Prog.St}
    (hr : C05Prog.Reach (C05Prog.init (fs.map (C05Prog.prog (C05Prog.exitOf skel)))) s) :
    C05Prog.readBytes s ≤ C05Prog.sentBytes s ∧ C05Prog.active s + C05Prog.readCount s ≤ fs.length := by
  rw [exit_block_of_source hsk] at hr
  exact C05Prog.running_status_bounds [.stop, .done] (by simp) fs hr

/-- Boundary, for EVERY set of sources: with the exit block in the order before /repo 7025f4b (`wg.Done()`, then
    `stopFileReading`) there is a run that closes the channel while every opened source is still listed as active
    and none is counted as read – the schedule op `closeord` forces on the real code (`lag=6` of 6 there). -/
theorem close_old_order_lags_all_readers (fs : List C05Prog.Src) :
    ∃ s, C05Prog.Reach (C05Prog.init (fs.map (C05Prog.prog [.done, .stop]))) s ∧ s.closed = true ∧
      C05Prog.active s = C05Prog.present fs ∧ C05Prog.readCount s = 0 :=
  C05Prog.old_order_lags fs

/-- Non-vacuity: two sources (one read as two batches, one that cannot be opened) – a closed state is reachable with
    the program of the source, and it shows 0 active, 1 read, 1 error, 12 bytes. -/
example : ∃ s, C05Prog.Reach (C05Prog.init ([some [5, 7], none].map (C05Prog.prog (C05Prog.exitOf Gen.Skeleton.openFilesToChan)))) s ∧
    s.closed = true ∧ C05Prog.readCount s = 1 ∧ C05Prog.errors s = 1 ∧ C05Prog.readBytes s = 12 := by
  rw [close_exit_block_from_source.1]
  have h0 : C05Prog.Reach (C05Prog.init ([some [5, 7], none].map (C05Prog.prog [.stop, .done])))
      ⟨[] ++ ⟨[], [.opened, .send 5, .inc 5, .send 7, .inc 7, .stop, .done] ++ []⟩ :: [⟨[], [.err, .stop, .done]⟩], false⟩ := .refl
  have h1 := C05Prog.reach_run _ _ _ _ _ _ h0
  have h2 : C05Prog.Reach _ ⟨[⟨[.opened, .send 5, .inc 5, .send 7, .inc 7, .stop, .done], []⟩] ++
      ⟨[], [.err, .stop, .done] ++ []⟩ :: [], false⟩ := h1
  have h3 := C05Prog.reach_run _ _ _ _ _ _ h2
  have h4 := C05Prog.Reach.step h3 (.close _ rfl (by decide))
  have hc := C05Prog.closed_status_complete [some [5, 7], none] h4 rfl
  exact ⟨_, h4, rfl, hc.2.1, hc.2.2.1, hc.2.2.2.1⟩

/-! ### `[read/total]`: the spawner side of the status line (Model/C05Spawner.lean, Proofs/C05Spawner.lean)

The goroutine of `OpenFilesToChan` that starts the readers: names reach `bufferedFilenames` (`push`), the range loop
receives one (`recv`), `out.setSourceCount(readCount + len(bufferedFilenames))` (`measure`: the length is whatever it
is at that moment), `go` (`spawn`); readers run `stopFileReading` (`finish`); `wg.Wait(); out.close()` (`close`).
All interleavings, any number `n` of names. -/

/-- **The prefix `[read/total]` never shows more files read than there are**: in every reachable state
    `readCount ≤ readers that stopped ≤ readers started ≤ sourceCount ≤ names that reached the buffer ≤ n`. -/
theorem status_read_le_total {n : Nat} {s : C05Spawner.St} (h : C05Spawner.Reach n s) :
    s.read ≤ s.stopped ∧ s.stopped ≤ s.spawned ∧ s.spawned ≤ s.total ∧ s.total ≤ s.pushed ∧ s.pushed ≤ n := by
  have hi := C05Spawner.inv_reach h
  exact ⟨hi.rs, hi.ss, C05Spawner.spawned_le_total h, hi.totp, hi.pn⟩

/-- **Neither number of the prefix ever goes down**: every step keeps or raises `sourceCount` (the measured
    `readCount + len(bufferedFilenames)` is the number of names that reached the buffer so far) and `readCount`. -/
theorem status_total_monotone {n : Nat} {s s' : C05Spawner.St} (h : C05Spawner.Reach n s)
    (hs : C05Spawner.Step n s s') : s.total ≤ s'.total ∧ s.read ≤ s'.read := by
  refine ⟨C05Spawner.total_mono h hs, ?_⟩
  cases hs <;> simp

/-- **At the close the prefix is complete**: once the batch channel is closed, `sourceCount` = the number of names,
    every reader was started and has run `stopFileReading` (the prefix reads `[opened files/n]`). -/
theorem status_total_complete {n : Nat} {s : C05Spawner.St} (h : C05Spawner.Reach n s) (hc : s.closed = true) :
    s.total = n ∧ s.spawned = n ∧ s.stopped = n ∧ s.read ≤ n := by
  obtain ⟨h1, h2, h3, h4⟩ := C05Spawner.closed_only_by_close h hc
  have hi := C05Spawner.inv_reach h
  have := hi.top h1
  have := hi.totp; have := hi.rs
  omega

/-- The loop body in the regenerated skeleton: semaphore, `wg.Add`, `setSourceCount`, then the `go` statement – the
    count is published BEFORE the reader it counts can stop (hence `spawned ≤ total`); one `setSourceCount` call. -/
theorem status_spawner_skeleton :
    ["range:bufferedFilenames{", "send:sema", "call:wg.Add", "call:out.setSourceCount", "go{"] <:+:
      Gen.Skeleton.openFilesToChan ∧
    Gen.Skeleton.openFilesToChan.count "call:out.setSourceCount" = 1 ∧
    ["call:wg.Wait", "call:out.close", "}", "return"] <:+ Gen.Skeleton.openFilesToChan := by
  decide +kernel

/-- Boundary: publishing the count AFTER the `go` statement would break `read ≤ total` – the hypothesis `Reach` (whose
    `spawn` needs `pc = measured`) matters: the state "one reader started and stopped, nothing measured yet" violates the
    bound and is not reachable. -/
example : ¬ C05Spawner.Reach 1 { pushed := 1, taken := 1, spawned := 1, stopped := 1, read := 1, pc := .received } := by
  intro h
  have := (status_read_le_total h).2.2.1
  simp at this

/-- Non-vacuity: a run over two names (one opened, one missing), the second name arriving after the first measurement:
    the total goes 0 → 1 → 2, the run closes with `[1/2]`. -/
example : ∃ s : C05Spawner.St, C05Spawner.Reach 2 s ∧ s.closed = true ∧ s.total = 2 ∧ s.read = 1 := by
  have h := C05Spawner.Reach.step (.step (.step (.step (.step (.step (.step (.step (.step (.step (.step
    (C05Spawner.Reach.init (n := 2))
    (.push _ (by decide))) (.recv _ rfl (by decide))) (.measure _ rfl)) (.spawn _ rfl))
    (.push _ (by decide))) (.finish _ true (by decide))) (.recv _ rfl (by decide))) (.measure _ rfl)) (.spawn _ rfl))
    (.finish _ false (by decide))) (.close _ rfl rfl rfl rfl rfl)
  exact ⟨_, h, rfl, rfl, rfl⟩

/-- The aggregation-loop skeleton regenerated from /repo is the one the transition system models. -/
theorem skeleton_matches_source :
    Gen.Skeleton.runAggregationLoop = PipelineSkeleton.runAggregationLoop := rfl

/-- … and in it the signal branch is what `SStep.signal` models: a `select` case on `exitSignal` (a channel of
    capacity 1, as `signal.Notify` needs) that only leaves the loop, sitting next to the `readChan` case; the
    hand-shake and the final `writeOutput()` follow the loop whichever case left it. -/
theorem skeleton_signal_branch :
    ["select{", "recv:exitSignal", "break:PROCESSING_LOOP", "recv:reader"] <:+: Gen.Skeleton.runAggregationLoop ∧
    ["send:outputDone", "call:writeOutput"] <:+ Gen.Skeleton.runAggregationLoop ∧
    "makechan:1" ∈ Gen.Skeleton.runAggregationLoop := by
  decide +kernel

/-! ## Data races: lockset discipline over the access tables regenerated from /repo

`Gen.Access` (harness/extract/access.go, go/types): every field of every object that more than one
goroutine touches, every access site with the object accessed (the field variable or its REFERENT –
backing array / map / pointee / closure – directly, through a local alias, or by a reference that
escapes the function), the mutex held at that site, atomicity, and ordering edges.  `Model/Lockset.lean`
says what the check means and why it implies data-race freedom in the Go memory model. -/

/-- Lockset discipline: every conflicting pair of accesses (same field variable or same referent region,
    at least one a write) to the shared state of `Batcher`, `Extractor`, `ExpressionIgnoreSet`,
    `ObjectPool`, the logger and `pkg/multiterm`'s package state is atomic on both sides, or holds the
    common mutex (at least one side exclusively) at the site of the access, or is ordered by a `go`
    statement / terminating hand-shake; and the same for the variables `RunAggregationLoop` shares with its
    ticker goroutine.  All fields are covered (the extractor enumerates them with go/types). -/
theorem lockset_ok :
    Lockset.raceFree Gen.Access.batcherCtors Gen.Access.batcher = true ∧
    Lockset.raceFree Gen.Access.extractorCtors Gen.Access.extractor = true ∧
    Lockset.raceFree Gen.Access.ignoreSetCtors Gen.Access.ignoreSet = true ∧
    Lockset.raceFree Gen.Access.objectPoolCtors Gen.Access.objectPool = true ∧
    Lockset.raceFree Gen.Access.loggerCtors Gen.Access.logger = true ∧
    Lockset.raceFree Gen.Access.multitermGlobalsCtors Gen.Access.multitermGlobals = true ∧
    Lockset.raceFreeRoles Gen.Access.aggLoop = true := by
  decide +kernel

/-- State shared by all workers evaluating one compiled expression: every variable a stage builder of
    pkg/expressions/stdlib or pkg/expressions/funcfile hands to the closure it returns (argument stages, parsed
    constants, per-stage context pools, the cached date format) is, inside the closures – which every worker
    runs, concurrently with itself –, only read, or touched through sync/atomic, or through an `ObjectPool`
    (race free by its own table above); and the same for the package-level state of pkg/expressions/stdlib
    (`subContextPool`, the function tables).  The builders' own bodies run at compile time, before the closure
    exists for anybody else. -/
theorem lockset_stage_state :
    Lockset.raceFreeClosures Gen.Access.stageState = true ∧
    Lockset.raceFreeClosures Gen.Access.stageStateFuncfile = true ∧
    Lockset.raceFree Gen.Access.stdlibGlobalsCtors Gen.Access.stdlibGlobals = true ∧
    Gen.Access.stdlibGlobalsCtors = ["init"] ∧
    Lockset.raceFreeClosures Gen.Access.stageStateExpressions = true ∧
    Lockset.raceFreeClosures Gen.Access.stageStateStdmath = true ∧
    Lockset.raceFree Gen.Access.compiledKeyBuilderCtors Gen.Access.compiledKeyBuilder = true ∧
    Gen.Access.compiledKeyBuilderCtors = ["KeyBuilder.Compile", "optimize"] ∧
    Lockset.raceFree Gen.Access.expressionsGlobalsCtors Gen.Access.expressionsGlobals = true ∧
    Lockset.raceFree Gen.Access.stdmathGlobalsCtors Gen.Access.stdmathGlobals = true ∧
    Gen.Access.expressionsGlobalsCtors = ["init"] ∧ Gen.Access.stdmathGlobalsCtors = ["init"] := by
  decide +kernel

/-- EVERY closure-captured variable of the expression stages (pkg/expressions/stdlib, funcfile, pkg/expressions,
    stdmath; captured at build time, used at evaluation time, variables of builder literals nested in a factory
    included) follows one of three disciplines at evaluation time: it is only read (`immutable`), or it is a context
    pool whose only writes are `ObjectPool.Get/Return` (`pooled`: exactly the `{! …}` pool and the user-function
    pool; `subContextPool` of @map/@reduce/@for/@filter is package state, below), or every write goes through
    sync/atomic (`atomic`: exactly the two date-format memories of {time}).  No captured variable is `mutable`
    (plainly written at evaluation time).  The captured variables that are declared inside a stage, hence made
    afresh by every evaluation (per-call locals holding a pooled object), are exactly `kfArrayMap.mapperContext`;
    and these packages start no goroutine, so a per-call closure never reaches a second goroutine.
    (seeded/C05-map-shared-subcontext turns `mapperContext` from per-call into a captured per-build variable whose
    pointee is written by `Eval` at evaluation time; seeded/C10-joinstages-shared-buf adds the captured `scratch`.) -/
theorem lockset_stage_classes :
    Lockset.ofClass Gen.Access.stageStateFields Gen.Access.stageState "mutable" = [] ∧
    Lockset.ofClass Gen.Access.stageStateFuncfileFields Gen.Access.stageStateFuncfile "mutable" = [] ∧
    Lockset.ofClass Gen.Access.stageStateExpressionsFields Gen.Access.stageStateExpressions "mutable" = [] ∧
    Lockset.ofClass Gen.Access.stageStateStdmathFields Gen.Access.stageStateStdmath "mutable" = [] ∧
    Lockset.ofClass Gen.Access.stageStateFields Gen.Access.stageState "pooled" = ["kfMath.ctxPool"] ∧
    Lockset.ofClass Gen.Access.stageStateFuncfileFields Gen.Access.stageStateFuncfile "pooled" = ["keyBuilderToFunction.ctxPool"] ∧
    Lockset.ofClass Gen.Access.stageStateFields Gen.Access.stageState "atomic" =
      ["smartDateParseWrapper.atomicFormat", "smartDateParseWrapper.staticFormat"] ∧
    Lockset.ofClass Gen.Access.stageStateFuncfileFields Gen.Access.stageStateFuncfile "atomic" = [] ∧
    (Lockset.stageClasses Gen.Access.stageStateExpressionsFields Gen.Access.stageStateExpressions).all (fun p => p.2 == "immutable") = true ∧
    Gen.Access.stageStatePerCall = ["kfArrayMap.mapperContext"] ∧ Gen.Access.stageStateFuncfilePerCall = [] ∧
    Gen.Access.stageStateExpressionsPerCall = [] ∧ Gen.Access.stageStateStdmathPerCall = [] ∧
    Gen.Access.spawns.lookup "pkg/expressions/stdlib" = some [] ∧ Gen.Access.spawns.lookup "pkg/expressions/funcfile" = some [] ∧
    Gen.Access.spawns.lookup "pkg/expressions" = some [] ∧ Gen.Access.spawns.lookup "pkg/expressions/stdmath" = some [] := by
  decide +kernel

/-- What a class means for the race check (for all tables, not only the generated ones): a closure table none of
    whose captured variables is `mutable` … has no plain write at evaluation time at all. -/
theorem stage_class_not_mutable_iff (accs : List Gen.Access.Acc) (f : String) :
    Lockset.stageClass accs f ≠ "mutable" ↔
      ∀ a ∈ accs, a.depth ≠ 0 → a.field = f → a.write = true → a.atomic = true :=
  Lockset.stageClass_not_mutable_iff accs f

/-- The package state the stages share (`subContextPool`, the function / format tables of stdlib, the operator
    tables of stdmath, the error values of pkg/expressions): outside `init` the only writes are the
    `ObjectPool.Get/Return` calls on `subContextPool`; and the compiled expression itself (`CompiledKeyBuilder.stages`)
    is written by nothing but `Compile` and `optimize`, which build it. -/
theorem lockset_stage_globals :
    ((Lockset.shared Gen.Access.stdlibGlobalsCtors Gen.Access.stdlibGlobals).all fun a =>
      !a.write || (a.field == "subContextPool" && a.atomic && a.how.startsWith "call:slicepool.ObjectPool.")) = true ∧
    ((Lockset.shared Gen.Access.stdmathGlobalsCtors Gen.Access.stdmathGlobals).all fun a => !a.write || a.atomic) = true ∧
    ((Lockset.shared Gen.Access.expressionsGlobalsCtors Gen.Access.expressionsGlobals).all fun a => !a.write) = true ∧
    ((Lockset.shared Gen.Access.compiledKeyBuilderCtors Gen.Access.compiledKeyBuilder).all fun a => !a.write) = true := by
  decide +kernel

/-- Non-vacuity / boundary: with the access records the two seeded changes produce (the table rows the extractor
    emits on those trees) the class of the variable becomes `mutable` and the race check fails, naming it. -/
example :
    Lockset.stageClass (⟨"kfArrayMap$2", "kfArrayMap.mapperContext", "kfArrayMap.mapperContext", "ref", true, false, "", "", "", 1, "direct", [], 149⟩
      :: Gen.Access.stageState) "kfArrayMap.mapperContext" = "mutable" ∧
    Lockset.raceFreeClosures (⟨"kfArrayMap$2", "kfArrayMap.mapperContext", "kfArrayMap.mapperContext", "ref", true, false, "", "", "", 1, "direct", [], 149⟩
      :: Gen.Access.stageState) = false ∧
    Lockset.stageClass (⟨"CompiledKeyBuilder.joinStages$1", "CompiledKeyBuilder.joinStages.scratch", "CompiledKeyBuilder.joinStages.scratch", "var", true, false, "", "", "", 1, "direct", [], 204⟩
      :: Gen.Access.stageStateExpressions) "CompiledKeyBuilder.joinStages.scratch" = "mutable" ∧
    Lockset.raceFreeClosures (⟨"CompiledKeyBuilder.joinStages$1", "CompiledKeyBuilder.joinStages.scratch", "CompiledKeyBuilder.joinStages.scratch", "var", true, false, "", "", "", 1, "direct", [], 204⟩
      :: Gen.Access.stageStateExpressions) = false :=
  ⟨Lockset.stageClass_cons_plain_write _ Nat.one_ne_zero rfl rfl,
   Lockset.raceFreeClosures_cons_plain_write _ Nat.one_ne_zero rfl rfl rfl List.not_mem_nil,
   Lockset.stageClass_cons_plain_write _ Nat.one_ne_zero rfl rfl,
   Lockset.raceFreeClosures_cons_plain_write _ Nat.one_ne_zero rfl rfl rfl List.not_mem_nil⟩

/-- Non-vacuity: the stage tables do contain shared writes that need (and have) protection – the context
    pools' Get/Return and nothing unprotected –, and a stage that wrote a captured variable plainly
    (a memo) would be flagged. -/
example : (Gen.Access.stageState.any fun a => a.depth != 0 && a.write && a.atomic) = true ∧
    Lockset.raceFreeClosures (⟨"kfX$1", "kfX.memo", "kfX.memo", "var", true, false, "", "", "", 1, "direct", [], 1⟩
      :: Gen.Access.stageState) = false :=
  ⟨by decide +kernel, Lockset.raceFreeClosures_cons_plain_write _ Nat.one_ne_zero rfl rfl rfl List.not_mem_nil⟩

/-- Calls through a shared reference into another component are classified by a syntactic "does the method
    write state reachable from its receiver" scan of the callee's source (`CompiledKeyBuilder.BuildKey`,
    `IgnoreSet.IgnoreMatch`, `matchers.Factory.CreateInstance`, `Extractor.ReadChan` … come out read-only,
    `Aggregator.Sample` comes out writing); the only call taken on trust is the logger's `OsExit` hook. -/
theorem lockset_assumptions : Gen.Access.assumedReadOnly = ["logger:func:OsExit"] := rfl

/-- The constructors exempted above are the ones the tables were made for (an added "constructor" in the
    extractor's configuration would otherwise silently exempt a function). -/
theorem lockset_constructors :
    Gen.Access.batcherCtors = ["newBatcher"] ∧ Gen.Access.extractorCtors = ["New"] ∧
    Gen.Access.ignoreSetCtors = ["NewIgnoreExpressions"] ∧
    Gen.Access.objectPoolCtors = ["NewObjectPoolEx", "NewObjectPool"] ∧
    Gen.Access.loggerCtors = ["init"] ∧ Gen.Access.multitermGlobalsCtors = ["init"] ∧
    Gen.Access.aggLoopCtors = [] := by
  refine ⟨rfl, rfl, rfl, rfl, rfl, rfl, rfl⟩

/-- Referents: every access to the CONTENTS of a reference-typed shared field (slice elements, map,
    pointee, closure – directly, through an alias, or through a reference that left the function) holds
    a mutex, or is atomic, or is ordered with every role that writes the contents, or the contents are
    never written once the object is shared.  (A slice header copied under the lock and read through
    after the unlock – seeded/C05-status-unlocked-join – is an unlocked referent read.) -/
theorem lockset_referents_guarded :
    Lockset.referentGuarded Gen.Access.batcherCtors Gen.Access.batcher = true ∧
    Lockset.referentGuarded Gen.Access.extractorCtors Gen.Access.extractor = true ∧
    Lockset.referentGuarded Gen.Access.ignoreSetCtors Gen.Access.ignoreSet = true ∧
    Lockset.referentGuarded Gen.Access.objectPoolCtors Gen.Access.objectPool = true ∧
    Lockset.referentGuarded Gen.Access.loggerCtors Gen.Access.logger = true :=
  ⟨Lockset.raceFree_referentGuarded _ _ lockset_ok.1,
   Lockset.raceFree_referentGuarded _ _ lockset_ok.2.1,
   Lockset.raceFree_referentGuarded _ _ lockset_ok.2.2.1,
   Lockset.raceFree_referentGuarded _ _ lockset_ok.2.2.2.1,
   Lockset.raceFree_referentGuarded _ _ lockset_ok.2.2.2.2.1⟩

/-- What `lockset_ok` gives for any two access sites of the Batcher table (the unfolded reading): if they
    touch the same location and one writes, both are atomic, or both hold the same mutex (one exclusively),
    or one is ordered with the other's role. -/
theorem lockset_batcher_pairs (a b : Gen.Access.Acc)
    (ha : a ∈ Lockset.shared Gen.Access.batcherCtors Gen.Access.batcher)
    (hb : b ∈ Lockset.shared Gen.Access.batcherCtors Gen.Access.batcher)
    (hc : Lockset.conflict a b = true) :
    (a.atomic = true ∧ b.atomic = true) ∨
    (a.lock ≠ "" ∧ b.lock ≠ "" ∧ a.mutex = b.mutex ∧ (a.lock = "W" ∨ b.lock = "W")) ∨
    (b.fn ∈ a.ord ∨ a.fn ∈ b.ord) :=
  Lockset.safePair_cases ((Lockset.raceFree_iff _ _).mp lockset_ok.1 a ha b hb hc)

/-- Non-vacuity of `lockset_batcher_pairs`: the table does contain conflicting pairs of referent accesses made
    by different functions (the append in `startFileReading` against the `strings.Join` in `StatusString`). -/
example : ((Lockset.shared Gen.Access.batcherCtors Gen.Access.batcher).any fun a =>
    (Lockset.shared Gen.Access.batcherCtors Gen.Access.batcher).any fun b =>
      Lockset.conflict a b && a.fn != b.fn && a.obj == "ref") = true := by decide +kernel

/-- The monitor behind `outputMutex`: in `RunAggregationLoop` every call into the aggregator / the render
    callback (referent region `aggstate`) holds `outputMutex` exclusively, or is made by the body after the
    hand-shake that ended the ticker goroutine `go1`. -/
theorem lockset_aggloop_entries :
    (Gen.Access.aggLoop.all fun a =>
      !(a.region == "aggstate" && a.obj == "ref") ||
      (a.lock == "W" && a.mutex == "outputMutex") || (a.fn == "main" && a.ord.contains "go1")) = true ∧
    Gen.Access.aggLoop.any (fun a => a.fn == "go1" && a.region == "aggstate" && a.obj == "ref") = true ∧
    Gen.Access.aggLoop.any (fun a => a.fn == "main" && a.region == "aggstate" && a.obj == "ref" && a.lock == "") = true := by
  decide +kernel

/-- … and the objects inside that monitor (aggregators, terminal writers, renderers: all structs of
    pkg/aggregation, pkg/multiterm, pkg/multiterm/termrenderers, every field) stay inside it: no `go`
    statement in those packages, no mutex / atomic of their own, no reference to their state sent on a
    channel, handed to a goroutine or parked in a package-level variable. -/
theorem lockset_monitors_confined :
    Lockset.monitorOk Gen.Access.aggregation = true ∧ Lockset.monitorOk Gen.Access.multiterm = true ∧
    Lockset.monitorOk Gen.Access.termrenderers = true ∧
    Gen.Access.spawns.lookup "pkg/aggregation" = some [] ∧ Gen.Access.spawns.lookup "pkg/multiterm" = some [] ∧
    Gen.Access.spawns.lookup "pkg/multiterm/termrenderers" = some [] := by
  decide +kernel

/-- Coverage: every struct type declared in pkg/extractor, pkg/extractor/batchers, pkg/slicepool,
    pkg/logger, cmd/helpers, pkg/aggregation, pkg/multiterm(/termrenderers) has a sharing class (shared with
    its own table, monitor, confined to one goroutine, message, value) – a new struct shows up as
    "unclassified"; `extractorInstance` is confined by a syntactic check; the packages type-check. -/
theorem lockset_census_classified :
    Gen.Access.census.all (fun p => p.2 != "unclassified") = true ∧
    Gen.Access.extractorInstanceConfined = true ∧ Gen.Access.typeErrors = [] := by
  decide +kernel

/-- The status bookkeeping the render goroutine reads (model `C05Status`, run against the real Batcher by the
    `status` correspondence op): `stopFileReading`'s in-place removal loop removes exactly the first equal
    entry and counts it; and as long as no source is opened twice, no state of the active list ever contains a
    name twice – a status line showing `b.log, b.log` (what a torn read of the backing array shows) is a state
    that never existed. -/
theorem status_stop_removes_first (s : C05Status.St) (n : String) :
    C05Status.step s (.stop n) =
      if n ∈ s.active then { s with active := s.active.erase n, readCount := s.readCount + 1 } else s :=
  C05Status.step_stop s n

theorem status_never_shows_a_name_twice (ops : List C05Status.Op) (s : C05Status.St)
    (h : s.active.Nodup) (hf : C05Status.FreshStarts s ops) :
    ∀ st ∈ C05Status.states s ops, st.active.Nodup :=
  C05Status.states_nodup ops s h hf

/-- Non-vacuity: the schedule of the seeded change (three sources, each finishing and being re-opened). -/
example : C05Status.FreshStarts {} [.start "a", .start "b", .start "c", .stop "a", .start "a", .stop "b", .start "b"] ∧
    (C05Status.run {} [.start "a", .start "b", .start "c", .stop "a", .start "a", .stop "b", .start "b"]).active = ["c", "a", "b"] := by
  refine ⟨?_, by decide⟩
  simp only [C05Status.FreshStarts, C05Status.step_start, C05Status.step_stop]
  decide

/-- The step from "both accesses hold the same mutex" to "ordered by happens-before", which the reading of
    `lockset_ok` rests on, proved over an abstract trace semantics of exclusive mutexes (Proofs/LocksetHB:
    events of a sequentially consistent interleaving, `Exec` = sync.Mutex semantics, `HB` = transitive
    closure of program order and Unlock→later Lock): if every access to a location is made while the
    accessing thread holds the location's guard, no two conflicting accesses of different threads are
    unordered – the execution has no data race.  (RWMutex, atomics and `go` edges: `lockset_disciplines_sound`
    below; the link from "lock held at the site" in the table to `hs k (guard x) = some tid` is the
    syntactic must-hold analysis.) -/
theorem lockset_mutex_rule_sound {tr : List Lockset.HB.Ev} {hs : Nat → Lockset.HB.Holders}
    (hex : Lockset.HB.Exec tr hs) (guard : Nat → Nat)
    (hdisc : ∀ k e x w, tr[k]? = some e → e.op = .acc x w → hs k (guard x) = some e.tid) :
    ¬ Lockset.HB.Race tr :=
  Lockset.HB.lockset_no_race hex guard hdisc

/-- … and the two accesses of any such pair are ordered whichever mutex it is they share. -/
theorem lockset_mutex_orders {tr : List Lockset.HB.Ev} {hs : Nat → Lockset.HB.Holders}
    (hex : Lockset.HB.Exec tr hs) {i j : Nat} {a b : Lockset.HB.Ev} (hij : i < j)
    (ha : tr[i]? = some a) (hb : tr[j]? = some b) {m : Nat}
    (h1 : hs i m = some a.tid) (h2 : hs j m = some b.tid) : Lockset.HB.HB tr i j :=
  Lockset.HB.mutex_orders hex hij ha hb h1 h2

/-- **All three disciplines of the race check, over a trace semantics that has them** (Proofs/C05HB.lean: `sync.RWMutex`
    with `Lock`/`Unlock`/`RLock`/`RUnlock`, atomic and plain accesses, `go` statements; happens-before = program
    order, `Unlock` → later `Lock`/`RLock`, `RUnlock` → later `Lock`, `go` → the started goroutine; a data race = two
    conflicting accesses, not both atomic, of different threads, unordered).  If every conflicting pair either
    holds a common mutex – at least one side exclusively, exactly the `a.lock = "W" ∨ b.lock = "W"` of
    `lockset_batcher_pairs` – or is separated by the `go` statement that started the later access's goroutine, the
    execution has no data race; pairs of atomic accesses are no race by definition.  (Not in this model: channel
    edges, i.e. the `outputDone` hand-shake `raceFreeRoles` uses for `aggLoop`; the link from "lock held at the site"
    in the tables to `Holds` is the syntactic must-hold analysis.) -/
theorem lockset_disciplines_sound {tr : List Lockset.HB2.Ev} {hs : Nat → Lockset.HB2.Locks}
    (hex : Lockset.HB2.Exec tr hs)
    (hdisc : ∀ i j a b, i < j → tr[i]? = some a → tr[j]? = some b → Lockset.HB2.Conflict a b → a.tid ≠ b.tid →
      (∃ m la lb, Lockset.HB2.Holds (hs i) m a.tid la ∧ Lockset.HB2.Holds (hs j) m b.tid lb ∧ (la = true ∨ lb = true)) ∨
      (∃ k c, i ≤ k ∧ k < j ∧ tr[k]? = some c ∧ c.tid = a.tid ∧ c.op = .spawn b.tid)) :
    ¬ Lockset.HB2.Race tr :=
  Lockset.HB2.discipline_no_race hex hdisc

/-- The RWMutex rule by itself: two events whose threads hold the same mutex, at least one of them exclusively
    (the logger: printers under `RLock`, `DeferLogs`/`ImmediateLogs` under `Lock`), are ordered by happens-before. -/
theorem lockset_rw_mutex_orders {tr : List Lockset.HB2.Ev} {hs : Nat → Lockset.HB2.Locks}
    (hex : Lockset.HB2.Exec tr hs) {i j : Nat} {a b : Lockset.HB2.Ev} (hij : i < j)
    (ha : tr[i]? = some a) (hb : tr[j]? = some b) {m : Nat} {la lb : Bool}
    (h1 : Lockset.HB2.Holds (hs i) m a.tid la) (h2 : Lockset.HB2.Holds (hs j) m b.tid lb)
    (hx : la = true ∨ lb = true) : Lockset.HB2.HB tr i j :=
  Lockset.HB2.rw_mutex_orders hex hij ha hb h1 h2 hx

/-- Boundary: "at least one side exclusively" cannot be dropped – two goroutines that both hold `RLock` of the same
    mutex, one writing and one reading the same location, form an execution WITH a data race. -/
theorem lockset_two_readers_race_counterexample :
    Lockset.HB2.Exec Lockset.HB2.rrDemo (Lockset.HB2.statesOf Lockset.HB2.rrDemo) ∧
    Lockset.HB2.Holds (Lockset.HB2.statesOf Lockset.HB2.rrDemo 2) 0 1 false ∧
    Lockset.HB2.Holds (Lockset.HB2.statesOf Lockset.HB2.rrDemo 3) 0 2 false ∧
    Lockset.HB2.Race Lockset.HB2.rrDemo :=
  Lockset.HB2.rr_race

/-- Non-vacuity of `lockset_disciplines_sound`: a logger-shaped execution (write under `Lock`, reads under `RLock`
    by two goroutines, a location written before the `go` and read by the started goroutine without a lock, an
    atomic counter) satisfies the hypotheses – and does contain conflicting pairs of each kind. -/
example : Lockset.HB2.Exec Lockset.HB2.logDemo (Lockset.HB2.statesOf Lockset.HB2.logDemo) ∧
    ¬ Lockset.HB2.Race Lockset.HB2.logDemo ∧
    Lockset.HB2.conflictB ⟨1, .acc 7 true false⟩ ⟨2, .acc 7 false false⟩ = true ∧
    Lockset.HB2.conflictB ⟨1, .acc 8 true false⟩ ⟨2, .acc 8 false false⟩ = true ∧
    Lockset.HB2.conflictB ⟨2, .acc 9 true true⟩ ⟨1, .acc 9 false true⟩ = false :=
  ⟨Lockset.HB2.logDemo_exec, Lockset.HB2.logDemo_no_race, by decide, by decide, by decide⟩

/-- **From the check on a table to the executions** (Proofs/C05HBTable.lean).  What the extractor's syntactic analysis is
    trusted for is written down as the hypothesis `Abstracts`: every access of the execution is made at a site of the
    table (outside the constructors); accesses to one location are sites the table calls conflicting; a site marked
    atomic is an atomic access; a site marked "W" / "R" runs while its thread holds that mutex exclusively / as a
    reader; a site the table orders with another role is ordered with it by happens-before.  Under that hypothesis
    any table that passes `raceFree` – the Batcher, Extractor, ignore-set, ObjectPool, logger and multiterm tables of
    `lockset_ok` – has only data-race-free executions.  (This is the exact content of "partial" for the first clause of
    C05: the theorem is unconditional about tables and traces; the link between them is this hypothesis.) -/
theorem lockset_tables_sound_given_abstraction (ctors : List String) (accs : List Gen.Access.Acc)
    (hrf : Lockset.raceFree ctors accs = true)
    {tr : List Lockset.HB2.Ev} {hs : Nat → Lockset.HB2.Locks} {site : Nat → Option Gen.Access.Acc} {mid : String → Nat}
    (hex : Lockset.HB2.Exec tr hs)
    (habs : Lockset.HB2.Abstracts tr hs (Lockset.shared ctors accs) site mid) : ¬ Lockset.HB2.Race tr :=
  Lockset.HB2.table_no_race hex habs ((Lockset.raceFree_iff _ _).mp hrf)

/-- … instantiated with the regenerated tables of the Batcher (status shared between readers and renderer) and of the
    logger (printers under `RLock`, `DeferLogs`/`ImmediateLogs` under `Lock`). -/
theorem lockset_batcher_logger_executions_race_free
    {tr : List Lockset.HB2.Ev} {hs : Nat → Lockset.HB2.Locks} {site : Nat → Option Gen.Access.Acc} {mid : String → Nat}
    (hex : Lockset.HB2.Exec tr hs)
    (habs : Lockset.HB2.Abstracts tr hs (Lockset.shared Gen.Access.batcherCtors Gen.Access.batcher) site mid ∨
            Lockset.HB2.Abstracts tr hs (Lockset.shared Gen.Access.loggerCtors Gen.Access.logger) site mid) :
    ¬ Lockset.HB2.Race tr := by
  rcases habs with h | h
  · exact lockset_tables_sound_given_abstraction _ _ lockset_ok.1 hex h
  · exact lockset_tables_sound_given_abstraction _ _ lockset_ok.2.2.2.2.1 hex h

/-- Non-vacuity: the hypothesis `Abstracts` is satisfiable – a logger-shaped execution (write under `Lock`, read by
    another goroutine under `RLock`) and the two table rows it abstracts to; the rows pass the check, the execution
    is race free. -/
example : Lockset.HB2.Abstracts Lockset.HB2.tblDemo (Lockset.HB2.statesOf Lockset.HB2.tblDemo)
    [Lockset.HB2.rowW, Lockset.HB2.rowR] Lockset.HB2.tblSite (fun _ => 0) ∧ ¬ Lockset.HB2.Race Lockset.HB2.tblDemo :=
  ⟨Lockset.HB2.tblDemo_abstracts, Lockset.HB2.tblDemo_no_race⟩

/-! ### Channel edges: the `outputDone` hand-shake in the happens-before model (Proofs/C05HBChan.lean)

The trace semantics of `lockset_disciplines_sound` extended with unbuffered channels (`sendB` – send chosen for the
rendezvous, `recv`, `sendE` – send completed, `close`, `recvClosed`); happens-before gets the three channel rules of
go.dev/ref/mem (send → corresponding receive; receive from an unbuffered channel → completion of the corresponding
send; close → receive that returns because the channel is closed). -/

/-- **The terminating hand-shake orders the final render after every periodic render.**  If only goroutine `t` (the
    ticker) receives from the unbuffered channel `c` (`outputDone`) and does nothing after a receive from it
    (`case <-outputDone: return`), then EVERYTHING `t` ever did – every periodic `writeOutput()` included – happens
    before everything the sender does from the completion of its send on (`outputDone <- true`, then the final
    `writeOutput()` that takes no lock).  All executions, any number of other goroutines and channels. -/
theorem handshake_orders_final_render {tr : List Lockset.HBC.CEv} {hs : Nat → Lockset.HB2.Locks}
    {cs : Nat → Nat → Lockset.HBC.ChSt} (hex : Lockset.HBC.ExecC tr hs cs)
    {k : Nat} {e : Lockset.HBC.CEv} {c t : Nat} (hk : tr[k]? = some e) (hop : e.op = .sendE c)
    (honly : ∀ (r : Nat) (er : Lockset.HBC.CEv), tr[r]? = some er → er.op = .recv c → er.tid = t)
    (hlast : ∀ (r r' : Nat) (er e' : Lockset.HBC.CEv), tr[r]? = some er → er.op = .recv c → r < r' →
      tr[r']? = some e' → e'.tid ≠ t)
    {i j : Nat} {a b : Lockset.HBC.CEv} (ha : tr[i]? = some a) (hat : a.tid = t) (hb : tr[j]? = some b)
    (hbt : b.tid = e.tid) (hkj : k ≤ j) : Lockset.HBC.HBc tr i j :=
  Lockset.HBC.handshake_orders hex hk hop honly hlast ha hat hb hbt hkj

/-- A completed send on an unbuffered channel has its receive: another goroutine received before, and that receive
    happens before the completion of the send (so a sender that got past `outputDone <- true` knows the ticker took
    the value – with the buffered channel of seeded/C05-buffered-done `sendE` needs no `recv` at all). -/
theorem handshake_send_has_receive {tr : List Lockset.HBC.CEv} {hs : Nat → Lockset.HB2.Locks}
    {cs : Nat → Nat → Lockset.HBC.ChSt} (hex : Lockset.HBC.ExecC tr hs cs)
    {k : Nat} {e : Lockset.HBC.CEv} {c : Nat} (hk : tr[k]? = some e) (hop : e.op = .sendE c) :
    ∃ r er, r < k ∧ tr[r]? = some er ∧ er.op = .recv c ∧ er.tid ≠ e.tid ∧ Lockset.HBC.HBc tr r k :=
  Lockset.HBC.handshake_recv hex hk hop

/-- **All disciplines of the role check, channel edge included**: if every conflicting pair of accesses of different
    goroutines (not both atomic) holds a common mutex with at least one side exclusive, or is separated by the `go`
    statement that started the later one's goroutine, or by a terminating hand-shake (the later one's goroutine
    completed a send on an unbuffered channel only the earlier one's goroutine receives from, and that goroutine does
    nothing after receiving), the execution has no data race. -/
theorem lockset_disciplines_chan_sound {tr : List Lockset.HBC.CEv} {hs : Nat → Lockset.HB2.Locks}
    {cs : Nat → Nat → Lockset.HBC.ChSt} (hex : Lockset.HBC.ExecC tr hs cs)
    (hdisc : ∀ i j a b, i < j → tr[i]? = some a → tr[j]? = some b → Lockset.HBC.ConflictC a b → a.tid ≠ b.tid →
      (∃ m la lb, Lockset.HB2.Holds (hs i) m a.tid la ∧ Lockset.HB2.Holds (hs j) m b.tid lb ∧ (la = true ∨ lb = true)) ∨
      Lockset.HBC.GoSep tr i j a b ∨ Lockset.HBC.Handshake tr j a b) :
    ¬ Lockset.HBC.RaceC tr :=
  Lockset.HBC.discipline_no_race_chan hex hdisc

/-- **From the role table of `RunAggregationLoop` to its executions.**  `AbstractsC` is the trusted link for a role
    table (one goroutine per role): as `Abstracts`, except that an `ord` mark is NOT assumed to mean "ordered by
    happens-before" but only what the extractor checks syntactically – the two sites are separated by the `go`
    statement, or by a hand-shake on an unbuffered channel whose only receiver returns after the receive; the
    happens-before order is then DERIVED (`handshake_orders_final_render`).  Any role table passing `raceFreeRoles`
    has only data-race-free executions; instantiated with the regenerated table of `RunAggregationLoop`. -/
theorem lockset_roles_sound_given_abstraction (accs : List Gen.Access.Acc)
    (hrf : Lockset.raceFreeRoles accs = true)
    {tr : List Lockset.HBC.CEv} {hs : Nat → Lockset.HB2.Locks} {cs : Nat → Nat → Lockset.HBC.ChSt}
    {site : Nat → Option Gen.Access.Acc} {mid : String → Nat}
    (hex : Lockset.HBC.ExecC tr hs cs) (habs : Lockset.HBC.AbstractsC tr hs accs site mid) :
    ¬ Lockset.HBC.RaceC tr :=
  Lockset.HBC.roles_no_race hex habs ((Lockset.raceFreeRoles_iff _).mp hrf)

theorem lockset_aggloop_executions_race_free
    {tr : List Lockset.HBC.CEv} {hs : Nat → Lockset.HB2.Locks} {cs : Nat → Nat → Lockset.HBC.ChSt}
    {site : Nat → Option Gen.Access.Acc} {mid : String → Nat}
    (hex : Lockset.HBC.ExecC tr hs cs) (habs : Lockset.HBC.AbstractsC tr hs Gen.Access.aggLoop site mid) :
    ¬ Lockset.HBC.RaceC tr :=
  lockset_roles_sound_given_abstraction _ lockset_ok.2.2.2.2.2.2 hex habs

/-- **Boundary (seeded/C05-outputdone-close): `close(outputDone)` in place of the send gives no such order.**  The
    run "the ticker locks `outputMutex` and renders · main closes the channel and renders without the lock · the
    ticker unlocks and observes the closed channel" is an execution of the model; the ticker holds the mutex
    exclusively during its render; the close IS synchronised before the ticker's receive (event 3 → event 6) – and
    the periodic render and the final render are a data race: the edge of a `close` points from main to the ticker,
    the edge of the unbuffered send pointed from the ticker to main. -/
theorem handshake_close_race_counterexample :
    Lockset.HBC.ExecC Lockset.HBC.closeDemo (Lockset.HB2.statesOf (Lockset.HBC.closeDemo.map Lockset.HBC.proj))
      (Lockset.HBC.cstatesOf Lockset.HBC.closeDemo) ∧
    Lockset.HB2.Holds (Lockset.HB2.statesOf (Lockset.HBC.closeDemo.map Lockset.HBC.proj) 2) 0 2 true ∧
    Lockset.HBC.HBc Lockset.HBC.closeDemo 3 6 ∧
    Lockset.HBC.RaceC Lockset.HBC.closeDemo :=
  Lockset.HBC.close_race

/-- The syntactic side conditions of the hand-shake, read off the regenerated sources: `outputDone` is made without
    capacity (first statement), the ticker goroutine's `select` has the case `<-outputDone` whose body only returns,
    there is exactly one receive from and one send on `outputDone`, the send is directly followed by the final
    `writeOutput()`; and in the role table the writes made WITHOUT a lock are exactly main's two – making the channel
    (before the `go`) and the final `writeOutput()` (after the hand-shake) –, both marked as ordered with `go1`. -/
theorem handshake_skeleton :
    Gen.Skeleton.runAggregationLoop.head? = some "makechan:0" ∧
    ["go{", "for{", "select{", "recv:outputDone", "return"] <:+: Gen.Skeleton.runAggregationLoop ∧
    Gen.Skeleton.runAggregationLoop.count "recv:outputDone" = 1 ∧
    Gen.Skeleton.runAggregationLoop.count "send:outputDone" = 1 ∧
    ["send:outputDone", "call:writeOutput"] <:+ Gen.Skeleton.runAggregationLoop ∧
    ((Gen.Access.aggLoop.filter fun a => a.write && a.lock == "").map fun a => (a.fn, a.field, a.obj, a.ord)) =
      [("main", "outputDone", "var", ["go1"]), ("main", "writeOutput", "ref", ["go1"])] := by
  decide +kernel

/-- Non-vacuity of `lockset_roles_sound_given_abstraction` / `lockset_disciplines_chan_sound`: the hand-shake run
    (spawn · periodic render · send begins · the ticker receives and does nothing more · send completes · final render)
    is an execution, satisfies `AbstractsC` with the two `writeOutput` rows (shaped as the rows of the regenerated
    table), the rows pass the role check – and the run is race free although neither render holds a lock in it. -/
example : Lockset.HBC.ExecC Lockset.HBC.hsDemo (Lockset.HB2.statesOf (Lockset.HBC.hsDemo.map Lockset.HBC.proj))
      (Lockset.HBC.cstatesOf Lockset.HBC.hsDemo) ∧
    Lockset.HBC.AbstractsC Lockset.HBC.hsDemo (Lockset.HB2.statesOf (Lockset.HBC.hsDemo.map Lockset.HBC.proj))
      [Lockset.HBC.rowTick, Lockset.HBC.rowFinal] Lockset.HBC.hsSite (fun _ => 0) ∧
    ¬ Lockset.HBC.RaceC Lockset.HBC.hsDemo :=
  ⟨Lockset.HBC.hsDemo_exec, Lockset.HBC.hsDemo_abstracts, Lockset.HBC.hsDemo_no_race⟩

/-- Non-vacuity: two threads that each lock, write the same location and unlock form an execution that
    satisfies the hypotheses. -/
example : ¬ Lockset.HB.Race Lockset.HB.demo :=
  lockset_mutex_rule_sound Lockset.HB.demo_exec (fun _ => 0) Lockset.HB.demo_disc

/-- Non-vacuity of `lockset_ok`: the Batcher table with the one record the seeded change
    C05-status-unlocked-join produces (the active-file list read through a local alias after `Unlock`)
    is NOT race free; and the role table without the hand-shake edge (C05-buffered-done) is not either. -/
example : Lockset.raceFree Gen.Access.batcherCtors
    (⟨"StatusString", "activeFiles", "activeFiles", "ref", false, false, "", "", "", 0, "arg:strings.Join@activeFiles", [], 142⟩
      :: Gen.Access.batcher) = false := by decide +kernel

example : Lockset.raceFreeRoles (Gen.Access.aggLoop.map fun a =>
    { a with ord := if a.how == "call:func" then [] else a.ord }) = false := by
  decide +kernel

/-- Non-vacuity: a finished state is reachable for a concrete stream, and it rendered everything. -/
example : ∃ s : St Nat, Reach (init [[1, 2]]) s ∧ s.main = .finished ∧ s.renders.getLast? = some [1, 2] := by
  have hr : Reach (init [[1, 2]]) _ :=
    .step (.step (.step (.step (.step (.step (.step (.step (.step (.step (.refl (s0 := init [[(1 : Nat), 2]]))
    (.arrive _ [1, 2] [] rfl)) (.close _ rfl rfl)) (.recv _ [1, 2] [] rfl rfl)) (.mlock _ [1, 2] rfl rfl))
    (.sample _ 1 [2] rfl)) (.sample _ 2 [] rfl)) (.munlock _ rfl)) (.eof _ rfl rfl rfl))
    (.handshake _ rfl rfl)) (.final _ rfl)
  exact ⟨_, hr, rfl, final_render_sees_all _ hr rfl⟩

/-- The matched/read/ignored counters are bumped inside `processLineSync`, which `asyncWorker` calls for
    every line of a batch BEFORE it sends the batch's matches on `readChan` — the order the pipeline
    model's `wproc`/`wsend` steps assume and `matched_ge_sum_displayed` rests on.  (A counter update moved
    after the send changes one of the two regenerated skeletons.) -/
theorem counters_before_send_skeleton :
    Gen.Skeleton.asyncWorker = PipelineSkeleton.asyncWorker ∧
    Gen.Skeleton.processLineSync = PipelineSkeleton.processLineSync ∧
    PipelineSkeleton.asyncWorker.idxOf "call:si.processLineSync" < PipelineSkeleton.asyncWorker.idxOf "send:s.readChan" ∧
    "atomic.AddUint64:&s.matchedLines" ∈ PipelineSkeleton.processLineSync ∧
    "atomic.AddUint64:&s.matchedLines" ∉ PipelineSkeleton.asyncWorker := by
  exact ⟨rfl, rfl, by decide +kernel⟩

/-! ## Trace inclusion: the event log of a real run of `RunAggregationLoop` is a path of the transition system

`Rare.AggLoopTrace` (Model/AggLoopTrace.lean, Model/C01C05TraceOrder.lean): the `verif` hooks log the
ticker's tick / lock / render / unlock / done and main's receive / lock / unlock / end-of-stream / done
hand-shake / final render; the harness' aggregator and render callback log every `Sample` and every render.
The checker accepts a log when some admissible reordering of it replays through the named transition
function `AggLoop.apply` from `init stream` to `main = finished`. -/

section Trace
open Rare.TraceOrder Rare.AggLoopTrace

/-- The named transition function the trace checker executes is exactly the transition relation. -/
theorem trace_labels_are_steps (s s' : St κ) : Step s s' ↔ ∃ l, AggLoop.apply s l = some s' :=
  ⟨apply_complete, fun ⟨_, h⟩ => apply_sound h⟩

/-- `accepts_sound`: an accepted log has an admissible reordering that is a labelled path of the
    transition system from `init stream` (labels = event by event the transitions the logged events stand
    for, environment steps inserted just in time) ending with main finished; the end state is reachable. -/
theorem trace_accepts_sound (stream : List (List Bytes)) (L : Lin ASt) (tr : Array Ev)
    (h : TraceOrder.accepts machine L (initSt stream) tr = true) :
    ∃ sched labels as, Admissible tr sched ∧
      EvPath (initSt stream) (sched.map (evAt tr)) labels as ∧
      LPath (init stream) labels as.lts ∧ Reach (init stream) as.lts ∧ as.lts.main = .finished := by
  obtain ⟨sched, as, hadm, hrep, hfin⟩ := TraceOrder.accepts_sound h
  obtain ⟨labels, hev⟩ := replay_evpath _ _ _ hrep
  have hl := hev.lpath
  exact ⟨sched, labels, as, hadm, hev, hl, hl.reach .refl, isFinished_iff.mp hfin⟩

/-- Every state the accepted run goes through is reachable, hence: a render never overlaps a sample,
    a running periodic render sees a frozen aggregator, and every render so far saw a prefix of the
    stream — in the states of the REAL run, at the granularity of the logged events. -/
theorem trace_states_invariant (stream : List (List Bytes)) (evs : List Ev) (as : ASt)
    (h : replay machine (initSt stream) evs = some as) (k : Nat) :
    ∃ ask, replay machine (initSt stream) (evs.take k) = some ask ∧ Reach (init stream) ask.lts ∧
      ¬ (ask.lts.ticker = .rendering ∧ ask.lts.main.isSampling = true) ∧
      (ask.lts.ticker = .rendering → ask.lts.snap = ask.lts.sampled) ∧
      (∀ r ∈ ask.lts.renders, r <+: stream.flatten) := by
  rw [← List.take_append_drop k evs] at h
  obtain ⟨ask, h1, _⟩ := replay_append _ _ _ _ _ h
  obtain ⟨labels, hev⟩ := replay_evpath _ _ _ h1
  have hr : Reach (init stream) ask.lts := hev.lpath.reach .refl
  exact ⟨ask, h1, hr, render_sample_exclusive stream hr, render_sees_frozen_state stream hr,
    fun r hmem => (intermediate_counts_le_final stream hr r hmem).1⟩

/-- An accepted log ends after a final render that saw every match of the stream, with the ticker
    stopped and the mutex free. -/
theorem trace_final (stream : List (List Bytes)) (L : Lin ASt) (tr : Array Ev)
    (h : TraceOrder.accepts machine L (initSt stream) tr = true) :
    ∃ as : ASt, Reach (init stream) as.lts ∧ as.lts.renders.getLast? = some stream.flatten ∧
      as.lts.sampled = stream.flatten ∧ as.lts.ticker = .stopped ∧ as.lts.mutex = .none := by
  obtain ⟨_, _, as, _, _, _, hr, hm⟩ := trace_accepts_sound stream L tr h
  have hf := final_render_after_last_sample stream hr (Or.inr hm)
  exact ⟨as, hr, final_render_sees_all stream hr hm, hf.1, hf.2.2.2.1, hf.2.2.2.2⟩

/-- Non-vacuity: a small real-shaped log (one batch of two keys; a periodic render between the receive
    and the end of the stream; the ticker logs its `done` late, after main's final render) is accepted;
    the log order itself is not a path (main's `mt` needs the hand-shake first). -/
example : TraceOrder.accepts machine lin (initSt (streamOf exampleLog)) exampleLog.toArray = true ∧
    replay machine (initSt (streamOf exampleLog)) exampleLog = none := by
  decide +kernel

/-- … and the same log with the final render's callback removed (a skipped final `writeOutput`) is
    rejected. -/
example : TraceOrder.accepts machine lin (initSt (streamOf exampleLog))
    (exampleLog.filter fun e => !(e.g == 0 && (e.kind == "rb" || e.kind == "rn"))).toArray = false := by
  decide +kernel

/-! ### … and on the signal path (`Model/C05SignalTrace.lean`): the event `ms` (hook `m.signal`) is the step `SStep.signal` -/

/-- An accepted log of a real run – ended by SIGINT or by the end of the input – has an admissible reordering that
    replays through the signal machine to a state that is REACHABLE in the signal transition system from
    `sinit stream`, with main finished; the machine's flag says whether the log contains a signal; and so
    (`signal_final_render`) the run ended with the ticker stopped, the mutex free, and a last render that shows
    exactly what was sampled = everything main received, a prefix of the stream – all of it without a signal.
    Correspondence: op `strace` (real `RunAggregationLoop`, SIGINT raised inside a Sample or inside a render). -/
theorem signal_trace_accepts_sound (stream : List (List Bytes)) (L : Lin SASt) (tr : Array Ev)
    (h : TraceOrder.accepts smachine L (sinitSt stream) tr = true) :
    ∃ sched s, Admissible tr sched ∧ replay smachine (sinitSt stream) (sched.map (evAt tr)) = some s ∧
      SReach (sinit stream) s.sst ∧ s.a.lts.main = .finished ∧
      s.signalled = (sched.map (evAt tr)).any (fun e => e.kind = "ms") ∧
      s.a.lts.ticker = .stopped ∧ s.a.lts.mutex = .none ∧ s.a.lts.renders.getLast? = some s.a.lts.sampled ∧
      s.a.lts.sampled = s.a.lts.received ∧ s.a.lts.sampled <+: stream.flatten ∧
      (s.signalled = false → s.a.lts.sampled = stream.flatten) := by
  obtain ⟨sched, s, hadm, hrep, hfin⟩ := TraceOrder.accepts_sound h
  have hr : SReach (sinit stream) s.sst := sreplay_reach _ _ _ hrep .refl
  have hm : s.a.lts.main = .finished := isFinished_iff.mp hfin
  have hsig := sreplay_signalled _ _ _ hrep
  have hf := signal_final_render stream hr hm
  refine ⟨sched, s, hadm, hrep, hr, hm, ?_, hf.1, hf.2.1, hf.2.2.1, hf.2.2.2.1, hf.2.2.2.2.1, hf.2.2.2.2.2⟩
  simpa [sinitSt] using hsig

/-- Non-vacuity: a real-shaped log with a signal is accepted by the signal machine (and says so); the machine
    without the signal step rejects it (main cannot reach the hand-shake without having seen the channel closed);
    and the same log without its `ms` event, or without the final render's callback, is rejected. -/
example : TraceOrder.accepts smachine slin (sinitSt (streamOf exampleSignalLog)) exampleSignalLog.toArray = true ∧
    (match TraceOrder.verdict smachine slin (sinitSt (streamOf exampleSignalLog)) exampleSignalLog.toArray with
      | .accepted s _ => s.signalled && s.a.lts.sampled == [[97], [98]] | .rejected .. => false) = true ∧
    TraceOrder.accepts machine lin (initSt (streamOf exampleSignalLog)) exampleSignalLog.toArray = false ∧
    TraceOrder.accepts smachine slin (sinitSt (streamOf exampleSignalLog))
      (exampleSignalLog.filter fun e => e.kind != "ms").toArray = false ∧
    TraceOrder.accepts smachine slin (sinitSt (streamOf exampleSignalLog))
      (exampleSignalLog.filter fun e => !(e.kind == "rb" || e.kind == "rn")).toArray = false := by
  decide +kernel

/-- … and the logs without a signal are judged exactly as before: on a log with no `ms` event the signal machine
    replays like the machine of the first part. -/
theorem signal_trace_conservative (evs : List Ev) (hno : ∀ e ∈ evs, e.kind ≠ "ms") (s : SASt) :
    replay smachine s evs = (replay machine s.a evs).map fun a => ⟨a, s.signalled⟩ := by
  induction evs generalizing s with
  | nil => simp [replay]
  | cons e es ih =>
    have hk : e.kind ≠ "ms" := hno e (by simp)
    have hs : smachine.step s e = (machine.step s.a e).map fun a => ⟨a, s.signalled⟩ := by
      simp [smachine, machine, sastep, hk]
    simp only [replay, hs]
    cases hm : machine.step s.a e with
    | none => simp
    | some a' =>
      simp only [Option.map_some, Option.bind_some]
      exact ih (fun e he => hno e (by simp [he])) ⟨a', s.signalled⟩

end Trace

end Rare.C05

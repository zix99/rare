import Rare.Proofs.C02
import Rare.Proofs.C02Filter
import Rare.Proofs.C02Named
import Rare.Proofs.C02RxIdx
import Rare.Proofs.C02RxPosix
import Rare.Proofs.C02RxRep
import Rare.Proofs.C02Batch
import Rare.Proofs.C02Hist
import Rare.Model.C02RxParse
import Rare.Model.C02Plan
import Rare.Props.C01
import Rare.Props.C04
import Rare.Props.C12
import Rare.Gen.C02
/-!
# C02 — each match carries its true source, line number, text and capture groups
-/
namespace Rare.C02
open Rare.Pipeline Rare.Batcher

/-- The line number attached to a line (`BatchStart + idx`) is its true 1-based position in its
    input — for every batch size and every behaviour of the 250ms flush timer. -/
theorem lineNumber_true {α : Type} (batchSize : Nat) (ls : List (α × Bool)) :
    (run batchSize ls).flatMap lineNumbers = (ls.map (·.1)).zipIdx 1 :=
  (C01.batches_concat batchSize ls).2.2

/-- `GetMatch`: for index slices as matchers produce them, group `k` reads as the text between its
    two offsets in the leftmost match; groups that did not participate (−1), do not exist, or are
    addressed by a negative / huge index read as empty; it never panics. -/
theorem getMatch_spec (line : Bytes) (indices : List Int) (idx : Int)
    (hwf : WF line indices) (hlen : (indices.length : Int) < 4611686018427387904)
    (hidx : minInt64 ≤ idx ∧ idx ≤ maxInt64) :
    getMatch line indices idx = .ok (specGroup line indices idx) :=
  getMatch_eq_spec line indices idx hwf hlen hidx

/-- **`{name}`.**  For a name table built as the regex wrapper builds it from `regexp.SubexpNames()`
(`C16.regexNameTable`: every group, named or not, advances the index; a repeated name keeps its last
group), in any iteration order `σ` of the map: `GetKey(name)` is `GetMatch` of the REAL submatch index
of the last group carrying that name – so, on an engine's index list, the text of that group in the
leftmost match, empty when the group did not participate – wherever unnamed groups stand before,
after, around or inside the named one.  A name no group carries reads as the `<NAME>` error marker.
(`src`, `line`, `.`, `#`, `.#`, `#.`, `@` are answered by `GetKey` itself before the table is consulted:
a group named `line` or `src` is shadowed.) -/
theorem named_group_value (c : MatchCtx) (subexpNames : List Bytes) (key : Bytes) (k : Nat)
    (hσ : c.names.Perm (C16.regexNameTable subexpNames)) (hres : key ∉ reservedKeys)
    (hk : subexpNames[k]? = some key) (hne : key ≠ [])
    (hlast : ∀ j, k < j → subexpNames[j]? ≠ some key)
    (hwf : WF c.line c.indices) (hlen : (c.indices.length : Int) < 4611686018427387904)
    (hkr : (k : Int) ≤ maxInt64) :
    getKey c key = (getMatch c.line c.indices (k : Int)).map .val ∧
    getKey c key = .ok (.val (specGroup c.line c.indices (k : Int))) := by
  have h1 := getKey_regex_name c subexpNames key k hσ hres hk hne hlast
  refine ⟨h1, ?_⟩
  rw [h1, getMatch_eq_spec c.line c.indices k hwf hlen ⟨by unfold minInt64; omega, hkr⟩]
  rfl

/-- a name that no group of the expression carries -/
theorem unknown_name_marker (c : MatchCtx) (subexpNames : List Bytes) (key : Bytes)
    (hσ : c.names.Perm (C16.regexNameTable subexpNames)) (hres : key ∉ reservedKeys) (hno : key ∉ subexpNames) :
    getKey c key = .ok (.val Expr.ErrorArgName) :=
  getKey_regex_missing c subexpNames key hσ hres hno

/-- Groups that do not exist read as empty. -/
theorem missing_group_empty (line : Bytes) (indices : List Int) (k : Int)
    (h : k < 0 ∨ (indices.length : Int) ≤ 2 * k + 1) : specGroup line indices k = [] := by
  unfold specGroup
  rw [if_neg (by omega)]

/-- With one reader and one worker the consumer receives the matches in input order: in every
    terminal state `consumed` is exactly the matched lines in their original order. -/
theorem fifo_order {α : Type} [DecidableEq α] (cls : α → Cls) (R B K : Nat) (batches : List (List α)) {s : St α}
    (hr : Reach cls R B K (init [batches] 1) s) (hd : s.consDone = true) :
    s.consumed = batches.flatten.filter (isMatched cls) := by
  have hf := fifo_reach cls (s0 := init [batches] 1) rfl rfl hr
  have hinv : Pipeline.Inv cls B K _ s := Pipeline.inv_reach (Pipeline.inv_init cls B K [batches] 1) hr
  obtain ⟨hrcl, hrc⟩ := hinv.consdone hd
  have hwall := hinv.rcclosed hrcl
  obtain ⟨w, hw⟩ := single_of_length_one hf.2.2
  rw [hw] at hwall
  have hwx : w = .exited := by
    cases w with
    | exited => rfl
    | idle => cases hwall
    | busy t a => cases hwall
  obtain ⟨hcl, hc⟩ := hinv.exited (by rw [hw, hwx]; rfl)
  have hsall := hinv.cclosed hcl
  obtain ⟨x, hx⟩ := single_of_length_one hf.2.1
  rw [hx] at hsall
  have hxd : x = .done := by
    cases x with
    | done => rfl
    | waiting bs => cases hsall
    | active bs => cases hsall
  have h0 : orderSeq cls (init [batches] 1) = batches.flatten.filter (isMatched cls) := by
    simp [orderSeq, init, wAcc, wTodo, srcLines, WSt.acc, WSt.todo, SrcSt.lines]
  have h1 : orderSeq cls s = s.consumed := by
    simp [orderSeq, hrc, hc, wAcc, wTodo, srcLines, hw, hwx, hx, hxd, WSt.acc, WSt.todo, SrcSt.lines]
  rw [← h1, hf.1, h0]

/-- `WrapIndices` (default `filter` output): for every line and every in-range index list, overlapping,
    empty, absent and out-of-order groups included, the function does not panic and removing the inserted
    colour/reset codes yields the line byte for byte. -/
theorem wrapIndices_strip (s : Bytes) (colors : List Bytes) (reset : Bytes) (groups : List Int)
    (hg : ∀ g ∈ groups, g ≤ s.length) :
    ∃ segs, wrapIndices s colors reset groups = .ok segs ∧ strip segs = s :=
  wrapIndices_strip_eq s colors reset groups hg

/-- The colour table the model uses is the one in the source. -/
theorem colors_from_source : Gen.C02.groupColors.length = 12 ∧ Gen.C02.reset = "\x1b[0m" := ⟨rfl, rfl⟩

/-- **`{@}`.**  `SliceSpaceExpressionContext.array()` is the NUL-joined list of groups `1 … n-1`
(`n = len(indices)/2`): the whole match (group 0) is NOT part of it, a group that did not participate
contributes the empty text between its separators, there is no leading and no trailing separator,
and with no groups at all it is the empty text.  It never panics on an engine's index list. -/
theorem array_spec (line : Bytes) (indices : List Int) (hwf : WF line indices)
    (hlen : (indices.length : Int) < 4611686018427387904) :
    array line indices =
      .ok (joinSep [0] ((List.range' 1 (indices.length / 2 - 1)).map fun (k : Nat) => specGroup line indices (k : Int))) :=
  array_eq line indices hwf hlen

/-- The constants of the model are the ones in the source: the array separator, the escape byte and
code terminator of `color.StrLen`, and the two numbers of `filter`'s default-output branch. -/
theorem c02_constants_from_source :
    Gen.C02.arraySeparator = 0 ∧ Gen.C02.escapeRune = 0x1b ∧ Gen.C02.codeEnd = 0x6d ∧
    Gen.C02.filterWholeLen = 2 ∧ Gen.C02.filterSkip = 2 := ⟨rfl, rfl, rfl, rfl, rfl⟩

/-- **`GetMatch` is written with the source's own guards and index arithmetic** (regenerated from
/repo on every run): `sliceIndex := idx*2` (int64), the bounds guard, the two reads and the `-1` guard. -/
theorem getMatch_guards_from_source (line : Bytes) (indices : List Int) (idx : Int) :
    getMatch line indices idx =
      (let si := wrap64 (Gen.C02.getMatchSliceIndex idx)
       if Gen.C02.getMatchGuard0 idx si indices.length then .ok []
       else
         let start := indices.getD (Gen.C02.getMatchStartAt si).toNat 0
         let stop := indices.getD (Gen.C02.getMatchEndAt si).toNat 0
         if Gen.C02.getMatchGuard1 start stop then .ok [] else goSlice line start stop) := by
  unfold getMatch Gen.C02.getMatchGuard0 Gen.C02.getMatchGuard1 Gen.C02.getMatchSliceIndex
    Gen.C02.getMatchStartAt Gen.C02.getMatchEndAt
  simp only [Bool.or_eq_true, decide_eq_true_eq, or_assoc]
  by_cases h : idx < 0 ∨ wrap64 (idx * 2) < 0 ∨ wrap64 (idx * 2) + 1 ≥ (indices.length : Int)
  · rw [if_pos h, if_pos h]
  · rw [if_neg h, if_neg h]
    have e : (wrap64 (idx * 2) + 1).toNat = (wrap64 (idx * 2)).toNat + 1 := by omega
    rw [e]

/-- `array()`'s loop starts at group 1, runs while `i < len(indices)/2`, and writes the separator
before every element but the first (`i > 1`) – the source's expressions. -/
theorem array_guards_from_source :
    Gen.C02.arrayFirst = 1 ∧
    (∀ i n : Nat, Gen.C02.arrayLoopCond i n = decide (i < n / 2)) ∧
    (∀ i : Nat, Gen.C02.arraySepCond i = decide (i > 1)) := by
  refine ⟨rfl, ?_, ?_⟩
  · intro i n
    unfold Gen.C02.arrayLoopCond
    rw [Int.tdiv_eq_ediv_of_nonneg (by omega)]
    apply decide_eq_decide.mpr
    omega
  · intro i
    unfold Gen.C02.arraySepCond
    apply decide_eq_decide.mpr
    omega

/-- `WrapIndices`' conditions are the source's: the early return on an empty or odd list, the per-pair
guard (absent, empty, reversed and overlapping groups are skipped), the tail guard, and the colour of
pair `i` is entry `i mod 12` of the table. -/
theorem wrap_guards_from_source :
    (∀ n : Nat, Gen.C02.wrapEarly n = decide (n = 0 ∨ n % 2 ≠ 0)) ∧
    (∀ start stop last : Int, Gen.C02.wrapPairGuard start stop last =
      decide (start ≥ 0 ∧ stop ≥ 0 ∧ stop > start ∧ start ≥ last)) ∧
    (∀ (last : Int) (n : Nat), Gen.C02.wrapTailGuard last n = decide (last < n)) ∧
    (∀ i : Nat, Gen.C02.wrapColorIndex ((2 * i : Nat) : Int) (Gen.C02.groupColors.length : Nat) =
      ((i % Gen.C02.groupColors.length : Nat) : Int)) := by
  refine ⟨?_, ?_, ?_, ?_⟩
  · intro n
    unfold Gen.C02.wrapEarly
    rw [Int.tmod_eq_emod_of_nonneg (Int.natCast_nonneg n), ← Bool.decide_or]
    exact decide_eq_decide.mpr (by omega)
  · intro a b c
    unfold Gen.C02.wrapPairGuard
    simp only [← Bool.decide_and, and_assoc]
  · intro l n; rfl
  · intro i
    unfold Gen.C02.wrapColorIndex
    rw [Int.tdiv_eq_ediv_of_nonneg (Int.natCast_nonneg _), Int.natCast_mul]
    show ((2 : Int) * i / 2).tmod _ = _
    rw [Int.mul_ediv_cancel_left _ (by decide), Int.tmod_eq_emod_of_nonneg (Int.natCast_nonneg _)]
    exact Int.ofNat_mod_ofNat i _

/-- The two `switch`es are the source's: `GetKey` answers exactly the reserved keys (in this order, each
by the expected method) before consulting the name table; `BuildMatcherFromArguments` tests
conflict, dissect, match, default in this order; the regex wrapper compiles with `CompilePOSIX` under
`--posix` and `Compile` otherwise. -/
theorem switches_from_source :
    (Gen.C02.getKeyCases.flatMap (·.1)).map lit = reservedKeys ∧
    Gen.C02.getKeyCases.map (·.2) = ["s.source", "strconv.FormatUint(s.lineNum,10)", "s.json(true,false)",
      "s.json(false,true)", "s.json(true,true)", "s.array()"] ∧
    Gen.C02.planSwitch = ["c.IsSet(\"match\")&&c.IsSet(\"dissect\")", "c.IsSet(\"dissect\")", "c.IsSet(\"match\")", "default"] ∧
    Gen.C02.buildRegexp = ["if:posix", "return:regexp.CompilePOSIX", "return:regexp.Compile"] :=
  ⟨by decide +kernel, rfl, rfl, rfl⟩

/-- Every colour code `WrapIndices` can insert is one complete code for `color.StrLen`'s state machine
(ESC … `m`), so "with colour codes removed" (`visible`) removes each of them entirely and nothing after it. -/
theorem codes_closed : ∀ c ∈ lit Gen.C02.reset :: Gen.C02.groupColors.map lit, ClosedCode 0x1b c := by
  rw [Gen.C02.reset, Gen.C02.groupColors]
  simp only [List.map_cons, List.map_nil]
  simp -index only [lit_ofList]
  decide +kernel

/-- **Default `filter` output, colour codes removed, is the matched line** – for EVERY index list a
matcher can hand out (`2 ≤ len`, offsets `≤ len(line)`; overlapping, nested, empty, absent (−1),
out-of-order groups and an odd tail included – `EngineWF` is a special case, `filter_output_engine`):
the output is the line cut into pieces, in order, with codes between them and a final newline;
removing exactly the inserted codes (`strip`) gives the line followed by the newline, byte for byte;
every inserted code comes from the source's table; and it does not panic.  With colours off the
output is the line and the newline. -/
theorem filter_output_eq_line (line : Bytes) (indices : List Int)
    (h2 : 2 ≤ indices.length) (hr : ∀ g ∈ indices, g ≤ line.length) :
    (∃ segs, filterLine true (Gen.C02.groupColors.map lit) (lit Gen.C02.reset) line indices = .ok segs ∧
      strip segs = line ++ [0x0a] ∧ (texts segs).flatten = line ++ [0x0a] ∧
      ∀ c ∈ codes segs, c = lit Gen.C02.reset ∨ c ∈ Gen.C02.groupColors.map lit) ∧
    (∃ segs, filterLine false (Gen.C02.groupColors.map lit) (lit Gen.C02.reset) line indices = .ok segs ∧
      render segs = line ++ [0x0a]) := by
  obtain ⟨segs, h, hs, hc⟩ := filterLine_on (Gen.C02.groupColors.map lit) (lit Gen.C02.reset) line indices h2 hr
  have hst : strip (segs ++ [Seg.text [0x0a]]) = line ++ [0x0a] := by rw [strip_append, hs]; rfl
  refine ⟨⟨_, h, hst, by rw [← strip_eq_texts]; exact hst, ?_⟩,
    ⟨_, filterLine_off _ _ line indices h2, by simp [render]⟩⟩
  intro c hcm
  rw [codes_append] at hcm
  simp only [codes, List.append_nil] at hcm
  exact hc (by decide +kernel) c hcm

/-- The same for index lists as the engines return them. -/
theorem filter_output_engine (line : Bytes) (indices : List Int) (h : EngineWF line indices) :
    ∃ segs, filterLine true (Gen.C02.groupColors.map lit) (lit Gen.C02.reset) line indices = .ok segs ∧
      strip segs = line ++ [0x0a] :=
  let ⟨⟨segs, h1, h2, _⟩, _⟩ := filter_output_eq_line line indices h.two (h.wf.le_length h.even)
  ⟨segs, h1, h2⟩

/-- **The whole output of `rare filter`** (`--line`, `--num`, `--extract` included), colours on or off:
with the colour codes that were inserted removed, the output is – for every match in the order received,
up to the `--num` limit when there is one – the line `<source> <line number>: ` (only with `--line`)
followed by the unmodified line text (or the extracted text with `--extract`) and a newline; nothing else.
The palette (group colours, reset, bright green for the source, bright yellow for the number) and the
prefix format are the source's. -/
theorem filter_lines_output (en wl cu : Bool) (num : Nat) (ms : List FMatch)
    (hok : ∀ m ∈ ms, cu = false → m.OK) :
    (∃ segs, filterAll en wl cu ⟨Gen.C02.groupColors.map lit, lit Gen.C02.reset, lit Gen.C02.filterSrcColor,
        lit Gen.C02.filterNumColor⟩ num ms 0 = .ok segs ∧
      strip segs = ((if num = 0 then ms else ms.take num).flatMap (plainLine wl cu))) ∧
    Gen.C02.filterPrefixFormat = "%s %s: " ∧ Gen.C02.filterSrcColor = "\x1b[32;1m" ∧
    Gen.C02.filterNumColor = "\x1b[33;1m" := by
  refine ⟨?_, rfl, rfl, rfl⟩
  obtain ⟨segs, h1, h2⟩ := filterAll_strip en wl cu _ num ms 0 hok (by omega)
  exact ⟨segs, h1, by simpa using h2⟩

/-- **What "colour codes removed" means on bytes.**  `visible` is `color.StrLen`'s state machine (ESC
starts a code, the next `m` ends it) returning the bytes it counts.  If the line itself contains no
ESC byte, the visible bytes of the coloured output are exactly the line and the newline.  (For a line
that does contain ESC the byte-level reading cannot tell the line's own sequences from inserted ones –
then `filter_output_eq_line` (removing the codes *that were inserted*) and
`existing_escape_survives` are the statements.) -/
theorem filter_output_visible (line : Bytes) (indices : List Int)
    (h2 : 2 ≤ indices.length) (hr : ∀ g ∈ indices, g ≤ line.length) (hesc : (0x1b : UInt8) ∉ line) :
    ∃ segs, filterLine true (Gen.C02.groupColors.map lit) (lit Gen.C02.reset) line indices = .ok segs ∧
      visible (render segs) = line ++ [0x0a] := by
  obtain ⟨⟨segs, h, hs, ht, hc⟩, _⟩ := filter_output_eq_line line indices h2 hr
  refine ⟨segs, h, ?_⟩
  unfold visible
  rw [visible_render 0x1b segs ?_ ?_, hs]
  · intro t htm he
    have hm := texts_bytes_of_strip segs t htm _ he
    rw [hs] at hm
    rcases List.mem_append.mp hm with h' | h'
    · exact hesc h'
    · exact absurd h' (by decide +kernel)
  · intro c hcm
    have := hc c hcm
    apply codes_closed
    rcases this with e | e
    · simp [e]
    · exact List.mem_cons_of_mem _ e

/-- **An escape sequence already present in the line survives.**  Any stretch `line[a:b]` of the matched
line that no offset of the index list falls strictly inside of – e.g. a colour sequence the log line
already carried – stands in the coloured output contiguously and unchanged.  (A group boundary inside
such a sequence puts a code there, as it would between any two bytes; all bytes of the line are still
there in order – `filter_output_eq_line`.) -/
theorem existing_escape_survives (line : Bytes) (indices : List Int) (segs : List Seg)
    (h : filterLine true (Gen.C02.groupColors.map lit) (lit Gen.C02.reset) line indices = .ok segs)
    (a b : Nat) (hab : a ≤ b) (hb : b ≤ line.length)
    (hno : ∀ g ∈ indices, ¬ ((a : Int) < g ∧ g < (b : Int))) :
    (line.drop a).take (b - a) <:+: render segs := by
  rw [filterLine_eq] at h
  split at h
  · cases h
  · cases hw : wrapIndicesE true line (Gen.C02.groupColors.map lit) (lit Gen.C02.reset)
        (if indices.length = 2 then indices else indices.drop 2) with
    | error e => rw [hw] at h; cases h
    | ok segs' =>
      rw [hw] at h
      obtain rfl := Except.ok.inj h
      have hsub : ∀ g ∈ (if indices.length = 2 then indices else indices.drop 2), g ∈ indices := by
        split
        · exact fun g hg => hg
        · exact fun g hg => List.mem_of_mem_drop hg
      rw [render_append]
      exact (wrapIndices_keeps line _ _ _ segs' hw a b hab hb (fun g hg => hno g (hsub g hg))).trans
        (List.prefix_append _ _).isInfix

/-- The line text of a match stays what it was however long the consumer holds it (C04: slices handed
    out by the scanner are never overwritten by later reads or buffer growth). -/
theorem match_line_stable (bufSize : Nat) (data : Bytes) (script : List C04.Step) (h : 1 ≤ bufSize) :
    ∀ vb ∈ (C04.Imm.run bufSize data script).1,
      C04.readView (C04.Imm.run bufSize data script).2.2.arrays vb.1 = vb.2 :=
  C04.imm_tokens_stable bufSize data script h

/-- The same for the buffered scanner (`readahead.New…`/`Scan` with look-ahead buffers, used by the
file readers): a slice it handed out is never overwritten by a later refill. -/
theorem match_line_stable_buffered (m : Nat) (data : Bytes) (script : List C04.Step) (h : 2 ≤ m) :
    ∀ vb ∈ (C04.Buf.run m data script).1,
      C04.readView (C04.Buf.run m data script).2.2.arrays vb.1 = vb.2 :=
  C04.buf_tokens_stable m data script h

/-- The index slice of a dissect match stays what it was: results for earlier lines are not altered by
    matching later lines (C12: the IntPool hands out disjoint views).  Go's `regexp` allocates a fresh
    slice per call, so nothing is shared there. -/
theorem match_indices_stable (ic : Bool) (p : C12.Pat) (hp : p.Shape) (d : C12.Dissect)
    (hc : C12.compileEx p.render ic = .ok d) (lines more : List Bytes) :
    ∃ r rAll, C12.matchAll d lines = .ok r ∧ C12.matchAll d (lines ++ more) = .ok rAll ∧
      rAll.take lines.length = r :=
  C12.earlier_results_unaltered ic p hp d hc lines more

/-- **Flag plumbing** (`BuildMatcherFromArguments`): `--match` together with `--dissect` is refused;
`--dissect` selects dissect with the ignore-case flag passed on; `--match` selects the regex engine in
POSIX or Perl mode, on the user's expression – prefixed by the source's `(?i)` under `--ignore-case`
and otherwise untouched; with neither flag every line matches.  (What the engines then do is their
contract; `plan` cases compare the real function with the engines' own answers.) -/
theorem matcher_plan_table (matchExpr dissectExpr : Bytes) (posix ic : Bool) :
    matcherPlan true true matchExpr dissectExpr posix ic = .conflict ∧
    matcherPlan false true matchExpr dissectExpr posix ic = .dissect dissectExpr ic ∧
    matcherPlan true false matchExpr dissectExpr posix false = .regex matchExpr posix ∧
    matcherPlan true false matchExpr dissectExpr posix true = .regex (lit Gen.C02.icPrefix ++ matchExpr) posix ∧
    matcherPlan false false matchExpr dissectExpr posix ic = .always := by
  have hp : lit Gen.C02.icPrefix = icPrefix := by decide +kernel
  refine ⟨by simp [matcherPlan], by simp [matcherPlan], by simp [matcherPlan], ?_, by simp [matcherPlan]⟩
  rw [hp]; simp [matcherPlan]

/-- Without a matcher flag (`AlwaysMatch`) the index list is the single pair of the whole line: it is an
engine-shaped list, group 0 is the line, there are no further groups and `{@}` is empty. -/
theorem always_match_spec (line : Bytes) :
    EngineWF line (alwaysIndices line) ∧ specGroup line (alwaysIndices line) 0 = line ∧
    (∀ k : Int, k ≠ 0 → specGroup line (alwaysIndices line) k = []) := by
  refine ⟨⟨Nat.le_refl 2, Nat.mod_self 2, ?_⟩, ?_, ?_⟩
  · intro k hk
    obtain rfl : k = 0 := by
      have : (alwaysIndices line).length = 2 := rfl
      omega
    exact Or.inr ⟨Int.le_refl 0, Int.natCast_nonneg _, Int.le_refl _⟩
  · rw [show (0 : Int) = ((0 : Nat) : Int) from rfl, specGroup_natCast line (alwaysIndices line) 0 (Nat.lt_succ_self 1)]
    show (if (0 : Int) < 0 ∨ (line.length : Int) < 0 then []
      else (line.drop (0 : Int).toNat).take ((line.length : Int).toNat - (0 : Int).toNat)) = line
    rw [if_neg (by omega)]
    simp
  · intro k hk
    exact missing_group_empty line _ k (by show k < 0 ∨ (2 : Int) ≤ 2 * k + 1; omega)


/-! ### The regex engine, for a fragment of the syntax (literals, classes, `.`, `^`, `$`, concatenation,
alternation, greedy and lazy `*` `+` `?` over bodies that cannot match the empty text, capture groups)

`Rx.den` lists all ways an expression matches from an offset in priority order (its head = the
leftmost-first answer), `Rx.mk` is the executable backtracking matcher, `Rx.Derives` the derivation
relation ("`r` matches `s[i:j]`"), `Rx.search` the unanchored search, `Rx.findSubmatchIndex` the `[]int`.
The `rx` / `rxkey` cases compare them with the real `fastregex.CompileEx(…).FindSubmatchIndex`. -/

/-- The backtracking matcher explores the alternatives in priority order and stops at the first
complete match: it returns exactly the first element of the priority list that the rest of the match
(`k`) accepts; anchored at `p` with nothing after it, the head of the list. -/
theorem rx_backtracking_is_first {β : Type} (s : Bytes) (r : Rx.Re) (i : Nat) (c : Rx.Caps)
    (k : Nat → Rx.Caps → Option β) :
    Rx.mk s r i c k = (Rx.den s r i c).findSome? (fun x => k x.1 x.2) ∧
    Rx.matchAt s r i = (Rx.den s r i []).head? :=
  ⟨Rx.mk_eq s r i c k, Rx.matchAt_eq s r i⟩

/-- The priority list contains exactly the derivations: `r` can match `s[p:j]` iff some element of the
list ends at `j`. -/
theorem rx_list_is_derivations (s : Bytes) (r : Rx.Re) (p j : Nat) (hp : p ≤ s.length) :
    (∃ c, (j, c) ∈ Rx.den s r p []) ↔ Rx.Derives s r p j :=
  ⟨fun ⟨c, h⟩ => (Rx.den_sound s r p [] (j, c) hp h).1,
   fun h => Rx.den_complete s r p j [] h (h.le_length hp)⟩

/-- **Leftmost-first.**  When the search reports `(p, j, c)`: `s[p:j]` is a match of `r`; nothing at all
matches from any earlier start offset (leftmost); among the matches from `p` it is the first in priority
order; and when it reports nothing, no stretch of the text matches. -/
theorem rx_leftmost_first (s : Bytes) (r : Rx.Re) :
    (∀ p j c, Rx.search s r = some (p, j, c) →
      p ≤ j ∧ j ≤ s.length ∧ Rx.Derives s r p j ∧ (∀ q, q < p → ∀ j', ¬ Rx.Derives s r q j') ∧
      (Rx.den s r p []).head? = some (j, c)) ∧
    (Rx.search s r = none → ∀ q, q ≤ s.length → ∀ j', ¬ Rx.Derives s r q j') := by
  refine ⟨?_, (Rx.search_eq_none_iff s r).mp⟩
  intro p j c h
  obtain ⟨h1, h2, h3, h4, h5, _⟩ := Rx.search_some s r p j c h
  exact ⟨h1, h2, h3, h5, h4⟩

/-- **Group spans are sub-matches.**  The value the search reports for group `n` is a stretch inside the
whole match that the body of a group numbered `n` in `r` derives. -/
theorem rx_groups_are_submatches (s : Bytes) (r : Rx.Re) (p j : Nat) (c : Rx.Caps)
    (h : Rx.search s r = some (p, j, c)) (n a b : Nat) (hl : Rx.lookup c n = some (a, b)) :
    p ≤ a ∧ a ≤ b ∧ b ≤ j ∧ ∃ body, Rx.Sub r n body ∧ Rx.Derives s body a b :=
  (Rx.search_some s r p j c h).2.2.2.2.2 _ (Rx.lookup_mem hl)

/-- **The seam "engine = data", closed for the fragment.**  The index list the model engine hands to the
extractor is empty exactly when nothing matches, and otherwise an engine-shaped list (`EngineWF` – the
hypothesis of `getMatch_spec`, `array_spec`, `filter_output_engine`, `named_group_value`) of
`2·(groups+1)` entries. -/
theorem rx_indices_engineWF (s : Bytes) (r : Rx.Re) (ng : Nat) :
    (Rx.findSubmatchIndex s r ng = [] ↔ Rx.search s r = none) ∧
    (Rx.findSubmatchIndex s r ng ≠ [] →
      EngineWF s (Rx.findSubmatchIndex s r ng) ∧ (Rx.findSubmatchIndex s r ng).length = 2 * (ng + 1)) := by
  unfold Rx.findSubmatchIndex
  cases h : Rx.search s r with
  | none => exact ⟨⟨fun _ => rfl, fun _ => rfl⟩, fun hn => absurd rfl hn⟩
  | some m =>
    obtain ⟨p, j, c⟩ := m
    obtain ⟨h1, h2, _, _, _, h6⟩ := Rx.search_some s r p j c h
    exact ⟨⟨fun e => absurd e (Rx.indicesOf_ne_nil ng _), fun e => nomatch e⟩,
      fun _ => ⟨Rx.indicesOf_engineWF s ng p j c h1 h2 (Rx.capsIn_of_entries h6), Rx.indicesOf_length ng _⟩⟩

/-- **Capture values of the leftmost-first match through `GetMatch`.**  On the model engine's index
list `{0}` is the matched stretch, `{n}` (`1 ≤ n ≤ groups`) is the text of group `n`'s span – empty when
the group did not participate – and it never panics. -/
theorem rx_capture_values (s : Bytes) (r : Rx.Re) (ng p j : Nat) (c : Rx.Caps)
    (h : Rx.search s r = some (p, j, c)) (hng : (ng : Int) < 2305843009213693951) :
    getMatch s (Rx.findSubmatchIndex s r ng) 0 = .ok ((s.drop p).take (j - p)) ∧
    ∀ n : Nat, 1 ≤ n → n ≤ ng →
      getMatch s (Rx.findSubmatchIndex s r ng) (n : Int) =
        .ok (match Rx.lookup c n with
          | some (a, b) => (s.drop a).take (b - a)
          | none => []) := by
  obtain ⟨h1, h2, _, _, _, h6⟩ := Rx.search_some s r p j c h
  unfold Rx.findSubmatchIndex
  rw [h]
  exact Rx.getMatch_indicesOf s ng p j c h1 h2 (Rx.capsIn_of_entries h6) hng

/-- **`{name}` on the leftmost-first match.**  With the name table the regex wrapper builds (in any map order),
`{name}` evaluated on the model engine's index list is the text of the span of the last group carrying that
name – empty when that group did not participate. -/
theorem rx_named_capture (s : Bytes) (r : Rx.Re) (ng p j : Nat) (c : Rx.Caps)
    (h : Rx.search s r = some (p, j, c)) (hng : (ng : Int) < 2305843009213693951)
    (subexpNames : List Bytes) (names : List (Bytes × Int)) (src : Bytes) (ln : Nat) (key : Bytes) (k : Nat)
    (hσ : names.Perm (C16.regexNameTable subexpNames)) (hres : key ∉ reservedKeys)
    (hk : subexpNames[k]? = some key) (hne : key ≠ [])
    (hlast : ∀ j, k < j → subexpNames[j]? ≠ some key) (hk1 : 1 ≤ k) (hk2 : k ≤ ng) :
    getKey ⟨s, Rx.findSubmatchIndex s r ng, names, src, ln⟩ key =
      .ok (.val (match Rx.lookup c k with
        | some (a, b) => (s.drop a).take (b - a)
        | none => [])) := by
  rw [getKey_regex_name ⟨s, Rx.findSubmatchIndex s r ng, names, src, ln⟩ subexpNames key k hσ hres hk hne hlast]
  obtain ⟨q1, q2, _, _, _, q6⟩ := Rx.search_some s r p j c h
  show (getMatch s (Rx.findSubmatchIndex s r ng) (k : Int)).map KeyAns.val = _
  unfold Rx.findSubmatchIndex
  rw [h, (Rx.getMatch_indicesOf s ng p j c q1 q2 (Rx.capsIn_of_entries q6) hng).2 k hk1 hk2]
  rfl

/-- **`{@}` on the leftmost-first match**: the group texts `1 … ng` of the search result joined by NUL
(a group that did not participate is an empty element; group 0 is not included). -/
theorem rx_array_value (s : Bytes) (r : Rx.Re) (ng p j : Nat) (c : Rx.Caps)
    (h : Rx.search s r = some (p, j, c)) (hng : (ng : Int) < 2305843009213693951) :
    array s (Rx.findSubmatchIndex s r ng) =
      .ok (joinSep [0] ((List.range' 1 ng).map fun n =>
        match Rx.lookup c n with
        | some (a, b) => (s.drop a).take (b - a)
        | none => [])) := by
  obtain ⟨q1, q2, _, _, _, q6⟩ := Rx.search_some s r p j c h
  unfold Rx.findSubmatchIndex
  rw [h]
  exact Rx.array_indicesOf s ng p j c q1 q2 (Rx.capsIn_of_entries q6) hng


/-! ### `--posix` (leftmost-longest), counted repetition, empty-width assertions -/

/-- **POSIX mode: leftmost-longest.**  When the search reports `(p, j, c)`: `s[p:j]` is a match of `r`; nothing
matches from an earlier start offset (leftmost); no match from `p` ends later (longest); among the matches
from `p` that end at `j` it is the first in priority order (what a backtracking search would have found
first – Go's documented choice, not POSIX's sub-match rule); every reported group span lies inside the match
and is derived by the body of a group with that number.  When it reports nothing, no stretch of the text matches. -/
theorem rx_posix_leftmost_longest (s : Bytes) (r : Rx.Re) :
    (∀ p j c, Rx.searchL s r = some (p, j, c) →
      p ≤ j ∧ j ≤ s.length ∧ Rx.Derives s r p j ∧ (∀ q, q < p → ∀ j', ¬ Rx.Derives s r q j') ∧
      (∀ j', Rx.Derives s r p j' → j' ≤ j) ∧
      (∃ l1 l2, Rx.den s r p [] = l1 ++ (j, c) :: l2 ∧ ∀ y ∈ l1, y.1 < j) ∧
      (∀ n a b, Rx.lookup c n = some (a, b) →
        p ≤ a ∧ a ≤ b ∧ b ≤ j ∧ ∃ body, Rx.Sub r n body ∧ Rx.Derives s body a b)) ∧
    (Rx.searchL s r = none → ∀ q, q ≤ s.length → ∀ j', ¬ Rx.Derives s r q j') := by
  refine ⟨?_, (Rx.searchL_eq_none_iff s r).mp⟩
  intro p j c h
  obtain ⟨h1, h2, h3, h4, h5, ⟨l1, l2, e, hl1, _⟩, h7⟩ := Rx.searchL_some s r p j c h
  exact ⟨h1, h2, h3, h4, h5, ⟨l1, l2, e, hl1⟩, fun n a b hl => h7 _ (Rx.lookup_mem hl)⟩

/-- Both modes match the same lines from the same start offset; the POSIX match is at least as long. -/
theorem rx_posix_vs_perl (s : Bytes) (r : Rx.Re) :
    (Rx.search s r = none ↔ Rx.searchL s r = none) ∧
    (∀ p j c, Rx.search s r = some (p, j, c) → ∃ j' c', Rx.searchL s r = some (p, j', c') ∧ j ≤ j') :=
  Rx.searchL_vs_search s r

/-- **Capture values in POSIX mode**: the index list is `[]` iff nothing matches, otherwise engine-shaped
(`EngineWF`, `2·(groups+1)` entries); `{0}` is the leftmost-longest stretch and `{n}` the text of group `n`'s
span in the reported match (empty when the group did not participate); `GetMatch` does not panic. -/
theorem rx_posix_capture_values (s : Bytes) (r : Rx.Re) (ng : Nat) (hng : (ng : Int) < 2305843009213693951) :
    (Rx.findSubmatchIndexL s r ng = [] ↔ Rx.searchL s r = none) ∧
    (∀ p j c, Rx.searchL s r = some (p, j, c) →
      EngineWF s (Rx.findSubmatchIndexL s r ng) ∧ (Rx.findSubmatchIndexL s r ng).length = 2 * (ng + 1) ∧
      getMatch s (Rx.findSubmatchIndexL s r ng) 0 = .ok ((s.drop p).take (j - p)) ∧
      ∀ n : Nat, 1 ≤ n → n ≤ ng →
        getMatch s (Rx.findSubmatchIndexL s r ng) (n : Int) =
          .ok (match Rx.lookup c n with
            | some (a, b) => (s.drop a).take (b - a)
            | none => [])) := by
  unfold Rx.findSubmatchIndexL
  constructor
  · cases Rx.searchL s r with
    | none => exact ⟨fun _ => rfl, fun _ => rfl⟩
    | some m => exact ⟨fun e => absurd e (Rx.indicesOf_ne_nil ng m), fun e => nomatch e⟩
  · intro p j c h
    obtain ⟨h1, h2, _, _, _, _, h6⟩ := Rx.searchL_some s r p j c h
    rw [h]
    exact ⟨Rx.indicesOf_engineWF s ng p j c h1 h2 (Rx.capsIn_of_entries h6), Rx.indicesOf_length ng _,
      Rx.getMatch_indicesOf s ng p j c h1 h2 (Rx.capsIn_of_entries h6) hng⟩

/-- **Counted repetition.**  What the parser builds for `x{n,m}` (`n ≤ m`; `x{n}` is `x{n,n}`) matches exactly
`k` matches of `x` in a row for some `n ≤ k ≤ m`, and `x{n,}` for some `k ≥ n` – greedy or lazy, whatever `x` is
(groups, alternations, bodies that can match the empty text). -/
theorem rx_counted_repetition (s : Bytes) (g : Bool) (a : Rx.Re) (n i j : Nat) :
    (∀ m, n ≤ m → (Rx.Derives s (Rx.repeatRe g a n (some m)) i j ↔ ∃ k, n ≤ k ∧ k ≤ m ∧ Rx.Pow s a k i j)) ∧
    (Rx.Derives s (Rx.repeatRe g a n none) i j ↔ ∃ k, n ≤ k ∧ Rx.Pow s a k i j) :=
  ⟨fun m h => Rx.repeat_bounded_derives s g a n m i j h, Rx.repeat_open_derives s g a n i j⟩

/-- **Empty-width assertions** match the empty stretch exactly where `syntax.EmptyOpContext` says: `\A`/`^`
at offset 0, `\z`/`$` at the end of the text, POSIX-mode `^` also after and `$` also before a line feed, `\b` where
exactly one of the two neighbouring bytes is a word byte (`\B`: elsewhere). -/
theorem rx_assertions (s : Bytes) (k : Rx.Look) (i j : Nat) :
    (Rx.Derives s (.look k) i j ↔ i = j ∧ Rx.holds s k i = true) ∧
    (Rx.holds s .bot i = true ↔ i = 0) ∧ (Rx.holds s .eot i = true ↔ i = s.length) ∧
    (Rx.holds s .bol i = true ↔ i = 0 ∨ s[i - 1]? = some 10) ∧
    (Rx.holds s .eol i = true ↔ i = s.length ∨ s[i]? = some 10) ∧
    (Rx.holds s .wb i = true ↔ Rx.wordBefore s i ≠ Rx.wordAt s i) ∧
    (Rx.holds s .nwb i = true ↔ Rx.wordBefore s i = Rx.wordAt s i) := by
  refine ⟨⟨fun h => ?_, fun ⟨e, h⟩ => e ▸ .look h⟩, ?_, ?_, ?_, ?_, ?_, ?_⟩
  · cases h with
    | look h => exact ⟨rfl, h⟩
  all_goals simp [Rx.holds]


/-! ### Batches at the level of Go slices: what a late consumer reads (`Model/C02Batch`) -/

/-- the text of the two batching loops as the translator reads it from `batcher.go` on every run -/
def loopTextPlain : BatchH.LoopText :=
  ⟨Gen.C02.batchLoopPlain_pre, Gen.C02.batchLoopPlain_start, Gen.C02.batchLoopPlain_loopCond, Gen.C02.batchLoopPlain_head,
   Gen.C02.batchLoopPlain_cond, Gen.C02.batchLoopPlain_flush, Gen.C02.batchLoopPlain_tailCond, Gen.C02.batchLoopPlain_tail⟩
def loopTextTimed : BatchH.LoopText :=
  ⟨Gen.C02.batchLoopTimed_pre, Gen.C02.batchLoopTimed_start, Gen.C02.batchLoopTimed_loopCond, Gen.C02.batchLoopTimed_head,
   Gen.C02.batchLoopTimed_cond, Gen.C02.batchLoopTimed_flush, Gen.C02.batchLoopTimed_tailCond, Gen.C02.batchLoopTimed_tail⟩

/-- **The batching loops of the model are the source's**, statement by statement: `syncReaderToBatcher` and
`syncReaderToBatcherWithTimeFlush` start from `make(…, 0, batchSize)` and `batchStart = 1`, append the scanned
line, flush on `len(batch) >= batchSize` (timed loop: `|| time.Since(lastBatchFlush) >= autoFlush`) by sending
`InputBatch{batch, sourceName, batchStart}`, advancing `batchStart` by `len(batch)` and ALLOCATING a new slice,
and send the remainder after the loop.  The worker walks `batch.Batch` with `idx` and numbers line `idx`
`batch.BatchStart + idx`.  Stdin and followed files run the timed loop with the 250 ms `AutoFlushTimeout`, plain files
the loop without timer.  (A changed statement, condition or order in /repo makes this false.) -/
theorem batch_loops_from_source :
    BatchH.parseLoop loopTextPlain = some BatchH.plainLoop ∧ BatchH.parseLoop loopTextTimed = some BatchH.timedLoop ∧
    Gen.C02.workerRange = ["idx", "str", "batch.Batch"] ∧
    Gen.C02.workerCall = ["batch.Source", "batch.BatchStart+uint64(idx)", "str"] ∧
    (∀ start idx : Int, Gen.C02.workerLineNum start idx = start + idx) ∧
    Gen.C02.autoFlushTimeoutMs = 250 ∧
    Gen.C02.batchLoopCalls = ["OpenReaderToChan:syncReaderToBatcherWithTimeFlush:AutoFlushTimeout",
      "TailFilesToChan:syncReaderToBatcherWithTimeFlush:AutoFlushTimeout", "OpenFilesToChan:syncReaderToBatcher:batchSize"] :=
  -- both loops in one evaluation: they consist of the same statements, which the kernel then parses once
  and_assoc.mp ⟨by decide +kernel, rfl, rfl, fun _ _ => rfl, rfl, rfl⟩

/-- **However long the consumer holds a batch, and however the 250 ms timer fired.**  Run the source's timed loop
(`l`, the program the translator read) on the slice-level machine – backing arrays, `append` in place, `make` – for
any batch size `≥ 1` (the CLI refuses others), any lines and any timer behaviour; let every `InputBatch` that was
sent be read only at the very end, after all later lines were appended (`lateRead`), and numbered the way the worker
numbers (`BatchStart + idx`): every line of the input appears exactly once, in order, with its own text and its true
1-based number.  The same at every earlier moment for the batches sent so far (they read what the list-level loop
`Rare.Batcher.step` sent), and for the loop without timer. -/
theorem sent_batches_stable {α : Type} (l : BatchH.BLoop) (hl : BatchH.parseLoop loopTextTimed = some l)
    (batchSize : Nat) (hbs : 1 ≤ batchSize) (ls : List (α × Bool)) :
    BatchH.numbered (BatchH.lateRead (BatchH.runH l batchSize ls)) = ((ls.map (·.1)).zipIdx 1).map (fun p => (some p.1, p.2)) ∧
    (let s := ls.foldl (BatchH.stepH l batchSize) (BatchH.initH l batchSize)
     BatchH.readSent s.heap s.sent =
       ((ls.foldl (Batcher.step batchSize) ⟨[], [], 1⟩).out.map fun b => (b.lines.map some, b.start))) := by
  obtain rfl : BatchH.sourceLoop true = l := Option.some.inj (batch_loops_from_source.2.1.symm.trans hl)
  have hid : (ls.map fun x => (x.1, true && x.2)) = ls := List.map_id' ls
  have hmid := BatchH.midRead_source true batchSize hbs ls
  have hlate := BatchH.lateRead_source true batchSize hbs ls
  rw [hid] at hmid hlate
  exact ⟨by rw [hlate, BatchH.numbered_map, lineNumber_true], hmid⟩

/-- the file readers' loop (no timer) -/
theorem sent_batches_stable_files {α : Type} (l : BatchH.BLoop) (hl : BatchH.parseLoop loopTextPlain = some l)
    (batchSize : Nat) (hbs : 1 ≤ batchSize) (ls : List (α × Bool)) :
    BatchH.numbered (BatchH.lateRead (BatchH.runH l batchSize ls)) = ((ls.map (·.1)).zipIdx 1).map (fun p => (some p.1, p.2)) := by
  obtain rfl : BatchH.sourceLoop false = l := Option.some.inj (batch_loops_from_source.1.symm.trans hl)
  rw [BatchH.lateRead_source false batchSize hbs ls, BatchH.numbered_map, lineNumber_true, List.map_map]
  rfl

/-- **The boundary: the allocation after a flush is what the property rests on.**  The same loop with
`batch = batch[:0]` in place of `batch = make(…)` (`BatchH.reuseLoop`): batch size 3, line `1` arrives after a pause
(timer fired, the short batch `[1]` is sent), line `2` follows at once.  A consumer that reads late sees line
number 1 carrying the text of line 2 – the text of line 1 is gone. -/
theorem batch_reuse_counterexample :
    BatchH.numbered (BatchH.lateRead (BatchH.runH BatchH.reuseLoop 3 [(1, true), (2, false)])) = [(some 2, 1), (some 2, 2)] ∧
    BatchH.numbered (BatchH.lateRead (BatchH.runH BatchH.timedLoop 3 [(1, true), (2, false)])) = [(some 1, 1), (some 2, 2)] := by
  decide +kernel

/-- `a|ab` on `xab`: Perl mode reports `a`, POSIX mode `ab`; `(a*)(a|b)*` on `aab`: the longest match with the
captures a backtracking search finds first; `(\d{1,3})\.(\d{2})` and `\bb` through the parser -/
example :
    (Rx.parseEx false (lit "a|ab")).map (fun p => Rx.findSubmatchIndex (lit "xab") p.re p.ng) = some [1, 2] ∧
    (Rx.parseEx true (lit "a|ab")).map (fun p => Rx.findSubmatchIndexL (lit "xab") p.re p.ng) = some [1, 3] ∧
    (Rx.parseEx true (lit "(a*)(a|b)*")).map (fun p => Rx.findSubmatchIndexL (lit "aab") p.re p.ng) = some [0, 3, 0, 2, 2, 3] ∧
    (Rx.parseEx false (lit "(\\d{1,3})\\.(\\d{2})")).map (fun p => Rx.findSubmatchIndex (lit "v1234.567") p.re p.ng)
      = some [2, 8, 2, 5, 6, 8] ∧
    (Rx.parseEx false (lit "\\bb")).map (fun p => Rx.findSubmatchIndex (lit "ab b") p.re p.ng) = some [3, 4] ∧
    (Rx.parseEx true (lit "\\d")).isNone = true ∧ (Rx.parseEx false (lit "(a{30}){40}")).isNone = true := by
  simp -index only [lit_ofList]
  decide +kernel

/-- flag groups (`s`: the dot also matches the line feed; `m`: `^` is line-wise; `U`: greedy and lazy swapped; a scoped
`(?i:…)` ends at its parenthesis), POSIX classes, hex escapes and `\Q…\E`, a `{` that is not a repetition, a repetition of a repetition (POSIX syntax only) -/
example :
    (Rx.parse (lit "(?s)a.b")).map (fun p => Rx.findSubmatchIndex (lit "a\nb") p.re p.ng) = some [0, 3] ∧
    (Rx.parse (lit "a.b")).map (fun p => Rx.findSubmatchIndex (lit "a\nb") p.re p.ng) = some [] ∧
    (Rx.parse (lit "(?m)^b")).map (fun p => Rx.findSubmatchIndex (lit "a\nb") p.re p.ng) = some [2, 3] ∧
    (Rx.parse (lit "(?U)a+")).map (fun p => Rx.findSubmatchIndex (lit "aaa") p.re p.ng) = some [0, 1] ∧
    (Rx.parse (lit "(?U)a+?")).map (fun p => Rx.findSubmatchIndex (lit "aaa") p.re p.ng) = some [0, 3] ∧
    (Rx.parse (lit "(?i:a)b")).map (fun p => Rx.findSubmatchIndex (lit "Ab") p.re p.ng) = some [0, 2] ∧
    (Rx.parse (lit "(?i:a)b")).map (fun p => Rx.findSubmatchIndex (lit "AB") p.re p.ng) = some [] ∧
    (Rx.parse (lit "(x(?i)a)a")).map (fun p => Rx.findSubmatchIndex (lit "xAA xAa") p.re p.ng) = some [4, 7, 4, 6] ∧
    (Rx.parseEx true (lit "[[:alpha:]]+")).map (fun p => Rx.findSubmatchIndexL (lit "12ab3") p.re p.ng) = some [2, 4] ∧
    (Rx.parse (lit "[[:^alpha:][:digit:]]+")).map (fun p => Rx.findSubmatchIndex (lit "ab12 c") p.re p.ng) = some [2, 5] ∧
    (Rx.parse (lit "\\x41\\Q.\\E")).map (fun p => Rx.findSubmatchIndex (lit "AxA.") p.re p.ng) = some [2, 4] ∧
    (Rx.parse (lit "a{,2}")).map (fun p => Rx.findSubmatchIndex (lit "a{,2}") p.re p.ng) = some [0, 5] ∧
    (Rx.parseEx true (lit "a{2}{3}")).map (fun p => Rx.findSubmatchIndexL (lit "aaaaaaa") p.re p.ng) = some [0, 6] ∧
    (Rx.parse (lit "a{2}{3}")).isNone = true ∧
    (Rx.parse (lit "a{1001}")).isNone = true ∧ (Rx.parseEx true (lit "[a-c-e]")).isNone = true := by
  simp -index only [lit_ofList]
  decide +kernel

/-- `^` under `--posix` is line-wise (no `OneLine` flag) -/
example : (Rx.parseEx true (lit "^b")).map (fun p => Rx.findSubmatchIndexL (lit "a\nb") p.re p.ng) = some [2, 3] ∧
    (Rx.parseEx false (lit "^b")).map (fun p => Rx.findSubmatchIndex (lit "a\nb") p.re p.ng) = some [] := by
  simp -index only [lit_ofList]
  decide +kernel

/-- **The boundary of the fragment: loops over bodies that can match the empty text.**  `([ab]*?)*b` on
`ababaaa`: the parser refuses it (`unmodelled`), and for a reason – read with plain backtracking priority (one
more iteration before leaving a greedy loop, iterations must advance) the answer would be `[0,4, 2,3]`, while Go's
engines answer `[0,2, 0,1]`: they never enter the same instruction twice at one offset, so the second iteration
dies at the inner loop's exit test that the first iteration has just passed at offset 1.  For such expressions
Go's answer is not the first derivation in priority order; `corpus/C02/rxnull.case` keeps the examples. -/
example :
    (Rx.parse (lit "([ab]*?)*b")).isNone = true ∧ (Rx.parse (lit "(a*)*")).isNone = true ∧
    (Rx.parse (lit "(a*){2,}")).isNone = true ∧ (Rx.parse (lit "(a*){2,3}")).isSome = true ∧
    Rx.findSubmatchIndex (lit "ababaaa")
      (.cat (.star true (.grp 1 (.star false (.cls false [(97, 98)])))) (.cls false [(98, 98)])) 1 = [0, 4, 2, 3] := by
  simp -index only [lit_ofList]
  decide +kernel

/-- non-vacuity of `rx_counted_repetition`: three `a` in a row for `a{2,3}` -/
example : Rx.Pow (lit "aaa") (.cls false [(97, 97)]) 3 0 3 :=
  .succ (.cls (b := 97) rfl rfl) (.succ (.cls (b := 97) rfl rfl) (.succ (.cls (b := 97) rfl rfl) (.zero 3)))

/-- Non-vacuity: an optional group that did not participate, a nested group, and a missing group. -/
example : WF [97, 98, 99] [0, 3, -1, -1, 1, 2] ∧
    specGroup [97, 98, 99] [0, 3, -1, -1, 1, 2] 0 = [97, 98, 99] ∧
    specGroup [97, 98, 99] [0, 3, -1, -1, 1, 2] 1 = [] ∧
    specGroup [97, 98, 99] [0, 3, -1, -1, 1, 2] 2 = [98] ∧
    specGroup [97, 98, 99] [0, 3, -1, -1, 1, 2] 3 = [] := by
  exact ⟨.of_pairs (by decide +kernel), by decide +kernel⟩

example : (match wrapIndices [97, 98, 99] [[1], [2]] [0] [0, 1, 1, 3] with
    | .ok segs => strip segs
    | .error _ => []) = [97, 98, 99] := by decide +kernel

/-- `EngineWF` is satisfiable on a list with an absent group, nested / overlapping groups and a group
that lies *before* an earlier-numbered one (`(?:(b)|(a))*` on `ab` gives `[0,2, 1,2, 0,1]`). -/
example : EngineWF [97, 98] [0, 2, 1, 2, 0, 1] ∧ EngineWF [97, 98, 99] [0, 3, -1, -1, 0, 3, 1, 2, 1, 1] := by
  exact ⟨⟨by decide, by decide, .of_pairs (by decide +kernel)⟩, ⟨by decide, by decide, .of_pairs (by decide +kernel)⟩⟩

/-- `{@}`: group 0 is not included, the absent group 2 is the empty text between two separators -/
example : (array (lit "x yz") [0, 4, 0, 1, -1, -1, 2, 4]).toOption = some (lit "x" ++ [0, 0] ++ lit "yz") ∧
    (array (lit "x") [0, 1]).toOption = some [] ∧ (array (lit "x") [0, 1, 0, 1]).toOption = some (lit "x") := by
  simp -index only [lit_ofList]
  decide +kernel

/-- default `filter` output on the out-of-order list: group 2 (before group 1) is skipped, nothing is lost -/
example : (match filterLine true [[1], [2]] [9] [97, 98] [0, 2, 1, 2, 0, 1] with
    | .ok segs => (render segs, texts segs, codes segs)
    | .error _ => ([], [], [])) = ([97, 1, 98, 9, 10], [[97], [98], [10]], [[1], [9]]) := by decide +kernel

/-- a line that already carries `ESC[1m`: the sequence stands in the output untouched, while the byte-level
reading (`visible`) removes it together with the inserted codes – it cannot tell them apart -/
example :
    (match filterLine true (Gen.C02.groupColors.map lit) (lit Gen.C02.reset) (lit "a\x1b[1mb c") [0, 8, 7, 8] with
     | .ok segs => (render segs, visible (render segs), strip segs)
     | .error _ => ([], [], []))
    = (lit "a\x1b[1mb \x1b[31mc\x1b[0m\n", lit "ab c\n", lit "a\x1b[1mb c\n") := by
  simp -index only [lit_ofList]
  decide +kernel

/-- `(\w+) (?P<path>\S+) (?P<status>\d+)` on `GET /x 200`: `path` is group 2, `status` group 3 (the unnamed
group counts); `(?P<a>x)(y)(?P<a>z)`: the name keeps its last group -/
example : C16.regexNameTable [[], [], lit "path", lit "status"] = [(lit "path", 2), (lit "status", 3)] ∧
    (getKey ⟨lit "GET /x 200", [0, 10, 0, 3, 4, 6, 7, 10], C16.regexNameTable [[], [], lit "path", lit "status"], [], 1⟩
      (lit "path")).toOption.map (fun a => match a with | .val b => b | .json => []) = some (lit "/x") ∧
    C16.regexNameTable [[], lit "a", [], lit "a"] = [(lit "a", 3)] := by
  simp -index only [lit_ofList]
  decide +kernel

/-- the hypotheses of `named_group_value` are satisfiable (`path` is not a reserved key, it is group 2) -/
example : lit "path" ∉ reservedKeys ∧ ([[], [], lit "path", lit "status"] : List Bytes)[2]? = some (lit "path") ∧
    lit "line" ∈ reservedKeys := by
  simp -index only [lit_ofList]
  decide +kernel

example : matcherPlan true false (lit "err (\\d+)") [] true true = .regex (lit "(?i)err (\\d+)") true := by
  simp -index only [lit_ofList]
  decide +kernel

/-- an index list of odd length < 2 would panic in `match.Indices[2:]` (no matcher returns one) -/
example : (filterLine true [] [] [97] [0]).toBool = false := by decide +kernel


/-- `(a|ab)(c|bcd)(d*)` on `abcd`: leftmost-FIRST takes `a`, then `bcd`, then the empty `d*`
(POSIX leftmost-longest would take `ab`, `c`, `d`) -/
example : Rx.findSubmatchIndex (lit "abcd")
    (.cat (.grp 1 (.alt (.cls false [(97, 97)]) (.cat (.cls false [(97, 97)]) (.cls false [(98, 98)]))))
      (.cat (.grp 2 (.alt (.cls false [(99, 99)])
          (.cat (.cls false [(98, 98)]) (.cat (.cls false [(99, 99)]) (.cls false [(100, 100)])))))
        (.grp 3 (.star true (.cls false [(100, 100)]))))) 3 = [0, 4, 0, 1, 1, 4, 4, 4] := by decide +kernel

/-- `(?:(b)|(a))*` on `ab`: a group inside a loop keeps its last participation (`[0,2, 1,2, 0,1]`);
`x(a)?` on `xb`: a group that did not participate reads `-1,-1` -/
example : Rx.findSubmatchIndex (lit "ab")
      (.star true (.alt (.grp 1 (.cls false [(98, 98)])) (.grp 2 (.cls false [(97, 97)])))) 2 = [0, 2, 1, 2, 0, 1] ∧
    Rx.findSubmatchIndex (lit "xb")
      (.cat (.cls false [(120, 120)]) (.alt (.grp 1 (.cls false [(97, 97)])) .eps)) 1 = [0, 1, -1, -1] := by
  simp -index only [lit_ofList]
  decide +kernel

/-- the parser: `(\w+) (?P<path>\S+)` has two groups, the second is named -/
example : (Rx.parse (lit "(\\w+) (?P<path>\\S+)")).map (fun p => (p.ng, p.subexpNames)) = some (2, [[], [], lit "path"]) := by
  simp -index only [lit_ofList]
  decide +kernel

/-- `filter -l -n 2` on three matches: two lines `IN <n>: <line>`, and `plainLine` is what it says -/
example : (match filterAll false true false ⟨[], [], [], []⟩ 2
      [⟨lit "IN", 1, lit "a", [0, 1], lit "a"⟩, ⟨lit "IN", 3, lit "bc", [0, 2], lit "bc"⟩, ⟨lit "IN", 4, lit "d", [0, 1], lit "d"⟩] 0 with
    | .ok segs => render segs
    | .error _ => []) = lit "IN 1: a\nIN 3: bc\n" := by
  simp -index only [lit_ofList]
  decide +kernel

/-! ## ONE context object over a HISTORY of matches

The extractor does not build a context per match.  Every worker goroutine owns one
`SliceSpaceExpressionContext`; `processLineSync` re-points it at each matched line; all sources go through the
same workers and line numbers restart at 1 in every source.  "Capture values equal to those of the leftmost
match on THAT line" is therefore a statement about an object with a past: `{N}`, `{name}`, `{@}`, `{src}`,
`{line}` must be functions of the CURRENT match only. -/

/-- **The worker's loop is the map of a context-free function.**  One worker (`histWorker`: a context created
once with the name table, then `processLineSync` for every line it is handed, expression `{k₁}|{k₂}|…` over
arbitrary keys – decimal group numbers, group names, `@`, `src`, `line`) produces, for EVERY history `hs` – any
sources in any order, equal or restarting line numbers, unmatched lines in between, the same match again –
exactly what the context-free `captureOf` gives line by line (same panics too). -/
theorem capture_history_is_map (keys : List Bytes) (nt : List (Bytes × Int)) (hs : List LineHit) :
    histWorker keys nt hs = hs.mapM (captureOf keys nt) :=
  histWorker_eq_mapM keys nt hs

/-- Pointwise: the `Extracted` at position `i` of a history is determined by the line at position `i` alone. -/
theorem capture_is_function_of_current_match (keys : List Bytes) (nt : List (Bytes × Int)) (hs : List LineHit)
    (outs : List (Option KeyAns)) (hrun : histWorker keys nt hs = .ok outs) :
    outs.length = hs.length ∧
    ∀ (i : Nat) (x : LineHit), hs[i]? = some x → ∃ o, outs[i]? = some o ∧ captureOf keys nt x = .ok o := by
  rw [capture_history_is_map] at hrun
  exact C16.mapM_ok_pointwise _ hs outs hrun

/-- The state a context is in does not matter: from ANY context `c` (whatever line, indices, source and line
number an earlier match – or nobody – left in it) `processLineSync` extracts what a context built from the
match alone would; only the name table, set at construction and never again, is kept. -/
theorem capture_context_state_is_irrelevant (keys : List Bytes) (c : MatchCtx) (h : LineHit) :
    (histLine keys c h).map (·.2) = captureOf keys c.names h ∧
    ∀ c' o, histLine keys c h = .ok (c', o) → c'.names = c.names := by
  refine ⟨?_, fun c' o hp => histLine_names keys c c' h o hp⟩
  rw [histLine_eq]
  cases captureOf keys c.names h <;> rfl

/-- What the capture keys read of a match: `{N}` is `GetMatch N` of (line, indices) – so, by `getMatch_spec`, the
text of group N of THIS line's match –, `{@}` is `array` of (line, indices), `{src}` and `{line}` are the source
and the number the line came with.  Nothing else enters. -/
theorem capture_keys_read_match_only (nt : List (Bytes × Int)) (h : LineHit) :
    (∀ k i, atoi k = some i → captureKey nt h k = (getMatch h.line h.indices i).map .val) ∧
    captureKey nt h (ascii "@") = (array h.line h.indices).map .val ∧
    captureKey nt h (ascii "src") = .ok (.val h.source) ∧
    captureKey nt h (ascii "line") = .ok (.val (itoa h.lineNum)) := by
  have ha : atoi (ascii "@") = none ∧ atoi (ascii "src") = none ∧ atoi (ascii "line") = none := by decide +kernel
  refine ⟨fun k i hk => ?_, ?_, ?_, ?_⟩
  · simp only [captureKey, MatchCtx.keyVal, hk]
  · simp only [captureKey, MatchCtx.keyVal, ha.1, getKey_array]
  · simp only [captureKey, MatchCtx.keyVal, ha.2.1, getKey_src]
  · simp only [captureKey, MatchCtx.keyVal, ha.2.2, getKey_line]

/-- the history the seeded change `C02-array-memo-linenum` gets wrong, in the model: two one-line files through
one worker (`(\w+)=(\d+)` on `alpha=1` and `beta=2`, both line 1 of their source), an unmatched line, and the
first match again – every match reports ITS OWN groups for `{@}`, and the same match the same text again -/
theorem capture_history_witness :
    (histWorker [lit "src", lit "line", lit "@", lit "1"] []
      [⟨lit "a.log", 1, [0, 7, 0, 5, 6, 7], lit "alpha=1"⟩, ⟨lit "b.log", 1, [0, 6, 0, 4, 5, 6], lit "beta=2"⟩,
       ⟨lit "c.log", 1, [], lit "zz"⟩, ⟨lit "a.log", 1, [0, 7, 0, 5, 6, 7], lit "alpha=1"⟩]).toOption
      = some [some (.val (lit "a.log|1|alpha" ++ [0] ++ lit "1|alpha")),
              some (.val (lit "b.log|1|beta" ++ [0] ++ lit "2|beta")), none,
              some (.val (lit "a.log|1|alpha" ++ [0] ++ lit "1|alpha"))] := by
  simp -index only [lit_ofList]
  decide +kernel

/-- **The context's fields, their writers and their readers ARE the source's** (regenerated from
pkg/extractor/sliceSpaceExpressionContext.go and extractor.go on every run, `Gen.C02.ctx*`).  The struct has
exactly the five fields of `MatchCtx`; `processLineSync` binds the worker's context, assigns exactly `linePtr`,
`indices`, `source`, `lineNum` (= `MatchCtx.load`) and only then hands the context to `IgnoreMatch` / `BuildKey`;
the only constructor site sets `nameTable` (= `MatchCtx.fresh`), nothing else in the package assigns such a
field; NO method of the context writes a field, takes its address, hands a map/slice field on or lets the
receiver escape; `GetMatch`, `GetKey` and `array` – everything `{N}`, `{name}`, `{@}`, `{src}`, `{line}` run
through – read no field but those four and the name table.  A memo of the joined groups, a cache keyed by line
number, a lazily filled field: any state a method could carry from one match to the next changes these lists. -/
theorem capture_context_is_source :
    Gen.C02.ctxFields = [("linePtr", "string"), ("indices", "[]int"), ("nameTable", "map[string]int"),
      ("source", "string"), ("lineNum", "uint64")] ∧
    Gen.C02.ctxLoadEvents = [("bind", "expContext", "s.context"), ("set", "linePtr", "lineStringPtr"),
      ("set", "indices", "matches"), ("set", "source", "source"), ("set", "lineNum", "lineNum"),
      ("use", "s.ignore.IgnoreMatch", ""), ("use", "s.keyBuilder.BuildKey", "")] ∧
    loadSetFields Gen.C02.ctxLoadEvents = ["linePtr", "indices", "source", "lineNum"] ∧
    setsBeforeUses Gen.C02.ctxLoadEvents = true ∧
    Gen.C02.ctxLiterals = ["asyncWorker:nameTable"] ∧ Gen.C02.ctxFieldSetsElsewhere = [] ∧
    (Gen.C02.ctxMethods.filter fun m => captureMethods.contains m.1) =
      [("GetMatch", ["indices", "linePtr"], [], [], []),
       ("GetKey", ["source", "lineNum", "nameTable"], [], ["json", "array", "GetMatch"], []),
       ("array", ["indices"], [], ["GetMatch"], [])] ∧
    methodWrites Gen.C02.ctxMethods = [] ∧
    (Gen.C02.ctxMethods.all fun m => m.2.2.2.2.isEmpty) = true ∧
    (∀ f ∈ methodReadsOf captureMethods Gen.C02.ctxMethods,
      f ∈ loadSetFields Gen.C02.ctxLoadEvents ∨ f ∈ ["nameTable"]) ∧
    Gen.C02.arrayOutline =
      ["varsbstrings.Builder", "for i:=1;i<len(s.indices)/2;i++{", "val:=s.GetMatch(i)", "if i>1{",
       "sb.WriteRune(expressions.ArraySeparator)", "}", "sb.WriteString(val)", "}", "returnsb.String()"] :=
  ⟨rfl, rfl, by decide +kernel, by decide +kernel, rfl, rfl, by decide +kernel, rfl, rfl, by decide +kernel, rfl⟩

/-- **History independence of the capture values from the source's own read/write sets** (C16's frame argument,
`C16.frame`, applied to the methods the capture keys run through).  Take the fields `processLineSync` assigns
(`W`), the fields ANY method of the context may write (`MW`) and the fields `GetMatch` / `GetKey` / `array` read
(`R`) as the translator found them in /repo.  Then for ANY function `view` of the object that reads only `R`,
after ANY history of re-pointings and method calls (`before`), a re-pointing at the match `m` and any number of
further method calls on that match (`after` – the ignore expressions, the earlier keys of the same expression),
`view` answers what it answers on the constructed object re-pointed once at `m`.  The only premise, `R ∩ MW = ∅`,
is decided on the generated lists – with a memo field written by `array()` it is false. -/
theorem capture_history_frame_source {V β : Type} (view : C16.Obj V → β)
    (hv : C16.ReadsOnly (methodReadsOf captureMethods Gen.C02.ctxMethods) view)
    (o₀ : C16.Obj V) (before : List (C16.ObjStep V)) (m : C16.Obj V) (after : List (C16.Obj V)) :
    view ((after.map C16.ObjStep.method).foldl
        (C16.ObjStep.apply (loadSetFields Gen.C02.ctxLoadEvents) (methodWrites Gen.C02.ctxMethods))
        (C16.ObjStep.apply (loadSetFields Gen.C02.ctxLoadEvents) (methodWrites Gen.C02.ctxMethods)
          (before.foldl (C16.ObjStep.apply (loadSetFields Gen.C02.ctxLoadEvents) (methodWrites Gen.C02.ctxMethods)) o₀)
          (.repoint m)))
      = view (C16.ObjStep.apply (loadSetFields Gen.C02.ctxLoadEvents) (methodWrites Gen.C02.ctxMethods) o₀ (.repoint m)) :=
  C16.frame _ _ _ (by decide +kernel) view hv o₀ before m after

/-- **This model of the context and C16's are one object** (`C16.Ctx`, `Model/C16Ctx.lean`, which the JSON views
`{.}` `{#}` `{.#}` are proved history-independent on): the same four assignments, the same constructor, and for
every context and every key that is not a view – a decimal group number, `src`, `line`, `@`, a group name, an
unknown name – the very bytes (or the panic) of C16's `GetMatch` / `GetKey`. -/
theorem capture_models_agree_C16 :
    (∀ (c : C16.Ctx) (h : C16.Hit), ofC16 (c.load h) = (ofC16 c).load (ofC16Hit h)) ∧
    (∀ nt, ofC16 (C16.Ctx.fresh nt) = MatchCtx.fresh nt) ∧
    (∀ (c : C16.Ctx) (key : Bytes) (i : Int), atoi key = some i →
      (ofC16 c).keyVal key = (c.getMatch i).map KeyAns.val) ∧
    (∀ (c : C16.Ctx) (key : Bytes), atoi key = none → C16.viewFlags key = none →
      (ofC16 c).keyVal key = (c.getKey key).map KeyAns.val) :=
  ⟨ofC16_load, ofC16_fresh, keyVal_decimal_eq_C16, keyVal_eq_C16⟩

/-! non-vacuity of the history theorems -/
/-- a history with two sources at the same line number, a named group, `{0}` and an unknown name -/
example : (histWorker [lit "k", lit "0", lit "@", lit "nope"] [(lit "k", 1)]
      [⟨lit "a.log", 7, [0, 3, 0, 1, 2, 3], lit "x=1"⟩, ⟨lit "b.log", 7, [0, 3, 0, 1, 2, 3], lit "y=2"⟩]).toOption
      = some [some (.val (lit "x|x=1|x" ++ [0] ++ lit "1|<NAME>")), some (.val (lit "y|y=2|y" ++ [0] ++ lit "2|<NAME>"))] := by
  simp -index only [lit_ofList]
  decide +kernel
/-- an empty key drops the line (group 2 did not participate), a view key makes the model decline -/
example : (captureOf [lit "2"] [] ⟨lit "f", 1, [0, 1, 0, 1, -1, -1], lit "a"⟩).toOption = some none ∧
    (captureOf [lit "1", lit "."] [] ⟨lit "f", 1, [0, 1, 0, 1], lit "a"⟩).toOption = some (some .json) := by
  simp -index only [lit_ofList]
  decide +kernel
/-- a view that reads what the source's capture methods read: `ReadsOnly` is satisfiable and not trivial -/
example : C16.ReadsOnly (methodReadsOf captureMethods Gen.C02.ctxMethods)
    (fun o : C16.Obj Nat => o "indices" + o "linePtr" + o "lineNum") :=
  fun o o' h => by simp [h "indices" (by decide +kernel), h "linePtr" (by decide +kernel), h "lineNum" (by decide +kernel)]
example : atoi (lit "2") = some 2 ∧ atoi (lit "k") = none ∧ C16.viewFlags (lit "@") = none := by
  simp -index only [lit_ofList]
  decide +kernel

end Rare.C02

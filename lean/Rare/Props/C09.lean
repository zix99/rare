import Rare.Proofs.C09C10Std
import Rare.Props.C10
import Rare.Proofs.C09Utf8Char
import Rare.Proofs.C09FuelStd
import Rare.Proofs.C09Frag
import Rare.Proofs.C09FragW
import Rare.Proofs.C09Lookup
import Rare.Proofs.C09Gen
import Rare.Proofs.C09Err
import Rare.Proofs.C09WF
import Rare.Proofs.C09WFB
import Rare.Proofs.C09WFAll
import Rare.Proofs.C09Pos
import Rare.Proofs.C09All
import Rare.Gen.Tables
/-!
Property C09 – template syntax: literals, escapes, quotes and nesting parse as documented.

Model: `Rare.Expr.compile` / `splitArgs` / `stageSimpleVariable` (`Rare/Model/Expr/Core.lean`), the model of
`KeyBuilder.Compile`, `splitTokenizedArguments`, `stageSimpleVariable` in /repo/pkg/expressions.
Spec: `Rare/Spec/C09.lean` (`Expr`, `evalTree`, `escapeLit`, `printTop`, `Piece`/`layout`, `Unterminated`).
Templates are rune lists (`[]rune(template)`).  The step from Go's strings to rune lists is in the model
too: `decodeUtf8` (Go's `[]rune(s)` / `for range s`: every invalid byte becomes one U+FFFD), `encodeUtf8`
(`string([]rune)`), `wellFormed` (Unicode table 3-7, structural) – `Rare/Model/C09Utf8.lean`; the byte-level
entry points are `compileBytes` and `splitArgsBytes` (theorems `utf8_*`, `*_bytes` below).
-/
namespace Rare.C09
open Rare Rare.Expr

/-- Text outside braces: for every string `s` (all of Unicode, control characters, braces, backslashes,
    quotes), every registry, optimiser on or off and every context, the escaped rendering of `s`
    compiles without errors and evaluates to (the UTF-8 of) `s`. -/
theorem escape_roundtrip (reg : Registry) (opt : Bool) (s : List Char) (ctx : Ctx) :
    ∃ stages, compile reg opt (escapeLit s) = .ok (stages, []) ∧ (buildKey stages).run ctx = .ok (utf8 s) := by
  obtain ⟨st, h1, h2⟩ := compileF_escapeLit (escapeLit s).length reg opt s
  exact ⟨st, h1, h2 ctx⟩

/-- The argument splitter splits exactly at unquoted, unbraced white space: for every sequence of
    well-formed pieces (bare words, quoted strings – possibly empty –, braced groups with arbitrary
    balanced content including white space and quotes), separated by arbitrary Unicode white space
    (optional before the first piece and after the last), the result is the list of the pieces'
    values: the word, the string without its quotes, the braced group verbatim. -/
theorem split_spec (l : List (List Char × Piece)) (trail : List Char)
    (hl : LayoutOk true l) (ht : allSpace trail = true) :
    splitArgs (layout l ++ trail) = l.map (·.2.value) :=
  splitArgs_layout l trail hl ht

/-- A quoted `""` yields an empty argument. -/
theorem split_quoted_empty (w0 w1 w2 : List Char) (a b : List Char)
    (h0 : allSpace w0 = true) (h1 : allSpace w1 = true) (h2 : allSpace w2 = true) (n1 : w1 ≠ []) (n2 : w2 ≠ [])
    (ha : bare a = true) (hb : bare b = true) :
    splitArgs (w0 ++ a ++ w1 ++ ['"', '"'] ++ w2 ++ b) = [a, [], b] := by
  have := split_spec [(w0, .bare a), (w1, .quoted []), (w2, .bare b)] []
    ⟨h0, Or.inl rfl, ha, h1, Or.inr n1, rfl, h2, Or.inr n2, hb, trivial⟩ rfl
  simpa [layout, Piece.text, Piece.value] using this

/-- Unterminated statements are reported: whenever the braces of a template do not close
    (`Unterminated`, escapes respected) and `Compile` returns at all (no function builder panicked),
    its error list contains `ErrorUnterminated`. -/
theorem unterminated_reported (reg : Registry) (opt : Bool) (t : List Char) (stages : List Stage) (errs : List CErr)
    (h : compile reg opt t = .ok (stages, errs)) (hu : Unterminated t) :
    ∃ e ∈ errs, e.kind = ErrKind.unterminated :=
  compileF_unterminated t.length reg opt t stages errs h hu

/-- `{}` and `{   }` (any white space) are reported as `ErrorEmptyStatement` at index 0 and produce no stage. -/
theorem empty_statement_reported (reg : Registry) (opt : Bool) (w : List Char) (hw : allSpace w = true) :
    ∃ ctx, compile reg opt ('{' :: (w ++ ['}'])) = .ok ([], [⟨ErrKind.emptyStatement, ctx, 0⟩]) :=
  compileF_empty_statement _ reg opt w hw

/-- An unknown head with at least one argument is reported as `ErrorMissingFunction` (context = the
    statement body, index 0) and evaluates to the `<Err:name>` marker. -/
theorem missing_function_reported (reg : Registry) (opt : Bool)
    (w0 name w1 : List Char) (p1 : Piece) (rest : List (List Char × Piece)) (trail : List Char)
    (hl : LayoutOk true ((w0, .bare name) :: (w1, p1) :: rest)) (ht : allSpace trail = true)
    (hr : reg name = none) :
    ∃ st, compile reg opt ('{' :: ((layout ((w0, .bare name) :: (w1, p1) :: rest) ++ trail) ++ ['}'])) =
        .ok (st, [⟨ErrKind.missingFunction, layout ((w0, .bare name) :: (w1, p1) :: rest) ++ trail, 0⟩]) ∧
      ∀ ctx, (buildKey st).run ctx = .ok (utf8 ("<Err:".toList ++ name ++ ">".toList)) :=
  compileF_missing_function _ reg opt w0 name w1 p1 rest trail hl ht hr

/-- The recursion fuel of `compile` (template length + 1) always suffices: giving the recursive
    compiler any amount of additional fuel never changes its answer, for every template, registry and
    optimiser setting – the nesting depth of `Compile` is bounded by the template length, so the
    out-of-fuel branch of the model is not what decides any result ("never fails to return"). -/
theorem compile_fuel_suffices (reg : Registry) (opt : Bool) (t : List Char) (extra : Nat) :
    compileF (t.length + 1 + extra) reg opt t = compile reg opt t :=
  compileF_fuel_irrelevant reg opt (t.length + 1) t (by omega) _ _ (by omega) (by omega)

/-- …and the out-of-fuel branch itself is never the answer, **optimiser on or off**: for every template and
    every registry whose builders neither fail with the model's out-of-fuel message nor return a stage
    that can panic with it – given argument stages that cannot (`NoMsgReg`; with the optimiser on `Compile`
    probes every stage it built, so a stage's panic message can become `Compile`'s) – `compile` does not
    return "out of fuel".  The hypothesis holds for the standard registry: `compile_never_out_of_fuel_std`. -/
theorem compile_never_out_of_fuel (reg : Registry) (opt : Bool) (hreg : NoMsgReg "out of fuel" reg) (t : List Char) :
    compile reg opt t ≠ .error "out of fuel" :=
  (compileF_good (kept_noMsg opt hreg) (t.length + 1) t (by omega) _ (by omega)).1

/-- The standard registry (every builder of every modelled family, plus `unmodelledBuilder` for whatever
    other names the Go side knows) satisfies that hypothesis – each builder only hands on its arguments'
    panic messages or uses one of its own (`unmodelled:…`, `slice bounds out of range`, `hang: …`, `fuel`):
    for every template, optimiser on or off, the standard `Compile` model never answers "out of fuel". -/
theorem compile_never_out_of_fuel_std (known : List String) (opt : Bool) (t : List Char) :
    compile (stdRegistry known) opt t ≠ .error "out of fuel" :=
  compile_never_out_of_fuel _ opt (std_noMsgReg known) t

/-- The optimiser-off case needs less: no builder fails with the out-of-fuel message (whatever its
    arguments). -/
theorem compile_never_out_of_fuel_noopt (reg : Registry) (hreg : NoFuelMsg reg) (t : List Char) :
    compile reg false t ≠ .error "out of fuel" :=
  (compileF_good (kept_noopt hreg) (t.length + 1) t (by omega) _ (by omega)).1

/-- **Print/compile round trip, optimiser on or off.**  An expression tree printed with ANY admissible
    style (white-space runs after `{`, before `}` and between arguments; literal arguments quoted or –
    where legal – bare) compiles without errors and evaluates exactly as the tree dictates, in every
    context – with static optimisation enabled (`opt = true`, rare's default) as well as disabled.

    The registry may be anything as long as every function *called in the tree* is registered with a
    builder that `Implements` the tree's meaning of it at the call's arity: for argument stages that
    evaluate (in every context) it returns, without compile error, a stage that evaluates to `fn f` of
    the argument values (strict like `pureBuilder`, lazy like `{if}`, probing / constant-folding … – see
    `Rare/Proofs/C09C10.lean`; instances from the standard registry in `C09C10Std.lean`).
    Builders of other names are unconstrained (they may panic, be unmodelled, …).

    The optimiser-on case composes the optimiser-off round trip with C10: `optimize` returns because
    stages that evaluate in every context can be probed (`optimize_ok_of_run`), and C10's
    `optimize_preserves` says the optimised stages build the same key – at every nesting level. -/
theorem print_compile (reg : Registry) (fn : List Char → List Bytes → Bytes) (opt : Bool) (σ : Style) (e : C09.Expr)
    (ha : AdmissibleTop e) (hreg : RegSem reg fn e) :
    ∃ stages, compile reg opt (printTop σ e) = .ok (stages, []) ∧
      ∀ ctx, (buildKey stages).run ctx = .ok (evalTree (envOf ctx fn) e) :=
  printTop_ok reg fn opt σ e ha hreg

/-- **The round trip for a general registry hypothesis** (`RegDen`, `Rare/Proofs/C09Den.lean`): the builder of
    every function called in the tree is correct *at its call site* – for argument stages that denote the
    argument trees (`Den`: same value in every context, a literal argument is the constant stage, an argument
    the certificate `D` calls dynamic is not constant under the probe) it returns, without compile error, a
    stage denoting the call.  So a builder may demand constant arguments, type-check constant arguments at
    compile time, or fold constants; and the meaning `sem` of a name may depend on the context beyond the
    argument values (user-defined functions: C10).  `print_compile` is the special case of `Implements`
    builders. -/
theorem print_compile_general (reg : Registry) (sem : Sem) (D : C09.Expr → Bool) (hD : ∀ s, D (.lit s) = false)
    (opt : Bool) (σ : Style) (e : C09.Expr) (ha : AdmissibleTop e) (hreg : RegDen reg sem D e) :
    ∃ stages, compile reg opt (printTop σ e) = .ok (stages, []) ∧
      ∀ ctx, (buildKey stages).run ctx = .ok (evalTree (envC sem ctx) e) :=
  printTop_den reg sem D opt hD σ e ha hreg

/-- **The round trip over a fragment of the STANDARD function table.**  For every tree whose calls are call
    sites of the fragment (`fragOk`: a name of `fragNames` at an admissible arity; where the Go builder
    inspects an argument at compile time, an integer- or float-typed position holds a dynamic expression or
    something evaluating to a number, a constant position holds a literal of the right type –
    `Rare/Spec/C09Frag.lean`), printed with ANY admissible style, the standard registry (whatever other names
    the Go side knows) compiles the print without errors, optimiser on or off, and the compiled expression
    evaluates in every context to the tree's denotation under `stdSem`.

    The fragment: the logic helpers (`coalesce eq neq not and or if unless switch` – lazy ones included), the
    integer folds (`sumi subi multi divi modi maxi mini`, any arity ≥ 2, nested arbitrarily), `isint`,
    `bucket bucketrange clamp expbucket`, the float comparisons and folds (`lt gt lte gte sumf subf multf divf`
    on the binary64 model), `isnum ceil floor sqrt hf`, the string helpers (`len like prefix suffix substr
    select tab $ @ csv hi`), the path helpers, `@len @split @join @in`, `@select @slice` with
    constant indices (on lists of ANY length: `selectW`/`sliceW`, the documented `select`/`slice` below 2^63
    elements – C17's `wrapped_is_documented`), `@range` (C17's closed form), `repeat` / `lookup` / `haskey` with
    their constant text or table, `round` / `percent` / `bytesize` / `bytesizesi` / `downscale` with a constant
    precision (binary64 model), and `upper` / `lower` of an ASCII literal (the model's case mapping is ASCII
    only; anything else is Go's Unicode tables) – `fragment_names`.  Outside this theorem: helpers that evaluate
    an argument in a sub-context (`@map @filter @reduce @for`: `print_compile_std_fragment_world` below; user functions:
    C10's `call_nested_eq_body`), the libm-backed and time helpers, `format`. -/
theorem print_compile_std_fragment (known : List String) (opt : Bool) (σ : Style) (e : C09.Expr)
    (ha : AdmissibleTop e) (hf : fragOk e = true) :
    ∃ stages, compile (stdRegistry known) opt (printTop σ e) = .ok (stages, []) ∧
      ∀ ctx, (buildKey stages).run ctx = .ok (evalTree (envOf ctx stdSem) e) :=
  printTop_std_fragment known opt σ e ha hf

/-- The fragment, by name (65 of the names of the real function table, `Gen.stdFunctionNames`, regenerated
    from `/repo` on every run; each entry's builder is literally the one the model's standard registry has
    under that name – `fragTable_ok`). -/
theorem fragment_names :
    fragNames = ["coalesce", "eq", "neq", "not", "and", "or", "if", "unless", "switch",
      "sumi", "subi", "multi", "divi", "modi", "maxi", "mini", "isint", "bucket", "bucketrange", "clamp", "expbucket",
      "isnum", "lt", "gt", "lte", "gte", "sumf", "subf", "multf", "divf", "ceil", "floor", "sqrt", "hf",
      "len", "like", "prefix", "suffix", "substr", "select", "tab", "$", "@", "csv", "hi",
      "basename", "dirname", "extname", "@len", "@split", "@join", "@in",
      "@select", "@slice", "@range", "upper", "lower", "repeat", "lookup", "haskey", "round", "percent",
      "bytesize", "bytesizesi", "downscale"] ∧
    (∀ n ∈ fragNames, n ∈ Gen.stdFunctionNames) ∧
    (∀ p ∈ fragTable, lookupTable stdTable p.1 = some p.2.builder) :=
  ⟨rfl, by decide +kernel, fun p hp => (fragTable_ok p hp).2⟩

/-- **The complement, by name**: the 20 names of the real function table (`Gen.stdFunctionNames`, 85 names,
    regenerated from `/repo`) that `print_compile_std_fragment` does NOT speak about, and why:
    `@map @filter @reduce @for` evaluate an argument in a sub-context (the tree semantics `evalTree` has no
    binder; their round trip is C10's `call_nested_eq_body` / C17's element-wise theorems); `!` parses its
    arguments with the `sifter` grammar of C19 instead of compiling them; `ln log10 log2 pow` are libm-backed
    (no bit-exact model: `unmodelled` in the correspondence); `time timeformat timeattr buckettime duration
    durationformat` depend on the process's time zone / clock or on Go's layout detection (modelled relative to
    a world in C18, not a function of the argument values alone); `format` (Go's `fmt` verbs), `json` (gjson
    paths), `load` (file system), `bar` / `color` (terminal state: colours on or off) are functions of a world,
    not of their argument values.  A name added to or removed from rare's table changes `Gen.stdFunctionNames`
    and breaks this theorem until the fragment is re-stated. -/
theorem fragment_complement :
    Gen.stdFunctionNames.filter (fun n => !fragNames.contains n) =
      ["!", "@filter", "@for", "@map", "@reduce", "bar", "buckettime", "color", "duration", "durationformat",
       "format", "json", "ln", "load", "log10", "log2", "pow", "time", "timeattr", "timeformat"] ∧
    Gen.stdFunctionNames.length = 85 ∧ fragNames.length = 65 ∧ fragNames.Nodup := by
  decide +kernel

/-! ### the world-relative fragment (format, binders, time helpers) -/

/-- **Print/compile over the WORLD-RELATIVE fragment of the standard table** (`Spec/C09FragW.lean`): the 65
    value-level names of `print_compile_std_fragment` and `format`, the binders `@map @filter @reduce @for`,
    `duration`, `durationformat`, `timeformat`, `timeattr` (UTC) – 74 of the 85 names of the real table
    (`fragment_world_names`, `fragment_world_complement`).

    The world `w` answers what a template cannot say: `unicode.IsPrint` (`%q` of `format`), the time world, the
    value of a library call beyond the model of C18; the only assumption (`w.Ok`) is that such a call returns a
    value without touching the match context.  The function table is `stdTable` + `format` + the time helpers of
    that world (`stdTableW`).  `evalW w` is the tree semantics WITH BINDERS (`evalD`): a call hands the
    DENOTATIONS of its arguments to the meaning of its name, so the body of `@map` / `@filter` (`{0}` = the
    element), of `@reduce` (`{0}` = accumulator, `{1}` = element) and of `@for` (`{0}` = value, `{1}` = round) is
    evaluated in `bindCtx` – keys and negative indices still come from the enclosing context – at every nesting
    depth ("braces nest", for braces that bind).  Any tree of the widened fragment (`fragOkW`), printed in ANY
    admissible style (white space, quoting), optimiser on or off, compiles without error and evaluates in every
    context to exactly what the tree dictates. -/
theorem print_compile_std_fragment_world (w : FragWorld) (hw : w.Ok) (known : List String) (opt : Bool) (σ : Style)
    (e : C09.Expr) (ha : AdmissibleTop e) (hf : fragOkW w e = true) :
    ∃ stages, compile (stdRegistryW w known) opt (printTop σ e) = .ok (stages, []) ∧
      ∀ ctx, (buildKey stages).run ctx = .ok (evalW w e ctx) :=
  printTop_std_fragment_world w hw known opt σ e ha hf

/-- **The binder-free special case is the old semantics**: on trees that only call the 65 value-level names
    (`valueLevel`) the semantics with binders is `evalTree` under `stdSem` – the value
    `print_compile_std_fragment` speaks about – in every world. -/
theorem world_semantics_extends (w : FragWorld) (ctx : Ctx) (e : C09.Expr) (h : valueLevel e = true) :
    evalW w e ctx = evalTree (envOf ctx stdSem) e :=
  evalW_value_level w ctx e h

/-- **The old theorem is an instance**: every tree of the 65-name fragment (`fragOk`) is a tree of the widened
    fragment in EVERY world, with the same value – `print_compile_std_fragment` is `print_compile_std_fragment_world`
    restricted to such trees.  (Side conditions look at their own arguments only: `PreLocal`, all 65 entries.) -/
theorem fragment_world_contains (w : FragWorld) (e : C09.Expr) (h : fragOk e = true) :
    fragOkW w e = true ∧ ∀ ctx, evalW w e ctx = evalTree (envOf ctx stdSem) e :=
  ⟨(old_in_world w e h).2.2, fun ctx => evalW_value_level w ctx e (old_in_world w e h).1⟩

/-- **What the binders mean**, as equations of `evalW` (any world, any argument trees): the helpers of C17's
    specification (`elems`, `pack`, `reduce`, `iterateWhile`) applied to the body's denotation in `bindCtx`. -/
theorem binder_semantics (w : FragWorld) (ctx : Ctx) (arr body init start cond next : C09.Expr) :
    evalW w (.call "@map".toList [arr, body]) ctx =
      Rare.C17.pack ((Rare.C17.elems (evalW w arr ctx)).map fun x => evalW w body (bindCtx ctx x [])) ∧
    evalW w (.call "@filter".toList [arr, body]) ctx =
      Rare.C17.pack ((Rare.C17.elems (evalW w arr ctx)).filter fun x => truthy (evalW w body (bindCtx ctx x []))) ∧
    evalW w (.call "@reduce".toList [arr, body, init]) ctx =
      Rare.C17.reduce (fun m x => evalW w body (bindCtx ctx m x)) (evalW w init ctx) (Rare.C17.elems (evalW w arr ctx)) ∧
    evalW w (.call "@for".toList [start, cond, next]) ctx =
      (match Rare.C17.iterateWhile (fun v k => truthy (evalW w cond (bindCtx ctx v (itoa (k : Nat)))))
          (fun v k => evalW w next (bindCtx ctx v (itoa (k : Nat)))) Gen.maxIterations 0 (evalW w start ctx) with
       | some ys => Rare.C17.pack ys
       | none => Funcs.Range.InfMarker) := by
  refine ⟨?_, ?_, ?_, ?_⟩
  · rw [evalW_call w _ _ FW.mapE rfl]; rfl
  · rw [evalW_call w _ _ FW.filterE rfl]; rfl
  · rw [evalW_call w _ _ FW.reduceE rfl]; rfl
  · rw [evalW_call w _ _ FW.forE rfl]; rfl

/-- The widened fragment, by name: 74 distinct names of the real function table (`Gen.stdFunctionNames`,
    regenerated from `/repo`), the same in every world; each entry's builder is literally the one the world's
    table (`stdTableW`) registers under that name. -/
theorem fragment_world_names (w : FragWorld) (hw : w.Ok) :
    (fragTableW w).map (·.1) = fragNamesW ∧ fragNamesW.length = 74 ∧ fragNamesW.Nodup ∧
    (∀ n ∈ fragNamesW, n ∈ Gen.stdFunctionNames) ∧
    (∀ p ∈ fragTableW w, lookupTable (stdTableW w) p.1 = some p.2.builder) := by
  refine ⟨?_, rfl, ?_, ?_, fun p hp => (fragTableW_ok w hw p hp).2⟩
  · simp only [fragTableW, fragTableNew, List.map_append, List.map_map, fragNamesW, fragNames]
    rfl
  -- the nine new names against the 65 old ones, which `fragment_complement` and `fragment_names` have dealt with
  · exact List.nodup_append.mpr ⟨fragment_complement.2.2.2, by decide +kernel, by decide +kernel⟩
  · exact List.forall_mem_append.mpr ⟨fragment_names.2.1, by decide +kernel⟩

/-- **The complement, by name**, after widening: 11 names.  `!` parses its arguments with the `sifter` grammar
    of C19 instead of compiling them; `ln log10 log2 pow` are libm-backed; `time` and `buckettime` ask
    `dateparse` for a layout (a per-stage cache cell, C18) or the wall clock (`now`, `live`, `delta`); `json`
    (gjson paths), `load` (file system), `bar` / `color` (terminal state) are C08's `Funcs.Extra` world.  Named
    time zones of `timeformat` / `timeattr` are outside too (side condition `utcName`): they are questions to the
    zone database.  A name added to or removed from rare's table breaks this theorem. -/
theorem fragment_world_complement :
    Gen.stdFunctionNames.filter (fun n => !fragNamesW.contains n) =
      ["!", "bar", "buckettime", "color", "json", "ln", "load", "log10", "log2", "pow", "time"] := by
  -- a name outside the widened fragment is outside the old one: filter the 20 names of `fragment_complement`
  have h : ∀ n, (!fragNamesW.contains n) = ((!fragNamesW.contains n) && !fragNames.contains n) := by
    intro n
    rw [fragNamesW, List.contains_append]
    cases fragNames.contains n <;> simp
  rw [funext h, ← List.filter_filter, fragment_complement.1]
  decide +kernel

/-- The round trip for registries of syntactically pure builders (`pureBuilder`, the harness's probe
    registry) with the optimiser off: a special case of `print_compile`. -/
theorem print_compile_noopt (reg : Registry) (fn : List Char → List Bytes → Bytes) (σ : Style) (e : C09.Expr)
    (ha : AdmissibleTop e) (hreg : RegOk reg fn e) :
    ∃ stages, compile reg false (printTop σ e) = .ok (stages, []) ∧
      ∀ ctx, (buildKey stages).run ctx = .ok (evalTree (envOf ctx fn) e) :=
  print_compile reg fn false σ e ha (regSem_of_regOk reg fn e hreg)

/-- Optimiser on and off agree on every printed tree (C10's `optimize_sound` specialised; stated here so
    that the two halves of the round trip are visibly the same value). -/
theorem print_compile_opt_agrees (reg : Registry) (fn : List Char → List Bytes → Bytes) (σ : Style) (e : C09.Expr)
    (ha : AdmissibleTop e) (hreg : RegSem reg fn e) :
    ∃ s1 s0, compile reg true (printTop σ e) = .ok (s1, []) ∧ compile reg false (printTop σ e) = .ok (s0, []) ∧
      ∀ ctx, (buildKey s1).run ctx = (buildKey s0).run ctx := by
  obtain ⟨s1, h1, r1⟩ := print_compile reg fn true σ e ha hreg
  obtain ⟨s0, h0, r0⟩ := Rare.C10.optimize_sound reg (printTop σ e) s1 [] h1
  exact ⟨s1, s0, h1, h0, fun ctx => (r0 ctx).symm⟩


/-! ### "A lone word or integer is a key/group lookup" -/

/-- **What an integer is.**  `strconv.Atoi` as `stageSimpleVariable` uses it (the model's `atoi`) accepts exactly
    the decimal integer literals of `Spec/C09Lookup.lean` – optional `+`/`-`, one or more ASCII digits (leading
    zeros allowed), value within int64 – for ALL byte strings: `{007}`, `{+1}`, `{-1}`, `{-0}` are group
    references; `{1e3}`, `{0x10}`, `{1_0}`, `{9223372036854775808}`, `{٣}`, `{-}`, `{+}` are key look-ups. -/
theorem int_literal_spec (b : Bytes) (v : Int) : atoi b = some v ↔ IntLit b v :=
  atoi_iff_intLit b v

/-- **The lone-argument rule, general form.**  A statement whose body (any balanced, backslash-free text:
    `Inner`) splits into exactly ONE argument `a` – a bare word, a quoted string, even a braced group like
    `{{0}}` – compiles without errors, for every registry, optimiser on or off, to ONE stage; evaluated in any
    context it answers `GetMatch(v)` when `a` is the integer literal `v` and `GetKey(a)` when `a` is not an
    integer literal.  (The optimiser never folds it: both look-ups touch the context.) -/
theorem lone_argument_lookup (reg : Registry) (opt : Bool) (body a : List Char) (hi : Inner body)
    (hs : splitArgs body = [a]) :
    ∃ st, compile reg opt ('{' :: (body ++ ['}'])) = .ok ([st], []) ∧
      ∀ ctx, (∃ v, IntLit (utf8 a) v ∧ (buildKey [st]).run ctx = .ok (ctx.getMatch v)) ∨
             ((∀ v, ¬ IntLit (utf8 a) v) ∧ (buildKey [st]).run ctx = .ok (ctx.getKey (utf8 a))) := by
  refine ⟨stageSimpleVariable a, compileF_lone _ reg opt hi a hs, fun ctx => ?_⟩
  rw [run_simpleVariable]
  cases h : atoi (utf8 a) with
  | some v => exact Or.inl ⟨v, intLit_of_atoi h, rfl⟩
  | none => exact Or.inr ⟨(atoi_none_iff _).mp h, rfl⟩

/-- **A lone bare word** `{ w }` (any Unicode white space around it): group `v` if `w` is the integer literal
    `v`, key `w` otherwise. -/
theorem lone_word_lookup (reg : Registry) (opt : Bool) (lead w trail : List Char)
    (hl : allSpace lead = true) (hw : bare w = true) (ht : allSpace trail = true) :
    ∃ st, compile reg opt ('{' :: (lead ++ w ++ trail ++ ['}'])) = .ok ([st], []) ∧
      ∀ ctx, (∃ v, IntLit (utf8 w) v ∧ (buildKey [st]).run ctx = .ok (ctx.getMatch v)) ∨
             ((∀ v, ¬ IntLit (utf8 w) v) ∧ (buildKey [st]).run ctx = .ok (ctx.getKey (utf8 w))) :=
  lone_argument_lookup reg opt _ w (lone_body lead w trail hl hw ht).1 (lone_body lead w trail hl hw ht).2

/-- **A lone quoted string** `{ "q" }`: the same rule applies to the text between the quotes – quoting does not
    turn an integer into a key (`{"1"}` is group 1), `{"a b"}` looks up the key `a b`, and `{""}` (one empty
    argument – not an empty statement) looks up the empty key. -/
theorem lone_quoted_lookup (reg : Registry) (opt : Bool) (lead q trail : List Char)
    (hl : allSpace lead = true) (hq : plain q = true) (ht : allSpace trail = true) :
    ∃ st, compile reg opt ('{' :: (lead ++ ['"'] ++ q ++ ['"'] ++ trail ++ ['}'])) = .ok ([st], []) ∧
      ∀ ctx, (∃ v, IntLit (utf8 q) v ∧ (buildKey [st]).run ctx = .ok (ctx.getMatch v)) ∨
             ((∀ v, ¬ IntLit (utf8 q) v) ∧ (buildKey [st]).run ctx = .ok (ctx.getKey (utf8 q))) :=
  lone_argument_lookup reg opt _ q (lone_quoted_body lead q trail hl hq ht).1 (lone_quoted_body lead q trail hl hq ht).2

/-- **Seam with C02.**  Against a regex match context – any `ctx` whose `GetMatch` is C02's model of
    `SliceSpaceExpressionContext.GetMatch` on an engine's index slice – the template `{n}` (decimal print of `n`,
    any white space) evaluates to the text of capture group `n` of the leftmost match (`C02.specGroup`), empty
    for a group that does not exist or did not participate. -/
theorem lone_integer_is_regex_group (reg : Registry) (opt : Bool) (lead trail : List Char) (n : Nat)
    (hl : allSpace lead = true) (ht : allSpace trail = true) (hn : (n : Int) ≤ maxInt64)
    (line : Bytes) (indices : List Int) (hwf : C02.WF line indices)
    (hlen : (indices.length : Int) < 4611686018427387904) (ctx : Ctx)
    (hctx : ∀ i, minInt64 ≤ i ∧ i ≤ maxInt64 → C02.getMatch line indices i = .ok (ctx.getMatch i)) :
    ∃ st, compile reg opt ('{' :: (lead ++ decimal n ++ trail ++ ['}'])) = .ok ([st], []) ∧
      (buildKey [st]).run ctx = .ok (C02.specGroup line indices n) := by
  obtain ⟨h1, h2⟩ := lone_body lead (decimal n) trail hl (bare_decimal n) ht
  refine ⟨stageSimpleVariable (decimal n), compileF_lone _ reg opt h1 _ h2, ?_⟩
  rw [run_simpleVariable, atoi_decimal n hn]
  have hr : minInt64 ≤ (n : Int) ∧ (n : Int) ≤ maxInt64 := ⟨by unfold minInt64; omega, hn⟩
  have := hctx n hr
  rw [C02.getMatch_eq_spec line indices n hwf hlen hr] at this
  exact this.symm

/-- **The look-up itself, not just its value**: evaluated against the recording context (`runLog`: every
    `GetMatch(i)` / `GetKey(k)` is logged – the correspondence op `look` observes exactly this on the real code), a
    lone argument performs exactly ONE look-up: `GetMatch(v)` with the literal's value when it is an integer
    literal (negative values and `±0` included), `GetKey` of the argument's bytes otherwise. -/
theorem lone_argument_one_lookup (reg : Registry) (opt : Bool) (body a : List Char) (hi : Inner body)
    (hs : splitArgs body = [a]) :
    ∃ st, compile reg opt ('{' :: (body ++ ['}'])) = .ok ([st], []) ∧
      ((∃ v, IntLit (utf8 a) v ∧ runLog (buildKey [st]) [] = .ok (lookAnswer (.m v), [Look.m v])) ∨
       ((∀ v, ¬ IntLit (utf8 a) v) ∧ runLog (buildKey [st]) [] = .ok (lookAnswer (.k (utf8 a)), [Look.k (utf8 a)]))) := by
  refine ⟨stageSimpleVariable a, compileF_lone _ reg opt hi a hs, ?_⟩
  rw [runLog_simpleVariable]
  cases h : atoi (utf8 a) with
  | some v => exact Or.inl ⟨v, intLit_of_atoi h, rfl⟩
  | none => exact Or.inr ⟨(atoi_none_iff _).mp h, rfl⟩

/-! ### The tokenizer state machines are the source's (translator tie) -/

/-- **`splitTokenizedArguments`, statement by statement.**  `Gen.C09.step` / `init` / `finish` are regenerated from
    the Go AST of `argSplitter.go` on every run (every condition of the if / else-if chain in order, every
    statement of every branch in order, the declarations before the loop and the flush after it; only
    `unicode.IsSpace` is a parameter).  The hand model's `splitStep` is that function on the record of the Go
    locals, and `splitArgs` is the generated `split` – for ALL states, runes and inputs.  Any changed condition,
    constant, statement or branch order in the Go function breaks this theorem. -/
theorem splitter_matches_source :
    (∀ (s : SplitSt) (r : Char), toGen (splitStep s r) = Gen.C09.step isSpaceRune (toGen s) r) ∧
    toGen SplitSt.init = Gen.C09.init ∧
    (∀ t : List Char, splitArgs t = Gen.C09.split isSpaceRune t) :=
  ⟨splitStep_gen, rfl, splitArgs_gen⟩

/-- **`Compile`'s rune loop dispatches as the source's conditions say.**  `Gen.C09.scanConds r i n inStatement` are
    the conditions of the loop's if / else-if chain translated from keyBuilder.go (`r == '\\' && i+1 < len(runes)`,
    `r == '{'`, `r == '}' && inStatement > 0`); for every rune, position, rest of the input and scanner state the
    model's `compileLoop` takes the branch of the FIRST condition that holds (the final `else` when none does):
    escape (consuming the next rune through the generated `unescape` table), open, close, copy. -/
theorem scanner_matches_source (fuel : Nat) (reg : Registry) (opt : Bool) (all : List Char)
    (r : Char) (rest : List Char) (i : Nat) (st : CompSt) :
    compileLoop fuel reg opt all (r :: rest) i st =
      match firstTrue (Gen.C09.scanConds r i (i + 1 + rest.length) st.inStatement), rest with
      | 0, e :: rest' => compileLoop fuel reg opt all rest' (i + 2) { st with sb := st.sb ++ [Gen.C09.unescape e] }
      | 0, [] => .ok st
      | 1, _ =>
        if st.inStatement = 0 then
          compileLoop fuel reg opt all rest (i + 1)
            { st with stages := if st.sb.isEmpty then st.stages else st.stages ++ [Stage.lit (charsToBytes st.sb)],
                      sb := [], startStatement := i, inStatement := 1 }
        else compileLoop fuel reg opt all rest (i + 1) { st with sb := st.sb ++ ['{'], inStatement := st.inStatement + 1 }
      | 2, _ =>
        if st.inStatement = 1 then
          match closeStatement fuel reg opt all i st with
          | .error m => .error m
          | .ok st' => compileLoop fuel reg opt all rest (i + 1) { st' with sb := [], inStatement := 0 }
        else compileLoop fuel reg opt all rest (i + 1) { st with sb := st.sb ++ ['}'], inStatement := st.inStatement - 1 }
      | _, _ => compileLoop fuel reg opt all rest (i + 1) { st with sb := st.sb ++ [r] } :=
  scanner_gen fuel reg opt all r rest i st

/-- `unescape` is the source's switch table (`\n \r \t`; every other rune stands for itself), and the rest of the
    parser's skeleton is what the model mirrors: the loop header, the counter statement of each branch (`i++` in
    the escape branch only), the `len(args)` tests when a statement closes (0 → empty statement, 1 → lone word,
    else call), the four post-loop guards, and `stageSimpleVariable` = `strconv.Atoi` (decimal, no base
    detection) → `GetKey(s)` on failure, `GetMatch(index)` on success. -/
theorem parser_skeleton_matches_source :
    (∀ c, unescape c = Gen.C09.unescape c) ∧
    Gen.C09.unescapeTable = [('n', '\n'), ('r', '\r'), ('t', '\t')] ∧
    Gen.C09.scanLoop = "i := 0; i < len(runes); i++" ∧
    Gen.C09.scanCounters = [["i++"], ["inStatement++"], ["inStatement--"], []] ∧
    (∀ args : List (List Char), Gen.C09.argConds args.length = [args.isEmpty, decide (args.length = 1)]) ∧
    Gen.C09.postConds = ["inStatement != 0", "sb.Len() > 0", "s.autoOptimize", "!errs.empty()"] ∧
    Gen.C09.simpleVariable = ["strconv.Atoi(s)", "err != nil", "context.GetKey(s)", "context.GetMatch(index)"] :=
  ⟨unescape_gen, rfl, rfl, rfl, argConds_gen, rfl, rfl⟩

/-! ### Syntax errors, for ALL templates -/

/-- **`Compile` reports a syntax error iff the template is not well formed – for every template.**
    `WellFormed split known t` (`Spec/C09WF.lean`, no reference to `Compile`) is the grammar "every `{` is closed
    (escapes respected); every statement has at least one argument; a statement with several arguments starts
    with a known function name and each further argument is, recursively, a well-formed template" – arguments
    being what the splitter makes of the statement's text (`split_spec` says what that is on laid-out lists;
    `splitter_matches_source` that it is the source's state machine).  For EVERY template (any text: stray and
    quoted braces, escapes at any level, unbalanced quotes, invalid UTF-8 already decoded), every registry,
    optimiser on or off: whenever `Compile` returns (no builder panicked), its error list is free of
    `ErrorUnterminated` / `ErrorEmptyStatement` / `ErrorMissingFunction` – at every nesting level, inherited errors
    included – IFF the template is well formed w.r.t. the registered names.  So all three clauses of the property
    hold in both directions: each such defect anywhere in a compiled position is reported, and nothing else is
    reported as one.  (Errors of a function builder itself – arity, argument type – are `.func` and are the
    builders' business: C08/C11.  Arguments of an unknown function are not compiled, so defects inside them are
    not reported separately – `WellFormed` does not look there either.) -/
theorem compile_ok_iff_wellformed (reg : Registry) (opt : Bool) (t : List Char) (stages : List Stage)
    (errs : List CErr) (h : compile reg opt t = .ok (stages, errs)) :
    (∀ e ∈ errs, e.kind ≠ .unterminated ∧ e.kind ≠ .emptyStatement ∧ e.kind ≠ .missingFunction) ↔
      WellFormed splitArgs (fun name => (reg name).isSome) t := by
  rw [← synOf_eq_nil_iff, compileF_syn reg opt (t.length + 1) t stages errs h]
  exact synErrs_nil_iff_wf splitArgs _ (fun _ _ h => splitArgs_len h) (t.length + 1) t (by omega)

/-- …equivalently: some syntax error is reported iff the template is malformed. -/
theorem syntax_error_iff_malformed (reg : Registry) (opt : Bool) (t : List Char) (stages : List Stage)
    (errs : List CErr) (h : compile reg opt t = .ok (stages, errs)) :
    (∃ e ∈ errs, e.kind = .unterminated ∨ e.kind = .emptyStatement ∨ e.kind = .missingFunction) ↔
      ¬ WellFormed splitArgs (fun name => (reg name).isSome) t := by
  rw [← compile_ok_iff_wellformed reg opt t stages errs h]
  constructor
  · rintro ⟨e, he, hk⟩ hall
    obtain ⟨h1, h2, h3⟩ := hall e he
    rcases hk with hk | hk | hk <;> contradiction
  · intro hn
    apply Classical.byContradiction
    intro hne
    apply hn
    intro e he
    refine ⟨fun hk => hne ⟨e, he, Or.inl hk⟩, fun hk => hne ⟨e, he, Or.inr (Or.inl hk)⟩,
      fun hk => hne ⟨e, he, Or.inr (Or.inr hk)⟩⟩

/-- **No error at all iff well formed**, for registries whose builders never return an error value (`NoBuilderErr`:
    e.g. any registry of pure functions – the probe registry of the correspondence; builders may still panic, then
    `Compile` does not return): for EVERY template, `Compile`'s error list is empty iff the template is well formed.
    (With builders that do report errors – bad arity, bad argument type – those `.func` errors come on top; the
    parser-level kinds are exactly characterised by `compile_ok_iff_wellformed`.) -/
theorem no_errors_iff_wellformed (reg : Registry) (opt : Bool) (hreg : NoBuilderErr reg) (t : List Char)
    (stages : List Stage) (errs : List CErr) (h : compile reg opt t = .ok (stages, errs)) :
    errs = [] ↔ WellFormed splitArgs (fun name => (reg name).isSome) t :=
  errs_nil_iff reg opt hreg t stages errs h

/-- The grammar is decidable, and the program that decides it – `wfB`, brace depth + statement bodies + splitter,
    recursing into the arguments of known functions; it never compiles anything – is what the correspondence op
    `wfck` runs against the real `Compile`'s `errors.Is` answers. -/
theorem wellformed_decidable (known : List Char → Bool) (t : List Char) :
    wfB splitArgs known (t.length + 1) t = true ↔ WellFormed splitArgs known t :=
  wfB_splitArgs known t

/-- Every printed tree is a well-formed template (the documented grammar lies inside `WellFormed`). -/
theorem printed_tree_wellformed (reg : Registry) (fn : List Char → List Bytes → Bytes) (σ : Style) (e : C09.Expr)
    (ha : AdmissibleTop e) (hreg : RegSem reg fn e) :
    WellFormed splitArgs (fun name => (reg name).isSome) (printTop σ e) := by
  obtain ⟨st, h, _⟩ := print_compile reg fn false σ e ha hreg
  exact (compile_ok_iff_wellformed reg false _ st [] h).mp (fun e he => by cases he)

/-! ### Which errors, where, with which text, in which order – for ALL templates -/

/-- **The syntax errors `Compile` records are exactly `synErrs` – for every template.**
    `synErrs split known t` (`Spec/C09Pos.lean`, no reference to `Compile`) lists, for each closed top-level statement
    in order of appearance: `empty statement` with the raw text `{…}` at the rune index of its `{` when it has no
    argument; nothing when it has one; `missing function` with the statement's body at the index of its `{` when the
    head is unknown (arguments not looked at); otherwise the syntax errors of each further argument, compiled as a
    template of its own, in order, each with its own context text and its index moved by the index of the enclosing
    top-level statement's `{` (`CompilerErrors.inherit`); and last `non-terminated statement` with the text from the
    open `{` to the end.  For EVERY template, every registry, optimiser on or off: whenever `Compile` returns, the
    recorded errors of the three parser kinds (`synOf errs`: builder errors dropped, order kept) are that list –
    same kinds, same number, same order, same context texts, same indices, at every nesting level.  This is the
    mechanism "error accumulation with offsets" (`errors.go` `add` / `inherit`) for all inputs; the `_reported`
    theorems above are its single-statement instances. -/
theorem syntax_errors_exact (reg : Registry) (opt : Bool) (t : List Char) (stages : List Stage)
    (errs : List CErr) (h : compile reg opt t = .ok (stages, errs)) :
    synOf errs = synErrs splitArgs (fun name => (reg name).isSome) t :=
  compileF_syn reg opt (t.length + 1) t stages errs h

/-- **The whole error list**, for registries whose builders never return an error value (`NoBuilderErr`, e.g. the
    probe registry): `Compile`'s error list IS `synErrs` (as recorded errors), nothing more, nothing less. -/
theorem all_errors_exact (reg : Registry) (opt : Bool) (hreg : NoBuilderErr reg) (t : List Char)
    (stages : List Stage) (errs : List CErr) (h : compile reg opt t = .ok (stages, errs)) :
    errs = (synErrs splitArgs (fun name => (reg name).isSome) t).map SynErr.toCErr := by
  rw [← syntax_errors_exact reg opt t stages errs h]
  exact synOf_allSyn errs (compileF_noFunc reg opt hreg (t.length + 1) t stages errs h)

/-- **The recursion equation of `synErrs`** (its definition runs on fuel; more fuel than the template has runes is
    always enough, so the equation holds as the spec's header states it): the errors of a template are the errors
    of its closed statements in order – where the errors one level down are again `synErrs` of the argument – followed
    by the error of the open statement, if any. -/
theorem syntax_errors_unfold (known : List Char → Bool) (t : List Char) :
    synErrs splitArgs known t =
      (stmts t).flatMap (stmtErrs splitArgs known (synErrs splitArgs known) t) ++ openErr t :=
  synErrs_unfold_gen splitArgs known (fun _ _ h => splitArgs_len h) t

/-- **The two specifications agree**: the declarative error list is empty exactly for the templates of the grammar
    `WellFormed` – a statement about the specs alone (any set of known names, no `Compile`), so
    `compile_ok_iff_wellformed` is the "= []" instance of `syntax_errors_exact`. -/
theorem syntax_errors_nil_iff_wellformed (known : List Char → Bool) (t : List Char) :
    synErrs splitArgs known t = [] ↔ WellFormed splitArgs known t :=
  synErrs_nil_iff_wf splitArgs known (fun _ _ h => splitArgs_len h) (t.length + 1) t (by omega)

/-! ### the complete error list, builder errors included -/

/-- **The COMPLETE error list, builder errors included** – for ALL templates, optimiser on or off, and every
    registry with an arity signature (`HasSig reg sig`: the same names, and every builder's error value is a
    function of the NUMBER of its arguments – rare's "invalid number of arguments"; instances below): whenever
    `Compile` returns, the recorded errors – every one of them, in the order recorded (`repOf` only renames the
    kinds) – ARE `allErrs splitArgs sig t`, the declarative list of `Spec/C09All.lean` (no reference to `Compile`):
    `synErrs` with, for every closed statement whose head is registered, the builder's error AFTER the errors of
    its arguments, carrying the statement's body and the index of its `{` (inherited like every other error). -/
theorem all_errors_exact_arity (reg : Registry) (sig : Sig) (hsig : HasSig reg sig) (opt : Bool) (t : List Char)
    (stages : List Stage) (errs : List CErr) (h : compile reg opt t = .ok (stages, errs)) :
    errs.map repOf = allErrs splitArgs sig t :=
  compileF_all reg opt sig hsig (t.length + 1) t stages errs h

/-- The recursion equation of `allErrs`, as its header says (fuel is irrelevant). -/
theorem all_errors_unfold (sig : Sig) (t : List Char) :
    allErrs splitArgs sig t =
      (stmts t).flatMap (stmtErrsA splitArgs sig (allErrs splitArgs sig) t) ++ (openErr t).map RepErr.ofSyn :=
  allErrs_unfold_gen splitArgs sig (fun _ _ h => splitArgs_len h) t

/-- The two specifications agree: dropping the builder errors from `allErrs` leaves `synErrs` (for the names the
    signature knows) – a statement about the specs alone. -/
theorem all_errors_syntax_part (sig : Sig) (t : List Char) :
    (allErrs splitArgs sig t).filterMap RepErr.synPart = synErrs splitArgs (fun n => (sig n).isSome) t :=
  allErrsF_synPart splitArgs sig (t.length + 1) t

/-- **Registries with an arity signature**: the probe registry of the correspondence (`bad` / `nil` fail whatever
    the arguments), and the STANDARD table restricted to 33 of its names (`arityNames`: the logic family, the
    unary string / number helpers, `like prefix suffix select substr`, `@len @map @filter @for`, the joiners) –
    each builder is literally the one `stdTable` registers, and its only error is `<ARGN>`. -/
theorem arity_signatures :
    HasSig testRegistry testSig ∧ HasSig arityRegistry aritySig ∧
    (∀ p ∈ arityNames, ∃ f, lookupTable stdTable p.1 = some f ∧ ArityOnly f p.2) ∧
    arityNames.length = 33 ∧ (arityNames.map (·.1)).all (Gen.stdFunctionNames.contains ·) = true :=
  ⟨testRegistry_hasSig, arityRegistry_hasSig, arityAll_mem arityNames_all, rfl, by decide +kernel⟩

/-- **What the positions are.**  The statements `stmts t` of the error spec are the statements of the grammar
    (`bodies`, same order); each starts at a rune that is `{` and ends at a later rune that is `}`; they are listed
    left to right and do not overlap; the open statement (if any) starts at a `{` too, and there is one iff the
    template is `Unterminated`.  So the index of every error of a top-level statement is the rune index of the `{`
    that opens the offending statement, and top-level errors come in text order. -/
theorem statement_positions (t : List Char) :
    (stmts t).map (·.body) = bodies t ∧
    (∀ x ∈ stmts t, t[x.start]? = some '{' ∧ t[x.stop]? = some '}' ∧ x.start < x.stop) ∧
    (stmts t).Pairwise (fun x y => x.stop < y.start) ∧
    (∀ k, openStart t = some k → t[k]? = some '{') ∧
    (openStart t ≠ none ↔ Unterminated t) :=
  ⟨stmts_bodies t, stmts_pos t, stmts_sorted t, openStart_pos t,
    by unfold Unterminated; exact not_congr (openStart_none_iff t)⟩

/-- **Every reported index points inside the template**: each recorded syntax error – top level or inherited from any
    nesting depth, where the starts of the enclosing statements add up – has an index below the template's rune
    count. -/
theorem error_index_inside_template (reg : Registry) (opt : Bool) (t : List Char) (stages : List Stage)
    (errs : List CErr) (h : compile reg opt t = .ok (stages, errs)) :
    ∀ e ∈ errs, (e.kind = .unterminated ∨ e.kind = .emptyStatement ∨ e.kind = .missingFunction) →
      e.index < t.length := by
  intro e he hk
  have hx := syntax_errors_exact reg opt t stages errs h
  have hi := synErrsF_index splitArgs (fun name => (reg name).isSome) (fun _ _ h => splitArgs_len h) (t.length + 1) t
  obtain ⟨k, hk'⟩ : ∃ k, synKindOf e.kind = some k := by
    rcases hk with hk | hk | hk <;> rw [hk] <;> exact ⟨_, rfl⟩
  have hm := mem_synOf he hk'
  rw [hx] at hm
  exact hi _ hm

/-! ### errors.go: what the user sees -/

/-- The texts of the model's error rendering are the source's: the three sentinel messages, the format of
    `DetailedError.Error()` and its arguments, the single-error shortcut and the pieces of the multi-error text. -/
theorem error_texts_match_source :
    msgUnterminated = Gen.C09.msgUnterminated ∧ msgEmptyStatement = Gen.C09.msgEmptyStatement ∧
    msgMissingFunction = Gen.C09.msgMissingFunction ∧
    Gen.C09.detailedFormat = "At `%s` (%d): %v" ∧ Gen.C09.detailedArgs = ["s.Context", "s.Index", "s.Err"] ∧
    Gen.C09.multiShortcut = "len(s.Errors) == 1" ∧
    Gen.C09.multiPieces = ["Compiler Errors in: `", "<s.Expression>", "`\n", "  ", "<e.Error()>", "\n"] :=
  ⟨rfl, rfl, rfl, rfl, rfl, rfl, rfl⟩

/-- **Every recorded error is shown to the user**: the text `Compile`'s error value renders (`CompilerErrors.Error()`,
    what `rare` prints) contains, for EVERY recorded error, its full line ``At `<context>` (<index>): <message>`` –
    whether there is one error (the text is exactly that line) or several (header with the whole expression, one
    indented line each); `Compile` returns a nil error exactly when nothing was recorded; and `errors.Is` finds a
    sentinel exactly when an error of that kind was recorded. -/
theorem errors_are_shown (funcMsg : String → String) (expr : Bytes) (errs : List CErr) :
    (compileError funcMsg expr errs = none ↔ errs = []) ∧
    (∀ e, errs = [e] → compileError funcMsg expr errs = some (detailedError funcMsg e)) ∧
    (∀ e ∈ errs, ∃ msg, compileError funcMsg expr errs = some msg ∧ detailedError funcMsg e <:+: msg) ∧
    (∀ k, errorsIs errs k = true ↔ ∃ e ∈ errs, e.kind = k) := by
  refine ⟨?_, ?_, ?_, ?_⟩
  · unfold compileError; cases errs <;> simp
  · rintro e rfl; rfl
  · intro e he
    refine ⟨compilerErrorsError funcMsg expr errs, ?_, detailed_infix funcMsg expr errs e he⟩
    unfold compileError; cases errs with
    | nil => cases he
    | cons _ _ => rfl
  · intro k; simp [errorsIs]

/-! ### UTF-8: from Go strings to rune lists and back -/

/-- `[]rune(string(rs)) = rs` for Unicode scalar values (everything but surrogates and values above
    U+10FFFF, which `string(rune)` itself replaces by U+FFFD). -/
theorem utf8_decode_encode (rs : List Nat) (h : ∀ r ∈ rs, Rare.C20.validScalar r) :
    decodeUtf8 (encodeUtf8 rs) = rs :=
  Rare.C20.decodeUtf8_encodeUtf8 rs h

/-- `string([]rune(b)) = b` for well-formed `b` – `wellFormed` is the decidable, structural predicate
    "concatenation of the byte sequences of Unicode table 3-7"; it does not mention the decoder. -/
theorem utf8_encode_decode (b : Bytes) (h : wellFormed b = true) : encodeUtf8 (decodeUtf8 b) = b :=
  (wellFormed_iff b).mp h

/-- … and only for those: the table is exactly the set of byte strings that survive the round trip. -/
theorem utf8_wellFormed_iff (b : Bytes) : wellFormed b = true ↔ encodeUtf8 (decodeUtf8 b) = b :=
  wellFormed_iff b

/-- **One replacement rune per invalid byte.**  Where no sequence of table 3-7 starts (a stray
    continuation byte, C0/C1/F5..FF, an overlong or surrogate or too large lead/second byte pair, a
    sequence cut short by a non-continuation byte or by the end of the string) the decoder emits ONE
    U+FFFD and resumes at the very next byte. -/
theorem utf8_invalid_byte (b0 : UInt8) (tl : Bytes) (h : seqLen (b0 :: tl) = 0) :
    decodeUtf8 (b0 :: tl) = 0xFFFD :: decodeUtf8 tl :=
  decodeUtf8_bad b0 tl h

/-- Where a sequence of table 3-7 starts the decoder emits the scalar value whose encoding is that
    sequence and resumes right after it.  (With `utf8_invalid_byte` this determines `decodeUtf8`.) -/
theorem utf8_sequence (b0 : UInt8) (tl : Bytes) (h : seqLen (b0 :: tl) ≠ 0) :
    ∃ cp, Rare.C20.validScalar cp ∧ Rare.C20.encodeRune cp = (b0 :: tl).take (seqLen (b0 :: tl)) ∧
      decodeUtf8 (b0 :: tl) = cp :: decodeUtf8 ((b0 :: tl).drop (seqLen (b0 :: tl))) :=
  decodeUtf8_good b0 tl h

/-- The model's rune lists and Go's strings: text written rune by rune (`strings.Builder.WriteRune`, how
    `Compile` and the splitter build every literal and every argument) is read back rune for rune – so
    the nested `Compile(arg string)` sees exactly the rune list the model passes on; and re-encoding
    the runes of ANY byte string gives Go's `string([]rune(s))` (= the string itself iff well-formed). -/
theorem utf8_runes_roundtrip (cs : List Char) (b : Bytes) :
    decodeRunes (encodeRunes cs) = cs ∧ wellFormed (encodeRunes cs) = true ∧
    encodeRunes (decodeRunes b) = encodeUtf8 (decodeUtf8 b) :=
  ⟨decodeRunes_encodeRunes cs, wellFormed_encodeRunes cs, encodeRunes_decodeRunes b⟩

/-- Byte-level literal round trip: for EVERY byte string `text` (valid UTF-8 or not), escaping its runes
    and compiling the resulting template *string* evaluates to `string([]rune(text))` – which is `text`
    itself when `text` is well-formed UTF-8. -/
theorem escape_roundtrip_bytes (reg : Registry) (opt : Bool) (text : Bytes) :
    ∃ stages, compileBytes reg opt (encodeRunes (escapeLit (decodeRunes text))) = .ok (stages, []) ∧
      (∀ ctx, (buildKey stages).run ctx = .ok (encodeUtf8 (decodeUtf8 text))) ∧
      (wellFormed text = true → ∀ ctx, (buildKey stages).run ctx = .ok text) := by
  obtain ⟨st', h1', h2'⟩ := compileF_escapeLit (escapeLit (decodeRunes text)).length reg opt (decodeRunes text)
  refine ⟨st', ?_, fun ctx => ?_, fun hw ctx => ?_⟩
  · rw [compileBytes, decodeRunes_encodeRunes]; exact h1'
  · rw [h2' ctx, utf8_eq_encodeRunes, encodeRunes_decodeRunes]
  · rw [h2' ctx, utf8_eq_encodeRunes, encodeRunes_decodeRunes_wf text hw]

/-- Byte-level print/compile round trip: the printed tree as a Go string. -/
theorem print_compile_bytes (reg : Registry) (fn : List Char → List Bytes → Bytes) (opt : Bool) (σ : Style)
    (e : C09.Expr) (ha : AdmissibleTop e) (hreg : RegSem reg fn e) :
    ∃ stages, compileBytes reg opt (encodeRunes (printTop σ e)) = .ok (stages, []) ∧
      ∀ ctx, (buildKey stages).run ctx = .ok (evalTree (envOf ctx fn) e) := by
  rw [compileBytes, decodeRunes_encodeRunes]
  exact print_compile reg fn opt σ e ha hreg

/-- Byte-level splitter: `splitTokenizedArguments(string)` on a laid-out argument list. -/
theorem split_spec_bytes (l : List (List Char × Piece)) (trail : List Char)
    (hl : LayoutOk true l) (ht : allSpace trail = true) :
    splitArgsBytes (encodeRunes (layout l ++ trail)) = l.map (fun p => encodeRunes p.2.value) := by
  rw [splitArgsBytes, decodeRunes_encodeRunes, split_spec l trail hl ht, List.map_map]
  rfl

/-! ### Non-vacuity: the hypotheses are satisfiable on concrete, non-trivial values -/

/-- `{f "a b" {1} {g {k}} x}` as a tree. -/
def sampleTree : C09.Expr :=
  .call "f".toList [.lit "a b".toList, .group 1, .call "g".toList [.key "k".toList], .lit "x".toList]

def sampleStyle : Style := fun p =>
  { quote := p.length % 2 == 1, lead := [0], trail := if p = [] then [] else [1],
    sep := fun i => (i % 2, if i = 0 then [0] else []) }

/-- A style with Unicode white space: NBSP after `{`, IDEOGRAPHIC SPACE + LF before `}`, EM SPACE / LINE
    SEPARATOR between arguments. -/
def unicodeStyle : Style := fun _ =>
  { quote := false, lead := [7], trail := [24, 2], sep := fun i => (if i % 2 = 0 then 12 else 20, []) }

def sampleFn : List Char → List Bytes → Bytes := probeSem
def sampleReg : Registry := pureRegistry ["f".toList, "g".toList] sampleFn

example : AdmissibleTop sampleTree := by
  simp only [AdmissibleTop, sampleTree, Admissible, AdmissibleArgs]
  decide +kernel

example : RegOk sampleReg sampleFn sampleTree := by
  simp [sampleTree, RegOk, RegOkArgs, sampleReg, pureRegistry]

example : printTop sampleStyle sampleTree = "{ f  \"a b\"\t{ 1\t} { g  { k\t}\t}\t\"x\"}".toList := by
  simp [printTop, sampleTree, printArg, printArgs, sampleStyle, Style.child, decimal, ws, sepWs, wsChar, bare,
    special, isSpace, digitChar, spaceRunes]

example : printTop unicodeStyle (.call "f".toList [.key "k".toList, .lit "x".toList]) =
    "{\u00a0f\u2003{\u00a0k\u3000\n}\u2028x\u3000\n}".toList := by
  simp [printTop, printArg, printArgs, unicodeStyle, Style.child, ws, sepWs, wsChar, bare,
    special, isSpace, spaceRunes]

example : LayoutOk true [([' '], .bare ['a']), ([' ', '\t'], .quoted []), (['\n'], .braced "f \"x y\" {1}".toList)] := by
  refine ⟨by decide +kernel, Or.inl rfl, (by decide +kernel : bare ['a'] = true), by decide +kernel, Or.inr (by decide +kernel), (by decide +kernel : plain [] = true),
    by decide +kernel, Or.inr (by decide +kernel), ?_, trivial⟩
  show Inner "f \"x y\" {1}".toList
  exact Inner.char 'f' _ (by decide +kernel) (Inner.char ' ' _ (by decide +kernel) (Inner.quoted "x y".toList _ (by decide +kernel)
    (Inner.char ' ' _ (by decide +kernel) (Inner.braces ['1'] [] (Inner.char '1' _ (by decide +kernel) Inner.nil) Inner.nil))))

example : Unterminated "ab {f {0} \\} c".toList := by unfold Unterminated; decide +kernel

example : escapeLit "a{b}\\c\n".toList = "a\\{b\\}\\\\c\\n".toList := by decide +kernel

example : sampleReg "nofn".toList = none := by decide +kernel

/-- The probe registry satisfies the optimiser-on hypothesis too: a pure builder's stage only runs its
    arguments. -/
example : NoMsgReg "out of fuel" sampleReg := by
  intro name f args h hargs
  simp only [sampleReg, pureRegistry] at h
  split at h
  · cases h
    refine ⟨by simp [pureBuilder], fun b s hb hs => ?_⟩
    simp only [pureBuilder, Except.ok.injEq] at hb
    subst hb; simp only [Option.some.injEq] at hs; subst hs
    refine NoMsg.bind ?_ fun vs => .ret _
    induction args with
    | nil => exact .ret _
    | cons a r ih =>
      exact NoMsg.bind (hargs a (by simp)) fun x =>
        NoMsg.bind (ih fun y hy => hargs y (by simp [hy])) fun y => .ret _
  · cases h

example : NoFuelMsg sampleReg := by
  intro name f args h
  simp only [sampleReg, pureRegistry] at h
  split at h
  · cases h; simp [pureBuilder]
  · cases h

/-- `{if {eq {0} "a b"} {not {k}} no}` over the STANDARD registry satisfies the hypotheses of `print_compile`
    (lazy `if`, folding `eq`, strict `not`; any set of known-but-unmodelled other names). -/
example (known : List String) : AdmissibleTop stdTree ∧ RegSem (stdRegistry known) stdFn stdTree :=
  ⟨by simp only [AdmissibleTop, stdTree, Admissible, AdmissibleArgs]; decide +kernel, stdTree_regSem known⟩

example : RegSem sampleReg sampleFn sampleTree :=
  regSem_of_regOk _ _ _ (by simp [sampleTree, RegOk, RegOkArgs, sampleReg, pureRegistry])

/-- `{if {lt {0} 10} {bucket {sumi {multi {0} 2} {len {src}} 7} 5} {substr {k} 0 3}}`: a lazy helper, a float
    comparison of a group with a constant, an integer fold whose arguments are a nested fold, a call and a
    constant, a bucket with a constant size, `substr` with constant indices – a call site of the fragment at
    every node (so `print_compile_std_fragment` applies, any style, optimiser on or off). -/
def fragTree : C09.Expr :=
  .call "if".toList [.call "lt".toList [.group 0, .lit "10".toList],
    .call "bucket".toList [.call "sumi".toList [.call "multi".toList [.group 0, .lit "2".toList],
      .call "len".toList [.key "src".toList], .lit "7".toList], .lit "5".toList],
    .call "substr".toList [.key "k".toList, .lit "0".toList, .lit "3".toList]]

example : fragOk fragTree = true ∧ AdmissibleTop fragTree :=
  ⟨by decide +kernel, by simp only [AdmissibleTop, fragTree, Admissible, AdmissibleArgs]; decide⟩

/-- …and what the fragment excludes: a constant that is not an integer in an integer position (`{sumi abc 1}`
    is a compile error in rare), a non-constant bucket size. -/
example : fragOk (.call "sumi".toList [.lit "abc".toList, .lit "1".toList]) = false ∧
    fragOk (.call "bucket".toList [.group 0, .group 1]) = false := ⟨by decide +kernel, by decide +kernel⟩

example : RegDen (stdRegistry []) (fun _ => stdSem) dynE fragTree := regDen_of_fragOk [] fragTree (by decide +kernel)

/-- "aé€😀": 1-, 2-, 3- and 4-byte sequences. -/
example : wellFormed [0x61, 0xC3, 0xA9, 0xE2, 0x82, 0xAC, 0xF0, 0x9F, 0x98, 0x80] = true := by decide +kernel
example : decodeUtf8 [0x61, 0xC3, 0xA9, 0xE2, 0x82, 0xAC, 0xF0, 0x9F, 0x98, 0x80] = [0x61, 0xE9, 0x20AC, 0x1F600] := by decide +kernel

/-- Overlong (C0 80, E0 80 80), surrogate (ED A0 80), above U+10FFFF (F4 90 80 80), truncated (E2 82),
    stray continuation (80), F5: nothing starts there, and every byte gets its own U+FFFD. -/
example : seqLen [0xC0, 0x80] = 0 ∧ seqLen [0xE0, 0x80, 0x80] = 0 ∧ seqLen [0xED, 0xA0, 0x80] = 0 ∧
    seqLen [0xF4, 0x90, 0x80, 0x80] = 0 ∧ seqLen [0xE2, 0x82] = 0 ∧ seqLen [0x80] = 0 ∧ seqLen [0xF5, 0x80] = 0 := by decide +kernel
example : decodeUtf8 [0xF4, 0x90, 0x80, 0x80, 0x41, 0xE2, 0x82] = [0xFFFD, 0xFFFD, 0xFFFD, 0xFFFD, 0x41, 0xFFFD, 0xFFFD] := by
  decide +kernel
example : wellFormed [0xED, 0xA0, 0x80] = false ∧ wellFormed [0xED, 0x9F, 0xBF] = true := by decide +kernel

/-- `{007}` `{+1}` `{-1}` `{-0}` `{-9223372036854775808}` are integers … -/
example : IntLit (ascii "007") 7 ∧ IntLit (ascii "+1") 1 ∧ IntLit (ascii "-1") (-1) ∧ IntLit (ascii "-0") 0 ∧
    IntLit (ascii "-9223372036854775808") (-9223372036854775808) := by
  refine ⟨(int_literal_spec _ _).mp ?_, (int_literal_spec _ _).mp ?_, (int_literal_spec _ _).mp ?_,
    (int_literal_spec _ _).mp ?_, (int_literal_spec _ _).mp ?_⟩ <;> decide +kernel
/-- … `{1e3}` `{0x10}` `{1_0}` `{9223372036854775808}` `{-}` `{+}` `{1.0}` `{ 1}`(with the space inside the word), the
    Arabic-Indic digit three are not: they are key look-ups. -/
example : ∀ b ∈ [ascii "1e3", ascii "0x10", ascii "1_0", ascii "9223372036854775808", ascii "-", ascii "+", ascii "1.0",
    ascii " 1", ascii "--1", [0xD9, 0xA3], []], ∀ v, ¬ IntLit b v := by
  intro b hb
  apply (atoi_none_iff b).mp
  revert b; decide +kernel
/-- the hypotheses of `lone_integer_is_regex_group` are satisfiable: line "ab cd", match "b c" with group 1 = "c" -/
example : C02.WF (ascii "ab cd") [1, 4, 3, 4] ∧ C02.specGroup (ascii "ab cd") [1, 4, 3, 4] 1 = ascii "c" ∧
    C02.specGroup (ascii "ab cd") [1, 4, 3, 4] 0 = ascii "b c" ∧ C02.specGroup (ascii "ab cd") [1, 4, 3, 4] 2 = [] := by
  refine ⟨?_, by decide +kernel, by decide +kernel, by decide +kernel⟩
  intro k hk
  have : k = 0 ∨ k = 1 := by simp at hk; omega
  rcases this with rfl | rfl <;> decide +kernel
example : splitArgs "{0}".toList = ["{0}".toList] ∧ Inner "{0}".toList :=
  ⟨by decide +kernel, Inner.braces ['0'] [] (Inner.char '0' _ (by decide +kernel) Inner.nil) Inner.nil⟩

/-- what the user reads for `ab{}` and for `{nofn x}{`: one error → the bare line, two → header + indented lines -/
example : compileError (fun t => t) (ascii "ab{}") [⟨.emptyStatement, "{}".toList, 2⟩] =
    some (ascii "At `{}` (2): empty statement in expression") := by
  repeat rw [ascii_ofList]
  repeat rw [String.toList_ofList]
  decide +kernel
example : compileError (fun t => t) (ascii "{nofn x}{")
      [⟨.missingFunction, "nofn x".toList, 0⟩, ⟨.unterminated, "{".toList, 8⟩] =
    some (ascii "Compiler Errors in: `{nofn x}{`\n  At `nofn x` (0): missing function\n  At `{` (8): non-terminated statement in expression\n") := by
  repeat rw [ascii_ofList]
  repeat rw [String.toList_ofList]
  decide +kernel

/-- `{a {0} "x y"}` is well formed when `a` is known … -/
example : WellFormed splitArgs (fun n => n == ['a']) "{a {0} \"x y\"}".toList := by
  refine .mk _ (by decide +kernel) fun b hb => ?_
  have hb' : b = "a {0} \"x y\"".toList := by
    have : bodies "{a {0} \"x y\"}".toList = ["a {0} \"x y\"".toList] := by decide +kernel
    rw [this] at hb; simpa using hb
  subst hb'
  refine .call _ ['a'] "{0}".toList ["x y".toList] (by decide +kernel) rfl fun a ha => ?_
  have ha' : a = "{0}".toList ∨ a = "x y".toList := by simpa using ha
  rcases ha' with rfl | rfl
  · refine .mk _ (by decide +kernel) fun b hb => ?_
    have : bodies "{0}".toList = [['0']] := by decide +kernel
    rw [this] at hb
    have : b = ['0'] := by simpa using hb
    subst this
    exact .lone _ ['0'] (by decide +kernel)
  · refine .mk _ (by decide +kernel) fun b hb => ?_
    have : bodies "x y".toList = [] := by decide +kernel
    rw [this] at hb; cases hb
/-- … `{a {}}` is not (an empty statement one level down), nor `{nofn x}` (unknown function), nor `{a` (unterminated). -/
example : ¬ WellFormed splitArgs (fun n => n == ['a']) "{a {}}".toList := by
  intro h
  cases h with
  | mk _ _ h2 =>
    have hs : splitArgs "a {}".toList = [['a'], "{}".toList] := by decide +kernel
    cases h2 "a {}".toList (by decide +kernel) with
    | lone _ a h => rw [hs] at h; cases h
    | call _ n x xs h _ hall =>
      rw [hs] at h; cases h
      cases hall "{}".toList (by simp) with
      | mk _ _ h3 =>
        have hs' : splitArgs ([] : List Char) = [] := by decide +kernel
        cases h3 [] (by decide +kernel) with
        | lone _ a h => rw [hs'] at h; cases h
        | call _ n x xs h => rw [hs'] at h; cases h
example : ¬ WellFormed splitArgs (fun n => n == ['a']) "{nofn x}".toList := by
  intro h
  cases h with
  | mk _ _ h2 =>
    have hs : splitArgs "nofn x".toList = ["nofn".toList, ['x']] := by decide +kernel
    cases h2 "nofn x".toList (by decide +kernel) with
    | lone _ a h => rw [hs] at h; cases h
    | call _ n x xs h hk => rw [hs] at h; cases h; revert hk; decide +kernel
example : ¬ WellFormed splitArgs (fun n => n == ['a']) "{a".toList := by
  intro h
  cases h with
  | mk _ h1 _ => revert h1; decide +kernel

/-- registries of pure functions satisfy `NoBuilderErr` -/
example : NoBuilderErr sampleReg := by
  intro name f args b h hb
  simp only [sampleReg, pureRegistry] at h
  split at h
  · cases h; simp only [pureBuilder, Except.ok.injEq] at hb; subst hb; rfl
  · cases h

/-- `ab{f x {}}`: ONE error, `empty statement`, text `{}` – with index 2 (the `{` of the enclosing statement, inner
    index 0 added), although the text `{}` stands at rune 7: the index of an inherited error is relative to the
    enclosing top-level statement, not a position of the context text (`errors.go` `inherit`; modelled as it is). -/
example : synErrs splitArgs (fun n => n == ['f']) "ab{f x {}}".toList = [⟨.emptyStatement, "{}".toList, 2⟩] := by
  repeat rw [ascii_ofList]
  repeat rw [String.toList_ofList]
  decide +kernel

/-- two levels down the starts add up: `ab{f xx {f yyy {}}}` reports index 2 + 0 + 0; a statement behind text inside
    an argument keeps its inner offset: `{f "ab{nofn x}cd{}"}` reports `missing` at 0 + 2 and `empty` at 0 + 12; quotes do
    not hide braces from `Compile`'s own brace count: `{f "{"}` is unterminated as a whole -/
example : synErrs splitArgs (fun n => n == ['f']) "ab{f xx {f yyy {}}}".toList = [⟨.emptyStatement, "{}".toList, 2⟩] ∧
    synErrs splitArgs (fun n => n == ['f']) "{f \"ab{nofn x}cd{}\"}".toList =
      [⟨.missingFunction, "nofn x".toList, 2⟩, ⟨.emptyStatement, "{}".toList, 12⟩] ∧
    synErrs splitArgs (fun n => n == ['f']) "{f \"{\"}".toList = [⟨.unterminated, "{f \"{\"}".toList, 0⟩] := by
  repeat rw [ascii_ofList]
  repeat rw [String.toList_ofList]
  decide +kernel

/-- order and texts at top level: `a{}b{nofn x}c{ }{` – three closed statements and an open one -/
example : synErrs splitArgs (fun n => n == ['f']) "a{}b{nofn x}c{ }{".toList =
    [⟨.emptyStatement, "{}".toList, 1⟩, ⟨.missingFunction, "nofn x".toList, 4⟩, ⟨.emptyStatement, "{ }".toList, 13⟩,
     ⟨.unterminated, "{".toList, 16⟩] ∧
    stmts "a{}b{nofn x}c{ }{".toList = [⟨1, 2, []⟩, ⟨4, 11, "nofn x".toList⟩, ⟨13, 15, [' ']⟩] ∧
    openStart "a{}b{nofn x}c{ }{".toList = some 16 := by
  repeat rw [ascii_ofList]
  repeat rw [String.toList_ofList]
  decide +kernel

/-! ### examples for the world-relative fragment -/

/-- A world for the examples: every non-ASCII rune printable, no zone database, no `dateparse`, library calls
    beyond the model answer the empty string. -/
def sampleWorld : FragWorld :=
  ⟨fun _ => true,
   { loadOk := fun _ => none, zones := fun _ => [], lookup := fun _ _ => .panic "no zone database",
     detect := fun _ => .ret none, parseAny := fun _ _ => .ret none,
     nowBuild := .ret [], nowLive := .ret [], nowDelta := .ret [], lib := fun _ => .ret [] },
   fun _ => []⟩

example : sampleWorld.Ok := fun _ => rfl

/-- `{@map {@split {1} ","} {format "%s=%q" {0} {@reduce {@split {0} " "} {sumi {0} {1}} "0"}}}`: a binder inside a
    binder, `format` and a literal initial value – inside the widened fragment in every style. -/
def worldTree : C09.Expr :=
  .call "@map".toList [.call "@split".toList [.group 1, .lit ",".toList],
    .call "format".toList [.lit "%s=%q".toList, .group 0,
      .call "@reduce".toList [.call "@split".toList [.group 0, .lit " ".toList],
        .call "sumi".toList [.group 0, .group 1], .lit "0".toList]]]

example : fragOkW sampleWorld worldTree = true ∧ AdmissibleTop worldTree :=
  ⟨by decide +kernel, by simp only [AdmissibleTop, worldTree, Admissible, AdmissibleArgs]; decide⟩

/-- **Shadowing**: inside the body `{0}` is the ELEMENT, not the caller's group 0.  With group 0 = `7`, group 1 =
    `1 2,30` the tree above is `1 2="3"`, NUL, `30="30"` – no `7` anywhere. -/
example : evalW sampleWorld worldTree ⟨fun i => if i = 0 then ascii "7" else if i = 1 then ascii "1 2,30" else [], fun _ => []⟩ =
    ascii "1 2=\"3\"" ++ [0] ++ ascii "30=\"30\"" := by
  repeat rw [ascii_ofList]
  repeat rw [String.toList_ofList]
  decide +kernel

/-- Keys and negative indices inside a body are the enclosing context's; `{2}` and above are empty. -/
example : evalW sampleWorld (.call "@map".toList [.group 0, .call "$".toList [.group 0, .group 2, .key "k".toList]])
    ⟨fun i => if i = 0 then [97, 0, 98] else ascii "outer", fun _ => ascii "K"⟩ =
    [97, 0, 0, 75, 0, 98, 0, 0, 75] := by
  repeat rw [ascii_ofList]
  repeat rw [String.toList_ofList]
  decide +kernel

/-- Just outside: a NON-literal initial value of `@reduce` (rare reads it as `""` without an error – the value is
    not the fold from that value), a named zone, a non-ASCII layout, an unknown attribute, `time`. -/
example : fragOkW sampleWorld (.call "@reduce".toList [.group 0, .call "sumi".toList [.group 0, .group 1], .group 1]) = false ∧
    fragOkW sampleWorld (.call "timeformat".toList [.group 0, .lit "DAY".toList, .lit "Europe/Berlin".toList]) = false ∧
    fragOkW sampleWorld (.call "timeformat".toList [.group 0, .lit "é".toList]) = false ∧
    fragOkW sampleWorld (.call "timeattr".toList [.group 0, .lit "month".toList]) = false ∧
    fragOkW sampleWorld (.call "time".toList [.group 0]) = false ∧
    fragOkW sampleWorld (.call "timeformat".toList [.group 0, .lit "DAY".toList, .lit "uTc".toList]) = true ∧
    fragOkW sampleWorld (.call "timeattr".toList [.group 0, .lit "YearWeek".toList]) = true := by
  repeat rw [ascii_ofList]
  repeat rw [String.toList_ofList]
  decide +kernel

/-- `{timeformat 1700000000 "2006-01-02 15:04:05 Mon MST"}` = `2023-11-14 22:13:20 Tue UTC`; `{timeattr … yearweek}`
    = `2023-46`; `{durationformat {duration 1h1m1s}}` = `1h1m1s`. -/
example : evalW sampleWorld (.call "timeformat".toList [.lit "1700000000".toList, .lit "2006-01-02 15:04:05 Mon MST".toList]) emptyCtx =
      ascii "2023-11-14 22:13:20 Tue UTC" ∧
    evalW sampleWorld (.call "timeattr".toList [.lit "1700000000".toList, .lit "yearweek".toList]) emptyCtx = ascii "2023-46" ∧
    evalW sampleWorld (.call "durationformat".toList [.call "duration".toList [.lit "1h1m1s".toList]]) emptyCtx = ascii "1h1m1s" := by
  repeat rw [ascii_ofList]
  repeat rw [String.toList_ofList]
  decide +kernel

/-! ### examples for the complete error list -/

/-- `ab{f {bad y {}} {nil 1}}` (probe registry): the argument's own errors first (`{}` inside `bad …`), then the
    builder error of `bad`, then that of `nil` – all three with the index of the top-level `{` (2). -/
example : allErrs splitArgs testSig "ab{f {bad y {}} {nil 1}}".toList =
    [⟨.syn .emptyStatement, "{}".toList, 2⟩, ⟨.builder "argcount", "bad y {}".toList, 2⟩,
     ⟨.builder "argcount", "nil 1".toList, 2⟩] := by
  repeat rw [ascii_ofList]
  repeat rw [String.toList_ofList]
  decide +kernel

/-- The standard table (arity names): `{not a b}{eq x}{switch {len a b} 1 2 3}{nofn 1 2}{` – two arity errors, the arity
    error of the argument `{len a b}` of a `switch` that itself is fine, an unknown function, an open statement. -/
example : allErrs splitArgs aritySig "{not a b}{eq x}{switch {len a b} 1 2 3}{nofn 1 2}{".toList =
    [⟨.builder "argcount", "not a b".toList, 0⟩, ⟨.builder "argcount", "eq x".toList, 9⟩,
     ⟨.builder "argcount", "len a b".toList, 15⟩,
     ⟨.syn .missingFunction, "nofn 1 2".toList, 39⟩, ⟨.syn .unterminated, "{".toList, 49⟩] := by
  repeat rw [ascii_ofList]
  repeat rw [String.toList_ofList]
  decide +kernel

end Rare.C09

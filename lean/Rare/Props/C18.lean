import Rare.Proofs.C18Cal
import Rare.Proofs.C18Layout
import Rare.Proofs.C18Dur
import Rare.Proofs.C18DurFrac
import Rare.Proofs.C18RT
import Rare.Proofs.C18Named
import Rare.Proofs.C18Abbr
import Rare.Proofs.C18Zone
import Rare.Proofs.C18Cache
import Rare.Proofs.C18Hist
import Rare.Proofs.C18Name
import Rare.Proofs.C18Offset
import Rare.Proofs.C18DurRT
import Rare.Gen.C18
/-!
# C18 – Time helpers agree with the calendar and round-trip

Model: `Rare/Model/C18.lean` (rare's `funcsTime.go` after the `fix:` commit for F13, plus an
executable reference of the parts of Go's `time` package it calls).  Reference calendar and
truncation: `Rare/Spec/C18.lean`.  Tables and the `QUARTER` arithmetic are regenerated from
`/repo` into `Rare/Gen/C18.lean` on every run; the theorems below are stated over them.

Level: proof for rare's own logic (tables, prefix matching, quarter, dispatch, markers) and for the
reference calendar / layout formatter–parser as mathematical objects; that Go's `time.Format`,
`time.Parse`, `LoadLocation`, `dateparse` and the host tz database behave like the reference is
covered by correspondence only (see DESIGN.md, C18 "Level").
-/
namespace Rare.C18

/-! ## The generated tables are the ones the model uses -/

/-- The hand copies in the model equal what the translator reads from `funcsTime.go` now. -/
theorem gen_tables_match :
    Gen.C18.timeFormats.map (fun e => (asc e.1, asc e.2)) = timeFormats
    ∧ Gen.C18.bucketTable.map (fun e => (asc e.1, asc e.2)) = bucketTable
    ∧ Gen.C18.attrKeys.map asc = attrKeys
    ∧ asc Gen.C18.defaultTimeFormat = rfc3339
    ∧ (∀ m, Gen.C18.quarter m = quarterExpr m) :=
  ⟨rfl, rfl, rfl, rfl, fun _ => rfl⟩

/-! ## Quarter -/

/-- For every month the generated `QUARTER` expression is `(m − 1) / 3 + 1`, lies in 1..4, and
January–March are quarter 1 (F13: the expression used to be `month/3 + 1`). -/
theorem quarter_spec (m : Int) (h1 : 1 ≤ m) (h12 : m ≤ 12) :
    Gen.C18.quarter m = quarter m ∧ 1 ≤ Gen.C18.quarter m ∧ Gen.C18.quarter m ≤ 4 ∧
      (m ≤ 3 → Gen.C18.quarter m = 1) ∧ (10 ≤ m → Gen.C18.quarter m = 4) := by
  have h : m = 1 ∨ m = 2 ∨ m = 3 ∨ m = 4 ∨ m = 5 ∨ m = 6 ∨ m = 7 ∨ m = 8 ∨ m = 9 ∨ m = 10 ∨ m = 11 ∨ m = 12 := by omega
  rcases h with h | h | h | h | h | h | h | h | h | h | h | h <;> subst h <;> decide

/-- Months of one quarter are consecutive triples: the specification itself. -/
theorem quarter_months (m : Int) :
    3 * (quarter m - 1) + 1 ≤ m ∧ m ≤ 3 * quarter m := by
  unfold quarter; omega

/-- `{timeattr t quarter}` prints the quarter of the civil month of `t` in the zone. -/
theorem timeattr_quarter (unix off : Int) :
    timeAttr (asc "quarter") unix off = some (itoa (quarter (civilOf unix off).m)) := by
  have hm := civil_month_day (localDays unix off)
  have hq := (quarter_spec (civilFromDays (localDays unix off)).m hm.1 hm.2.1).1
  have : timeAttr (asc "quarter") unix off = some (itoa (quarterExpr (civilFromDays (localDays unix off)).m)) := rfl
  rw [this, ← gen_tables_match.2.2.2.2, hq]
  rfl

/-! ## Named formats -/

/-- What every named format carries (one letter per field token, in layout order; see
`stdLetter`): which hold date + time + numeric offset, and to what precision. -/
theorem named_format_carries :
    Gen.C18.timeFormats.map (fun e => (e.1, String.ofList (carries (tokenize (asc e.2))))) =
      [("", "YMDhmsz"), ("ANSIC", "wMDhmsY"), ("DAY", "D"), ("HOUR", "h"), ("MINUTE", "m"), ("MNTH", "M"),
       ("MONTH", "M"), ("MONTHNAME", "M"), ("NGINX", "DMYhmsz"), ("NTIMEZONE", "z"), ("NTZ", "z"),
       ("RFC1123", "wDMYhmsa"), ("RFC1123Z", "wDMYhmsz"), ("RFC3339", "YMDhmsz"), ("RFC3339N", "YMDhmsfz"),
       ("RFC822", "DMyhma"), ("RFC822Z", "DMyhmz"), ("RUBY", "wMDhmszY"), ("SECOND", "s"), ("TIMEZONE", "a"),
       ("UNIX", "wMDhmsaY"), ("WDAY", "w"), ("WEEKDAY", "w"), ("YEAR", "Y")] :=
  (named_map fun n ts => (n, String.ofList (carries ts))).trans (by decide +kernel)

/-- The named formats holding date, time and numeric offset, with the precision each carries. -/
theorem named_format_instants :
    (Gen.C18.timeFormats.filter (fun e => holdsInstant (tokenize (asc e.2)))).map
        (fun e => (e.1, precOf (tokenize (asc e.2)))) =
      [("", .second), ("NGINX", .second), ("RFC1123Z", .second), ("RFC3339", .second), ("RFC3339N", .nano),
       ("RFC822Z", .minute), ("RUBY", .second)] :=
  (named_filter_map holdsInstant fun n ts => (n, precOf ts)).trans (by decide +kernel)

/-- Lookup is case-insensitive on the name and falls back to the argument itself. -/
theorem named_format_lookup (f : Bytes) :
    namedTimeFormatToFormat timeFormats f =
      match timeFormats.find? (fun e => e.1 == toUpper f) with
      | some e => e.2
      | none => f := by
  unfold namedTimeFormatToFormat lookupB
  cases timeFormats.find? (fun e => e.1 == toUpper f) <;> rfl

/-! ## Buckets -/

/-- Every bucket layout is a prefix (token-wise) of the finest one, and reads wall-clock fields of
its own precision or coarser only. -/
theorem bucket_layout_prefix :
    ∀ e ∈ Gen.C18.bucketTable.map (fun e => (asc e.1, asc e.2)),
      (tokenize e.2).isPrefixOf (tokenize (asc "2006-01-02 15:04:05.999999999")) = true
      ∧ withinPrec (precOf (tokenize e.2)) (tokenize e.2) = true := by
  simp only [Gen.C18.bucketTable, List.map_cons, List.map_nil]
  repeat rw [asc_ofList]
  decide +kernel

/-- Bucketing is truncation: the text printed for a bucket is a prefix of the full-precision text,
and it is the same text as for the wall clock truncated to the bucket's precision. -/
theorem bucket_is_truncation (e : Bytes × Bytes) (he : e ∈ bucketTable) (t : TimeV) :
    (formatLayout e.2 t).isPrefixOf (formatLayout (asc "2006-01-02 15:04:05.999999999") t) = true
    ∧ formatLayout e.2 (t.trunc (precOf (tokenize e.2))) = formatLayout e.2 t := by
  have h := bucket_layout_prefix e (by rw [gen_tables_match.2.1]; exact he)
  constructor
  · obtain ⟨r, hr⟩ := List.isPrefixOf_iff_prefix.mp h.1
    unfold formatLayout
    rw [← hr, formatToks_append]
    exact List.isPrefixOf_iff_prefix.mpr ⟨_, rfl⟩
  · exact formatToks_trunc _ _ h.2 t

/-- The bucket names of the documentation resolve to the layouts of their precision; an unknown
name resolves to nothing (`<ENUM>` at compile time). -/
theorem bucket_names :
    [asc "n", asc "s", asc "m", asc "h", asc "d", asc "mo", asc "y", asc "Hour", asc "x", asc "secondss"].map
        (fun n => precOf (tokenize (timeBucketToFormat bucketTable n)))
      = [.nano, .second, .minute, .hour, .day, .month, .year, .hour, .year, .year]
    ∧ timeBucketToFormat bucketTable (asc "x") = [] ∧ timeBucketToFormat bucketTable (asc "secondss") = [] := by
  unfold bucketTable
  repeat rw [asc_ofList]
  decide +kernel

/-! ## Reference calendar -/

/-- `daysFromCivil ∘ civilFromDays = id`. -/
theorem civil_roundtrip (z : Int) :
    daysFromCivil (civilFromDays z).y (civilFromDays z).m (civilFromDays z).d = z :=
  civil_roundtrip' z

/-- `civilFromDays` yields a date of the calendar: month 1..12, day within the month. -/
theorem civil_valid (z : Int) :
    1 ≤ (civilFromDays z).m ∧ (civilFromDays z).m ≤ 12 ∧ 1 ≤ (civilFromDays z).d ∧
      (civilFromDays z).d ≤ daysIn (civilFromDays z).m (civilFromDays z).y :=
  civil_month_day z

theorem weekday_range (d : Int) : 0 ≤ weekday d ∧ weekday d ≤ 6 := weekday_range' d

/-- One day later is the next weekday. -/
theorem weekday_succ (d : Int) : weekday (d + 1) = (weekday d + 1) % 7 := by
  unfold weekday; omega

theorem yearday_range (z : Int) : 0 ≤ yearDay z ∧ yearDay z ≤ 365 := yearDay_range' z

/-- The day of the year stays below the length of its year (365, or 366 in a leap year). -/
theorem yearday_lt_length (z : Int) :
    yearDay z < (if isLeap (civilFromDays z).y then 366 else 365) := by
  have h := (year_bounds z).2
  rw [yearStart_succ] at h
  unfold yearDay; unfold yearStart at h; omega

/-- The year of a day is the unique year whose interval of day numbers contains it. -/
theorem civil_year_unique (z y : Int) :
    (civilFromDays z).y = y ↔ (daysFromCivil y 1 1 ≤ z ∧ z < daysFromCivil (y + 1) 1 1) := by
  constructor
  · intro h; subst h; exact year_bounds z
  · intro h; exact year_unique z y h.1 h.2

theorem isoweek_range (d : Int) : 1 ≤ (isoYearWeek d).2 ∧ (isoYearWeek d).2 ≤ 53 := by
  have h := yearDay_range' (thursdayOf d)
  simp only [isoYearWeek]
  omega

/-- The Thursday rule: the Thursday of the Monday-to-Sunday week of `d` is a Thursday within three
days of `d`, its Monday is a Monday; the ISO year of `d` is the civil year of that Thursday and the
ISO week is one more than the number of earlier Thursdays of that civil year; all days of the week
get the same answer. -/
theorem isoweek_thursday (d : Int) :
    weekday (thursdayOf d) = 4 ∧ thursdayOf d - 3 ≤ d ∧ d ≤ thursdayOf d + 3 ∧ weekday (thursdayOf d - 3) = 1
    ∧ (isoYearWeek d).1 = (civilFromDays (thursdayOf d)).y
    ∧ (isoYearWeek d).2 = yearDay (thursdayOf d) / 7 + 1
    ∧ isoYearWeek d = isoYearWeek (thursdayOf d)
    ∧ (∀ k, 0 ≤ k → k ≤ 6 → isoYearWeek (thursdayOf d - 3 + k) = isoYearWeek d) := by
  obtain ⟨h1, h2, h3, h4, h5⟩ := thursdayOf_facts d
  refine ⟨h1, h2, h3, h4, rfl, rfl, ?_, ?_⟩
  · simp only [isoYearWeek, h5]
  · intro k hk0 hk6
    have : thursdayOf (thursdayOf d - 3 + k) = thursdayOf d := by
      unfold thursdayOf weekday at *; omega
    simp only [isoYearWeek, this]

/-- ISO-8601's other characterisation: the week containing 4 January is week 1 of that year. -/
theorem isoweek_jan4 (d y : Int) (h : civilFromDays d = ⟨y, 1, 4⟩) : isoYearWeek d = (y, 1) := by
  have hr := civil_roundtrip' d
  rw [h] at hr
  have h3 : d = yearStart y + 3 := by
    rw [← hr]; unfold yearStart daysFromCivil; simp only; omega
  obtain ⟨_, t1, t2, _, _⟩ := thursdayOf_facts d
  have hlen := yearStart_mono y (y + 1) (by omega)
  have hy : (civilFromDays (thursdayOf d)).y = y := year_unique _ y (by omega) (by omega)
  simp only [isoYearWeek, yearDay, hy]
  unfold yearStart at h3 hlen
  congr 1; omega

/-- … and 28 December always lies in the last week (52 or 53) of its own ISO year. -/
theorem isoweek_dec28 (d y : Int) (h : civilFromDays d = ⟨y, 12, 28⟩) :
    (isoYearWeek d).1 = y ∧ 52 ≤ (isoYearWeek d).2 := by
  have hr := civil_roundtrip' d
  rw [h] at hr
  have h3 : d = yearStart (y + 1) - 4 := by
    rw [← hr]; unfold yearStart daysFromCivil
    simp only [show ¬ ((12 : Int) ≤ 2) from by decide, show ((12 : Int) > 2) from by decide, if_true, if_false,
      show ((1 : Int) ≤ 2) = True from by simp, show ¬ ((1 : Int) > 2) from by decide]
    have e1 : (y + 1 - 1) = y := by omega
    rw [e1]; omega
  obtain ⟨_, t1, t2, _, _⟩ := thursdayOf_facts d
  have hs := yearStart_succ y
  have hy : (civilFromDays (thursdayOf d)).y = y := year_unique _ y (by split at hs <;> omega) (by omega)
  simp only [isoYearWeek, yearDay, hy]
  unfold yearStart at h3 hs
  refine ⟨trivial, ?_⟩
  split at hs <;> omega

/-! ## Format / parse round trip -/

/-- For the model formatter/parser: for every layout of the round-trip class `RT` (see
`Rare/Proofs/C18RT.lean`: fixed-width or safely delimited tokens) that holds year, month, day, hour,
minute and a numeric zone, every valid civil date-time with whole seconds, every weekday label and
every whole-minute offset up to ±24:59 – parsing what was formatted gives the date-time truncated to
the precision of the layout, and the instant `wall clock − offset`, whatever the location argument
is.  A two-digit year carries the year only within Go's pivot window 1969..2068.  The class admits
`January`, `Monday` and `MST` tokens too (an abbreviation token next to the numeric zone needs an
abbreviation the parser reads back, `AbbrOK` – see `abbrOK_of_shape`).

Full statement wanted: the same for EVERY layout with those fields.  That is false for Go's
layouts (e.g. `1` month directly followed by `2` day prints `112` for both 1/12 and 11/2; `05.02`
makes the parser read the day as a fraction of the second), hence the class. -/
theorem format_parse_roundtrip (layout : Bytes) (hRT : RT (tokenize layout) = true)
    (hI : holdsInstant (tokenize layout) = true) (t : TimeV) (hv : t.dt.valid) (hns : t.dt.ns = 0)
    (hwd : 0 ≤ t.wd ∧ t.wd ≤ 6) (hoff : OffOK t.off)
    (hy2 : .std .year ∈ tokenize layout → 1969 ≤ t.dt.y ∧ t.dt.y ≤ 2068)
    (habbr : .std .tz ∈ tokenize layout → AbbrOK t.abbr t.off) :
    ∃ p, parseLayout layout (formatLayout layout t) = .ok p
      ∧ p.dt = truncTo (precOf (tokenize layout)) t.dt
      ∧ ∀ locOff locAbbr, instantOf p locOff locAbbr = some (wallSeconds (truncTo (precOf (tokenize layout)) t.dt) - t.off) :=
  roundtrip_core (tokenize layout) hRT hI t ⟨hv, hns, hwd, hoff, hy2, habbr⟩

/-- Every named format that holds date, time and numeric offset is in the round-trip class; only
`RFC822Z` has a two-digit year. -/
theorem named_formats_in_class :
    (Gen.C18.timeFormats.filter (fun e => holdsInstant (tokenize (asc e.2)))).all
        (fun e => RT (tokenize (asc e.2))) = true
    ∧ (Gen.C18.timeFormats.filter (fun e => (tokenize (asc e.2)).contains (.std .year))).map (·.1) = ["RFC822", "RFC822Z"] :=
  ⟨List.all_eq_true.mpr fun e he => (named_class e (List.mem_filter.mp he).1).1,
    (named_filter_map (·.contains (.std .year)) fun n _ => n).trans (by decide +kernel)⟩

/-- The wall clock of an instant denotes that instant again. -/
theorem wall_of_instant (unix off : Int) : wallSeconds (civilOf unix off) - off = unix :=
  (wall_trunc unix off).1

/-- `{time {timeformat u F Z} F Z}` for a named format `F` holding an instant: the result is `u`
for the formats carrying seconds and `u` minus the seconds of the local minute for `RFC822Z`
(stated for the resolved layout, any zone offset of whole minutes, four-digit years). -/
theorem time_timeformat_roundtrip (e : String × String) (he : e ∈ Gen.C18.timeFormats)
    (hI : holdsInstant (tokenize (asc e.2)) = true) (unix off : Int) (abbr : Bytes) (hoff : OffOK off)
    (hy : 0 ≤ (civilOf unix off).y ∧ (civilOf unix off).y ≤ 9999)
    (hy2 : e.1 = "RFC822Z" → 1969 ≤ (civilOf unix off).y ∧ (civilOf unix off).y ≤ 2068) :
    ∃ p, parseLayout (asc e.2) (formatLayout (asc e.2) (timeVOf unix off abbr)) = .ok p
      ∧ ∀ locOff locAbbr, instantOf p locOff locAbbr =
          some (if e.1 = "RFC822Z" then unix - (unix + off) % 60 else unix) := by
  obtain ⟨hRT, _, hcls⟩ := named_class e he
  obtain ⟨hnotz, hyr, hprec⟩ := hcls hI
  have hvalid : (timeVOf unix off abbr).dt.valid := civilOf_valid unix off hy
  obtain ⟨p, hp, hdt, hinst⟩ := format_parse_roundtrip (asc e.2) hRT hI (timeVOf unix off abbr) hvalid rfl
    (weekday_range' _) hoff (fun hm => hy2 (hyr (List.contains_iff_mem.mpr hm)))
    (fun hm => by rw [List.contains_iff_mem.mpr hm] at hnotz; cases hnotz)
  refine ⟨p, hp, fun lo la => ?_⟩
  rw [hinst lo la, hprec]
  obtain ⟨w1, w2, w3⟩ := wall_trunc unix off
  split
  · exact congrArg some w3
  · split
    · exact congrArg some w1
    · exact congrArg some w2

/-- The limit of the two-digit year is real: 1 Jan 2070 00:00 UTC (inside 1970..2100) printed
with `RFC822Z` is `01 Jan 70 00:00 +0000`, which reads back as 1 Jan 1970 – the format carries the
year modulo 100 only (Go's pivot: 69..99 → 19xx, 00..68 → 20xx).  Same behaviour in the real code
(correspondence op `time`); not a defect of rare, recorded as the reason for the hypothesis above. -/
theorem rfc822z_year_counterexample :
    formatLayout (asc "02 Jan 06 15:04 -0700") (timeVOf 3155760000 0 (asc "UTC")) = asc "01 Jan 70 00:00 +0000"
    ∧ (match parseLayout (asc "02 Jan 06 15:04 -0700") (asc "01 Jan 70 00:00 +0000") with
        | .ok p => instantOf p 0 []
        | .error _ => none) = some 0 := by
  repeat rw [asc_ofList]
  decide +kernel


/-! ## Every named format – what comes back, and which of them carry the instant -/

/-- Every entry of the generated `timeFormats` table (all 24, also the ones with month / weekday
names, a zone abbreviation, a two-digit year or a single field) is in the round-trip class. -/
theorem named_formats_all_in_class :
    Gen.C18.timeFormats.all (fun e => RT (tokenize (asc e.2))) = true :=
  List.all_eq_true.mpr fun e he => (named_class e he).1

/-- For every layout of the class – whether or not it holds a full instant – parsing what was
formatted succeeds and gives back exactly the fields the layout carries; the others take the
parser's defaults (year 0, 1 January, 00:00:00: `projectDT`).  The zone: with a numeric zone token
the instant is `wall clock − offset` whatever the location; with only an abbreviation it is that
relative to a location in which the abbreviation has that offset; with neither, the location
argument decides (`ZoneSrc.default`). -/
theorem format_parse_fields (layout : Bytes) (hRT : RT (tokenize layout) = true)
    (t : TimeV) (hv : t.dt.valid) (hns : t.dt.ns = 0) (hwd : 0 ≤ t.wd ∧ t.wd ≤ 6) (hoff : OffOK t.off)
    (hy2 : .std .year ∈ tokenize layout → 1969 ≤ t.dt.y ∧ t.dt.y ≤ 2068)
    (habbr : .std .tz ∈ tokenize layout → AbbrOK t.abbr t.off) :
    ∃ p, parseLayout layout (formatLayout layout t) = .ok p
      ∧ p.dt = projectDT (carries (tokenize layout)) t.dt
      ∧ ((carries (tokenize layout)).contains 'z' = true →
          ∀ locOff locAbbr, instantOf p locOff locAbbr = some (wallSeconds p.dt - t.off))
      ∧ ((carries (tokenize layout)).contains 'z' = false → (carries (tokenize layout)).contains 'a' = true →
          instantOf p t.off t.abbr = some (wallSeconds p.dt - t.off))
      ∧ ((carries (tokenize layout)).contains 'z' = false → (carries (tokenize layout)).contains 'a' = false →
          p.zone = .default) := by
  obtain ⟨z, hp, hz, hn⟩ := roundtrip_zone (tokenize layout) hRT t ⟨hv, hns, hwd, hoff, hy2, habbr⟩
  refine ⟨_, hp, rfl, fun cz => instantOf_numeric _ z t.off (hz cz), fun cz ca => ?_, fun cz ca => ?_⟩
  · by_cases hu : t.abbr = utcB
    · have h0 := ((habbr (mem_of_carries_a ca)).utc (by rw [hu]; rfl)).2
      simp only [hn cz, ca, hu, if_true, instantOf, h0]
      congr 1; omega
    · simp only [hn cz, ca, hu, if_true, if_false, instantOf]
  · simp only [hn cz, ca, Bool.false_eq_true, if_false]

/-- `{time {timeformat u F Z} F Z}` for EVERY named format `F`: the text parses, and the fields `F`
carries are those of the wall clock of `u` in the zone (to the precision the format carries: the
projection).  Hypotheses: whole-minute offset, four-digit year, a two-digit-year format only inside
the pivot window, an abbreviation of one of the shapes `parseTimeZone` reads (`abbrShape`). -/
theorem named_format_roundtrip (e : String × String) (he : e ∈ Gen.C18.timeFormats)
    (unix off : Int) (abbr : Bytes) (hoff : OffOK off)
    (hy : 0 ≤ (civilOf unix off).y ∧ (civilOf unix off).y ≤ 9999)
    (hy2 : (e.1 = "RFC822" ∨ e.1 = "RFC822Z") → 1969 ≤ (civilOf unix off).y ∧ (civilOf unix off).y ≤ 2068)
    (habbr : abbrShape abbr = true) (hutc : abbr = utcB → off = 0) :
    ∃ p, parseLayout (asc e.2) (formatLayout (asc e.2) (timeVOf unix off abbr)) = .ok p
      ∧ p.dt = projectDT (carries (tokenize (asc e.2))) (civilOf unix off) := by
  obtain ⟨hRT, hyr, _⟩ := named_class e he
  have hvalid : (timeVOf unix off abbr).dt.valid := civilOf_valid unix off hy
  obtain ⟨p, hp, hdt, _⟩ := format_parse_fields (asc e.2) hRT (timeVOf unix off abbr) hvalid rfl
    (weekday_range' _) hoff (fun hm => hy2 (hyr (List.contains_iff_mem.mpr hm)))
    (fun _ => abbrOK_of_shape abbr off habbr hutc)
  exact ⟨p, hp, hdt⟩

/-- The decidable classifier: a layout carries the instant when it holds date, time to the second,
a numeric offset and no two-digit year. -/
def carriesInstant (ts : List Tok) : Bool :=
  holdsInstant ts && (carries ts).contains 's' && !(carries ts).contains 'y'

/-- The named formats the classifier accepts (`RFC822Z` is the only one of `named_format_instants`
it rejects). -/
theorem named_formats_lossless :
    (Gen.C18.timeFormats.filter (fun e => carriesInstant (tokenize (asc e.2)))).map (·.1)
      = ["", "NGINX", "RFC1123Z", "RFC3339", "RFC3339N", "RUBY"] :=
  (named_filter_map carriesInstant fun n _ => n).trans (by decide +kernel)

/-- The classifier is sound, for ANY layout of the class (not only the named ones): if it accepts,
`{time {timeformat u L Z} L Z'}` is `u` – whatever the two zone arguments are. -/
theorem instant_classifier_sound (layout : Bytes) (hRT : RT (tokenize layout) = true)
    (hC : carriesInstant (tokenize layout) = true) (unix off : Int) (abbr : Bytes) (hoff : OffOK off)
    (hy : 0 ≤ (civilOf unix off).y ∧ (civilOf unix off).y ≤ 9999)
    (habbr : .std .tz ∈ tokenize layout → AbbrOK abbr off) :
    ∃ p, parseLayout layout (formatLayout layout (timeVOf unix off abbr)) = .ok p
      ∧ ∀ locOff locAbbr, instantOf p locOff locAbbr = some unix := by
  simp only [carriesInstant, Bool.and_eq_true, Bool.not_eq_true'] at hC
  obtain ⟨⟨hI, cs⟩, cy⟩ := hC
  have hvalid : (timeVOf unix off abbr).dt.valid := civilOf_valid unix off hy
  have hnoy : ¬ (.std .year ∈ tokenize layout) := not_mem_of_carries (s := .year) cy
  obtain ⟨p, hp, hdt, hinst⟩ := format_parse_roundtrip layout hRT hI (timeVOf unix off abbr) hvalid rfl
    (weekday_range' _) hoff (fun hm => absurd hm hnoy) habbr
  refine ⟨p, hp, fun lo la => ?_⟩
  rw [hinst lo la]
  obtain ⟨w1, w2, _⟩ := wall_trunc unix off
  simp only [holdsInstant, Bool.and_eq_true] at hI
  obtain ⟨⟨⟨⟨⟨cY, cM⟩, cD⟩, ch⟩, cm⟩, cz⟩ := hI
  simp only [precOf, cY, cM, cD, ch, cm, cs, Bool.not_true, Bool.false_eq_true, if_false]
  split
  · exact congrArg some w2
  · exact congrArg some w1

/-- … and complete on the table: every named format it rejects is lossy – two different instants of
1970 (in zones with the same abbreviation, e.g. `MSK` was +03 and +04) are printed as the same
text, so no parser can tell them apart.  With a numeric zone in the format the two instants are one
second apart in one zone (the seconds are not printed); without, they are one hour apart in zones
one hour apart (the offset is not printed). -/
def lossyWitness (ts : List Tok) : (Int × Int) × (Int × Int) :=
  if (carries ts).contains 'z' then ((0, 0), (1, 0)) else ((3600, 0), (0, 3600))

theorem instant_classifier_complete :
    ∀ e ∈ Gen.C18.timeFormats, carriesInstant (tokenize (asc e.2)) = false →
      let w := lossyWitness (tokenize (asc e.2))
      w.1.1 ≠ w.2.1 ∧
      formatLayout (asc e.2) (timeVOf w.1.1 w.1.2 (asc "MSK")) = formatLayout (asc e.2) (timeVOf w.2.1 w.2.2 (asc "MSK")) :=
  named_forall (fun _ ts => carriesInstant ts = false →
      let w := lossyWitness ts
      w.1.1 ≠ w.2.1 ∧ formatToks ts (timeVOf w.1.1 w.1.2 (asc "MSK")) = formatToks ts (timeVOf w.2.1 w.2.2 (asc "MSK")))
    (by decide +kernel)

/-- The boundary of the abbreviation class is real: Asia/Kathmandu's abbreviation is `+0545`, which
`RFC1123` prints and Go's `parseTimeZone` then refuses (a signed offset above 23) – the text does
not parse back at all.  Same behaviour in the real code (correspondence op `time`); Go's, not rare's. -/
theorem abbr_numeric_counterexample :
    formatLayout (asc "Mon, 02 Jan 2006 15:04:05 MST") (timeVOf 0 20700 (asc "+0545")) = asc "Thu, 01 Jan 1970 05:45:00 +0545"
    ∧ (match parseLayout (asc "Mon, 02 Jan 2006 15:04:05 MST") (asc "Thu, 01 Jan 1970 05:45:00 +0545") with
        | .ok _ => false
        | .error _ => true) = true
    ∧ abbrShape (asc "+0545") = false := by
  repeat rw [asc_ofList]
  decide +kernel

/-! ## Zones as transition tables (any table; the harness feeds real IANA transitions) -/

/-- The class of zone abbreviations a layout with `MST` round-trips on (`AbbrOK`, the hypothesis of
`format_parse_roundtrip` / `format_parse_fields`), by shape: three upper-case letters, four or five
ending in `T` (`UTC` only with offset 0), and the numeric abbreviations `±hh`, hh ≤ 23, of the tz
database (`-03`, `+11`).  `abbr_numeric_counterexample` (`+0545`) is just outside. -/
theorem abbr_class (abbr : Bytes) (off : Int)
    (h : (abbrShape abbr = true ∧ (abbr = utcB → off = 0))
      ∨ ∃ s d1 d2, abbr = [s, d1, d2] ∧ (s = 43 ∨ s = 45) ∧ hh2 d1 d2 = true) : AbbrOK abbr off := by
  rcases h with ⟨h1, h2⟩ | ⟨s, d1, d2, e, hs, hh⟩
  · exact abbrOK_of_shape abbr off h1 h2
  · subst e; exact abbrOK_numeric s d1 d2 off hs hh

/-- `Location.lookup` on ANY table returns a segment that contains the instant; on a table with
ascending transitions every instant of that segment gets the same segment (so offset and
abbreviation are constant between two transitions). -/
theorem zone_lookup_spec (z : ZoneTab) (u : Int) :
    inSeg (z.lookup u) u = true
    ∧ (sortedTrans z.trans = true → ∀ v, inSeg (z.lookup u) v = true → z.lookup v = z.lookup u) :=
  ⟨lookup_inSeg z u, fun hs v hv => lookup_same z hs u v hv⟩

/-- `timeattr` relative to any zone table reports the calendar fields of the local wall clock
`u + offset in force at u`: quarter of the civil month, weekday, ISO week and ISO year-week of the
local day. -/
theorem timeattr_in_zone (z : ZoneTab) (u : Int) :
    timeAttrIn z (asc "quarter") u = some (itoa (quarter (civilFromDays (z.wall u / 86400)).m))
    ∧ timeAttrIn z (asc "weekday") u = some (itoa (weekday (z.wall u / 86400)))
    ∧ timeAttrIn z (asc "week") u = some (itoa (isoYearWeek (z.wall u / 86400)).2)
    ∧ timeAttrIn z (asc "yearweek") u =
        some (itoa (isoYearWeek (z.wall u / 86400)).1 ++ [45] ++ itoa (isoYearWeek (z.wall u / 86400)).2) := by
  refine ⟨?_, rfl, rfl, rfl⟩
  have := timeattr_quarter u (z.lookup u).off
  simp only [timeAttrIn, this, civilOf, localDays, ZoneTab.wall]

/-- The zone resolution of `time.Date` inverts the wall clock: for every instant `u` whose wall
clock, read as an instant, still lies in `u`'s own segment (i.e. `u` is at least |offset| away from
the transitions around it), `dateIn` of the wall clock of `u` is `u`. -/
theorem zone_date_roundtrip (z : ZoneTab) (hs : sortedTrans z.trans = true) (u : Int)
    (hin : inSeg (z.lookup u) (z.wall u) = true) : dateIn z (z.wall u) = u := by
  have h1 := lookup_same z hs u (z.wall u) hin
  have h2 := lookup_inSeg z u
  unfold dateIn
  simp only [h1]
  by_cases h0 : (z.lookup u).off = 0
  · simp [h0, ZoneTab.wall]
  · have e : z.wall u - (z.lookup u).off = u := by unfold ZoneTab.wall; omega
    simp [h0, e, h2]

/-- A layout WITHOUT any zone token that carries date and time to the second (ANSIC, `2006-01-02
15:04:05`, …) round-trips relative to the zone table: `{time {timeformat u L Z} L Z}` is `u` for
every instant away from the transitions of `Z` (hypothesis of `zone_date_roundtrip`).  The
counterexamples below show the hypothesis is needed. -/
theorem zoneless_format_roundtrip (layout : Bytes) (hRT : RT (tokenize layout) = true)
    (hc : let c := carries (tokenize layout)
      (c.contains 'Y' && c.contains 'M' && c.contains 'D' && c.contains 'h' && c.contains 'm' && c.contains 's'
        && !c.contains 'y' && !c.contains 'z' && !c.contains 'a') = true)
    (z : ZoneTab) (hs : sortedTrans z.trans = true) (u : Int) (hin : inSeg (z.lookup u) (z.wall u) = true)
    (hoff : OffOK (z.lookup u).off)
    (hy : 0 ≤ (civilOf u (z.lookup u).off).y ∧ (civilOf u (z.lookup u).off).y ≤ 9999) :
    ∃ p, parseLayout layout (formatLayout layout (timeVIn z u)) = .ok p ∧ instantIn z p = some u := by
  simp only [Bool.and_eq_true, Bool.not_eq_true'] at hc
  obtain ⟨⟨⟨⟨⟨⟨⟨⟨cY, cM⟩, cD⟩, ch⟩, cm⟩, cs⟩, cy⟩, cz⟩, ca⟩ := hc
  have hvalid : (timeVIn z u).dt.valid := civilOf_valid u (z.lookup u).off hy
  have hnoy : ¬ (.std .year ∈ tokenize layout) := not_mem_of_carries (s := .year) cy
  have hnoa : ¬ (.std .tz ∈ tokenize layout) := not_mem_of_carries (s := .tz) ca
  obtain ⟨p, hp, hdt, _, _, hdef⟩ := format_parse_fields layout hRT (timeVIn z u) hvalid rfl (weekday_range' _) hoff
    (fun hm => absurd hm hnoy) (fun hm => absurd hm hnoa)
  refine ⟨p, hp, ?_⟩
  have hwall : wallSeconds p.dt = z.wall u := by
    rw [hdt]; exact wall_project _ u _ (by simp only [cY, cM, cD, ch, cm, cs, Bool.and_self])
  simp only [instantIn, hdef cz ca, hwall]
  rw [zone_date_roundtrip z hs u hin]

/-- Europe/Berlin in 2016 as a table (CET, CEST from 27 March 01:00 UTC, CET from 30 October 01:00 UTC). -/
def berlin2016 : ZoneTab := ⟨(3600, asc "CET"), [(1459040400, 7200, asc "CEST"), (1477789200, 3600, asc "CET")]⟩

/-- The hypothesis of `zone_date_roundtrip` marks exactly the trouble spots.  Overlap: 30 Oct 2016
02:30 is shown twice (00:30 UTC in CEST and 01:30 UTC in CET); `time.Date` – hence `{time}` on a
text without zone – answers the later one, so the earlier instant does not round-trip.  Gap: 27 Mar
2016 02:30 is never shown; the resolution answers 01:30 UTC, whose wall clock is 03:30.  And the
local days: 27 March has 23 hours, 30 October 25 (`buckettime … days` puts 82800 resp. 90000
instants into one bucket). -/
theorem zone_gap_overlap_counterexample :
    sortedTrans berlin2016.trans = true
    ∧ berlin2016.wall 1477787400 = berlin2016.wall 1477791000
    ∧ dateIn berlin2016 (berlin2016.wall 1477787400) = 1477791000
    ∧ inSeg (berlin2016.lookup 1477787400) (berlin2016.wall 1477787400) = false
    ∧ dateIn berlin2016 1459045800 = 1459042200 ∧ berlin2016.wall 1459042200 = 1459045800 + 3600
    ∧ (∀ u, berlin2016.wall u ≠ 1459045800)
    ∧ berlin2016.wall 1459033200 = 16887 * 86400 ∧ berlin2016.wall (1459033200 + 82800) = 16888 * 86400
    ∧ berlin2016.wall 1477778400 = 17104 * 86400 ∧ berlin2016.wall (1477778400 + 90000) = 17105 * 86400 := by
  refine ⟨by decide, by decide +kernel, by decide +kernel, by decide +kernel, by decide +kernel, by decide +kernel, ?_,
    by decide +kernel, by decide +kernel, by decide +kernel, by decide +kernel⟩
  intro u
  simp only [ZoneTab.wall, ZoneTab.lookup, berlin2016, lookupFrom]
  split
  · simp only; omega
  · split
    · simp only; omega
    · simp only; omega

/-- The length of a local day across one change of offset: if local midnight of day `d` falls at
`u1` and local midnight of day `d + 1` at `u2`, the day lasts 24 h minus the change of the offset
(23 h when the clocks go forward by one hour, 25 h when they go back) – whatever the table. -/
theorem zone_day_length (z : ZoneTab) (u1 u2 d : Int) (h1 : z.wall u1 = 86400 * d) (h2 : z.wall u2 = 86400 * (d + 1)) :
    u2 - u1 = 86400 - ((z.lookup u2).off - (z.lookup u1).off) := by
  unfold ZoneTab.wall at h1 h2; omega

/-- ISO week across a year boundary in a zone east of UTC: 31 Dec 2020 15:30 UTC is already Friday
1 Jan 2021 in Asia/Tokyo (+09:00), which belongs to ISO week 2020-53, first quarter. -/
theorem zone_isoweek_example :
    let tokyo : ZoneTab := ⟨(32400, asc "JST"), []⟩
    timeAttrIn tokyo (asc "yearweek") 1609428600 = some (asc "2020-53")
    ∧ timeAttrIn tokyo (asc "quarter") 1609428600 = some (asc "1")
    ∧ timeAttrIn tokyo (asc "weekday") 1609428600 = some (asc "5")
    ∧ timeAttr (asc "yearweek") 1609428600 0 = some (asc "2020-53")
    ∧ timeAttr (asc "quarter") 1609428600 0 = some (asc "4") := by
  repeat rw [asc_ofList]
  decide +kernel

/-! ## One compiled stage over a history of instants -/

/-- What the stage closures of `timeformat`, `duration`, `durationformat` and `timeattr` can remember
between two evaluations, regenerated from /repo on every run: they use `args` (and `tz`, `format` /
`attrFunc`) of the enclosing function – each bound once before the closure is built – and no
package-level variable, and contain NO statement that writes anything declared outside the closure
(no assignment, `++`, method call such as `.Store(…)`, `go`, send).  This is what lets the model give
these stages the memory `Unit` (`timeAttrM`, `timeFormatM`); a memo of "the last day seen" or a
cached offset adds a captured variable and a write, and the lists below change. -/
theorem gen_stage_stateless :
    Gen.C18.stageCaptures = [
      ("timeformat", ["args", "format", "tz"]),
      ("duration", ["args"]),
      ("durationformat", ["args"]),
      ("timeattr", ["args", "attrFunc", "tz"])]
    ∧ Gen.C18.stageWrites = [("timeformat", []), ("duration", []), ("durationformat", []), ("timeattr", [])] :=
  ⟨rfl, rfl⟩

/-- `timeattr` is a function of the current instant only.  ONE compiled `{timeattr {0} attr zone}`
evaluated on any history of arguments (a log) – the zone any transition table – answers every
argument as a freshly compiled stage would: (1) the answers are the per-argument answers, in order;
(2) two histories that end in the same argument end in the same answer, whatever came before (the
instants of a 23-hour spring-forward day, of another year, unparseable text …); (3) the answer to a
decimal instant `u` (years 0..9999 in the zone) is the calendar field of the local wall clock
`u + offset in force at u`: weekday / ISO week / ISO year-week / quarter of the local day. -/
theorem timeattr_history_independent (z : ZoneTab) (attr : Bytes) :
    (∀ xs, (timeAttrM z attr).run () xs = xs.map (timeAttrStageIn z attr))
    ∧ (∀ pre pre' a, ((timeAttrM z attr).run () (pre ++ [a])).getLast? = ((timeAttrM z attr).run () (pre' ++ [a])).getLast?)
    ∧ (∀ (xs : List Bytes) (i : Nat) (u : Int), xs[i]? = some (itoa u) → inInt64 u = true → yearInRange u (z.lookup u).off = true →
        (attr = asc "weekday" → ((timeAttrM z attr).run () xs)[i]? = some (Out.val (itoa (weekday (z.wall u / 86400)))))
        ∧ (attr = asc "week" → ((timeAttrM z attr).run () xs)[i]? = some (Out.val (itoa (isoYearWeek (z.wall u / 86400)).2)))
        ∧ (attr = asc "yearweek" → ((timeAttrM z attr).run () xs)[i]? =
            some (Out.val (itoa (isoYearWeek (z.wall u / 86400)).1 ++ [45] ++ itoa (isoYearWeek (z.wall u / 86400)).2)))
        ∧ (attr = asc "quarter" → ((timeAttrM z attr).run () xs)[i]? =
            some (Out.val (itoa (quarter (civilFromDays (z.wall u / 86400)).m))))) := by
  refine ⟨fun xs => run_stateless _ _ _, fun pre pre' a => ?_, fun xs i u hi hu hy => ?_⟩
  · simp only [timeAttrM, run_last]
  · obtain ⟨hq, hw, hk, hyw⟩ := timeattr_in_zone z u
    have key : ∀ b, timeAttrIn z attr u = some b → ((timeAttrM z attr).run () xs)[i]? = some (Out.val b) := by
      intro b hb
      simp only [timeAttrM, run_getElem?, hi, Option.map_some, timeAttrStageIn_num z attr u hu hy b hb]
    exact ⟨fun h => key _ (h ▸ hw), fun h => key _ (h ▸ hk), fun h => key _ (h ▸ hyw), fun h => key _ (h ▸ hq)⟩

/-- The same for `{timeformat {0} layout zone}`: every answer of a history is the layout applied to the
local wall clock, offset and abbreviation the table has at THAT instant. -/
theorem timeformat_history_independent (z : ZoneTab) (layout : Bytes) :
    (∀ xs, (timeFormatM z layout).run () xs = xs.map (timeFormatStageIn z layout))
    ∧ (∀ pre pre' a, ((timeFormatM z layout).run () (pre ++ [a])).getLast? = ((timeFormatM z layout).run () (pre' ++ [a])).getLast?)
    ∧ (∀ (xs : List Bytes) (i : Nat) (u : Int), xs[i]? = some (itoa u) → inInt64 u = true → yearInRange u (z.lookup u).off = true →
        ((timeFormatM z layout).run () xs)[i]? = some (Out.val (formatLayout layout (timeVIn z u)))) := by
  refine ⟨fun xs => run_stateless _ _ _, fun pre pre' a => ?_, fun xs i u hi hu hy => ?_⟩
  · simp only [timeFormatM, run_last]
  · simp only [timeFormatM, run_getElem?, hi, Option.map_some, timeFormatStageIn_num z layout u hu hy]

/-- When may an answer be reused?  Between two instants with the SAME offset in force, `v` lies in the
86400-second window starting at what `u`'s wall clock shows as midnight (`u − (h·3600+m·60+s)`) iff
both fall on the same local day, and then every attribute agrees.  (The hypothesis is what a
"same day" shortcut needs; the counterexample below drops it.) -/
theorem zone_day_window (z : ZoneTab) (u v : Int) (ho : (z.lookup v).off = (z.lookup u).off) :
    ((dayWindowStart z u ≤ v ∧ v < dayWindowStart z u + 86400) ↔ z.wall v / 86400 = z.wall u / 86400)
    ∧ (z.wall v / 86400 = z.wall u / 86400 → ∀ name, timeAttrIn z name v = timeAttrIn z name u) := by
  constructor
  · have := dayWindow_iff u v (z.lookup u).off
    simp only [dayWindowStart, ZoneTab.wall, ho]
    simpa only [localDays] using this
  · intro h name
    exact timeAttr_of_localDays name u v _ _ (by simpa only [ZoneTab.wall, localDays] using h)

/-- America/New_York in 2016 as a table (EST, EDT from 13 March 07:00 UTC, EST from 6 November 06:00 UTC). -/
def newYork2016 : ZoneTab := ⟨(-18000, asc "EST"), [(1457852400, -14400, asc "EDT"), (1478412000, -18000, asc "EST")]⟩

/-- Across a change of offset the window is NOT the local day.  Sunday 13 March 2016 has 23 hours in
New York: counted from an instant before the gap (01:00 EST) the 86400 seconds from "midnight" reach
01:00 EDT of Monday, so Monday 14 March 00:05 EDT lies inside the window of a Sunday instant although
it is another local day – weekday 1 not 0, ISO week 11 not 10, 2016-11 not 2016-10.  (Counted from
an instant after the gap the window starts at 23:00 EST of Saturday instead.)  A stage that reused
an answer by this window would depend on its history; `timeattr_history_independent` says the
stage does not, and the op `zh` runs exactly this history on the real code (corpus r4c). -/
theorem zone_day_window_counterexample :
    sortedTrans newYork2016.trans = true
    ∧ dayWindowStart newYork2016 1457848800 ≤ 1457928300 ∧ 1457928300 < dayWindowStart newYork2016 1457848800 + 86400
    ∧ newYork2016.wall 1457928300 / 86400 = newYork2016.wall 1457848800 / 86400 + 1
    ∧ timeAttrIn newYork2016 (asc "weekday") 1457848800 = some (asc "0")
    ∧ timeAttrIn newYork2016 (asc "weekday") 1457928300 = some (asc "1")
    ∧ timeAttrIn newYork2016 (asc "week") 1457848800 = some (asc "10")
    ∧ timeAttrIn newYork2016 (asc "week") 1457928300 = some (asc "11")
    ∧ timeAttrIn newYork2016 (asc "yearweek") 1457928300 = some (asc "2016-11")
    ∧ (timeAttrM newYork2016 (asc "weekday")).run () [asc "1457848800", asc "1457928300"] = [Out.val (asc "0"), Out.val (asc "1")]
    ∧ dayWindowStart newYork2016 1457870000 = 1457845200 - 3600 := by
  repeat rw [asc_ofList]
  decide +kernel

/-! ## Abbreviations in the text: `Location.lookupName` on the table -/

/-- A layout with an abbreviation token and NO numeric zone that carries date and time to the second
(`UNIX`, `RFC1123`, `2006-01-02 15:04:05 MST` …) round-trips relative to the location given as
transition table + zone list: `{time {timeformat u L Z} L Z}` is `u` for EVERY instant – also inside
an overlap, where the zone-less layouts of `zoneless_format_roundtrip` answer the later instant: the
abbreviation tells the two apart – provided the abbreviation is one the parser reads (`AbbrOK`, see
`abbr_class`) and names ONE offset in the location's zone list (`hall`; EST/EDT, CET/CEST, GMT/BST …).
The counterexample below shows what happens otherwise. -/
theorem abbr_format_roundtrip (layout : Bytes) (hRT : RT (tokenize layout) = true)
    (hc : let c := carries (tokenize layout)
      (c.contains 'Y' && c.contains 'M' && c.contains 'D' && c.contains 'h' && c.contains 'm' && c.contains 's'
        && !c.contains 'y' && !c.contains 'z' && c.contains 'a') = true)
    (z : ZoneTab) (zones : List (Bytes × Int)) (u : Int)
    (hoff : OffOK (z.lookup u).off) (habbr : AbbrOK (z.lookup u).abbr (z.lookup u).off)
    (hy : 0 ≤ (civilOf u (z.lookup u).off).y ∧ (civilOf u (z.lookup u).off).y ≤ 9999)
    (hall : ∀ e ∈ zones, e.1 = (z.lookup u).abbr → e.2 = (z.lookup u).off)
    (hex : ∃ e ∈ zones, e.1 = (z.lookup u).abbr) :
    ∃ p, parseLayout layout (formatLayout layout (timeVIn z u)) = .ok p ∧ instantInN z zones p = u := by
  simp only [Bool.and_eq_true, Bool.not_eq_true'] at hc
  obtain ⟨⟨⟨⟨⟨⟨⟨⟨cY, cM⟩, cD⟩, ch⟩, cm⟩, cs⟩, cy⟩, cz⟩, ca⟩ := hc
  have hvalid : (timeVIn z u).dt.valid := civilOf_valid u (z.lookup u).off hy
  have hnoy : ¬ (.std .year ∈ tokenize layout) := not_mem_of_carries (s := .year) cy
  obtain ⟨zs, hp, _, hn⟩ := roundtrip_zone (tokenize layout) hRT (timeVIn z u)
    ⟨hvalid, rfl, weekday_range' _, hoff, fun hm => absurd hm hnoy, fun _ => habbr⟩
  have hzone : zs = if (z.lookup u).abbr = utcB then .utc else .name (z.lookup u).abbr := by
    rw [hn cz, ca]; rfl
  refine ⟨_, hp, ?_⟩
  have hwall : wallSeconds (projectDT (carries (tokenize layout)) (timeVIn z u).dt) = z.wall u :=
    wall_project _ u _ (by simp only [cY, cM, cD, ch, cm, cs, Bool.and_self])
  by_cases hu : (z.lookup u).abbr = utcB
  · have h0 : (z.lookup u).off = 0 := (habbr.utc (by rw [hu]; rfl)).2
    simp only [instantInN, hzone, hu, if_true, hwall]
    unfold ZoneTab.wall; omega
  · have hf := lookupNameFirst_in_force z u zones hall hex
    simp only [instantInN, hzone, hu, if_false, hwall, lookupNameIn, hf]
    unfold ZoneTab.wall; omega

/-- An abbreviation the location does not know makes a fabricated zone whose offset is NOT applied:
the written wall clock is read as UTC – for `CEST` in New York as for `GMT+3` anywhere (Go's
behaviour, mirrored; the same in the real code, op `zn`). -/
theorem abbr_unknown_is_utc (z : ZoneTab) (zones : List (Bytes × Int)) (p : Parsed) (n : Bytes)
    (hp : p.zone = .name n) (hn : ∀ e ∈ zones, e.1 ≠ n) : instantInN z zones p = wallSeconds p.dt := by
  simp only [instantInN, hp, lookupNameIn_unknown z zones n _ hn]

/-- Europe/Moscow around 2014 as a table – MSK is +03:00, +04:00 from 27 March 2011, +03:00 again from
26 October 2014 – and its zone list in tzfile order (17 entries, three of them `MSK`). -/
def moscow2014 : ZoneTab := ⟨(10800, asc "MSK"), [(1301180400, 14400, asc "MSK"), (1414274400, 10800, asc "MSK")]⟩
def moscowZones : List (Bytes × Int) :=
  [(asc "LMT", 9017), (asc "MMT", 9017), (asc "MST", 12679), (asc "MMT", 9079), (asc "MDST", 16279), (asc "MSD", 14400),
   (asc "MSK", 10800), (asc "MSD", 14400), (asc "+05", 18000), (asc "EET", 7200), (asc "MSK", 10800), (asc "MSD", 14400),
   (asc "EEST", 10800), (asc "EET", 7200), (asc "MSK", 14400), (asc "MSD", 14400), (asc "MSK", 10800)]

/-- The hypothesis "one offset per name" of `abbr_format_roundtrip` is needed.  On 26 October 2014
Moscow went from MSK (+04:00) to MSK (+03:00): 01:59:59 MSK was shown twice and the abbreviation does
not tell the two apart.  `lookupName` tries the first `MSK` entry (+03:00), finds MSK in force one
hour later and answers +03:00: the earlier of the two instants is printed `Sun, 26 Oct 2014 01:59:59
MSK` and parsed back one hour late; the later one round-trips.  (Identical in the real code: corpus r4c.) -/
theorem abbr_overlap_counterexample :
    sortedTrans moscow2014.trans = true
    ∧ formatLayout (asc "Mon, 02 Jan 2006 15:04:05 MST") (timeVIn moscow2014 1414274399) = asc "Sun, 26 Oct 2014 01:59:59 MSK"
    ∧ formatLayout (asc "Mon, 02 Jan 2006 15:04:05 MST") (timeVIn moscow2014 1414277999) = asc "Sun, 26 Oct 2014 01:59:59 MSK"
    ∧ (parseLayout (asc "Mon, 02 Jan 2006 15:04:05 MST") (asc "Sun, 26 Oct 2014 01:59:59 MSK")).toOption.map (instantInN moscow2014 moscowZones)
        = some 1414277999
    ∧ lookupNameIn moscow2014 moscowZones (asc "MSK") (moscow2014.wall 1414274399) = some 10800
    ∧ (moscow2014.lookup 1414274399).off = 14400 := by
  repeat rw [asc_ofList]
  decide +kernel

/-! ## Numeric abbreviations are read by VALUE, not by digit count -/

/-- Go's `leadingInt` on a run of digits (followed by the end or a non-digit): the run is read in full
iff its VALUE is at most 2^63 – the tests `x > 1<<63/10` before and `x > 1<<63` after each
multiplication are both implied by the final value – so zero-padded runs of ANY length are read, and
a 19-digit run above 2^63 is not. -/
theorem leading_int_by_value (ds : Bytes) (hd : ds.all isDigitB = true) (tail : Bytes) (ht : NoDigitHead tail) :
    leadingInt (ds ++ tail) 0 = if digitsVal ds 0 ≤ 9223372036854775808 then some (digitsVal ds 0, tail) else none :=
  leadingInt_exact ds hd 0 tail ht (by omega)

/-- `parseTimeZone` on `GMT±digits` and on `±digits` (the numeric abbreviations of the tz database), for
EVERY run of digits: the digits belong to the abbreviation iff there is one and the value is ≤ 23.
Otherwise `GMT` alone is the abbreviation (3 bytes; the rest then fails to match the layout) and a bare
sign is no abbreviation at all. -/
theorem signed_offset_by_value (s : UInt8) (hs : s = 43 ∨ s = 45) (ds : Bytes) (hd : ds.all isDigitB = true)
    (tail : Bytes) (ht : NoDigitHead tail) :
    parseSignedOffset (s :: (ds ++ tail)) = (if ds ≠ [] ∧ digitsVal ds 0 ≤ 23 then 1 + ds.length else 0)
    ∧ parseTimeZone (asc "GMT" ++ s :: (ds ++ tail)) = some (3 + if ds ≠ [] ∧ digitsVal ds 0 ≤ 23 then 1 + ds.length else 0)
    ∧ (2 ≤ ds.length + tail.length →
        parseTimeZone (s :: (ds ++ tail)) = if ds ≠ [] ∧ digitsVal ds 0 ≤ 23 then some (1 + ds.length) else none) := by
  have hp := parseSignedOffset_exact s hs ds hd tail ht
  have e1 : asc "ChST" = [67, 104, 83, 84] := by decide
  have e2 : asc "MeST" = [77, 101, 83, 84] := by decide
  have e3 : asc "GMT" = [71, 77, 84] := by decide
  refine ⟨hp, ?_, ?_⟩
  · unfold parseTimeZone
    simp [e1, e2, e3, hp]
  · intro hl
    have hlen : ¬ ((s :: (ds ++ tail)).length < 3) := by simp only [List.length_cons, List.length_append]; omega
    have hne : ∀ (x : UInt8) (r : Bytes), x ≠ s → List.take 4 (s :: (ds ++ tail)) ≠ x :: r := by
      intro x r hx h; simp only [List.take_succ_cons] at h; exact hx (List.cons.inj h).1.symm
    have hn1 : List.take 4 (s :: (ds ++ tail)) ≠ asc "ChST" := by
      rw [e1]; exact hne _ _ (by rcases hs with e | e <;> subst e <;> decide)
    have hn2 : List.take 4 (s :: (ds ++ tail)) ≠ asc "MeST" := by
      rw [e2]; exact hne _ _ (by rcases hs with e | e <;> subst e <;> decide)
    have hn3 : List.take 3 (s :: (ds ++ tail)) ≠ asc "GMT" := by
      rw [e3]; intro h; simp only [List.take_succ_cons] at h
      have := (List.cons.inj h).1
      rcases hs with e | e <;> subst e <;> exact absurd this (by decide)
    have hhead : (s :: (ds ++ tail)).head? = some 43 ∨ (s :: (ds ++ tail)).head? = some 45 := by
      rcases hs with e | e <;> subst e <;> simp
    unfold parseTimeZone
    simp only [hlen, if_false, hn1, hn2, false_or, hn3, hhead, if_true, hp]
    by_cases hc : ds ≠ [] ∧ digitsVal ds 0 ≤ 23
    · have : 1 + ds.length > 0 := by omega
      simp only [if_pos hc, this, if_true]
    · simp only [if_neg hc]
      simp

/-- Zero padding of any length in front of an hour ≤ 23 stays inside the abbreviation. -/
theorem gmt_offset_padded (s : UInt8) (hs : s = 43 ∨ s = 45) (k : Nat) (ds : Bytes) (hd : ds.all isDigitB = true)
    (hne : ds ≠ []) (hv : digitsVal ds 0 ≤ 23) (tail : Bytes) (ht : NoDigitHead tail) :
    parseTimeZone (asc "GMT" ++ s :: (List.replicate k 48 ++ ds ++ tail)) = some (4 + k + ds.length) := by
  have hall : (List.replicate k 48 ++ ds).all isDigitB = true := by
    rw [List.all_append, zeros_all k, hd]; rfl
  have h := (signed_offset_by_value s hs (List.replicate k 48 ++ ds) hall tail ht).2.1
  have hne' : List.replicate k 48 ++ ds ≠ [] := by
    intro e; exact hne (List.append_eq_nil_iff.mp e).2
  rw [h, digitsVal_zeros]
  simp only [hne', hv, ne_eq, not_false_eq_true, and_self, if_true, List.length_append, List.length_replicate]
  congr 1; omega

/-- The witness the C08 builder reported: `{time "Fri, 13 Feb 2009 20:01:30 GMT+0000000000000000000007" RFC1123}`.
Go reads the 22 digits as the hour 7 of a 26-byte abbreviation, no location knows that name, so the zone is
fabricated and the wall clock read as UTC: 1234555290 (so does the real code: corpus r4d).  20 digits
whose value passes 2^63 (`GMT+09223372036854775809`) and the hour 24 are refused, whatever the padding;
2^63 itself is still read by `leadingInt`. -/
theorem signed_offset_padded_example :
    (parseLayout (asc "Mon, 02 Jan 2006 15:04:05 MST") (asc "Fri, 13 Feb 2009 20:01:30 GMT+0000000000000000000007")).toOption.map
        (fun p => (p.zone, instantInN ⟨(0, asc "UTC"), []⟩ [] p))
      = some (ZoneSrc.name (asc "GMT+0000000000000000000007"), 1234555290)
    ∧ (parseLayout (asc "Mon, 02 Jan 2006 15:04:05 MST") (asc "Fri, 13 Feb 2009 20:01:30 -0000000000000000000023")).toOption.map
        (fun p => (p.zone, instantInN ⟨(0, asc "UTC"), []⟩ [] p))
      = some (ZoneSrc.name (asc "-0000000000000000000023"), 1234555290)
    ∧ (parseLayout (asc "Mon, 02 Jan 2006 15:04:05 MST") (asc "Fri, 13 Feb 2009 20:01:30 GMT+0000000000000000000024")).toOption = none
    ∧ (parseLayout (asc "Mon, 02 Jan 2006 15:04:05 MST") (asc "Fri, 13 Feb 2009 20:01:30 GMT+09223372036854775809")).toOption = none
    ∧ leadingInt (asc "0009223372036854775808h") 0 = some (9223372036854775808, asc "h")
    ∧ leadingInt (asc "9223372036854775809h") 0 = none := by
  repeat rw [asc_ofList]
  decide +kernel

/-! ## Durations -/

/-- `{duration {durationformat n}} = n` for every whole number of seconds whose nanosecond count
fits int64 (|n| ≤ 9223372036); beyond, `time.Duration(secs) * time.Second` wraps – what comes back
there is stated by `durationformat_roundtrip_wrapped`. -/
theorem duration_roundtrip (n : Int) (h1 : -9223372036 ≤ n) (h2 : n ≤ 9223372036) :
    ∃ b, durationFormat (itoa n) = .val b ∧ duration b = .val (itoa n) := by
  obtain ⟨b, hb, hp⟩ := parseDuration_durationString_all (n * 1000000000) (by omega) (by omega)
  have hin : inInt64 n = true := by
    simp only [inInt64, minInt64, maxInt64, Bool.and_eq_true]
    exact ⟨decide_eq_true (by omega), decide_eq_true (by omega)⟩
  have hw : wrap64 (n * 1000000000) = n * 1000000000 := by unfold wrap64; omega
  refine ⟨b, ?_, ?_⟩
  · simp only [durationFormat, atoi_itoa n hin, hw, hb]
  · have hd : Int.tdiv (n * 1000000000) 1000000000 = n := Int.mul_tdiv_cancel _ (by decide)
    have hm : Int.tmod (n * 1000000000) 1000000000 = 0 := Int.mul_tmod_left _ _
    simp only [duration, hp, hd]

/-- What `durationformat` prints for a whole number of seconds in that range: an optional `-`, then
hours (if any), minutes (if any hours or minutes) and seconds of the magnitude, which recompose to it. -/
theorem durationformat_spec (n : Int) (h0 : n ≠ 0) (h1 : -9223372036 ≤ n) (h2 : n ≤ 9223372036) :
    durationFormat (itoa n) = .val (if n < 0 then 45 :: hmsText n.natAbs else hmsText n.natAbs)
    ∧ secondsOfHms (hmsOf n.natAbs).1 (hmsOf n.natAbs).2.1 (hmsOf n.natAbs).2.2 = n.natAbs
    ∧ (hmsOf n.natAbs).1 = n.natAbs / 60 / 60 ∧ (hmsOf n.natAbs).2.1 = n.natAbs / 60 % 60 := by
  have hin : inInt64 n = true := by
    simp only [inInt64, minInt64, maxInt64, Bool.and_eq_true]
    exact ⟨decide_eq_true (by omega), decide_eq_true (by omega)⟩
  have hw : wrap64 (n * 1000000000) = n * 1000000000 := by unfold wrap64; omega
  refine ⟨?_, ?_, ?_, rfl⟩
  · simp only [durationFormat, atoi_itoa n hin, hw, durationString_seconds n h0]
  · simp only [secondsOfHms, hmsOf]; omega
  · simp only [hmsOf]; omega

/-- `ParseDuration ∘ Duration.String = id` on EVERY int64 nanosecond count: sub-second
magnitudes in `ns` / `µs` / `ms` (`1.024µs`, `999.999488ms`), fractional seconds (`2562047h47m16.854775807s`),
hour and minute groups, `MinInt64` (`-2562047h47m16.854775808s`, whose magnitude 2^63 only the negative
sign makes acceptable).  The fractions go through the binary64 term of `ParseDuration`; it is exact here
because the printed fraction never has more digits than the unit has decimal places. -/
theorem duration_string_roundtrip (d : Int) (h1 : -9223372036854775808 ≤ d) (h2 : d ≤ 9223372036854775807) :
    ∃ b, durationString d = some b ∧ parseDuration b = .ok d :=
  parseDuration_durationString_all d h1 h2

/-- `{duration {durationformat n}}` for EVERY int64 `n` – also where `time.Duration(n) * time.Second`
wraps: the answer is the whole seconds (toward zero) of the WRAPPED product `n·10^9 mod 2^64`; in
particular `{durationformat n}` is never declined by the model (an `n` whose product lands
below one second – `n ≡ j·(5^9)⁻¹ (mod 2^55)`, |512·j| < 10^9 – prints `512ns`, `1.024µs` … and reads back as 0). -/
theorem durationformat_roundtrip_wrapped (n : Int) (hin : inInt64 n = true) :
    ∃ b, durationFormat (itoa n) = .val b
      ∧ parseDuration b = .ok (wrap64 (n * 1000000000))
      ∧ duration b = .val (itoa (Int.tdiv (wrap64 (n * 1000000000)) 1000000000)) := by
  have hr : -9223372036854775808 ≤ wrap64 (n * 1000000000) ∧ wrap64 (n * 1000000000) ≤ 9223372036854775807 := by
    unfold wrap64; omega
  obtain ⟨b, hb, hp⟩ := parseDuration_durationString_all _ hr.1 hr.2
  refine ⟨b, ?_, hp, ?_⟩
  · simp only [durationFormat, atoi_itoa n hin, hb]
  · simp only [duration, hp]

/-- The sub-second branch on concrete values (kernel-evaluated): texts and what `{duration}` reads back. -/
theorem duration_subsecond_example :
    durationString 512 = some (asc "512ns") ∧ durationString (-1024) = some ([45] ++ asc "1.024" ++ [0xC2, 0xB5, 115])
    ∧ durationString 999999488 = some (asc "999.999488ms") ∧ durationString 1000 = some ([49, 0xC2, 0xB5, 115])
    ∧ durationString (-9223372036854775808) = some (asc "-2562047h47m16.854775808s")
    ∧ wrap64 (36028797018963968 * 1000000000) = 0
    ∧ durationFormat (asc "36028797018963968") = .val (asc "0s")
    ∧ parseDuration (asc "999.999488ms") = .ok 999999488
    ∧ parseDuration (asc "-2562047h47m16.854775808s") = .ok (-9223372036854775808) := by
  repeat rw [asc_ofList]
  decide +kernel

/-! ## Durations with a fraction (`1.5h`, `0.25s`) -/

/-- `{duration}` is total and is the truncation toward zero of the parsed duration to whole seconds,
in integer arithmetic, for EVERY text: either `ParseDuration` refuses it (error marker) or the answer
is `d / 10^9` of the nanosecond count `d` – no float is involved (7d50a89 in /repo); the model
declines nothing: fractions are computed with the bit-exact binary64 model. -/
theorem duration_total (arg : Bytes) :
    (parseDuration arg = .err ∧ duration arg = .val errorParsing)
    ∨ ∃ d, parseDuration arg = .ok d ∧ duration arg = .val (itoa (Int.tdiv d 1000000000)) := by
  unfold duration
  cases h : parseDuration arg with
  | err => exact Or.inl ⟨rfl, rfl⟩
  | ok d => exact Or.inr ⟨d, rfl, rfl⟩

/-- A decimal number of hours, minutes or seconds whose fraction is not finer than the unit's decimal
places (`10^k ∣ unit`: up to 9 digits for `s`, 10 for `m`, 11 for `h`) is read EXACTLY – the two
binary64 roundings inside `ParseDuration` are exact there – and `{duration}` answers the whole seconds
of that exact value (truncated): `{duration 1.5h}` = 5400, `{duration 16777216.999999999s}` = 16777216. -/
theorem duration_decimal_exact (v : Nat) (ds : Bytes) (u : UInt8) (unit : Nat)
    (hu : (u = 104 ∧ unit = 3600000000000) ∨ (u = 109 ∧ unit = 60000000000) ∨ (u = 115 ∧ unit = 1000000000))
    (hds : ds.all isDigitB = true) (hk : 10 ^ ds.length ∣ unit)
    (hv : (v + 1) * unit ≤ 9223372036854775807) :
    parseDuration (natDigits v ++ 46 :: (ds ++ [u]))
        = .ok ((v * unit + digitsVal ds 0 * (unit / 10 ^ ds.length) : Nat) : Int)
    ∧ duration (natDigits v ++ 46 :: (ds ++ [u]))
        = .val (itoa (((v * unit + digitsVal ds 0 * (unit / 10 ^ ds.length)) / 1000000000 : Nat) : Int))
    ∧ parseDuration (45 :: (natDigits v ++ 46 :: (ds ++ [u])))
        = .ok (-((v * unit + digitsVal ds 0 * (unit / 10 ^ ds.length) : Nat) : Int)) := by
  have hut : UnitTxt [u] unit := by
    rcases hu with ⟨rfl, rfl⟩ | ⟨rfl, rfl⟩ | ⟨rfl, rfl⟩
    · exact Or.inl ⟨rfl, rfl⟩
    · exact Or.inr (Or.inl ⟨rfl, rfl⟩)
    · exact Or.inr (Or.inr (Or.inl ⟨rfl, rfl⟩))
  have hterm := frac_lt_unit ds hds unit (unitTxt_facts _ _ hut).2.1 hk
  have hexp : (v + 1) * unit = v * unit + unit := by rw [Nat.add_mul, Nat.one_mul]
  have hshape := digits_start v (46 :: (ds ++ [u])) (by simp)
  have hloop : parseDurLoop ((natDigits v ++ 46 :: (ds ++ [u])).length + 1) (natDigits v ++ 46 :: (ds ++ [u])) 0
      = some (v * unit + digitsVal ds 0 * (unit / 10 ^ ds.length)) := by
    obtain ⟨f, hf⟩ : ∃ f, (natDigits v ++ 46 :: (ds ++ [u])).length + 1 = f + 2 :=
      ⟨(natDigits v ++ 46 :: (ds ++ [u])).length - 1, by obtain ⟨_, _, _, _, h2⟩ := hshape; omega⟩
    have := parseDurLoop_group (f + 1) v 0 true ds [u] unit [] hut hds nofun hk (by omega) (by omega) (Or.inl rfl)
    rw [parseDurLoop_nil, Nat.zero_add] at this
    rw [hf]; exact this
  obtain ⟨hneg, hpos⟩ := parseDuration_of_loop _ _ hshape hloop
  have hp := hpos (by omega)
  refine ⟨hp, ?_, hneg⟩
  simp only [duration, hp]
  congr 2

/-- The boundary of that class is real, and it is Go's (`time.ParseDuration` multiplies in binary64):
with more digits than the unit has decimal places the SAME decimal value is read one nanosecond short,
so trailing zeros change the whole seconds: `0.25h` is 900 s but `0.25000000000000h` is 899 s,
`0.05m` is 3 s but `0.05000000000000m` 2 s; `0.00000000005m` is 3 ns but `0.00000000005000m` 2 ns
(same in the real code: ops `dur`, `frac`). -/
theorem duration_fraction_counterexample :
    duration (asc "0.25h") = .val (asc "900") ∧ duration (asc "0.25000000000000h") = .val (asc "899")
    ∧ duration (asc "0.05m") = .val (asc "3") ∧ duration (asc "0.05000000000000m") = .val (asc "2")
    ∧ parseDuration (asc "0.00000000005m") = .ok 3 ∧ parseDuration (asc "0.00000000005000m") = .ok 2
    ∧ fracTerm 5000 60000000000 14 = 2 ∧ 5000 * 60000000000 / 10 ^ 14 = 3 := by
  repeat rw [asc_ofList]
  decide +kernel

/-- Why the whole seconds are now taken in integer arithmetic: at 2^24 s (194 days) the float64 sum
of `Duration.Seconds()` no longer resolves 1 ns below the next second and rounds UP, one second more
than the duration holds (the defect repaired by 7d50a89; witness in corpus/C18/r4b.case), while one
second earlier it still truncated.  The current stage answers 16777216 (`duration_decimal_exact`). -/
theorem duration_float_seconds_counterexample :
    secondsViaFloat 16777216999999999 = 16777217
    ∧ secondsViaFloat 16777215999999999 = 16777215
    ∧ secondsViaFloat (-16777216999999999) = -16777217
    ∧ duration (asc "16777216.999999999s") = .val (asc "16777216")
    ∧ duration (asc "-16777216.999999999s") = .val (asc "-16777216")
    ∧ duration (asc "4660h20m16.999999999s") = .val (asc "16777216") := by
  repeat rw [asc_ofList]
  decide +kernel

/-- Limits of `ParseDuration`, exactly as in Go: the largest duration is 2^63−1 ns, −2^63 ns parses
(only with a sign), digits of a fraction beyond what fits 2^63 are ignored (not an error), a fraction
needs a digit on one side of the point, exponents are not numbers. -/
theorem duration_limits :
    duration (asc "9223372036.854775807s") = .val (asc "9223372036")
    ∧ duration (asc "9223372036.854775808s") = .val errorParsing
    ∧ duration (asc "-9223372036.854775808s") = .val (asc "-9223372036")
    ∧ duration (asc "-9223372036.854775809s") = .val errorParsing
    ∧ duration (asc "1.0000000000000000000000000001s") = .val (asc "1")
    ∧ duration (asc "0.9223372036854775809s") = .val (asc "0")
    ∧ duration (asc ".5h") = .val (asc "1800") ∧ duration (asc "1.s") = .val (asc "1")
    ∧ duration (asc ".s") = .val errorParsing ∧ duration (asc "1e3s") = .val errorParsing
    ∧ duration (asc "1.5") = .val errorParsing ∧ duration (asc "0.5h0.5m0.5s") = .val (asc "1830") := by
  repeat rw [asc_ofList]
  decide +kernel

/-- A quirk of Go's `time.ParseDuration` that `{duration}` inherits (mirrored, and the same in the real
code): the running sum is a uint64 checked against 2^63 only AFTER the addition, so two groups of exactly
2^63 ns wrap to 0 and the text is accepted – `9223372036854775808ns9223372036854775808ns` is 0 s, with
`1s` appended 1 s – although one nanosecond less in the second group is refused.  (Out-of-range input is
otherwise answered with the error marker, `duration_limits`.) -/
theorem duration_uint64_wrap_counterexample :
    duration (asc "9223372036854775808ns9223372036854775808ns") = .val (asc "0")
    ∧ duration (asc "9223372036854775808ns9223372036854775808ns1s") = .val (asc "1")
    ∧ duration (asc "-9223372036854775808ns9223372036854775808ns") = .val (asc "0")
    ∧ duration (asc "9223372036854775808ns9223372036854775807ns") = .val errorParsing
    ∧ duration (asc "9223372036854775808ns1ns") = .val errorParsing := by
  repeat rw [asc_ofList]
  decide +kernel

/-- Whatever the text, `{duration}` answers the error marker or a whole number of seconds within
±9223372036 (an int64 nanosecond count holds no more): no other text can come out. -/
theorem duration_range (arg : Bytes) :
    duration arg = .val errorParsing
    ∨ ∃ n : Int, -9223372036 ≤ n ∧ n ≤ 9223372036 ∧ duration arg = .val (itoa n) := by
  rcases duration_total arg with ⟨_, h⟩ | ⟨d, hp, hd⟩
  · exact Or.inl h
  · obtain ⟨h1, h2⟩ := parseDuration_range arg d hp
    have hb : -9223372036 ≤ Int.tdiv d 1000000000 ∧ Int.tdiv d 1000000000 ≤ 9223372036 := by
      rcases Int.le_total 0 d with h0 | h0
      · rw [Int.tdiv_eq_ediv_of_nonneg h0]; omega
      · have e : d = -(-d) := by omega
        rw [e, Int.neg_tdiv, Int.tdiv_eq_ediv_of_nonneg (by omega)]; omega
    exact Or.inr ⟨_, hb.1, hb.2, hd⟩

/-- Signs: for a text that parses (and has no sign of its own) `+x` answers the same and `-x` the
negated whole seconds – truncation is toward zero on both sides (`-1.5s` is -1, not -2). -/
theorem duration_sign (c : UInt8) (r : Bytes) (d : Int) (hc : c ≠ 43 ∧ c ≠ 45)
    (h : parseDuration (c :: r) = .ok d) :
    duration (c :: r) = .val (itoa (Int.tdiv d 1000000000))
    ∧ duration (43 :: c :: r) = .val (itoa (Int.tdiv d 1000000000))
    ∧ duration (45 :: c :: r) = .val (itoa (-(Int.tdiv d 1000000000))) := by
  obtain ⟨hm, hp⟩ := parseDuration_sign c r d hc h
  refine ⟨?_, ?_, ?_⟩
  · simp only [duration, h]
  · simp only [duration, hp]
  · simp only [duration, hm, Int.neg_tdiv]

/-! ## Markers -/

/-- Unparseable input yields the error markers: a time text the layout does not accept gives
`<PARSE-ERROR>`, a non-integer unix time gives `<BAD-TYPE>`; an empty text or an undetectable
format in `cache` mode gives `<PARSE-ERROR>` and is not remembered. -/
theorem unparseable_marker (layout str : Bytes) (f : Parsed → Out) (e : String)
    (hy : usesYearDay (tokenize layout) = false) (h : parseLayout layout str = .error e) :
    (∃ b, parseThen layout str f = .val b ∧ b = errorParsing)
    ∧ (∀ st, ∃ b, (cacheStep st [] none f).1 = .val b ∧ b = errorParsing ∧ (cacheStep st [] none f).2 = st)
    ∧ (str ≠ [] → ∃ b, (cacheStep [] str none f).1 = .val b ∧ b = errorParsing ∧ (cacheStep [] str none f).2 = [])
    ∧ (∀ lay loc arg off abbr, atoi arg = none → ∃ b, timeFormatStage lay loc arg off abbr = .val b ∧ b = errorNum)
    ∧ (∀ a loc arg off, atoi arg = none → ∃ b, timeAttrStage a loc arg off = .val b ∧ b = errorNum)
    ∧ (∀ arg, atoi arg = none → ∃ b, durationFormat arg = .val b ∧ b = errorNum)
    ∧ (∀ arg, parseDuration arg = .err → ∃ b, duration arg = .val b ∧ b = errorParsing) := by
  refine ⟨⟨_, ?_, rfl⟩, fun st => ⟨_, rfl, rfl, rfl⟩, fun hs => ⟨_, ?_, rfl, ?_⟩, ?_, ?_, ?_, ?_⟩
  · simp [parseThen, hy, h]
  · simp [cacheStep, hs]
  · simp [cacheStep, hs]
  · intro lay loc arg off abbr ha; exact ⟨_, by simp [timeFormatStage, ha], rfl⟩
  · intro a loc arg off ha; exact ⟨_, by simp [timeAttrStage, ha], rfl⟩
  · intro arg ha; exact ⟨_, by simp [durationFormat, ha], rfl⟩
  · intro arg ha; exact ⟨_, by simp [duration, ha], rfl⟩

/-- The cached layout: set by the first non-empty text whose format is detected, never changed
afterwards, and then used for every later text (whatever `dateparse` would say about it). -/
theorem cache_dispatch (st str : Bytes) (det det' : Option Bytes) (f : Parsed → Out) :
    (st ≠ [] → cacheStep st str det f = cacheStep st str det' f ∧ (cacheStep st str det f).2 = st)
    ∧ (st = [] → str ≠ [] → ∀ live, det = some live → cacheStep st str det f = (parseThen live str f, live)) := by
  constructor
  · intro h
    by_cases hs : str = [] <;> simp [cacheStep, hs, h]
  · intro h hs live hd
    simp [cacheStep, hs, h, hd]

/-- `auto`, `cache` (also the empty format) and explicit formats are told apart case-insensitively;
an explicit format goes through the named-format table. -/
theorem mode_dispatch :
    modeOf timeFormats (asc "AUTO") = .auto ∧ modeOf timeFormats (asc "") = .cache ∧ modeOf timeFormats (asc "Cache") = .cache
    ∧ modeOf timeFormats (asc "nginx") = .explicit (asc "_2/Jan/2006:15:04:05 -0700")
    ∧ modeOf timeFormats (asc "2006") = .explicit (asc "2006") := by
  repeat rw [asc_ofList]
  decide +kernel

/-! ## The `cache` stage as a function of its history; key-words; compile-time checks; attributes -/

/-- `cacheStep` is `cacheStepE` for a date expression that yields the empty text without input (`{0}`). -/
theorem cache_step_current (st str : Bytes) (det : Option Bytes) (f : Parsed → Out) :
    cacheStep st str det f = cacheStepE [] st str det f := by
  unfold cacheStep cacheStepE
  by_cases hs : str = []
  · simp [hs]
  · simp only [hs, if_false]

/-- Which call histories give which answers.  (1) Once a layout is remembered it never changes and
every later text is answered with it, whatever `dateparse` would detect.  (2) Starting with nothing
remembered, the memory after a history is the layout detected for the FIRST text that is non-empty,
is not `emptyTime` (the value of the date expression without input: parsed, never remembered – the
repairs cb6fa4b / 3acd3a0 / 6998c9c) and has a detectable format; there is none iff nothing is
remembered. -/
theorem cache_history (e : Bytes) (xs : List Inp) :
    (∀ st, st ≠ [] → cacheState e st xs = st ∧ cacheRun e st xs = xs.map (answerWith st))
    ∧ ((∀ x ∈ xs, x.2.1 ≠ some []) → cacheState e [] xs = firstRemembered e xs) :=
  ⟨fun st hst => cache_sticky' e st hst xs, cache_state_first' e xs⟩

/-- Order independence (what makes the lock-free memory safe): when every non-empty text of a history
has the same detected layout `L` and none is `emptyTime`, each answer depends on its own text only –
so any order, and any interleaving of concurrent evaluations, gives the same answers (checked on the
real stage from 8 goroutines: op `seqpar`).  Without the hypotheses the answers do depend on the
order: see the example after it. -/
theorem cache_order_independent (e L : Bytes) (hL : L ≠ []) (xs : List Inp)
    (h : ∀ x ∈ xs, x.1 ≠ e ∧ (x.1 ≠ [] → x.2.1 = some L)) :
    cacheRun e [] xs = xs.map (answerWith L) :=
  cache_order_independent' e L hL xs h [] (Or.inl rfl)

/-- … and the order matters otherwise: two texts of different layouts answer differently depending on
which comes first (the second one is parsed with the layout of the first). -/
theorem cache_order_counterexample :
    let f : Parsed → Out := unixOut .utc 0 []
    let a : Inp := (asc "2016-04-14", some (asc "2006-01-02"), f)
    let b : Inp := (asc "14/04/2016", some (asc "02/01/2006"), f)
    cacheRun [] [] [a, b] = [.val (asc "1460592000"), .val errorParsing]
    ∧ cacheRun [] [] [b, a] = [.val (asc "1460592000"), .val errorParsing] := by
  repeat rw [asc_ofList]
  decide +kernel

/-- `{time now|live|delta}`: the key-words are recognised case-insensitively and exactly. -/
theorem time_keyword_table :
    [asc "now", asc "NOW", asc "Live", asc "delta", asc "DELTA", asc "nowx", asc "no", asc "", asc " now"].map timeKeyword
      = [some .now, some .now, some .live, some .delta, some .delta, none, none, none, none]
    ∧ (∀ w, timeKeyword w = some .now ↔ toLower w = asc "now") := by
  refine ⟨by decide +kernel, fun w => ?_⟩
  unfold timeKeyword
  constructor
  · intro h
    by_cases h1 : toLower w = asc "now"
    · exact h1
    · simp only [h1, if_false] at h
      split at h
      · cases h
      · split at h <;> cases h
  · intro h; simp [h]

/-- The key-words and guards the model relies on are the ones in the source now (regenerated on every
run): the `now`/`live`/`delta` cases of `kfTimeParse`, the `auto` / `""`,`cache` cases of
`smartDateParseWrapper`, the `""`,`UTC` / `LOCAL` cases of `parseTimezoneLocation`, and the bodies of
the four attribute functions (source text; `yearweek` pairs the ISO year with the ISO week). -/
theorem gen_guards_match :
    (∀ w, (timeKeyword w).isSome = true ↔ toLower w ∈ Gen.C18.timeKeywords.flatten.map asc)
    ∧ (∀ tbl f, (modeOf tbl f = .auto ↔ toLower f ∈ (Gen.C18.parseModes.getD 0 []).map asc)
        ∧ (modeOf tbl f = .cache ↔ toLower f ∈ (Gen.C18.parseModes.getD 1 []).map asc))
    ∧ (∀ tzf ok, ((parseTimezoneLocation tzf ok).1 = .utc ∧ (parseTimezoneLocation tzf ok).2 = true
          ↔ toUpper tzf ∈ (Gen.C18.zoneKeywords.getD 0 []).map asc)
        ∧ ((parseTimezoneLocation tzf ok).1 = .local ↔ toUpper tzf ∈ (Gen.C18.zoneKeywords.getD 1 []).map asc))
    ∧ Gen.C18.attrBodies = [
        ("QUARTER", "func(ttime.Time)string{month:=int(t.Month())returnstrconv.Itoa((month-1)/3+1)}"),
        ("WEEK", "func(ttime.Time)string{_,week:=t.ISOWeek()returnstrconv.Itoa(week)}"),
        ("WEEKDAY", "func(ttime.Time)string{returnstrconv.Itoa(int(t.Weekday()))}"),
        ("YEARWEEK", "func(ttime.Time)string{year,week:=t.ISOWeek()returnstrconv.Itoa(year)+\"-\"+strconv.Itoa(week)}")] := by
  have e0 : asc "" = ([] : Bytes) := rfl
  have n1 : asc "now" ≠ asc "live" := by decide
  have n2 : asc "now" ≠ asc "delta" := by decide
  have n3 : asc "live" ≠ asc "delta" := by decide
  have n4 : asc "auto" ≠ ([] : Bytes) := by decide
  have n5 : asc "auto" ≠ asc "cache" := by decide
  have n6 : asc "UTC" ≠ ([] : Bytes) := by decide
  have n7 : asc "LOCAL" ≠ ([] : Bytes) := by decide
  have n8 : asc "LOCAL" ≠ asc "UTC" := by decide
  refine ⟨fun w => ?_, fun tbl f => ⟨?_, ?_⟩, fun tzf ok => ⟨?_, ?_⟩, rfl⟩
  · simp only [timeKeyword, Gen.C18.timeKeywords, List.flatten]
    by_cases h1 : toLower w = asc "now"
    · simp [h1]
    · by_cases h2 : toLower w = asc "live"
      · simp [h2, n1.symm]
      · by_cases h3 : toLower w = asc "delta"
        · simp [h3, n2.symm, n3.symm]
        · simp [h1, h2, h3]
  · simp only [modeOf, Gen.C18.parseModes, List.getD_cons_zero, List.map, List.mem_cons, List.not_mem_nil, or_false]
    by_cases h1 : toLower f = asc "auto"
    · simp [h1]
    · simp only [h1, if_false, iff_false]
      split <;> simp
  · simp only [modeOf, Gen.C18.parseModes, List.getD_cons_succ, List.getD_cons_zero, List.map, List.mem_cons, List.not_mem_nil, or_false, e0]
    by_cases h1 : toLower f = asc "auto"
    · simp [h1, n4, n5]
    · simp only [h1, if_false]
      by_cases h2 : (toLower f = [] ∨ toLower f = asc "cache")
      · simp [h2]
      · simp [h2]
  · simp only [parseTimezoneLocation, Gen.C18.zoneKeywords, List.getD_cons_zero, List.map, List.mem_cons, List.not_mem_nil, or_false, e0]
    by_cases h1 : (toUpper tzf = [] ∨ toUpper tzf = asc "UTC")
    · simp [h1]
    · simp only [h1, if_false, iff_false]
      split
      · simp
      · cases ok <;> simp
  · simp only [parseTimezoneLocation, Gen.C18.zoneKeywords, List.getD_cons_succ, List.getD_cons_zero, List.map, List.mem_cons, List.not_mem_nil, or_false]
    by_cases h1 : (toUpper tzf = [] ∨ toUpper tzf = asc "UTC")
    · have : toUpper tzf ≠ asc "LOCAL" := by
        rcases h1 with h | h
        · rw [h]; exact n7.symm
        · rw [h]; exact n8.symm
      simp [h1, this]
    · simp only [h1, if_false]
      by_cases h2 : toUpper tzf = asc "LOCAL"
      · simp [h2]
      · cases ok <;> simp [h2]

/-- What the stage closures of `timeformat`, `duration`, `durationformat` and `timeattr` return, as
source text regenerated from /repo on every run: first the error marker for a bad argument, then exactly
the expression the model mirrors – `t.Format(format)` (`timeFormatStage`), the INTEGER division
`int64(duration/time.Second)` (`duration`: `itoa (Int.tdiv d 10^9)`; a float64 route such as
`duration.Seconds()` or a rounding idiom changes this text), `(time.Duration(secs)*time.Second).String()`
(`durationFormat`: `durationString (wrap64 (secs * 10^9))`), the attribute function (`timeAttrStage`). -/
theorem gen_stage_returns :
    Gen.C18.stageReturns = [
      ("timeformat", ["returnErrorNum", "returnt.Format(format)"]),
      ("duration", ["returnErrorParsing", "returnstrconv.FormatInt(int64(duration/time.Second),10)"]),
      ("durationformat", ["returnErrorNum", "return(time.Duration(secs)*time.Second).String()"]),
      ("timeattr", ["returnErrorNum", "returnattrFunc(t)"])] :=
  rfl

/-- The argument-count windows of the six helpers as the translator reads them from the guards that
open `kfTimeParse` … `kfTimeAttr` (`Gen.C18.argRanges`): `<ARGN>` outside, checked first, and inside the
window with a constant, known second argument and a loadable zone the stage is built. -/
theorem compile_argcount :
    ∀ e ∈ Gen.C18.argRanges,
      ∀ argc c eo zo, ((argc < e.2.1 ∨ argc > e.2.2) → compileCheck e.1 argc c eo zo = some ("func.argcount", "<ARGN>"))
        ∧ (e.2.1 ≤ argc → argc ≤ e.2.2 → c 1 = true → compileCheck e.1 argc c true true = none) := by
  intro e he argc c eo zo
  obtain ⟨fn, lo, hi⟩ := e
  simp only [Gen.C18.argRanges, List.mem_cons, List.not_mem_nil, or_false, Prod.mk.injEq] at he
  rcases he with ⟨a, b, d⟩ | ⟨a, b, d⟩ | ⟨a, b, d⟩ | ⟨a, b, d⟩ | ⟨a, b, d⟩ | ⟨a, b, d⟩ <;> subst a <;> subst b <;> subst d <;>
    simp only [compileCheck, String.reduceEq, if_true, if_false, or_false, false_or, or_self] <;> constructor <;> intro h
  all_goals first
    | (rw [if_pos h]; done)
    | (rw [if_pos (by omega)]; done)
    | (intro h2 hc; rw [if_neg (by omega)]; simp [hc]; done)
    | (intro h2 hc; rw [if_neg (by omega)]; done)

/-- The bucket and attribute names must be constants (`<CONST>`) of the enumeration (`<ENUM>`); an
unknown zone gives `<PARSE-ERROR>` – for `timeattr` before the enumeration check, for `buckettime`
after it (the order of the checks in the source). -/
theorem compile_checks_order :
    compileCheck "buckettime" 4 (fun _ => false) false false = some ("func.const", "<CONST>")
    ∧ compileCheck "buckettime" 4 (fun _ => true) false false = some ("func.enum", "<ENUM>")
    ∧ compileCheck "buckettime" 4 (fun _ => true) true false = some ("func.parsing", "<PARSE-ERROR>")
    ∧ compileCheck "timeattr" 3 (fun _ => false) false false = some ("func.const", "<CONST>")
    ∧ compileCheck "timeattr" 3 (fun _ => true) false false = some ("func.parsing", "<PARSE-ERROR>")
    ∧ compileCheck "timeattr" 3 (fun _ => true) false true = some ("func.enum", "<ENUM>") := by
  repeat rw [asc_ofList]
  decide +kernel

/-- Every attribute name, in any letter case: weekday 0..6 (Sunday = 0), ISO week 1..53 WITHOUT zero
padding, `yearweek` = ISO year `-` ISO week (the ISO week-numbering year, not the calendar year),
quarter 1..4; any other name is not an attribute (`<ENUM>` at compile time) – and only those. -/
theorem timeattr_spec (name : Bytes) (unix off : Int) :
    (toUpper name = asc "WEEKDAY" → timeAttr name unix off = some (itoa (weekday (localDays unix off))))
    ∧ (toUpper name = asc "WEEK" → timeAttr name unix off = some (itoa (isoYearWeek (localDays unix off)).2))
    ∧ (toUpper name = asc "YEARWEEK" → timeAttr name unix off =
        some (itoa (isoYearWeek (localDays unix off)).1 ++ [45] ++ itoa (isoYearWeek (localDays unix off)).2))
    ∧ (toUpper name = asc "QUARTER" → timeAttr name unix off = some (itoa (quarter (civilOf unix off).m)))
    ∧ (timeAttr name unix off = none ↔ toUpper name ∉ attrKeys) := by
  have hq := timeattr_quarter unix off
  have hq' : timeAttr (asc "quarter") unix off = some (itoa (quarterExpr (civilFromDays (localDays unix off)).m)) := rfl
  have d1 : asc "WEEK" ≠ asc "WEEKDAY" := by decide
  have d2 : asc "YEARWEEK" ≠ asc "WEEKDAY" := by decide
  have d3 : asc "YEARWEEK" ≠ asc "WEEK" := by decide
  have d4 : asc "QUARTER" ≠ asc "WEEKDAY" := by decide
  have d5 : asc "QUARTER" ≠ asc "WEEK" := by decide
  have d6 : asc "QUARTER" ≠ asc "YEARWEEK" := by decide
  refine ⟨fun h => ?_, fun h => ?_, fun h => ?_, fun h => ?_, ?_⟩
  · simp only [timeAttr, h, if_true]
  · simp only [timeAttr, h, d1, if_false, if_true]
  · simp only [timeAttr, h, d2, d3, if_false, if_true]
  · rw [← hq, hq']
    simp only [timeAttr, h, d4, d5, d6, if_false, if_true]
  · simp only [timeAttr, attrKeys, List.mem_cons, List.not_mem_nil, or_false]
    by_cases h1 : toUpper name = asc "WEEKDAY"
    · simp [h1]
    · by_cases h2 : toUpper name = asc "WEEK"
      · simp [h2, d1]
      · by_cases h3 : toUpper name = asc "YEARWEEK"
        · simp [h3, d2, d3]
        · by_cases h4 : toUpper name = asc "QUARTER"
          · simp [h4, d4, d5, d6]
          · simp [h1, h2, h3, h4]

/-- The boundary of `duration_roundtrip` is exact: one second further the product
`time.Duration(secs) * time.Second` wraps and `durationformat` prints a NEGATIVE duration (Go's
int64 arithmetic, mirrored; same in the real code, op `durf`). -/
theorem duration_roundtrip_boundary :
    durationFormat (asc "9223372036") = .val (asc "2562047h47m16s")
    ∧ duration (asc "2562047h47m16s") = .val (asc "9223372036")
    ∧ durationFormat (asc "9223372037") = .val (asc "-2562047h47m16.709551616s")
    ∧ durationFormat (asc "-9223372037") = .val (asc "2562047h47m16.709551616s") := by
  repeat rw [asc_ofList]
  decide +kernel

/-! ## Non-vacuity: the hypotheses hold on concrete, non-trivial values -/

/-- 14 Apr 2016 19:12:25 +02:00 (the repo's own test instant) round-trips through NGINX. -/
example : parseLayout (asc "_2/Jan/2006:15:04:05 -0700")
    (formatLayout (asc "_2/Jan/2006:15:04:05 -0700") (timeVOf 1460653945 7200 (asc "CEST")))
      = .ok ⟨⟨2016, 4, 14, 19, 12, 25, 0⟩, .offset 7200⟩ := by
  repeat rw [asc_ofList]
  generalize hp : parseLayout _ _ = r
  have h : r.toOption = some ⟨⟨2016, 4, 14, 19, 12, 25, 0⟩, .offset 7200⟩ := by rw [← hp]; decide +kernel
  cases r with
  | ok p => exact congrArg Except.ok (Option.some.inj h)
  | error e => cases h

example : formatLayout (asc "_2/Jan/2006:15:04:05 -0700") (timeVOf 1460653945 7200 (asc "CEST"))
    = asc "14/Apr/2016:19:12:25 +0200" := by
  repeat rw [asc_ofList]
  decide +kernel

example : OffOK 7200 ∧ OffOK (-12600) ∧ (timeVOf 1460653945 7200 (asc "CEST")).dt.valid := by
  refine ⟨by unfold OffOK; decide, by unfold OffOK; decide, by unfold DateTime.valid; decide +kernel⟩

/-- 4 Apr 2016 19:12:25 +02:00 through ANSIC (`Apr  4`: the padding space is swallowed with the
literal) and UNIX (abbreviation `CEST`): all carried fields come back; ANSIC leaves the zone to the
location argument. -/
example : formatLayout (asc "Mon Jan _2 15:04:05 2006") (timeVOf 1459789945 7200 (asc "CEST")) = asc "Mon Apr  4 19:12:25 2016"
    ∧ (match parseLayout (asc "Mon Jan _2 15:04:05 2006") (asc "Mon Apr  4 19:12:25 2016") with
        | .ok p => p == ⟨⟨2016, 4, 4, 19, 12, 25, 0⟩, .default⟩
        | .error _ => false) = true
    ∧ (match parseLayout (asc "Mon Jan _2 15:04:05 MST 2006") (formatLayout (asc "Mon Jan _2 15:04:05 MST 2006") (timeVOf 1459789945 7200 (asc "CEST"))) with
        | .ok p => p == ⟨⟨2016, 4, 4, 19, 12, 25, 0⟩, .name (asc "CEST")⟩
        | .error _ => false) = true
    ∧ projectDT (carries (tokenize (asc "Jan"))) ⟨2016, 4, 4, 19, 12, 25, 0⟩ = ⟨0, 4, 1, 0, 0, 0, 0⟩ := by
  repeat rw [asc_ofList]
  decide +kernel

example : hh2 48 51 = true ∧ hh2 50 51 = true ∧ hh2 50 52 = false ∧ hh2 49 57 = true := by decide

example : abbrShape (asc "CEST") = true ∧ abbrShape (asc "UTC") = true ∧ abbrShape (asc "MSK") = true
    ∧ carriesInstant (tokenize (asc "2006-01-02T15:04:05Z07:00")) = true := by
  repeat rw [asc_ofList]
  decide +kernel

example : quarter 3 = 1 ∧ quarter 12 = 4 ∧ Gen.C18.quarter 3 = 1 ∧ Gen.C18.quarter 12 = 4 := by decide

/-- 1 Jan 2021 is a Friday of ISO week 2020-53; 4 Jan 2021 starts 2021-1. -/
example : weekday 18628 = 5 ∧ isoYearWeek 18628 = (2020, 53) ∧ isoYearWeek 18631 = (2021, 1)
    ∧ civilFromDays 18628 = ⟨2021, 1, 1⟩ := by decide +kernel

/-- `1.5h` and `16777216.999999999s` satisfy the hypotheses of `duration_decimal_exact`. -/
example : natDigits 1 ++ 46 :: (asc "5" ++ [104]) = asc "1.5h" ∧ (asc "5").all isDigitB = true ∧ 10 ^ (asc "5").length ∣ 3600000000000
    ∧ (1 + 1) * 3600000000000 ≤ 9223372036854775807
    ∧ natDigits 16777216 ++ 46 :: (asc "999999999" ++ [115]) = asc "16777216.999999999s"
    ∧ 10 ^ (asc "999999999").length ∣ 1000000000 ∧ duration (asc "1.5h") = .val (asc "5400") := by
  repeat rw [asc_ofList]
  decide +kernel

example : durationFormat (asc "14400") = .val (asc "4h0m0s") ∧ duration (asc "4h0m0s") = .val (asc "14400") := by
  repeat rw [asc_ofList]
  decide +kernel

end Rare.C18

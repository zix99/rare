import Rare.Proofs.C14Log
import Rare.Proofs.C14Legend
import Rare.Proofs.C14LegendF64
import Rare.Proofs.C14Reduce
import Rare.Proofs.C14KeyCol
import Rare.Gen.C14
import Rare.Proofs.F64Fast
/-!
# C14 – Renderers never crash and draw quantities proportionally within bounds

Property theorems about `Rare/Model/C14.lean` (+ `C14Format.lean`), the model of the code AFTER the repairs
b2c2a9f (stacked bars, running maximum 0), 7206d40 (bar length overflow), 0b7fa09 (stacked bar with
negative values), a20c03a (aliased value slices), b1ca348 (heatmap header loop), 9780d5d (spark with
no columns), 6408ebf (inverted remapped range), c54b92c (sparkline header measured in bytes),
73473fc (reduce table: group key with more parts than group columns), 7b183e0 (histogram refresh skipped
rows with a value ≤ 0), f0d0278 (histogram / bar graph key column padded in runes but measured in visible characters),
cde79bf (bar graph: a key that widens the key column did not re-draw the rows already written),
4855857 (histogram: `WriteForLine(len(items), …)` indexed out of range – the guard was `line > len(items)`).

Numbers: the model is polymorphic in the `float64` operations (`Arith α`).  Two instances carry theorems:
ℚ (`ratArith L2 L10`: exact conversion and `+ - * /`, abstract logarithms only assumed monotone and
non-negative above 1, `LogLike`) and IEEE-754 binary64 (`f64Arith`, the software model `Rare.F64` of
`Base/F64.lean`: every operation of `scale.go` with its rounding; `math.Log2/Log10` parameters assumed
`LogLikeF64`).  The scaler, palette and bar theorems are proved for BOTH (`…_f64` next to the ℚ ones); the
renderers (histogram, bar graph, heatmap, sparkline) are proved once for every instance satisfying
`UnitLaws`, which both do (`float_laws_rat`, `float_laws_f64`).  The driver computes with the binary64
instance, so the correspondence compares the theorems' own definitions with Go bit for bit.

Tables and constants are the regenerated ones (`Rare.Gen.C14`): `tables_match_source` pins the
hand copies used by the model to them, `bucket_in_range` is stated over the generated call-site list,
`guards_match_source` / `render_code_matches_source` pin guard chains, formatter call arguments, the
closure of `termformat.FromExpression`, the reduce-table guard and the sparkline header measure.

Sections: ties to the source · scaler laws over ℚ · scaler laws on binary64 · bars · layout (header loop, cells) ·
table columns line up (every `WriteRow`/`WriteFooter` sequence) · formatters and displayed numbers · histogram and
bar graph as whole renderers (redraw invariant, every row at the current scale, grouped-bars line, heatmap row
width) · data table / reduce table · heatmap and sparkline as whole renderers · "(n more)" arithmetic ·
non-vacuity examples.
-/
namespace Rare.C14
open Rare Rare.C20

/-! ## ties to the source (regenerated on every run) -/

/-- the glyph tables and colour constants the model uses are the ones in /repo -/
theorem tables_match_source :
    barUnicode = Gen.C14.barUnicode ∧ barAscii = Gen.C14.barAscii ∧
    sparkBlocks = Gen.C14.sparkBlocks ∧ sparkAscii = Gen.C14.sparkAscii ∧
    heatmapColors = Gen.C14.heatmapColors ∧ heatmapAscii = Gen.C14.heatmapAscii ∧
    groupColors = Gen.C14.GroupColors ∧
    fullBlock = Gen.C14.fullBlock ∧ nonUnicodeBlock = Gen.C14.nonUnicodeBlock ∧ heatmapNonUnicode = Gen.C14.heatmapNonUnicode ∧
    barUnicodePartCount = Gen.C14.barUnicodePartCount ∧
    cReset = Gen.C14.cReset ∧ cYellow = Gen.C14.cYellow ∧ cBlue = Gen.C14.cBlue ∧ cCyan = Gen.C14.cCyan ∧
    cBrightBlack = Gen.C14.cBrightBlack ∧ cBrightBlue = Gen.C14.cBrightBlue ∧ cBrightCyan = Gen.C14.cBrightCyan ∧
    cBrightWhite = Gen.C14.cBrightWhite ∧ cUnderline = Gen.C14.cUnderline ∧ Gen.C14.escapeRune = 27 := by
  decide +kernel

/-- the guard chains the model mirrors are the ones in /repo (printed conditions, in order), and the
layout constants are the modelled ones -/
theorem guards_match_source :
    Gen.C14.scaleGuards = ["max < min", "val < min", "val > max", "minf10 >= maxf10"] ∧
    Gen.C14.remapGuards = ["max <= min"] ∧
    Gen.C14.barRunesGuards = ["maxVal <= 0", "val > maxVal", "val <= 0 || maxLen <= 0"] ∧
    Gen.C14.histoTextSpacing = 16 ∧ Gen.C14.histoBarWidth = 50 ∧ Gen.C14.barsMaxKeyLength = 4 ∧
    Gen.C14.barsBarSize = 50 ∧ Gen.C14.heatDelimCount = 2 :=
  ⟨rfl, rfl, rfl, rfl, rfl, rfl, rfl, rfl⟩

/-- what the model assumes about the code around the formatter, the reduce table loop and the sparkline
header, read off /repo on every run: the arguments of every `Formatter(…)` call of the five renderers
(value, then the range each renderer passes), the closure `termformat.FromExpression` returns (it
overwrites the whole context and builds the key – no other statement, nothing captured but the compiled
key and that context), the guard that keeps the reduce table's group cells inside the group columns
(73473fc), and the visible-width measure of the sparkline header (c54b92c) -/
theorem render_code_matches_source :
    Gen.C14.histoFormatCalls = ["val, 0, s.maxVal"] ∧
    Gen.C14.barsFormatCalls = ["vals[i], 0, s.maxLineVal", "total, 0, s.maxLineVal"] ∧
    Gen.C14.tableFormatCalls = ["row.Value(colName), min, max", "row.Sum(), min, max", "counter.ColTotal(colName), min, max", "sum, min, max"] ∧
    Gen.C14.heatFormatCalls = ["item, min, max"] ∧
    Gen.C14.sparkFormatCalls = ["row.Value(colNames[0]), minVal, maxVal", "row.Value(colNames[len(colNames)-1]), minVal, maxVal"] ∧
    Gen.C14.fromExpressionClosure = ["*ctx = formatExpressionContext{val, min, max}", "return kb.BuildKey(ctx)"] ∧
    Gen.C14.fromExpressionState = ["kb, err := expandCompileExpression(expr)", "ctx := &formatExpressionContext{}"] ∧
    Gen.C14.reduceGroupGuards = ["aggr.GroupColCount() > 0 || table", "idx >= aggr.GroupColCount()"] ∧
    Gen.C14.sparkHeaderDots = ["len(colNames) - color.StrLen(colNames[0]) - color.StrLen(colNames[len(colNames)-1])"] :=
  ⟨rfl, rfl, rfl, rfl, rfl, rfl, rfl, rfl, rfl⟩

/-- the float computation the binary64 theorems are about is the one in /repo, statement by statement (printed
bodies, regenerated on every run): `Scale` (three guards, the remapped ends, the degenerate-range guard, the
quotient of the two differences), `remapMinMax` (`max = min + 1` in int64, `Floor`/`Ceil` of the mapped ends),
`Bucket` / `LengthVal` (`int(u * float64(n))`), the `mapVal` closures (`f <= 1.0 → 0.0`, else the logarithm), and the
refresh loop of the histogram (every line that was written, 7b183e0) – `scale`, `remapMinMax`, `mapVal`, `bucket`,
`lengthVal` of the model with `f64Arith` perform exactly these operations, each with IEEE rounding -/
theorem scale_code_matches_source :
    Gen.C14.scaleBody = ["if max < min { return 0.0 }", "if val < min { return 0.0 }", "if val > max { return 1.0 }",
      "minf10, maxf10 := s.remapMinMax(min, max)", "if minf10 >= maxf10 { return 0.0 }",
      "return (s.mapVal(float64(val)) - minf10) / (maxf10 - minf10)"] ∧
    Gen.C14.remapBody = ["if max <= min { max = min + 1 }", "return math.Floor(s.mapVal(float64(min))), math.Ceil(s.mapVal(float64(max)))"] ∧
    Gen.C14.bucketBody = ["return int(unitVal * float64(buckets-1))"] ∧
    Gen.C14.lengthValBody = ["return int(unitVal * float64(maxLen))"] ∧
    Gen.C14.mapLinearBody = ["return f"] ∧
    Gen.C14.mapLog2Body = ["if f <= 1.0 { return 0.0 }", "return math.Log2(f)"] ∧
    Gen.C14.mapLog10Body = ["if f <= 1.0 { return 0.0 }", "return math.Log10(f)"] ∧
    Gen.C14.histoFullRenderBody = ["for idx, item := range s.items { if item.set { s.writeLine(idx, item.key, item.val) } }"] :=
  ⟨rfl, rfl, rfl, rfl, rfl, rfl, rfl, rfl⟩

/-- the code of the key column is the modelled one (printed statements, regenerated on every run): `padVisible` pads by
`color.StrLen` (`padVis`); the three key cells are `color.Wrap(color.Yellow, padVisible(key, <column width>))`;
`HistoWriter.WriteForLine` widens `textSpacing` by `color.StrLen(key)` and re-renders everything when the key column or the
maximum grew; `BarGraph.WriteBar` sets `redraw` when `color.StrLen(key)` widens `maxKeyLength` (cde79bf) or the row raises
the running maximum, and then re-draws every stored row -/
theorem key_column_code_matches_source :
    Gen.C14.padVisibleBody = ["if pad := width - color.StrLen(s); pad > 0 { return s + strings.Repeat(\" \", pad) }", "return s"] ∧
    Gen.C14.keyCellCalls = ["color.Wrap(color.Yellow, padVisible(key, s.textSpacing))", "color.Wrap(color.Yellow, padVisible(key, s.maxKeyLength))",
      "color.Wrap(color.Yellow, padVisible(key, s.maxKeyLength))"] ∧
    Gen.C14.histoWriteForLineBody = ["if line >= len(s.items) { return }", "needsFullRefresh := false",
      "if klen := color.StrLen(key); klen > s.textSpacing { s.textSpacing = klen needsFullRefresh = true }",
      "if val > s.maxVal { s.maxVal = val needsFullRefresh = true }", "s.items[line] = histoPair{ key: key, val: val, set: true, }",
      "if needsFullRefresh { s.fullRender() } else { s.writeLine(line, key, val) }"] ∧
    Gen.C14.barsWriteBarBody = ["redraw := false", "if klen := color.StrLen(key); klen > s.maxKeyLength { s.maxKeyLength = klen redraw = true }",
      "for idx >= len(s.rows) { s.rows = append(s.rows, barGraphPair{}) }",
      "s.rows[idx] = barGraphPair{ name: key, vals: append([]int64(nil), vals...), }",
      "{ var max int64 if s.Stacked { max = sumPositive(vals...) } else { max = maxi64(vals...) } if max > s.maxLineVal { s.maxLineVal = max redraw = true } }",
      "if redraw { for idx, row := range s.rows { s.writeBar(idx, row.name, row.vals...) } } else { s.writeBar(idx, key, vals...) }"] :=
  ⟨rfl, rfl, rfl, rfl⟩

/-- the code behind the `--scale` names and the legend line is the modelled one (printed statements, regenerated on every run):
`ScalerByName` switches on `strings.ToLower(name)` over exactly these names (`scalerByName`); `ScaleKeys` maps six equidistant
points of the remapped range back with `unmapVal` (identity / `math.Pow(2|10, f)`), truncates to int64 and drops consecutive
duplicates (`scaleKeys`, `rawKeys`, `dedupFrom`); `Heatmap.UpdateMinMax` writes the indentation, then per key a heat cell of
`Scale(key, min, max)`, a blank and `Formatter(key, min, max)` (`Heatmap.updateMinMax`, `heat_legend_line`).  (The printer
collapses runs of blanks inside string literals: the four blanks between legend entries print as one.) -/
theorem legend_code_matches_source :
    Gen.C14.scalerByNameBody = ["switch strings.ToLower(name) { case \"linear\", \"lin\", \"\": return ScalerLinear, true case \"log10\", \"log\": return ScalerLog10, true case \"log2\": return ScalerLog2, true }",
      "return ScalerNull, false"] ∧
    Gen.C14.scaleKeysBody = ["minf10, maxf10 := s.remapMinMax(min, max)", "ret := make([]int64, 0, buckets)",
      "for i := int64(0); i < buckets; i++ { val := int64(s.unmapVal((maxf10-minf10)*float64(i)/float64(buckets-1) + minf10)) if i == 0 || ret[len(ret)-1] != val { ret = append(ret, val) } }",
      "return ret"] ∧
    Gen.C14.unmapLinearBody = ["return f"] ∧ Gen.C14.unmapLog2Body = ["return math.Pow(2.0, f)"] ∧ Gen.C14.unmapLog10Body = ["return math.Pow(10.0, f)"] ∧
    Gen.C14.heatUpdateMinMaxBody = ["s.minVal = min", "s.maxVal = max", "var sb strings.Builder", "for i := 0; i < s.maxRowKeyWidth+1; i++ { sb.WriteRune(' ') }",
      "for idx, item := range s.Scaler.ScaleKeys(6, s.minVal, s.maxVal) { if idx > 0 { sb.WriteString(\" \") } termunicode.HeatWrite(&sb, s.Scaler.Scale(item, s.minVal, s.maxVal)) sb.WriteString(\" \") sb.WriteString(s.Formatter(item, min, max)) }",
      "s.term.WriteForLine(0, sb.String())"] :=
  ⟨rfl, rfl, rfl, rfl, rfl, rfl⟩

/-- the code of the reduce table's rows is the modelled one (printed statements, regenerated on every run): the render
callback of `reduceFunction` is the row loop and the two footers; the row loop ALLOCATES `rowBuf` for every group
(`make([]string, aggr.ColCount())`: all cells empty), overwrites at most `GroupColCount` cells with the parts of the key,
copies the data behind them and hands the buffer to `WriteRow` (`Reduce.rowCells`, `reduce_fresh_buffer`); nothing is
declared between `NewTable` and the aggregation loop – no buffer outlives a row (`reduce_shared_buffer_counterexample` is
what a hoisted one would show); `TableWriter.WriteRow` drops rows beyond `maxRows`, stores the cells it was given,
widens the columns by `color.StrLen` and re-draws every active row when one grew (`TableWriter.writeRow` of the model),
`writeRow` pads every displayed cell to its column by `color.StrLen` plus one blank -/
theorem reduce_code_matches_source :
    Gen.C14.reduceRenderBody = ["for i, group := range aggr.Groups(sorter) { rowBuf := make([]string, aggr.ColCount()) data := aggr.Data(group) for idx, item := range group.Parts() { if idx >= aggr.GroupColCount() { break } rowBuf[idx] = color.Wrap(color.BrightWhite, item) } copy(rowBuf[aggr.GroupColCount():], data) table.WriteRow(i+1, rowBuf...) }",
      "table.WriteFooter(0, helpers.FWriteExtractorSummary(extractor, aggr.ParseErrors(), fmt.Sprintf(\"(R: %d; C: %d)\", aggr.DataCount(), aggr.ColCount())))",
      "table.WriteFooter(1, batcher.StatusString())"] ∧
    Gen.C14.reduceRowLoopBody = ["rowBuf := make([]string, aggr.ColCount())", "data := aggr.Data(group)",
      "for idx, item := range group.Parts() { if idx >= aggr.GroupColCount() { break } rowBuf[idx] = color.Wrap(color.BrightWhite, item) }",
      "copy(rowBuf[aggr.GroupColCount():], data)", "table.WriteRow(i+1, rowBuf...)"] ∧
    Gen.C14.reduceHoistedDecls = [] ∧
    Gen.C14.tableWriteRowBody = ["if rowNum >= s.maxRows { return }", "if rowNum >= s.activeRows { s.activeRows = rowNum + 1 }",
      "s.rows[rowNum] = cols", "needFullUpdate := false",
      "for i := 0; i < len(cols) && i < s.maxCols; i++ { runeLen := color.StrLen(cols[i]) if runeLen > s.colWidth[i] { s.colWidth[i] = runeLen needFullUpdate = true } }",
      "if needFullUpdate { for i := 0; i < s.activeRows; i++ { s.writeRow(i, s.rows[i]...) } } else { s.writeRow(rowNum, cols...) }"] ∧
    Gen.C14.tableWriteRowInnerBody = ["var sb strings.Builder",
      "for i := 0; i < len(cols) && i < s.maxCols; i++ { runeLen := color.StrLen(cols[i]) sb.WriteString(cols[i]) for j := 0; j < s.colWidth[i]-runeLen; j++ { sb.WriteRune(' ') } sb.WriteRune(' ') }",
      "s.term.WriteForLine(rowNum, sb.String())"] :=
  ⟨rfl, rfl, rfl, rfl, rfl⟩

/-- the `--scale` names (`termscaler.ScalerByName`, compared with the real function on generated names by op `scname`): the six
accepted spellings in any case – also `LİN` (Go lower-cases U+0130 to `i`) –, and nothing else: not a prefix, not a name
with blanks, not invalid UTF-8 -/
theorem scaler_names_table :
    (["linear", "lin", "", "LINEAR", "Lin", "lInEaR"].map fun n => scalerByName n.toUTF8.toList) = List.replicate 6 (some .linear) ∧
    (["log10", "log", "LOG", "Log10"].map fun n => scalerByName n.toUTF8.toList) = List.replicate 4 (some .log10) ∧
    (["log2", "LOG2", "lOg2"].map fun n => scalerByName n.toUTF8.toList) = List.replicate 3 (some .log2) ∧
    scalerByName "LİN".toUTF8.toList = some .linear ∧
    (["ln", "log1", "log 2", " log2", "linea", "linearr", "none", "loK", "l\u0131n"].map fun n => scalerByName n.toUTF8.toList) = List.replicate 9 none ∧
    scalerByName (ascii "log" ++ [0xff]) = none := by
  decide +kernel

/-! ## scaler laws (∀ val, min, max) -/

/-- `Scale` lies in `[0,1]` for all integers (in particular all of int64), every scaler -/
theorem scale_unit_interval {L2 L10 : Rat → Rat} (h2 : LogLike L2) (h10 : LogLike L10) (k : Scaler) (val min max : Int) :
    Spec.UnitInterval (scale (ratArith L2 L10) k val min max) :=
  scale_bounds h2 h10 k val min max

/-- `Scale` is monotone in the value -/
theorem scale_monotone {L2 L10 : Rat → Rat} (h2 : LogLike L2) (h10 : LogLike L10) (k : Scaler) (val val' min max : Int)
    (h : val ≤ val') : scale (ratArith L2 L10) k val min max ≤ scale (ratArith L2 L10) k val' min max :=
  scale_mono h2 h10 k min max h

/-- every palette lookup in `HeatWrite` / `SparkWrite`: the index `Bucket(N, u)` computed for a unit
value is inside the table it indexes (sizes and tables as found in /repo) -/
theorem bucket_in_range {L2 L10 : Rat → Rat} (site : Nat × Nat) (hs : site ∈ Gen.C14.heatBucketSites ++ Gen.C14.sparkBucketSites)
    (u : Rat) (hu : Spec.UnitInterval u) :
    0 ≤ bucket (ratArith L2 L10) site.1 u ∧ bucket (ratArith L2 L10) site.1 u < site.2 := by
  have hsite : site.1 = site.2 ∧ 1 ≤ (site.1 : Int) := by
    revert site; decide
  have := trunc_mul_bounds hu.1 hu.2 (n := (site.1 : Int) - 1) (by omega)
  have e : bucket (ratArith L2 L10) site.1 u = ratTrunc (u * (((site.1 : Int) - 1 : Int) : Rat)) := rfl
  rw [e, ← hsite.1]; omega

/-- heat and spark cells never panic, for every value, range and scaler -/
theorem heat_spark_no_panic {L2 L10 : Rat → Rat} (h2 : LogLike L2) (h10 : LogLike L10) (env : Env) (k : Scaler) (val min max : Int) :
    (∃ b, heatWrite (ratArith L2 L10) env (scale (ratArith L2 L10) k val min max) = .ok b) ∧
    (∃ b, sparkWrite (ratArith L2 L10) env (scale (ratArith L2 L10) k val min max) = .ok b) := by
  have u := scale_bounds h2 h10 k val min max
  obtain ⟨b, hb, _⟩ := (unitLaws_rat h2 h10).heatWrite_cell env u
  obtain ⟨c, hc, _⟩ := (unitLaws_rat h2 h10).sparkWrite_glyph env u
  exact ⟨⟨b, hb⟩, ⟨c, hc⟩⟩

/-! ## scaler laws on IEEE-754 binary64 (the computation `scale.go` performs, rounding included)

`f64Arith L2 L10 P2 P10` (`Rare/Model/C14F64.lean`) instantiates the `float64` operations of the model with the
software binary64 of `Rare/Base/F64.lean`: `float64(int64)`, `-`, `/`, `*` round to nearest even,
`math.Floor/Ceil`, `<=` with NaN unordered, `int(f)` as on amd64.  `scale (f64Arith …) k v mn mx` is the exact
sequence of operations of `Scaler.Scale`; the driver evaluates these definitions against Go bit for bit.
`I64 i` says `i` is an int64; `UnitF64 u` says `u` is a FINITE float whose value lies in `[0,1]`; for finite
floats the IEEE order is the order of the values (`Props/C11.lean` `f64_order_is_value_order`).
`math.Log2/Log10` are parameters assumed `LogLikeF64` (finite and monotone on `[1,∞)`, `log 1 = 0`). -/

/-- `scale_unit_interval_f64`: for EVERY int64 triple and every scaler the float `Scale` returns is finite
(never NaN, never ±Inf), `0.0 <= it <= 1.0` in the IEEE order, and its exact value lies in `[0,1]` -/
theorem scale_unit_interval_f64 {L2 L10 P2 P10 : F64 → F64} (h2 : LogLikeF64 L2) (h10 : LogLikeF64 L10) (k : Scaler) (val min max : Int)
    (hv : I64 val) (hmn : I64 min) (hmx : I64 max) :
    let r := scale (f64Arith L2 L10 P2 P10) k val min max
    r.isFinite = true ∧ r.isNaN = false ∧ F64.le (F64.ofInt 0) r = true ∧ F64.le r (F64.ofInt 1) = true ∧
      0 ≤ r.toRat ∧ r.toRat ≤ 1 := by
  intro r
  have h := scale_f64_unit (P2 := P2) (P10 := P10) h2 h10 k hv hmn hmx
  exact ⟨h.1, h.order.1, h.order.2.1, h.order.2.2, h.2.1, h.2.2⟩

/-- the linear scaler (the default) needs no assumption at all: it never calls a logarithm -/
theorem scale_linear_unit_interval_f64 (L2 L10 P2 P10 : F64 → F64) (val min max : Int) (hv : I64 val) (hmn : I64 min) (hmx : I64 max) :
    let r := scale (f64Arith L2 L10 P2 P10) .linear val min max
    r.isFinite = true ∧ r.isNaN = false ∧ F64.le (F64.ofInt 0) r = true ∧ F64.le r (F64.ofInt 1) = true ∧
      0 ≤ r.toRat ∧ r.toRat ≤ 1 := by
  intro r
  have h := scale_linear_f64_unit (L2 := L2) (L10 := L10) (P2 := P2) (P10 := P10) hv hmn hmx
  exact ⟨h.1, h.order.1, h.order.2.1, h.order.2.2, h.2.1, h.2.2⟩

/-- `scale_monotone_f64`: a larger value never gives a smaller float (IEEE order and exact values), every int64
range, every scaler – also across the guards (below the range: `0.0`, above: `1.0`) -/
theorem scale_monotone_f64 {L2 L10 P2 P10 : F64 → F64} (h2 : LogLikeF64 L2) (h10 : LogLikeF64 L10) (k : Scaler) (val val' min max : Int)
    (hv : I64 val) (hv' : I64 val') (hmn : I64 min) (hmx : I64 max) (h : val ≤ val') :
    F64.le (scale (f64Arith L2 L10 P2 P10) k val min max) (scale (f64Arith L2 L10 P2 P10) k val' min max) = true ∧
    (scale (f64Arith L2 L10 P2 P10) k val min max).toRat ≤ (scale (f64Arith L2 L10 P2 P10) k val' min max).toRat := by
  have m := scale_f64_mono (P2 := P2) (P10 := P10) h2 h10 k hv hv' hmn hmx h
  exact ⟨(F64.le_iff_toRat_le (scale_f64_unit h2 h10 k hv hmn hmx).1 (scale_f64_unit h2 h10 k hv' hmn hmx).1).mpr m, m⟩

theorem scale_linear_monotone_f64 (L2 L10 P2 P10 : F64 → F64) (val val' min max : Int)
    (hv : I64 val) (hv' : I64 val') (hmn : I64 min) (hmx : I64 max) (h : val ≤ val') :
    F64.le (scale (f64Arith L2 L10 P2 P10) .linear val min max) (scale (f64Arith L2 L10 P2 P10) .linear val' min max) = true ∧
    (scale (f64Arith L2 L10 P2 P10) .linear val min max).toRat ≤ (scale (f64Arith L2 L10 P2 P10) .linear val' min max).toRat := by
  have m := scale_linear_f64_mono (L2 := L2) (L10 := L10) (P2 := P2) (P10 := P10) hv hv' hmn hmx h
  exact ⟨(F64.le_iff_toRat_le (scale_linear_f64_unit hv hmn hmx).1 (scale_linear_f64_unit hv' hmn hmx).1).mpr m, m⟩

/-- what happens outside the range, bit for bit: an inverted range and a value below the range give `+0.0`, a
value above the range gives `1.0`; inside, the result is the guarded quotient of the two rounded differences
of the mapped value and the remapped (`Floor`/`Ceil`) ends -/
theorem scale_guards_f64 (L2 L10 P2 P10 : F64 → F64) (k : Scaler) (val min max : Int) :
    (max < min → scale (f64Arith L2 L10 P2 P10) k val min max = F64.zero false) ∧
    (¬ max < min → val < min → scale (f64Arith L2 L10 P2 P10) k val min max = F64.zero false) ∧
    (¬ max < min → val > max → scale (f64Arith L2 L10 P2 P10) k val min max = F64.one) ∧
    (min ≤ val → val ≤ max → scale (f64Arith L2 L10 P2 P10) k val min max =
      scaleCore (mapF L2 L10 P2 P10 k val) (F64.floor (mapF L2 L10 P2 P10 k min)) (F64.ceil (mapF L2 L10 P2 P10 k (upperEnd min max)))) := by
  obtain ⟨z, o⟩ := scale_guards (f64Arith L2 L10 P2 P10) k (v := val) (mn := min) (mx := max)
  exact ⟨fun g1 => (z (.inl g1)).trans ofInt_zero, fun _ g2 => (z (.inr g2)).trans ofInt_zero,
    fun g1 g3 => (o g1 (by omega) g3).trans ofInt_one, fun a b => scale_f64_in_range k a b⟩

/-- why the degenerate-range guard is needed (cf. the seeded change C14-degenerate-range-nan): for
`min = max = 2^53` the widened end `float64(2^53 + 1)` rounds back to `2^53`, the remapped range is empty and
the unguarded quotient is `0/0 = NaN`; the guard returns `+0.0` -/
theorem scale_degenerate_guard_needed_f64 :
    let x := F64.ofInt 9007199254740992
    let a := F64.floor x
    let b := F64.ceil (F64.ofInt (upperEnd 9007199254740992 9007199254740992))
    (F64.div (F64.sub x a) (F64.sub b a)).isNaN = true ∧ scaleCore x a b = F64.zero false ∧
    scale (f64Arith id id id id) .linear 9007199254740992 9007199254740992 9007199254740992 = F64.zero false := by
  simp only [f64Arith, F64.Fast.ops]
  decide +kernel

/-- `bucket_in_range_f64`: every palette lookup of `HeatWrite` / `SparkWrite` (call sites and tables as found in
/repo) with a unit FLOAT: `int(u * float64(N-1))` is inside the table, and exactly `N-1` for `1.0` -/
theorem bucket_in_range_f64 {L2 L10 P2 P10 : F64 → F64} (site : Nat × Nat) (hs : site ∈ Gen.C14.heatBucketSites ++ Gen.C14.sparkBucketSites)
    (u : F64) (hu : UnitF64 u) :
    0 ≤ bucket (f64Arith L2 L10 P2 P10) site.1 u ∧ bucket (f64Arith L2 L10 P2 P10) site.1 u < site.2 ∧
    (u.toRat = 1 → bucket (f64Arith L2 L10 P2 P10) site.1 u = (site.2 : Int) - 1) := by
  have hsite : site.1 = site.2 ∧ 1 ≤ (site.1 : Int) ∧ (site.1 : Int) ≤ 9007199254740992 := by
    revert site; decide
  have := trunc_mul_f64 hu (n := (site.1 : Int) - 1) (by omega) (by omega)
  have h2 : (site.2 : Int) = site.1 := by rw [hsite.1]
  simp only [bucket, f64Arith]
  exact ⟨this.1, by omega, fun h => by rw [this.2.2 h]; omega⟩

/-- `LengthVal(n, u)` on floats (`0 ≤ n ≤ 2^53`): in `[0, n]`, `n` for exactly `1.0`, monotone in `u` -/
theorem lengthval_bounds_f64 {L2 L10 P2 P10 : F64 → F64} (n : Int) (h0 : 0 ≤ n) (h1 : n ≤ 9007199254740992) (u v : F64) (hu : UnitF64 u) (hv : UnitF64 v) :
    0 ≤ lengthVal (f64Arith L2 L10 P2 P10) n u ∧ lengthVal (f64Arith L2 L10 P2 P10) n u ≤ n ∧
    (u.toRat = 1 → lengthVal (f64Arith L2 L10 P2 P10) n u = n) ∧
    (u.toRat ≤ v.toRat → lengthVal (f64Arith L2 L10 P2 P10) n u ≤ lengthVal (f64Arith L2 L10 P2 P10) n v) := by
  simp only [lengthVal, f64Arith]
  obtain ⟨a, b, c⟩ := trunc_mul_f64 hu h0 h1
  exact ⟨a, b, c, fun huv => trunc_mul_f64_mono hu hv huv h0 h1⟩

/-- the two instances of the `float64` operations satisfy the laws every renderer theorem below asks for
(`UnitLaws`: `Scale` of integers in the domain is a unit value and monotone, `int(u * float64(n))` of a unit value
lies in `[0, n]` and is monotone for `n ≤ 2^53`): exact rationals with an abstract logarithm … -/
theorem float_laws_rat {L2 L10 : Rat → Rat} (h2 : LogLike L2) (h10 : LogLike L10) :
    UnitLaws (ratArith L2 L10) (fun _ => True) (fun u => 0 ≤ u ∧ u ≤ 1) (fun u v => u ≤ v) :=
  unitLaws_rat h2 h10

/-- … and IEEE-754 binary64 on int64 -/
theorem float_laws_f64 {L2 L10 P2 P10 : F64 → F64} (h2 : LogLikeF64 L2) (h10 : LogLikeF64 L10) :
    UnitLaws (f64Arith L2 L10 P2 P10) I64 UnitF64 (fun u v => u.toRat ≤ v.toRat) :=
  unitLaws_f64 h2 h10

/-- `barlen_bounds`, for every instance satisfying the laws (in particular binary64): `BarWrite(w, Scale(val, min, max), maxLen)`
never panics, writes at most `maxLen` glyphs, and a larger value never gives a shorter bar (`0 ≤ maxLen ≤ 10^15`) -/
theorem barlen_bounds {α : Type} {A : Arith α} {Dom : Int → Prop} {Unit : α → Prop} {le : α → α → Prop} (U : UnitLaws A Dom Unit le)
    (env : Env) (k : Scaler) (val val' min max maxLen : Int) (hv : Dom val) (hv' : Dom val') (hmn : Dom min) (hmx : Dom max)
    (hvv : val ≤ val') (hm : 0 ≤ maxLen) (hs : maxLen ≤ 1000000000000000) :
    ∃ g g', barWriteR A env (scale A k val min max) maxLen = .ok g ∧ barWriteR A env (scale A k val' min max) maxLen = .ok g' ∧
      (g.length : Int) ≤ maxLen ∧ (g'.length : Int) ≤ maxLen ∧ g.length ≤ g'.length := by
  have u := U.scale_unit k hv hmn hmx
  have u' := U.scale_unit k hv' hmn hmx
  obtain ⟨g, hg, hl⟩ := U.barWriteR_ok env u hm hs
  obtain ⟨g', hg', hl'⟩ := U.barWriteR_ok env u' hm hs
  have m := U.glyphCount_mono env u u' (U.scale_mono k hv hv' hmn hmx hvv) hm hs
  have b := (U.glyphCount_le env u hm hs).2
  have b' := (U.glyphCount_le env u' hm hs).2
  exact ⟨g, g', hg, hg', by omega, by omega, by omega⟩

/-- `barlen_bounds_f64`: the same on the real float computation, every int64 triple -/
theorem barlen_bounds_f64 {L2 L10 P2 P10 : F64 → F64} (h2 : LogLikeF64 L2) (h10 : LogLikeF64 L10) (env : Env) (k : Scaler)
    (val val' min max maxLen : Int) (hv : I64 val) (hv' : I64 val') (hmn : I64 min) (hmx : I64 max)
    (hvv : val ≤ val') (hm : 0 ≤ maxLen) (hs : maxLen ≤ 1000000000000000) :
    ∃ g g', barWriteR (f64Arith L2 L10 P2 P10) env (scale (f64Arith L2 L10 P2 P10) k val min max) maxLen = .ok g ∧
      barWriteR (f64Arith L2 L10 P2 P10) env (scale (f64Arith L2 L10 P2 P10) k val' min max) maxLen = .ok g' ∧
      (g.length : Int) ≤ maxLen ∧ (g'.length : Int) ≤ maxLen ∧ g.length ≤ g'.length :=
  barlen_bounds (unitLaws_f64 h2 h10) env k val val' min max maxLen hv hv' hmn hmx hvv hm hs

/-- heat and spark cells on the real float computation: never a panic, always ONE cell of the palette -/
theorem heat_spark_no_panic_f64 {L2 L10 P2 P10 : F64 → F64} (h2 : LogLikeF64 L2) (h10 : LogLikeF64 L10) (env : Env) (k : Scaler)
    (val min max : Int) (hv : I64 val) (hmn : I64 min) (hmx : I64 max) :
    (∃ b, heatWrite (f64Arith L2 L10 P2 P10) env (scale (f64Arith L2 L10 P2 P10) k val min max) = .ok b ∧ IsHeatCell env b) ∧
    (∃ b, sparkWrite (f64Arith L2 L10 P2 P10) env (scale (f64Arith L2 L10 P2 P10) k val min max) = .ok b ∧ IsSparkGlyph b) :=
  ⟨(unitLaws_f64 h2 h10).heatWrite_cell env (scale_f64_unit h2 h10 k hv hmn hmx),
   (unitLaws_f64 h2 h10).sparkWrite_glyph env (scale_f64_unit h2 h10 k hv hmn hmx)⟩

/-! ## the log scalers with Go's own `math.Log2` / `math.Log10` (`Model/C14Log.lean`): the exact integer cases

The theorems above take the logarithms as parameters (`LogLikeF64`).  `goLog2F` / `goLog10F` are Go's implementations
(`src/math/log.go`, `log10.go`, `frexp.go`: FreeBSD's `e_log.c`) repeated operation by operation on the software binary64 and
compared with the real `math.Log*` bit for bit by the correspondence (op `log`).  `goArith` is the scaler arithmetic with
them.  The values of the logarithms at ALL the powers an int64 can hold are finite tables, evaluated by the kernel; `Scale` on
the ranges of powers follows from them (`Proofs/C14Log.lean`). -/

/-- `math.Log2` of every power of two up to `2^63 = float64(MaxInt64)` is the exponent, exactly (`Frexp` gives `0.5`) -/
theorem log2_pow2_exact (k : Nat) (hk : k < 64) : goLog2F (F64.ofInt ((2 : Int) ^ k)) = F64.ofInt (k : Int) :=
  goLog2F_pow2 hk

/-- `math.Log10` of every power of ten an int64 holds: `Ceil` is the exponent for all of them (so the upper end of a remapped
range `[…, 10^k]` is `k`), and the value is the exponent EXACTLY for every `k` but 15 (`Log10(1e15) = 15 - 2^-49`) -/
theorem log10_pow10_exact (k : Nat) (hk : k < 19) :
    F64.ceil (goLog10F (F64.ofInt ((10 : Int) ^ k))) = F64.ofInt (k : Int) ∧
    (k ≠ 15 → goLog10F (F64.ofInt ((10 : Int) ^ k)) = F64.ofInt (k : Int)) :=
  ⟨(goLog10F_pow10_props hk).2, fun h15 => by rw [goLog10F_pow10 k hk, if_neg h15]⟩

/-- on the widest power-of-two range `[0 or 1, 2^62]` the log2 scale of `2^k` is `k/62`, correctly rounded, for every `k ≤ 62`
(`math.Pow` is irrelevant to `Scale`: any `P2 P10`) -/
theorem scale_log2_pow2_exact (P2 P10 : F64 → F64) (k : Nat) (hk : k < 63) (mn : Int) (hmn : mn = 0 ∨ mn = 1) :
    scale (f64Arith goLog2F goLog10F P2 P10) .log2 ((2 : Int) ^ k) mn ((2 : Int) ^ 62) = F64.div (F64.ofInt (k : Int)) (F64.ofInt 62) :=
  scale_log2_pow2 P2 P10 (by omega) (by decide) (by decide) hmn

/-- on the widest power-of-ten range `[1, 10^18]` the log10 scale of `10^k` is `Log10(10^k)/18`, for every `k ≤ 18` -/
theorem scale_log10_pow10_exact (P2 P10 : F64 → F64) (k : Nat) (hk : k < 19) :
    scale (f64Arith goLog2F goLog10F P2 P10) .log10 ((10 : Int) ^ k) 1 ((10 : Int) ^ 18) =
      F64.div (goLog10F (F64.ofInt ((10 : Int) ^ k))) (F64.ofInt 18) :=
  scale_log10_pow10 P2 P10 (by omega) (by decide) (by decide) (.inr rfl)

/-- a documented quirk, not a violation (the value stays in `[0,1]` and monotone): on a log10 scale the maximum itself need not
reach `1.0` – `Scale(10^15, 1, 10^15) = 1 - 2^-53` because `math.Log10(1e15) = 15 - 2^-49` while the remapped upper end is
`Ceil = 15`; its heat cell is colour 14 of 0…15, not 15.  Every power of two reaches `1.0` on a log2 scale. -/
theorem scale_log10_max_below_one :
    scale goArith .log10 1000000000000000 1 1000000000000000 = ⟨0x3FEFFFFFFFFFFFFF, by decide⟩ ∧
    bucket goArith 16 (scale goArith .log10 1000000000000000 1 1000000000000000) = 14 ∧
    scale goArith .log2 4611686018427387904 1 4611686018427387904 = F64.one ∧
    scale goArith .log10 1000 1 1000 = F64.one := by
  have a := scale_log10_pow10 id id (Nat.le_refl 15) (by decide) (by decide) (.inr rfl)
  have b := scale_log2_pow2 id id (Nat.le_refl 62) (by decide) (by decide) (.inr rfl)
  have c := scale_log10_pow10 id id (Nat.le_refl 3) (by decide) (by decide) (.inr rfl)
  rw [goLog10F_pow10 15 (by decide), show (10 : Int) ^ 15 = 1000000000000000 by decide] at a
  rw [goLog10F_pow10 3 (by decide), show (10 : Int) ^ 3 = 1000 by decide] at c
  rw [show (2 : Int) ^ 62 = 4611686018427387904 by decide] at b
  have a' := a.trans (show _ = (⟨0x3FEFFFFFFFFFFFFF, by decide⟩ : F64) by decide +kernel)
  refine ⟨a', ?_, b.trans (by decide +kernel), c.trans (by decide +kernel)⟩
  rw [show scale goArith .log10 1000000000000000 1 1000000000000000 = _ from a']
  decide +kernel

/-! ## bars -/

/-- `BarWrite` never panics and never writes more than `maxLen` glyphs (unicode eighth-blocks or `|`) -/
theorem bar_le_maxlen {L2 L10 : Rat → Rat} (h2 : LogLike L2) (h10 : LogLike L10) (env : Env) (k : Scaler) (val min max maxLen : Int)
    (hm : 0 ≤ maxLen) (hs : maxLen < 1000000000000000000) :
    ∃ glyphs, barWriteR (ratArith L2 L10) env (scale (ratArith L2 L10) k val min max) maxLen = .ok glyphs ∧
      (glyphs.length : Int) ≤ maxLen := by
  obtain ⟨a, b⟩ := scale_bounds h2 h10 k val min max
  have hl : ∀ n, 0 ≤ n → n ≤ maxLen * 9 → 0 ≤ lengthVal (ratArith L2 L10) n (scale (ratArith L2 L10) k val min max) ∧
      lengthVal (ratArith L2 L10) n (scale (ratArith L2 L10) k val min max) ≤ n := fun _ h0 _ => trunc_mul_bounds a b h0
  obtain ⟨rs, hrs, hlen⟩ := barWriteR_ok_of env hm hs hl
  exact ⟨rs, hrs, by rw [hlen]; exact (glyphCount_le_of env hm hs hl).2⟩

/-- a larger value never gives a shorter bar -/
theorem bar_monotone {L2 L10 : Rat → Rat} (h2 : LogLike L2) (h10 : LogLike L10) (env : Env) (k : Scaler) (val val' min max maxLen : Int)
    (hv : val ≤ val') (hm : 0 ≤ maxLen) (hs : maxLen < 1000000000000000000) :
    ∃ g g', barWriteR (ratArith L2 L10) env (scale (ratArith L2 L10) k val min max) maxLen = .ok g ∧
      barWriteR (ratArith L2 L10) env (scale (ratArith L2 L10) k val' min max) maxLen = .ok g' ∧ g.length ≤ g'.length := by
  obtain ⟨a, b⟩ := scale_bounds h2 h10 k val min max
  obtain ⟨a', b'⟩ := scale_bounds h2 h10 k val' min max
  obtain ⟨g, hg, hl⟩ := barWriteR_ok_of (A := ratArith L2 L10) env hm hs fun _ h0 _ => trunc_mul_bounds a b h0
  obtain ⟨g', hg', hl'⟩ := barWriteR_ok_of (A := ratArith L2 L10) env hm hs fun _ h0 _ => trunc_mul_bounds a' b' h0
  have := glyphCount_mono_of (A := ratArith L2 L10) env hm hs (trunc_mul_bounds a b (by omega)).1
    fun _ h0 _ => trunc_mul_mono a (scale_mono h2 h10 k min max hv) h0
  exact ⟨g, g', hg, hg', by omega⟩

/-- `BarWriteStacked` never panics: any running maximum (0 and negative included), any values -/
theorem stacked_no_panic (env : Env) (maxVal maxLen : Int) (vals : List Int) :
    ∃ b, barWriteStacked env maxVal maxLen vals = .ok b :=
  barWriteStacked_ok env maxVal maxLen vals

/-- each segment is the proportional length `⌊val·maxLen/maxVal⌋`, between 0 and `maxLen`, monotone in the value -/
theorem stacked_segment_proportional (val val' maxVal maxLen : Int) (hm : 0 ≤ maxLen) (hv : val ≤ val') :
    barBlocks val maxVal maxLen = Spec.propBar val maxVal maxLen ∧
    0 ≤ barBlocks val maxVal maxLen ∧ barBlocks val maxVal maxLen ≤ maxLen ∧
    barBlocks val maxVal maxLen ≤ barBlocks val' maxVal maxLen :=
  ⟨barBlocks_eq_spec _ _ _, barBlocks_nonneg _ _ _, barBlocks_le _ _ _ hm, barBlocks_mono _ _ hv⟩

/-- a whole stacked bar is at most `maxLen` wide when the running maximum covers the values that are
drawn (what `writeBarStacked` maintains after 0b7fa09, as long as that sum does not overflow int64) -/
theorem stacked_le_maxlen (maxVal maxLen : Int) (hm : 0 ≤ maxLen) (vals : List Int) (hcover : posSum vals ≤ maxVal) :
    stackedBlocks maxVal maxLen vals ≤ maxLen :=
  stackedBlocks_le maxVal maxLen hm vals hcover

/-! ## layout -/

/-- `Heatmap.WriteHeader` returns for every list of column names (empty names included) and limit:
the loop needs at most `colCount + 1` rounds and no index leaves its slice -/
theorem header_terminates (env : Env) (h : Heatmap) (names : List Bytes) :
    ∃ r, h.headerText env names = .ok r ∧ r.2 = mini (names.length : Int) h.colCount := by
  obtain ⟨r, hr⟩ := headerText_ok env h names
  exact ⟨r, hr, headerText_count env h names r hr⟩

/-- a spark row has exactly one glyph of the palette per displayed column, and never panics -/
theorem spark_rows_one_cell_per_col {L2 L10 : Rat → Rat} (h2 : LogLike L2) (h10 : LogLike L10) (env : Env) (k : Scaler)
    (vals : List Int) (min max : Int) :
    ∃ cells, sparkCells (ratArith L2 L10) env k vals min max = .ok cells ∧ cells.length = vals.length ∧
      ∀ c ∈ cells, IsSparkGlyph c :=
  sparkCells_ok_u (unitLaws_rat h2 h10) env k vals min max (fun _ _ => trivial) trivial trivial

/-- `spark_no_panic`: also with no displayed columns (the state repaired by 9780d5d) -/
theorem spark_no_panic {L2 L10 : Rat → Rat} (h2 : LogLike L2) (h10 : LogLike L10) (env : Env) (k : Scaler) (min max : Int) :
    sparkCells (ratArith L2 L10) env k [] min max = .ok [] ∧
    ∀ vals, ∃ cells, sparkCells (ratArith L2 L10) env k vals min max = .ok cells := by
  refine ⟨rfl, fun vals => ?_⟩
  obtain ⟨c, hc, _⟩ := sparkCells_ok_u (unitLaws_rat h2 h10) env k vals min max (fun _ _ => trivial) trivial trivial
  exact ⟨c, hc⟩

/-- a heatmap row has one cell per displayed column, and never panics -/
theorem heat_rows_one_cell_per_col {L2 L10 : Rat → Rat} (h2 : LogLike L2) (h10 : LogLike L10) (env : Env) (k : Scaler)
    (vals : List Int) (min max : Int) :
    ∃ cells, vals.mapM (fun v => heatWrite (ratArith L2 L10) env (scale (ratArith L2 L10) k v min max)) = .ok cells ∧
      cells.length = vals.length :=
  let ⟨cells, h, hl, _⟩ := mapM_ok_all (fun v => heatWrite (ratArith L2 L10) env (scale (ratArith L2 L10) k v min max)) (IsHeatCell env) vals
    fun v _ => (unitLaws_rat h2 h10).heatWrite_cell env (scale_bounds h2 h10 k v min max)
  ⟨cells, h, hl⟩

/-! ## table columns line up (every sequence of `WriteRow` / `WriteFooter` calls) -/

/-- the measure the renderers use (`color.StrLen`) is the visible width of the specification when
colours are on (runes outside `ESC … m` sequences), and the number of runes when they are off (then
nothing is an escape sequence: the bytes are shown as they are).  Widths are counted in runes: a
double-width rune counts as one cell, as everywhere in rare. -/
theorem strLen_is_visible_width (env : Env) (s : Bytes) :
    (env.color = true → strLen env s = (Spec.visLen s : Nat)) ∧
    (env.color = false → strLen env s = ((decodeUtf8 s).length : Nat)) :=
  ⟨strLen_colour env s, strLen_plain env s⟩

/-- `table_aligned`, the invariant.  From any state satisfying `TableInv` (in particular a new table),
EVERY sequence of `WriteRow(n ≥ 0, cells…)` and `WriteFooter(idx ≥ 0, line)` calls – any rows in any order,
rows rewritten, ragged rows, more cells than `maxCols`, rows at or beyond `maxRows`, any cell texts –
returns without panic in a state satisfying `TableInv` again:

* every written row is on the screen exactly as `writeRow` draws it with the CURRENT column widths
  (`drawn`: when a width grows, all active rows are re-drawn, so earlier rows never keep a stale layout),
* every displayed cell is at most as wide as its column (`fit`), column widths never shrink, never
  more than `maxCols` cells per row and `maxRows` rows,
* the table remembers the latest cells of every row (`rowsAfter`). -/
theorem table_aligned (env : Env) (t : TableWriter) (vt : VirtualTerm) (h : TableInv env t vt)
    (ops : List TableOp) (hops : ∀ op ∈ ops, op.NonNeg) :
    ∃ t' vt', TableWriter.runOps env (t, vt) ops = .ok (t', vt') ∧ TableInv env t' vt' ∧
      t'.maxCols = t.maxCols ∧ t'.maxRows = t.maxRows ∧ t.activeRows ≤ t'.activeRows ∧
      (∀ k, t.colWidth.getD k 0 ≤ t'.colWidth.getD k 0) ∧ t'.rows = rowsAfter t.maxRows t.rows ops :=
  runOps_inv env ops t vt h hops

/-- a new table (`NewTable(term, maxCols ≥ 0, maxRows ≥ 0)` on an empty terminal) satisfies the invariant -/
theorem table_new_invariant (env : Env) (mc mr : Int) (hmc : 0 ≤ mc) (hmr : 0 ≤ mr) :
    ∃ t, TableWriter.new mc mr = .ok t ∧ TableInv env t VirtualTerm.new ∧ t.maxCols = mc ∧ t.maxRows = mr ∧
      t.rows = List.replicate mr.toNat [] :=
  let ⟨t, h1, h2, h3, h4, h5, _⟩ := new_inv env mc mr hmc hmr
  ⟨t, h1, h2, h3, h4, h5⟩

/-- `table_aligned`, the consequence.  In a state satisfying `TableInv`, cell `k` of EVERY written row
`i` starts at the visible offset `Σ_{j<k} (colWidth[j] + 1)` – the same for all rows – and ends before
column `k + 1` starts; it is one of at most `maxCols` cells of one of at most `maxRows` rows.  The cell
texts are arbitrary (multi-byte, invalid or truncated UTF-8, colour sequences, longer than any earlier
cell); the only proviso is that the cells BEFORE it in its own row do not end inside a colour
sequence (an unterminated `ESC` swallows the padding blanks in `StrLen`'s own scan; `color.Wrap`ped
cells always end in a reset). -/
theorem table_columns_line_up (env : Env) (t : TableWriter) (vt : VirtualTerm) (h : TableInv env t vt)
    (i : Nat) (r : List Bytes) (hr : t.rows[i]? = some r) (k : Nat) (c : Bytes) (hc : (r.take t.maxCols.toNat)[k]? = some c)
    (hterm : ∀ j c', j < k → r[j]? = some c' → Terminated env c') :
    ∃ pre post, vt.lines[i]? = some (pre ++ c ++ post) ∧ strLen env pre = colOffset t.colWidth k ∧
      colOffset t.colWidth k + strLen env c < colOffset t.colWidth (k + 1) ∧
      (k : Int) < t.maxCols ∧ (i : Int) < t.maxRows :=
  table_cell_position env t vt h i r hr k c hc hterm

/-- the same in the words of the specification: the rendered rows are `Spec.Aligned` – one increasing
list of column offsets serves every row whose cells do not end inside a colour sequence -/
theorem table_aligned_spec (env : Env) (t : TableWriter) (vt : VirtualTerm) (h : TableInv env t vt)
    (rs : List (List Bytes × Bytes))
    (hrs : ∀ p ∈ rs, ∃ (i : Nat) (r : List Bytes), t.rows[i]? = some r ∧ vt.lines[i]? = some p.2 ∧ p.1 = r.take t.maxCols.toNat ∧
      ∀ c ∈ p.1, Terminated env c) :
    Spec.Aligned (strLen env) rs :=
  table_spec_aligned env t vt h rs hrs

/-! ## formatters: displayed numbers are the aggregated numbers under the chosen formatter -/

/-- `formatter_pure`: the formatter built by `termformat.FromExpression(expr)` is ONE compiled key evaluated
on the context of the call: its text depends on (value, min, max) of THIS call only, not on what was
formatted before; and that context answers `{0} {1} {2}` / `{val} {value} {min} {max}` with the decimal
value, minimum and maximum of this call (everything else is empty) -/
theorem formatter_pure (reg : Expr.Registry) (expr : List Char) (f : Fmt) (errs : List Expr.CErr)
    (h : Fmt.ofExpression reg expr = .ok (f, errs)) :
    (∃ stages, ∀ v mn mx, f.apply v mn mx = exprFormat stages v mn mx) ∧
    (∀ v mn mx : Int, (formatCtx v mn mx).getMatch 0 = itoa v ∧ (formatCtx v mn mx).getMatch 1 = itoa mn ∧
      (formatCtx v mn mx).getMatch 2 = itoa mx ∧ (∀ i, i < 0 ∨ 2 < i → (formatCtx v mn mx).getMatch i = []) ∧
      (formatCtx v mn mx).getKey (ascii "val") = itoa v ∧ (formatCtx v mn mx).getKey (ascii "value") = itoa v ∧
      (formatCtx v mn mx).getKey (ascii "min") = itoa mn ∧ (formatCtx v mn mx).getKey (ascii "max") = itoa mx) := by
  constructor
  · unfold Fmt.ofExpression at h
    split at h
    · cases h
    · rename_i stages errs' _
      cases h
      exact ⟨stages, fun _ _ _ => rfl⟩
  · intro v mn mx
    have e1 : ¬ (ascii "min" = ascii "val" ∨ ascii "min" = ascii "value") := by decide +kernel
    have e2 : ¬ (ascii "max" = ascii "val" ∨ ascii "max" = ascii "value") := by decide +kernel
    have e3 : ¬ (ascii "max" = ascii "min") := by decide +kernel
    refine ⟨rfl, rfl, rfl, ?_, ?_, ?_, ?_, ?_⟩
    · intro i hi
      show (if i = 0 then itoa v else if i = 1 then itoa mn else if i = 2 then itoa mx else []) = []
      rw [if_neg (by omega), if_neg (by omega), if_neg (by omega)]
    · show (if ascii "val" = ascii "val" ∨ ascii "val" = ascii "value" then itoa v else _) = _
      rw [if_pos (Or.inl rfl)]
    · show (if ascii "value" = ascii "val" ∨ ascii "value" = ascii "value" then itoa v else _) = _
      rw [if_pos (Or.inr rfl)]
    · show (if ascii "min" = ascii "val" ∨ ascii "min" = ascii "value" then itoa v else if ascii "min" = ascii "min" then itoa mn else _) = _
      rw [if_neg e1, if_pos rfl]
    · show (if ascii "max" = ascii "val" ∨ ascii "max" = ascii "value" then itoa v else if ascii "max" = ascii "min" then itoa mn
        else if ascii "max" = ascii "max" then itoa mx else _) = _
      rw [if_neg e2, if_neg e3, if_pos rfl]

/-- Displayed numbers, histogram: `writeLine` never panics (any key, count, scale, switches) and the line
starts with the padded key and `Formatter(count, 0, maxVal)` for the CURRENT running maximum -/
theorem histo_line_number {L2 L10 : Rat → Rat} (h2 : LogLike L2) (h10 : LogLike L10) (env : Env) (h : Histo) (vt : VirtualTerm)
    (ho : vt.closed = false) (line : Nat) (key : Bytes) (val : Int) :
    ∃ vt' tail, h.writeLine (ratArith L2 L10) env vt (line : Int) key val = .ok vt' ∧ vt'.closed = false ∧
      vt'.lines[line]? = some (wrap env cYellow (padVis env key h.textSpacing) ++ ascii "    " ++
        padRight (h.fmt.apply val 0 h.maxVal) 10 ++ tail) ∧
      (∀ j x, j ≠ line → vt.lines[j]? = some x → vt'.lines[j]? = some x) := by
  rw [histo_writeLine_eq (unitLaws_rat h2 h10) env h vt line key val trivial trivial]
  obtain ⟨tail, ht, _⟩ := histo_lineText_shape (A := ratArith L2 L10) env h key val
  obtain ⟨vt', hw, ho', hl, hk⟩ := vt_write_ok vt ho line (h.lineText (ratArith L2 L10) env key val)
  exact ⟨vt', tail, hw, ho', by rw [hl, ht]; rfl, hk⟩

/-- Displayed numbers, stacked bar graph: `writeBarStacked` never panics and the line ends with
`Formatter(total, 0, maxLineVal)` for the running maximum AFTER this row raised it -/
theorem bars_stacked_number (env : Env) (g : BarGraph) (vt : VirtualTerm) (ho : vt.closed = false) (idx : Nat) (key : Bytes)
    (vals : List Int) (hp : 0 ≤ g.prefixLines) (hsm : g.prefixLines < 9223372036854775808 - idx) :
    ∃ g' vt' pre, g.writeBarStacked env vt (idx : Int) key vals = .ok (g', vt') ∧ vt'.closed = false ∧
      g'.maxLineVal = (if sumPositive vals > g.maxLineVal then sumPositive vals else g.maxLineVal) ∧
      vt'.lines[idx + g.prefixLines.toNat]? = some (pre ++ ascii "  " ++ g'.fmt.apply (sumWrap vals) 0 g'.maxLineVal) :=
  bars_stacked_line env g vt ho idx key vals hp hsm

/-- Displayed numbers, data table (`rare tabulate`), on ANY aggregated state and limits ≥ 0: no panic,
the table invariant (so `table_columns_line_up` applies), and the table holds the header, one row per
DISPLAYED row – the key, `Formatter(value, min, max)` of every displayed column with the range of the
CURRENT state (`ComputeMinMax` when a formatter was set), the formatted row sum – and the totals row -/
theorem datatable_numbers (env : Env) (d : DataTable) (vt : VirtualTerm) (hinv : TableInv env d.table vt)
    (hnc : 0 ≤ d.numCols) (hnr : 0 ≤ d.numRows) (hmr : d.table.maxRows = d.numRows + 2)
    (rkeys ckeys : List Bytes) (c : Cells) :
    ∃ d' vt', d.writeTable env vt rkeys ckeys c = .ok (d', vt') ∧ TableInv env d'.table vt' ∧
      d'.table.rows[0]? = some (d.headerCells env ckeys (c.cols.take d.numCols.toNat)) ∧
      (∀ (i : Nat) (r : Nat), (c.rows.take d.numRows.toNat)[i]? = some r →
        ∃ row, d'.table.rows[i + 1]? = some row ∧ row.length = (c.cols.take d.numCols.toNat).length + 2 ∧
          row[0]? = some (wrap env cYellow (keyAt rkeys r)) ∧
          (∀ (j k : Nat), (c.cols.take d.numCols.toNat)[j]? = some k →
            row[j + 1]? = some (d.fmt.apply (c.value r k) (d.range c).1 (d.range c).2)) ∧
          (d.showRowTotals = true → row[(c.cols.take d.numCols.toNat).length + 1]? =
            some (wrap env cBrightBlack (d.fmt.apply (c.rowSum r) (d.range c).1 (d.range c).2)))) ∧
      (d.showColTotals = true →
        d'.table.rows[(c.rows.take d.numRows.toNat).length + 1]? = some (d.totalCells env c (c.cols.take d.numCols.toNat))) := by
  obtain ⟨d', vt', h1, h2, h3, h4, h5⟩ := datatable_render env d vt hinv hnc hnr hmr rkeys ckeys c
  refine ⟨d', vt', h1, h2, h3, ?_, h5⟩
  intro i r hi
  obtain ⟨c1, c2, c3, c4⟩ := datatable_cells env d rkeys c (c.cols.take d.numCols.toNat) r
  exact ⟨_, h4 i r hi, c1, c2, c3, c4⟩

/-- reduce table (`rare reduce`, table path, after 73473fc), ANY group keys and data texts: no panic – in
particular for a key with more NUL-separated parts than group columns –, the table invariant, and row
`i + 1` has exactly `GroupColCount + DataColCount` cells: the first parts of the key, then the data -/
theorem reduce_render_ok (env : Env) (r : Reduce) (vt : VirtualTerm) (hinv : TableInv env r.table vt)
    (groups : List (Bytes × List Bytes)) (f0 f1 : Bytes) :
    ∃ r' vt', r.render env vt groups f0 f1 = .ok (r', vt') ∧ TableInv env r'.table vt' ∧
      r'.gnames = r.gnames ∧ r'.dnames = r.dnames ∧ r'.table.maxRows = r.table.maxRows ∧
      (∀ (i : Nat) (g : Bytes × List Bytes), groups[i]? = some g → ((i : Int) + 1 < r.table.maxRows) →
        ∃ row, r'.table.rows[i + 1]? = some row ∧ row.length = r.gnames.length + r.dnames.length ∧
          (∀ (j : Nat) (part : Bytes), j < r.gnames.length → (groupParts g.1)[j]? = some part →
            row[j]? = some (wrap env cBrightWhite part)) ∧
          (∀ (j : Nat) (x : Bytes), j < r.dnames.length → g.2[j]? = some x → row[r.gnames.length + j]? = some x)) := by
  obtain ⟨r', vt', h1, h2, h3, h4, h5, h6⟩ := reduce_render env r vt hinv groups f0 f1
  refine ⟨r', vt', h1, h2, h3, h4, h5, ?_⟩
  intro i g hg hlt
  exact ⟨_, h6 i g hg hlt, reduce_rowCells_length env r g.1 g.2,
    fun j part hj hp => reduce_rowCells_parts env r g.1 g.2 j part hj hp,
    fun j x hj hx => reduce_rowCells_data env r g.1 g.2 j x hj hx⟩

/-- reduce table, "displayed numbers equal the aggregated numbers" for the GROUP LABEL of every row: after a render
callback on ANY table state (so: in every frame, whatever earlier frames and earlier rows of this frame wrote) the group
cells of row `i + 1` are the first `GroupColCount` parts of the key of group `i` itself and BLANK for every group column
the key has no part for – in particular the row of the empty group value (no parts at all) carries an empty label
wherever it stands (seeded change C14-reduce-rowbuf-hoisted: `rare reduce -g` with an empty group value under
`--sort-reverse`, or written first in a second frame, showed the label of the row written before it) -/
theorem reduce_row_shows_own_group (env : Env) (r : Reduce) (vt : VirtualTerm) (hinv : TableInv env r.table vt)
    (groups : List (Bytes × List Bytes)) (f0 f1 : Bytes) :
    ∃ r' vt', r.render env vt groups f0 f1 = .ok (r', vt') ∧
      (∀ (i : Nat) (g : Bytes × List Bytes), groups[i]? = some g → ((i : Int) + 1 < r.table.maxRows) →
        ∃ row, r'.table.rows[i + 1]? = some row ∧
          row.take r.gnames.length = ((groupParts g.1).take r.gnames.length).map (wrap env cBrightWhite) ++
            List.replicate (r.gnames.length - ((groupParts g.1).take r.gnames.length).length) [] ∧
          (g.1 = [] → row.take r.gnames.length = List.replicate r.gnames.length [])) := by
  obtain ⟨r', vt', h1, _, _, _, _, h6⟩ := reduce_render env r vt hinv groups f0 f1
  refine ⟨r', vt', h1, ?_⟩
  intro i g hg hlt
  refine ⟨_, h6 i g hg hlt, rowCells_group_cells env r g.1 g.2, ?_⟩
  intro he
  rw [rowCells_group_cells, he]
  simp [groupParts]

/-- SEVERAL FRAMES (`helpers.RunAggregationLoop` runs the render callback on every 100 ms tick and once at the end, all into
the same table): for ANY sequence of frames – each with the sorted groups and data of its moment, groups appearing, rows
moving – every callback returns, the table invariant holds, and the table finally shows the LAST frame: row `i + 1` has
exactly the cells of group `i` of the last frame, with that group's own label (blank for the empty group value),
whatever the earlier frames left in that row -/
theorem reduce_frames_show_last (env : Env) (f0 f1 : Bytes) (frames : List (List (Bytes × List Bytes))) (last : List (Bytes × List Bytes))
    (r : Reduce) (vt : VirtualTerm) (hinv : TableInv env r.table vt) :
    ∃ r' vt', Reduce.renderAll env f0 f1 (r, vt) (frames ++ [last]) = .ok (r', vt') ∧ TableInv env r'.table vt' ∧
      (∀ (i : Nat) (g : Bytes × List Bytes), last[i]? = some g → ((i : Int) + 1 < r.table.maxRows) →
        ∃ row, r'.table.rows[i + 1]? = some row ∧ row = r.rowCells env g.1 g.2 ∧
          row.take r.gnames.length = ((groupParts g.1).take r.gnames.length).map (wrap env cBrightWhite) ++
            List.replicate (r.gnames.length - ((groupParts g.1).take r.gnames.length).length) []) := by
  obtain ⟨r', vt', h1, h2, _, _, _, h6⟩ := reduce_renderAll env f0 f1 frames last r vt hinv
  exact ⟨r', vt', h1, h2, fun i g hg hlt => ⟨_, h6 i g hg hlt, rfl, rowCells_group_cells env r g.1 g.2⟩⟩

/-- why the row loop allocates: one iteration of the loop on a FRESH buffer (`make([]string, ColCount)`, all cells
empty) writes exactly the cells the model hands to `WriteRow` – every key, every data list (shorter, longer) -/
theorem reduce_fresh_buffer (env : Env) (r : Reduce) (key : Bytes) (data : List Bytes) :
    r.fillRow env (List.replicate (r.gnames.length + r.dnames.length) []) key data = r.rowCells env key data :=
  fillRow_fresh env r key data

/-- boundary (kernel-checked): with ONE buffer for all rows the same loop shows a foreign label.  Groups `alpha` (11) and
the empty group (5) in this order (`--sort-reverse`): the second row reads `alpha 5`; per-row buffers give an empty label -/
theorem reduce_shared_buffer_counterexample :
    let r : Reduce := { table := ⟨10, 20, 0, List.replicate 10 0, List.replicate 20 []⟩, gnames := [ascii "grp"], dnames := [ascii "total"] }
    let groups : List (Bytes × List Bytes) := [(ascii "alpha", [ascii "11"]), ([], [ascii "5"])]
    Reduce.rowsShared ⟨false, true⟩ r (List.replicate 2 []) groups = [[ascii "alpha", ascii "11"], [ascii "alpha", ascii "5"]] ∧
    groups.map (fun g => r.rowCells ⟨false, true⟩ g.1 g.2) = [[ascii "alpha", ascii "11"], [[], ascii "5"]] := by
  decide +kernel

/-! ## histogram and bar graph as whole renderers: every displayed row is drawn at the CURRENT scale

Stated once for every instance `A` of the float operations that satisfies `UnitLaws A Dom Unit le` – exact rationals
(`float_laws_rat`) and IEEE binary64 on int64 values (`float_laws_f64`).  `Dom` is the set of integers the instance
handles (all of them / int64). -/

/-- a new histogram (`NewHistogram(term, maxLines)`) on an empty terminal satisfies the redraw invariant -/
theorem histo_new_invariant {α : Type} {A : Arith α} {Dom : Int → Prop} {Unit : α → Prop} {le : α → α → Prop} (U : UnitLaws A Dom Unit le)
    (env : Env) (maxLines : Int) (showBar showPct : Bool) (scaler : Scaler) (fmt : Fmt) (h : Histo)
    (hn : Histo.new maxLines showBar showPct scaler fmt = .ok h) :
    HistoInv A Dom env h VirtualTerm.new ∧ (h.items.length : Int) = maxLines ∧ h.maxVal = 0 :=
  histo_new_inv U env maxLines showBar showPct scaler fmt h hn

/-- `histo_redraw_invariant`.  From any state satisfying `HistoInv` (a new histogram, or the state after any calls),
EVERY sequence of `WriteForLine(n, key, val)` / `UpdateTotal(total)` calls – ANY line numbers `n ≥ 0` in any order (a line
at or beyond `maxLines` is ignored, 4855857: no hypothesis on `n` is left), lines rewritten, keys that widen the key column, values that raise the running maximum, zero and negative
values (7b183e0) – returns in a state satisfying `HistoInv` again:

* every written line `i` shows its latest `(key, value)` drawn with the CURRENT state of the writer
  (`drawn`: `lines[i] = lineText h key value`; a wider key or a larger value redraws ALL written lines, so no line
  keeps a stale key column, maximum or total),
* the running maximum covers every row, the key column every key; the settings never change, the
  running maximum and the key column only grow. -/
theorem histo_redraw_invariant {α : Type} {A : Arith α} {Dom : Int → Prop} {Unit : α → Prop} {le : α → α → Prop} (U : UnitLaws A Dom Unit le)
    (env : Env) (h : Histo) (vt : VirtualTerm) (hinv : HistoInv A Dom env h vt) (ops : List HistoOp)
    (hops : ∀ op ∈ ops, op.Valid Dom) :
    ∃ vt', Histo.runOps A env (h, vt) ops = .ok (h.stateAfterAll env ops, vt') ∧ HistoInv A Dom env (h.stateAfterAll env ops) vt' ∧
      h.SameConfig (h.stateAfterAll env ops) ∧ h.maxVal ≤ (h.stateAfterAll env ops).maxVal ∧
      h.textSpacing ≤ (h.stateAfterAll env ops).textSpacing := by
  obtain ⟨vt', h1, h2⟩ := histo_runOps_inv U env ops h vt hinv hops
  obtain ⟨c, m, t⟩ := histo_stateAfterAll_config env ops h
  exact ⟨vt', h1, h2, c, m, t⟩

/-- what `HistoInv` says of a written line: it starts with the key padded to the CURRENT key column and
`Formatter(value, 0, maxVal)` for the CURRENT running maximum, which covers the value; and when bars are shown the
line ends with the bar `BarWrite(Scale(value, 0, maxVal), 50)` for that same maximum – at most 50 glyphs -/
theorem histo_rows_current_scale {α : Type} {A : Arith α} {Dom : Int → Prop} {Unit : α → Prop} {le : α → α → Prop} (U : UnitLaws A Dom Unit le)
    (env : Env) (h : Histo) (vt : VirtualTerm) (hinv : HistoInv A Dom env h vt) (i : Nat) (key : Bytes) (val : Int)
    (hi : h.items[i]? = some (some (key, val))) :
    ∃ tail, vt.lines[i]? = some (wrap env cYellow (padVis env key h.textSpacing) ++ ascii "    " ++
        padRight (h.fmt.apply val 0 h.maxVal) 10 ++ tail) ∧
      val ≤ h.maxVal ∧ strLen env key ≤ h.textSpacing ∧
      (h.showBar = true ∧ h.maxVal > 0 → ∃ mid glyphs, tail = mid ++ [32] ++ colorWrite env cBlue (glyphs.flatMap encodeRune) ∧
        barWriteR A env (scale A h.scaler val 0 h.maxVal) 50 = .ok glyphs ∧
        (glyphs.length : Int) = glyphCount A env 50 (scale A h.scaler val 0 h.maxVal) ∧ glyphs.length ≤ 50) := by
  obtain ⟨tail, ht, hbar, _⟩ := histo_lineText_shape (A := A) env h key val
  refine ⟨tail, ?_, hinv.max_cover i key val hi, hinv.key_cover i key val hi, ?_⟩
  · rw [hinv.drawn i key val hi, ht]; rfl
  · intro hb
    obtain ⟨mid, hm⟩ := hbar hb
    obtain ⟨rs, h1, h2, h3, h4⟩ := histo_bar_shape U env h val (hinv.dom_items i key val hi) hinv.dom_max
    exact ⟨mid, rs, by rw [hm, h2], h1, h3, h4⟩

/-- the bars of one histogram are proportional to each other: of two written lines the one with the larger
value never has the shorter bar (both are scaled with the one current maximum) -/
theorem histo_bars_proportional {α : Type} {A : Arith α} {Dom : Int → Prop} {Unit : α → Prop} {le : α → α → Prop} (U : UnitLaws A Dom Unit le)
    (env : Env) (h : Histo) (vt : VirtualTerm) (hinv : HistoInv A Dom env h vt) (i i' : Nat) (key key' : Bytes) (val val' : Int)
    (hi : h.items[i]? = some (some (key, val))) (hi' : h.items[i']? = some (some (key', val'))) (hvv : val ≤ val') :
    glyphCount A env 50 (scale A h.scaler val 0 h.maxVal) ≤ glyphCount A env 50 (scale A h.scaler val' 0 h.maxVal) :=
  histo_bars_monotone U env h val val' (hinv.dom_items i key val hi) (hinv.dom_items i' key' val' hi') hinv.dom_max hvv

/-- `histo_render_current_scale`: ONE RENDER of `rare histo` (`writeHistoOutput`: `UpdateTotal`, then `WriteForLine` for
every item with at least `atLeast` samples) from any state satisfying the invariant – a new histogram, or the
state after ANY NUMBER of earlier renders with a growing running maximum: it returns, the invariant holds
again, and line `i` shows the `i`-th displayed item drawn with the FINAL state (`histo_rows_current_scale`
says what that is: the number is `Formatter(value, 0, current max)`) -/
theorem histo_render_current_scale {α : Type} {A : Arith α} {Dom : Int → Prop} {Unit : α → Prop} {le : α → α → Prop} (U : UnitLaws A Dom Unit le)
    (env : Env) (h : Histo) (vt : VirtualTerm) (hinv : HistoInv A Dom env h vt) (items : List (Bytes × Int)) (total atLeast : Int)
    (hdom : ∀ it ∈ items, Dom it.2) (hfit : (histoShown items atLeast).length ≤ h.items.length) :
    ∃ h' vt', h.writeOutput A env vt items total atLeast = .ok (h', vt') ∧ HistoInv A Dom env h' vt' ∧
      h.SameConfig h' ∧ h.maxVal ≤ h'.maxVal ∧
      (∀ (i : Nat) (it : Bytes × Int), (histoShown items atLeast)[i]? = some it →
        h'.items[i]? = some (some it) ∧ vt'.lines[i]? = some (h'.lineText A env it.1 it.2) ∧ it.2 ≤ h'.maxVal) := by
  obtain ⟨vt', h1, h2⟩ := histo_writeOutput_inv U env h vt hinv items total atLeast hdom hfit
  obtain ⟨c, m, _⟩ := histo_stateAfterAll_config env (histoOutputOps items total atLeast) h
  refine ⟨_, vt', h1, h2, c, m, ?_⟩
  intro i it hi
  have hr := histo_render_rows env h items total atLeast hfit i it hi
  exact ⟨hr, h2.drawn i it.1 it.2 hr, h2.max_cover i it.1 it.2 hr⟩

/-- a new bar graph (`NewBarGraph` with the command's settings) on an empty terminal: the running maximum covers
the (no) stored rows -/
theorem bars_new_invariant {α : Type} {A : Arith α} {Dom : Int → Prop} {Unit : α → Prop} {le : α → α → Prop} (U : UnitLaws A Dom Unit le)
    (stacked : Bool) (barSize : Int) (scaler : Scaler) (fmt : Fmt) (hb : 0 ≤ barSize) (hb' : barSize ≤ 1000000000000000) :
    BarPre Dom ({ stacked := stacked, barSize := barSize, scaler := scaler, fmt := fmt } : BarGraph) VirtualTerm.new :=
  bars_new_pre U stacked barSize scaler fmt hb hb'

/-- `bars_render_current_scale`: ONE RENDER of `rare bars` (`SetKeys(subKeys…)`, then `WriteBar(i, key_i, vals_i…)` for the
rows in order, as `cmd/bargraph.go` does) from ANY state in which the running maximum covers the stored rows
(`BarPre`: a new graph, or the state after ANY NUMBER of earlier renders – also with fewer sub-keys): it returns,
`BarPre` holds again, the running maximum only grew, and EVERY row of this render is stored and drawn
(`RowDrawn`, see `bars_drawn_row_shape`) with the FINAL running maximum – whichever `WriteBar` calls raised the
maximum or widened the key column and redrew the graph on the way (cde79bf): the bars of one graph are proportional
to each other, every number is `Formatter(value, 0, final max)`, and every row is drawn with the ONE final key column
width `g'.cfg.keyw = maxKeyLength`, which covers the key of every row of the render (`bars_key_column_aligned` turns
this into visible offsets).  Grouped rows have at most one value per sub-key. -/
theorem bars_render_current_scale {α : Type} {A : Arith α} {Dom : Int → Prop} {Unit : α → Prop} {le : α → α → Prop} (U : UnitLaws A Dom Unit le)
    (env : Env) (g : BarGraph) (vt : VirtualTerm) (hpre : BarPre Dom g vt) (subKeys : List Bytes) (rows : List (Bytes × List Int))
    (hrows : ∀ row ∈ rows, (∀ v ∈ row.2, Dom v) ∧ (g.stacked = true ∨ row.2.length ≤ subKeys.length))
    (N : Nat) (hN : g.rows.length + rows.length ≤ N)
    (hgeo : g.prefixLines.toNat + 1 + (N + 1) * (subKeys.length + 1) < 4611686018427387904) :
    ∃ g' vt', g.writeOutput A env vt subKeys rows = .ok (g', vt') ∧ BarPre Dom g' vt' ∧
      (∀ (i : Nat) (row : Bytes × List Int), rows[i]? = some row → g'.rows[i]? = some row ∧ RowDrawn A env g'.cfg vt' i row) ∧
      g'.cfg.stacked = g.stacked ∧ g'.cfg.nsub = subKeys.length ∧ g'.cfg.scaler = g.scaler ∧ g'.cfg.fmt = g.fmt ∧
      g'.cfg.barSize = g.barSize ∧ g'.cfg.max = g'.maxLineVal ∧ g.maxLineVal ≤ g'.maxLineVal ∧
      (g'.cfg.first = g.prefixLines.toNat ∨ g'.cfg.first = 1) ∧
      g'.cfg.keyw = g'.maxKeyLength ∧ g.maxKeyLength ≤ g'.maxKeyLength ∧ (∀ row ∈ rows, strLen env row.1 ≤ g'.maxKeyLength) :=
  bars_render_inv U env g vt hpre subKeys rows hrows N hN hgeo

/-- what `RowDrawn` says, spelled out.  Stacked: the row's one line is the key, the bar
`BarWriteStacked(max, BarSize, values)` and `Formatter(sum, 0, max)`.  Grouped: line `j` of the row is the key or
the indentation, the bar `BarWrite(Scale(values[j], 0, max), BarSize)` – at most `BarSize` glyphs –, a blank and
`Formatter(values[j], 0, max)`: all for the ONE running maximum `max` of the configuration -/
theorem bars_drawn_row_shape {α : Type} {A : Arith α} {Dom : Int → Prop} {Unit : α → Prop} {le : α → α → Prop} (U : UnitLaws A Dom Unit le)
    (env : Env) (c : BarCfg) (vt : VirtualTerm) (i : Nat) (row : Bytes × List Int) (h : RowDrawn A env c vt i row)
    (hd : ∀ v ∈ row.2, Dom v) (hm : Dom c.max) (hb : 0 ≤ c.barSize) (hb' : c.barSize ≤ 1000000000000000) :
    (c.stacked = true → ∃ bar, vt.lines[c.first + i]? = some (wrap env cYellow (padVis env row.1 c.keyw) ++ ascii "  " ++ bar ++ ascii "  " ++
        c.fmt.apply (sumWrap row.2) 0 c.max) ∧ barWriteStacked env c.max c.barSize row.2 = .ok bar) ∧
    (c.stacked = false → ∀ (j : Nat) (v : Int), row.2[j]? = some v → ∃ glyphs,
        vt.lines[c.first + i * c.nsub + j]? = some ((if j > 0 then spaces (c.keyw + 2) else wrap env cYellow (padVis env row.1 c.keyw) ++ ascii "  ") ++
          colorWrite env (groupColors.getD (j % groupColors.length) []) (glyphs.flatMap encodeRune) ++
          [32] ++ c.fmt.apply v 0 c.max) ∧
        barWriteR A env (scale A c.scaler v 0 c.max) c.barSize = .ok glyphs ∧ (glyphs.length : Int) ≤ c.barSize) := by
  unfold RowDrawn at h
  constructor
  · intro hs
    rw [if_pos hs] at h
    have hw := h
    obtain ⟨bar, hbar⟩ := barWriteStacked_ok env c.max c.barSize row.2
    refine ⟨bar, ?_, hbar⟩
    have e : c.rowStart i = c.first + i := by simp [BarCfg.rowStart, BarCfg.slot, hs]
    rw [← e, hw]
    unfold BarCfg.stackedText
    simp only [hbar]
  · intro hs j v hj
    rw [if_neg (by simp [hs])] at h
    have hw := h j v hj
    obtain ⟨rs, h1, h2, _, h4⟩ := bars_bar_shape U env c v (hd v (List.mem_of_getElem? hj)) hm hb hb'
    refine ⟨rs, ?_, h1, h4⟩
    have e : c.rowStart i = c.first + i * c.nsub := by simp [BarCfg.rowStart, BarCfg.slot, hs]
    rw [← e, hw]
    unfold BarCfg.groupedText
    rw [h2]

/-- THE GROUPED-BARS LINE THEOREM (companion of `bars_stacked_number`): `writeBarGrouped(idx, key, vals…)` on any state, any
values in the domain: it returns; the running maximum is first raised to the row's largest value; line `j` of the
row shows `vals[j]` drawn with the maximum AFTER raising (bar and `Formatter(vals[j], 0, max')`); no other line changes -/
theorem bars_grouped_number {α : Type} {A : Arith α} {Dom : Int → Prop} {Unit : α → Prop} {le : α → α → Prop} (U : UnitLaws A Dom Unit le)
    (env : Env) (g : BarGraph) (vt : VirtualTerm) (ho : vt.closed = false) (i : Nat) (key : Bytes)
    (vals : List Int) (hdom : ∀ v ∈ vals, Dom v) (hm : Dom g.maxLineVal) (hk : 0 ≤ g.maxKeyLength)
    (hb : 0 ≤ g.barSize) (hb' : g.barSize ≤ 1000000000000000) (hp : 0 ≤ g.prefixLines)
    (hsm : g.prefixLines.toNat + i * g.subKeys.length + g.subKeys.length < 4611686018427387904) :
    ∃ m vt', g.writeBarGrouped A env vt (i : Int) key vals = .ok (({ g with maxLineVal := groupedMax g vals } : BarGraph).withMaxRows m, vt') ∧
      vt'.closed = false ∧ g.maxLineVal ≤ groupedMax g vals ∧ (∀ v ∈ vals, v ≤ groupedMax g vals) ∧
      (∀ (j : Nat) (v : Int), vals[j]? = some v →
        vt'.lines[g.prefixLines.toNat + i * g.subKeys.length + j]? =
          some (({ g with maxLineVal := groupedMax g vals } : BarGraph).cfg.groupedText A env g.maxKeyLength key j v)) ∧
      (∀ x y, (x < g.prefixLines.toNat + i * g.subKeys.length ∨ g.prefixLines.toNat + i * g.subKeys.length + vals.length ≤ x) →
        vt.lines[x]? = some y → vt'.lines[x]? = some y) :=
  bars_grouped_line U env g vt ho i key vals hdom hm hk hb hb' hp hsm

/-- THE VISIBLE WIDTH OF A WHOLE HEATMAP ROW: `Heatmap.WriteRow(idx, name, cols)` returns, widens the row-key column to the key
when needed, and the line it writes – coloured key, blanks, ONE heat cell per value – is exactly
`maxRowKeyWidth + 1 + len(values)` cells wide (`color.StrLen`): the cells start in visible column `maxRowKeyWidth + 1`,
one column per value – colour on or off, unicode or ASCII, multi-byte keys, keys with terminated colour sequences -/
theorem heat_row_visible_width {α : Type} {A : Arith α} {Dom : Int → Prop} {Unit : α → Prop} {le : α → α → Prop} (U : UnitLaws A Dom Unit le)
    (env : Env) (h : Heatmap) (vt : VirtualTerm) (ho : vt.closed = false) (idx : Nat) (name : Bytes) (vals : List Int)
    (ht : Terminated env name) (hd : ∀ v ∈ vals, Dom v) (hmn : Dom h.minVal) (hmx : Dom h.maxVal) :
    ∃ h' vt' line cells, h.writeRow A env vt (idx : Int) name vals = .ok (h', vt') ∧ vt'.closed = false ∧
      vt'.lines[2 + idx]? = some line ∧
      h'.maxRowKeyWidth = (if strLen env name > h.maxRowKeyWidth then strLen env name else h.maxRowKeyWidth) ∧
      line = wrap env cYellow name ++ writeRepeat 32 (h'.maxRowKeyWidth - strLen env name + 1) ++ List.flatten cells ∧
      cells.length = vals.length ∧ (∀ c ∈ cells, IsHeatCell env c) ∧
      strLen env line = h'.maxRowKeyWidth + 1 + vals.length ∧
      (∀ j x, j ≠ 2 + idx → vt.lines[j]? = some x → vt'.lines[j]? = some x) :=
  heat_writeRow_width U env h vt ho idx name vals ht hd hmn hmx

/-! ## the key column of the histogram and the bar graph lines up (f0d0278, cde79bf)

Widths are in the unit the code counts: `color.StrLen` (runes outside colour sequences; a double-width rune is one).
`StartsAt env line off rest`: `line = pre ++ rest` with `pre` exactly `off` cells wide and not ending inside a colour sequence.
Keys are arbitrary bytes (multi-byte, truncated UTF-8, with colour sequences such as `{color red {1}}` produces); the only
proviso is `Terminated`: the key does not END inside a colour sequence (`key_column_unterminated_counterexample`). -/

/-- THE KEY CELL of a histogram / bar graph line: the coloured key padded with `padVisible` to the key column width `w` and
followed by `gap ≥ 1` blanks is EXACTLY `w + gap` cells wide, for every key at most `w` wide; `padVisible` itself gives
`max(w, StrLen(key))` cells -/
theorem key_cell_width (env : Env) (key : Bytes) (w : Int) (gap : Nat) (ht : Terminated env key) :
    strLen env (padVis env key w) = (if strLen env key ≤ w then w else strLen env key) ∧
    (strLen env key ≤ w → strLen env (wrap env cYellow (padVis env key w) ++ List.replicate (gap + 1) (32 : UInt8)) = w + (gap + 1 : Nat)) :=
  ⟨(padVis_props env key w ht).1, fun hw => (keyCell_width env key w gap ht hw).1⟩

/-- `histo_key_column_aligned`: in EVERY state the histogram can reach (`HistoInv`: a new histogram after any sequence of
`WriteForLine` / `UpdateTotal` calls, `histo_redraw_invariant`), the number of EVERY written line starts at the same visible
offset `textSpacing + 4` – the current key column width, which covers every key – whatever keys were written in whatever
order (a longer key re-draws all lines) -/
theorem histo_key_column_aligned {α : Type} {A : Arith α} {Dom : Int → Prop} (env : Env) (h : Histo) (vt : VirtualTerm)
    (hinv : HistoInv A Dom env h vt) (i : Nat) (key : Bytes) (val : Int) (hi : h.items[i]? = some (some (key, val)))
    (ht : Terminated env key) :
    ∃ line tail, vt.lines[i]? = some line ∧ StartsAt env line (h.textSpacing + 4) (h.fmt.apply val 0 h.maxVal ++ tail) := by
  obtain ⟨tail, hs⟩ := histo_line_number_at env h key val A ht (hinv.key_cover i key val hi)
  exact ⟨_, tail, hinv.drawn i key val hi, hs⟩

/-- `bars_key_column_aligned`: on every line of a drawn row (`RowDrawn`, e.g. every row of a render, `bars_render_current_scale`)
whose key the key column covers, the bar starts at visible offset `keyw + 2`: after the padded key on the first line,
after the indentation on the lower lines of a grouped row -/
theorem bars_key_column_aligned {α : Type} {A : Arith α} (env : Env) (c : BarCfg) (vt : VirtualTerm) (i : Nat) (row : Bytes × List Int)
    (h : RowDrawn A env c vt i row) (ht : Terminated env row.1) (hw : strLen env row.1 ≤ c.keyw) (h0 : 0 ≤ c.keyw) :
    (c.stacked = true → ∃ line, vt.lines[c.rowStart i]? = some line ∧ StartsAt env line (c.keyw + 2) (c.stackedRest env row.2)) ∧
    (c.stacked = false → ∀ (j : Nat) (v : Int), row.2[j]? = some v →
      ∃ line, vt.lines[c.rowStart i + j]? = some line ∧ StartsAt env line (c.keyw + 2) (c.groupedRest A env j v)) :=
  bars_row_key_column env c vt i row h ht hw h0

/-- `bars_render_aligned`: ONE RENDER of `rare bars` from any state `BarPre` (a new graph, or after any number of renders): EVERY
line of EVERY row of the render has its bar at the ONE visible offset `maxKeyLength' + 2` of the final state – whichever
row brought the longest key and wherever it stood in the order (before cde79bf the rows written before it kept the
narrower column until the next render; with `--snapshot` or piped output there is none) -/
theorem bars_render_aligned {α : Type} {A : Arith α} {Dom : Int → Prop} {Unit : α → Prop} {le : α → α → Prop} (U : UnitLaws A Dom Unit le)
    (env : Env) (g : BarGraph) (vt : VirtualTerm) (hpre : BarPre Dom g vt) (subKeys : List Bytes) (rows : List (Bytes × List Int))
    (hrows : ∀ row ∈ rows, (∀ v ∈ row.2, Dom v) ∧ (g.stacked = true ∨ row.2.length ≤ subKeys.length))
    (hterm : ∀ row ∈ rows, Terminated env row.1)
    (N : Nat) (hN : g.rows.length + rows.length ≤ N)
    (hgeo : g.prefixLines.toNat + 1 + (N + 1) * (subKeys.length + 1) < 4611686018427387904) :
    ∃ g' vt', g.writeOutput A env vt subKeys rows = .ok (g', vt') ∧
      ∀ (i : Nat) (row : Bytes × List Int), rows[i]? = some row →
        (g.stacked = true → ∃ line, vt'.lines[g'.cfg.rowStart i]? = some line ∧
          StartsAt env line (g'.maxKeyLength + 2) (g'.cfg.stackedRest env row.2)) ∧
        (g.stacked = false → ∀ (j : Nat) (v : Int), row.2[j]? = some v →
          ∃ line, vt'.lines[g'.cfg.rowStart i + j]? = some line ∧ StartsAt env line (g'.maxKeyLength + 2) (g'.cfg.groupedRest A env j v)) := by
  obtain ⟨g', vt', h1, hpre', hdr, hst, _, _, _, _, _, _, _, hkw, _, hcov⟩ := bars_render_inv U env g vt hpre subKeys rows hrows N hN hgeo
  refine ⟨g', vt', h1, ?_⟩
  intro i row hi
  have hmem := List.mem_of_getElem? hi
  have key := bars_row_key_column env g'.cfg vt' i row (hdr i row hi).2 (hterm row hmem) (by rw [hkw]; exact hcov row hmem)
    (by rw [hkw]; exact hpre'.key_nonneg)
  rw [hkw] at key
  rw [← hst]
  exact key

/-- the boundary of the class: a key that ENDS INSIDE a colour sequence (`ESC [ 3`, never produced by `{color …}`, which always
resets) swallows the padding in `StrLen`'s own scan: its padded cell is not `16 + 4` wide -/
theorem key_column_unterminated_counterexample :
    strLen ⟨true, true⟩ (27 :: ascii "[3") = 0 ∧ ¬ Terminated ⟨true, true⟩ (27 :: ascii "[3") ∧
    strLen ⟨true, true⟩ (wrap ⟨true, true⟩ cYellow (padVis ⟨true, true⟩ (27 :: ascii "[3") 16) ++ ascii "    ") ≠ 16 + 4 :=
  keyCell_unterminated_counterexample

/-! ## heatmap and sparkline as whole renderers -/

/-- the sparkline header (after c54b92c): when the first and the last displayed column name fit next to
each other, `First...Last` is exactly as wide as the sparkline below it – one cell per displayed column –
so the last name ends above the last column, for multi-byte names and names with colour sequences too
(before the repair the names were measured in bytes) -/
theorem spark_header_spans_columns (env : Env) (names : List Bytes) (ht : Terminated env names.head!)
    (hfit : strLen env names.head! + strLen env names.getLast! < names.length) :
    strLen env (sparkHeaderText env names) = names.length :=
  spark_header_spans env names ht hfit

/-- a heatmap cell and a sparkline glyph are one visible cell wide, colour and ASCII modes, unicode on or off -/
theorem cells_one_wide (env : Env) (c : Bytes) : (IsHeatCell env c → strLen env c = 1) ∧ (IsSparkGlyph c → strLen env c = 1) :=
  ⟨fun h => (heatCell_props env c h).2.2, sparkGlyph_width env c⟩

/-- `Heatmap.WriteTable` on ANY aggregated state (zero, negative, huge, equal values; any keys; no rows or
columns; more than fit), any scale, colour/unicode on or off, limits ≥ 0: it returns; displayed row `i` is
the key, blanks and exactly ONE cell per DISPLAYED column (`min(#columns, colCount)` of them – none when
there are no columns or `colCount = 0`); the rows note is written iff rows are cut and counts exactly
the rows not shown; the header ends with the column note iff columns are cut, counting exactly the
columns not shown -/
theorem heat_render_ok {L2 L10 : Rat → Rat} (h2 : LogLike L2) (h10 : LogLike L10) (env : Env) (h : Heatmap) (vt : VirtualTerm)
    (ho : vt.closed = false) (hrc : 0 ≤ h.rowCount) (hcc : 0 ≤ h.colCount) (rkeys ckeys : List Bytes) (c : Cells) :
    ∃ h' vt' hdr, h.writeTable (ratArith L2 L10) env vt rkeys ckeys c = .ok (h', vt') ∧ vt'.closed = false ∧
      (∀ (i : Nat) (r : Nat), (c.rows.take (mini c.rows.length h.rowCount).toNat)[i]? = some r →
        ∃ line, vt'.lines[2 + i]? = some line ∧ IsHeatRow env (keyAt rkeys r) (mini c.cols.length h.colCount).toNat line) ∧
      ((c.rows.length : Int) > mini c.rows.length h.rowCount →
        vt'.lines[2 + (mini c.rows.length h.rowCount).toNat]? =
          some (wrap env cBrightBlack (moreNote ((c.rows.length : Int) - mini c.rows.length h.rowCount))) ∧
        h'.currentRows = 3 + mini c.rows.length h.rowCount) ∧
      (¬ (c.rows.length : Int) > mini c.rows.length h.rowCount → h'.currentRows = 2 + mini c.rows.length h.rowCount) ∧
      vt'.lines[1]? = some hdr ∧
      (∃ body, hdr = (if mini (c.cols.length : Int) h.colCount < c.cols.length
        then body ++ wrap env cBrightBlack ([32] ++ moreNote ((c.cols.length : Int) - h.colCount)) else body)) :=
  let ⟨h', vt', hdr, _, a, b, c, d, e, f, g, _⟩ :=
    heat_writeTable_ok_u (unitLaws_rat h2 h10) env h vt ho hrc hcc rkeys ckeys c (fun _ _ => trivial) trivial trivial
  ⟨h', vt', hdr, a, b, c, d, e, f, g⟩

/-- `Spark.WriteTable` on ANY aggregated state, any scale, colour/unicode on or off, limits ≥ 0: it returns,
the table invariant holds, every displayed row is (key, first value, ONE glyph per DISPLAYED column –
the last `min(#columns, colCount)` ones, none for 0 –, last value) with both values under the formatter and
the range of the CURRENT state, and the rows note counts exactly the rows not shown -/
theorem spark_render_ok {L2 L10 : Rat → Rat} (h2 : LogLike L2) (h10 : LogLike L10) (env : Env) (s : Spark) (vt : VirtualTerm)
    (hinv : TableInv env s.table vt) (hrc : 0 ≤ s.rowCount) (hcc : 0 ≤ s.colCount) (hmr : s.table.maxRows = s.rowCount + 1)
    (rkeys ckeys : List Bytes) (c : Cells) :
    ∃ s' vt' colIdx, s.writeTable (ratArith L2 L10) env vt rkeys ckeys c = .ok (s', vt') ∧ TableInv env s'.table vt' ∧
      s.shownCols c = .ok colIdx ∧ (colIdx.length : Int) = mini c.cols.length s.colCount ∧
      (∀ (i : Nat) (r : Nat), (s.shownRows c)[i]? = some r →
        ∃ row, s'.table.rows[i + 1]? = some row ∧ IsSparkRow env s rkeys c colIdx r row) ∧
      ((c.rows.length : Int) > mini c.rows.length s.rowCount →
        s'.footerOffset = 1 ∧ vt'.lines[s'.table.activeRows.toNat]? =
          some (wrap env cBrightBlack (moreNote ((c.rows.length : Int) - mini c.rows.length s.rowCount)))) ∧
      (¬ (c.rows.length : Int) > mini c.rows.length s.rowCount → s'.footerOffset = 0) :=
  spark_writeTable_ok_u (unitLaws_rat h2 h10) env s vt hinv hrc hcc hmr rkeys ckeys c fun _ _ => trivial

/-- `heat_render_ok` for EVERY float instance satisfying `UnitLaws` – in particular the real binary64 computation on int64
cell values (`float_laws_f64`; the seeded change C14-degenerate-range-nan made exactly this renderer index its
palette with `int(NaN)`): `Heatmap.WriteTable` on any aggregated state whose cell values (and fixed range ends) are in
the domain returns; one cell per displayed column; exact row and column notes -/
theorem heat_render_ok_any {α : Type} {A : Arith α} {Dom : Int → Prop} {Unit : α → Prop} {le : α → α → Prop} (U : UnitLaws A Dom Unit le)
    (env : Env) (h : Heatmap) (vt : VirtualTerm) (ho : vt.closed = false) (hrc : 0 ≤ h.rowCount) (hcc : 0 ≤ h.colCount)
    (rkeys ckeys : List Bytes) (c : Cells) (hc : DomCells Dom c) (hmn : Dom h.minVal) (hmx : Dom h.maxVal) :
    ∃ h' vt' hdr, h.writeTable A env vt rkeys ckeys c = .ok (h', vt') ∧ vt'.closed = false ∧
      (∀ (i : Nat) (r : Nat), (c.rows.take (mini c.rows.length h.rowCount).toNat)[i]? = some r →
        ∃ line, vt'.lines[2 + i]? = some line ∧ IsHeatRow env (keyAt rkeys r) (mini c.cols.length h.colCount).toNat line) ∧
      ((c.rows.length : Int) > mini c.rows.length h.rowCount →
        vt'.lines[2 + (mini c.rows.length h.rowCount).toNat]? =
          some (wrap env cBrightBlack (moreNote ((c.rows.length : Int) - mini c.rows.length h.rowCount))) ∧
        h'.currentRows = 3 + mini c.rows.length h.rowCount) ∧
      (¬ (c.rows.length : Int) > mini c.rows.length h.rowCount → h'.currentRows = 2 + mini c.rows.length h.rowCount) ∧
      vt'.lines[1]? = some hdr ∧
      (∃ body, hdr = (if mini (c.cols.length : Int) h.colCount < c.cols.length
        then body ++ wrap env cBrightBlack ([32] ++ moreNote ((c.cols.length : Int) - h.colCount)) else body)) :=
  let ⟨h', vt', hdr, _, a, b, c, d, e, f, g, _⟩ := heat_writeTable_ok_u U env h vt ho hrc hcc rkeys ckeys c hc hmn hmx
  ⟨h', vt', hdr, a, b, c, d, e, f, g⟩

/-- `spark_render_ok` for EVERY float instance satisfying `UnitLaws` (binary64 on int64 cell values included) -/
theorem spark_render_ok_any {α : Type} {A : Arith α} {Dom : Int → Prop} {Unit : α → Prop} {le : α → α → Prop} (U : UnitLaws A Dom Unit le)
    (env : Env) (s : Spark) (vt : VirtualTerm) (hinv : TableInv env s.table vt) (hrc : 0 ≤ s.rowCount) (hcc : 0 ≤ s.colCount)
    (hmr : s.table.maxRows = s.rowCount + 1) (rkeys ckeys : List Bytes) (c : Cells) (hc : DomCells Dom c) :
    ∃ s' vt' colIdx, s.writeTable A env vt rkeys ckeys c = .ok (s', vt') ∧ TableInv env s'.table vt' ∧
      s.shownCols c = .ok colIdx ∧ (colIdx.length : Int) = mini c.cols.length s.colCount ∧
      (∀ (i : Nat) (r : Nat), (s.shownRows c)[i]? = some r →
        ∃ row, s'.table.rows[i + 1]? = some row ∧ IsSparkRow env s rkeys c colIdx r row) ∧
      ((c.rows.length : Int) > mini c.rows.length s.rowCount →
        s'.footerOffset = 1 ∧ vt'.lines[s'.table.activeRows.toNat]? =
          some (wrap env cBrightBlack (moreNote ((c.rows.length : Int) - mini c.rows.length s.rowCount)))) ∧
      (¬ (c.rows.length : Int) > mini c.rows.length s.rowCount → s'.footerOffset = 0) :=
  spark_writeTable_ok_u U env s vt hinv hrc hcc hmr rkeys ckeys c hc

/-! ## the legend line of the heatmap (`Heatmap.UpdateMinMax`, `Scaler.ScaleKeys`) -/

/-- `ScaleKeys(6, min, max)` for EVERY instance of the float operations, every scaler and range: between one and six keys,
no two neighbouring keys equal (consecutive duplicates are dropped), the first and the last key are the first and the last
of the six raw values `int64(unmapVal((maxf-minf)*i/5 + minf))` -/
theorem legend_keys_shape {α : Type} (A : Arith α) (k : Scaler) (min max : Int) :
    1 ≤ (scaleKeys A k 6 min max).length ∧ (scaleKeys A k 6 min max).length ≤ 6 ∧
    (∀ (i : Nat) (a b : Int), (scaleKeys A k 6 min max)[i]? = some a → (scaleKeys A k 6 min max)[i + 1]? = some b → a ≠ b) ∧
    (scaleKeys A k 6 min max).head? = (rawKeys A k 6 min max).head? ∧
    (scaleKeys A k 6 min max).getLast? = (rawKeys A k 6 min max).getLast? := by
  obtain ⟨a, b, c, d, e⟩ := scaleKeys_shape A k 6 min max (by decide)
  exact ⟨a, by omega, c, d, e⟩

/-- THE LEGEND LINE, for every float instance satisfying `UnitLaws` (binary64 on int64 included), every scaler, colour/unicode
on or off, any range in the domain: `Heatmap.UpdateMinMax(min, max)` – the first step of every `WriteTable` – returns and
writes line 0 = the indentation of the row-key column, then for the `i`-th key `k` of `ScaleKeys(6, min, max)` (four blanks
between entries) ONE heat cell – the very cell `HeatWrite(Scale(k, min, max))` a data cell of value `k` gets in the rows
below –, a blank and `Formatter(k, min, max)`: the displayed number is the key under the chosen formatter and the range of
this call.  No other line changes. -/
theorem heat_legend_line {α : Type} {A : Arith α} {Dom : Int → Prop} {Unit : α → Prop} {le : α → α → Prop} (U : UnitLaws A Dom Unit le)
    (env : Env) (h : Heatmap) (vt : VirtualTerm) (ho : vt.closed = false) (mn mx : Int) (hmn : Dom mn) (hmx : Dom mx) :
    ∃ (vt' : VirtualTerm) (parts : List Bytes), h.updateMinMax A env vt mn mx = .ok ({ h with minVal := mn, maxVal := mx }, vt') ∧ vt'.closed = false ∧
      vt'.lines[0]? = some (writeRepeat 32 (h.maxRowKeyWidth + 1) ++ parts.flatten) ∧
      parts.length = (scaleKeys A h.scaler 6 mn mx).length ∧
      (∀ (i : Nat) (k : Int), (scaleKeys A h.scaler 6 mn mx)[i]? = some k →
        Dom k ∧ ∃ cell, heatWrite A env (scale A h.scaler k mn mx) = .ok cell ∧ IsHeatCell env cell ∧
          parts[i]? = some ((if i > 0 then ascii "    " else []) ++ cell ++ [32] ++ h.fmt.apply k mn mx)) ∧
      (∀ j x, j ≠ 0 → vt.lines[j]? = some x → vt'.lines[j]? = some x) :=
  heat_legend_line_u U env h vt ho mn mx hmn hmx

/-- THE LEGEND AFTER A WHOLE RENDER: `Heatmap.WriteTable` on any aggregated state (as in `heat_render_ok_any`) leaves on line 0 the
legend of the range the cells of THIS render are coloured with (`UpdateMinMaxFromData`: the data range, fixed ends kept) – the
header, the rows and the rows note never touch it.  `IsLegendLine` is the description of `heat_legend_line`: indentation,
then per key of `ScaleKeys(6, min, max)` one heat cell of `Scale(key, min, max)`, a blank, `Formatter(key, min, max)`. -/
theorem heat_render_legend {α : Type} {A : Arith α} {Dom : Int → Prop} {Unit : α → Prop} {le : α → α → Prop} (U : UnitLaws A Dom Unit le)
    (env : Env) (h : Heatmap) (vt : VirtualTerm) (ho : vt.closed = false) (hrc : 0 ≤ h.rowCount) (hcc : 0 ≤ h.colCount)
    (rkeys ckeys : List Bytes) (c : Cells) (hc : DomCells Dom c) (hmn : Dom h.minVal) (hmx : Dom h.maxVal) :
    ∃ h' vt' line, h.writeTable A env vt rkeys ckeys c = .ok (h', vt') ∧ vt'.lines[0]? = some line ∧
      IsLegendLine A env h (h.range c).1 (h.range c).2 line :=
  let ⟨h', vt', _, line, a, _, _, _, _, _, _, l, m⟩ := heat_writeTable_ok_u U env h vt ho hrc hcc rkeys ckeys c hc hmn hmx
  ⟨h', vt', line, a, l, m⟩

/-- THE LINEAR LEGEND (the default scale) over exact rationals, `min < max`: the keys are STRICTLY INCREASING, the first is
`min` and the last is `max`, so every key lies in the range the heatmap is drawn with – coldest cell first, hottest last -/
theorem legend_linear_exact (L2 L10 : Rat → Rat) (mn mx : Int) (hlt : mn < mx) :
    (scaleKeys (ratArith L2 L10) .linear 6 mn mx).Pairwise (· < ·) ∧
    (scaleKeys (ratArith L2 L10) .linear 6 mn mx).head? = some mn ∧
    (scaleKeys (ratArith L2 L10) .linear 6 mn mx).getLast? = some mx ∧
    (∀ k ∈ scaleKeys (ratArith L2 L10) .linear 6 mn mx, mn ≤ k ∧ k ≤ mx) :=
  scaleKeys_linear_rat L2 L10 mn mx hlt

/-- the boundary of `legend_linear_exact` on the real float computation (a documented quirk of the LEGEND only – the cells and
numbers of the rows are covered by `heat_render_ok_any`): binary64 has 53 bits, so above `2^53` the last key is `max` rounded
(`2^53 + 1` shows as `2^53`) or one ulp below it (`(d*5)/5` rounds twice: `2^63 - 513` shows as `2^63 - 2048`), and from `max ≥ 2^63 - 512` on `float64(max)` is `2^63`, whose `int64(…)` wraps on amd64: the
last legend entry reads `MinInt64` with the coldest cell.  Small ranges are exact: `[0,10]` gives `0 2 4 6 8 10`, `[0,3]` gives
`0 1 2 3` (duplicates dropped), a degenerate range `[3,3]` gives `3 4` (the range is widened to `[min, min+1]`). -/
theorem legend_linear_f64_boundary :
    scaleKeys (f64Arith id id id id) .linear 6 0 10 = [0, 2, 4, 6, 8, 10] ∧
    scaleKeys (f64Arith id id id id) .linear 6 0 3 = [0, 1, 2, 3] ∧
    scaleKeys (f64Arith id id id id) .linear 6 3 3 = [3, 4] ∧
    (scaleKeys (f64Arith id id id id) .linear 6 (-7) 9007199254740993).getLast? = some 9007199254740992 ∧
    (scaleKeys (f64Arith id id id id) .linear 6 0 9223372036854775295).getLast? = some 9223372036854773760 ∧
    (scaleKeys (f64Arith id id id id) .linear 6 0 9223372036854775296).getLast? = some (-9223372036854775808) ∧
    (scaleKeys (f64Arith id id id id) .linear 6 0 9223372036854775807).getLast? = some (-9223372036854775808) := by
  simp only [f64Arith, F64.Fast.ops]
  decide +kernel

/-- THE LINEAR LEGEND ON THE REAL FLOAT COMPUTATION (`legend_linear_exact` carried over to IEEE-754 binary64, the operations Go
performs): for every range `min < max` with both ends floats (`|·| ≤ 2^53`) and `(max - min) * 5 ≤ 2^53` – every range within
`±2^49` is one, and so is `[2^53 - 10, 2^53]` – the keys of `ScaleKeys(6, min, max)` are STRICTLY INCREASING, the first is `min`,
the last is `max` and every key lies in `[min, max]`.  In this class `float64(min/max)`, `Floor/Ceil`, the span and the
products `span * float64(i)` are exact; the quotient by `float64(5)` and the sum with `minf` round once each, rounding is
monotone and fixes the floats `min` and `max` (`Proofs/C14LegendF64.lean`).  The logarithm / power parameters are arbitrary:
the linear scaler never calls them. -/
theorem legend_linear_f64 (L2 L10 P2 P10 : F64 → F64) (mn mx : Int) (hlt : mn < mx)
    (hmn : -9007199254740992 ≤ mn) (hmx : mx ≤ 9007199254740992) (hspan : (mx - mn) * 5 ≤ 9007199254740992) :
    (scaleKeys (f64Arith L2 L10 P2 P10) .linear 6 mn mx).Pairwise (· < ·) ∧
    (scaleKeys (f64Arith L2 L10 P2 P10) .linear 6 mn mx).head? = some mn ∧
    (scaleKeys (f64Arith L2 L10 P2 P10) .linear 6 mn mx).getLast? = some mx ∧
    (∀ k ∈ scaleKeys (f64Arith L2 L10 P2 P10) .linear 6 mn mx, mn ≤ k ∧ k ≤ mx) :=
  scaleKeys_linear_f64 L2 L10 P2 P10 mn mx hlt ⟨hmn, hmx, hspan⟩

/-- the class of `legend_linear_f64` is SHARP in the span (kernel-checked on the very definitions of the theorem): the widest
span inside it, `⌊2^53 / 5⌋ = 1801439850948198`, still ends in `max`; three more and `span * 5` is no float any longer – the
product rounds, the quotient by 5 rounds again and the last legend entry reads `max - 1` (a documented quirk of the LEGEND of
very wide ranges, as in `legend_linear_f64_boundary`; the cells and numbers of the rows do not depend on it).  The ends may be
as large as `2^53` when the span is small. -/
theorem legend_linear_f64_span_boundary :
    scaleKeys (f64Arith id id id id) .linear 6 0 1801439850948198 =
      [0, 360287970189639, 720575940379279, 1080863910568918, 1441151880758558, 1801439850948198] ∧
    (scaleKeys (f64Arith id id id id) .linear 6 0 1801439850948201).getLast? = some 1801439850948200 ∧
    scaleKeys (f64Arith id id id id) .linear 6 9007199254740982 9007199254740992 =
      [9007199254740982, 9007199254740984, 9007199254740986, 9007199254740988, 9007199254740990, 9007199254740992] ∧
    scaleKeys (f64Arith id id id id) .linear 6 (-9007199254740992) (-9007199254740985) =
      [-9007199254740992, -9007199254740991, -9007199254740989, -9007199254740988, -9007199254740986, -9007199254740985] := by
  simp only [f64Arith, F64.Fast.ops]
  decide +kernel

/-- DEGENERATE OR REVERSED RANGE on the real float computation (`max ≤ min`: every cell holds the same value, or fixed ends the
wrong way round): `remapMinMax` widens the range to `[min, min + 1]` and the legend is EXACTLY the two numbers `min`, `min + 1`,
for every `min` with `-2^53 ≤ min < 2^53` (so `legend_linear_f64` and this theorem together cover every pair of ends in that
class; here the value of `max` does not matter at all). -/
theorem legend_linear_f64_degenerate (L2 L10 P2 P10 : F64 → F64) (mn mx : Int) (hle : mx ≤ mn)
    (hmn : -9007199254740992 ≤ mn) (hmn' : mn < 9007199254740992) :
    scaleKeys (f64Arith L2 L10 P2 P10) .linear 6 mn mx = [mn, mn + 1] :=
  scaleKeys_linear_f64_deg L2 L10 P2 P10 mn mx hle hmn hmn'

/-- the boundary of `legend_linear_f64_degenerate` (kernel-checked): at `min = 2^53` the widened end `2^53 + 1` is no float,
`float64` rounds it back to `2^53`, the span is 0 and the legend is the single number `2^53`; one below, and at `-2^53`, there
are two numbers; a reversed range `[5, -5]` shows `5 6`. -/
theorem legend_linear_f64_degenerate_boundary :
    scaleKeys (f64Arith id id id id) .linear 6 9007199254740992 9007199254740992 = [9007199254740992] ∧
    scaleKeys (f64Arith id id id id) .linear 6 9007199254740991 7 = [9007199254740991, 9007199254740992] ∧
    scaleKeys (f64Arith id id id id) .linear 6 (-9007199254740992) (-9007199254740992) = [-9007199254740992, -9007199254740991] ∧
    scaleKeys (f64Arith id id id id) .linear 6 5 (-5) = [5, 6] := by
  simp only [f64Arith, F64.Fast.ops]
  decide +kernel

/-- the cell values of every reachable aggregated state are int64: `Cells.sample` (the aggregators' `+=`) wraps -/
theorem sampled_cells_int64 (c : Cells) (hc : DomCells I64 c) (r k : Nat) (inc : Int) : DomCells I64 (c.sample r k inc) := by
  unfold Cells.sample
  split
  · intro e he
    obtain ⟨e0, h0, rfl⟩ := List.mem_map.mp he
    split
    · exact i64_wrap _
    · exact hc e0 h0
  · intro e he
    rcases List.mem_append.mp he with h | h
    · exact hc e h
    · simp at h; subst h; exact i64_wrap _

/-- '(n more)': the rows note shows exactly the rows not drawn and appears iff there are any; the
column note of the heatmap header shows exactly the columns not drawn -/
theorem more_notes_exact {α : Type} (rows : List α) (limit : Int) (hl : 0 ≤ limit) (ncols colLimit : Int) :
    (((rows.take (mini rows.length limit).toNat).length : Int) = mini rows.length limit ∧
     (rows.length : Int) - mini rows.length limit = (Spec.notShown rows.length (rows.take (mini rows.length limit).toNat).length : Nat) ∧
     (((rows.length : Int) > mini rows.length limit) ↔ 0 < Spec.notShown rows.length (rows.take (mini rows.length limit).toNat).length)) ∧
    (mini ncols colLimit < ncols → ncols - colLimit = ncols - mini ncols colLimit) :=
  ⟨more_rows_arith rows limit hl, more_cols_arith ncols colLimit⟩

/-! ## non-vacuity -/

/-- `LogLike` is satisfiable (so the scaler theorems are not vacuous): a piecewise-linear stand-in -/
theorem logLike_example : LogLike (fun x : Rat => x - 1) :=
  ⟨fun x y _ h => by grind, fun x h => by grind⟩

example : scale (ratArith (fun x => x - 1) (fun x => x - 1)) .linear 5 0 10 = 1 / 2 := by decide +kernel
example : scale (ratArith (fun x => x - 1) (fun x => x - 1)) .linear 9223372036854775807 9223372036854775807 9223372036854775807 = 0 := by
  decide +kernel
example : bucket (ratArith id id) 16 (1 : Rat) = 15 ∧ bucket (ratArith id id) 16 (0 : Rat) = 0 := by decide +kernel
example : barBlocks 10 34 7 = 2 ∧ barBlocks 0 0 50 = 0 ∧ barBlocks 4611686018427387904 4611686018427387904 50 = 50 ∧
    barBlocks (-6917529027641081856) 1 50 = 0 := by decide
example : stackedBlocks 20 50 [10, 10, -15] = 50 ∧ posSum [10, 10, -15] = 20 := by decide
example : (barWriteStacked ⟨false, false⟩ 0 50 [0]).toOption = some [] := by decide +kernel
example : (Heatmap.headerText ⟨false, true⟩ { rowCount := 5, colCount := 10 } [[]]).toOption = some (ascii " .", 1) := by decide +kernel
example : (Heatmap.headerText ⟨false, true⟩ { rowCount := 5, colCount := 2 } [ascii "a", ascii "b", ascii "c"]).toOption
    = some (ascii " a. (1 more)", 2) := by decide +kernel
/-- a concrete `WriteRow`/`WriteFooter` sequence (hypotheses of `table_aligned` satisfiable): a third cell
beyond `maxCols`, a gap row, a footer, a later row that widens column 1 (row 0 is re-drawn) and starts
with a truncated UTF-8 sequence, a row beyond `maxRows` -/
example : (do let t ← TableWriter.new 2 3
              let r ← TableWriter.runOps ⟨false, true⟩ (t, VirtualTerm.new)
                [.row 0 [ascii "ab", ascii "c", ascii "dropped"], .row 2 [ascii "x"], .footer 0 (ascii "F"),
                 .row 1 [[0xe6, 0x97], ascii "long cell"], .row 7 [ascii "ignored"]]
              pure (r.2.lines, r.1.colWidth) : Res (List Bytes × List Int)).toOption
    = some ([ascii "ab c         ", [0xe6, 0x97] ++ ascii " long cell ", ascii "x  ", ascii "F"], [2, 9]) := by decide +kernel
example : ∀ op ∈ [TableOp.row 0 [ascii "ab"], TableOp.footer 1 (ascii "F")], op.NonNeg := by
  intro op h; simp at h; rcases h with rfl | rfl <;> simp [TableOp.NonNeg]
example : colOffset [2, 9] 0 = 0 ∧ colOffset [2, 9] 1 = 3 ∧ colOffset [2, 9] 2 = 13 := by decide
example : strLen ⟨true, true⟩ (27 :: ascii "[31mred" ++ 27 :: ascii "[0m") = 3 := by decide +kernel
example : Terminated ⟨true, true⟩ (27 :: ascii "[31mred") ∧ ¬ Terminated ⟨true, true⟩ (27 :: ascii "[3") := by
  constructor
  · intro _; decide +kernel
  · intro h; exact absurd (h rfl) (by decide +kernel)

/-! non-vacuity of the binary64 theorems -/
example : LogLikeF64 (fun x => F64.sub x F64.one) := logLikeF64_sub_one
example : I64 9007199254740993 ∧ I64 (-9223372036854775808) ∧ ¬ I64 9223372036854775808 := by
  unfold I64 minInt64 maxInt64; omega
/-- 1/3 is rounded once by the division: `0x3FD5555555555555` -/
example : scale (f64Arith id id id id) .linear 1 0 3 = ⟨0x3FD5555555555555, by decide⟩ := by decide +kernel
/-- the whole int64 range: `float64(2^63-1)` rounds to `2^63`, the span to `2^64`; the result is still a unit float -/
example : scale (f64Arith id id id id) .linear 4611686018427387905 (-9223372036854775808) 9223372036854775807 = ⟨0x3FE8000000000000, by decide⟩ := by
  simp only [f64Arith, F64.Fast.ops]
  decide +kernel
example : UnitF64 F64.one ∧ UnitF64 (F64.zero false) ∧ ¬ UnitF64 F64.nan := by
  refine ⟨⟨by decide, by decide +kernel, by decide +kernel⟩, ⟨by decide, by decide +kernel, by decide +kernel⟩, fun h => absurd h.1 (by decide)⟩
example : bucket (f64Arith id id id id) 16 F64.one = 15 ∧ bucket (f64Arith id id id id) 16 (F64.zero false) = 0 ∧
    lengthVal (f64Arith id id id id) 450 F64.one = 450 := by decide +kernel
/-- what the guard protects the palettes from: `int(NaN * 15)` is `MinInt64` on amd64 -/
example : bucket (f64Arith id id id id) 16 F64.nan = -9223372036854775808 := by decide +kernel

/-! non-vacuity of the renderer invariants (binary64 instance) -/
example : UnitLaws (f64Arith (fun x => F64.sub x F64.one) (fun x => F64.sub x F64.one) id id) I64 UnitF64 (fun u v => u.toRat ≤ v.toRat) :=
  float_laws_f64 logLikeF64_sub_one logLikeF64_sub_one
example : ∃ h, Histo.new 3 true false .linear .raw = .ok h ∧ HistoInv (f64Arith (fun x => F64.sub x F64.one) (fun x => F64.sub x F64.one) id id) I64 ⟨false, false⟩ h VirtualTerm.new :=
  ⟨_, rfl, (histo_new_invariant (float_laws_f64 logLikeF64_sub_one logLikeF64_sub_one) ⟨false, false⟩ 3 true false .linear .raw _ rfl).1⟩
example : ∀ op ∈ [HistoOp.total 10, .line 0 (ascii "b") 3, .line 1 (ascii "c") 6, .line 2 (ascii "a key longer than sixteen") 0, .line 3 (ascii "at the end") 1,
    .line 7 (ascii "beyond") 1], op.Valid I64 := by
  intro op h
  simp at h
  rcases h with rfl | rfl | rfl | rfl | rfl | rfl <;> simp [HistoOp.Valid, I64, minInt64, maxInt64]
/-- a line AT `maxLines` (the call that indexed out of range before 4855857) and one beyond it are ignored: nothing is written,
the state is unchanged -/
example : (do let h ← Histo.new 3 true false .linear .raw
               let r ← Histo.runOps (f64Arith id id id id) ⟨false, false⟩ (h, VirtualTerm.new) [.line 3 (ascii "at the end") 9, .line 7 (ascii "beyond") 9]
               pure (r.2.lines.length, r.1.maxVal, r.1.items.map Option.isSome) : Res (Nat × Int × List Bool)).toOption
    = some (0, 0, [false, false, false]) := by decide +kernel
/-- the redraw at work, on binary64: row 0 is written with maximum 3 (a full bar), then row 1 raises the maximum to 6
and row 0 is redrawn at half length; the count-0 row with the long key is drawn too (7b183e0) -/
example : (do let h ← Histo.new 3 true false .linear .raw
               let r ← Histo.runOps (f64Arith id id id id) ⟨false, false⟩ (h, VirtualTerm.new)
                 [.total 10, .line 0 (ascii "b") 3, .line 1 (ascii "c") 6, .line 2 (ascii "a key longer than sixteen") 0]
               pure (r.2.lines.map (fun l => (l.filter (· == 124)).length), r.2.lines.map List.length, r.1.maxVal, r.1.textSpacing) :
            Res (List Nat × List Nat × Int × Int)).toOption
    = some ([25, 50, 0], [65, 90, 40], 6, 25) := by
  simp only [f64Arith, F64.Fast.ops]
  decide +kernel
example : BarPre I64 ({ stacked := false, barSize := 50, scaler := Scaler.linear, fmt := Fmt.raw } : BarGraph) VirtualTerm.new :=
  bars_new_invariant (float_laws_f64 (P2 := id) (P10 := id) logLikeF64_sub_one logLikeF64_sub_one) false 50 .linear .raw (by decide) (by decide)
/-- a grouped render on binary64: `b`'s value 8 raises the maximum while the rows are written; `a`'s bar is redrawn: 2/8 of 50 -/
example : (do let r ← BarGraph.writeOutput (f64Arith id id id id) ⟨false, false⟩ { barSize := 50, scaler := Scaler.linear, fmt := Fmt.raw } VirtualTerm.new [ascii "x"] [(ascii "a", [2]), (ascii "b", [8])]
              pure (r.2.lines.map (fun l => (l.filter (· == 124)).length), r.1.maxLineVal) : Res (List Nat × Int)).toOption
    = some ([0, 12, 50], 8) := by
  simp only [f64Arith, F64.Fast.ops]
  decide +kernel
example : Terminated ⟨true, true⟩ [0xe6, 0x97, 0xa5] ∧ Terminated ⟨true, true⟩ (27 :: ascii "[31mred" ++ 27 :: ascii "[0m") := by
  constructor <;> intro _ <;> decide +kernel

/-- the key column at work (colour on): a plain key and a key coloured by `{color red …}` are both padded to 16 visible cells
(`%-16s` counted the 9 runes of the colour codes: 7 cells) -/
example : strLen ⟨true, true⟩ (wrap ⟨true, true⟩ cYellow (padVis ⟨true, true⟩ (ascii "abc") 16)) = 16 ∧
    strLen ⟨true, true⟩ (wrap ⟨true, true⟩ cYellow (padVis ⟨true, true⟩ (cRed ++ ascii "abc" ++ cReset) 16)) = 16 ∧
    strLen ⟨true, true⟩ (wrap ⟨true, true⟩ cYellow (padRight (cRed ++ ascii "abc" ++ cReset) 16)) = 7 := by decide +kernel
/-- a render in `--sort value` order: the short key `b` (value 5) is written first, then `abcdefghij` (value 1) widens the key
column and `b` is re-drawn (cde79bf): both bars start in column 12 -/
example : (do let r ← BarGraph.writeOutput (f64Arith id id id id) ⟨false, false⟩ { barSize := 50, scaler := Scaler.linear, fmt := Fmt.raw } VirtualTerm.new [ascii "x"]
                [(ascii "b", [5]), (ascii "abcdefghij", [1])]
              pure (r.2.lines.drop 1 |>.map (fun l => (l.takeWhile (· != 124)).length), r.1.maxKeyLength) : Res (List Nat × Int)).toOption
    = some ([12, 12], 10) := by
  simp only [f64Arith, F64.Fast.ops]
  decide +kernel

/-- the legend at work on binary64 (ASCII mode, range [0,10]): six entries `cell number`, coldest `-` to hottest `9` -/
example : ((Heatmap.updateMinMax (f64Arith id id id id) ⟨false, false⟩ { rowCount := 5, colCount := 10 } VirtualTerm.new 0 10).toOption.map fun r => r.2.lines)
    = some [ascii " - 0    1 2    3 4    5 6    7 8    9 10"] := by
  simp only [f64Arith, F64.Fast.ops]
  decide +kernel
example : DomCells I64 (Cells.sample [] 0 0 1700000000000000000) := sampled_cells_int64 [] (by intro e he; cases he) 0 0 _
/-- the state of the seeded demo (one cell, 1.7e18, linear scale) on binary64: the heatmap renders; its one cell is the lowest colour -/
example : ((Heatmap.writeTable (f64Arith id id id id) ⟨false, false⟩ { rowCount := 5, colCount := 10 } VirtualTerm.new [ascii "a"] [ascii "x"]
    (Cells.sample [] 0 0 1700000000000000000)).toOption.map fun r => r.2.lines.drop 1) = some [ascii " x", ascii "a -"] := by
  simp only [f64Arith, F64.Fast.ops]
  decide +kernel
/-- the compiled form of `{0}/{2}`: the same value under another maximum gives another text -/
example : exprFormat [Expr.Comp.match_ 0, Expr.Stage.lit (ascii "/"), Expr.Comp.match_ 2] 5 0 9 = ascii "5/9" ∧
    exprFormat [Expr.Comp.match_ 0, Expr.Stage.lit (ascii "/"), Expr.Comp.match_ 2] 5 0 12 = ascii "5/12" := by decide +kernel
/-- reduce row: one group column, a key with three parts, one data column (the state that panicked before 73473fc) -/
example : Reduce.rowCells ⟨false, true⟩ { table := ⟨2, 3, 0, [0, 0], [[], [], []]⟩, gnames := [ascii "k"], dnames := [ascii "n"] }
    [97, 0, 98, 0, 99] [ascii "1"] = [ascii "a", ascii "1"] := by decide +kernel
/-- two frames into one table: `alpha` alone, then the empty group value in front of it – the first data row of the second
frame carries an empty label -/
example : (Reduce.new 10 20 [ascii "grp"] [ascii "total"] >>= fun r => r.start ⟨false, true⟩ VirtualTerm.new >>= fun st =>
    Reduce.renderAll ⟨false, true⟩ (ascii "F0") (ascii "F1") st
      [[(ascii "alpha", [ascii "i1"])], [([], [ascii "i5"]), (ascii "alpha", [ascii "i1"])]] >>= fun st =>
    pure (st.2.lines.take 3)).toOption = some [ascii "grp   total ", ascii "      i5    ", ascii "alpha i1    "] := by decide +kernel
/-- the hypotheses of `datatable_numbers` / `spark_render_ok` hold for the writers the commands build -/
example : ∃ d, DataTable.new 10 20 true true = .ok d ∧ d.table.maxRows = d.numRows + 2 ∧ 0 ≤ d.numCols ∧ 0 ≤ d.numRows :=
  ⟨_, rfl, by decide, by decide, by decide⟩
example : ∃ s, Spark.new 20 10 .linear .hi = .ok s ∧ s.table.maxRows = s.rowCount + 1 ∧ 0 ≤ s.rowCount ∧ 0 ≤ s.colCount :=
  ⟨_, rfl, by decide, by decide, by decide⟩
/-- eight columns named 日本1 … 日本8: the header is 8 cells wide (it was 6 when names were measured in bytes) -/
example : strLen ⟨false, true⟩ (sparkHeaderText ⟨false, true⟩ ((List.range 8).map fun i => [0xe6, 0x97, 0xa5, 0xe6, 0x9c, 0xac, UInt8.ofNat (49 + i)])) = 8 := by
  decide +kernel
/-- what `heat_render_ok` says of a drawn row: key, blanks, one cell per displayed column (here one, ASCII mode) -/
example : IsHeatRow ⟨false, false⟩ (ascii "r0") 1 (ascii "r0 3") :=
  ⟨1, [ascii "3"], by decide +kernel, rfl, by intro c hc; simp at hc; subst hc; exact Or.inl (by decide +kernel)⟩
example : (VirtualTerm.new).closed = false ∧ (0 : Int) ≤ ({ rowCount := 1, colCount := 0 } : Heatmap).colCount := ⟨rfl, by decide⟩

end Rare.C14

import Rare.Proofs.C20Extra
import Rare.Proofs.C20Lift
import Rare.Proofs.C20Buf
import Rare.Proofs.C20After
import Rare.Gen.C20
/-!
Property C20 – the live terminal shows the latest text of every line, within its width.

The writer model (`Rare/Model/C20.lean`) is instantiated with the strings regenerated from
`/repo/pkg/multiterm/{cursor,multiterm,linetrim}.go` on every run (`Rare/Gen/C20.lean`); the bytes it
emits are run through the reference VT100-subset terminal of `Rare/Spec/C20.lean`.
-/
namespace Rare.C20

/-- the literals of the Go source as regenerated by the translator -/
def genEsc : Esc :=
  { escape := Gen.C20.escape, upPre := Gen.C20.upPre, upPost := Gen.C20.upPost, upArg := Gen.C20.gotoUpArg,
    hide := Gen.C20.hide, unhide := Gen.C20.unhide, erase := Gen.C20.erase,
    nl := Gen.C20.gotoDown, cr := Gen.C20.gotoReturn, closeNl := Gen.C20.closeNl,
    trimEsc := Gen.C20.trimEsc, trimEnd := Gen.C20.trimEnd }

/-- writer configuration: generated strings, terminal width `W`, trimming on/off -/
def genCfg (W : Nat) (trim : Bool) : Cfg := { E := genEsc, autoTrim := trim, cols := W }

/-- The strings in the Go source are the ones the hand model (and the driver executable) uses. -/
theorem gen_strings_are_model_strings : genEsc = handEsc := rfl

/-- the writer configuration built from the generated strings is the hand model's -/
theorem gen_cfg_is_model_cfg (W : Nat) (trim : Bool) : genCfg W trim = cfg W trim := rfl

/-- Each generated control string does on the reference terminal what its Go function is named
after: hide / show the cursor, erase from the cursor to the end of the line, move one row up. -/
theorem gen_sequences_meaning (t : Term) (h : t.ps = .ground) :
    t.feedBytes (genEsc.seq genEsc.hide) = { t with cursorVisible := false } ∧
    t.feedBytes (genEsc.seq genEsc.unhide) = { t with cursorVisible := true } ∧
    t.feedBytes (genEsc.seq genEsc.erase) = t.eraseToEol ∧
    t.feedBytes (moveUpf genEsc genEsc.upArg) = { t with row := t.row - min 1 t.row } := by
  rw [gen_strings_are_model_strings]
  exact ⟨(congrArg _ decode_hide).trans (feed_hide t h), (congrArg _ decode_unhide).trans (feed_show t h),
    (congrArg _ decode_erase).trans (feed_erase t h), (congrArg _ decode_up).trans (feed_up1 t h)⟩

/-- **trim_spec.**  For a text whose colour sequences are terminated (`toks`: plain runes other than
ESC, and `ESC … m` sequences with no `m` inside), at any width `cols` (also ≤ 0), `WriteLineNoWrap`
writes the encoding of a prefix of the text that consists of whole tokens (so it does not end inside
an escape sequence), has at most `cols` visible runes, and – if anything was cut – exactly `cols`
visible runes (`max cols 0`: nothing at all for a non-positive width); for well-formed UTF-8 input the output is a byte prefix of the input. -/
theorem trim_spec (cols : Int) (toks : List Tok) (txt : Bytes) (hs : ∀ t ∈ toks, t.Scannable)
    (hd : decodeUtf8 txt = renderToks toks) :
    ∃ k, writeLineNoWrap genEsc true cols txt = encodeUtf8 (renderToks (toks.take k)) ∧
      (∃ rest, renderToks toks = renderToks (toks.take k) ++ rest) ∧
      ((visToks (toks.take k)).length : Int) ≤ max cols 0 ∧
      (k ≥ toks.length ∨ ((visToks (toks.take k)).length : Int) = max cols 0) ∧
      (ValidUtf8 txt → ∃ restBytes, txt = writeLineNoWrap genEsc true cols txt ++ restBytes) := by
  rw [gen_strings_are_model_strings]
  obtain ⟨rest, hrest⟩ := trimToks_prefix cols toks 0
  have htake : toks.take (trimToks cols 0 toks).length = trimToks cols 0 toks := by
    conv => lhs; arg 2; rw [hrest]
    exact List.take_left' rfl
  have hsplit : renderToks toks = renderToks (trimToks cols 0 toks) ++ renderToks rest := by
    conv => lhs; rw [hrest]
    simp [renderToks]
  have hw : writeLineNoWrap handEsc true cols txt = encodeUtf8 (renderToks (trimToks cols 0 toks)) := by
    have := trimRunes_toks cols toks [] hs (Or.inl rfl)
    rw [keptTail_nil, List.append_nil, List.append_nil] at this
    simp only [writeLineNoWrap, Bool.not_true, Bool.false_eq_true, if_false, hd, this]
  refine ⟨(trimToks cols 0 toks).length, ?_, ?_, ?_, ?_, ?_⟩
  · rw [htake]; exact hw
  · rw [htake]; exact ⟨_, hsplit⟩
  · rw [htake]; have := trimToks_vis_le cols toks 0; rwa [Int.zero_add] at this
  · rw [htake]
    rcases trimToks_full cols toks 0 with h | h
    · left; rw [h]; exact Nat.le_refl _
    · right; rwa [Int.zero_add] at h
  · intro hv
    refine ⟨encodeUtf8 (renderToks rest), ?_⟩
    rw [hw]
    conv => lhs; rw [← hv, hd, hsplit]
    simp [encodeUtf8]

/-- **screen_refines_latest.**  Any update history `hist` (lines in any order, repeats, gaps, growing
and shrinking texts), any width `W`, trimming on or off, any terminal `t0` (either `\n` mode) whose
cursor is on row `r0` with at least `maxLine + 2` rows from there on (nothing scrolls).  Texts are
`TextOK`: printable runes (any code point ≥ 32 except DEL, i.e. multi-byte runes included; no `\n`,
`\r`, cursor escapes) and SGR colour sequences; with trimming off they must fit the width and be
well-formed UTF-8.  Then after the terminal has consumed the bytes written by `TermWriter`:
row `r0 + i` shows exactly the last text written to line `i` (cut to the width when trimming),
every other row is untouched, and the terminal's cursor row is where the writer believes it is. -/
theorem screen_refines_latest (W H r0 : Nat) (trim : Bool) (hist : List (Nat × Bytes)) (t0 : Term)
    (hps : t0.ps = .ground) (hw : t0.width = W) (hh : t0.height = H) (hr : t0.row = r0)
    (hv : t0.cursorVisible = true) (hrows : ∀ u ∈ hist, r0 + u.1 + 1 < H)
    (htxt : ∀ u ∈ hist, TextOK W trim u.2) :
    let r := TermWriter.new.runHistory (genCfg W trim) (castHist hist)
    let t := t0.feedBytes r.2
    (∀ i txt, latest hist i = some txt → t.rows (r0 + i) = shown W trim txt) ∧
    (∀ j, (∀ i, latest hist i ≠ none → r0 + i ≠ j) → t.rows j = t0.rows j) ∧
    (t.row : Int) = r0 + r.1.cursor ∧ t.ps = .ground := by
  intro r t
  obtain ⟨_, inv⟩ := inv_run W H r0 trim t0 hist [] _ _ (inv_init W H r0 trim t0 hps hw hh hr hv)
    (fun u hu => ⟨hrows u hu, htxt u hu⟩)
  exact ⟨inv.written, inv.other, inv.row, inv.ps⟩

/-- **close_parks_cursor.**  Same hypotheses (plus room for the parking row when the history is
empty).  After the history and `Close()`: the cursor is on the row directly below the largest line
ever written (`TermWriter.maxLine`, which is ≥ every line of the history), hence below every text;
the cursor is visible again; the terminal is back in its ground state and the rows still show the
latest texts. -/
theorem close_parks_cursor (W H r0 : Nat) (trim : Bool) (hist : List (Nat × Bytes)) (t0 : Term)
    (hps : t0.ps = .ground) (hw : t0.width = W) (hh : t0.height = H) (hr : t0.row = r0)
    (hv : t0.cursorVisible = true) (hH : r0 + 1 < H) (hrows : ∀ u ∈ hist, r0 + u.1 + 1 < H)
    (htxt : ∀ u ∈ hist, TextOK W trim u.2) :
    let r := TermWriter.new.session (genCfg W trim) (castHist hist)
    let t := t0.feedBytes r.2
    t.row = r0 + r.1.maxLine.toNat + 1 ∧ (∀ u ∈ hist, r0 + u.1 < t.row) ∧ t.row < H ∧
    t.cursorVisible = true ∧ t.ps = .ground ∧
    (∀ i txt, latest hist i = some txt → t.rows (r0 + i) = shown W trim txt) ∧
    (∀ j, (∀ i, latest hist i ≠ none → r0 + i ≠ j) → t.rows j = t0.rows j) := by
  rw [gen_cfg_is_model_cfg]
  intro r t
  obtain ⟨hclean, inv⟩ := inv_run W H r0 trim t0 hist [] _ _ (inv_init W H r0 trim t0 hps hw hh hr hv)
    (fun u hu => ⟨hrows u hu, htxt u hu⟩)
  have ht : t = _ := (feedBytes_append _ _ _ hclean).trans (close_feed inv hH hrows)
  have hm : r.1.maxLine = _ := close_maxLine (cfg W trim) _
  have hm0 : 0 ≤ (TermWriter.new.runHistory (cfg W trim) (castHist hist)).1.maxLine :=
    Int.le_trans inv.cur0 inv.curLe
  rw [ht, hm]
  refine ⟨rfl, ?_, ?_, rfl, inv.ps, inv.written, inv.other⟩
  · intro u hu
    have := inv.maxGe u hu
    show r0 + u.1 < r0 + _ + 1
    omega
  · show r0 + _ + 1 < H
    rcases inv.maxIn with h | ⟨u, hu, hum⟩
    · rw [h]; simpa using hH
    · have := hrows u hu; omega

/-! ### the reference terminal `Scr` (cell widths, scrolling, C0 controls, ESC restart) -/

/-- **screen_refines_latest_scr.**  The live writer on the reference terminal `Scr` (any cell-width
function `cw`, either `\n` mode), **any height `H` and any start row `r0 < H`** – histories that run
past the bottom row scroll the screen.  Texts are `TextSafe`: arbitrary bytes whose decoding
(`[]rune(s)`, invalid bytes = U+FFFD) consists of printable runes of width one and terminated colour
sequences, possibly ending inside an unterminated colour sequence; with trimming off they must fit
the width and be well-formed.  `Reachable H r0 0 hist`: every update goes to a line that is still on
the screen when it is made (line `l` after largest line `m`: `r0 + max m l - (H-1) ≤ r0 + l`) – a
relative-cursor writer cannot do better, see `scrolled_off_update_lands_on_top_row`.

With `s = r0 + maxLine - (H-1)` the number of rows that have scrolled off the top
(`s = 0 ↔ r0 + maxLine < H`: the exact no-scroll condition):
every line `i` that is still on the screen (`s ≤ r0 + i`) shows, on row `r0 + i - s`, exactly the
text most recently written to it (cut to the width when trimming); every other row `j < H` shows
what the start screen showed `s` rows further down (blank below it); the terminal's cursor row and
the writer's `cursor` agree up to `s`; nothing is promised about lines with `r0 + i < s` – they are
gone. -/
theorem screen_refines_latest_scr (W H r0 : Nat) (trim : Bool) (hist : List (Nat × Bytes)) (t0 : Scr)
    (hps : t0.ps = .ground) (hw : t0.width = W) (hh : t0.height = H) (hr : t0.row = r0) (hlt : r0 < H)
    (hv : t0.cursorVisible = true) (hreach : Reachable H r0 0 hist)
    (htxt : ∀ u ∈ hist, TextSafe t0.cw W trim u.2) :
    let r := TermWriter.new.runHistory (genCfg W trim) (castHist hist)
    let t := t0.feedBytes r.2
    let s := r0 + (maxLineOf (castHist hist)).toNat - (H - 1)
    (∀ i txt, latest hist i = some txt → s ≤ r0 + i → t.rows (r0 + i - s) = shown W trim txt) ∧
    (∀ j, j < H → (∀ i, latest hist i ≠ none → r0 + i ≠ j + s) → t.rows j = shiftN H s t0.rows j) ∧
    t.row + s = r0 + r.1.cursor.toNat ∧ t.row < H ∧ t.ps = .ground ∧
    r.1.maxLine = maxLineOf (castHist hist) ∧ (∀ u ∈ hist, (u.1 : Int) ≤ r.1.maxLine) ∧
    (s = 0 ↔ r0 + (maxLineOf (castHist hist)).toNat < H) := by
  rw [gen_cfg_is_model_cfg]
  intro r t s
  obtain ⟨_, inv⟩ := inv2_run W H r0 trim t0 hist [] _ _ (inv2_init W H r0 trim t0 hps hw hh hr hlt hv)
    (by simpa [TermWriter.new] using hreach) htxt
  have hm : r.1.maxLine = maxLineOf (castHist hist) := runHistory_new_maxLine _ _
  have hs : scrolled H r0 r.1.maxLine = s := by simp only [scrolled, hm]; rfl
  refine ⟨?_, ?_, ?_, inv.rowlt, inv.ps, hm, inv.maxGe, ?_⟩
  · have := inv.written; rw [hs] at this; exact this
  · have := inv.other; rw [hs] at this; exact this
  · have := inv.row; rw [hs] at this; exact this
  · exact Nat.sub_eq_zero_iff_le.trans (Nat.le_sub_one_iff_lt (Nat.zero_lt_of_lt hlt))

/-- **close_parks_cursor_scr.**  Same hypotheses.  After the history and `Close()`, with
`sf = r0 + maxLine + 1 - (H-1)` rows scrolled off in total (one more than before when the last line
sat on the bottom row; `sf = 0 ↔ r0 + maxLine + 1 < H`): the cursor is on the row directly below the
largest line ever written – row `r0 + maxLine + 1 - sf < H`, below every text –, in column 0, visible
again, the parser in its ground state; the lines still on the screen (`sf ≤ r0 + i`) show their
latest text, all other rows the (shifted) start screen. -/
theorem close_parks_cursor_scr (W H r0 : Nat) (trim : Bool) (hist : List (Nat × Bytes)) (t0 : Scr)
    (hps : t0.ps = .ground) (hw : t0.width = W) (hh : t0.height = H) (hr : t0.row = r0) (hlt : r0 < H)
    (hv : t0.cursorVisible = true) (hreach : Reachable H r0 0 hist)
    (htxt : ∀ u ∈ hist, TextSafe t0.cw W trim u.2) :
    let r := TermWriter.new.session (genCfg W trim) (castHist hist)
    let t := t0.feedBytes r.2
    let m := (maxLineOf (castHist hist)).toNat
    let sf := r0 + m + 1 - (H - 1)
    t.row + sf = r0 + m + 1 ∧ t.row < H ∧ (∀ u ∈ hist, r0 + u.1 < t.row + sf) ∧ t.col = 0 ∧
    t.cursorVisible = true ∧ t.ps = .ground ∧
    (∀ i txt, latest hist i = some txt → sf ≤ r0 + i → t.rows (r0 + i - sf) = shown W trim txt) ∧
    (∀ j, j < H → (∀ i, latest hist i ≠ none → r0 + i ≠ j + sf) → t.rows j = shiftN H sf t0.rows j) ∧
    (sf = 0 ↔ r0 + m + 1 < H) := by
  rw [gen_cfg_is_model_cfg]
  intro r t m sf
  obtain ⟨hclean, inv⟩ := inv2_run W H r0 trim t0 hist [] _ _ (inv2_init W H r0 trim t0 hps hw hh hr hlt hv)
    (by simpa [TermWriter.new] using hreach) htxt
  have hm : (TermWriter.new.runHistory (cfg W trim) (castHist hist)).1.maxLine = maxLineOf (castHist hist) :=
    runHistory_new_maxLine _ _
  obtain ⟨_, inv', hvis, hcol⟩ := inv3_close inv.inv3
  have ht : t = _ := Scr.feedBytes_append _ _ _ hclean
  rw [← ht] at inv' hvis hcol
  have hrow := inv'.row
  have hwr := inv'.written
  have hot := inv'.other
  rw [close_maxLine, hm] at hrow hwr hot
  rw [close_cursor, hm] at hrow
  refine ⟨hrow, inv'.rowlt, ?_, hcol, hvis, inv'.ps, hwr, hot, ?_⟩
  · intro u hu
    have := inv.inv3.maxGe u hu
    rw [hm] at this
    exact (show t.row + sf = r0 + m + 1 from hrow) ▸ Nat.lt_succ_of_le (Nat.add_le_add_left this r0)
  · exact Nat.sub_eq_zero_iff_le.trans (Nat.le_sub_one_iff_lt (Nat.zero_lt_of_lt hlt))

/-- **close_no_scroll_scr** – the special case in which nothing scrolls (`r0 + l + 1 < H` for every
line written: the exact condition, see the last conjunct of `close_parks_cursor_scr`): no
reachability hypothesis is needed, row `r0 + i` shows the latest text of line `i`, every other row
of the screen is untouched, the cursor is parked on row `r0 + maxLine + 1`. -/
theorem close_no_scroll_scr (W H r0 : Nat) (trim : Bool) (hist : List (Nat × Bytes)) (t0 : Scr)
    (hps : t0.ps = .ground) (hw : t0.width = W) (hh : t0.height = H) (hr : t0.row = r0)
    (hv : t0.cursorVisible = true) (hH : r0 + 1 < H) (hrows : ∀ u ∈ hist, r0 + u.1 + 1 < H)
    (htxt : ∀ u ∈ hist, TextSafe t0.cw W trim u.2) :
    let r := TermWriter.new.session (genCfg W trim) (castHist hist)
    let t := t0.feedBytes r.2
    t.row = r0 + (maxLineOf (castHist hist)).toNat + 1 ∧ t.row < H ∧ (∀ u ∈ hist, r0 + u.1 < t.row) ∧
    t.col = 0 ∧ t.cursorVisible = true ∧ t.ps = .ground ∧
    (∀ i txt, latest hist i = some txt → t.rows (r0 + i) = shown W trim txt) ∧
    (∀ j, j < H → (∀ i, latest hist i ≠ none → r0 + i ≠ j) → t.rows j = t0.rows j) := by
  intro r t
  have hreach : Reachable H r0 0 hist :=
    reachable_of_fits H r0 hist 0 (Nat.lt_of_succ_lt hH) (fun u hu => Nat.lt_of_succ_lt (hrows u hu))
  have hmax : r0 + (maxLineOf (castHist hist)).toNat + 1 < H := by
    rcases maxLineOf_mem hist with h0 | ⟨u, hu, hue⟩
    · rw [h0]; simpa using hH
    · have := hrows u hu; omega
  have hsf : r0 + (maxLineOf (castHist hist)).toNat + 1 - (H - 1) = 0 :=
    Nat.sub_eq_zero_of_le (Nat.le_sub_one_of_lt hmax)
  obtain ⟨h1, h2, h3, h4, h5, h6, h7, h8, _⟩ :=
    close_parks_cursor_scr W H r0 trim hist t0 hps hw hh hr (Nat.lt_of_succ_lt hH) hv hreach htxt
  simp only [hsf, Nat.add_zero, Nat.sub_zero, shiftN_zero] at h1 h3 h7 h8
  exact ⟨h1, h2, h3, h4, h5, h6, fun i txt h => h7 i txt h (Nat.zero_le _), h8⟩

/-- **What the property cannot promise once a line has scrolled off.**  After a history as in
`screen_refines_latest_scr`, one more update to a line `l` that is no longer on the screen
(`r0 + l < s`): cursor-up stops at the top row, so the text is written on row 0 – the row of line
`s - r0`, whose text is lost –, every other row is unchanged, and from then on the terminal's cursor
row and the writer's `cursor` disagree (every later relative movement is off by `s - (r0 + l)` rows). -/
theorem scrolled_off_update_lands_on_top_row (W H r0 : Nat) (trim : Bool) (hist : List (Nat × Bytes)) (t0 : Scr)
    (hps : t0.ps = .ground) (hw : t0.width = W) (hh : t0.height = H) (hr : t0.row = r0) (hlt : r0 < H)
    (hv : t0.cursorVisible = true) (hreach : Reachable H r0 0 hist)
    (htxt : ∀ u ∈ hist, TextSafe t0.cw W trim u.2) (l : Nat) (txt : Bytes)
    (hoff : r0 + l < r0 + (maxLineOf (castHist hist)).toNat - (H - 1)) (hsafe : TextSafe t0.cw W trim txt) :
    let before := t0.feedBytes (TermWriter.new.runHistory (genCfg W trim) (castHist hist)).2
    let r := TermWriter.new.runHistory (genCfg W trim) (castHist (hist ++ [(l, txt)]))
    let t := t0.feedBytes r.2
    let s := r0 + (maxLineOf (castHist hist)).toNat - (H - 1)
    t.row = 0 ∧ t.rows 0 = shown W trim txt ∧ (∀ j, j ≠ 0 → t.rows j = before.rows j) ∧
    r.1.cursor = l ∧ t.row + s ≠ r0 + r.1.cursor.toNat := by
  intro before r t s
  obtain ⟨hclean, inv⟩ := inv2_run W H r0 trim t0 hist [] _ _ (inv2_init W H r0 trim t0 hps hw hh hr hlt hv)
    (by simpa [TermWriter.new] using hreach) htxt
  simp only [List.nil_append] at inv
  have hm : (TermWriter.new.runHistory (cfg W trim) (castHist hist)).1.maxLine = maxLineOf (castHist hist) :=
    runHistory_new_maxLine _ _
  obtain ⟨_, k1, k2, k3, k4, _⟩ := write_scrolled_off inv l txt (by simpa [scrolled, hm] using hoff) hsafe
  have hr1 : r.1.cursor = l := by
    show (TermWriter.new.runHistory (genCfg W trim) (castHist (hist ++ [(l, txt)]))).1.cursor = _
    rw [castHist_append]; exact runHistory_cursor _ _ _ _
  have ht : t = (t0.feedBytes (TermWriter.new.runHistory (cfg W trim) (castHist hist)).2).feedBytes
      ((TermWriter.new.runHistory (cfg W trim) (castHist hist)).1.writeForLine (cfg W trim) l txt).2 := by
    show t0.feedBytes (TermWriter.new.runHistory (genCfg W trim) (castHist (hist ++ [(l, txt)]))).2 = _
    rw [gen_cfg_is_model_cfg, castHist_append, runHistory_append]
    simp only [castHist, List.map_cons, List.map_nil, runHistory_one]
    rw [Scr.feedBytes_append _ _ _ (by simpa [castHist] using hclean)]
  have hb : before = t0.feedBytes (TermWriter.new.runHistory (cfg W trim) (castHist hist)).2 := by
    show t0.feedBytes (TermWriter.new.runHistory (genCfg W trim) (castHist hist)).2 = _
    rw [gen_cfg_is_model_cfg]
  rw [ht, hb]
  refine ⟨k1, k2, k3, hr1, ?_⟩
  rw [← ht, hr1]
  show t.row + (r0 + (maxLineOf (castHist hist)).toNat - (H - 1)) ≠ _
  have : t.row = 0 := by rw [ht]; exact k1
  omega

/-- the screen the counterexamples run on: `W` columns, `H` rows, cursor on the top row,
`\n` = `\r\n`, cell widths of the East Asian table -/
def cexScr (W H : Nat) : Scr := Scr.blank W H true eaWidth

/-- **Counterexample just outside `Reachable`** (all other hypotheses hold): 3 rows; lines 0…3
scroll line 0 off; the update of line 0 ("A") then lands on the row of line 1 ("b"), and the final
update of line 3 ("D") is drawn one row too low: the screen scrolls again and ends as (empty) / "d" /
"D" – the stale "d" is still there – where lines 1…3 are "b" / (empty) / "D". -/
theorem scrolled_off_counterexample :
    let hist : List (Nat × Bytes) := [(0, [97]), (1, [98]), (3, [100]), (0, [65]), (3, [68])]
    let t := (cexScr 4 3).feedBytes (TermWriter.new.runHistory (genCfg 4 true) (castHist hist)).2
    ¬ Reachable 3 0 0 hist ∧ Reachable 3 0 0 (hist.take 3) ∧
    latest hist 1 = some [98] ∧ latest hist 3 = some [68] ∧ t.rows 0 = [] ∧ t.rows 1 = [100] ∧ t.rows 2 = [68] := by
  refine ⟨by simp [Reachable], by simp [Reachable], ?_⟩
  decide +kernel

/-- **Counterexample just outside `TextSafe`: a text with `\n`.**  Width 4, trimming on, plenty of
rows: the update "a\nb" of line 0 overwrites line 1 ("x") with "b". -/
theorem newline_text_counterexample :
    let hist : List (Nat × Bytes) := [(1, [120]), (0, [97, 10, 98])]
    let t := (cexScr 4 8).feedBytes (TermWriter.new.session (genCfg 4 true) (castHist hist)).2
    Reachable 8 0 0 hist ∧ latest hist 1 = some [120] ∧ shown 4 true [120] = [120] ∧ t.rows 1 = [98] := by
  refine ⟨by simp [Reachable], ?_⟩
  decide +kernel

/-- **Counterexample just outside `TextSafe`: trimming off and a text wider than the terminal.**
"abcdef" on 4 columns wraps into line 1, whose "x" becomes "ef". -/
theorem overwide_text_counterexample :
    let hist : List (Nat × Bytes) := [(1, [120]), (0, [97, 98, 99, 100, 101, 102])]
    let t := (cexScr 4 8).feedBytes (TermWriter.new.session (genCfg 4 false) (castHist hist)).2
    Reachable 8 0 0 hist ∧ latest hist 1 = some [120] ∧ t.rows 0 = [97, 98, 99, 100] ∧ t.rows 1 = [101, 102] := by
  refine ⟨by simp [Reachable], ?_⟩
  decide +kernel

/-- **Counterexample just outside `TextSafe`: a rune two cells wide.**  Trimming ON, 4 columns:
"世世世" has 3 ≤ 4 visible characters, so `WriteLineNoWrap` keeps all of it, but it occupies 6 cells;
the third rune wraps into line 1 and replaces its "x".  (The width is counted in characters, as the
property says; it is not the number of cells.) -/
theorem wide_rune_counterexample :
    let wide : Bytes := [0xe4, 0xb8, 0x96, 0xe4, 0xb8, 0x96, 0xe4, 0xb8, 0x96]
    let hist : List (Nat × Bytes) := [(1, [120]), (0, wide)]
    let t := (cexScr 4 8).feedBytes (TermWriter.new.session (genCfg 4 true) (castHist hist)).2
    eaWidth 0x4e16 = 2 ∧ writeLineNoWrap genEsc true 4 wide = wide ∧ Reachable 8 0 0 hist ∧
    latest hist 1 = some [120] ∧ t.rows 0 = [0x4e16, padCell, 0x4e16, padCell] ∧ t.rows 1 = [0x4e16, padCell] := by
  refine ⟨by decide +kernel, by decide +kernel, by simp [Reachable], ?_⟩
  decide +kernel

/-! ### the cut, for ARBITRARY bytes -/

/-- **trim_any.**  What `WriteLineNoWrap` does with ANY byte string (invalid UTF-8, control
characters, unterminated escape sequences, escape sequences other than colours) at ANY width `cols`
(also ≤ 0).  With trimming on it writes the UTF-8 encoding of the first `k` runes of `[]rune(s)`
(every invalid byte has become U+FFFD = `EF BF BD`; for well-formed input that is a byte prefix of
the input), and decoding the output gives exactly those runes back.  The scanner's notion of
"visible" is `visibleRunes`: every rune that is not between an ESC and the next `m` (or the end of
the text).  Of those the output has at most `max cols 0`; and either nothing was cut (`k` = all
runes – then, and only then, the output can end inside an escape sequence: when the text itself
does), or the output does **not end inside an escape sequence** and has exactly `max cols 0` visible
runes.  With trimming off the bytes are passed through unchanged. -/
theorem trim_any (cols : Int) (txt : Bytes) :
    ∃ k, k ≤ (decodeUtf8 txt).length ∧
      writeLineNoWrap genEsc true cols txt = encodeUtf8 ((decodeUtf8 txt).take k) ∧
      decodeUtf8 (writeLineNoWrap genEsc true cols txt) = (decodeUtf8 txt).take k ∧
      ((visibleRunes ((decodeUtf8 txt).take k)).length : Int) ≤ max cols 0 ∧
      (k = (decodeUtf8 txt).length ∨
        (endsInEsc false ((decodeUtf8 txt).take k) = false ∧
         ((visibleRunes ((decodeUtf8 txt).take k)).length : Int) = max cols 0)) ∧
      (ValidUtf8 txt → ∃ rest, txt = writeLineNoWrap genEsc true cols txt ++ rest) ∧
      writeLineNoWrap genEsc false cols txt = txt := by
  rw [gen_strings_are_model_strings]
  refine ⟨trimGo handEsc cols false 0 (decodeUtf8 txt), ?_⟩
  have hw : writeLineNoWrap handEsc true cols txt =
      encodeUtf8 ((decodeUtf8 txt).take (trimGo handEsc cols false 0 (decodeUtf8 txt))) := by
    simp [writeLineNoWrap, trimRunes]
  have hvalid : ∀ r ∈ (decodeUtf8 txt).take (trimGo handEsc cols false 0 (decodeUtf8 txt)), validScalar r :=
    fun r hr => decodeUtf8_valid txt r (List.mem_of_mem_take hr)
  have hpre : ValidUtf8 txt → ∃ rest, txt = writeLineNoWrap handEsc true cols txt ++ rest := by
    intro hv
    refine ⟨encodeUtf8 ((decodeUtf8 txt).drop (trimGo handEsc cols false 0 (decodeUtf8 txt))), ?_⟩
    rw [hw, ← encodeUtf8_append, List.take_append_drop]
    exact hv.symm
  by_cases hc : 0 ≤ cols
  · obtain ⟨h1, h2, h3⟩ := trimGo_any cols (decodeUtf8 txt) false 0 hc
    simp only [scanVis, Bool.false_eq_true, if_false] at h2 h3
    refine ⟨h1, hw, by rw [hw]; exact decodeUtf8_encodeUtf8 _ hvalid, by omega, ?_, hpre, by simp [writeLineNoWrap]⟩
    rcases h3 with h3 | h3
    · exact Or.inl h3
    · exact Or.inr ⟨h3.1, by omega⟩
  · have hk : trimGo handEsc cols false 0 (decodeUtf8 txt) = 0 := by
      cases h : decodeUtf8 txt with
      | nil => rfl
      | cons r rest =>
        have : ¬ (0 : Int) < cols := by omega
        simp [trimGo, this]
    rw [hk] at hw hvalid
    rw [hk]
    refine ⟨by omega, hw, by rw [hw]; exact decodeUtf8_encodeUtf8 _ hvalid, by simp [visibleRunes]; omega, ?_, hpre,
      by simp [writeLineNoWrap]⟩
    right
    simp [endsInEsc, visibleRunes]; omega


/-- **trim_cells.**  Cells occupied on a terminal by the visible runes of what `WriteLineNoWrap`
writes: at most the width when every visible rune is one cell wide, at most twice the width when
runes may be two cells wide (CJK, emoji) – the cut counts characters, not cells; see
`wide_rune_counterexample`. -/
theorem trim_cells (cw : Rune → Nat) (cols : Nat) (txt : Bytes) :
    let vis := visibleRunes (decodeUtf8 (writeLineNoWrap genEsc true cols txt))
    ((∀ r ∈ vis, cw r = 1) → cellsOf cw vis ≤ cols) ∧ ((∀ r, cw r ≤ 2) → cellsOf cw vis ≤ 2 * cols) := by
  intro vis
  obtain ⟨k, _, _, hd, hv, _⟩ := trim_any cols txt
  have hlen : vis.length ≤ cols := by
    show (visibleRunes (decodeUtf8 (writeLineNoWrap genEsc true cols txt))).length ≤ cols
    rw [hd]; omega
  refine ⟨fun h1 => by rw [cellsOf_one cw vis h1]; exact hlen, fun h2 => ?_⟩
  have := cellsOf_le cw h2 vis
  omega

/-- **Counterexample: an escape sequence that is not a colour.**  The scanner treats everything from
an ESC to the next `m` as invisible.  `ESC[K` (erase line) followed by "hello wo" contains no `m`,
so at width 4 the whole text is kept ("0 visible runes") – and the terminal prints 8 cells, which
wrap into line 1 and replace its "x". -/
theorem non_sgr_escape_counterexample :
    let txt : Bytes := [0x1b, 0x5b, 0x4b, 104, 101, 108, 108, 111, 32, 119, 111]
    let t := (cexScr 4 8).feedBytes (TermWriter.new.session (genCfg 4 true) (castHist [(1, [120]), (0, txt)])).2
    writeLineNoWrap genEsc true 4 txt = txt ∧ visibleRunes (decodeUtf8 txt) = [] ∧
    t.rows 0 = [104, 101, 108, 108] ∧ t.rows 1 = [111, 32, 119, 111] := by
  decide +kernel

/-- `trim_any` instances: a text ending inside an unterminated colour sequence is kept whole when it
fits (and then ends inside the sequence, as the input does) and is cut before the ESC otherwise -/
example : writeLineNoWrap genEsc true 5 exTail = exTail ∧ endsInEsc false (decodeUtf8 exTail) = true ∧
    writeLineNoWrap genEsc true 2 exTail = [97, 98] ∧ writeLineNoWrap genEsc true 3 exTail = exTail := by decide +kernel

/-- `trim_any` instance: an invalid byte is written as U+FFFD (the output is not a byte prefix) -/
example : writeLineNoWrap genEsc true 4 exBad = [0xef, 0xbf, 0xbd, 97] ∧ ¬ ValidUtf8 exBad := by
  refine ⟨by decide +kernel, by unfold ValidUtf8; decide +kernel⟩

/-! ### buffered writer -/

/-- **buffered_same_lines.**  For any history (lines in any order, repeats, gaps) the buffered
writer stores, and on `Close()` prints top to bottom (each through `WriteLineNoWrap`, followed by
`\n`), exactly the latest text of every line `0 … LineCount-1` – empty for lines never written –
where `LineCount` is one more than the largest line written; afterwards it is closed. -/
theorem buffered_same_lines (W : Nat) (trim : Bool) (hist : List (Nat × Bytes)) :
    ∃ v, VirtualTerm.new.runHistory (castHist hist) = .ok v ∧
      (∀ u ∈ hist, u.1 < v.lineCount) ∧ (∀ i : Nat, v.lineCount ≤ i → latest hist i = none) ∧
      (∀ i : Nat, v.get i = (latest hist i).getD []) ∧
      (bufferedClose (genCfg W trim) v).2 =
        (List.range v.lineCount).flatMap
          (fun i => writeLineNoWrap genEsc trim W ((latest hist i).getD []) ++ [10]) ∧
      (bufferedClose (genCfg W trim) v).1.closed = true := by
  obtain ⟨v, hrun, hinv⟩ := vrun_new hist
  refine ⟨v, hrun, hinv.lt, hinv.none, fun i => ?_, hinv.output _, rfl⟩
  simp only [VirtualTerm.get]
  by_cases h : (i : Int) ≥ v.lines.length ∨ (i : Int) < 0
  · rw [if_pos h, hinv.none i (by omega)]; rfl
  · rw [if_neg h, Int.toNat_natCast]; exact hinv.get i

/-- What the buffered writer prints for a line shows the same visible text as the live terminal's
row for that line (`screen_refines_latest`): the visible runes of the printed bytes are `shown`. -/
theorem buffered_line_shows_same (W : Nat) (trim : Bool) (txt : Bytes) (h : TextOK W trim txt) :
    visibleRunes (decodeUtf8 (writeLineNoWrap genEsc trim W txt)) = shown W trim txt := by
  rw [gen_strings_are_model_strings]
  obtain ⟨toks, hp, _, hdec, hshown, _⟩ := piece_spec W trim txt h
  rw [hdec, ← hshown, ← visibleRunes_toks toks [] (fun t ht => (hp t ht).scannable) (Or.inl rfl), List.append_nil]

/-! ### `Close()` in the middle of a history (Close twice, writes after Close) -/

/-- **buffered_close_repeats.**  The buffered writer after any history and `n` calls of `Close()`:
every call prints all stored lines again (`n` copies of the output of `buffered_same_lines`; nothing
for `n = 0`), and the store is closed from the first call on. -/
theorem buffered_close_repeats (W : Nat) (trim : Bool) (hist : List (Nat × Bytes)) (n : Nat) :
    ∃ v, VirtualTerm.new.runHistory (castHist hist) = .ok v ∧
      runB (genCfg W trim) VirtualTerm.new (writesOf hist ++ List.replicate n .c) =
        .ok ({ v with closed := decide (0 < n) }, repeatBytes n (bufferedClose (genCfg W trim) v).2) := by
  obtain ⟨v, hrun, hinv⟩ := vrun_new hist
  refine ⟨v, hrun, ?_⟩
  rw [runB_writes, hrun]
  simp only [runB_closes, hinv.isOpen, Bool.false_or, bufferedClose]

/-- **write_after_close_panics.**  `VirtualTerm` / `BufferedTerm`: after any history and at least one
`Close()`, the next `WriteForLine` panics ("virtualterm closed"), whatever follows. -/
theorem write_after_close_panics (c : Cfg) (hist : List (Nat × Bytes)) (n : Nat) (l : Int) (t : Bytes)
    (rest : List Item) :
    runB c VirtualTerm.new (writesOf hist ++ (List.replicate (n + 1) .c ++ .w l t :: rest)) = .error "virtualterm closed" ∧
    runV VirtualTerm.new (writesOf hist ++ (List.replicate (n + 1) .c ++ .w l t :: rest)) = .error "virtualterm closed" := by
  obtain ⟨v, hrun, _⟩ := vrun_new hist
  refine ⟨?_, ?_⟩
  · rw [runB_writes, hrun]
    simp only [List.replicate_succ, List.cons_append, runB]
    rw [runB_closed_then_write c l t rest n _ rfl]
  · rw [runV_writes, hrun]
    simp only [List.replicate_succ, List.cons_append, runV]
    exact runV_closed_then_write l t rest n _ rfl

/-- a negative line index panics in the line store (index out of range) -/
theorem negative_line_panics (v : VirtualTerm) (hc : v.closed = false) (l : Int) (hl : l < 0) (t : Bytes) :
    v.writeForLine l t = .error "index out of range" := by
  simp [VirtualTerm.writeForLine, hc, hl]

/-- **termwriter_close_twice.**  A second `Close()` of the live writer leaves the writer unchanged
and emits `\r`, a newline and – when the cursor had been hidden – the show-cursor sequence again:
the terminal's cursor moves one more row down. -/
theorem termwriter_close_twice (c : Cfg) (w : TermWriter) :
    ((w.close c).1.close c).1 = (w.close c).1 ∧
    ((w.close c).1.close c).2 = c.E.cr ++ c.E.closeNl ++ (if w.cursorHidden then c.E.seq c.E.unhide else []) := by
  simp [TermWriter.close, TermWriter.goTo, repeatBytes]

/-- **Counterexample: a write after `Close()` of the live writer.**  `Close()` leaves the terminal's
cursor one row below `maxLine` while the writer still believes it is on `maxLine`; the update "b"
of line 0 after the Close is therefore drawn on row 1, and row 0 keeps the stale "a". -/
theorem write_after_close_counterexample :
    let t := (cexScr 4 8).feedBytes (runItems (genCfg 4 true) TermWriter.new [.w 0 [97], .c, .w 0 [98], .c]).2
    t.rows 0 = [97] ∧ t.rows 1 = [98] ∧ t.row = 2 ∧ t.cursorVisible = true := by
  decide +kernel

/-! ### the live writer with `Close()` calls in the middle of the history -/

/-- **writes_after_close_scr.**  The live writer on the reference terminal for ANY sequence `us` of
updates and `Close()` calls (then the final `Close()`), any width, trimming on/off, any height and
start row, texts `TextSafe`.  `Close()` leaves the terminal's cursor one row below `maxLine` while the
writer goes on believing it is on `maxLine`, so every update made after `d` Closes is drawn `d` rows
lower: with `phys = physHist 0 us` the history in physical lines (`l + d` for a write to line `l` after
`d` Closes), `M = physMax 0 0 us` (one more than the previous maximum for every Close) and
`sf = r0 + M + 1 - (H-1)` rows scrolled off, **the screen is exactly what the property promises for the
history `phys`**: physical line `i` (if still on the screen) shows the latest text written to it, all
other rows the shifted start screen; the cursor is parked on row `r0 + M + 1 - sf`, below every text,
column 0, visible, ground state; and the writer's `maxLine` is `M` minus the number of Closes.
`ReachUpd`: every update goes to a physical line that is still on the screen (cf. `Reachable`). -/
theorem writes_after_close_scr (W H r0 : Nat) (trim : Bool) (us : List Upd) (t0 : Scr)
    (hps : t0.ps = .ground) (hw : t0.width = W) (hh : t0.height = H) (hr : t0.row = r0) (hlt : r0 < H)
    (hv : t0.cursorVisible = true) (hreach : ReachUpd H r0 0 0 us) (htxt : ∀ u ∈ us, u.Safe t0.cw W trim) :
    let r1 := runItems (genCfg W trim) TermWriter.new (us.map Upd.item)
    let r2 := r1.1.close (genCfg W trim)
    let t := t0.feedBytes (r1.2 ++ r2.2)
    let phys := physHist 0 us
    let M := physMax 0 0 us
    let sf := r0 + M + 1 - (H - 1)
    t.row + sf = r0 + M + 1 ∧ t.row < H ∧ (∀ u ∈ phys, r0 + u.1 < t.row + sf) ∧ t.col = 0 ∧
    t.cursorVisible = true ∧ t.ps = .ground ∧ r1.1.maxLine.toNat + closesOf us = M ∧
    (∀ i txt, latest phys i = some txt → sf ≤ r0 + i → t.rows (r0 + i - sf) = shown W trim txt) ∧
    (∀ j, j < H → (∀ i, latest phys i ≠ none → r0 + i ≠ j + sf) → t.rows j = shiftN H sf t0.rows j) := by
  rw [gen_cfg_is_model_cfg]
  intro r1 r2 t phys M sf
  obtain ⟨hclean, inv, hM⟩ := inv3_run W H r0 trim t0 us [] 0 _ _ (inv3_init W H r0 trim t0 hps hw hh hr hlt hv)
    (by simpa [TermWriter.new] using hreach) htxt
  simp only [List.nil_append, Nat.zero_add] at inv hM
  have hM' : (runItems (cfg W trim) TermWriter.new (us.map Upd.item)).1.maxLine.toNat + closesOf us = physMax 0 0 us := hM
  obtain ⟨_, inv', hvis, hcol⟩ := inv3_close inv
  have ht : t = (t0.feedBytes r1.2).feedBytes r2.2 := Scr.feedBytes_append _ _ _ hclean
  rw [← ht] at inv' hvis hcol
  have hP : ((runItems (cfg W trim) TermWriter.new (us.map Upd.item)).1.close (cfg W trim)).1.maxLine.toNat
      + (closesOf us + 1) = physMax 0 0 us + 1 := by
    rw [close_maxLine, ← Nat.add_assoc _ (closesOf us) 1, hM']
  have hrow : t.row + sf = r0 + M + 1 := by
    have := inv'.row
    rwa [hP, close_cursor, ← Nat.add_assoc _ (closesOf us) 1, hM'] at this
  have hwr := inv'.written
  have hot := inv'.other
  rw [hP] at hwr hot
  refine ⟨hrow, inv'.rowlt, fun u hu => ?_, hcol, hvis, inv'.ps, hM', hwr, hot⟩
  rw [hrow]
  exact Nat.lt_succ_of_le (Nat.add_le_add_left (physHist_le us 0 0 u hu) r0)

/-- `writes_after_close_scr` on the sequence of `write_after_close_counterexample` ("a" to line 0,
`Close()`, "b" to line 0, final `Close()`): the hypotheses hold, the physical history is line 0 = "a",
line 1 = "b", `M = 1`, and the theorem gives the screen the counterexample computes: "a" / "b", cursor
on row 2 -/
example :
    let us : List Upd := [.w 0 [97], .c, .w 0 [98]]
    let t := (cexScr 4 8).feedBytes (runItems (genCfg 4 true) TermWriter.new [.w 0 [97], .c, .w 0 [98], .c]).2
    physHist 0 us = [(0, [97]), (1, [98])] ∧ physMax 0 0 us = 1 ∧
    t.rows 0 = [97] ∧ t.rows 1 = [98] ∧ t.row = 2 ∧ t.cursorVisible = true := by
  intro us t
  have hsafe : ∀ u ∈ us, u.Safe (cexScr 4 8).cw 4 true := by
    intro u hu
    simp [us] at hu
    rcases hu with rfl | rfl | rfl
    · exact ⟨[.ch 97], [], by intro t ht; simp at ht; subst ht; exact ⟨by decide, by decide, by decide⟩, Or.inl rfl, by decide, by simp⟩
    · trivial
    · exact ⟨[.ch 98], [], by intro t ht; simp at ht; subst ht; exact ⟨by decide, by decide, by decide⟩, Or.inl rfl, by decide, by simp⟩
  have h := writes_after_close_scr 4 8 0 true us (cexScr 4 8) rfl rfl rfl rfl (by decide) rfl
    (by simp [us, ReachUpd]) hsafe
  have hb : (runItems (genCfg 4 true) TermWriter.new [.w 0 [97], .c, .w 0 [98], .c]).2 =
      (runItems (genCfg 4 true) TermWriter.new (us.map Upd.item)).2 ++
        ((runItems (genCfg 4 true) TermWriter.new (us.map Upd.item)).1.close (genCfg 4 true)).2 := by
    simp [us, Upd.item, runItems]
  have hM : physMax 0 0 us = 1 := by decide
  simp only [hM] at h
  obtain ⟨h1, _, _, _, h5, _, _, h8, _⟩ := h
  rw [← hb] at h1 h5 h8
  refine ⟨by decide, hM, ?_, ?_, ?_, h5⟩
  · have := h8 0 [97] (by decide) (by omega); simpa using this.trans (by decide)
  · have := h8 1 [98] (by decide) (by omega); simpa using this.trans (by decide)
  · change t.row + _ = _ at h1; omega

/-- a plain history as an update sequence without `Close()` -/
def updsOfHist (hist : List (Nat × Bytes)) : List Upd := hist.map fun u => .w u.1 u.2

/-- **writes_after_close_generalises.**  On a history without `Close()` in the middle the notions of
`writes_after_close_scr` are those of `close_parks_cursor_scr`: the physical history is the history,
`ReachUpd` is `Reachable`, `physMax` is the running maximum (`maxLineOf` when started at 0), the calls
are `writesOf`, no Close is counted – so `close_parks_cursor_scr` is the special case `d = 0` throughout. -/
theorem writes_after_close_generalises (H r0 m : Nat) (hist : List (Nat × Bytes)) :
    physHist 0 (updsOfHist hist) = hist ∧ closesOf (updsOfHist hist) = 0 ∧
    (updsOfHist hist).map Upd.item = writesOf hist ∧
    (ReachUpd H r0 m 0 (updsOfHist hist) ↔ Reachable H r0 m hist) ∧
    physMax m 0 (updsOfHist hist) = hist.foldl (fun a u => max a u.1) m := by
  refine ⟨?_, ?_, ?_, ?_, ?_⟩
  · induction hist with
    | nil => rfl
    | cons u rest ih => simp only [updsOfHist, List.map_cons, physHist, Nat.add_zero] at ih ⊢; rw [ih]
  · induction hist with
    | nil => rfl
    | cons u rest ih => simpa [updsOfHist, closesOf] using ih
  · simp [updsOfHist, writesOf, Upd.item]
  · induction hist generalizing m with
    | nil => simp [updsOfHist, ReachUpd, Reachable]
    | cons u rest ih =>
      simp only [updsOfHist, List.map_cons, ReachUpd, Reachable, Nat.add_zero] at ih ⊢
      rw [ih]
  · induction hist generalizing m with
    | nil => rfl
    | cons u rest ih =>
      simp only [updsOfHist, List.map_cons, physMax, Nat.add_zero, List.foldl_cons] at ih ⊢
      rw [ih]

/-! ### the cursor bookkeeping of `TermWriter`, translated statement by statement

`Rare/Gen/C20.lean` contains `New`, `goTo`, `writeAtCursor`, `WriteForLine` and `Close` of
`pkg/multiterm/multiterm.go` as translated by `harness/extract/c20.go` from the Go AST: every `if`,
both `for` loops of `goTo` (as `forLoop` with an iteration bound `fuel`), every field update and every
output-producing call (as an event list).  The theorems below prove that the hand model
(`Rare/Model/C20.lean`, about which all the theorems above speak) computes the same writer state and
the same bytes; a changed guard, loop bound, counter update or call order in /repo breaks them. -/

open Gen.C20 in
private theorem forLoop_iter (cond : Int → Bool) (next : Int → Int) (body : Int → W × List Ev → W × List Ev)
    (fx : W → W) (ev : Ev) (hb : ∀ i x evs, body i (x, evs) = (fx x, evs ++ [ev])) :
    ∀ (n fuel : Nat) (i : Int) (x : W) (evs : List Ev), n ≤ fuel →
      (∀ k, k < n → cond (iter next k i) = true) → cond (iter next n i) = false →
      forLoop fuel cond next body i (x, evs) = (iter fx n x, evs ++ List.replicate n ev) := by
  intro n
  induction n with
  | zero =>
    intro fuel i x evs _ _ hc
    have hc' : cond i = false := hc
    cases fuel with
    | zero => simp [forLoop, iter]
    | succ f => simp [forLoop, hc', iter]
  | succ n ih =>
    intro fuel i x evs hf hk hc
    cases fuel with
    | zero => omega
    | succ f =>
      have h0 : cond i = true := hk 0 (by omega)
      have := ih f (next i) (fx x) (evs ++ [ev]) (by omega) (fun k hk' => hk (k + 1) (by omega)) hc
      simp only [forLoop, h0, if_true, hb, this, iter, List.replicate_succ]
      simp


/-- **gen_trim_guards_are_model.**  The three guards of the trimming scanner as translated from
`pkg/multiterm/linetrim.go` – the outer loop condition `i < len(runes) && visibleRunes < computedCols`,
the test `runes[i] == '\x1b'`, the inner loop condition `runes[i] != 'm' && i < len(runes)-1` – are
the case distinctions of the hand model `trimGo` (one unfolding at the head of the remaining runes,
in both scanner modes). -/
theorem gen_trim_guards_are_model (cols vis : Int) (r : Rune) (rest : List Rune) :
    trimGo genEsc cols false vis (r :: rest) =
      (if Gen.C20.trimOuterCond r 0 (rest.length + 1) vis cols then
        (if Gen.C20.trimIsEsc r 0 (rest.length + 1) vis cols then
          (if Gen.C20.trimInnerCond r 0 (rest.length + 1) vis cols then 1 + trimGo genEsc cols true vis rest
           else 1 + trimGo genEsc cols false vis rest)
         else 1 + trimGo genEsc cols false (vis + 1) rest)
       else 0) ∧
    trimGo genEsc cols true vis (r :: rest) =
      (if Gen.C20.trimInnerCond r 0 (rest.length + 1) vis cols then 1 + trimGo genEsc cols true vis rest
       else 1 + trimGo genEsc cols false vis rest) := by
  have hrest : (rest ≠ []) ↔ (0 : Int) < (rest.length + 1 : Int) - 1 := by
    cases rest <;> simp <;> omega
  have h27 : genEsc.trimEsc = 27 := rfl
  have h109 : genEsc.trimEnd = 109 := rfl
  have hlen : (0 : Int) < (rest.length : Int) + 1 := by omega
  constructor
  · simp only [trimGo, Gen.C20.trimOuterCond, Gen.C20.trimIsEsc, Gen.C20.trimInnerCond, h27, h109, hlen, decide_true,
      Bool.true_and, decide_eq_true_eq, Bool.and_eq_true, hrest]
    by_cases hv : vis < cols <;> by_cases he : r = 27 <;> simp [hv, he] <;> (try omega)
  · simp only [trimGo, Gen.C20.trimInnerCond, h109, decide_eq_true_eq, Bool.and_eq_true, hrest]
    by_cases he : r = 109
    · simp [he]
    · have he' : ¬ ((r : Int) = 109) := by omega
      simp [he, he']

/-- the hand model's writer state as the translator's record -/
def toW (w : TermWriter) : Gen.C20.W :=
  { cursor := w.cursor, cursorHidden := w.cursorHidden, maxLine := w.maxLine, clearLine := w.clearLine,
    hideCursor := w.hideCursor }

/-- the bytes one output-producing call writes (`text` = the argument of `WriteForLine`) -/
def evBytes (c : Cfg) (text : Bytes) : Gen.C20.Ev → Bytes
  | .print b => b
  | .moveUp n => moveUpf c.E n
  | .hideCursor => c.E.seq c.E.hide
  | .showCursor => c.E.seq c.E.unhide
  | .eraseRemainingLine => c.E.seq c.E.erase
  | .writeLineNoWrap => writeLineNoWrap c.E c.autoTrim c.cols text

/-- all output of a run of translated statements -/
def evsBytes (c : Cfg) (text : Bytes) (evs : List Gen.C20.Ev) : Bytes := evs.flatMap (evBytes c text)

private theorem iter_cursor (d : Int) : ∀ (k : Nat) (x : Gen.C20.W),
    iter (fun x : Gen.C20.W => { x with cursor := x.cursor + d }) k x = { x with cursor := x.cursor + d * k } := by
  intro k
  induction k with
  | zero => intro x; simp [iter]
  | succ k ih => intro x; simp only [iter, ih]; rw [Int.natCast_succ, Int.mul_add]; congr 1; omega

open Gen.C20 in
private theorem gen_goTo_events (fuel : Nat) (line : Int) (x : W) (evs : List Ev)
    (hf : (line - x.cursor).natAbs ≤ fuel) :
    goTo fuel line (x, evs) =
      ({ x with maxLine := if line > x.maxLine then line else x.maxLine, cursor := line },
       evs ++ List.replicate (line - x.cursor).toNat (Ev.print [0x0a]) ++
         List.replicate (x.cursor - line).toNat (Ev.moveUp 1) ++ [Ev.print [0x0d]]) := by
  obtain ⟨cursor, hidden, maxLine, clearLine, hideCursor⟩ := x
  simp only at hf
  let M : Int := if line > maxLine then line else maxLine
  let st1 : W × List Ev → W × List Ev := fun s =>
    if decide (line > s.1.maxLine) then (let s := ({ s.1 with maxLine := line }, s.2); s) else s
  let st2 : W × List Ev → W × List Ev := fun s =>
    forLoop fuel (fun i => decide (i < line)) (fun i => i + 1)
      (fun _ s => (let s := (s.1, s.2 ++ [Ev.print [0x0a]]); let s := ({ s.1 with cursor := s.1.cursor + 1 }, s.2); s)) s.1.cursor s
  let st3 : W × List Ev → W × List Ev := fun s =>
    forLoop fuel (fun i => decide (i > line)) (fun i => i - 1)
      (fun _ s => (let s := (s.1, s.2 ++ [Ev.moveUp (1 : Int)]); let s := ({ s.1 with cursor := s.1.cursor - 1 }, s.2); s)) s.1.cursor s
  let st4 : W × List Ev → W × List Ev := fun s => (s.1, s.2 ++ [Ev.print [0x0d]])
  have hcomp : goTo fuel line (⟨cursor, hidden, maxLine, clearLine, hideCursor⟩, evs) =
      st4 (st3 (st2 (st1 (⟨cursor, hidden, maxLine, clearLine, hideCursor⟩, evs)))) := rfl
  have e1 : st1 (⟨cursor, hidden, maxLine, clearLine, hideCursor⟩, evs) = (⟨cursor, hidden, M, clearLine, hideCursor⟩, evs) := by
    show (if decide (line > maxLine) then _ else _) = _
    by_cases h : line > maxLine <;> simp [h, M]
  have e2 : st2 (⟨cursor, hidden, M, clearLine, hideCursor⟩, evs) =
      (⟨cursor + (line - cursor).toNat, hidden, M, clearLine, hideCursor⟩, evs ++ List.replicate (line - cursor).toNat (Ev.print [0x0a])) := by
    have := forLoop_iter (fun i => decide (i < line)) (fun i => i + 1)
      (fun _ s => (let s := (s.1, s.2 ++ [Ev.print [0x0a]]); let s := ({ s.1 with cursor := s.1.cursor + 1 }, s.2); s))
      (fun x => { x with cursor := x.cursor + 1 }) (Ev.print [0x0a]) (fun _ _ _ => rfl)
      (line - cursor).toNat fuel cursor ⟨cursor, hidden, M, clearLine, hideCursor⟩ evs (by omega)
      (by intro k hk; rw [iter_add]; simp; omega) (by rw [iter_add]; simp; omega)
    rw [iter_cursor] at this
    simpa using this
  have e3 : st3 (⟨cursor + (line - cursor).toNat, hidden, M, clearLine, hideCursor⟩, evs ++ List.replicate (line - cursor).toNat (Ev.print [0x0a])) =
      (⟨line, hidden, M, clearLine, hideCursor⟩, evs ++ List.replicate (line - cursor).toNat (Ev.print [0x0a]) ++
        List.replicate (cursor - line).toNat (Ev.moveUp 1)) := by
    have := forLoop_iter (fun i => decide (i > line)) (fun i => i - 1)
      (fun _ s => (let s := (s.1, s.2 ++ [Ev.moveUp (1 : Int)]); let s := ({ s.1 with cursor := s.1.cursor - 1 }, s.2); s))
      (fun x => { x with cursor := x.cursor + (-1) }) (Ev.moveUp 1) (fun _ _ _ => rfl)
      (cursor - line).toNat fuel (cursor + (line - cursor).toNat) ⟨cursor + (line - cursor).toNat, hidden, M, clearLine, hideCursor⟩
      (evs ++ List.replicate (line - cursor).toNat (Ev.print [0x0a])) (by omega)
      (by intro k hk; rw [show (fun i : Int => i - 1) = (fun i => i + (-1)) from rfl, iter_add]; simp; omega)
      (by rw [show (fun i : Int => i - 1) = (fun i => i + (-1)) from rfl, iter_add]; simp; omega)
    rw [iter_cursor] at this
    have hc : cursor + ((line - cursor).toNat : Int) + -1 * ((cursor - line).toNat : Int) = line := by omega
    simp only [hc] at this
    exact this
  rw [hcomp, e1, e2, e3]
private theorem evsBytes_append (c : Cfg) (text : Bytes) (a b : List Gen.C20.Ev) :
    evsBytes c text (a ++ b) = evsBytes c text a ++ evsBytes c text b := by simp [evsBytes]

private theorem evsBytes_replicate (c : Cfg) (text : Bytes) (n : Nat) (ev : Gen.C20.Ev) :
    evsBytes c text (List.replicate n ev) = repeatBytes n (evBytes c text ev) := by
  induction n with
  | zero => simp [evsBytes, repeatBytes]
  | succ n ih => simp only [evsBytes, repeatBytes, List.replicate_succ, List.flatMap_cons, List.flatten_cons] at ih ⊢; rw [ih]

private theorem evsBytes_one (c : Cfg) (text : Bytes) (ev : Gen.C20.Ev) : evsBytes c text [ev] = evBytes c text ev := by
  simp [evsBytes]

/-- `New()` as translated from the source is the hand model's initial writer. -/
theorem gen_new_is_model : Gen.C20.new = toW TermWriter.new := rfl

/-- **gen_goTo_is_model.**  `goTo(line)` as translated statement by statement from
`pkg/multiterm/multiterm.go` (the `maxLine` update, the two counting loops – run with any `fuel` of at
least `|line - cursor|` iterations –, the final `\r`) computes the same writer state and writes the
same bytes as the hand model `TermWriter.goTo`. -/
theorem gen_goTo_is_model (W : Nat) (trim : Bool) (text : Bytes) (w : TermWriter) (line : Int) (fuel : Nat)
    (hf : (line - w.cursor).natAbs ≤ fuel) :
    (Gen.C20.goTo fuel line (toW w, [])).1 = toW (w.goTo genEsc line).1 ∧
    evsBytes (genCfg W trim) text (Gen.C20.goTo fuel line (toW w, [])).2 = (w.goTo genEsc line).2 := by
  rw [gen_goTo_events fuel line (toW w) [] hf]
  refine ⟨rfl, ?_⟩
  simp only [List.nil_append, evsBytes_append, evsBytes_replicate, evsBytes_one, evBytes, TermWriter.goTo, toW]
  rfl

/-- **gen_writeForLine_is_model.**  `WriteForLine(line, text)` as translated from the source (hide the
cursor once, `goTo`, `writeAtCursor` = `WriteLineNoWrap` + erase when `ClearLine`) = the hand model. -/
theorem gen_writeForLine_is_model (W : Nat) (trim : Bool) (text : Bytes) (w : TermWriter) (line : Int) (fuel : Nat)
    (hf : (line - w.cursor).natAbs ≤ fuel) :
    (Gen.C20.writeForLine fuel line (toW w, [])).1 = toW (w.writeForLine (genCfg W trim) line text).1 ∧
    evsBytes (genCfg W trim) text (Gen.C20.writeForLine fuel line (toW w, [])).2 =
      (w.writeForLine (genCfg W trim) line text).2 := by
  obtain ⟨cursor, hidden, maxLine, clearLine, hideCursor⟩ := w
  simp only at hf
  have hg : ∀ (hid cl hc : Bool) (evs : List Gen.C20.Ev),
      Gen.C20.goTo fuel line (⟨cursor, hid, maxLine, cl, hc⟩, evs) = _ :=
    fun hid cl hc evs => gen_goTo_events fuel line ⟨cursor, hid, maxLine, cl, hc⟩ evs hf
  unfold Gen.C20.writeForLine
  cases hideCursor <;> cases hidden <;> cases clearLine <;>
    simp only [toW, Bool.and_true, Bool.and_false, Bool.not_true, Bool.not_false, if_true, if_false, Bool.false_eq_true, hg, Gen.C20.writeAtCursor, List.nil_append] <;>
    refine ⟨rfl, ?_⟩ <;>
    simp only [evsBytes_append, evsBytes_replicate, evsBytes_one, evBytes, TermWriter.writeForLine, TermWriter.goTo, TermWriter.writeAtCursor,
      genCfg, Bool.and_true, Bool.and_false, Bool.not_true, Bool.not_false, if_true,
      if_false, Bool.false_eq_true, List.nil_append, List.append_nil, List.append_assoc] <;>
    rfl

/-- **gen_close_is_model.**  `Close()` as translated from the source (`goTo(maxLine)`, a newline, show
the cursor when it had been hidden) = the hand model. -/
theorem gen_close_is_model (W : Nat) (trim : Bool) (text : Bytes) (w : TermWriter) (fuel : Nat)
    (hf : (w.maxLine - w.cursor).natAbs ≤ fuel) :
    (Gen.C20.close fuel (toW w, [])).1 = toW (w.close (genCfg W trim)).1 ∧
    evsBytes (genCfg W trim) text (Gen.C20.close fuel (toW w, [])).2 = (w.close (genCfg W trim)).2 := by
  obtain ⟨cursor, hidden, maxLine, clearLine, hideCursor⟩ := w
  simp only at hf
  have hg : ∀ (hid : Bool) (evs : List Gen.C20.Ev),
      Gen.C20.goTo fuel maxLine (⟨cursor, hid, maxLine, clearLine, hideCursor⟩, evs) = _ :=
    fun hid evs => gen_goTo_events fuel maxLine ⟨cursor, hid, maxLine, clearLine, hideCursor⟩ evs hf
  unfold Gen.C20.close
  cases hidden <;>
    simp only [toW, hg, if_true, if_false, Bool.false_eq_true, List.nil_append] <;>
    refine ⟨rfl, ?_⟩ <;>
    simp only [evsBytes_append, evsBytes_replicate, evsBytes_one, evBytes, TermWriter.close, TermWriter.goTo, genCfg, if_true, if_false,
      Bool.false_eq_true, List.append_nil, List.append_assoc] <;>
    rfl

/-- the translated `goTo` run on a concrete state: from line 3 up to line 1 (two cursor-up calls, `\r`),
and from line 1 down to line 4 past the previous maximum (three newlines, `maxLine` = 4) -/
example : Gen.C20.goTo 5 1 (⟨3, true, 3, true, true⟩, []) =
      (⟨1, true, 3, true, true⟩, [.moveUp 1, .moveUp 1, .print [0x0d]]) ∧
    Gen.C20.goTo 5 4 (⟨1, true, 3, true, true⟩, []) =
      (⟨4, true, 4, true, true⟩, [.print [0x0a], .print [0x0a], .print [0x0a], .print [0x0d]]) := by decide

/-! ### the whole scan of `WriteLineNoWrap`, translated statement by statement -/

/-- number of `i++` of the inner loop (`for runes[i] != 'm' && i < len(runes)-1`) started at the head of the list -/
private def innerSkip : List Rune → Nat
  | [] => 0
  | r :: rest => if r ≠ 109 ∧ rest ≠ [] then 1 + innerSkip rest else 0

private theorem innerSkip_lt : ∀ (r : Rune) (rest : List Rune), innerSkip (r :: rest) ≤ rest.length := by
  intro r rest
  induction rest generalizing r with
  | nil => simp [innerSkip]
  | cons r' rest ih =>
    simp only [innerSkip]
    split
    · have := ih r'; simp only [innerSkip] at this; simp only [List.length_cons]; omega
    · omega

private theorem trimGo_true_skip (cols vis : Int) : ∀ (rest : List Rune) (r : Rune),
    trimGo handEsc cols true vis (r :: rest) =
      innerSkip (r :: rest) + 1 + trimGo handEsc cols false vis ((r :: rest).drop (innerSkip (r :: rest) + 1)) := by
  intro rest
  induction rest with
  | nil => intro r; simp [trimGo_hand_true, innerSkip]
  | cons r' rest ih =>
    intro r
    rw [trimGo_hand_true]
    by_cases hc : r ≠ 109
    · have h1 : innerSkip (r :: r' :: rest) = 1 + innerSkip (r' :: rest) := by simp [innerSkip, hc]
      rw [if_pos ⟨hc, by simp⟩, ih r', h1]
      have : (r :: r' :: rest).drop (1 + innerSkip (r' :: rest) + 1) = (r' :: rest).drop (innerSkip (r' :: rest) + 1) := by
        rw [show 1 + innerSkip (r' :: rest) + 1 = (innerSkip (r' :: rest) + 1) + 1 by omega, List.drop_succ_cons]
      rw [this]; omega
    · have h1 : innerSkip (r :: r' :: rest) = 0 := by simp [innerSkip, hc]
      rw [if_neg (by simp [hc]), h1]
      simp

private theorem trimGo_le (cols : Int) : ∀ (rs : List Rune) (inEsc : Bool) (vis : Int),
    trimGo handEsc cols inEsc vis rs ≤ rs.length := by
  intro rs
  induction rs with
  | nil => intro b v; cases b <;> simp [trimGo]
  | cons r rest ih =>
    intro b v
    cases b with
    | true =>
      rw [trimGo_hand_true]
      split
      · have := ih true v; simp only [List.length_cons]; omega
      · have := ih false v; simp only [List.length_cons]; omega
    | false =>
      rw [trimGo_hand_false]
      have h1 := ih true v; have h2 := ih false v; have h3 := ih false (v + 1)
      simp only [List.length_cons]
      repeat' split
      all_goals omega

/-- the runes as the translator's `List Int` -/
def runesInt (rs : List Rune) : List Int := rs.map (fun (r : Nat) => (r : Int))

open Gen.C20 in
private theorem idx_at (pre : List Rune) (r : Rune) (rest : List Rune) :
    idx (runesInt (pre ++ r :: rest)) (pre.length : Int) = pure (r : Int) := by
  have hlen : ((pre.length : Nat) : Int) < ((runesInt (pre ++ r :: rest)).length : Int) := by
    simp [runesInt]; omega
  simp only [idx, Int.natCast_nonneg, hlen, and_self, if_true, Int.toNat_natCast]
  simp [runesInt, pure, Except.pure]

open Gen.C20 in
private theorem whileLoop_done (f : Nat) (cond : T → Except String Bool) (body : T → Except String T) (s : T)
    (h : cond s = pure false) : whileLoop (f + 1) cond body s = pure s := by
  simp [whileLoop, h]

open Gen.C20 in
private theorem whileLoop_step (f : Nat) (cond : T → Except String Bool) (body : T → Except String T) (s s' : T)
    (h : cond s = pure true) (hb : body s = pure s') : whileLoop (f + 1) cond body s = whileLoop f cond body s' := by
  simp [whileLoop, h, hb]

/-- the inner loop's condition, as generated -/
private def innerCond (R : List Int) : Gen.C20.T → Except String Bool :=
  fun s => (do let a ← (do let a ← (Gen.C20.idx R s.i); let b ← pure ((109 : Int)); pure (decide (a ≠ b))); if a then pure (decide (s.i < ((R.length : Int) - (1 : Int)))) else pure false)

private def innerBody : Gen.C20.T → Except String Gen.C20.T :=
  fun s => (do let s ← pure { s with i := s.i + 1 }; pure s)

private def outerCond (R : List Int) (computedCols : Int) : Gen.C20.T → Except String Bool :=
  fun s => (pure (decide (s.i < (R.length : Int)) && decide (s.visibleRunes < computedCols)))

private def outerBody (fuel : Nat) (R : List Int) : Gen.C20.T → Except String Gen.C20.T :=
  fun s => (do let s ← (do let c ← (do let a ← (Gen.C20.idx R s.i); let b ← pure ((27 : Int)); pure (decide (a = b))); if c then (do let s ← Gen.C20.whileLoop fuel (innerCond R) innerBody s; pure s) else (do let s ← pure { s with visibleRunes := s.visibleRunes + 1 }; pure s)); let s ← pure { s with i := s.i + 1 }; pure s)

private theorem innerCond_at (pre : List Rune) (r : Rune) (rest : List Rune) (v : Int) :
    innerCond (runesInt (pre ++ r :: rest)) ⟨pre.length, v⟩ = pure (decide (r ≠ 109 ∧ rest ≠ [])) := by
  simp only [innerCond, idx_at, pure_bind]
  by_cases h : r = 109
  · simp [h]
  · have h' : ¬ ((r : Int) = 109) := by omega
    simp only [ne_eq, h', not_false_eq_true, decide_true, if_true, h, true_and]
    congr 2
    cases rest <;> simp [runesInt] <;> omega

open Gen.C20 in
private theorem inner_run : ∀ (rest pre : List Rune) (r : Rune) (v : Int) (fuel : Nat), rest.length < fuel →
    whileLoop fuel (innerCond (runesInt (pre ++ r :: rest))) innerBody ⟨pre.length, v⟩ =
      pure ⟨(pre.length + innerSkip (r :: rest) : Nat), v⟩ := by
  intro rest
  induction rest with
  | nil =>
    intro pre r v fuel hf
    obtain ⟨f, rfl⟩ : ∃ f, fuel = f + 1 := ⟨fuel - 1, by omega⟩
    rw [whileLoop_done _ _ _ _ (by rw [innerCond_at]; simp)]
    simp [innerSkip]
  | cons r' rest ih =>
    intro pre r v fuel hf
    obtain ⟨f, rfl⟩ : ∃ f, fuel = f + 1 := ⟨fuel - 1, by omega⟩
    simp only [List.length_cons] at hf
    by_cases hc : r = 109
    · rw [whileLoop_done _ _ _ _ (by rw [innerCond_at]; simp [hc])]
      simp [innerSkip, hc]
    · rw [whileLoop_step _ _ _ _ ⟨((pre ++ [r]).length : Nat), v⟩ (by rw [innerCond_at]; simp [hc])
        (by simp [innerBody])]
      have := ih (pre ++ [r]) r' v f (by omega)
      rw [show (pre ++ [r]) ++ r' :: rest = pre ++ r :: r' :: rest by simp] at this
      rw [this]
      have h1 : innerSkip (r :: r' :: rest) = 1 + innerSkip (r' :: rest) := by simp [innerSkip, hc]
      rw [h1]
      simp only [List.length_append, List.length_singleton]
      congr 3; omega

open Gen.C20 in
private theorem outer_run (cols : Int) (fuel0 : Nat) : ∀ (n : Nat) (rest pre : List Rune) (v : Int) (fuel : Nat),
    rest.length ≤ n → rest.length < fuel → (pre ++ rest).length < fuel0 →
    ∃ v', whileLoop fuel (outerCond (runesInt (pre ++ rest)) cols) (outerBody fuel0 (runesInt (pre ++ rest))) ⟨pre.length, v⟩ =
      pure ⟨(pre.length + trimGo handEsc cols false v rest : Nat), v'⟩ := by
  intro n
  induction n with
  | zero =>
    intro rest pre v fuel hn hf _
    obtain ⟨f, rfl⟩ : ∃ f, fuel = f + 1 := ⟨fuel - 1, by omega⟩
    have : rest = [] := by cases rest <;> simp_all
    subst this
    refine ⟨v, ?_⟩
    rw [whileLoop_done _ _ _ _ (by simp [outerCond, runesInt])]
    simp [trimGo]
  | succ n ih =>
    intro rest pre v fuel hn hf hf0
    obtain ⟨f, rfl⟩ : ∃ f, fuel = f + 1 := ⟨fuel - 1, by omega⟩
    cases rest with
    | nil =>
      refine ⟨v, ?_⟩
      rw [whileLoop_done _ _ _ _ (by simp [outerCond, runesInt])]
      simp [trimGo]
    | cons r rest =>
      simp only [List.length_cons] at hn hf
      have hlen : ((pre.length : Nat) : Int) < ((runesInt (pre ++ r :: rest)).length : Int) := by
        simp [runesInt]; omega
      rw [trimGo_hand_false]
      by_cases hv : v < cols
      · simp only [hv, if_true]
        by_cases he : r = 27
        · -- a colour sequence starts: the inner loop runs, then i++
          subst he
          have hk := innerSkip_lt 27 rest
          have hinner := inner_run rest pre 27 v fuel0 (by have := hf0; simp only [List.length_append, List.length_cons] at this; omega)
          have hbody : outerBody fuel0 (runesInt (pre ++ 27 :: rest)) ⟨pre.length, v⟩ =
              pure ⟨((pre ++ (27 :: rest).take (innerSkip (27 :: rest) + 1)).length : Nat), v⟩ := by
            simp only [outerBody, idx_at, pure_bind]
            simp [hinner]
            rw [Nat.min_eq_left hk, Int.add_assoc]
          rw [whileLoop_step _ _ _ _ _ (by simp [outerCond, hlen, hv]) hbody]
          have hsplit : pre ++ 27 :: rest = (pre ++ (27 :: rest).take (innerSkip (27 :: rest) + 1)) ++
              (27 :: rest).drop (innerSkip (27 :: rest) + 1) := by
            rw [List.append_assoc, List.take_append_drop]
          obtain ⟨v', hv'⟩ := ih ((27 :: rest).drop (innerSkip (27 :: rest) + 1))
            (pre ++ (27 :: rest).take (innerSkip (27 :: rest) + 1)) v f
            (by simp only [List.length_drop, List.length_cons]; omega)
            (by simp only [List.length_drop, List.length_cons]; omega)
            (by rw [← hsplit]; exact hf0)
          rw [← hsplit] at hv'
          refine ⟨v', ?_⟩
          rw [hv']
          have ht := trimGo_true_skip cols v rest 27
          rw [trimGo_hand_true] at ht
          rw [if_pos rfl, ht]
          simp only [List.length_append, List.length_take, List.length_cons]
          congr 3
          omega
        · have he' : ¬ ((r : Int) = 27) := by omega
          have hbody : outerBody fuel0 (runesInt (pre ++ r :: rest)) ⟨pre.length, v⟩ =
              pure ⟨((pre ++ [r]).length : Nat), v + 1⟩ := by
            simp only [outerBody, idx_at, pure_bind, he', decide_false, Bool.false_eq_true, if_false]
            simp
          rw [whileLoop_step _ _ _ _ _ (by simp [outerCond, hlen, hv]) hbody]
          obtain ⟨v', hv'⟩ := ih rest (pre ++ [r]) (v + 1) f (by omega) (by omega) (by simpa using hf0)
          rw [show (pre ++ [r]) ++ rest = pre ++ r :: rest by simp] at hv'
          refine ⟨v', ?_⟩
          rw [hv', if_neg he]
          simp only [List.length_append, List.length_singleton]
          congr 3
          omega
      · refine ⟨v, ?_⟩
        rw [whileLoop_done _ _ _ _ (by simp [outerCond, hv])]
        simp [hv]

/-- **gen_trim_scan_is_model.**  The scan of `WriteLineNoWrap` as translated STATEMENT BY STATEMENT from
`pkg/multiterm/linetrim.go` (`Gen.C20.trimScan`: the locals `i` / `visibleRunes`, both `for cond { … }`
loops nested as in the source, `runes[i]` as a checked index, the final `runes[:i]` as a checked slice
expression), run on ANY rune string at ANY width with any `fuel` above the number of runes: it never
indexes out of range, never runs out of fuel, and returns exactly the index the hand model `trimGo`
computes (about which `trim_spec` / `trim_any` speak); with trimming off the source writes the text
unchanged. -/
theorem gen_trim_scan_is_model (cols : Int) (runes : List Rune) (fuel : Nat) (hf : runes.length < fuel) :
    Gen.C20.trimScan fuel (runesInt runes) cols = .ok (trimGo genEsc cols false 0 runes : Nat) ∧
    Gen.C20.trimOffWritesAll = true := by
  refine ⟨?_, rfl⟩
  rw [gen_strings_are_model_strings]
  obtain ⟨v', h⟩ := outer_run cols fuel runes.length runes [] 0 fuel (Nat.le_refl _) hf (by simpa using hf)
  have hle := trimGo_le cols runes false 0
  have e : Gen.C20.trimScan fuel (runesInt runes) cols =
      (do let s ← Gen.C20.whileLoop fuel (outerCond (runesInt runes) cols) (outerBody fuel (runesInt runes)) ⟨0, 0⟩
          let hi ← (pure s.i)
          if 0 ≤ hi ∧ hi ≤ ((runesInt runes).length : Int) then pure hi else .error "slice bounds out of range") := rfl
  simp only [List.nil_append, List.length_nil, Nat.zero_add] at h
  rw [e, show (⟨0, 0⟩ : Gen.C20.T) = ⟨((0 : Nat) : Int), 0⟩ from rfl, h]
  simp only [pure_bind]
  have : (0 : Int) ≤ (trimGo handEsc cols false 0 runes : Nat) ∧
      ((trimGo handEsc cols false 0 runes : Nat) : Int) ≤ ((runesInt runes).length : Int) := by
    simp [runesInt]; omega
  simp only [this, and_self, if_true]
  rfl

/-- the translated scan on a concrete text: "ab ESC[31m cd" at width 3 stops after 8 runes; width 0 keeps nothing -/
example : Gen.C20.trimScan 20 [97, 98, 27, 91, 51, 49, 109, 99, 100] 3 = .ok 8 ∧
    Gen.C20.trimScan 20 [97, 98, 27, 91, 51, 49, 109, 99, 100] 0 = .ok 0 ∧
    Gen.C20.trimScan 20 [97, 27, 91] 5 = .ok 3 := ⟨rfl, rfl, rfl⟩

/-! ### the buffered writer's output on the reference terminal, and live = buffered -/

/-- **buffered_screen_scr.**  What `BufferedTerm.Close()` prints, interpreted by the reference terminal
`Scr` (ONLCR on, as a tty has it; cursor in column 0 of row `r0`; the `LineCount` lines fit below it
without scrolling).  Texts are `TextComplete`: `TextSafe` minus the unterminated colour sequence at the
end (see `buffered_unterminated_counterexample`).  Then row `r0 + i` shows the latest text of line `i`
(cut to the width when trimming; nothing for a line never written) written over what the row showed
before – the buffered writer does not erase –, every other row is untouched, and the cursor ends in
column 0 of row `r0 + LineCount`, directly below the last line. -/
theorem buffered_screen_scr (W H r0 : Nat) (trim : Bool) (hist : List (Nat × Bytes)) (t0 : Scr)
    (hps : t0.ps = .ground) (hw : t0.width = W) (hh : t0.height = H) (hr : t0.row = r0) (hc : t0.col = 0)
    (ho : t0.onlcr = true) (htxt : ∀ u ∈ hist, TextComplete t0.cw W trim u.2) :
    ∃ v, VirtualTerm.new.runHistory (castHist hist) = .ok v ∧
      (r0 + v.lineCount < H →
        let t := t0.feedBytes (bufferedClose (genCfg W trim) v).2
        (∀ i, i < v.lineCount →
          t.rows (r0 + i) = writeCells (t0.rows (r0 + i)) 0 (shown W trim ((latest hist i).getD []))) ∧
        (∀ j, (j < r0 ∨ r0 + v.lineCount ≤ j) → t.rows j = t0.rows j) ∧
        t.row = r0 + v.lineCount ∧ t.col = 0 ∧ t.ps = .ground ∧ t.cursorVisible = t0.cursorVisible) := by
  obtain ⟨v, hrun, _, _, hget, hout, _⟩ := buffered_same_lines W trim hist
  refine ⟨v, hrun, ?_⟩
  intro hfit t
  have hlines : ∀ l ∈ (List.range v.lineCount).map (fun i => (latest hist i).getD []), TextComplete t0.cw W trim l := by
    intro l hl
    simp only [List.mem_map, List.mem_range] at hl
    obtain ⟨i, _, rfl⟩ := hl
    cases hli : latest hist i with
    | none => exact TextComplete.nil _ _ _
    | some x =>
      exact htxt _ (latest_some hist i x hli)
  have hfeed := Scr.feed_buffered W trim ((List.range v.lineCount).map (fun i => (latest hist i).getD [])) t0
    hps hw hc ho (by simp; omega) hlines
  have hbytes : (bufferedClose (genCfg W trim) v).2 =
      ((List.range v.lineCount).map (fun i => (latest hist i).getD [])).flatMap
        (fun l => writeLineNoWrap handEsc trim W l ++ [10]) := by
    rw [hout, gen_strings_are_model_strings, List.flatMap_map]
  have ht : t = t0.feedBytes (((List.range v.lineCount).map (fun i => (latest hist i).getD [])).flatMap
      (fun l => writeLineNoWrap handEsc trim W l ++ [10])) := by
    show t0.feedBytes (bufferedClose (genCfg W trim) v).2 = _
    rw [hbytes]
  rw [ht, hfeed]
  simp only [List.length_map, List.length_range]
  refine ⟨?_, ?_, by simp [hr], by trivial, by first | exact hps | trivial, by trivial⟩
  · intro i hi
    have e : t0.row ≤ r0 + i ∧ r0 + i < t0.row + v.lineCount := by omega
    have e2 : r0 + i - t0.row = i := by omega
    simp only [e, and_self, if_true, e2]
    congr 2
    rw [List.getD_eq_getElem?_getD, List.getElem?_map, List.getElem?_range hi]
    rfl
  · intro j hj
    have e : ¬ (t0.row ≤ j ∧ j < t0.row + v.lineCount) := by omega
    simp only [e, if_false]

/-- **live_and_buffered_same_screen.**  The property's third clause on the reference terminal: for any
non-empty history of complete texts, on a screen whose rows from `r0` on are blank and tall enough
that nothing scrolls, the live writer (history, then `Close()`) and the buffered writer (`Close()`
prints the store) leave THE SAME SCREEN: every row equal, cursor parked on the same row (directly
below the last line) in column 0, visible, parser in its ground state. -/
theorem live_and_buffered_same_screen (W H r0 : Nat) (trim : Bool) (hist : List (Nat × Bytes)) (t0 : Scr)
    (hps : t0.ps = .ground) (hw : t0.width = W) (hh : t0.height = H) (hr : t0.row = r0) (hc : t0.col = 0)
    (ho : t0.onlcr = true) (hv : t0.cursorVisible = true) (hne : hist ≠ [])
    (hrows : ∀ u ∈ hist, r0 + u.1 + 1 < H) (hblank : ∀ j, r0 ≤ j → t0.rows j = [])
    (htxt : ∀ u ∈ hist, TextComplete t0.cw W trim u.2) :
    ∃ v, VirtualTerm.new.runHistory (castHist hist) = .ok v ∧
      let live := t0.feedBytes (TermWriter.new.session (genCfg W trim) (castHist hist)).2
      let buf := t0.feedBytes (bufferedClose (genCfg W trim) v).2
      (∀ j, j < H → live.rows j = buf.rows j) ∧ live.row = buf.row ∧ live.col = buf.col ∧
      live.cursorVisible = buf.cursorVisible ∧ live.ps = buf.ps ∧ live.row = r0 + v.lineCount := by
  obtain ⟨v, hrun, hb⟩ := buffered_screen_scr W H r0 trim hist t0 hps hw hh hr hc ho htxt
  obtain ⟨v2, hrun2, hinv⟩ := vrun_new hist
  obtain rfl : v2 = v := Except.ok.inj (hrun2.symm.trans hrun)
  obtain ⟨u0, hu0⟩ := List.exists_mem_of_ne_nil hist hne
  obtain ⟨l1, l2, l3, l4, l5, l6, l7, l8⟩ := close_no_scroll_scr W H r0 trim hist t0 hps hw hh hr hv
    (by have := hrows u0 hu0; omega) hrows (fun u hu => (htxt u hu).safe)
  rw [Nat.add_assoc, ← hinv.lineCount_eq hne] at l1
  obtain ⟨b1, b2, b3, b4, b5, b6⟩ := hb (l1 ▸ l2)
  refine ⟨v2, hrun, fun j hj => ?_, l1.trans b3.symm, l4.trans b4.symm, (l5.trans hv.symm).trans b6.symm,
    l6.trans b5.symm, l1⟩
  by_cases hin : r0 ≤ j ∧ j < r0 + v2.lineCount
  · obtain ⟨i, rfl⟩ : ∃ i, j = r0 + i := ⟨j - r0, by omega⟩
    rw [b1 i (by omega), hblank _ hin.1, writeCells_blank]
    cases hli : latest hist i with
    | none =>
      rw [l8 (r0 + i) hj (fun i' hi' e => hi' (Nat.add_left_cancel e ▸ hli)), hblank _ hin.1]
      exact (shown_nil W trim).symm
    | some x => rw [l7 i x hli]; rfl
  · rw [b2 j (by omega)]
    refine l8 j hj (fun i hi e => ?_)
    cases hli : latest hist i with
    | none => exact hi hli
    | some x =>
      have : i < v2.lineCount := hinv.lt _ (latest_some hist i x hli)
      omega

/-- all hypotheses of `live_and_buffered_same_screen` hold for the history line 2 = "abcdefg" (wider than
the 4 columns), line 0 = red "éz", line 2 = "xy", line 3 = invalid byte + "a" on a blank 4 x 8 screen
(cursor on row 1, ONLCR), and the common screen is the expected one: "éz" / (empty) / "xy" / U+FFFD "a",
cursor on row 5 -/
example :
    let hist : List (Nat × Bytes) := [(2, exLong), (0, exRed), (2, exShort), (3, exBad)]
    let t0 : Scr := { Scr.blank 4 8 true eaWidth with row := 1 }
    ∃ v, VirtualTerm.new.runHistory (castHist hist) = .ok v ∧
      (t0.feedBytes (TermWriter.new.session (genCfg 4 true) (castHist hist)).2).rows 1 =
        (t0.feedBytes (bufferedClose (genCfg 4 true) v).2).rows 1 ∧
      (t0.feedBytes (bufferedClose (genCfg 4 true) v).2).rows 1 = [233, 122] ∧
      (t0.feedBytes (bufferedClose (genCfg 4 true) v).2).rows 3 = [120, 121] ∧
      (t0.feedBytes (bufferedClose (genCfg 4 true) v).2).row = 5 := by
  intro hist t0
  have hc : ∀ u ∈ hist, TextComplete t0.cw 4 true u.2 := by
    intro u hu
    simp [hist] at hu
    rcases hu with rfl | rfl | rfl | rfl
    · exact ⟨[.ch 97, .ch 98, .ch 99, .ch 100, .ch 101, .ch 102, .ch 103],
        by intro t ht; simp at ht; rcases ht with rfl | rfl | rfl | rfl | rfl | rfl | rfl <;> (show _ ∧ _ ∧ _; decide),
        by decide, by intro h; cases h⟩
    · exact ⟨[.sgr [91, 51, 49], .ch 233, .ch 122, .sgr [91, 48]], by
          intro t ht; simp at ht
          rcases ht with rfl | rfl | rfl | rfl
          · exact ⟨[51, 49], rfl, by decide⟩
          · show _ ∧ _ ∧ _; decide
          · show _ ∧ _ ∧ _; decide
          · exact ⟨[48], rfl, by decide⟩,
        by decide, by intro h; cases h⟩
    · exact ⟨[.ch 120, .ch 121], by intro t ht; simp at ht; rcases ht with rfl | rfl <;> (show _ ∧ _ ∧ _; decide),
        by decide, by intro h; cases h⟩
    · exact ⟨[.ch 0xFFFD, .ch 97], by intro t ht; simp at ht; rcases ht with rfl | rfl <;> (show _ ∧ _ ∧ _; decide),
        by decide, by intro h; cases h⟩
  obtain ⟨v, hrun, hrows, hrow, _, _, _, hcnt⟩ := live_and_buffered_same_screen 4 8 1 true hist t0 rfl rfl rfl rfl rfl rfl rfl
    (by simp [hist]) (by decide) (fun _ _ => rfl) hc
  have hv : v = ⟨[exRed, [], exShort, exBad], false⟩ := by
    have : VirtualTerm.new.runHistory (castHist hist) = .ok ⟨[exRed, [], exShort, exBad], false⟩ := rfl
    rw [this] at hrun; exact (Except.ok.inj hrun).symm
  refine ⟨v, hrun, hrows 1 (by decide), ?_, ?_, ?_⟩
  · rw [hv]; decide
  · rw [hv]; decide
  · rw [hv]; decide

/-- **Counterexample just outside `TextComplete`: a line that ends inside a colour sequence.**  Line 0
is "ab" + `ESC[3` (unterminated), line 1 is "1mx".  The live writer follows every text with the erase
sequence, whose ESC restarts the terminal's parser: row 1 shows "1mx".  The buffered writer prints the
two lines back to back: the terminal is still inside the escape sequence after the newline, reads
`ESC[31m` and shows only "x" on row 1 – the two writers leave different screens. -/
theorem buffered_unterminated_counterexample :
    let hist : List (Nat × Bytes) := [(0, [97, 98, 0x1b, 0x5b, 0x33]), (1, [0x31, 0x6d, 120])]
    let t0 := cexScr 8 8
    let live := t0.feedBytes (TermWriter.new.session (genCfg 8 true) (castHist hist)).2
    let buf := t0.feedBytes (bufferedClose (genCfg 8 true) ⟨[[97, 98, 0x1b, 0x5b, 0x33], [0x31, 0x6d, 120]], false⟩).2
    VirtualTerm.new.runHistory (castHist hist) = .ok ⟨[[97, 98, 0x1b, 0x5b, 0x33], [0x31, 0x6d, 120]], false⟩ ∧
    TextSafe t0.cw 8 true [97, 98, 0x1b, 0x5b, 0x33] ∧
    live.rows 0 = [97, 98] ∧ live.rows 1 = [0x31, 0x6d, 120] ∧ buf.rows 0 = [97, 98] ∧ buf.rows 1 = [120] := by
  refine ⟨rfl, ?_, by decide +kernel⟩
  exact ⟨[.ch 97, .ch 98], [27, 91, 51], by
    intro t ht
    simp at ht
    rcases ht with rfl | rfl <;> exact ⟨by decide, by decide, by decide⟩,
    Or.inr (Or.inr ⟨[51], rfl, by simp⟩), by decide, by simp⟩


/-! ### the start-up state (`init()` of linetrim.go) -/

/-- **gen_init_is_model.**  `init()` of `pkg/multiterm/linetrim.go` as translated from the source (the
initial values of `AutoTrim` / `computedRows` / `computedCols`, the `if … ok` on
`termstate.GetTermRowsCols()`, the assignments of both branches, the constants `defaultRows`,
`defaultCols`) = the hand model `initEnv`: on a terminal trimming is on at the terminal's size;
otherwise it is OFF and the size is 24 x 80. -/
theorem gen_init_is_model (tty : Option (Int × Int)) :
    (Gen.C20.initFn tty).autoTrim = (initEnv tty).autoTrim ∧ (Gen.C20.initFn tty).rows = (initEnv tty).rows ∧
    (Gen.C20.initFn tty).cols = (initEnv tty).cols := by
  cases tty with
  | none => exact ⟨rfl, rfl, rfl⟩
  | some rc => obtain ⟨r, c⟩ := rc; exact ⟨rfl, rfl, rfl⟩

/-- **piped_output_is_untrimmed.**  With the start-up state of a process whose stdout is not a terminal
(pipes, files – where `cmd/helpers.BuildVTerm` picks the buffered writer), `WriteLineNoWrap` writes every
text unchanged, whatever its bytes: nothing is cut, nothing is re-encoded. -/
theorem piped_output_is_untrimmed (txt : Bytes) :
    writeLineNoWrap genEsc (initEnv none).autoTrim (initEnv none).cols txt = txt := by
  simp [initEnv, writeLineNoWrap]

/-! ### which writer a command gets (cmd/helpers/output.go, termstate/term.go) -/

/-- `c.Bool(name)` of a cli context holding the flags `f` -/
def flagBoolOf (f : OutFlags) : String → Bool :=
  fun n => if n = "noout" then f.noout else if n = "snapshot" then f.snapshot else false

/-- `c.String(name)` of a cli context holding the flags `f` -/
def flagStringOf (f : OutFlags) : String → Bytes := fun n => if n = "csv" then f.csv else []

def kindOf : Gen.C20.Kind → TermKind
  | .null => .null
  | .buffered => .buffered
  | .live => .live

/-- **gen_writer_choice_is_model.**  `termstate.IsPipedOutput`, `termstate.GetTermRowsCols`,
`helpers.BuildVTerm` and `helpers.BuildVTermFromArguments` as translated statement by statement from
/repo = the hand model (`isPipedOutput`, `getTermRowsCols` – rows and columns in that order although
`term.GetSize` returns width first –, `buildVTerm`, `buildVTermFromArguments` with the flag names
`noout`, `csv`, `snapshot` and the csv value `-`). -/
theorem gen_writer_choice_is_model (f : OutFlags) (o : StdoutInfo) :
    Gen.C20.isPipedOutput o.statOk o.charDevice = isPipedOutput o ∧
    Gen.C20.getTermRowsCols o.isTerminal o.sizeOk o.width o.height =
      (match getTermRowsCols o with
       | some (r, c) => (r, c, true)
       | none => (0, 0, false)) ∧
    kindOf (Gen.C20.buildVTerm f.snapshot (isPipedOutput o)) = buildVTerm f.snapshot o ∧
    kindOf (Gen.C20.buildVTermFromArguments (flagBoolOf f) (flagStringOf f) (isPipedOutput o)) =
      buildVTermFromArguments f o := by
  obtain ⟨noout, csv, snapshot⟩ := f
  obtain ⟨statOk, charDevice, isTerminal, sizeOk, width, height⟩ := o
  refine ⟨?_, ?_, ?_, ?_⟩
  · cases statOk <;> cases charDevice <;> rfl
  · cases isTerminal <;> cases sizeOk <;> rfl
  · cases snapshot <;> cases statOk <;> cases charDevice <;> rfl
  · by_cases hc : csv = [0x2d]
    · subst hc
      cases noout <;> rfl
    · have h1 : (csv == [0x2d]) = false := by simpa using hc
      have h2 : decide (csv = ([0x2d] : List UInt8)) = false := by simpa using hc
      cases noout <;> cases snapshot <;> cases statOk <;> cases charDevice <;>
        simp [Gen.C20.buildVTermFromArguments, Gen.C20.buildVTerm, flagBoolOf, flagStringOf, buildVTermFromArguments,
          buildVTerm, isPipedOutput, kindOf, h1, h2]

/-- **writer_choice.**  The decision table of `BuildVTermFromArguments`: nothing is written with
`--noout` or `--csv -`; otherwise the buffered writer with `--snapshot` or when stdout is known not
to be a character device (pipe, file); otherwise – and only then – the live writer. -/
theorem writer_choice (f : OutFlags) (o : StdoutInfo) :
    (buildVTermFromArguments f o = .null ↔ (f.noout = true ∨ f.csv = [0x2d])) ∧
    (buildVTermFromArguments f o = .buffered ↔
      (f.noout = false ∧ f.csv ≠ [0x2d]) ∧ (f.snapshot = true ∨ (o.statOk = true ∧ o.charDevice = false))) ∧
    (buildVTermFromArguments f o = .live ↔
      (f.noout = false ∧ f.csv ≠ [0x2d]) ∧ f.snapshot = false ∧ (o.statOk = false ∨ o.charDevice = true)) := by
  obtain ⟨noout, csv, snapshot⟩ := f
  obtain ⟨statOk, charDevice, isTerminal, sizeOk, width, height⟩ := o
  by_cases hc : csv = [0x2d]
  · subst hc
    cases noout <;> simp [buildVTermFromArguments]
  · have h1 : (csv == [0x2d]) = false := by simpa using hc
    cases noout <;> cases snapshot <;> cases statOk <;> cases charDevice <;>
      simp [buildVTermFromArguments, buildVTerm, isPipedOutput, h1, hc]

/-- a terminal is a character device (what the operating system guarantees about `StdoutInfo`) -/
def StdoutInfo.Sane (o : StdoutInfo) : Prop := o.isTerminal = true → (o.statOk = true ∧ o.charDevice = true)

/-- **cli_buffered_output.**  Whenever the buffered writer is chosen, a command's output for a history
is: the latest text of every line `0 … n-1` (empty for gaps; `n` = one more than the largest line),
each through `WriteLineNoWrap` with the start-up state for this stdout, each followed by `\n`. -/
theorem cli_buffered_output (f : OutFlags) (o : StdoutInfo) (hist : List (Nat × Bytes))
    (hk : buildVTermFromArguments f o = .buffered) :
    ∃ n, (∀ u ∈ hist, u.1 < n) ∧ (∀ i : Nat, n ≤ i → latest hist i = none) ∧
      cliOutput genEsc f o (castHist hist) =
        .ok ((List.range n).flatMap (fun i =>
          writeLineNoWrap genEsc (initEnv (getTermRowsCols o)).autoTrim (initEnv (getTermRowsCols o)).cols
            ((latest hist i).getD []) ++ [10])) := by
  obtain ⟨v, hrun, hinv⟩ := vrun_new hist
  refine ⟨v.lines.length, hinv.lt, hinv.none, ?_⟩
  simp only [cliOutput, hk, hrun, bufferedClose]
  exact congrArg _ (hinv.output _)

/-- **cli_piped_prints_latest_lines.**  Output piped or redirected to a file (no `--noout`, no
`--csv -`; with or without `--snapshot`): the buffered writer is chosen, start-up has switched
trimming OFF, and what the command prints is exactly the latest text of every line, top to bottom,
each followed by `\n` – whatever the bytes of the texts, nothing cut, nothing re-encoded. -/
theorem cli_piped_prints_latest_lines (f : OutFlags) (o : StdoutInfo) (hist : List (Nat × Bytes))
    (hn : f.noout = false) (hc : f.csv ≠ [0x2d]) (hp : isPipedOutput o = true) (hs : o.Sane) :
    buildVTermFromArguments f o = .buffered ∧ initEnv (getTermRowsCols o) = initEnv none ∧
    ∃ n, (∀ u ∈ hist, u.1 < n) ∧ (∀ i : Nat, n ≤ i → latest hist i = none) ∧
      cliOutput genEsc f o (castHist hist) = .ok ((List.range n).flatMap (fun i => (latest hist i).getD [] ++ [10])) := by
  have hp' : o.statOk = true ∧ o.charDevice = false := by simpa [isPipedOutput] using hp
  have hk : buildVTermFromArguments f o = .buffered :=
    (writer_choice f o).2.1.mpr ⟨⟨hn, hc⟩, Or.inr hp'⟩
  have ht : o.isTerminal = false := by
    cases h : o.isTerminal with
    | false => rfl
    | true => have := (hs h).2; rw [hp'.2] at this; cases this
  have he : getTermRowsCols o = none := by simp [getTermRowsCols, ht]
  refine ⟨hk, by rw [he], ?_⟩
  obtain ⟨n, h1, h2, h3⟩ := cli_buffered_output f o hist hk
  refine ⟨n, h1, h2, ?_⟩
  rw [h3, he]
  simp [initEnv, writeLineNoWrap]

/-- **cli_snapshot_on_terminal.**  `--snapshot` on a terminal of `W` columns: the buffered writer with
trimming ON at the terminal's width – `buffered_screen_scr` (and `trim_any` per line) apply with
`W` = the second result of `GetTermRowsCols`. -/
theorem cli_snapshot_on_terminal (f : OutFlags) (o : StdoutInfo) (W : Nat) (hist : List (Nat × Bytes))
    (hn : f.noout = false) (hc : f.csv ≠ [0x2d]) (hsn : f.snapshot = true)
    (ht : o.isTerminal = true) (hz : o.sizeOk = true) (hw : o.width = W) :
    ∃ v, VirtualTerm.new.runHistory (castHist hist) = .ok v ∧
      cliOutput genEsc f o (castHist hist) = .ok (bufferedClose (genCfg W true) v).2 := by
  have hk : buildVTermFromArguments f o = .buffered :=
    (writer_choice f o).2.1.mpr ⟨⟨hn, hc⟩, Or.inl hsn⟩
  obtain ⟨v, hrun, _⟩ := buffered_same_lines W true hist
  refine ⟨v, hrun, ?_⟩
  simp [cliOutput, hk, hrun, getTermRowsCols, ht, hz, initEnv, genCfg, hw]

/-- **cli_live_on_terminal.**  No `--noout` / `--csv -` / `--snapshot`, stdout a terminal whose size
can be read, `W` columns: the command writes exactly the bytes of the live writer's session with
trimming ON at width `W` – the object of `screen_refines_latest_scr` / `close_parks_cursor_scr`. -/
theorem cli_live_on_terminal (f : OutFlags) (o : StdoutInfo) (W : Nat) (hist : List (Int × Bytes))
    (hn : f.noout = false) (hc : f.csv ≠ [0x2d]) (hsn : f.snapshot = false) (hs : o.Sane)
    (ht : o.isTerminal = true) (hz : o.sizeOk = true) (hw : o.width = W) :
    buildVTermFromArguments f o = .live ∧
    cliOutput genEsc f o hist = .ok (TermWriter.new.session (genCfg W true) hist).2 := by
  have hk : buildVTermFromArguments f o = .live :=
    (writer_choice f o).2.2.mpr ⟨⟨hn, hc⟩, hsn, Or.inr (hs ht).2⟩
  refine ⟨hk, ?_⟩
  simp [cliOutput, hk, getTermRowsCols, ht, hz, initEnv, genCfg, hw]

/-- **cli_noout_is_silent.**  With `--noout` or `--csv -` nothing is written through the writer. -/
theorem cli_noout_is_silent (f : OutFlags) (o : StdoutInfo) (hist : List (Int × Bytes))
    (h : f.noout = true ∨ f.csv = [0x2d]) : cliOutput genEsc f o hist = .ok [] := by
  have hk := (writer_choice f o).1.mpr h
  simp [cliOutput, hk]

/-- **The seam between the two tests of stdout** (`IsPipedOutput` asks "character device?",
`GetTermRowsCols` asks "terminal with a readable size?"): a character device that is not a terminal
(`/dev/null`, a serial line; also a terminal whose size cannot be read) gets the LIVE writer with
trimming OFF – texts are passed through uncut.  Kernel-checked instance: stdout = `/dev/null`. -/
theorem live_writer_untrimmed_on_non_terminal_device :
    let o : StdoutInfo := { statOk := true, charDevice := true, isTerminal := false, sizeOk := false, width := 0, height := 0 }
    let f : OutFlags := { noout := false, csv := [], snapshot := false }
    o.Sane ∧ buildVTermFromArguments f o = .live ∧ (initEnv (getTermRowsCols o)).autoTrim = false ∧
    cliOutput genEsc f o [(0, [97, 98, 99, 100, 101, 102])] =
      .ok (TermWriter.new.session (genCfg 80 false) [(0, [97, 98, 99, 100, 101, 102])]).2 := by
  intro o f
  exact ⟨fun h => Bool.noConfusion h, by decide, by decide, rfl⟩

/-- the hypotheses of `cli_piped_prints_latest_lines` on a concrete case: a pipe, `--snapshot` given or
not, the history of `exHist`: é世 / xy / (empty) / xy, the over-wide and the colour texts uncut -/
example : cliOutput genEsc { noout := false, csv := [], snapshot := false }
      { statOk := true, charDevice := false, isTerminal := false, sizeOk := false, width := 0, height := 0 } (castHist exHist) =
    .ok (exColour ++ [10] ++ exShort ++ [10] ++ [10] ++ exShort ++ [10]) := rfl

/-- **cli_snapshot_same_screen_as_live.**  The property's third clause at the level of a command: on a
terminal of `W` columns (size readable), a blank region from the cursor row `r0` on, tall enough that
nothing scrolls, ONLCR as a tty has it, any non-empty history of complete texts: the command run
without flags (live writer, trimming at `W`) and run with `--snapshot` (buffered writer, trimming at
`W`) leave THE SAME SCREEN – every row, the cursor position (directly below the last line, column 0),
cursor visible, parser in its ground state.  (`cli_live_on_terminal` + `cli_snapshot_on_terminal` +
`live_and_buffered_same_screen`; `extra/C20.py` observes the same on a pseudo-terminal with the real
`rare histo` / `rare histo --snapshot`.) -/
theorem cli_snapshot_same_screen_as_live (o : StdoutInfo) (csv : Bytes) (W H r0 : Nat) (hist : List (Nat × Bytes)) (t0 : Scr)
    (hcsv : csv ≠ [0x2d]) (hs : o.Sane) (hterm : o.isTerminal = true) (hz : o.sizeOk = true) (hwid : o.width = W)
    (hps : t0.ps = .ground) (hw : t0.width = W) (hh : t0.height = H) (hr : t0.row = r0) (hc : t0.col = 0)
    (ho : t0.onlcr = true) (hv : t0.cursorVisible = true) (hne : hist ≠ [])
    (hrows : ∀ u ∈ hist, r0 + u.1 + 1 < H) (hblank : ∀ j, r0 ≤ j → t0.rows j = [])
    (htxt : ∀ u ∈ hist, TextComplete t0.cw W true u.2) :
    ∃ bl bs, cliOutput genEsc { noout := false, csv := csv, snapshot := false } o (castHist hist) = .ok bl ∧
      cliOutput genEsc { noout := false, csv := csv, snapshot := true } o (castHist hist) = .ok bs ∧
      (∀ j, j < H → (t0.feedBytes bl).rows j = (t0.feedBytes bs).rows j) ∧
      (t0.feedBytes bl).row = (t0.feedBytes bs).row ∧ (t0.feedBytes bl).col = (t0.feedBytes bs).col ∧
      (t0.feedBytes bl).cursorVisible = (t0.feedBytes bs).cursorVisible ∧ (t0.feedBytes bl).ps = (t0.feedBytes bs).ps := by
  obtain ⟨_, hlive⟩ := cli_live_on_terminal { noout := false, csv := csv, snapshot := false } o W (castHist hist)
    rfl hcsv rfl hs hterm hz hwid
  obtain ⟨v, hrun, hsnap⟩ := cli_snapshot_on_terminal { noout := false, csv := csv, snapshot := true } o W hist
    rfl hcsv rfl hterm hz hwid
  obtain ⟨v2, hrun2, h1, h2, h3, h4, h5, _⟩ :=
    live_and_buffered_same_screen W H r0 true hist t0 hps hw hh hr hc ho hv hne hrows hblank htxt
  have hv2 : v2 = v := by rw [hrun] at hrun2; exact (Except.ok.inj hrun2).symm
  subst hv2
  exact ⟨_, _, hlive, hsnap, h1, h2, h3, h4, h5⟩

/-- **Counterexample: `ClearLine` switched off** (a public field of `TermWriter`, `true` in `New()`; rare
never changes it): "longer earlier text fully erased" depends on it – after "abcd" then "xy" on line 0
the row shows "xycd". -/
theorem clearline_off_counterexample :
    let w0 : TermWriter := { TermWriter.new with clearLine := false }
    let t := (cexScr 8 4).feedBytes (w0.session (genCfg 8 true) [(0, [97, 98, 99, 100]), (0, [120, 121])]).2
    let t' := (cexScr 8 4).feedBytes (TermWriter.new.session (genCfg 8 true) [(0, [97, 98, 99, 100]), (0, [120, 121])]).2
    t.rows 0 = [120, 121, 99, 100] ∧ t'.rows 0 = [120, 121] := by
  decide +kernel

/-- **gen_small_methods_are_model.**  The remaining methods of the anchor files, read from the source: the
three methods of `NullTerm` have EMPTY bodies (so the `.null` branch of `cliOutput` – nothing is
written – is what the code does), and `WriteForLinef` of both `TermWriter` and `VirtualTerm` is exactly
`WriteForLine(line, fmt.Sprintf(format, args...))` on the same receiver (ops `termf` / `vtermf`). -/
theorem gen_small_methods_are_model :
    Gen.C20.nullTermStatements = [0, 0, 0] ∧ Gen.C20.writeForLinefDelegates = (true, true) := ⟨rfl, rfl⟩

/-! ### the line store (virtualterm.go, bufferedterm.go), translated statement by statement -/

/-- the hand model's store as the translator's record -/
def toV (v : VirtualTerm) : Gen.C20.V := { lines := v.lines, closed := v.closed }

/-- the bytes one call of the store writes to `out` -/
def vevBytes (c : Cfg) : Gen.C20.VEv → Bytes
  | .writeLineNoWrap line => writeLineNoWrap c.E c.autoTrim c.cols line
  | .write b => b

open Gen.C20 in
private theorem vWhile_grow (line : Int) (closed : Bool) : ∀ (k fuel : Nat) (lines : List Bytes),
    k < fuel → (line + 1 - (lines.length : Int)).toNat = k →
    vWhile fuel (fun s => decide (line ≥ (s.lines.length : Int)))
      (fun s => (do let s ← pure { s with lines := s.lines ++ [([] : List UInt8)] }; pure s)) ⟨lines, closed⟩ =
    .ok ⟨lines ++ List.replicate k [], closed⟩ := by
  intro k
  induction k with
  | zero =>
    intro fuel lines hf hk
    obtain ⟨f, rfl⟩ : ∃ f, fuel = f + 1 := ⟨fuel - 1, by omega⟩
    have : ¬ (line ≥ (lines.length : Int)) := by omega
    simp [vWhile, this, pure, Except.pure]
  | succ k ih =>
    intro fuel lines hf hk
    obtain ⟨f, rfl⟩ : ∃ f, fuel = f + 1 := ⟨fuel - 1, by omega⟩
    have hc : line ≥ (lines.length : Int) := by omega
    have := ih f (lines ++ [[]]) (by omega) (by simp only [List.length_append, List.length_singleton]; omega)
    simp only [vWhile, hc, decide_true, if_true]
    simp only [pure, Except.pure] at this ⊢
    rw [this]
    simp [List.replicate_succ]

/-- **gen_virtual_write_is_model.**  `VirtualTerm.WriteForLine(line, text)` as translated statement by
statement from `pkg/multiterm/virtualterm.go` (the `closed` panic, the `for line >= len(s.lines)` loop
that appends empty lines – any `fuel` above the number of lines to add –, the CHECKED assignment
`s.lines[line] = text`) = the hand model, for ALL stores, lines and texts: the same new store, and a
panic exactly when the store is closed ("virtualterm closed") or the line is negative (the loop does
not run and the assignment indexes out of range). -/
theorem gen_virtual_write_is_model (v : VirtualTerm) (line : Int) (text : Bytes) (fuel : Nat)
    (hf : (line + 1 - (v.lines.length : Int)).toNat < fuel) :
    Gen.C20.vWriteForLine fuel line text (toV v) = (v.writeForLine line text).map toV := by
  obtain ⟨lines, closed⟩ := v
  simp only at hf
  cases closed with
  | true => simp [Gen.C20.vWriteForLine, toV, VirtualTerm.writeForLine, Except.map, bind, Except.bind]
  | false =>
    have hg := vWhile_grow line false _ fuel lines hf rfl
    simp only [Gen.C20.vWriteForLine, toV, Bool.false_eq_true, if_false, pure, Except.pure, bind, Except.bind] at hg ⊢
    rw [hg]
    by_cases hl : line < 0
    · have hb : ¬ (0 ≤ line ∧ line < ((lines ++ List.replicate (line + 1 - (lines.length : Int)).toNat ([] : List UInt8)).length : Int)) := by omega
      have hr : VirtualTerm.writeForLine ⟨lines, false⟩ line text = .error "index out of range" := by
        simp [VirtualTerm.writeForLine, hl]
      rw [hr]
      simp only [Gen.C20.vSet, if_neg hb]
      rfl
    · have hb : 0 ≤ line ∧ line < ((lines ++ List.replicate (line + 1 - (lines.length : Int)).toNat ([] : List UInt8)).length : Int) := by
        simp only [List.length_append, List.length_replicate]; omega
      have e : (line + 1 - (lines.length : Int)).toNat = line.toNat + 1 - lines.length := by omega
      have hr : VirtualTerm.writeForLine ⟨lines, false⟩ line text =
          .ok ⟨(lines ++ List.replicate (line.toNat + 1 - lines.length) []).set line.toNat text, false⟩ := by
        simp [VirtualTerm.writeForLine, hl]
      rw [hr]
      simp only [Gen.C20.vSet, if_pos hb]
      simp only [e]
      rfl

/-- **gen_virtual_read_is_model.**  `NewVirtualTerm()` / `NewBufferedTerm()`, `Close()`, `Get(line)` and
`LineCount()` as translated from the source = the hand model; in particular the guard of `Get`
protects its index: it NEVER panics, for any store and any line (negative, beyond the end). -/
theorem gen_virtual_read_is_model (v : VirtualTerm) (line : Int) :
    Gen.C20.vNew = toV VirtualTerm.new ∧
    Gen.C20.vClose (toV v) = .ok (toV v.close) ∧
    Gen.C20.vGet line (toV v) = .ok (v.get line) ∧
    Gen.C20.vLineCount (toV v) = .ok (v.lineCount : Int) := by
  obtain ⟨lines, closed⟩ := v
  refine ⟨rfl, rfl, ?_, rfl⟩
  simp only [Gen.C20.vGet, toV, VirtualTerm.get, pure, Except.pure]
  by_cases h : line ≥ (lines.length : Int) ∨ line < 0
  · have : (decide (line ≥ (lines.length : Int)) || decide (line < (0 : Int))) = true := by simpa using h
    simp [this, h]
  · have h' : (decide (line ≥ (lines.length : Int)) || decide (line < (0 : Int))) = false := by
      simp only [Bool.or_eq_false_iff, decide_eq_false_iff_not]; omega
    have hb : 0 ≤ line ∧ line < (lines.length : Int) := by omega
    simp [h', h, Gen.C20.vIdx, hb]

/-- **gen_buffered_close_is_model.**  `VirtualTerm.WriteToOutput(out)` (the `range` loop: every line
through `WriteLineNoWrap`, then the byte `\n`) and `BufferedTerm.Close()` (`WriteToOutput(os.Stdout)`,
then the embedded `VirtualTerm.Close()`) as translated from the source: the bytes written are the hand
model's `writeToOutput` / `bufferedClose`, the store ends closed, and neither can panic. -/
theorem gen_buffered_close_is_model (c : Cfg) (v : VirtualTerm) :
    (Gen.C20.vWriteToOutput (toV v)).map (·.flatMap (vevBytes c)) = .ok (v.writeToOutput c) ∧
    (Gen.C20.bClose (toV v)).map (fun r => (r.1, r.2.flatMap (vevBytes c))) =
      .ok (toV (bufferedClose c v).1, (bufferedClose c v).2) := by
  obtain ⟨lines, closed⟩ := v
  have h : ∀ ls : List Bytes, (ls.flatMap fun line => [Gen.C20.VEv.writeLineNoWrap line, Gen.C20.VEv.write [0x0a]]).flatMap (vevBytes c) =
      ls.flatMap (fun line => writeLineNoWrap c.E c.autoTrim c.cols line ++ [10]) := by
    intro ls
    induction ls with
    | nil => rfl
    | cons l ls ih => simp only [List.flatMap_cons, List.flatMap_append, ih]; simp [vevBytes]
  refine ⟨?_, ?_⟩
  · simp only [Gen.C20.vWriteToOutput, toV, Except.map, pure, Except.pure, bind, Except.bind, List.nil_append,
      VirtualTerm.writeToOutput, h]
  · simp only [Gen.C20.bClose, Gen.C20.vWriteToOutput, Gen.C20.vClose, toV, Except.map, pure, Except.pure, bind, Except.bind,
      List.nil_append, bufferedClose, VirtualTerm.writeToOutput, VirtualTerm.close, h]

/-- the translated store on a concrete history: line 2 written first (two empty lines are added), then
line 0; a negative line and a write after `Close()` panic; `Get` outside the store is empty -/
example :
    (Gen.C20.vWriteForLine 5 2 [97] Gen.C20.vNew >>= Gen.C20.vWriteForLine 5 0 [98]) = .ok ⟨[[98], [], [97]], false⟩ ∧
    Gen.C20.vWriteForLine 5 (-1) [97] Gen.C20.vNew = .error "index out of range" ∧
    (Gen.C20.vClose Gen.C20.vNew >>= Gen.C20.vWriteForLine 5 0 [97]) = .error "virtualterm closed" ∧
    Gen.C20.vGet 7 ⟨[[98], [], [97]], false⟩ = .ok [] ∧ Gen.C20.vGet (-1) ⟨[[98], [], [97]], false⟩ = .ok [] ∧
    Gen.C20.vWriteToOutput ⟨[[98], []], false⟩ =
      .ok [.writeLineNoWrap [98], .write [10], .writeLineNoWrap [], .write [10]] := by
  refine ⟨rfl, rfl, rfl, rfl, rfl, rfl⟩

/-! ### non-vacuity: the hypotheses hold on a concrete non-trivial history -/

/-- a 4-column, 8-row terminal with the cursor on row 2 -/
def exTerm : Term := { Term.blank 4 8 false with row := 2 }

/-- all hypotheses of `screen_refines_latest` / `close_parks_cursor` hold for `exHist` on `exTerm`,
and the conclusions are the expected concrete screen: row 2 = "é世", row 3 = "xy" (the longer
"abcd" fully replaced), row 4 untouched, row 5 = "xy", cursor parked on row 6 and visible. -/
example :
    let t := exTerm.feedBytes (TermWriter.new.session (genCfg 4 true) (castHist exHist)).2
    t.rows 2 = [233, 0x4e16] ∧ t.rows 3 = [120, 121] ∧ t.rows 4 = [] ∧ t.rows 5 = [120, 121] ∧
    t.row = 6 ∧ t.cursorVisible = true := by
  have hrows : ∀ u ∈ exHist, 2 + u.1 + 1 < 8 := by decide
  have htxt : ∀ u ∈ exHist, TextOK 4 true u.2 := by
    intro u hu
    simp [exHist] at hu
    rcases hu with rfl | rfl | rfl | rfl
    · exact exLong_ok true rfl
    · exact exColour_ok true
    · exact exShort_ok true
    · exact exShort_ok true
  have h := close_parks_cursor 4 8 2 true exHist exTerm rfl rfl rfl rfl rfl (by decide) hrows htxt
  obtain ⟨hrow, _, _, hvis, _, hwr, hoth⟩ := h
  refine ⟨?_, ?_, ?_, ?_, ?_, hvis⟩
  · have := hwr 0 exColour (by decide); simpa using this.trans (by decide)
  · have := hwr 1 exShort (by decide); simpa using this.trans (by decide)
  · have hgap : ∀ i : Nat, latest exHist i ≠ none → 2 + i ≠ 4 := by
      intro i hi h
      have : i = 2 := by omega
      subst this
      exact hi (by decide)
    rw [hoth 4 hgap]; rfl
  · have := hwr 3 exShort (by decide); simpa using this.trans (by decide)
  · rw [hrow]; decide

/-- the same history with trimming off satisfies the hypotheses once the long text is left out -/
example : ∀ u ∈ [((0 : Nat), exColour), (1, exShort)], TextOK 4 false u.2 := by
  intro u hu
  simp at hu
  rcases hu with rfl | rfl
  · exact exColour_ok false
  · exact exShort_ok false

/-- `trim_spec` instance: "ab ESC[31m cd ESC[0m e" at width 3 keeps "ab ESC[31m c" (tokens 0..3) -/
example : ∃ k, writeLineNoWrap genEsc true 3 [97, 98, 0x1b, 0x5b, 0x33, 0x31, 0x6d, 99, 100, 0x1b, 0x5b, 0x30, 0x6d, 101]
      = encodeUtf8 (renderToks ([Tok.ch 97, .ch 98, .sgr [91, 51, 49], .ch 99, .ch 100, .sgr [91, 48], .ch 101].take k)) ∧ k = 4 :=
  ⟨4, by decide, rfl⟩

/-- `buffered_same_lines` instance: the buffered writer prints é世 / xy / (empty) / xy -/
example : ∃ v, VirtualTerm.new.runHistory (castHist exHist) = .ok v ∧
    (bufferedClose (genCfg 4 true) v).2 = exColour ++ [10] ++ exShort ++ [10] ++ [10] ++ exShort ++ [10] :=
  ⟨_, rfl, by decide⟩

set_option maxRecDepth 4000 in
/-- all hypotheses of `screen_refines_latest_scr` / `close_parks_cursor_scr` hold for `exScroll`
(texts wider than the screen, colour codes, a multi-byte rune, a text ending inside a colour
sequence, an invalid byte; lines 0…4 from row 1 of a 4-row screen, line 2 rewritten after two rows
have scrolled off), and the conclusion is the expected screen: after `Close()` three rows have
scrolled off, row 0 = line 2 = "xy", row 1 = line 3 = U+FFFD "a", row 2 = line 4 = "ab", cursor
parked on the (empty) bottom row. -/
example :
    let t := ({ Scr.blank 4 4 false eaWidth with row := 1 }).feedBytes
      (TermWriter.new.session (genCfg 4 true) (castHist exScroll)).2
    t.rows 0 = [120, 121] ∧ t.rows 1 = [0xFFFD, 97] ∧ t.rows 2 = [97, 98] ∧ t.rows 3 = [] ∧
    t.row = 3 ∧ t.cursorVisible = true := by
  have htxt : ∀ u ∈ exScroll, TextSafe eaWidth 4 true u.2 := by
    unfold exScroll
    simp only [List.forall_mem_cons, List.not_mem_nil, false_imp_iff, implies_true, and_true]
    exact ⟨exLong_safe true rfl, exRed_safe true, exLong_safe true rfl, exTail_safe true, exShort_safe true,
      exBad_safe⟩
  obtain ⟨hrow, _, _, _, hvis, _, hwr, hoth, _⟩ :=
    close_parks_cursor_scr 4 4 1 true exScroll ({ Scr.blank 4 4 false eaWidth with row := 1 })
      rfl rfl rfl rfl (by decide) rfl (by simp [Reachable, exScroll]) htxt
  have hm : (maxLineOf (castHist exScroll)).toNat = 4 := by decide +kernel
  rw [hm] at hrow hwr hoth
  -- the row indices are brought to numerals before they meet the goal: the unifier would otherwise
  -- evaluate the whole terminal to compare `rows (1 + 2 - 3)` with `rows 0`
  refine ⟨?_, ?_, ?_, ?_, ?_, hvis⟩
  · have h2 := hwr 2 exShort (by decide +kernel) (by decide)
    simp -zeta only [Nat.reduceAdd, Nat.reduceSub] at h2
    rw [h2]
    decide +kernel
  · have h3 := hwr 3 exBad (by decide +kernel) (by decide)
    simp -zeta only [Nat.reduceAdd, Nat.reduceSub] at h3
    rw [h3]
    decide +kernel
  · have h4 := hwr 4 exTail (by decide +kernel) (by decide)
    simp -zeta only [Nat.reduceAdd, Nat.reduceSub] at h4
    rw [h4]
    decide +kernel
  · refine (hoth 3 (by decide) (fun i hi h => ?_)).trans rfl
    obtain rfl : i = 5 := by omega
    exact hi (by decide +kernel)
  · exact Nat.add_right_cancel hrow

end Rare.C20

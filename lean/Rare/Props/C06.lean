import Rare.Proofs.C06
import Rare.Props.C01
import Rare.Model.C06Shape
import Rare.Gen.C06
import Rare.Gen.Skeleton
import Rare.Model.C06Tree
import Rare.Proofs.C06Match
import Rare.Proofs.C06GlobP
import Rare.Proofs.C06Walk
import Rare.Proofs.C06Gzip
import Rare.Proofs.C06Pipe
import Rare.Proofs.C06ErrTrace
import Rare.Proofs.C06Read
import Rare.Proofs.C06Inflate
import Rare.Model.C06File
import Rare.Model.C06Dispatch
import Rare.Model.C06Exec
/-!
# C06 — named inputs are each read once, decoded faithfully, and failures are reported

Part 1 (below): file contents, read faults and `compress/gzip` are oracle parameters (`FileOracle`), and
so is the file system as far as the planning / accounting / decision theorems are concerned (`FsOracle`):
they hold for ALL argument lists, oracle answers, failure placements, reader/worker counts and schedules.
Part 2 (second half of the file) takes the file-system oracle away: an abstract directory tree, path
resolution, `filepath.Match` / `Glob` / `Walk` / `Clean` / `Join` and `dirwalk.GlobExpand` are Lean
functions mirroring go1.23 / rare, and `match_eq_spec`, `match_sound`, `match_bad_pattern`,
`literal_matches_itself`, `star_no_slash`, `glob_sound_complete`, `glob_expansion_once`, `glob_literal`,
`walk_each_regular_file_once`, `plan_mentions` say what they compute.

* `plan_once_per_mention`, `plan_stdin` – what is opened, and how often.
* Part 3 (end of the file): `gzip_run_is_model`, `gzip_decoded_faithfully`, `gzip_truncated_counted`,
  `gzip_truncated_multi_counted` (several members, every cut point), `gzip_trailing_garbage_counted`,
  `gzip_cut_in_header_is_plain` – the gzip reader (header, DEFLATE, trailer, member loop) is a Lean function of the
  file's bytes; `dispatch_matches_source`, `dispatch_usage_iff`, `dispatch_reader`, `dispatch_plain` – the flag
  plumbing of `BuildBatcherFromArguments`.
* `run_output_complete` – stdout of the whole run is, input by input, the matching lines of what each input delivered.
* `run_exit_status` – the exit status of the whole run from what the planned inputs deliver (read errors > parse errors >
  nothing matched > 0), standard input included.
* `errors_counted`, `failed_input_exit_2` – read errors = number of failed inputs; any failure ⇒ exit 2.
* `others_unaffected` – whatever the other inputs do (open error, failure after any number of bytes),
  in every terminal state of the goroutine/channel protocol every healthy input's matching lines have
  been delivered exactly (derived from the C01 pipeline theorems).
* `sema_balanced`, `sema_bounded` – every acquired reader slot is released on every path (over the
  regenerated control tree of `OpenFilesToChan`), never more than `--readers` are held, none at the end.
* `exit_code_precedence` – over the regenerated if-chain of `DetermineErrorState`.
* `gunzip_fallback`, `gunzip_decodes` – `-z` on non-gzip content delivers it from its first byte.
* `reader_exec_source`, `reader_body_matches_source`, `stdin_body_matches_source` – the reader goroutines of `OpenFilesToChan`
  and `OpenReaderToChan` EXECUTED from their regenerated control trees and interpreted on the observables are `runFile` /
  `runStdin` for every oracle (errors counted, log lines, delivered lines, one slot release / `wg.Done()` / channel close).
* `run_errors_from_source` – the read-error count of the whole run = the `incErrors()` calls those bodies execute, summed over the plan.
* `code_shape` – the regenerated control skeletons equal the ones the model mirrors; `expand_matches_source`,
  `expand_tree_matches_source`, `walkRoot_matches_source`, `isDir_matches_source`, `open_matches_source` – the bodies of
  `GlobExpand`, `walkRoot`, `isDir`, `openFileToReader` regenerated as FUNCTIONS equal the hand model for all inputs.

Part 3 (end of the file): read faults – `read_fault_counted` (a failing `Read` is counted exactly once whatever
comes with it), `errors_counted_before_close` (pipeline LTS with the error counter: all errors are counted before the
batch channel closes, for every schedule), `error_count_precedes_done` (regenerated control tree), `errtrace_rule_sound`
(the rule checked on event logs of real runs); gzip – `gzip_header_spec` (`gzip.NewReader`'s header parser = the RFC 1952
member header, reserved bits ignored as Go does), `gunzip_decided_by_header`, `gzip_header_quirks`.
-/
namespace Rare.C06
open Rare.Pipeline Rare.C01

/-! ## Planning -/

/-- Each path argument / glob expansion / file below a `-R` directory is opened exactly once per
    mention: when the oracle's listings are duplicate-free (a glob result, a directory walk), the number of
    times `x` is opened equals the number of arguments whose expansion contains `x`; and every
    argument is expanded on its own (`planFiles` is the concatenation, in argument order). -/
theorem plan_once_per_mention (fs : FsOracle) (recursive : Bool) (args : List Path)
    (hg : ∀ p l, fs.glob p = .found l → l.Nodup) (hw : ∀ p, (fs.walk p).Nodup) (x : Path) :
    (planFiles fs recursive args).count x = Spec.specPlanCount (args.map (expandArg fs recursive)) x ∧
    planFiles fs recursive args = (args.map (expandArg fs recursive)).flatten ∧
    ∀ p ∈ args, (expandArg fs recursive p).Nodup ∧ expandArg fs recursive p ≠ [] ∨ (recursive && fs.isDir p) = true := by
  refine ⟨?_, ?_, ?_⟩
  · unfold planFiles Spec.specPlanCount
    rw [List.count_flatMap, ← List.map_map]
    apply sum_indicator
    intro l hl
    simp only [List.mem_map] at hl
    obtain ⟨p, _, rfl⟩ := hl
    exact expandArg_nodup fs recursive hg hw p
  · simp [planFiles, List.flatMap_def]
  · intro p _
    by_cases hd : (recursive && fs.isDir p) = true
    · exact Or.inr hd
    · refine Or.inl ⟨expandArg_nodup fs recursive hg hw p, ?_⟩
      have hd' : (recursive && fs.isDir p) = false := by simpa using hd
      unfold expandArg
      rw [hd']
      cases hgl : fs.glob p with
      | badPattern => simp
      | found l =>
        by_cases hl : l.length > 0
        · simp only [Bool.false_eq_true, if_false, hl, if_true]
          intro h; simp [h] at hl
        · simp [hl]

/-- An argument that is neither a walked directory nor a matching pattern (no match, or not even a
    valid pattern) is opened literally, exactly once per mention — so a missing file is reported. -/
theorem plan_literal_fallback (fs : FsOracle) (recursive : Bool) (p : Path)
    (hd : (recursive && fs.isDir p) = false) (hg : fs.glob p = .badPattern ∨ fs.glob p = .found []) :
    expandArg fs recursive p = [p] := by
  unfold expandArg
  rcases hg with h | h <;> simp [hd, h]

/-- `-` as first argument, or no argument at all, reads standard input (and nothing else) under the
    name `<stdin>`; otherwise every input is a file of the expansion. -/
theorem plan_stdin (recursive : Bool) (args : List Path) (fs : FsOracle) :
    (args = [] ∨ args.head? = some dash → plan recursive args fs = [.stdin]) ∧
    (args ≠ [] → args.head? ≠ some dash → plan recursive args fs = (planFiles fs recursive args).map .file) ∧
    Source.stdin.name = ascii "<stdin>" := by
  refine ⟨?_, ?_, rfl⟩
  · intro h
    unfold plan usesStdin
    rcases h with h | h <;> simp [h]
  · intro h1 h2
    unfold plan usesStdin
    cases args with
    | nil => exact absurd rfl h1
    | cons a as =>
      have : a ≠ dash := by simpa using h2
      simp [this]

/-! ## Error accounting -/

/-- Read errors = number of failed inputs: over any list of file names, the `incErrors` calls of all reader
    goroutines add up to the number of inputs that could not be opened or failed while being read;
    a healthy input contributes none. -/
theorem errors_counted (gunzip : Bool) (names : List Path) (files : Path → FileOracle) :
    ((names.map fun p => runFile gunzip p (files p)).map (·.errs)).sum
      = Spec.specErrors (names.map fun p => (readOutcome (files p) gunzip).failed) := by
  rw [← sum_errs_eq]
  simp only [List.map_map]
  congr 1
  apply List.map_congr_left
  intro p _
  simp [runFile_errs]

/-- What an input hands to the extractor is exactly the lines of the bytes delivered before the end /
    the failure (nothing lost, nothing duplicated, also for a gzip stream cut in the middle). -/
theorem lines_delivered (gunzip : Bool) (name : Path) (f : FileOracle) :
    (runFile gunzip name f).lines = C04.splitLines (readOutcome f gunzip).delivered ∧
    (runFile gunzip name f).name = name :=
  ⟨runFile_lines gunzip name f, runFile_name gunzip name f⟩

/-- The whole run: the error count is the number of failed planned inputs, and a single failed input
    makes the exit status 2 whatever else happened. -/
theorem failed_input_exit_2 (cfg : Config) (args : List Path) (fs : FsOracle) (files : Path → FileOracle)
    (stdin : Bytes) (hu : usageCheck cfg.batch cfg.readers cfg.gunzip args = none) (hs : usesStdin args = false) :
    (run cfg args fs files stdin).readErrors
      = Spec.specErrors ((planFiles fs cfg.recursive args).map fun p => (readOutcome (files p) cfg.gunzip).failed) ∧
    ((∃ p ∈ planFiles fs cfg.recursive args, (readOutcome (files p) cfg.gunzip).failed = true) →
      (run cfg args fs files stdin).exit = 2) := by
  have herr : (run cfg args fs files stdin).readErrors
      = Spec.specErrors ((planFiles fs cfg.recursive args).map fun p => (readOutcome (files p) cfg.gunzip).failed) := by
    rw [← errors_counted]
    simp [run, hu, plan, hs, Function.comp_def]
  refine ⟨herr, ?_⟩
  intro ⟨p, hp, hf⟩
  have hpos : 0 < (run cfg args fs files stdin).readErrors := by
    rw [herr]
    unfold Spec.specErrors
    apply List.length_pos_of_mem (a := true)
    simp only [List.mem_filter, List.mem_map, id]
    exact ⟨⟨p, hp, hf⟩, trivial⟩
  have hexit : ∀ pe m, (exitCode (run cfg args fs files stdin).readErrors pe m).1 = 2 := by
    intro pe m; unfold exitCode; simp [hpos]
  simp only [run, hu] at hexit hpos ⊢
  exact hexit _ _

/-- **Exit status of the whole run, in terms of what the inputs deliver** (any arguments, standard input included, any
    file-system answers, any failures).  The inputs are the planned ones (`plan_stdin`, `plan_once_per_mention`); each hands
    on the lines of the bytes it delivered – all of them when it is healthy, those before the failure otherwise, whatever the
    OTHER inputs do.  Then: read errors = number of failed inputs; the summary counts are those of all delivered lines; and
    the exit status is 2 if an input failed, else 2 if the aggregator (histo) saw a line it cannot parse, else 1 if nothing
    matched, else 0. -/
theorem run_exit_status (cfg : Config) (args : List Path) (fs : FsOracle) (files : Path → FileOracle)
    (stdin : Bytes) (stdinFails : Bool) (hu : usageCheck cfg.batch cfg.readers cfg.gunzip args = none) :
    let r := run cfg args fs files stdin stdinFails
    let inputs := plan cfg.recursive args fs
    let lines := inputs.flatMap fun s => C04.splitLines (s.delivered cfg.gunzip files stdin)
    r.readErrors = Spec.specErrors (inputs.map (Source.failed cfg.gunzip files stdinFails)) ∧
    r.readLines = lines.length ∧
    r.matched = (lines.filter fun l => (cfg.mode.matchText l).isSome).length ∧
    r.exit = Spec.specExit r.readErrors
      (match cfg.mode with | .histo => (lines.filter fun l => (atoi l).isNone).length | _ => 0) r.matched := by
  have hlines : ∀ g : Source → SrcRun, (∀ s, (g s).lines = C04.splitLines (s.delivered cfg.gunzip files stdin)) →
      ((plan cfg.recursive args fs).map g).flatMap (·.lines)
        = (plan cfg.recursive args fs).flatMap fun s => C04.splitLines (s.delivered cfg.gunzip files stdin) := by
    intro g hg
    rw [List.flatMap_map]
    congr 1
    funext s
    exact hg s
  have herrs : ∀ g : Source → SrcRun, (∀ s, (g s).errs = if s.failed cfg.gunzip files stdinFails then 1 else 0) →
      (((plan cfg.recursive args fs).map g).map (·.errs)).sum
        = Spec.specErrors ((plan cfg.recursive args fs).map (Source.failed cfg.gunzip files stdinFails)) := by
    intro g hg
    rw [← sum_errs_eq, List.map_map, List.map_map]
    congr 2
    funext s
    exact hg s
  simp only [run, hu]
  rw [hlines _ (by intro s; cases s <;> first | rfl | exact runFile_lines _ _ _),
    herrs _ (by intro s; cases s <;> first | rfl | exact runFile_errs _ _ _)]
  refine ⟨rfl, rfl, rfl, ?_⟩
  rw [exitCode_spec]
  cases cfg.mode <;> rfl

/-- **What the run prints, input by input** (`filter -e '{src}:{line}:{0}'`): for every planned input, in plan order, one
    line `name:number:match` for every matching line of the bytes that input delivered, numbered from 1 within the input.
    A healthy input delivers its whole content (decompressed under `-z`), so ALL its matching lines are printed whatever
    happens to the other inputs; a failing one contributes the lines before its failure; nothing else is printed.
    (The order across inputs depends on the schedule: `others_unaffected` is the statement for the concurrent pipeline.) -/
theorem run_output_complete (cfg : Config) (args : List Path) (fs : FsOracle) (files : Path → FileOracle)
    (stdin : Bytes) (stdinFails : Bool) (hu : usageCheck cfg.batch cfg.readers cfg.gunzip args = none)
    (hm : cfg.mode ≠ .histo) :
    (run cfg args fs files stdin stdinFails).out
      = (plan cfg.recursive args fs).flatMap fun s =>
          ((C04.splitLines (s.delivered cfg.gunzip files stdin)).zipIdx 1).filterMap fun p =>
            (cfg.mode.matchText p.1).map fun t => s.name ++ [58] ++ itoa p.2 ++ [58] ++ t := by
  have hout : ∀ g : Source → SrcRun,
      (∀ s, (g s).lines = C04.splitLines (s.delivered cfg.gunzip files stdin) ∧ (g s).name = s.name) →
      ((plan cfg.recursive args fs).map g).flatMap (outLines cfg.mode)
        = (plan cfg.recursive args fs).flatMap fun s =>
          ((C04.splitLines (s.delivered cfg.gunzip files stdin)).zipIdx 1).filterMap fun p =>
            (cfg.mode.matchText p.1).map fun t => s.name ++ [58] ++ itoa p.2 ++ [58] ++ t := by
    intro g hg
    rw [List.flatMap_map]
    congr 1
    funext s
    unfold outLines
    rw [(hg s).1, (hg s).2]
  simp only [run, hu]
  rw [hout _ (by
    intro s
    cases s with
    | stdin => exact ⟨rfl, rfl⟩
    | file p => exact ⟨runFile_lines _ _ _, runFile_name _ _ _⟩)]

/-- `rare histo` over a healthy file with a non-numeric line: no read error, exit 2 ("Parse errors"); the same file with
    `filter`: exit 0; a file without any matching line (`filter -m k`): exit 1 -/
example :
    (run ⟨false, false, 1, 1, .histo⟩ [[111, 107]] ⟨fun _ => false, fun _ => [], fun _ => .found []⟩
      (fun _ => ⟨true, false, [49, 10, 120, 10], 0, [], false⟩) []).exit = 2 ∧
    (run ⟨false, false, 1, 1, .histo⟩ [[111, 107]] ⟨fun _ => false, fun _ => [], fun _ => .found []⟩
      (fun _ => ⟨true, false, [49, 10, 120, 10], 0, [], false⟩) []).readErrors = 0 ∧
    (run ⟨false, false, 1, 1, .all⟩ [[111, 107]] ⟨fun _ => false, fun _ => [], fun _ => .found []⟩
      (fun _ => ⟨true, false, [49, 10, 120, 10], 0, [], false⟩) []).exit = 0 ∧
    (run ⟨false, false, 1, 1, .hasByte 107⟩ [[111, 107]] ⟨fun _ => false, fun _ => [], fun _ => .found []⟩
      (fun _ => ⟨true, false, [49, 10, 120, 10], 0, [], false⟩) []).exit = 1 := by
  decide

/-! ## A failing input does not disturb the others -/

/-- The batches the reader goroutines send for inputs that delivered `datas` (batching by the real
    loop, any batch size, any flush-timer behaviour).  An input that could not be opened delivers
    nothing and sends no batch. -/
def pipelineInputs (batchSize : Nat) (timer : Nat → Nat → Bool) (datas : List Bytes) : List (List (List Line)) :=
  (datas.zipIdx 0).map fun p =>
    (Batcher.run batchSize ((linesOf p.2 p.1).map fun l => (l, timer p.2 l.num))).map (·.lines)

/-- Lines of healthy inputs are delivered completely whatever the other inputs do.  Input `i` reads
    `data` without error; every other input has an ARBITRARY outcome (ok, open error, read error after any
    number of bytes).  Then for every classifier, every reader/worker count, channel capacity, batch size,
    timer behaviour and EVERY schedule: in a terminal state the consumer holds, for source `i`, exactly the
    matching lines of `data` (as a multiset), each with its true line number. -/
theorem others_unaffected (cls : Line → Cls) (R B K W batchSize : Nat) (hW : 1 ≤ W)
    (outcomes : List Outcome) (timer : Nat → Nat → Bool) {s : St Line}
    (hr : Reach cls R B K (init (pipelineInputs batchSize timer (outcomes.map Outcome.delivered)) W) s)
    (hd : s.consDone = true) (i : Nat) (data : Bytes) (hi : outcomes[i]? = some (.ok data)) :
    (s.consumed.filter fun l => decide (l.src = i)).Perm ((linesOf i data).filter (isMatched cls)) := by
  have hfin := (pipeline_final_bytes cls R B K W batchSize hW (outcomes.map Outcome.delivered) timer hr hd).1
  have h1 := hfin.filter (fun l => decide (l.src = i))
  have hget : (outcomes.map Outcome.delivered)[i]? = some data := by
    simp [hi, Outcome.delivered]
  have h2 : (seqMatches cls (allLines (outcomes.map Outcome.delivered))).filter (fun l => decide (l.src = i))
      = (linesOf i data).filter (isMatched cls) := by
    unfold seqMatches
    rw [List.filter_filter, ← filter_src_allLines _ i data hget, List.filter_filter]
    congr 1
    funext l
    exact Bool.and_comm _ _
  rw [h2] at h1
  exact h1

/-- … and the run always gets there: failing inputs never block the pipeline (from every reachable state
    some execution reaches the consumer's end of stream; every step decreases the C01 measure). -/
theorem failing_inputs_terminate (cls : Line → Cls) {R B K : Nat} (hR : 1 ≤ R) (hB : 1 ≤ B) (hK : 1 ≤ K)
    (W batchSize : Nat) (outcomes : List Outcome) (timer : Nat → Nat → Bool) :
    ∃ s, Reach cls R B K (init (pipelineInputs batchSize timer (outcomes.map Outcome.delivered)) W) s ∧
      s.consDone = true :=
  pipeline_reaches_end cls hR hB hK _ _ _ .refl (Nat.le_refl _)

/-! ## Semaphore accounting -/

/-- The spawn loop of `OpenFilesToChan` and the body of the reader goroutine, taken from the
    regenerated control tree. -/
def spawnLoop : Ctl := (firstLoop Gen.C06.openFilesToChanTree).getD .nil
def readerBody : Ctl := (firstGo spawnLoop).getD .nil

/-- Every acquired semaphore slot is released on every path: per file name the spawner acquires exactly
    one slot (`sema <- struct{}{}`) before starting exactly one goroutine, and EVERY execution path of that
    goroutine (the early return after a failed open, and the normal end after reading) runs `<-sema`
    exactly once (the deferred block) and never acquires; no path contains a construct the path semantics
    does not cover.  Both paths also run `wg.Done()` and `stopFileReading` once. -/
theorem sema_balanced :
    (beforeGo spawnLoop).count "send:sema<-struct{}{}" = 1 ∧
    (traces spawnLoop).all (fun t => t.count "send:sema<-struct{}{}" = 1 ∧ t.count "do:<-sema" = 0) = true ∧
    ((paths spawnLoop).all fun p => p.evs.count .spawn = 1) = true ∧
    (traces readerBody).length = 2 ∧
    ∀ t ∈ traces readerBody,
      t.count "do:<-sema" = 1 ∧ t.count "send:sema<-struct{}{}" = 0 ∧ t.count "do:wg.Done()" = 1 ∧
      t.count "do:out.stopFileReading(goFilename)" = 1 ∧ "<unsupported>" ∉ t := by
  decide +kernel

/-- The flat synchronisation skeleton used by C01 agrees: one `send:sema`, one `recv:sema`, the receive
    inside the deferred block that opens the goroutine body. -/
theorem sema_skeleton :
    Gen.Skeleton.openFilesToChan.count "send:sema" = 1 ∧ Gen.Skeleton.openFilesToChan.count "recv:sema" = 1 ∧
    (Gen.Skeleton.openFilesToChan.dropWhile (· ≠ "send:sema")).take 9
      = ["send:sema", "call:wg.Add", "call:out.setSourceCount", "go{", "defer{", "recv:sema", "call:out.stopFileReading",
         "call:wg.Done", "}"] := by
  simp [Gen.Skeleton.openFilesToChan, List.dropWhile]

/-- In the transition system of C01 (start = acquire, finish = release): at every reachable state at most
    `R` (`--readers`) slots are held, and in every terminal state all of them have been released —
    including those of inputs that failed (their goroutine is `active []` and finishes). -/
theorem sema_bounded {α : Type} [DecidableEq α] (cls : α → Cls) (R B K W : Nat) (inputs : List (List (List α)))
    {s : St α} (hr : Reach cls R B K (init inputs W) s) :
    activeCount s ≤ R ∧ (s.consDone = true → W ≥ 1 → activeCount s = 0) := by
  refine ⟨active_le_reach hr (by rw [active_init]; exact Nat.zero_le _), ?_⟩
  intro hd hW
  have hinv := pipeline_invariant cls R B K W inputs hr
  have hrc := (hinv.consdone hd).1
  have hex := hinv.rcclosed hrc
  have hlen := reach_workers_length hr
  have hany : s.workers.any WSt.isExited = true := by
    cases hw : s.workers with
    | nil => rw [hw] at hlen; simp [init] at hlen; omega
    | cons w ws =>
      rw [hw] at hex
      simp only [List.all_cons, Bool.and_eq_true] at hex
      simp [hex.1]
  exact active_zero_of_all_done (hinv.cclosed (hinv.exited hany).1)

/-! ## Exit status -/

/-- Exit status precedence, over the regenerated if-chain of `DetermineErrorState`: 2 if there were read
    errors, else 2 if the aggregator saw unparsable increments, else 1 if nothing matched, else 0; the
    hand model `exitCode` is the same function; the messages are the ones `main` logs. -/
theorem exit_code_precedence (readErrors parseErrors matched : Nat) (agg : Bool) :
    (Gen.C06.determineErrorState readErrors agg parseErrors matched).1
      = Spec.specExit readErrors (if agg then parseErrors else 0) matched ∧
    Gen.C06.determineErrorState readErrors agg parseErrors matched
      = exitCode readErrors (if agg then some parseErrors else none) matched := by
  unfold Gen.C06.determineErrorState Spec.specExit exitCode Gen.C06.exitCodeInvalidUsage Gen.C06.exitCodeNoData
  cases agg <;> simp <;> (repeat' split) <;> simp_all <;> omega

/-- The chain as data, and the constants, are what the theorem above was read against; `main` exits
    with the code carried by the error (and logs its non-empty message). -/
theorem exit_chain_source :
    Gen.C06.chain = [("b.ReadErrors()>0", 2, "Read errors"), ("agg!=nil&&agg.ParseErrors()>0", 2, "Parse errors"),
      ("e.MatchedLines()==0", 1, "")] ∧
    Gen.C06.exitCodeNoData = 1 ∧ Gen.C06.exitCodeInvalidUsage = 2 ∧ Gen.C06.mainFn = Shape.mainFn :=
  ⟨rfl, rfl, rfl, rfl⟩

/-! ## gzip -/

/-- `-z` on content that is not gzip: whatever the header probe consumed, the input is delivered from
    its first byte, completely, without a read error (the `Seek(0)` of the fallback branch). -/
theorem gunzip_fallback (name : Path) (f : FileOracle) (ho : f.canOpen = true) (hd : f.isDir = false)
    (hh : f.gzHeaderOk = false) :
    readOutcome f true = .ok f.content ∧
    (runFile true name f).lines = C04.splitLines f.content ∧
    (runFile true name f).errs = 0 ∧
    (runFile true name f).logs = [.gunzipFallback name] := by
  have h1 : readOutcome f true = .ok f.content := by
    simp [readOutcome, readOutcomeG, openFileToReaderG, ho, hh, streamOf, hd]
  refine ⟨h1, ?_, ?_, ?_⟩
  · rw [runFile_lines, h1]; rfl
  · rw [runFile_errs, h1]; rfl
  · simp [runFile, openFileToReader, openFileToReaderG, ho, hh, streamOf, hd, runStream]

/-- Without the rewind the bytes consumed by the probe would be lost: the seek is what the theorem
    above rests on (`readOutcomeG false` = the code with the `Seek` removed). -/
theorem gunzip_fallback_needs_seek :
    readOutcomeG false ⟨true, false, [104, 105, 10], 2, [], false⟩ true = .ok [10] ∧
    readOutcomeG true ⟨true, false, [104, 105, 10], 2, [], false⟩ true = .ok [104, 105, 10] := by
  decide

/-- `-z` on gzip content delivers what the gzip reader yields; a stream that fails (truncated, corrupt,
    bad checksum) still delivers every line decoded before the failure and is counted once. -/
theorem gunzip_decodes (name : Path) (f : FileOracle) (ho : f.canOpen = true) (hh : f.gzHeaderOk = true) :
    (runFile true name f).lines = C04.splitLines f.gzDecoded ∧
    (runFile true name f).errs = (if f.gzFails then 1 else 0) := by
  cases hf : f.gzFails with
  | false =>
    have h1 : readOutcome f true = .ok f.gzDecoded := by
      simp [readOutcome, readOutcomeG, openFileToReaderG, ho, hh, streamOf, hf]
    exact ⟨by rw [runFile_lines, h1]; rfl, by rw [runFile_errs, h1]; rfl⟩
  | true =>
    have h1 : readOutcome f true = .readErr f.gzDecoded := by
      simp [readOutcome, readOutcomeG, openFileToReaderG, ho, hh, streamOf, hf]
    exact ⟨by rw [runFile_lines, h1]; rfl, by rw [runFile_errs, h1]; rfl⟩

/-! ## Tie to the source -/

/-- The regenerated control skeletons (every statement and condition of `GlobExpand`, `walkRoot`, `isDir`,
    `openFileToReader` and the if-statements of `BuildBatcherFromArguments`) are the ones the model mirrors. -/
theorem code_shape :
    Gen.C06.globExpand = Shape.globExpand ∧ Gen.C06.walkRoot = Shape.walkRoot ∧ Gen.C06.isDir = Shape.isDir ∧
    Gen.C06.openFileToReader = Shape.openFileToReader ∧ Gen.C06.buildBatcher = Shape.buildBatcher :=
  ⟨rfl, rfl, rfl, rfl, rfl⟩

/-! ## Non-vacuity -/

/-! names as byte lists (`ascii` does not reduce in the kernel) -/
def pD : Path := [100]  -- "d"
def pDa : Path := [100, 47, 97]  -- "d/a"
def pDb : Path := [100, 47, 98]  -- "d/b"
def pStar : Path := [42, 46, 108, 111, 103]  -- "*.log"
def pA : Path := [97, 46, 108, 111, 103]  -- "a.log"
def pB : Path := [98, 46, 108, 111, 103]  -- "b.log"
def pX : Path := [120, 91, 49, 93]  -- "x[1]"
def pBad : Path := [97, 91]  -- "a["
def pOk : Path := [111, 107]  -- "ok"
def pGone : Path := [103, 111, 110, 101]  -- "gone"
def pCut : Path := [99, 117, 116, 46, 103, 122]  -- "cut.gz"

/-- A small oracle file system: `d` is a directory with `d/a`, `d/b`; `*.log` matches two files; `x[1]`
    matches nothing; `a[` is not a pattern. -/
def exFs : FsOracle where
  isDir p := p == pD
  walk p := if p == pD then [pDa, pDb] else []
  glob p :=
    if p == pStar then .found [pA, pB]
    else if p == pBad then .badPattern
    else if p == pA then .found [pA]
    else .found []

/-- `rare -R d '*.log' a.log 'x[1]' 'a[' d`: `a.log` is mentioned by two arguments and opened twice, the
    directory twice, the literal fall-backs once each. -/
example : planFiles exFs true [pD, pStar, pA, pX, pBad, pD]
    = [pDa, pDb, pA, pB, pA, pX, pBad,
       pDa, pDb] := by decide

example : (planFiles exFs true [pD, pStar, pA, pX, pBad, pD]).count (pA) = 2 ∧
    Spec.specPlanCount ([pD, pStar, pA, pX, pBad, pD].map (expandArg exFs true)) (pA) = 2 := by
  decide

/-- the hypotheses of `plan_once_per_mention` hold for this oracle -/
example : (∀ p l, exFs.glob p = .found l → l.Nodup) ∧ (∀ p, (exFs.walk p).Nodup) := by
  constructor
  · intro p l h
    simp only [exFs] at h
    split at h
    · cases h; decide
    · split at h
      · cases h
      · split at h <;> cases h <;> simp
  · intro p
    simp only [exFs]
    split <;> decide

/-- three inputs — healthy, missing, gzip cut after the first line and a half — give 2 read errors, exit 2,
    and the healthy input's lines plus the decoded prefix of the cut one. -/
def exFiles (p : Path) : FileOracle :=
  if p == pOk then ⟨true, false, [108, 49, 10, 108, 50, 10] /- "l1\nl2\n" -/, 6, [], false⟩
  else if p == pCut then ⟨true, false, [31, 139, 8, 0, 0, 0, 0, 0, 0, 255, 75, 55] /- a gzip header and the first bytes of a stream -/, 0, [103, 49, 10, 103] /- "g1\ng" -/, true⟩
  else FileOracle.missing

example :
    let r := run ⟨true, false, 3, 1000, .all⟩ [pOk, pGone, pCut]
      ⟨fun _ => false, fun _ => [], fun _ => .found []⟩ exFiles []
    r.readErrors = 2 ∧ r.exit = 2 ∧ r.readLines = 4 ∧
    r.out = [[111, 107, 58, 49, 58, 108, 49] /- ok:1:l1 -/, [111, 107, 58, 50, 58, 108, 50] /- ok:2:l2 -/, [99, 117, 116, 46, 103, 122, 58, 49, 58, 103, 49] /- cut.gz:1:g1 -/, [99, 117, 116, 46, 103, 122, 58, 50, 58, 103] /- cut.gz:2:g -/] := by
  decide

/-- all four exit states are reachable -/
example : (exitCode 1 (some 1) 0).1 = 2 ∧ (exitCode 0 (some 3) 5).1 = 2 ∧ (exitCode 0 (some 0) 0).1 = 1 ∧
    (exitCode 0 none 4).1 = 0 ∧ (exitCode 0 none 0).1 = 1 := by decide

/-- `others_unaffected` is not vacuous: with a failing first input and a missing third one a terminal
    state exists, and there the healthy second input's lines are all consumed. -/
example : ∃ s, Reach (fun _ : Line => Cls.matched) 2 1 5
      (init (pipelineInputs 2 (fun _ _ => false)
        ([Outcome.readErr (ascii "x\ny"), .ok (ascii "a\nb\nc\n"), .openErr].map Outcome.delivered)) 2) s ∧
    s.consDone = true ∧
    (s.consumed.filter fun l => decide (l.src = 1)).Perm
      ((linesOf 1 (ascii "a\nb\nc\n")).filter (isMatched fun _ => Cls.matched)) := by
  obtain ⟨s, hr, hd⟩ := failing_inputs_terminate (fun _ : Line => Cls.matched) (R := 2) (B := 1) (K := 5)
    (by decide) (by decide) (by decide) 2 2 [Outcome.readErr (ascii "x\ny"), .ok (ascii "a\nb\nc\n"), .openErr]
    (fun _ _ => false)
  exact ⟨s, hr, hd, others_unaffected _ 2 1 5 2 2 (by decide) _ _ hr hd 1 _ rfl⟩

/-! # Glob matching and directory walking inside the model

From here on the file system is no oracle any more: it is an abstract directory tree (`Glob.Node`:
files, symbolic links, directories), path look-up follows path_resolution(7), and Go's
`filepath.Match`, `Glob`, `Walk`, `Clean`, `Join` are Lean functions mirrored from go1.23
(`Rare/Model/C06Glob.lean`); `treeFs root` is the `FsOracle` they compute. -/

open Rare.C06.Glob Rare.C06.Spec

/-! # Tie to the source, function level: `GlobExpand`, `walkRoot`, `isDir`, `openFileToReader`

`code_shape` compares statement texts.  Here the translator (harness/extract/c06fn.go) regenerates the four bodies as Lean
FUNCTIONS over oracle parameters (`os.Stat`, `filepath.Walk`, `filepath.Glob`, `os.Open`, `gzip.NewReader`) and the hand model is
proved equal to them for ALL inputs: a changed condition, a swapped branch, a dropped `Seek`, a send of the wrong variable in
/repo changes the regenerated function and breaks one of these theorems. -/

/-- `walkRoot` of the code = `Glob.walkRoot` of the model, on every byte string (`os.IsPathSeparator` = `/`) -/
theorem walkRoot_matches_source (p : Bytes) : Gen.C06.walkRootFn (· == 47) 47 p = Glob.walkRoot p := by
  unfold Gen.C06.walkRootFn Glob.walkRoot
  cases p with
  | nil => simp
  | cons a l =>
    have : (a :: l).getLast? = some ((a :: l).getLastD 0) := by
      rw [List.getLastD_eq_getLast?]
      cases h : (a :: l).getLast? with
      | none => simp at h
      | some x => rfl
    rw [this]
    by_cases h : (a :: l).getLastD 0 = 47 <;> simp

/-- `isDir` of the code (`os.Stat` succeeds and reports a directory; `os.Lstat` is not used) = `Glob.isDir` over a tree -/
theorem isDir_matches_source (root : Node) (p : Bytes) :
    Gen.C06.isDirFn (fun q => (stat root q).map fun n => match n with | .dir _ => true | _ => false)
      (fun q => (lstat root q).map fun n => match n with | .dir _ => true | _ => false) p = Glob.isDir root p := by
  unfold Gen.C06.isDirFn Glob.isDir
  cases h : stat root p with
  | none => simp [h]
  | some n => cases n <;> simp [h]

def pathErrorMsg : String := "Path error: %v; Reading %s as a plain path"

/-- **One iteration of `GlobExpand`'s loop, regenerated from /repo, is `expandArg`** – for every file-system oracle, flag and
    argument: the same names are sent in the same order (the walk's non-directories under `-R` for a directory; else the glob
    matches; else – no match or a bad pattern – the argument itself), and "Path error" is logged exactly for a bad pattern. -/
theorem expand_matches_source (fs : FsOracle) (recursive : Bool) (p : Path) :
    Gen.C06.globExpandFn fs.isDir id (fun q => (fs.walk q).map fun x => (x, false))
        (fun q => match fs.glob q with | .badPattern => none | .found l => some l) recursive p
      = (expandArg fs recursive p, if expandArgBad fs recursive p then [pathErrorMsg] else []) := by
  unfold Gen.C06.globExpandFn expandArg expandArgBad
  by_cases h : (recursive && fs.isDir p) = true
  · simp [h, List.filter_map, Function.comp_def]
  · simp only [h, Bool.false_eq_true, if_false]
    cases fs.glob p with
    | badPattern => simp [pathErrorMsg]
    | found l => by_cases hl : l.length > 0 <;> simp [hl]

/-- … and over a directory tree, with the regenerated `isDir` and `walkRoot` plugged in, it is `expandArg (treeFs root)`:
    the function all glob / walk theorems of this file are about. -/
theorem expand_tree_matches_source (root : Node) (recursive : Bool) (p : Path) :
    Gen.C06.globExpandFn
        (Gen.C06.isDirFn (fun q => (stat root q).map fun n => match n with | .dir _ => true | _ => false)
          (fun q => (lstat root q).map fun n => match n with | .dir _ => true | _ => false))
        (Gen.C06.walkRootFn (· == 47) 47) (fun q => (Glob.walk root q).map fun x => (x, false))
        (fun q => match glob root q with | .badPattern => none | .ok l => some l) recursive p
      = (expandArg (treeFs root) recursive p, if expandArgBad (treeFs root) recursive p then [pathErrorMsg] else []) := by
  rw [← expand_matches_source]
  have e1 : Gen.C06.isDirFn (fun q => (stat root q).map fun n => match n with | .dir _ => true | _ => false)
      (fun q => (lstat root q).map fun n => match n with | .dir _ => true | _ => false) = Glob.isDir root :=
    funext (isDir_matches_source root)
  have e2 : Gen.C06.walkRootFn (· == 47) 47 = Glob.walkRoot := funext walkRoot_matches_source
  rw [e1, e2]
  unfold Gen.C06.globExpandFn
  simp only [treeFs, globRes, id]
  cases glob root p <;> rfl

/-- **`openFileToReader`, regenerated from /repo, is the model's**: open error ⇒ the error; `-z` and a header
    `gzip.NewReader` accepts ⇒ the gzip reader; `-z` and no such header ⇒ the message is logged and the file is read from
    offset 0 BECAUSE the regenerated function ran `Seek(0)` (without it: from where the probe left off, `f.gzProbed`);
    without `-z` ⇒ the file itself. -/
theorem open_matches_source (f : FileOracle) (gunzip : Bool) :
    openFileToReader f gunzip = (Gen.C06.openFileToReaderFn f.canOpen f.gzHeaderOk gunzip).map fun st =>
      (if st.1 then Rd.gz else Rd.plain (if gunzip && !st.2.1 then f.gzProbed else 0), !st.2.2.isEmpty) := by
  unfold openFileToReader openFileToReaderG Gen.C06.openFileToReaderFn
  generalize f.gzHeaderOk = h
  cases f.canOpen <;> cases gunzip <;> cases h <;> simp

/-- the regenerated functions on concrete values: a directory link without trailing slash gets one; a file that is not gzip
    under `-z` is rewound and the message logged; a bad pattern is sent literally with the log line -/
example : Gen.C06.walkRootFn (· == 47) 47 [108, 100] = [108, 100, 47] ∧ Gen.C06.walkRootFn (· == 47) 47 [108, 47] = [108, 47] ∧
    Gen.C06.openFileToReaderFn true false true = some (false, true, ["Gunzip error for file %s: %v; Reading as plain file"]) ∧
    Gen.C06.openFileToReaderFn true true true = some (true, false, []) ∧ Gen.C06.openFileToReaderFn false true true = none ∧
    Gen.C06.globExpandFn (fun _ => false) id (fun _ => []) (fun _ : Path => none) true pBad = ([pBad], [pathErrorMsg]) := by
  refine ⟨by decide, by decide, rfl, rfl, rfl, rfl⟩

/-! ## `filepath.Match` -/

/-- The algorithmic matcher (chunks, backtracking over `*`) decides exactly the declarative relation, for
    every well-formed pattern and every name without `/` (what a directory entry is) in which no character
    is wider than two bytes — or every name without `/` at all when the pattern consists of literal bytes
    and `*` only (`*.log`).  It never reports an error for a well-formed pattern.
    (Both side conditions are needed for Go's matcher: `match_greedy_needs_side_conditions`.) -/
theorem match_eq_spec (pat name : Bytes) (ast : Pat) (hp : Parses pat ast) (hs : slash ∉ name)
    (hg : NoWide name ∨ FixedWidth ast) :
    (goMatch pat name = .matched true ↔ Matches ast name) ∧ (∃ b, goMatch pat name = .matched b) := by
  refine ⟨⟨?_, ?_⟩, goMatch_total pat name ⟨ast, hp⟩⟩
  · intro h
    obtain ⟨ast', hp', hm⟩ := goMatch_sound pat name h
    rw [parses_unique hp hp']; exact hm
  · intro hm
    exact goMatch_complete pat name ast hp hm hs hg

/-- Soundness needs no side condition: whenever `Match` says yes — for ANY pattern text and ANY name, `/`
    and invalid UTF-8 included — the pattern is well formed and the declarative relation holds. -/
theorem match_sound (pat name : Bytes) (h : goMatch pat name = .matched true) :
    ∃ ast, Parses pat ast ∧ Matches ast name :=
  goMatch_sound pat name h

/-- Bad patterns.  `ErrBadPattern` is only ever reported for a pattern the grammar rejects; a pattern the
    grammar rejects never matches anything; the fuel of the model is never exhausted; and the grammar
    assigns at most one syntax tree.  (The converse "every rejected pattern gives `ErrBadPattern`" is false for
    `filepath.Match`, see `match_error_depends_on_name`.) -/
theorem match_bad_pattern (pat name : Bytes) :
    (goMatch pat name = .badPattern → ¬ WellFormed pat) ∧
    (¬ WellFormed pat → goMatch pat name = .badPattern ∨ goMatch pat name = .matched false) ∧
    goMatch pat name ≠ .outOfFuel ∧
    (∀ a b, Parses pat a → Parses pat b → a = b) := by
  refine ⟨?_, ?_, goMatch_fuel pat name, fun a b ha hb => parses_unique ha hb⟩
  · intro h ⟨ast, hp⟩
    obtain ⟨b, hb⟩ := goMatch_total pat name ⟨ast, hp⟩
    rw [hb] at h; cases h
  · intro hwf
    cases h : goMatch pat name with
    | badPattern => exact Or.inl rfl
    | outOfFuel => exact absurd h (goMatch_fuel pat name)
    | matched b =>
      cases b with
      | false => exact Or.inr rfl
      | true =>
        obtain ⟨ast, hp, _⟩ := goMatch_sound pat name h
        exact absurd ⟨ast, hp⟩ hwf

/-- go1.23 `filepath.Match` (unlike `path.Match`) does not look at the part of the pattern it never
    reaches: the malformed `a*[` is an error against `ab` and a plain "no match" against `b`.  (So is
    `filepath.Glob`'s verdict: it depends on the directory contents; rare reads the argument as a literal
    path in both cases, `plan_literal_fallback`.) -/
theorem match_error_depends_on_name :
    ¬ WellFormed [97, 42, 91] ∧ goMatch [97, 42, 91] [97, 98] = .badPattern ∧
    goMatch [97, 42, 91] [98] = .matched false := by
  refine ⟨?_, by decide, by decide⟩
  intro hwf
  have := (match_bad_pattern [97, 42, 91] [97, 98]).1 (by decide)
  exact this hwf

/-- The side conditions of `match_eq_spec` cannot be dropped, because of how Go's matcher works:
    `*` skips BYTES while `?` and classes read characters, and the matcher never returns to an earlier `*`.
    * `*?*[�][�]` does not match `😀` (F0 9F 98 80) although `*`=F0, `?`=9F (a stray byte, U+FFFD),
      `*`=ε, 98 and 80 (two more stray bytes) is a match by the rules;
    * `*[/a]*b` does not match `a/b` although `*`=`a`, `[/a]`=`/`, `*`=ε, `b` is one. -/
theorem match_greedy_needs_side_conditions :
    (goMatch [42, 63, 42, 91, 239, 191, 189, 93, 91, 239, 191, 189, 93] [240, 159, 152, 128] = .matched false ∧
      Matches [.star, .any, .star, .cls false [(65533, 65533)], .cls false [(65533, 65533)]] [240, 159, 152, 128] ∧
      Parses [42, 63, 42, 91, 239, 191, 189, 93, 91, 239, 191, 189, 93]
        [.star, .any, .star, .cls false [(65533, 65533)], .cls false [(65533, 65533)]]) ∧
    (goMatch [42, 91, 47, 97, 93, 42, 98] [97, 47, 98] = .matched false ∧
      Matches [.star, .cls false [(47, 47), (97, 97)], .star, .lit 98] [97, 47, 98] ∧
      Parses [42, 91, 47, 97, 93, 42, 98] [.star, .cls false [(47, 47), (97, 97)], .star, .lit 98]) := by
  refine ⟨⟨by decide, ?_, ?_⟩, ⟨by decide, ?_, ?_⟩⟩
  · refine ⟨[240], [159, 152, 128], rfl, by decide, ?_⟩
    refine ⟨by decide, by decide, ?_⟩
    show Matches _ [152, 128]
    refine ⟨[], [152, 128], rfl, by simp, ?_⟩
    refine ⟨by decide, by decide, ?_⟩
    show Matches _ [128]
    exact ⟨by decide, by decide, rfl⟩
  · have h := scan_parses 20 [63] [42, 91, 239, 191, 189, 93, 91, 239, 191, 189, 93] [.any] _ (by decide) (by decide)
      (Parses.star (scan_parses 20 [91, 239, 191, 189, 93, 91, 239, 191, 189, 93] []
        [.cls false [(65533, 65533)], .cls false [(65533, 65533)]] [] (by decide) (by decide) Parses.nil).1)
    exact Parses.star h.1
  · refine ⟨[97], [47, 98], rfl, by decide, ?_⟩
    refine ⟨by decide, by decide, ?_⟩
    show Matches _ [98]
    exact ⟨[], [98], rfl, by simp, ⟨[], rfl, rfl⟩⟩
  · have h := scan_parses 20 [91, 47, 97, 93] [42, 98] [.cls false [(47, 47), (97, 97)]] _ (by decide) (by decide)
      (Parses.star (Parses.lit 98 (by decide) (by decide) (by decide) (by decide) Parses.nil))
    exact Parses.star h.1

/-- A pattern without metacharacters matches exactly that name (any bytes, `/` and invalid UTF-8 included). -/
theorem literal_matches_itself (pat name : Bytes) (h : hasMeta pat = false) :
    goMatch pat name = .matched (decide (name = pat)) ∧ Parses pat (pat.map Item.lit) ∧
    (Matches (pat.map Item.lit) name ↔ name = pat) := by
  refine ⟨goMatch_noMeta pat name h, noMeta_parses pat h, ?_⟩
  constructor
  · intro hm
    have := matchItems_complete (pat.map Item.lit) (by
      intro it hit; simp only [List.mem_map] at hit; obtain ⟨b, _, rfl⟩ := hit; simp) name [] (by simpa using hm)
    obtain ⟨t, ht, htm⟩ := this
    have ht0 : t = [] := htm
    subst ht0
    simpa using (matchItems_lits pat name []).1 ht
  · intro e
    have := matchItems_sound (pat.map Item.lit) name [] ((matchItems_lits pat name []).2 (by simp [e])) [] rfl
    simpa using this

/-- `*` does not cross `/`: a lone `*` matches exactly the names without `/`, and in general a pattern none
    of whose items admits `/` (no literal `/`, no class containing it – `*` and `?` never do) matches no
    name that contains one; this holds for the algorithm on ALL names. -/
theorem star_no_slash (name : Bytes) :
    goMatch [42] name = .matched (decide (slash ∉ name)) ∧
    (∀ pat ast, Parses pat ast → (∀ it ∈ ast, it.admitsSlash = false) →
      goMatch pat name = .matched true → slash ∉ name) := by
  constructor
  · have : (47 : UInt8) ∈ name ↔ slash ∈ name := Iff.rfl
    by_cases h : slash ∈ name
    · have h' : (47 : UInt8) ∈ name := h
      simp [goMatch, goMatchF, scanChunk, scanLen, h, h']
    · have h' : ¬ (47 : UInt8) ∈ name := h
      simp [goMatch, goMatchF, scanChunk, scanLen, h, h']
  · intro pat ast hp hns hm
    obtain ⟨ast', hp', hm'⟩ := goMatch_sound pat name hm
    rw [← parses_unique hp hp'] at hm'
    exact matches_no_slash ast name hm' hns

/-! ## `filepath.Glob` over a tree -/

/-- **Glob returns exactly the matching paths, each once, in lexical order.**  The pattern is
    `lits/…/c₁/…/c_k`: a (possibly empty) literal directory prefix of proper names followed by pattern
    components of which the first has a metacharacter; every component is a well-formed pattern.  Over a
    well-formed tree `filepath.Glob` then succeeds, and its answer
    * contains `p` iff `p` is `start/n₁/…/n_k` with each `n_i` an entry of the directory `start/n₁/…/n_{i-1}`
      (symbolic links to directories are followed, as `os.Stat` does) that matches `c_i` by the declarative
      semantics (`GlobRel`);
    * is strictly increasing in the lexical order of paths (component by component, bytewise), hence
    * lists every path exactly once — the "read exactly once per mention" clause for glob expansions.
    Side condition inherited from `Match`: the components use only literals and `*`, or no entry name of the
    tree has a character wider than two bytes. -/
theorem glob_sound_complete (root : Node) (hw : root.WF) (lits : List Name) (c1 : Bytes) (more : List Bytes)
    (hl : ∀ x ∈ lits, NormalName x ∧ hasMeta x = false) (hc1 : hasMeta c1 = true)
    (hcs : ∀ c ∈ c1 :: more, c ≠ [] ∧ slash ∉ c ∧ WellFormed c)
    (hlen : (c1 :: more).length < pathSeparatorsLimit)
    (hgreedy : (∀ c ∈ c1 :: more, ∀ ast, Parses c ast → FixedWidth ast) ∨
      (∀ d names n, readDirNames root d = some names → n ∈ names → NoWide n)) :
    ∃ l, glob root (intercalateSlash (lits ++ c1 :: more)) = .ok l ∧
      (∀ p, p ∈ l ↔ GlobRel (treeView root) (if lits = [] then dot else intercalateSlash lits) (c1 :: more).reverse p) ∧
      l.Pairwise pathLt ∧ l.Nodup ∧ ∀ p, l.count p ≤ 1 := by
  have hrev : ((c1 :: more).reverse).reverse = c1 :: more := List.reverse_reverse _
  obtain ⟨L, hL, hmem, _, hord⟩ := globF_spec root hw lits hl (c1 :: more).reverse (by simp)
    (fun c hc => hcs c (List.mem_reverse.1 hc))
    (by
      intro c hc ast hp d names n hr hn
      have hnn := (readDirNames_wf root hw d names hr).1 n hn
      have hg : NoWide n ∨ FixedWidth ast := by
        rcases hgreedy with h | h
        · exact Or.inr (h c (List.mem_reverse.1 hc) ast hp)
        · exact Or.inl (h d names n hr hn)
      exact (match_eq_spec c n ast hp hnn.2.1 hg).1)
    (by
      intro c hc
      rw [List.getLast?_reverse] at hc
      simp only [List.head?_cons, Option.some.injEq] at hc
      subst hc; exact hc1)
    pathSeparatorsLimit (by simpa using hlen)
  rw [hrev] at hL
  have hnd : L.Nodup := by
    apply List.Pairwise.imp _ hord
    intro a b hab e
    subst e
    exact compsLt_irrefl _ hab
  exact ⟨L, hL, hmem, hord, hnd, fun p => List.nodup_iff_count.1 hnd p⟩

/-- A pattern without metacharacters is looked up with `Lstat`: it expands to itself if anything (a file, a
    directory, a symbolic link – dangling or not) has that name, and to nothing otherwise; in both cases rare
    opens exactly that path once (`plan_literal_fallback` for the second). -/
theorem glob_literal (root : Node) (p : Bytes) (h : hasMeta p = false) :
    glob root p = .ok (if (lstat root p).isSome then [p] else []) ∧
    expandArg (treeFs root) false p = [p] := by
  have hg : glob root p = .ok (if (lstat root p).isSome then [p] else []) := by
    unfold glob globF pathSeparatorsLimit
    obtain ⟨b, hb⟩ := goMatch_total p [] ⟨_, noMeta_parses p h⟩
    simp only [hb, h, Bool.not_false, if_true]
    split <;> rfl
  refine ⟨hg, ?_⟩
  simp only [expandArg, Bool.false_and, Bool.false_eq_true, if_false, treeFs, globRes, hg]
  split <;> simp

/-- … and therefore rare opens every path of a glob expansion exactly once for this mention (and the
    literal pattern text, once, when nothing matches). -/
theorem glob_expansion_once (root : Node) (hw : root.WF) (lits : List Name) (c1 : Bytes) (more : List Bytes)
    (hl : ∀ x ∈ lits, NormalName x ∧ hasMeta x = false) (hc1 : hasMeta c1 = true)
    (hcs : ∀ c ∈ c1 :: more, c ≠ [] ∧ slash ∉ c ∧ WellFormed c)
    (hlen : (c1 :: more).length < pathSeparatorsLimit)
    (hgreedy : (∀ c ∈ c1 :: more, ∀ ast, Parses c ast → FixedWidth ast) ∨
      (∀ d names n, readDirNames root d = some names → n ∈ names → NoWide n)) :
    (expandArg (treeFs root) false (intercalateSlash (lits ++ c1 :: more))).Nodup ∧
    ∀ p, GlobRel (treeView root) (if lits = [] then dot else intercalateSlash lits) (c1 :: more).reverse p →
      (expandArg (treeFs root) false (intercalateSlash (lits ++ c1 :: more))).count p = 1 := by
  obtain ⟨l, hg, hmem, _, hnd, _⟩ := glob_sound_complete root hw lits c1 more hl hc1 hcs hlen hgreedy
  have hexp : expandArg (treeFs root) false (intercalateSlash (lits ++ c1 :: more)) =
      if l.length > 0 then l else [intercalateSlash (lits ++ c1 :: more)] := by
    simp only [expandArg, Bool.false_and, Bool.false_eq_true, if_false, treeFs, globRes, hg]
  rw [hexp]
  constructor
  · split
    · exact hnd
    · simp
  · intro p hp
    have hpl : p ∈ l := (hmem p).2 hp
    have : l.length > 0 := List.length_pos_of_mem hpl
    simp only [this, if_true]
    rw [hnd.count]; simp [hpl]

/-! ## The recursive walk -/

/-- **With `-R` every regular file below a directory argument appears exactly once in the plan.**
    `p` is a directory argument made of proper names (`logs`, `a/b`; symbolic links on the way and `p` itself
    being a link to a directory are followed – the fixed `walkRoot`), `isDir(p)` holds.  Then what rare plans
    for this argument is the list of `p/rel`, where `rel` ranges over the relative paths that lead from the
    directory through REAL directories to a non-directory (`Below`): every such path occurs exactly once, nothing
    else occurs, and the list has no duplicates.  As the code has it, a symbolic link inside the tree is such
    a leaf whatever it points to (it is sent as a file and not descended into). -/
theorem walk_each_regular_file_once (root : Node) (hw : root.WF) (ds : List Name) (hne : ds ≠ [])
    (hds : ∀ x ∈ ds, NormalName x) (hdir : Glob.isDir root (intercalateSlash ds) = true) :
    ∃ e, stat root (intercalateSlash ds) = some (.dir e) ∧
      expandArg (treeFs root) true (intercalateSlash ds) = Glob.walk root (walkRoot (intercalateSlash ds)) ∧
      (∀ rel leaf, Below (.dir e) rel leaf →
        (Glob.walk root (walkRoot (intercalateSlash ds))).count (intercalateSlash (ds ++ rel)) = 1) ∧
      (∀ q ∈ Glob.walk root (walkRoot (intercalateSlash ds)), ∃ rel leaf, Below (.dir e) rel leaf ∧
        q = intercalateSlash (ds ++ rel)) ∧
      (Glob.walk root (walkRoot (intercalateSlash ds))).Nodup := by
  unfold Glob.isDir at hdir
  cases hs : stat root (intercalateSlash ds) with
  | none => simp [hs] at hdir
  | some node =>
    cases node with
    | file => simp [hs] at hdir
    | link t => simp [hs] at hdir
    | dir e =>
      have hwalk := walk_simple root hw ds hne hds e hs
      have hwe : Node.WF (.dir e) := stat_wf root hw _ _ hs
      have hsz : (Node.dir e).size ≤ root.size + 2 := by
        obtain ⟨_, _, _, st, _, hat⟩ := walkRoot_dir root ds hne hds e hs
        have := Node.at_size _ root _ hat; omega
      have hiff := relFiles_iff (root.size + 2) (.dir e) hsz
      have hnd := relFiles_nodup (root.size + 2) (.dir e) hwe
      -- `rel ↦ p/rel` is injective on lists of proper names
      have hinj : ∀ r1 ∈ relFiles (root.size + 2) (.dir e), ∀ r2 ∈ relFiles (root.size + 2) (.dir e),
          intercalateSlash (ds ++ r1) = intercalateSlash (ds ++ r2) → r1 = r2 := by
        intro r1 h1 r2 h2 heq
        obtain ⟨l1, hb1⟩ := (hiff r1).1 h1
        obtain ⟨l2, hb2⟩ := (hiff r2).1 h2
        have hs1 := splitSlash_intercalate (ds ++ r1) (by simp [hne]) (by
          intro x hx
          rcases List.mem_append.1 hx with h | h
          · exact (hds x h).2.1
          · exact (hb1.normal hwe x h).2.1)
        have hs2 := splitSlash_intercalate (ds ++ r2) (by simp [hne]) (by
          intro x hx
          rcases List.mem_append.1 hx with h | h
          · exact (hds x h).2.1
          · exact (hb2.normal hwe x h).2.1)
        rw [heq, hs2] at hs1
        exact (List.append_cancel_left hs1).symm
      have hndw : (Glob.walk root (walkRoot (intercalateSlash ds))).Nodup := by
        rw [hwalk, List.Nodup, List.pairwise_map]
        apply List.Pairwise.imp_of_mem _ hnd
        intro a b ha hb hab e
        exact hab (hinj a ha b hb e)
      refine ⟨e, rfl, ?_, ?_, ?_, hndw⟩
      · simp [expandArg, treeFs, Glob.isDir, hs]
      · intro rel leaf hb
        have hm : intercalateSlash (ds ++ rel) ∈ Glob.walk root (walkRoot (intercalateSlash ds)) := by
          rw [hwalk]
          exact List.mem_map.2 ⟨rel, (hiff rel).2 ⟨leaf, hb⟩, rfl⟩
        rw [hndw.count]; simp [hm]
      · intro q hq
        rw [hwalk] at hq
        obtain ⟨rel, hrel, rfl⟩ := List.mem_map.1 hq
        obtain ⟨leaf, hb⟩ := (hiff rel).1 hrel
        exact ⟨rel, leaf, hb, rfl⟩

/-! ## The plan -/

/-- **The final plan is the concatenation over the arguments, in order**: each argument is expanded on its
    own against the tree, a path is opened as many times as the expansions of the arguments contain it (a file
    mentioned twice – literally, or by two patterns – is read twice), and appending arguments appends their inputs. -/
theorem plan_mentions (root : Node) (recursive : Bool) (args args2 : List Path) (x : Path) :
    planFiles (treeFs root) recursive args = (args.map (expandArg (treeFs root) recursive)).flatten ∧
    (planFiles (treeFs root) recursive args).count x
      = ((args.map (expandArg (treeFs root) recursive)).map (List.count x)).sum ∧
    planFiles (treeFs root) recursive (args ++ args2)
      = planFiles (treeFs root) recursive args ++ planFiles (treeFs root) recursive args2 ∧
    (args ≠ [] → args.head? ≠ some dash →
      plan recursive args (treeFs root) = (planFiles (treeFs root) recursive args).map .file) := by
  refine ⟨by simp [planFiles, List.flatMap_def], ?_, by simp [planFiles], (plan_stdin recursive args _).2.1⟩
  unfold planFiles
  rw [List.count_flatMap, List.map_map]

/-! ## Non-vacuity of the glob / walk theorems -/

/-- `rare -R logs 'logs/*.log' '*/*.log' 'logs/a.log' 'x*'` over the tree
    `logs/{a.log, b.log, sub/{c.log, ln -> ../a.log}, é😀.log}`, `ld -> logs`, `x[1]` -/
def exTree : Node :=
  .dir (.cons [108, 111, 103, 115] (.dir
      (.cons [98, 46, 108, 111, 103] .file
      (.cons [97, 46, 108, 111, 103] .file
      (.cons [115, 117, 98] (.dir
          (.cons [99, 46, 108, 111, 103] .file
          (.cons [108, 110] (.link [46, 46, 47, 97, 46, 108, 111, 103]) .nil)))
      (.cons [195, 169, 240, 159, 152, 128, 46, 108, 111, 103] .file .nil)))))
    (.cons [108, 100] (.link [108, 111, 103, 115])
    (.cons [120, 91, 49, 93] .file .nil)))

def nLogs : Name := [108, 111, 103, 115]          -- "logs"
def nLd : Name := [108, 100]                      -- "ld"
def pStarLog : Bytes := [42, 46, 108, 111, 103]   -- "*.log"

theorem exTree_wf : exTree.WF := by
  simp [exTree, Node.WF, Ents.WF, Ents.names, NormalName, dot, dotdot]

theorem pStarLog_parses : Parses pStarLog [.star, .lit 46, .lit 108, .lit 111, .lit 103] :=
  Parses.star (Parses.lit 46 (by decide) (by decide) (by decide) (by decide)
    (Parses.lit 108 (by decide) (by decide) (by decide) (by decide)
    (Parses.lit 111 (by decide) (by decide) (by decide) (by decide)
    (Parses.lit 103 (by decide) (by decide) (by decide) (by decide) Parses.nil))))

/-- `match_eq_spec` applies to `*.log` and the name `é😀.log` (which has a four-byte character) … -/
example : slash ∉ ([195, 169, 240, 159, 152, 128, 46, 108, 111, 103] : Bytes) ∧
    FixedWidth [.star, .lit 46, .lit 108, .lit 111, .lit 103] ∧
    goMatch pStarLog [195, 169, 240, 159, 152, 128, 46, 108, 111, 103] = .matched true := by
  refine ⟨by decide, ?_, by decide⟩
  intro it hit
  simp only [List.mem_cons, List.mem_nil_iff, or_false] at hit
  rcases hit with rfl | rfl | rfl | rfl | rfl <;> simp
/-- … and, with a class, to names of two-byte characters -/
example : NoWide [195, 169, 97] ∧ goMatch [91, 94, 97, 93, 42] [195, 169, 97] = .matched true := by
  refine ⟨?_, by decide⟩
  intro k
  match k with
  | 0 => decide
  | 1 => decide
  | 2 => decide
  | k + 3 => simp [Rare.C20.decode1]

/-- the hypotheses of `glob_sound_complete` hold for `logs/*.log` over `exTree`, and so do its conclusions -/
example : (∀ x ∈ [nLogs], NormalName x ∧ hasMeta x = false) ∧ hasMeta pStarLog = true ∧
    (∀ c ∈ [pStarLog], c ≠ [] ∧ slash ∉ c ∧ WellFormed c) ∧
    (∀ c ∈ [pStarLog], ∀ ast, Parses c ast → FixedWidth ast) ∧
    glob exTree (intercalateSlash ([nLogs] ++ [pStarLog])) = .ok
      [[108, 111, 103, 115, 47, 97, 46, 108, 111, 103], [108, 111, 103, 115, 47, 98, 46, 108, 111, 103],
       [108, 111, 103, 115, 47, 195, 169, 240, 159, 152, 128, 46, 108, 111, 103]] := by
  refine ⟨?_, by decide, ?_, ?_, by decide +kernel⟩
  · intro x hx
    simp only [List.mem_singleton] at hx; subst hx
    exact ⟨by simp [NormalName, nLogs, dot, dotdot], by decide⟩
  · intro c hc
    simp only [List.mem_singleton] at hc; subst hc
    exact ⟨by decide, by decide, ⟨_, pStarLog_parses⟩⟩
  · intro c hc ast hp
    simp only [List.mem_singleton] at hc; subst hc
    rw [parses_unique hp pStarLog_parses]
    intro it hit
    simp only [List.mem_cons, List.mem_nil_iff, or_false] at hit
    rcases hit with rfl | rfl | rfl | rfl | rfl <;> simp

/-- `glob_expansion_once` on the same pattern: the three matches, once each; and a pattern without a match is
    handed on literally -/
example : expandArg (treeFs exTree) false (intercalateSlash ([nLogs] ++ [pStarLog])) =
      [[108, 111, 103, 115, 47, 97, 46, 108, 111, 103], [108, 111, 103, 115, 47, 98, 46, 108, 111, 103],
       [108, 111, 103, 115, 47, 195, 169, 240, 159, 152, 128, 46, 108, 111, 103]] ∧
    expandArg (treeFs exTree) false [110, 111, 42] = [[110, 111, 42]] := by
  constructor <;> decide +kernel

/-- two levels, through the symbolic link `ld -> logs` as well: `*/*.log` -/
example : glob exTree [42, 47, 42, 46, 108, 111, 103] = .ok
    [[108, 100, 47, 97, 46, 108, 111, 103], [108, 100, 47, 98, 46, 108, 111, 103],
     [108, 100, 47, 195, 169, 240, 159, 152, 128, 46, 108, 111, 103],
     [108, 111, 103, 115, 47, 97, 46, 108, 111, 103], [108, 111, 103, 115, 47, 98, 46, 108, 111, 103],
     [108, 111, 103, 115, 47, 195, 169, 240, 159, 152, 128, 46, 108, 111, 103]] := by decide +kernel

/-- `walk_each_regular_file_once`: `-R ld` (a link to the directory) lists the four non-directories below `logs`
    under the name the user gave; the link `sub/ln` is listed as a file, not followed -/
example : Glob.isDir exTree (intercalateSlash [nLd]) = true ∧
    Glob.walk exTree (walkRoot (intercalateSlash [nLd])) =
      [[108, 100, 47, 97, 46, 108, 111, 103], [108, 100, 47, 98, 46, 108, 111, 103],
       [108, 100, 47, 115, 117, 98, 47, 99, 46, 108, 111, 103], [108, 100, 47, 115, 117, 98, 47, 108, 110],
       [108, 100, 47, 195, 169, 240, 159, 152, 128, 46, 108, 111, 103]] := by
  constructor <;> decide +kernel

example : Below exTree [nLogs, [115, 117, 98], [108, 110]] (.link [46, 46, 47, 97, 46, 108, 111, 103]) :=
  Below.step (e := _) rfl (Below.step rfl (Below.step rfl (Below.here _ rfl)))

/-- the whole plan of `rare -R logs 'x[1]' 'x[1]' 'a['`: the directory walked, the literal fallback of a pattern without
    match twice (two mentions), the bad pattern as a literal path -/
example : planFiles (treeFs exTree) true [nLogs, [120, 91, 49, 93], [120, 91, 49, 93], [97, 91]] =
    [[108, 111, 103, 115, 47, 97, 46, 108, 111, 103], [108, 111, 103, 115, 47, 98, 46, 108, 111, 103],
     [108, 111, 103, 115, 47, 115, 117, 98, 47, 99, 46, 108, 111, 103], [108, 111, 103, 115, 47, 115, 117, 98, 47, 108, 110],
     [108, 111, 103, 115, 47, 195, 169, 240, 159, 152, 128, 46, 108, 111, 103],
     [120, 91, 49, 93], [120, 91, 49, 93], [97, 91]] := by decide +kernel

/-! # Read faults: counted once, and counted before the end of the inputs is visible -/

/-- **A failing read is counted exactly once whatever comes with it** (the scanner under the reader goroutine,
    C04's model of `ImmediateReadAhead` over a scripted reader).  If the first `Read` that returns an error
    returns a failure – with no bytes or WITH bytes, containing a line end or not (what `compress/gzip` does
    for a stream cut inside a line) – then the `OnError` callback (⇒ `incErrors`) has fired exactly once at the
    end of the scan, and the lines handed on are the lines of all the bytes delivered.  So the abstraction
    `runStream name delivered true` used by `runFile` (one error, `splitLines delivered`) is what the code does. -/
theorem read_fault_counted (bufSize : Nat) (data : Bytes) (script : List C04.Step) (h : 1 ≤ bufSize)
    (hf : C04.failsFirst script = true) (name : Bytes) :
    (C04.Imm.run bufSize data script).2.2.errs = 1 ∧
    (C04.Imm.run bufSize data script).1.map (·.2) = C04.splitLines (C04.Imm.run bufSize data script).2.2.delivered ∧
    (runStream name (C04.Imm.run bufSize data script).2.2.delivered true).errs
      = (C04.Imm.run bufSize data script).2.2.errs ∧
    (runStream name (C04.Imm.run bufSize data script).2.2.delivered true).lines
      = (C04.Imm.run bufSize data script).1.map (·.2) := by
  obtain ⟨h1, h2⟩ := C04.imm_fault_counted bufSize data script h hf
  exact ⟨h1, h2, by simp [runStream, h1], by simp [runStream, h2]⟩

/-- the error arrives together with the last bytes, which hold no line end (`k` + failure): one error, the
    partial line is handed on -/
example : C04.failsFirst [⟨1, some .fail⟩] = true ∧
    (C04.Imm.run 16 [107] [⟨1, some .fail⟩]).2.2.errs = 1 ∧
    (C04.Imm.run 16 [107] [⟨1, some .fail⟩]).1.map (·.2) = [[107]] := by decide

/-- **Every read/open error of a source is counted before the batch channel closes** – in the pipeline transition
    system extended with the batcher's error counter (`Model/C06Pipe.lean`): `fails[i]` says that source `i`
    will call `incErrors` (its open fails / its reader fails; once per source by `read_fault_counted` and
    `errors_counted`).  For every reader/worker count, channel capacity and EVERY schedule, in every reachable
    state: a source that is `done` (its goroutine passed `wg.Done()`) has its error counted; counted + still
    pending = number of failing sources; hence as soon as the batch channel is closed – a fortiori when the
    consumer has seen the end of the stream and `DetermineErrorState` reads `ReadErrors()` – the counter equals
    the number of failing sources.  The run projects onto a run of the C01 pipeline (all C01/C06 theorems apply). -/
theorem errors_counted_before_close {α : Type} [DecidableEq α] (cls : α → Cls) (R B K W : Nat)
    (inputs : List (List (List α))) (fails : List Bool) (hl : fails.length = inputs.length)
    {es : Pipe.ESt α} (hr : Pipe.EReach cls R B K (Pipe.einit inputs W fails) es) :
    Reach cls R B K (init inputs W) es.lts ∧
    es.errs + Pipe.pendingCount es.pending = Spec.specErrors fails ∧
    (∀ i : Nat, es.lts.srcs[i]? = some SrcSt.done → es.pending[i]? ≠ some true) ∧
    (es.lts.cClosed = true → es.errs = Spec.specErrors fails) ∧
    (es.lts.consDone = true → W ≥ 1 → es.errs = Spec.specErrors fails) := by
  have hproj : Reach cls R B K (init inputs W) es.lts := Pipe.ereach_proj hr
  have hinv := Pipe.einv_reach hr (Pipe.einv_init inputs W fails hl)
  have hpinv := pipeline_invariant cls R B K W inputs hproj
  have hclosed : es.lts.cClosed = true → es.errs = Spec.specErrors fails := by
    intro hc
    have h0 := Pipe.pending_zero_of_all_done hinv (hpinv.cclosed hc)
    have := hinv.sum
    simp only [Pipe.pendingCount, Spec.specErrors] at this h0 ⊢
    omega
  refine ⟨hproj, ?_, ?_, hclosed, ?_⟩
  · have := hinv.sum
    simpa [Pipe.pendingCount, Spec.specErrors] using this
  · intro i hd hp
    obtain ⟨st, hst, hnd⟩ := hinv.live i hp
    rw [hd] at hst
    cases hst
    simp [SrcSt.isDone] at hnd
  · intro hd hW
    apply hclosed
    have hrc := (hpinv.consdone hd).1
    have hex := hpinv.rcclosed hrc
    have hlen := reach_workers_length hproj
    have hany : es.lts.workers.any WSt.isExited = true := by
      cases hw : es.lts.workers with
      | nil => rw [hw] at hlen; simp [init] at hlen; omega
      | cons w ws =>
        rw [hw] at hex
        simp only [List.all_cons, Bool.and_eq_true] at hex
        simp [hex.1]
    exact (hpinv.exited hany).1

/-- the extended system is not blocked by its guard: a failing source that has sent everything can always count its
    error, and a source without a pending error finishes as in the pipeline -/
theorem error_count_enabled {α : Type} (cls : α → Cls) (R B K : Nat) (es : Pipe.ESt α) (i : Nat)
    (ha : es.lts.srcs[i]? = some (.active [])) :
    (es.pending[i]? = some true →
      Pipe.EStep cls R B K es { es with errs := es.errs + 1, pending := es.pending.set i false }) ∧
    (es.pending[i]? ≠ some true →
      Pipe.EStep cls R B K es { es with lts := { es.lts with srcs := es.lts.srcs.set i .done } }) := by
  refine ⟨fun hp => .count es i [] ha hp, fun hp => ?_⟩
  refine .move es _ (.finish es.lts i ha) ?_
  intro j hj hd
  by_cases e : j = i
  · subst e; exact absurd hj hp
  · simpa [List.getElem?_set_ne (Ne.symm e)] using hd

/-- **The code counts before it signals**: over the control tree regenerated from `OpenFilesToChan`, on every
    execution path of the reader goroutine NOTHING runs after `wg.Done()` – the path ends with the deferred block
    `<-sema; out.stopFileReading(…); wg.Done()` (status display before the WaitGroup, /repo 7025f4b):
    the statements that can count an error – `out.incErrors()` of the open-failure branch and
    `out.syncReaderToBatcher(…)` with its `OnError` callback – all precede it, and the open-failure path does
    count.  (The guard of `Pipe.EStep.move`; in real runs: the `errtrace` op.) -/
theorem error_count_precedes_done :
    ∀ t ∈ traces readerBody,
      t.dropWhile (· ≠ "do:<-sema") = ["do:<-sema", "do:out.stopFileReading(goFilename)", "do:wg.Done()"] ∧
      (t.dropWhile (· ≠ "do:wg.Done()")).drop 1 = [] ∧
      ((t.takeWhile (· ≠ "do:wg.Done()")).contains "do:out.incErrors()" ∨
       (t.takeWhile (· ≠ "do:wg.Done()")).contains "do:out.syncReaderToBatcher(goFilename,file,batchSize)") ∧
      "do:out.incErrors()" ∉ t.dropWhile (· ≠ "do:wg.Done()") := by
  decide +kernel

/-- **The trace rule implies the order**: an event log that passes `ErrTrace.check` (no goroutine logs `src.err`
    after its own `sema.rel`, every `sema.rel` precedes `c.wait`, `c.wait` precedes `c.close`) has every `src.err`
    before `c.close`. -/
theorem errtrace_rule_sound (tr : List ErrTrace.TEv) (h : ErrTrace.check tr = true) :
    ∃ c, ErrTrace.posOf tr "cc" = some c ∧ ∀ (k : Nat) (e : ErrTrace.TEv), tr[k]? = some e → e.kind = "se" → k < c := by
  obtain ⟨w, c, _, hc, _, hall⟩ := ErrTrace.check_sound tr h
  refine ⟨c, hc, ?_⟩
  intro k e hk hs
  obtain ⟨_, _, _, _, _, _, _, hlt⟩ := hall k e hk hs
  exact hlt

/-- a log of the unchanged code (missing file after a good one, one reader) passes; the log of the code that counts
    in the deferred block after `wg.Done()` does not -/
example :
    ErrTrace.check [⟨0, "aq", 0⟩, ⟨1, "rs", 0⟩, ⟨1, "so", 0⟩, ⟨1, "rl", 0⟩, ⟨0, "aq", 1⟩, ⟨2, "rs", 1⟩, ⟨2, "se", 9⟩,
      ⟨2, "rl", 1⟩, ⟨1, "sc", 0⟩, ⟨2, "sc", 1⟩, ⟨0, "cw", 9⟩, ⟨0, "cc", 9⟩] = true ∧
    ErrTrace.check [⟨0, "aq", 0⟩, ⟨1, "rs", 0⟩, ⟨1, "so", 0⟩, ⟨1, "rl", 0⟩, ⟨0, "aq", 1⟩, ⟨2, "rs", 1⟩,
      ⟨2, "rl", 1⟩, ⟨1, "sc", 0⟩, ⟨2, "sc", 1⟩, ⟨0, "cw", 9⟩, ⟨0, "cc", 9⟩, ⟨2, "se", 9⟩] = false := by decide

/-- `errors_counted_before_close` is not vacuous: a source that cannot be opened – the run in which it starts, counts
    its error, finishes, and the channel closes -/
example : ∃ es : Pipe.ESt Nat,
    Pipe.EReach (fun _ => Cls.matched) 1 1 1 (Pipe.einit [[]] 1 [true]) es ∧
    es.lts.cClosed = true ∧ es.errs = 1 := by
  have r1 : Pipe.EReach (fun _ : Nat => Cls.matched) 1 1 1 (Pipe.einit [[]] 1 [true]) _ :=
    .step .refl (.move _ _ (.start _ 0 [] rfl (by decide)) (by intro i _ hd; cases i <;> simp [Pipe.einit, init] at hd))
  have r2 := Pipe.EReach.step r1 (.count _ 0 [] rfl rfl)
  have r3 := Pipe.EReach.step r2 (.move _ _ (.finish _ 0 rfl) (by intro i hp _; cases i <;> simp [Pipe.einit] at hp))
  have r4 := Pipe.EReach.step r3 (.move _ _ (.closeC _ (by decide) rfl) (by intro i _ hd; exact hd))
  exact ⟨_, r4, rfl, rfl⟩

/-! # gzip: what IS a gzip file is decided by the model of the header parser -/

/-- **`gzip.NewReader` accepts exactly the RFC 1952 member headers** (as Go reads them: FTEXT and the reserved flag
    bits are not looked at): `readHeader s = ok n` iff `s` begins with the encoding of a header – magic `1f 8b`,
    CM = 8, FLG, six fixed bytes, then, as the FLG bits say, XLEN + extra field, zero-terminated name, zero-terminated
    comment (each at most 511 bytes), CRC16 of all that – and `n` is the length of that encoding, i.e. the offset at
    which the DEFLATE data starts. -/
theorem gzip_header_spec (s : Bytes) (n : Nat) :
    Gz.readHeader s = .ok n ↔ ∃ hd : Gz.Hdr, hd.WF ∧ hd.encode <+: s ∧ n = hd.encode.length := by
  constructor
  · intro h
    unfold Gz.readHeader at h
    cases hr : Gz.readHeaderRest s with
    | error e => simp [hr] at h
    | ok rest =>
      simp only [hr, Gz.HdrRes.ok.injEq] at h
      obtain ⟨hd, hw, hs⟩ := Gz.readHeaderRest_sound s rest hr
      refine ⟨hd, hw, ⟨rest, hs.symm⟩, ?_⟩
      rw [← h, hs]; simp
  · intro ⟨hd, hw, ⟨rest, hs⟩, hn⟩
    unfold Gz.readHeader
    rw [← hs, Gz.readHeaderRest_encode hd hw rest, hn]
    simp

/-- **With `-z` a file is read through the gzip reader iff it begins with such a header; every other file is read
    as it is, from its first byte, without a read error.** -/
theorem gunzip_decided_by_header (name : Path) (f : FileOracle) (ho : f.canOpen = true) (hd : f.isDir = false) :
    (f.gzHeaderOk = true ↔ ∃ hd : Gz.Hdr, hd.WF ∧ hd.encode <+: f.content) ∧
    ((¬ ∃ hd : Gz.Hdr, hd.WF ∧ hd.encode <+: f.content) →
      readOutcome f true = .ok f.content ∧ (runFile true name f).lines = C04.splitLines f.content ∧
      (runFile true name f).errs = 0) := by
  have hiff : f.gzHeaderOk = true ↔ ∃ hd : Gz.Hdr, hd.WF ∧ hd.encode <+: f.content := by
    unfold FileOracle.gzHeaderOk Gz.headerOk
    cases hr : Gz.readHeader f.content with
    | ok n =>
      simp only [true_iff]
      obtain ⟨hd', hw, hp, _⟩ := (gzip_header_spec f.content n).1 hr
      exact ⟨hd', hw, hp⟩
    | err e =>
      simp only [Bool.false_eq_true, false_iff]
      intro ⟨hd', hw, hp⟩
      have := (gzip_header_spec f.content hd'.encode.length).2 ⟨hd', hw, hp, rfl⟩
      rw [hr] at this; cases this
  refine ⟨hiff, fun hn => ?_⟩
  have hh : f.gzHeaderOk = false := by
    cases h : f.gzHeaderOk with
    | false => rfl
    | true => exact absurd (hiff.1 h) hn
  obtain ⟨h1, h2, h3, _⟩ := gunzip_fallback name f ho hd hh
  exact ⟨h1, h2, h3⟩

/-- Go against the letter of RFC 1952: the reserved FLG bits (and FTEXT) are ignored, `1f 8b 08 e1 …` is a gzip
    file for rare; a wrong method byte, a wrong header CRC, a name that does not end, a header cut short are not –
    those files are read as plain files; an empty file is `io.EOF` (also read as a plain, empty, file). -/
theorem gzip_header_quirks :
    Gz.readHeader [0x1f, 0x8b, 8, 0xe1, 0, 0, 0, 0, 0, 3, 3, 0] = .ok 10 ∧
    Gz.readHeader [0x1f, 0x8b, 7, 0, 0, 0, 0, 0, 0, 3, 3, 0] = .err .header ∧
    Gz.readHeader [0x1f, 0x8b, 8, 8, 0, 0, 0, 0, 0, 3, 97, 98] = .err .unexpectedEOF ∧
    Gz.readHeader [0x1f, 0x8b, 8] = .err .unexpectedEOF ∧
    Gz.readHeader [] = .err .eof ∧
    Gz.readHeader [0x1f, 0x8b, 8, 2, 0, 0, 0, 0, 0, 3, 0, 0] = .err .header := by
  decide +kernel

/-- `gzip_header_spec` is not vacuous: a header with an extra field, a name and a header CRC -/
example : (⟨0x0e, [0, 0, 0, 0, 0, 3], [1, 2], [97], []⟩ : Gz.Hdr).WF ∧
    (⟨0x0e, [0, 0, 0, 0, 0, 3], [1, 2], [97], []⟩ : Gz.Hdr).encode
      = [0x1f, 0x8b, 8, 0x0e, 0, 0, 0, 0, 0, 3, 2, 0, 1, 2, 97, 0, 73, 4] ∧
    Gz.readHeader ([0x1f, 0x8b, 8, 0x0e, 0, 0, 0, 0, 0, 3, 2, 0, 1, 2, 97, 0, 73, 4] ++ [3, 0]) = .ok 18 := by
  refine ⟨⟨rfl, by decide, ⟨by decide, by decide⟩, ⟨by decide, by decide⟩⟩, by decide +kernel, by decide +kernel⟩

/-! # gzip: what a gzip file DELIVERS is decided by the model of the decoder -/

theorem ofBytes_headerOk (h : Gz.Hdr) (hw : h.WF) (rest : Bytes) :
    (FileOracle.ofBytes (h.encode ++ rest)).gzHeaderOk = true := by
  unfold FileOracle.gzHeaderOk Gz.headerOk Gz.readHeader
  have e : (FileOracle.ofBytes (h.encode ++ rest)).content = h.encode ++ rest := rfl
  rw [e, Gz.readHeaderRest_encode h hw rest]

/-- **A gzip file is delivered decompressed, completely and without a read error** – for every file that consists of
    gzip members (any header `gzip.NewReader` accepts: extra field, name, comment, header CRC) whose DEFLATE streams are
    sequences of stored blocks: `rare -z` hands on exactly the lines of the concatenated member contents.  Several
    members (`cat a.gz b.gz`) are one input.  (The decoder model also covers fixed and dynamic Huffman blocks; for those
    the model is compared with `compress/gzip` on generated files, op `gunzip`.) -/
theorem gzip_decoded_faithfully (name : Path) (m : Gz.Hdr × List Bytes) (ms : List (Gz.Hdr × List Bytes))
    (hms : Gz.MembersOk (m :: ms)) :
    Gz.gunzip (Gz.fileStored (m :: ms)) = some (Gz.fileData (m :: ms), false) ∧
    (runFile true name (FileOracle.ofBytes (Gz.fileStored (m :: ms)))).lines = C04.splitLines (Gz.fileData (m :: ms)) ∧
    (runFile true name (FileOracle.ofBytes (Gz.fileStored (m :: ms)))).errs = 0 := by
  have hg : Gz.gunzip (Gz.fileStored (m :: ms)) = some (Gz.fileData (m :: ms), false) := by
    have := Gz.gunzip_fileStored m ms hms [] (fun r h => by cases h)
    simpa using this
  exact ⟨hg, (runFile_of_gunzip name _ _ _ hg).1, (runFile_of_gunzip name _ _ _ hg).2⟩

/-- **A truncated gzip file is a read error, at every cut point** after the header: the lines of the data that was
    decoded before the cut are handed on (a prefix of the content), the input is counted once as a read error – never
    silently taken for a complete file.  (`compress/flate` reports `io.ErrUnexpectedEOF`, inside a block as well as
    between the last block and the trailer, and inside the trailer.) -/
theorem gzip_truncated_counted (name : Path) (h : Gz.Hdr) (hw : h.WF) (cs : List Bytes) (hok : Gz.ChunksOk cs) (k : Nat)
    (hk1 : h.encode.length ≤ k) (hk2 : k < (Gz.memberStored h cs).length) :
    ∃ d : Bytes, d <+: cs.flatten ∧
      (runFile true name (FileOracle.ofBytes ((Gz.memberStored h cs).take k))).lines = C04.splitLines d ∧
      (runFile true name (FileOracle.ofBytes ((Gz.memberStored h cs).take k))).errs = 1 := by
  obtain ⟨d, hg, hp⟩ := Gz.gunzip_cut h hw cs hok k hk1 hk2
  exact ⟨d, hp, (runFile_of_gunzip name _ _ _ hg).1, (runFile_of_gunzip name _ _ _ hg).2⟩

/-- **Bytes after the last member that are not a gzip header are a read error** (after all the data has been handed
    on): `gzip.Reader` looks for another member after every trailer. -/
theorem gzip_trailing_garbage_counted (name : Path) (m : Gz.Hdr × List Bytes) (ms : List (Gz.Hdr × List Bytes))
    (hms : Gz.MembersOk (m :: ms)) (tail : Bytes) (hne : tail ≠ []) (ht : Gz.NoHeader tail) :
    (runFile true name (FileOracle.ofBytes (Gz.fileStored (m :: ms) ++ tail))).lines = C04.splitLines (Gz.fileData (m :: ms)) ∧
    (runFile true name (FileOracle.ofBytes (Gz.fileStored (m :: ms) ++ tail))).errs = 1 := by
  have hg := Gz.gunzip_fileStored m ms hms tail ht
  simp only [hne, ne_eq, not_false_eq_true, decide_true] at hg
  exact runFile_of_gunzip name _ _ _ hg

/-- **`rare -z` on ANY file content is the model's `gunzip` of those bytes**: when `gzip.NewReader` refuses the content
    (`gunzip = none`) the lines of the content itself are handed on and nothing is counted; otherwise the lines of what
    the decoder delivers, and one read error iff the stream did not end with `io.EOF`. -/
theorem gzip_run_is_model (name : Path) (s : Bytes) :
    (runFile true name (FileOracle.ofBytes s)).lines
      = C04.splitLines (match Gz.gunzip s with | some (d, _) => d | none => s) ∧
    (runFile true name (FileOracle.ofBytes s)).errs = (match Gz.gunzip s with | some (_, true) => 1 | _ => 0) := by
  cases hr : Gz.readHeaderRest s with
  | error e =>
    have hg : Gz.gunzip s = none := by simp [Gz.gunzip, hr]
    have hh : (FileOracle.ofBytes s).gzHeaderOk = false := by
      show Gz.headerOk s = false
      simp [Gz.headerOk, Gz.readHeader, hr]
    obtain ⟨_, h2, h3, _⟩ := gunzip_fallback name (FileOracle.ofBytes s) rfl rfl hh
    rw [h2, h3, hg]
    exact ⟨rfl, rfl⟩
  | ok r =>
    have hg : Gz.gunzip s = some (Gz.gunzipFrom (s.length + 1) r) := by simp [Gz.gunzip, hr]
    generalize Gz.gunzipFrom (s.length + 1) r = p at hg
    obtain ⟨d, e⟩ := p
    obtain ⟨h1, h2⟩ := runFile_of_gunzip name s d e hg
    rw [h1, h2, hg]
    cases e <;> exact ⟨rfl, rfl⟩

/-- **A truncated file of SEVERAL gzip members is a read error at every cut point except exactly between two members.**
    `ms` are the members (`cat a.gz b.gz`, stored blocks, any accepted headers), `k` any cut point that leaves the first
    header intact (`gzip_cut_in_header_is_plain` otherwise).  `k` falls into some member `m` at offset `j`, after the
    complete members `ms1`: the lines of `ms1`'s data and of a PREFIX of `m`'s data are handed on, and the input is
    counted once as a read error – inside `m`'s header as well as inside its DEFLATE stream or trailer – unless `j = 0`:
    a file that ends with a complete member IS a complete gzip file, nothing can tell it was longer. -/
theorem gzip_truncated_multi_counted (name : Path) (ms : List (Gz.Hdr × List Bytes)) (hms : Gz.MembersOk ms) (k : Nat)
    (hk1 : ∀ m, ms.head? = some m → m.1.encode.length ≤ k) (hk2 : k < (Gz.fileStored ms).length) :
    ∃ (ms1 : List (Gz.Hdr × List Bytes)) (m : Gz.Hdr × List Bytes) (ms2 : List (Gz.Hdr × List Bytes)) (j : Nat) (d : Bytes),
      ms = ms1 ++ m :: ms2 ∧ k = (Gz.fileStored ms1).length + j ∧ j < (Gz.memberStored m.1 m.2).length ∧
      d <+: m.2.flatten ∧
      (runFile true name (FileOracle.ofBytes ((Gz.fileStored ms).take k))).lines = C04.splitLines (Gz.fileData ms1 ++ d) ∧
      (runFile true name (FileOracle.ofBytes ((Gz.fileStored ms).take k))).errs = (if j = 0 then 0 else 1) := by
  obtain ⟨ms1, m, ms2, j, h1, h2, h3, h4⟩ := Gz.fileStored_cut_decompose ms k hk2
  have hms' : Gz.MembersOk (ms1 ++ [m]) := by
    intro x hx
    apply hms x
    rw [h1]
    simp only [List.mem_append, List.mem_cons, List.not_mem_nil, or_false] at hx ⊢
    rcases hx with hx | hx
    · exact Or.inl hx
    · exact Or.inr (Or.inl hx)
  have hfirst : ms1 = [] → m.1.encode.length ≤ j := by
    intro e
    subst e
    have := hk1 m (by rw [h1]; rfl)
    simp only [Gz.fileStored, List.length_nil, Nat.zero_add] at h2
    omega
  obtain ⟨d, hd, hg⟩ := Gz.gunzip_cut_file ms1 m hms' j h3 hfirst
  obtain ⟨r1, r2⟩ := gzip_run_is_model name ((Gz.fileStored ms).take k)
  refine ⟨ms1, m, ms2, j, d, h1, h2, h3, hd, ?_, ?_⟩
  · rw [r1, h4, hg]
  · rw [r2, h4, hg]
    by_cases hj : j = 0 <;> simp [hj]

/-- the hypotheses of the three theorems above are satisfiable: two members (one with a name and a header CRC, in two
    blocks, one of them empty), a cut inside the second block's data, a trailing newline as garbage -/
example : Gz.MembersOk [(⟨0x0a, [0, 0, 0, 0, 0, 3], [], [97], []⟩, [[104, 105, 10], [], [120, 10]]), (⟨0, [0, 0, 0, 0, 0, 3], [], [], []⟩, [[]])] ∧
    Gz.NoHeader [10] ∧
    Gz.gunzip ((Gz.memberStored ⟨0, [0, 0, 0, 0, 0, 3], [], [], []⟩ [[104, 105, 10, 120, 10]]).take 19) = some ([104, 105, 10, 120], true) := by
  refine ⟨?_, ?_, by decide +kernel⟩
  · intro m hm
    simp only [List.mem_cons, List.not_mem_nil, or_false] at hm
    rcases hm with rfl | rfl
    · exact ⟨⟨rfl, by decide, ⟨by decide, by decide⟩, ⟨by decide, by decide⟩⟩, by decide, by decide⟩
    · exact ⟨⟨rfl, by decide, ⟨by decide, by decide⟩, ⟨by decide, by decide⟩⟩, by decide, by decide⟩
  · intro r h
    simp [Gz.readHeaderRest, Gz.readFull] at h

/-- `gzip_truncated_multi_counted` on a file of two members (`hi\n` and `x\n`): cut inside the second member's header
    (26 + 4, 26 + 1 bytes), at the member boundary (26 bytes: complete file, no error), inside the second member's block
    header and inside its trailer -/
example :
    let f := Gz.fileStored [(⟨0, [0, 0, 0, 0, 0, 3], [], [], []⟩, [[104, 105, 10]]), (⟨0, [0, 0, 0, 0, 0, 3], [], [], []⟩, [[120, 10]])]
    f.length = 51 ∧ Gz.gunzip (f.take 30) = some ([104, 105, 10], true) ∧ Gz.gunzip (f.take 27) = some ([104, 105, 10], true) ∧
    Gz.gunzip (f.take 26) = some ([104, 105, 10], false) ∧ Gz.gunzip (f.take 38) = some ([104, 105, 10], true) ∧
    Gz.gunzip (f.take 50) = some ([104, 105, 10, 120, 10], true) ∧ Gz.gunzip f = some ([104, 105, 10, 120, 10], false) := by
  decide +kernel

/-- Huffman blocks, checked by the kernel on two real files (`gzip -9`): a fixed-Huffman block with a match, and a
    dynamic-Huffman block (code length code, repeat codes, two code tables) of 150 bytes of text -/
example : Gz.gunzip [31, 139, 8, 0, 0, 0, 0, 0, 2, 3, 115, 119, 13, 81, 208, 79, 228, 114, 135, 80, 0, 160, 157, 184, 148, 14, 0, 0, 0] = some ([71, 69, 84, 32, 47, 97, 10, 71, 69, 84, 32, 47, 97, 10], false) := by decide +kernel

set_option maxRecDepth 100000 in
example : Gz.gunzip [31, 139, 8, 0, 0, 0, 0, 0, 2, 3, 53, 141, 193, 17, 0, 49, 8, 2, 255, 118, 9, 216, 127, 13, 183, 36, 57, 71, 29, 68, 80, 201, 35, 141, 169, 137, 164, 150, 12, 153, 100, 1, 240, 114, 28, 178, 116, 25, 31, 49, 8, 45, 139, 154, 74, 85, 251, 67, 26, 118, 28, 205, 51, 93, 245, 130, 167, 15, 138, 122, 141, 200, 125, 248, 238, 89, 75, 255, 0, 23, 188, 104, 123, 150, 0, 0, 0] = some ([97, 97, 98, 10, 97, 97, 10, 98, 97, 97, 10, 10, 99, 97, 97, 97, 99, 97, 97, 97, 97, 98, 97, 98, 10, 99, 99, 99, 100, 97, 98, 97, 97, 97, 10, 97, 98, 99, 98, 99, 99, 98, 99, 97, 98, 97, 98, 97, 98, 97, 97, 98, 98, 97, 97, 10, 10, 97, 98, 97, 99, 97, 97, 98, 99, 99, 97, 97, 97, 99, 98, 98, 97, 97, 98, 97, 97, 97, 97, 97, 99, 98, 98, 97, 97, 98, 98, 98, 97, 99, 99, 100, 99, 97, 98, 99, 97, 98, 99, 98, 98, 98, 97, 99, 98, 97, 99, 97, 97, 98, 100, 98, 98, 98, 10, 97, 97, 97, 98, 98, 100, 98, 98, 97, 98, 97, 98, 98, 98, 98, 99, 97, 97, 97, 98, 97, 98, 97, 98, 97, 99, 97, 97, 98, 98, 97, 100, 97, 97, 98], false) := by
  decide +kernel

/-- The boundary of `gzip_truncated_counted`: a gzip file cut INSIDE its header (here after 9 of 10 bytes) is not a gzip
    file for `gzip.NewReader` – `rare -z` reads the nine bytes as plain text and counts no error. -/
theorem gzip_cut_in_header_is_plain :
    Gz.gunzip [0x1f, 0x8b, 8, 0, 0, 0, 0, 0, 0] = none ∧
    (runFile true [97] (FileOracle.ofBytes [0x1f, 0x8b, 8, 0, 0, 0, 0, 0, 0])).errs = 0 ∧
    (runFile true [97] (FileOracle.ofBytes [0x1f, 0x8b, 8, 0, 0, 0, 0, 0, 0])).lines = [[0x1f, 0x8b, 8, 0, 0, 0, 0, 0, 0]] := by
  decide +kernel

/-! # Flag plumbing: which reader, with which options -/

/-- **The hand model of `BuildBatcherFromArguments` is the function regenerated from its body**, for all flag
    values and argument lists: same usage error (same message, in the same precedence), same constructor, same evaluated
    arguments (`--readers`, `--batch`, `--batch-buffer`, `-z`, `-R`, `-F`, `--poll`, `-t` reach the parameter they are
    meant for), same warnings. -/
theorem dispatch_matches_source (f : Flags) (args : List Path) :
    Gen.C06.buildBatcherFn f.B f.I args.length (args.head? == some dash) = (dispatch f args).toDecision := by
  have hs : (decide (args.length = 0) || (args.head? == some dash)) = usesStdin args := by
    unfold usesStdin
    cases args <;> simp
  unfold Gen.C06.buildBatcherFn dispatch
  -- the look-ups by flag name, then `toDecision` pushed into the branches: the two if-chains coincide
  simp only [Flags.B, Flags.I, String.reduceEq, ↓reduceIte, hs, apply_ite Input.toDecision, List.nil_append,
    decide_eq_true_eq]
  simp only [Input.toDecision, Usage.msg]

/-- the flag combinations `BuildBatcherFromArguments` refuses -/
def Flags.Refused (f : Flags) (args : List Path) : Prop :=
  f.batch < 1 ∨ f.batchBuffer < 0 ∨ f.readers < 1 ∨ (f.poll = true ∧ (f.follow || f.reopen) = false) ∨
  (f.tail = true ∧ (f.follow || f.reopen) = false) ∨ (usesStdin args = true ∧ f.gunzip = true)

/-- **Exactly the refused combinations end in a usage error (exit status 2, nothing opened)**: `--batch` < 1,
    `--batch-buffer` < 0, `--readers` < 1, `--poll` or `--tail` without `-f`/`-F`, `-z` with standard input. -/
theorem dispatch_usage_iff (f : Flags) (args : List Path) :
    (∃ u, dispatch f args = .usage u) ↔ f.Refused args := by
  unfold dispatch Flags.Refused
  by_cases c1 : f.batch < 1
  · simp [c1]
  by_cases c2 : f.batchBuffer < 0
  · simp [c1, c2]
  by_cases c3 : f.readers < 1
  · simp [c1, c2, c3]
  simp only [c1, c2, c3, ↓reduceIte, false_or]
  generalize (f.follow || f.reopen) = follow
  cases follow <;> cases f.tail <;> cases f.poll <;> cases f.gunzip <;> cases usesStdin args <;> simp

/-- **Every other combination selects its reader like this**: `-` first or no argument ⇒ standard input (named
    `<stdin>`, `-f` only warned about); else `-f`/`-F` ⇒ the tailing reader over the expanded arguments – all files at once
    whatever `--readers` says, and WITHOUT decompression whatever `-z` says (a warning is all that is left of `-z`);
    else the file reader with `-z`, `-R`, `--readers` as given. -/
theorem dispatch_reader (f : Flags) (args : List Path) (h : ¬ f.Refused args) :
    dispatch f args =
      if usesStdin args then .stdin f.batch f.batchBuffer (f.follow || f.reopen)
      else if f.follow || f.reopen then .tail f.recursive f.batch f.batchBuffer f.reopen f.poll f.tail f.gunzip
      else .files f.recursive f.gunzip f.readers f.batch f.batchBuffer := by
  simp only [Flags.Refused, not_or, not_and, Bool.not_eq_false] at h
  obtain ⟨c1, c2, c3, c4, c5, c6⟩ := h
  have c4' : ¬ (f.poll && !(f.follow || f.reopen)) = true := by
    simp only [Bool.and_eq_true, Bool.not_eq_true', not_and, Bool.not_eq_false]; exact c4
  have c5' : ¬ (f.tail && !(f.follow || f.reopen)) = true := by
    simp only [Bool.and_eq_true, Bool.not_eq_true', not_and, Bool.not_eq_false]; exact c5
  unfold dispatch
  rw [if_neg c1, if_neg c2, if_neg c3, if_neg c4', if_neg c5']
  split
  · rw [if_neg (c6 ‹_›)]
  · rfl

/-- Without the follow flags (the runs the rest of this file is about) the decision is the one `run` uses: the usage
    checks of `usageCheck`, then `plan`'s choice between standard input and the expanded files. -/
theorem dispatch_plain (f : Flags) (args : List Path) (hf : f.follow = false) (hr : f.reopen = false)
    (ht : f.tail = false) (hp : f.poll = false) (hb : 0 ≤ f.batchBuffer) :
    ((usageCheck f.batch f.readers f.gunzip args).isSome ↔ ∃ u, dispatch f args = .usage u) ∧
    (usageCheck f.batch f.readers f.gunzip args = none →
      dispatch f args = if usesStdin args then .stdin f.batch f.batchBuffer false
                        else .files f.recursive f.gunzip f.readers f.batch f.batchBuffer) := by
  have hb' : ¬ f.batchBuffer < 0 := by omega
  unfold usageCheck dispatch
  simp only [hf, hr, ht, hp, hb', Bool.or_self, Bool.false_and, Bool.false_eq_true, ↓reduceIte]
  by_cases c1 : f.batch < 1
  · simp [c1]
  by_cases c3 : f.readers < 1
  · simp [c1, c3]
  simp only [c1, c3, ↓reduceIte]
  cases f.gunzip <;> cases usesStdin args <;> simp

/-- the three readers and two of the refusals on concrete command lines: `rare filter -F -t -z a.log` tails (no
    decompression, warning), `rare filter -z --readers 1 a.log` reads files, `rare filter -f -` reads standard input with a
    warning, `rare filter --tail a.log` and `rare filter -z` are refused -/
example :
    dispatch ⟨false, true, true, false, true, false, 3, 1000, 4⟩ [[97]] = .tail false 1000 4 true false true true ∧
    dispatch ⟨false, false, false, false, true, false, 1, 1000, 4⟩ [[97]] = .files false true 1 1000 4 ∧
    dispatch ⟨true, false, false, false, false, false, 3, 1000, 4⟩ [dash] = .stdin 1000 4 true ∧
    dispatch ⟨false, false, true, false, false, false, 3, 1000, 4⟩ [[97]] = .usage .tailNeedsFollow ∧
    dispatch ⟨false, false, false, false, true, false, 3, 1000, 4⟩ [] = .usage .gunzipStdin := by
  decide

/-! # The reader goroutine of `OpenFilesToChan`, executed from its source text -/

/-- The two executions of the regenerated body of the reader goroutine (`readerBody`, from
    `Gen.C06.openFilesToChanTree`) when the condition `err != nil` is decided by whether `os.Open` failed:
    statement by statement, deferred blocks unrolled at the return / at the end of the body. -/
theorem reader_exec_source (f : FileOracle) :
    exec (readerEnv f) readerBody =
      if f.canOpen then
        ["stmt:varfileio.ReadCloser", "stmt:file,err:=openFileToReader(goFilename,gunzip)",
         "do:out.startFileReading(goFilename)", "do:out.syncReaderToBatcher(goFilename,file,batchSize)",
         "do:file.Close()", "do:<-sema", "do:out.stopFileReading(goFilename)", "do:wg.Done()"]
      else
        ["stmt:varfileio.ReadCloser", "stmt:file,err:=openFileToReader(goFilename,gunzip)",
         "do:logger.Printf(\"Erroropeningfile%s:%v\",goFilename,err)", "do:out.incErrors()",
         "do:<-sema", "do:out.stopFileReading(goFilename)", "do:wg.Done()"] := by
  cases h : f.canOpen
  · have : readerEnv f = fun c => c == "err!=nil" := by funext c; simp [readerEnv, h]
    rw [this]; rfl
  · have : readerEnv f = fun _ => false := by funext c; simp [readerEnv, h]
    rw [this]; rfl

/-- **The hand model of the reader goroutine IS the source text, interpreted.**  For every file oracle (missing,
    directory, plain, gzip, failing after any number of bytes), `-z` or not: run the regenerated body of the goroutine
    (`exec`, the branch taken by `err != nil` = the open failed) and give each executed statement its meaning on the
    observables (`interpReader`: `out.incErrors()` counts, the two `logger.Printf` log, `syncReaderToBatcher` hands on
    the lines of the opened reader's stream and runs the regenerated `OnError` callback of `Gen.C01` iff the stream
    fails, …; an unknown statement, or `syncReaderToBatcher`/`Close` without an open file, sets `bad`).  The result is
    `runFile`: same number of counted errors, same log lines, same delivered lines – and on BOTH paths exactly one slot
    release, one `stopFileReading`, one `wg.Done()`, and `file.Close()` iff the file was opened.
    A changed condition, a dropped / duplicated / moved `incErrors`, a release that only the success path runs
    (seeded/C06-sema-open-error-leak) change the regenerated tree and break this equality. -/
theorem reader_body_matches_source (gunzip : Bool) (name : Path) (f : FileOracle) :
    let e := interpReader (onErrorBody Gen.C01.scanner_syncReaderToBatcher) gunzip name f (exec (readerEnv f) readerBody)
    let r := runFile gunzip name f
    e.bad = false ∧ r.errs = e.errs ∧ r.logs = e.logs ∧ r.lines = e.lines ∧
    e.released = 1 ∧ e.stopped = 1 ∧ e.done = 1 ∧
    e.started = (if f.canOpen then 1 else 0) ∧ e.closed = e.started := by
  intro e r
  have hcb : (onErrorBody Gen.C01.scanner_syncReaderToBatcher).map classify = [.incErr, .logReadErr] := by
    simp [onErrorBody, Gen.C01.scanner_syncReaderToBatcher, classify]
  cases hop : openFileToReader f gunzip with
  | none =>
    have ho := (openFileToReader_eq_none f gunzip).1 hop
    have he : e = _ := interpReader_openErr gunzip name f hop _ _ (by
      rw [reader_exec_source f, ho]; simp [classify])
    simp [he, r, runFile, hop, ho]
  | some p =>
    obtain ⟨rd, fb⟩ := p
    have ho : f.canOpen = true := by
      cases h : f.canOpen with
      | true => rfl
      | false => rw [(openFileToReader_eq_none f gunzip).2 h] at hop; cases hop
    have he : e = _ := interpReader_opened gunzip name f rd fb hop _ hcb _ (by
      rw [reader_exec_source f, ho]; simp [classify])
    cases hs : streamOf f rd with
    | mk data fails => simp [he, r, runFile, hop, ho, hs, runStream]

/-- the interpretation discriminates: the body of seeded/C06-sema-open-error-leak (release + `stopFileReading` deferred
    only after a successful open) run on a missing file releases no slot and never calls `stopFileReading`; a body without
    `out.incErrors()` in the failure branch counts 0 errors where `runFile` counts 1 -/
example :
    let leak : Ctl := .deferS (.simple "do:wg.Done()" .nil) (.simple "stmt:varfileio.ReadCloser"
      (.simple "stmt:file,err:=openFileToReader(goFilename,gunzip)"
      (.ifS "err!=nil" (.simple "do:logger.Printf(\"Erroropeningfile%s:%v\",goFilename,err)" (.simple "do:out.incErrors()" (.ret "" .nil))) .nil
      (.deferS (.simple "do:file.Close()" .nil) (.simple "do:out.startFileReading(goFilename)"
      (.deferS (.simple "do:<-sema" (.simple "do:out.stopFileReading(goFilename)" .nil))
      (.simple "do:out.syncReaderToBatcher(goFilename,file,batchSize)" .nil)))))))
    let nocount : Ctl := .deferS (.simple "do:<-sema" (.simple "do:out.stopFileReading(goFilename)" (.simple "do:wg.Done()" .nil)))
      (.simple "stmt:file,err:=openFileToReader(goFilename,gunzip)" (.ifS "err!=nil" (.ret "" .nil) .nil .nil))
    let e1 := interpReader [] false [120] FileOracle.missing (exec (readerEnv FileOracle.missing) leak)
    let e2 := interpReader [] false [120] FileOracle.missing (exec (readerEnv FileOracle.missing) nocount)
    e1.released = 0 ∧ e1.stopped = 0 ∧ e1.done = 1 ∧ e1.errs = 1 ∧ e1.bad = false ∧
    e2.errs = 0 ∧ e2.released = 1 ∧ (runFile false [120] FileOracle.missing).errs = 1 := by
  simp [exec, execPath, CPath.cons, trace, straight, readerEnv, FileOracle.missing, interpReader, classify, interpStmt,
    openFileToReader, openFileToReaderG, runFile]


/-! ## The standard-input reader (`OpenReaderToChan`), executed from its source text -/

/-- the body of the goroutine `OpenReaderToChan` starts, from the regenerated control tree -/
def stdinBody : Ctl := (firstGo Gen.C06.openReaderToChanTree).getD .nil

/-- **`-` / no argument: the reader of standard input IS its source text, interpreted.**  The goroutine of
    `OpenReaderToChan` has no branch; its one execution (deferred calls unrolled, last registered first) is
    `startFileReading; syncReaderToBatcherWithTimeFlush; out.close(); reader.Close()`.  Interpreted on the observables
    (the regenerated `OnError` callback of `syncReaderToBatcherWithTimeFlush` from `Gen.C01` runs iff the stream fails)
    it is `runStdin` for every content and failure: same counted errors, log lines, delivered lines; the batch channel
    is closed exactly once and AFTER the error was counted (`errsAtClose` = all errors of the input: the consumer that
    sees the channel closed reads the final `ReadErrors()`), standard input is closed once. -/
theorem stdin_body_matches_source (data : Bytes) (fails : Bool) :
    let ops := exec (fun _ => false) stdinBody
    let e := interpStdin (onErrorBody Gen.C01.scanner_syncReaderToBatcherWithTimeFlush) stdinName data fails ops
    let r := runStdin data fails
    ops = ["do:out.startFileReading(sourceName)",
           "do:out.syncReaderToBatcherWithTimeFlush(sourceName,reader,batchSize,AutoFlushTimeout)",
           "do:out.close()", "do:reader.Close()"] ∧
    e.bad = false ∧ r.errs = e.errs ∧ r.logs = e.logs ∧ r.lines = e.lines ∧
    e.started = 1 ∧ e.chanClosed = 1 ∧ e.errsAtClose = some r.errs ∧ e.closed = 1 := by
  intro ops e r
  have hops : ops = ["do:out.startFileReading(sourceName)",
      "do:out.syncReaderToBatcherWithTimeFlush(sourceName,reader,batchSize,AutoFlushTimeout)",
      "do:out.close()", "do:reader.Close()"] := rfl
  have he : e = _ := interpStdin_std stdinName data fails _
    (by simp [onErrorBody, Gen.C01.scanner_syncReaderToBatcherWithTimeFlush, classify]) ops
    (by rw [hops]; simp [classify])
  refine ⟨hops, ?_⟩
  simp [he, r, runStdin, runStream]

/-- the interpretation discriminates: a body that closes the channel BEFORE reading (`out.close()` not deferred) has
    counted no error yet when the channel closes, although the input fails -/
example :
    let early : Ctl := .deferS (.simple "do:reader.Close()" .nil) (.simple "do:out.startFileReading(sourceName)"
      (.simple "do:out.close()" (.simple "do:out.syncReaderToBatcherWithTimeFlush(sourceName,reader,batchSize,AutoFlushTimeout)" .nil)))
    let e := interpStdin ["do:s.incErrors()"] [60] [97, 10] true (exec (fun _ => false) early)
    e.errs = 1 ∧ e.errsAtClose = some 0 ∧ (runStdin [97, 10] true).errs = 1 := by
  simp [exec, execPath, CPath.cons, trace, straight, interpStdin, classify, interpStdinStmt, interpOnError, runStdin,
    runStream]

/-! ## The read-error count of the whole run, from the source text of the readers -/

/-- what the source text of the two reader goroutines counts for one planned input -/
def srcErrs (cfg : Config) (files : Path → FileOracle) (stdin : Bytes) (stdinFails : Bool) : Source → Nat
  | .stdin => (interpStdin (onErrorBody Gen.C01.scanner_syncReaderToBatcherWithTimeFlush) stdinName stdin stdinFails
      (exec (fun _ => false) stdinBody)).errs
  | .file p => (interpReader (onErrorBody Gen.C01.scanner_syncReaderToBatcher) cfg.gunzip p (files p)
      (exec (readerEnv (files p)) readerBody)).errs

/-- **`ReadErrors()` of a run = the `incErrors()` calls the regenerated reader bodies execute**, summed over the planned
    inputs (standard input or the expanded file names, once per mention): for every command line that passes the usage
    checks, every file-system / file oracle, `-z`, failing standard input.  With `run_exit_status` this ties the exit status 2
    of the property to the statements of `OpenFilesToChan` / `OpenReaderToChan` / the `OnError` callbacks in /repo. -/
theorem run_errors_from_source (cfg : Config) (args : List Path) (fs : FsOracle) (files : Path → FileOracle)
    (stdin : Bytes) (stdinFails : Bool) (h : usageCheck cfg.batch cfg.readers cfg.gunzip args = none) :
    (run cfg args fs files stdin stdinFails).readErrors
      = ((plan cfg.recursive args fs).map (srcErrs cfg files stdin stdinFails)).sum := by
  unfold run
  rw [h]
  simp only [List.map_map]
  congr 1
  apply List.map_congr_left
  intro s _
  cases s with
  | stdin => exact (stdin_body_matches_source stdin stdinFails).2.2.1
  | file p => exact (reader_body_matches_source cfg.gunzip p (files p)).2.1

/-- the hypothesis is the ordinary case (`rare filter a`, `rare filter -z --readers 3 a b`) -/
example : usageCheck 1000 1 false [[97]] = none ∧ usageCheck 1 3 true [[97], [98]] = none := by decide

end Rare.C06

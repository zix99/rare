import Rare.Proofs.C03Csv
import Rare.Proofs.C03Comp
import Rare.Proofs.C03Det
import Rare.Proofs.C03Run
import Rare.Proofs.C03ReduceExpr
import Rare.Proofs.C03Analyze
import Rare.Proofs.C03Wiring
import Rare.Proofs.C03Spark
import Rare.Proofs.C03Cmd
import Rare.Proofs.C03SparkCsv
import Rare.Proofs.C03Sbv
import Rare.Proofs.C03SparkBy
import Rare.Gen.C03
import Rare.Proofs.F64Fast
import Rare.Props.C07
import Rare.Props.C13
/-!
# C03 – Final aggregates equal the reference aggregation, independent of parallelism

Composition of C01 (`pipeline_final_bytes`: every terminal state of the reader/worker/consumer system
carries the sequential multiset of matches), C05 (`final_render_after_last_sample`: the aggregation loop
has sampled exactly what it received), C02 (`fifo_reach`: one source + one worker ⇒ input order), C07
(`counter_perm`, `table_perm`, `subkey_perm`: the aggregators do not see the order of their history),
C13 (`sorted_unique`, `SortContract`: a strict total order leaves `sort.Sort` one possible answer) with
a model of `encoding/csv`'s Writer and an RFC 4180 reader.

`Terminal cls key cfg datas h` (Proofs/C03Comp): `h` is the complete sample history of the aggregator in
SOME terminal state of the program on the input files `datas` under tuning `cfg` (reader concurrency,
channel capacities, worker count, batch size, flush-timer behaviour), for SOME schedule.

Later sections: `rare reduce` on the `AccumulatingGroup` model of C07 (`Model/C03Reduce.lean`: set-up, the CSV
writer with its reused row buffer, the render script, exit status) – any accumulator for one source and one
worker, order-insensitive accumulators for any tuning, CSV round trip; `rare analyze` on the binary64 model of
`MatchNumerical` (`Model/C03Analyze.lean`) – everything it prints except `Mean:`/`StdDev:` is exactly order
independent, those two only in exact arithmetic (known finding F26 with a kernel-checked counterexample); the
wiring of all seven commands regenerated from the Go AST (`Gen/C03.lean`), with the CSV determinism theorems
instantiated for the sorter each writer names in the source.

Last section: the five counting commands' functions (`Model/C03Cmd.lean`: which rows the histogram shows, the footers,
`--csv`, exit status) – schedule independent as a whole, and `spark`'s CSV text under any placing of its trimming renders.

Not covered by a theorem (correspondence only, `extra/C03.py` / the in-process `cmd`, `reduce` and `analyze` ops):
`reduce` with ORDER-SENSITIVE accumulators over several sources (the pipeline LTS lets sources start in any order;
one source and one worker is covered); the drawing of rows, bars and heat cells (C14/C20) and the padding of the final
frame (F25, known finding: the snapshot is claimed modulo runs of spaces); the inferring sorters `numeric` (on mixed
keys), `contextual`, `date` of the render callbacks (C13, F19).  (`spark` with a value-ordered column sort depended on
render timing, F24: fixed by b216f7d – it no longer trims; `spark_value_trim_timing_counterexample` keeps the witness.)
-/
namespace Rare.C03
open Rare.C07 Rare.C13 Rare.Pipeline Rare.C01
open Rare.Expr (Stage Comp)

/-! ## CSV: reading back what the writer wrote -/

/-- For ALL rows of arbitrary byte strings in which every record has at least one field, the RFC 4180
reader returns exactly the rows that `encoding/csv`'s Writer (as rare configures it) wrote – whatever
the fields contain (`,`, `"`, CR, LF, CR LF, NUL, invalid UTF-8, leading blanks, `\.`).  A lone CR or a
CR LF inside a field is written raw inside quotes and read back unchanged. -/
theorem csv_roundtrip (rows : List (List Bytes)) (h : ∀ r ∈ rows, r ≠ []) : parseCsv (writeCsv rows) = rows :=
  roundtrip rows h

/-- The guard is exact: a record WITHOUT fields is written as an empty line, which reads back as a record
with one empty field (and a record with one empty field is written the same way – and reads back). -/
theorem csv_roundtrip_guard_exact :
    writeCsv [[]] = [10] ∧ writeCsv [[[]]] = [10] ∧ parseCsv [10] = [[[]]] ∧ parseCsv (writeCsv [[]]) ≠ [[]] := by
  refine ⟨rfl, rfl, by decide +kernel, by decide +kernel⟩

/-- What the writer does with the awkward fields: a lone CR, CR LF, `"`, `,`, a leading blank and `\.` are
quoted (only `"` is changed: doubled); a NUL byte, a trailing blank or a backslash alone are not. -/
theorem csv_writer_quoting :
    writeField [97, 13, 98] = [34, 97, 13, 98, 34] ∧ writeField [13, 10] = [34, 13, 10, 34] ∧
    writeField [34] = [34, 34, 34, 34] ∧ writeField [44] = [34, 44, 34] ∧ writeField [32, 97] = [34, 32, 97, 34] ∧
    writeField [92, 46] = [34, 92, 46, 34] ∧ writeField [0xC2, 0xA0, 97] = [34, 0xC2, 0xA0, 97, 34] ∧
    writeField [97, 0, 98] = [97, 0, 98] ∧ writeField [97, 32] = [97, 32] ∧ writeField [92] = [92] ∧ writeField [] = [] := by
  decide +kernel

/-! ## schedule independence of the final aggregator state -/

/-- Any two terminal states of pipeline + aggregation loop for the same files and command line – whatever
`--readers`, `--workers`, `--batch`, `--batch-buffer`, channel capacities, flush-timer behaviour and schedule –
have sample histories that are permutations of each other and of the sequential reference; hence the
histogram counter, the table (any non-empty delimiter) and the sub-key counter are in observably equal states. -/
theorem final_state_schedule_independent (cls : Line → Cls) (key : Line → Bytes) (datas : List Bytes)
    (cfg₁ cfg₂ : Config) (hW₁ : 1 ≤ cfg₁.W) (hW₂ : 1 ≤ cfg₂.W) (h₁ h₂ : List Bytes)
    (t₁ : Terminal cls key cfg₁ datas h₁) (t₂ : Terminal cls key cfg₂ datas h₂) :
    h₁.Perm h₂ ∧ h₁.Perm (refSamples cls key datas) ∧
    ((∀ k, aget (Counter.run h₁).items k = aget (Counter.run h₂).items k) ∧
      (Counter.run h₁).total = (Counter.run h₂).total ∧ (Counter.run h₁).errors = (Counter.run h₂).errors) ∧
    (∀ d : Bytes, d ≠ [] →
      (∀ c, aget (Table.run d h₁).cols c = aget (Table.run d h₂).cols c) ∧
      (∀ r, (aget (Table.run d h₁).rows r).isSome = (aget (Table.run d h₂).rows r).isSome) ∧
      (∀ r row1 row2, aget (Table.run d h₁).rows r = some row1 → aget (Table.run d h₂).rows r = some row2 →
        row1.name = row2.name ∧ row1.sum = row2.sum ∧ ∀ c, aget row1.cols c = aget row2.cols c) ∧
      (Table.run d h₁).sum = (Table.run d h₂).sum ∧ (Table.run d h₁).errors = (Table.run d h₂).errors ∧
      (Table.run d h₁).computeMinMax = (Table.run d h₂).computeMinMax) ∧
    (∃ s1 s2, SubKeyCounter.run h₁ = .ok s1 ∧ SubKeyCounter.run h₂ = .ok s2 ∧
      s1.subKeys = s2.subKeys ∧ s1.errors = s2.errors ∧
      (∀ k, (aget s1.items k).isSome = (aget s2.items k).isSome) ∧
      (∀ k it1 it2, aget s1.items k = some it1 → aget s2.items k = some it2 →
        it1.count = it2.count ∧ it1.submatches = it2.submatches)) := by
  have p1 := terminal_perm cls key cfg₁ hW₁ datas h₁ t₁
  have p2 := terminal_perm cls key cfg₂ hW₂ datas h₂ t₂
  have hp : h₁.Perm h₂ := p1.trans p2.symm
  exact ⟨hp, p1, C07.counter_perm h₁ h₂ hp, fun d hd => C07.table_perm d hd h₁ h₂ hp, C07.subkey_perm h₁ h₂ hp⟩

/-- One source (a file or stdin) and one worker: the sample history IS the sequential reference, in order, so
ANY accumulator `f` (e.g. `reduce` with order-sensitive expressions) ends in the reference state – for every
batch size, buffer size, timer behaviour and schedule. -/
theorem final_state_fifo_any_accumulator (cls : Line → Cls) (key : Line → Bytes) (data : Bytes)
    (cfg₁ cfg₂ : Config) (hW₁ : cfg₁.W = 1) (hW₂ : cfg₂.W = 1) (h₁ h₂ : List Bytes)
    (t₁ : Terminal cls key cfg₁ [data] h₁) (t₂ : Terminal cls key cfg₂ [data] h₂)
    {σ : Type} (f : σ → Bytes → σ) (init : σ) :
    h₁ = refSamples cls key [data] ∧ h₁.foldl f init = h₂.foldl f init ∧
    h₁.foldl f init = reference (fun l => if cls l = .matched then some (key l) else none) init f id [allLines [data]] := by
  have e1 := terminal_fifo cls key cfg₁ hW₁ data h₁ t₁
  have e2 := terminal_fifo cls key cfg₂ hW₂ data h₂ t₂
  refine ⟨e1, by rw [e1, e2], ?_⟩
  rw [e1]
  simp only [reference, refSamples, seqMatches, id, List.flatten_cons, List.flatten_nil, List.append_nil]
  rw [← List.filterMap_eq_filter, List.map_filterMap]
  congr 2; funext l
  by_cases hx : cls l = .matched <;> simp [Option.guard, isMatched, hx]

/-! ## dividing the lines among files -/

/-- When matching and key extraction look at the text of a line only (no `{src}`, no `{line}`): two sets of
files whose lines are, as a multiset, the same – the same lines cut into files differently, the files given in
another order – have the same multiset of reference samples (and by `final_state_schedule_independent` every
terminal state of either run is a permutation of it). -/
theorem file_split_invariance (clsT : Bytes → Cls) (keyT : Bytes → Bytes) (datas₁ datas₂ : List Bytes)
    (h : (datas₁.flatMap C04.splitLines).Perm (datas₂.flatMap C04.splitLines)) :
    (refSamples (fun l => clsT l.text) (fun l => keyT l.text) datas₁).Perm
      (refSamples (fun l => clsT l.text) (fun l => keyT l.text) datas₂) := by
  rw [refSamples_of_texts, refSamples_of_texts]
  exact (h.filter _).map _

/-- The hypothesis of `file_split_invariance` for files written line by line: ANY two ways `chunks₁`, `chunks₂`
of distributing the same multiset of clean lines over files (every line LF-terminated). -/
theorem file_split_lines (chunks₁ chunks₂ : List (List Bytes)) (hc₁ : ∀ c ∈ chunks₁, ∀ l ∈ c, CleanLine l)
    (hc₂ : ∀ c ∈ chunks₂, ∀ l ∈ c, CleanLine l) (h : chunks₁.flatten.Perm chunks₂.flatten) :
    ((chunks₁.map unlines).flatMap C04.splitLines).Perm ((chunks₂.map unlines).flatMap C04.splitLines) := by
  have e : ∀ chunks : List (List Bytes), (∀ c ∈ chunks, ∀ l ∈ c, CleanLine l) →
      (chunks.map unlines).flatMap C04.splitLines = chunks.flatten := by
    intro chunks hc
    induction chunks with
    | nil => rfl
    | cons c rest ih =>
      simp only [List.map_cons, List.flatMap_cons, List.flatten_cons]
      rw [splitLines_unlines c (hc c (by simp)), ih (fun x hx => hc x (by simp [hx]))]
  rw [e _ hc₁, e _ hc₂]
  exact h

/-! ## the CSV text is a function of the aggregator's observable state -/

/-- Histogram export: for every `sort.Sort` meeting its contract, every two map iteration orders and every
two counters with equal look-ups, the CSV text is the same, and it is the reference text. -/
theorem csv_of_state_deterministic (alg : List NV → Algo NV (List NV)) (hc : SortContract alg)
    (c₁ c₂ : Counter) (hobs : ∀ k, aget c₁.items k = aget c₂.items k)
    (o₁ o₂ : List Bytes) (r₁ : IsRangeOf o₁ c₁.items) (r₂ : IsRangeOf o₂ c₂.items) :
    writeCsv (counterCsvRows (sortOf alg) o₁ c₁) = writeCsv (counterCsvRows (sortOf alg) o₂ c₂) ∧
    counterCsvRows (sortOf alg) o₂ c₂ = counterCsvRows isortFn o₁ c₁ := by
  have hp : o₂.Perm o₁ := range_perm r₂ r₁ (fun k => by rw [hobs])
  have e1 := sorted_rows_eq alg hc nvValueLess nvValueLess_order o₁ o₁ (fun k => (aget c₁.items k).getD 0)
    (fun k => (aget c₁.items k).getD 0) r₁.1 (List.Perm.refl _) (fun _ _ => rfl)
  have e2 := sorted_rows_eq alg hc nvValueLess nvValueLess_order o₁ o₂ (fun k => (aget c₁.items k).getD 0)
    (fun k => (aget c₂.items k).getD 0) r₁.1 hp (fun k _ => by rw [hobs])
  simp only [counterCsvRows, counterRows, e1, e2, isortFn, and_self]

/-- Table export (table, heatmap, spark): same statement; `hobs` is what `table_perm` provides. -/
theorem csv_of_state_deterministic_table (alg : List NV → Algo NV (List NV)) (hc : SortContract alg)
    (t₁ t₂ : Table) (hcols : ∀ c, aget t₁.cols c = aget t₂.cols c)
    (hrows : ∀ r, (aget t₁.rows r).isSome = (aget t₂.rows r).isSome)
    (hcells : ∀ r row1 row2, aget t₁.rows r = some row1 → aget t₂.rows r = some row2 →
      row1.name = row2.name ∧ row1.sum = row2.sum ∧ ∀ c, aget row1.cols c = aget row2.cols c)
    (co₁ co₂ ro₁ ro₂ : List Bytes) (hco₁ : IsRangeOf co₁ t₁.cols) (hco₂ : IsRangeOf co₂ t₂.cols)
    (hro₁ : IsRangeOf ro₁ t₁.rows) (hro₂ : IsRangeOf ro₂ t₂.rows) :
    writeCsv (tableCsvRows (sortOf alg) co₁ ro₁ t₁) = writeCsv (tableCsvRows (sortOf alg) co₂ ro₂ t₂) ∧
    tableCsvRows (sortOf alg) co₂ ro₂ t₂ = tableCsvRows isortFn co₁ ro₁ t₁ := by
  have hct : t₁.colTotal = t₂.colTotal := by funext c; simp [Table.colTotal, hcols]
  have hsum : (fun r => ((aget t₁.rows r).map (·.sum)).getD 0) = fun r => ((aget t₂.rows r).map (·.sum)).getD 0 := by
    funext r; rw [option_map_eq (·.sum) (hrows r) fun a b ha hb => (hcells r a b ha hb).2.1]
  have hcell : (fun r c => ((aget t₁.rows r).map (·.value c)).getD 0) = fun r c => ((aget t₂.rows r).map (·.value c)).getD 0 := by
    funext r c
    rw [option_map_eq (·.value c) (hrows r) fun a b ha hb => by simp only [TableRow.value, (hcells r a b ha hb).2.2 c]]
  have pc : co₂.Perm co₁ := range_perm hco₂ hco₁ (fun k => by rw [hcols])
  have pr : ro₂.Perm ro₁ := range_perm hro₂ hro₁ (fun k => (hrows k).symm)
  have c1 := sorted_rows_eq alg hc nvNameLess nvNameLess_order co₁ co₁ t₁.colTotal t₁.colTotal hco₁.1 (List.Perm.refl _) (fun _ _ => rfl)
  have c2 := sorted_rows_eq alg hc nvNameLess nvNameLess_order co₁ co₂ t₁.colTotal t₁.colTotal hco₁.1 pc (fun _ _ => rfl)
  have w1 := sorted_rows_eq alg hc nvNameLess nvNameLess_order ro₁ ro₁ (fun r => ((aget t₁.rows r).map (·.sum)).getD 0)
    (fun r => ((aget t₁.rows r).map (·.sum)).getD 0) hro₁.1 (List.Perm.refl _) (fun _ _ => rfl)
  have w2 := sorted_rows_eq alg hc nvNameLess nvNameLess_order ro₁ ro₂ (fun r => ((aget t₁.rows r).map (·.sum)).getD 0)
    (fun r => ((aget t₁.rows r).map (·.sum)).getD 0) hro₁.1 pr (fun _ _ => rfl)
  unfold tableCsvRows
  rw [← hct, ← hsum, ← hcell]
  simp only [tableRows, c1, c2, w1, w2, isortFn, and_self]

/-- Bar-graph export: same statement; `hobs` is what `subkey_perm` provides. -/
theorem csv_of_state_deterministic_subkey (alg : List NV → Algo NV (List NV)) (hc : SortContract alg)
    (s₁ s₂ : SubKeyCounter) (hk : s₁.subKeys = s₂.subKeys)
    (hpres : ∀ k, (aget s₁.items k).isSome = (aget s₂.items k).isSome)
    (hitems : ∀ k it1 it2, aget s₁.items k = some it1 → aget s₂.items k = some it2 →
      it1.count = it2.count ∧ it1.submatches = it2.submatches)
    (o₁ o₂ : List Bytes) (r₁ : IsRangeOf o₁ s₁.items) (r₂ : IsRangeOf o₂ s₂.items) :
    writeCsv (subKeyCsvRows (sortOf alg) o₁ s₁) = writeCsv (subKeyCsvRows (sortOf alg) o₂ s₂) ∧
    subKeyCsvRows (sortOf alg) o₂ s₂ = subKeyCsvRows isortFn o₁ s₁ := by
  have hit : ∀ k, (aget s₁.items k).map (·.count) = (aget s₂.items k).map (·.count) ∧
      (aget s₁.items k).map (·.submatches) = (aget s₂.items k).map (·.submatches) := fun k =>
    ⟨option_map_eq _ (hpres k) fun a b ha hb => (hitems k a b ha hb).1,
     option_map_eq _ (hpres k) fun a b ha hb => (hitems k a b ha hb).2⟩
  have hp : o₂.Perm o₁ := range_perm r₂ r₁ (fun k => (hpres k).symm)
  have e1 := sorted_rows_eq alg hc nvNameLess nvNameLess_order o₁ o₁ (fun k => ((aget s₁.items k).map (·.count)).getD 0)
    (fun k => ((aget s₁.items k).map (·.count)).getD 0) r₁.1 (List.Perm.refl _) (fun _ _ => rfl)
  have e2 := sorted_rows_eq alg hc nvNameLess nvNameLess_order o₁ o₂ (fun k => ((aget s₁.items k).map (·.count)).getD 0)
    (fun k => ((aget s₂.items k).map (·.count)).getD 0) r₁.1 hp (fun k _ => by rw [(hit k).1])
  have hv : ∀ k, ((aget s₂.items k).map (·.submatches)).getD [] = ((aget s₁.items k).map (·.submatches)).getD [] :=
    fun k => by rw [(hit k).2]
  simp only [subKeyCsvRows, subCounterRows, e1, e2, isortFn, hv, hk, and_self]

/-- End to end for the histogram: two terminal states of the whole program for the same files and command
line, under any tuning, any schedule, any `sort.Sort` meeting its contract and any map iteration orders,
export the same CSV text, and re-reading it gives the reference rows (header, then `key,count` by descending
count then key). -/
theorem histo_csv_schedule_independent (cls : Line → Cls) (key : Line → Bytes) (datas : List Bytes)
    (cfg₁ cfg₂ : Config) (hW₁ : 1 ≤ cfg₁.W) (hW₂ : 1 ≤ cfg₂.W) (h₁ h₂ : List Bytes)
    (t₁ : Terminal cls key cfg₁ datas h₁) (t₂ : Terminal cls key cfg₂ datas h₂)
    (alg : List NV → Algo NV (List NV)) (hc : SortContract alg) (o₁ o₂ oref : List Bytes)
    (r₁ : IsRangeOf o₁ (Counter.run h₁).items) (r₂ : IsRangeOf o₂ (Counter.run h₂).items)
    (rr : IsRangeOf oref (Counter.run (refSamples cls key datas)).items) :
    writeCsv (counterCsvRows (sortOf alg) o₁ (Counter.run h₁)) = writeCsv (counterCsvRows (sortOf alg) o₂ (Counter.run h₂)) ∧
    parseCsv (writeCsv (counterCsvRows (sortOf alg) o₁ (Counter.run h₁))) =
      counterCsvRows isortFn oref (Counter.run (refSamples cls key datas)) := by
  have p1 := terminal_perm cls key cfg₁ hW₁ datas h₁ t₁
  have p2 := terminal_perm cls key cfg₂ hW₂ datas h₂ t₂
  have hobs := (C07.counter_perm h₁ h₂ (p1.trans p2.symm)).1
  have hobsr := (C07.counter_perm (refSamples cls key datas) h₁ p1.symm).1
  refine ⟨(csv_of_state_deterministic alg hc _ _ hobs o₁ o₂ r₁ r₂).1, ?_⟩
  rw [csv_roundtrip _ (counterCsvRows_nonempty _ _ _)]
  exact (csv_of_state_deterministic alg hc _ _ hobsr oref o₁ rr r₁).2

/-- End to end for `table` / `heatmap` (and `spark` whenever nothing is trimmed: `--notruncate`, a value-ordered
column sort, or no more columns than `--cols`): two terminal states of the whole program for the same files and
command line, under any tuning, schedule, contract-abiding `sort.Sort` and map iteration orders, export the same CSV
text; re-reading it gives the rows of the sequential reference. -/
theorem table_csv_schedule_independent (cls : Line → Cls) (key : Line → Bytes) (datas : List Bytes) (d : Bytes) (hd : d ≠ [])
    (cfg₁ cfg₂ : Config) (hW₁ : 1 ≤ cfg₁.W) (hW₂ : 1 ≤ cfg₂.W) (h₁ h₂ : List Bytes)
    (t₁ : Terminal cls key cfg₁ datas h₁) (t₂ : Terminal cls key cfg₂ datas h₂)
    (alg : List NV → Algo NV (List NV)) (hc : SortContract alg) (co₁ co₂ ro₁ ro₂ coref roref : List Bytes)
    (hco₁ : IsRangeOf co₁ (Table.run d h₁).cols) (hco₂ : IsRangeOf co₂ (Table.run d h₂).cols)
    (hro₁ : IsRangeOf ro₁ (Table.run d h₁).rows) (hro₂ : IsRangeOf ro₂ (Table.run d h₂).rows)
    (hcor : IsRangeOf coref (Table.run d (refSamples cls key datas)).cols)
    (hror : IsRangeOf roref (Table.run d (refSamples cls key datas)).rows) :
    writeCsv (tableCsvRows (sortOf alg) co₁ ro₁ (Table.run d h₁)) = writeCsv (tableCsvRows (sortOf alg) co₂ ro₂ (Table.run d h₂)) ∧
    parseCsv (writeCsv (tableCsvRows (sortOf alg) co₁ ro₁ (Table.run d h₁))) =
      tableCsvRows isortFn coref roref (Table.run d (refSamples cls key datas)) := by
  have p1 := terminal_perm cls key cfg₁ hW₁ datas h₁ t₁
  have p2 := terminal_perm cls key cfg₂ hW₂ datas h₂ t₂
  obtain ⟨a1, a2, a3, _⟩ := C07.table_perm d hd h₁ h₂ (p1.trans p2.symm)
  obtain ⟨b1, b2, b3, _⟩ := C07.table_perm d hd (refSamples cls key datas) h₁ p1.symm
  refine ⟨(csv_of_state_deterministic_table alg hc _ _ a1 a2 a3 co₁ co₂ ro₁ ro₂ hco₁ hco₂ hro₁ hro₂).1, ?_⟩
  rw [csv_roundtrip _ (tableCsvRows_nonempty _ _ _ _)]
  exact (csv_of_state_deterministic_table alg hc _ _ b1 b2 b3 coref co₁ roref ro₁ hcor hco₁ hror hro₁).2

/-- End to end for `bargraph`: same statement for the sub-key counter (a history the aggregator accepts at all:
`SubKeyCounter.run` is `.ok` – it is for every history, see C07). -/
theorem bargraph_csv_schedule_independent (cls : Line → Cls) (key : Line → Bytes) (datas : List Bytes)
    (cfg₁ cfg₂ : Config) (hW₁ : 1 ≤ cfg₁.W) (hW₂ : 1 ≤ cfg₂.W) (h₁ h₂ : List Bytes)
    (t₁ : Terminal cls key cfg₁ datas h₁) (t₂ : Terminal cls key cfg₂ datas h₂)
    (alg : List NV → Algo NV (List NV)) (hc : SortContract alg) :
    ∃ s₁ s₂ sr, SubKeyCounter.run h₁ = .ok s₁ ∧ SubKeyCounter.run h₂ = .ok s₂ ∧
      SubKeyCounter.run (refSamples cls key datas) = .ok sr ∧
      ∀ o₁ o₂ oref, IsRangeOf o₁ s₁.items → IsRangeOf o₂ s₂.items → IsRangeOf oref sr.items →
        writeCsv (subKeyCsvRows (sortOf alg) o₁ s₁) = writeCsv (subKeyCsvRows (sortOf alg) o₂ s₂) ∧
        parseCsv (writeCsv (subKeyCsvRows (sortOf alg) o₁ s₁)) = subKeyCsvRows isortFn oref sr := by
  have p1 := terminal_perm cls key cfg₁ hW₁ datas h₁ t₁
  have p2 := terminal_perm cls key cfg₂ hW₂ datas h₂ t₂
  obtain ⟨s₁, s₂, e1, e2, a1, _, a2, a3⟩ := C07.subkey_perm h₁ h₂ (p1.trans p2.symm)
  obtain ⟨sr, s₁', e3, e1', b1, _, b2, b3⟩ := C07.subkey_perm (refSamples cls key datas) h₁ p1.symm
  rw [e1] at e1'; cases e1'
  refine ⟨s₁, s₂, sr, e1, e2, e3, ?_⟩
  intro o₁ o₂ oref r₁ r₂ rr
  refine ⟨(csv_of_state_deterministic_subkey alg hc _ _ a1 a2 a3 o₁ o₂ r₁ r₂).1, ?_⟩
  rw [csv_roundtrip _ (subKeyCsvRows_nonempty _ _ _)]
  exact (csv_of_state_deterministic_subkey alg hc _ _ b1 b2 b3 oref o₁ rr r₁).2

/-! ## `rare spark`: the trim inside every render

`cmd/spark.go` trims, in every periodic render and in the final one, the columns outside the last `--cols` of
`OrderedColumns(colSorter)` (since b216f7d only for column orders that look at the names; a value-ordered sort never
trims, so `table_csv_schedule_independent` covers it).  `SparkReach lt n d h t`: `t` is the aggregator after SOME
interleaving of the samples `h` with render steps, each using any arrangement `s` of the current column names that is
sorted by the name order `lt` and any map iteration orders. -/

/-- The final table of `spark` does not depend on where the renders fell: whatever the interleaving, after the final
render the aggregator has the cells, rows, columns and parse-error count of ONE render step applied to the
sequentially sampled table – for every strict total order on column names, every `--cols`, every delimiter. -/
theorem spark_trim_any_render_schedule {lt : Bytes → Bytes → Bool} (ho : NameOrder lt) (n : Nat) (d : Bytes) (hd : d ≠ [])
    (h : List Bytes) (t : Table) (hr : SparkReach lt n d h t)
    (st co : List Bytes) (ro : Bytes → List Bytes) (hst : IsSortedCols lt t st) (hcov : Covers t co ro)
    (sF coF : List Bytes) (roF : Bytes → List Bytes) (hsF : IsSortedCols lt (Table.run d h) sF)
    (hcovF : Covers (Table.run d h) coF roF) :
    (∀ c r, (renderStep n t st co ro).cell c r = (renderStep n (Table.run d h) sF coF roF).cell c r) ∧
    (∀ r, (aget (renderStep n t st co ro).rows r).isSome = (aget (renderStep n (Table.run d h) sF coF roF).rows r).isSome) ∧
    (∀ c, (aget (renderStep n t st co ro).cols c).isSome = (aget (renderStep n (Table.run d h) sF coF roF).cols c).isSome) ∧
    (renderStep n t st co ro).errors = (renderStep n (Table.run d h) sF coF roF).errors :=
  let ⟨a, b, c, e, _, _⟩ := spark_final ho n d hd h t hr st co ro hst hcov sF coF roF hsF hcovF
  ⟨a, b, c, e⟩

/-- The same for the executable model the correspondence runs (`tbl` op: the real `TableAggregator` driven through
the same script): `sparkRun` over any script of samples and renders, then the final render, against one `sparkTrim`
of the sequential table.  In particular a row that a render emptied and that is sampled again right afterwards
counts like a fresh row. -/
theorem spark_model_render_timing_independent (n : Nat) (d : Bytes) (hd : d ≠ []) (evs : List SparkEv) :
    let tf := sparkTrim n (sparkRun n d evs)
    let rf := sparkTrim n (Table.run d (sparkSamples evs))
    (∀ c r, tf.cell c r = rf.cell c r) ∧ (∀ r, (aget tf.rows r).isSome = (aget rf.rows r).isSome) ∧
    (∀ c, (aget tf.cols c).isSome = (aget rf.cols c).isSome) ∧ tf.errors = rf.errors := by
  have := sparkBy_final bytesLt_nameOrder nameLess_text nvNameLess_order n d hd evs
  rwa [sparkRunBy_text] at this

/-- A render step keeps exactly the columns with fewer than `--cols` columns after them, cell values unchanged. -/
theorem spark_render_keeps_last_columns {lt : Bytes → Bytes → Bool} (ho : NameOrder lt) (n : Nat) (t : Table) (s co : List Bytes)
    (ro : Bytes → List Bytes) (hwf : t.WF) (hs : IsSortedCols lt t s) (hcov : Covers t co ro) (c r : Bytes) :
    (renderStep n t s co ro).cell c r = if above lt (akeys t.cols) c < n then t.cell c r else none :=
  render_cells ho n t s co ro hwf hs hcov c r

/-- F24 (before b216f7d), kernel-checked on the model: with a VALUE-ordered trim the result depends on where the render
falls.  Columns a, b, c with a a a b | b b b b c, `--cols 1`, ascending by column total: trimming after the fourth
sample drops column b's first count. -/
theorem spark_value_trim_timing_counterexample :
    let valueTrim (t : Table) : Table :=
      let cols := (isort (fun a b : NV => decide (a.value < b.value) || (a.value == b.value && bytesLt a.name b.name))
        ((akeys t.cols).map fun c => (⟨c, t.colTotal c⟩ : NV))).map (·.name)
      if cols.length > 1 then
        (t.trim (renderPred (cols.drop (cols.length - 1))) (akeys t.cols) (fun _ => akeys t.rows)).1 else t
    let a : Bytes := [97, 0, 114]
    let b : Bytes := [98, 0, 114]
    let c : Bytes := [99, 0, 114]
    (valueTrim (Table.run [0] [a, a, a, b, b, b, b, b, c])).cell [98] [114] = some 5 ∧
    (valueTrim ([b, b, b, b, c].foldl Table.sample (valueTrim (Table.run [0] [a, a, a, b])))).cell [98] [114] = some 4 := by
  decide +kernel

/-! ## exit status -/

/-- `DetermineErrorState`, every case: read errors ⇒ 2; else parse errors of a present aggregator ⇒ 2; else no
matched line ⇒ 1; else 0.  It is the specified exit status when an aggregator is present. -/
theorem exit_code_table (readErrors : Int) (aggNil : Bool) (parseErrors matched : Nat) :
    (0 < readErrors → determineErrorState readErrors aggNil parseErrors matched = 2) ∧
    (readErrors ≤ 0 → aggNil = false → 0 < parseErrors → determineErrorState readErrors aggNil parseErrors matched = 2) ∧
    (readErrors ≤ 0 → (aggNil = true ∨ parseErrors = 0) → matched = 0 → determineErrorState readErrors aggNil parseErrors matched = 1) ∧
    (readErrors ≤ 0 → (aggNil = true ∨ parseErrors = 0) → 0 < matched → determineErrorState readErrors aggNil parseErrors matched = 0) ∧
    (aggNil = false → determineErrorState readErrors aggNil parseErrors matched = exitStatus readErrors.toNat parseErrors matched) := by
  unfold determineErrorState exitStatus
  refine ⟨?_, ?_, ?_, ?_, ?_⟩
  · intro h; simp [h]
  · intro h1 h2 h3; subst h2; have : ¬ readErrors > 0 := by omega
    simp [this, h3]
  · intro h1 h2 h3; have : ¬ readErrors > 0 := by omega
    rcases h2 with h2 | h2 <;> simp [this, h2, h3]
  · intro h1 h2 h3; have : ¬ readErrors > 0 := by omega
    have h4 : matched ≠ 0 := by omega
    rcases h2 with h2 | h2 <;> simp [this, h2, h4]
  · intro h; subst h
    by_cases hr : readErrors > 0
    · have : readErrors.toNat > 0 := by omega
      simp [hr, this]
    · have : ¬ readErrors.toNat > 0 := by omega
      simp [hr, this]

/-- The exit status of a run is therefore a function of the corpus and the command line: the counters it is
computed from are the same in every terminal state (`pipeline_final_bytes`: matched lines; `*_perm`: parse errors). -/
theorem exit_status_schedule_independent (cls : Line → Cls) (key : Line → Bytes) (datas : List Bytes)
    (cfg₁ cfg₂ : Config) (hW₁ : 1 ≤ cfg₁.W) (hW₂ : 1 ≤ cfg₂.W) (h₁ h₂ : List Bytes)
    (t₁ : Terminal cls key cfg₁ datas h₁) (t₂ : Terminal cls key cfg₂ datas h₂) (readErrors : Int) :
    determineErrorState readErrors false (Counter.run h₁).errors h₁.length =
      determineErrorState readErrors false (Counter.run h₂).errors h₂.length := by
  have p1 := terminal_perm cls key cfg₁ hW₁ datas h₁ t₁
  have p2 := terminal_perm cls key cfg₂ hW₂ datas h₂ t₂
  have hp := p1.trans p2.symm
  rw [(C07.counter_perm h₁ h₂ hp).2.2, hp.length_eq]

/-! ## non-vacuity -/

/-- the aggregation loop can run to its end on any single batch (so `Terminal` below is inhabited) -/
theorem aggloop_runs (b : List Bytes) :
    ∃ a : AggLoop.St Bytes, AggLoop.Reach (AggLoop.init [b]) a ∧ a.main = .finished ∧ a.sampled = b := by
  have sample_all : ∀ (xs : List Bytes) (s : AggLoop.St Bytes), s.main = .sampling xs →
      AggLoop.Reach (AggLoop.init [b]) s →
      ∃ s', AggLoop.Reach (AggLoop.init [b]) s' ∧ s'.main = .sampling [] ∧ s'.sampled = s.sampled ++ xs ∧
        s'.rc = s.rc ∧ s'.rcClosed = s.rcClosed ∧ s'.ticker = s.ticker := by
    intro xs
    induction xs with
    | nil => intro s hm hr; exact ⟨s, hr, hm, by simp, rfl, rfl, rfl⟩
    | cons x xs ih =>
      intro s hm hr
      obtain ⟨s', h1, h2, h3, h4, h5, h6⟩ := ih _ rfl (.step hr (.sample s x xs hm))
      exact ⟨s', h1, h2, by simpa [List.append_assoc] using h3, h4, h5, h6⟩
  have hr : AggLoop.Reach (AggLoop.init [b]) _ :=
    .step (.step (.step (.step (.refl (s0 := AggLoop.init [b])) (.arrive _ b [] rfl)) (.close _ rfl rfl))
      (.recv _ b [] rfl rfl)) (.mlock _ b rfl rfl)
  obtain ⟨s', h1, h2, h3, h4, h5, h6⟩ := sample_all b _ rfl hr
  have hr2 : AggLoop.Reach (AggLoop.init [b]) _ :=
    .step (.step (.step (.step h1 (.munlock s' h2)) (.eof _ rfl h4 h5)) (.handshake _ rfl h6)) (.final _ rfl)
  exact ⟨_, hr2, rfl, by simpa [AggLoop.init] using h3⟩

def exCfg : Config := ⟨2, 1, 5, 3, 2, fun _ n => n % 2 = 0⟩
def exCls (l : Line) : Cls := if l.text.contains 120 then .unmatched else .matched
/-- two files, `a\nx\n"b,\n` and `a\n` -/
def exData : List Bytes := [[97, 10, 120, 10, 34, 98, 44, 10], [97, 10]]

/-- `Terminal` is inhabited for a concrete corpus of two files, three workers, two readers, batch size 2 –
and every such terminal history is a permutation of the reference `["a", "\"b,", "a"]`. -/
example : ∃ h, Terminal exCls (·.text) exCfg exData h ∧ h.Perm [[97], [34, 98, 44], [97]] := by
  obtain ⟨s, hr, hd⟩ := C01.pipeline_reaches_end exCls (R := exCfg.R) (B := exCfg.B) (K := exCfg.K)
    (by decide) (by decide) (by decide) _ (pipelineInit exCfg exData) _ .refl (Nat.le_refl _)
  obtain ⟨a, ha, hf, hs⟩ := aggloop_runs (s.consumed.map (·.text))
  have ht : Terminal exCls (·.text) exCfg exData a.sampled := ⟨s, [s.consumed.map (·.text)], a, hr, hd, by simp, ha, hf, rfl⟩
  refine ⟨_, ht, ?_⟩
  have := terminal_perm exCls (·.text) exCfg (by decide) exData _ ht
  have e : refSamples exCls (·.text) exData = [[97], [34, 98, 44], [97]] := by decide +kernel
  rwa [e] at this

/-- the reference CSV of that corpus, `group,value⏎a,2⏎"""b,",1⏎`: the key `"b,` needs quoting, and reads back -/
example : refCounterCsv [[97], [34, 98, 44], [97]] =
      hdrGroup ++ [44] ++ hdrValue ++ [10, 97, 44, 50, 10, 34, 34, 34, 98, 44, 34, 44, 49, 10] ∧
    parseCsv (refCounterCsv [[97], [34, 98, 44], [97]]) = [[hdrGroup, hdrValue], [[97], [50]], [[34, 98, 44], [49]]] := by
  decide +kernel

/-- the hypotheses of `csv_roundtrip`, `csv_of_state_deterministic`, `file_split_lines` on concrete values -/
example : ∀ r ∈ ([[[44, 34], [13], []], [[10, 13, 10]]] : List (List Bytes)), r ≠ [] := by decide
example : IsRangeOf [[98], [97]] (Counter.run [[97], [98], [97]]).items :=
  ⟨by decide, fun k => by
    rw [← mem_akeys_iff]
    exact (show List.Perm [[98], [97]] (akeys (Counter.run [[97], [98], [97]]).items) by decide +kernel).mem_iff⟩
example : SortContract (isortA (α := NV)) := C13.sort_contract_satisfiable
example : CleanLine [97, 13, 98] ∧ ¬ CleanLine [97, 13] := by
  refine ⟨⟨by decide, by decide⟩, fun h => h.2 (by decide)⟩
example : ([[[97], [98]], [[99]]] : List (List Bytes)).flatten.Perm ([[[99], [97]], [], [[98]]] : List (List Bytes)).flatten := by
  decide +kernel

/-! ## `rare reduce` -/

/-- "any accumulator with one reader and one worker".  For EVERY accumulating group `s0` (any group, accumulator
and sort definitions – order-sensitive ones included, e.g. `last={2}` or `cat={.}{3}`), one source and one worker:
whatever batch size, channel depths, flush-timer behaviour and schedule, the sample history is the input order
(C02 `fifo_order`), so the run is refused (an expression panics) in both cases or accepted in both with THE SAME
aggregator; and the complete result of `rare reduce` – final render, `--csv` text, exit status – is the same for
every order in which Go ranges over the map.  `less` is the pure comparison the render callback's sorter denotes
(`ByContextual()` is one under C13 `contextual_partial`); `--sort-reverse` (`Reverse` = `!less a b`, not a strict
order) is covered: on the distinct keys of a map it sorts like the flipped order (`groupsWith_reverse`). -/
theorem reduce_fifo_deterministic (cls : Line → Cls) (key : Line → Bytes) (data : Bytes)
    (cfg₁ cfg₂ : Config) (hW₁ : cfg₁.W = 1) (hW₂ : cfg₂.W = 1) (h₁ h₂ : List Bytes) (c₁ c₂ : Counters)
    (t₁ : TerminalC cls key cfg₁ [data] h₁ c₁) (t₂ : TerminalC cls key cfg₂ [data] h₂ c₂)
    (a : ReduceArgs) (maxKeylen : Nat) (s0 : AccGroup) (h0 : AccReach s0)
    (less : Bytes → Bytes → Bool) (hlt : C07.StrictTotal less)
    (ord₁ ord₂ : AccGroup → List Bytes) (hord₁ : ∀ s, AccReach s → IsRangeOf (ord₁ s) s.data) (hord₂ : ∀ s, AccReach s → IsRangeOf (ord₂ s) s.data)
    (readErrors : Int) :
    h₁ = refSamples cls key [data] ∧ h₂ = h₁ ∧ c₁ = refCounters cls [data] ∧ c₂ = c₁ ∧ s0.run h₁ = s0.run h₂ ∧
    SameOutcome (reduceRun a maxKeylen s0 less h₁ ord₁ c₁ readErrors)
      (reduceRun a maxKeylen s0 less h₂ ord₂ c₂ readErrors) := by
  have e1 := terminal_fifo cls key cfg₁ hW₁ data h₁ t₁.terminal
  have e2 := terminal_fifo cls key cfg₂ hW₂ data h₂ t₂.terminal
  have k1 := terminalC_counters (by omega) t₁
  have k2 := terminalC_counters (by omega) t₂
  have eh : h₂ = h₁ := e2.trans e1.symm
  have ec : c₂ = c₁ := k2.trans k1.symm
  refine ⟨e1, eh, k1, ec, by rw [eh], ?_⟩
  subst eh ec
  apply reduceRun_sameOutcome a maxKeylen s0 less hlt h₂ h₂ _ ord₁ ord₂ hord₁ hord₂
  cases hr : s0.run h₂ with
  | error m => exact Or.inl ⟨m, m, rfl, rfl⟩
  | ok s => exact Or.inr ⟨s, s, rfl, rfl, ObsEq.refl s, reach_run h0 h₂ hr, reach_run h0 h₂ hr⟩

/-- Order-insensitive accumulators, ANY number of readers and workers, any number of files.  Hypothesis on the
compiled accumulator expressions (`RowComm`): two consecutive samples of one group can be exchanged – the row
ends up the same (or the same panic).  Then two terminal states of the whole program under any two tunings and
schedules, both accepted, hold aggregators that answer every accessor alike (each group's row is the fold over
the group's sub-multiset of samples: `accgroup_group_history` ∘ `pipeline_final`), and the complete result of
`rare reduce` is the same. -/
theorem reduce_commutative_schedule_independent (cls : Line → Cls) (key : Line → Bytes) (datas : List Bytes)
    (cfg₁ cfg₂ : Config) (hW₁ : 1 ≤ cfg₁.W) (hW₂ : 1 ≤ cfg₂.W) (h₁ h₂ : List Bytes) (c₁ c₂ : Counters)
    (t₁ : TerminalC cls key cfg₁ datas h₁ c₁) (t₂ : TerminalC cls key cfg₂ datas h₂ c₂)
    (a : ReduceArgs) (maxKeylen : Nat) (s0 : AccGroup) (h0 : AccReach s0) (hempty : s0.data = [])
    (hcomm : RowComm s0.specCols)
    (s₁ s₂ : AccGroup) (r₁ : s0.run h₁ = .ok s₁) (r₂ : s0.run h₂ = .ok s₂)
    (less : Bytes → Bytes → Bool) (hlt : C07.StrictTotal less)
    (ord₁ ord₂ : AccGroup → List Bytes) (hord₁ : ∀ s, AccReach s → IsRangeOf (ord₁ s) s.data) (hord₂ : ∀ s, AccReach s → IsRangeOf (ord₂ s) s.data)
    (readErrors : Int) :
    h₁.Perm h₂ ∧ c₁ = refCounters cls datas ∧ c₂ = c₁ ∧
    (∀ k, aget s₁.data k = aget s₂.data k) ∧ SameDefs s₁ s₂ ∧
    SameOutcome (reduceRun a maxKeylen s0 less h₁ ord₁ c₁ readErrors)
      (reduceRun a maxKeylen s0 less h₂ ord₂ c₂ readErrors) := by
  have p1 := terminal_perm cls key cfg₁ hW₁ datas h₁ t₁.terminal
  have p2 := terminal_perm cls key cfg₂ hW₂ datas h₂ t₂.terminal
  have hp : h₁.Perm h₂ := p1.trans p2.symm
  have k1 := terminalC_counters hW₁ t₁
  have k2 := terminalC_counters hW₂ t₂
  have ec : c₂ = c₁ := k2.trans k1.symm
  have ho := run_perm_obsEq s0 s₁ s₂ h0 hempty hcomm hp r₁ r₂
  refine ⟨hp, k1, ec, ho.2, ho.1, ?_⟩
  subst ec
  exact reduceRun_sameOutcome a maxKeylen s0 less hlt h₁ h₂
    (Or.inr ⟨s₁, s₂, r₁, r₂, ho, reach_run h0 h₁ r₁, reach_run h0 h₂ r₂⟩) ord₁ ord₂ hord₁ hord₂ c₂ readErrors

/-- The algebraic hypothesis for the accumulators people write.  A column that reads only its own accumulator
`{.}` and the sampled element, cannot panic, and whose update right-commutes (`CommCol`) – in particular the stages
the modelled builders return for `{sumi {.} {i}}`, `{maxi {.} {i}}`, `{mini {.} {i}}` and the counter `{sumi {.} n}` –
gives `RowComm`, for any number of such columns. -/
theorem reduce_commutative_accumulators :
    (∀ cols : List SCol, (∀ c ∈ cols, CommCol c) → RowComm cols) ∧
    (∀ name initial i, CommCol (AccDataDef.toSpec ⟨name, foldDotMatch Rare.Expr.Funcs.Arith.opSum i, initial⟩)) ∧
    (∀ name initial i, CommCol (AccDataDef.toSpec ⟨name, foldDotMatch Rare.Expr.Funcs.Arith.opMax i, initial⟩)) ∧
    (∀ name initial i, CommCol (AccDataDef.toSpec ⟨name, foldDotMatch Rare.Expr.Funcs.Arith.opMin i, initial⟩)) ∧
    (∀ op name initial n, CommCol (AccDataDef.toSpec ⟨name, foldDotLit op n, initial⟩)) ∧
    (∀ op i, Rare.Expr.Funcs.Arith.intHelper op [Comp.key dot, Comp.match_ i] = Rare.Expr.ok (foldDotMatch op i)) ∧
    (∀ op lit n, atoi lit = some n →
      Rare.Expr.Funcs.Arith.intHelper op [Comp.key dot, Stage.lit lit] = Rare.Expr.ok (foldDotLit op n)) :=
  ⟨rowComm_of_commCols, fun n i k => commCol_foldDotMatch _ commOp_sum n i k,
   fun n i k => commCol_foldDotMatch _ commOp_max n i k, fun n i k => commCol_foldDotMatch _ commOp_min n i k,
   fun op n i k => commCol_foldDotLit op n i k, intHelper_dot_match, intHelper_dot_lit⟩

/-- What the aggregator `reduceFunction` configures satisfies the hypotheses of the two theorems above, and the
simple (no group, no `--table`) output cannot panic on it: every state sampled from it keeps the column names. -/
theorem reduce_setup (compile : Bytes → Option Stage) (a : ReduceArgs) (s0 : AccGroup) (maxKeylen : Nat)
    (h : reduceSetup compile a = .ok (s0, maxKeylen)) :
    AccReach s0 ∧ s0.data = [] ∧
    ∀ (hist : List Bytes) (s : AccGroup) (c : Counters), s0.run hist = .ok s → ∃ lines, reduceSimple s maxKeylen c = .ok lines := by
  have inv := reduceSetup_inv compile a s0 maxKeylen h
  refine ⟨inv.reach, inv.nodata, fun hist s c hr => ?_⟩
  apply reduceSimple_ok
  have sd := run_sameDefs inv.reach hist hr
  intro n hn
  apply inv.keylen
  simpa [AccGroup.dataCols, sd.2.1] using hn

/-- `reduce --csv`: the RFC 4180 reader of `Spec/C03` gives back, for every reachable aggregator with at least one
column, the header and – per group, each exactly once, in `Groups(ByName)` order – the key parts padded to the
number of group columns followed by the group's row, whatever bytes the values contain.  The key parts ARE the
values of the group expressions iff no value contains NUL (`groupkey_parts`): a single empty value has the key ""
without parts, and the padding supplies its empty cell.  (The reused row buffer leaks nothing: 6a022dd.) -/
theorem reduce_csv_roundtrip (s : AccGroup) (hs : AccReach s) (hcols : 1 ≤ s.colCount)
    (order gs : List Bytes) (hr : IsRangeOf order s.data) (hg : s.groupsWith bLt order = .ok gs) :
    reduceCsv s order = .ok (writeCsv (writeAccumulatorRows s gs)) ∧
    parseCsv (writeCsv (writeAccumulatorRows s gs)) =
      (s.groupCols ++ s.dataCols) :: gs.map (fun g => padParts s.groupColCount (groupKeyParts g) ++ s.dataNoCopy g) ∧
    gs.Perm order ∧
    (∀ g ∈ gs, ∃ row, aget s.data g = some row ∧ s.dataNoCopy g = row ∧ s.dataOf g = row ∧ row.length = s.dataCols.length) ∧
    (∀ vs : List Bytes, vs.length = s.groupColCount → (∀ v ∈ vs, (0 : UInt8) ∉ v) →
      padParts s.groupColCount (groupKeyParts (nulJoin vs)) = vs) ∧
    (∀ g, reduceTableRow s g = padParts s.groupColCount (groupKeyParts g) ++ s.dataOf g) := by
  have hperm := (groupsWith_spec s bLt bLt_strictTotal order gs hg).1
  have hsome : ∀ g ∈ gs, (aget s.data g).isSome = true := fun g hgm => (hr.2 g).mp (hperm.mem_iff.mp hgm)
  have hdata : ∀ g ∈ gs, (s.dataNoCopy g).length = s.colDef.length :=
    fun g hgm => dataNoCopy_length_of_reach s hs g (hsome g hgm)
  have hrows := writeAccumulatorRows_eq s gs hdata
  refine ⟨by simp [reduceCsv, hg, Except.map], ?_, hperm, ?_, ?_, reduceTableRow_eq s⟩
  · rw [csv_roundtrip _ ?_, hrows]
    · rfl
    · rw [hrows]
      intro r hrm
      rcases List.mem_cons.mp hrm with rfl | hrm
      · intro h0
        have : (s.groupCols ++ s.dataCols).length = s.colCount := by
          simp [AccGroup.groupCols, AccGroup.dataCols, AccGroup.colCount]
        rw [h0] at this; simp at this; omega
      · obtain ⟨g, hgm, rfl⟩ := List.mem_map.mp hrm
        intro h0
        have := csvCells_length s g (hdata g hgm)
        rw [h0] at this; simp at this; omega
  · intro g hgm
    cases hrow : aget s.data g with
    | none => have := hsome g hgm; rw [hrow] at this; cases this
    | some row =>
      have hl := (reach_accwf hs).rows g row hrow
      refine ⟨row, rfl, by simp [AccGroup.dataNoCopy, hrow], dataOf_row s g row hrow hl, by simp [hl, AccGroup.dataCols]⟩
  · intro vs hl hfree
    rw [← hl]; exact padParts_nulJoin vs hfree

/-- The guard `1 ≤ colCount` of `reduce_csv_roundtrip` is needed: `rare reduce` without `-g` and `-a` has no
columns, writes records without fields (empty lines), and those read back as records with one empty field. -/
theorem reduce_csv_roundtrip_guard_exact :
    writeAccumulatorRows {} [[]] = [[], []] ∧ parseCsv (writeCsv (writeAccumulatorRows {} [[]])) = [[[]], [[]]] := by
  decide +kernel

/-! ### non-vacuity for `rare reduce` -/

/-- `TerminalC` is inhabited for every corpus and every tuning with at least one reader slot and channel slot. -/
theorem terminalC_inhabited (cls : Line → Cls) (key : Line → Bytes) (cfg : Config) (datas : List Bytes)
    (hR : 1 ≤ cfg.R) (hB : 1 ≤ cfg.B) (hK : 1 ≤ cfg.K) : ∃ h c, TerminalC cls key cfg datas h c := by
  obtain ⟨s, hr, hd⟩ := C01.pipeline_reaches_end cls hR hB hK _ (pipelineInit cfg datas) _ .refl (Nat.le_refl _)
  obtain ⟨a, ha, hf, hs⟩ := aggloop_runs (s.consumed.map key)
  exact ⟨a.sampled, _, s, [s.consumed.map key], a, hr, hd, by simp, ha, hf, rfl, rfl⟩

/-- one reader, one worker, batch size 2 -/
def exCfg1 : Config := ⟨1, 1, 1, 1, 2, fun _ n => n % 2 = 0⟩
example : ∃ h c, TerminalC exCls (·.text) exCfg1 [[97, 10, 120, 10, 98, 10]] h c ∧ exCfg1.W = 1 := by
  obtain ⟨h, c, t⟩ := terminalC_inhabited exCls (·.text) exCfg1 [[97, 10, 120, 10, 98, 10]] (by decide) (by decide) (by decide)
  exact ⟨h, c, t, rfl⟩
example : ∃ h c, TerminalC exCls (·.text) exCfg exData h c ∧ 1 ≤ exCfg.W := by
  obtain ⟨h, c, t⟩ := terminalC_inhabited exCls (·.text) exCfg exData (by decide) (by decide) (by decide)
  exact ⟨h, c, t, by decide⟩

/-- `-g k={1} -a t={sumi {.} {2}} -a n={sumi {.} 1} -a m:-5={maxi {.} {2}}` as the builders compile it. -/
def exReduce : AccGroup :=
  let s1 := (({} : AccGroup).addGroupExpr [107] (some (Comp.match_ 1))).1
  let s2 := (s1.addDataExpr [116] (some (foldDotMatch Rare.Expr.Funcs.Arith.opSum 2)) [48]).1
  let s3 := (s2.addDataExpr [110] (some (foldDotLit Rare.Expr.Funcs.Arith.opSum 1)) [48]).1
  (s3.addDataExpr [109] (some (foldDotMatch Rare.Expr.Funcs.Arith.opMax 2)) [45, 53]).1

example : AccReach exReduce :=
  AccReach.step _ _ (.addData [109] (some (foldDotMatch Rare.Expr.Funcs.Arith.opMax 2)) [45, 53]) none
    (AccReach.step _ _ (.addData [110] (some (foldDotLit Rare.Expr.Funcs.Arith.opSum 1)) [48]) none
      (AccReach.step _ _ (.addData [116] (some (foldDotMatch Rare.Expr.Funcs.Arith.opSum 2)) [48]) none
        (AccReach.step _ _ (.addGroup [107] (some (Comp.match_ 1))) none AccReach.init rfl) rfl) rfl) rfl
example : exReduce.data = [] := rfl
example : RowComm exReduce.specCols := by
  apply reduce_commutative_accumulators.1
  intro c hc
  have : c = AccDataDef.toSpec ⟨[116], foldDotMatch Rare.Expr.Funcs.Arith.opSum 2, [48]⟩ ∨
      c = AccDataDef.toSpec ⟨[110], foldDotLit Rare.Expr.Funcs.Arith.opSum 1, [48]⟩ ∨
      c = AccDataDef.toSpec ⟨[109], foldDotMatch Rare.Expr.Funcs.Arith.opMax 2, [45, 53]⟩ := by
    simpa [exReduce, AccGroup.specCols, AccGroup.addDataExpr, AccGroup.addGroupExpr, aget, aset] using hc
  rcases this with rfl | rfl | rfl
  · exact reduce_commutative_accumulators.2.1 _ _ _
  · exact reduce_commutative_accumulators.2.2.2.2.1 _ _ _ _
  · exact reduce_commutative_accumulators.2.2.1 _ _ _
/-- samples `b NUL 7`, `a NUL -2`, `b NUL 5` and a permutation of them: the same rows, and (groups in `ByName`
order) the CSV `k,t,n,m⏎a,-2,1,-2⏎b,12,2,7⏎` (group `a`: the maximum of the initial -5 and -2). -/
example : (match exReduce.run [[98, 0, 55], [97, 0, 45, 50], [98, 0, 53]] with
      | .ok s => some (writeCsv (writeAccumulatorRows s [[97], [98]])) | .error _ => none) =
    some [107, 44, 116, 44, 110, 44, 109, 10, 97, 44, 45, 50, 44, 49, 44, 45, 50, 10, 98, 44, 49, 50, 44, 50, 44, 55, 10] ∧
    (match exReduce.run [[98, 0, 53], [98, 0, 55], [97, 0, 45, 50]] with
      | .ok s => some (writeCsv (writeAccumulatorRows s [[97], [98]])) | .error _ => none) =
    some [107, 44, 116, 44, 110, 44, 109, 10, 97, 44, 45, 50, 44, 49, 44, 45, 50, 10, 98, 44, 49, 50, 44, 50, 44, 55, 10] := by
  decide +kernel
example : ∃ gs, exReduce.groupsWith bLt [[98], [97]] = .ok gs := ⟨_, rfl⟩
example : C07.StrictTotal bLt := bLt_strictTotal
example : ∀ s, AccReach s → IsRangeOf (akeys s.data) s.data :=
  fun _ h => isRangeOf_akeys (reach_keys_nodup h)
/-- the set-up of `reduce -g k={1} -a n:7={1}` with a compiler that knows the template `{1}` only -/
example : ∃ s0 mk, reduceSetup (fun t => if t = [123, 49, 125] then some (Comp.match_ 1) else none)
    { group := [[107, 61, 123, 49, 125]], accum := [[110, 58, 55, 61, 123, 49, 125]] } = .ok (s0, mk) ∧ mk = 1 ∧
    s0.groupCols = [[107]] ∧ s0.dataCols = [[110]] ∧ s0.colDef.map (·.initial) = [[55]] := ⟨_, _, rfl, rfl, rfl, rfl, rfl⟩
example : parseKeyValInitial [97, 58, 49, 61, 120, 61] [48] = ([97], [49], [120, 61]) ∧ parseKeyValue [120] = ([120], [120]) := by decide +kernel

/-! ## `rare analyze`

`Model/C03Analyze.lean` states what the final render prints (`--nocolor --noformat`) as a function of the
aggregator `runF extra history` (`Model/C07NumF64.lean`: the float computation of numerical.go bit for bit on the
software binary64 model) and of the arrangement `sort.Sort` left in `values`.

FULL STATEMENT WANTED (the property's claim for `analyze`):
  for two sample histories that are permutations of each other, `analyzeLines` is the same text.
It is FALSE for `Mean:` and `StdDev:` (Welford's recurrence in binary64 is order sensitive in the last bits, and
the 4-decimal rendering shows it when the exact value is a tie at the 5th decimal or the magnitude exceeds 2^39):
`analyze_mean_print_order_dependent_counterexample` (known finding F26).  Proved instead: every OTHER line is
exactly order independent (`analyze_order_independent_partial`), and in exact arithmetic mean and variance are
functions of the multiset (`analyze_mean_stddev_exact_perm`). -/

/-- Count, Min, Max, the parse-error count, every order statistic (Median, Mode, every `-q` quantile, with or
without `--reverse`) and the exit status are EXACTLY the same for two sample histories that are permutations of
each other – whatever sorting algorithm `sort.Sort` is (`IsSortedF`: any sorted arrangement) – when no sample is
NaN or `-0` (`Ordinary`; those two have several bit patterns / signs per place in the order, and `-0` prints as
`-0.0000`).  Hence the two final renders differ at most in line 1 (`Mean:`) and line 2 (`StdDev:`). -/
theorem analyze_order_independent_partial (a : AnalyzeArgs) (quantiles : List F64) (h₁ h₂ : List Bytes)
    (hp : h₁.Perm h₂) (ho : ∀ x ∈ parsedValues h₁, Ordinary x) (s₁ s₂ : List F64)
    (hs₁ : IsSortedF a.reverse s₁ (runF a.extra h₁).values) (hs₂ : IsSortedF a.reverse s₂ (runF a.extra h₂).values)
    (c : Counters) (readErrors : Int) :
    (runF a.extra h₁).samples = (runF a.extra h₂).samples ∧ (runF a.extra h₁).min = (runF a.extra h₂).min ∧
    (runF a.extra h₁).max = (runF a.extra h₂).max ∧ (runF a.extra h₁).parseErrors = (runF a.extra h₂).parseErrors ∧
    s₁ = s₂ ∧ analyzeExtra s₁ quantiles = analyzeExtra s₂ quantiles ∧
    analyzeExit readErrors (runF a.extra h₁) c = analyzeExit readErrors (runF a.extra h₂) c ∧
    (∀ l₁ l₂, analyzeLines a quantiles (runF a.extra h₁) s₁ c = .ok l₁ →
      analyzeLines a quantiles (runF a.extra h₂) s₂ c = .ok l₂ →
      l₁.length = l₂.length ∧ ∀ i, i ≠ 1 → i ≠ 2 → l₁[i]? = l₂[i]?) ∧
    ((runF a.extra h₁).mean = (runF a.extra h₂).mean → (runF a.extra h₁).variance = (runF a.extra h₂).variance →
      analyzeLines a quantiles (runF a.extra h₁) s₁ c = analyzeLines a quantiles (runF a.extra h₂) s₂ c) := by
  obtain ⟨pv, pe⟩ := parsedValues_perm hp
  obtain ⟨f1s, f1mn, f1mx, f1me, f1va, f1pe⟩ := runF_fields a.extra h₁
  obtain ⟨f2s, f2mn, f2mx, f2me, f2va, f2pe⟩ := runF_fields a.extra h₂
  obtain ⟨es, emn, emx⟩ := runFv_minmax_perm a.extra pv ho
  have hsamples : (runF a.extra h₁).samples = (runF a.extra h₂).samples := by rw [f1s, f2s, es]
  have hmin : (runF a.extra h₁).min = (runF a.extra h₂).min := by rw [f1mn, f2mn, emn]
  have hmax : (runF a.extra h₁).max = (runF a.extra h₂).max := by rw [f1mx, f2mx, emx]
  have hpe : (runF a.extra h₁).parseErrors = (runF a.extra h₂).parseErrors := by rw [f1pe, f2pe, pe]
  have hsort : s₁ = s₂ := by
    rw [runF_values] at hs₁ hs₂
    cases he : a.extra with
    | false =>
      rw [he] at hs₁ hs₂
      simp only [Bool.false_eq_true, if_false] at hs₁ hs₂
      rw [hs₁.1.eq_nil, hs₂.1.eq_nil]
    | true =>
      rw [he] at hs₁ hs₂
      simp only [if_true] at hs₁ hs₂
      exact sorted_unique_ordinary a.reverse s₁ s₂ _ _ pv hs₁ hs₂ ho
  have hexit : analyzeExit readErrors (runF a.extra h₁) c = analyzeExit readErrors (runF a.extra h₂) c := by
    unfold analyzeExit; rw [hpe]
  refine ⟨hsamples, hmin, hmax, hpe, hsort, by rw [hsort], hexit, ?_, ?_⟩
  · intro l₁ l₂ e1 e2
    subst hsort
    -- the five basic lines differ at most in the second and third, whatever follows them
    have key : ∀ tail : List Bytes,
        (analyzeBasic (runF a.extra h₁) ++ tail).length = (analyzeBasic (runF a.extra h₂) ++ tail).length ∧
        ∀ i, i ≠ 1 → i ≠ 2 → (analyzeBasic (runF a.extra h₁) ++ tail)[i]? = (analyzeBasic (runF a.extra h₂) ++ tail)[i]? := by
      intro tail
      unfold analyzeBasic
      rw [hsamples, hmin, hmax]
      refine ⟨by simp only [List.length_append, List.length_cons], fun i h1 h2 => ?_⟩
      match i with
      | 0 => simp only [List.cons_append, List.getElem?_cons_zero]
      | 1 => exact absurd rfl h1
      | 2 => exact absurd rfl h2
      | n + 3 => simp only [List.cons_append, List.getElem?_cons_succ]
    unfold analyzeLines at e1 e2
    rw [← hpe] at e2
    by_cases hx : a.extra = true
    · rw [if_pos hx] at e1 e2
      cases hex : analyzeExtra s₁ quantiles with
      | error m => rw [hex] at e1; cases e1
      | ok ex =>
        rw [hex] at e1 e2
        simp only [Except.map, Except.ok.injEq] at e1 e2
        subst e1 e2
        rw [List.append_assoc, List.append_assoc]
        exact key _
    · rw [if_neg hx] at e1 e2
      simp only [Except.ok.injEq] at e1 e2
      subst e1 e2
      exact key _
  · intro hmean hvar
    subst hsort
    have hsd : (runF a.extra h₁).stdDev = (runF a.extra h₂).stdDev := by
      unfold NumF.stdDev NumF.varianceF Numerical.varianceOf
      rw [hsamples, hvar]
    unfold analyzeLines analyzeBasic
    rw [hsamples, hmin, hmax, hpe, hmean, hsd]

/-- The same composed with the pipeline: two terminal states of the whole program for the same files under any
two tunings and schedules print – apart from the `Mean:` and `StdDev:` lines – the same final render and end
with the same exit status. -/
theorem analyze_schedule_independent_partial (cls : Line → Cls) (key : Line → Bytes) (datas : List Bytes)
    (cfg₁ cfg₂ : Config) (hW₁ : 1 ≤ cfg₁.W) (hW₂ : 1 ≤ cfg₂.W) (h₁ h₂ : List Bytes) (c₁ c₂ : Counters)
    (t₁ : TerminalC cls key cfg₁ datas h₁ c₁) (t₂ : TerminalC cls key cfg₂ datas h₂ c₂)
    (a : AnalyzeArgs) (quantiles : List F64) (ho : ∀ x ∈ parsedValues (refSamples cls key datas), Ordinary x)
    (sort₁ sort₂ : List F64 → List F64) (hsort₁ : ∀ l, IsSortedF a.reverse (sort₁ l) l)
    (hsort₂ : ∀ l, IsSortedF a.reverse (sort₂ l) l) (readErrors : Int) :
    h₁.Perm h₂ ∧ c₁ = c₂ ∧
    ∀ r₁ r₂, analyzeRun a quantiles h₁ sort₁ c₁ readErrors = .ok r₁ → analyzeRun a quantiles h₂ sort₂ c₂ readErrors = .ok r₂ →
      r₁.exit = r₂.exit ∧ r₁.lines.length = r₂.lines.length ∧ ∀ i, i ≠ 1 → i ≠ 2 → r₁.lines[i]? = r₂.lines[i]? := by
  have p1 := terminal_perm cls key cfg₁ hW₁ datas h₁ t₁.terminal
  have p2 := terminal_perm cls key cfg₂ hW₂ datas h₂ t₂.terminal
  have hp : h₁.Perm h₂ := p1.trans p2.symm
  have ec : c₁ = c₂ := (terminalC_counters hW₁ t₁).trans (terminalC_counters hW₂ t₂).symm
  refine ⟨hp, ec, ?_⟩
  subst ec
  intro r₁ r₂ e1 e2
  have ho1 : ∀ x ∈ parsedValues h₁, Ordinary x :=
    fun x hx => ho x ((parsedValues_perm p1).1.mem_iff.mp hx)
  have := analyze_order_independent_partial a quantiles h₁ h₂ hp ho1 _ _ (hsort₁ _) (hsort₂ _) c₁ readErrors
  obtain ⟨_, _, _, _, _, _, hexit, hlines, _⟩ := this
  obtain ⟨hl1, hx1⟩ := analyzeRun_eq_ok.mp e1
  obtain ⟨hl2, hx2⟩ := analyzeRun_eq_ok.mp e2
  exact ⟨by rw [hx1, hx2, hexit], hlines _ _ hl1 hl2⟩

/-- In exact arithmetic Welford's recurrence (C07 `welford_exact`) gives mean = Σ/n, M2 = Σ(x-mean)², sample
variance = M2/(n-1): functions of the multiset of samples – permuting the samples changes nothing.  What the
binary64 computation adds is one rounding per operation, in an order-dependent sequence. -/
theorem analyze_mean_stddev_exact_perm (keep : Bool) (l₁ l₂ : List Rat) (hp : l₁.Perm l₂) :
    (runQ keep l₁).samples = (runQ keep l₂).samples ∧ (runQ keep l₁).mean = (runQ keep l₂).mean ∧
    (runQ keep l₁).variance = (runQ keep l₂).variance ∧
    (runQ keep l₁).varianceOf ratOps = (runQ keep l₂).varianceOf ratOps ∧
    (runQ keep l₁).mean = ratSum l₁ / l₁.length := by
  obtain ⟨a1, a2, a3, a4, _⟩ := C07.welford_exact keep l₁
  obtain ⟨b1, b2, b3, b4, _⟩ := C07.welford_exact keep l₂
  exact ⟨by rw [a1, b1, hp.length_eq], by rw [a2, b2, mean_perm hp], by rw [a3, b3, m2_perm hp],
    by rw [a4, b4, sampleVariance_perm hp], by rw [a2]; rfl⟩

/-- F26 (known finding).  The two sample histories `2`, `0.0001` and `0.0001`, `2` – e.g. the files `2⏎` and
`0.0001⏎` given to `rare analyze` in either order, or one schedule of two workers against another – are
permutations of each other, all values are ordinary, and the PRINTED mean differs: `1.0000` against `1.0001`
(the exact mean of the two binary64 values is 1.00005000000000000000239…, a hair above the tie of the 4-decimal
rendering, so the specification prints 1.0001; the binary64 recurrence lands on either side of the tie depending
on the order).  So the full statement (equal final renders for permuted histories) is false. -/
theorem analyze_mean_print_order_dependent_counterexample :
    let h₁ : List Bytes := [[50], [48, 46, 48, 48, 48, 49]]
    let h₂ : List Bytes := [[48, 46, 48, 48, 48, 49], [50]]
    h₁.Perm h₂ ∧
    hf (runF false h₁).mean = [49, 46, 48, 48, 48, 48] ∧ hf (runF false h₂).mean = [49, 46, 48, 48, 48, 49] ∧
    (runF false h₁).samples = 2 ∧ hf (runF false h₁).stdDev = hf (runF false h₂).stdDev ∧
    (match analyzeLines {} [] (runF false h₁) [] ⟨2, 2, 0⟩, analyzeLines {} [] (runF false h₂) [] ⟨2, 2, 0⟩ with
      | .ok l₁, .ok l₂ => decide (l₁ ≠ l₂ ∧ l₁[1]? ≠ l₂[1]? ∧ l₁[0]? = l₂[0]? ∧ l₁.drop 2 = l₂.drop 2)
      | _, _ => false) = true := by
  refine ⟨List.Perm.swap _ _ _, ?_⟩
  unfold runF NumF.sample NumF.samplef NumF.stdDev NumF.varianceF f64Ops
  simp (config := { zeta := false }) only [F64.Fast.ops]
  decide +kernel

/-! ### non-vacuity for `rare analyze` -/

/-- the samples `7`, `0.25`, `x` (not a number), `7`, `-3e2` and a permutation: ordinary values, a sorted arrangement
exists for both (`analyzeF`), and the final render of the first with `--extra -q 50` -/
example : ([[55], [48, 46, 50, 53], [120], [55], [45, 51, 101, 50]] : List Bytes).Perm [[45, 51, 101, 50], [55], [120], [55], [48, 46, 50, 53]] := by
  decide +kernel
example : ∀ x ∈ parsedValues [[55], [48, 46, 50, 53], [120], [55], [45, 51, 101, 50]], Ordinary x := by decide +kernel
example (rev : Bool) (l : List F64) : IsSortedF rev (analyzeF rev l) l := analyzeF_sorted rev l
example : (analyzeRun { extra := true, quantiles := [[53, 48]] } [F64.ofInt 50] [[55], [48, 46, 50, 53], [120], [55], [45, 51, 101, 50]]
      (fun _ => parsedValues [[45, 51, 101, 50], [48, 46, 50, 53], [55], [55]]) ⟨5, 6, 0⟩ 0).toOption =
    some { lines := [ascii "Samples:  4", ascii "Mean:     -71.4375", ascii "StdDev:   152.4082", ascii "Min:      -300.0000",
                    ascii "Max:      7.0000", [], ascii "Median:   7.0000", ascii "Mode:     7.0000", ascii "P50.0000: 7.0000",
                    [], ascii "Matched: 5 / 6 (Errors: 1)"], exit := 2 } := by
  refine congrArg Except.toOption (analyzeRun_eq_ok.mpr ⟨C01.ok_of_toOption ?_, by decide +kernel⟩)
  unfold analyzeLines analyzeBasic runF NumF.sample NumF.samplef NumF.stdDev NumF.varianceF f64Ops
  simp (config := { zeta := false }) only [F64.Fast.ops]
  decide +kernel
example : (parseQuantiles [[57, 48], [120]]).toOption = none ∧ ¬ Ordinary (F64.zero true) ∧ ¬ Ordinary F64.nan := by decide +kernel
example : ([1, 2, 4] : List Rat).Perm [4, 1, 2] := by decide

/-! ## the wiring of the commands, regenerated from the Go source on every run (`Rare/Gen/C03.lean`)

`harness/extract/c03.go` reads, from the AST of /repo: for every aggregating command its aggregator constructor,
the aggregator variable handed to `RunAggregationLoop`, `TryWriteCSV` and `DetermineErrorState`, its sorter flags
with their defaults, its CSV writer and the order of the final steps; for every `Write…` of `pkg/csv/aggWriters.go`
what it ranges over, which `sorting.…` value it hands to which accessor and every method it calls on the aggregator;
the package-level sorters of `sorting/namevalue.go`; the if-chain of `DetermineErrorState`.  The theorems below are
stated ABOUT those generated definitions, so a command switched to another writer or aggregator, a writer handed a
stateful / non-total / other sorter or ranging over anything new, a changed default, a reordered final step or a
changed exit condition stops a proof from checking. -/

/-- The sorter expressions the CSV writers name in the source denote exactly the comparators of the model:
`WriteCounter` → `ItemsSortedBy(…, NVValueSorter)`, `WriteTable` → `OrderedColumns/OrderedRows(NVNameSorter)`,
`WriteSubCounter` → `ItemsSorted(NVNameSorter)`, `WriteAccumulator` → `Groups(ByName)`; all of them pure
functions of the two rows (no inferring closure, no oracle). -/
theorem csv_sorters_from_source :
    SortExpr.nvLess Gen.C03.sorterVars ((findWriter Gen.C03.csvWriters "WriteCounter").sorterOf "ItemsSortedBy") = nvValueLess ∧
    SortExpr.nvLess Gen.C03.sorterVars ((findWriter Gen.C03.csvWriters "WriteTable").sorterOf "OrderedColumns") = nvNameLess ∧
    SortExpr.nvLess Gen.C03.sorterVars ((findWriter Gen.C03.csvWriters "WriteTable").sorterOf "OrderedRows") = nvNameLess ∧
    SortExpr.nvLess Gen.C03.sorterVars ((findWriter Gen.C03.csvWriters "WriteSubCounter").sorterOf "ItemsSorted") = nvNameLess ∧
    SortExpr.nameLess Gen.C03.sorterVars ((findWriter Gen.C03.csvWriters "WriteAccumulator").sorterOf "Groups") = bLt :=
  ⟨rfl, rfl, rfl, rfl, by rw [bLt_eq_bytesLt]; rfl⟩

/-- What the CSV writers do with their aggregator: every `range` is over the result of a SORTED accessor
(or over a local slice / the sub-item vector) – none ranges over a map – and these are all the methods they call. -/
theorem csv_writers_shape :
    Gen.C03.csvWriters.map (fun w => (w.name, w.aggType, w.ranges, w.aggCalls)) =
      [("WriteTable", "aggregation.TableAggregator", ["agg.OrderedRows(sorting.NVNameSorter)", "cols"], ["OrderedColumns", "OrderedRows"]),
       ("WriteAccumulator", "aggregation.AccumulatingGroup", ["aggr.Groups(sorting.ByName)"],
        ["ColCount", "GroupCols", "DataCols", "ColCount", "Groups", "GroupColCount", "GroupColCount", "DataNoCopy"]),
       ("WriteCounter", "aggregation.MatchCounter", ["aggr.ItemsSortedBy(aggr.GroupCount(), sorting.NVValueSorter)"],
        ["ItemsSortedBy", "GroupCount"]),
       ("WriteSubCounter", "aggregation.SubKeyCounter", ["aggr.ItemsSorted(sorting.NVNameSorter)", "item.Item.Items()"],
        ["SubKeys", "ItemsSorted"])] :=
  rfl

/-- Every aggregating command: ONE aggregator – the one it constructs – is sampled by `RunAggregationLoop`,
exported by `TryWriteCSV` and asked for parse errors by `DetermineErrorState`; the CSV writer is the one for that
aggregator type; and the final steps come in the order aggregation loop (with its final render) → close the
terminal → write the CSV → compute the exit status. -/
theorem commands_wiring :
    Gen.C03.commands.map (fun c => (c.name, c.aggCtor, c.csvWriter)) =
      [("histo", "aggregation.NewCounter", "csv.WriteCounter"), ("table", "aggregation.NewTable", "csv.WriteTable"),
       ("heatmap", "aggregation.NewTable", "csv.WriteTable"), ("spark", "aggregation.NewTable", "csv.WriteTable"),
       ("bargraph", "aggregation.NewSubKeyCounter", "csv.WriteSubCounter"),
       ("analyze", "aggregation.NewNumericalAggregator", ""),
       ("reduce", "aggregation.NewAccumulatingGroup", "csv.WriteAccumulator")] ∧
    (∀ c ∈ Gen.C03.commands, c.loopAgg = c.aggVar ∧ c.exitArgs.length = 3 ∧ c.exitArgs.getLast? = some c.aggVar ∧
      (if c.csvWriter = "" then c.order = ["RunAggregationLoop", "Close", "DetermineErrorState"]
       else c.csvAgg = c.aggVar ∧ c.order = ["RunAggregationLoop", "Close", "TryWriteCSV", "DetermineErrorState"])) :=
  ⟨rfl, by decide +kernel⟩

/-- The sorter flags of every command and their defaults (`helpers.DefaultSortFlag` is `--sort numeric`), the
sorter `reduce` builds without a flag (`ByContextual()`, reversed by `--sort-reverse`), and: every default is a
name `BuildSorter` accepts (C13 `parseSort` / `lookupMode`), naming one of the modes C13 proves total (`value`:
by count then name; `numeric`). -/
theorem command_sorters :
    Gen.C03.commands.map (fun c => (c.name, c.sorterFlags.map (fun f => (f.2.1, f.2.2)))) =
      [("histo", [("sort", "value")]), ("table", [("sort-rows", "value"), ("sort-cols", "value")]),
       ("heatmap", [("sort-rows", "numeric"), ("sort-cols", "numeric")]),
       ("spark", [("sort-rows", "value"), ("sort-cols", "numeric")]), ("bargraph", [("sort", "numeric")]),
       ("analyze", []), ("reduce", [])] ∧
    Gen.C03.defaultSortFlag = ("sort", "numeric") ∧
    (findCommand Gen.C03.commands "reduce").otherSorters = [("sorter", .byContextual), ("sorter", .reverse (.other "sorter"))] ∧
    (∀ c ∈ Gen.C03.commands, ∀ f ∈ c.sorterFlags,
      (match parseSort asciiLower (asc f.2.2) with
       | .ok (name, rev) => (lookupMode asciiLower name == some .value && rev) || (lookupMode asciiLower name == some .numeric && !rev)
       | .error _ => false) = true) :=
  ⟨rfl, rfl, rfl, by decide +kernel⟩

/-- `DetermineErrorState` as the source has it – the regenerated if-chain with the regenerated exit-code constants –
computes the modelled exit status for ALL counter values. -/
theorem exit_chain_from_source (readErrors : Int) (aggNil : Bool) (parseErrors matched : Nat) :
    evalExitChain Gen.C03.exitChain Gen.C03.exitDefault readErrors aggNil parseErrors matched =
      determineErrorState readErrors aggNil parseErrors matched ∧
    Gen.C03.exitCodeNoData = 1 ∧ Gen.C03.exitCodeInvalidUsage = 2 :=
  ⟨evalExitChain_model readErrors aggNil parseErrors matched, rfl, rfl⟩

/-- `histo --csv`: for the sorter NAMED IN THE SOURCE of `WriteCounter` (`Gen.C03`; by `csv_sorters_from_source`
it is `NVValueSorter`, a strict total order on rows with distinct names by C13/`nvValueLess_order`), the CSV text
is a function of the counter's observable state: any `sort.Sort` meeting its contract, any two map iteration
orders, any two counters with equal look-ups. -/
theorem csv_of_state_deterministic_histo (alg : List NV → Algo NV (List NV)) (hc : SortContract alg)
    (c₁ c₂ : Counter) (hobs : ∀ k, aget c₁.items k = aget c₂.items k)
    (o₁ o₂ : List Bytes) (r₁ : IsRangeOf o₁ c₁.items) (r₂ : IsRangeOf o₂ c₂.items) :
    let less := SortExpr.nvLess Gen.C03.sorterVars ((findWriter Gen.C03.csvWriters "WriteCounter").sorterOf "ItemsSortedBy")
    (findCommand Gen.C03.commands "histo").csvWriter = "csv.WriteCounter" ∧
    (∀ items : List NV, (items.map (·.name)).Nodup → OrderOn (· ∈ items) less) ∧
    writeCsv (counterRowsBy less (sortOf alg) o₁ fun k => (aget c₁.items k).getD 0) =
      writeCsv (counterRowsBy less (sortOf alg) o₂ fun k => (aget c₂.items k).getD 0) ∧
    counterRowsBy less (sortOf alg) o₂ (fun k => (aget c₂.items k).getD 0) = counterCsvRows isortFn o₁ c₁ := by
  intro less
  have hl : less = nvValueLess := csv_sorters_from_source.1
  rw [hl]
  have := csv_of_state_deterministic alg hc c₁ c₂ hobs o₁ o₂ r₁ r₂
  exact ⟨by decide +kernel, nvValueLess_order, this.1, this.2⟩

/-- `table`, `heatmap`, `spark` `--csv` (all three hand their `TableAggregator` to `WriteTable`): same statement for
the sorter named in the source of `WriteTable` for columns and for rows. -/
theorem csv_of_state_deterministic_table_commands (alg : List NV → Algo NV (List NV)) (hc : SortContract alg)
    (t₁ t₂ : Table) (hcols : ∀ c, aget t₁.cols c = aget t₂.cols c)
    (hrows : ∀ r, (aget t₁.rows r).isSome = (aget t₂.rows r).isSome)
    (hcells : ∀ r row1 row2, aget t₁.rows r = some row1 → aget t₂.rows r = some row2 →
      row1.name = row2.name ∧ row1.sum = row2.sum ∧ ∀ c, aget row1.cols c = aget row2.cols c)
    (co₁ co₂ ro₁ ro₂ : List Bytes) (hco₁ : IsRangeOf co₁ t₁.cols) (hco₂ : IsRangeOf co₂ t₂.cols)
    (hro₁ : IsRangeOf ro₁ t₁.rows) (hro₂ : IsRangeOf ro₂ t₂.rows) :
    let colLess := SortExpr.nvLess Gen.C03.sorterVars ((findWriter Gen.C03.csvWriters "WriteTable").sorterOf "OrderedColumns")
    let rowLess := SortExpr.nvLess Gen.C03.sorterVars ((findWriter Gen.C03.csvWriters "WriteTable").sorterOf "OrderedRows")
    (∀ n ∈ ["table", "heatmap", "spark"], (findCommand Gen.C03.commands n).csvWriter = "csv.WriteTable") ∧
    (∀ items : List NV, (items.map (·.name)).Nodup → OrderOn (· ∈ items) colLess ∧ OrderOn (· ∈ items) rowLess) ∧
    writeCsv (tableRowsBy colLess rowLess (sortOf alg) co₁ ro₁ t₁.colTotal (fun r => ((aget t₁.rows r).map (·.sum)).getD 0)
        fun r c => ((aget t₁.rows r).map (·.value c)).getD 0) =
      writeCsv (tableRowsBy colLess rowLess (sortOf alg) co₂ ro₂ t₂.colTotal (fun r => ((aget t₂.rows r).map (·.sum)).getD 0)
        fun r c => ((aget t₂.rows r).map (·.value c)).getD 0) := by
  intro colLess rowLess
  have h1 : colLess = nvNameLess := csv_sorters_from_source.2.1
  have h2 : rowLess = nvNameLess := csv_sorters_from_source.2.2.1
  rw [h1, h2]
  exact ⟨by decide +kernel, fun items hnd => ⟨nvNameLess_order items hnd, nvNameLess_order items hnd⟩,
    (csv_of_state_deterministic_table alg hc t₁ t₂ hcols hrows hcells co₁ co₂ ro₁ ro₂ hco₁ hco₂ hro₁ hro₂).1⟩

/-- `bargraph --csv`: same statement for the sorter named in the source of `WriteSubCounter`. -/
theorem csv_of_state_deterministic_bargraph (alg : List NV → Algo NV (List NV)) (hc : SortContract alg)
    (s₁ s₂ : SubKeyCounter) (hk : s₁.subKeys = s₂.subKeys)
    (hpres : ∀ k, (aget s₁.items k).isSome = (aget s₂.items k).isSome)
    (hitems : ∀ k it1 it2, aget s₁.items k = some it1 → aget s₂.items k = some it2 →
      it1.count = it2.count ∧ it1.submatches = it2.submatches)
    (o₁ o₂ : List Bytes) (r₁ : IsRangeOf o₁ s₁.items) (r₂ : IsRangeOf o₂ s₂.items) :
    let less := SortExpr.nvLess Gen.C03.sorterVars ((findWriter Gen.C03.csvWriters "WriteSubCounter").sorterOf "ItemsSorted")
    (findCommand Gen.C03.commands "bargraph").csvWriter = "csv.WriteSubCounter" ∧
    (∀ items : List NV, (items.map (·.name)).Nodup → OrderOn (· ∈ items) less) ∧
    writeCsv (subCounterRowsBy less (sortOf alg) o₁ s₁.subKeys (fun k => ((aget s₁.items k).map (·.count)).getD 0)
        fun k => ((aget s₁.items k).map (·.submatches)).getD []) =
      writeCsv (subCounterRowsBy less (sortOf alg) o₂ s₂.subKeys (fun k => ((aget s₂.items k).map (·.count)).getD 0)
        fun k => ((aget s₂.items k).map (·.submatches)).getD []) := by
  intro less
  have hl : less = nvNameLess := csv_sorters_from_source.2.2.2.1
  rw [hl]
  exact ⟨by decide +kernel, nvNameLess_order, (csv_of_state_deterministic_subkey alg hc s₁ s₂ hk hpres hitems o₁ o₂ r₁ r₂).1⟩

/-- `reduce --csv`: `WriteAccumulator` hands `Groups` the sorter named in the source (`ByName`), which is the
strict total order `bLt`; so for every reachable aggregator the CSV outcome does not depend on the order the map
is ranged over (`reduceCsv` is `WriteAccumulator` over `Groups(bLt)`). -/
theorem csv_of_state_deterministic_reduce (s : AccGroup) (hs : AccReach s) (o₁ o₂ : List Bytes)
    (r₁ : IsRangeOf o₁ s.data) (r₂ : IsRangeOf o₂ s.data) :
    let less := SortExpr.nameLess Gen.C03.sorterVars ((findWriter Gen.C03.csvWriters "WriteAccumulator").sorterOf "Groups")
    (findCommand Gen.C03.commands "reduce").csvWriter = "csv.WriteAccumulator" ∧ C07.StrictTotal less ∧
    SameOutcome ((s.groupsWith less o₁).map fun gs => writeCsv (writeAccumulatorRows s gs))
      ((s.groupsWith less o₂).map fun gs => writeCsv (writeAccumulatorRows s gs)) ∧
    reduceCsv s o₁ = (s.groupsWith less o₁).map fun gs => writeCsv (writeAccumulatorRows s gs) := by
  intro less
  have hl : less = bLt := csv_sorters_from_source.2.2.2.2
  rw [hl]
  have _ := hs
  exact ⟨by decide +kernel, bLt_strictTotal, reduceCsv_sameOutcome (ObsEq.refl s) (isRange_perm_obs (fun _ => rfl) r₁ r₂), rfl⟩

/-- Every flag that shapes the final aggregate or its export, as the SOURCE declares it (regenerated on every run):
the limits and their defaults (`histo --num` alias `-n` 5, `--atleast` 0; `table`, `heatmap`, `spark`, `reduce` `--num` alias `--rows`, `-n`
20; `table`/`reduce` `--cols` 10; `spark --notruncate` off), the sort flags and their defaults, `--delim` = the
expression array separator, `reduce --initial` "0", `analyze --quantile` 90/99/99.9 (what `AnalyzeArgs` assumes), and
that all six exporting commands share ONE `--csv` flag, all seven one `--snapshot` flag. -/
theorem command_flags_from_source :
    flagOf Gen.C03.commandFlags "histo" "num" = some ("IntFlag", "num", ["n"], "5") ∧
    flagOf Gen.C03.commandFlags "histo" "atleast" = some ("Int64Flag", "atleast", [], "0") ∧
    flagOf Gen.C03.commandFlags "histo" "all" = some ("BoolFlag", "all", ["a"], "") ∧
    hasShared Gen.C03.commandFlags "histo" "helpers.DefaultSortFlagWithDefault(\"value\")" = true ∧
    hasShared Gen.C03.commandFlags "bargraph" "helpers.DefaultSortFlag" = true ∧
    flagOf Gen.C03.commandFlags "bargraph" "stacked" = some ("BoolFlag", "stacked", ["s"], "") ∧
    (["table", "heatmap", "spark"].all fun c =>
      flagOf Gen.C03.commandFlags c "delim" == some ("StringFlag", "delim", [], "expressions.ArraySeparatorString") &&
      flagOf Gen.C03.commandFlags c "num" == some ("IntFlag", "num", ["rows", "n"], "20")) = true ∧
    flagOf Gen.C03.commandFlags "table" "cols" = some ("IntFlag", "cols", [], "10") ∧
    flagOf Gen.C03.commandFlags "table" "sort-rows" = some ("StringFlag", "sort-rows", [], "\"value\"") ∧
    flagOf Gen.C03.commandFlags "table" "sort-cols" = some ("StringFlag", "sort-cols", [], "\"value\"") ∧
    flagOf Gen.C03.commandFlags "heatmap" "sort-rows" = some ("StringFlag", "sort-rows", [], "helpers.DefaultSortFlag.Value") ∧
    flagOf Gen.C03.commandFlags "heatmap" "sort-cols" = some ("StringFlag", "sort-cols", [], "helpers.DefaultSortFlag.Value") ∧
    flagOf Gen.C03.commandFlags "spark" "sort-rows" = some ("StringFlag", "sort-rows", [], "\"value\"") ∧
    flagOf Gen.C03.commandFlags "spark" "sort-cols" = some ("StringFlag", "sort-cols", [], "\"numeric\"") ∧
    flagOf Gen.C03.commandFlags "spark" "notruncate" = some ("BoolFlag", "notruncate", [], "false") ∧
    flagOf Gen.C03.commandFlags "reduce" "num" = some ("IntFlag", "num", ["rows", "n"], "20") ∧
    flagOf Gen.C03.commandFlags "reduce" "cols" = some ("IntFlag", "cols", [], "10") ∧
    flagOf Gen.C03.commandFlags "reduce" "initial" = some ("StringFlag", "initial", [], "\"0\"") ∧
    flagOf Gen.C03.commandFlags "reduce" "sort" = some ("StringFlag", "sort", [], "") ∧
    flagOf Gen.C03.commandFlags "reduce" "sort-reverse" = some ("BoolFlag", "sort-reverse", [], "") ∧
    flagOf Gen.C03.commandFlags "analyze" "quantile" =
      some ("StringSliceFlag", "quantile", ["q"], "cli.NewStringSlice(\"90\", \"99\", \"99.9\")") ∧
    ({} : AnalyzeArgs).quantiles = [[57, 48], [57, 57], [57, 57, 46, 57]] ∧ ({} : ReduceArgs).initial = [48] ∧
    (["histo", "table", "heatmap", "spark", "bargraph", "reduce"].all fun c => hasShared Gen.C03.commandFlags c "helpers.CSVFlag" &&
      hasShared Gen.C03.commandFlags c "helpers.NoOutFlag") = true ∧
    hasShared Gen.C03.commandFlags "analyze" "helpers.CSVFlag" = false ∧
    (["histo", "table", "heatmap", "spark", "bargraph", "analyze", "reduce"].all fun c =>
      hasShared Gen.C03.commandFlags c "helpers.SnapshotFlag") = true := by
  and_intros <;> rfl

/-- Which flag every variable of the command functions is read from (a swapped or renamed flag breaks this): the
limits, the delimiter, the sort names, `spark`'s `noTruncate`. -/
theorem command_flag_reads_from_source :
    readOf Gen.C03.commandFlagReads "histo" "topItems" = some "c.Int(\"n\")" ∧
    readOf Gen.C03.commandFlagReads "histo" "atLeast" = some "c.Int64(\"atleast\")" ∧
    readOf Gen.C03.commandFlagReads "histo" "all" = some "c.Bool(\"all\")" ∧
    readOf Gen.C03.commandFlagReads "histo" "sortName" = some "c.String(helpers.DefaultSortFlag.Name)" ∧
    readOf Gen.C03.commandFlagReads "bargraph" "sortName" = some "c.String(helpers.DefaultSortFlag.Name)" ∧
    readOf Gen.C03.commandFlagReads "bargraph" "stacked" = some "c.Bool(\"stacked\")" ∧
    (["table", "heatmap", "spark"].all fun c =>
      readOf Gen.C03.commandFlagReads c "delim" == some "c.String(\"delim\")" &&
      readOf Gen.C03.commandFlagReads c "numRows" == some "c.Int(\"num\")" &&
      readOf Gen.C03.commandFlagReads c "numCols" == some "c.Int(\"cols\")" &&
      readOf Gen.C03.commandFlagReads c "sortRows" == some "c.String(\"sort-rows\")" &&
      readOf Gen.C03.commandFlagReads c "sortCols" == some "c.String(\"sort-cols\")") = true ∧
    readOf Gen.C03.commandFlagReads "spark" "noTruncate" = some "c.Bool(\"notruncate\")" ∧
    readOf Gen.C03.commandFlagReads "reduce" "defaultInitial" = some "c.String(\"initial\")" ∧
    readOf Gen.C03.commandFlagReads "reduce" "sort" = some "c.String(\"sort\")" ∧
    readOf Gen.C03.commandFlagReads "reduce" "sortReverse" = some "c.Bool(\"sort-reverse\")" := by
  decide +kernel

/-- The trim step of `spark`'s render callback as the source spells it: guarded by `--notruncate` and by the column
sort NOT being value-ordered (b216f7d), and a body that is statement for statement what `renderStep` / `sparkTrim`
model (`OrderedColumns(colSorter)`, more than `numCols` ⇒ keep the LAST `numCols`, `Trim` everything else) – the `tbl`
correspondence op replays this very block on the real aggregator. -/
theorem spark_trim_from_source :
    Gen.C03.sparkTrimGuard = "!noTruncate && !helpers.SortsByValue(sortCols)" ∧
    Gen.C03.sortsByValueSrc = "{ name, _, err := parseSort(fullName) return err == nil && name == \"value\" }" ∧
    Gen.C03.sparkTrimBody = [
      "{",
      "if keepCols := counter.OrderedColumns(colSorter); len(keepCols) > numCols {",
      "keepCols = keepCols[len(keepCols)-numCols:]",
      "keepLookup := make(map[string]struct{})",
      "for _, item := range keepCols {",
      "keepLookup[item] = struct{}{}",
      "}",
      "counter.Trim(func(col, row string, val int64) bool {",
      "_, ok := keepLookup[col]",
      "return !ok",
      "})",
      "}",
      "}"] :=
  ⟨rfl, rfl, rfl⟩

/-! ### non-vacuity for the wiring theorems -/

example : SortContract (isortA (α := NV)) := C13.sort_contract_satisfiable
example : (SortExpr.byContextual).nvCmp = none ∧ (SortExpr.valueNilSorter .byNameSmart).nvCmp = none ∧
    ((SortExpr.named "NVNameSorter").subst Gen.C03.sorterVars) = .valueNilSorter .byName := by decide +kernel
example : evalExitChain Gen.C03.exitChain Gen.C03.exitDefault 0 false 3 10 = 2 ∧
    evalExitChain Gen.C03.exitChain Gen.C03.exitDefault 0 true 3 10 = 0 ∧
    evalExitChain Gen.C03.exitChain Gen.C03.exitDefault 0 false 0 0 = 1 := by decide +kernel

/-! ## the command functions (`Model/C03Cmd.lean`; correspondence op `cmd`) -/

/-- Every `--sort` / `--sort-cols` / `--sort-rows` name that denotes a comparator WITHOUT hidden state – `text`, `value`
and `numeric` (`ByNameSmart` with the real `strconv.ParseFloat`, a strict total order on ALL keys by C13's
`numeric_real_strict_total`) in any spelling with any modifier (`:asc`, `:desc`, `:rev`, `:reverse`) – is a strict total
order on rows with distinct names (map keys are distinct): `sort.Sort` has one possible answer.  The table of what the
common names denote; `contextual`, `date` infer and are C13's. -/
theorem sort_names_pure_strict_total :
    (∀ fullName less, pureSortLess fullName = some less →
      ∀ items : List NV, (items.map (·.name)).Nodup → OrderOn (· ∈ items) less) ∧
    pureSortLess (asc "value") = some (revLess nvValueAscLess) ∧ pureSortLess (asc "VALUE:rev") = some nvValueAscLess ∧
    pureSortLess (asc "value:asc") = some nvValueAscLess ∧ pureSortLess (asc "text") = some nvNameLess ∧
    pureSortLess (asc "Text:desc") = some (revLess nvNameLess) ∧ pureSortLess [] = some nvNameLess ∧
    pureSortLess (asc "numeric") = some nvSmartLess ∧ pureSortLess (asc "NUMERIC:desc") = some (revLess nvSmartLess) ∧
    pureSortLess (asc "contextual") = none ∧ pureSortLess (asc "date") = none ∧
    pureSortLess (asc "value:up") = none ∧
    sortsByValue (asc "value") = true ∧ sortsByValue (asc "Value:ASC") = true ∧ sortsByValue (asc "text") = false ∧
    sortsByValue (asc "value:up") = false :=
  ⟨pureSortLess_order C13.numeric_real_strict_total,
   pureSortLess_of_kind (k := some (.value, true)) (by simp -index only [asc_ofList]; decide +kernel),
   pureSortLess_of_kind (k := some (.value, false)) (by simp -index only [asc_ofList]; decide +kernel),
   pureSortLess_of_kind (k := some (.value, false)) (by simp -index only [asc_ofList]; decide +kernel),
   pureSortLess_of_kind (k := some (.text, false)) (by simp -index only [asc_ofList]; decide +kernel),
   pureSortLess_of_kind (k := some (.text, true)) (by simp -index only [asc_ofList]; decide +kernel),
   pureSortLess_of_kind (k := some (.text, false)) (by decide +kernel),
   pureSortLess_of_kind (k := some (.numeric, false)) (by simp -index only [asc_ofList]; decide +kernel),
   pureSortLess_of_kind (k := some (.numeric, true)) (by simp -index only [asc_ofList]; decide +kernel),
   pureSortLess_of_kind (k := some (.contextual, false)) (by simp -index only [asc_ofList]; decide +kernel),
   pureSortLess_of_kind (k := some (.date, false)) (by simp -index only [asc_ofList]; decide +kernel),
   pureSortLess_of_kind (k := none) (by simp -index only [asc_ofList]; decide +kernel),
   by simp -index only [asc_ofList]; decide +kernel, by simp -index only [asc_ofList]; decide +kernel, by simp -index only [asc_ofList]; decide +kernel, by simp -index only [asc_ofList]; decide +kernel⟩

/-- `helpers.SortsByValue` and the guard of spark's trim step EVALUATED from the source (regenerated on every run as small
expression trees, `Gen.C03.sortsByValueFn` / `sparkTrimGuardE`): for every flag text the function of the source answers
what the model's `sortsByValue` answers – with `lowerK` and with Go's `strings.ToLower` under any rune map meeting C13's
`RuneLower` contract (checked against `unicode.ToLower` for all code points by C13's `lowtab` op) – and the guard of the
source is the guard `sparkCmd` evaluates, for every `--notruncate` and `--sort-cols`.  A `SortsByValue` that stops going
through `parseSort` (a case-sensitive comparison of the raw text, say) no longer evaluates to this. -/
theorem sorts_by_value_from_source :
    (∀ fullName, Gen.C03.sortsByValueFn.eval (parseSort lowerK) fullName = some (sortsByValue fullName)) ∧
    (∀ tl, RuneLower tl → ∀ fullName,
      Gen.C03.sortsByValueFn.eval (parseSort (goToLower tl)) fullName = some (sortsByValue fullName)) ∧
    (∀ (noTruncate : Bool) (sortCols : Bytes), Gen.C03.sparkTrimGuardE.eval
        { bools := fun v => if v = "noTruncate" then some noTruncate else none,
          calls := fun f args => if f = "helpers.SortsByValue" ∧ args = ["sortCols"] then
            Gen.C03.sortsByValueFn.eval (parseSort lowerK) sortCols else none } =
      some (!noTruncate && !sortsByValue sortCols)) := by
  have key : ∀ (parse : Bytes → Except SortErr (Bytes × Bool)) (fullName : Bytes),
      Gen.C03.sortsByValueFn.eval parse fullName =
        some (match parse fullName with | .ok (name, _) => name == asc "value" | .error _ => false) := by
    intro parse fullName
    simp only [Gen.C03.sortsByValueFn, SbvSrc.eval, GoB.eval]
    cases parse fullName with
    | error e => simp
    | ok p => obtain ⟨n, r⟩ := p; simp
  have k1 : ∀ f, Gen.C03.sortsByValueFn.eval (parseSort lowerK) f = some (sortsByValue f) := by
    intro f; rw [key]; rfl
  refine ⟨k1, fun tl h f => ?_, fun nt sc => ?_⟩
  · rw [key, ← sortsByValueWith_lower tl h f]; rfl
  · simp only [Gen.C03.sparkTrimGuardE, GoB.eval, if_true, and_self, k1 sc, Option.map_some]

/-- The trim guard and the sorter agree on EVERY spelling: `SortsByValue(text)` is true exactly when `BuildSorter(text)`
builds the value sorter (`VALUE`, `Value:asc`, `vAlUe:Desc` … – names and modifiers are case-insensitive in both, because
both go through `parseSort`); whenever it is false and `BuildSorter` succeeds – `text`, `numeric`, `contextual`, `date`, any
modifier, any oracle for `ParseFloat` and the date formats – the comparator built never looks at the VALUES of the rows, so
the column order `spark` trims by is a function of the column names (the hypothesis of `spark_trim_any_render_schedule`);
for the pure names it is `nvNameLess` / `nvSmartLess` (a function of the two NAMES) or the reverse. -/
theorem sorts_by_value_agrees_with_build_sorter :
    (∀ fullName, sortsByValue fullName = true ↔ ∃ rev, builtSorter lowerK fullName = some (true, rev)) ∧
    (∀ (o : Oracle), o.lower = lowerK → ∀ (sets : List SortSet) (fullName : Bytes) (s : Sorter),
      buildSorter o sets fullName = .ok s →
      (sortsByValue fullName = false →
        ∀ (st : s.σ) (a b : NV) (va vb : Int), s.cmp st a b = s.cmp st ⟨a.name, va⟩ ⟨b.name, vb⟩) ∧
      (sortsByValue fullName = true →
        s = ⟨Unit, (), valueSorterEx (pureCmp byName)⟩ ∨ s = ⟨Unit, (), C13.reverse (valueSorterEx (pureCmp byName))⟩)) ∧
    (∀ fullName less, pureSortLess fullName = some less → sortsByValue fullName = false →
      less = nvNameLess ∨ less = revLess nvNameLess ∨ less = nvSmartLess ∨ less = revLess nvSmartLess) ∧
    sortsByValue (asc "VALUE") = true ∧ sortsByValue (asc "Value:desc") = true ∧ sortsByValue (asc "vAlUe:REV:x") = true ∧
    sortsByValue (asc "TEXT") = false ∧ sortsByValue (asc "VALUE:up") = false ∧ sortsByValue (asc "value ") = false ∧
    builtSorter lowerK (asc "VALUE") = some (true, true) ∧ builtSorter lowerK (asc "Value:Rev") = some (true, false) ∧
    builtSorter lowerK (asc "NUMERIC:desc") = some (false, true) ∧ builtSorter lowerK (asc "VALUE:up") = none := by
  refine ⟨sortsByValue_iff_built, fun o ho sets f s hb => buildSorter_by_name_or_value o ho sets f s hb,
    pureSortLess_name_cases, ?_⟩
  simp -index only [asc_ofList]
  decide +kernel

/-- Just outside: a `SortsByValue` that compares the raw text case-sensitively (`name, _, _ := strings.Cut(fullName, ":");
return name == "value"`, evaluated by the same interpreter) calls `--sort-cols VALUE` a name sort although `BuildSorter`
builds the value sorter for it – and trimming by a value order is not render-timing independent: `--cols 1`, samples
a a b | a with the descending value order `VALUE` denotes.  All at once: column b is kept (`,b / r,1`); with a render after
the third sample column a is dropped with its two counts, comes back and is kept with 1 (`,a / r,1`); the sequential
reference (no trim for a value order) is `,a,b / r,3,1`. -/
theorem sorts_by_value_case_sensitive_counterexample :
    let raw : SbvSrc := { param := "fullName", lhs := ["name", "_", "_"], callee := "strings.Cut",
                          args := ["fullName", "\":\""], ret := .strEq "name" "value" }
    let valueTrim (t : Table) : Table :=
      let cols := (isort (revLess nvValueAscLess) ((akeys t.cols).map fun c => (⟨c, t.colTotal c⟩ : NV))).map (·.name)
      if cols.length > 1 then
        (t.trim (renderPred (cols.drop (cols.length - 1))) (akeys t.cols) (fun _ => akeys t.rows)).1 else t
    let csvOf (t : Table) : Bytes := writeCsv (tableCsvRows isortFn (akeys t.cols) (akeys t.rows) t)
    let a : Bytes := [97, 0, 114]
    let b : Bytes := [98, 0, 114]
    raw.eval (parseSort lowerK) (asc "VALUE") = some false ∧ raw.eval (parseSort lowerK) (asc "value:asc") = some true ∧
    sortsByValue (asc "VALUE") = true ∧ pureSortLess (asc "VALUE") = some (revLess nvValueAscLess) ∧
    csvOf (valueTrim (Table.run [0] [a, a, b, a])) = ascii ",b\nr,1\n" ∧
    csvOf (valueTrim ([a].foldl Table.sample (valueTrim (Table.run [0] [a, a, b])))) = ascii ",a\nr,1\n" ∧
    csvOf (Table.run [0] [a, a, b, a]) = ascii ",a,b\nr,3,1\n" := by
  intro raw valueTrim csvOf a b
  exact ⟨by simp -index only [asc_ofList]; decide +kernel, by simp -index only [asc_ofList]; decide +kernel, by simp -index only [asc_ofList]; decide +kernel,
    pureSortLess_of_kind (k := some (.value, true)) (by simp -index only [asc_ofList]; decide +kernel),
    by decide +kernel, by decide +kernel, by decide +kernel⟩

/-- `rare histo`, everything the command function produces: the `--num` rows on the screen (top `--num` in `--sort`
order, then `--atleast`), the footer `Matched: m / r (Groups: g) (Ignored: i) (Errors: e)`, the `--all` table, the `--csv`
text and the exit status.  Two terminal states of the whole program for the same files and command line – any
`--workers`, `--readers`, `--batch`, `--batch-buffer`, schedule, contract-abiding `sort.Sort`, map iteration orders –
give the SAME result, the result of the sequential reference; the CSV reads back as the reference rows. -/
theorem histo_command_schedule_independent (cls : Line → Cls) (key : Line → Bytes) (datas : List Bytes)
    (cfg₁ cfg₂ : Config) (hW₁ : 1 ≤ cfg₁.W) (hW₂ : 1 ≤ cfg₂.W) (h₁ h₂ : List Bytes) (c₁ c₂ : Counters)
    (t₁ : TerminalC cls key cfg₁ datas h₁ c₁) (t₂ : TerminalC cls key cfg₂ datas h₂ c₂)
    (alg : List NV → Algo NV (List NV)) (hc : SortContract alg)
    (sortName : Bytes) (less : NV → NV → Bool) (hs : pureSortLess sortName = some less)
    (o₁ o₂ oref : List Bytes) (r₁ : IsRangeOf o₁ (Counter.run h₁).items) (r₂ : IsRangeOf o₂ (Counter.run h₂).items)
    (rr : IsRangeOf oref (Counter.run (refSamples cls key datas)).items)
    (num : Nat) (atLeast : Int) (all : Bool) (readErrors : Int) :
    let ref := histoCmd isortFn less oref num atLeast all (Counter.run (refSamples cls key datas)) (refCounters cls datas) readErrors
    histoCmd (sortOf alg) less o₁ num atLeast all (Counter.run h₁) c₁ readErrors = ref ∧
    histoCmd (sortOf alg) less o₂ num atLeast all (Counter.run h₂) c₂ readErrors = ref ∧
    parseCsv ref.csv = counterCsvRows isortFn oref (Counter.run (refSamples cls key datas)) := by
  intro ref
  have hless := pureSortLess_order C13.numeric_real_strict_total sortName less hs
  have key1 : ∀ (cfg : Config) (hW : 1 ≤ cfg.W) (h : List Bytes) (c : Counters) (t : TerminalC cls key cfg datas h c)
      (o : List Bytes) (r : IsRangeOf o (Counter.run h).items),
      histoCmd (sortOf alg) less o num atLeast all (Counter.run h) c readErrors = ref := by
    intro cfg hW h c t o r
    have p := terminal_perm cls key cfg hW datas h t.terminal
    obtain ⟨a1, _, a3⟩ := C07.counter_perm (refSamples cls key datas) h p.symm
    rw [terminalC_counters hW t]
    exact histoCmd_det alg hc less hless _ _ a1 a3 (counter_keys_nodup _) (counter_keys_nodup _) oref o rr r num atLeast all _ readErrors
  refine ⟨key1 cfg₁ hW₁ h₁ c₁ t₁ o₁ r₁, key1 cfg₂ hW₂ h₂ c₂ t₂ o₂ r₂, ?_⟩
  show parseCsv (writeCsv (counterCsvRows isortFn oref _)) = _
  exact csv_roundtrip _ (counterCsvRows_nonempty _ _ _)

/-- `rare table` / `rare heatmap`: footer `Matched: m / r (R: rows; C: cols) …`, `--csv` text and exit status of two
terminal states under any tuning and schedule are the same, those of the sequential reference. -/
theorem table_command_schedule_independent (cls : Line → Cls) (key : Line → Bytes) (datas : List Bytes) (d : Bytes) (hd : d ≠ [])
    (cfg₁ cfg₂ : Config) (hW₁ : 1 ≤ cfg₁.W) (hW₂ : 1 ≤ cfg₂.W) (h₁ h₂ : List Bytes) (c₁ c₂ : Counters)
    (t₁ : TerminalC cls key cfg₁ datas h₁ c₁) (t₂ : TerminalC cls key cfg₂ datas h₂ c₂)
    (alg : List NV → Algo NV (List NV)) (hc : SortContract alg) (co₁ co₂ ro₁ ro₂ coref roref : List Bytes)
    (hco₁ : IsRangeOf co₁ (Table.run d h₁).cols) (hco₂ : IsRangeOf co₂ (Table.run d h₂).cols)
    (hro₁ : IsRangeOf ro₁ (Table.run d h₁).rows) (hro₂ : IsRangeOf ro₂ (Table.run d h₂).rows)
    (hcor : IsRangeOf coref (Table.run d (refSamples cls key datas)).cols)
    (hror : IsRangeOf roref (Table.run d (refSamples cls key datas)).rows) (readErrors : Int) :
    let ref := tableCmd isortFn coref roref (Table.run d (refSamples cls key datas)) (refCounters cls datas) readErrors
    tableCmd (sortOf alg) co₁ ro₁ (Table.run d h₁) c₁ readErrors = ref ∧
    tableCmd (sortOf alg) co₂ ro₂ (Table.run d h₂) c₂ readErrors = ref ∧
    parseCsv ref.csv = tableCsvRows isortFn coref roref (Table.run d (refSamples cls key datas)) := by
  intro ref
  have key1 : ∀ (cfg : Config) (hW : 1 ≤ cfg.W) (h : List Bytes) (c : Counters) (t : TerminalC cls key cfg datas h c)
      (co ro : List Bytes) (hco : IsRangeOf co (Table.run d h).cols) (hro : IsRangeOf ro (Table.run d h).rows),
      tableCmd (sortOf alg) co ro (Table.run d h) c readErrors = ref := by
    intro cfg hW h c t co ro hco hro
    have p := terminal_perm cls key cfg hW datas h t.terminal
    obtain ⟨b1, b2, b3, _, b5, _⟩ := C07.table_perm d hd (refSamples cls key datas) h p.symm
    have i1 := C07.tableInv_run d hd (refSamples cls key datas)
    have i2 := C07.tableInv_run d hd h
    rw [terminalC_counters hW t]
    exact tableCmd_det _ _ (fun r => (b2 r).symm) (fun c => by rw [b1 c]) b5.symm ⟨i2.nodupRows, i2.nodupCols⟩
      ⟨i1.nodupRows, i1.nodupCols⟩
      (csv_of_state_deterministic_table alg hc _ _ b1 b2 b3 coref co roref ro hcor hco hror hro).2 _ readErrors
  refine ⟨key1 cfg₁ hW₁ h₁ c₁ t₁ co₁ ro₁ hco₁ hro₁, key1 cfg₂ hW₂ h₂ c₂ t₂ co₂ ro₂ hco₂ hro₂, ?_⟩
  show parseCsv (writeCsv (tableCsvRows isortFn coref roref _)) = _
  exact csv_roundtrip _ (tableCsvRows_nonempty _ _ _ _)

/-- `rare bargraph`: footer, `--csv` text and exit status, same statement. -/
theorem bars_command_schedule_independent (cls : Line → Cls) (key : Line → Bytes) (datas : List Bytes)
    (cfg₁ cfg₂ : Config) (hW₁ : 1 ≤ cfg₁.W) (hW₂ : 1 ≤ cfg₂.W) (h₁ h₂ : List Bytes) (c₁ c₂ : Counters)
    (t₁ : TerminalC cls key cfg₁ datas h₁ c₁) (t₂ : TerminalC cls key cfg₂ datas h₂ c₂)
    (alg : List NV → Algo NV (List NV)) (hc : SortContract alg) (readErrors : Int) :
    ∃ s₁ s₂ sr, SubKeyCounter.run h₁ = .ok s₁ ∧ SubKeyCounter.run h₂ = .ok s₂ ∧
      SubKeyCounter.run (refSamples cls key datas) = .ok sr ∧
      ∀ o₁ o₂ oref, IsRangeOf o₁ s₁.items → IsRangeOf o₂ s₂.items → IsRangeOf oref sr.items →
        barsCmd (sortOf alg) o₁ s₁ c₁ readErrors = barsCmd isortFn oref sr (refCounters cls datas) readErrors ∧
        barsCmd (sortOf alg) o₂ s₂ c₂ readErrors = barsCmd isortFn oref sr (refCounters cls datas) readErrors := by
  have p1 := terminal_perm cls key cfg₁ hW₁ datas h₁ t₁.terminal
  have p2 := terminal_perm cls key cfg₂ hW₂ datas h₂ t₂.terminal
  obtain ⟨sr, s₁, e3, e1, a1, ae, a2, a3⟩ := C07.subkey_perm (refSamples cls key datas) h₁ p1.symm
  obtain ⟨sr', s₂, e3', e2, b1, be, b2, b3⟩ := C07.subkey_perm (refSamples cls key datas) h₂ p2.symm
  rw [e3] at e3'; cases e3'
  refine ⟨s₁, s₂, sr, e1, e2, e3, ?_⟩
  intro o₁ o₂ oref r₁ r₂ rr
  rw [terminalC_counters hW₁ t₁, terminalC_counters hW₂ t₂]
  have x1 := (csv_of_state_deterministic_subkey alg hc _ _ a1 a2 a3 oref o₁ rr r₁).2
  have x2 := (csv_of_state_deterministic_subkey alg hc _ _ b1 b2 b3 oref o₂ rr r₂).2
  simp only [barsCmd, x1, x2, ← ae, ← be, and_self]

/-- `rare spark --csv`, at the level of the exported TEXT: after ANY interleaving of the samples with render-trim steps
(any strict total order on column names, any `--cols`, any map iteration orders, any contract-abiding `sort.Sort` in the
renders and in the writer) the CSV written after the final render is byte for byte the CSV of one render step on the
sequentially sampled table; it reads back (RFC 4180) as those rows; and the exit status is the same.  `WriteTable`'s
name sorters are handed row sums and column totals (which a `Trim` leaves behind differently) but never look at them
(`tableCsvRows_of_cells`). -/
theorem spark_csv_any_render_schedule {lt : Bytes → Bytes → Bool} (ho : NameOrder lt) (n : Nat) (d : Bytes) (hd : d ≠ [])
    (h : List Bytes) (t : Table) (hr : SparkReach lt n d h t)
    (st co : List Bytes) (ro : Bytes → List Bytes) (hst : IsSortedCols lt t st) (hcov : Covers t co ro)
    (sF coF : List Bytes) (roF : Bytes → List Bytes) (hsF : IsSortedCols lt (Table.run d h) sF)
    (hcovF : Covers (Table.run d h) coF roF)
    (alg : List NV → Algo NV (List NV)) (hc : SortContract alg) (c₁ r₁ cF rF : List Bytes)
    (hc₁ : IsRangeOf c₁ (renderStep n t st co ro).cols) (hr₁ : IsRangeOf r₁ (renderStep n t st co ro).rows)
    (hcF : IsRangeOf cF (renderStep n (Table.run d h) sF coF roF).cols)
    (hrF : IsRangeOf rF (renderStep n (Table.run d h) sF coF roF).rows) (readErrors : Int) (matched : Nat) :
    writeCsv (tableCsvRows (sortOf alg) c₁ r₁ (renderStep n t st co ro)) =
      writeCsv (tableCsvRows isortFn cF rF (renderStep n (Table.run d h) sF coF roF)) ∧
    parseCsv (writeCsv (tableCsvRows (sortOf alg) c₁ r₁ (renderStep n t st co ro))) =
      tableCsvRows isortFn cF rF (renderStep n (Table.run d h) sF coF roF) ∧
    determineErrorState readErrors false (renderStep n t st co ro).errors matched =
      determineErrorState readErrors false (renderStep n (Table.run d h) sF coF roF).errors matched := by
  obtain ⟨a, b, c, e⟩ := spark_trim_any_render_schedule ho n d hd h t hr st co ro hst hcov sF coF roF hsF hcovF
  have hrows := tableCsvRows_of_cells alg hc _ _ a b c c₁ cF r₁ rF hc₁ hcF hr₁ hrF
  refine ⟨by rw [hrows], ?_, by rw [e]⟩
  rw [hrows]
  exact csv_roundtrip _ (tableCsvRows_nonempty _ _ _ _)

/-- … and the COMPLETE result of `sparkFunction` – the footer `Matched: m / r (R: rows; C: cols) …` with `RowCount` and
`ColumnCount` of the trimmed table, the `--csv` text, the exit status – for the relational reach relation: after ANY
interleaving of the samples with render-trim steps (any strict total order on column names – `text`, `numeric`, reversed –
any sorted column lists, map iteration orders and contract-abiding `sort.Sort`) it is the result of one render step on the
sequentially sampled table.  (Row and column maps of every reachable table have distinct keys: `reach_nd`.) -/
theorem spark_command_any_render_schedule {lt : Bytes → Bytes → Bool} (ho : NameOrder lt) (n : Nat) (d : Bytes) (hd : d ≠ [])
    (h : List Bytes) (t : Table) (hr : SparkReach lt n d h t)
    (st co : List Bytes) (ro : Bytes → List Bytes) (hst : IsSortedCols lt t st) (hcov : Covers t co ro)
    (sF coF : List Bytes) (roF : Bytes → List Bytes) (hsF : IsSortedCols lt (Table.run d h) sF)
    (hcovF : Covers (Table.run d h) coF roF)
    (alg : List NV → Algo NV (List NV)) (hc : SortContract alg) (c₁ r₁ cF rF : List Bytes)
    (hc₁ : IsRangeOf c₁ (renderStep n t st co ro).cols) (hr₁ : IsRangeOf r₁ (renderStep n t st co ro).rows)
    (hcF : IsRangeOf cF (renderStep n (Table.run d h) sF coF roF).cols)
    (hrF : IsRangeOf rF (renderStep n (Table.run d h) sF coF roF).rows) (k : Counters) (readErrors : Int) :
    tableCmd (sortOf alg) c₁ r₁ (renderStep n t st co ro) k readErrors =
      tableCmd isortFn cF rF (renderStep n (Table.run d h) sF coF roF) k readErrors := by
  obtain ⟨a, b, c, e⟩ := spark_trim_any_render_schedule ho n d hd h t hr st co ro hst hcov sF coF roF hsF hcovF
  have i := C07.tableInv_run d hd h
  exact tableCmd_det _ _ b c e (reach_nd (SparkReach.render h t st co ro hr hst hcov))
    (renderStep_nd n _ sF coF roF ⟨i.nodupRows, i.nodupCols⟩)
    (tableCsvRows_of_cells alg hc _ _ a b c c₁ cF r₁ rF hc₁ hcF hr₁ hrF) k readErrors

/-- The column orders `spark` can trim by are instances of `NameOrder`: `--sort-cols text` (`ByName`), `--sort-cols numeric`
– spark's DEFAULT, `ByNameSmart` with the real `ParseFloat`, a strict total order on all byte strings (C13) – and their
reverses (`:desc`, `:rev`: on distinct names `!lt a b` is `lt b a`); so `spark_trim_any_render_schedule`, `spark_csv_any_render_schedule` and
`spark_command_any_render_schedule` speak about the default command line too. -/
theorem spark_column_orders :
    NameOrder bytesLt ∧ NameOrder byNameSmartF ∧
    (∀ lt : Bytes → Bytes → Bool, NameOrder lt → NameOrder (fun a b => lt b a)) := by
  refine ⟨bytesLt_nameOrder, ⟨fun a => C13.numeric_real_strict_total.irrefl a trivial,
    fun a b c => C13.numeric_real_strict_total.trans a b c trivial trivial trivial,
    fun a b => C13.numeric_real_strict_total.total a b trivial trivial⟩, ?_⟩
  intro lt ho
  exact ⟨fun a => ho.irrefl a, fun a b c hab hbc => ho.trans c b a hbc hab, fun a b hne => (ho.total a b hne).symm⟩

/-- The same for the executable model of `sparkFunction` that the `cmd` / `tbl` correspondence ops run against the real
command: with a trimming configuration (no `--notruncate`, `--sort-cols` not value-ordered) the COMPLETE result – footer
with the row and column counts, `--csv` text, exit status – after any script of samples and renders is the result on
the sequentially sampled table. -/
theorem spark_command_render_timing_independent (n : Nat) (d : Bytes) (hd : d ≠ []) (evs : List SparkEv) (sortCols : Bytes)
    (hs : sortsByValue sortCols = false) (k : Counters) (readErrors : Int) :
    sparkCmd n false sortCols (sparkRun n d evs) k readErrors =
      sparkCmd n false sortCols (Table.run d (sparkSamples evs)) k readErrors := by
  have := sparkBy_tableCmd bytesLt_nameOrder nameLess_text nvNameLess_order n d hd evs k readErrors
  rw [sparkRunBy_text] at this
  simpa only [sparkCmd, hs, Bool.not_false, Bool.and_self, if_true, sparkTrimBy_text] using this

/-- … and without trimming (`--notruncate`, or a value-ordered `--sort-cols`: b216f7d) `sparkFunction` is `tabulateFunction`
on the untouched table, which `table_command_schedule_independent` covers. -/
theorem spark_command_untrimmed (n : Nat) (noTruncate : Bool) (sortCols : Bytes) (t : Table) (k : Counters) (readErrors : Int)
    (h : noTruncate = true ∨ sortsByValue sortCols = true) :
    sparkCmd n noTruncate sortCols t k readErrors = tableCmd isortFn (akeys t.cols) (akeys t.rows) t k readErrors := by
  rcases h with h | h <;> simp [sparkCmd, h]

/-- `writeHistoOutput`, `minSlice` and the footer calls of the five counting commands as the SOURCE spells them
(regenerated on every run), next to what `histoShown` / `histoCmd` / `tableCmd` / `barsCmd` model: sort ALL groups, keep
the first `count` (`minSlice`), show the rows with `count >= atLeast` on consecutive lines; footer 0 =
`FWriteExtractorSummary(ext, counter.ParseErrors(), …)` with `(Groups: GroupCount)` resp. `(R: RowCount; C: ColumnCount)`
resp. nothing – and `histoShown` does exactly that on a concrete counter (ties in `--sort value` come out by descending
name; `--atleast` applies AFTER the cut). -/
theorem histo_output_from_source :
    Gen.C03.histoOutputBody = [
      "{",
      "items := counter.ItemsSortedBy(count, sorter)",
      "line := 0",
      "writer.UpdateTotal(counter.Total())",
      "for _, match := range items {",
      "count := match.Item.Count()",
      "if count >= atLeast {",
      "writer.WriteForLine(line, match.Name, count)",
      "line++",
      "}",
      "}",
      "}"] ∧
    Gen.C03.minSliceBody = ["{", "if len(items) < count {", "return items", "}", "return items[:count]", "}"] ∧
    Gen.C03.footerCalls = [
      ("histo", ["helpers.FWriteExtractorSummary(ext, counter.ParseErrors(), fmt.Sprintf(\"(Groups: %s)\", color.Wrapi(color.BrightBlue, counter.GroupCount())))"]),
      ("table", ["helpers.FWriteExtractorSummary(ext, counter.ParseErrors(), fmt.Sprintf(\"(R: %v; C: %v)\", color.Wrapi(color.Yellow, counter.RowCount()), color.Wrapi(color.BrightBlue, counter.ColumnCount())))"]),
      ("heatmap", ["helpers.FWriteExtractorSummary(ext, counter.ParseErrors(), fmt.Sprintf(\"(R: %v; C: %v)\", color.Wrapi(color.Yellow, counter.RowCount()), color.Wrapi(color.BrightBlue, counter.ColumnCount())))"]),
      ("spark", ["helpers.FWriteExtractorSummary(ext, counter.ParseErrors(), fmt.Sprintf(\"(R: %v; C: %v)\", color.Wrapi(color.Yellow, counter.RowCount()), color.Wrapi(color.BrightBlue, counter.ColumnCount())))"]),
      ("bargraph", ["helpers.FWriteExtractorSummary(ext, counter.ParseErrors())"])] ∧
    (let c := Counter.run [[97], [98], [98], [99], [99], [100, 0, 53]]
     (histoShown isortFn (revLess nvValueAscLess) (akeys c.items) c 3 0).map (fun nv => (nv.name, nv.value)) =
        [([100], 5), ([99], 2), ([98], 2)] ∧
     (histoShown isortFn (revLess nvValueAscLess) (akeys c.items) c 3 3).map (fun nv => (nv.name, nv.value)) = [([100], 5)] ∧
     (histoShown isortFn (revLess nvValueAscLess) (akeys c.items) c 0 0) = [] ∧
     (histoShown isortFn nvNameLess (akeys c.items) c 9 2).map (·.name) = [[98], [99], [100]]) ∧
    groupsPart 3 = ascii "(Groups: 3)" ∧ rcPart 2 10 = ascii "(R: 2; C: 10)" := by
  exact ⟨rfl, rfl, rfl, by decide +kernel, by decide +kernel, by decide +kernel⟩

/-! ### non-vacuity for the command-function theorems -/

/-- samples `a`, `b`, `b`, `c NUL 3`, `x NUL y` (a parse error), `--num 2 --atleast 2 --all`, default `--sort value`:
the screen shows `c 3`, `b 2`, the footer counts 3 groups and 1 error, exit status 2 -/
example : (let smp : List Bytes := [[97], [98], [98], [99, 0, 51], [120, 0, 121]]
    match pureSortLess (asc "value") with
    | some less => some ((histoCmd isortFn less (akeys (Counter.run smp).items) 2 2 true (Counter.run smp) ⟨5, 6, 0⟩ 0).lines,
                         (histoCmd isortFn less (akeys (Counter.run smp).items) 2 2 true (Counter.run smp) ⟨5, 6, 0⟩ 0).exit)
    | none => none) =
    some ([ascii "c    3", ascii "b    2", ascii "Matched: 5 / 6 (Groups: 3) (Errors: 1)", ascii "Full Table:",
           ascii "c    3", ascii "b    2", ascii "Matched: 5 / 6 (Groups: 3) (Errors: 1)"], 2) := by
  decide +kernel
/-- `spark --cols 1 --sort-cols text`: a w | render | b w, a w | render | b x – and the same samples without renders -/
example : (let o := sparkCmd 1 false (asc "text") (sparkRun 1 [0] [.sample [97, 0, 119], .render, .sample [98, 0, 119],
      .sample [97, 0, 119], .render, .sample [98, 0, 120]]) ⟨4, 4, 0⟩ 0
      (o.exit, o.csv, o.lines)) = (0, ascii ",b\nw,1\nx,1\n", [ascii "Matched: 4 / 4 (R: 2; C: 1)"]) ∧
    sparkSamples [.sample [97, 0, 119], .render, .sample [98, 0, 119], .sample [97, 0, 119], .render, .sample [98, 0, 120]] =
      [[97, 0, 119], [98, 0, 119], [97, 0, 119], [98, 0, 120]] := by
  decide +kernel
example : NameOrder bytesLt := bytesLt_nameOrder
example : ∃ h c, TerminalC exCls (·.text) exCfg exData h c := terminalC_inhabited exCls (·.text) exCfg exData (by decide) (by decide) (by decide)

/-! ### spark with the column sorter of `--sort-cols` inside the executable model

`sparkTrimBy less` / `sparkRunBy less` / `sparkCmdBy`: the trim of every render keeps the last `--cols` columns of
`colSorter = BuildSorter(sortCols)` – `numeric` (spark's DEFAULT), `text`, reversed or not – and the `tbl` / `cmd` ops replay
exactly that on the real `TableAggregator` / the real `sparkFunction`. -/

/-- For EVERY `--sort-cols` text whose comparator is pure and not value-ordered (`text`, `numeric`, any spelling, `:asc`,
`:desc`, `:rev`, `:reverse`) and the executable model run with THAT comparator: after any script of samples and renders the
final render leaves the same cells, rows, columns and parse-error count as one render on the sequentially sampled table. -/
theorem spark_model_any_sort_cols_render_timing_independent (sortCols : Bytes) (less : NV → NV → Bool)
    (hless : pureSortLess sortCols = some less) (hv : sortsByValue sortCols = false)
    (n : Nat) (d : Bytes) (hd : d ≠ []) (evs : List SparkEv) :
    let tf := sparkTrimBy less n (sparkRunBy less n d evs)
    let rf := sparkTrimBy less n (Table.run d (sparkSamples evs))
    (∀ c r, tf.cell c r = rf.cell c r) ∧ (∀ r, (aget tf.rows r).isSome = (aget rf.rows r).isSome) ∧
    (∀ c, (aget tf.cols c).isSome = (aget rf.cols c).isSome) ∧ tf.errors = rf.errors := by
  obtain ⟨lt, ho, hl⟩ := pureSortLess_nameLess C13.numeric_real_strict_total sortCols less hless hv
  exact sparkBy_final ho hl (pureSortLess_order C13.numeric_real_strict_total sortCols less hless) n d hd evs

/-- … and the COMPLETE result of the command model (`sparkCmdBy`: footer with the row and column counts, `--csv` text, exit
status) for that `--sort-cols`, which exists (`isSome`) for every such name. -/
theorem spark_command_any_sort_cols_render_timing_independent (n : Nat) (d : Bytes) (hd : d ≠ []) (evs : List SparkEv)
    (sortCols : Bytes) (less : NV → NV → Bool) (hless : pureSortLess sortCols = some less)
    (hs : sortsByValue sortCols = false) (k : Counters) (readErrors : Int) :
    sparkCmdBy n false sortCols (sparkRunBy less n d evs) k readErrors =
      sparkCmdBy n false sortCols (Table.run d (sparkSamples evs)) k readErrors ∧
    (sparkCmdBy n false sortCols (Table.run d (sparkSamples evs)) k readErrors).isSome = true := by
  obtain ⟨lt, ho, hl⟩ := pureSortLess_nameLess C13.numeric_real_strict_total sortCols less hless hs
  have := sparkBy_tableCmd ho hl (pureSortLess_order C13.numeric_real_strict_total sortCols less hless) n d hd evs k readErrors
  simp only [sparkCmdBy, hless, hs, Bool.not_false, Bool.and_self, if_true, this, Option.isSome_some, and_self]

/-- `sparkCmdBy` is `sparkCmd` for the plain `text` order, `tabulateFunction` on the untouched table when nothing trims
(`--notruncate` or a value-ordered name), and undefined exactly when `pureSortLess` is (inferring names, errors); the
comparators it can trim by are the four name orders – text, numeric and their reverses – each a `NameOrder` on the names. -/
theorem spark_command_by_sort_cols (n : Nat) (noTruncate : Bool) (sortCols : Bytes) (t : Table) (k : Counters) (readErrors : Int) :
    (pureSortLess sortCols = some nvNameLess →
      sparkCmdBy n noTruncate sortCols t k readErrors = some (sparkCmd n noTruncate sortCols t k readErrors)) ∧
    (∀ less, pureSortLess sortCols = some less → (noTruncate = true ∨ sortsByValue sortCols = true) →
      sparkCmdBy n noTruncate sortCols t k readErrors = some (tableCmd isortFn (akeys t.cols) (akeys t.rows) t k readErrors)) ∧
    (pureSortLess sortCols = none → sparkCmdBy n noTruncate sortCols t k readErrors = none) ∧
    (∀ less, pureSortLess sortCols = some less → sortsByValue sortCols = false →
      (less = nvNameLess ∨ less = revLess nvNameLess ∨ less = nvSmartLess ∨ less = revLess nvSmartLess) ∧
      ∃ lt : Bytes → Bytes → Bool, NameOrder lt ∧ ∀ a b : NV, a.name ≠ b.name → less a b = lt a.name b.name) := by
  refine ⟨fun h => ?_, fun less h hn => ?_, fun h => ?_, fun less h hv => ?_⟩
  · simp only [sparkCmdBy, h, sparkCmd, sparkTrimBy_text]
  · rcases hn with hn | hn <;> simp [sparkCmdBy, h, hn]
  · simp only [sparkCmdBy, h]
  · exact ⟨pureSortLess_name_cases sortCols less h hv, pureSortLess_nameLess C13.numeric_real_strict_total sortCols less h hv⟩

/-- The order is not decoration (kernel-checked): columns `10` and `9`, `--cols 1`. The untrimmed table is `,10,9 / r,1,5`;
the text order keeps column `9` (`"10" < "9"`), the reversed text order and the numeric order (9 < 10) keep column `10` – a
model that trimmed by the text order whatever `--sort-cols` says would be wrong for spark's default. -/
theorem spark_sort_cols_order_matters :
    let samples : List Bytes := [asc "10" ++ [0] ++ asc "r", asc "9" ++ [0] ++ asc "r" ++ [0] ++ asc "5"]
    let t := Table.run [0] samples
    let csvOf (u : Table) : Bytes := writeCsv (tableCsvRows isortFn (akeys u.cols) (akeys u.rows) u)
    refTableCsv [0] samples = asc ",10,9\nr,1,5\n" ∧
    csvOf (sparkTrimBy nvNameLess 1 t) = asc ",9\nr,5\n" ∧
    csvOf (sparkTrimBy (revLess nvNameLess) 1 t) = asc ",10\nr,1\n" ∧
    csvOf (sparkTrimBy nvSmartLess 1 t) = asc ",10\nr,1\n" ∧
    csvOf (sparkTrimBy (revLess nvSmartLess) 1 t) = asc ",9\nr,5\n" := by
  simp -index only [asc_ofList]
  decide +kernel

/-- the hypotheses are satisfiable: `numeric` (spark's default) and `Text:desc` are pure, not value-ordered names -/
example : pureSortLess (asc "numeric") = some nvSmartLess ∧ sortsByValue (asc "numeric") = false ∧
    pureSortLess (asc "Text:desc") = some (revLess nvNameLess) ∧ sortsByValue (asc "Text:desc") = false :=
  ⟨pureSortLess_of_kind (k := some (.numeric, false)) (by simp -index only [asc_ofList]; decide +kernel), by simp -index only [asc_ofList]; decide +kernel,
   pureSortLess_of_kind (k := some (.text, true)) (by simp -index only [asc_ofList]; decide +kernel), by simp -index only [asc_ofList]; decide +kernel⟩

end Rare.C03

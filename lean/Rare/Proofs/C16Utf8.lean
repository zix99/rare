import Rare.Spec.C16
/-! C16: the UTF-8 automaton on concatenations and on ASCII text. -/
namespace Rare.C16

theorem u8Run_append : ∀ (a b : Bytes) (st : U8),
    u8Run st (a ++ b) = (u8Run st a).bind fun st' => u8Run st' b := by
  intro a
  induction a with
  | nil => intro b st; simp [u8Run]
  | cons c a ih =>
    intro b st
    simp only [List.cons_append, u8Run]
    cases u8Step st c with
    | none => simp
    | some st' => simp [ih]

def IsAscii (a : Bytes) : Prop := ∀ c ∈ a, c < 0x80

theorem u8Run_ascii : ∀ (a : Bytes), IsAscii a → u8Run .s0 a = some .s0 := by
  intro a
  induction a with
  | nil => intro _; rfl
  | cons c a ih =>
    intro h
    have hc : c < 0x80 := h c (by simp)
    simp only [u8Run, u8Step, hc, if_true]
    exact ih (fun d hd => h d (by simp [hd]))

/-- an ASCII byte is only accepted between characters -/
theorem u8Step_ascii (st st' : U8) (c : UInt8) (hc : c < 0x80) (h : u8Step st c = some st') :
    st = .s0 ∧ st' = .s0 := by
  have hn : c.toNat < 128 := by simpa using UInt8.lt_iff_toNat_lt.mp hc
  cases st with
  | s0 => simp [u8Step, hc] at h; exact ⟨rfl, h.symm⟩
  | c1 | c2 | c3 | e0 | ed | f0 | f4 =>
    simp only [u8Step] at h
    split at h
    · rename_i hh
      have := UInt8.le_iff_toNat_le.mp hh.1
      simp at this; omega
    · cases h

theorem valid_append (a b : Bytes) (ha : validUtf8 a = true) (hb : validUtf8 b = true) :
    validUtf8 (a ++ b) = true := by
  simp only [validUtf8, beq_iff_eq] at *
  rw [u8Run_append, ha]; simpa using hb

theorem valid_ascii (a : Bytes) (h : IsAscii a) : validUtf8 a = true := by
  simp [validUtf8, u8Run_ascii a h]

theorem valid_natAscii (n : Nat) : validUtf8 (natAscii n) = true := by
  apply valid_ascii
  intro c hc
  simp only [natAscii, natDigits, List.mem_map] at hc
  obtain ⟨ch, hch, e⟩ := hc
  have hd := Nat.isDigit_of_mem_toDigits (by decide) (by decide) hch
  simp only [Char.isDigit, Bool.and_eq_true, decide_eq_true_eq] at hd
  subst e
  have h2 : ch.toNat ≤ 57 := UInt32.le_iff_toNat_le.mp hd.2
  apply UInt8.lt_iff_toNat_lt.mpr
  simp; omega

end Rare.C16

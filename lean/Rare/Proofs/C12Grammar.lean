import Rare.Proofs.C12Parse
import Rare.Spec.C12Grammar
/-! `CompileEx` accepts exactly the texts of the pattern grammar (`Spec/C12Grammar.lean`). -/
namespace Rare.C12

/-- "no occurrence" by search = "not an infix" -/
theorem firstIndex_none_iff_not_infix (n h : Bytes) : firstIndex n h = none ↔ ¬ n <:+: h := by
  rw [firstIndex_none_iff]
  constructor
  · rintro hall ⟨s, t, hst⟩
    apply hall s.length (by rw [← hst]; simp)
    rw [← hst]
    exact ⟨t, by simp⟩
  · intro hno k hk hp
    apply hno
    obtain ⟨t, ht⟩ := hp
    exact ⟨h.take k, t, by rw [List.append_assoc, ht, List.take_append_drop]⟩

theorem noTok_iff_literal (l : Bytes) : NoTok l ↔ IsLiteral l :=
  firstIndex_none_iff_not_infix _ l

theorem shape_iff (p : Pat) :
    p.Shape ↔ IsLiteral p.pre ∧ (∀ t ∈ p.toks, IsKey t.key) ∧ (∀ t ∈ p.toks, IsLiteral t.lit) := by
  unfold Pat.Shape
  constructor
  · rintro ⟨h1, h2⟩
    exact ⟨(noTok_iff_literal _).mp h1, fun t ht => (h2 t ht).1, fun t ht => (noTok_iff_literal _).mp (h2 t ht).2⟩
  · rintro ⟨h1, h2, h3⟩
    exact ⟨(noTok_iff_literal _).mpr h1, fun t ht => ⟨h2 t ht, (noTok_iff_literal _).mpr (h3 t ht)⟩⟩

/-- the scan of `specErrors` finds nothing iff delimiters between adjacent tokens are non-empty and
the captured names are new and pairwise different -/
theorem specErrors_none_iff : ∀ (toks : List Tok) (seen : List Bytes),
    specErrors false toks seen = none ↔
      DelimsNonEmpty toks ∧ (capturedNames toks).Nodup ∧ ∀ n ∈ capturedNames toks, n ∉ seen := by
  intro toks
  induction toks with
  | nil => intro seen; simp [specErrors, DelimsNonEmpty, capturedNames]
  | cons t ts ih =>
    intro seen
    have hcap : capturedNames (t :: ts) = if t.skip then capturedNames ts else t.name :: capturedNames ts := by
      by_cases hsk : t.skip = true <;> simp [capturedNames, List.filter, hsk]
    simp only [specErrors, DelimsNonEmpty, hcap, Bool.false_eq_true, or_false]
    by_cases hl : t.lit = [] ∧ ts ≠ []
    · simp [hl]
    · rw [if_neg hl]
      have hd : (ts ≠ [] → t.lit ≠ []) := fun h1 h2 => hl ⟨h2, h1⟩
      by_cases hsk : t.skip = true
      · simp only [hsk, ih, if_true, Bool.not_true, Bool.false_eq_true, false_and, if_false]
        exact ⟨fun ⟨a, b, c⟩ => ⟨⟨hd, a⟩, b, c⟩, fun ⟨⟨_, a⟩, b, c⟩ => ⟨a, b, c⟩⟩
      · by_cases hc : t.name ∈ seen
        · simp [hsk, hc]
        · simp only [hsk, hc, ih, Bool.not_false, true_and, if_false, Bool.false_eq_true, List.nodup_cons,
            List.mem_cons, not_or]
          constructor
          · rintro ⟨a, b, c⟩
            exact ⟨⟨hd, a⟩, ⟨fun hm => (c _ hm).1 rfl, b⟩, fun n hn => hn.elim (fun e => e ▸ hc) fun h => (c n h).2⟩
          · rintro ⟨⟨_, a⟩, ⟨b1, b2⟩, c⟩
            exact ⟨a, b2, fun n hn => ⟨fun e => b1 (e ▸ hn), c n (Or.inr hn)⟩⟩
theorem grammar_iff (p : Pat) : p.Grammar ↔ p.Shape ∧ specErrors false p.toks [] = none := by
  rw [shape_iff, specErrors_none_iff]
  constructor
  · intro g; exact ⟨⟨g.pre, g.keys, g.lits⟩, g.delims, g.names, by simp⟩
  · rintro ⟨⟨a, b, c⟩, d, e, _⟩; exact ⟨a, b, c, d, e⟩

/-- **`CompileEx` succeeds iff the text is derivable in the grammar** (either mode). -/
theorem compileEx_ok_iff_grammar (s : Bytes) (ic : Bool) :
    (∃ d, compileEx s ic = .ok d) ↔ PatternText s := by
  constructor
  · rintro ⟨d, h⟩
    obtain ⟨p, hp, hs⟩ := compiles_is_pattern h
    subst hs
    exact ⟨p, (grammar_iff p).mpr ⟨hp, (compileEx_ok hp h).1⟩, rfl⟩
  · rintro ⟨p, g, rfl⟩
    obtain ⟨hp, he⟩ := (grammar_iff p).mp g
    rw [compileEx_pat ic p hp, he]
    exact ⟨_, rfl⟩

/-- the compiled structure of a derivation -/
theorem compileEx_of_grammar (p : Pat) (g : p.Grammar) (ic : Bool) :
    compileEx p.render ic = .ok (compiled ic p) := by
  obtain ⟨hp, he⟩ := (grammar_iff p).mp g
  rw [compileEx_pat ic p hp, he]

/-- `CompileEx` never runs out of the model's fuel: it answers a structure or one of the three Go errors -/
theorem compileEx_no_fuel (s : Bytes) (ic : Bool) : compileEx s ic ≠ .error .fuel := by
  obtain ⟨p, tail, hp, ht, hs⟩ := parse_total s
  rw [hs, compileEx_render ic p hp tail ht]
  cases specErrors tail.isSome p.toks [] with
  | none => simp
  | some e => cases e <;> simp [cerr]

end Rare.C12

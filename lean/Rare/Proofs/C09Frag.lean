import Rare.Proofs.C09C10Std
import Rare.Spec.C09Frag
import Rare.Proofs.C11
import Rare.Props.C17
/-!
C09 × C10: a large, explicitly listed fragment of the STANDARD function table satisfies the registry
hypothesis of the generalised print/compile theorem (`RegDen`, `Rare/Proofs/C09Den.lean`).

For every name of the fragment: its meaning as a function of the argument values (`stdSem`), the arities and
– where the Go builder inspects an argument at compile time – the side condition on the argument *trees*
(`callOk`: an integer-typed position holds a dynamic expression or something that evaluates to an integer; a
constant position holds a literal of the right type), and the proof that the registered builder, given
argument stages denoting the argument trees, returns without compile error a stage denoting the call.
-/
namespace Rare.C09
open Rare Rare.Expr

/-! ### running and probing -/

theorem probeN_pos_of {α : Type} (c : Comp α) (a : α) (h : c.probe = .ok (a, false)) :
    ∃ k', c.probeN 0 = .ok (a, k') ∧ 0 < k' := by
  unfold Comp.probe at h
  cases hp : c.probeN 0 with
  | error m => rw [hp] at h; cases h
  | ok p =>
    obtain ⟨a', n⟩ := p
    rw [hp] at h
    simp only [Except.ok.injEq, Prod.mk.injEq, beq_eq_false_iff_ne, ne_eq] at h
    exact ⟨n, by rw [h.1], by omega⟩

/-- A stage that first runs a stage which looks something up, and does not panic under the probe, is not
    mistaken for a constant. -/
theorem dyn_bind {α β : Type} {a : Comp α} {k : α → Comp β} (ha : ∃ v, a.probe = .ok (v, false))
    (htot : ∃ w, (a.bind k).run emptyCtx = .ok w) : ∃ v, (a.bind k).probe = .ok (v, false) := by
  obtain ⟨v, hv⟩ := ha
  obtain ⟨n, hn, hpos⟩ := probeN_pos_of a v hv
  obtain ⟨w, hw⟩ := htot
  obtain ⟨m, hm⟩ := probeN_of_run (a.bind k) 0 w hw
  have h1 := Comp.probeN_bind a k 0
  rw [hn] at h1
  simp only [] at h1
  rw [hm] at h1
  have := Comp.probeN_ge (k v) n w m h1.symm
  refine ⟨w, ?_⟩
  unfold Comp.probe
  rw [hm]
  simp only [Except.ok.injEq, Prod.mk.injEq, true_and, beq_eq_false_iff_ne, ne_eq]
  omega

/-- A total stage probes to its value in the empty context; if constant it *is* that value. -/
theorem static_val {s : Stage} {v : Bytes} (hp : s.probe = .ok (v, true)) : s = .ret v := Comp.probe_constant s v hp

theorem probe_total {s : Stage} (h : Total s) : ∃ v b, s.probe = .ok (v, b) ∧ s.run emptyCtx = .ok v := by
  obtain ⟨v, hv⟩ := h emptyCtx
  obtain ⟨b, hb⟩ := probe_of_run s v hv
  exact ⟨v, b, hb, hv⟩

/-! ### destructuring `cargs.map run = vals.map ok` -/

theorem map_run_1 {ctx : Ctx} {a : Stage} {vals : List Bytes} (h : [a].map (·.run ctx) = vals.map .ok) :
    ∃ v, vals = [v] ∧ a.run ctx = .ok v := by
  rcases vals with _ | ⟨v, _ | ⟨x, r⟩⟩ <;> simp at h
  exact ⟨v, rfl, h⟩

theorem map_run_2 {ctx : Ctx} {a b : Stage} {vals : List Bytes} (h : [a, b].map (·.run ctx) = vals.map .ok) :
    ∃ v w, vals = [v, w] ∧ a.run ctx = .ok v ∧ b.run ctx = .ok w := by
  rcases vals with _ | ⟨v, _ | ⟨w, _ | ⟨x, r⟩⟩⟩ <;> simp at h
  exact ⟨v, w, rfl, h.1, h.2⟩

theorem map_run_cons {ctx : Ctx} {a : Stage} {rest : List Stage} {vals : List Bytes}
    (h : (a :: rest).map (·.run ctx) = vals.map .ok) :
    ∃ v vs, vals = v :: vs ∧ a.run ctx = .ok v ∧ rest.map (·.run ctx) = vs.map .ok := by
  rcases vals with _ | ⟨v, vs⟩ <;> simp at h
  exact ⟨v, vs, rfl, h.1, h.2⟩

theorem len1 {α : Type} {l : List α} (h : l.length = 1) : ∃ a, l = [a] := by
  match l, h with
  | [a], _ => exact ⟨a, rfl⟩

theorem len2 {α : Type} {l : List α} (h : l.length = 2) : ∃ a b, l = [a, b] := by
  match l, h with
  | [a, b], _ => exact ⟨a, b, rfl⟩

theorem len3 {α : Type} {l : List α} (h : l.length = 3) : ∃ a b c, l = [a, b, c] := by
  match l, h with
  | [a, b, c], _ => exact ⟨a, b, c, rfl⟩

/-! ### the shape of an instance -/

/-- What an instance proves about one builder at one arity, for argument stages satisfying `pre`:
    no compile error, the value is `sem` of the argument values, and – if `first` – the stage starts by
    running its first argument (so a dynamic first argument makes the call dynamic). -/
structure Inst (b : Builder) (semf : List Bytes → Bytes) (cargs : List Stage) (stage : Stage) : Prop where
  built : b cargs = .ok ⟨some stage, none⟩
  run : ∀ (ctx : Ctx) (vals : List Bytes), cargs.map (·.run ctx) = vals.map .ok → stage.run ctx = .ok (semf vals)

/-- `stage` starts with its first argument. -/
def StartsWith (stage : Stage) (cargs : List Stage) : Prop :=
  ∀ a rest, cargs = a :: rest → ∃ k : Bytes → Stage, stage = a.bind k

/-- A dynamic first argument makes the stage dynamic. -/
def DynFirst (stage : Stage) (cargs : List Stage) : Prop :=
  ∀ a rest, cargs = a :: rest → (∃ v, a.probe = .ok (v, false)) → ∃ v, stage.probe = .ok (v, false)

theorem total_vals (ctx : Ctx) : ∀ cargs : List Stage, (∀ a ∈ cargs, Total a) →
    ∃ vals : List Bytes, cargs.map (·.run ctx) = vals.map .ok
  | [], _ => ⟨[], rfl⟩
  | a :: rest, h => by
    obtain ⟨v, hv⟩ := h a (by simp) ctx
    obtain ⟨vs, hvs⟩ := total_vals ctx rest fun x hx => h x (by simp [hx])
    exact ⟨v :: vs, by simp [hv, hvs]⟩

theorem dynFirst_of_startsWith {stage : Stage} {cargs : List Stage} (h : StartsWith stage cargs)
    (htot : ∃ w, stage.run emptyCtx = .ok w) : DynFirst stage cargs := by
  intro a rest hc ha
  obtain ⟨k, hk⟩ := h a rest hc
  rw [hk] at htot ⊢
  exact dyn_bind ha htot

/-- The entry is correct: for argument stages denoting the argument trees (any semantics, any certificate),
    at an admissible arity and under the side condition, the builder returns a stage that computes `sem` of
    the argument values and (if `first`) is dynamic whenever its first argument is. -/
def EntryOkV (e : Entry) : Prop :=
  ∀ (val : Val) (D : C09.Expr → Bool) (args : List C09.Expr) (cargs : List Stage), DenArgsV val D cargs args →
    e.arity args.length = true → e.pre ((fun a => val a emptyCtx)) D args = true →
    ∃ stage, Inst e.builder e.sem cargs stage ∧ (e.first = true → DynFirst stage cargs)

/-- Entries without side condition whose proof only needs the argument stages to be total. -/
theorem EntryOkV.simple {e : Entry}
    (h : ∀ cargs : List Stage, e.arity cargs.length = true → (∀ a ∈ cargs, Total a) →
      ∃ stage, Inst e.builder e.sem cargs stage ∧ (e.first = true → StartsWith stage cargs)) : EntryOkV e := by
  intro val D args cargs hden har _
  obtain ⟨stage, hi, hs⟩ := h cargs (by rw [hden.length]; exact har) hden.total
  refine ⟨stage, hi, fun hf => dynFirst_of_startsWith (hs hf) ?_⟩
  obtain ⟨vals, hv⟩ := total_vals emptyCtx cargs hden.total
  exact ⟨_, hi.run emptyCtx vals hv⟩

theorem startsWith_bind (a : Stage) (k : Bytes → Stage) (rest : List Stage) : StartsWith (a.bind k) (a :: rest) :=
  fun _ _ hc => by cases hc; exact ⟨k, rfl⟩

/-- The usual shape of an instance: the builder returns a stage that starts by running the first argument. -/
theorem Inst.bindFirst {b : Builder} {semf : List Bytes → Bytes} {c0 : Stage} {cs : List Stage} {k : Bytes → Stage}
    (first : Bool) (htot : ∀ a ∈ c0 :: cs, Total a) (hb : b (c0 :: cs) = .ok ⟨some (c0.bind k), none⟩)
    (hrun : ∀ (ctx : Ctx) (vals : List Bytes), (c0 :: cs).map (·.run ctx) = vals.map .ok →
      (c0.bind k).run ctx = .ok (semf vals)) :
    ∃ stage, Inst b semf (c0 :: cs) stage ∧ (first = true → DynFirst stage (c0 :: cs)) := by
  refine ⟨_, ⟨hb, hrun⟩, fun _ => dynFirst_of_startsWith (startsWith_bind c0 k cs) ?_⟩
  obtain ⟨vals, hv⟩ := total_vals emptyCtx _ htot
  exact ⟨_, hrun emptyCtx vals hv⟩

/-! ### Logic -/
namespace FL
open Funcs.Logic

theorem coalesce_run (ctx : Ctx) : ∀ (cargs : List Stage) (vals : List Bytes),
    cargs.map (·.run ctx) = vals.map .ok → (kfCoalesce.go cargs).run ctx = .ok (coalesceSem vals)
  | [], vals, h => by cases vals <;> simp at h; rfl
  | a :: rest, vals, h => by
    obtain ⟨v, vs, rfl, h0, hr⟩ := map_run_cons h
    unfold kfCoalesce.go coalesceSem
    rw [Comp.bind_eq, Comp.run_bind_ok h0]
    split
    · rfl
    · exact coalesce_run ctx rest vs hr

theorem coalesce_ok : EntryOkV coalesceE := EntryOkV.simple fun cargs _ _ =>
  ⟨kfCoalesce.go cargs, ⟨rfl, fun ctx vals h => coalesce_run ctx cargs vals h⟩, fun _ a rest hc => by
    subst hc; exact ⟨_, by rw [kfCoalesce.go]; rfl⟩⟩

theorem cmpGo_run (eq : Bytes → Bytes → Bytes) (ctx : Ctx) : ∀ (cargs : List Stage) (vals : List Bytes) (val : Bytes),
    cargs.map (·.run ctx) = vals.map .ok → (stringComparator.go eq val cargs).run ctx = .ok (cmpGoSem eq val vals)
  | [], vals, val, h => by cases vals <;> simp at h; rfl
  | a :: rest, vals, val, h => by
    obtain ⟨v, vs, rfl, h0, hr⟩ := map_run_cons h
    unfold stringComparator.go cmpGoSem
    rw [Comp.bind_eq, Comp.run_bind_ok h0]
    exact cmpGo_run eq ctx rest vs _ hr

theorem cmp_ok (eq : Bytes → Bytes → Bytes) : EntryOkV (cmpE eq) := EntryOkV.simple fun cargs har _ => by
  match cargs, har with
  | a0 :: a1 :: rest, _ =>
    refine ⟨_, ⟨rfl, fun ctx vals h => ?_⟩, fun _ => startsWith_bind _ _ _⟩
    obtain ⟨v0, vs, rfl, h0, hr⟩ := map_run_cons h
    obtain ⟨v1, vs', rfl, _, _⟩ := map_run_cons hr
    rw [Comp.bind_eq, Comp.run_bind_ok h0]
    exact cmpGo_run eq ctx _ _ _ hr

theorem not_ok : EntryOkV notE := EntryOkV.simple fun cargs har _ => by
  match cargs, har with
  | [a], _ =>
    refine ⟨_, ⟨rfl, fun ctx vals h => ?_⟩, fun _ => startsWith_bind _ _ _⟩
    obtain ⟨v, rfl, h0⟩ := map_run_1 h
    rw [Comp.bind_eq, Comp.run_bind_ok h0]; rfl

theorem and_run (ctx : Ctx) : ∀ (cargs : List Stage) (vals : List Bytes),
    cargs.map (·.run ctx) = vals.map .ok → (kfAnd.go cargs).run ctx = .ok (andSem vals)
  | [], vals, h => by cases vals <;> simp at h; rfl
  | a :: rest, vals, h => by
    obtain ⟨v, vs, rfl, h0, hr⟩ := map_run_cons h
    unfold kfAnd.go andSem
    rw [Comp.bind_eq, Comp.run_bind_ok h0]
    split
    · rfl
    · exact and_run ctx rest vs hr

theorem and_ok : EntryOkV andE := EntryOkV.simple fun cargs _ _ =>
  ⟨kfAnd.go cargs, ⟨rfl, fun ctx vals h => and_run ctx cargs vals h⟩, fun _ a rest hc => by
    subst hc; exact ⟨_, by rw [kfAnd.go]; rfl⟩⟩

theorem or_run (ctx : Ctx) : ∀ (cargs : List Stage) (vals : List Bytes),
    cargs.map (·.run ctx) = vals.map .ok → (kfOr.go cargs).run ctx = .ok (orSem vals)
  | [], vals, h => by cases vals <;> simp at h; rfl
  | a :: rest, vals, h => by
    obtain ⟨v, vs, rfl, h0, hr⟩ := map_run_cons h
    unfold kfOr.go orSem
    rw [Comp.bind_eq, Comp.run_bind_ok h0]
    split
    · rfl
    · exact or_run ctx rest vs hr

theorem or_ok : EntryOkV orE := EntryOkV.simple fun cargs _ _ =>
  ⟨kfOr.go cargs, ⟨rfl, fun ctx vals h => or_run ctx cargs vals h⟩, fun _ a rest hc => by
    subst hc; exact ⟨_, by rw [kfOr.go]; rfl⟩⟩

theorem if_ok : EntryOkV ifE := EntryOkV.simple fun cargs har _ => by
  match cargs, har with
  | [c, t], _ =>
    refine ⟨_, ⟨rfl, fun ctx vals h => ?_⟩, fun _ => startsWith_bind _ _ _⟩
    obtain ⟨vc, vt, rfl, hc, ht⟩ := map_run_2 h
    rw [Comp.bind_eq, Comp.run_bind_ok hc]
    simp only [ifE, ifSem']
    split
    · exact ht
    · rfl
  | [c, t, e], _ =>
    refine ⟨_, ⟨rfl, fun ctx vals h => ?_⟩, fun _ => startsWith_bind _ _ _⟩
    obtain ⟨vc, vt, ve, rfl, hc, ht, he⟩ := map_run_3 h
    rw [Comp.bind_eq, Comp.run_bind_ok hc]
    simp only [ifE, ifSem']
    split
    · exact ht
    · exact he

theorem unless_ok : EntryOkV unlessE := EntryOkV.simple fun cargs har _ => by
  match cargs, har with
  | [c, t], _ =>
    refine ⟨_, ⟨rfl, fun ctx vals h => ?_⟩, fun _ => startsWith_bind _ _ _⟩
    obtain ⟨vc, vt, rfl, hc, ht⟩ := map_run_2 h
    rw [Comp.bind_eq, Comp.run_bind_ok hc]
    simp only [unlessE, unlessSem]
    split
    · exact ht
    · rfl

theorem switch_run (ctx : Ctx) : ∀ (cargs : List Stage) (vals : List Bytes),
    cargs.map (·.run ctx) = vals.map .ok → (kfSwitch.go cargs).run ctx = .ok (switchSem vals)
  | [], vals, h => by cases vals <;> simp at h; rfl
  | [d], vals, h => by
    obtain ⟨v, rfl, h0⟩ := map_run_1 h
    simpa [kfSwitch.go, switchSem] using h0
  | c :: v :: rest, vals, h => by
    obtain ⟨vc, vs, rfl, h0, hr⟩ := map_run_cons h
    obtain ⟨vv, vs', rfl, h1, hr'⟩ := map_run_cons hr
    unfold kfSwitch.go switchSem
    rw [Comp.bind_eq, Comp.run_bind_ok h0]
    split
    · exact h1
    · exact switch_run ctx rest vs' hr'

theorem switch_ok : EntryOkV switchE := EntryOkV.simple fun cargs har _ => by
  have hlen : ¬ cargs.length ≤ 1 := by simp only [switchE, decide_eq_true_eq] at har; omega
  refine ⟨kfSwitch.go cargs, ⟨by simp [switchE, kfSwitch, hlen, Rare.Expr.ok], fun ctx vals h => switch_run ctx cargs vals h⟩,
    fun _ a rest hc => ?_⟩
  subst hc
  match rest, hlen with
  | v :: r, _ => exact ⟨_, by rw [kfSwitch.go]; rfl⟩

end FL

/-! ### typed arguments (`evalTypedStage` / `mapTypedArgs`) -/

theorem typed_den {α : Type} (parser : Bytes → Option α) {val : Val} {D : C09.Expr → Bool} {c : Stage} {a : C09.Expr}
    (hden : DenV val D c a) (hpre : typedArg parser ((fun a => val a emptyCtx)) D a = true) :
    ∃ t, evalTypedStage c parser = .ok (some t) ∧ (∀ ctx v, c.run ctx = .ok v → t.run ctx = .ok (parser v)) ∧
      ((∃ v, c.probe = .ok (v, false)) → t = c.bind fun v => .ret (parser v)) := by
  obtain ⟨v, b, hp, hv⟩ := probe_total (fun ctx => ⟨_, hden.run ctx⟩ : Total c)
  cases b with
  | true =>
    have hc := static_val hp
    have hD : D a = false := by
      cases hd : D a with
      | false => rfl
      | true => obtain ⟨w, hw⟩ := hden.dyn hd; rw [hp] at hw; cases hw
    have hval : (fun a => val a emptyCtx) a = v := by
      have := hden.run emptyCtx; rw [hv] at this; simpa using this.symm
    simp only [typedArg, hD, Bool.false_or, hval] at hpre
    cases hpv : parser v with
    | none => rw [hpv] at hpre; cases hpre
    | some p =>
      refine ⟨.ret (some p), by simp only [evalTypedStage, hp, hpv], fun ctx v' h' => ?_,
        fun ⟨w, hw⟩ => by rw [hp] at hw; cases hw⟩
      rw [hc] at h'
      simp only [Comp.run, Except.ok.injEq] at h'
      subst h'; rw [hpv]; rfl
  | false =>
    refine ⟨c.bind fun v => .ret (parser v), by simp only [evalTypedStage, hp]; rfl, fun ctx v' h' => ?_, fun _ => rfl⟩
    rw [Comp.run_bind_ok h']; rfl

theorem mapTyped_den {α : Type} (parser : Bytes → Option α) {val : Val} {D : C09.Expr → Bool} :
    ∀ {cargs : List Stage} {args : List C09.Expr}, DenArgsV val D cargs args →
      typedPre parser ((fun a => val a emptyCtx)) D args = true →
      ∃ typed, mapTypedArgs parser cargs = .ok (some typed) ∧
        (∀ (ctx : Ctx) (vals : List Bytes), cargs.map (·.run ctx) = vals.map .ok →
          typed.map (·.run ctx) = vals.map fun v => .ok (parser v)) ∧
        (∀ c rest, cargs = c :: rest → (∃ v, c.probe = .ok (v, false)) →
          ∃ trest, typed = (c.bind fun v => .ret (parser v)) :: trest)
  | [], [], _, _ => ⟨[], rfl, fun ctx vals h => by cases vals <;> simp at h; rfl, fun c rest h => by cases h⟩
  | c :: cs, a :: as, hden, hpre => by
    simp only [typedPre, List.all_cons, Bool.and_eq_true] at hpre
    obtain ⟨t, ht, hrun, hdyn⟩ := typed_den parser hden.1 hpre.1
    obtain ⟨ts, hts, hruns, _⟩ := mapTyped_den parser (cargs := cs) (args := as) hden.2 hpre.2
    refine ⟨t :: ts, by simp only [mapTypedArgs, ht, hts], fun ctx vals h => ?_, fun c' rest hc hp => ?_⟩
    · obtain ⟨v, vs, rfl, h0, hr⟩ := map_run_cons h
      simp only [List.map_cons, hrun ctx v h0, hruns ctx vs hr]
    · cases hc; exact ⟨ts, by rw [hdyn hp]⟩
  | [], _ :: _, h, _ => by cases h
  | _ :: _, [], h, _ => by cases h

/-! ### Arith: integer folds, bucketing -/
namespace FA
open Funcs.Arith

theorem foldRun_run (op : IntOp) (ctx : Ctx) : ∀ (typed : List (Comp (Option Int))) (vals : List Bytes) (acc : Int),
    typed.map (·.run ctx) = vals.map (fun v => .ok (atoi v)) → (foldRun op acc typed).run ctx = .ok (intFoldSem op acc vals)
  | [], vals, acc, h => by cases vals <;> simp at h; rfl
  | t :: rest, vals, acc, h => by
    rcases vals with _ | ⟨v, vs⟩ <;> simp only [List.map_cons, List.map_nil, List.cons.injEq] at h
    · cases h
    · unfold foldRun intFoldSem
      rw [Comp.bind_eq, Comp.run_bind_ok h.1]
      cases atoi v with
      | none => rfl
      | some x =>
        simp only []
        cases op acc x with
        | none => rfl
        | some r => exact foldRun_run op ctx rest vs r h.2

theorem intRun_run (op : IntOp) (ctx : Ctx) (typed : List (Comp (Option Int))) (vals : List Bytes)
    (h : typed.map (·.run ctx) = vals.map (fun v => .ok (atoi v))) : (intRun op typed).run ctx = .ok (intSem op vals) := by
  cases typed with
  | nil => cases vals <;> simp at h; rfl
  | cons t rest =>
    rcases vals with _ | ⟨v, vs⟩ <;> simp only [List.map_cons, List.map_nil, List.cons.injEq] at h
    · cases h
    · rw [intRun, intSem, Comp.bind_eq, Comp.run_bind_ok h.1]
      cases atoi v with
      | none => rfl
      | some x => exact foldRun_run op ctx rest vs x h.2

theorem int_ok (op : IntOp) : EntryOkV (intE op) := by
  intro val D args cargs hden har hpre
  obtain ⟨typed, hty, hruns, hfirst⟩ := mapTyped_den atoi hden hpre
  have hlen : ¬ cargs.length < 2 := by rw [hden.length]; simp only [intE, decide_eq_true_eq] at har; omega
  have hb : intHelper op cargs = .ok ⟨some (intRun op typed), none⟩ := by
    simp only [intHelper, hlen, if_false, hty]; rfl
  have hrun : ∀ (ctx : Ctx) (vals : List Bytes), cargs.map (·.run ctx) = vals.map .ok →
      (intRun op typed).run ctx = .ok (intSem op vals) :=
    fun ctx vals h => intRun_run op ctx typed vals (hruns ctx vals h)
  refine ⟨_, ⟨hb, hrun⟩, fun _ c rest hc hp => ?_⟩
  obtain ⟨trest, rfl⟩ := hfirst c rest hc hp
  obtain ⟨vals, hv⟩ := total_vals emptyCtx cargs hden.total
  have htot := hrun emptyCtx vals hv
  have hform : intRun op ((c.bind fun v => .ret (atoi v)) :: trest) =
      c.bind fun v => (Comp.ret (atoi v)).bind fun o => match o with
        | none => pure ErrorNum
        | some x => foldRun op x trest := by
    rw [intRun, Comp.bind_eq, Comp.bind_assoc]; rfl
  rw [hform] at htot ⊢
  exact dyn_bind hp ⟨_, htot⟩

theorem isint_ok : EntryOkV isintE := EntryOkV.simple fun cargs har _ => by
  match cargs, har with
  | [a], _ =>
    refine ⟨_, ⟨rfl, fun ctx vals h => ?_⟩, fun _ => startsWith_bind _ _ _⟩
    obtain ⟨v, rfl, h0⟩ := map_run_1 h
    rw [Comp.bind_eq, Comp.run_bind_ok h0]; rfl

theorem expbucket_ok : EntryOkV expbucketE := EntryOkV.simple fun cargs har _ => by
  match cargs, har with
  | [a], _ =>
    refine ⟨_, ⟨rfl, fun ctx vals h => ?_⟩, fun _ => startsWith_bind _ _ _⟩
    obtain ⟨v, rfl, h0⟩ := map_run_1 h
    rw [Comp.bind_eq, Comp.run_bind_ok h0]
    simp only [expbucketE, expbucketSem]
    cases atoi v <;> rfl

theorem litInt_den {val : Val} {D : C09.Expr → Bool} {c : Stage} {a : C09.Expr} {p : Int → Bool}
    (hden : DenV val D c a) (h : litInt p a = true) :
    ∃ (s : List Char) (n : Int), a = .lit s ∧ c = .ret (utf8 s) ∧ atoi (utf8 s) = some n ∧ p n = true ∧
      evalStageInt c = .ok (some n) := by
  cases a with
  | lit s =>
    simp only [litInt] at h
    cases hn : atoi (utf8 s) with
    | none => rw [hn] at h; cases h
    | some n =>
      rw [hn] at h
      have hc := hden.lit s rfl
      exact ⟨s, n, rfl, hc, hn, h, by rw [hc]; simp [evalStageInt, Comp.probe, Comp.probeN, hn]⟩
  | group n => cases h
  | key k => cases h
  | call f args => cases h

theorem bucket_ok (render : Int → Int → Bytes) : EntryOkV (bucketE render) := by
  intro val D args cargs hden har hpre
  obtain ⟨a0, a1, rfl⟩ := len2 (l := args) (by simpa [bucketE] using har)
  obtain ⟨c0, c1, rfl⟩ := len2 (l := cargs) (by rw [hden.length]; rfl)
  simp only [bucketE, bucketPre] at hpre
  obtain ⟨s, n, rfl, hc1, hn, hp, hev⟩ := litInt_den hden.2.1 hpre
  have hpos : ¬ n ≤ 0 := by simpa using hp
  refine Inst.bindFirst _ hden.total (by simp only [bucketE, bucketBuilder, hev, hpos, if_false]; rfl) fun ctx vals h => ?_
  obtain ⟨v0, v1, rfl, h0, h1⟩ := map_run_2 h
  rw [hc1] at h1
  simp only [Comp.run, Except.ok.injEq] at h1
  subst h1
  rw [Comp.run_bind_ok h0]
  simp only [bucketE, bucketSem, hn]
  cases atoi v0 <;> rfl

theorem clamp_ok : EntryOkV clampE := by
  intro val D args cargs hden har hpre
  obtain ⟨a0, a1, a2, rfl⟩ := len3 (l := args) (by simpa [clampE] using har)
  obtain ⟨c0, c1, c2, rfl⟩ := len3 (l := cargs) (by rw [hden.length]; rfl)
  simp only [clampE, clampPre, Bool.and_eq_true] at hpre
  obtain ⟨s1, mn, rfl, hc1, hn1, _, hev1⟩ := litInt_den hden.2.1 hpre.1
  obtain ⟨s2, mx, rfl, hc2, hn2, _, hev2⟩ := litInt_den hden.2.2.1 hpre.2
  refine Inst.bindFirst _ hden.total (by simp only [clampE, kfClamp, hev1, hev2]; rfl) fun ctx vals h => ?_
  obtain ⟨v0, v1, v2, rfl, h0, h1, h2⟩ := map_run_3 h
  rw [hc1] at h1; rw [hc2] at h2
  simp only [Comp.run, Except.ok.injEq] at h1 h2
  subst h1; subst h2
  rw [Comp.run_bind_ok h0]
  simp only [clampE, clampSem, hn1, hn2]
  cases atoi v0 <;> rfl

end FA

/-! ### Float: comparisons, float folds, unary helpers -/
namespace FF
open Funcs.Float

theorem isnum_ok : EntryOkV isnumE := EntryOkV.simple fun cargs har _ => by
  obtain ⟨a, rfl⟩ := len1 (l := cargs) (by simpa [isnumE] using har)
  refine ⟨_, ⟨rfl, fun ctx vals h => ?_⟩, fun _ => startsWith_bind _ _ _⟩
  obtain ⟨v, rfl, h0⟩ := map_run_1 h
  rw [Comp.bind_eq, Comp.run_bind_ok h0]; rfl

theorem unary_ok (f : F64 → Bytes) : EntryOkV (unaryE f) := EntryOkV.simple fun cargs har _ => by
  obtain ⟨a, rfl⟩ := len1 (l := cargs) (by simpa [unaryE] using har)
  refine ⟨_, ⟨rfl, fun ctx vals h => ?_⟩, fun _ => startsWith_bind _ _ _⟩
  obtain ⟨v, rfl, h0⟩ := map_run_1 h
  rw [Comp.bind_eq, Comp.run_bind_ok h0]
  simp only [unaryE, unarySem]
  cases parseF v <;> rfl

theorem cmpF_ok (test : F64 → F64 → Bool) : EntryOkV (cmpFE test) := by
  intro val D args cargs hden har hpre
  obtain ⟨a0, a1, rfl⟩ := len2 (l := args) (by simpa [cmpFE] using har)
  obtain ⟨c0, c1, rfl⟩ := len2 (l := cargs) (by rw [hden.length]; rfl)
  simp only [cmpFE, typedPre, List.all_cons, List.all_nil, Bool.and_true, Bool.and_eq_true] at hpre
  obtain ⟨l, hl, hlrun, hldyn⟩ := typed_den parseF hden.1 hpre.1
  obtain ⟨r, hr, hrrun, _⟩ := typed_den parseF hden.2.1 hpre.2
  have hrun : ∀ (ctx : Ctx) (vals : List Bytes), [c0, c1].map (·.run ctx) = vals.map .ok →
      (l.bind fun lv => match lv with
        | none => pure ErrorNum
        | some x => r.bind fun rv => match rv with
          | none => pure ErrorNum
          | some y => pure (truthyStr (test x y))).run ctx = .ok (cmpFSem test vals) := by
    intro ctx vals h
    obtain ⟨v0, v1, rfl, h0, h1⟩ := map_run_2 h
    rw [Comp.run_bind_ok (hlrun ctx v0 h0)]
    simp only [cmpFSem]
    cases parseF v0 with
    | none => rfl
    | some x =>
      simp only []
      rw [Comp.run_bind_ok (hrrun ctx v1 h1)]
      cases parseF v1 <;> rfl
  refine ⟨_, ⟨by simp only [cmpFE, cmpHelper, hl, hr]; rfl, hrun⟩, fun _ c rest hc hp => ?_⟩
  cases hc
  obtain ⟨vals, hv⟩ := total_vals emptyCtx [c0, c1] hden.total
  have htot := hrun emptyCtx vals hv
  rw [hldyn hp, Comp.bind_assoc] at htot ⊢
  exact dyn_bind hp ⟨_, htot⟩

theorem foldRunF_run (op : F64 → F64 → F64) (ctx : Ctx) : ∀ (typed : List (Comp (Option F64))) (vals : List Bytes) (acc : F64),
    typed.map (·.run ctx) = vals.map (fun v => .ok (parseF v)) →
    (foldRunF op acc typed).run ctx = .ok (floatFoldSem op acc vals)
  | [], vals, acc, h => by cases vals <;> simp at h; rfl
  | t :: rest, vals, acc, h => by
    rcases vals with _ | ⟨v, vs⟩ <;> simp only [List.map_cons, List.map_nil, List.cons.injEq] at h
    · cases h
    · rw [foldRunF, floatFoldSem, Comp.bind_eq, Comp.run_bind_ok h.1]
      cases parseF v with
      | none => rfl
      | some x => exact foldRunF_run op ctx rest vs _ h.2

theorem float_ok (op : F64 → F64 → F64) : EntryOkV (floatE op) := by
  intro val D args cargs hden har hpre
  obtain ⟨typed, hty, hruns, hfirst⟩ := mapTyped_den parseF hden hpre
  have hlen : ¬ cargs.length < 2 := by rw [hden.length]; simp only [floatE, decide_eq_true_eq] at har; omega
  have hb : floatHelper op cargs = .ok ⟨some (floatRun op typed), none⟩ := by
    simp only [floatHelper, hlen, if_false, hty]; rfl
  have hrun : ∀ (ctx : Ctx) (vals : List Bytes), cargs.map (·.run ctx) = vals.map .ok →
      (floatRun op typed).run ctx = .ok (floatSem op vals) := by
    intro ctx vals h
    have ht := hruns ctx vals h
    cases typed with
    | nil => cases vals <;> simp at ht; rfl
    | cons t rest =>
      rcases vals with _ | ⟨v, vs⟩ <;> simp only [List.map_cons, List.map_nil, List.cons.injEq] at ht
      · cases ht
      · rw [floatRun, floatSem, Comp.bind_eq, Comp.run_bind_ok ht.1]
        cases parseF v with
        | none => rfl
        | some x => exact foldRunF_run op ctx rest vs x ht.2
  refine ⟨_, ⟨hb, hrun⟩, fun _ c rest hc hp => ?_⟩
  obtain ⟨trest, rfl⟩ := hfirst c rest hc hp
  obtain ⟨vals, hv⟩ := total_vals emptyCtx cargs hden.total
  have htot := hrun emptyCtx vals hv
  have hform : floatRun op ((c.bind fun v => .ret (parseF v)) :: trest) =
      c.bind fun v => (Comp.ret (parseF v)).bind fun o => match o with
        | none => pure ErrorNum
        | some x => foldRunF op x trest := by
    rw [floatRun, Comp.bind_eq, Comp.bind_assoc]; rfl
  rw [hform] at htot ⊢
  exact dyn_bind hp ⟨_, htot⟩

end FF

/-! ### Strings, paths -/
namespace FS
open Funcs.Strings Funcs.Misc

theorem len_ok : EntryOkV lenE := EntryOkV.simple fun cargs har _ => by
  obtain ⟨a, rfl⟩ := len1 (l := cargs) (by simpa [lenE] using har)
  refine ⟨_, ⟨rfl, fun ctx vals h => ?_⟩, fun _ => startsWith_bind _ _ _⟩
  obtain ⟨v, rfl, h0⟩ := map_run_1 h
  rw [Comp.bind_eq, Comp.run_bind_ok h0]; rfl

theorem path_ok (f : Bytes → Bytes) : EntryOkV (pathE f) := EntryOkV.simple fun cargs har _ => by
  obtain ⟨a, rfl⟩ := len1 (l := cargs) (by simpa [pathE] using har)
  refine ⟨_, ⟨rfl, fun ctx vals h => ?_⟩, fun _ => startsWith_bind _ _ _⟩
  obtain ⟨v, rfl, h0⟩ := map_run_1 h
  rw [Comp.bind_eq, Comp.run_bind_ok h0]; rfl

theorem hi_ok : EntryOkV hiE := EntryOkV.simple fun cargs har _ => by
  obtain ⟨a, rfl⟩ := len1 (l := cargs) (by simpa [hiE] using har)
  refine ⟨_, ⟨rfl, fun ctx vals h => ?_⟩, fun _ => startsWith_bind _ _ _⟩
  obtain ⟨v, rfl, h0⟩ := map_run_1 h
  rw [Comp.bind_eq, Comp.run_bind_ok h0]
  simp only [hiE, hiSem]
  cases atoi v <;> rfl

theorem test_ok (test : Bytes → Bytes → Bool) : EntryOkV (testE test) := EntryOkV.simple fun cargs har _ => by
  obtain ⟨a, b, rfl⟩ := len2 (l := cargs) (by simpa [testE] using har)
  refine ⟨_, ⟨rfl, fun ctx vals h => ?_⟩, fun _ => startsWith_bind _ _ _⟩
  obtain ⟨v, w, rfl, h0, h1⟩ := map_run_2 h
  rw [Comp.bind_eq, Comp.run_bind_ok h0, Comp.bind_eq, Comp.run_bind_ok h1]; rfl

theorem select_ok : EntryOkV selectE := EntryOkV.simple fun cargs har _ => by
  obtain ⟨a, b, rfl⟩ := len2 (l := cargs) (by simpa [selectE] using har)
  refine ⟨_, ⟨rfl, fun ctx vals h => ?_⟩, fun _ => startsWith_bind _ _ _⟩
  obtain ⟨v, w, rfl, h0, h1⟩ := map_run_2 h
  rw [Comp.bind_eq, Comp.run_bind_ok h0, Comp.bind_eq, Comp.run_bind_ok h1]
  simp only [selectE, selectSem]
  cases atoi w <;> rfl

theorem substr_ok : EntryOkV substrE := EntryOkV.simple fun cargs har _ => by
  obtain ⟨a, b, c, rfl⟩ := len3 (l := cargs) (by simpa [substrE] using har)
  refine ⟨_, ⟨rfl, fun ctx vals h => ?_⟩, fun _ => startsWith_bind _ _ _⟩
  obtain ⟨v, w, x, rfl, h0, h1, h2⟩ := map_run_3 h
  rw [Comp.bind_eq, Comp.run_bind_ok h0]
  simp only [substrE, substrSem]
  split
  · rfl
  · split
    · rfl
    · rename_i hlen
      rw [Comp.bind_eq, Comp.run_bind_ok h1, Comp.bind_eq, Comp.run_bind_ok h2]
      cases hl : atoi w with
      | none => rfl
      | some left =>
        cases hn : atoi x with
        | none => rfl
        | some len =>
          simp only []
          rw [Rare.C11.substrVal_spec v left len (by omega) (Rare.C11.atoi_inInt64 hl) (Rare.C11.atoi_inInt64 hn)]
          rfl

theorem joinTail_eq (d : Bytes) : ∀ vals : List Bytes, C17.joinTail d vals = joinRunSem d vals
  | [] => rfl
  | v :: r => by
    rw [joinRunSem, ← joinTail_eq d r]
    simp [C17.joinTail]

theorem joinRun_run (d : Bytes) (ctx : Ctx) (cargs : List Stage) (vals : List Bytes)
    (h : cargs.map (·.run ctx) = vals.map .ok) : (joinRun d cargs).run ctx = .ok (joinRunSem d vals) := by
  rw [C17.joinRun_run ctx d cargs vals h, joinTail_eq]

theorem join_ok (d : Bytes) : EntryOkV (joinE d) := EntryOkV.simple fun cargs har _ => by
  match cargs, har with
  | [a], _ =>
    refine ⟨a, ⟨rfl, fun ctx vals h => ?_⟩, fun _ a' r hc => ?_⟩
    · obtain ⟨v, rfl, h0⟩ := map_run_1 h; exact h0
    · cases hc; exact ⟨.ret, (Comp.bind_ret _).symm⟩
  | a :: b :: rest, _ =>
    refine ⟨_, ⟨rfl, fun ctx vals h => ?_⟩, fun _ => startsWith_bind _ _ _⟩
    obtain ⟨v, vs, rfl, h0, hr⟩ := map_run_cons h
    obtain ⟨w, ws, rfl, _, _⟩ := map_run_cons hr
    rw [Comp.bind_eq, Comp.run_bind_ok h0, Comp.bind_eq, Comp.run_bind_ok (joinRun_run d ctx _ _ hr)]
    rfl

theorem csvRun_run (ctx : Ctx) : ∀ (cargs : List Stage) (vals acc : List Bytes),
    cargs.map (·.run ctx) = vals.map .ok → (csvRun cargs acc).run ctx = .ok (csvRecord (acc ++ vals))
  | [], vals, acc, h => by cases vals <;> simp at h; simp [csvRun, Comp.run]
  | a :: rest, vals, acc, h => by
    obtain ⟨v, vs, rfl, h0, hr⟩ := map_run_cons h
    rw [csvRun, Comp.bind_eq, Comp.run_bind_ok h0, csvRun_run ctx rest vs _ hr]
    simp

theorem csv_ok : EntryOkV csvE := EntryOkV.simple fun cargs har _ => by
  match cargs, har with
  | a :: rest, _ =>
    refine ⟨csvRun (a :: rest) [], ⟨rfl, fun ctx vals h => ?_⟩, fun _ a' r hc => ?_⟩
    · have := csvRun_run ctx (a :: rest) vals [] h
      simpa [csvE] using this
    · cases hc; exact ⟨_, by rw [csvRun]; rfl⟩

end FS

/-! ### Arrays (no sub-context): `@len`, `@split`, `@join`, `@in` -/
namespace FR
open Funcs.Range Rare.C17

theorem alen_ok : EntryOkV alenE := EntryOkV.simple fun cargs har _ => by
  obtain ⟨a, rfl⟩ := len1 (l := cargs) (by simpa [alenE] using har)
  refine ⟨lenStage a, ⟨rfl, fun ctx vals h => ?_⟩, fun _ => startsWith_bind _ _ _⟩
  obtain ⟨v, rfl, h0⟩ := map_run_1 h
  exact len_spec_wrapped ctx a v h0

theorem optLit_den {p : Bytes → Bool} {val : Val} {D : C09.Expr → Bool} {ev : C09.Expr → Bytes} {args : List C09.Expr}
    {cargs : List Stage} (hden : DenArgsV val D cargs args) (h : optLit p ev D args = true) :
    (∃ c0, cargs = [c0]) ∨ (∃ c0 s, cargs = [c0, .ret (utf8 s)] ∧ p (utf8 s) = true) := by
  match args, cargs, hden, h with
  | [a0], [c0], _, _ => exact Or.inl ⟨c0, rfl⟩
  | [a0, .lit s], [c0, c1], hden, h =>
    exact Or.inr ⟨c0, s, by rw [hden.2.1.lit s rfl], h⟩

theorem probe_ret (v : Bytes) : (Comp.ret v : Stage).probe = .ok (v, true) := rfl

theorem split_ok : EntryOkV splitE := by
  intro val D args cargs hden har hpre
  have hsp : (ascii " ") ≠ [] := by decide +kernel
  have hspl : (ascii " ").length ≠ 0 := by decide +kernel
  rcases optLit_den (p := fun d => !d.isEmpty) (ev := (fun a => val a emptyCtx)) hden hpre with ⟨c0, rfl⟩ | ⟨c0, s, rfl, hp⟩
  · refine Inst.bindFirst _ hden.total
      (by simp [splitE, kfArraySplit, argCountBetween, evalStageIndexOrDefault, hspl]; rfl) fun ctx vals h => ?_
    obtain ⟨v, rfl, h0⟩ := map_run_1 h
    exact split_spec ctx c0 v _ hsp h0
  · have hd : utf8 s ≠ [] := by simpa using hp
    have hdl : (utf8 s).length ≠ 0 := by simpa using hd
    refine Inst.bindFirst _ hden.total
      (by simp [splitE, kfArraySplit, argCountBetween, evalStageIndexOrDefault, probe_ret, hdl]; rfl) fun ctx vals h => ?_
    obtain ⟨v, w, rfl, h0, h1⟩ := map_run_2 h
    simp only [Comp.run, Except.ok.injEq] at h1
    subst h1
    exact split_spec ctx c0 v _ hd h0

theorem ajoin_ok : EntryOkV ajoinE := by
  intro val D args cargs hden har hpre
  rcases optLit_den (p := fun _ => true) (ev := (fun a => val a emptyCtx)) hden hpre with ⟨c0, rfl⟩ | ⟨c0, s, rfl, _⟩
  · refine Inst.bindFirst _ hden.total
      (by simp [ajoinE, kfArrayJoin, argCountBetween, evalStageIndexOrDefault]; rfl) fun ctx vals h => ?_
    obtain ⟨v, rfl, h0⟩ := map_run_1 h
    exact join_spec ctx c0 v _ h0
  · refine Inst.bindFirst _ hden.total
      (by simp [ajoinE, kfArrayJoin, argCountBetween, evalStageIndexOrDefault, probe_ret]; rfl) fun ctx vals h => ?_
    obtain ⟨v, w, rfl, h0, h1⟩ := map_run_2 h
    simp only [Comp.run, Except.ok.injEq] at h1
    subst h1
    exact join_spec ctx c0 v _ h0

theorem in_ok : EntryOkV inE := by
  intro val D args cargs hden har hpre
  match args, cargs, hden, hpre with
  | [a0, .lit s], [c0, c1], hden, _ =>
    have hc1 : c1 = .ret (utf8 s) := hden.2.1.lit s rfl
    subst hc1
    refine Inst.bindFirst _ hden.total (by simp only [inE, kfArrayIn, probe_ret]; rfl) fun ctx vals h => ?_
    obtain ⟨v, w, rfl, h0, h1⟩ := map_run_2 h
    simp only [Comp.run, Except.ok.injEq] at h1
    subst h1
    exact (in_spec ctx c0 (.ret (utf8 s)) v (utf8 s) h0 rfl).2

theorem aselect_ok : EntryOkV aselectE := by
  intro val D args cargs hden har hpre
  obtain ⟨a0, a1, rfl⟩ := len2 (l := args) (by simpa [aselectE] using har)
  obtain ⟨c0, c1, rfl⟩ := len2 (l := cargs) (by rw [hden.length]; rfl)
  simp only [aselectE, aselectPre] at hpre
  obtain ⟨s, n, rfl, hc1, hn, _, hev⟩ := FA.litInt_den hden.2.1 hpre
  refine Inst.bindFirst _ hden.total (by simp only [aselectE, kfArraySelect, hev]; rfl) fun ctx vals h => ?_
  obtain ⟨v0, v1, rfl, h0, h1⟩ := map_run_2 h
  rw [hc1] at h1
  simp only [Comp.run, Except.ok.injEq] at h1
  subst h1
  refine (select_spec_wrapped ctx c0 c1 v0 n hev h0).2.trans ?_
  simp only [aselectE, aselectSem, hn]

theorem aslice_ok : EntryOkV asliceE := by
  intro val D args cargs hden har hpre
  match args, cargs, hden, hpre with
  | [a0, a1], [c0, c1], hden, hpre =>
    simp only [asliceE, aslicePre] at hpre
    obtain ⟨s, n, rfl, hc1, hn, _, hev⟩ := FA.litInt_den hden.2.1 hpre
    have hsp := fun ctx v0 h0 => slice_spec_wrapped ctx c0 c1 [] v0 n (-1) (by simp) hev rfl h0
    obtain ⟨v0, h0⟩ := hden.total c0 (by simp) emptyCtx
    refine Inst.bindFirst _ hden.total (hsp emptyCtx v0 h0).1 fun ctx vals h => ?_
    obtain ⟨v0, v1, rfl, h0, h1⟩ := map_run_2 h
    rw [hc1] at h1
    simp only [Comp.run, Except.ok.injEq] at h1
    subst h1
    refine (hsp ctx v0 h0).2.trans ?_
    simp only [asliceE, asliceSem, hn]
  | [a0, a1, a2], [c0, c1, c2], hden, hpre =>
    simp only [asliceE, aslicePre, Bool.and_eq_true] at hpre
    obtain ⟨s, n, rfl, hc1, hn, _, hev⟩ := FA.litInt_den hden.2.1 hpre.1
    obtain ⟨s2, n2, rfl, hc2, hn2, _, hev2⟩ := FA.litInt_den hden.2.2.1 hpre.2
    have hsp := fun ctx v0 h0 => slice_spec_wrapped ctx c0 c1 [c2] v0 n n2 (by simp) hev hev2 h0
    obtain ⟨v0, h0⟩ := hden.total c0 (by simp) emptyCtx
    refine Inst.bindFirst _ hden.total (hsp emptyCtx v0 h0).1 fun ctx vals h => ?_
    obtain ⟨v0, v1, v2, rfl, h0, h1, h2⟩ := map_run_3 h
    rw [hc1] at h1; rw [hc2] at h2
    simp only [Comp.run, Except.ok.injEq] at h1 h2
    subst h1; subst h2
    refine (hsp ctx v0 h0).2.trans ?_
    simp only [asliceE, asliceSem, hn, hn2]

/-- `rangeStage` on argument stages that return: the closed form of `C17.range_spec_closed` plus the
    `<BAD-TYPE>` cases. -/
theorem rangeStage_run (ctx : Ctx) (sa sb sc : Stage) (a b c : Bytes)
    (ha : sa.run ctx = .ok a) (hb : sb.run ctx = .ok b) (hc : sc.run ctx = .ok c) :
    (rangeStage sa sb sc).run ctx = .ok (rangeVal a b c) := by
  unfold rangeVal
  cases pa : atoi a with
  | none => exact range_bad_type ctx sa sb sc a ha pa
  | some start =>
    cases pb : atoi b with
    | none =>
      unfold rangeStage
      rw [Comp.run_bind_ok ha]; simp only [pa]
      rw [Comp.run_bind_ok hb]; simp only [pb]; rfl
    | some stop =>
      cases pc : atoi c with
      | none =>
        unfold rangeStage
        rw [Comp.run_bind_ok ha]; simp only [pa]
        rw [Comp.run_bind_ok hb]; simp only [pb]
        rw [Comp.run_bind_ok hc]; simp only [pc]; rfl
      | some incr => exact range_spec_closed ctx sa sb sc a b c start stop incr ha hb hc pa pb pc

theorem arange_ok : EntryOkV arangeE := EntryOkV.simple fun cargs har htot => by
  have hlit : ∀ (ctx : Ctx) (t : String), (Stage.lit (ascii t)).run ctx = .ok (ascii t) := fun _ _ => rfl
  match cargs, har with
  | [c0], _ =>
    refine ⟨_, ⟨rfl, fun ctx vals h => ?_⟩, fun hf => by cases hf⟩
    obtain ⟨v, rfl, h0⟩ := map_run_1 h
    exact rangeStage_run ctx _ _ _ _ _ _ (hlit ctx "0") h0 (hlit ctx "1")
  | [c0, c1], _ =>
    refine ⟨_, ⟨rfl, fun ctx vals h => ?_⟩, fun hf => by cases hf⟩
    obtain ⟨v, w, rfl, h0, h1⟩ := map_run_2 h
    exact rangeStage_run ctx _ _ _ _ _ _ h0 h1 (hlit ctx "1")
  | [c0, c1, c2], _ =>
    refine ⟨_, ⟨rfl, fun ctx vals h => ?_⟩, fun hf => by cases hf⟩
    obtain ⟨v, w, x, rfl, h0, h1, h2⟩ := map_run_3 h
    exact rangeStage_run ctx _ _ _ _ _ _ h0 h1 h2

end FR

namespace FS
open Funcs.Strings Funcs.Misc

theorem case_ok (f : UInt8 → UInt8) : EntryOkV (caseE f) := by
  intro val D args cargs hden har hpre
  match args, cargs, hden, hpre with
  | [.lit s], [c0], hden, hpre =>
    have hc : c0 = .ret (utf8 s) := hden.1.lit s rfl
    subst hc
    have hp : (utf8 s).all (· < 128) = true := hpre
    refine Inst.bindFirst _ hden.total rfl fun ctx vals h => ?_
    obtain ⟨v, rfl, h0⟩ := map_run_1 h
    simp only [Comp.run, Except.ok.injEq] at h0
    subst h0
    simp only [Comp.bind, hp, if_true, caseE, mapSem]; rfl

theorem repeat_ok : EntryOkV repeatE := by
  intro val D args cargs hden har hpre
  match args, cargs, hden, hpre with
  | [.lit s, a1], [c0, c1], hden, _ =>
    have hc : c0 = .ret (utf8 s) := hden.1.lit s rfl
    subst hc
    refine ⟨_, ⟨by simp only [repeatE, kfRepeat, FR.probe_ret]; rfl, fun ctx vals h => ?_⟩, fun hf => by cases hf⟩
    obtain ⟨v0, v1, rfl, h0, h1⟩ := map_run_2 h
    simp only [Comp.run, Except.ok.injEq] at h0
    subst h0
    rw [Comp.bind_eq, Comp.run_bind_ok h1]
    simp only [repeatE, repeatSem]
    cases atoi v1 with
    | none => rfl
    | some count =>
      simp only []
      split
      · rfl
      · split <;> rfl

theorem lookup_ok (render : Option Bytes → Bytes) : EntryOkV (lookupE render) := by
  intro val D args cargs hden har hpre
  match args, cargs, hden, hpre with
  | [a0, .lit s], [c0, c1], hden, _ =>
    have hc : c1 = .ret (utf8 s) := hden.2.1.lit s rfl
    subst hc
    refine Inst.bindFirst _ hden.total
      (by simp [lookupE, lookupBuilder, FR.probe_ret, evalStageIndexOrDefault]; rfl) fun ctx vals h => ?_
    obtain ⟨v0, v1, rfl, h0, h1⟩ := map_run_2 h
    simp only [Comp.run, Except.ok.injEq] at h1
    subst h1
    rw [Comp.run_bind_ok h0]; rfl
  | [a0, .lit s, .lit p], [c0, c1, c2], hden, _ =>
    have hc : c1 = .ret (utf8 s) := hden.2.1.lit s rfl
    have hc2 : c2 = .ret (utf8 p) := hden.2.2.1.lit p rfl
    subst hc; subst hc2
    refine Inst.bindFirst _ hden.total
      (by simp [lookupE, lookupBuilder, FR.probe_ret, evalStageIndexOrDefault]; rfl) fun ctx vals h => ?_
    obtain ⟨v0, v1, v2, rfl, h0, h1, h2⟩ := map_run_3 h
    simp only [Comp.run, Except.ok.injEq] at h1 h2
    subst h1; subst h2
    rw [Comp.run_bind_ok h0]; rfl

end FS

namespace FF
open Funcs.Float

/-- The optional constant precision argument as the builders see it (`EvalArgInt(args, 1, dflt)`). -/
theorem prec_den {val : Val} {D : C09.Expr → Bool} {ev : C09.Expr → Bytes} {args : List C09.Expr} {cargs : List Stage}
    (dflt : Int) (hden : DenArgsV val D cargs args) (h : precPre ev D args = true) :
    (∃ c0, cargs = [c0] ∧ evalArgInt cargs 1 dflt = .ok (some dflt)) ∨
    (∃ c0 s n, cargs = [c0, .ret (utf8 s)] ∧ atoi (utf8 s) = some n ∧ n ≤ maxPrecision ∧
      evalArgInt cargs 1 dflt = .ok (some n)) := by
  match args, cargs, hden, h with
  | [a0], [c0], _, _ => exact Or.inl ⟨c0, rfl, rfl⟩
  | [a0, a1], [c0, c1], hden, h =>
    simp only [precPre] at h
    obtain ⟨s, n, rfl, hc1, hn, hp, hev⟩ := FA.litInt_den hden.2.1 h
    subst hc1
    exact Or.inr ⟨c0, s, n, rfl, hn, by simpa using hp, hev⟩

theorem round_ok : EntryOkV roundE := by
  intro val D args cargs hden har hpre
  rcases prec_den (ev := fun a => val a emptyCtx) 0 hden hpre with ⟨c0, rfl, hev⟩ | ⟨c0, s, n, rfl, hn, hle, hev⟩
  · have : ¬ ((0 : Int) > maxPrecision) := by decide
    refine Inst.bindFirst _ hden.total (by simp only [roundE, kfRound, hev, this, if_false]; rfl) fun ctx vals h => ?_
    obtain ⟨v, rfl, h0⟩ := map_run_1 h
    rw [Comp.run_bind_ok h0]
    simp only [roundE, roundSem, roundVal]
    cases parseF v <;> rfl
  · have : ¬ (n > maxPrecision) := by omega
    refine Inst.bindFirst _ hden.total (by simp only [roundE, kfRound, hev, this, if_false]; rfl) fun ctx vals h => ?_
    obtain ⟨v, w, rfl, h0, hw⟩ := map_run_2 h
    simp only [Comp.run, Except.ok.injEq] at hw
    subst hw
    rw [Comp.run_bind_ok h0]
    simp only [roundE, roundSem, roundVal, hn]
    cases parseF v <;> rfl

theorem unit_ok (unsigned : Bool) (step : Int) (delim : Bytes) (units : List String) :
    EntryOkV (unitE unsigned step delim units) := by
  intro val D args cargs hden har hpre
  rcases prec_den (ev := fun a => val a emptyCtx) 0 hden hpre with ⟨c0, rfl, hev⟩ | ⟨c0, s, n, rfl, hn, hle, hev⟩
  · have : ¬ ((0 : Int) > maxPrecision) := by decide
    refine Inst.bindFirst _ hden.total (by simp only [unitE, unitHelper, hev, this, if_false]; rfl) fun ctx vals h => ?_
    obtain ⟨v, rfl, h0⟩ := map_run_1 h
    rw [Comp.run_bind_ok h0]
    simp only [unitE, unitSem, unitVal]
    cases (if unsigned then (atou v).map (fun n => wrap64 (Int.ofNat n)) else atoi v : Option Int) <;> rfl
  · have : ¬ (n > maxPrecision) := by omega
    refine Inst.bindFirst _ hden.total (by simp only [unitE, unitHelper, hev, this, if_false]; rfl) fun ctx vals h => ?_
    obtain ⟨v, w, rfl, h0, hw⟩ := map_run_2 h
    simp only [Comp.run, Except.ok.injEq] at hw
    subst hw
    rw [Comp.run_bind_ok h0]
    simp only [unitE, unitSem, unitVal, hn]
    cases (if unsigned then (atou v).map (fun n => wrap64 (Int.ofNat n)) else atoi v : Option Int) <;> rfl

/-- The stage `kfPercent` returns, by name. -/
def percentStage (smin smax : Comp (Option F64)) (a0 : Stage) (decimals : Int) : Stage :=
  smin.bind fun mn => match mn with
    | none => pure ErrorNum
    | some min => smax.bind fun mx => match mx with
      | none => pure ErrorNum
      | some max => a0.bind fun v => match parseF v with
        | none => pure ErrorNum
        | some val => pure (percentStr val min max decimals)

theorem percentStage_run (ctx : Ctx) (smin smax : Comp (Option F64)) (a0 : Stage) (decimals : Int)
    (omn omx : Option F64) (v : Bytes) (h1 : smin.run ctx = .ok omn) (h2 : smax.run ctx = .ok omx)
    (h0 : a0.run ctx = .ok v) :
    (percentStage smin smax a0 decimals).run ctx = .ok (percentVal v omn omx decimals) := by
  unfold percentStage percentVal
  rw [Comp.run_bind_ok h1]
  cases omn with
  | none => rfl
  | some min =>
    simp only []
    rw [Comp.run_bind_ok h2]
    cases omx with
    | none => rfl
    | some max =>
      simp only []
      rw [Comp.run_bind_ok h0]
      cases parseF v <;> rfl

theorem percent_ok : EntryOkV percentE := by
  intro val D args cargs hden har hpre
  have hz : ∀ ctx : Ctx, (Comp.ret (some (F64.zero false)) : Comp (Option F64)).run ctx = .ok (some (F64.zero false)) :=
    fun _ => rfl
  have ho : ∀ ctx : Ctx, (Comp.ret (some F64.one) : Comp (Option F64)).run ctx = .ok (some F64.one) := fun _ => rfl
  match args, cargs, hden, hpre with
  | [a0], [c0], hden, _ =>
    refine ⟨percentStage (.ret (some (F64.zero false))) (.ret (some F64.one)) c0 1, ⟨?_, fun ctx vals h => ?_⟩,
      fun hf => by cases hf⟩
    · simp only [percentE, kfPercent, evalArgInt]; rfl
    · obtain ⟨v, rfl, h0⟩ := map_run_1 h
      exact percentStage_run ctx _ _ _ _ _ _ _ (hz ctx) (ho ctx) h0
  | [a0, a1], [c0, c1], hden, hpre =>
    simp only [percentE, percentPre, precLit] at hpre
    obtain ⟨s, n, rfl, hc1, hn, hp, hev⟩ := FA.litInt_den hden.2.1 hpre
    subst hc1
    have hle' : n ≤ maxPrecision := by simpa using hp
    have hle : ¬ (n > maxPrecision) := by omega
    refine ⟨percentStage (.ret (some (F64.zero false))) (.ret (some F64.one)) c0 n, ⟨?_, fun ctx vals h => ?_⟩,
      fun hf => by cases hf⟩
    · have he : evalArgInt [c0, .ret (utf8 s)] 1 1 = .ok (some n) := hev
      simp only [percentE, kfPercent, he, hle]; rfl
    · obtain ⟨v, w, rfl, h0, hw⟩ := map_run_2 h
      simp only [Comp.run, Except.ok.injEq] at hw
      subst hw
      rw [percentStage_run ctx _ _ _ _ _ _ _ (hz ctx) (ho ctx) h0]
      simp only [percentE, percentSem, hn]
  | [a0, a1, a2], [c0, c1, c2], hden, hpre =>
    simp only [percentE, percentPre, precLit, Bool.and_eq_true] at hpre
    obtain ⟨s, n, rfl, hc1, hn, hp, hev⟩ := FA.litInt_den hden.2.1 hpre.1
    subst hc1
    obtain ⟨tx, htx, hrx, _⟩ := typed_den parseF hden.2.2.1 hpre.2
    have hle' : n ≤ maxPrecision := by simpa using hp
    have hle : ¬ (n > maxPrecision) := by omega
    refine ⟨percentStage (.ret (some (F64.zero false))) tx c0 n, ⟨?_, fun ctx vals h => ?_⟩,
      fun hf => by cases hf⟩
    · have he : evalArgInt [c0, .ret (utf8 s), c2] 1 1 = .ok (some n) := hev
      simp only [percentE, kfPercent, he, hle, htx]; rfl
    · obtain ⟨v, w, x, rfl, h0, hw, hx⟩ := map_run_3 h
      simp only [Comp.run, Except.ok.injEq] at hw
      subst hw
      rw [percentStage_run ctx _ _ _ _ _ _ _ (hz ctx) (hrx ctx x hx) h0]
      simp only [percentE, percentSem, hn]
  | [a0, a1, a2, a3], [c0, c1, c2, c3], hden, hpre =>
    simp only [percentE, percentPre, precLit, Bool.and_eq_true] at hpre
    obtain ⟨s, n, rfl, hc1, hn, hp, hev⟩ := FA.litInt_den hden.2.1 hpre.1.1
    subst hc1
    obtain ⟨tn, htn, hrn, _⟩ := typed_den parseF hden.2.2.1 hpre.1.2
    obtain ⟨tx, htx, hrx, _⟩ := typed_den parseF hden.2.2.2.1 hpre.2
    have hle' : n ≤ maxPrecision := by simpa using hp
    have hle : ¬ (n > maxPrecision) := by omega
    refine ⟨percentStage tn tx c0 n, ⟨?_, fun ctx vals h => ?_⟩, fun hf => by cases hf⟩
    · have he : evalArgInt [c0, .ret (utf8 s), c2, c3] 1 1 = .ok (some n) := hev
      simp only [percentE, kfPercent, he, hle, htn, htx]; rfl
    · obtain ⟨v, vs, rfl, h0, h⟩ := map_run_cons h
      obtain ⟨w, x, y, rfl, hw, hx, hy⟩ := map_run_3 h
      simp only [Comp.run, Except.ok.injEq] at hw
      subst hw
      rw [percentStage_run ctx _ _ _ _ _ _ _ (hrn ctx x hx) (hrx ctx y hy) h0]
      simp only [percentE, percentSem, hn]

end FF

/-! ### the fragment -/

/-- The registry hypothesis of an entry for the tree semantics of `Spec/C09.lean` under `sem` (the instance
    `val = semVal sem` of `EntryOkV`; C10's user functions use it with their own `sem`). -/
def EntryOk (e : Entry) : Prop :=
  ∀ (sem : Sem) (D : C09.Expr → Bool) (args : List C09.Expr) (cargs : List Stage), DenArgs sem D cargs args →
    e.arity args.length = true → e.pre (evalTree (envC sem emptyCtx)) D args = true →
    ∃ stage, Inst e.builder e.sem cargs stage ∧ (e.first = true → DynFirst stage cargs)

theorem EntryOkV.toSem {e : Entry} (h : EntryOkV e) : EntryOk e :=
  fun sem D args cargs hden har hpre => h (semVal sem) D args cargs (denArgs_iff.mp hden) har hpre

/-- A property of every entry of a table, entry by entry (so that it is proved by listing the instances). -/
def AllE (P : String × Entry → Prop) : List (String × Entry) → Prop
  | [] => True
  | p :: rest => P p ∧ AllE P rest

theorem AllE.mem {P : String × Entry → Prop} : ∀ {l : List (String × Entry)}, AllE P l → ∀ p ∈ l, P p
  | [], _, p, hp => by cases hp
  | q :: rest, h, p, hp => by
    rcases List.mem_cons.mp hp with rfl | hp
    · exact h.1
    · exact AllE.mem h.2 p hp

theorem fragTable_allOk :
    AllE (fun p => EntryOkV p.2 ∧ lookupTable stdTable p.1 = some p.2.builder) fragTable :=
  ⟨⟨FL.coalesce_ok, rfl⟩,
    ⟨FL.cmp_ok _, rfl⟩,
    ⟨FL.cmp_ok _, rfl⟩,
    ⟨FL.not_ok, rfl⟩,
    ⟨FL.and_ok, rfl⟩,
    ⟨FL.or_ok, rfl⟩,
    ⟨FL.if_ok, rfl⟩,
    ⟨FL.unless_ok, rfl⟩,
    ⟨FL.switch_ok, rfl⟩,
    ⟨FA.int_ok _, rfl⟩,
    ⟨FA.int_ok _, rfl⟩,
    ⟨FA.int_ok _, rfl⟩,
    ⟨FA.int_ok _, rfl⟩,
    ⟨FA.int_ok _, rfl⟩,
    ⟨FA.int_ok _, rfl⟩,
    ⟨FA.int_ok _, rfl⟩,
    ⟨FA.isint_ok, rfl⟩,
    ⟨FA.bucket_ok _, rfl⟩,
    ⟨FA.bucket_ok _, rfl⟩,
    ⟨FA.clamp_ok, rfl⟩,
    ⟨FA.expbucket_ok, rfl⟩,
    ⟨FF.isnum_ok, rfl⟩,
    ⟨FF.cmpF_ok _, rfl⟩,
    ⟨FF.cmpF_ok _, rfl⟩,
    ⟨FF.cmpF_ok _, rfl⟩,
    ⟨FF.cmpF_ok _, rfl⟩,
    ⟨FF.float_ok _, rfl⟩,
    ⟨FF.float_ok _, rfl⟩,
    ⟨FF.float_ok _, rfl⟩,
    ⟨FF.float_ok _, rfl⟩,
    ⟨FF.unary_ok _, rfl⟩,
    ⟨FF.unary_ok _, rfl⟩,
    ⟨FF.unary_ok _, rfl⟩,
    ⟨FF.unary_ok _, rfl⟩,
    ⟨FS.len_ok, rfl⟩,
    ⟨FS.test_ok _, rfl⟩,
    ⟨FS.test_ok _, rfl⟩,
    ⟨FS.test_ok _, rfl⟩,
    ⟨FS.substr_ok, rfl⟩,
    ⟨FS.select_ok, rfl⟩,
    ⟨FS.join_ok _, rfl⟩,
    ⟨FS.join_ok _, rfl⟩,
    ⟨FS.join_ok _, rfl⟩,
    ⟨FS.csv_ok, rfl⟩,
    ⟨FS.hi_ok, rfl⟩,
    ⟨FS.path_ok _, rfl⟩,
    ⟨FS.path_ok _, rfl⟩,
    ⟨FS.path_ok _, rfl⟩,
    ⟨FR.alen_ok, rfl⟩,
    ⟨FR.split_ok, rfl⟩,
    ⟨FR.ajoin_ok, rfl⟩,
    ⟨FR.in_ok, rfl⟩,
    ⟨FR.aselect_ok, rfl⟩,
    ⟨FR.aslice_ok, rfl⟩,
    ⟨FR.arange_ok, rfl⟩,
    ⟨FS.case_ok _, rfl⟩,
    ⟨FS.case_ok _, rfl⟩,
    ⟨FS.repeat_ok, rfl⟩,
    ⟨FS.lookup_ok _, rfl⟩,
    ⟨FS.lookup_ok _, rfl⟩,
    ⟨FF.round_ok, rfl⟩,
    ⟨FF.percent_ok, rfl⟩,
    ⟨FF.unit_ok _ _ _ _, rfl⟩,
    ⟨FF.unit_ok _ _ _ _, rfl⟩,
    ⟨FF.unit_ok _ _ _ _, rfl⟩,
    trivial⟩

theorem fragTable_okV : ∀ p ∈ fragTable, EntryOkV p.2 ∧ lookupTable stdTable p.1 = some p.2.builder :=
  fragTable_allOk.mem

theorem fragTable_ok : ∀ p ∈ fragTable, EntryOk p.2 ∧ lookupTable stdTable p.1 = some p.2.builder :=
  fun p hp => ⟨(fragTable_okV p hp).1.toSem, (fragTable_okV p hp).2⟩

theorem find_mem {α : Type} {l : List (String × α)} {n : String} {e : α}
    (h : (l.find? (·.1 == n)).map (·.2) = some e) : (n, e) ∈ l := by
  cases hf : l.find? (·.1 == n) with
  | none => rw [hf] at h; cases h
  | some p =>
    rw [hf] at h
    obtain ⟨a, b⟩ := p
    have hn : a = n := by simpa using List.find?_some hf
    cases h; subst hn
    exact List.mem_of_find?_eq_some hf

theorem fragLookup_mem {n : String} {e : Entry} (h : fragLookup n = some e) : (n, e) ∈ fragTable := find_mem h

theorem std_lookup (known : List String) (f : List Char) (b : Builder)
    (h : lookupTable stdTable (String.ofList f) = some b) : stdRegistry known f = some b := by
  simp only [stdRegistry, mkRegistry, h]

theorem call_regDen (known : List String) (f : List Char) (args : List C09.Expr) (h : callOk f args = true) :
    ∃ b, stdRegistry known f = some b ∧ ∀ cargs, DenArgs (fun _ => stdSem) dynE cargs args →
      ∃ stage, b cargs = .ok ⟨some stage, none⟩ ∧ Den (fun _ => stdSem) dynE stage (.call f args) := by
  unfold callOk at h
  cases hl : fragLookup (String.ofList f) with
  | none => rw [hl] at h; cases h
  | some e =>
    rw [hl] at h
    simp only [Bool.and_eq_true] at h
    obtain ⟨hok, hreg⟩ := fragTable_ok _ (fragLookup_mem hl)
    refine ⟨e.builder, std_lookup known f _ hreg, fun cargs hden => ?_⟩
    obtain ⟨stage, hi, hfirst⟩ := hok (fun _ => stdSem) dynE args cargs hden h.1 h.2
    refine ⟨stage, hi.built, ⟨fun ctx => ?_, fun hd => ?_, fun s hs => by cases hs⟩⟩
    · rw [hi.run ctx _ (hden.runs ctx)]
      simp only [evalTree, envC, stdSem, hl]
    · simp only [dynE, hl, Bool.and_eq_true] at hd
      match args, cargs, hden, hd with
      | a :: rest, c :: cs, hden, hd =>
        exact hfirst hd.1 c cs rfl (hden.1.dyn hd.2)

mutual
theorem regDen_of_fragOk (known : List String) : ∀ e : C09.Expr, fragOk e = true →
    RegDen (stdRegistry known) (fun _ => stdSem) dynE e
  | .lit _, _ => trivial
  | .group _, _ => trivial
  | .key _, _ => trivial
  | .call f args, h => by
    simp only [fragOk, Bool.and_eq_true] at h
    exact ⟨call_regDen known f args h.1, regDenArgs_of_fragOk known args h.2⟩
theorem regDenArgs_of_fragOk (known : List String) : ∀ l : List C09.Expr, fragOkArgs l = true →
    RegDenArgs (stdRegistry known) (fun _ => stdSem) dynE l
  | [], _ => trivial
  | a :: rest, h => by
    simp only [fragOkArgs, Bool.and_eq_true] at h
    exact ⟨regDen_of_fragOk known a h.1, regDenArgs_of_fragOk known rest h.2⟩
end

/-- **Print/compile over the standard fragment.** -/
theorem printTop_std_fragment (known : List String) (opt : Bool) (σ : Style) (e : C09.Expr)
    (ha : AdmissibleTop e) (hf : fragOk e = true) :
    ∃ stages, compile (stdRegistry known) opt (printTop σ e) = .ok (stages, []) ∧
      ∀ ctx, (buildKey stages).run ctx = .ok (evalTree (envOf ctx stdSem) e) :=
  printTop_den (stdRegistry known) (fun _ => stdSem) dynE opt (fun _ => rfl) σ e ha (regDen_of_fragOk known e hf)

end Rare.C09

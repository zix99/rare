import Rare.Proofs.C03SparkCsv
import Rare.Proofs.C03Sbv
/-!
`rare spark` with the column sorter of `--sort-cols` as a parameter of the executable model (`sparkTrimBy`, `sparkRunBy`,
`sparkCmdBy`): every sorter a `text` / `numeric` name denotes (any spelling, any modifier) ranks columns with different
names by a `NameOrder` on the names alone, so `spark_final` applies to the model the `tbl` / `cmd` ops run with
`--sort-cols numeric` (spark's default), `text:desc`, `NUMERIC:rev` … – not only with the plain `text` order.
-/
namespace Rare.C03
open Rare.C07 Rare.C13

/-- `less` ranks two rows with different names by the name order `lt` alone (values never looked at) -/
def NameLess (lt : Bytes → Bytes → Bool) (less : NV → NV → Bool) : Prop :=
  ∀ a b : NV, a.name ≠ b.name → less a b = lt a.name b.name

theorem NameOrder.flip {lt : Bytes → Bytes → Bool} (ho : NameOrder lt) : NameOrder (fun a b => lt b a) :=
  ⟨fun a => ho.irrefl a, fun a b c hab hbc => ho.trans c b a hbc hab, fun a b hne => (ho.total a b hne).symm⟩

theorem NameOrder.not_eq_flip {lt : Bytes → Bytes → Bool} (ho : NameOrder lt) {a b : Bytes} (hne : a ≠ b) :
    (!lt a b) = lt b a := by
  rcases ho.total a b hne with h | h
  · rw [h, ho.asymm h]; rfl
  · rw [h, ho.asymm h]; rfl

theorem nameLess_rev {lt : Bytes → Bytes → Bool} {less : NV → NV → Bool} (ho : NameOrder lt) (hl : NameLess lt less) :
    NameLess (fun a b => lt b a) (revLess less) := by
  intro a b hne
  show (!less a b) = lt b.name a.name
  rw [hl a b hne]
  exact ho.not_eq_flip hne

theorem nameLess_text : NameLess bytesLt nvNameLess := fun _ _ _ => rfl
theorem nameLess_numeric : NameLess byNameSmartF nvSmartLess := fun _ _ _ => rfl

theorem smart_nameOrder (hs : StrictTotalOn (fun _ => True) byNameSmartF) : NameOrder byNameSmartF :=
  ⟨fun a => hs.irrefl a trivial, fun a b c => hs.trans a b c trivial trivial trivial, fun a b => hs.total a b trivial trivial⟩

/-- The comparators of the sort names that are NOT value-ordered (`SortsByValue` false) and pure: `text`, `numeric`, reversed or not. -/
theorem pureSortLess_name_cases (f : Bytes) (less : NV → NV → Bool) (h : pureSortLess f = some less)
    (hv : sortsByValue f = false) :
    less = nvNameLess ∨ less = revLess nvNameLess ∨ less = nvSmartLess ∨ less = revLess nvSmartLess := by
  rw [pureSortLess_of_kind rfl] at h
  obtain ⟨⟨m, rev⟩, hk, hl⟩ := Option.bind_eq_some_iff.mp h
  cases m with
  | text =>
    cases hl; cases rev
    · exact Or.inl rfl
    · exact Or.inr (Or.inl rfl)
  | numeric =>
    cases hl; cases rev
    · exact Or.inr (Or.inr (Or.inl rfl))
    · exact Or.inr (Or.inr (Or.inr rfl))
  | value => rw [(sortsByValue_iff_kind f).mpr ⟨rev, hk⟩] at hv; cases hv
  | contextual => cases hl
  | date => cases hl

/-- … each of them ranks columns by a strict total order on the column NAMES. -/
theorem pureSortLess_nameLess (hs : StrictTotalOn (fun _ => True) byNameSmartF) (f : Bytes) (less : NV → NV → Bool)
    (h : pureSortLess f = some less) (hv : sortsByValue f = false) :
    ∃ lt : Bytes → Bytes → Bool, NameOrder lt ∧ NameLess lt less := by
  rcases pureSortLess_name_cases f less h hv with rfl | rfl | rfl | rfl
  · exact ⟨bytesLt, bytesLt_nameOrder, nameLess_text⟩
  · exact ⟨_, bytesLt_nameOrder.flip, nameLess_rev bytesLt_nameOrder nameLess_text⟩
  · exact ⟨byNameSmartF, smart_nameOrder hs, nameLess_numeric⟩
  · exact ⟨_, (smart_nameOrder hs).flip, nameLess_rev (smart_nameOrder hs) nameLess_numeric⟩

/-! ### the executable model with a column sorter -/

/-- the column list `sparkTrimBy` sorts -/
def sparkColsBy (less : NV → NV → Bool) (t : Table) : List Bytes :=
  (isort less ((akeys t.cols).map fun c => (⟨c, t.colTotal c⟩ : NV))).map (·.name)

theorem sparkTrimBy_eq (less : NV → NV → Bool) (n : Nat) (t : Table) :
    sparkTrimBy less n t = renderStep n t (sparkColsBy less t) (akeys t.cols) (fun _ => akeys t.rows) := rfl

theorem sparkTrimBy_text (n : Nat) (t : Table) : sparkTrimBy nvNameLess n t = sparkTrim n t := rfl

theorem sparkRunBy_text (n : Nat) (d : Bytes) (evs : List SparkEv) : sparkRunBy nvNameLess n d evs = sparkRun n d evs := by
  unfold sparkRunBy sparkRun
  congr 1

theorem sparkColsBy_sorted {lt : Bytes → Bytes → Bool} {less : NV → NV → Bool} (hl : NameLess lt less)
    (hord : ∀ items : List NV, (items.map (·.name)).Nodup → OrderOn (· ∈ items) less)
    (t : Table) (h : (akeys t.cols).Nodup) : IsSortedCols lt t (sparkColsBy less t) := by
  have hnd := nv_names_nodup (akeys t.cols) t.colTotal h
  have hs := isort_sorted (nodup_map_inj _ _ hnd).1 (hord _ hnd)
  constructor
  · have := hs.1.map (·.name)
    simpa [sparkColsBy, List.map_map, Function.comp_def] using this
  · unfold sparkColsBy SortedBy
    rw [List.pairwise_map]
    have hnd' : ((isort less ((akeys t.cols).map fun c => (⟨c, t.colTotal c⟩ : NV))).map (·.name)).Nodup :=
      (hs.1.map (·.name)).nodup_iff.mpr hnd
    have hne : (isort less ((akeys t.cols).map fun c => (⟨c, t.colTotal c⟩ : NV))).Pairwise (fun a b => a.name ≠ b.name) := by
      unfold List.Nodup at hnd'
      rw [List.pairwise_map] at hnd'
      exact hnd'
    refine (hs.2.and hne).imp ?_
    intro a b hab
    rw [← hl a b hab.2]
    exact hab.1

theorem sparkRunBy_reach_aux {lt : Bytes → Bytes → Bool} {less : NV → NV → Bool} (hl : NameLess lt less)
    (hord : ∀ items : List NV, (items.map (·.name)).Nodup → OrderOn (· ∈ items) less) (n : Nat) (d : Bytes) :
    ∀ (evs : List SparkEv) (h : List Bytes) (t : Table), SparkReach lt n d h t →
      SparkReach lt n d (h ++ sparkSamples evs) (evs.foldl (sparkStepBy less n) t) := by
  intro evs
  induction evs with
  | nil => intro h t hr; simpa [sparkSamples] using hr
  | cons ev evs ih =>
    intro h t hr
    cases ev with
    | sample e =>
      have := ih (h ++ [e]) (t.sample e) (SparkReach.sample h t e hr)
      simpa [sparkSamples, sparkStepBy, List.append_assoc] using this
    | render =>
      have hr' : SparkReach lt n d h (sparkTrimBy less n t) := by
        rw [sparkTrimBy_eq]
        exact SparkReach.render h t _ _ _ hr (sparkColsBy_sorted hl hord t (reach_nd hr).2) (covers_self t)
      have := ih h (sparkTrimBy less n t) hr'
      simpa [sparkSamples, sparkStepBy] using this

/-- the executable run with ANY name-ordered column sorter is a reachable table of the relational model -/
theorem sparkRunBy_reach {lt : Bytes → Bytes → Bool} {less : NV → NV → Bool} (hl : NameLess lt less)
    (hord : ∀ items : List NV, (items.map (·.name)).Nodup → OrderOn (· ∈ items) less) (n : Nat) (d : Bytes) (evs : List SparkEv) :
    SparkReach lt n d (sparkSamples evs) (sparkRunBy less n d evs) := by
  have := sparkRunBy_reach_aux hl hord n d evs [] { delim := d } SparkReach.init
  simpa [sparkRunBy] using this

theorem sparkTrimBy_nd (less : NV → NV → Bool) (n : Nat) (t : Table) (h : KeysNodup t) : KeysNodup (sparkTrimBy less n t) :=
  renderStep_nd n t _ _ _ h

/-- Final render after any script = one render on the sequential table, for the executable model with a name-ordered sorter. -/
theorem sparkBy_final {lt : Bytes → Bytes → Bool} {less : NV → NV → Bool} (ho : NameOrder lt) (hl : NameLess lt less)
    (hord : ∀ items : List NV, (items.map (·.name)).Nodup → OrderOn (· ∈ items) less)
    (n : Nat) (d : Bytes) (hd : d ≠ []) (evs : List SparkEv) :
    (∀ c r, (sparkTrimBy less n (sparkRunBy less n d evs)).cell c r =
      (sparkTrimBy less n (Table.run d (sparkSamples evs))).cell c r) ∧
    (∀ r, (aget (sparkTrimBy less n (sparkRunBy less n d evs)).rows r).isSome =
      (aget (sparkTrimBy less n (Table.run d (sparkSamples evs))).rows r).isSome) ∧
    (∀ c, (aget (sparkTrimBy less n (sparkRunBy less n d evs)).cols c).isSome =
      (aget (sparkTrimBy less n (Table.run d (sparkSamples evs))).cols c).isSome) ∧
    (sparkTrimBy less n (sparkRunBy less n d evs)).errors = (sparkTrimBy less n (Table.run d (sparkSamples evs))).errors := by
  have hr := sparkRunBy_reach hl hord n d evs
  have hn := (reach_nd hr).2
  have hnF := (C07.tableInv_run d hd (sparkSamples evs)).nodupCols
  simp only [sparkTrimBy_eq]
  have := spark_final ho n d hd _ _ hr _ _ _ (sparkColsBy_sorted hl hord _ hn) (covers_self _)
    _ _ _ (sparkColsBy_sorted hl hord _ hnF) (covers_self _)
  exact ⟨this.1, this.2.1, this.2.2.1, this.2.2.2.1⟩

/-- … hence the complete result of the command (footer with row and column counts, CSV, exit status) is the same. -/
theorem sparkBy_tableCmd {lt : Bytes → Bytes → Bool} {less : NV → NV → Bool} (ho : NameOrder lt) (hl : NameLess lt less)
    (hord : ∀ items : List NV, (items.map (·.name)).Nodup → OrderOn (· ∈ items) less)
    (n : Nat) (d : Bytes) (hd : d ≠ []) (evs : List SparkEv) (k : Counters) (readErrors : Int) :
    let tf := sparkTrimBy less n (sparkRunBy less n d evs)
    let rf := sparkTrimBy less n (Table.run d (sparkSamples evs))
    tableCmd isortFn (akeys tf.cols) (akeys tf.rows) tf k readErrors =
      tableCmd isortFn (akeys rf.cols) (akeys rf.rows) rf k readErrors := by
  obtain ⟨a, b, c, e⟩ := sparkBy_final ho hl hord n d hd evs
  have i := C07.tableInv_run d hd (sparkSamples evs)
  have t1 := sparkTrimBy_nd less n _ (reach_nd (sparkRunBy_reach hl hord n d evs))
  have t2 := sparkTrimBy_nd less n _ ⟨i.nodupRows, i.nodupCols⟩
  exact tableCmd_det _ _ b c e t1 t2 (tableCsvRows_of_cells_ref _ _ a b c _ _ _ _ (isRangeOf_akeys t1.2)
    (isRangeOf_akeys t2.2) (isRangeOf_akeys t1.1) (isRangeOf_akeys t2.1)) k readErrors

end Rare.C03

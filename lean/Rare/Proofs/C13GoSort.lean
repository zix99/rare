import Rare.Proofs.C13Model
/-! C13: the model of `sort.insertionSort` (`goInsertionSort`, what `sort.Sort` runs for `n ≤ 12` and what
the driver's `sort` op executes) returns the sorted arrangement when the comparator is a pure order –
one concrete algorithm for which the `sort.Sort` contract is discharged on the Go-shaped code.

The loop keeps the sorted prefix reversed, so with a pure comparator it is the reference insertion sort
with the negated comparison, run over the input read backwards. -/
namespace Rare.C13

theorem insertBack_pure {α : Type} (less : α → α → Bool) (x : α) : ∀ (ys : List α) (s : Unit),
    insertBack (pureCmp less) x s ys = (ins (revLess less) x ys, s)
  | [], _ => rfl
  | y :: ys, s => by
    cases h : less x y <;> simp [insertBack, ins, revLess, pureCmp, h, insertBack_pure less x ys]

theorem goInsertionSortAux_pure {α : Type} (less : α → α → Bool) : ∀ (rest done : List α) (s : Unit),
    goInsertionSortAux (pureCmp less) s (isort (revLess less) done) rest
      = ((isort (revLess less) (rest.reverse ++ done)).reverse, s)
  | [], _, _ => rfl
  | x :: rest, done, s => by
    rw [goInsertionSortAux, insertBack_pure, List.reverse_cons, List.append_assoc]
    exact goInsertionSortAux_pure less rest (x :: done) s

theorem goInsertionSort_pure {α : Type} (less : α → α → Bool) (l : List α) :
    (goInsertionSort (pureCmp less) () l).1 = (isort (revLess less) l.reverse).reverse := by
  have := goInsertionSortAux_pure less l [] ()
  rw [List.append_nil] at this
  exact congrArg Prod.fst this

/-- Go's insertion sort with a pure comparator that orders the distinct elements of `l` returns the
reference sorted sequence. -/
theorem goInsertionSort_eq_isort {α : Type} {less : α → α → Bool} {l : List α} (hnd : l.Nodup)
    (ho : OrderOn (· ∈ l) less) : (goInsertionSort (pureCmp less) () l).1 = isort less l := by
  have hp := List.reverse_perm l
  have hndr : l.reverse.Nodup := hp.nodup_iff.mpr hnd
  have hor : OrderOn (· ∈ l.reverse) less := ho.mono fun _ h => hp.mem_iff.mp h
  rw [goInsertionSort_pure, isort_rev hndr hor, List.reverse_reverse]
  exact isort_perm_invariant hndr hor hp

end Rare.C13

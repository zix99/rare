import Rare.Spec.C12Lazy
import Rare.Proofs.C12Spec
/-!
The one-pass scan of the specification (`specToks` / `specDissect`) computes the leftmost-laziest
split of the declarative specification (`Spec/C12Lazy.lean`), and the backtracking matcher
`lazyDissect` never needs to backtrack.
-/
namespace Rare.C12

/-! ### `firstFrom` -/

theorem firstFrom_none {α : Type} (f : Nat → Option α) (fuel start : Nat)
    (h : ∀ i, start ≤ i → i < start + fuel → f i = none) : firstFrom f fuel start = none := by
  induction fuel generalizing start with
  | zero => rfl
  | succ k ih =>
    simp only [firstFrom]
    rw [h start (Nat.le_refl _) (by omega)]
    exact ih (start + 1) (fun i h1 h2 => h i (by omega) (by omega))

theorem firstFrom_first {α : Type} (f : Nat → Option α) (fuel start n : Nat) (x : α)
    (h1 : start ≤ n) (h2 : n < start + fuel) (hb : ∀ i, start ≤ i → i < n → f i = none)
    (hn : f n = some x) : firstFrom f fuel start = some x := by
  induction fuel generalizing start with
  | zero => omega
  | succ k ih =>
    simp only [firstFrom]
    rcases Nat.eq_or_lt_of_le h1 with h | h
    · subst h; rw [hn]
    · rw [hb start (Nat.le_refl _) h]
      exact ih (start + 1) (by omega) (by omega) (fun i a b => hb i (by omega) b)

/-! ### lexicographic order -/

theorem lexLE_refl (a : List Nat) : lexLE a a := by
  induction a with
  | nil => trivial
  | cons x xs ih => exact Or.inr ⟨rfl, ih⟩

theorem lexLE_antisymm {a b : List Nat} (hl : a.length = b.length) (h1 : lexLE a b) (h2 : lexLE b a) :
    a = b := by
  induction a generalizing b with
  | nil => cases b with
    | nil => rfl
    | cons _ _ => simp at hl
  | cons x xs ih =>
    cases b with
    | nil => simp at hl
    | cons y ys =>
      simp only [lexLE] at h1 h2
      rcases h1 with h1 | ⟨rfl, h1⟩
      · rcases h2 with h2 | ⟨h2, _⟩ <;> omega
      · rcases h2 with h2 | ⟨_, h2⟩
        · omega
        · rw [ih (by simpa using hl) h1 h2]

/-! ### splits -/

theorem IsSplit_length {line : Bytes} {ts : List Tok} {pos : Nat} {ns : List Nat}
    (h : IsSplit line ts pos ns) : ns.length = ts.length := by
  induction ts generalizing pos ns with
  | nil => simp [IsSplit] at h; simp [h]
  | cons t ts ih =>
    cases ns with
    | nil => simp [IsSplit] at h
    | cons n ns => simp only [IsSplit] at h; simp [ih h.2.2]

/-- a prefix at `pos + n` of a non-empty needle keeps everything inside the line -/
theorem prefix_in_line {u line : Bytes} {k : Nat} (hu : u ≠ []) (h : u <+: line.drop k) :
    k + u.length ≤ line.length := by
  have := h.length_le
  simp only [List.length_drop] at this
  have : 0 < u.length := List.length_pos_iff.mpr hu
  omega

/-- what `IsSplit` asks of the length `n` of one token's text -/
def LitAt (line : Bytes) (t : Tok) (pos n : Nat) : Prop :=
  if t.lit = [] then pos + n = line.length else t.lit <+: line.drop (pos + n)

theorem isSplit_cons {line : Bytes} {t : Tok} {ts : List Tok} {pos n : Nat} {ns : List Nat} :
    IsSplit line (t :: ts) pos (n :: ns) ↔
      pos + n + t.lit.length ≤ line.length ∧ LitAt line t pos n ∧ IsSplit line ts (pos + n + t.lit.length) ns :=
  Iff.rfl

/-- the scan takes the least length that `IsSplit` admits … -/
theorem tokLen_least {line : Bytes} {t : Tok} {pos n : Nat} (h : tokLen line t pos = some n)
    (hp : pos ≤ line.length) : LitAt line t pos n ∧ ∀ n', LitAt line t pos n' → n ≤ n' := by
  unfold LitAt
  by_cases hl : t.lit = []
  · rw [tokLen_of_nil hl] at h; cases h
    simp only [hl, if_true]
    exact ⟨by omega, fun n' h' => by omega⟩
  · rw [tokLen_of_ne hl] at h
    simp only [hl, if_false, ← List.drop_drop]
    exact ⟨(firstIndex_some_prefix h).1, fun n' h' => Nat.le_of_not_lt fun hlt => firstIndex_min h hlt h'⟩

/-- … and finds one whenever a later position admits any -/
theorem tokLen_of_later {line : Bytes} {t : Tok} {pos pos' n' : Nat} (h : LitAt line t pos' n') (hp : pos ≤ pos') :
    ∃ n, tokLen line t pos = some n ∧ pos + n ≤ pos' + n' := by
  unfold LitAt at h
  by_cases hl : t.lit = []
  · rw [if_pos hl] at h
    exact ⟨_, tokLen_of_nil hl pos, by omega⟩
  · rw [if_neg hl] at h
    rw [tokLen_of_ne hl]
    obtain ⟨n, hn, hle⟩ := firstIndex_le_of_prefix (h := line.drop pos) (k := pos' + n' - pos)
      (by rw [List.drop_drop, show pos + (pos' + n' - pos) = pos' + n' by omega]; exact h)
    exact ⟨n, hn, by omega⟩

/-- **Soundness + minimality of the scan**: what `specToks` returns is a split, the split it stands
for gives back the captures, and it is lexicographically least among the splits from `pos`. -/
theorem specToks_split {line : Bytes} {ts : List Tok} {pos : Nat} {caps : List Nat} {e : Nat}
    (h : specToks line ts pos = some (caps, e)) (hp : pos ≤ line.length) :
    ∃ ns, IsSplit line ts pos ns ∧ capsOf ts pos ns = (caps, e) ∧
      ∀ ns', IsSplit line ts pos ns' → lexLE ns ns' := by
  induction ts generalizing pos caps e with
  | nil =>
    simp only [specToks] at h; cases h
    exact ⟨[], by simp [IsSplit], by simp [capsOf], fun ns' _ => trivial⟩
  | cons t ts ih =>
    obtain ⟨n, caps1, hn, hrec, rfl⟩ := specToks_cons_some h
    have hpos := tokLen_bound hn hp
    obtain ⟨hat, hleast⟩ := tokLen_least hn hp
    obtain ⟨ns, hs, hc, hmin⟩ := ih hrec hpos
    refine ⟨n :: ns, isSplit_cons.mpr ⟨hpos, hat, hs⟩, by simp only [capsOf, hc], fun ns' hs' => ?_⟩
    cases ns' with
    | nil => simp [IsSplit] at hs'
    | cons n' ns' =>
      obtain ⟨_, hat', hs'⟩ := isSplit_cons.mp hs'
      rcases Nat.lt_or_eq_of_le (hleast n' hat') with hlt | rfl
      · exact Or.inl hlt
      · exact Or.inr ⟨rfl, hmin ns' hs'⟩

/-- **Completeness of the scan (no backtracking is ever needed)**: if the rest of the pattern can
be split from SOME position `pos' ≥ pos`, the scan from `pos` succeeds. -/
theorem specToks_of_split {line : Bytes} {ts : List Tok} {pos pos' : Nat} {ns' : List Nat}
    (h : IsSplit line ts pos' ns') (hp : pos ≤ pos') :
    ∃ r, specToks line ts pos = some r := by
  induction ts generalizing pos pos' ns' with
  | nil => exact ⟨_, rfl⟩
  | cons t ts ih =>
    cases ns' with
    | nil => simp [IsSplit] at h
    | cons n' ns' =>
      obtain ⟨_, hat, hrest⟩ := isSplit_cons.mp h
      obtain ⟨n, hn, hle⟩ := tokLen_of_later hat hp
      obtain ⟨⟨caps, e⟩, hr⟩ := ih (pos := pos + n + t.lit.length) hrest (by omega)
      exact ⟨_, specToks_cons_of hn hr⟩

/-- failure of the scan is inherited by every later position that is still inside the line -/
theorem specToks_none_later {line : Bytes} {ts : List Tok} {pos pos' : Nat}
    (h : specToks line ts pos = none) (hp : pos ≤ pos') (hl : pos' ≤ line.length) :
    specToks line ts pos' = none := by
  cases h' : specToks line ts pos' with
  | none => rfl
  | some r =>
    obtain ⟨caps, e⟩ := r
    obtain ⟨ns, hs, _, _⟩ := specToks_split h' hl
    obtain ⟨r, hr⟩ := specToks_of_split hs hp
    rw [h] at hr; cases hr

/-! ### the backtracking matcher never backtracks -/

/-- Trying the positions `base, base+1, …` of `u` in order and continuing with `g` is committing to the
FIRST position, provided a failure of `g` is inherited by the later positions of `u`. -/
theorem firstFrom_firstIndex {α : Type} (u line : Bytes) (base : Nat) (g : Nat → Option α)
    (hmono : ∀ n m, n ≤ m → m ≤ line.length - base → u <+: line.drop (base + m) → g n = none → g m = none) :
    firstFrom (fun n => if u.isPrefixOf (line.drop (base + n)) then g n else none) (line.length - base + 1) 0 =
      (firstIndex u (line.drop base)).bind g := by
  cases hn : firstIndex u (line.drop base) with
  | none =>
    apply firstFrom_none
    intro i _ hi
    have := (firstIndex_none_iff _ _).mp hn i (by simp; omega)
    rw [List.drop_drop] at this
    simp [List.isPrefixOf_iff_prefix, this]
  | some n =>
    have ⟨hpre, hlen⟩ := firstIndex_some_prefix hn
    simp only [List.length_drop] at hlen
    rw [List.drop_drop] at hpre
    have hbefore : ∀ i, 0 ≤ i → i < n →
        (if u.isPrefixOf (line.drop (base + i)) then g i else none) = none := by
      intro i _ hi
      have := firstIndex_min hn hi
      rw [List.drop_drop] at this
      simp [List.isPrefixOf_iff_prefix, this]
    simp only [Option.bind_some]
    cases hg : g n with
    | some x =>
      apply firstFrom_first _ _ _ n _ (Nat.zero_le _) (by omega) hbefore
      simp [List.isPrefixOf_iff_prefix, hpre, hg]
    | none =>
      apply firstFrom_none
      intro i _ hi
      by_cases hp : u <+: line.drop (base + i)
      · rcases Nat.lt_or_ge i n with hlt | hge
        · exact hbefore i (Nat.zero_le _) hlt
        · simp [hmono n i hge (by omega) hp hg]
      · simp [List.isPrefixOf_iff_prefix, hp]

theorem lazyToks_eq_spec (line : Bytes) (ts : List Tok) (pos : Nat) :
    lazyToks line ts pos = specToks line ts pos := by
  induction ts generalizing pos with
  | nil => rfl
  | cons t ts ih =>
    rw [specToks_cons]
    by_cases hl : t.lit = []
    · simp only [lazyToks, tokLen_of_nil hl, hl, if_true, ih]
      cases specToks line ts (pos + (line.length - pos) + ([] : Bytes).length) <;> rfl
    · simp only [lazyToks, tokLen_of_ne hl, hl, if_false, ih]
      rw [firstFrom_firstIndex]
      · cases firstIndex t.lit (line.drop pos) with
        | none => rfl
        | some n => simp only [Option.bind_some]; cases specToks line ts (pos + n + t.lit.length) <;> rfl
      · intro n m hnm _ hp hg
        rw [Option.map_eq_none_iff] at hg ⊢
        exact specToks_none_later hg (by omega) (prefix_in_line hl hp)

/-- **The one-pass scan = the backtracking (lazy regular expression) matcher**, for every pattern
(well-formed or not) and every line. -/
theorem lazyDissect_eq_spec (p : Pat) (line : Bytes) : lazyDissect p line = specDissect p line := by
  have h := firstFrom_firstIndex p.pre line 0
    (fun s => (specToks line p.toks (s + p.pre.length)).map fun ce => s :: ce.2 :: ce.1)
    (by intro n m hnm hm hp hg
        have := hp.length_le
        simp only [List.length_drop] at this
        rw [Option.map_eq_none_iff] at hg ⊢
        exact specToks_none_later hg (by omega) (by omega))
  simp only [Nat.zero_add, List.drop_zero, Nat.sub_zero] at h
  simp only [lazyDissect, specDissect, lazyToks_eq_spec, h]
  cases firstIndex p.pre line with
  | none => rfl
  | some s => simp only [Option.bind_some]; cases specToks line p.toks (s + p.pre.length) <;> rfl

/-! ### the declarative characterisation -/

/-- a match of the specification is a way to read the line as an instance of the pattern, … -/
theorem specDissect_isMatch {p : Pat} {line : Bytes} {r : List Nat} (h : specDissect p line = some r) :
    ∃ s ns, IsMatch p line s ns ∧ r = offsetsOf p s ns ∧
      ∀ s' ns', IsMatch p line s' ns' → lexLE (s :: ns) (s' :: ns') := by
  obtain ⟨s, caps, e, hs, hrec, rfl⟩ := specDissect_some h
  have ⟨hpre, hlen⟩ := firstIndex_some_prefix hs
  obtain ⟨ns, hsplit, hc, hmin⟩ := specToks_split hrec hlen
  refine ⟨s, ns, ⟨hlen, hpre, hsplit⟩, by simp [offsetsOf, hc], ?_⟩
  intro s' ns' hm'
  rcases Nat.lt_trichotomy s s' with hlt | heq | hgt
  · exact Or.inl hlt
  · subst heq; exact Or.inr ⟨rfl, hmin ns' hm'.2.2⟩
  · exact absurd hm'.2.1 (firstIndex_min hs hgt)

/-- … and whenever the line CAN be read as an instance of the pattern, the scan finds a match. -/
theorem specDissect_of_isMatch {p : Pat} {line : Bytes} {s' : Nat} {ns' : List Nat}
    (h : IsMatch p line s' ns') : ∃ r, specDissect p line = some r := by
  obtain ⟨hb, hpre, hsplit⟩ := h
  obtain ⟨s, hs, hle⟩ := firstIndex_le_of_prefix hpre
  obtain ⟨r, hr⟩ := specToks_of_split (pos := s + p.pre.length) hsplit (by omega)
  exact ⟨s :: r.2 :: r.1, by simp only [specDissect, hs, hr]⟩

theorem specDissect_least_split (p : Pat) (line : Bytes) (r : List Nat) :
    specDissect p line = some r ↔
      ∃ s ns, IsMatch p line s ns ∧
        (∀ s' ns', IsMatch p line s' ns' → lexLE (s :: ns) (s' :: ns')) ∧ r = offsetsOf p s ns := by
  constructor
  · intro h
    obtain ⟨s, ns, hm, hr, hmin⟩ := specDissect_isMatch h
    exact ⟨s, ns, hm, hmin, hr⟩
  · rintro ⟨s, ns, hm, hmin, rfl⟩
    obtain ⟨r, hr⟩ := specDissect_of_isMatch hm
    obtain ⟨s0, ns0, hm0, hr0, hmin0⟩ := specDissect_isMatch hr
    have hlen : (s :: ns).length = (s0 :: ns0).length := by
      simp [IsSplit_length hm.2.2, IsSplit_length hm0.2.2]
    have := lexLE_antisymm hlen (hmin s0 ns0 hm0) (hmin0 s ns hm)
    cases this
    rw [hr, hr0]

theorem specDissect_none_iff (p : Pat) (line : Bytes) :
    specDissect p line = none ↔ ¬ ∃ s ns, IsMatch p line s ns := by
  constructor
  · rintro h ⟨s, ns, hm⟩
    obtain ⟨r, hr⟩ := specDissect_of_isMatch hm
    rw [h] at hr; cases hr
  · intro h
    cases hr : specDissect p line with
    | none => rfl
    | some r =>
      obtain ⟨s, ns, hm, _⟩ := specDissect_isMatch hr
      exact absurd ⟨s, ns, hm⟩ h

/-! ### `{0}` is the pattern with the token texts filled in -/

/-- the token texts of a split -/
def valuesOf (line : Bytes) : List Tok → Nat → List Nat → List Bytes
  | t :: ts, pos, n :: ns => (line.drop pos).take n :: valuesOf line ts (pos + n + t.lit.length) ns
  | _, _, _ => []

theorem take_of_prefix {u l : Bytes} (h : u <+: l) : l.take u.length = u := by
  obtain ⟨t, rfl⟩ := h; simp

theorem drop_take_append (l : Bytes) (a n : Nat) :
    (l.drop a).take n ++ (l.drop (a + n)) = l.drop a := by
  rw [← List.drop_drop]; exact List.take_append_drop n (l.drop a)

/-- the span of a split, cut out of the line, is `v₁ lit₁ v₂ lit₂ …` -/
theorem split_span {line : Bytes} {ts : List Tok} {pos : Nat} {ns : List Nat}
    (h : IsSplit line ts pos ns) (hp : pos ≤ line.length) :
    (line.drop pos).take ((capsOf ts pos ns).2 - pos) =
      (((valuesOf line ts pos ns).zip ts).map fun vt => vt.1 ++ vt.2.lit).flatten ∧
    pos ≤ (capsOf ts pos ns).2 ∧ (capsOf ts pos ns).2 ≤ line.length := by
  induction ts generalizing pos ns with
  | nil =>
    simp only [IsSplit] at h; subst h
    simp [capsOf, valuesOf, hp]
  | cons t ts ih =>
    cases ns with
    | nil => simp [IsSplit] at h
    | cons n ns =>
      simp only [IsSplit] at h
      obtain ⟨hb, hlit, hrest⟩ := h
      obtain ⟨ih1, ih2, ih3⟩ := ih hrest hb
      simp only [capsOf, valuesOf, List.zip_cons_cons, List.map_cons, List.flatten_cons]
      refine ⟨?_, by omega, ih3⟩
      rw [← ih1]
      have hlit' : (line.drop (pos + n)).take t.lit.length = t.lit := by
        by_cases hl : t.lit = []
        · simp [hl]
        · simp only [hl, if_false] at hlit; exact take_of_prefix hlit
      generalize hE : (capsOf ts (pos + n + t.lit.length) ns).2 = E at ih2 ih3 ⊢
      have e1 : E - pos = n + (t.lit.length + (E - (pos + n + t.lit.length))) := by omega
      rw [e1, List.take_add, List.drop_drop, List.take_add, List.drop_drop, hlit', List.append_assoc]


theorem valuesOf_length {line : Bytes} {ts : List Tok} {pos : Nat} {ns : List Nat}
    (h : ns.length = ts.length) : (valuesOf line ts pos ns).length = ts.length := by
  induction ts generalizing pos ns with
  | nil => cases ns <;> simp [valuesOf]
  | cons t ts ih =>
    cases ns with
    | nil => simp at h
    | cons n ns => simp only [valuesOf, List.length_cons]; rw [ih (by simpa using h)]

/-- **`{0}` is the pattern text with the token texts filled in**: a match `[s, e, …]` of the
specification comes with one text per token (captured or skipped) such that
`line[s:e] = lit₀ v₁ lit₁ v₂ lit₂ … vₙ litₙ`. -/
theorem specDissect_span {p : Pat} {line : Bytes} {r : List Nat} (h : specDissect p line = some r) :
    ∃ (s e : Nat) (caps : List Nat) (vs : List Bytes), r = s :: e :: caps ∧ s ≤ e ∧ e ≤ line.length ∧
      vs.length = p.toks.length ∧ (line.drop s).take (e - s) = instantiate p vs := by
  obtain ⟨s, ns, ⟨hb, hpre, hsplit⟩, hr, _⟩ := specDissect_isMatch h
  obtain ⟨h1, h2, h3⟩ := split_span hsplit hb
  refine ⟨s, (capsOf p.toks (s + p.pre.length) ns).2, (capsOf p.toks (s + p.pre.length) ns).1,
    valuesOf line p.toks (s + p.pre.length) ns, by simp [hr, offsetsOf], by omega, h3, ?_, ?_⟩
  · exact valuesOf_length (IsSplit_length hsplit)
  · generalize hE : (capsOf p.toks (s + p.pre.length) ns).2 = E at h1 h2 h3
    simp only [instantiate, ← h1]
    have e1 : E - s = p.pre.length + (E - (s + p.pre.length)) := by omega
    rw [e1, List.take_add, List.drop_drop, take_of_prefix hpre]

/-! ### locality: nothing behind `{0}` matters when the pattern ends in a literal -/

theorem drop_take_append_of_le (h x : Bytes) {j k : Nat} (hj : j ≤ k) (hk : k ≤ h.length) :
    (h.take k ++ x).drop j = (h.drop j).take (k - j) ++ x := by
  rw [List.drop_append_of_le_length (by simp; omega), List.drop_take]

theorem prefix_take_append_iff {u h x : Bytes} {j k : Nat} (hk : k ≤ h.length) (hu : j + u.length ≤ k) :
    u <+: (h.take k ++ x).drop j ↔ u <+: h.drop j := by
  rw [drop_take_append_of_le h x (by omega) hk]
  rw [List.prefix_iff_eq_take, List.prefix_iff_eq_take]
  rw [List.take_append_of_le_length (by simp; omega), List.take_take]
  rw [Nat.min_eq_left (by omega)]

theorem firstIndex_take_append {u h : Bytes} {i k : Nat} (x : Bytes) (hi : firstIndex u h = some i)
    (hik : i + u.length ≤ k) (hk : k ≤ h.length) : firstIndex u (h.take k ++ x) = some i := by
  obtain ⟨h1, h2, h3⟩ := (firstIndex_spec _ _ _).mp hi
  refine (firstIndex_spec _ _ _).mpr ⟨by simp; omega, (prefix_take_append_iff hk hik).mpr h2, ?_⟩
  intro j hj hp
  exact h3 j hj ((prefix_take_append_iff hk (by omega)).mp hp)

theorem specToks_take_append {line : Bytes} {ts : List Tok} {pos k : Nat} {caps : List Nat} {e : Nat} (x : Bytes)
    (hlit : ∀ t ∈ ts, t.lit ≠ []) (h : specToks line ts pos = some (caps, e)) (hp : pos ≤ line.length)
    (hek : e ≤ k) (hk : k ≤ line.length) : specToks (line.take k ++ x) ts pos = some (caps, e) := by
  induction ts generalizing pos caps e with
  | nil => simpa [specToks] using h
  | cons t ts ih =>
    have hl : t.lit ≠ [] := hlit t (by simp)
    obtain ⟨n, caps1, hn, hrec, rfl⟩ := specToks_cons_some h
    have hb := tokLen_bound hn hp
    have hle : pos + n + t.lit.length ≤ e := List.rel_of_pairwise_cons (specToks_ordered hrec hb).1 (by simp)
    refine specToks_cons_of ?_ (ih (fun t ht => hlit t (by simp [ht])) hrec hb hek)
    rw [tokLen_of_ne hl] at hn ⊢
    rw [drop_take_append_of_le line x (by omega) hk]
    exact firstIndex_take_append x hn (k := k - pos) (by omega) (by simp; omega)

/-- When every token has a trailing literal, the match of a line is decided by `line[:e]` alone:
whatever follows the end of `{0}` – other bytes, more bytes, nothing – the answer is the same. -/
theorem specDissect_take_append {p : Pat} {line : Bytes} {s e : Nat} {caps : List Nat} (x : Bytes)
    (hlit : ∀ t ∈ p.toks, t.lit ≠ []) (h : specDissect p line = some (s :: e :: caps)) :
    specDissect p (line.take e ++ x) = some (s :: e :: caps) := by
  obtain ⟨_, _, _, hs, hrec, h'⟩ := specDissect_some h
  cases h'
  have hlen := (firstIndex_some_prefix hs).2
  have hord := specToks_ordered hrec hlen
  have hle : s + p.pre.length ≤ e := List.rel_of_pairwise_cons hord.1 (by simp)
  exact specDissect_of (firstIndex_take_append x hs hle hord.2)
    (specToks_take_append x hlit hrec hlen (Nat.le_refl _) hord.2)

/-! ### extending a pattern at the end -/

/-- the scan over `ts ++ us` is the scan over `ts` followed by the scan over `us` from where it ended -/
theorem specToks_append (line : Bytes) (ts us : List Tok) (pos : Nat) :
    specToks line (ts ++ us) pos =
      match specToks line ts pos with
      | none => none
      | some ce => (specToks line us ce.2).map fun ce' => (ce.1 ++ ce'.1, ce'.2) := by
  induction ts generalizing pos with
  | nil =>
    simp only [List.nil_append, specToks]
    cases specToks line us pos with
    | none => rfl
    | some ce' => simp
  | cons t ts ih =>
    simp only [List.cons_append, specToks_cons]
    cases tokLen line t pos with
    | none => rfl
    | some n =>
      simp only []
      rw [ih]
      cases specToks line ts (pos + n + t.lit.length) with
      | none => rfl
      | some ce =>
        simp only []
        cases specToks line us ce.2 with
        | none => rfl
        | some ce' => simp [List.append_assoc]

/-- **More tokens at the end of a pattern never change what the earlier tokens capture**: when the
longer pattern matches, the shorter one matches too, with the same start and the same captures;
only the end of `{0}` moves (to the right). -/
theorem specDissect_append {pre : Bytes} {ts us : List Tok} {line : Bytes} {r' : List Nat}
    (h : specDissect ⟨pre, ts ++ us⟩ line = some r') :
    ∃ s e e' caps more, specDissect ⟨pre, ts⟩ line = some (s :: e :: caps) ∧
      r' = s :: e' :: (caps ++ more) ∧ e ≤ e' := by
  obtain ⟨s, caps', e', hs, hrec, rfl⟩ := specDissect_some h
  rw [specToks_append] at hrec
  have hlen := (firstIndex_some_prefix hs).2
  cases h1 : specToks line ts (s + pre.length) with
  | none => rw [h1] at hrec; cases hrec
  | some ce =>
    obtain ⟨caps, e⟩ := ce
    simp only [h1] at hrec
    cases h2 : specToks line us e with
    | none => rw [h2] at hrec; cases hrec
    | some ce' =>
      obtain ⟨more, e''⟩ := ce'
      rw [h2] at hrec
      cases hrec
      have he := (specToks_ordered h1 hlen).2
      have hle : e ≤ e'' := List.rel_of_pairwise_cons (specToks_ordered h2 he).1 (by simp)
      exact ⟨s, e, e'', caps, more, specDissect_of hs h1, rfl, hle⟩

end Rare.C12

import Rare.Model.C17HeapI
import Rare.Proofs.C17Heap
/-!
C17: the interleaved heap machine (`Model/C17HeapI.lean`) computes `valE` under EVERY interference the other
goroutines can produce.

`Rely h h'` – what the others may do in one scheduling point: anything to the pool that keeps it in order (take
objects, allocate, return objects that are not this evaluation's – so the free list stays duplicate-free and free
of this evaluation's objects; that they return only what they hold is `pool_exclusive`), anything to the fields of
objects this evaluation has NOT checked out; nothing to `mine` objects and nothing to the ghost `mine` itself.

`evI_valE` – for every oracle `env` with `∀ h, Rely h (env h)`: the answer is `valE` (the same value or the same
panic), from any heap, and with a value the heap is `FrameI`d (pool in order, this evaluation's set of objects as
before, their fields untouched).
-/
namespace Rare.C17
open Rare Rare.Expr Rare.C17Pool Rare.C17Heap Rare.C17HeapI

def PoolInv (h : HeapI) : Prop :=
  h.pool.free.Nodup ∧ (∀ o ∈ h.pool.free, o < h.pool.next ∧ h.mine o = false) ∧
    (∀ o, h.mine o = true → o < h.pool.next)

structure Rely (h h' : HeapI) : Prop where
  inv : PoolInv h → PoolInv h'
  next_le : h.pool.next ≤ h'.pool.next
  mine : ∀ x, h'.mine x = h.mine x
  keep : ∀ x, h.mine x = true → h'.objs x = h.objs x

structure GoodI (h : HeapI) (l : List Nat) (ref : Ref) : Prop where
  inv : PoolInv h
  chain : chainOf h.objs l ref
  nodup : l.Nodup
  mine : ∀ o ∈ l, h.mine o = true

structure FrameI (h h' : HeapI) (ex : List Nat) : Prop where
  inv : PoolInv h'
  next_le : h.pool.next ≤ h'.pool.next
  mine : ∀ x, h'.mine x = h.mine x
  keep : ∀ x, h.mine x = true → x ∉ ex → h'.objs x = h.objs x

theorem FrameI.refl (h : HeapI) (hp : PoolInv h) (ex : List Nat) : FrameI h h ex :=
  ⟨hp, Nat.le_refl _, fun _ => rfl, fun _ _ _ => rfl⟩

theorem FrameI.trans {h h1 h2 : HeapI} {ex : List Nat} (f1 : FrameI h h1 ex) (f2 : FrameI h1 h2 ex) :
    FrameI h h2 ex :=
  ⟨f2.inv, Nat.le_trans f1.next_le f2.next_le, fun x => by rw [f2.mine x, f1.mine x],
    fun x hx hn => by rw [f2.keep x (by rw [f1.mine x]; exact hx) hn, f1.keep x hx hn]⟩

theorem FrameI.mono {h h' : HeapI} {ex : List Nat} (f : FrameI h h' []) : FrameI h h' ex :=
  ⟨f.inv, f.next_le, f.mine, fun x hx _ => f.keep x hx (by simp)⟩

/-- One scheduling point. -/
theorem frame_pause {env : HeapI → HeapI} (henv : ∀ h, Rely h (env h)) (h : HeapI) (hp : PoolInv h) (ex : List Nat) :
    FrameI h (pause env h) ex := by
  have r := henv { h with tick := h.tick + 1 }
  exact ⟨r.inv hp, r.next_le, r.mine, fun x hx _ => r.keep x hx⟩

theorem GoodI.frame {h h' : HeapI} {l : List Nat} {ref : Ref} {ex : List Nat} (g : GoodI h l ref)
    (f : FrameI h h' ex) (hd : ∀ x ∈ l, x ∉ ex) : GoodI h' l ref :=
  ⟨f.inv, chainOf_congr h.objs h'.objs l ref (fun x hx => f.keep x (g.mine x hx) (hd x hx)) g.chain, g.nodup,
    fun o ho => by rw [f.mine o]; exact g.mine o ho⟩

theorem ctxOf_frameI (root : Ctx) {h h' : HeapI} {l : List Nat} {ref : Ref} {ex : List Nat} (g : GoodI h l ref)
    (f : FrameI h h' ex) (hd : ∀ x ∈ l, x ∉ ex) : ctxOf root h'.objs l = ctxOf root h.objs l :=
  ctxOf_congr root h.objs h'.objs l (fun x hx => f.keep x (g.mine x hx) (hd x hx))

theorem setVals_goodI {h : HeapI} {o : Nat} {l : List Nat} (g : GoodI h (o :: l) (.obj o)) (a b : Bytes) :
    GoodI (h.setVals o a b) (o :: l) (.obj o) ∧ FrameI h (h.setVals o a b) [o] ∧
    (∀ root, ctxOf root (h.setVals o a b).objs (o :: l) = subCtx (ctxOf root h.objs l) a b) ∧
    (∀ root, ctxOf root (h.setVals o a b).objs l = ctxOf root h.objs l) := by
  have hoff : ∀ x, x ≠ o → (h.setVals o a b).objs x = h.objs x := fun x hx => by simp [HeapI.setVals, HeapI.set, hx]
  obtain ⟨hc, h1, h2⟩ := chain_store h.objs (h.setVals o a b).objs o l a b (List.nodup_cons.mp g.nodup).1
    (by simp [HeapI.setVals, HeapI.set]) hoff g.chain
  exact ⟨⟨g.inv, hc, g.nodup, g.mine⟩, ⟨g.inv, Nat.le_refl _, fun _ => rfl, fun x _ hx => hoff x (by simpa using hx)⟩,
    h1, h2⟩

theorem runHI_chain {env : HeapI → HeapI} (henv : ∀ h, Rely h (env h)) (root : Ctx) (fuel : Nat) (l : List Nat) (ref : Ref)
    (c : Stage) : ∀ (h : HeapI), GoodI h l ref → l.length < fuel →
      ∃ h', runHI env root fuel ref c h = (c.run (ctxOf root h.objs l)).map (fun v => (v, h')) ∧ FrameI h h' [] := by
  induction c with
  | ret a => intro h g _; exact ⟨h, rfl, FrameI.refl h g.inv _⟩
  | panic m => intro h g _; exact ⟨h, rfl, FrameI.refl h g.inv _⟩
  | getMatch i k ih =>
    intro h g hf
    have fp := frame_pause henv h g.inv []
    obtain ⟨h', e, fr⟩ := ih ((ctxOf root h.objs l).getMatch i) (pause env h) (g.frame fp (by simp)) hf
    refine ⟨h', ?_, fp.trans fr⟩
    simp only [runHI, Comp.run, getMatchH_chain root h.objs i l ref fuel g.chain hf]
    rw [e, ctxOf_frameI root g fp (by simp)]
  | getKey s k ih =>
    intro h g hf
    have fp := frame_pause henv h g.inv []
    obtain ⟨h', e, fr⟩ := ih ((ctxOf root h.objs l).getKey s) (pause env h) (g.frame fp (by simp)) hf
    refine ⟨h', ?_, fp.trans fr⟩
    simp only [runHI, Comp.run, getKeyH_chain root h.objs s l ref fuel g.chain hf]
    rw [e, ctxOf_frameI root g fp (by simp)]

theorem releaseI_frame {env : HeapI → HeapI} (henv : ∀ h, Rely h (env h)) {h h1 h3 : HeapI} {o : Nat}
    (hmo : h.mine o = false) (hle : h.pool.next ≤ h1.pool.next)
    (hmine : ∀ x, x ≠ o → h1.mine x = h.mine x) (hmo1 : h1.mine o = true)
    (hkeep : ∀ x, h.mine x = true → h1.objs x = h.objs x)
    (f : FrameI h1 h3 [o]) : FrameI h (releaseI env h3 o) [] := by
  obtain ⟨hn3, hb3, hm3⟩ := f.inv
  have mo3 : h3.mine o = true := by rw [f.mine o]; exact hmo1
  let hr : HeapI := { h3 with pool := h3.pool.ret o, mine := fun n => if n = o then false else h3.mine n }
  have invr : PoolInv hr := by
    refine ⟨?_, ?_, ?_⟩
    · show (h3.pool.free ++ [o]).Nodup
      refine List.nodup_append.mpr ⟨hn3, by simp, ?_⟩
      intro a ha b hb' e
      simp at hb'; subst hb'; subst e
      have := (hb3 a ha).2
      rw [mo3] at this; cases this
    · intro x hx
      have hx' : x ∈ h3.pool.free ++ [o] := hx
      simp only [List.mem_append, List.mem_singleton] at hx'
      rcases hx' with e | e
      · refine ⟨(hb3 x e).1, ?_⟩
        show (if x = o then false else h3.mine x) = false
        by_cases hxo : x = o
        · simp [hxo]
        · simp [hxo, (hb3 x e).2]
      · subst e
        exact ⟨hm3 x mo3, by show (if x = x then false else h3.mine x) = false; simp⟩
    · intro x hx
      have : (if x = o then false else h3.mine x) = true := hx
      by_cases hxo : x = o
      · simp [hxo] at this
      · rw [if_neg hxo] at this; exact hm3 x this
  have fp := frame_pause henv hr invr []
  refine ⟨fp.inv, Nat.le_trans hle (Nat.le_trans f.next_le fp.next_le), fun x => ?_, fun x hx _ => ?_⟩
  · show (pause env hr).mine x = h.mine x
    rw [fp.mine x]
    show (if x = o then false else h3.mine x) = h.mine x
    by_cases hxo : x = o
    · subst hxo; simp [hmo]
    · rw [if_neg hxo, f.mine x, hmine x hxo]
  · have hxo : x ≠ o := fun e => by rw [e, hmo] at hx; cases hx
    have m1 : h1.mine x = true := by rw [hmine x hxo]; exact hx
    have mr : hr.mine x = true := by
      show (if x = o then false else h3.mine x) = true
      rw [if_neg hxo, f.mine x]; exact m1
    show (pause env hr).objs x = h.objs x
    rw [fp.keep x mr (by simp)]
    show h3.objs x = h.objs x
    rw [f.keep x m1 (by simpa using hxo), hkeep x hx]

theorem acquireI_spec {env : HeapI → HeapI} (henv : ∀ h, Rely h (env h)) {h : HeapI} {l : List Nat} {ref : Ref}
    (g : GoodI h l ref) :
    GoodI (acquireI env h ref).2 ((acquireI env h ref).1 :: l) (.obj (acquireI env h ref).1) ∧
    GoodI (acquireI env h ref).2 l ref ∧
    (∀ root, ctxOf root (acquireI env h ref).2.objs l = ctxOf root h.objs l) ∧
    (∀ h3, FrameI (acquireI env h ref).2 h3 [(acquireI env h ref).1] →
      FrameI h (releaseI env h3 (acquireI env h ref).1) []) := by
  obtain ⟨hn, hb, hm⟩ := g.inv
  obtain ⟨hnd1, hnf, hsub, hle, hlt, hfree⟩ := get_spec h.pool hn (fun o ho => (hb o ho).1)
  simp only [acquireI]
  generalize h.pool.get.1 = o at *
  generalize h.pool.get.2 = p1 at *
  have hmo : h.mine o = false := by
    rcases (hfree o).mp (Or.inr rfl) with e | ⟨e, _⟩
    · exact (hb o e).2
    · cases hmine : h.mine o
      · rfl
      · exact absurd (hm o hmine) (Nat.not_lt.mpr e)
  -- the four steps
  let h1 : HeapI := { h with pool := p1, mine := fun n => if n = o then true else h.mine n }
  have inv1 : PoolInv h1 := by
    refine ⟨hnd1, fun x hx => ⟨Nat.lt_of_lt_of_le (hb x (hsub x hx)).1 hle, ?_⟩, fun x hx => ?_⟩
    · have : x ≠ o := fun e => hnf (e ▸ hx)
      simp [h1, this, (hb x (hsub x hx)).2]
    · by_cases e : x = o
      · subst e; exact hlt
      · have : h.mine x = true := by simpa [h1, e] using hx
        exact Nat.lt_of_lt_of_le (hm x this) hle
  have f12 := frame_pause henv h1 inv1 []
  let h2 := pause env h1
  let h3 := h2.set o ⟨ref, [], []⟩
  have inv3 : PoolInv h3 := f12.inv
  have f34 := frame_pause henv h3 inv3 []
  show GoodI (pause env h3) (o :: l) (.obj o) ∧ GoodI (pause env h3) l ref ∧
    (∀ root, ctxOf root (pause env h3).objs l = ctxOf root h.objs l) ∧
    (∀ h4, FrameI (pause env h3) h4 [o] → FrameI h (releaseI env h4 o) [])
  have hol : o ∉ l := fun hmem => by
    have := g.mine o hmem
    rw [hmo] at this; cases this
  have mine1 : ∀ x, h.mine x = true → h1.mine x = true := by
    intro x hx; by_cases e : x = o <;> simp [h1, e, hx]
  -- objects of the caller: untouched through all four steps
  have keep4 : ∀ x, h.mine x = true → (pause env h3).objs x = h.objs x := by
    intro x hx
    have hxo : x ≠ o := fun e => by rw [e, hmo] at hx; cases hx
    have m3 : h3.mine x = true := by
      show h2.mine x = true
      rw [f12.mine x]; exact mine1 x hx
    rw [f34.keep x m3 (by simp)]
    show (if x = o then _ else h2.objs x) = _
    rw [if_neg hxo, f12.keep x (mine1 x hx) (by simp)]
  have mine4 : ∀ x, (pause env h3).mine x = (if x = o then true else h.mine x) := by
    intro x
    rw [f34.mine x]
    show h2.mine x = _
    rw [f12.mine x]
  have mo3 : h3.mine o = true := by
    show h2.mine o = true
    rw [f12.mine o]; simp [h1]
  have obj4 : (pause env h3).objs o = ⟨ref, [], []⟩ := by
    rw [f34.keep o mo3 (by simp)]
    simp [h3, HeapI.set]
  have hagl : ∀ x ∈ l, (pause env h3).objs x = h.objs x := fun x hx => keep4 x (g.mine x hx)
  have hchain : chainOf (pause env h3).objs l ref := chainOf_congr h.objs _ l ref hagl g.chain
  have minel : ∀ x ∈ l, (pause env h3).mine x = true := by
    intro x hx
    rw [mine4 x]
    by_cases e : x = o
    · simp [e]
    · simp [e, g.mine x hx]
  refine ⟨⟨f34.inv, ⟨rfl, ?_⟩, List.nodup_cons.mpr ⟨hol, g.nodup⟩, ?_⟩, ⟨f34.inv, hchain, g.nodup, minel⟩,
    fun root => ctxOf_congr root h.objs _ l hagl,
    fun _ => releaseI_frame henv hmo (Nat.le_trans hle (Nat.le_trans f12.next_le f34.next_le))
      (fun x hx => by rw [mine4 x, if_neg hx]) (by rw [mine4 o]; simp) keep4⟩
  · rw [obj4]; exact hchain
  · intro x hx
    rcases List.mem_cons.mp hx with e | hx
    · subst e; rw [mine4 x]; simp
    · exact minel x hx

def LoopInvI (root ctx : Ctx) (o : Nat) (l : List Nat) (h : HeapI) : Prop :=
  GoodI h (o :: l) (.obj o) ∧ ctxOf root h.objs l = ctx

theorem loopInvI_step {root ctx : Ctx} {o : Nat} {l : List Nat} {h h' : HeapI} (hi : LoopInvI root ctx o l h)
    (a b : Bytes) (f : FrameI (h.setVals o a b) h' []) : LoopInvI root ctx o l h' ∧ FrameI h h' [o] := by
  obtain ⟨g1, f1, _, hc⟩ := setVals_goodI hi.1 a b
  refine ⟨⟨g1.frame f (by simp), ?_⟩, f1.trans f.mono⟩
  rw [ctxOf_congr root (h.setVals o a b).objs h'.objs l
    (fun x hx => f.keep x (g1.mine x (List.mem_cons_of_mem _ hx)) (by simp)), hc root, hi.2]

theorem goodI_root (h : HeapI) (hp : PoolInv h) : GoodI h [] .root := ⟨hp, trivial, by simp, by simp⟩

def SubOkI (env : HeapI → HeapI) (root ctx : Ctx) (evf : Ref → HeapI → ResI) (o : Nat) (l : List Nat)
    (F : Bytes → Bytes → Except String Bytes) : Prop :=
  ∀ h a b, LoopInvI root ctx o l h →
    Agree (fun h' => LoopInvI root ctx o l h' ∧ FrameI h h' [o]) (evf (.obj o) (pause env (h.setVals o a b))) (F a b)

theorem objLoopI_spec {σ : Type} (env : HeapI → HeapI) (root ctx : Ctx) (evf : Ref → HeapI → ResI) (o : Nat)
    (l : List Nat) (F : Bytes → Bytes → Except String Bytes) (hsub : SubOkI env root ctx evf o l F)
    (args : σ → Bytes → Bytes × Bytes) (upd : σ → Bytes → Bytes → σ) :
    ∀ (xs : List Bytes) (s : σ) (h : HeapI), LoopInvI root ctx o l h →
      Agree (fun h' => LoopInvI root ctx o l h' ∧ FrameI h h' [o]) (objLoopI env evf o args upd xs s h)
        (loopE F args upd xs s)
  | [], s, h, hi => ⟨h, rfl, hi, FrameI.refl h hi.1.inv _⟩
  | x :: xs, s, h, hi => by
    simp only [loopE, objLoopI]
    refine (hsub h _ _ hi).bind (fun _ => rfl) fun y h1 ⟨hi1, fr1⟩ => ?_
    exact (objLoopI_spec env root ctx evf o l F hsub args upd xs (upd s x y) h1 hi1).mono
      fun h2 ⟨hi2, fr2⟩ => ⟨hi2, fr1.trans fr2⟩

theorem forLoopHI_spec (env : HeapI → HeapI) (root ctx : Ctx) (evc evn : Ref → HeapI → ResI) (o : Nat) (l : List Nat)
    (Fc Fn : Bytes → Bytes → Except String Bytes) (hc : SubOkI env root ctx evc o l Fc)
    (hn : SubOkI env root ctx evn o l Fn) :
    ∀ (fuel idx : Nat) (v : Bytes) (acc : List Bytes) (h : HeapI), LoopInvI root ctx o l h →
      Agree (fun h' => LoopInvI root ctx o l h' ∧ FrameI h h' [o]) (forLoopHI env evc evn o fuel idx v acc h)
        (forE Fc Fn fuel idx v acc)
  | 0, idx, v, acc, h, _ => rfl
  | fuel + 1, idx, v, acc, h, hi => by
    simp only [forE, forLoopHI]
    refine (hc h v _ hi).bind (fun _ => rfl) fun c h1 ⟨hi1, fr1⟩ => ?_
    by_cases ht : truthy c = true
    · simp only [ht, Bool.not_true, Bool.false_eq_true, if_false]
      refine (hn h1 v _ hi1).bind (fun _ => rfl) fun v' h2 ⟨hi2, fr2⟩ => ?_
      by_cases hmax : idx + 1 > Gen.maxIterations
      · simp only [hmax, if_true]
        exact ⟨h2, rfl, hi2, fr1.trans fr2⟩
      · simp only [hmax, if_false]
        exact (forLoopHI_spec env root ctx evc evn o l Fc Fn hc hn fuel (idx + 1) v' (acc ++ [v]) h2 hi2).mono
          fun h3 ⟨hi3, fr3⟩ => ⟨hi3, (fr1.trans fr2).trans fr3⟩
    · have ht' : truthy c = false := by simpa using ht
      simp only [ht', Bool.not_false, if_true]
      exact ⟨h1, rfl, hi1, fr1⟩

def EvOkI (env : HeapI → HeapI) (root : Ctx) (fuel : Nat) (t : Tm) : Prop :=
  ∀ (ref : Ref) (h : HeapI) (l : List Nat), GoodI h l ref → l.length + depth t < fuel →
    Agree (FrameI h · []) (evI env root fuel t ref h) (valE t (ctxOf root h.objs l))

theorem subOkI_of_evOkI {env : HeapI → HeapI} (henv : ∀ h, Rely h (env h)) {root : Ctx} {fuel : Nat} {f : Tm}
    (ih : EvOkI env root fuel f) (ctx : Ctx) (o : Nat) (l : List Nat) (hlen : (o :: l).length + depth f < fuel) :
    SubOkI env root ctx (evI env root fuel f) o l (fun a b => valE f (subCtx ctx a b)) := by
  intro h a b hi
  obtain ⟨g1, _, hc, _⟩ := setVals_goodI hi.1 a b
  have fp := frame_pause henv (h.setVals o a b) g1.inv []
  have := ih (.obj o) (pause env (h.setVals o a b)) (o :: l) (g1.frame fp (by simp)) hlen
  rw [ctxOf_frameI root g1 fp (by simp), hc root, hi.2] at this
  exact this.mono fun h' f => loopInvI_step hi a b (fp.trans f)

theorem evI_valE {env : HeapI → HeapI} (henv : ∀ h, Rely h (env h)) (root : Ctx) (fuel : Nat) :
    ∀ (t : Tm), EvOkI env root fuel t
  | .scalar c => by
    intro ref h l g hf
    obtain ⟨h', e, fr⟩ := runHI_chain henv root fuel l ref c h g (by simp [depth] at hf; omega)
    simp only [evI, valE, e]
    cases c.run (ctxOf root h.objs l) with
    | error m => rfl
    | ok v => exact ⟨h', rfl, fr⟩
  | .app1 gf a => by
    intro ref h l g hf
    simp only [evI, valE]
    refine (evI_valE henv root fuel a ref h l g (by simpa [depth] using hf)).bind (fun _ => rfl) fun x h1 f1 => ?_
    exact ⟨h1, rfl, f1⟩
  | .app2 gf a b => by
    intro ref h l g hf
    have hd : l.length + depth a < fuel ∧ l.length + depth b < fuel := by simp only [depth] at hf; omega
    simp only [evI, valE]
    refine (evI_valE henv root fuel a ref h l g hd.1).bind (fun _ => rfl) fun x h1 f1 => ?_
    dsimp only
    have hb := evI_valE henv root fuel b ref h1 l (g.frame f1 (by simp)) hd.2
    rw [ctxOf_frameI root g f1 (by simp)] at hb
    refine hb.bind (fun _ => rfl) fun y h2 f2 => ?_
    exact ⟨h2, rfl, f1.trans f2⟩
  | .map a f => by
    intro ref h l g hf
    have hd : l.length + depth a < fuel ∧ l.length + 1 + depth f < fuel := by simp only [depth] at hf; omega
    obtain ⟨g1, g1l, hctx, hrel⟩ := acquireI_spec henv g (ref := ref)
    have ha := evI_valE henv root fuel a ref (acquireI env h ref).2 l g1l hd.1
    rw [hctx root] at ha
    simp only [evI, valE]
    refine ha.bind (fun _ => rfl) fun arr h2 fr2 => ?_
    dsimp only
    have hi : LoopInvI root (ctxOf root h.objs l) (acquireI env h ref).1 l h2 :=
      ⟨g1.frame fr2 (by simp), by rw [ctxOf_frameI root g1l fr2 (by simp), hctx root]⟩
    refine (objLoopI_spec env root _ _ _ l _ (subOkI_of_evOkI henv (evI_valE henv root fuel f) _ _ l (by simp; omega))
      _ _ (elems arr) [] h2 hi).bind (fun _ => rfl) fun ys h3 ⟨_, fr3⟩ => ?_
    exact ⟨_, rfl, hrel h3 (fr2.mono.trans fr3)⟩
  | .filter a p => by
    intro ref h l g hf
    have hd : l.length + depth a < fuel ∧ l.length + 1 + depth p < fuel := by simp only [depth] at hf; omega
    simp only [evI, valE]
    refine (evI_valE henv root fuel a ref h l g hd.1).bind (fun _ => rfl) fun arr h1 f1 => ?_
    dsimp only
    obtain ⟨ga, _, hctx, hrel⟩ := acquireI_spec henv (g.frame f1 (by simp)) (ref := ref)
    have hi : LoopInvI root (ctxOf root h.objs l) (acquireI env h1 ref).1 l (acquireI env h1 ref).2 :=
      ⟨ga, by rw [hctx root, ctxOf_frameI root g f1 (by simp)]⟩
    refine (objLoopI_spec env root _ _ _ l _ (subOkI_of_evOkI henv (evI_valE henv root fuel p) _ _ l (by simp; omega))
      _ _ (elems arr) [] _ hi).bind (fun _ => rfl) fun ys h3 ⟨_, fr3⟩ => ?_
    exact ⟨_, rfl, f1.trans (hrel h3 fr3)⟩
  | .reduce init a f => by
    intro ref h l g hf
    have hd : l.length + depth a < fuel ∧ l.length + 1 + depth f < fuel := by simp only [depth] at hf; omega
    obtain ⟨g1, g1l, hctx, hrel⟩ := acquireI_spec henv g (ref := ref)
    have ha := evI_valE henv root fuel a ref (acquireI env h ref).2 l g1l hd.1
    rw [hctx root] at ha
    simp only [evI, valE]
    refine ha.bind (fun _ => rfl) fun arr h2 fr2 => ?_
    dsimp only
    have hi : LoopInvI root (ctxOf root h.objs l) (acquireI env h ref).1 l h2 :=
      ⟨g1.frame fr2 (by simp), by rw [ctxOf_frameI root g1l fr2 (by simp), hctx root]⟩
    refine (objLoopI_spec env root _ _ _ l _ (subOkI_of_evOkI henv (evI_valE henv root fuel f) _ _ l (by simp; omega))
      _ _ (reduceStart init (elems arr)).2 (reduceStart init (elems arr)).1 h2 hi).bind (fun _ => rfl)
      fun memo h3 ⟨_, fr3⟩ => ?_
    exact ⟨_, rfl, hrel h3 (fr2.mono.trans fr3)⟩
  | .for_ s c n => by
    intro ref h l g hf
    have hd : l.length + depth s < fuel ∧ l.length + 1 + depth c < fuel ∧ l.length + 1 + depth n < fuel := by
      simp only [depth] at hf; omega
    simp only [evI, valE]
    refine (evI_valE henv root fuel s ref h l g hd.1).bind (fun _ => rfl) fun v h1 f1 => ?_
    dsimp only
    obtain ⟨ga, _, hctx, hrel⟩ := acquireI_spec henv (g.frame f1 (by simp)) (ref := ref)
    have hi : LoopInvI root (ctxOf root h.objs l) (acquireI env h1 ref).1 l (acquireI env h1 ref).2 :=
      ⟨ga, by rw [hctx root, ctxOf_frameI root g f1 (by simp)]⟩
    refine (forLoopHI_spec env root _ _ _ _ l _ _
      (subOkI_of_evOkI henv (evI_valE henv root fuel c) _ _ l (by simp; omega))
      (subOkI_of_evOkI henv (evI_valE henv root fuel n) _ _ l (by simp; omega)) (Gen.maxIterations + 2) 0 v [] _
      hi).bind (fun _ => rfl) fun r h3 ⟨_, fr3⟩ => ?_
    cases r <;> exact ⟨_, rfl, f1.trans (hrel h3 fr3)⟩

theorem evI_val {env : HeapI → HeapI} (henv : ∀ h, Rely h (env h)) (root : Ctx) (fuel : Nat) (t : Tm) (ht : Total t)
    (ref : Ref) (h : HeapI) (l : List Nat) (g : GoodI h l ref) (hf : l.length + depth t < fuel) :
    ∃ h', evI env root fuel t ref h = .ok (val t (ctxOf root h.objs l), h') ∧ FrameI h h' [] := by
  have := evI_valE henv root fuel t ref h l g hf
  rwa [valE_total t _ ht] at this

end Rare.C17

import Rare.Proofs.C09Fuel
import Rare.Proofs.C09Split
/-! C09: the end of `Compile` (`finishC`), braced statements, what closing a statement records; `{}` and unknown functions. -/
namespace Rare.C09
open Rare Rare.Expr

/-- What `Compile` does after its rune loop. -/
def finishC (opt : Bool) (t : List Char) (st : CompSt) : Except String (List Stage × List CErr) :=
  let errs := if st.inStatement ≠ 0
    then st.errs ++ [⟨.unterminated, t.drop st.startStatement, st.startStatement⟩] else st.errs
  let stages := if st.sb.isEmpty then st.stages else st.stages ++ [Stage.lit (charsToBytes st.sb)]
  if opt then
    match optimize stages with
    | .error m => .error m
    | .ok s => .ok (s, errs)
  else .ok (stages, errs)

theorem compileF_eq (fuel : Nat) (reg : Registry) (opt : Bool) (t : List Char) :
    compileF (fuel + 1) reg opt t =
      match compileLoop fuel reg opt t t 0 ⟨[], [], [], 0, 0⟩ with
      | .error m => .error m
      | .ok st => finishC opt t st := by
  rw [compileF]; rfl

theorem finishC_errs {opt : Bool} {t : List Char} {st : CompSt} {stages : List Stage} {errs : List CErr}
    (h : finishC opt t st = .ok (stages, errs)) :
    errs = if st.inStatement ≠ 0
      then st.errs ++ [⟨.unterminated, t.drop st.startStatement, st.startStatement⟩] else st.errs := by
  unfold finishC at h
  cases opt with
  | false =>
    simp only [Bool.false_eq_true, if_false] at h
    cases h; rfl
  | true =>
    simp only [if_true] at h
    split at h
    · cases h
    · cases h; rfl

/-! ### braced statements -/

section
variable (fuel : Nat) (reg : Registry) (opt : Bool)

/-- A braced statement whose body is `Inner` text reaches `closeStatement` with exactly that body. -/
theorem compileF_braced {body : List Char} (hi : Inner body) :
    ∃ j, compileF (fuel + 1) reg opt ('{' :: (body ++ ['}'])) =
      match closeStatement fuel reg opt ('{' :: (body ++ ['}'])) j ⟨[], [], body, 0, 1⟩ with
      | .error m => .error m
      | .ok st' => finishC opt ('{' :: (body ++ ['}'])) { st' with sb := [], inStatement := 0 } := by
  obtain ⟨j, hj⟩ := loop_inner fuel reg opt ('{' :: (body ++ ['}'])) hi ['}'] 1 ⟨[], [], [], 0, 1⟩ (Nat.le_refl _)
  refine ⟨j, ?_⟩
  rw [compileF_eq, loop_open0 _ _ _ _ _ _ _ rfl]
  simp only [List.isEmpty_nil, if_true]
  rw [hj, loop_close1 _ _ _ _ _ _ _ rfl]
  simp only [List.nil_append]
  cases closeStatement fuel reg opt ('{' :: (body ++ ['}'])) j ⟨[], [], body, 0, 1⟩ with
  | error m => rfl
  | ok st' => simp [loop_nil]

theorem close_empty (all : List Char) (i : Nat) (st : CompSt) (hs : splitArgs st.sb = []) :
    closeStatement fuel reg opt all i st =
      .ok { st with errs := st.errs ++ [⟨.emptyStatement,
        (all.drop st.startStatement).take (i + 1 - st.startStatement), st.startStatement⟩] } := by
  rw [closeStatement]; simp [hs]

theorem close_var (all : List Char) (i : Nat) (st : CompSt) (a : List Char) (hs : splitArgs st.sb = [a]) :
    closeStatement fuel reg opt all i st = .ok { st with stages := st.stages ++ [stageSimpleVariable a] } := by
  rw [closeStatement]; simp [hs]

theorem close_missing (all : List Char) (i : Nat) (st : CompSt) (name b : List Char) (r : List (List Char))
    (hs : splitArgs st.sb = name :: b :: r) (hr : reg name = none) :
    closeStatement fuel reg opt all i st =
      .ok { st with stages := st.stages ++ [missingLit name],
                    errs := st.errs ++ [⟨.missingFunction, st.sb, st.startStatement⟩] } := by
  rw [closeStatement]; simp [hs, hr]

theorem close_call (all : List Char) (i : Nat) (st : CompSt) (name b : List Char) (r : List (List Char))
    (f : Builder) (cargs : List Stage) (stage : Stage)
    (hs : splitArgs st.sb = name :: b :: r) (hr : reg name = some f)
    (ha : compileArgs fuel reg opt (b :: r) = .ok (cargs, [])) (hf : f cargs = .ok ⟨some stage, none⟩) :
    closeStatement fuel reg opt all i st = .ok { st with stages := st.stages ++ [stage] } := by
  rw [closeStatement]; simp [hs, hr, ha, hf]

/-- What closing a statement records: the statement's start stays, and the error list grows by the statement's
    own errors – by case of what the splitter makes of its text. -/
theorem close_errs (all : List Char) (i : Nat) (st st' : CompSt) (h : closeStatement fuel reg opt all i st = .ok st') :
    st'.startStatement = st.startStatement ∧
    match splitArgs st.sb with
    | [] => st'.errs = st.errs ++ [⟨.emptyStatement, (all.drop st.startStatement).take (i + 1 - st.startStatement),
        st.startStatement⟩]
    | [_] => st'.errs = st.errs
    | name :: fargs =>
      match reg name with
      | none => st'.errs = st.errs ++ [⟨.missingFunction, st.sb, st.startStatement⟩]
      | some f => ∃ cargs aerrs b, compileArgs fuel reg opt fargs = .ok (cargs, aerrs) ∧ f cargs = .ok b ∧
          st'.errs = st.errs ++ aerrs.map (fun e => { e with index := e.index + st.startStatement }) ++
            (match b.err with
             | some tag => [⟨.func tag, st.sb, st.startStatement⟩]
             | none => []) := by
  rw [closeStatement] at h
  match hs : splitArgs st.sb with
  | [] => simp only [hs] at h; cases h; exact ⟨rfl, rfl⟩
  | [a] => simp only [hs] at h; cases h; exact ⟨rfl, rfl⟩
  | name :: b :: r =>
    simp only [hs] at h
    cases hr : reg name with
    | none => simp only [hr] at h; cases h; exact ⟨rfl, by simp only [hr]⟩
    | some f =>
      simp only [hr] at h
      cases hc : compileArgs fuel reg opt (b :: r) with
      | error m => simp only [hc] at h; cases h
      | ok p =>
        obtain ⟨cargs, aerrs⟩ := p
        simp only [hc] at h
        cases hf : f cargs with
        | error m => simp only [hf] at h; cases h
        | ok bt =>
          simp only [hf] at h
          cases h
          refine ⟨rfl, ?_⟩
          simp only [hr]
          refine ⟨cargs, aerrs, bt, hc, hf, ?_⟩
          cases bt.err <;> simp
end

/-! ### text that is `Inner` -/

theorem inner_append {a b : List Char} (ha : Inner a) (hb : Inner b) : Inner (a ++ b) := by
  induction ha with
  | nil => simpa using hb
  | char c t hc _ ih => exact Inner.char c _ hc ih
  | quoted q t hp _ ih =>
    have : ['"'] ++ q ++ ['"'] ++ t ++ b = ['"'] ++ q ++ ['"'] ++ (t ++ b) := by simp
    rw [this]; exact Inner.quoted q _ hp ih
  | braces x t hx _ _ ih =>
    have : ['{'] ++ x ++ ['}'] ++ t ++ b = ['{'] ++ x ++ ['}'] ++ (t ++ b) := by simp
    rw [this]; exact Inner.braces x _ hx ih

theorem inner_of_plain {t : List Char} (h : plain t = true) : Inner t := by
  induction t with
  | nil => exact Inner.nil
  | cons c t ih =>
    simp only [plain, List.all_cons, Bool.and_eq_true, Bool.not_eq_true'] at h
    exact Inner.char c t h.1 (ih (by simpa [plain] using h.2))

theorem plain_of_space {w : List Char} (h : allSpace w = true) : plain w = true := by
  simp only [allSpace, plain, List.all_eq_true] at *
  intro c hc
  simp [space_not_special (h c hc)]

theorem plain_of_bare {w : List Char} (h : bare w = true) : plain w = true := by
  simp only [bare, Bool.and_eq_true, List.all_eq_true] at h
  simp only [plain, List.all_eq_true]
  intro c hc
  exact (h.2 c hc).1

theorem inner_piece {p : Piece} (h : p.ok) : Inner p.text := by
  cases p with
  | bare w => exact inner_of_plain (plain_of_bare h)
  | quoted q =>
    have := Inner.quoted q [] h Inner.nil
    simpa [Piece.text] using this
  | braced b =>
    have := Inner.braces b [] h Inner.nil
    simpa [Piece.text] using this

theorem inner_layout (l : List (List Char × Piece)) : ∀ first, LayoutOk first l → Inner (layout l) := by
  induction l with
  | nil => intro _ _; exact Inner.nil
  | cons wp rest ih =>
    intro first h
    obtain ⟨w, p⟩ := wp
    obtain ⟨hw, _, hp, hrest⟩ := h
    simp only [layout]
    exact inner_append (inner_append (inner_of_plain (plain_of_space hw)) (inner_piece hp)) (ih false hrest)

/-! ### `{}` and `{   }` -/

theorem compileF_empty_statement (fuel : Nat) (reg : Registry) (opt : Bool) (w : List Char) (hw : allSpace w = true) :
    ∃ ctx, compileF (fuel + 1) reg opt ('{' :: (w ++ ['}'])) = .ok ([], [⟨.emptyStatement, ctx, 0⟩]) := by
  obtain ⟨j, hj⟩ := compileF_braced fuel reg opt (inner_of_plain (plain_of_space hw))
  have hs : splitArgs w = [] := by
    have := splitArgs_layout [] w trivial hw
    simpa [layout] using this
  rw [hj, close_empty fuel reg opt _ j ⟨[], [], w, 0, 1⟩ hs]
  refine ⟨(('{' :: (w ++ ['}'])).drop 0).take (j + 1 - 0), ?_⟩
  cases opt <;> simp [finishC, optimize, optimizeGo]

/-! ### unknown function -/

theorem compileF_missing_function (fuel : Nat) (reg : Registry) (opt : Bool)
    (w0 name : List Char) (w1 : List Char) (p1 : Piece) (rest : List (List Char × Piece)) (trail : List Char)
    (hl : LayoutOk true ((w0, .bare name) :: (w1, p1) :: rest)) (ht : allSpace trail = true)
    (hr : reg name = none) :
    ∃ st, compileF (fuel + 1) reg opt
        ('{' :: ((layout ((w0, .bare name) :: (w1, p1) :: rest) ++ trail) ++ ['}'])) =
      .ok (st, [⟨.missingFunction, layout ((w0, .bare name) :: (w1, p1) :: rest) ++ trail, 0⟩]) ∧
      ∀ ctx, (buildKey st).run ctx = .ok (utf8 ("<Err:".toList ++ name ++ ">".toList)) := by
  have hin : Inner (layout ((w0, .bare name) :: (w1, p1) :: rest) ++ trail) :=
    inner_append (inner_layout _ true hl) (inner_of_plain (plain_of_space ht))
  obtain ⟨j, hj⟩ := compileF_braced fuel reg opt hin
  have hs : splitArgs (layout ((w0, .bare name) :: (w1, p1) :: rest) ++ trail) =
      name :: p1.value :: rest.map (·.2.value) := splitArgs_layout _ trail hl ht
  rw [hj, close_missing fuel reg opt _ j ⟨[], [], _, 0, 1⟩ name _ _ hs hr]
  have hlit : missingLit name = Stage.lit (utf8 ("<Err:".toList ++ name ++ ">".toList)) := rfl
  cases opt with
  | false =>
    refine ⟨[missingLit name], by simp [finishC], fun ctx => ?_⟩
    rw [buildKey, run_concat_single, hlit]; rfl
  | true =>
    obtain ⟨st, h1, h2⟩ := optimize_single_lit (utf8 ("<Err:".toList ++ name ++ ">".toList))
    refine ⟨st, ?_, h2⟩
    simp only [finishC, List.nil_append, List.isEmpty_nil, if_true, hlit, h1]
    simp

end Rare.C09

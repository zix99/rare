import Rare.Model.C04Rooms
import Rare.Proofs.C04Micro
/-!
The logging twins of `Model/C04Rooms.lean` ARE the scanners (dropping the log gives `scan` / `scanAll` back),
and every logged destination size is positive.
-/
namespace Rare.C04

def AllPos (log : List Nat) : Prop := ∀ r ∈ log, 0 < r

theorem AllPos.cons {r : Nat} {log : List Nat} (hr : 0 < r) (h : AllPos log) : AllPos (r :: log) := by
  intro x hx
  rcases List.mem_cons.mp hx with rfl | hx
  · exact hr
  · exact h x hx

theorem readLoopL_spec (f : Nat) : ∀ (s : Imm) (log : List Nat), (s.readLoopL f log).2 = s.readLoop f ∧
    (1 ≤ s.bufSize → AllPos log → AllPos (s.readLoopL f log).1) := by
  induction f with
  | zero => intro s log; exact ⟨rfl, fun _ h => h⟩
  | succ f ih =>
    intro s log
    have hp : 1 ≤ s.bufSize → 0 < s.grown.cap - s.grown.buf.length := fun hb => Nat.sub_pos_of_lt (grown_room s hb)
    simp only [Imm.readLoopL, Imm.readLoop]
    generalize s.grown.rd.read (s.grown.cap - s.grown.buf.length) = r
    cases h1 : r.2.1 with
    | some e => exact ⟨rfl, fun hb h => h.cons (hp hb)⟩
    | none =>
      cases h2 : idxNl r.1 with
      | some eol => exact ⟨rfl, fun hb h => h.cons (hp hb)⟩
      | none =>
        exact ⟨(ih _ _).1, fun hb h => (ih _ _).2 (by show 1 ≤ s.grown.bufSize; rw [grown_bufSize]; exact hb) (h.cons (hp hb))⟩

theorem scanL_spec (f : Nat) (s : Imm) (log : List Nat) : (s.scanL f log).2 = s.scan f ∧
    (1 ≤ s.bufSize → AllPos log → AllPos (s.scanL f log).1) := by
  unfold Imm.scanL Imm.scan
  cases h : s.top with
  | some r => exact ⟨rfl, fun _ h => h⟩
  | none => exact readLoopL_spec f s log

theorem scanAllL_spec (f : Nat) : ∀ (n : Nat) (s : Imm) (log : List Nat), (s.scanAllL f n log).2 = s.scanAll f n ∧
    (1 ≤ s.bufSize → AllPos log → AllPos (s.scanAllL f n log).1) := by
  intro n
  induction n with
  | zero => intro s log; exact ⟨rfl, fun _ h => h⟩
  | succ n ih =>
    intro s log
    obtain ⟨hs, hp⟩ := scanL_spec f s log
    have hbs := scan_bufSize f s
    simp only [Imm.scanAllL, Imm.scanAll]
    generalize s.scanL f log = x at hs hp
    obtain ⟨log', r⟩ := x
    subst hs
    generalize s.scan f = y at hbs
    obtain ⟨res, s'⟩ := y
    cases res with
    | tok v b =>
      exact ⟨by simp only; rw [(ih s' log').1], fun hb h => (ih s' log').2 ((hbs hb).symm ▸ hb) (hp hb h)⟩
    | done => exact ⟨rfl, hp⟩
    | fuel => exact ⟨rfl, hp⟩

theorem fillL_spec (f : Nat) : ∀ (cap : Nat) (acc : Bytes) (rd : Reader) (errs : Nat) (dl : Bytes) (log : List Nat),
    (Buf.fillL f cap acc rd errs dl log).2 = Buf.fill f cap acc rd errs dl ∧
    (AllPos log → AllPos (Buf.fillL f cap acc rd errs dl log).1) := by
  induction f with
  | zero => intro cap acc rd errs dl log; exact ⟨rfl, fun h => h⟩
  | succ f ih =>
    intro cap acc rd errs dl log
    simp only [Buf.fillL, Buf.fill]
    split
    · rename_i hlt
      have hp : 0 < cap - acc.length := Nat.sub_pos_of_lt hlt
      generalize rd.read (cap - acc.length) = r
      cases h1 : r.2.1 with
      | some e => exact ⟨rfl, fun h => h.cons hp⟩
      | none => exact ⟨(ih _ _ _ _ _ _).1, fun h => (ih _ _ _ _ _ _).2 (h.cons hp)⟩
    · exact ⟨rfl, fun h => h⟩

theorem bscanL_spec (f : Nat) : ∀ (s : Buf) (log : List Nat), (s.scanL f log).2 = s.scan f ∧
    (AllPos log → AllPos (s.scanL f log).1) := by
  induction f with
  | zero => intro s log; exact ⟨rfl, fun h => h⟩
  | succ f ih =>
    intro s log
    simp only [Buf.scanL, Buf.scan]
    cases h0 : idxNl (s.buf.drop s.offset) with
    | some rel => exact ⟨rfl, fun h => h⟩
    | none =>
      simp only []
      by_cases hc : (s.eof && decide (s.offset < s.buf.length)) = true
      · rw [if_pos hc, if_pos hc]; exact ⟨rfl, fun h => h⟩
      · rw [if_neg hc, if_neg hc]
        by_cases hd : (!s.eof) = true
        · rw [if_pos hd, if_pos hd]
          obtain ⟨hs, hp⟩ := fillL_spec (s.rd.measure + 2)
            (max s.maxBufLen ((s.buf.drop s.offset).length + s.maxBufLen / 2)) (s.buf.drop s.offset) s.rd s.errs
            s.delivered log
          generalize Buf.fillL (s.rd.measure + 2) (max s.maxBufLen ((s.buf.drop s.offset).length + s.maxBufLen / 2))
            (s.buf.drop s.offset) s.rd s.errs s.delivered log = x at hs hp
          obtain ⟨log', o⟩ := x
          subst hs
          generalize Buf.fill (s.rd.measure + 2) _ _ s.rd s.errs s.delivered = o at hp
          cases o with
          | none => exact ⟨rfl, hp⟩
          | some p => exact ⟨(ih _ _).1, fun h => (ih _ _).2 (hp h)⟩
        · rw [if_neg hd, if_neg hd]; exact ⟨rfl, fun h => h⟩

theorem bscanAllL_spec (f : Nat) : ∀ (n : Nat) (s : Buf) (log : List Nat), (s.scanAllL f n log).2 = s.scanAll f n ∧
    (AllPos log → AllPos (s.scanAllL f n log).1) := by
  intro n
  induction n with
  | zero => intro s log; exact ⟨rfl, fun h => h⟩
  | succ n ih =>
    intro s log
    obtain ⟨hs, hp⟩ := bscanL_spec f s log
    simp only [Buf.scanAllL, Buf.scanAll]
    generalize s.scanL f log = x at hs hp
    obtain ⟨log', r⟩ := x
    subst hs
    generalize s.scan f = y
    obtain ⟨res, s'⟩ := y
    cases res with
    | tok v b => exact ⟨by simp only; rw [(ih s' log').1], fun h => (ih s' log').2 (hp h)⟩
    | done => exact ⟨rfl, hp⟩
    | fuel => exact ⟨rfl, hp⟩

end Rare.C04

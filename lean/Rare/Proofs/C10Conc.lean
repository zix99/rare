import Rare.Proofs.C10ConcG
/-! The call-site pool machine of `Model/C10Conc.lean` as an instance of the shared pool machine, and the invariant of
    the layout cell. -/
namespace Rare.C10.Conc
open Rare.Expr Rare.C10

@[simp] theorem setPc_free (st : St) (w : Nat) (pc : Pc) : (st.setPc w pc).free = st.free := rfl
@[simp] theorem setPc_next (st : St) (w : Nat) (pc : Pc) : (st.setPc w pc).next = st.next := rfl
@[simp] theorem setPc_sub (st : St) (w : Nat) (pc : Pc) : (st.setPc w pc).sub = st.sub := rfl

/-- The call-site pool seen as a shared pool: every object carries the call's argument stages `args`
    (`newer` gives them to each object; nothing overwrites them). -/
def St.toG (args : List Stage) (st : St) : ConcG.St := ⟨st.free, st.next, fun o => (st.sub o, args), st.pcs⟩

section
variable {args : List Stage} {body : Stage} {ctxs : Nat → Ctx} {st : St}

theorem toG_step (install : Bool) (w : Nat) :
    (step install args body ctxs w st).toG args = ConcG.step install (fun _ => args) (fun _ => body) ctxs w (st.toG args) := by
  have hp : (st.toG args).pcs w = st.pcs w := rfl
  unfold step ConcG.step
  rw [hp]
  cases st.pcs w with
  | idle =>
    show _ = match st.free.getLast? with | none => _ | some o => _
    cases st.free.getLast? <;> rfl
  | got o =>
    cases install
    · rfl
    · simp only [St.toG, St.setPc, ConcG.St.setPc, if_true, ConcG.St.mk.injEq, true_and, and_true]
      funext p; split <;> rfl
  | run o c => rfl
  | fin o r => rfl
  | done r => rfl

theorem toG_exec (install : Bool) (sched : List Nat) : ∀ st : St,
    (exec install args body ctxs sched st).toG args
      = ConcG.exec install (fun _ => args) (fun _ => body) ctxs sched (st.toG args) := by
  induction sched with
  | nil => exact fun _ => rfl
  | cons w rest ih => intro st; rw [exec, List.foldl_cons, ← exec, ih, toG_step]; rfl

theorem inv_toG : ConcG.Inv (fun _ => args) (fun _ => body) ctxs (st.toG args) ↔ Inv args body ctxs st :=
  ⟨fun h => ⟨h.nodup, h.lt, h.held, h.excl, fun w o c e => ⟨congrArg Prod.fst (h.run w o c e).1, (h.run w o c e).2⟩,
     h.fin, h.done⟩,
   fun h => ⟨h.nodup, h.lt, h.held, h.excl, fun w o c e => ⟨congrArg (·, args) (h.run w o c e).1, (h.run w o c e).2⟩,
     h.fin, h.done⟩⟩

theorem start_toG (args : List Stage) (h : Start st) : ConcG.Start (st.toG args) := ⟨h.idle, h.nodup, h.lt⟩

theorem start_inv (h : Start st) : Inv args body ctxs st := inv_toG.mp (ConcG.start_inv (start_toG args h))

theorem exec_inv (sched : List Nat) (h : Inv args body ctxs st) : Inv args body ctxs (exec true args body ctxs sched st) :=
  inv_toG.mp (toG_exec true sched st ▸ ConcG.exec_inv sched (inv_toG.mpr h))

theorem exec_returns (hs : Start st) (sched : List Nat) (w : Nat) (hw : stepsLeft args (ctxs w) body + 3 ≤ sched.count w) :
    (exec true args body ctxs sched st).pcs w = .done ((withArgs args body).run (ctxs w)) := by
  have := ConcG.exec_returns (argsOf := fun _ => args) (bodyOf := fun _ => body) (start_toG args hs) sched w hw
  rwa [← toG_exec] at this

end

/-- The pool never blocks: a worker that has not returned can always act, and its action moves it on. -/
theorem step_progress (install : Bool) (args : List Stage) (body : Stage) (ctxs : Nat → Ctx) (w : Nat) (st : St)
    (h : ∀ r, st.pcs w ≠ .done r) :
    (step install args body ctxs w st).pcs w ≠ st.pcs w := by
  have := ConcG.step_progress install (fun _ => args) (fun _ => body) ctxs w (st.toG args) h
  rwa [← toG_step] at this

/-! ## The layout cell (part 2 of `Model/C10Conc.lean`) -/

@[simp] theorem tsetPc_self {L : Type} (st : TSt L) (w : Nat) (pc : TPc L) : (st.setPc w pc).pcs w = pc := by simp [TSt.setPc]
theorem tsetPc_ne {L : Type} (st : TSt L) {v w : Nat} (pc : TPc L) (h : v ≠ w) : (st.setPc w pc).pcs v = st.pcs v := by
  simp [TSt.setPc, h]
@[simp] theorem tsetPc_cell {L : Type} (st : TSt L) (w : Nat) (pc : TPc L) : (st.setPc w pc).cell = st.cell := rfl

theorem tfresh_inv {L : Type} (lib : TimeLib L) (dates : Nat → Bytes) : TInv lib dates TSt.fresh :=
  { cell := fun l h => by cases h
    loaded := fun w l h => by cases h
    nonempty := fun w x h => by cases h
    detected := fun w l h => by cases h
    done := fun w v h => by cases h }

/-- Setting one worker's position, the cell untouched: the invariant needs the facts about the new position only. -/
theorem tinv_setPc {L : Type} {lib : TimeLib L} {dates : Nat → Bytes} {st : TSt L} (h : TInv lib dates st) (w : Nat) (pc : TPc L)
    (cell' : Option L) (hcell : ∀ l, cell' = some l → ∃ w', dates w' ≠ [] ∧ lib.detect (dates w') = some l)
    (h1 : ∀ l, pc = .loaded (some l) → ∃ w', dates w' ≠ [] ∧ lib.detect (dates w') = some l)
    (h2 : ∀ x, pc = .loaded x → dates w ≠ [])
    (h3 : ∀ l, pc = .detected l → dates w ≠ [] ∧ lib.detect (dates w) = some l)
    (h4 : ∀ v, pc = .done v → Good lib dates w v) :
    TInv lib dates ({ st with cell := cell' }.setPc w pc) := by
  refine ⟨hcell, fun v l e => ?_, fun v x e => ?_, fun v l e => ?_, fun v x e => ?_⟩
  · by_cases hv : v = w
    · subst hv; simp at e; exact h1 l e
    · rw [tsetPc_ne _ _ hv] at e; exact h.loaded v l e
  · by_cases hv : v = w
    · subst hv; simp at e; exact h2 x e
    · rw [tsetPc_ne _ _ hv] at e; exact h.nonempty v x e
  · by_cases hv : v = w
    · subst hv; simp at e; exact h3 l e
    · rw [tsetPc_ne _ _ hv] at e; exact h.detected v l e
  · by_cases hv : v = w
    · subst hv; simp at e; exact h4 x e
    · rw [tsetPc_ne _ _ hv] at e; exact h.done v x e

theorem tstep_inv {L : Type} {lib : TimeLib L} {dates : Nat → Bytes} {st : TSt L} (h : TInv lib dates st) (w : Nat) :
    TInv lib dates (tstep lib dates w st) := by
  unfold tstep
  split
  · next hpc =>
    split
    · next he =>
      exact tinv_setPc h w _ st.cell h.cell (fun l e => by cases e) (fun x e => by cases e) (fun l e => by cases e)
        (fun v e => by cases e; exact .inl ⟨he, rfl⟩)
    · next he =>
      exact tinv_setPc h w _ st.cell h.cell (fun l e => by simp only [TPc.loaded.injEq] at e; exact h.cell l e) (fun x _ => he) (fun l e => by cases e)
        (fun v e => by cases e)
  · next l hpc =>
    exact tinv_setPc h w _ st.cell h.cell (fun l e => by cases e) (fun x e => by cases e) (fun l e => by cases e)
      (fun v e => by
        cases e
        obtain ⟨w', hw'⟩ := h.loaded w l hpc
        exact .inr (.inr ⟨h.nonempty w _ hpc, w', l, hw'.1, hw'.2, rfl⟩))
  · next hpc =>
    split
    · next hd =>
      exact tinv_setPc h w _ st.cell h.cell (fun l e => by cases e) (fun x e => by cases e) (fun l e => by cases e)
        (fun v e => by cases e; exact .inr (.inl ⟨hd, rfl⟩))
    · next l hd =>
      exact tinv_setPc h w _ st.cell h.cell (fun l e => by cases e) (fun x e => by cases e)
        (fun l' e => by cases e; exact ⟨h.nonempty w none hpc, hd⟩) (fun v e => by cases e)
  · next l hpc =>
    have hd := h.detected w l hpc
    exact tinv_setPc h w _ (some l) (fun l' e => by cases e; exact ⟨w, hd.1, hd.2⟩) (fun l e => by cases e) (fun x e => by cases e)
      (fun l e => by cases e) (fun v e => by cases e; exact .inr (.inr ⟨hd.1, w, l, hd.1, hd.2, rfl⟩))
  · exact h

theorem texec_inv {L : Type} {lib : TimeLib L} {dates : Nat → Bytes} (sched : List Nat) :
    ∀ {st : TSt L}, TInv lib dates st → TInv lib dates (texec lib dates sched st) := by
  induction sched with
  | nil => exact fun h => h
  | cons w rest ih => exact fun h => ih (tstep_inv h w)

theorem tstep_other {L : Type} (lib : TimeLib L) (dates : Nat → Bytes) {v w : Nat} (st : TSt L) (h : v ≠ w) :
    (tstep lib dates w st).pcs v = st.pcs v := by
  unfold tstep
  split
  · split <;> exact tsetPc_ne _ _ h
  · exact tsetPc_ne _ _ h
  · split <;> exact tsetPc_ne _ _ h
  · exact tsetPc_ne _ _ h
  · rfl

/-- A worker whose three actions are not interrupted computes `timeStep .cur` (an evaluation on input) on the cell;
    `x` is the cell of static analyses, which it neither reads nor writes. -/
theorem texec_alone {L : Type} (lib : TimeLib L) (dates : Nat → Bytes) (w : Nat) (st : TSt L) (x : Option L)
    (h : st.pcs w = .start) :
    (texec lib dates [w, w, w] st).cell = (timeStep .cur lib [] false (dates w) ⟨st.cell, x⟩).2.real ∧
    (texec lib dates [w, w, w] st).pcs w = .done (timeStep .cur lib [] false (dates w) ⟨st.cell, x⟩).1 ∧
    ∀ v, v ≠ w → (texec lib dates [w, w, w] st).pcs v = st.pcs v := by
  refine ⟨?_, ?_, fun v hv => by simp only [texec, List.foldl_cons, List.foldl_nil, tstep_other _ _ _ hv]⟩ <;>
  · unfold timeStep
    by_cases he : dates w = []
    · simp [texec, tstep, h, he]
    · cases hc : st.cell with
      | some l => simp [texec, tstep, h, he, hc]
      | none => cases hd : lib.detect (dates w) <;> simp [texec, tstep, h, he, hc, hd]

end Rare.C10.Conc

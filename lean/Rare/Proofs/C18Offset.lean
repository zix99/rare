import Rare.Proofs.C18Dur
/-!
C18: Go's `leadingInt` overflows by VALUE, not by digit count, and `parseSignedOffset`
(the numeric part of the abbreviations `GMT+7`, `+03`) reads its digits through it: a run of digits of
any length is an hour as long as its value is at most 23 – `GMT+0000000000000000000007` is one
26-byte abbreviation.
-/
namespace Rare.C18

/-- The text after a run of digits: nothing, or a byte that is not a digit. -/
def NoDigitHead (tail : Bytes) : Prop := tail = [] ∨ ∃ c r, tail = c :: r ∧ isDigitB c = false

theorem leadingInt_tail (tail : Bytes) (x : Nat) (ht : NoDigitHead tail) : leadingInt tail x = some (x, tail) := by
  rcases ht with h | ⟨c, r, h, hc⟩
  · subst h; rfl
  · subst h; exact leadingInt_stop c r x hc

theorem digit_not_out {c : UInt8} (h : isDigitB c = true) : ¬ (c < 48 ∨ c > 57) := by
  unfold isDigitB at h
  simp only [Bool.and_eq_true, decide_eq_true_eq] at h
  intro h'; rcases h' with h' | h'
  · exact absurd h.1 (by simpa using h')
  · exact absurd h.2 (by simpa using h')

/-- `leadingInt` exactly: the run of digits is read in full iff its VALUE is at most 2^63 (`1<<63/10`
before each multiplication, `1<<63` after it – both tests are implied by the final value, which only
grows); the number of digits does not matter. -/
theorem leadingInt_exact (ds : Bytes) (hd : ds.all isDigitB = true) (x : Nat) (tail : Bytes) (ht : NoDigitHead tail)
    (hx : x ≤ 9223372036854775808) :
    leadingInt (ds ++ tail) x = if digitsVal ds x ≤ 9223372036854775808 then some (digitsVal ds x, tail) else none := by
  induction ds generalizing x with
  | nil => simp only [List.nil_append, digitsVal, hx, if_true]; exact leadingInt_tail tail x ht
  | cons c r ih =>
    simp only [List.all_cons, Bool.and_eq_true] at hd
    have hc := digit_not_out hd.1
    have hmono := digitsVal_mono r (x * 10 + (c.toNat - 48))
    simp only [List.cons_append, leadingInt, hc, if_false, digitsVal]
    by_cases h1 : x > 9223372036854775808 / 10
    · have : ¬ digitsVal r (x * 10 + (c.toNat - 48)) ≤ 9223372036854775808 := by omega
      simp only [h1, if_true, this, if_false]
    · simp only [h1, if_false]
      by_cases h2 : x * 10 + (c.toNat - 48) > 9223372036854775808
      · have : ¬ digitsVal r (x * 10 + (c.toNat - 48)) ≤ 9223372036854775808 := by omega
        simp only [h2, if_true, this, if_false]
      · simp only [h2, if_false]
        exact ih hd.2 _ (by omega)

/-- `parseSignedOffset` exactly, on a sign followed by a run of digits: the whole run is the hour iff
there is at least one digit and the VALUE is at most 23. -/
theorem parseSignedOffset_exact (s : UInt8) (hs : s = 43 ∨ s = 45) (ds : Bytes) (hd : ds.all isDigitB = true)
    (tail : Bytes) (ht : NoDigitHead tail) :
    parseSignedOffset (s :: (ds ++ tail)) = if ds ≠ [] ∧ digitsVal ds 0 ≤ 23 then 1 + ds.length else 0 := by
  have hs' : ¬ (s ≠ 45 ∧ s ≠ 43) := by rcases hs with e | e <;> subst e <;> decide
  unfold parseSignedOffset
  simp only [hs', if_false]
  rw [leadingInt_exact ds hd 0 tail ht (by omega)]
  by_cases hv : digitsVal ds 0 ≤ 9223372036854775808
  · simp only [hv, if_true, List.length_append]
    cases ds with
    | nil => simp
    | cons c r =>
      have : ¬ (tail.length = (c :: r).length + tail.length) := by simp
      simp only [this, if_false, ne_eq, reduceCtorEq, not_false_eq_true, true_and]
      by_cases h23 : digitsVal (c :: r) 0 > 23
      · have : ¬ digitsVal (c :: r) 0 ≤ 23 := by omega
        simp only [h23, if_true, this, if_false]
      · have : digitsVal (c :: r) 0 ≤ 23 := by omega
        simp only [h23, if_false, this, if_true]
        omega
  · have : ¬ digitsVal ds 0 ≤ 23 := by omega
    simp only [hv, if_false, this, and_false]

theorem digitsVal_zeros (k : Nat) (ds : Bytes) : digitsVal (List.replicate k 48 ++ ds) 0 = digitsVal ds 0 := by
  induction k with
  | zero => rfl
  | succ k ih => simpa [List.replicate_succ, digitsVal] using ih

theorem zeros_all (k : Nat) : (List.replicate k (48 : UInt8)).all isDigitB = true := by
  simp only [List.all_replicate]
  split <;> first | rfl | decide

end Rare.C18

import Rare.Proofs.C06Resolve
/-! C06: `filepath.Walk` from a directory given by a simple path reports every non-directory below it once. -/
namespace Rare.C06.Glob

theorem Node.at_append : ∀ (s1 s2 : List Name) (root : Node),
    root.at (s1 ++ s2) = (root.at s1).bind (fun n => n.at s2)
  | [], s2, root => by simp [Node.at]
  | c :: cs, s2, root => by
    cases root with
    | file | link t => simp [Node.at]
    | dir e =>
      simp only [List.cons_append, Node.at]
      cases e.find c with
      | none => simp
      | some child => exact Node.at_append cs s2 child

theorem Node.at_dir_child (root : Node) (s : List Name) (e : Ents) (n : Name) (h : root.at s = some (.dir e)) :
    root.at (s ++ [n]) = e.find n := by
  rw [Node.at_append, h]
  simp only [Option.bind_some, Node.at]
  cases e.find n <;> simp

theorem comps_simple (ds : List Name) (hne : ds ≠ []) (hn : ∀ x ∈ ds, NormalName x) : comps (intercalateSlash ds) = ds := by
  unfold comps
  rw [splitSlash_intercalate ds hne (fun x hx => (hn x hx).2.1)]
  rw [List.filter_eq_self]
  intro x hx
  simp [(hn x hx).1]

theorem comps_simple_slash (ds : List Name) (hne : ds ≠ []) (hn : ∀ x ∈ ds, NormalName x) :
    comps (intercalateSlash ds ++ [47]) = ds := by
  unfold comps
  have : intercalateSlash ds ++ [47] = intercalateSlash ds ++ 47 :: [] := rfl
  rw [this, splitSlash_append_gen, splitSlash_intercalate ds hne (fun x hx => (hn x hx).2.1)]
  simp only [splitSlash, List.filter_append]
  rw [List.filter_eq_self.2 (by intro x hx; simp [(hn x hx).1])]
  simp

theorem simple_no_nul (ds : List Name) (hn : ∀ x ∈ ds, NormalName x) : ∀ (hne : ds ≠ []),
    (intercalateSlash ds).contains 0 = false := by
  induction ds with
  | nil => intro h; exact absurd rfl h
  | cons a rest ih =>
    intro _
    have ha : (0 : UInt8) ∉ a := (hn a (by simp)).2.2.1
    cases rest with
    | nil => simpa [intercalateSlash] using ha
    | cons b rest' =>
      have := ih (fun x hx => hn x (by simp [hx])) (by simp)
      simp only [List.contains_eq_mem, decide_eq_false_iff_not] at this ⊢
      simp only [intercalateSlash, List.mem_append, List.mem_cons, not_or]
      exact ⟨ha, by decide, this⟩

theorem enter_append (d : Nat) (root : Node) (st : RState) (xs ys : List Name) :
    enter d root st (xs ++ ys) = (enter d root st xs).bind (fun st' => enter d root st' ys) := by
  cases d <;> simp [enter, List.foldlM_append]

/-- entering a real sub-directory -/
theorem enter_dir_child (d : Nat) (root : Node) (st : RState) (e' : Ents) (n : Name) (h1 : n ≠ dot) (h2 : n ≠ dotdot)
    (hat : root.at (st.stack ++ [n]) = some (.dir e')) :
    enter d root st [n] = some { st with stack := st.stack ++ [n] } := by
  cases d <;> simp [enter, enterStep, h1, h2, hat]

/-- `Lstat` / `Stat` of `ds/n`: walk through `ds`, then look `n` up; a link found there is what `Lstat` answers -/
theorem resolve_simple_child (root : Node) (ds : List Name) (n : Name) (hds : ∀ x ∈ ds, NormalName x) (hn : NormalName n)
    (st : RState) (e : Ents) (hent : enter maxSymlinks root rootState ds = some st)
    (hat : root.at st.stack = some (.dir e)) (follow : Bool) (hl : follow = true → ∀ t, e.find n ≠ some (.link t)) :
    resolveAt maxSymlinks root rootState (intercalateSlash (ds ++ [n])) follow = e.find n := by
  have hall : ∀ x ∈ ds ++ [n], NormalName x := List.forall_mem_append.2 ⟨hds, by simpa using hn⟩
  have hne : ds ++ [n] ≠ [] := by simp
  unfold resolveAt
  have h1 := intercalateSlash_ne_nil _ hne (fun x hx => (hall x hx).1)
  have h2 := simple_no_nul _ hall hne
  have h3 := simple_head _ hne hall
  have h4 := comps_simple _ hne hall
  have h5 := intercalateSlash_last_ne_slash _ hne (fun x hx => ⟨(hall x hx).1, (hall x hx).2.1⟩)
  simp only [h1, if_false, h2, Bool.false_eq_true, h3, h4, List.getLast?_append, List.getLast?_singleton,
    Option.some_or, List.dropLast_concat, hent, h5, hn.2.2.2.1, hn.2.2.2.2, or_self,
    Node.at_dir_child root _ e n hat]
  cases hf : e.find n with
  | none => rfl
  | some node =>
    cases node with
    | link t => cases follow with
      | false => rfl
      | true => exact absurd hf (hl rfl t)
    | file | dir e' => rfl

/-- `Lstat`/`Stat` of `ds/`: walk through all of `ds` -/
theorem resolve_simple_slash (root : Node) (ds : List Name) (hne : ds ≠ []) (hds : ∀ x ∈ ds, NormalName x) (follow : Bool) :
    resolveAt maxSymlinks root rootState (intercalateSlash ds ++ [47]) follow =
      (enter maxSymlinks root rootState ds).bind (fun st => dirNodeAt root st.stack) := by
  unfold resolveAt
  have h1 : intercalateSlash ds ++ [47] ≠ [] := by simp
  have h2 : (intercalateSlash ds ++ [47]).contains 0 = false := by
    have := simple_no_nul ds hds hne
    simp only [List.contains_eq_mem, decide_eq_false_iff_not] at this ⊢
    simp only [List.mem_append, List.mem_singleton, not_or]
    exact ⟨this, by decide⟩
  have h3 : (intercalateSlash ds ++ [47]).head? ≠ some 47 := by
    rw [head?_append_ne (intercalateSlash_ne_nil ds hne (fun x h => (hds x h).1))]
    exact simple_head ds hne hds
  have h4 := comps_simple_slash ds hne hds
  obtain ⟨init, last, rfl⟩ : ∃ init last, ds = init ++ [last] := ⟨ds.dropLast, ds.getLast hne, (List.dropLast_concat_getLast hne).symm⟩
  simp only [h1, if_false, h2, Bool.false_eq_true, h3, h4, List.getLast?_append, List.getLast?_singleton,
    Option.some_or, List.dropLast_concat, true_or, if_true,
    enter_append]
  cases enter maxSymlinks root rootState init with
  | none => rfl
  | some st1 =>
    simp only [Option.bind_some]
    cases enter maxSymlinks root st1 [last] <;> rfl

theorem Ents.find_size : ∀ (e : Ents) (n : Name) (child : Node), e.find n = some child → child.size ≤ e.size
  | .nil, _, _, h => by simp [Ents.find] at h
  | .cons m nd rest, n, child, h => by
    unfold Ents.find at h
    simp only [Ents.size]
    split at h
    · cases h; omega
    · have := Ents.find_size rest n child h; omega

theorem Node.size_pos : ∀ n : Node, 1 ≤ n.size
  | .file | .link _ | .dir _ => by simp [Node.size]

/-- the relative paths of the non-directories below a node, in the order of a sorted walk
    (fuel: the size of the node suffices) -/
def relFiles : Nat → Node → List (List Name)
  | 0, _ => []
  | f + 1, .dir e => (sortNames e.names).flatMap fun n =>
      match e.find n with
      | some child => (relFiles f child).map (n :: ·)
      | none => []
  | _ + 1, _ => [[]]

/-- `Below node rel leaf`: following the names `rel` from `node` through real directories (no symbolic
    link is followed) ends at `leaf`, which is not a directory – a regular file or a symbolic link. -/
inductive Below : Node → List Name → Node → Prop
  | here (n : Node) : n.isDir = false → Below n [] n
  | step {e : Ents} {name : Name} {child : Node} {rel : List Name} {leaf : Node} :
      e.find name = some child → Below child rel leaf → Below (.dir e) (name :: rel) leaf

theorem relFiles_iff (f : Nat) : ∀ (node : Node), node.size ≤ f → ∀ rel,
    rel ∈ relFiles f node ↔ ∃ leaf, Below node rel leaf := by
  induction f with
  | zero => intro node h; have := node.size_pos; omega
  | succ f ih =>
    intro node hsz rel
    cases node with
    | file | link t =>
      simp only [relFiles, List.mem_singleton]
      constructor
      · intro h; subst h; exact ⟨_, Below.here _ rfl⟩
      · intro ⟨leaf, h⟩; cases h; rfl
    | dir e =>
      simp only [relFiles, List.mem_flatMap, mem_sortNames]
      simp only [Node.size] at hsz
      constructor
      · intro ⟨n, hn, hr⟩
        cases hf : e.find n with
        | none => simp [hf] at hr
        | some child =>
          simp only [hf, List.mem_map] at hr
          obtain ⟨rel', hr', rfl⟩ := hr
          have := Ents.find_size e n child hf
          obtain ⟨leaf, hb⟩ := (ih child (by omega) rel').1 hr'
          exact ⟨leaf, Below.step hf hb⟩
      · intro ⟨leaf, h⟩
        cases h with
        | here _ hd => simp [Node.isDir] at hd
        | @step _ name child rel' _ hf hb =>
          have := Ents.find_size e name child hf
          refine ⟨name, Ents.find_mem_names e name child hf, ?_⟩
          simp only [hf, List.mem_map]
          exact ⟨rel', (ih child (by omega) rel').2 ⟨leaf, hb⟩, rfl⟩

theorem relFiles_nodup (f : Nat) : ∀ (node : Node), node.WF → (relFiles f node).Nodup := by
  induction f with
  | zero => intro node _; simp [relFiles]
  | succ f ih =>
    intro node hw
    cases node with
    | file | link t => simp [relFiles]
    | dir e =>
      simp only [relFiles]
      simp only [Node.WF] at hw
      rw [List.Nodup, List.pairwise_flatMap]
      constructor
      · intro n _
        cases hf : e.find n with
        | none => simp
        | some child =>
          simp only
          exact List.Pairwise.map _ (fun a b hab h => hab (by simpa using h)) (ih child (Ents.find_wf e n child hw hf))
      · have hnd := sortNames_nodup (Ents.names_wf e hw).1
        apply List.Pairwise.imp _ hnd
        intro a b hab x hx1 y hx2 hxy
        subst hxy
        cases hfa : e.find a with
        | none => simp [hfa] at hx1
        | some ca =>
          cases hfb : e.find b with
          | none => simp [hfb] at hx2
          | some cb =>
            simp only [hfa, List.mem_map] at hx1
            simp only [hfb, List.mem_map] at hx2
            obtain ⟨r1, _, rfl⟩ := hx1
            obtain ⟨r2, _, h2⟩ := hx2
            simp only [List.cons.injEq] at h2
            exact hab h2.1.symm

/-! ### `walk` reports exactly those files -/

theorem readDirNames_of_stat (root : Node) (p : Bytes) (e : Ents) (h : stat root p = some (.dir e)) :
    readDirNames root p = some (sortNames e.names) := by
  simp [readDirNames, h]

/-- `walk(path, info, fn)` on a directory reached by the proper names `ds` (through any symbolic links on
    the way), `path` being a spelling of it to which `Join` adds names as expected. -/
theorem walkF_dir (root : Node) (hw : root.WF) : ∀ (f : Nat) (path : Bytes) (ds : List Name) (e : Ents) (st : RState),
    (∀ x ∈ ds, NormalName x) → ds ≠ [] →
    readDirNames root path = some (sortNames e.names) →
    (∀ n, NormalName n → join path n = intercalateSlash (ds ++ [n])) →
    enter maxSymlinks root rootState ds = some st → root.at st.stack = some (.dir e) →
    (Node.dir e).size ≤ f →
    walkF f root path (.dir e) = ((relFiles f (.dir e)).map (fun rel => intercalateSlash (ds ++ rel)), true) := by
  intro f
  induction f with
  | zero => intro path ds e st _ _ _ _ _ _ hsz; simp [Node.size] at hsz
  | succ f ih =>
    intro path ds e st hds hne hread hjoin hent hat hsz
    have hwe : e.WF := by
      have := Node.at_wf _ root _ hw hat
      simpa [Node.WF] using this
    simp only [walkF, hread, relFiles]
    simp only [Node.size] at hsz
    -- the loop over (any part of) the sorted names
    have loop : ∀ ns : List Name, (∀ n ∈ ns, n ∈ e.names) →
        walkNames (fun filename fi => walkF f root filename fi) root path ns =
          ((ns.flatMap fun n => match e.find n with
              | some child => (relFiles f child).map (n :: ·)
              | none => []).map (fun rel => intercalateSlash (ds ++ rel)), true) := by
      intro ns
      induction ns with
      | nil => intro _; rfl
      | cons n ns ihn =>
        intro hns
        have hnm : n ∈ e.names := hns n (by simp)
        have hnn : NormalName n := (Ents.names_wf e hwe).2 n hnm
        obtain ⟨child, hchild⟩ := Ents.mem_names_find e n hnm
        have hcs := Ents.find_size e n child hchild
        have hl : lstat root (intercalateSlash (ds ++ [n])) = some child := by
          rw [lstat, resolve_simple_child root ds n hds hnn st e hent hat false nofun, hchild]
        -- the recursive call on this entry
        have hrec : walkF f root (intercalateSlash (ds ++ [n])) child =
            ((relFiles f child).map (fun rel => intercalateSlash (ds ++ n :: rel)), true) := by
          cases child with
          | dir e' =>
            have hall : ∀ x ∈ ds ++ [n], NormalName x := List.forall_mem_append.2 ⟨hds, by simpa using hnn⟩
            have hat' : root.at (st.stack ++ [n]) = some (.dir e') := by rw [Node.at_dir_child root _ e n hat, hchild]
            have hst : stat root (intercalateSlash (ds ++ [n])) = some (.dir e') := by
              rw [stat, resolve_simple_child root ds n hds hnn st e hent hat true (by rw [hchild]; nofun), hchild]
            have := ih (intercalateSlash (ds ++ [n])) (ds ++ [n]) e' { st with stack := st.stack ++ [n] } hall (by simp)
              (readDirNames_of_stat root _ e' hst)
              (fun m hm => join_simple (ds ++ [n]) m (by simp) hall hm)
              (by rw [enter_append, hent]; exact enter_dir_child _ root st e' n hnn.2.2.2.1 hnn.2.2.2.2 hat')
              hat'
              (by omega)
            rw [this]
            simp
          | file | link t =>
            cases f with
            | zero => simp [Node.size] at hcs; omega
            | succ f' => simp [walkF, relFiles]
        simp only [walkNames, hjoin n hnn, hl, hrec, if_true, ihn (fun x hx => hns x (by simp [hx])),
          List.flatMap_cons, hchild, List.map_append, List.map_map]
        rfl
    rw [loop _ (fun n hn => mem_sortNames.1 hn)]

/-! ### the root of the walk: `Stat(p)` says directory ⇒ `Lstat(p/)` is that directory -/

theorem dirNodeAt_eq (root : Node) (stack : List Name) (e : Ents) :
    dirNodeAt root stack = some (.dir e) ↔ root.at stack = some (.dir e) := by
  unfold dirNodeAt
  split
  · rename_i e' he; rw [he]
  · rename_i hne
    constructor
    · intro h; cases h
    · intro h; exact absurd h (hne e)

/-- Resolving a path with `Stat` to a directory is the same as walking through ALL its components as
    directories (which is what a trailing `/` asks for). -/
theorem resolve_dir_enter (root : Node) : ∀ (d : Nat) (st : RState) (t : Bytes) (e : Ents),
    resolveAt d root st t true = some (.dir e) →
    t ≠ [] ∧ (enter d root (if t.head? = some 47 then { st with stack := [] } else st) (comps t)).bind
      (fun st' => dirNodeAt root st'.stack) = some (.dir e) := by
  intro d
  induction d using Nat.strongRecOn with | _ d ih => ?_
  intro st t e h
  unfold resolveAt at h
  by_cases ht : t = []
  · simp [ht] at h
  refine ⟨ht, ?_⟩
  simp only [ht, if_false] at h
  split at h
  · cases h
  cases hg : (comps t).getLast? with
  | none =>
    have : comps t = [] := List.getLast?_eq_none_iff.1 hg
    simp only [hg] at h
    cases d <;> simp [this, enter, h]
  | some last =>
    simp only [hg] at h
    obtain ⟨init, hsplit⟩ := List.getLast?_eq_some_iff.1 hg
    rw [hsplit, List.dropLast_concat] at h
    rw [hsplit, enter_append]
    cases he : enter d root (if t.head? = some 47 then { st with stack := [] } else st) init with
    | none => simp [he] at h
    | some st1 =>
      simp only [he, Option.bind_some] at h ⊢
      split at h
      · cases hx : enter _ root st1 [last] with
        | none => simp [hx] at h
        | some st2 => simpa [hx] using h
      · rename_i hcond
        simp only [not_or] at hcond
        cases hat : root.at (st1.stack ++ [last]) with
        | none => simp [hat] at h
        | some node =>
          cases node with
          | file => simp [hat] at h
          | dir e' =>
            simp only [hat, Option.some.injEq, Node.dir.injEq] at h
            subst h
            simp [enter_dir_child d root st1 e' last hcond.2.1 hcond.2.2 hat, dirNodeAt, hat]
          | link t' =>
            simp only [hat, if_true] at h
            by_cases hl : st1.links ≥ maxSymlinks
            · simp [hl] at h
            · simp only [hl, if_false] at h
              cases d with
              | zero => cases h
              | succ d =>
                obtain ⟨ht', hb⟩ := ih d (by omega) _ t' e h
                simp only [enter, List.foldlM_cons, List.foldlM_nil, enterStep, hcond.2.1, hcond.2.2, if_false, hat,
                  hl, ht']
                have hst : (if t'.head? = some 47 then ({ stack := [], links := st1.links + 1 } : RState)
                    else { stack := st1.stack, links := st1.links + 1 }) =
                    { stack := if t'.head? = some 47 then [] else st1.stack, links := st1.links + 1 } := by
                  split <;> rfl
                simp only [hst] at hb
                simpa using hb

/-- The root of rare's recursive walk: when `isDir(p)` holds, `Lstat(p + "/")` is the directory `Stat(p)` saw. -/
theorem walkRoot_dir (root : Node) (ds : List Name) (hne : ds ≠ []) (hds : ∀ x ∈ ds, NormalName x) (e : Ents)
    (h : stat root (intercalateSlash ds) = some (.dir e)) :
    lstat root (walkRoot (intercalateSlash ds)) = some (.dir e) ∧
    stat root (walkRoot (intercalateSlash ds)) = some (.dir e) ∧
    walkRoot (intercalateSlash ds) = intercalateSlash ds ++ [47] ∧
    ∃ st, enter maxSymlinks root rootState ds = some st ∧ root.at st.stack = some (.dir e) := by
  have hp := intercalateSlash_ne_nil ds hne (fun x hx => (hds x hx).1)
  have hlast := intercalateSlash_last_ne_slash ds hne (fun x hx => ⟨(hds x hx).1, (hds x hx).2.1⟩)
  have hwr : walkRoot (intercalateSlash ds) = intercalateSlash ds ++ [47] := by
    simp [walkRoot, hp, hlast]
  obtain ⟨_, hb⟩ := resolve_dir_enter root _ _ _ e h
  have hhead := simple_head ds hne hds
  simp only [hhead, if_false, comps_simple ds hne hds] at hb
  rw [hwr]
  refine ⟨by rw [lstat, resolve_simple_slash root ds hne hds]; exact hb,
    by rw [stat, resolve_simple_slash root ds hne hds]; exact hb, rfl, ?_⟩
  cases he : enter maxSymlinks root rootState ds with
  | none => simp [he] at hb
  | some st =>
    simp only [he, Option.bind_some] at hb
    exact ⟨st, rfl, (dirNodeAt_eq root _ e).1 hb⟩

theorem Node.at_size : ∀ (stack : List Name) (root node : Node), root.at stack = some node → node.size ≤ root.size
  | [], root, node, h => by simp only [Node.at, Option.some.injEq] at h; subst h; exact Nat.le_refl _
  | c :: cs, root, node, h => by
    cases root with
    | file | link t => simp [Node.at] at h
    | dir e =>
      simp only [Node.at] at h
      cases hf : e.find c with
      | none => simp [hf] at h
      | some child =>
        simp only [hf] at h
        have h1 := Node.at_size cs child node h
        have h2 := Ents.find_size e c child hf
        simp only [Node.size]; omega

theorem Below.normal {node leaf : Node} {rel : List Name} (h : Below node rel leaf) (hw : node.WF) :
    ∀ x ∈ rel, NormalName x := by
  induction h with
  | here => simp
  | @step e name child rel leaf hf _ ih =>
    simp only [Node.WF] at hw
    intro x hx
    simp only [List.mem_cons] at hx
    rcases hx with rfl | hx
    · exact (Ents.names_wf e hw).2 _ (Ents.find_mem_names e _ child hf)
    · exact ih (Ents.find_wf e name child hw hf) x hx

/-- **The recursive walk.**  For a directory argument `p` made of proper names (symbolic links on the way and
    at the end are followed): what `filepath.Walk(walkRoot(p))` sends is the list of `p/rel` for the relative
    paths `rel` of the non-directories below the directory, in sorted walk order. -/
theorem walk_simple (root : Node) (hw : root.WF) (ds : List Name) (hne : ds ≠ []) (hds : ∀ x ∈ ds, NormalName x)
    (e : Ents) (h : stat root (intercalateSlash ds) = some (.dir e)) :
    walk root (walkRoot (intercalateSlash ds)) =
      (relFiles (root.size + 2) (.dir e)).map (fun rel => intercalateSlash (ds ++ rel)) := by
  obtain ⟨hl, hs, hwr, st, hent, hat⟩ := walkRoot_dir root ds hne hds e h
  unfold walk
  rw [hl]
  simp only
  have hsz := Node.at_size _ root _ hat
  rw [walkF_dir root hw (root.size + 2) _ ds e st hds hne (readDirNames_of_stat root _ e hs)
    (by intro n hn; rw [hwr]; exact join_simple_slash ds n hne hds hn) hent hat (by omega)]

end Rare.C06.Glob

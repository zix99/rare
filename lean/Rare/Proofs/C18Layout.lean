import Rare.Model.C18
/-!
C18: layout-level definitions and lemmas – what a token list carries, append-compatibility of
formatting, what a bucket layout depends on.
-/
namespace Rare.C18

/-- The bytes of a string literal without decoding it: `rw [asc_ofList]` unifies the literal with
`String.ofList […]`, so that the kernel maps over the explicit characters (evaluating `String.toList` on a
literal goes through its UTF-8 bytes and dominates every test vector otherwise). -/
theorem asc_ofList (l : List Char) : asc (String.ofList l) = l.map (fun c => UInt8.ofNat c.toNat) := by
  rw [asc, String.toList_ofList]

/-- One letter per field-bearing token, in layout order: `Y` four-digit year, `y` two-digit year,
`M` month, `D` day of month, `j` day of year, `h` hour (24 h), `H` hour (12 h), `p` AM/PM, `m` minute, `s` second,
`f` fractional second, `z` numeric zone offset, `a` zone abbreviation, `w` weekday. -/
def stdLetter : Std → Char
  | .longYear => 'Y' | .year => 'y'
  | .longMonth | .month | .numMonth | .zeroMonth => 'M'
  | .day | .underDay | .zeroDay => 'D'
  | .underYearDay | .zeroYearDay => 'j'
  | .hour => 'h' | .hour12 | .zeroHour12 => 'H' | .pm | .pmLower => 'p'
  | .minute | .zeroMinute => 'm'
  | .second | .zeroSecond => 's'
  | .frac0 _ _ | .frac9 _ _ => 'f'
  | .isoTZ _ | .numTZ _ => 'z'
  | .tz => 'a'
  | .longWeekDay | .weekDay => 'w'

def carries (ts : List Tok) : List Char :=
  ts.filterMap fun t => match t with
    | .std s => some (stdLetter s)
    | .lit _ => none

/-- The layout holds a full date, a time of day to the minute at least, and a numeric offset. -/
def holdsInstant (ts : List Tok) : Bool :=
  let c := carries ts
  (c.contains 'Y' || c.contains 'y') && c.contains 'M' && c.contains 'D' && c.contains 'h' && c.contains 'm' && c.contains 'z'

/-- The precision of the time of day a layout carries. -/
def precOf (ts : List Tok) : Prec :=
  let c := carries ts
  if !(c.contains 'Y' || c.contains 'y') then .year
  else if !c.contains 'M' then .year
  else if !c.contains 'D' then .month
  else if !c.contains 'h' then .day
  else if !c.contains 'm' then .hour
  else if !c.contains 's' then .minute
  else if !c.contains 'f' then .second
  else .nano

theorem formatToks_append (a b : List Tok) (t : TimeV) : formatToks (a ++ b) t = formatToks a t ++ formatToks b t := by
  simp [formatToks]

/-- Fields a token reads (for the bucket tokens: only wall-clock fields). -/
def stdPrec : Std → Option Prec
  | .longYear | .year => some .year
  | .longMonth | .month | .numMonth | .zeroMonth => some .month
  | .day | .underDay | .zeroDay => some .day
  | .hour | .hour12 | .zeroHour12 | .pm | .pmLower => some .hour
  | .minute | .zeroMinute => some .minute
  | .second | .zeroSecond => some .second
  | .frac0 _ _ | .frac9 _ _ => some .nano
  | _ => none

def Prec.rank : Prec → Nat
  | .year => 0 | .month => 1 | .day => 2 | .hour => 3 | .minute => 4 | .second => 5 | .nano => 6

/-- Every token of the list reads wall-clock fields of precision `p` or coarser only. -/
def withinPrec (p : Prec) (ts : List Tok) : Bool :=
  ts.all fun t => match t with
    | .lit _ => true
    | .std s => match stdPrec s with
      | some q => decide (q.rank ≤ p.rank)
      | none => false

def TimeV.trunc (p : Prec) (t : TimeV) : TimeV := { t with dt := truncTo p t.dt }

theorem formatStd_trunc (p : Prec) (s : Std) (q : Prec) (hs : stdPrec s = some q) (hq : q.rank ≤ p.rank) (t : TimeV) :
    formatStd (t.trunc p) s = formatStd t s := by
  cases s <;> simp only [stdPrec, Option.some.injEq, reduceCtorEq] at hs <;> subst hs <;>
    cases p <;> simp only [Prec.rank] at hq <;> first | omega | rfl

theorem formatToks_trunc (p : Prec) (ts : List Tok) (h : withinPrec p ts = true) (t : TimeV) :
    formatToks ts (t.trunc p) = formatToks ts t := by
  induction ts with
  | nil => rfl
  | cons a r ih =>
    simp only [withinPrec, List.all_cons, Bool.and_eq_true] at h
    have ihr := ih (by simpa [withinPrec] using h.2)
    simp only [formatToks, List.flatMap_cons] at ihr ⊢
    rw [ihr]
    congr 1
    cases a with
    | lit b => rfl
    | std s =>
      simp only [formatTok]
      cases hq : stdPrec s with
      | none => simp [hq] at h
      | some q =>
        simp only [hq, decide_eq_true_eq] at h
        exact formatStd_trunc p s q hq h.1 t

end Rare.C18

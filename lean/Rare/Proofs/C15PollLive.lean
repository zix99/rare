import Rare.Proofs.C15Poll
/-!
C15 – progress of the polling reader: it never blocks, and with a silent writer it delivers a byte
after at most four steps whenever unread bytes exist in the file in place.
-/
namespace Rare.Follow
open Rare.C15.Spec

variable {β : Type} {cfg : PCfg} {ex : Bool} {st0 : Nat}

/-- The polling reader always has a next step until it has returned EOF. -/
theorem poll_progress {s : PSt β} (h : PInv cfg ex st0 s) (hne : s.rd ≠ .ended) :
    ∃ s', PStep cfg .reader s s' := by
  cases hrd : s.rd with
  | ended => exact absurd hrd hne
  | opening sz => exact ⟨_, .reopen s sz hrd⟩
  | check =>
    cases hre : cfg.reopen with
    | false =>
      cases hp : s.fs.path with
      | none => exact ⟨_, .statGone s hrd hre hp⟩
      | some j => exact ⟨_, .statThere s j hrd hre hp⟩
    | true =>
      cases hp : s.fs.path with
      | none => exact ⟨_, .statNil s hrd hre hp⟩
      | some j =>
        by_cases hsz : (s.fs.content j).length = s.readBytes
        · exact ⟨_, .statSame s j hrd hre hp hsz⟩
        · exact ⟨_, .statDiff s j hrd hre hp hsz⟩
  | attempt i =>
    cases hf : s.f with
    | none => exact ⟨_, .nilSleep s i hrd hf⟩
    | some x =>
      have hi := h.att i hrd
      by_cases hlt : i < cfg.attempts
      · cases hu : unread s.fs x with
        | nil => exact ⟨_, .readEmpty s x i hrd hlt hf hu⟩
        | cons a l => exact ⟨_, .readSome s x i 1 hrd hlt hf (Nat.le_refl 1) (by rw [hu]; simp)⟩
      · have : i = cfg.attempts := by omega
        subst this
        exact ⟨_, .loopDone s x hrd hf⟩

def prank (a : Nat) : PRd → Nat
  | .attempt i => if i < a then 0 else 3
  | .check => 2
  | .opening _ => 1
  | .ended => 0

theorem poll_inplace_step (hA : 1 ≤ cfg.attempts) {s s' : PSt β} (h : PInv cfg ex st0 s) (he : ex = true)
    (hr : s.removes = 0) (hu : unread s.fs ⟨0, st0, s.readBytes⟩ ≠ []) (hs : PStep cfg .reader s s') :
    (∃ bs, bs ≠ [] ∧ s'.delivered = s.delivered ++ bs) ∨
    (prank cfg.attempts s'.rd < prank cfg.attempts s.rd ∧ s'.fs = s.fs ∧ s'.removes = s.removes ∧
      s'.readBytes = s.readBytes ∧ s'.delivered = s.delivered) := by
  obtain ⟨h1, h2, h3, h4, h5⟩ := h.inPlace he hr
  cases hs with
  | readSome _ x i n hrd hi hf hn1 hn => exact Or.inl ⟨_, take_ne_nil hn1 hn, rfl⟩
  | readEmpty _ x i hrd hi hf hu' =>
    exfalso
    rw [h3] at hf; simp only [Option.some.injEq] at hf; subst hf
    exact hu hu'
  | loopDone _ x hrd hf => right; simp [prank, hrd]
  | nilSleep _ i hrd hf => rw [h3] at hf; cases hf
  | statGone _ hrd hre hp => rw [h2] at hp; cases hp
  | statThere _ j hrd hre hp => right; have h0 : 0 < cfg.attempts := hA; simp [prank, hrd, h0]
  | statNil _ hrd hre hp => rw [h2] at hp; cases hp
  | statSame _ j hrd hre hp hsz => right; have h0 : 0 < cfg.attempts := hA; simp [prank, hrd, h0]
  | statDiff _ j hrd hre hp hsz => right; simp [prank, hrd]
  | reopen _ sz hrd =>
    right
    have hm : merges s sz = true := by simp [merges, h3, h2, h5 sz hrd]
    have heq : openStep s sz = { s with rd := .attempt 0 } := by simp only [openStep]; rw [if_pos hm]
    rw [heq]
    have h0 : 0 < cfg.attempts := hA
    simp [prank, hrd, h0]

theorem PSysReach.trans {s s' s'' : PSt β} (h1 : PSysReach cfg s s') (h2 : PSysReach cfg s' s'') :
    PSysReach cfg s s'' := by
  induction h1 with
  | refl => exact h2
  | step hs _ ih => exact .step hs (ih h2)

theorem preader_fs {s s' : PSt β} (hs : PStep cfg .reader s s') : s'.fs = s.fs ∧ s'.removes = s.removes := by
  cases hs with
  | reopen _ sz hrd => simp only [openStep, openNew]; split <;> exact ⟨rfl, rfl⟩
  | _ => exact ⟨rfl, rfl⟩

/-- runs of the reader keep the invariant and never touch the file system -/
theorem psysreach_inv {s s' : PSt β} (hr : PSysReach cfg s s') (h : PInv cfg ex st0 s) :
    PInv cfg ex st0 s' ∧ s'.fs = s.fs ∧ s'.removes = s.removes := by
  induction hr with
  | refl => exact ⟨h, rfl, rfl⟩
  | step hs _ ih =>
    obtain ⟨h1, h2, h3⟩ := ih (pinv_step h hs)
    have hfs := preader_fs hs
    exact ⟨h1, by rw [h2, hfs.1], by rw [h3, hfs.2]⟩

/-- `descent` for runs of the polling reader from a state satisfying the invariant -/
theorem poll_descent {P G : PSt β → Prop} (μ : PSt β → Nat)
    (run : ∀ s, PInv cfg ex st0 s → P s → ¬ G s → ∃ s', PSysReach cfg s s' ∧ (G s' ∨ (P s' ∧ μ s' < μ s)))
    {s : PSt β} (h : PInv cfg ex st0 s) (hP : P s) : ∃ s', PSysReach cfg s s' ∧ PInv cfg ex st0 s' ∧ G s' :=
  descent PSysReach.refl PSysReach.trans (fun hr hi => (psysreach_inv hr hi).1) μ run s h hP

/-- While the file stays in place and the writer is silent, unread bytes are delivered after finitely many
    steps of the reader. -/
theorem poll_eventually_delivered (hA : 1 ≤ cfg.attempts) (he : ex = true) {s : PSt β} (h : PInv cfg ex st0 s)
    (hr : s.removes = 0) (hu : unread s.fs ⟨0, st0, s.readBytes⟩ ≠ []) :
    ∃ s' bs, PSysReach cfg s s' ∧ bs ≠ [] ∧ s'.delivered = s.delivered ++ bs := by
  have := poll_descent
    (P := fun t => t.removes = 0 ∧ t.fs = s.fs ∧ t.readBytes = s.readBytes ∧ t.delivered = s.delivered)
    (G := fun t => ∃ bs, bs ≠ [] ∧ t.delivered = s.delivered ++ bs) (fun t => prank cfg.attempts t.rd) ?_ h
    ⟨hr, rfl, rfl, rfl⟩
  · obtain ⟨s', hr', _, bs, hb, hd⟩ := this
    exact ⟨s', bs, hr', hb, hd⟩
  · rintro t ht ⟨htr, htfs, htrb, htd⟩ -
    have hne : t.rd ≠ .ended := by
      intro hen; have := (ht.ended hen).2 he; omega
    obtain ⟨t', hs⟩ := poll_progress ht hne
    refine ⟨t', .step hs (.refl _), ?_⟩
    rcases poll_inplace_step hA ht he htr (by rw [htfs, htrb]; exact hu) hs with
      ⟨bs, hb, hd⟩ | ⟨hm, hfs, hrm, hrb, hdl⟩
    · exact Or.inl ⟨bs, hb, by rw [hd, htd]⟩
    · exact Or.inr ⟨⟨by rw [hrm, htr], by rw [hfs, htfs], by rw [hrb, htrb], by rw [hdl, htd]⟩, hm⟩

end Rare.Follow

import Rare.Proofs.C02RxIdx
/-! POSIX mode (`regexp.CompilePOSIX`, `rare … --posix`): leftmost-longest; among the longest matches the one
a backtracking search finds first. -/
namespace Rare.C02.Rx

theorem pickLongest_none {l : List Res} : pickLongest l = none ↔ l = [] := by
  cases l with
  | nil => simp [pickLongest]
  | cons x xs =>
    simp only [pickLongest]
    cases pickLongest xs with
    | none => simp
    | some y => by_cases h : x.1 < y.1 <;> simp [h]

/-- the chosen element reaches the largest end offset, and nothing before it in the list reaches as far -/
theorem pickLongest_some : ∀ (l : List Res) (x : Res), pickLongest l = some x →
    ∃ l1 l2, l = l1 ++ x :: l2 ∧ (∀ y ∈ l1, y.1 < x.1) ∧ (∀ y ∈ l2, y.1 ≤ x.1) := by
  intro l
  induction l with
  | nil => intro x h; simp [pickLongest] at h
  | cons a as ih =>
    intro x h
    simp only [pickLongest] at h
    cases hp : pickLongest as with
    | none =>
      rw [hp] at h
      simp only [Option.some.injEq] at h
      subst h
      have : as = [] := pickLongest_none.mp hp
      subst this
      exact ⟨[], [], rfl, by simp, by simp⟩
    | some y =>
      rw [hp] at h
      obtain ⟨l1, l2, e, h1, h2⟩ := ih y hp
      by_cases hlt : a.1 < y.1
      · simp only [hlt, if_true, Option.some.injEq] at h
        subst h
        refine ⟨a :: l1, l2, by rw [e]; rfl, ?_, h2⟩
        intro z hz
        rcases List.mem_cons.mp hz with rfl | hz
        · exact hlt
        · exact h1 z hz
      · simp only [hlt, if_false, Option.some.injEq] at h
        subst h
        refine ⟨[], as, rfl, by simp, ?_⟩
        intro z hz
        rw [e] at hz
        rcases List.mem_append.mp hz with hz | hz
        · have := h1 z hz; omega
        · rcases List.mem_cons.mp hz with rfl | hz
          · omega
          · have := h2 z hz; omega

theorem matchAtL_none_iff (s : Bytes) (r : Re) (p : Nat) : matchAtL s r p = none ↔ matchAt s r p = none := by
  unfold matchAtL
  rw [pickLongest_none, matchAt_eq]
  cases den s r p [] <;> simp

/-- **the POSIX search result**: a derivation from the leftmost possible start; no derivation from there ends
later; it is the first element of the priority list that ends there; its capture log consists of
derivations of the groups' bodies inside the match -/
theorem searchL_some (s : Bytes) (r : Re) (p j : Nat) (c : Caps) (h : searchL s r = some (p, j, c)) :
    p ≤ j ∧ j ≤ s.length ∧ Derives s r p j ∧
    (∀ q, q < p → ∀ j', ¬ Derives s r q j') ∧
    (∀ j', Derives s r p j' → j' ≤ j) ∧
    (∃ l1 l2, den s r p [] = l1 ++ (j, c) :: l2 ∧ (∀ y ∈ l1, y.1 < j) ∧ (∀ y ∈ l2, y.1 ≤ j)) ∧
    (∀ e ∈ c, EntryOK s r p j e) := by
  obtain ⟨_, hlt, hm, hnone⟩ := (scan_spec (m := matchAtL s r) (fun _ => rfl) (fun _ _ => rfl) _ 0).1 p (j, c) h
  have hp : p ≤ s.length := by omega
  obtain ⟨l1, l2, e, h1, h2⟩ := pickLongest_some _ _ hm
  obtain ⟨a1, a2, a3, a4, a5⟩ := leftmost_of_mem s r p j c hp (by rw [e]; simp)
    (fun q hq => (matchAtL_none_iff s r q).mp (hnone q (Nat.zero_le _) hq))
  refine ⟨a1, a2, a3, a4, fun j' hd' => ?_, ⟨l1, l2, e, h1, h2⟩, a5⟩
  -- every derivation from `p` is in the list, and nothing in the list ends after `j`
  obtain ⟨c', hc'⟩ := den_complete s r p j' [] hd' (hd'.le_length hp)
  rw [e] at hc'
  rcases List.mem_append.mp hc' with hz | hz
  · exact Nat.le_of_lt (h1 _ hz)
  · rcases List.mem_cons.mp hz with hz | hz
    · exact Nat.le_of_eq (Prod.mk.inj hz).1
    · exact h2 _ hz

theorem searchL_eq_none_iff (s : Bytes) (r : Re) :
    searchL s r = none ↔ ∀ q, q ≤ s.length → ∀ j', ¬ Derives s r q j' := by
  refine ⟨fun h q hq => (matchAt_none_iff s r q hq).mp ((matchAtL_none_iff s r q).mp
    ((scan_spec (m := matchAtL s r) (fun _ => rfl) (fun _ _ => rfl) _ 0).2 h q (Nat.zero_le _) (by omega))),
    fun h => ?_⟩
  cases hL : searchL s r with
  | none => rfl
  | some m =>
    obtain ⟨_, h2, h3, _⟩ := searchL_some s r m.1 m.2.1 m.2.2 hL
    exact absurd h3 (h m.1 (Nat.le_trans h3.le h2) m.2.1)

/-- both modes find a match in the same lines, from the same start offset; the POSIX one is at least as long -/
theorem searchL_vs_search (s : Bytes) (r : Re) :
    (search s r = none ↔ searchL s r = none) ∧
    (∀ p j c, search s r = some (p, j, c) → ∃ j' c', searchL s r = some (p, j', c') ∧ j ≤ j') := by
  have hnone := (search_eq_none_iff s r).trans (searchL_eq_none_iff s r).symm
  refine ⟨hnone, ?_⟩
  intro p j c hS
  obtain ⟨a1, a2, a3, _, a5, _⟩ := search_some s r p j c hS
  cases hL : searchL s r with
  | none => rw [hnone.mpr hL] at hS; cases hS
  | some m =>
    obtain ⟨p', j', c'⟩ := m
    obtain ⟨b1, b2, b3, b4, b5, _⟩ := searchL_some s r p' j' c' hL
    -- both start at the leftmost offset from which anything matches
    obtain rfl : p' = p := by
      rcases Nat.lt_trichotomy p' p with hlt | heq | hgt
      · exact absurd b3 (a5 p' hlt j')
      · exact heq
      · exact absurd a3 (b4 p hgt j)
    exact ⟨j', c', rfl, b5 j a3⟩

end Rare.C02.Rx

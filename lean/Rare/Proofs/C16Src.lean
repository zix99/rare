import Rare.Proofs.C16Num
import Rare.Gen.C16
/-!
C16: the hand model of `isNumeric` (`Model/C16.lean`, list recursion) equals the definition the
translator regenerates from pkg/minijson/minijson.go statement by statement (`Rare.Gen.C16.isNumeric`,
index arithmetic over `Int`, `runLoop`).
-/
namespace Rare.C16
open Rare.Gen.C16 (Flow runLoop byteAt)

theorem byteAt_mid (pre : Bytes) (c : UInt8) (r : Bytes) : byteAt (pre ++ c :: r) (pre.length : Int) = (c.toNat : Int) := by
  simp [byteAt]

theorem bad_iff (c : UInt8) : (((c.toNat : Int) < 48) ∨ ((c.toNat : Int) > 57)) ↔ (c < 0x30 ∨ c > 0x39) := by
  have h1 : c < 0x30 ↔ c.toNat < 48 := UInt8.lt_iff_toNat_lt
  have h2 : c > 0x39 ↔ 57 < c.toNat := UInt8.lt_iff_toNat_lt
  rw [h1, h2]; omega

theorem dot_iff (c : UInt8) : ((c.toNat : Int) = 46) ↔ c = 0x2e := by
  constructor
  · intro h; apply UInt8.toNat_inj.mp; simp; omega
  · intro h; subst h; rfl

/-- what the body of the second loop computes at an index inside the string -/
def Body2Spec (s : Bytes) (body : Int → Flow) : Prop :=
  ∀ (pre : Bytes) (c : UInt8) (r : Bytes), s = pre ++ c :: r →
    body (pre.length : Int) = if c < 0x30 ∨ c > 0x39 then .ret false else .next (pre.length : Int)

/-- … and of the first loop -/
def Body1Spec (s : Bytes) (body : Int → Flow) : Prop :=
  ∀ (pre : Bytes) (c : UInt8) (r : Bytes), s = pre ++ c :: r →
    body (pre.length : Int) =
      if c = 0x2e then
        (if pre.length = 0 then .ret false else if r = [] then .ret false else .brk ((pre.length : Int) + 1))
      else if c < 0x30 ∨ c > 0x39 then .ret false else .next (pre.length : Int)

theorem runLoop_end (len : Int) (body : Int → Flow) (fuel : Nat) (i : Int) (h : ¬ i < len) :
    runLoop len body fuel i = .brk i := by
  cases fuel with
  | zero => rfl
  | succ f => simp [runLoop, h]

theorem runLoop2 (s : Bytes) (body : Int → Flow) (hb : Body2Spec s body) :
    ∀ (r pre : Bytes) (fuel : Nat), s = pre ++ r → r.length ≤ fuel →
      runLoop (s.length : Int) body fuel (pre.length : Int) =
        match numLoop2 pre.length r with
        | none => .ret false
        | some j => .brk (j : Int) := by
  intro r
  induction r with
  | nil =>
    intro pre fuel hs _
    rw [runLoop_end _ _ _ _ (by simp [hs])]
    simp [numLoop2]
  | cons c r ih =>
    intro pre fuel hs hf
    cases fuel with
    | zero => simp at hf
    | succ f =>
      have hlt : (pre.length : Int) < (s.length : Int) := by rw [hs]; simp; omega
      have hbody := hb pre c r hs
      unfold runLoop numLoop2
      rw [if_pos hlt, hbody]
      by_cases hbad : c < 0x30 ∨ c > 0x39
      · simp [hbad]
      · simp only [hbad, if_false]
        have := ih (pre ++ [c]) f (by simp [hs]) (by simp at hf; omega)
        simp only [List.length_append, List.length_singleton] at this
        have hc : ((pre.length + 1 : Nat) : Int) = (pre.length : Int) + 1 := by omega
        rw [hc] at this
        exact this

theorem numLoop1_suffix (r : Bytes) (i j : Nat) (rest : Bytes) (h : numLoop1 i r = some (j, rest)) :
    ∃ mid, r = mid ++ rest ∧ j = i + mid.length := by
  obtain ⟨ip, rest0, _, rfl, hall, hrest⟩ := span_spec isDig r
  rw [numLoop1_eq ip i rest0 hall hrest] at h
  cases rest0 with
  | nil => cases h; exact ⟨ip, rfl, rfl⟩
  | cons c r' =>
    by_cases hc : c = 0x2e ∧ i + ip.length ≠ 0 ∧ r' ≠ []
    · simp only [if_pos hc, Option.some.injEq, Prod.mk.injEq] at h
      exact ⟨ip ++ [c], by simp [h.2], by simp [← h.1]; omega⟩
    · simp only [if_neg hc] at h; cases h

theorem runLoop1 (s : Bytes) (body : Int → Flow) (hb : Body1Spec s body) :
    ∀ (r pre : Bytes) (fuel : Nat), s = pre ++ r → r.length ≤ fuel →
      runLoop (s.length : Int) body fuel (pre.length : Int) =
        match numLoop1 pre.length r with
        | none => .ret false
        | some (j, _) => .brk (j : Int) := by
  intro r
  induction r with
  | nil =>
    intro pre fuel hs _
    rw [runLoop_end _ _ _ _ (by simp [hs])]
    simp [numLoop1]
  | cons c r ih =>
    intro pre fuel hs hf
    cases fuel with
    | zero => simp at hf
    | succ f =>
      have hlt : (pre.length : Int) < (s.length : Int) := by rw [hs]; simp; omega
      have hbody := hb pre c r hs
      unfold runLoop numLoop1
      rw [if_pos hlt, hbody]
      by_cases hdot : c = 0x2e
      · simp only [hdot, if_true]
        by_cases h0 : pre.length = 0
        · simp [h0]
        · by_cases hr : r = []
          · simp [h0, hr]
          · simp [h0, hr]
      · simp only [hdot, if_false]
        by_cases hbad : c < 0x30 ∨ c > 0x39
        · simp [hbad]
        · simp only [hbad, if_false]
          have := ih (pre ++ [c]) f (by simp [hs]) (by simp at hf; omega)
          simp only [List.length_append, List.length_singleton] at this
          have hc : ((pre.length + 1 : Nat) : Int) = (pre.length : Int) + 1 := by omega
          rw [hc] at this
          exact this

/-- the leading-zero guard, index form = list form -/
theorem guard_eq (s : Bytes) :
    ((decide ((s.length : Int) > 1) && decide (byteAt s 0 = 48)) && decide (byteAt s 1 ≠ 46)) = true ↔
      (1 < s.length ∧ s.head? = some 0x30 ∧ s.tail.head? ≠ some 0x2e) := by
  match s with
  | [] => simp
  | [a] => simp
  | a :: b :: t =>
    have ha : byteAt (a :: b :: t) 0 = (a.toNat : Int) := by simp [byteAt]
    have hb : byteAt (a :: b :: t) 1 = (b.toNat : Int) := by simp [byteAt]
    have e0 : ((a.toNat : Int) = 48) ↔ a = 0x30 := by
      constructor
      · intro h; apply UInt8.toNat_inj.mp; simp; omega
      · intro h; subst h; rfl
    simp only [ha, hb, Bool.and_eq_true, decide_eq_true_eq, ne_eq, dot_iff, e0, List.length_cons, List.head?_cons,
      List.tail_cons, Option.some.injEq]
    constructor
    · rintro ⟨⟨_, h2⟩, h3⟩; exact ⟨by omega, h2, h3⟩
    · rintro ⟨_, h2, h3⟩; exact ⟨⟨by omega, h2⟩, h3⟩

/-- the composition after the guard -/
theorem loops_eq (s : Bytes) (b1 b2 : Int → Flow) (h1 : Body1Spec s b1) (h2 : Body2Spec s b2) :
    ((runLoop (s.length : Int) b1 s.length 0).cont fun i =>
      (runLoop (s.length : Int) b2 s.length i).cont fun i => decide (i > 0)) =
    (match numLoop1 0 s with
     | none => false
     | some (i, r) =>
       match numLoop2 i r with
       | none => false
       | some j => decide (0 < j)) := by
  have e1 := runLoop1 s b1 h1 s [] s.length (by simp) (Nat.le_refl _)
  simp only [List.length_nil] at e1
  have hz : ((0 : Nat) : Int) = 0 := rfl
  rw [hz] at e1
  rw [e1]
  cases hn : numLoop1 0 s with
  | none => simp [Flow.cont]
  | some p =>
    obtain ⟨i, r⟩ := p
    obtain ⟨mid, hm, hi⟩ := numLoop1_suffix s 0 i r hn
    have e2 := runLoop2 s b2 h2 r mid s.length hm (by rw [hm]; simp)
    have hi' : i = mid.length := by omega
    simp only [Flow.cont]
    rw [hi', e2]
    cases numLoop2 mid.length r with
    | none => simp [Flow.cont]
    | some j => simp [Flow.cont]

end Rare.C16

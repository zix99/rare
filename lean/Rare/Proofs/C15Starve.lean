import Rare.Proofs.C15Multi
/-!
C15 – no follower starves another (`TailFilesToChan` has no semaphore: `--readers` does not apply to followed
files): a waiting follower can always be started, and a running follower that has a batch to send gets it to
the consumer by steps of the consumer and itself alone – whatever the other followers are doing (blocked in
`Read` for ever, for instance).
-/
namespace Rare.C15.Multi

/-- the consumer receives everything that is buffered -/
theorem drain_path (fs : List Follower) (B : Nat) : ∀ (n : Nat) (s : MSt), s.q.length = n → s.consDone = false →
    ∃ s', LPath fs B s (List.replicate n .recv) s' ∧ s'.q = [] ∧ s'.recvd = s.recvd ++ s.q ∧ s'.ph = s.ph ∧
      s'.closed = s.closed ∧ s'.consDone = false := by
  intro n
  induction n with
  | zero =>
    intro s hn hc
    have : s.q = [] := List.eq_nil_of_length_eq_zero hn
    exact ⟨s, .nil s, this, by rw [this]; simp, rfl, rfl, hc⟩
  | succ n ih =>
    intro s hn hc
    cases hq : s.q with
    | nil => rw [hq] at hn; cases hn
    | cons x rest =>
      have happ : apply fs B s .recv = some { s with q := rest, recvd := s.recvd ++ [x] } := by
        simp [apply, hq, hc]
      obtain ⟨s', hp, h1, h2, h3, h4, h5⟩ := ih { s with q := rest, recvd := s.recvd ++ [x] }
        (by rw [hq] at hn; simpa using hn) hc
      refine ⟨s', ?_, h1, ?_, h3, h4, h5⟩
      · show LPath fs B s (.recv :: List.replicate n .recv) s'
        exact .cons happ hp
      · rw [h2]; simp

/-- A running follower's next batch reaches the consumer by `recv`s of the consumer and ONE step of that
    follower; no other follower takes a step. -/
theorem batch_gets_through {fs : List Follower} {B : Nat} {s : MSt} (hr : Reach fs B s) (i k : Nat) (f : Follower)
    (b : Batcher.Batch Bytes) (hp : s.ph[i]? = some (.running k)) (hf : fs[i]? = some f)
    (hb : f.batches[k]? = some b) :
    ∃ s', LPath fs B s (List.replicate s.q.length .recv ++ [.handoff i]) s' ∧
      s'.recvd = s.hist ++ [(i, b)] ∧ s'.q = [] ∧ s'.ph = s.ph.set i (.running (k + 1)) := by
  obtain ⟨_, hcd⟩ := running_consumer_open (inv_reach hr) hp
  obtain ⟨s1, hpath, hq, hrecv, hph, _, hcd1⟩ := drain_path fs B s.q.length s rfl hcd
  have happ : apply fs B s1 (.handoff i) =
      some { s1 with ph := s1.ph.set i (.running (k + 1)), recvd := s1.recvd ++ [(i, b)] } := by
    simp [apply, hph, hp, hf, hb, hq, hcd1]
  refine ⟨_, hpath.append (.cons happ (.nil _)), ?_, hq, ?_⟩
  · simp [hrecv, MSt.hist]
  · simp [hph]

/-- A follower whose name has not been taken from `filenames` yet can be started in every state: nothing the
    other followers do (or fail to do) disables it. -/
theorem spawn_enabled (fs : List Follower) (B : Nat) (s : MSt) (i : Nat) (hp : s.ph[i]? = some .waiting) :
    apply fs B s (.spawn i) = some { s with ph := s.ph.set i (.running 0) } := by
  simp [apply, hp]

end Rare.C15.Multi

import Rare.Model.C15Trunc
import Rare.Proofs.C15NotifyLive
import Rare.Proofs.C15PollLive
/-!
C15 – lemmas about in-place truncation (`Rare.Model.C15Trunc`): the notify reader never seeks backwards
and delivers nothing while its offset is at or beyond the end of the file; the polling reader with
re-open restarts a file it finds shorter than its offset from the beginning.
-/
namespace Rare.Follow
open Rare.C15.Spec

variable {β : Type}

/-! ### notify -/

/-- One step of the extended notify LTS, looked at through the open handle: as long as the same inode
    stays open its offset only grows, and what was delivered is exactly the bytes the file held between
    the two offsets at that moment. -/
theorem nstepT_forward {cfg : NCfg} {w : Who} {s s' : NSt β} (hs : NStepT cfg w s s') (h h' : Handle)
    (hf : s.f = some h) (hf' : s'.f = some h') (hino : h'.ino = h.ino) :
    h.pos ≤ h'.pos ∧ h'.start = h.start ∧
      s'.delivered = s.delivered ++ extract (s.fs.content h.ino) h.pos h'.pos := by
  have same : s'.f = s.f → s'.delivered = s.delivered →
      h.pos ≤ h'.pos ∧ h'.start = h.start ∧
        s'.delivered = s.delivered ++ extract (s.fs.content h.ino) h.pos h'.pos := by
    intro h1 h2
    have : h' = h := by
      rw [h1, hf] at hf'; exact (Option.some.inj hf').symm
    subst this
    rw [h2, extract_self]; simp
  by_cases hw : w = .writer
  · subst hw
    cases hs with
    | truncate _ i n hp hn => exact same rfl rfl
    | base hb => cases hb <;> exact same rfl rfl
  · cases hs with
    | truncate _ i n hp hn => exact absurd rfl hw
    | base hb =>
      obtain ⟨_, _, ⟨x, n, _, hx, _, _, rfl⟩ | ⟨hd, _, ⟨hk, _⟩ | ⟨_, hsf, ho, _⟩ | ⟨_, _, hn⟩⟩⟩ :=
        sys_step_cases hw hb
      · rw [hf] at hx; cases hx
        cases hf'
        exact ⟨Nat.le_add_right _ _, rfl, by simp [unread, extract]⟩
      · exact same hk hd
      · -- a re-open takes another file than the one that was open
        rw [ho] at hf'
        have hp := (openAt_some _ _ _ hf').1
        rw [hino] at hp
        rw [(sameFile_iff s).mpr ⟨h, hf, hp⟩] at hsf; cases hsf
      · rw [hn] at hf'; cases hf'

/-- While the open file is the one at the path and the offset is at or beyond its end (in particular
    after a truncation, whatever has been written below the offset since), no step of the fsnotify
    goroutine or the reader delivers anything, and the descriptor – if it stays open – stays where it is. -/
theorem nstep_blind_beyond_end {cfg : NCfg} {w : Who} {s s' : NSt β} (hw : w ≠ .writer) (hs : NStep cfg w s s')
    (h : Handle) (hf : s.f = some h) (hp : s.fs.path = some h.ino) (hb : beyondEnd s.fs h) :
    s'.delivered = s.delivered ∧ s'.fs = s.fs ∧ (s'.f = some h ∨ s'.f = none) := by
  obtain ⟨hfs, _, ⟨x, n, _, hx, h1, hn, rfl⟩ | ⟨hd, _, ⟨hk, _⟩ | ⟨_, hsf, _⟩ | ⟨_, _, hnone⟩⟩⟩ :=
    sys_step_cases hw hs
  · exfalso
    rw [hf] at hx; cases hx
    simp only [unread, List.length_drop] at hn
    unfold beyondEnd at hb
    omega
  · exact ⟨hd, hfs, Or.inl (by rw [hk, hf])⟩
  · rw [(sameFile_iff s).mpr ⟨h, hf, hp⟩] at hsf; cases hsf
  · exact ⟨hd, hfs, Or.inr hnone⟩

/-- Invariant of the extended notify LTS while nothing was removed: inode 0 stays open, no delete signal
    exists, and the number of delivered bytes is the distance the offset has travelled. -/
structure NTInv (st0 : Nat) (s : NSt β) : Prop where
  handle : ∃ p, s.f = some ⟨0, st0, p⟩ ∧ st0 ≤ p ∧ s.delivered.length + st0 = p
  path : s.fs.path = some 0
  nopd : s.pd = 0
  noev : Ev.remove ∉ s.evq
  nocr : Ev.create ∉ s.evq
  alive : s.rd ≠ .ended

theorem ntinv_init (c0 : List β) (tail : Bool) : NTInv (start0 (some c0) tail) (ninit (some c0) tail) := by
  refine ⟨⟨start0 (some c0) tail, rfl, Nat.le_refl _, by simp [ninit]⟩, rfl, rfl, by simp [ninit], by simp [ninit], by simp [ninit]⟩

theorem ntinv_step {cfg : NCfg} {st0 : Nat} {w : Who} {s s' : NSt β} (hi : NTInv st0 s) (hs : NStepT cfg w s s')
    (hrm' : s'.removes = 0) : NTInv st0 s' := by
  obtain ⟨⟨p, hf, hle, hlen⟩, hpath, hpd, hev, hcr, hal⟩ := hi
  cases hs with
  | truncate _ i n hp hn =>
    exact ⟨⟨p, hf, hle, hlen⟩, hpath, hpd, by simpa using hev, by simpa using hcr, hal⟩
  | base hb =>
    cases hb with
    | append _ i bs hp hne => exact ⟨⟨p, hf, hle, hlen⟩, hpath, hpd, by simpa using hev, by simpa using hcr, hal⟩
    | remove _ i hp => simp at hrm'
    | create _ hp => rw [hpath] at hp; cases hp
    | noise _ => exact ⟨⟨p, hf, hle, hlen⟩, hpath, hpd, by simpa using hev, by simpa using hcr, hal⟩
    | dispatch _ e rest he =>
      rw [he] at hev hcr
      cases e with
      | write => exact ⟨⟨p, hf, hle, hlen⟩, hpath, hpd, fun hm => hev (List.mem_cons_of_mem _ hm),
          fun hm => hcr (List.mem_cons_of_mem _ hm), hal⟩
      | remove => exact absurd List.mem_cons_self hev
      | create => exact absurd List.mem_cons_self hcr
      | other => exact ⟨⟨p, hf, hle, hlen⟩, hpath, hpd, fun hm => hev (List.mem_cons_of_mem _ hm),
          fun hm => hcr (List.mem_cons_of_mem _ hm), hal⟩
    | readSome _ x n hrd hx hn1 hn =>
      rw [hf] at hx; cases hx
      refine ⟨⟨p + n, rfl, by omega, ?_⟩, hpath, hpd, hev, hcr, by simp [hrd]⟩
      simp only [List.length_append, List.length_take]
      have : min n (unread s.fs ⟨0, st0, p⟩).length = n := Nat.min_eq_left hn
      omega
    | readEmpty _ x hrd hx hu => exact ⟨⟨p, hf, hle, hlen⟩, hpath, hpd, hev, hcr, by simp⟩
    | readNil _ hrd hx => rw [hf] at hx; cases hx
    | recvW _ hrd hpw =>
      rw [onWrite_noop (s := { s with pw := s.pw - 1 }) (by simp [hf])]
      exact ⟨⟨p, hf, hle, hlen⟩, hpath, hpd, hev, hcr, by simp⟩
    | recvD _ hrd hpd' hre => omega
    | recvDPlain _ hrd hpd' hre => omega

theorem nstepT_removes_mono {cfg : NCfg} {w : Who} {s s' : NSt β} (hs : NStepT cfg w s s') :
    s.removes ≤ s'.removes := by
  cases hs with
  | truncate _ i n hp hn => exact Nat.le_refl _
  | base hb =>
    cases hb with
    | remove _ i hp => exact Nat.le_succ _
    | dispatch _ e rest he => cases e <;> exact Nat.le_refl _
    | recvW _ hrd hpw => simp only [onWrite]; split <;> exact Nat.le_refl _
    | recvD _ hrd hpd hre => simp only [reopenIfReplaced]; split <;> exact Nat.le_refl _
    | _ => exact Nat.le_refl _

theorem ntinv_reach {cfg : NCfg} (c0 : List β) (tail : Bool) {s : NSt β}
    (hr : NReachT cfg (ninit (some c0) tail) s) (hrm : s.removes = 0) : NTInv (start0 (some c0) tail) s := by
  induction hr with
  | refl => exact ntinv_init c0 tail
  | step _ hs ih =>
    have := nstepT_removes_mono hs
    exact ntinv_step (ih (by omega)) hs hrm

/-! ### poll -/

/-- `k` empty reads in a row. -/
theorem poll_empty_reads {cfg : PCfg} (s : PSt β) (h : Handle) (hf : s.f = some h) (hu : unread s.fs h = []) :
    ∀ (k i : Nat), i + k = cfg.attempts → s.rd = .attempt i →
      PSysReach cfg s { s with rd := .attempt cfg.attempts } := by
  intro k
  induction k generalizing s with
  | zero =>
    intro i hi hrd
    have : i = cfg.attempts := by omega
    subst this
    have : ({ s with rd := .attempt cfg.attempts } : PSt β) = s := by
      cases s; simp only at hrd; subst hrd; rfl
    rw [this]; exact .refl _
  | succ k ih =>
    intro i hi hrd
    have hstep : PStep cfg .reader s { s with rd := .attempt (i + 1) } :=
      .readEmpty s h i hrd (by omega) hf hu
    have := ih { s with rd := .attempt (i + 1) } hf hu (i + 1) (by omega) rfl
    exact .step hstep this

/-- **The polling reader with re-open restarts a file it finds shorter than its offset.**  Reader at the
    top of `Read`, nothing left to read through the old descriptor, the file at the path (the same inode
    after a truncation, or a new one after a rotation) shorter than `readBytes`: with a silent writer the
    reader does its empty reads, `Stat`s, re-opens, resets the offset and delivers the WHOLE file at the
    path from its beginning. -/
theorem poll_restart_run {cfg : PCfg} (hA : 1 ≤ cfg.attempts) (hre : cfg.reopen = true) (s : PSt β) (h : Handle)
    (j : Nat) (hf : s.f = some h) (hp : s.fs.path = some j) (hrd : s.rd = .attempt 0)
    (hu : unread s.fs h = []) (hlt : (s.fs.content j).length < s.readBytes) :
    ∃ s', PSysReach cfg s s' ∧ s'.delivered = s.delivered ++ s.fs.content j ∧
      s'.f = some ⟨j, 0, (s.fs.content j).length⟩ ∧ s'.readBytes = (s.fs.content j).length ∧
      s'.skips = s.skips ∧ s'.fs = s.fs ∧ s'.hist = s.hist ++ [h] := by
  let sz := (s.fs.content j).length
  have r1 := poll_empty_reads (cfg := cfg) s h hf hu cfg.attempts 0 (by omega) hrd
  let s1 : PSt β := { s with rd := .attempt cfg.attempts }
  have st2 : PStep cfg .reader s1 { s1 with rd := .check } := .loopDone s1 h rfl hf
  let s2 : PSt β := { s1 with rd := .check }
  have st3 : PStep cfg .reader s2 { s2 with rd := .opening sz } :=
    .statDiff s2 j rfl hre hp (by show sz ≠ s.readBytes; omega)
  let s3 : PSt β := { s2 with rd := .opening sz }
  have st4 : PStep cfg .reader s3 (openStep s3 sz) := .reopen s3 sz rfl
  have hopen : openStep s3 sz =
      { s with f := some ⟨j, 0, 0⟩, readBytes := 0, hist := s.hist ++ [h], rd := .attempt 0 } := by
    rw [openStep_of_lt (by show sz < s.readBytes; omega)]
    simp [s3, s2, s1, PSt.pushOld, hf, openAt, hp]
  let s4 : PSt β := { s with f := some ⟨j, 0, 0⟩, readBytes := 0, hist := s.hist ++ [h], rd := .attempt 0 }
  have r4 : PSysReach cfg s s4 :=
    r1.trans (.step st2 (.step st3 (.step (by rw [hopen] at st4; exact st4) (.refl _))))
  by_cases hz : sz = 0
  · refine ⟨s4, r4, ?_, ?_, ?_, rfl, rfl, rfl⟩
    · have : s.fs.content j = [] := List.eq_nil_of_length_eq_zero hz
      simp [s4, this]
    · show some (⟨j, 0, 0⟩ : Handle) = some ⟨j, 0, sz⟩; rw [hz]
    · show 0 = sz; omega
  · have hun : unread s4.fs ⟨j, 0, 0⟩ = s.fs.content j := by simp [unread, s4]
    have st5 : PStep cfg .reader s4 _ :=
      .readSome s4 ⟨j, 0, 0⟩ 0 sz rfl (by omega) rfl (by omega) (by rw [hun]; exact Nat.le_refl _)
    refine ⟨_, r4.trans (.step st5 (.refl _)), ?_, ?_, ?_, rfl, rfl, rfl⟩
    · simp only [hun]; simp [s4, sz]
    · simp [sz]
    · simp [s4, sz]

end Rare.Follow

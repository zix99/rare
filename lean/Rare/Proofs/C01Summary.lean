import Rare.Model.C01Summary
import Rare.Proofs.C11Str
import Rare.Proofs.C17Atoi
/-! Helper lemmas for the summary line of C01 (`Model/C01Summary.lean`). -/
namespace Rare.C01
open Rare

theorem huiLoop_eq : ∀ (f v ci : Nat) (acc : Bytes), huiLoop f v ci acc = C11.hiLoopN f v ci acc
  | 0, _, _, _ => rfl
  | f + 1, v, ci, acc => by
    unfold huiLoop C11.hiLoopN
    by_cases hv : v = 0
    · simp [hv]
    · simp only [hv, if_false]
      exact huiLoop_eq f _ _ _

theorem natDigits_strip (n : Nat) : C11.Spec.stripCommas (natDigits n) = natDigits n := by
  unfold C11.Spec.stripCommas
  rw [List.filter_eq_self]
  intro c hc
  have := List.all_eq_true.mp (natDigits_all n) c hc
  simp only [isDigitB, Bool.and_eq_true, decide_eq_true_eq] at this
  simp only [ne_eq, decide_not, Bool.not_eq_eq_eq_not, Bool.not_true, decide_eq_false_iff_not]
  intro h; subst h
  exact absurd this.1 (by decide)

/-- Removing the separators from `Hui(n)` leaves the decimal digits of `n`, for every uint64 (and beyond). -/
theorem hui_strip (fmt : Bool) (n : Nat) (h : n < 10 ^ 20) : C11.Spec.stripCommas (hui fmt n) = natDigits n := by
  unfold hui
  cases fmt with
  | false => simpa using natDigits_strip n
  | true =>
    simp only [Bool.not_true, Bool.false_eq_true, if_false]
    unfold humanizeUint
    by_cases hs : n < 100
    · simp only [hs, if_true]; exact natDigits_strip n
    · simp only [hs, if_false]
      rw [huiLoop_eq, C11.hiLoopN_strip 20 n 0 [] h]
      have : n ≠ 0 := by omega
      simp [C11.digitsPos, this, C11.Spec.stripCommas]

/-- With separators on, the digits are grouped in threes from the right. -/
theorem hui_grouped (n : Nat) (h : n < 10 ^ 20) : C11.Spec.groupedInThrees (hui true n) = true := by
  unfold hui
  simp only [Bool.not_true, Bool.false_eq_true, if_false]
  unfold humanizeUint
  by_cases hs : n < 100
  · simp only [hs, if_true]; exact (C11.small_grouped n hs).2
  · simp only [hs, if_false]
    rw [huiLoop_eq]
    have hv0 : n ≠ 0 := by omega
    obtain ⟨g, rest, hg, hg1, hg3, hr⟩ := C11.hiLoopN_groups 20 n 0 [] h C11.groupInv_nil (fun h => absurd h hv0)
    unfold C11.Spec.groupedInThrees
    rw [hg]
    simp only [Bool.and_eq_true, decide_eq_true_eq, List.all_eq_true, beq_iff_eq]
    exact ⟨⟨hg1, hg3⟩, hr⟩

theorem isNumB_digit (d : Nat) (hd : d < 10) : isNumB (UInt8.ofNat (48 + d)) = true := by
  have : ∀ d : Nat, d < 10 → isNumB (UInt8.ofNat (48 + d)) = true := by decide
  exact this d hd

theorem hiLoopN_allNum : ∀ (f n ci : Nat) (acc : Bytes), acc.all isNumB = true →
    (C11.hiLoopN f n ci acc).all isNumB = true
  | 0, _, _, _, h => by simpa [C11.hiLoopN] using h
  | f + 1, n, ci, acc, h => by
    unfold C11.hiLoopN
    by_cases hn : n = 0
    · simpa [hn] using h
    · simp only [hn, if_false]
      apply hiLoopN_allNum
      have hd := isNumB_digit (n % 10) (by omega)
      by_cases hc : ci = 3
      · simp only [hc, if_true, List.all_cons, hd, Bool.true_and]
        simpa [isNumB] using h
      · simp only [hc, if_false, List.all_cons, hd, Bool.true_and]
        exact h

theorem natDigits_allNum (n : Nat) : (natDigits n).all isNumB = true := by
  rw [List.all_eq_true]
  intro c hc
  have := List.all_eq_true.mp (natDigits_all n) c hc
  simp [isNumB, this]

theorem hui_allNum (fmt : Bool) (n : Nat) : (hui fmt n).all isNumB = true := by
  unfold hui
  cases fmt with
  | false => simpa using natDigits_allNum n
  | true =>
    simp only [Bool.not_true, Bool.false_eq_true, if_false]
    unfold humanizeUint
    split
    · exact natDigits_allNum n
    · rw [huiLoop_eq]; exact hiLoopN_allNum 20 n 0 [] rfl

/-- A number followed by text that does not start with a digit or a separator is read back exactly. -/
theorem readNum_hui (fmt : Bool) (n : Nat) (h : n < 10 ^ 20) (rest : Bytes)
    (hr : ∀ c r, rest = c :: r → isNumB c = false) :
    readNum (hui fmt n ++ rest) = (n, rest) := by
  have hall := hui_allNum fmt n
  rw [List.all_eq_true] at hall
  have ht : (hui fmt n ++ rest).takeWhile isNumB = hui fmt n := by
    rw [List.takeWhile_append_of_pos hall]
    cases rest with
    | nil => simp
    | cons c r => simp [hr c r rfl]
  have hd : (hui fmt n ++ rest).dropWhile isNumB = rest := by
    rw [List.dropWhile_append_of_pos hall]
    cases rest with
    | nil => simp
    | cons c r => simp [hr c r rfl]
  unfold readNum
  rw [ht, hd, hui_strip fmt n h, C17.decVal_natDigits]

theorem stripPrefix_append (p s : Bytes) : stripPrefix p (p ++ s) = some s := by
  unfold stripPrefix
  simp [List.prefix_append]

theorem not_isNumB_head_of_prefix (c : UInt8) (t rest : Bytes) (hc : isNumB c = false) :
    ∀ c' r, (c :: t) ++ rest = c' :: r → isNumB c' = false := by
  intro c' r h
  simp only [List.cons_append, List.cons.injEq] at h
  rw [← h.1]; exact hc

/-- The errors part, when present, does not read as the ignored part. -/
theorem errorsPart_not_ignored (fmt : Bool) (e : Nat) :
    stripPrefix (ascii " (Ignored: ")
      (if e > 0 then 32 :: wrap false cRed (ascii "(Errors: " ++ hui fmt e ++ ascii ")") else []) = none := by
  have h1 : ascii " (Ignored: " = [32, 40, 73, 103, 110, 111, 114, 101, 100, 58, 32] := by decide +kernel
  have h2 : ascii "(Errors: " = [40, 69, 114, 114, 111, 114, 115, 58, 32] := by decide +kernel
  split <;> simp [stripPrefix, wrap, h1, h2]

/-- Reading the three numbers back from the line `FWriteExtractorSummary` builds (colours off, thousands
    separators on or off, any error count): exactly the three counters. -/
theorem readSummary_extractorSummary (fmt : Bool) (m r i e : Nat)
    (hm : m < 10 ^ 20) (hr : r < 10 ^ 20) (hi : i < 10 ^ 20) :
    readSummary (extractorSummary fmt false m r i e []) = some (m, r, i) := by
  have hsl : ascii " / " = 32 :: [47, 32] := by decide +kernel
  have hig : ascii " (Ignored: " = 32 :: [40, 73, 103, 110, 111, 114, 101, 100, 58, 32] := by decide +kernel
  have hcl : ascii ")" = 41 :: [] := by decide +kernel
  have hsp : isNumB 32 = false := by decide +kernel
  have hpa : isNumB 41 = false := by decide +kernel
  unfold readSummary extractorSummary matchSummary
  simp only [wrap, Bool.not_false, if_true, List.flatMap_nil, List.append_nil, List.append_assoc]
  rw [stripPrefix_append]
  simp only []
  rw [readNum_hui fmt m hm _ (by rw [hsl]; exact not_isNumB_head_of_prefix 32 _ _ hsp)]
  simp only []
  rw [stripPrefix_append]
  simp only []
  by_cases h0 : i > 0
  · simp only [h0, if_true, List.append_assoc]
    rw [readNum_hui fmt r hr _ (by rw [hig]; exact not_isNumB_head_of_prefix 32 _ _ hsp)]
    simp only []
    rw [stripPrefix_append]
    simp only []
    rw [readNum_hui fmt i hi _ (by rw [hcl]; exact not_isNumB_head_of_prefix 41 _ _ hpa)]
  · have hi0 : i = 0 := by omega
    simp only [h0, if_false, List.nil_append]
    have hrest : ∀ c t, (if e > 0 then 32 :: (ascii "(Errors: " ++ (hui fmt e ++ ascii ")")) else []) = c :: t →
        isNumB c = false := by
      intro c t h
      split at h
      · simp only [List.cons.injEq] at h; rw [← h.1]; exact hsp
      · cases h
    rw [readNum_hui fmt r hr _ hrest]
    simp only []
    have := errorsPart_not_ignored fmt e
    simp only [wrap, Bool.not_false, if_true, List.append_assoc] at this
    rw [this, hi0]


/-! ### the `-n` consumer loop -/

theorem filterBatch_nolimit {α : Type} : ∀ (b printed : List α), filterBatch 0 b printed = (printed ++ b, false)
  | [], printed => by simp [filterBatch]
  | m :: rest, printed => by
    unfold filterBatch
    simp only [Nat.lt_irrefl, decide_false, Bool.false_and, Bool.false_eq_true, if_false]
    rw [filterBatch_nolimit rest]; simp

theorem filterLoop_nolimit {α : Type} : ∀ (bs : List (List α)) (printed : List α),
    filterLoop 0 bs printed = printed ++ bs.flatten
  | [], printed => by simp [filterLoop]
  | b :: rest, printed => by
    unfold filterLoop
    rw [filterBatch_nolimit]
    simp only []
    rw [filterLoop_nolimit rest]; simp

theorem filterBatch_limit {α : Type} (limit : Nat) : ∀ (b printed : List α), printed.length < limit →
    filterBatch limit b printed =
      if printed.length + b.length ≥ limit then (printed ++ b.take (limit - printed.length), true)
      else (printed ++ b, false)
  | [], printed, h => by
    have : ¬ (printed.length ≥ limit) := by omega
    simp [filterBatch, this]
  | m :: rest, printed, h => by
    unfold filterBatch
    have hl : limit > 0 := by omega
    by_cases hge : (printed ++ [m]).length ≥ limit
    · have h1 : printed.length + 1 = limit := by simp at hge; omega
      have h2 : limit - printed.length = 1 := by omega
      have h3 : printed.length + (m :: rest).length ≥ limit := by simp; omega
      simp only [hl, hge, decide_true, Bool.and_self, if_true, h3, h2]
      simp
    · have hlt : (printed ++ [m]).length < limit := by omega
      simp only [hl, hge, decide_true, decide_false, Bool.and_false, Bool.false_eq_true, if_false]
      rw [filterBatch_limit limit rest (printed ++ [m]) hlt]
      simp only [List.length_append, List.length_cons, List.length_nil] at *
      have e1 : limit - printed.length = (limit - (printed.length + 0 + 1)) + 1 := by omega
      by_cases hc : printed.length + 0 + 1 + rest.length ≥ limit
      · have hc' : printed.length + (rest.length + 1) ≥ limit := by omega
        simp only [hc, hc', if_true, e1, List.take_succ_cons, List.append_assoc, List.singleton_append]
      · have hc' : ¬ (printed.length + (rest.length + 1) ≥ limit) := by omega
        simp only [hc, hc', if_false, List.append_assoc, List.singleton_append]

/-- The consumer loop of `rare filter -n limit` prints the first `limit` matches of the stream it receives
    (all of them when there are fewer), whatever the batch boundaries. -/
theorem filterLoop_limit {α : Type} (limit : Nat) : ∀ (bs : List (List α)) (printed : List α),
    printed.length < limit → filterLoop limit bs printed = printed ++ bs.flatten.take (limit - printed.length)
  | [], printed, _ => by simp [filterLoop]
  | b :: rest, printed, h => by
    unfold filterLoop
    rw [filterBatch_limit limit b printed h]
    by_cases hge : printed.length + b.length ≥ limit
    · simp only [hge, if_true, List.flatten_cons]
      rw [List.take_append_of_le_length (by omega)]
    · simp only [hge, if_false, List.flatten_cons]
      rw [filterLoop_limit limit rest (printed ++ b) (by simp; omega)]
      rw [List.take_append]
      have h1 : b.take (limit - printed.length) = b := List.take_of_length_le (by omega)
      simp only [h1, List.length_append, List.append_assoc]
      rw [Nat.sub_sub]

theorem filterLoop_eq {α : Type} (limit : Nat) (bs : List (List α)) :
    filterLoop limit bs [] = if limit = 0 then bs.flatten else bs.flatten.take limit := by
  by_cases h : limit = 0
  · subst h; simp [filterLoop_nolimit]
  · simp only [h, if_false]
    rw [filterLoop_limit limit bs [] (by simp; omega)]; simp

end Rare.C01

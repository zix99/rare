import Rare.Proofs.C16San
import Rare.Proofs.C16Names
import Rare.Proofs.C16Table
/-! C16: what the members of a view are, exactly; UTF-8 iff; the U+FFFD reading. -/
namespace Rare.C16

/-- the members `json` writes, as (name, captured text) -/
def viewMembers (named numbered : Bool) (order : List (Bytes × Int)) (indices : List Int) (line : Bytes) :
    List (Bytes × Bytes) :=
  (if named then namedMembers order indices line else []) ++
    (if numbered then expectedNumbered indices line else [])

theorem namedMembers_perm (order : List (Bytes × Int)) (indices : List Int) (line : Bytes)
    (hnd : (order.map (·.1)).Nodup) :
    (namedMembers order indices line).Perm (expectedNamed order indices line) := by
  have := (sortedEntries_perm 0 order hnd).map fun p => (p.1, capture indices line p.2)
  rwa [List.map_map] at this

theorem namedMembers_sorted (order : List (Bytes × Int)) (indices : List Int) (line : Bytes) :
    (namedMembers order indices line).Pairwise (fun a b => bytesLe a.1 b.1 = true) := by
  simp only [namedMembers]
  rw [List.pairwise_map]
  exact sortNames_sorted _

theorem mem_namedMembers (order : List (Bytes × Int)) (indices : List Int) (line : Bytes)
    (hnd : (order.map (·.1)).Nodup) (m : Bytes × Bytes) :
    m ∈ namedMembers order indices line ↔ ∃ p ∈ order, m = (p.1, capture indices line p.2) := by
  rw [(namedMembers_perm order indices line hnd).mem_iff]
  simp only [expectedNamed, List.mem_map, eq_comm (a := m)]

theorem capture_out_of_range (indices : List Int) (line : Bytes) (i : Nat) (h : indices.length / 2 ≤ i) :
    capture indices line (i : Nat) = [] := by
  unfold capture
  rw [if_pos (by right; omega)]

theorem viewMembers_all_valid (named numbered : Bool) (order : List (Bytes × Int)) (indices : List Int)
    (line : Bytes) (hnd : (order.map (·.1)).Nodup) :
    (viewMembers named numbered order indices line).all pairValid = true ↔
      ((named = true → ∀ p ∈ order, validUtf8 p.1 = true ∧ validUtf8 (capture indices line p.2) = true) ∧
       (numbered = true → ∀ i : Nat, validUtf8 (capture indices line (i : Nat)) = true)) := by
  simp only [viewMembers, List.all_append, Bool.and_eq_true, List.all_eq_true, pairValid]
  constructor
  · rintro ⟨h1, h2⟩
    constructor
    · intro hn p hp
      subst hn
      exact h1 (p.1, capture indices line p.2) ((mem_namedMembers order indices line hnd _).mpr ⟨p, hp, rfl⟩)
    · intro hn i
      subst hn
      by_cases hi : i < indices.length / 2
      · by_cases he : capture indices line (i : Nat) = []
        · rw [he]; decide
        · exact (h2 _ ((mem_expectedNumbered indices line _).mpr ⟨i, hi, he, rfl⟩)).2
      · rw [capture_out_of_range indices line i (by omega)]; decide
  · rintro ⟨h1, h2⟩
    constructor
    · intro m hm
      cases named with
      | false => simp at hm
      | true =>
        obtain ⟨p, hp, e⟩ := (mem_namedMembers order indices line hnd m).mp hm
        subst e
        exact h1 rfl p hp
    · intro m hm
      cases numbered with
      | false => simp at hm
      | true =>
        obtain ⟨i, _, _, rfl⟩ := (mem_expectedNumbered indices line m).mp hm
        exact ⟨valid_natAscii i, h2 rfl i⟩

/-- one direction of `viewMembers_all_valid` that needs no distinctness of the names -/
theorem json_text_utf8 (named numbered : Bool) (order : List (Bytes × Int)) (indices : List Int)
    (line out : Bytes) (ht : GoTyped order indices) (h : json named numbered order indices line = .ok out)
    (hk : ∀ p ∈ order, validUtf8 p.1 = true)
    (hv : ∀ i, validUtf8 (capture indices line i) = true) : validUtf8 out = true := by
  rw [json_ok_text named numbered order indices line out ht h, valid_objText_eq, List.all_eq_true]
  intro m hm
  simp only [pairValid, Bool.and_eq_true]
  rcases List.mem_append.mp hm with hm | hm
  · cases named with
    | false => simp at hm
    | true =>
      simp only [if_true, namedMembers, List.mem_map] at hm
      obtain ⟨n, hn, e⟩ := hm
      subst e
      have : n ∈ order.map (·.1) := (sortNames_perm _).mem_iff.mp hn
      obtain ⟨p, hp, e⟩ := List.mem_map.mp this
      exact ⟨by rw [← e]; exact hk p hp, hv _⟩
  · cases numbered with
    | false => simp at hm
    | true =>
      obtain ⟨i, _, _, rfl⟩ := (mem_expectedNumbered indices line m).mp hm
      exact ⟨valid_natAscii i, hv _⟩

theorem viewMembers_names (named numbered : Bool) (order : List (Bytes × Int)) (indices : List Int) (line : Bytes) :
    (viewMembers named numbered order indices line).map (·.1) =
      (if named then sortNames (order.map (·.1)) else []) ++
      (if numbered then (expectedNumbered indices line).map (·.1) else []) := by
  cases named <;> cases numbered <;> simp [viewMembers, named_names]

theorem dec_names (l : List (Bytes × Bytes)) : (l.map (dec inferredR)).map (·.1) = l.map (·.1) := by
  simp [List.map_map, Function.comp_def, dec]

theorem regex_typed (names : List Bytes) (order : List (Bytes × Int)) (indices : List Int)
    (hp : order.Perm (regexNameTable names)) (hn : (names.length : Int) ≤ maxInt64)
    (hl : (indices.length : Int) ≤ maxInt64) :
    GoTyped order indices ∧ (order.map (·.1)).Nodup := by
  refine ⟨⟨?_, hl⟩, ?_⟩
  · intro p hpm
    have := regexNameTable_entry names p (hp.mem_iff.mp hpm)
    unfold minInt64; omega
  · exact (hp.map (·.1)).nodup_iff.mpr (regexNameTable_nodup names)

theorem dissect_typed (tokens : List (Bytes × Bool)) (table order : List (Bytes × Int)) (indices : List Int)
    (ht : dissectNameTable tokens = .ok table) (hp : order.Perm table) (hn : (tokens.length : Int) ≤ maxInt64)
    (hl : (indices.length : Int) ≤ maxInt64) :
    GoTyped order indices ∧ (order.map (·.1)).Nodup := by
  have hi := dissectNameTable_inv tokens table ht
  refine ⟨⟨?_, hl⟩, ?_⟩
  · intro p hpm
    have := hi.2 p (hp.mem_iff.mp hpm)
    unfold minInt64; omega
  · exact (hp.map (·.1)).nodup_iff.mpr hi.1

/-- **Valid and faithful**, for any iteration order `σ` of a name table: the text parses as one object whose
members are, in order, the named captures of the table (sorted by name) and the non-empty numbered captures. -/
theorem json_faithful_of_perm (named numbered : Bool) (σ table : List (Bytes × Int)) (indices : List Int)
    (line out : Bytes) (hσ : σ.Perm table) (hty : GoTyped σ indices) (hnd : (σ.map (·.1)).Nodup)
    (h : json named numbered σ indices line = .ok out) :
    ∃ ms es, parseObj out = some ms ∧
      es.Perm (if named then expectedNamed table indices line else []) ∧
      es.Pairwise (fun a b => bytesLe a.1 b.1 = true) ∧
      membersDecode ms (es ++ (if numbered then expectedNumbered indices line else [])) = true := by
  have ht := json_ok_text named numbered σ indices line out hty h
  refine ⟨_, (if named then namedMembers σ indices line else []), by rw [ht]; exact parseObj_objText _ _,
    ?_, ?_, membersDecode_dec inferredR decodesTo_inferred _⟩
  · cases named with
    | false => exact .refl _
    | true => exact (namedMembers_perm σ indices line hnd).trans (hσ.map _)
  · cases named with
    | false => exact .nil
    | true => exact namedMembers_sorted σ indices line

end Rare.C16

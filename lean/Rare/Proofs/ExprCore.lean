import Rare.Model.Expr.Core
import Rare.Proofs.GoInt
/-! Laws of the `Comp` monad and of the compile-time optimiser (shared by the properties about expressions). -/
namespace Rare.Expr

theorem ite_le {c : Prop} [Decidable c] {a b n : Nat} (ha : a ≤ n) (hb : b ≤ n) : (if c then a else b) ≤ n := by
  split <;> assumption

/-- What holds of each branch, under its condition, holds of the conditional. -/
theorem ite_elim {α : Sort u} (P : α → Prop) {c : Prop} [Decidable c] {a b : α} (ha : c → P a) (hb : ¬c → P b) :
    P (if c then a else b) := by
  split
  · exact ha ‹_›
  · exact hb ‹_›

theorem Comp.bind_ret {α : Type} (c : Comp α) : c.bind .ret = c := by
  induction c with
  | ret a => rfl
  | getMatch i k ih => simp only [Comp.bind]; congr 1; funext b; exact ih b
  | getKey s k ih => simp only [Comp.bind]; congr 1; funext b; exact ih b
  | panic m => rfl

theorem Comp.bind_assoc {α β γ : Type} (c : Comp α) (f : α → Comp β) (g : β → Comp γ) :
    (c.bind f).bind g = c.bind (fun a => (f a).bind g) := by
  induction c with
  | ret a => rfl
  | getMatch i k ih => simp only [Comp.bind]; congr 1; funext b; exact ih b
  | getKey s k ih => simp only [Comp.bind]; congr 1; funext b; exact ih b
  | panic m => rfl

@[simp] theorem Comp.ret_bind {α β : Type} (a : α) (f : α → Comp β) : (Comp.ret a).bind f = f a := rfl

@[simp] theorem Comp.bind_eq {α β : Type} (c : Comp α) (f : α → Comp β) : c >>= f = c.bind f := rfl
@[simp] theorem Comp.pure_eq {α : Type} (a : α) : (pure a : Comp α) = .ret a := rfl

/-- The probe counter only grows. -/
theorem Comp.probeN_ge {α : Type} (c : Comp α) : ∀ (n : Nat) (a : α) (m : Nat), c.probeN n = .ok (a, m) → n ≤ m := by
  induction c with
  | ret a => intro n a' m h; simp [Comp.probeN] at h; omega
  | getMatch i k ih => intro n a m h; simp only [Comp.probeN] at h; have := ih [] _ _ _ h; omega
  | getKey s k ih => intro n a m h; simp only [Comp.probeN] at h; have := ih [] _ _ _ h; omega
  | panic msg => intro n a m h; simp [Comp.probeN] at h

/-- `EvalStaticStage` says "constant" exactly when the stage makes no look-up at all: it is then a
    literal, and its value is the same in every context. -/
theorem Comp.probe_constant {α : Type} (c : Comp α) (v : α) (h : c.probe = .ok (v, true)) : c = .ret v := by
  unfold Comp.probe at h
  cases c with
  | ret a => simp [Comp.probeN] at h; rw [h]
  | getMatch i k =>
    simp only [Comp.probeN] at h
    split at h
    · rename_i a n heq
      have := Comp.probeN_ge _ _ _ _ heq
      simp at h; omega
    · simp at h
  | getKey s k =>
    simp only [Comp.probeN] at h
    split at h
    · rename_i a n heq
      have := Comp.probeN_ge _ _ _ _ heq
      simp at h; omega
    · simp at h
  | panic m => simp [Comp.probeN] at h

theorem Comp.run_ret {α : Type} (ctx : Ctx) (v : α) : (Comp.ret v).run ctx = .ok v := rfl

/-- Running a sequence: run the first part, hand its value on, stop at its panic. -/
theorem Comp.run_bind {α β : Type} (c : Comp α) (f : α → Comp β) (ctx : Ctx) :
    (c.bind f).run ctx = match c.run ctx with
      | .ok a => (f a).run ctx
      | .error m => .error m := by
  induction c with
  | ret a => rfl
  | getMatch i k ih => exact ih _
  | getKey s k ih => exact ih _
  | panic m => rfl

theorem Comp.run_bind_ok {α β : Type} {ctx : Ctx} {c : Comp α} {f : α → Comp β} {a : α}
    (h : c.run ctx = .ok a) : (c.bind f).run ctx = (f a).run ctx := by
  rw [Comp.run_bind, h]

/-- The probe of a sequence: the second part goes on counting where the first stopped. -/
theorem Comp.probeN_bind {α β : Type} (c : Comp α) (f : α → Comp β) : ∀ n,
    (c.bind f).probeN n = match c.probeN n with
      | .ok (a, n') => (f a).probeN n'
      | .error m => .error m := by
  induction c with
  | ret a => intro n; rfl
  | getMatch i k ih => intro n; exact ih _ _
  | getKey s k ih => intro n; exact ih _ _
  | panic m => intro n; rfl

theorem concatStages_append (a b : List Stage) :
    concatStages (a ++ b) = (concatStages a).bind fun x => (concatStages b).bind fun y => .ret (x ++ y) := by
  induction a with
  | nil =>
    simp only [List.nil_append, concatStages, Comp.ret_bind]
    exact (Comp.bind_ret _).symm
  | cons s rest ih =>
    simp only [List.cons_append, concatStages, Comp.bind_eq, Comp.pure_eq, ih, Comp.bind_assoc, Comp.ret_bind]
    congr 1; funext x
    congr 1; funext y
    congr 1; funext z
    simp

theorem concatStages_lit (b : Bytes) : concatStages [Stage.lit b] = .ret b := by
  simp [concatStages, Stage.lit]

theorem joinStages_eq (l : List Stage) : joinStages l = concatStages l := by
  match l with
  | [] => rfl
  | [s] =>
    simp only [joinStages, concatStages, Comp.bind_eq, Comp.pure_eq, Comp.ret_bind]
    have : (fun a : Bytes => (Comp.ret (a ++ []) : Comp Bytes)) = Comp.ret := by funext a; simp
    rw [this, Comp.bind_ret]
  | _ :: _ :: _ => rfl

/-- Loop invariant of `optimize`: the pending constant text `sb` followed by the remaining stages,
    appended to what was emitted, concatenates to the same stage. -/
theorem optimizeGo_sound : ∀ (stages : List Stage) (sb : Bytes) (acc out : List Stage),
    optimizeGo stages sb acc = .ok out →
    concatStages out = concatStages (acc ++ [Stage.lit sb] ++ stages) := by
  intro stages
  induction stages with
  | nil =>
    intro sb acc out h
    simp only [optimizeGo] at h
    split at h
    · rename_i he
      simp at h; subst h
      have : sb = [] := by simpa using he
      subst this
      rw [List.append_nil, concatStages_append, concatStages_lit]
      simp only [Comp.ret_bind, List.append_nil]
      exact (Comp.bind_ret _).symm
    · simp at h; subst h; simp
  | cons st rest ih =>
    intro sb acc out h
    simp only [optimizeGo] at h
    split at h
    · simp at h
    · rename_i v hp
      have hst := Comp.probe_constant st v hp
      have := ih _ _ _ h
      rw [this, hst]
      simp only [List.append_assoc, concatStages_append, List.singleton_append,
        concatStages, Comp.bind_eq, Comp.pure_eq, Comp.ret_bind, Comp.bind_assoc, Stage.lit]
    · rename_i v hp
      have := ih _ _ _ h
      rw [this]
      split
      · rename_i he
        have : sb = [] := by simpa using he
        subst this
        simp only [List.append_assoc, concatStages_append, List.singleton_append,
          concatStages, Comp.bind_eq, Comp.pure_eq, Comp.ret_bind, Comp.bind_assoc, Stage.lit, List.nil_append]
      · simp only [List.append_assoc, concatStages_append,
          concatStages, Comp.bind_eq, Comp.pure_eq, Comp.ret_bind, Comp.bind_assoc, Stage.lit, List.nil_append,
          List.cons_append]

theorem optimize_sound (stages out : List Stage) (h : optimize stages = .ok out) :
    concatStages out = concatStages stages := by
  have := optimizeGo_sound stages [] [] out h
  rw [this]
  simp only [List.nil_append, List.cons_append, concatStages, Stage.lit, Comp.bind_eq, Comp.ret_bind, Comp.pure_eq]
  exact Comp.bind_ret _

end Rare.Expr

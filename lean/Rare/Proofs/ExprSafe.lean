import Rare.Proofs.ExprCore
import Rare.Model.Expr.Build
/-!
Panic-freedom of expression stages and function builders (C08).

`Safe c`: no `panic` node is reachable in the interaction tree `c`, whatever the context answers.
`SafeBuilder b`: given safe argument stages, the builder itself does not panic (at compile time)
and the stage it returns is safe.
-/
namespace Rare.Expr

inductive Safe {α : Type} : Comp α → Prop
  | ret (a : α) : Safe (.ret a)
  | getMatch (i : Int) (k : Bytes → Comp α) : (∀ b, Safe (k b)) → Safe (.getMatch i k)
  | getKey (s : Bytes) (k : Bytes → Comp α) : (∀ b, Safe (k b)) → Safe (.getKey s k)

theorem Safe.run {α : Type} {c : Comp α} (h : Safe c) (ctx : Ctx) : ∃ v, c.run ctx = .ok v := by
  induction h with
  | ret a => exact ⟨a, rfl⟩
  | getMatch i k _ ih => exact ih _
  | getKey s k _ ih => exact ih _

theorem Safe.probeN {α : Type} {c : Comp α} (h : Safe c) : ∀ n, ∃ v m, c.probeN n = .ok (v, m) := by
  induction h with
  | ret a => intro n; exact ⟨a, n, rfl⟩
  | getMatch i k _ ih => intro n; exact ih _ _
  | getKey s k _ ih => intro n; exact ih _ _

theorem Safe.probe {α : Type} {c : Comp α} (h : Safe c) : ∃ v b, c.probe = .ok (v, b) := by
  obtain ⟨v, m, hp⟩ := h.probeN 0
  exact ⟨v, m == 0, by simp [Comp.probe, hp]⟩

theorem Safe.bind {α β : Type} {c : Comp α} {f : α → Comp β} (h : Safe c) (hf : ∀ a, Safe (f a)) :
    Safe (c.bind f) := by
  induction h with
  | ret a => exact hf a
  | getMatch i k _ ih => exact .getMatch _ _ ih
  | getKey s k _ ih => exact .getKey _ _ ih

theorem Safe.bind' {α β : Type} {c : Comp α} {f : α → Comp β} (h : Safe c) (hf : ∀ a, Safe (f a)) :
    Safe (c >>= f) := Safe.bind h hf

theorem Safe.pure {α : Type} (a : α) : Safe (Pure.pure a : Comp α) := .ret a

theorem Safe.map {α β : Type} {c : Comp α} (f : α → β) (h : Safe c) : Safe (f <$> c) :=
  Safe.bind h fun a => .ret (f a)

theorem Safe.ite {α : Type} {c : Prop} [Decidable c] {a b : Comp α} (ha : Safe a) (hb : Safe b) :
    Safe (if c then a else b) := by
  split <;> assumption

theorem Safe.withSub {α : Type} {c : Comp α} (h : Safe c) (v0 v1 : Bytes) : Safe (c.withSub v0 v1) := by
  induction h with
  | ret a => exact .ret a
  | getMatch i k _ ih =>
    simp only [Comp.withSub]
    split
    · exact .getMatch _ _ ih
    · exact ih _
  | getKey s k _ ih => exact .getKey _ _ ih

theorem Safe.match_ (i : Int) : Safe (Comp.match_ i) := .getMatch _ _ fun b => .ret b
theorem Safe.key (k : Bytes) : Safe (Comp.key k) := .getKey _ _ fun b => .ret b
theorem Safe.lit (b : Bytes) : Safe (Stage.lit b) := .ret b

theorem Safe.concat {l : List Stage} (h : ∀ s ∈ l, Safe s) : Safe (concatStages l) := by
  induction l with
  | nil => exact .ret _
  | cons s rest ih =>
    exact Safe.bind (h s (by simp)) fun a => Safe.bind (ih fun x hx => h x (by simp [hx])) fun b => .ret _

theorem Safe.join {l : List Stage} (h : ∀ s ∈ l, Safe s) : Safe (joinStages l) := by
  rw [joinStages_eq]; exact Safe.concat h

/-- A builder that, on safe arguments, neither panics at compile time nor returns a stage that can. -/
def SafeBuilder (b : Builder) : Prop :=
  ∀ args : List Stage, (∀ a ∈ args, Safe a) →
    ∃ built, b args = .ok built ∧ ∀ s, built.stage = some s → Safe s

def SafeRegistry (reg : Registry) : Prop := ∀ name b, reg name = some b → SafeBuilder b

/-- What `SafeBuilder` asks of one builder result. -/
def SafeResult (r : Except String Built) : Prop :=
  ∃ built, r = .ok built ∧ ∀ s, built.stage = some s → Safe s

theorem SafeResult.ok {s : Stage} (h : Safe s) : SafeResult (ok s) :=
  ⟨⟨some s, none⟩, rfl, fun s' h' => by cases h'; exact h⟩

theorem SafeResult.stageErr (marker : Bytes) (tag : String) : SafeResult (stageErr marker tag) :=
  ⟨⟨some (Stage.lit marker), some tag⟩, rfl, fun s' h' => by cases h'; exact Safe.lit _⟩

theorem SafeResult.ite {c : Prop} [Decidable c] {a b : Except String Built} (ha : SafeResult a) (hb : SafeResult b) :
    SafeResult (if c then a else b) := by
  split <;> assumption

theorem SafeResult.errArgCount : SafeResult errArgCount := SafeResult.stageErr _ _
theorem SafeResult.errNum : SafeResult errNum := SafeResult.stageErr _ _
theorem SafeResult.errConst : SafeResult errConst := SafeResult.stageErr _ _
theorem SafeResult.errValue : SafeResult errValue := SafeResult.stageErr _ _
theorem SafeResult.errEmpty : SafeResult errEmpty := SafeResult.stageErr _ _
theorem SafeResult.errEnum : SafeResult errEnum := SafeResult.stageErr _ _
theorem SafeResult.errFile : SafeResult errFile := SafeResult.stageErr _ _
theorem SafeResult.errParsing : SafeResult errParsing := SafeResult.stageErr _ _

/-! The static-evaluation helpers of `Build.lean` do not fail on safe arguments. -/

theorem evalStageInt_safe {st : Stage} (h : Safe st) : ∃ r, evalStageInt st = .ok r := by
  obtain ⟨v, b, hp⟩ := h.probe
  cases b <;> simp [evalStageInt, hp]

theorem evalArgInt_safe {args : List Stage} (h : ∀ a ∈ args, Safe a) (idx : Nat) (dflt : Int) :
    ∃ r, evalArgInt args idx dflt = .ok r := by
  unfold evalArgInt
  cases hg : args[idx]? with
  | none => exact ⟨_, rfl⟩
  | some st => exact evalStageInt_safe (h st (List.mem_of_getElem? hg))

theorem evalStageIndexOrDefault_safe {args : List Stage} (h : ∀ a ∈ args, Safe a) (idx : Nat) (dflt : Bytes) :
    ∃ r, evalStageIndexOrDefault args idx dflt = .ok r := by
  unfold evalStageIndexOrDefault
  cases hg : args[idx]? with
  | none => exact ⟨_, rfl⟩
  | some st =>
    obtain ⟨v, b, hp⟩ := (h st (List.mem_of_getElem? hg)).probe
    cases b <;> simp [hp]

theorem evalTypedStage_safe {α : Type} (parser : Bytes → Option α) {st : Stage} (h : Safe st) :
    evalTypedStage st parser = .ok none ∨ ∃ t, evalTypedStage st parser = .ok (some t) ∧ Safe t := by
  obtain ⟨v, b, hp⟩ := h.probe
  unfold evalTypedStage
  rw [hp]
  cases b with
  | true =>
    simp only []
    cases parser v with
    | none => left; rfl
    | some p => right; exact ⟨_, rfl, .ret _⟩
  | false =>
    right
    exact ⟨_, rfl, Safe.bind' h fun a => Safe.pure _⟩

theorem mapTypedArgs_safe {α : Type} (parser : Bytes → Option α) : ∀ (args : List Stage), (∀ a ∈ args, Safe a) →
    mapTypedArgs parser args = .ok none ∨
    ∃ ts, mapTypedArgs parser args = .ok (some ts) ∧ ∀ t ∈ ts, Safe t
  | [], _ => .inr ⟨[], rfl, by simp⟩
  | a :: rest, h => by
    have ha : Safe a := h a (by simp)
    have hr : ∀ x ∈ rest, Safe x := fun x hx => h x (by simp [hx])
    unfold mapTypedArgs
    rcases evalTypedStage_safe parser ha with e | ⟨t, e, ht⟩
    · left; rw [e]
    · rw [e]
      rcases mapTypedArgs_safe parser rest hr with e2 | ⟨ts, e2, hts⟩
      · left; rw [e2]
      · right
        rw [e2]
        refine ⟨t :: ts, rfl, ?_⟩
        intro x hx
        rcases List.mem_cons.mp hx with e3 | e3
        · rw [e3]; exact ht
        · exact hts x e3

def AllSafe (l : List Stage) : Prop := ∀ s ∈ l, Safe s

theorem AllSafe.append {a b : List Stage} (ha : AllSafe a) (hb : AllSafe b) : AllSafe (a ++ b) := by
  intro s hs; rcases List.mem_append.mp hs with h | h
  · exact ha s h
  · exact hb s h

theorem AllSafe.single {s : Stage} (h : Safe s) : AllSafe [s] := by
  intro x hx; simp at hx; rw [hx]; exact h

theorem stageSimpleVariable_safe (a : List Char) : Safe (stageSimpleVariable a) := by
  unfold stageSimpleVariable; split
  · exact Safe.match_ _
  · exact Safe.key _

/-- `optimize` of safe stages succeeds and yields safe stages. -/
theorem optimizeGo_safe : ∀ (stages : List Stage) (sb : Bytes) (acc : List Stage), AllSafe stages → AllSafe acc →
    ∃ out, optimizeGo stages sb acc = .ok out ∧ AllSafe out := by
  intro stages
  induction stages with
  | nil =>
    intro sb acc _ ha
    refine ⟨_, rfl, ?_⟩
    split
    · exact ha
    · exact ha.append (AllSafe.single (Safe.lit _))
  | cons st rest ih =>
    intro sb acc hs ha
    have hst : Safe st := hs st (by simp)
    have hrest : AllSafe rest := fun x hx => hs x (by simp [hx])
    obtain ⟨v, b, hp⟩ := hst.probe
    simp only [optimizeGo, hp]
    cases b with
    | true => exact ih _ _ hrest ha
    | false =>
      apply ih _ _ hrest
      apply AllSafe.append _ (AllSafe.single hst)
      split
      · exact ha
      · exact ha.append (AllSafe.single (Safe.lit _))

end Rare.Expr

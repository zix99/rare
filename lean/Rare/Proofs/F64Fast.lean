import Rare.Base.F64
/-!
# Binary64 operations the kernel evaluates quickly

The kernel computes `Nat.log2` by its recursion, one step per bit, and every rounding calls it (`F64.scaleOf`) on
`⌊q·2^1074⌋`, a number of some 1100 bits: three quarters of the work of one `F64` operation.  `Fast.log2` finds the
top bit by binary search with `Nat.pow`, `Nat.ble` and `Nat.shiftRight`, which the kernel runs on GMP numbers.  The
operations below are those of `Base/F64.lean` that round, word for word, over `Fast.log2`; each is proved equal to
its original as a function.  A table of closed `F64` terms is therefore checked by

    unfold <the model functions down to the F64 operations>
    simp (config := { zeta := false }) only [Fast.ops]
    decide +kernel

(`zeta := false` keeps the `let`s of straight-line code shared.)
-/
namespace Rare.F64.Fast

/-- The position of the top bit of `n < 2 ^ 2 ^ k`, by binary search. -/
def log2B : Nat → Nat → Nat
  | 0, _ => 0
  | k + 1, n => if 2 ^ 2 ^ k ≤ n then 2 ^ k + log2B k (n >>> 2 ^ k) else log2B k n

theorem log2B_zero : ∀ k, log2B k 0 = 0
  | 0 => rfl
  | k + 1 => by
    have : ¬ 2 ^ 2 ^ k ≤ 0 := Nat.not_le.mpr (Nat.pow_pos (by decide))
    rw [log2B, if_neg this, log2B_zero k]

theorem log2B_spec : ∀ (k n : Nat), n ≠ 0 → n < 2 ^ 2 ^ k → 2 ^ log2B k n ≤ n ∧ n < 2 ^ (log2B k n + 1)
  | 0, n, h0, h => by simp [log2B]; omega
  | k + 1, n, h0, h => by
    unfold log2B
    split
    · rename_i hP
      have hpos : 0 < 2 ^ 2 ^ k := Nat.pow_pos (by decide)
      have hsq : 2 ^ 2 ^ (k + 1) = 2 ^ 2 ^ k * 2 ^ 2 ^ k := by rw [Nat.pow_succ, Nat.mul_two, Nat.pow_add]
      rw [Nat.shiftRight_eq_div_pow]
      have hm0 : n / 2 ^ 2 ^ k ≠ 0 := Nat.ne_of_gt (Nat.div_pos hP hpos)
      have hmP : n / 2 ^ 2 ^ k < 2 ^ 2 ^ k := Nat.div_lt_of_lt_mul (hsq ▸ h)
      obtain ⟨h1, h2⟩ := log2B_spec k _ hm0 hmP
      rw [Nat.add_assoc, Nat.pow_add, Nat.pow_add]
      constructor
      · exact Nat.le_trans (Nat.mul_le_mul_left _ h1) (Nat.mul_div_le n _)
      · exact Nat.lt_of_lt_of_le (Nat.lt_mul_div_succ n hpos) (Nat.mul_le_mul_left _ h2)
    · exact log2B_spec k n h0 (by omega)

/-- `Nat.log2`, computed by `log2B` below `2 ^ 2048`. -/
def log2 (n : Nat) : Nat := if n < 2 ^ 2 ^ 11 then log2B 11 n else n.log2

theorem log2_eq (n : Nat) : log2 n = n.log2 := by
  unfold log2
  split
  · rename_i h
    by_cases h0 : n = 0
    · rw [h0, log2B_zero, Nat.log2_zero]
    · exact ((Nat.log2_eq_iff h0).mpr (log2B_spec 11 n h0 h)).symm
  · rfl

/-! The operations of `Base/F64.lean` that round, with `log2` in place of `Nat.log2`. -/

def scaleOf (t : Nat) : Nat := if t < P53 then 0 else log2 t - 52

def roundMag (q : Rat) : Nat :=
  let y := q * two1074
  let E := scaleOf y.floor.toNat
  let m := (roundNE (y / ((2 ^ E : Nat) : Rat))).toNat
  min (E * P52 + m) InfMag

def ofRatS (zsign : Bool) (q : Rat) : F64 :=
  if q = 0 then zero zsign else ofSM (decide (q < 0)) (roundMag (absRat q))

def ofRat (q : Rat) : F64 := ofRatS false q

def add (x y : F64) : F64 :=
  if x.isNaN || y.isNaN then nan
  else if x.isInf then (if y.isInf && x.sign != y.sign then nan else x)
  else if y.isInf then y
  else ofRatS (x.sign && y.sign) (x.toRat + y.toRat)

def sub (x y : F64) : F64 := add x (neg y)

def mul (x y : F64) : F64 :=
  let s := x.sign != y.sign
  if x.isNaN || y.isNaN then nan
  else if x.isInf || y.isInf then (if x.isZero || y.isZero then nan else inf s)
  else ofRatS s (x.toRat * y.toRat)

def div (x y : F64) : F64 :=
  let s := x.sign != y.sign
  if x.isNaN || y.isNaN then nan
  else if x.isInf then (if y.isInf then nan else inf s)
  else if y.isInf then zero s
  else if y.isZero then (if x.isZero then nan else inf s)
  else ofRatS s (x.toRat / y.toRat)

def sqrt (x : F64) : F64 :=
  if x.isNaN then nan
  else if x.isZero then x
  else if x.sign then nan
  else if x.isInf then x
  else
    let n := magSig x.mag * 2 ^ magScale x.mag * 2 ^ 130
    let s := isqrt n
    if s * s = n then ofRat ((s : Rat) / ((2 ^ 602 : Nat) : Rat))
    else ofRat (((2 * s + 1 : Nat) : Rat) / ((2 ^ 603 : Nat) : Rat))

def integral (f : Rat → Int) (x : F64) : F64 :=
  if x.isNaN then nan
  else if x.isInf then x
  else ofRatS x.sign ((f x.toRat : Int) : Rat)

def ofInt (n : Int) : F64 := ofRat (n : Rat)

theorem scaleOf_eq : @F64.scaleOf = scaleOf := by funext t; simp only [F64.scaleOf, scaleOf, log2_eq]
theorem roundMag_eq : @F64.roundMag = roundMag := by funext q; simp only [F64.roundMag, roundMag, scaleOf_eq]
theorem ofRatS_eq : @F64.ofRatS = ofRatS := by funext s q; simp only [F64.ofRatS, ofRatS, roundMag_eq]
theorem ofRat_eq : @F64.ofRat = ofRat := by funext q; simp only [F64.ofRat, ofRat, ofRatS_eq]
theorem add_eq : @F64.add = add := by funext x y; simp only [F64.add, add, ofRatS_eq]
theorem sub_eq : @F64.sub = sub := by funext x y; simp only [F64.sub, sub, add_eq]
theorem mul_eq : @F64.mul = mul := by funext x y; simp only [F64.mul, mul, ofRatS_eq]
theorem div_eq : @F64.div = div := by funext x y; simp only [F64.div, div, ofRatS_eq]
theorem sqrt_eq : @F64.sqrt = sqrt := by funext x; simp only [F64.sqrt, sqrt, ofRat_eq]
theorem integral_eq : @F64.integral = integral := by funext f x; simp only [F64.integral, integral, ofRatS_eq]
theorem ofInt_eq : @F64.ofInt = ofInt := by funext n; simp only [F64.ofInt, ofInt, ofRat_eq]
theorem floor_eq : @F64.floor = integral Rat.floor := by funext x; simp only [F64.floor, integral_eq]
theorem ceil_eq : @F64.ceil = integral Rat.ceil := by funext x; simp only [F64.ceil, integral_eq]
theorem trunc_eq : @F64.trunc = integral truncRat := by funext x; simp only [F64.trunc, integral_eq]
theorem roundHalfAway_eq : @F64.roundHalfAway = integral roundAwayRat := by
  funext x; simp only [F64.roundHalfAway, integral_eq]

/-- All of the above, for `simp only [Fast.ops]`. -/
theorem ops :
    @F64.ofRatS = ofRatS ∧ @F64.ofRat = ofRat ∧ @F64.add = add ∧ @F64.sub = sub ∧ @F64.mul = mul ∧ @F64.div = div ∧
    @F64.sqrt = sqrt ∧ @F64.integral = integral ∧ @F64.ofInt = ofInt ∧ @F64.floor = integral Rat.floor ∧
    @F64.ceil = integral Rat.ceil ∧ @F64.trunc = integral truncRat ∧ @F64.roundHalfAway = integral roundAwayRat :=
  ⟨ofRatS_eq, ofRat_eq, add_eq, sub_eq, mul_eq, div_eq, sqrt_eq, integral_eq, ofInt_eq, floor_eq, ceil_eq, trunc_eq,
   roundHalfAway_eq⟩

end Rare.F64.Fast

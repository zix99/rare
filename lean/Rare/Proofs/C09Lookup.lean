import Rare.Proofs.C09Errors
import Rare.Spec.C09Lookup
import Rare.Proofs.C09Digits
import Rare.Proofs.C02
/-! C09: the lone-word rule (`stageSimpleVariable`) and `strconv.Atoi` against the declarative `IntLit`. -/
namespace Rare.C09
open Rare Rare.Expr

theorem digitsVal_eq_foldl (ds : Bytes) : ∀ acc, digitsVal ds acc = ds.foldl (fun acc d => acc * 10 + (d.toNat - 48)) acc := by
  induction ds with
  | nil => intro _; rfl
  | cons d r ih => intro acc; simp [digitsVal, ih]

theorem digitsVal_decValue (ds : Bytes) : digitsVal ds 0 = decValue ds := digitsVal_eq_foldl ds 0

theorem isDigitB_iff (d : UInt8) : isDigitB d = true ↔ 48 ≤ d.toNat ∧ d.toNat ≤ 57 := by
  simp [isDigitB, UInt8.le_iff_toNat_le]

theorem digits_iff (ds : Bytes) : (ds.isEmpty || !ds.all isDigitB) = false ↔ Digits ds := by
  simp only [Bool.or_eq_false_iff, Bool.not_eq_false', List.all_eq_true, Digits, isDigitB_iff]
  constructor
  · rintro ⟨h1, h2⟩; exact ⟨by simpa using h1, h2⟩
  · rintro ⟨h1, h2⟩; exact ⟨by simpa using h1, h2⟩

theorem digits_head {d : UInt8} {r : Bytes} (h : Digits (d :: r)) : d ≠ 43 ∧ d ≠ 45 := by
  have := h.2 d (by simp)
  constructor <;> (intro hd; subst hd; revert this; decide)

theorem atoi_plus (ds : Bytes) :
    atoi (43 :: ds) = if (ds.isEmpty || !ds.all isDigitB) then none
      else if inInt64 (decValue ds : Int) then some (decValue ds : Int) else none := by
  simp [atoi, digitsVal_decValue]

theorem atoi_minus (ds : Bytes) :
    atoi (45 :: ds) = if (ds.isEmpty || !ds.all isDigitB) then none
      else if inInt64 (-(decValue ds : Int)) then some (-(decValue ds : Int)) else none := by
  simp [atoi, digitsVal_decValue]

theorem inInt64_nonneg (n : Nat) : inInt64 (n : Int) = true ↔ (n : Int) ≤ 9223372036854775807 := by
  unfold inInt64 minInt64 maxInt64
  rw [Bool.and_eq_true, decide_eq_true_iff, decide_eq_true_iff]
  omega

theorem inInt64_neg (n : Nat) : inInt64 (-(n : Int)) = true ↔ (n : Int) ≤ 9223372036854775808 := by
  unfold inInt64 minInt64 maxInt64
  rw [Bool.and_eq_true, decide_eq_true_iff, decide_eq_true_iff]
  omega

theorem atoi_other (b : Bytes) (h1 : ∀ ds, b ≠ 43 :: ds) (h2 : ∀ ds, b ≠ 45 :: ds) :
    atoi b = if (b.isEmpty || !b.all isDigitB) then none
      else if inInt64 (decValue b : Int) then some (decValue b : Int) else none := by
  unfold atoi
  split
  next neg ds heq =>
    split at heq
    · next r => exact absurd rfl (h1 r)
    · next r => exact absurd rfl (h2 r)
    · cases heq
      simp [digitsVal_decValue]

theorem atoi_unsigned (ds : Bytes) (h : Digits ds) :
    atoi ds = if inInt64 (decValue ds : Int) then some (decValue ds : Int) else none := by
  rw [atoi_other ds, if_neg (by rw [(digits_iff ds).mpr h]; simp)]
  · intro r e; subst e; exact (digits_head h).1 rfl
  · intro r e; subst e; exact (digits_head h).2 rfl

theorem atoi_of_intLit {b : Bytes} {v : Int} (h : IntLit b v) : atoi b = some v := by
  cases h with
  | plain _ hd hr => rw [atoi_unsigned _ hd, if_pos ((inInt64_nonneg _).mpr hr)]
  | plus ds hd hr =>
    rw [atoi_plus, if_neg (by rw [(digits_iff ds).mpr hd]; simp), if_pos ((inInt64_nonneg _).mpr hr)]
  | minus ds hd hr =>
    rw [atoi_minus, if_neg (by rw [(digits_iff ds).mpr hd]; simp), if_pos ((inInt64_neg _).mpr hr)]

/-- What the common tail of `atoi` (digits only, value in range) says when it answers `some`. -/
theorem of_atoi_tail {ds : Bytes} {x v : Int}
    (h : (if (ds.isEmpty || !ds.all isDigitB) then none else if inInt64 x then some x else none) = some v) :
    Digits ds ∧ inInt64 x = true ∧ x = v := by
  split at h
  · cases h
  · next hd =>
    split at h
    · next hr => cases h; exact ⟨(digits_iff ds).mp (by simpa using hd), hr, rfl⟩
    · cases h

theorem intLit_of_atoi {b : Bytes} {v : Int} (h : atoi b = some v) : IntLit b v := by
  by_cases h43 : ∃ ds, b = 43 :: ds
  · obtain ⟨ds, rfl⟩ := h43
    rw [atoi_plus] at h
    obtain ⟨hd, hr, rfl⟩ := of_atoi_tail h
    exact .plus ds hd ((inInt64_nonneg _).mp hr)
  by_cases h45 : ∃ ds, b = 45 :: ds
  · obtain ⟨ds, rfl⟩ := h45
    rw [atoi_minus] at h
    obtain ⟨hd, hr, rfl⟩ := of_atoi_tail h
    exact .minus ds hd ((inInt64_neg _).mp hr)
  rw [atoi_other b (fun ds e => h43 ⟨ds, e⟩) (fun ds e => h45 ⟨ds, e⟩)] at h
  obtain ⟨hd, hr, rfl⟩ := of_atoi_tail h
  exact .plain b hd ((inInt64_nonneg _).mp hr)

/-- `strconv.Atoi` (the model's `atoi`) accepts exactly the decimal integer literals. -/
theorem atoi_iff_intLit (b : Bytes) (v : Int) : atoi b = some v ↔ IntLit b v :=
  ⟨intLit_of_atoi, atoi_of_intLit⟩

theorem atoi_none_iff (b : Bytes) : atoi b = none ↔ ∀ v, ¬ IntLit b v := by
  constructor
  · intro h v hv; rw [atoi_of_intLit hv] at h; cases h
  · intro h
    cases ha : atoi b with
    | none => rfl
    | some v => exact absurd (intLit_of_atoi ha) (h v)

/-! ### the lone-word rule -/

theorem optimize_single_dyn (s : Stage) (v : Bytes) (hp : s.probe = .ok (v, false)) : optimize [s] = .ok [s] := by
  simp [optimize, optimizeGo, hp]

theorem probe_simpleVariable (a : List Char) : ∃ v, (stageSimpleVariable a).probe = .ok (v, false) := by
  unfold stageSimpleVariable
  cases atoi (charsToBytes a) <;> exact ⟨[], rfl⟩

/-- A statement whose (balanced, backslash-free) body splits into ONE argument compiles, without errors, to the
    single stage `stageSimpleVariable` of that argument, optimiser on or off. -/
theorem compileF_lone (fuel : Nat) (reg : Registry) (opt : Bool) {body : List Char} (hi : Inner body) (a : List Char)
    (hs : splitArgs body = [a]) :
    compileF (fuel + 1) reg opt ('{' :: (body ++ ['}'])) = .ok ([stageSimpleVariable a], []) := by
  obtain ⟨j, hj⟩ := compileF_braced fuel reg opt hi
  rw [hj, close_var fuel reg opt _ j ⟨[], [], body, 0, 1⟩ a hs]
  cases opt with
  | false => simp [finishC]
  | true =>
    obtain ⟨v, hv⟩ := probe_simpleVariable a
    simp [finishC, optimize_single_dyn _ v hv]

theorem run_simpleVariable (a : List Char) (ctx : Ctx) :
    (buildKey [stageSimpleVariable a]).run ctx =
      .ok (match atoi (utf8 a) with | some i => ctx.getMatch i | none => ctx.getKey (utf8 a)) := by
  rw [buildKey, run_concat_single]
  unfold stageSimpleVariable
  rw [utf8_eq]
  cases atoi (utf8 a) <;> rfl

/-- A lone piece between white space: the body is balanced and splits into the piece's value. -/
theorem lone_piece (lead trail : List Char) (p : Piece) (hl : allSpace lead = true) (hp : p.ok) (ht : allSpace trail = true) :
    Inner (lead ++ p.text ++ trail) ∧ splitArgs (lead ++ p.text ++ trail) = [p.value] := by
  have hlo : LayoutOk true [(lead, p)] := ⟨hl, Or.inl rfl, hp, trivial⟩
  refine ⟨?_, ?_⟩
  · have := inner_append (inner_layout _ true hlo) (inner_of_plain (plain_of_space ht))
    simpa [layout] using this
  · have := splitArgs_layout [(lead, p)] trail hlo ht
    simpa [layout] using this

/-- body `lead ++ w ++ trail` of a lone bare word -/
theorem lone_body (lead w trail : List Char) (hl : allSpace lead = true) (hw : bare w = true) (ht : allSpace trail = true) :
    Inner (lead ++ w ++ trail) ∧ splitArgs (lead ++ w ++ trail) = [w] :=
  lone_piece lead trail (.bare w) hl hw ht

/-- body `lead ++ "q" ++ trail` of a lone quoted string -/
theorem lone_quoted_body (lead q trail : List Char) (hl : allSpace lead = true) (hq : plain q = true) (ht : allSpace trail = true) :
    Inner (lead ++ ['"'] ++ q ++ ['"'] ++ trail) ∧ splitArgs (lead ++ ['"'] ++ q ++ ['"'] ++ trail) = [q] := by
  simpa [Piece.text, Piece.value] using lone_piece lead trail (.quoted q) hl hq ht

end Rare.C09

import Rare.Proofs.C19F64b
import Rare.Proofs.F64Arith
/-!
C19: facts about the mirrored trigonometric functions and `exp2` that hold for ALL operands
(`Model/C19Trig.lean`, `IEEE.exp2`): the special values Go documents, and the symmetries the code has bit for bit
because the sign is split off first (`sin`, `tan`, `atan`, `asin` odd, `cos` even).
-/
set_option linter.unusedSimpArgs false

namespace Rare.C19.Trig
open Rare Rare.F64 Rare.C19.IEEE

/-- Equal bit for bit, or both NaN (every NaN renders as `NaN` and behaves the same in every operator). -/
def Same (a b : F64) : Prop := a = b ∨ (a.isNaN = true ∧ b.isNaN = true)

theorem Same.rfl' (a : F64) : Same a a := Or.inl rfl

theorem neg_neg (x : F64) : neg (neg x) = x := by
  have h : neg (neg x) = ofSM (!(neg x).sign) (neg x).mag := rfl
  rw [h, sign_neg, mag_neg, Bool.not_not, ofSM_sign_mag]

theorem key_neg (x : F64) : (neg x).key = -x.key := by
  unfold key; rw [sign_neg, mag_neg]
  cases x.sign <;> simp

theorem isInf_neg (x : F64) : (neg x).isInf = x.isInf := by
  unfold isInf; rw [mag_neg]

theorem key_zeroP : Trig.zeroP.key = 0 := by decide

theorem eq_neg_zero (x : F64) : F64.eq (neg x) Trig.zeroP = F64.eq x Trig.zeroP := by
  unfold F64.eq; rw [isNaN_neg, key_neg, key_zeroP]
  congr 1
  by_cases h : x.key = 0 <;> simp [h] <;> omega

theorem lt_neg_zero (x : F64) : F64.lt (neg x) Trig.zeroP = F64.lt Trig.zeroP x := by
  unfold F64.lt; rw [isNaN_neg, key_neg, key_zeroP]
  have : Trig.zeroP.isNaN = false := by decide
  rw [this]
  by_cases h : 0 < x.key <;> simp [h] <;> omega

theorem lt_zero_neg (x : F64) : F64.lt Trig.zeroP (neg x) = F64.lt x Trig.zeroP := by
  have := lt_neg_zero (neg x)
  rw [neg_neg] at this
  exact this.symm

/-- A non-NaN value is zero, negative or positive – exactly one. -/
theorem trichotomy (x : F64) (hn : x.isNaN = false) :
    (F64.eq x Trig.zeroP = true ∧ F64.lt x Trig.zeroP = false ∧ F64.lt Trig.zeroP x = false) ∨
    (F64.eq x Trig.zeroP = false ∧ F64.lt x Trig.zeroP = true ∧ F64.lt Trig.zeroP x = false) ∨
    (F64.eq x Trig.zeroP = false ∧ F64.lt x Trig.zeroP = false ∧ F64.lt Trig.zeroP x = true) := by
  unfold F64.eq F64.lt
  have : Trig.zeroP.isNaN = false := by decide
  rw [this, hn, key_zeroP]
  by_cases h1 : x.key = 0
  · left; simp [h1]
  · by_cases h2 : x.key < 0
    · right; left; simp [h1, h2]; omega
    · right; right; simp [h1, h2]; omega

/-! ### `sin`, `tan`: the saved sign only negates the result -/

theorem sinBody_sign (x : F64) (s : Bool) : sinBody x (!s) = neg (sinBody x s) := by
  unfold sinBody
  generalize reduce true x = r
  obtain ⟨j, z⟩ := r
  simp only
  by_cases hj : j > 3 <;> cases s <;> simp [hj, neg_neg]

theorem tanBody_sign (x : F64) (s : Bool) : tanBody x (!s) = neg (tanBody x s) := by
  unfold tanBody
  generalize reduce false x = r
  obtain ⟨j, z⟩ := r
  simp only
  cases s <;> simp [neg_neg]

theorem isNaN_of_same_neg {a : F64} (h : a.isNaN = true) : (neg a).isNaN = true := by rw [isNaN_neg]; exact h

theorem inf_not_nan {x : F64} (h : x.isInf = true) : x.isNaN = false := by
  simp only [isInf, isNaN, decide_eq_true_eq, decide_eq_false_iff_not] at *
  omega

theorem inf_ne_zero {x : F64} (h : x.isInf = true) : F64.eq x Trig.zeroP = false := by
  have hm : x.mag = InfMag := by simpa [isInf] using h
  unfold F64.eq
  rw [key_zeroP]
  unfold key
  cases hs : x.sign <;> simp [hs, hm, inf_not_nan h]

/-- The shell `sin` and `tan` share: the special values, then the routine on `|x|` with the saved sign. -/
def oddShell (body : F64 → Bool → F64) (x : F64) : F64 :=
  if F64.eq x zeroP || x.isNaN then x
  else if x.isInf then F64.nan
  else if F64.lt x zeroP then body (F64.neg x) true
  else body x false

/-- The saved sign only negates the result, so the shell is odd (NaN and ±Inf: both sides NaN). -/
theorem oddShell_neg (body : F64 → Bool → F64) (hb : ∀ x s, body x (!s) = neg (body x s)) (x : F64) :
    Same (oddShell body (neg x)) (neg (oddShell body x)) := by
  unfold oddShell
  rw [eq_neg_zero, isNaN_neg, isInf_neg, lt_neg_zero, neg_neg]
  by_cases hn : x.isNaN = true
  · right; simp [hn, isNaN_neg]
  have hn' : x.isNaN = false := by simpa using hn
  by_cases hi : x.isInf = true
  · right; simp [inf_ne_zero hi, hn', hi, isNaN_neg, isNaN_nan]
  have hi' : x.isInf = false := by simpa using hi
  left
  rcases trichotomy x hn' with ⟨h1, h2, h3⟩ | ⟨h1, h2, h3⟩ | ⟨h1, h2, h3⟩
  · simp [h1]
  · simpa [h1, h2, h3, hn', hi'] using hb (neg x) true
  · simpa [h1, h2, h3, hn', hi'] using hb x false

/-- `sin(-x) = -sin(x)` for every operand (NaN: both NaN; ±Inf: both NaN). -/
theorem sin_neg (x : F64) : Same (sin (neg x)) (neg (sin x)) := oddShell_neg sinBody sinBody_sign x

/-- `tan(-x) = -tan(x)` for every operand. -/
theorem tan_neg (x : F64) : Same (tan (neg x)) (neg (tan x)) := oddShell_neg tanBody tanBody_sign x

theorem abs_neg (x : F64) : F64.abs (neg x) = F64.abs x := by
  unfold F64.abs; rw [mag_neg]

/-- `cos(-x) = cos(x)` bit for bit, for every operand. -/
theorem cos_neg (x : F64) : cos (neg x) = cos x := by
  unfold cos; rw [isNaN_neg, isInf_neg, abs_neg]

/-- `atan(-x) = -atan(x)` bit for bit for every operand that is not NaN. -/
theorem atan_neg (x : F64) (hn : x.isNaN = false) : atan (neg x) = neg (atan x) := by
  unfold atan
  rw [eq_neg_zero, lt_zero_neg, neg_neg]
  rcases trichotomy x hn with ⟨h1, h2, h3⟩ | ⟨h1, h2, h3⟩ | ⟨h1, h2, h3⟩
  · simp [h1]
  · simp [h1, h2, h3, neg_neg]
  · simp [h1, h2, h3]

/-- `asin(-x) = -asin(x)` for every operand that is not NaN (outside [-1, 1]: both NaN). -/
theorem asin_neg (x : F64) (hn : x.isNaN = false) : Same (asin (neg x)) (neg (asin x)) := by
  unfold asin
  rw [eq_neg_zero, lt_neg_zero, neg_neg]
  rcases trichotomy x hn with ⟨h1, h2, h3⟩ | ⟨h1, h2, h3⟩ | ⟨h1, h2, h3⟩
  · left; simp [h1]
  · simp only [h1, h2, h3, Bool.false_eq_true, if_false, if_true]
    by_cases h : F64.lt F64.one (neg x) = true
    · right; simp [h, isNaN_neg, isNaN_nan]
    · left; simp [h, neg_neg]
  · simp only [h1, h2, h3, Bool.false_eq_true, if_false, if_true]
    by_cases h : F64.lt F64.one x = true
    · right; simp [h, isNaN_neg, isNaN_nan]
    · left; simp [h]

/-! ### special values -/

theorem sin_zero {x : F64} (h : x.mag = 0) : sin x = x ∧ tan x = x ∧ atan x = x ∧ asin x = x := by
  have : F64.eq x Trig.zeroP = true := eq_zero_of_mag h
  unfold sin tan atan asin
  simp [this]

theorem trig_inf {x : F64} (h : x.isInf = true) : sin x = F64.nan ∧ cos x = F64.nan ∧ tan x = F64.nan := by
  unfold sin cos tan
  simp [h, inf_not_nan h, inf_ne_zero h]

theorem trig_nan {x : F64} (h : x.isNaN = true) :
    (sin x).isNaN = true ∧ (cos x).isNaN = true ∧ (tan x).isNaN = true := by
  have he : F64.eq x Trig.zeroP = false := eq_nan (Or.inl h)
  unfold sin cos tan
  simp [h, he, isNaN_nan]

/-- `asin` outside `[-1, 1]` (±Inf included) is NaN. -/
theorem asin_outside {x : F64} (hn : x.isNaN = false) (h : F64.lt F64.one (F64.abs x) = true) :
    asin x = F64.nan ∨ asin x = neg F64.nan := by
  have hx0 : F64.eq x Trig.zeroP = false := by
    rcases trichotomy x hn with ⟨h1, _, _⟩ | ⟨h1, _, _⟩ | ⟨h1, _, _⟩
    · exfalso
      have hm : x.mag = 0 := (eq_zero_iff_mag x hn).mp h1
      unfold F64.lt F64.abs at h
      rw [hm] at h
      revert h; decide
    · exact h1
    · exact h1
  unfold asin
  simp only [hx0, Bool.false_eq_true, if_false]
  by_cases hs : F64.lt x Trig.zeroP = true
  · have habs : F64.abs x = neg x := by
      unfold F64.abs neg
      have : x.sign = true := by
        unfold F64.lt at hs; rw [key_zeroP] at hs; unfold key at hs
        cases hsg : x.sign
        · simp [hsg] at hs; omega
        · rfl
      rw [this]; rfl
    rw [habs] at h
    simp [hs, h]
  · have hs' : F64.lt x Trig.zeroP = false := by simpa using hs
    have habs : F64.abs x = x := by
      rcases trichotomy x hn with ⟨h1, _, _⟩ | ⟨_, h2, _⟩ | ⟨_, _, h3⟩
      · rw [hx0] at h1; exact absurd h1 (by decide)
      · rw [hs'] at h2; exact absurd h2 (by decide)
      · have : x.sign = false := by
          unfold F64.lt at h3; rw [key_zeroP] at h3; unfold key at h3
          cases hsg : x.sign
          · rfl
          · simp [hsg] at h3; omega
        have h2 := ofSM_sign_mag x
        rw [this] at h2
        exact h2
    rw [habs] at h
    simp [hs', h]

end Rare.C19.Trig

namespace Rare.C19.IEEE
open Rare Rare.F64

/-- `expmulti` at `r = 0` (`hi = +0`, `lo = -0`: what `exp2` passes for an integral argument): `y` is exactly 1. -/
theorem expY_zero : expY zeroP (zero true) = one := by decide +kernel

theorem expmulti_zero (k : Int) : expmulti zeroP (zero true) k = ldexp one k := by
  unfold expmulti; rw [expY_zero]

theorem exp2_special (x : F64) :
    (x.isNaN = true → (exp2 x).isNaN = true) ∧
    (x.isInf = true → x.sign = false → exp2 x = x) ∧
    (x.isInf = true → x.sign = true → exp2 x = zeroP) ∧
    (x.isNaN = false → lt exp2Overflow x = true → x.isInf = false → exp2 x = inf false) ∧
    (x.isNaN = false → lt x exp2Underflow = true → x.isInf = false → exp2 x = zeroP) := by
  refine ⟨?_, ?_, ?_, ?_, ?_⟩
  · intro h; unfold exp2; simp [h]
  · intro h hs; unfold exp2; simp [h, hs]
  · intro h hs; unfold exp2; simp [h, hs, Trig.inf_not_nan h]
  · intro hn h hi; unfold exp2; simp [hn, hi, h]
  · intro hn h hi
    have h2 : lt exp2Overflow x = false := by
      unfold F64.lt at h ⊢
      have k1 : exp2Underflow.key = -4652438317399277568 := by decide
      have k2 : exp2Overflow.key = 4652218415073722367 := by decide
      have n1 : exp2Underflow.isNaN = false := by decide
      have n2 : exp2Overflow.isNaN = false := by decide
      rw [k1, n1, hn] at h
      rw [k2, n2, hn]
      simp at h ⊢
      omega
    unfold exp2; simp [hn, hi, h, h2]

/-! ### `exp2` of an integer is exactly the power of two -/

theorem half_val : half.toRat? = some (1/2 : Rat) := by decide +kernel

/-- Half-integers of moderate size are floats. -/
theorem rep_half_nat (m : Nat) (hm : m < P53) : Rep ((m : Rat) / 2) := by
  have h := rep_of_dyadic m 1073 hm (by
    have : m * 2 ^ 1073 < 2 ^ 53 * 2 ^ 1073 := Nat.mul_lt_mul_of_pos_right (by rw [pow2_53]; exact hm) (Nat.pow_pos (by decide))
    rw [← Nat.pow_add] at this
    exact Nat.lt_of_lt_of_le this (Nat.pow_le_pow_right (by decide) (by omega)))
  have e2 : (2 ^ 1074 : Nat) = 2 ^ 1073 * 2 := by rw [← Nat.pow_succ]
  rw [two1074_eq, e2, Rat.natCast_mul, Rat.natCast_mul] at h
  have hp : ((2 ^ 1073 : Nat) : Rat) ≠ 0 := Rat.ne_of_gt (pow2_cast_pos 1073)
  generalize ((2 ^ 1073 : Nat) : Rat) = A at hp h
  have : (m : Rat) * A / (A * ((2 : Nat) : Rat)) = (m : Rat) / 2 := by
    rw [Rat.div_def, Rat.div_def, Rat.inv_mul_rev]
    have : A * A⁻¹ = 1 := Rat.mul_inv_cancel A hp
    grind
  rwa [this] at h

theorem rep_half_int (n : Int) (h : n.natAbs ≤ 2000) : Rep ((n : Rat) + 1/2) ∧ Rep ((n : Rat) - 1/2) := by
  have key : ∀ k : Int, k.natAbs ≤ 5000 → Rep ((k : Rat) / 2) := by
    intro k hk
    rcases Int.natAbs_eq k with e | e
    · have := rep_half_nat k.natAbs (by omega)
      rw [e]; exact this
    · have := rep_neg (rep_half_nat k.natAbs (by omega))
      rw [e, Rat.intCast_neg, Rat.div_def, Rat.neg_mul, ← Rat.div_def]; exact this
  constructor
  · have := key (2 * n + 1) (by omega)
    have e : (((2 * n + 1 : Int)) : Rat) / 2 = (n : Rat) + 1/2 := by
      rw [Rat.intCast_add, Rat.intCast_mul]; simp [Rat.div_def]; grind
    rwa [e] at this
  · have := key (2 * n - 1) (by omega)
    have e : (((2 * n - 1 : Int)) : Rat) / 2 = (n : Rat) - 1/2 := by
      rw [Rat.intCast_sub, Rat.intCast_mul]; simp [Rat.div_def]; grind
    rwa [e] at this

theorem truncRat_half_pos (n : Int) (h : 0 ≤ n) : truncRat ((n : Rat) + 1/2) = n := by
  unfold truncRat
  have : ¬ ((n : Rat) + 1/2 < 0) := by
    have : (0 : Rat) ≤ (n : Rat) := by exact_mod_cast h
    grind
  rw [if_neg this]
  exact floor_eq_of (by grind) (by grind)

theorem truncRat_half_neg (n : Int) (h : n ≤ 0) : truncRat ((n : Rat) - 1/2) = n := by
  unfold truncRat
  have hn : (n : Rat) ≤ 0 := by exact_mod_cast h
  have : (n : Rat) - 1/2 < 0 := by grind
  rw [if_pos this]
  have e : (-((n : Rat) - 1/2)).floor = -n := by
    apply floor_eq_of
    · rw [Rat.intCast_neg]; grind
    · rw [Rat.intCast_neg]; grind
  rw [e]; omega

/-- **`exp2` of an integer is exact**: for every integer `n` of the representable range the reduction finds `k = n`,
    `r = 0`, the polynomial answers exactly 1 and the result is `Ldexp(1, n)`. -/
theorem exp2_int (n : Int) (h1 : -1074 ≤ n) (h2 : n ≤ 1023) : exp2 (ofInt n) = ldexp one n := by
  have hx := isFinite_ofInt n (by omega)
  have hq : (ofInt n).toRat? = some (n : Rat) := toRat?_eq_some.mpr hx
  have hnan := not_nan_of_finite hx.1
  have hinf := not_inf_of_finite hx.1
  have hov : lt exp2Overflow (ofInt n) = false := by
    have hle := ofInt_mono h2
    unfold le at hle; unfold lt
    have k1 : (ofInt 1023).key = 4652209618980700160 := by decide +kernel
    have k2 : exp2Overflow.key = 4652218415073722367 := by decide
    rw [k1] at hle; rw [k2]
    simp at hle ⊢
    intro _ _; omega
  have hun : lt (ofInt n) exp2Underflow = false := by
    have hle := ofInt_mono h1
    unfold le at hle; unfold lt
    have k1 : (ofInt (-1074)).key = -4652438317399277568 := by decide +kernel
    have k2 : exp2Underflow.key = -4652438317399277568 := by decide
    rw [k1] at hle; rw [k2]
    simp at hle ⊢
    intro _ _; omega
  have hz : zeroP.toRat? = some ((0 : Int) : Rat) := by rw [zeroP_eq_ofInt]; exact toRat?_ofInt (by decide)
  have hk : (if lt zeroP (ofInt n) then toInt64 (add (ofInt n) half)
      else if lt (ofInt n) zeroP then toInt64 (sub (ofInt n) half) else 0) = n := by
    rw [lt_int hz hq, lt_int hq hz]
    obtain ⟨hf, hv⟩ := toRat?_eq_some.mp half_val
    obtain ⟨r1, r2⟩ := rep_half_int n (by omega)
    by_cases hp : 0 < n
    · simp only [hp, decide_true, if_true]
      have := add_exact hx.1 hf (by rw [hx.2, hv]; exact r1)
      rw [hx.2, hv] at this
      obtain ⟨f2, v2⟩ := toRat?_eq_some.mp this
      unfold toInt64
      rw [f2, v2, truncRat_half_pos n (by omega)]
      have : ¬ (n < minInt64 ∨ maxInt64 < n) := by unfold minInt64 maxInt64; omega
      simp [this]
    · by_cases hm : n < 0
      · simp only [hp, hm, decide_true, decide_false, if_true, Bool.false_eq_true, if_false]
        have := sub_exact hx.1 hf (by rw [hx.2, hv]; exact r2)
        rw [hx.2, hv] at this
        obtain ⟨f2, v2⟩ := toRat?_eq_some.mp this
        unfold toInt64
        rw [f2, v2, truncRat_half_neg n (by omega)]
        have : ¬ (n < minInt64 ∨ maxInt64 < n) := by unfold minInt64 maxInt64; omega
        simp [this]
      · simp only [hp, hm, decide_false, Bool.false_eq_true, if_false]; omega
  have ht : sub (ofInt n) (ofInt n) = zeroP := by
    rw [sub_finite hx.1 hx.1]
    have : (ofInt n).toRat - (ofInt n).toRat = 0 := by grind
    rw [this]
    unfold ofRatS
    simp
    rfl
  unfold exp2
  simp only [hnan, hinf, hov, hun, Bool.false_or, Bool.false_and, Bool.false_eq_true, if_false]
  rw [hk, ht]
  have m1 : mul zeroP ln2Hi = zeroP := by decide +kernel
  have m2 : mul (neg zeroP) ln2Lo = zero true := by decide +kernel
  rw [m1, m2]
  exact expmulti_zero n

theorem pow2Z_eq (n : Int) (h : -1074 ≤ n) : pow2Z n = ((2 ^ (n + 1074).toNat : Nat) : Rat) / two1074 := by
  unfold pow2Z
  rw [two1074_eq]
  have hT : ((2 ^ 1074 : Nat) : Rat) ≠ 0 := Rat.ne_of_gt (pow2_cast_pos 1074)
  by_cases hn : n ≥ 0
  · rw [if_pos hn]
    have e : (n + 1074).toNat = n.toNat + 1074 := by omega
    rw [e, Nat.pow_add, Rat.natCast_mul]
    exact (Rat.mul_div_cancel hT).symm
  · rw [if_neg hn]
    have e : 1074 = (n + 1074).toNat + (-n).toNat := by omega
    have e2 : (2 ^ 1074 : Nat) = 2 ^ (n + 1074).toNat * 2 ^ (-n).toNat := by rw [← Nat.pow_add, ← e]
    rw [e2, Rat.natCast_mul]
    have hA : ((2 ^ (n + 1074).toNat : Nat) : Rat) ≠ 0 := Rat.ne_of_gt (pow2_cast_pos _)
    have hB : ((2 ^ (-n).toNat : Nat) : Rat) ≠ 0 := Rat.ne_of_gt (pow2_cast_pos _)
    generalize ((2 ^ (n + 1074).toNat : Nat) : Rat) = A at hA
    generalize ((2 ^ (-n).toNat : Nat) : Rat) = B at hB
    rw [Rat.div_def, Rat.div_def, Rat.inv_mul_rev]
    have : A * A⁻¹ = 1 := Rat.mul_inv_cancel A hA
    grind

theorem ldexp_one_rat (n : Int) (h1 : -1074 ≤ n) (h2 : n ≤ 1023) : ldexp one n = ofRatS false (pow2Z n) := by
  unfold ldexp
  have z1 : one.isZero = false := by decide
  have f1 : one.isFinite = true := by decide
  have fr : (frexp one).2 = 1 := by decide +kernel
  have v1 : one.toRat = 1 := by decide +kernel
  have s1 : one.sign = false := by decide
  simp only [z1, f1, fr, s1, Bool.not_true, Bool.or_self, Bool.false_eq_true, if_false]
  have c1 : ¬ (1 - 1 + n < -1075) := by omega
  have c2 : ¬ (1 - 1 + n > 1023) := by omega
  rw [if_neg c1, if_neg c2, v1, Rat.one_mul]

/-- `Ldexp(1, n)` is the float `2^n`: exponent field `n + 1023` with an empty fraction in the normal range, the
    single bit `n + 1074` in the subnormal range. -/
theorem ldexp_one (n : Int) (h1 : -1074 ≤ n) (h2 : n ≤ 1023) :
    ldexp one n = ofSM false (if -1022 ≤ n then (n + 1023).toNat * P52 else 2 ^ (n + 1074).toNat) := by
  rw [ldexp_one_rat n h1 h2, pow2Z_eq n h1]
  have hpos : (0 : Rat) < ((2 ^ (n + 1074).toNat : Nat) : Rat) / two1074 := by
    rw [Rat.div_def]
    exact Rat.mul_pos (pow2_cast_pos _) (Rat.inv_pos.mpr two1074_pos)
  unfold ofRatS
  rw [if_neg (Rat.ne_of_gt hpos)]
  have hlt : ¬ (((2 ^ (n + 1074).toNat : Nat) : Rat) / two1074 < 0) := by grind
  have habs : absRat (((2 ^ (n + 1074).toNat : Nat) : Rat) / two1074) = ((2 ^ (n + 1074).toNat : Nat) : Rat) / two1074 := by
    unfold absRat; rw [if_neg hlt]
  have hm : min (rawMag (((2 ^ (n + 1074).toNat : Nat) : Rat) / two1074)) InfMag =
      (if -1022 ≤ n then (n + 1023).toNat * P52 else 2 ^ (n + 1074).toNat) := by
    by_cases hn : -1022 ≤ n
    · rw [if_pos hn]
      have e : (n + 1074).toNat = 52 + (n + 1022).toNat := by omega
      have e2 : (2 ^ (n + 1074).toNat : Nat) = P52 * 2 ^ (n + 1022).toNat := by
        rw [e, Nat.pow_add]
      rw [e2, rawMag_exact (n + 1022).toNat P52 (by omega) (Or.inr (Nat.le_refl _))]
      have : (n + 1023).toNat = (n + 1022).toNat + 1 := by omega
      rw [this]
      have : (n + 1022).toNat ≤ 2045 := by omega
      omega
    · rw [if_neg hn]
      have hK : (n + 1074).toNat < 52 := by omega
      have hlt52 : 2 ^ (n + 1074).toNat < P52 := by
        have := Nat.pow_lt_pow_right (a := 2) (by decide) hK
        simpa using this
      have := rawMag_exact 0 (2 ^ (n + 1074).toNat) (by omega) (Or.inl rfl)
      simp only [Nat.pow_zero, Nat.mul_one, Nat.zero_mul, Nat.zero_add] at this
      rw [this]
      omega
  rw [habs, roundMag_eq, hm]
  simp only [hlt, decide_false]

/-- **`exp2(n)` is exactly `2^n`** for every integer `n` from -1074 to 1023, as a bit pattern. -/
theorem exp2_int_bits (n : Int) (h1 : -1074 ≤ n) (h2 : n ≤ 1023) :
    exp2 (ofInt n) = ofSM false (if -1022 ≤ n then (n + 1023).toNat * P52 else 2 ^ (n + 1074).toNat) := by
  rw [exp2_int n h1 h2, ldexp_one n h1 h2]

/-- The value of `exp2(n)` is the rational `2^n`, finite. -/
theorem exp2_int_val (n : Int) (h1 : -1074 ≤ n) (h2 : n ≤ 1023) : (exp2 (ofInt n)).toRat? = some (pow2Z n) := by
  rw [exp2_int n h1 h2, ldexp_one_rat n h1 h2, toRat?_eq_some]
  have hr : Rep (pow2Z n) := by
    rw [pow2Z_eq n h1]
    have := rep_of_dyadic 1 (n + 1074).toNat (by omega) (by
      rw [Nat.one_mul]; exact Nat.pow_lt_pow_right (by decide) (by omega))
    rwa [Nat.one_mul] at this
  exact ofRatS_rep false hr

end Rare.C19.IEEE

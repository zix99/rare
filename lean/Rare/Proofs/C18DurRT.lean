import Rare.Proofs.C18DurFrac
import Rare.Proofs.C18Offset
/-!
C18: `ParseDuration ∘ Duration.String = id` on EVERY int64 duration – sub-second magnitudes
(`ns`, `µs`, `ms` units), fractional seconds, the hour/minute groups, `MinInt64` included.
-/
namespace Rare.C18

theorem dropTrailingZeros_snoc (L : Bytes) (c : UInt8) :
    dropTrailingZeros (L ++ [c]) = if c = 48 then dropTrailingZeros L else L ++ [c] := by
  unfold dropTrailingZeros
  rw [List.reverse_append]
  by_cases h : c = 48
  · subst h; simp
  · simp [h]

/-- Cutting trailing zeros off a digit string divides its value by the matching power of ten; the
result is again a digit string, not longer. -/
theorem dropTrailingZeros_val_rev (M : Bytes) : M.reverse.all isDigitB = true →
    (dropTrailingZeros M.reverse).all isDigitB = true ∧ (dropTrailingZeros M.reverse).length ≤ M.reverse.length
    ∧ digitsVal (dropTrailingZeros M.reverse) 0 * 10 ^ (M.reverse.length - (dropTrailingZeros M.reverse).length) = digitsVal M.reverse 0 := by
  induction M with
  | nil => intro _; decide
  | cons c M ih =>
    intro hd
    rw [List.reverse_cons] at hd ⊢
    generalize M.reverse = L at hd ih ⊢
    rw [List.all_append] at hd
    simp only [Bool.and_eq_true] at hd
    obtain ⟨i1, i2, i3⟩ := ih hd.1
    rw [dropTrailingZeros_snoc]
    by_cases h : c = 48
    · subst h
      simp only [if_true, List.length_append, List.length_cons, List.length_nil, digitsVal_snoc]
      refine ⟨i1, by omega, ?_⟩
      have e : L.length + (0 + 1) - (dropTrailingZeros L).length = (L.length - (dropTrailingZeros L).length) + 1 := by omega
      rw [e, Nat.pow_succ, ← Nat.mul_assoc, i3]; rfl
    · simp only [h, if_false, List.length_append, Nat.sub_self, Nat.pow_zero, Nat.mul_one]
      refine ⟨?_, Nat.le_refl _, trivial⟩
      rw [List.all_append]; simp only [Bool.and_eq_true]; exact hd

theorem dropTrailingZeros_val (L : Bytes) (hd : L.all isDigitB = true) :
    (dropTrailingZeros L).all isDigitB = true ∧ (dropTrailingZeros L).length ≤ L.length
    ∧ digitsVal (dropTrailingZeros L) 0 * 10 ^ (L.length - (dropTrailingZeros L).length) = digitsVal L 0 := by
  have := dropTrailingZeros_val_rev L.reverse
  rw [List.reverse_reverse] at this
  exact this hd

theorem natDigits_length (p : Nat) : ∀ n : Nat, n < 10 ^ (p + 1) → (natDigits n).length ≤ p + 1 := by
  induction p with
  | zero => intro n h; rw [natDigits_lt n (by simpa using h)]; simp
  | succ p ih =>
    intro n h
    by_cases h10 : n < 10
    · rw [natDigits_lt n h10]; simp
    · rw [natDigits_ge n (by omega), List.length_append]
      have : n / 10 < 10 ^ (p + 1) := by
        rw [Nat.pow_succ] at h; omega
      have := ih (n / 10) this
      simp only [List.length_cons, List.length_nil]; omega

theorem natPad_facts (r p : Nat) (hr : r < 10 ^ (p + 1)) :
    (natPad r (p + 1)).all isDigitB = true ∧ (natPad r (p + 1)).length = p + 1 ∧ digitsVal (natPad r (p + 1)) 0 = r := by
  have hl := natDigits_length p r hr
  unfold natPad
  refine ⟨?_, ?_, ?_⟩
  · rw [List.all_append, zeros_all, natDigits_all]; rfl
  · simp only [List.length_append, List.length_replicate]; omega
  · rw [digitsVal_zeros, digitsVal_natDigits]

/-- The fraction `fmtFrac` prints for `r < 10^p` (p ≥ 1): digits, at most `p` of them, worth `r / 10^p`. -/
theorem frac_facts (r p : Nat) (hr : r < 10 ^ (p + 1)) :
    let f := dropTrailingZeros (natPad r (p + 1))
    f.all isDigitB = true ∧ f.length ≤ p + 1 ∧ digitsVal f 0 * 10 ^ (p + 1 - f.length) = r := by
  obtain ⟨a, b, c⟩ := natPad_facts r p hr
  obtain ⟨i1, i2, i3⟩ := dropTrailingZeros_val _ a
  rw [b] at i2 i3; rw [c] at i3
  exact ⟨i1, i2, i3⟩

theorem frac_unit (r p unit : Nat) (hunit : unit = 10 ^ (p + 1)) (hr : r < unit) :
    (dropTrailingZeros (natPad r (p + 1))).all isDigitB = true
    ∧ 10 ^ (dropTrailingZeros (natPad r (p + 1))).length ∣ unit
    ∧ digitsVal (dropTrailingZeros (natPad r (p + 1))) 0 * (unit / 10 ^ (dropTrailingZeros (natPad r (p + 1))).length) = r := by
  subst hunit
  obtain ⟨a, b, c⟩ := frac_facts r p hr
  refine ⟨a, Nat.pow_dvd_pow 10 b, ?_⟩
  rw [Nat.pow_div b (by decide)]; exact c

theorem parseDurLoop_nil (f d : Nat) : parseDurLoop (f + 1) [] d = some d := by unfold parseDurLoop; rfl

/-- `V`, the printed fraction of `r / unit`, the unit, end of text: the loop adds exactly `V·unit + r`. -/
theorem parse_lastGroup (fuel V r p d0 : Nat) (ut : Bytes) (unit : Nat) (hu : UnitTxt ut unit)
    (hunit : unit = 10 ^ (p + 1)) (hr : r < unit) (hd : d0 + (V * unit + r) ≤ 9223372036854775808) :
    parseDurLoop (fuel + 2)
      (natDigits V ++ (if (dropTrailingZeros (natPad r (p + 1))).isEmpty then [] else 46 :: dropTrailingZeros (natPad r (p + 1))) ++ ut) d0
      = some (d0 + (V * unit + r)) := by
  obtain ⟨a, b, c⟩ := frac_unit r p unit hunit hr
  generalize dropTrailingZeros (natPad r (p + 1)) = f at a b c ⊢
  have e : natDigits V ++ (if f.isEmpty then [] else 46 :: f) ++ ut
      = natDigits V ++ ((if !f.isEmpty then 46 :: f else []) ++ (ut ++ [])) := by
    cases f <;> simp
  rw [e, parseDurLoop_group (fuel + 1) V d0 _ f ut unit [] hu a (by cases f <;> simp) b (by omega) (by rw [c]; exact hd)
    (Or.inl rfl), c, parseDurLoop_nil]

theorem parse_lastWhole (fuel V d0 : Nat) (ut : Bytes) (unit : Nat) (hu : UnitTxt ut unit)
    (hd : d0 + V * unit ≤ 9223372036854775808) :
    parseDurLoop (fuel + 2) (natDigits V ++ ut) d0 = some (d0 + V * unit) := by
  have := parseDurLoop_whole (fuel + 1) V d0 ut unit [] hu hd (Or.inl rfl)
  rwa [List.append_nil, parseDurLoop_nil] at this

/-- seconds group of `Duration.String`: whole seconds `S`, nanoseconds `r` -/
def secText (S r : Nat) : Bytes :=
  natDigits S ++ (if (dropTrailingZeros (natPad r 9)).isEmpty then [] else 46 :: dropTrailingZeros (natPad r 9)) ++ [115]

/-- `Duration.String` of a positive magnitude `u` (nanoseconds), without the sign. -/
def magText (u : Nat) : Bytes :=
  if u < 1000000000 then subSecondString u
  else
    let s := u / 1000000000
    let m := s / 60
    if m > 0 then
      (if m / 60 > 0 then natDigits (m / 60) ++ [104] else []) ++ natDigits (m % 60) ++ [109] ++ secText (s % 60) (u % 1000000000)
    else secText (s % 60) (u % 1000000000)

theorem durationString_mag (d : Int) (hd : d ≠ 0) :
    durationString d = some (if d < 0 then 45 :: magText d.natAbs else magText d.natAbs) := by
  have h0 : ¬ (d.natAbs = 0) := by omega
  unfold durationString magText secText
  by_cases h1 : d.natAbs < 1000000000
  · simp only [h0, if_false, h1, if_true]
  · simp only [h0, if_false, h1]

theorem secText_parse (fuel S r d0 : Nat) (hr : r < 1000000000) (hd : d0 + (S * 1000000000 + r) ≤ 9223372036854775808) :
    parseDurLoop (fuel + 2) (secText S r) d0 = some (d0 + (S * 1000000000 + r)) :=
  parse_lastGroup fuel S r 8 d0 [115] 1000000000 (Or.inr (Or.inr (Or.inl ⟨rfl, rfl⟩))) (by decide) hr hd

theorem secText_tail (S r : Nat) : GroupTail (secText S r) := by
  unfold secText
  rw [List.append_assoc]
  exact groupTail_digits _ _

theorem secText_len (S r : Nat) : 2 ≤ (secText S r).length := by
  unfold secText
  have := List.length_pos_iff.mpr (natDigits_ne_nil S)
  simp only [List.length_append, List.length_cons, List.length_nil]; omega

theorem magText_parse (u : Nat) (h0 : 0 < u) (hu : u ≤ 9223372036854775808) (fuel : Nat) (hf : (magText u).length + 1 ≤ fuel) :
    parseDurLoop fuel (magText u) 0 = some u := by
  have hlen : ∀ k, 1 ≤ (natDigits k).length := fun k => List.length_pos_iff.mpr (natDigits_ne_nil k)
  have ens : asc "ns" = [110, 115] := by decide
  have ems : asc "ms" = [109, 115] := by decide
  have p3 : (10 : Nat) ^ 3 = 1000 := by decide
  have p6 : (10 : Nat) ^ 6 = 1000000 := by decide
  unfold magText at hf ⊢
  by_cases hsub : u < 1000000000
  · simp only [hsub, if_true] at hf ⊢
    unfold subSecondString at hf ⊢
    by_cases h3 : u < 1000
    · simp only [h3, if_true, ens] at hf ⊢
      have l := hlen u
      simp only [List.length_append, List.length_cons, List.length_nil] at hf
      obtain ⟨f, rfl⟩ : ∃ f, fuel = f + 2 := ⟨fuel - 2, by omega⟩
      rw [parse_lastWhole f u 0 [110, 115] 1 (Or.inr (Or.inr (Or.inr (Or.inr (Or.inr ⟨rfl, rfl⟩))))) (by omega)]
      congr 1; omega
    · by_cases h6 : u < 1000000
      · simp only [h3, if_false, h6, if_true, fmtFracInt, p3] at hf ⊢
        have l := hlen (u / 1000)
        simp only [List.length_append, List.length_cons, List.length_nil] at hf
        obtain ⟨f, rfl⟩ : ∃ f, fuel = f + 2 := ⟨fuel - 2, by omega⟩
        rw [parse_lastGroup f (u / 1000) (u % 1000) 2 0 [0xC2, 0xB5, 115] 1000
          (Or.inr (Or.inr (Or.inr (Or.inr (Or.inl ⟨rfl, rfl⟩))))) (by decide) (Nat.mod_lt _ (by decide)) (by omega)]
        congr 1; omega
      · simp only [h3, if_false, h6, fmtFracInt, p6, ems] at hf ⊢
        have l := hlen (u / 1000000)
        simp only [List.length_append, List.length_cons, List.length_nil] at hf
        obtain ⟨f, rfl⟩ : ∃ f, fuel = f + 2 := ⟨fuel - 2, by omega⟩
        rw [parse_lastGroup f (u / 1000000) (u % 1000000) 5 0 [109, 115] 1000000
          (Or.inr (Or.inr (Or.inr (Or.inl ⟨rfl, rfl⟩)))) (by decide) (Nat.mod_lt _ (by decide)) (by omega)]
        congr 1; omega
  · simp only [hsub, if_false] at hf ⊢
    have hr : u % 1000000000 < 1000000000 := Nat.mod_lt _ (by decide)
    have ls := secText_len (u / 1000000000 % 60) (u % 1000000000)
    by_cases hm : u / 1000000000 / 60 > 0
    · simp only [hm, if_true] at hf ⊢
      by_cases hh : u / 1000000000 / 60 / 60 > 0
      · simp only [hh, if_true] at hf ⊢
        have l1 := hlen (u / 1000000000 / 60 / 60); have l2 := hlen (u / 1000000000 / 60 % 60)
        simp only [List.length_append, List.length_cons, List.length_nil] at hf
        obtain ⟨f, rfl⟩ : ∃ f, fuel = f + 4 := ⟨fuel - 4, by omega⟩
        have e : natDigits (u / 1000000000 / 60 / 60) ++ [104] ++ natDigits (u / 1000000000 / 60 % 60) ++ [109] ++ secText (u / 1000000000 % 60) (u % 1000000000)
            = natDigits (u / 1000000000 / 60 / 60) ++ ([104] ++ (natDigits (u / 1000000000 / 60 % 60) ++ ([109] ++ secText (u / 1000000000 % 60) (u % 1000000000)))) := by simp
        rw [e, parseDurLoop_whole (f + 3) _ 0 [104] 3600000000000 _ (Or.inl ⟨rfl, rfl⟩) (by omega) (groupTail_digits _ _),
          parseDurLoop_whole (f + 2) _ _ [109] 60000000000 _ (Or.inr (Or.inl ⟨rfl, rfl⟩)) (by omega) (secText_tail _ _),
          secText_parse f _ _ _ hr (by omega)]
        congr 1; omega
      · simp only [hh, if_false, List.nil_append] at hf ⊢
        have l2 := hlen (u / 1000000000 / 60 % 60)
        simp only [List.length_append, List.length_cons, List.length_nil] at hf
        obtain ⟨f, rfl⟩ : ∃ f, fuel = f + 3 := ⟨fuel - 3, by omega⟩
        rw [List.append_assoc, parseDurLoop_whole (f + 2) _ _ [109] 60000000000 _ (Or.inr (Or.inl ⟨rfl, rfl⟩)) (by omega) (secText_tail _ _),
          secText_parse f _ _ _ hr (by omega)]
        congr 1; omega
    · simp only [hm, if_false] at hf ⊢
      obtain ⟨f, rfl⟩ : ∃ f, fuel = f + 2 := ⟨fuel - 2, by omega⟩
      rw [secText_parse f _ _ _ hr (by omega)]
      congr 1; omega

theorem digits_start (k : Nat) (rest : Bytes) (hl : 1 ≤ rest.length) :
    ∃ c r, natDigits k ++ rest = c :: r ∧ isDigitB c = true ∧ 2 ≤ (natDigits k ++ rest).length := by
  obtain ⟨c, r, h, hc⟩ := natDigits_head k
  refine ⟨c, r ++ rest, by rw [h]; rfl, hc, ?_⟩
  have := List.length_pos_iff.mpr (natDigits_ne_nil k)
  simp only [List.length_append]; omega

theorem magText_shape (u : Nat) : ∃ c r, magText u = c :: r ∧ isDigitB c = true ∧ 2 ≤ (magText u).length := by
  unfold magText subSecondString fmtFracInt secText
  simp only
  repeat' split
  all_goals (try simp only [List.append_assoc, List.nil_append])
  all_goals exact digits_start _ _ (by simp [asc])

theorem parseDuration_durationString_all (d : Int) (h1 : -9223372036854775808 ≤ d) (h2 : d ≤ 9223372036854775807) :
    ∃ b, durationString d = some b ∧ parseDuration b = .ok d := by
  by_cases hn : d = 0
  · subst hn; exact ⟨asc "0s", by decide, by decide⟩
  · refine ⟨_, durationString_mag d hn, ?_⟩
    obtain ⟨hneg, hpos⟩ := parseDuration_of_loop _ _ (magText_shape d.natAbs)
      (magText_parse d.natAbs (by omega) (by omega) _ (Nat.le_refl _))
    split
    · rw [hneg]; congr 1; omega
    · rw [hpos (by omega)]; congr 1; omega

end Rare.C18

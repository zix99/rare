import Rare.Proofs.ExprSafe
import Rare.Model.Expr.Funcs.Arith
/-!
C08 for the `Arith` family (which includes the `Float` table): every integer / bucketing builder
and every float-valued builder computed on the software binary64 model is panic-free on safe
arguments.  Only `pow`, `log10`, `log2`, `ln` (Go's `math.Pow` / `math.Log*`) still answer
`unmodelled` (a `.panic "unmodelled:…"` node) once their arguments have parsed; they are listed in
`arithUnmodelled` and are outside the theorem.
-/
namespace Rare.Expr.Funcs.Arith
open Rare.Expr

theorem foldRun_safe (op : IntOp) : ∀ (typed : List (Comp (Option Int))) (acc : Int),
    (∀ t ∈ typed, Safe t) → Safe (foldRun op acc typed)
  | [], acc, _ => .ret _
  | t :: rest, acc, h => by
    unfold foldRun
    apply Safe.bind' (h t (by simp))
    intro v
    cases v with
    | none => exact Safe.pure _
    | some x =>
      simp only []
      cases op acc x with
      | none => exact Safe.pure _
      | some r => exact foldRun_safe op rest r fun y hy => h y (by simp [hy])

theorem intRun_safe (op : IntOp) (typed : List (Comp (Option Int))) (h : ∀ t ∈ typed, Safe t) :
    Safe (intRun op typed) := by
  cases typed with
  | nil => exact .ret _
  | cons t rest =>
    unfold intRun
    apply Safe.bind' (h t (by simp))
    intro v
    cases v with
    | none => exact Safe.pure _
    | some x => exact foldRun_safe op rest x fun y hy => h y (by simp [hy])

theorem intHelper_safe (op : IntOp) : SafeBuilder (intHelper op) := by
  intro args h
  show SafeResult _
  refine .ite SafeResult.errArgCount ?_
  rcases mapTypedArgs_safe atoi args h with e | ⟨ts, e, hts⟩
  · rw [e]; exact SafeResult.errNum
  · rw [e]; exact SafeResult.ok (intRun_safe op ts hts)

theorem kfIsInt_safe : SafeBuilder kfIsInt := by
  intro args h
  show SafeResult _
  unfold kfIsInt
  split
  · rename_i a
    exact SafeResult.ok (Safe.bind' (h a (by simp)) fun v => Safe.pure _)
  · exact SafeResult.errArgCount

theorem bucketBuilder_safe (render : Int → Int → Bytes) : SafeBuilder (bucketBuilder render) := by
  intro args h
  show SafeResult _
  unfold bucketBuilder
  split
  · rename_i a0 a1
    obtain ⟨r, hr⟩ := evalStageInt_safe (h a1 (by simp))
    rw [hr]
    cases r with
    | none => exact SafeResult.errNum
    | some size =>
      refine .ite SafeResult.errValue (SafeResult.ok (Safe.bind' (h a0 (by simp)) fun v => ?_))
      cases atoi v <;> exact Safe.pure _
  · exact SafeResult.errArgCount

theorem kfClamp_safe : SafeBuilder kfClamp := by
  intro args h
  show SafeResult _
  unfold kfClamp
  split
  · rename_i a0 a1 a2
    obtain ⟨r1, hr1⟩ := evalStageInt_safe (h a1 (by simp))
    obtain ⟨r2, hr2⟩ := evalStageInt_safe (h a2 (by simp))
    rw [hr1, hr2]
    cases r1 with
    | none => exact SafeResult.errNum
    | some mn =>
      cases r2 with
      | none => exact SafeResult.errNum
      | some mx =>
        apply SafeResult.ok
        apply Safe.bind' (h a0 (by simp))
        intro v
        cases atoi v <;> exact Safe.pure _
  · exact SafeResult.errArgCount

theorem kfExpBucket_safe : SafeBuilder kfExpBucket := by
  intro args h
  show SafeResult _
  unfold kfExpBucket
  split
  · rename_i a
    apply SafeResult.ok
    apply Safe.bind' (h a (by simp))
    intro v
    cases atoi v <;> exact Safe.pure _
  · exact SafeResult.errArgCount

end Rare.Expr.Funcs.Arith

namespace Rare.Expr.Funcs.Float
open Rare.Expr

theorem foldRunF_safe (op : F64 → F64 → F64) : ∀ (typed : List (Comp (Option F64))) (acc : F64),
    (∀ t ∈ typed, Safe t) → Safe (foldRunF op acc typed)
  | [], acc, _ => .ret _
  | t :: rest, acc, h => by
    unfold foldRunF
    apply Safe.bind' (h t (by simp))
    intro v
    cases v with
    | none => exact Safe.pure _
    | some x => exact foldRunF_safe op rest _ fun y hy => h y (by simp [hy])

theorem floatRun_safe (op : F64 → F64 → F64) (typed : List (Comp (Option F64))) (h : ∀ t ∈ typed, Safe t) :
    Safe (floatRun op typed) := by
  cases typed with
  | nil => exact .ret _
  | cons t rest =>
    unfold floatRun
    apply Safe.bind' (h t (by simp))
    intro v
    cases v with
    | none => exact Safe.pure _
    | some x => exact foldRunF_safe op rest x fun y hy => h y (by simp [hy])

theorem floatHelper_safe (op : F64 → F64 → F64) : SafeBuilder (floatHelper op) := by
  intro args h
  show SafeResult _
  refine .ite SafeResult.errArgCount ?_
  rcases mapTypedArgs_safe parseF args h with e | ⟨ts, e, hts⟩
  · rw [e]; exact SafeResult.errNum
  · rw [e]; exact SafeResult.ok (floatRun_safe op ts hts)

theorem unaryF_safe (f : F64 → Bytes) : SafeBuilder (unaryF f) := by
  intro args h
  show SafeResult _
  unfold unaryF
  split
  · rename_i a
    apply SafeResult.ok
    apply Safe.bind' (h a (by simp))
    intro v
    cases parseF v <;> exact Safe.pure _
  · exact SafeResult.errArgCount

theorem kfRound_safe : SafeBuilder kfRound := by
  intro args h
  show SafeResult _
  refine .ite SafeResult.errArgCount ?_
  obtain ⟨r, hr⟩ := evalArgInt_safe h 1 0
  rw [hr]
  cases r with
  | none => exact SafeResult.errConst
  | some precision =>
    refine .ite SafeResult.errValue ?_
    split
    · rename_i a _
      refine SafeResult.ok (Safe.bind' (h a (by simp)) fun v => ?_)
      cases parseF v <;> exact Safe.pure _
    · exact SafeResult.errArgCount

theorem cmpHelper_safe (test : F64 → F64 → Bool) : SafeBuilder (cmpHelper test) := by
  intro args h
  show SafeResult _
  unfold cmpHelper
  split
  · rename_i a0 a1
    rcases evalTypedStage_safe parseF (h a0 (by simp)) with e | ⟨l, e, hl⟩
    · rw [e]; exact SafeResult.errNum
    · rw [e]
      rcases evalTypedStage_safe parseF (h a1 (by simp)) with e2 | ⟨r, e2, hr⟩
      · rw [e2]; exact SafeResult.errNum
      · rw [e2]
        apply SafeResult.ok
        apply Safe.bind' hl
        intro lv
        cases lv with
        | none => exact Safe.pure _
        | some x =>
          apply Safe.bind' hr
          intro rv
          cases rv <;> exact Safe.pure _
  · exact SafeResult.errArgCount

theorem kfIsNum_safe : SafeBuilder kfIsNum := by
  intro args h
  show SafeResult _
  unfold kfIsNum
  split
  · rename_i a
    exact SafeResult.ok (Safe.bind' (h a (by simp)) fun v => Safe.pure _)
  · exact SafeResult.errArgCount

/-- The run-time closure of `kfPercent`. -/
theorem percentRun_safe {smin smax : Comp (Option F64)} {a0 : Stage} (decimals : Int)
    (h1 : Safe smin) (h2 : Safe smax) (h0 : Safe a0) :
    Safe (do
      let mn ← smin
      match mn with
      | none => pure ErrorNum
      | some min =>
        let mx ← smax
        match mx with
        | none => pure ErrorNum
        | some max =>
          let v ← a0
          match parseF v with
          | none => pure ErrorNum
          | some val => pure (percentStr val min max decimals) : Stage) := by
  apply Safe.bind' h1
  intro mn
  cases mn with
  | none => exact Safe.pure _
  | some min =>
    apply Safe.bind' h2
    intro mx
    cases mx with
    | none => exact Safe.pure _
    | some max =>
      apply Safe.bind' h0
      intro v
      cases parseF v <;> exact Safe.pure _

theorem kfPercent_safe : SafeBuilder kfPercent := by
  intro args h
  show SafeResult _
  refine .ite SafeResult.errArgCount ?_
  obtain ⟨r, hr⟩ := evalArgInt_safe h 1 1
  rw [hr]
  cases r with
  | none => exact SafeResult.errConst
  | some decimals =>
    refine .ite SafeResult.errValue ?_
    match args, h with
    | [], _ => exact SafeResult.errNum
    | [a0], h => exact SafeResult.ok (percentRun_safe _ (.ret _) (.ret _) (h a0 (by simp)))
    | [a0, _], h => exact SafeResult.ok (percentRun_safe _ (.ret _) (.ret _) (h a0 (by simp)))
    | [a0, _, mx], h =>
      simp only []
      rcases evalTypedStage_safe parseF (h mx (by simp)) with e | ⟨t, e, ht⟩
      · rw [e]; exact SafeResult.errNum
      · rw [e]; exact SafeResult.ok (percentRun_safe _ (.ret _) ht (h a0 (by simp)))
    | [a0, _, mn, mx], h =>
      simp only []
      rcases evalTypedStage_safe parseF (h mn (by simp)) with e | ⟨t, e, ht⟩ <;>
        rcases evalTypedStage_safe parseF (h mx (by simp)) with e2 | ⟨t2, e2, ht2⟩ <;> rw [e, e2]
      · exact SafeResult.errNum
      · exact SafeResult.errNum
      · exact SafeResult.errNum
      · exact SafeResult.ok (percentRun_safe _ ht ht2 (h a0 (by simp)))
    | _ :: _ :: _ :: _ :: _ :: _, h => exact SafeResult.ok (percentRun_safe _ (.ret _) (.ret _) (h _ (by simp)))

theorem unitHelper_safe (unsigned : Bool) (step : Int) (delim : Bytes) (units : List String) :
    SafeBuilder (unitHelper unsigned step delim units) := by
  intro args h
  show SafeResult _
  refine .ite SafeResult.errArgCount ?_
  obtain ⟨r, hr⟩ := evalArgInt_safe h 1 0
  rw [hr]
  cases r with
  | none => exact SafeResult.errNum
  | some precision =>
    refine .ite SafeResult.errValue ?_
    split
    · rename_i a _
      apply SafeResult.ok
      apply Safe.bind' (h a (by simp))
      intro v
      simp only []
      split <;> exact Safe.pure _
    · exact SafeResult.errArgCount

/-- Builders that still answer `unmodelled` once their arguments have parsed (`math.Pow`, `math.Log*`). -/
def floatUnmodelled : List String := ["pow", "log10", "log2", "ln"]

theorem float_safe : ∀ p ∈ table, p.1 ∉ floatUnmodelled → SafeBuilder p.2 := by
  simp only [table, List.forall_mem_cons, List.not_mem_nil, false_imp_iff, implies_true, and_true]
  exact ⟨fun _ => kfIsNum_safe,
    fun _ => cmpHelper_safe _, fun _ => cmpHelper_safe _, fun _ => cmpHelper_safe _, fun _ => cmpHelper_safe _,
    fun _ => floatHelper_safe _, fun _ => floatHelper_safe _, fun _ => floatHelper_safe _, fun _ => floatHelper_safe _,
    fun h => absurd (by decide) h,
    fun _ => unaryF_safe _, fun _ => unaryF_safe _,
    fun h => absurd (by decide) h, fun h => absurd (by decide) h, fun h => absurd (by decide) h,
    fun _ => unaryF_safe _, fun _ => kfRound_safe, fun _ => unaryF_safe _, fun _ => kfPercent_safe,
    fun _ => unitHelper_safe _ _ _ _, fun _ => unitHelper_safe _ _ _ _, fun _ => unitHelper_safe _ _ _ _⟩

end Rare.Expr.Funcs.Float

namespace Rare.Expr.Funcs.Arith
open Rare.Expr

/-- Builders that answer `unmodelled` for the inputs whose value the model does not compute. -/
def arithUnmodelled : List String := Float.floatUnmodelled

theorem int_safe : ∀ p ∈ intTable, SafeBuilder p.2 := by
  simp only [intTable, List.forall_mem_cons, List.not_mem_nil, false_imp_iff, implies_true, and_true]
  exact ⟨intHelper_safe _, intHelper_safe _, intHelper_safe _, intHelper_safe _, intHelper_safe _,
    intHelper_safe _, intHelper_safe _, kfIsInt_safe, bucketBuilder_safe _, bucketBuilder_safe _,
    kfClamp_safe, kfExpBucket_safe⟩

/-- Every integer, bucketing, type-test and software-float builder of the family is panic-free. -/
theorem arith_safe : ∀ p ∈ table, p.1 ∉ arithUnmodelled → SafeBuilder p.2 := by
  intro p hp hn
  rcases List.mem_append.mp hp with h | h
  · exact int_safe p h
  · exact Float.float_safe p h hn

end Rare.Expr.Funcs.Arith

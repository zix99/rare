import Rare.Proofs.C11
import Rare.Model.Expr.Funcs.Float
import Rare.Model.Expr.Funcs.Format
import Rare.Model.C11Table
/-!
C11: the argument-count guard of every C11 helper builder, for argument lists of EVERY length.

`argRejected r` – the builder answered with the `<ARGN>` literal stage and the `argcount` compile error (exactly what
`stageErrArgCount` / `stageErrArgRange` return).  For each builder: rejected IFF the number of arguments is outside
`[lo, hi]` (so a builder never panics on, and never mis-reads, a wrong number of arguments, and inside the interval
the answer is never the argument-count error).
-/
set_option linter.unusedSimpArgs false
namespace Rare.C11
open Rare Rare.Expr Rare.Expr.Funcs

/-- the builder rejected the argument COUNT: stage = the literal `<ARGN>`, compile error `argcount`. -/
def argRejected : Except String Built → Bool
  | .ok ⟨some (.ret v), some t⟩ => v == ErrorArgCount && t == "argcount"
  | _ => false

/-- `lo ≤ n ≤ hi` (`hi = none`: no upper limit). -/
def inArity (lo : Nat) (hi : Option Nat) (n : Nat) : Bool :=
  decide (lo ≤ n) && (match hi with | some h => decide (n ≤ h) | none => true)

theorem argRejected_errArgCount : argRejected errArgCount = true := by decide +kernel
theorem argRejected_errNum : argRejected errNum = false := by decide +kernel
theorem argRejected_errConst : argRejected errConst = false := by decide +kernel
theorem argRejected_errValue : argRejected errValue = false := by decide +kernel
theorem argRejected_errFile : argRejected errFile = false := by decide +kernel
theorem argRejected_ok (s : Stage) : argRejected (ok s) = false := by
  unfold ok; cases s <;> rfl
theorem argRejected_error (m : String) : argRejected (.error m) = false := rfl

/-- A rejected call yields the `<ARGN>` marker in every context. -/
theorem argRejected_call (b : Builder) (as : List Arg) (c : Ctx) (h : argRejected (b (as.map Arg.stage)) = true) :
    callHelper b as c = .ok ErrorArgCount := by
  unfold callHelper
  cases hb : b (as.map Arg.stage) with
  | error m => rw [hb] at h; cases h
  | ok built =>
    rw [hb] at h
    obtain ⟨st, er⟩ := built
    cases st with
    | none => cases h
    | some st =>
      cases st with
      | ret v =>
        cases er with
        | none => cases h
        | some t =>
          simp only [argRejected, Bool.and_eq_true, beq_iff_eq] at h
          simp [Comp.run, h.1]
      | getMatch i k => cases h
      | getKey s k => cases h
      | panic m => cases h

macro "arity_leaf" : tactic => `(tactic|
  first
    | rfl
    | (simp [inArity, argRejected_errArgCount, argRejected_ok]; done)
    | ((repeat' split) <;> first
        | rfl
        | (simp_all [inArity, argRejected_errArgCount, argRejected_errNum, argRejected_errConst, argRejected_errValue,
            argRejected_errFile, argRejected_ok, argRejected_error]; done)
        | (exfalso; omega)))

/-! ### exactly one argument -/

theorem arity_isint (as : List Stage) : argRejected (Arith.kfIsInt as) = !inArity 1 (some 1) as.length := by
  rcases as with _ | ⟨a, _ | ⟨b, r⟩⟩ <;> simp only [Arith.kfIsInt] <;> arity_leaf

theorem arity_expbucket (as : List Stage) : argRejected (Arith.kfExpBucket as) = !inArity 1 (some 1) as.length := by
  rcases as with _ | ⟨a, _ | ⟨b, r⟩⟩ <;> simp only [Arith.kfExpBucket] <;> arity_leaf

theorem arity_unaryF (f : F64 → Bytes) (as : List Stage) :
    argRejected (Float.unaryF f as) = !inArity 1 (some 1) as.length := by
  rcases as with _ | ⟨a, _ | ⟨b, r⟩⟩ <;> simp only [Float.unaryF] <;> arity_leaf

theorem arity_isnum (as : List Stage) : argRejected (Float.kfIsNum as) = !inArity 1 (some 1) as.length := by
  rcases as with _ | ⟨a, _ | ⟨b, r⟩⟩ <;> simp only [Float.kfIsNum] <;> arity_leaf

theorem arity_not (as : List Stage) : argRejected (Logic.kfNot as) = !inArity 1 (some 1) as.length := by
  rcases as with _ | ⟨a, _ | ⟨b, r⟩⟩ <;> simp only [Logic.kfNot] <;> arity_leaf

theorem arity_len (as : List Stage) : argRejected (Strings.kfLen as) = !inArity 1 (some 1) as.length := by
  rcases as with _ | ⟨a, _ | ⟨b, r⟩⟩ <;> simp only [Strings.kfLen] <;> arity_leaf

theorem arity_case (f : Bytes → Bytes) (as : List Stage) :
    argRejected (Case.caseHelperU f as) = !inArity 1 (some 1) as.length := by
  rcases as with _ | ⟨a, _ | ⟨b, r⟩⟩ <;> simp only [Case.caseHelperU] <;> arity_leaf

theorem arity_caseAscii (f : UInt8 → UInt8) (as : List Stage) :
    argRejected (Strings.caseHelper f as) = !inArity 1 (some 1) as.length := by
  rcases as with _ | ⟨a, _ | ⟨b, r⟩⟩ <;> simp only [Strings.caseHelper] <;> arity_leaf

theorem arity_hi (as : List Stage) : argRejected (Strings.kfHumanizeInt as) = !inArity 1 (some 1) as.length := by
  rcases as with _ | ⟨a, _ | ⟨b, r⟩⟩ <;> simp only [Strings.kfHumanizeInt] <;> arity_leaf

theorem arity_path (f : Bytes → Bytes) (as : List Stage) :
    argRejected (Misc.pathHelper f as) = !inArity 1 (some 1) as.length := by
  rcases as with _ | ⟨a, _ | ⟨b, r⟩⟩ <;> simp only [Misc.pathHelper] <;> arity_leaf

/-! ### exactly two / exactly three -/

theorem arity_bucket (render : Int → Int → Bytes) (as : List Stage) :
    argRejected (Arith.bucketBuilder render as) = !inArity 2 (some 2) as.length := by
  rcases as with _ | ⟨a, _ | ⟨b, _ | ⟨c, r⟩⟩⟩ <;> simp only [Arith.bucketBuilder] <;> arity_leaf

theorem arity_cmp (test : F64 → F64 → Bool) (as : List Stage) :
    argRejected (Float.cmpHelper test as) = !inArity 2 (some 2) as.length := by
  rcases as with _ | ⟨a, _ | ⟨b, _ | ⟨c, r⟩⟩⟩ <;> simp only [Float.cmpHelper] <;> arity_leaf

theorem arity_unless (as : List Stage) : argRejected (Logic.kfUnless as) = !inArity 2 (some 2) as.length := by
  rcases as with _ | ⟨a, _ | ⟨b, _ | ⟨c, r⟩⟩⟩ <;> simp only [Logic.kfUnless] <;> arity_leaf

theorem arity_test (test : Bytes → Bytes → Bool) (as : List Stage) :
    argRejected (Strings.testHelper test as) = !inArity 2 (some 2) as.length := by
  rcases as with _ | ⟨a, _ | ⟨b, _ | ⟨c, r⟩⟩⟩ <;> simp only [Strings.testHelper] <;> arity_leaf

theorem arity_select (as : List Stage) : argRejected (Strings.kfSelect as) = !inArity 2 (some 2) as.length := by
  rcases as with _ | ⟨a, _ | ⟨b, _ | ⟨c, r⟩⟩⟩ <;> simp only [Strings.kfSelect] <;> arity_leaf

theorem arity_repeat (as : List Stage) : argRejected (Misc.kfRepeat as) = !inArity 2 (some 2) as.length := by
  rcases as with _ | ⟨a, _ | ⟨b, _ | ⟨c, r⟩⟩⟩ <;> simp only [Misc.kfRepeat] <;> arity_leaf

theorem arity_clamp (as : List Stage) : argRejected (Arith.kfClamp as) = !inArity 3 (some 3) as.length := by
  rcases as with _ | ⟨a, _ | ⟨b, _ | ⟨c, _ | ⟨d, r⟩⟩⟩⟩ <;> simp only [Arith.kfClamp] <;> arity_leaf

theorem arity_substr (as : List Stage) : argRejected (Strings.kfSubstr as) = !inArity 3 (some 3) as.length := by
  rcases as with _ | ⟨a, _ | ⟨b, _ | ⟨c, _ | ⟨d, r⟩⟩⟩⟩ <;> simp only [Strings.kfSubstr] <;> arity_leaf

/-! ### intervals -/

theorem arity_if (as : List Stage) : argRejected (Logic.kfIf as) = !inArity 2 (some 3) as.length := by
  rcases as with _ | ⟨a, _ | ⟨b, _ | ⟨c, _ | ⟨d, r⟩⟩⟩⟩ <;> simp only [Logic.kfIf] <;> arity_leaf

theorem arity_round (as : List Stage) : argRejected (Float.kfRound as) = !inArity 1 (some 2) as.length := by
  rcases as with _ | ⟨a, _ | ⟨b, _ | ⟨c, r⟩⟩⟩ <;> simp [Float.kfRound] <;> arity_leaf

theorem arity_unit (u : Bool) (step : Int) (delim : Bytes) (units : List String) (as : List Stage) :
    argRejected (Float.unitHelper u step delim units as) = !inArity 1 (some 2) as.length := by
  rcases as with _ | ⟨a, _ | ⟨b, _ | ⟨c, r⟩⟩⟩ <;> simp [Float.unitHelper] <;> arity_leaf

theorem arity_lookup (render : Option Bytes → Bytes) (as : List Stage) :
    argRejected (Misc.lookupBuilder render as) = !inArity 2 (some 3) as.length := by
  rcases as with _ | ⟨a, _ | ⟨b, _ | ⟨c, _ | ⟨d, r⟩⟩⟩⟩ <;> simp [Misc.lookupBuilder] <;> arity_leaf

theorem arity_lookupKey (as : List Stage) : argRejected (Misc.kfLookupKey as) = !inArity 2 (some 3) as.length :=
  arity_lookup _ as
theorem arity_hasKey (as : List Stage) : argRejected (Misc.kfHasKey as) = !inArity 2 (some 3) as.length :=
  arity_lookup _ as
theorem arity_kfBucket (as : List Stage) : argRejected (Arith.kfBucket as) = !inArity 2 (some 2) as.length :=
  arity_bucket _ as
theorem arity_kfBucketRange (as : List Stage) : argRejected (Arith.kfBucketRange as) = !inArity 2 (some 2) as.length :=
  arity_bucket _ as

theorem arity_percent (as : List Stage) : argRejected (Float.kfPercent as) = !inArity 1 (some 4) as.length := by
  rcases as with _ | ⟨a, _ | ⟨b, _ | ⟨c, _ | ⟨d, _ | ⟨e, r⟩⟩⟩⟩⟩ <;> simp [Float.kfPercent] <;> arity_leaf

/-! ### a lower limit only -/

theorem arity_int (op : Arith.IntOp) (as : List Stage) :
    argRejected (Arith.intHelper op as) = !inArity 2 none as.length := by
  rcases as with _ | ⟨a, _ | ⟨b, r⟩⟩ <;> simp [Arith.intHelper] <;> arity_leaf

theorem arity_float (op : F64 → F64 → F64) (as : List Stage) :
    argRejected (Float.floatHelper op as) = !inArity 2 none as.length := by
  rcases as with _ | ⟨a, _ | ⟨b, r⟩⟩ <;> simp [Float.floatHelper] <;> arity_leaf

theorem arity_pow (as : List Stage) : argRejected (Log.kfPow as) = !inArity 2 none as.length := by
  rcases as with _ | ⟨a, _ | ⟨b, r⟩⟩ <;> simp [Log.kfPow] <;> arity_leaf

theorem arity_strcmp (eq : Bytes → Bytes → Bytes) (as : List Stage) :
    argRejected (Logic.stringComparator eq as) = !inArity 2 none as.length := by
  rcases as with _ | ⟨a, _ | ⟨b, r⟩⟩ <;> simp only [Logic.stringComparator] <;> arity_leaf

theorem arity_switch (as : List Stage) : argRejected (Logic.kfSwitch as) = !inArity 2 none as.length := by
  rcases as with _ | ⟨a, _ | ⟨b, r⟩⟩ <;> simp [Logic.kfSwitch] <;> arity_leaf

theorem arity_format (isPrint : Nat → Bool) (as : List Stage) :
    argRejected (Format.kfFormat isPrint as) = !inArity 1 none as.length := by
  rcases as with _ | ⟨a, r⟩ <;> simp only [Format.kfFormat] <;> arity_leaf

/-! ### no guard at all -/

theorem arity_coalesce (as : List Stage) : argRejected (Logic.kfCoalesce as) = !inArity 0 none as.length := by
  simp [Logic.kfCoalesce, inArity, argRejected_ok]

theorem arity_and (as : List Stage) : argRejected (Logic.kfAnd as) = !inArity 0 none as.length := by
  simp [Logic.kfAnd, inArity, argRejected_ok]

theorem arity_or (as : List Stage) : argRejected (Logic.kfOr as) = !inArity 0 none as.length := by
  simp [Logic.kfOr, inArity, argRejected_ok]

theorem arity_join (d : Bytes) (as : List Stage) : argRejected (Strings.kfJoin d as) = !inArity 0 none as.length := by
  rcases as with _ | ⟨a, _ | ⟨b, r⟩⟩ <;> simp [Strings.kfJoin, inArity, argRejected_ok]

theorem arity_csv (as : List Stage) : argRejected (Strings.kfCsv as) = !inArity 0 none as.length := by
  rcases as with _ | ⟨a, r⟩ <;> simp [Strings.kfCsv, inArity, argRejected_ok]

/-! ### the table: every C11 helper name, the builder the driver's registry binds it to, and its interval -/

def c11Builders (isPrint : Nat → Bool) : List (String × Builder × Nat × Option Nat) := [
  ("sumi", Arith.intHelper Arith.opSum, 2, none), ("subi", Arith.intHelper Arith.opSub, 2, none),
  ("multi", Arith.intHelper Arith.opMul, 2, none), ("divi", Arith.intHelper Arith.opDiv, 2, none),
  ("modi", Arith.intHelper Arith.opMod, 2, none), ("maxi", Arith.intHelper Arith.opMax, 2, none),
  ("mini", Arith.intHelper Arith.opMin, 2, none),
  ("isint", Arith.kfIsInt, 1, some 1), ("isnum", Float.kfIsNum, 1, some 1),
  ("bucket", Arith.kfBucket, 2, some 2), ("bucketrange", Arith.kfBucketRange, 2, some 2),
  ("clamp", Arith.kfClamp, 3, some 3), ("expbucket", Arith.kfExpBucket, 1, some 1),
  ("lt", Float.cmpHelper fun a b => F64.lt a b, 2, some 2), ("gt", Float.cmpHelper fun a b => F64.lt b a, 2, some 2),
  ("lte", Float.cmpHelper fun a b => F64.le a b, 2, some 2), ("gte", Float.cmpHelper fun a b => F64.le b a, 2, some 2),
  ("sumf", Float.floatHelper F64.add, 2, none), ("subf", Float.floatHelper F64.sub, 2, none),
  ("multf", Float.floatHelper F64.mul, 2, none), ("divf", Float.floatHelper F64.div, 2, none),
  ("pow", Log.kfPow, 2, none),
  ("ceil", Float.unaryF Float.ceilStr, 1, some 1), ("floor", Float.unaryF Float.floorStr, 1, some 1),
  ("log10", Float.unaryF Log.log10Str, 1, some 1), ("log2", Float.unaryF Log.log2Str, 1, some 1),
  ("ln", Float.unaryF Log.lnStr, 1, some 1), ("sqrt", Float.unaryF Float.sqrtStr, 1, some 1),
  ("round", Float.kfRound, 1, some 2), ("hf", Float.unaryF Float.hfStr, 1, some 1),
  ("percent", Float.kfPercent, 1, some 4),
  ("coalesce", Logic.kfCoalesce, 0, none),
  ("eq", Logic.stringComparator fun a b => if a = b then TruthyVal else FalsyVal, 2, none),
  ("neq", Logic.stringComparator fun a b => if a ≠ b then TruthyVal else FalsyVal, 2, none),
  ("not", Logic.kfNot, 1, some 1), ("and", Logic.kfAnd, 0, none), ("or", Logic.kfOr, 0, none),
  ("if", Logic.kfIf, 2, some 3), ("unless", Logic.kfUnless, 2, some 2), ("switch", Logic.kfSwitch, 2, none),
  ("len", Strings.kfLen, 1, some 1),
  ("like", Strings.testHelper fun v c => Strings.containsB v c, 2, some 2),
  ("prefix", Strings.testHelper fun v c => c.isPrefixOf v, 2, some 2),
  ("suffix", Strings.testHelper fun v c => c.isSuffixOf v, 2, some 2),
  ("upper", Case.caseHelperU Case.goToUpper, 1, some 1), ("lower", Case.caseHelperU Case.goToLower, 1, some 1),
  ("substr", Strings.kfSubstr, 3, some 3), ("select", Strings.kfSelect, 2, some 2),
  ("tab", Strings.kfJoin [9], 0, none), ("$", Strings.kfJoin [0], 0, none), ("@", Strings.kfJoin [0], 0, none),
  ("csv", Strings.kfCsv, 0, none), ("hi", Strings.kfHumanizeInt, 1, some 1),
  ("bytesize", Float.unitHelper true 1024 [32] Strings.iecSizes, 1, some 2),
  ("bytesizesi", Float.unitHelper true 1000 [32] Strings.siSizes, 1, some 2),
  ("downscale", Float.unitHelper false 1000 [] Strings.unitSize, 1, some 2),
  ("lookup", Misc.kfLookupKey, 2, some 3), ("haskey", Misc.kfHasKey, 2, some 3), ("repeat", Misc.kfRepeat, 2, some 2),
  ("basename", Misc.pathHelper Misc.pathBase, 1, some 1), ("dirname", Misc.pathHelper Misc.pathDir, 1, some 1),
  ("extname", Misc.pathHelper Misc.pathExt, 1, some 1),
  ("format", Format.kfFormat isPrint, 1, none)]

/-- Every C11 helper: its builder rejects an argument list exactly when the number of arguments is outside the
    helper's interval – for argument lists of every length. -/
theorem c11Builders_arity (isPrint : Nat → Bool) :
    ∀ e ∈ c11Builders isPrint, ∀ as : List Stage,
      argRejected (e.2.1 as) = !inArity e.2.2.1 e.2.2.2 as.length := by
  simp only [c11Builders, List.forall_mem_cons, List.not_mem_nil, false_imp_iff, implies_true,
    arity_int, arity_float, arity_isint, arity_isnum, arity_kfBucket, arity_kfBucketRange, arity_clamp,
    arity_expbucket, arity_cmp, arity_pow, arity_unaryF, arity_round, arity_percent, arity_coalesce, arity_strcmp,
    arity_not, arity_and, arity_or, arity_if, arity_unless, arity_switch, arity_len, arity_test, arity_case,
    arity_substr, arity_select, arity_join, arity_csv, arity_hi, arity_unit, arity_lookupKey, arity_hasKey,
    arity_repeat, arity_path, arity_format, and_self]

/-- … and that builder is the one the C11 driver's registry (`c11Table`) binds to the name (`format` is evaluated
    by the driver's `fmt` op and the two-oracle builder of `Funcs/Format.lean`). -/
theorem c11Builders_registered (isPrint : Nat → Bool) :
    ∀ e ∈ c11Builders isPrint, e.1 = "format" ∨ lookupTable c11Table e.1 = some e.2.1 := by
  intro e he
  simp only [c11Builders, List.mem_cons, List.mem_nil_iff, or_false] at he
  repeat (rcases he with rfl | he; · exact Or.inr rfl)
  subst he; exact Or.inl rfl

end Rare.C11

import Rare.Proofs.C09Frag
import Rare.Spec.C09FragW
import Rare.Proofs.C08Format
/-!
C09: the world-relative fragment (`Spec/C09FragW.lean`) satisfies the registry hypothesis of the generalised
print/compile theorem for arbitrary tree denotations (`RegDenV`, `Proofs/C09DenV.lean`), under the tree
semantics with binders `evalW`.
-/
namespace Rare.C09
open Rare Rare.Expr

/-- The entry is correct (denotation level): for argument stages denoting the argument trees under ANY
    denotation `val`, the builder returns a stage whose value in every context is `semD` of the argument
    denotations. -/
def EntryOkD (e : EntryD) : Prop :=
  ∀ (val : Val) (D : C09.Expr → Bool) (args : List C09.Expr) (cargs : List Stage), DenArgsV val D cargs args →
    e.arity args.length = true → e.pre (fun a => val a emptyCtx) D args = true →
    ∃ stage, e.builder cargs = .ok ⟨some stage, none⟩ ∧
      (∀ ctx, stage.run ctx = .ok (e.semD (args.map val) ctx)) ∧ (e.first = true → DynFirst stage cargs)

theorem EntryOkV.toD {e : Entry} (h : EntryOkV e) : EntryOkD e.toD := by
  intro val D args cargs hden har hpre
  obtain ⟨stage, hi, hf⟩ := h val D args cargs hden har hpre
  refine ⟨stage, hi.built, fun ctx => ?_, hf⟩
  rw [hi.run ctx (valArgs val ctx args) (hden.runs ctx)]
  simp [Entry.toD, valArgs, List.map_map, Function.comp_def]

namespace FW
open Funcs.Format Funcs.Range

/-! ### `format` -/

theorem evalAll_run (ctx : Ctx) : ∀ (l : List Stage) (vals : List Bytes), l.map (·.run ctx) = vals.map .ok →
    (evalAll l).run ctx = .ok vals
  | [], vals, h => by cases vals <;> simp at h; rfl
  | a :: r, vals, h => by
    obtain ⟨v, vs, rfl, h0, hr⟩ := map_run_cons h
    unfold evalAll
    simp only [Comp.bind_eq, Comp.pure_eq]
    rw [Comp.run_bind_ok h0, Comp.run_bind_ok (evalAll_run ctx r vs hr)]
    rfl

theorem format_ok (isPrint : Nat → Bool) : EntryOkV (formatE isPrint) := EntryOkV.simple fun cargs har _ => by
  match cargs, har with
  | a0 :: rest, _ =>
    refine ⟨_, ⟨rfl, fun ctx vals h => ?_⟩, fun _ => startsWith_bind _ _ _⟩
    obtain ⟨v, vs, rfl, h0, hr⟩ := map_run_cons h
    simp only [Comp.bind_eq, Comp.pure_eq]
    rw [Comp.run_bind_ok h0, Comp.run_bind_ok (evalAll_run ctx rest vs hr)]
    simp only [formatE, formatSem]
    obtain ⟨out, ho⟩ := sprintf_total isPrint v vs
    rw [ho]; rfl

/-! ### binders -/

theorem bindCtx_eq : bindCtx = Rare.C17.subCtx := rfl

theorem den2 {val : Val} {D : C09.Expr → Bool} {args : List C09.Expr} {cargs : List Stage}
    (hden : DenArgsV val D cargs args) (har : args.length = 2) :
    ∃ e0 e1 c0 c1, args = [e0, e1] ∧ cargs = [c0, c1] ∧ DenV val D c0 e0 ∧ DenV val D c1 e1 := by
  match args, cargs, hden, har with
  | [e0, e1], [c0, c1], hden, _ => exact ⟨e0, e1, c0, c1, rfl, rfl, hden.1, hden.2.1⟩

theorem startsWith_dyn {stage : Stage} {cargs : List Stage} (hs : StartsWith stage cargs)
    (hrun : ∃ w, stage.run emptyCtx = .ok w) : DynFirst stage cargs :=
  dynFirst_of_startsWith hs hrun

theorem map_ok : EntryOkD mapE := by
  intro val D args cargs hden har _
  obtain ⟨e0, e1, c0, c1, rfl, rfl, h0, h1⟩ := den2 hden (by simpa [mapE] using har)
  have hrun : ∀ ctx, (mapStage c0 c1).run ctx = .ok (mapSemD ([e0, e1].map val) ctx) := fun ctx =>
    Rare.C17.map_spec ctx c0 c1 (val e0 ctx) (fun v0 v1 => val e1 (bindCtx ctx v0 v1)) (h0.run ctx)
      (fun v0 v1 => h1.run _)
  exact ⟨mapStage c0 c1, rfl, hrun, fun _ =>
    dynFirst_of_startsWith (startsWith_bind _ _ _) ⟨_, hrun emptyCtx⟩⟩

theorem filter_ok : EntryOkD filterE := by
  intro val D args cargs hden har _
  obtain ⟨e0, e1, c0, c1, rfl, rfl, h0, h1⟩ := den2 hden (by simpa [filterE] using har)
  have hrun : ∀ ctx, (filterStage c0 c1).run ctx = .ok (filterSemD ([e0, e1].map val) ctx) := fun ctx =>
    Rare.C17.filter_spec ctx c0 c1 (val e0 ctx) (fun v0 v1 => val e1 (bindCtx ctx v0 v1)) (h0.run ctx)
      (fun v0 v1 => h1.run _)
  exact ⟨filterStage c0 c1, rfl, hrun, fun _ =>
    dynFirst_of_startsWith (startsWith_bind _ _ _) ⟨_, hrun emptyCtx⟩⟩

theorem reduce_ok : EntryOkD reduceE := by
  intro val D args cargs hden har hpre
  match args, cargs, hden, hpre with
  | [e0, e1], [c0, c1], hden, _ =>
    have hrun : ∀ ctx, (reduceStage [] c0 c1).run ctx = .ok (reduceSemD ([e0, e1].map val) ctx) := fun ctx =>
      Rare.C17.reduce_spec ctx c0 c1 (val e0 ctx) [] (fun v0 v1 => val e1 (bindCtx ctx v0 v1)) (hden.1.run ctx)
        (fun v0 v1 => hden.2.1.run _)
    exact ⟨reduceStage [] c0 c1, rfl, hrun, fun _ =>
      dynFirst_of_startsWith (startsWith_bind _ _ _) ⟨_, hrun emptyCtx⟩⟩
  | [e0, e1, .lit s], [c0, c1, c2], hden, _ =>
    have hc2 : c2 = .ret (utf8 s) := hden.2.2.1.lit s rfl
    subst hc2
    have hv : ∀ ctx, val (.lit s) ctx = utf8 s := fun ctx => by
      have := hden.2.2.1.run ctx
      simp only [Comp.run, Except.ok.injEq] at this
      exact this.symm
    have hrun : ∀ ctx, (reduceStage (utf8 s) c0 c1).run ctx = .ok (reduceSemD ([e0, e1, .lit s].map val) ctx) :=
      fun ctx => by
        simp only [List.map, reduceSemD, hv]
        exact Rare.C17.reduce_spec ctx c0 c1 (val e0 ctx) (utf8 s) (fun v0 v1 => val e1 (bindCtx ctx v0 v1))
          (hden.1.run ctx) (fun v0 v1 => hden.2.1.run _)
    exact ⟨reduceStage (utf8 s) c0 c1, rfl, hrun, fun _ =>
      dynFirst_of_startsWith (startsWith_bind _ _ _) ⟨_, hrun emptyCtx⟩⟩

theorem for_ok : EntryOkD forE := by
  intro val D args cargs hden har _
  match args, cargs, hden, har with
  | [e0, e1, e2], [c0, c1, c2], hden, _ =>
    have hrun : ∀ ctx, (forStage c0 c1 c2).run ctx = .ok (forSemD ([e0, e1, e2].map val) ctx) := fun ctx =>
      Rare.C17.for_spec ctx c0 c1 c2 (val e0 ctx) (fun v0 v1 => val e1 (bindCtx ctx v0 v1))
        (fun v0 v1 => val e2 (bindCtx ctx v0 v1)) (hden.1.run ctx) (fun v0 v1 => hden.2.1.run _)
        (fun v0 v1 => hden.2.2.1.run _)
    exact ⟨forStage c0 c1 c2, rfl, hrun, fun _ =>
      dynFirst_of_startsWith (startsWith_bind _ _ _) ⟨_, hrun emptyCtx⟩⟩

/-! ### time helpers (UTC) -/
section
open Funcs.TimeW

theorem duration_ok (w : FragWorld) (hw : w.Ok) : EntryOkV (durationE w) := EntryOkV.simple fun cargs har _ => by
  obtain ⟨a, rfl⟩ := len1 (l := cargs) (by simpa [durationE] using har)
  refine ⟨_, ⟨rfl, fun ctx vals h => ?_⟩, fun _ => startsWith_bind _ _ _⟩
  obtain ⟨v, rfl, h0⟩ := map_run_1 h
  simp only [Comp.bind_eq, Comp.pure_eq]
  rw [Comp.run_bind_ok h0]
  simp only [durationE, FS.mapSem]
  cases hd : C18.duration v with
  | val b => rfl
  | unmodelled why => simp only [outVal]; rw [hw why]; rfl

theorem durationFormat_ok (w : FragWorld) (hw : w.Ok) : EntryOkV (durationFormatE w) :=
  EntryOkV.simple fun cargs har _ => by
  obtain ⟨a, rfl⟩ := len1 (l := cargs) (by simpa [durationFormatE] using har)
  refine ⟨_, ⟨rfl, fun ctx vals h => ?_⟩, fun _ => startsWith_bind _ _ _⟩
  obtain ⟨v, rfl, h0⟩ := map_run_1 h
  simp only [Comp.bind_eq, Comp.pure_eq]
  rw [Comp.run_bind_ok h0]
  simp only [durationFormatE, FS.mapSem]
  cases hd : C18.durationFormat v with
  | val b => rfl
  | unmodelled why => simp only [outVal]; rw [hw why]; rfl

theorem parseTz_utc (tw : TimeWorld) (tz : Bytes) (h : utcName tz = true) : parseTz tw tz = some (.utc, true) := by
  simp only [utcName, Bool.and_eq_true, Bool.or_eq_true, decide_eq_true_eq] at h
  unfold parseTz
  simp only [h.2, if_true]

theorem isAscii_eq (b : Bytes) : Funcs.TimeW.isAscii b = FW.isAscii b := rfl

/-- the stage `kfTimeFormat` builds for UTC -/
def tfStage (tw : TimeWorld) (fmtArg : Bytes) (a0 : Stage) : Stage :=
  a0.bind fun s => match atoi s with
    | none => .ret ErrorNum
    | some u => (timeAt tw .utc u).bind fun t => formatR tw (C18.namedTimeFormatToFormat C18.timeFormats fmtArg) t

theorem kfTimeFormat_utc (tw : TimeWorld) (a0 : Stage) (rest : List Stage) (fmtArg tzf : Bytes)
    (hlen : rest.length ≤ 2)
    (hf : evalStageIndexOrDefault (a0 :: rest) 1 C18.rfc3339 = .ok fmtArg)
    (ht : evalStageIndexOrDefault (a0 :: rest) 2 [] = .ok tzf)
    (haf : FW.isAscii fmtArg = true) (hu : utcName tzf = true) :
    kfTimeFormat tw (a0 :: rest) = ok (tfStage tw fmtArg a0) := by
  have hat : FW.isAscii tzf = true := by
    simp only [utcName, Bool.and_eq_true] at hu; exact hu.1
  have hl : ¬ rest.length > 2 := by omega
  unfold kfTimeFormat
  simp only [hl, if_false, hf, ht, isAscii_eq, haf, hat, Bool.and_self, Bool.not_true, parseTz_utc tw tzf hu]
  rfl

theorem tfStage_run (w : FragWorld) (hw : w.Ok) (fmtArg : Bytes) (a0 : Stage) (ctx : Ctx) (v : Bytes)
    (h0 : a0.run ctx = .ok v) : (tfStage w.tw fmtArg a0).run ctx = .ok (timeformatVal w.lib fmtArg v) := by
  unfold tfStage timeformatVal
  rw [Comp.run_bind_ok h0]
  cases atoi v with
  | none => rfl
  | some u =>
    show (formatR w.tw _ (utcTime u)).run ctx = _
    unfold formatR
    simp only [utcTime]
    by_cases hr : inAbsRange u 0 = true
    · simp only [hr, if_true]; rfl
    · simp only [hr, if_false, Bool.false_eq_true]; rw [hw]; rfl

theorem lit_val {val : Val} {D : C09.Expr → Bool} {s : List Char} (h : DenV val D (.ret (utf8 s)) (.lit s)) (ctx : Ctx) :
    val (.lit s) ctx = utf8 s := by
  have := h.run ctx
  simp only [Comp.run, Except.ok.injEq] at this
  exact this.symm

theorem timeformat_ok (w : FragWorld) (hw : w.Ok) : EntryOkV (timeformatE w) := by
  intro val D args cargs hden har hpre
  match args, cargs, hden, hpre with
  | [e0], [c0], hden, _ =>
    refine Inst.bindFirst (b := kfTimeFormat w.tw) _ hden.total
      (kfTimeFormat_utc w.tw c0 [] _ [] (by simp) rfl rfl (by decide +kernel) (by decide +kernel)) fun ctx vals h => ?_
    obtain ⟨v, rfl, h0⟩ := map_run_1 h
    exact tfStage_run w hw C18.rfc3339 c0 ctx v h0
  | [e0, .lit f], [c0, c1], hden, hpre =>
    have hc1 : c1 = .ret (utf8 f) := hden.2.1.lit f rfl
    subst hc1
    refine Inst.bindFirst (b := kfTimeFormat w.tw) _ hden.total
      (kfTimeFormat_utc w.tw c0 [.ret (utf8 f)] _ [] (by simp) rfl rfl hpre (by decide +kernel)) fun ctx vals h => ?_
    obtain ⟨v, x, rfl, h0, h1⟩ := map_run_2 h
    simp only [Comp.run, Except.ok.injEq] at h1
    subst h1
    exact tfStage_run w hw (utf8 f) c0 ctx v h0
  | [e0, .lit f, .lit tz], [c0, c1, c2], hden, hpre =>
    have hc1 : c1 = .ret (utf8 f) := hden.2.1.lit f rfl
    have hc2 : c2 = .ret (utf8 tz) := hden.2.2.1.lit tz rfl
    subst hc1; subst hc2
    have hpre : (FW.isAscii (utf8 f) && utcName (utf8 tz)) = true := hpre
    simp only [Bool.and_eq_true] at hpre
    refine Inst.bindFirst (b := kfTimeFormat w.tw) _ hden.total
      (kfTimeFormat_utc w.tw c0 [.ret (utf8 f), .ret (utf8 tz)] _ (utf8 tz) (by simp) rfl rfl hpre.1 hpre.2) fun ctx vals h => ?_
    obtain ⟨v, x, y, rfl, h0, h1, h2⟩ := map_run_3 h
    simp only [Comp.run, Except.ok.injEq] at h1
    subst h1
    exact tfStage_run w hw (utf8 f) c0 ctx v h0

theorem kfTimeAttr_utc (tw : TimeWorld) (a0 : Stage) (attr : Bytes) (rest : List Stage) (tzf : Bytes)
    (hlen : rest.length ≤ 1)
    (ht : evalStageIndexOrDefault (a0 :: .ret attr :: rest) 2 [] = .ok tzf)
    (ha : attrName attr = true) (hu : utcName tzf = true) :
    kfTimeAttr tw (a0 :: .ret attr :: rest) = ok (attrStage tw attr .utc a0) := by
  have hat : FW.isAscii tzf = true := by
    simp only [utcName, Bool.and_eq_true] at hu; exact hu.1
  simp only [attrName, Bool.and_eq_true] at ha
  have hl : ¬ rest.length > 1 := by omega
  unfold kfTimeAttr
  simp only [hl, if_false, FR.probe_ret, ht, isAscii_eq, ha.1, ha.2, hat, Bool.and_self, Bool.not_true,
    parseTz_utc tw tzf hu]
  rfl

theorem attrStage_run (w : FragWorld) (hw : w.Ok) (attr : Bytes) (a0 : Stage) (ctx : Ctx) (v : Bytes)
    (h0 : a0.run ctx = .ok v) : (attrStage w.tw attr .utc a0).run ctx = .ok (timeattrVal w.lib attr v) := by
  unfold attrStage timeattrVal
  simp only [Comp.bind_eq, Comp.pure_eq]
  rw [Comp.run_bind_ok h0]
  cases atoi v with
  | none => rfl
  | some u =>
    show (if (!inAbsRange u 0) = true then w.tw.lib "time-abs-range" else
      match C18.timeAttr attr u 0 with
      | some b => Comp.ret b
      | none => w.tw.lib "no-such-attr").run ctx = _
    by_cases hr : inAbsRange u 0 = true
    · simp only [hr, Bool.not_true, Bool.false_eq_true, if_false]
      cases C18.timeAttr attr u 0 with
      | some b => rfl
      | none => simp only []; rw [hw]; rfl
    · have hr' : inAbsRange u 0 = false := by simpa using hr
      simp only [hr', Bool.not_false, if_true]; rw [hw]; rfl

theorem timeattr_ok (w : FragWorld) (hw : w.Ok) : EntryOkV (timeattrE w) := by
  intro val D args cargs hden har hpre
  match args, cargs, hden, hpre with
  | [e0, .lit a], [c0, c1], hden, hpre =>
    have hc1 : c1 = .ret (utf8 a) := hden.2.1.lit a rfl
    subst hc1
    refine Inst.bindFirst (b := kfTimeAttr w.tw) _ hden.total
      (kfTimeAttr_utc w.tw c0 _ [] [] (by simp) rfl hpre (by decide +kernel)) fun ctx vals h => ?_
    obtain ⟨v, x, rfl, h0, h1⟩ := map_run_2 h
    simp only [Comp.run, Except.ok.injEq] at h1
    subst h1
    exact attrStage_run w hw (utf8 a) c0 ctx v h0
  | [e0, .lit a, .lit tz], [c0, c1, c2], hden, hpre =>
    have hc1 : c1 = .ret (utf8 a) := hden.2.1.lit a rfl
    have hc2 : c2 = .ret (utf8 tz) := hden.2.2.1.lit tz rfl
    subst hc1; subst hc2
    have hpre : (attrName (utf8 a) && utcName (utf8 tz)) = true := hpre
    simp only [Bool.and_eq_true] at hpre
    refine Inst.bindFirst (b := kfTimeAttr w.tw) _ hden.total
      (kfTimeAttr_utc w.tw c0 _ [.ret (utf8 tz)] (utf8 tz) (by simp) rfl hpre.1 hpre.2) fun ctx vals h => ?_
    obtain ⟨v, x, y, rfl, h0, h1, h2⟩ := map_run_3 h
    simp only [Comp.run, Except.ok.injEq] at h1
    subst h1
    exact attrStage_run w hw (utf8 a) c0 ctx v h0

end

end FW

/-! ### the widened fragment -/

/-- The standard registry of the world: `stdTable` + `format` + the time helpers. -/
def stdRegistryW (w : FragWorld) (known : List String) : Registry := mkRegistry (stdTableW w) known

theorem lookupTable_append_left {t u : Table} {n : String} {b : Builder} (h : lookupTable t n = some b) :
    lookupTable (t ++ u) n = some b := by
  unfold lookupTable at *
  rw [List.find?_append]
  cases hf : t.find? (·.1 == n) with
  | none => rw [hf] at h; cases h
  | some p => rw [hf] at h; simpa using h

theorem fragTableNew_ok (w : FragWorld) (hw : w.Ok) :
    ∀ p ∈ fragTableNew w, EntryOkD p.2 ∧ lookupTable (stdTableW w) p.1 = some p.2.builder := by
  intro p hp
  simp only [fragTableNew, List.mem_cons, List.not_mem_nil, or_false] at hp
  rcases hp with rfl | rfl | rfl | rfl | rfl | rfl | rfl | rfl | rfl
  · exact ⟨(FW.format_ok w.isPrint).toD, rfl⟩
  · exact ⟨FW.map_ok, rfl⟩
  · exact ⟨FW.filter_ok, rfl⟩
  · exact ⟨FW.reduce_ok, rfl⟩
  · exact ⟨FW.for_ok, rfl⟩
  · exact ⟨(FW.duration_ok w hw).toD, rfl⟩
  · exact ⟨(FW.durationFormat_ok w hw).toD, rfl⟩
  · exact ⟨(FW.timeformat_ok w hw).toD, rfl⟩
  · exact ⟨(FW.timeattr_ok w hw).toD, rfl⟩

theorem fragTableW_ok (w : FragWorld) (hw : w.Ok) :
    ∀ p ∈ fragTableW w, EntryOkD p.2 ∧ lookupTable (stdTableW w) p.1 = some p.2.builder := by
  intro p hp
  rcases List.mem_append.mp hp with hp | hp
  · obtain ⟨q, hq, rfl⟩ := List.mem_map.mp hp
    obtain ⟨h1, h2⟩ := fragTable_okV q hq
    refine ⟨h1.toD, ?_⟩
    show lookupTable (stdTable ++ Funcs.Format.table w.isPrint ++ Funcs.TimeW.table w.tw) q.1 = some q.2.builder
    rw [List.append_assoc]
    exact lookupTable_append_left h2
  · exact fragTableNew_ok w hw p hp

theorem fragLookupW_mem {w : FragWorld} {n : String} {e : EntryD} (h : fragLookupW w n = some e) :
    (n, e) ∈ fragTableW w := find_mem h

theorem std_lookupW (w : FragWorld) (known : List String) (f : List Char) (b : Builder)
    (h : lookupTable (stdTableW w) (String.ofList f) = some b) : stdRegistryW w known f = some b := by
  simp only [stdRegistryW, mkRegistry, h]

theorem evalDs_map (look : String → Option EntryD) : ∀ args : List C09.Expr, evalDs look args = args.map (evalD look)
  | [] => by rw [evalDs]; rfl
  | a :: r => by rw [evalDs, evalDs_map look r]; rfl

theorem evalW_call (w : FragWorld) (f : List Char) (args : List C09.Expr) (e : EntryD)
    (hl : fragLookupW w (String.ofList f) = some e) (ctx : Ctx) :
    evalW w (.call f args) ctx = e.semD (args.map (evalW w)) ctx := by
  unfold evalW
  rw [evalD, hl, evalDs_map]

theorem valOkW (w : FragWorld) : ValOk (evalW w) :=
  ⟨fun s ctx => by unfold evalW; rw [evalD], fun n ctx => by unfold evalW; rw [evalD],
   fun k ctx => by unfold evalW; rw [evalD]⟩

theorem dynW_lit (w : FragWorld) (s : List Char) : dynW w (.lit s) = false := by rw [dynW]

theorem call_regDenW (w : FragWorld) (hw : w.Ok) (known : List String) (f : List Char) (args : List C09.Expr)
    (h : callOkW w f args = true) :
    ∃ b, stdRegistryW w known f = some b ∧ ∀ cargs, DenArgsV (evalW w) (dynW w) cargs args →
      ∃ stage, b cargs = .ok ⟨some stage, none⟩ ∧ DenV (evalW w) (dynW w) stage (.call f args) := by
  unfold callOkW at h
  cases hl : fragLookupW w (String.ofList f) with
  | none => rw [hl] at h; cases h
  | some e =>
    rw [hl] at h
    simp only [Bool.and_eq_true] at h
    obtain ⟨hok, hreg⟩ := fragTableW_ok w hw _ (fragLookupW_mem hl)
    refine ⟨e.builder, std_lookupW w known f _ hreg, fun cargs hden => ?_⟩
    obtain ⟨stage, hb, hrun, hfirst⟩ := hok (evalW w) (dynW w) args cargs hden h.1 h.2
    refine ⟨stage, hb, ⟨fun ctx => ?_, fun hd => ?_, fun s hs => by cases hs⟩⟩
    · rw [hrun ctx, evalW_call w f args e hl]
    · rw [dynW] at hd
      simp only [hl, Bool.and_eq_true] at hd
      match args, cargs, hden, hd with
      | a :: rest, c :: cs, hden, hd =>
        rw [dynHeadW] at hd
        exact hfirst hd.1 c cs rfl (hden.1.dyn hd.2)

mutual
theorem regDenW_of_fragOkW (w : FragWorld) (hw : w.Ok) (known : List String) : ∀ e : C09.Expr, fragOkW w e = true →
    RegDenV (stdRegistryW w known) (evalW w) (dynW w) e
  | .lit _, _ => trivial
  | .group _, _ => trivial
  | .key _, _ => trivial
  | .call f args, h => by
    simp only [fragOkW, Bool.and_eq_true] at h
    exact ⟨call_regDenW w hw known f args h.1, regDenArgsW_of_fragOkW w hw known args h.2⟩
theorem regDenArgsW_of_fragOkW (w : FragWorld) (hw : w.Ok) (known : List String) : ∀ l : List C09.Expr,
    fragOkArgsW w l = true → RegDenArgsV (stdRegistryW w known) (evalW w) (dynW w) l
  | [], _ => trivial
  | a :: rest, h => by
    simp only [fragOkArgsW, Bool.and_eq_true] at h
    exact ⟨regDenW_of_fragOkW w hw known a h.1, regDenArgsW_of_fragOkW w hw known rest h.2⟩
end

/-- **Print/compile over the world-relative fragment.** -/
theorem printTop_std_fragment_world (w : FragWorld) (hw : w.Ok) (known : List String) (opt : Bool) (σ : Style)
    (e : C09.Expr) (ha : AdmissibleTop e) (hf : fragOkW w e = true) :
    ∃ stages, compile (stdRegistryW w known) opt (printTop σ e) = .ok (stages, []) ∧
      ∀ ctx, (buildKey stages).run ctx = .ok (evalW w e ctx) :=
  printTop_denV (stdRegistryW w known) (evalW w) (dynW w) opt (dynW_lit w) (valOkW w) σ e ha
    (regDenW_of_fragOkW w hw known e hf)

/-! ### the binder-free special case: `evalW` is `evalTree` under `stdSem` -/

mutual
/-- Every function name in the tree is one of the 65 value-level names. -/
def valueLevel : C09.Expr → Bool
  | .call f args => fragNames.contains (String.ofList f) && valueLevelArgs args
  | _ => true
def valueLevelArgs : List C09.Expr → Bool
  | [] => true
  | a :: rest => valueLevel a && valueLevelArgs rest
end

theorem find_map_toD (n : String) : ∀ l : List (String × Entry),
    (l.map fun p => (p.1, p.2.toD)).find? (·.1 == n) = (l.find? (·.1 == n)).map fun p => (p.1, p.2.toD)
  | [] => rfl
  | p :: r => by
    simp only [List.map_cons, List.find?_cons]
    cases p.1 == n with
    | true => rfl
    | false => exact find_map_toD n r

theorem fragLookupW_old (w : FragWorld) (n : String) (e : Entry) (h : fragLookup n = some e) :
    fragLookupW w n = some e.toD := by
  unfold fragLookup at h
  unfold fragLookupW fragTableW
  rw [List.find?_append, find_map_toD]
  cases hf : fragTable.find? (·.1 == n) with
  | none => rw [hf] at h; cases h
  | some p =>
    rw [hf] at h
    simp only [Option.map_some, Option.some.injEq] at h
    subst h; rfl

theorem fragLookup_of_name (n : String) (h : fragNames.contains n = true) : ∃ e, fragLookup n = some e := by
  unfold fragLookup
  cases hf : fragTable.find? (·.1 == n) with
  | some p => exact ⟨p.2, rfl⟩
  | none =>
    exfalso
    have hmem : n ∈ fragNames := by simpa using h
    obtain ⟨q, hq, rfl⟩ := List.mem_map.mp hmem
    have := List.find?_eq_none.mp hf q hq
    simp at this

mutual
theorem evalW_value_level (w : FragWorld) (ctx : Ctx) : ∀ e : C09.Expr, valueLevel e = true →
    evalW w e ctx = evalTree (envOf ctx stdSem) e
  | .lit s, _ => by unfold evalW; rw [evalD, evalTree]
  | .group n, _ => by unfold evalW; rw [evalD, evalTree]; rfl
  | .key k, _ => by unfold evalW; rw [evalD, evalTree]; rfl
  | .call f args, h => by
    simp only [valueLevel, Bool.and_eq_true] at h
    obtain ⟨e, he⟩ := fragLookup_of_name _ h.1
    rw [evalW_call w f args e.toD (fragLookupW_old w _ e he) ctx, evalTree]
    simp only [Entry.toD, envOf, stdSem, he, List.map_map]
    congr 1
    exact evalW_value_level_args w ctx args h.2
theorem evalW_value_level_args (w : FragWorld) (ctx : Ctx) : ∀ l : List C09.Expr, valueLevelArgs l = true →
    l.map ((fun d => d ctx) ∘ evalW w) = evalArgs (envOf ctx stdSem) l
  | [], _ => by rw [evalArgs]; rfl
  | a :: rest, h => by
    simp only [valueLevelArgs, Bool.and_eq_true] at h
    rw [evalArgs, List.map_cons, evalW_value_level_args w ctx rest h.2]
    congr 1
    exact evalW_value_level w ctx a h.1
end

/-! ### the 65-name fragment lies inside the widened one -/

/-- A side condition looks at the evaluation / the certificate of ITS arguments only. -/
def PreLocal (pre : (C09.Expr → Bytes) → (C09.Expr → Bool) → List C09.Expr → Bool) : Prop :=
  ∀ ev ev' dyn dyn' args, (∀ a ∈ args, ev a = ev' a ∧ dyn a = dyn' a) → pre ev dyn args = pre ev' dyn' args

theorem noPre_local : PreLocal noPre := fun _ _ _ _ _ _ => rfl

theorem typedArg_congr {α : Type} (parser : Bytes → Option α) {ev ev' : C09.Expr → Bytes} {dyn dyn' : C09.Expr → Bool}
    {a : C09.Expr} (h : ev a = ev' a ∧ dyn a = dyn' a) : typedArg parser ev dyn a = typedArg parser ev' dyn' a := by
  unfold typedArg; rw [h.1, h.2]

theorem typedPre_local {α : Type} (parser : Bytes → Option α) : PreLocal (typedPre parser) := by
  intro ev ev' dyn dyn' args h
  unfold typedPre
  induction args with
  | nil => rfl
  | cons a r ih =>
    simp only [List.all_cons]
    rw [typedArg_congr parser (h a (by simp)), ih (fun b hb => h b (by simp [hb]))]

theorem percentPre_local : PreLocal FF.percentPre := by
  intro ev ev' dyn dyn' args h
  unfold FF.percentPre
  match args, h with
  | [], _ => rfl
  | [_], _ => rfl
  | [_, d], _ => rfl
  | [_, d, mx], h => simp only []; rw [typedArg_congr _ (h mx (by simp))]
  | [_, d, mn, mx], h => simp only []; rw [typedArg_congr _ (h mx (by simp)), typedArg_congr _ (h mn (by simp))]
  | _ :: _ :: _ :: _ :: _ :: _, _ => rfl

theorem constPre_local (c : List C09.Expr → Bool) : PreLocal (fun _ _ args => c args) := fun _ _ _ _ _ _ => rfl

theorem fragTable_local : AllE (fun p => PreLocal p.2.pre) fragTable := by
  unfold fragTable
  repeat' constructor
  all_goals first
    | exact noPre_local
    | exact typedPre_local _
    | exact percentPre_local
    | exact (fun _ _ _ _ _ _ => rfl)


theorem fragLookup_name {n : String} {e : Entry} (h : fragLookup n = some e) : fragNames.contains n = true := by
  have hm := fragLookup_mem h
  have : n ∈ fragNames := List.mem_map.mpr ⟨(n, e), hm, rfl⟩
  simpa using this

theorem emptyEval_eq (e : C09.Expr) : emptyEval e = evalTree (envOf emptyCtx stdSem) e := rfl

mutual
/-- On the old fragment: value-level, same certificate, and inside the widened fragment. -/
theorem old_in_world (w : FragWorld) : ∀ e : C09.Expr, fragOk e = true →
    valueLevel e = true ∧ dynW w e = dynE e ∧ fragOkW w e = true
  | .lit _, _ => ⟨by simp [valueLevel], by rw [dynW, dynE], by simp [fragOkW]⟩
  | .group _, _ => ⟨by simp [valueLevel], by rw [dynW, dynE], by simp [fragOkW]⟩
  | .key _, _ => ⟨by simp [valueLevel], by rw [dynW, dynE], by simp [fragOkW]⟩
  | .call f args, h => by
    simp only [fragOk, Bool.and_eq_true] at h
    obtain ⟨hc, ha⟩ := h
    obtain ⟨hv, hd, hf⟩ := old_in_world_args w args ha
    unfold callOk at hc
    cases hl : fragLookup (String.ofList f) with
    | none => rw [hl] at hc; cases hc
    | some e =>
      rw [hl] at hc
      simp only [Bool.and_eq_true] at hc
      have hlw := fragLookupW_old w _ e hl
      have hdyn : dynW w (.call f args) = dynE (.call f args) := by
        rw [dynW, dynE, hlw, hl]
        simp only [Entry.toD]
        cases args with
        | nil => rw [dynHeadW, dynHead]
        | cons a r => rw [dynHeadW, dynHead]; rw [(hd a (by simp)).2]
      refine ⟨by rw [valueLevel, fragLookup_name hl, hv]; rfl, hdyn, ?_⟩
      rw [fragOkW, hf, Bool.and_true]
      unfold callOkW
      rw [hlw]
      simp only [Entry.toD, hc.1, Bool.true_and]
      have hloc := fragTable_local.mem _ (fragLookup_mem hl)
      rw [hloc (fun a => evalW w a emptyCtx) emptyEval (dynW w) dynE args (fun a ha' => hd a ha')]
      exact hc.2
theorem old_in_world_args (w : FragWorld) : ∀ l : List C09.Expr, fragOkArgs l = true →
    valueLevelArgs l = true ∧ (∀ a ∈ l, evalW w a emptyCtx = emptyEval a ∧ dynW w a = dynE a) ∧ fragOkArgsW w l = true
  | [], _ => ⟨by simp [valueLevelArgs], fun a ha => (by cases ha), by simp [fragOkArgsW]⟩
  | a :: rest, h => by
    simp only [fragOkArgs, Bool.and_eq_true] at h
    obtain ⟨h1, h2, h3⟩ := old_in_world w a h.1
    obtain ⟨r1, r2, r3⟩ := old_in_world_args w rest h.2
    refine ⟨by rw [valueLevelArgs, h1, r1]; rfl, fun b hb => ?_, by rw [fragOkArgsW, h3, r3]; rfl⟩
    rcases List.mem_cons.mp hb with rfl | hb
    · exact ⟨by rw [emptyEval_eq]; exact evalW_value_level w emptyCtx _ h1, h2⟩
    · exact r2 b hb
end

end Rare.C09

import Rare.Proofs.C08Arith
import Rare.Proofs.C14Bars
import Rare.Model.Expr.Funcs.Extra
/-!
C08 for the helpers that consult the world outside the template (`Funcs/Extra.lean`): `color`, `bar`,
`load`, `json` are panic-free on safe arguments for EVERY world – any float arithmetic, either value
of the colour / unicode switches, any file system – provided the gjson library call returns.
For `bar` this contains the statement that `barUnicode[remainingBlocks]` is always in range, whatever
the float computation produced (`barWrite_total`).
-/
namespace Rare.C14
open Rare

theorem barParts_lt (rem : Int) : (barParts rem).2 < barUnicode.length := by
  have : (barUnicode.length : Int) = 9 := rfl
  have : barUnicodePartCount = 9 := rfl
  unfold barParts
  split <;> simp only [*] <;> omega

/-- The index into `barUnicode` is a remainder modulo its length: `BarWrite` cannot panic, whatever
    value the float arithmetic produced (NaN, ±Inf, negative, beyond 1). -/
theorem barWriteR_total {α : Type} (A : Arith α) (env : Env) (u : α) (maxLen : Int) :
    ∃ rs, barWriteR A env u maxLen = .ok rs := by
  unfold barWriteR
  split
  · have hlt := barParts_lt (lengthVal A (wrap64 (maxLen * barUnicodePartCount)) u)
    simp only [bind, Except.bind, pure, Except.pure]
    split
    · rename_i hp
      obtain ⟨g, hg⟩ := getIdx_ok barUnicode (Int.le_of_lt hp) hlt
      rw [hg]; exact ⟨_, rfl⟩
    · exact ⟨_, rfl⟩
  · exact ⟨_, rfl⟩

theorem barWrite_total {α : Type} (A : Arith α) (env : Env) (u : α) (maxLen : Int) :
    ∃ b, barWrite A env u maxLen = .ok b := by
  unfold barWrite
  obtain ⟨rs, h⟩ := barWriteR_total A env u maxLen
  simp only [bind, Except.bind, h, pure, Except.pure]
  exact ⟨_, rfl⟩

end Rare.C14

namespace Rare.Expr.Funcs
open Rare Rare.Expr

theorem Draw.kfColor_safe (env : C14.Env) : SafeBuilder (Draw.kfColor env) := by
  intro args h
  show SafeResult _
  unfold Draw.kfColor
  split
  · rename_i a0 a1
    obtain ⟨v, b, hp⟩ := (h a0 (by simp)).probe
    rw [hp]
    cases b with
    | false => exact SafeResult.errConst
    | true =>
      simp only []
      split
      · exact SafeResult.errEnum
      · exact SafeResult.ok (Safe.bind' (h a1 (by simp)) fun v => Safe.pure _)
  · exact SafeResult.errArgCount

theorem Draw.barStage_safe {α : Type} (A : C14.Arith α) (env : C14.Env) (k : C14.Scaler) (maxVal maxLen : Int)
    {a0 : Stage} (h : Safe a0) : Safe (Draw.barStage A env k maxVal maxLen a0) := by
  unfold Draw.barStage
  apply Safe.bind' h
  intro v
  cases atoi v with
  | none => exact Safe.pure _
  | some val =>
    simp only []
    obtain ⟨b, hb⟩ := C14.barWrite_total A env (C14.scale A k val 0 maxVal) maxLen
    rw [hb]
    exact .ret _

theorem Draw.kfBar_safe {α : Type} (A : C14.Arith α) (env : C14.Env) : SafeBuilder (Draw.kfBar A env) := by
  intro args h
  show SafeResult _
  refine .ite SafeResult.errArgCount ?_
  split
  · rename_i a0 a1 a2 rest
    have h0 : Safe a0 := h a0 (by simp)
    obtain ⟨r1, e1⟩ := evalStageInt_safe (h a1 (by simp))
    obtain ⟨r2, e2⟩ := evalStageInt_safe (h a2 (by simp))
    rw [e1]
    cases r1 with
    | none => exact SafeResult.errNum
    | some maxVal =>
      simp only []
      rw [e2]
      cases r2 with
      | none => exact SafeResult.errNum
      | some maxLen =>
        refine .ite SafeResult.errValue ?_
        split
        · exact SafeResult.ok (Draw.barStage_safe A env _ _ _ h0)
        · rename_i a3 _
          obtain ⟨v, b, hp⟩ := (h a3 (by simp)).probe
          rw [hp]
          cases b with
          | false => exact SafeResult.errConst
          | true =>
            simp only []
            split
            · exact SafeResult.errEnum
            · exact SafeResult.ok (Draw.barStage_safe A env _ _ _ h0)
  · exact SafeResult.errArgCount

theorem Files.kfLoadFile_safe (disabled : Bool) (fs : Bytes → Option Bytes) :
    SafeBuilder (Files.kfLoadFile disabled fs) := by
  intro args h
  show SafeResult _
  refine .ite SafeResult.errFile ?_
  split
  · rename_i a0
    obtain ⟨v, b, hp⟩ := (h a0 (by simp)).probe
    rw [hp]
    cases b with
    | false => exact SafeResult.errConst
    | true =>
      simp only []
      split
      · exact SafeResult.errFile
      · exact SafeResult.ok (Safe.lit _)
  · exact SafeResult.errArgCount

theorem Json.kfJsonQuery_safe (gjson : Bytes → Bytes → Comp Bytes) (hg : ∀ j p, Safe (gjson j p)) :
    SafeBuilder (Json.kfJsonQuery gjson) := by
  intro args h
  show SafeResult _
  unfold Json.kfJsonQuery
  split
  · rename_i a0
    exact SafeResult.ok (Safe.bind' (Safe.match_ 0) fun j => Safe.bind' (h a0 (by simp)) fun e => hg j e)
  · rename_i a0 a1
    exact SafeResult.ok (Safe.bind' (h a0 (by simp)) fun j => Safe.bind' (h a1 (by simp)) fun e => hg j e)
  · exact SafeResult.errArgCount

/-- Every helper of `Extra.table` is a safe builder, in every world whose gjson call returns. -/
theorem Extra.extra_safe {α : Type} (w : Extra.World α) (hg : ∀ j p, Safe (w.gjson j p)) :
    ∀ p ∈ Extra.table w, SafeBuilder p.2 := by
  simp only [Extra.table, Draw.table, Files.table, Json.table, List.cons_append, List.nil_append,
    List.forall_mem_cons, List.not_mem_nil, false_imp_iff, implies_true, and_true]
  exact ⟨Draw.kfColor_safe _, Draw.kfBar_safe _ _, Files.kfLoadFile_safe _ _, Json.kfJsonQuery_safe _ hg⟩

end Rare.Expr.Funcs

import Rare.Proofs.C17Wf
import Rare.Proofs.C17Range
/-!
C17, list-level lemmas behind the composition laws of the array helpers (`Props/C17.lean`, section
"Composition laws"): what a packed list reads back as when it is handed to the next helper.
-/
namespace Rare.C17
open Rare Rare.Expr Rare.Expr.Funcs.Range

theorem elems_ne_nil (s : Bytes) : elems s ≠ [] := splitOn_ne_nil _ s

theorem map_elems_ne_nil (s : Bytes) (g : Bytes → Bytes) : (elems s).map g ≠ [] := by
  simpa using elems_ne_nil s

/-- A mapped array whose values are separator-free is read back as it is. -/
theorem elems_pack_map (s : Bytes) (g : Bytes → Bytes) (h : ∀ x ∈ elems s, NUL ∉ g x) :
    elems (pack ((elems s).map g)) = (elems s).map g :=
  (elems_pack_iff _ (map_elems_ne_nil s g)).mpr (by simpa [List.mem_map] using h)

theorem elems_nil : elems [] = [[]] := rfl

theorem pack_nil : pack [] = [] := rfl
theorem pack_single (x : Bytes) : pack [x] = x := rfl

theorem pack_cons_cons_ne (x y : Bytes) (r : List Bytes) : pack (x :: y :: r) ≠ [] := by
  have : pack (x :: y :: r) = x ++ [NUL] ++ join [NUL] (y :: r) := rfl
  rw [this]; simp

/-- The array value is the empty string exactly for the empty list and for the list whose only element is
    the empty string: the two are the same VALUE. -/
theorem pack_eq_nil_iff (ys : List Bytes) : pack ys = [] ↔ ys = [] ∨ ys = [[]] := by
  match ys with
  | [] => simp [pack_nil]
  | [x] => simp [pack_single]
  | x :: y :: r =>
    constructor
    · intro h; exact absurd h (pack_cons_cons_ne x y r)
    · intro h; rcases h with h | h <;> simp at h

/-- A packed list of separator-free members, read back by the next helper: the list itself – except that the
    EMPTY list reads back as the one-element list `[""]` (the empty string is both). -/
theorem elems_pack_of_free (ys : List Bytes) (h : ∀ y ∈ ys, NUL ∉ y) :
    elems (pack ys) = if ys = [] then [[]] else ys := by
  by_cases hy : ys = []
  · subst hy; rfl
  · rw [if_neg hy]; exact (elems_pack_iff ys hy).mpr h

/-- `@len` of a packed separator-free list: the number of members, except that `[""]` counts as 0. -/
theorem len_pack (ys : List Bytes) (h : ∀ y ∈ ys, NUL ∉ y) :
    len (pack ys) = if ys = [[]] then 0 else ys.length := by
  unfold len
  by_cases hp : pack ys = []
  · rw [if_pos hp]
    rcases (pack_eq_nil_iff ys).mp hp with h1 | h1 <;> subst h1 <;> simp
  · rw [if_neg hp]
    have h1 : ys ≠ [] := fun e => hp (by subst e; rfl)
    have h2 : ys ≠ [[]] := fun e => hp (by subst e; rfl)
    rw [(elems_pack_iff ys h1).mpr h, if_neg h2]

theorem len_le_elems (s : Bytes) : len s ≤ (elems s).length := by
  unfold len; split <;> omega

theorem len_pos_eq (s : Bytes) (h : s ≠ []) : len s = (elems s).length := by
  unfold len; rw [if_neg h]

/-! ### sub-lists of `[""]` -/

theorem pack_sublist_unit (zs : List Bytes) (h : zs.Sublist [[]]) : pack zs = [] := by
  have hl : zs.length ≤ 1 := by simpa using h.length_le
  match zs, h, hl with
  | [], _, _ => rfl
  | [z], h, _ =>
    have : z ∈ ([[]] : List Bytes) := h.subset (by simp)
    have : z = [] := by simpa using this
    subst this; rfl
  | _ :: _ :: _, _, hl => simp at hl

theorem slice_sublist (xs : List Bytes) (start len : Int) : (slice xs start len).Sublist xs := by
  unfold slice
  simp only
  split
  · exact List.drop_sublist _ _
  · exact (List.take_sublist _ _).trans (List.drop_sublist _ _)

/-- Slicing what an earlier helper packed: on the VALUE level the empty list and `[""]` cannot be told apart,
    and need not be – both slice to the empty value. -/
theorem pack_slice_pack (ys : List Bytes) (h : ∀ y ∈ ys, NUL ∉ y) (start len : Int) :
    pack (slice (elems (pack ys)) start len) = pack (slice ys start len) := by
  rw [elems_pack_of_free ys h]
  by_cases hy : ys = []
  · subst hy
    rw [if_pos rfl, pack_sublist_unit _ (slice_sublist _ _ _)]
    have : slice ([] : List Bytes) start len = [] := List.eq_nil_of_sublist_nil (slice_sublist _ _ _)
    rw [this]; rfl
  · rw [if_neg hy]

theorem slice_natCast (xs : List Bytes) (a : Nat) (l : Int) :
    slice xs a l = if l < 0 then xs.drop a else (xs.drop a).take l.toNat := by
  have : ¬ (a : Int) < 0 := by omega
  simp only [slice, this, if_false, Int.toNat_natCast]

/-- `slice ∘ slice` for non-negative starts: one slice, from the sum of the starts; the second length is cut
    to what the first one left. -/
theorem slice_slice_nonneg (xs : List Bytes) (s1 l1 s2 l2 : Int) (h1 : 0 ≤ s1) (h2 : 0 ≤ s2) :
    slice (slice xs s1 l1) s2 l2 =
      slice xs (s1 + s2) (if l1 < 0 then l2 else if l2 < 0 then max 0 (l1 - s2) else min l2 (max 0 (l1 - s2))) := by
  -- every non-negative integer is written as a natural number first, so that `toNat`, `max`, `min` compute
  obtain ⟨a, rfl⟩ := Int.eq_ofNat_of_zero_le h1
  obtain ⟨b, rfl⟩ := Int.eq_ofNat_of_zero_le h2
  rw [← Int.natCast_add, slice_natCast, slice_natCast, slice_natCast]
  by_cases hl1 : l1 < 0
  · rw [if_pos hl1, if_pos hl1, List.drop_drop]
  · obtain ⟨n, rfl⟩ := Int.eq_ofNat_of_zero_le (Int.not_lt.mp hl1)
    have hm : max (0 : Int) (n - b) = ((n - b : Nat) : Int) := by omega
    rw [if_neg hl1, if_neg hl1, List.drop_take, List.drop_drop, hm, Int.toNat_natCast]
    by_cases hl2 : l2 < 0
    · rw [if_pos hl2, if_pos hl2, if_neg (Int.not_lt.mpr (Int.natCast_nonneg _)), Int.toNat_natCast]
    · obtain ⟨m, rfl⟩ := Int.eq_ofNat_of_zero_le (Int.not_lt.mp hl2)
      have e : min (m : Int) ((n - b : Nat) : Int) = ((min m (n - b) : Nat) : Int) := by omega
      rw [if_neg hl2, if_neg hl2, e, if_neg (Int.not_lt.mpr (Int.natCast_nonneg _)), List.take_take,
        Int.toNat_natCast, Int.toNat_natCast]

/-- Is `i` (negative: from the end) a position of a list of `n` elements? -/
def inRange (n : Nat) (i : Int) : Bool := (decide (0 ≤ i) && decide (i < n)) || (decide (i < 0) && decide (0 ≤ i + n))

/-- `select ∘ map`: mapping then selecting is selecting then mapping – when the position exists; otherwise
    nothing (NOT the function applied to nothing). -/
theorem select_map (g : Bytes → Bytes) (xs : List Bytes) (i : Int) :
    select (xs.map g) i = if inRange xs.length i then g (select xs i) else [] := by
  have hr : inRange xs.length i = true ↔
      0 ≤ (if i < 0 then i + (xs.length : Int) else i) ∧ (if i < 0 then i + (xs.length : Int) else i) < xs.length := by
    simp only [inRange, Bool.or_eq_true, Bool.and_eq_true, decide_eq_true_eq]
    split <;> omega
  unfold select
  rw [List.length_map]
  dsimp only
  generalize (if i < 0 then i + (xs.length : Int) else i) = j at hr
  by_cases hj : j < 0
  · rw [if_pos hj, if_neg (fun h => Int.not_le.mpr hj (hr.mp h).1)]
  · rw [if_neg hj, if_neg hj, List.getD_eq_getElem?_getD, List.getD_eq_getElem?_getD, List.getElem?_map]
    by_cases hn : j.toNat < xs.length
    · rw [if_pos (hr.mpr (by omega)), List.getElem?_eq_getElem hn]
      rfl
    · rw [if_neg (fun h => hn (by have := hr.mp h; omega)), List.getElem?_eq_none (by omega)]
      rfl
theorem select_mem_or_nil (xs : List Bytes) (i : Int) : select xs i = [] ∨ select xs i ∈ xs := by
  have hsel : select xs i =
      (if (if i < 0 then i + (xs.length : Int) else i) < 0 then []
       else xs.getD (if i < 0 then i + (xs.length : Int) else i).toNat []) := rfl
  rw [hsel]
  generalize (if i < 0 then i + (xs.length : Int) else i) = j
  by_cases hj : j < 0
  · simp [hj]
  · rw [if_neg hj, List.getD_eq_getElem?_getD]
    cases hg : xs[j.toNat]? with
    | none => exact Or.inl rfl
    | some x => exact Or.inr (List.mem_of_getElem? hg)

/-- Selecting from what an earlier helper packed (separator-free members): the empty list and `[""]` both give
    nothing at every position. -/
theorem select_elems_pack (ys : List Bytes) (h : ∀ y ∈ ys, NUL ∉ y) (i : Int) :
    select (elems (pack ys)) i = select ys i := by
  rw [elems_pack_of_free ys h]
  by_cases hy : ys = []
  · subst hy
    rw [if_pos rfl]
    have e : select ([] : List Bytes) i = [] := by
      rcases select_mem_or_nil [] i with h | h
      · exact h
      · simp at h
    rw [e]
    rcases select_mem_or_nil [[]] i with h | h
    · exact h
    · simpa using h
  · rw [if_neg hy]

theorem flatMap_congr_mem {α β : Type} (f g : α → List β) (l : List α) (h : ∀ x ∈ l, f x = g x) :
    l.flatMap f = l.flatMap g := by
  induction l with
  | nil => rfl
  | cons x r ih =>
    simp only [List.flatMap_cons]
    rw [h x (by simp), ih (fun y hy => h y (by simp [hy]))]

/-! ### the length of a range -/

theorem range_length (start stop incr : Int) : (range start stop incr).length = rangeCount start stop incr := by
  simp [range]

end Rare.C17

import Rare.Proofs.C07NumF64
/-!
C07, numerical aggregator over the software binary64 model – the arithmetic of `Samplef`:

* `binade`: a non-negative difference of two floats lies in `[w, 2w]` for a float `w` (a power of two, or 0);
* `mean_step_between`: from the second sample on, the updated mean lies between the old mean and the sample
  (for samples of magnitude at most `2^1021`, so that no difference overflows);
* `sim_step` / `exact_run`: when every intermediate value of the exact (rational) Welford recurrence is
  representable, the float run IS the exact run; constant samples are such a case (`const_run`);
* `mean_between`: hence the running mean stays inside every interval that contains the samples;
* `runOK_step` / `var_nonneg`: each increment of `M2` is non-negative, so `Variance()` / `StdDev()` are never NaN.
-/
namespace Rare.C07
open Rare Rare.F64

theorem rep_self (x : F64) (hx : x.isFinite = true) : Rep x.toRat := ⟨x, hx, rfl⟩

/-! ### floats are integer multiples of 2^-1074 -/

theorem toRat_units (x : F64) : ∃ z : Int, x.toRat = (z : Rat) / two1074 := by
  unfold toRat magVal
  split
  · refine ⟨-((magSig x.mag * 2 ^ magScale x.mag : Nat) : Int), ?_⟩
    rw [Rat.intCast_neg, Rat.intCast_natCast]
    have := two1074_ne
    grind
  · exact ⟨((magSig x.mag * 2 ^ magScale x.mag : Nat) : Int), by rw [Rat.intCast_natCast]⟩

theorem rat_div_pos {a c : Rat} (ha : 0 < a) (hc : 0 < c) : 0 < a / c := by
  apply Classical.byContradiction
  intro h
  have h1 : a / c ≤ 0 := by grind
  rw [rat_div_le_iff hc] at h1
  grind

/-- `2^1021`, written in units of `2^-1074`. -/
def bigB : Rat := ((2 ^ 2095 : Nat) : Rat) / two1074

theorem bigB_eq : bigB = ((2 ^ 1021 : Nat) : Rat) := by decide +kernel

/-- A non-negative multiple `y ≤ 2^1022` of `2^-1074` lies in `[w, 2w]` for some `w` (a power of two, or `0`) such
that `±w` and `±2w` are floats. -/
theorem binade (y : Rat) (z : Int) (hz : y = (z : Rat) / two1074) (h0 : 0 ≤ y) (hb : y ≤ 2 * bigB) :
    ∃ w : Rat, Rep w ∧ Rep (2 * w) ∧ Rep (-w) ∧ Rep (-(2 * w)) ∧ 0 ≤ w ∧ w ≤ y ∧ y ≤ 2 * w := by
  by_cases hy : y = 0
  · have r0 : Rep (2 * 0) := by rw [Rat.mul_zero]; exact rep_zero
    exact ⟨0, rep_zero, r0, rep_neg rep_zero, rep_neg r0, Rat.le_refl, h0, by rw [hy, Rat.mul_zero]; exact Rat.le_refl⟩
  have hpos : 0 < y := Rat.lt_of_le_of_ne h0 (Ne.symm hy)
  have c := two1074_pos
  have hzr : (z : Rat) = y * two1074 := by rw [hz]; exact (Rat.div_mul_cancel two1074_ne).symm
  have hz0 : 0 < z := by
    have : (0 : Rat) < (z : Rat) := by rw [hzr]; exact Rat.mul_pos hpos c
    exact_mod_cast this
  let t := z.toNat
  have ht : ((t : Nat) : Int) = z := Int.toNat_of_nonneg (by omega)
  have htq : (t : Rat) = (z : Rat) := by rw [← ht, Rat.intCast_natCast]
  have ht0 : t ≠ 0 := by omega
  have hyt : y = (t : Rat) / two1074 := by rw [htq]; exact hz
  -- the bound in units
  have htb : t ≤ 2 ^ 2096 := by
    have h1 : (t : Rat) ≤ 2 * bigB * two1074 := by
      rw [htq, hzr]; exact Rat.mul_le_mul_of_nonneg_right hb (Rat.le_of_lt c)
    have h2 : 2 * bigB * two1074 = ((2 ^ 2096 : Nat) : Rat) := by decide +kernel
    rw [h2] at h1
    exact Rat.natCast_le_natCast.mp h1
  have hL1 : 2 ^ t.log2 ≤ t := Nat.log2_self_le ht0
  have hL2 : t < 2 ^ (t.log2 + 1) := Nat.lt_log2_self
  have hL : t.log2 < 2097 := (Nat.log2_lt ht0).mpr (by
    have : (2 : Nat) ^ 2096 < 2 ^ 2097 := Nat.pow_lt_pow_right (by decide) (by decide)
    omega)
  have r1 := rep_of_dyadic 1 t.log2 (by decide) (by
    rw [Nat.one_mul]; exact Nat.pow_lt_pow_right (by decide) (by omega))
  have r2 := rep_of_dyadic 1 (t.log2 + 1) (by decide) (by
    rw [Nat.one_mul]; exact Nat.pow_lt_pow_right (by decide) (by omega))
  rw [Nat.one_mul] at r1 r2
  have e2 : ((2 ^ (t.log2 + 1) : Nat) : Rat) / two1074 = 2 * (((2 ^ t.log2 : Nat) : Rat) / two1074) := by
    rw [Nat.pow_succ, Rat.natCast_mul]
    have := two1074_ne
    have : ((2 : Nat) : Rat) = 2 := rfl
    grind
  rw [e2] at r2
  refine ⟨((2 ^ t.log2 : Nat) : Rat) / two1074, r1, r2, rep_neg r1, rep_neg r2, ?_, ?_, ?_⟩
  · exact Rat.le_of_lt (rat_div_pos (pow2_cast_pos _) c)
  · rw [hyt]; exact rat_div_le_div_right c (Rat.natCast_le_natCast.mpr hL1)
  · rw [← e2, hyt]; exact rat_div_le_div_right c (Rat.natCast_le_natCast.mpr (Nat.le_of_lt hL2))

/-! ### one update of the mean -/

theorem div_le_of_le_two_mul {d w k : Rat} (hd : 0 ≤ d) (hw : d ≤ 2 * w) (hk : 2 ≤ k) : d / k ≤ w := by
  have hk0 : (0 : Rat) < k := by grind
  rw [rat_div_le_iff hk0]
  have := Rat.mul_le_mul_of_nonneg_left hk (show 0 ≤ w by grind)
  grind

theorem le_div_of_two_mul_le {d w k : Rat} (hd : d ≤ 0) (hw : -(2 * w) ≤ d) (hk : 2 ≤ k) : -w ≤ d / k := by
  have hk0 : (0 : Rat) < k := by grind
  rw [rat_le_div_iff hk0]
  have := Rat.mul_le_mul_of_nonneg_left hk (show 0 ≤ w by grind)
  grind

theorem div_nonneg' {d k : Rat} (hd : 0 ≤ d) (hk : 0 < k) : 0 ≤ d / k := by
  rw [rat_le_div_iff hk, Rat.zero_mul]; exact hd

theorem div_nonpos' {d k : Rat} (hd : d ≤ 0) (hk : 0 < k) : d / k ≤ 0 := by
  rw [rat_div_le_iff hk, Rat.zero_mul]; exact hd

theorem sub_div_rat (a b k : Rat) : (a - b) / k = a / k - b / k := by
  rw [Rat.div_def, Rat.div_def, Rat.div_def]; grind

/-- The float `float64(k)` for `1 ≤ k ≤ 2^53`. -/
theorem ofInt_count (k : Nat) (hk1 : 1 ≤ k) (hk : k ≤ P53) :
    (F64.ofInt (k : Int)).isFinite = true ∧ (F64.ofInt (k : Int)).toRat = (k : Rat) ∧ (F64.ofInt (k : Int)).mag ≠ 0 := by
  obtain ⟨a, b⟩ := isFinite_ofInt (k : Int) (by omega)
  rw [Rat.intCast_natCast] at b
  refine ⟨a, b, ?_⟩
  intro h0
  have := toRat_eq_zero_of_mag h0
  rw [b] at this
  have : (k : Rat) = ((0 : Nat) : Rat) := this
  have := Rat.natCast_inj.mp this
  omega

/-- From the second sample on (`k ≥ 2`), for a finite mean `m` and sample `x` of magnitude at most `2^1021`:
`d = x - m` is finite with the sign of the exact difference, and the new mean lies between `m` and `x`.
The difference lies in a binade `[w, 2w]` of floats, so `d` does; then `0 ≤ d/k ≤ w`, so the quotient `e` does; then
`m + e` lies between the floats `m` and `x`, so its rounding does – rounding is monotone (`round_between`). -/
theorem mean_step_between (m x : F64) (k : Nat) (hk : 2 ≤ k) (hk2 : k ≤ P53)
    (hm : m.isFinite = true) (hx : x.isFinite = true)
    (bm : -bigB ≤ m.toRat ∧ m.toRat ≤ bigB) (bx : -bigB ≤ x.toRat ∧ x.toRat ≤ bigB) :
    let d := F64.sub x m
    let m' := F64.add m (F64.div d (F64.ofInt (k : Int)))
    d.isFinite = true ∧ m'.isFinite = true ∧
    ((0 ≤ d.toRat ∧ m.toRat ≤ m'.toRat ∧ m'.toRat ≤ x.toRat) ∨
     (d.toRat ≤ 0 ∧ x.toRat ≤ m'.toRat ∧ m'.toRat ≤ m.toRat)) := by
  intro d m'
  obtain ⟨kf, kv, kz⟩ := ofInt_count k (by omega) hk2
  have hkq : (2 : Rat) ≤ (k : Rat) := Rat.natCast_le_natCast.mpr hk
  have hk0 : (0 : Rat) < (k : Rat) := natCast_pos_of_pos (by omega)
  obtain ⟨zx, hzx⟩ := toRat_units x
  obtain ⟨zm, hzm⟩ := toRat_units m
  have hd : d = ofRatS (x.sign && !m.sign) (x.toRat - m.toRat) := sub_finite hx hm
  have he : d.isFinite = true → F64.div d (F64.ofInt (k : Int)) =
      ofRatS (d.sign != (F64.ofInt (k : Int)).sign) (d.toRat / (k : Rat)) := fun df => by
    rw [div_finite df kf kz, kv]
  rcases Rat.le_total (a := m.toRat) (b := x.toRat) with hle | hle
  · obtain ⟨w, rw1, rw2, _, _, w0, wle, wge⟩ := binade (x.toRat - m.toRat) (zx - zm)
      (by rw [hzx, hzm, Rat.intCast_sub, sub_div_rat]) ((Rat.le_iff_sub_nonneg _ _).mp hle) (by grind)
    have dv := round_between_rep hd rw1 rw2 wle wge
    have dnn : 0 ≤ d.toRat := Rat.le_trans w0 dv.2.1
    have ev := round_between_rep (he dv.1) rep_zero rw1 (div_nonneg' dnn hk0) (div_le_of_le_two_mul dnn dv.2.2 hkq)
    have mv := round_between (add_finite hm ev.1) hm hx (by grind) (by grind)
    exact ⟨dv.1, mv.1, Or.inl ⟨dnn, mv.2.1, mv.2.2⟩⟩
  · obtain ⟨w, _, _, rw1, rw2, w0, wle, wge⟩ := binade (m.toRat - x.toRat) (zm - zx)
      (by rw [hzx, hzm, Rat.intCast_sub, sub_div_rat]) ((Rat.le_iff_sub_nonneg _ _).mp hle) (by grind)
    have dv := round_between_rep hd rw2 rw1 (by grind) (by grind)
    have dnp : d.toRat ≤ 0 := Rat.le_trans dv.2.2 (Rat.neg_le_iff.mp (by rwa [Rat.neg_zero]))
    have ev := round_between_rep (he dv.1) rw1 rep_zero (le_div_of_two_mul_le dnp dv.2.1 hkq) (div_nonpos' dnp hk0)
    have mv := round_between (add_finite hm ev.1) hx hm (by grind) (by grind)
    exact ⟨dv.1, mv.1, Or.inr ⟨dnp, mv.2.1, mv.2.2⟩⟩

/-- Hence the new mean stays inside every interval that contains the old mean and the sample. -/
theorem mean_step_inside {m x : F64} {k : Nat} {a b : Rat} (hk : 2 ≤ k) (hk2 : k ≤ P53)
    (hm : m.isFinite = true) (hx : x.isFinite = true) (ha : -bigB ≤ a) (hb : b ≤ bigB)
    (ma : a ≤ m.toRat) (mb : m.toRat ≤ b) (xa : a ≤ x.toRat) (xb : x.toRat ≤ b) :
    (F64.add m (F64.div (F64.sub x m) (F64.ofInt (k : Int)))).isFinite = true ∧
    a ≤ (F64.add m (F64.div (F64.sub x m) (F64.ofInt (k : Int)))).toRat ∧
    (F64.add m (F64.div (F64.sub x m) (F64.ofInt (k : Int)))).toRat ≤ b := by
  obtain ⟨_, mf, c | c⟩ := mean_step_between m x k hk hk2 hm hx
    ⟨Rat.le_trans ha ma, Rat.le_trans mb hb⟩ ⟨Rat.le_trans ha xa, Rat.le_trans xb hb⟩
  · exact ⟨mf, Rat.le_trans ma c.2.1, Rat.le_trans c.2.2 xb⟩
  · exact ⟨mf, Rat.le_trans xa c.2.1, Rat.le_trans c.2.2 mb⟩

/-! ### exact runs: the float recurrence simulates the rational one while everything is representable -/

/-- The float state carries exactly the rational state. -/
structure Sim (sf : NumF) (sq : Numerical Rat) : Prop where
  samples : sf.samples = sq.samples
  meanF : sf.mean.isFinite = true
  meanV : sf.mean.toRat = sq.mean
  varF : sf.variance.isFinite = true
  varV : sf.variance.toRat = sq.variance

/-- Every intermediate value of one exact Welford update is a float. -/
def StepRep (sq : Numerical Rat) (xq : Rat) : Prop :=
  Rep (xq - sq.mean) ∧
  Rep ((xq - sq.mean) / ((sq.samples + 1 : Nat) : Rat)) ∧
  Rep (sq.mean + (xq - sq.mean) / ((sq.samples + 1 : Nat) : Rat)) ∧
  Rep (xq - (sq.mean + (xq - sq.mean) / ((sq.samples + 1 : Nat) : Rat))) ∧
  Rep ((xq - sq.mean) * (xq - (sq.mean + (xq - sq.mean) / ((sq.samples + 1 : Nat) : Rat)))) ∧
  Rep (sq.variance + (xq - sq.mean) * (xq - (sq.mean + (xq - sq.mean) / ((sq.samples + 1 : Nat) : Rat))))

theorem samplefQ_mean (keep : Bool) (sq : Numerical Rat) (xq : Rat) :
    (Numerical.samplef ratOps keep sq xq).mean = sq.mean + (xq - sq.mean) / ((sq.samples + 1 : Nat) : Rat) := rfl
theorem samplefQ_var (keep : Bool) (sq : Numerical Rat) (xq : Rat) :
    (Numerical.samplef ratOps keep sq xq).variance =
      sq.variance + (xq - sq.mean) * (xq - (sq.mean + (xq - sq.mean) / ((sq.samples + 1 : Nat) : Rat))) := rfl
theorem samplefQ_samples (keep : Bool) (sq : Numerical Rat) (xq : Rat) :
    (Numerical.samplef ratOps keep sq xq).samples = sq.samples + 1 := rfl

theorem samplefF_mean (keep : Bool) (s : NumF) (v : F64) :
    (NumF.samplef keep s v).mean = F64.add s.mean (F64.div (F64.sub v s.mean) (F64.ofInt ((s.samples + 1 : Nat) : Int))) := by
  unfold NumF.samplef Numerical.samplef; rfl
theorem samplefF_var (keep : Bool) (s : NumF) (v : F64) :
    (NumF.samplef keep s v).variance =
      F64.add s.variance (F64.mul (F64.sub v s.mean) (F64.sub v (NumF.samplef keep s v).mean)) := by
  unfold NumF.samplef Numerical.samplef; rfl

/-- An operation whose exact result is a float does not round. -/
theorem exact_of_rep {r : F64} {s : Bool} {q q' : Rat} (hr : r = ofRatS s q) (e : q = q') (h : Rep q') :
    r.isFinite = true ∧ r.toRat = q' := by
  subst hr e; exact ofRatS_rep s h

theorem sim_step (keep k2 : Bool) (sf : NumF) (sq : Numerical Rat) (x : F64) (hx : x.isFinite = true)
    (hs : Sim sf sq) (hn : sq.samples + 1 ≤ P53) (hr : StepRep sq x.toRat) :
    Sim (NumF.samplef keep sf x) (Numerical.samplef ratOps k2 sq x.toRat) := by
  obtain ⟨r1, r2, r3, r4, r5, r6⟩ := hr
  obtain ⟨kf, kv, kz⟩ := ofInt_count (sq.samples + 1) (by omega) hn
  have dv := exact_of_rep (sub_finite hx hs.meanF) (by rw [hs.meanV]) r1
  have ev := exact_of_rep (div_finite dv.1 kf kz) (by rw [dv.2, kv]) r2
  have mv := exact_of_rep (add_finite hs.meanF ev.1) (by rw [hs.meanV, ev.2]) r3
  have hmean : (NumF.samplef keep sf x).mean =
      F64.add sf.mean (F64.div (F64.sub x sf.mean) (F64.ofInt ((sq.samples + 1 : Nat) : Int))) := by
    rw [samplefF_mean, hs.samples]
  rw [← hmean] at mv
  have d2v := exact_of_rep (sub_finite hx mv.1) (by rw [mv.2]) r4
  have pv := exact_of_rep (mul_finite dv.1 d2v.1) (by rw [dv.2, d2v.2]) r5
  have vv := exact_of_rep (add_finite hs.varF pv.1) (by rw [hs.varV, pv.2]) r6
  rw [← samplefF_var] at vv
  exact ⟨by rw [samplef_samples, samplefQ_samples, hs.samples], mv.1, by rw [mv.2, samplefQ_mean],
    vv.1, by rw [vv.2, samplefQ_var]⟩

theorem sim_new : Sim NumF.new (Numerical.new ratOps) := by
  refine ⟨rfl, by decide, ?_, by decide, ?_⟩
  · exact toRat_eq_zero_of_mag (by decide)
  · exact toRat_eq_zero_of_mag (by decide)

/-- The exact recurrence stays inside the floats along the whole list. -/
def AllRep : Numerical Rat → List Rat → Prop
  | _, [] => True
  | sq, x :: l => StepRep sq x ∧ AllRep (Numerical.samplef ratOps false sq x) l

theorem sim_fold (keep : Bool) (l : List F64) : ∀ (sf : NumF) (sq : Numerical Rat), Sim sf sq →
    (∀ x ∈ l, x.isFinite = true) → sq.samples + l.length ≤ P53 → AllRep sq (l.map F64.toRat) →
    Sim (l.foldl (NumF.samplef keep) sf) ((l.map F64.toRat).foldl (Numerical.samplef ratOps false) sq) := by
  induction l with
  | nil => intro sf sq h _ _ _; exact h
  | cons x l ih =>
    intro sf sq h hf hn hr
    simp only [List.map_cons, AllRep] at hr
    simp only [List.length_cons] at hn
    rw [List.foldl_cons, List.map_cons, List.foldl_cons]
    apply ih _ _ (sim_step keep false sf sq x (hf x (by simp)) h (by omega) hr.1)
      (fun y hy => hf y (by simp [hy])) (by rw [samplefQ_samples]; omega) hr.2

/-- **Exact runs.**  If all samples are finite and every intermediate value of the exact Welford recurrence on
their values is a float, then the float aggregator holds exactly the exact state. -/
theorem exact_run (keep : Bool) (l : List F64) (hf : ∀ x ∈ l, x.isFinite = true) (hn : l.length ≤ P53)
    (hr : AllRep (Numerical.new ratOps) (l.map F64.toRat)) :
    Sim (runFv keep l) (runQ false (l.map F64.toRat)) := by
  have := sim_fold keep l NumF.new (Numerical.new ratOps) sim_new hf (by
    show 0 + l.length ≤ P53; omega) hr
  exact this

/-! a decidable form of the condition, for concrete lists -/

def repB (q : Rat) : Bool := (F64.ofRat q).isFinite && decide ((F64.ofRat q).toRat = q)

theorem rep_of_repB {q : Rat} (h : repB q = true) : Rep q := by
  unfold repB at h
  simp only [Bool.and_eq_true, decide_eq_true_eq] at h
  exact ⟨F64.ofRat q, h.1, h.2⟩

def stepRepB (sq : Numerical Rat) (xq : Rat) : Bool :=
  let d := xq - sq.mean
  let m' := sq.mean + d / ((sq.samples + 1 : Nat) : Rat)
  repB d && repB (d / ((sq.samples + 1 : Nat) : Rat)) && repB m' && repB (xq - m') && repB (d * (xq - m')) &&
    repB (sq.variance + d * (xq - m'))

def allRepB : Numerical Rat → List Rat → Bool
  | _, [] => true
  | sq, x :: l => stepRepB sq x && allRepB (Numerical.samplef ratOps false sq x) l

theorem allRep_of_allRepB : ∀ (l : List Rat) (sq : Numerical Rat), allRepB sq l = true → AllRep sq l := by
  intro l
  induction l with
  | nil => intro _ _; trivial
  | cons x l ih =>
    intro sq h
    simp only [allRepB, stepRepB, Bool.and_eq_true] at h
    obtain ⟨⟨⟨⟨⟨⟨a1, a2⟩, a3⟩, a4⟩, a5⟩, a6⟩, a7⟩ := h
    exact ⟨⟨rep_of_repB a1, rep_of_repB a2, rep_of_repB a3, rep_of_repB a4, rep_of_repB a5, rep_of_repB a6⟩, ih _ a7⟩

/-- `decide +kernel` on a closed `allRepB …` / `repB …` (`decide_rep c` also unfolds the constant `c` that hides the
samples): the check is unrolled over the list, which exposes its roundings to the fast twins, as in `decide_run`. -/
macro "decide_rep" ids:ident* : tactic =>
  `(tactic| (simp (config := { zeta := false }) only [List.map, allRepB, stepRepB, repB, F64.Fast.ops, $[$ids:ident],*]
             decide +kernel))

/-! ### constant samples -/

/-- One more sample equal to the mean: every intermediate value is `0` or the sample, and nothing changes. -/
theorem stepRep_same {sq : Numerical Rat} {x : Rat} (hx : Rep x) (h1 : sq.mean = x) (h2 : sq.variance = 0) :
    StepRep sq x ∧ (Numerical.samplef ratOps false sq x).mean = x ∧
      (Numerical.samplef ratOps false sq x).variance = 0 := by
  simp only [StepRep, samplefQ_mean, samplefQ_var, h1, h2, Rat.sub_self, Rat.div_def, Rat.add_zero, Rat.zero_mul]
  exact ⟨⟨rep_zero, rep_zero, hx, rep_zero, rep_zero, rep_zero⟩, trivial, trivial⟩

/-- The first sample: the mean becomes the sample, `M2` stays zero. -/
theorem stepRep_first {x : Rat} (hx : Rep x) :
    StepRep (Numerical.new ratOps) x ∧ (Numerical.samplef ratOps false (Numerical.new ratOps) x).mean = x ∧
      (Numerical.samplef ratOps false (Numerical.new ratOps) x).variance = 0 := by
  have e0 : (Numerical.new ratOps).mean = 0 := rfl
  have ev : (Numerical.new ratOps).variance = 0 := rfl
  have es : (((Numerical.new ratOps).samples + 1 : Nat) : Rat) = 1 := rfl
  have e1 : x - 0 = x := by grind
  simp only [StepRep, samplefQ_mean, samplefQ_var, e0, ev, es, e1, Rat.div_def, show (1 : Rat)⁻¹ = 1 by decide +kernel,
    Rat.mul_one, Rat.zero_add, Rat.sub_self, Rat.mul_zero]
  exact ⟨⟨hx, hx, hx, rep_zero, rep_zero, rep_zero⟩, trivial, trivial⟩

theorem allRep_const (x : Rat) (hx : Rep x) (n : Nat) : ∀ sq : Numerical Rat, sq.mean = x → sq.variance = 0 →
    AllRep sq (List.replicate n x) ∧
    ((List.replicate n x).foldl (Numerical.samplef ratOps false) sq).mean = x ∧
    ((List.replicate n x).foldl (Numerical.samplef ratOps false) sq).variance = 0 := by
  induction n with
  | zero => intro sq h1 h2; exact ⟨trivial, h1, h2⟩
  | succ n ih =>
    intro sq h1 h2
    obtain ⟨r, hm, hv⟩ := stepRep_same hx h1 h2
    obtain ⟨a, b, c⟩ := ih _ hm hv
    exact ⟨⟨r, a⟩, b, c⟩

theorem allRep_const_new (x : Rat) (hx : Rep x) (n : Nat) :
    AllRep (Numerical.new ratOps) (List.replicate (n + 1) x) ∧
    (runQ false (List.replicate (n + 1) x)).mean = x ∧ (runQ false (List.replicate (n + 1) x)).variance = 0 := by
  obtain ⟨r, hm, hv⟩ := stepRep_first hx
  obtain ⟨a, b, c⟩ := allRep_const x hx n _ hm hv
  exact ⟨⟨r, a⟩, b, c⟩

/-- Constant samples: the mean is exactly the sample and `M2` exactly zero, after every prefix. -/
theorem const_run (keep : Bool) (x : F64) (hx : x.isFinite = true) (n : Nat) (hn : n + 1 ≤ P53) :
    let r := runFv keep (List.replicate (n + 1) x)
    r.mean.isFinite = true ∧ r.mean.toRat = x.toRat ∧ r.variance.isFinite = true ∧ r.variance.toRat = 0 := by
  intro r
  obtain ⟨a, b, c⟩ := allRep_const_new x.toRat (rep_self x hx) n
  have hs := exact_run keep (List.replicate (n + 1) x)
    (fun y hy => by rw [(List.mem_replicate.mp hy).2]; exact hx) (by simpa using hn)
    (by rw [List.map_replicate]; exact a)
  rw [List.map_replicate] at hs
  exact ⟨hs.meanF, by rw [hs.meanV, b], hs.varF, by rw [hs.varV, c]⟩

/-- The first sample: mean = the sample, `M2` = 0. -/
theorem first_step (keep : Bool) (x : F64) (hx : x.isFinite = true) :
    let s := NumF.samplef keep NumF.new x
    s.samples = 1 ∧ s.mean.isFinite = true ∧ s.mean.toRat = x.toRat ∧ s.variance.isFinite = true ∧ s.variance.toRat = 0 := by
  have := const_run keep x hx 0 (by decide)
  exact ⟨rfl, this⟩

/-! ### the running mean stays inside every interval that contains the samples -/

/-- For finite samples of magnitude at most `2^1021` (at most `2^53` of them) the mean lies in every interval
that contains them all – rounding is monotone, so no update can leave the interval. -/
theorem mean_between (keep : Bool) (a b : Rat) (ha : -bigB ≤ a) (hb : b ≤ bigB) (l : List F64) (hne : l ≠ [])
    (hn : l.length ≤ P53) (hl : ∀ x ∈ l, x.isFinite = true ∧ a ≤ x.toRat ∧ x.toRat ≤ b) :
    (runFv keep l).mean.isFinite = true ∧ a ≤ (runFv keep l).mean.toRat ∧ (runFv keep l).mean.toRat ≤ b := by
  refine runFv_induction keep (P := fun _ s => s.mean.isFinite = true ∧ a ≤ s.mean.toRat ∧ s.mean.toRat ≤ b)
    ?_ ?_ l hne hn hl
  · intro x ⟨xf, xa, xb⟩
    obtain ⟨_, s2, s3, _, _⟩ := first_step keep x xf
    exact ⟨s2, s3 ▸ xa, s3 ▸ xb⟩
  · intro l x hne hn ⟨xf, xa, xb⟩ ⟨mf, lo, hi⟩
    have hpos := List.length_pos_iff.mpr hne
    rw [samplefF_mean, runFv_samples]
    exact mean_step_inside (by omega) hn mf xf ha hb lo hi xa xb

/-! ### `M2` never decreases below zero: `Variance()` and `StdDev()` are never NaN -/

/-- Not NaN and not negative (`+Inf` allowed: the products may overflow). -/
def VarOK (v : F64) : Prop := v.isNaN = false ∧ 0 ≤ v.key

theorem varOK_ofRatS (s : Bool) {q : Rat} (h : 0 ≤ q) : VarOK (ofRatS s q) := by
  refine ⟨isNaN_ofRatS s q, ?_⟩
  rw [key_ofRatS, if_neg (by grind)]
  omega

theorem varOK_sign_of_mag {v : F64} (h : VarOK v) (hm : v.mag ≠ 0) : v.sign = false := by
  have := h.2
  unfold key at this
  cases hs : v.sign
  · rfl
  · rw [hs] at this; simp only [if_true] at this; omega

theorem varOK_toRat {v : F64} (h : VarOK v) : 0 ≤ v.toRat := by
  rw [toRat_eq_keyVal]
  unfold keyVal
  rw [if_neg (by have := h.2; omega)]
  exact magVal_nonneg _

theorem varOK_add {v p : F64} (hv : VarOK v) (hp : VarOK p) : VarOK (F64.add v p) := by
  unfold F64.add
  rw [hv.1, hp.1]
  simp only [Bool.or_self, Bool.false_eq_true, if_false]
  cases hvi : v.isInf
  · cases hpi : p.isInf
    · simp only [Bool.false_eq_true, if_false]
      have fv := finite_of_not_nan_inf hv.1 hvi
      have fp := finite_of_not_nan_inf hp.1 hpi
      have a := varOK_toRat hv
      have b := varOK_toRat hp
      exact varOK_ofRatS _ (by grind)
    · simp only [Bool.false_eq_true, if_false, if_true]; exact hp
  · simp only [if_true]
    have hvm : v.mag ≠ 0 := by simp [isInf] at hvi; omega
    have sv := varOK_sign_of_mag hv hvm
    cases hpi : p.isInf
    · simp only [Bool.false_and, Bool.false_eq_true, if_false]; exact hv
    · have hpm : p.mag ≠ 0 := by simp [isInf] at hpi; omega
      have sp := varOK_sign_of_mag hp hpm
      rw [sv, sp]; simp only [bne_self_eq_false, Bool.and_false, Bool.false_eq_true, if_false]; exact hv

theorem varOK_mul_finite {d d2 : F64} (hd : d.isFinite = true) (hd2 : d2.isFinite = true)
    (h : 0 ≤ d.toRat * d2.toRat) : VarOK (F64.mul d d2) := by
  rw [mul_finite hd hd2]; exact varOK_ofRatS _ h

theorem ofInt_count_sign (k : Nat) (hk1 : 1 ≤ k) (hk : k ≤ P53) : (F64.ofInt (k : Int)).sign = false := by
  obtain ⟨_, kv, _⟩ := ofInt_count k hk1 hk
  cases hs : (F64.ofInt (k : Int)).sign
  · rfl
  · have := toRat_of_neg hs
    rw [kv] at this
    have h1 := magVal_nonneg (F64.ofInt (k : Int)).mag
    have h2 : (0 : Rat) < (k : Rat) := natCast_pos_of_pos (by omega)
    grind

theorem varOK_div_count {v : F64} (hv : VarOK v) (k : Nat) (hk1 : 1 ≤ k) (hk : k ≤ P53) :
    VarOK (F64.div v (F64.ofInt (k : Int))) := by
  obtain ⟨kf, kv, kz⟩ := ofInt_count k hk1 hk
  have ks := ofInt_count_sign k hk1 hk
  have hk0 : (0 : Rat) < (k : Rat) := natCast_pos_of_pos (by omega)
  cases hvi : v.isInf
  · have fv := finite_of_not_nan_inf hv.1 hvi
    rw [div_finite fv kf kz, kv]
    exact varOK_ofRatS _ (div_nonneg' (varOK_toRat hv) hk0)
  · have hvm : v.mag ≠ 0 := by simp [isInf] at hvi; omega
    have sv := varOK_sign_of_mag hv hvm
    unfold F64.div
    rw [hv.1, not_nan_of_finite kf, hvi, not_inf_of_finite kf, sv, ks]
    simp only [Bool.or_self, Bool.false_eq_true, if_false, if_true, bne_self_eq_false]
    exact ⟨by decide, by decide⟩

theorem varOK_sqrt {v : F64} (hv : VarOK v) : VarOK (F64.sqrt v) := by
  unfold F64.sqrt
  rw [hv.1]
  simp only [Bool.false_eq_true, if_false]
  cases hz : v.isZero
  · have hm : v.mag ≠ 0 := by simp [isZero] at hz; exact hz
    rw [varOK_sign_of_mag hv hm]
    simp only [Bool.false_eq_true, if_false]
    cases hi : v.isInf
    · simp only [Bool.false_eq_true, if_false]
      split
      · exact varOK_ofRatS _ (div_nonneg' Rat.natCast_nonneg (pow2_cast_pos _))
      · exact varOK_ofRatS _ (div_nonneg' Rat.natCast_nonneg (pow2_cast_pos _))
    · simp only [if_true]; exact hv
  · simp only [if_true]; exact hv

theorem rep_two_bigB : Rep (2 * bigB) := by
  have := rep_of_dyadic 1 2096 (by decide) (by
    rw [Nat.one_mul]; exact Nat.pow_lt_pow_right (by decide) (by decide))
  have e : ((1 * 2 ^ 2096 : Nat) : Rat) / two1074 = 2 * bigB := by decide +kernel
  rwa [e] at this

/-- Invariant of the whole run for bounded finite samples. -/
structure RunOK (s : NumF) : Prop where
  meanF : s.mean.isFinite = true
  meanLo : -bigB ≤ s.mean.toRat
  meanHi : s.mean.toRat ≤ bigB
  var : VarOK s.variance

theorem runOK_step (keep : Bool) (s : NumF) (x : F64) (hk : 1 ≤ s.samples) (hn : s.samples + 1 ≤ P53)
    (h : RunOK s) (xf : x.isFinite = true) (xl : -bigB ≤ x.toRat) (xh : x.toRat ≤ bigB) :
    RunOK (NumF.samplef keep s x) := by
  have st := mean_step_between s.mean x (s.samples + 1) (by omega) hn h.meanF xf ⟨h.meanLo, h.meanHi⟩ ⟨xl, xh⟩
  simp only [] at st
  rw [← samplefF_mean keep] at st
  obtain ⟨df, mf, c⟩ := st
  have hd2 := sub_finite xf mf
  -- the two factors of the increment of `M2` have the same sign
  have ⟨lo, hi, pv⟩ : -bigB ≤ (NumF.samplef keep s x).mean.toRat ∧ (NumF.samplef keep s x).mean.toRat ≤ bigB ∧
      VarOK (F64.mul (F64.sub x s.mean) (F64.sub x (NumF.samplef keep s x).mean)) := by
    rcases c with ⟨dnn, m1, m2⟩ | ⟨dnp, m1, m2⟩
    · have d2v := round_between_rep hd2 rep_zero rep_two_bigB
        ((Rat.le_iff_sub_nonneg _ _).mp m2) (by have := h.meanLo; grind)
      exact ⟨Rat.le_trans h.meanLo m1, Rat.le_trans m2 xh, varOK_mul_finite df d2v.1 (Rat.mul_nonneg dnn d2v.2.1)⟩
    · have d2v := round_between_rep hd2 (rep_neg rep_two_bigB) rep_zero (by have := h.meanHi; grind) (by grind)
      exact ⟨Rat.le_trans xl m1, Rat.le_trans m2 h.meanHi,
        varOK_mul_finite df d2v.1 (Lean.Grind.OrderedRing.mul_nonneg_of_nonpos_of_nonpos dnp d2v.2.2)⟩
  exact ⟨mf, lo, hi, by rw [samplefF_var]; exact varOK_add h.var pv⟩

/-- For finite samples of magnitude at most `2^1021`: `M2`, `Variance()` and `StdDev()` are never NaN and
never negative (they may be `+Inf` when a product overflows). -/
theorem var_nonneg (keep : Bool) (l : List F64) (hn : l.length ≤ P53)
    (hl : ∀ x ∈ l, x.isFinite = true ∧ -bigB ≤ x.toRat ∧ x.toRat ≤ bigB) :
    VarOK (runFv keep l).variance ∧ VarOK (runFv keep l).varianceF ∧ VarOK (runFv keep l).stdDev := by
  have hv : VarOK (runFv keep l).variance := by
    by_cases hne : l = []
    · subst hne; exact (⟨by decide, by decide⟩ : VarOK (F64.zero false))
    refine (runFv_induction keep (P := fun _ s => RunOK s) ?_ ?_ l hne hn hl).var
    · intro x ⟨xf, xa, xb⟩
      obtain ⟨_, s2, s3, s4, s5⟩ := first_step keep x xf
      refine ⟨s2, s3 ▸ xa, s3 ▸ xb, not_nan_of_finite s4, ?_⟩
      have hm : (NumF.samplef keep NumF.new x).variance.mag = 0 := (toRat_eq_zero_iff _).mp s5
      unfold key; rw [hm]; split <;> omega
    · intro l x hne hn ⟨xf, xa, xb⟩ h
      have hs := runFv_samples keep l
      have hpos := List.length_pos_iff.mpr hne
      exact runOK_step keep _ x (by omega) (by omega) h xf xa xb
  have hvf : VarOK (runFv keep l).varianceF := by
    rw [runFv_varianceF]
    split
    · exact varOK_div_count hv _ (by omega) (by omega)
    · exact ⟨by decide, by decide⟩
  exact ⟨hv, hvf, varOK_sqrt hvf⟩

end Rare.C07

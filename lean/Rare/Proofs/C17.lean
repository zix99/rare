import Rare.Spec.C17
import Rare.Model.Expr.Funcs.Range
/-!
C17: the list-level facts about splitting and joining
(`splitOn`/`join` of the specification, `indexOf` of the model).
-/
namespace Rare.C17
open Rare Rare.Expr Rare.Expr.Funcs.Range

/-! ## `join` -/

theorem join_cons_ne (d x : Bytes) (ys : List Bytes) (h : ys ≠ []) :
    join d (x :: ys) = x ++ d ++ join d ys := by
  cases ys with
  | nil => exact absurd rfl h
  | cons y r => rfl

/-! ## `splitGo` / `splitOn` -/

theorem splitGo_ne_nil (d s : Bytes) (k : Nat) (cur : Bytes) : splitGo d s k cur ≠ [] := by
  induction s generalizing k cur with
  | nil => simp [splitGo]
  | cons c r ih =>
    cases k with
    | zero =>
      simp only [splitGo]
      split
      · simp
      · exact ih _ _
    | succ k => simp only [splitGo]; exact ih _ _

theorem splitOn_ne_nil (d s : Bytes) : splitOn d s ≠ [] := splitGo_ne_nil d s 0 []

theorem splitGo_skip (d s : Bytes) (k : Nat) (cur : Bytes) :
    splitGo d s k cur = splitGo d (s.drop k) 0 cur := by
  induction s generalizing k with
  | nil => simp [splitGo]
  | cons c r ih =>
    cases k with
    | zero => simp
    | succ k => simp [splitGo, ih k]

theorem isPrefixOf_nil_false (d : Bytes) (hd : d ≠ []) : d.isPrefixOf ([] : Bytes) = false := by
  cases d with
  | nil => exact absurd rfl hd
  | cons a r => rfl

theorem indexOf_nil (d : Bytes) (hd : d ≠ []) : indexOf d [] = none := by
  unfold indexOf
  simp [isPrefixOf_nil_false d hd]

theorem indexOf_cons (d : Bytes) (c : UInt8) (r : Bytes) :
    indexOf d (c :: r) = if d.isPrefixOf (c :: r) then some 0 else (indexOf d r).map (· + 1) := by
  rw [indexOf]

/-- The byte-by-byte reading of the specification and the `strings.Index` based reading of the
    splitter describe the same split. -/
theorem splitGo_index (d : Bytes) (hd : d ≠ []) (s cur : Bytes) :
    splitGo d s 0 cur =
      match indexOf d s with
      | none => [cur ++ s]
      | some i => (cur ++ s.take i) :: splitGo d (s.drop (i + d.length)) 0 [] := by
  induction s generalizing cur with
  | nil => simp [indexOf_nil d hd, splitGo]
  | cons c r ih =>
    rw [indexOf_cons]
    by_cases hp : d.isPrefixOf (c :: r) = true
    · simp only [splitGo, hp, if_true]
      rw [splitGo_skip]
      have : 0 + d.length = (d.length - 1) + 1 := by
        have : d.length ≠ 0 := by simpa using hd
        omega
      simp [this]
    · simp only [splitGo, hp]
      rw [ih]
      cases hi : indexOf d r with
      | none => simp
      | some i =>
        simp only [Option.map_some, List.append_assoc, List.cons_append, List.nil_append]
        have : i + 1 + d.length = (i + d.length) + 1 := by omega
        simp [this]

theorem splitOn_index (d : Bytes) (hd : d ≠ []) (s : Bytes) :
    splitOn d s =
      match indexOf d s with
      | none => [s]
      | some i => s.take i :: splitOn d (s.drop (i + d.length)) := by
  unfold splitOn
  rw [splitGo_index d hd]
  cases indexOf d s <;> simp

/-- `indexOf` points at an occurrence. -/
theorem indexOf_some (d s : Bytes) (i : Nat) (h : indexOf d s = some i) :
    s = s.take i ++ d ++ s.drop (i + d.length) := by
  induction s generalizing i with
  | nil =>
    unfold indexOf at h
    by_cases hp : d.isPrefixOf ([] : Bytes) = true
    · have : d = [] := by
        have := List.isPrefixOf_iff_prefix.mp hp
        simpa using this
      simp [hp] at h
      subst h; simp [this]
    · simp [hp] at h
  | cons c r ih =>
    rw [indexOf_cons] at h
    by_cases hp : d.isPrefixOf (c :: r) = true
    · simp [hp] at h
      subst h
      obtain ⟨t, ht⟩ := List.isPrefixOf_iff_prefix.mp hp
      simp only [List.take_zero, List.nil_append, Nat.zero_add]
      rw [← ht]; simp
    · simp only [hp] at h
      cases hi : indexOf d r with
      | none => simp [hi] at h
      | some j =>
        simp [hi] at h
        subst h
        have := ih j hi
        have e : j + 1 + d.length = (j + d.length) + 1 := by omega
        simp only [List.take_succ_cons, List.cons_append, e, List.drop_succ_cons]
        exact congrArg (c :: ·) this

theorem indexOf_some_lt (d s : Bytes) (i : Nat) (hd : d ≠ []) (h : indexOf d s = some i) :
    (s.drop (i + d.length)).length < s.length := by
  have h1 := indexOf_some d s i h
  have h2 : s.length = (s.take i ++ d ++ s.drop (i + d.length)).length := by rw [← h1]
  simp only [List.length_append] at h2
  have : d.length ≠ 0 := by simpa using hd
  omega

/-- First inverse law: joining the pieces with the delimiter gives the string back. -/
theorem join_splitOn (d : Bytes) (hd : d ≠ []) (s : Bytes) : join d (splitOn d s) = s := by
  generalize hn : s.length = n
  induction n using Nat.strongRecOn generalizing s with
  | _ n ih =>
    rw [splitOn_index d hd]
    cases hi : indexOf d s with
    | none => simp [join]
    | some i =>
      simp only
      rw [join_cons_ne _ _ _ (splitOn_ne_nil _ _)]
      have hlt := indexOf_some_lt d s i hd hi
      rw [ih _ (by omega) _ rfl]
      exact (indexOf_some d s i hi).symm

theorem indexOf_none_of_not_infix (d s : Bytes) (h : ¬ d <:+: s) : indexOf d s = none := by
  induction s with
  | nil =>
    unfold indexOf
    have : ¬ d.isPrefixOf ([] : Bytes) = true := fun hp =>
      h (List.isPrefixOf_iff_prefix.mp hp).isInfix
    simp [this]
  | cons c r ih =>
    rw [indexOf_cons]
    have hp : ¬ d.isPrefixOf (c :: r) = true := fun hp =>
      h (List.isPrefixOf_iff_prefix.mp hp).isInfix
    have hr : ¬ d <:+: r := fun hr => h (List.infix_cons hr)
    simp [hp, ih hr]

theorem dropLast_append_getLast_prefix (d : Bytes) (hd : d ≠ []) (x t : Bytes) :
    x ++ d.dropLast <+: x ++ d ++ t := by
  refine ⟨[d.getLast hd] ++ t, ?_⟩
  have := List.dropLast_concat_getLast hd
  calc x ++ d.dropLast ++ ([d.getLast hd] ++ t) = x ++ (d.dropLast ++ [d.getLast hd]) ++ t := by simp
    _ = x ++ d ++ t := by rw [this]

/-- If the delimiter does not occur in `x` followed by all but the last byte of the delimiter, the
    first occurrence in `x ++ d ++ t` is the one right after `x`. -/
theorem indexOf_append (d : Bytes) (hd : d ≠ []) (x t : Bytes) (h : ¬ d <:+: x ++ d.dropLast) :
    indexOf d (x ++ d ++ t) = some x.length := by
  induction x with
  | nil =>
    unfold indexOf
    have : d.isPrefixOf ([] ++ d ++ t) = true :=
      List.isPrefixOf_iff_prefix.mpr ⟨t, by simp⟩
    rw [if_pos this]; simp
  | cons c x ih =>
    have hr : ¬ d <:+: x ++ d.dropLast := fun hr => h (by simpa using List.infix_cons hr)
    have hp : ¬ d.isPrefixOf (c :: x ++ d ++ t) = true := by
      intro hp
      have h1 : d <+: c :: x ++ d ++ t := List.isPrefixOf_iff_prefix.mp hp
      have h2 : (c :: x) ++ d.dropLast <+: c :: x ++ d ++ t := dropLast_append_getLast_prefix d hd (c :: x) t
      have hl : d.length ≤ ((c :: x) ++ d.dropLast).length := by
        simp only [List.length_append, List.length_cons, List.length_dropLast]
        omega
      exact h (List.prefix_of_prefix_length_le h1 h2 hl).isInfix
    have e : c :: x ++ d ++ t = c :: (x ++ d ++ t) := by simp
    rw [e, indexOf_cons]
    rw [e] at hp
    rw [if_neg hp, ih hr]
    simp

/-- Second inverse law: splitting a joined list gives the list back, provided the delimiter cannot
    be found anywhere but at the joints. -/
theorem splitOn_join (d : Bytes) (hd : d ≠ []) (xs : List Bytes) (hx : xs ≠ [])
    (h : ∀ x ∈ xs, ¬ d <:+: x ++ d.dropLast) : splitOn d (join d xs) = xs := by
  induction xs with
  | nil => exact absurd rfl hx
  | cons x r ih =>
    cases r with
    | nil =>
      have hn : ¬ d <:+: x := fun hi =>
        h x (by simp) (List.IsInfix.trans hi (List.prefix_append x d.dropLast).isInfix)
      rw [splitOn_index d hd]
      simp [join, indexOf_none_of_not_infix d x hn]
    | cons y r =>
      rw [splitOn_index d hd]
      have e : join d (x :: y :: r) = x ++ d ++ join d (y :: r) := rfl
      rw [e, indexOf_append d hd x _ (h x (by simp))]
      simp only
      have h1 : (x ++ d ++ join d (y :: r)).take x.length = x := by simp
      have h2 : (x ++ d ++ join d (y :: r)).drop (x.length + d.length) = join d (y :: r) := by
        have : x.length + d.length = (x ++ d).length := by simp
        rw [this, List.drop_left]
      rw [h1, h2, ih (by simp) (fun z hz => h z (by simp [hz]))]

end Rare.C17

import Rare.Proofs.C16Obj
/-! C16: `true` / `false` are emitted only for the exact ASCII spellings of the two words. -/
namespace Rare.C16

theorem lower_toNat (c : UInt8) :
    (lower c).toNat = if 0x41 ≤ c.toNat ∧ c.toNat ≤ 0x5a then c.toNat + 32 else c.toNat := by
  unfold lower
  by_cases h : 0x41 ≤ c ∧ c ≤ 0x5a
  · have h1 := UInt8.le_iff_toNat_le.mp h.1
    have h2 := UInt8.le_iff_toNat_le.mp h.2
    simp at h1 h2
    rw [if_pos h, if_pos ⟨by simpa using h1, by simpa using h2⟩, UInt8.toNat_add]
    simp; omega
  · rw [if_neg h]
    have : ¬ (0x41 ≤ c.toNat ∧ c.toNat ≤ 0x5a) := by
      intro ⟨h1, h2⟩
      exact h ⟨UInt8.le_iff_toNat_le.mpr (by simpa using h1), UInt8.le_iff_toNat_le.mpr (by simpa using h2)⟩
    rw [if_neg this]

/-- for a lower-case ASCII letter `l`: ASCII-lowering `c` gives `l` exactly for `l` and its capital -/
theorem lower_eq_iff (c l : UInt8) (h1 : 0x61 ≤ l.toNat) (h2 : l.toNat ≤ 0x7a) :
    lower c = l ↔ (c = l ∨ c = l - 32) := by
  have hs : (l - 32).toNat = l.toNat - 32 := by
    rw [UInt8.toNat_sub]; simp; omega
  constructor
  · intro h
    have := congrArg UInt8.toNat h
    rw [lower_toNat] at this
    split at this
    · right; apply UInt8.toNat_inj.mp; rw [hs]; omega
    · left; exact UInt8.toNat_inj.mp this
  · intro h
    apply UInt8.toNat_inj.mp
    rw [lower_toNat]
    rcases h with h | h
    · subst h; rw [if_neg (by omega)]
    · have : c.toNat = l.toNat - 32 := by rw [h, hs]
      rw [if_pos (by omega)]; omega

def IsLowerWord (lit : Bytes) : Prop := ∀ l ∈ lit, 0x61 ≤ l.toNat ∧ l.toNat ≤ 0x7a

theorem mem_spellings : ∀ (lit : Bytes), IsLowerWord lit → ∀ val : Bytes,
    val ∈ spellings lit ↔ val.map lower = lit := by
  intro lit
  induction lit with
  | nil => intro _ val; simp [spellings]
  | cons l r ih =>
    intro hl val
    have hl0 := hl l (by simp)
    have ih := ih (fun x hx => hl x (by simp [hx]))
    cases val with
    | nil => simp [spellings]
    | cons c t =>
      simp only [spellings, List.mem_flatMap, List.mem_cons, List.cons.injEq, List.not_mem_nil, or_false,
        List.map_cons]
      rw [lower_eq_iff c l hl0.1 hl0.2]
      constructor
      · rintro ⟨u, hu, ⟨e1, e2⟩ | ⟨e1, e2⟩⟩
        · subst e2; exact ⟨Or.inl e1, (ih t).mp hu⟩
        · subst e2; exact ⟨Or.inr e1, (ih t).mp hu⟩
      · rintro ⟨e1 | e1, e2⟩
        · exact ⟨t, (ih t).mpr e2, Or.inl ⟨e1, rfl⟩⟩
        · exact ⟨t, (ih t).mpr e2, Or.inr ⟨e1, rfl⟩⟩

theorem equalFoldLen_iff (val lit : Bytes) (hl : IsLowerWord lit) :
    equalFoldLen val lit = true ↔ val ∈ spellings lit := by
  rw [mem_spellings lit hl]
  unfold equalFoldLen
  simp only [Bool.and_eq_true, beq_iff_eq]
  constructor
  · exact fun h => h.2
  · intro h; exact ⟨by rw [← h]; simp, h⟩

theorem litTrue_lower : IsLowerWord litTrue := by intro l hl; simp [litTrue] at hl; rcases hl with h | h | h | h <;> subst h <;> decide
theorem litFalse_lower : IsLowerWord litFalse := by intro l hl; simp [litFalse] at hl; rcases hl with h | h | h | h | h <;> subst h <;> decide

theorem inferredVal_bool_iff (val : Bytes) (b : Bool) :
    inferredVal val = .bool b ↔ val ∈ spellings (if b then litTrue else litFalse) := by
  rcases writeInferred_cases val with ⟨_, h1, h2, _, _, m, e, _, hv⟩ | ⟨_, h1, h2, _, _, hv⟩ | ⟨_, h1, h2, _, _, hv⟩ |
    ⟨_, h1, h2, _, _, hv⟩ <;> rw [hv] <;> cases b <;>
    simp [← equalFoldLen_iff val _ litTrue_lower, ← equalFoldLen_iff val _ litFalse_lower, h1, h2]

end Rare.C16

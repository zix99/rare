import Rare.Model.AggLoopTrace
import Rare.Proofs.AggLoop
import Rare.Proofs.TraceOrder
/-!
The named, executable transition function `AggLoop.apply` is exactly the transition relation
`AggLoop.Step`; a successful replay of logged events is a labelled path, hence a path of `Step`.
-/
namespace Rare.AggLoop

variable {κ : Type}

theorem apply_sound {s s' : St κ} {l : Label} (h : apply s l = some s') : Step s s' := by
  cases l with
  | arrive =>
    simp only [apply] at h
    split at h
    · cases h; exact .arrive s _ _ ‹_›
    · cases h
  | close =>
    simp only [apply] at h
    split at h
    · split at h
      · cases h; exact .close s ‹_› ‹_›
      · cases h
    · cases h
  | recv =>
    simp only [apply] at h
    split at h
    · cases h; exact .recv s _ _ ‹_› ‹_›
    · cases h
  | mlock =>
    simp only [apply] at h
    split at h
    · cases h; exact .mlock s _ ‹_› ‹_›
    · cases h
  | sample =>
    simp only [apply] at h
    split at h
    · cases h; exact .sample s _ _ ‹_›
    · cases h
  | munlock =>
    simp only [apply] at h
    split at h
    · cases h; exact .munlock s ‹_›
    · cases h
  | eof =>
    simp only [apply] at h
    split at h
    · split at h
      · cases h; exact .eof s ‹_› ‹_› ‹_›
      · cases h
    · cases h
  | handshake =>
    simp only [apply] at h
    split at h
    · cases h; exact .handshake s ‹_› ‹_›
    · cases h
  | final =>
    simp only [apply] at h
    split at h
    · cases h; exact .final s ‹_›
    · cases h
  | fire =>
    simp only [apply] at h
    split at h
    · cases h; exact .fire s ‹_›
    · cases h
  | tlock =>
    simp only [apply] at h
    split at h
    · cases h; exact .tlock s ‹_› ‹_›
    · cases h
  | tunlock =>
    simp only [apply] at h
    split at h
    · cases h; exact .tunlock s ‹_›
    · cases h

/-- Every transition of the relation has a name. -/
theorem apply_complete {s s' : St κ} (h : Step s s') : ∃ l, apply s l = some s' := by
  cases h with
  | arrive b rest hf => exact ⟨.arrive, by simp [apply, hf]⟩
  | close hf hc => exact ⟨.close, by simp [apply, hf, hc]⟩
  | recv b rest hm hrc => exact ⟨.recv, by simp [apply, hm, hrc]⟩
  | mlock b hm hmu => exact ⟨.mlock, by simp [apply, hm, hmu]⟩
  | sample x xs hm => exact ⟨.sample, by simp [apply, hm]⟩
  | munlock hm => exact ⟨.munlock, by simp [apply, hm]⟩
  | eof hm hrc hc => exact ⟨.eof, by simp [apply, hm, hrc, hc]⟩
  | handshake hm ht => exact ⟨.handshake, by simp [apply, hm, ht]⟩
  | final hm => exact ⟨.final, by simp [apply, hm]⟩
  | fire ht => exact ⟨.fire, by simp [apply, ht]⟩
  | tlock ht hmu => exact ⟨.tlock, by simp [apply, ht, hmu]⟩
  | tunlock ht => exact ⟨.tunlock, by simp [apply, ht]⟩

theorem applyAll_lpath : ∀ (ls : List Label) (s s' : St κ), applyAll s ls = some s' → LPath s ls s'
  | [], s, s', h => by
    simp only [applyAll, Option.some.injEq] at h; subst h; exact .nil s
  | l :: ls, s, s', h => by
    obtain ⟨s1, ha, h⟩ := Option.bind_eq_some_iff.mp h
    exact .cons ha (applyAll_lpath ls s1 s' h)

theorem LPath.append {s s' s'' : St κ} {l1 l2 : List Label}
    (h1 : LPath s l1 s') (h2 : LPath s' l2 s'') : LPath s (l1 ++ l2) s'' := by
  induction h1 with
  | nil s => exact h2
  | cons ha _ ih => exact .cons ha (ih h2)

theorem LPath.reach {s0 s s' : St κ} {ls : List Label}
    (h : LPath s ls s') (hr : Reach s0 s) : Reach s0 s' := by
  induction h with
  | nil s => exact hr
  | cons ha _ ih => exact ih (.step hr (apply_sound ha))

end Rare.AggLoop

namespace Rare.AggLoopTrace
open Rare.AggLoop Rare.TraceOrder

theorem isFinished_iff {m : Main Bytes} : isFinished m = true ↔ m = .finished := by
  cases m <;> simp [isFinished]

/-- The labelled path a sequence of logged events stands for. -/
inductive EvPath : ASt → List Ev → List Label → ASt → Prop
  | nil (as) : EvPath as [] [] as
  | cons {as as1 as' e es ls ls'} : evLabels as e = some ls → LPath as.lts ls as1.lts →
      EvPath as1 es ls' as' → EvPath as (e :: es) (ls ++ ls') as'

theorem astep_sound {as as' : ASt} {e : Ev} (h : astep as e = some as') :
    ∃ ls, evLabels as e = some ls ∧ LPath as.lts ls as'.lts := by
  unfold astep at h
  split at h
  · simp at h
  · rename_i ls hl
    split at h
    · simp at h
    · rename_i s' ha
      simp only [Option.some.injEq] at h
      subst h
      exact ⟨ls, hl, applyAll_lpath ls _ _ ha⟩

theorem replay_evpath : ∀ (evs : List Ev) (as as' : ASt),
    replay machine as evs = some as' → ∃ labels, EvPath as evs labels as'
  | [], as, as', h => by
    simp only [replay, Option.some.injEq] at h; subst h; exact ⟨[], .nil as⟩
  | e :: es, as, as', h => by
    obtain ⟨as1, hs, h⟩ := replay_cons.mp h
    obtain ⟨ls, hl, hp⟩ := astep_sound hs
    obtain ⟨ls', hr⟩ := replay_evpath es as1 as' h
    exact ⟨ls ++ ls', .cons hl hp hr⟩

theorem EvPath.lpath {as as' : ASt} {evs : List Ev} {labels : List Label}
    (h : EvPath as evs labels as') : LPath as.lts labels as'.lts := by
  induction h with
  | nil as => exact .nil _
  | cons _ hp _ ih => exact hp.append ih

end Rare.AggLoopTrace

import Rare.Proofs.C07NumF64Arith
/-!
C07 – the standard model of floating-point arithmetic for the software binary64, and the error of one
Welford mean update.

* `magVal_raw`: the value of the pattern `E·2^52 + m` is `m·2^E/2^1074` (carry into the exponent included);
* `roundMag_err`: for `q ≥ 0` whose rounding is finite, `|fl q − q| ≤ w/2` where `w = 2^E/2^1074` is the spacing
  of the floats around `q`; `w/2 ≤ q·2^-53` and `w/2 ≤ fl q·2^-53` in the normal range, `w/2 = 2^-1075` below it;
* `Near e a b`, "`a` within `e` of `b`", and the rules by which such bounds compose;
* `ofRatS_err`: hence for every rational `q` with a finite rounding: `|fl q − q| ≤ |q|·2^-53 + 2^-1075` and
  `|fl q − q| ≤ |fl q|·2^-53 + 2^-1075`;
* `mean_step_err`: the three roundings of one mean update.
-/
namespace Rare.F64

/-- `2^-1075`: half the smallest subnormal. -/
def etaF : Rat := 1 / (2 * two1074)

theorem etaF_pos : 0 < etaF := by
  unfold etaF
  have := two1074_pos
  apply Rare.C07.rat_div_pos (by decide)
  grind

theorem magVal_raw (E m : Nat) (h : (E = 0 ∧ m ≤ P53) ∨ (P52 ≤ m ∧ m ≤ P53)) :
    magVal (E * P52 + m) = ((m * 2 ^ E : Nat) : Rat) / two1074 := by
  by_cases hm : m < P53
  · have hs : magScale (E * P52 + m) = E := by unfold magScale; omega
    have hg : magSig (E * P52 + m) = m := by unfold magSig; rw [hs]; omega
    unfold magVal; rw [hs, hg]
  · have hm' : m = P53 := by omega
    subst hm'
    have hs : magScale (E * P52 + P53) = E + 1 := by unfold magScale; omega
    have hg : magSig (E * P52 + P53) = P52 := by unfold magSig; rw [hs]; omega
    unfold magVal; rw [hs, hg]
    have : P52 * 2 ^ (E + 1) = P53 * 2 ^ E := by rw [Nat.pow_succ]; omega
    rw [this]

/-- The spacing of the floats around `q ≥ 0`: `2^E/2^1074`. -/
def spacing (q : Rat) : Rat := ((2 ^ eOf q : Nat) : Rat) / two1074

theorem spacing_pos (q : Rat) : 0 < spacing q :=
  Rare.C07.rat_div_pos (pow2_cast_pos _) two1074_pos

theorem q_eq_x_spacing (q : Rat) : q = xOf q * spacing q := by
  unfold xOf spacing yOf
  have h1 := two1074_ne
  have h2 : ((2 ^ eOf q : Nat) : Rat) ≠ 0 := Rat.ne_of_gt (pow2_cast_pos _)
  grind

/-- Rounding error of `roundMag`, absolute (half a spacing) and relative to the exact and to the rounded value. -/
theorem roundMag_err {q : Rat} (h : 0 ≤ q) (hf : rawMag q < InfMag) :
    magVal (roundMag q) - q ≤ spacing q / 2 ∧ q - magVal (roundMag q) ≤ spacing q / 2 ∧
    (0 < eOf q → spacing q / 2 ≤ q / ((P53 : Nat) : Rat) ∧ spacing q / 2 ≤ magVal (roundMag q) / ((P53 : Nat) : Rat)) ∧
    (eOf q = 0 → spacing q / 2 = etaF) := by
  have hrm : roundMag q = eOf q * P52 + mOf q := by rw [roundMag_eq]; unfold rawMag at hf ⊢; omega
  have hcond : (eOf q = 0 ∧ mOf q ≤ P53) ∨ (P52 ≤ mOf q ∧ mOf q ≤ P53) := by
    by_cases hE : eOf q = 0
    · exact Or.inl ⟨hE, mOf_le_zero h hE⟩
    · exact Or.inr (mOf_bounds_pos h (by omega))
  have hw := spacing_pos q
  have hv : magVal (roundMag q) = ((mOf q : Nat) : Rat) * spacing q := by
    rw [hrm, magVal_raw _ _ hcond, Rat.natCast_mul]
    unfold spacing
    have h1 := two1074_ne
    grind
  have hq := q_eq_x_spacing q
  have hm : ((mOf q : Nat) : Rat) = ((roundNE (xOf q) : Int) : Rat) := by
    have := mOf_cast h
    rw [← this]; rfl
  obtain ⟨r1, r2⟩ := roundNE_err (xOf q)
  rw [← hm] at r1 r2
  have e1 : (((mOf q : Nat) : Rat) - xOf q) * spacing q ≤ (1 / 2) * spacing q :=
    Rat.mul_le_mul_of_nonneg_right (by grind) (Rat.le_of_lt hw)
  have e2 : (xOf q - ((mOf q : Nat) : Rat)) * spacing q ≤ (1 / 2) * spacing q :=
    Rat.mul_le_mul_of_nonneg_right (by grind) (Rat.le_of_lt hw)
  refine ⟨by grind, by grind, ?_, ?_⟩
  · intro hE
    obtain ⟨b1, _⟩ := xOf_bounds h hE
    obtain ⟨c1, _⟩ := mOf_bounds_pos h hE
    have c1' : ((P52 : Nat) : Rat) ≤ ((mOf q : Nat) : Rat) := Rat.natCast_le_natCast.mpr c1
    have f1 : ((P52 : Nat) : Rat) * spacing q ≤ xOf q * spacing q :=
      Rat.mul_le_mul_of_nonneg_right b1 (Rat.le_of_lt hw)
    have f2 : ((P52 : Nat) : Rat) * spacing q ≤ ((mOf q : Nat) : Rat) * spacing q :=
      Rat.mul_le_mul_of_nonneg_right c1' (Rat.le_of_lt hw)
    have hp : (0 : Rat) < ((P53 : Nat) : Rat) := natCast_pos_of_pos (by decide)
    have hP : ((P53 : Nat) : Rat) = 2 * ((P52 : Nat) : Rat) := by
      rw [show (P53 : Nat) = 2 * P52 by decide, Rat.natCast_mul]; rfl
    constructor
    · rw [rat_le_div_iff hp]; grind
    · rw [rat_le_div_iff hp]; grind
  · intro hE
    unfold spacing etaF
    rw [hE]
    have h1 := two1074_ne
    simp only [Nat.pow_zero]
    grind

theorem absRat_nonneg (q : Rat) : 0 ≤ absRat q := by unfold absRat; split <;> grind

theorem absRat_le {q c : Rat} (h1 : -c ≤ q) (h2 : q ≤ c) : absRat q ≤ c := by
  unfold absRat; split <;> grind

/-! ### error bounds and how they compose -/

/-- `a` is within `e` of `b`.  Error bounds compose by the triangle inequality (`Near.trans`) and are compared with
the claimed bound once, at the end of an argument. -/
def Near (e a b : Rat) : Prop := a - b ≤ e ∧ b - a ≤ e

theorem Near.mono {e f a b : Rat} (h : Near e a b) (hef : e ≤ f) : Near f a b :=
  ⟨Rat.le_trans h.1 hef, Rat.le_trans h.2 hef⟩

theorem Near.trans {e f a b c : Rat} (h1 : Near e a b) (h2 : Near f b c) : Near (e + f) a c := by
  obtain ⟨a1, a2⟩ := h1
  obtain ⟨b1, b2⟩ := h2
  constructor <;> grind

theorem Near.sub_left {e a b : Rat} (h : Near e a b) (x : Rat) : Near e (x - a) (x - b) := by
  obtain ⟨a1, a2⟩ := h
  constructor <;> grind

theorem Near.add_left {e a b : Rat} (h : Near e a b) (x : Rat) : Near e (x + a) (x + b) := by
  obtain ⟨a1, a2⟩ := h
  constructor <;> grind

theorem Near.add_right {e a b : Rat} (h : Near e a b) (x : Rat) : Near e (a + x) (b + x) := by
  obtain ⟨a1, a2⟩ := h
  constructor <;> grind

theorem Near.div {e a b k : Rat} (h : Near e a b) (hk : 0 < k) : Near (e / k) (a / k) (b / k) :=
  ⟨by rw [← Rare.C07.sub_div_rat]; exact rat_div_le_div_right hk h.1,
   by rw [← Rare.C07.sub_div_rat]; exact rat_div_le_div_right hk h.2⟩

theorem Near.mul_left {e a b k : Rat} (h : Near e a b) (hk : 0 ≤ k) : Near (k * e) (k * a) (k * b) := by
  have h1 := Rat.mul_le_mul_of_nonneg_left h.1 hk
  have h2 := Rat.mul_le_mul_of_nonneg_left h.2 hk
  constructor <;> grind

/-- `a` within `e` of some `|b| ≤ T` has magnitude at most `T + e`. -/
theorem Near.bounds {e a b T : Rat} (h : Near e a b) (hb : -T ≤ b ∧ b ≤ T) : -(T + e) ≤ a ∧ a ≤ T + e := by
  obtain ⟨a1, a2⟩ := h
  constructor <;> grind

theorem Near.neg {e a b : Rat} (h : Near e a b) : Near e (-a) (-b) := by
  obtain ⟨a1, a2⟩ := h
  constructor <;> grind

theorem Near.refl {e : Rat} (a : Rat) (h : 0 ≤ e) : Near e a a := by
  constructor <;> grind

/-- A rounding error `|t|·u + η` for `|t| ≤ T`. -/
theorem Near.of_abs_le {r q t T u η : Rat} (h : Near (absRat t * u + η) r q) (hu : 0 < u) (bt : -T ≤ t ∧ t ≤ T) :
    Near (T * u + η) r q :=
  h.mono (Rat.add_le_add_right.mpr (Rat.mul_le_mul_of_nonneg_right (absRat_le bt.1 bt.2) (Rat.le_of_lt hu)))

theorem le_add_of_le_left {x y z : Rat} (h : x ≤ y) (hz : 0 ≤ z) : x ≤ y + z := by grind
theorem le_add_of_le_right {x y z : Rat} (h : x ≤ z) (hy : 0 ≤ y) : x ≤ y + z := by grind

/-- Half a spacing is at most `a·2^-53 + 2^-1075`, for the exact and for the rounded value. -/
theorem roundMag_err' {a : Rat} (h : 0 ≤ a) (hf : rawMag a < InfMag) :
    Near (a / ((P53 : Nat) : Rat) + etaF) (magVal (roundMag a)) a ∧
    Near (magVal (roundMag a) / ((P53 : Nat) : Rat) + etaF) (magVal (roundMag a)) a := by
  obtain ⟨e1, e2, e3, e4⟩ := roundMag_err h hf
  have hp : (0 : Rat) < ((P53 : Nat) : Rat) := natCast_pos_of_pos (by decide)
  have ha' : 0 ≤ a / ((P53 : Nat) : Rat) := by rw [rat_le_div_iff hp, Rat.zero_mul]; exact h
  have hv' : 0 ≤ magVal (roundMag a) / ((P53 : Nat) : Rat) := by
    rw [rat_le_div_iff hp, Rat.zero_mul]; exact magVal_nonneg _
  have n : Near (spacing a / 2) (magVal (roundMag a)) a := ⟨e1, e2⟩
  by_cases hE : eOf a = 0
  · have : spacing a / 2 ≤ etaF := by rw [e4 hE]; exact Rat.le_refl
    exact ⟨n.mono (le_add_of_le_right this ha'), n.mono (le_add_of_le_right this hv')⟩
  · obtain ⟨g1, g2⟩ := e3 (by omega)
    exact ⟨n.mono (le_add_of_le_left g1 (Rat.le_of_lt etaF_pos)), n.mono (le_add_of_le_left g2 (Rat.le_of_lt etaF_pos))⟩

/-- **Standard model of floating-point arithmetic** for the software binary64: every correctly rounded result that
is finite differs from the exact value `q` by at most `|q|·2^-53 + 2^-1075`, and by at most `|fl q|·2^-53 + 2^-1075`. -/
theorem ofRatS_err (s : Bool) (q : Rat) (hf : (ofRatS s q).isFinite = true) :
    Near (absRat q / ((P53 : Nat) : Rat) + etaF) (ofRatS s q).toRat q ∧
    Near (absRat (ofRatS s q).toRat / ((P53 : Nat) : Rat) + etaF) (ofRatS s q).toRat q := by
  have hp : (0 : Rat) < ((P53 : Nat) : Rat) := natCast_pos_of_pos (by decide)
  have he := Rat.le_of_lt etaF_pos
  have nn : ∀ t : Rat, 0 ≤ absRat t / ((P53 : Nat) : Rat) + etaF := fun t =>
    le_add_of_le_right he (by rw [rat_le_div_iff hp, Rat.zero_mul]; exact absRat_nonneg t)
  by_cases h0 : q = 0
  · have hr : (ofRatS s q).toRat = 0 := by
      unfold ofRatS; rw [if_pos h0]
      exact toRat_eq_zero_of_mag (by unfold zero; rw [mag_ofSM s (by omega)])
    rw [hr, h0]
    exact ⟨Near.refl 0 (nn 0), Near.refl 0 (nn 0)⟩
  · have hdef : ofRatS s q = ofSM (decide (q < 0)) (roundMag (absRat q)) := by unfold ofRatS; rw [if_neg h0]
    have hlt := roundMag_lt_P63 (absRat q)
    have hmag : (ofRatS s q).mag = roundMag (absRat q) := by rw [hdef, mag_ofSM _ hlt]
    have hsg : (ofRatS s q).sign = decide (q < 0) := by rw [hdef, sign_ofSM _ hlt]
    have hfin : roundMag (absRat q) < InfMag := by rw [← hmag]; exact (isFinite_iff _).mp hf
    have hraw : rawMag (absRat q) < InfMag := by rw [roundMag_eq] at hfin; omega
    obtain ⟨k1, k2⟩ := roundMag_err' (absRat_nonneg q) hraw
    rw [absRat_toRat, hmag]
    by_cases hn : q < 0
    · -- both values are the negatives of their magnitudes
      have hq : q = -(absRat q) := by unfold absRat; rw [if_pos hn, Rat.neg_neg]
      rw [toRat_of_neg (by rw [hsg]; simp [hn]), hmag]
      generalize absRat q = a at hq k1 k2 ⊢
      subst hq
      exact ⟨k1.neg, k2.neg⟩
    · have hq : absRat q = q := by unfold absRat; rw [if_neg hn]
      rw [toRat_of_pos (by rw [hsg]; simp [hn]), hmag]
      rw [hq] at k1 k2 ⊢
      exact ⟨k1, k2⟩

end Rare.F64

namespace Rare.C07
open Rare Rare.F64

theorem absRat_ge (q : Rat) : -(absRat q) ≤ q ∧ q ≤ absRat q := by
  unfold absRat; split <;> constructor <;> grind

/-- `2^-53`, the unit roundoff. -/
def uF : Rat := 1 / ((P53 : Nat) : Rat)

theorem div_P53 (a : Rat) : a / ((P53 : Nat) : Rat) = a * uF := by
  unfold uF; rw [Rat.div_def, Rat.div_def, Rat.one_mul]

theorem uF_pos : 0 < uF := by
  unfold uF; exact rat_div_pos (by decide) (natCast_pos_of_pos (by decide))

/-- The rounding of an operation whose result `r` is finite, against the exact result `q`: within `|q|·u + η` and
within `|r|·u + η`. -/
theorem near_ofRatS {s : Bool} {q : Rat} {r : F64} (hr : r = ofRatS s q) (hf : r.isFinite = true) :
    Near (absRat q * uF + etaF) r.toRat q ∧ Near (absRat r.toRat * uF + etaF) r.toRat q := by
  subst hr
  have := ofRatS_err s q hf
  rwa [div_P53, div_P53] at this

/-- **Error of one mean update** `mean += (val - oldMean) / float64(samples)` against the exact update of the same state,
when the three intermediate results are finite: the three roundings contribute at most
`|mean'|·u + η`, `|d/k|·u + η` and `(|x − m|·u + η)/k` (`u = 2^-53`, `η = 2^-1075`, `d` the computed difference). -/
theorem mean_step_err (m x : F64) (k : Nat) (hk : 1 ≤ k) (hk2 : k ≤ P53)
    (hm : m.isFinite = true) (hx : x.isFinite = true)
    (hd : (F64.sub x m).isFinite = true)
    (he : (F64.div (F64.sub x m) (F64.ofInt (k : Int))).isFinite = true)
    (hm' : (F64.add m (F64.div (F64.sub x m) (F64.ofInt (k : Int)))).isFinite = true) :
    Near ((absRat (F64.add m (F64.div (F64.sub x m) (F64.ofInt (k : Int)))).toRat * uF + etaF) +
        (absRat ((F64.sub x m).toRat / (k : Rat)) * uF + etaF) + (absRat (x.toRat - m.toRat) * uF + etaF) / (k : Rat))
      (F64.add m (F64.div (F64.sub x m) (F64.ofInt (k : Int)))).toRat (m.toRat + (x.toRat - m.toRat) / (k : Rat)) := by
  obtain ⟨kf, kv, kz⟩ := ofInt_count k hk hk2
  have hk0 : (0 : Rat) < (k : Rat) := natCast_pos_of_pos (by omega)
  have hee : F64.div (F64.sub x m) (F64.ofInt (k : Int)) =
      ofRatS ((F64.sub x m).sign != (F64.ofInt (k : Int)).sign) ((F64.sub x m).toRat / (k : Rat)) := by
    rw [div_finite hd kf kz, kv]
  have E1 := (near_ofRatS (sub_finite hx hm) hd).1
  have E2 := (near_ofRatS hee he).1
  have E3 := (near_ofRatS (add_finite hm he) hm').2
  rw [Rat.add_assoc]
  exact E3.trans ((E2.trans (E1.div hk0)).add_left m.toRat)

/-- Dividing a finite float by a sample count (1 … 2^53) gives a finite float. -/
theorem div_count_finite (d : F64) (k : Nat) (hk : 1 ≤ k) (hk2 : k ≤ P53) (hd : d.isFinite = true) :
    (F64.div d (F64.ofInt (k : Int))).isFinite = true := by
  obtain ⟨kf, kv, kz⟩ := ofInt_count k hk hk2
  have hk0 : (0 : Rat) < (k : Rat) := natCast_pos_of_pos (by omega)
  have hk1 : (1 : Rat) ≤ (k : Rat) := Rat.natCast_le_natCast.mpr hk
  have hr := div_finite hd kf kz
  rw [kv] at hr
  rcases Rat.le_total (a := 0) (b := d.toRat) with h | h
  · have h1 : d.toRat * 1 ≤ d.toRat * (k : Rat) := Rat.mul_le_mul_of_nonneg_left hk1 h
    exact (round_between_rep hr rep_zero (rep_self d hd) (div_nonneg' h hk0)
      (by rw [rat_div_le_iff hk0]; grind)).1
  · have h1 : (-d.toRat) * 1 ≤ (-d.toRat) * (k : Rat) := Rat.mul_le_mul_of_nonneg_left hk1 (by grind)
    exact (round_between_rep hr (rep_self d hd) rep_zero
      (by rw [rat_le_div_iff hk0]; grind) (div_nonpos' h hk0)).1

/-- One `Samplef` call on a state with `k−1 ≥ 1` samples, finite mean and sample of magnitude at most `2^1021`:
all three intermediate floats are finite and the new mean obeys the error bound of `mean_step_err`. -/
theorem mean_step_error_full (keep : Bool) (s : NumF) (x : F64) (hk : 1 ≤ s.samples) (hn : s.samples + 1 ≤ P53)
    (hm : s.mean.isFinite = true) (hx : x.isFinite = true)
    (bm : -bigB ≤ s.mean.toRat ∧ s.mean.toRat ≤ bigB) (bx : -bigB ≤ x.toRat ∧ x.toRat ≤ bigB) :
    (NumF.samplef keep s x).mean.isFinite = true ∧ (F64.sub x s.mean).isFinite = true ∧
    Near ((absRat (NumF.samplef keep s x).mean.toRat * uF + etaF) +
        (absRat ((F64.sub x s.mean).toRat / ((s.samples + 1 : Nat) : Rat)) * uF + etaF) +
        (absRat (x.toRat - s.mean.toRat) * uF + etaF) / ((s.samples + 1 : Nat) : Rat))
      (NumF.samplef keep s x).mean.toRat (s.mean.toRat + (x.toRat - s.mean.toRat) / ((s.samples + 1 : Nat) : Rat)) := by
  obtain ⟨fd, fm, _⟩ := mean_step_between s.mean x (s.samples + 1) (by omega) hn hm hx bm bx
  have fe := div_count_finite (F64.sub x s.mean) (s.samples + 1) (by omega) hn fd
  rw [samplefF_mean]
  exact ⟨fm, fd, mean_step_err s.mean x (s.samples + 1) (by omega) hn hm hx fd fe fm⟩

end Rare.C07

import Rare.Model.C15Trace
import Rare.Proofs.C15Multi
import Rare.Proofs.TraceOrder
/-!
Soundness of the C15 trace machine: every event of an accepted log performs transitions of
`Rare.C15.Multi` only (so every state the replay visits is reachable and satisfies the invariant), and
the flush log `flushLog` is the batching loop of `Rare.Batcher` with the lines forgotten.
-/
namespace Rare.C15.Trace
open Rare.TraceOrder Rare.C15.Multi

theorem pstep_sound {cfg : Cfg} {ps ps' : PSt} {e : Ev} (h : pstep cfg ps e = some ps') :
    ∃ ls, evLabels cfg ps e = some ls ∧ LPath cfg.fs cfg.B ps.lts ls ps'.lts := by
  unfold pstep at h
  split at h
  · simp at h
  · rename_i ls hl
    split at h
    · simp at h
    · rename_i s' ha
      simp only [Option.some.injEq] at h
      subst h
      exact ⟨ls, hl, applyAll_lpath ls _ _ ha⟩

theorem replay_reach {cfg : Cfg} : ∀ (evs : List Ev) (ps ps' : PSt),
    replay (machine cfg) ps evs = some ps' → Reach cfg.fs cfg.B ps.lts → Reach cfg.fs cfg.B ps'.lts
  | [], ps, ps', h, hr => by
    simp only [replay, Option.some.injEq] at h; subst h; exact hr
  | e :: es, ps, ps', h, hr => by
    obtain ⟨ps1, hs, h⟩ := replay_cons.mp h
    obtain ⟨ls, _, hp⟩ := pstep_sound (cfg := cfg) hs
    exact replay_reach es ps1 ps' h (hp.reach hr)

/-- An accepted log is, up to an admissible reordering, a run of the transition system from `init` to a
    final state of the machine. -/
theorem accepts_reach {cfg : Cfg} {L : Lin PSt} {tr : Array Ev}
    (h : accepts (machine cfg) L (initSt cfg) tr = true) :
    ∃ sched ps, Admissible tr sched ∧ replay (machine cfg) (initSt cfg) (sched.map (evAt tr)) = some ps ∧
      Reach cfg.fs cfg.B ps.lts ∧ final cfg ps = true := by
  obtain ⟨sched, ps, hadm, hrep, hfin⟩ := accepts_sound h
  exact ⟨sched, ps, hadm, hrep, replay_reach _ _ _ hrep .init, hfin⟩

/-! ### `flushLog` is the batching loop with the lines forgotten -/

def shape {α : Type} (b : Batcher.Batch α) : Nat × Nat := (b.start, b.lines.length)
def fshape (e : FlushEv) : Nat × Nat := (e.start, e.n)

structure Rel {α : Type} (f : FSt) (l : Batcher.LoopSt α) : Prop where
  cur : f.cur = l.cur.length
  start : f.start = l.start
  log : f.log.map fshape = l.out.map shape

theorem fstep_rel {α : Type} (n : Nat) {f : FSt} {l : Batcher.LoopSt α} (h : Rel f l) (x : α × Bool) :
    Rel (fstep n f x.2) (Batcher.step n l x) := by
  obtain ⟨h1, h2, h3⟩ := h
  unfold fstep Batcher.step
  simp only [List.length_append, List.length_singleton, ← h1]
  by_cases hfull : f.cur + 1 ≥ n
  · simp only [hfull, decide_true, Bool.true_or, if_true]
    exact ⟨rfl, by simp [h2], by simp [h3, fshape, shape, h2, h1]⟩
  · simp only [hfull, decide_false, Bool.false_or, if_false]
    cases hx : x.2 with
    | true =>
      simp only [if_true]
      exact ⟨rfl, by simp [h2], by simp [h3, fshape, shape, h2, h1]⟩
    | false =>
      simp only [Bool.false_eq_true, if_false]
      exact ⟨by simp [h1], h2, h3⟩

theorem fold_rel {α : Type} (n : Nat) : ∀ (ls : List (α × Bool)) {f : FSt} {l : Batcher.LoopSt α}, Rel f l →
    Rel ((ls.map (·.2)).foldl (fstep n) f) (ls.foldl (Batcher.step n) l)
  | [], _, _, h => h
  | x :: ls, _, _, h => by
    simp only [List.map_cons, List.foldl_cons]
    exact fold_rel n ls (fstep_rel n h x)

theorem ffinish_rel {α : Type} {f : FSt} {l : Batcher.LoopSt α} (h : Rel f l) :
    (ffinish f).map fshape = (Batcher.finish l).map shape := by
  obtain ⟨h1, h2, h3⟩ := h
  unfold ffinish Batcher.finish
  by_cases hc : f.cur > 0
  · have hl : l.cur.length > 0 := by omega
    simp [hl, h3, fshape, shape, h2, h1]
  · have hl : ¬ l.cur.length > 0 := by omega
    simp [hc, hl, h3]

/-- The flush log of a stream that ended has the starts and sizes of the batches of `Batcher.run`. -/
theorem flushLog_run {α : Type} (n : Nat) (ls : List (α × Bool)) :
    (flushLog n (ls.map (·.2)) true).map fshape = (Batcher.run n ls).map shape := by
  simp only [flushLog, if_true, frun, Batcher.run]
  exact ffinish_rel (fold_rel n ls (f := ⟨0, 1, []⟩) (l := (⟨[], [], 1⟩ : Batcher.LoopSt α)) ⟨rfl, rfl, rfl⟩)

/-! ### what the reasons mean -/

/-- Invariant of the flush loop: fewer than `batchSize` lines wait, and every logged flush has the size
    its reason says: `full` exactly when `len(batch) >= batchSize` held, `timer` only below. -/
structure FInv (n : Nat) (s : FSt) : Prop where
  cur : s.cur < max n 1
  sizes : ∀ e ∈ s.log, 1 ≤ e.n ∧ (e.reason = .full → n ≤ e.n) ∧ (e.reason = .timer → e.n < n) ∧ e.reason ≠ .eof

theorem finv_step (n : Nat) {s : FSt} (h : FInv n s) (t : Bool) : FInv n (fstep n s t) := by
  unfold fstep
  simp only
  split
  · rename_i hf
    refine ⟨by simp; omega, ?_⟩
    intro e he
    simp only [List.mem_append, List.mem_singleton] at he
    rcases he with he | rfl
    · exact h.sizes e he
    · exact ⟨by simp, fun _ => hf, (fun hr => by cases hr), by simp⟩
  · rename_i hf
    split
    · refine ⟨by simp; omega, ?_⟩
      intro e he
      simp only [List.mem_append, List.mem_singleton] at he
      rcases he with he | rfl
      · exact h.sizes e he
      · exact ⟨by simp, (fun hr => by cases hr), fun _ => by simp only; omega, by simp⟩
    · exact ⟨by simp only; omega, h.sizes⟩

theorem finv_run (n : Nat) (oracle : List Bool) : FInv n (frun n oracle) := by
  unfold frun
  have : ∀ (l : List Bool) (s : FSt), FInv n s → FInv n (l.foldl (fstep n) s) := by
    intro l
    induction l with
    | nil => intro s h; exact h
    | cons t l ih => intro s h; exact ih _ (finv_step n h t)
  exact this oracle _ ⟨by simp; omega, by simp⟩

/-- Every flush of the model has the size its reason says; `eof` is the remainder: only as the LAST
    flush of a stream that ended, with fewer than `batchSize` lines (for `batchSize ≥ 1`). -/
theorem flushLog_reasons (n : Nat) (oracle : List Bool) (ended : Bool) :
    ∀ e ∈ flushLog n oracle ended, 1 ≤ e.n ∧ (e.reason = .full → n ≤ e.n) ∧ (e.reason = .timer → e.n < n) ∧
      (e.reason = .eof → ended = true ∧ e.n < max n 1 ∧ (flushLog n oracle ended).getLast? = some e) := by
  have hi := finv_run n oracle
  -- a flush from inside the loop has a reason other than `eof`
  have inLoop : ∀ e ∈ (frun n oracle).log, ∀ Q : Prop,
      1 ≤ e.n ∧ (e.reason = .full → n ≤ e.n) ∧ (e.reason = .timer → e.n < n) ∧ (e.reason = .eof → Q) :=
    fun e he _ => let ⟨h1, h2, h3, h4⟩ := hi.sizes e he; ⟨h1, h2, h3, fun hr => absurd hr h4⟩
  intro e he
  unfold flushLog at he ⊢
  cases ended with
  | false =>
    simp only [Bool.false_eq_true, if_false] at he ⊢
    exact inLoop e he _
  | true =>
    simp only [if_true, ffinish] at he ⊢
    split at he
    · rename_i hc
      simp only [hc, if_true]
      simp only [List.mem_append, List.mem_singleton] at he
      rcases he with he | rfl
      · exact inLoop e he _
      · exact ⟨hc, (fun hr => by cases hr), (fun hr => by cases hr), fun _ => ⟨by simp, hi.cur, by simp⟩⟩
    · rename_i hc
      simp only [hc, if_false]
      exact inLoop e he _

end Rare.C15.Trace

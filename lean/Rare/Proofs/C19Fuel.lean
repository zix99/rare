import Rare.Proofs.C19Grammar
/-!
The nesting budget of the grammar's recogniser is irrelevant beyond the length of the text (that `compile`'s own
budgets are never exhausted is `compile_noFuel`, `Proofs/C19.lean`).
-/
namespace Rare.C19

variable {α : Type} (A : Arith α)

/-- The nesting budget of the grammar is irrelevant once it exceeds the length of the text. -/
theorem acceptsF_stable (f : Nat) (s : Bytes) (h : s.length < f) :
    acceptsM A f s = accepts tok (okLitM A) isOpM s := by
  have key : ∀ f1 f2, s.length < f1 → s.length < f2 → acceptsM A f1 s = true → acceptsM A f2 s = true := by
    intro f1 f2 h1 h2 ha
    obtain ⟨r, hr⟩ := accepts_compileF A f1 s h1 ha
    obtain ⟨t, e⟩ := r
    obtain ⟨htok, g⟩ := compileF_post A _ s t e hr
    obtain ⟨e2, he2⟩ := compileF_complete A f2 s t h2 htok g.wp g.deep g.lits
    exact compileF_accepts A f2 s _ h2 he2
  cases h1 : acceptsM A f s with
  | true => exact (key f _ h (Nat.lt_succ_self _) h1).symm
  | false =>
    cases h2 : accepts tok (okLitM A) isOpM s with
    | false => rfl
    | true =>
      have := key _ f (Nat.lt_succ_self _) h h2
      rw [h1] at this; cases this

end Rare.C19

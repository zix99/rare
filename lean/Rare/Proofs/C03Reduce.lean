import Rare.Proofs.C07Acc
import Rare.Proofs.C03Det
import Rare.Proofs.C03Csv
import Rare.Model.C03Reduce
/-! `rare reduce` on the `AccumulatingGroup` model: the map iteration order does not reach the output (`Groups` sorts by a
strict total order; the reused CSV row buffer holds exactly the current row), order-insensitive accumulators make the
aggregator a function of the multiset of samples, and the set-up loops hand over a reachable, empty aggregator. -/
namespace Rare.C03
open Rare.C07
open Rare.Expr (Stage Ctx Comp)

/-- Two runs end the same way: both return the same value, or both panic. -/
def SameOutcome {α : Type} (x y : Except String α) : Prop :=
  (∃ v, x = .ok v ∧ y = .ok v) ∨ (∃ m₁ m₂, x = .error m₁ ∧ y = .error m₂)

theorem SameOutcome.rfl' {α : Type} (x : Except String α) : SameOutcome x x := by
  cases x with
  | ok v => exact Or.inl ⟨v, rfl, rfl⟩
  | error m => exact Or.inr ⟨m, m, rfl, rfl⟩

theorem SameOutcome.map {α β : Type} (f g : α → β) {x y : Except String α} (h : SameOutcome x y)
    (hfg : ∀ v, x = .ok v → f v = g v) : SameOutcome (x.map f) (y.map g) := by
  rcases h with ⟨v, rfl, rfl⟩ | ⟨m₁, m₂, rfl, rfl⟩
  · exact Or.inl ⟨f v, rfl, by simp [Except.map, hfg v rfl]⟩
  · exact Or.inr ⟨m₁, m₂, rfl, rfl⟩

/-! ### `Groups` and the map iteration order -/

theorem mapM_ok_of_forall {α β : Type} (f : α → Except String β) (l : List α) (h : ∀ a ∈ l, ∃ b, f a = .ok b) :
    ∃ r, l.mapM f = .ok r := by
  induction l with
  | nil => exact ⟨[], rfl⟩
  | cons a l ih =>
    obtain ⟨b, hb⟩ := h a (by simp)
    obtain ⟨r, hr⟩ := ih (fun x hx => h x (by simp [hx]))
    exact ⟨b :: r, by rw [mapM_except_cons, hb, hr]⟩

/-- If `Groups` goes through for one order of the keys (no sort key panics), it does for every other. -/
theorem groupsWith_ok_perm (s : AccGroup) (less : Bytes → Bytes → Bool) {o₁ o₂ r₁ : List Bytes} (hp : o₁.Perm o₂)
    (h : s.groupsWith less o₁ = .ok r₁) : ∃ r₂, s.groupsWith less o₂ = .ok r₂ := by
  unfold AccGroup.groupsWith at h ⊢
  cases hs : s.sortExpr with
  | none => exact ⟨_, rfl⟩
  | some e =>
    rw [hs] at h
    simp only at h ⊢
    have hl := hp.length_eq
    by_cases hle : o₂.length ≤ 1
    · rw [if_pos hle]; exact ⟨_, rfl⟩
    · rw [if_neg hle]
      rw [if_neg (by omega)] at h
      cases hm : o₁.mapM (fun g => (s.sortKey e g).map fun k => (g, k)) with
      | error m => rw [hm] at h; cases h
      | ok keyed =>
        obtain ⟨_, hall⟩ := mapM_keyed (s.sortKey e) o₁ keyed hm
        obtain ⟨r, hr⟩ := mapM_ok_of_forall (fun g => (s.sortKey e g).map fun k => (g, k)) o₂ fun g hg => by
          obtain ⟨k, hk⟩ := hall g (hp.mem_iff.mpr hg)
          exact ⟨(g, k), by rw [hk]; rfl⟩
        rw [hr]; exact ⟨_, rfl⟩

/-- `Groups` panics or not independently of the order the map hands the keys over in. -/
theorem groupsWith_outcome_perm (s : AccGroup) (less : Bytes → Bytes → Bool) (hlt : StrictTotal less)
    (o₁ o₂ : List Bytes) (hp : o₁.Perm o₂) : SameOutcome (s.groupsWith less o₁) (s.groupsWith less o₂) := by
  cases h1 : s.groupsWith less o₁ with
  | ok r1 =>
    obtain ⟨r2, h2⟩ := groupsWith_ok_perm s less hp h1
    exact Or.inl ⟨r1, rfl, by rw [h2, groupsWith_deterministic s less hlt o₁ o₂ r1 r2 hp h1 h2]⟩
  | error m =>
    cases h2 : s.groupsWith less o₂ with
    | error m' => exact Or.inr ⟨m, m', rfl, rfl⟩
    | ok r2 =>
      obtain ⟨r1, h1'⟩ := groupsWith_ok_perm s less hp.symm h2
      rw [h1] at h1'; cases h1'

/-! ### two aggregators that answer every accessor alike -/

/-- Same definitions, and every group looks up the same row (the association lists may be in different orders). -/
def ObsEq (s₁ s₂ : AccGroup) : Prop := SameDefs s₁ s₂ ∧ ∀ k, aget s₁.data k = aget s₂.data k

theorem ObsEq.refl (s : AccGroup) : ObsEq s s := ⟨SameDefs.refl s, fun _ => rfl⟩

namespace ObsEq
variable {s₁ s₂ : AccGroup} (h : ObsEq s₁ s₂)
include h

theorem dataNoCopy : s₁.dataNoCopy = s₂.dataNoCopy := by
  funext k; simp [AccGroup.dataNoCopy, h.2 k]

theorem groupCols : s₂.groupCols = s₁.groupCols := by simp [AccGroup.groupCols, h.1.1]
theorem dataCols : s₂.dataCols = s₁.dataCols := by simp [AccGroup.dataCols, h.1.2.1]
theorem groupColCount : s₂.groupColCount = s₁.groupColCount := by simp [AccGroup.groupColCount, h.1.1]
theorem colCount : s₂.colCount = s₁.colCount := by simp [AccGroup.colCount, h.1.1, h.1.2.1]

theorem dataOf : s₁.dataOf = s₂.dataOf := by
  funext k; simp [AccGroup.dataOf, h.dataNoCopy, h.1.2.1]

theorem sortKey (e : Stage) (g : Bytes) : s₁.sortKey e g = s₂.sortKey e g := by
  have : s₁.sortGetKey g = s₂.sortGetKey g := by
    funext key; simp [AccGroup.sortGetKey, h.dataNoCopy, h.1.2.2.1]
  simp [AccGroup.sortKey, this]

theorem groupsWith (less : Bytes → Bytes → Bool) (order : List Bytes) :
    s₁.groupsWith less order = s₂.groupsWith less order := by
  have hk : (fun g => (s₁.sortKey · g)) = fun g => (s₂.sortKey · g) := by
    funext g e; exact h.sortKey e g
  unfold AccGroup.groupsWith
  rw [h.1.2.2.2]
  cases s₁.sortExpr with
  | none => rfl
  | some e =>
    have : (fun g => (s₁.sortKey e g).map fun k => (g, k)) = fun g => (s₂.sortKey e g).map fun k => (g, k) := by
      funext g; rw [h.sortKey e g]
    simp only [this]

theorem accCsvRow (row : List Bytes) (g : Bytes) : C03.accCsvRow s₁ row g = C03.accCsvRow s₂ row g := by
  simp [C03.accCsvRow, h.groupColCount, h.dataNoCopy]

theorem accCsvRecords (gs : List Bytes) (row : List Bytes) : C03.accCsvRecords s₁ gs row = C03.accCsvRecords s₂ gs row := by
  induction gs generalizing row with
  | nil => rfl
  | cons g gs ih => simp only [C03.accCsvRecords, h.accCsvRow, ih]

theorem writeAccumulatorRows (gs : List Bytes) : C03.writeAccumulatorRows s₁ gs = C03.writeAccumulatorRows s₂ gs := by
  simp [C03.writeAccumulatorRows, h.groupCols, h.dataCols, h.colCount, h.accCsvRecords]

theorem reduceCsv (order : List Bytes) : C03.reduceCsv s₁ order = C03.reduceCsv s₂ order := by
  unfold C03.reduceCsv
  rw [h.groupsWith]
  congr 1
  funext gs; rw [h.writeAccumulatorRows]

theorem reduceTableRow (g : Bytes) : C03.reduceTableRow s₁ g = C03.reduceTableRow s₂ g := by
  simp [C03.reduceTableRow, h.groupColCount, h.colCount, h.dataOf]

end ObsEq

theorem akeys_perm_of_aget {α : Type} (m₁ m₂ : List (Bytes × α)) (h : ∀ k, aget m₁ k = aget m₂ k)
    (n₁ : (akeys m₁).Nodup) (n₂ : (akeys m₂).Nodup) : (akeys m₁).Perm (akeys m₂) :=
  (List.perm_ext_iff_of_nodup n₁ n₂).mpr fun k => by rw [mem_akeys_iff, mem_akeys_iff, h k]

theorem ObsEq.dataCount {s₁ s₂ : AccGroup} (h : ObsEq s₁ s₂) (r₁ : AccReach s₁) (r₂ : AccReach s₂) :
    s₁.dataCount = s₂.dataCount := by
  have := (akeys_perm_of_aget s₁.data s₂.data h.2 (reach_keys_nodup r₁) (reach_keys_nodup r₂)).length_eq
  simpa [AccGroup.dataCount, akeys] using this

/-- `range s.data` yields every key once: any such order is a permutation of any other. -/
theorem isRange_perm_obs {s₁ s₂ : AccGroup} (h : ∀ k, aget s₁.data k = aget s₂.data k) {o₁ o₂ : List Bytes}
    (r₁ : IsRangeOf o₁ s₁.data) (r₂ : IsRangeOf o₂ s₂.data) : o₁.Perm o₂ :=
  range_perm r₁ r₂ fun k => by rw [h k]

/-! ### `WriteAccumulator`: the reused row buffer holds exactly this row -/

/-- A loop assigning `row[k] = v₀`, `row[k+1] = v₁`, … overwrites that segment of the buffer and nothing else. -/
theorem foldl_set_segment {β : Type} (idx : β → Nat) (val : β → Bytes) :
    ∀ (l : List β) (k : Nat) (pre mid post : List Bytes), l.map idx = List.range' k l.length →
      pre.length = k → mid.length = l.length →
      l.foldl (fun r b => r.set (idx b) (val b)) (pre ++ mid ++ post) = pre ++ l.map val ++ post
  | [], _, pre, mid, post, _, _, hm => by
    rw [List.length_eq_zero_iff.mp hm]; rfl
  | b :: l, k, pre, [], post, _, _, hm => by simp at hm
  | b :: l, k, pre, m :: mid, post, hi, hp, hm => by
    simp only [List.map_cons, List.length_cons, List.range'_succ, List.cons.injEq, Nat.add_right_cancel_iff] at hi hm
    have hset : (pre ++ m :: mid ++ post).set (idx b) (val b) = (pre ++ [val b]) ++ mid ++ post := by
      rw [hi.1, ← hp]; simp
    rw [List.foldl_cons, hset, foldl_set_segment idx val l (k + 1) _ mid post hi.2 (by simp [hp]) hm]
    simp

theorem foldl_set_range (f : Nat → Bytes) (n : Nat) (row : List Bytes) (hn : n ≤ row.length) :
    (List.range n).foldl (fun r i => r.set i (f i)) row = (List.range n).map f ++ row.drop n := by
  have := foldl_set_segment id f (List.range n) 0 [] (row.take n) (row.drop n)
    (by simp [List.range_eq_range']) rfl (by simp [hn])
  simpa using this

theorem foldl_set_zipIdx (xs mid post : List Bytes) (h : mid.length = xs.length) :
    xs.zipIdx.foldl (fun r p => r.set p.2 p.1) (mid ++ post) = xs ++ post := by
  have := foldl_set_segment Prod.snd Prod.fst xs.zipIdx 0 [] mid post (by simp [List.zipIdx_map_snd]) rfl (by simp [h])
  simpa using this

/-- The group cells of a CSV / table row: the first `n` parts of the key, missing ones empty. -/
def padParts (n : Nat) (parts : List Bytes) : List Bytes := (List.range n).map fun i => parts.getD i []

theorem padParts_length (n : Nat) (parts : List Bytes) : (padParts n parts).length = n := by simp [padParts]

theorem padParts_eq (n : Nat) (parts : List Bytes) :
    padParts n parts = parts.take n ++ List.replicate (n - parts.length) [] := by
  induction n generalizing parts with
  | zero => simp [padParts]
  | succ n ih =>
    have h : padParts (n + 1) parts = parts.headD [] :: padParts n parts.tail := by
      cases parts <;> simp [padParts, List.range_succ_eq_map, Function.comp_def]
    rw [h, ih]
    cases parts <;> simp [List.replicate_succ]

/-- What `WriteAccumulator` writes for a group: its key parts, then its row. -/
def csvCells (s : AccGroup) (g : Bytes) : List Bytes := padParts s.groupColCount (groupKeyParts g) ++ s.dataNoCopy g

theorem goCopy_same_length {α : Type} (dst src : List α) (h : src.length = dst.length) : goCopy dst src = src := by
  unfold goCopy
  rw [← h, List.take_length, List.drop_eq_nil_of_le (by omega), List.append_nil]

theorem accCsvRow_eq (s : AccGroup) (row : List Bytes) (g : Bytes) (hrow : row.length = s.colCount)
    (hdata : (s.dataNoCopy g).length = s.colDef.length) : accCsvRow s row g = csvCells s g := by
  unfold accCsvRow csvCells padParts
  have hc : s.colCount = s.groupColCount + s.colDef.length := rfl
  dsimp only
  rw [foldl_set_range _ _ _ (by omega)]
  have hl : ((List.range s.groupColCount).map fun i => (groupKeyParts g).getD i []).length = s.groupColCount := by simp
  rw [List.take_left' hl, List.drop_left' hl]
  rw [goCopy_same_length _ _ (by rw [hdata, List.length_drop]; omega)]

theorem csvCells_length (s : AccGroup) (g : Bytes) (hdata : (s.dataNoCopy g).length = s.colDef.length) :
    (csvCells s g).length = s.colCount := by
  simp [csvCells, padParts_length, hdata, AccGroup.colCount, AccGroup.groupColCount]

theorem accCsvRecords_eq (s : AccGroup) (gs : List Bytes) (row : List Bytes) (hrow : row.length = s.colCount)
    (hdata : ∀ g ∈ gs, (s.dataNoCopy g).length = s.colDef.length) : accCsvRecords s gs row = gs.map (csvCells s) := by
  induction gs generalizing row with
  | nil => rfl
  | cons g gs ih =>
    have hg := hdata g (by simp)
    simp only [accCsvRecords, List.map_cons]
    rw [accCsvRow_eq s row g hrow hg, ih _ (csvCells_length s g hg) (fun x hx => hdata x (by simp [hx]))]

/-- For an aggregator in which every listed group has a full row (every reachable one, for the groups it holds):
the records of `WriteAccumulator` are the header and, per group, its padded key parts and its row – nothing
of the previous record survives in the reused buffer. -/
theorem writeAccumulatorRows_eq (s : AccGroup) (gs : List Bytes)
    (hdata : ∀ g ∈ gs, (s.dataNoCopy g).length = s.colDef.length) :
    writeAccumulatorRows s gs = (s.groupCols ++ s.dataCols) :: gs.map (csvCells s) := by
  unfold writeAccumulatorRows
  rw [accCsvRecords_eq s gs _ (by simp) hdata]

theorem dataNoCopy_length_of_reach (s : AccGroup) (h : AccReach s) (g : Bytes) (hg : (aget s.data g).isSome) :
    (s.dataNoCopy g).length = s.colDef.length := by
  cases hr : aget s.data g with
  | none => rw [hr] at hg; cases hg
  | some row =>
    have := (reach_accwf h).rows g row hr
    simp [AccGroup.dataNoCopy, hr, this]

theorem groupsWith_mem (s : AccGroup) (less : Bytes → Bytes → Bool) (hlt : StrictTotal less) (order gs : List Bytes)
    (h : s.groupsWith less order = .ok gs) (g : Bytes) (hg : g ∈ gs) : g ∈ order :=
  (groupsWith_spec s less hlt order gs h).1.mem_iff.mp hg

/-- Key parts read back: for group values without NUL the padded parts are the values (also for a single empty
value, whose key has no parts at all: the padding supplies the empty cell). -/
theorem padParts_nulJoin (vs : List Bytes) (hfree : ∀ v ∈ vs, (0 : UInt8) ∉ v) :
    padParts vs.length (groupKeyParts (nulJoin vs)) = vs := by
  by_cases h1 : vs = [[]]
  · subst h1; decide
  · by_cases h0 : vs = []
    · subst h0; rfl
    · have : groupKeyParts (nulJoin vs) = vs := (parts_nulJoin_iff vs).mpr ⟨hfree, h1⟩
      rw [this, padParts_eq]; simp

theorem reach_run {s0 s : AccGroup} (h0 : AccReach s0) (h : List Bytes) (hr : s0.run h = .ok s) : AccReach s := by
  induction h generalizing s0 with
  | nil => simp [AccGroup.run, pure, Except.pure] at hr; subst hr; exact h0
  | cons e h ih =>
    unfold AccGroup.run at hr
    rw [foldlM_except_cons] at hr
    cases hs : s0.sample e with
    | error m => rw [hs] at hr; cases hr
    | ok s1 =>
      rw [hs] at hr
      exact ih (AccReach.step s0 s1 (.sample e) none h0 (by simp [AccGroup.apply, hs, Except.map])) hr

theorem run_sameDefs {s0 s : AccGroup} (h0 : AccReach s0) (h : List Bytes) (hr : s0.run h = .ok s) : SameDefs s0 s := by
  rcases (run_refines s0 (reach_accwf h0) _ (holds_self s0) h).cases with ⟨s', _, e1, _, _, _, sd⟩ | ⟨m, e1, _⟩
  · rw [hr] at e1; cases e1; exact sd
  · rw [hr] at e1; cases e1

/-- Per group: the row is the fold of the row update over the group's own samples, in order. -/
theorem run_group_history (s0 s : AccGroup) (h0 : AccReach s0) (hempty : s0.data = []) (h : List Bytes)
    (hr : s0.run h = .ok s) (k : Bytes) :
    ∃ row, (subHistory s0.specGroups h k).foldlM (updRow s0.specCols) (initialRow s0.specCols) = .ok row ∧
      aget s.data k = if subHistory s0.specGroups h k = [] then none else some row := by
  have hh : Holds s0 (fun _ => none) := by intro k; rw [hempty]; rfl
  rcases (run_refines s0 (reach_accwf h0) _ hh h).cases with ⟨s', st, e1, e2, hh', _, _⟩ | ⟨m, e1, _⟩
  · rw [hr] at e1; cases e1
    obtain ⟨row, a, b⟩ := specRun_sub _ _ h st e2 k
    exact ⟨row, a, by rw [hh' k]; exact b⟩
  · rw [hr] at e1; cases e1

/-! ### order-insensitive accumulators -/

/-- A left fold in `Except` does not see the order of its list when two consecutive steps can be exchanged
(on the states satisfying an invariant the steps preserve). -/
theorem foldlM_perm {σ α : Type} (f : σ → α → Except String σ) (P : σ → Prop)
    (hP : ∀ s a s', P s → f s a = .ok s' → P s')
    (hcomm : ∀ s a b, P s → (f s a >>= fun r => f r b) = (f s b >>= fun r => f r a))
    {l₁ l₂ : List α} (hp : l₁.Perm l₂) : ∀ s, P s → l₁.foldlM f s = l₂.foldlM f s := by
  induction hp with
  | nil => intro s _; rfl
  | cons a _ ih =>
    intro s hs
    rw [foldlM_except_cons, foldlM_except_cons]
    cases hfa : f s a with
    | error m => rfl
    | ok s' => exact ih s' (hP s a s' hs hfa)
  | swap a b l =>
    intro s hs
    have h1 : ∀ (x y : α), (x :: y :: l).foldlM f s = ((f s x >>= fun r => f r y) >>= fun r => l.foldlM f r) := by
      intro x y
      rw [List.foldlM_cons]
      cases f s x with
      | error m => rfl
      | ok s' => simp only [List.foldlM_cons]; rfl
    rw [h1, h1, hcomm s b a hs]
  | trans _ _ ih1 ih2 => intro s hs; rw [ih1 s hs, ih2 s hs]

/-- The row update of the accumulators is order-insensitive: two consecutive samples of one group can be
exchanged (same resulting row, or the same panic). -/
def RowComm (cols : List SCol) : Prop :=
  ∀ (row : List Bytes) (e₁ e₂ : Bytes), row.length = cols.length →
    (updRow cols row e₁ >>= fun r => updRow cols r e₂) = (updRow cols row e₂ >>= fun r => updRow cols r e₁)

theorem foldlM_inv {σ α : Type} (f : σ → α → Except String σ) (P : σ → Prop)
    (hP : ∀ s a s', P s → f s a = .ok s' → P s') (l : List α) (s s' : σ) (hs : P s) (h : l.foldlM f s = .ok s') : P s' := by
  induction l generalizing s with
  | nil => simp [pure, Except.pure] at h; subst h; exact hs
  | cons a l ih =>
    rw [foldlM_except_cons] at h
    cases hfa : f s a with
    | error m => rw [hfa] at h; cases h
    | ok s1 => rw [hfa] at h; exact ih s1 (hP s a s1 hs hfa) h

theorem updCol_length (cols : List SCol) (e : Bytes) (row row' : List Bytes) (i : Nat)
    (h : updCol cols e row i = .ok row') : row'.length = row.length := by
  unfold updCol at h
  cases hc : cols[i]? with
  | none => rw [hc] at h; cases h; rfl
  | some c =>
    rw [hc] at h
    simp only at h
    cases hv : c.eval (colLookups (cols.map (·.name)) e row i) with
    | error m => rw [hv] at h; cases h
    | ok v => rw [hv] at h; simp only [Except.map, Except.ok.injEq] at h; subst h; simp

theorem updRow_length (cols : List SCol) (row row' : List Bytes) (e : Bytes) (h : updRow cols row e = .ok row') :
    row'.length = row.length :=
  foldlM_inv (updCol cols e) (fun r => r.length = row.length)
    (fun r i r' hr hu => (updCol_length cols e r r' i hu).trans hr) _ row row' rfl h

/-- Permuting a history permutes every group's sub-history; with order-insensitive accumulators every group
ends with the same row. -/
theorem group_rows_perm (gs : List SExpr) (cols : List SCol) (hc : RowComm cols) {h₁ h₂ : List Bytes}
    (hp : h₁.Perm h₂) (k : Bytes) :
    (subHistory gs h₁ k).foldlM (updRow cols) (initialRow cols) =
      (subHistory gs h₂ k).foldlM (updRow cols) (initialRow cols) := by
  have hsub : (subHistory gs h₁ k).Perm (subHistory gs h₂ k) := hp.filter _
  exact foldlM_perm (updRow cols) (fun r => r.length = cols.length)
    (fun r e r' hr hu => (updRow_length cols r r' e hu).trans hr)
    (fun r a b hr => hc r a b hr) hsub _ (by simp [initialRow])

/-- Two runs over permuted histories that both went through leave aggregators that answer alike. -/
theorem run_perm_obsEq (s0 s₁ s₂ : AccGroup) (h0 : AccReach s0) (hempty : s0.data = [])
    (hc : RowComm s0.specCols) {h₁ h₂ : List Bytes} (hp : h₁.Perm h₂)
    (r₁ : s0.run h₁ = .ok s₁) (r₂ : s0.run h₂ = .ok s₂) : ObsEq s₁ s₂ := by
  refine ⟨?_, fun k => ?_⟩
  · have a := run_sameDefs h0 h₁ r₁
    have b := run_sameDefs h0 h₂ r₂
    exact ⟨b.1.trans a.1.symm, b.2.1.trans a.2.1.symm, b.2.2.1.trans a.2.2.1.symm, b.2.2.2.trans a.2.2.2.symm⟩
  · obtain ⟨row1, a1, b1⟩ := run_group_history s0 s₁ h0 hempty h₁ r₁ k
    obtain ⟨row2, a2, b2⟩ := run_group_history s0 s₂ h0 hempty h₂ r₂ k
    rw [group_rows_perm _ _ hc hp k] at a1
    rw [a1] at a2; cases a2
    have hsub : (subHistory s0.specGroups h₁ k).Perm (subHistory s0.specGroups h₂ k) := hp.filter _
    have hnil : subHistory s0.specGroups h₁ k = [] ↔ subHistory s0.specGroups h₂ k = [] := by
      constructor
      · intro h; rw [h] at hsub; exact hsub.symm.eq_nil
      · intro h; rw [h] at hsub; exact hsub.eq_nil
    rw [b1, b2]
    by_cases hn : subHistory s0.specGroups h₁ k = []
    · rw [if_pos hn, if_pos (hnil.mp hn)]
    · rw [if_neg hn, if_neg (fun h => hn (hnil.mpr h))]

/-! ### a sufficient condition: every accumulator folds its own `{.}` with a right-commutative operation -/

/-- The column reads nothing but its own accumulator `{.}` and the sampled element, never panics, and its
update `f` satisfies `f (f cur p) q = f (f cur q) p` (e.g. `{sumi {.} {1}}`, `{maxi {.} {2}}`, `{sumi {.} 1}`). -/
def CommCol (c : SCol) : Prop :=
  ∃ f : Bytes → (Int → Bytes) → Bytes,
    (∀ L : Lookups, c.eval L = .ok (f (L.key [46]) L.part)) ∧ ∀ cur p q, f (f cur p) q = f (f cur q) p

def pureUpd (F : Nat → Bytes → Bytes) : Nat → List Bytes → List Bytes
  | 0, row => row
  | n + 1, row => let r := pureUpd F n row; r.set n (F n (r.getD n []))

theorem pureUpd_length (F : Nat → Bytes → Bytes) (n : Nat) (row : List Bytes) : (pureUpd F n row).length = row.length := by
  induction n with
  | zero => rfl
  | succ n ih => simp [pureUpd, ih]

theorem pureUpd_get (F : Nat → Bytes → Bytes) (n : Nat) (row : List Bytes) (j : Nat) :
    (pureUpd F n row)[j]? = if j < n then row[j]?.map (F j) else row[j]? := by
  induction n with
  | zero => simp [pureUpd]
  | succ n ih =>
    simp only [pureUpd]
    rw [List.getElem?_set]
    by_cases hj : n = j
    · subst hj
      rw [if_pos rfl, pureUpd_length]
      have hn : (pureUpd F n row)[n]? = row[n]? := by rw [ih]; simp
      by_cases hl : n < row.length
      · rw [if_pos hl, if_pos (by omega)]
        have : (pureUpd F n row).getD n [] = row[n] := by
          rw [List.getD_eq_getElem?_getD, hn, List.getElem?_eq_getElem hl]; rfl
        rw [this, List.getElem?_eq_getElem hl]; rfl
      · rw [if_neg hl, if_pos (by omega), List.getElem?_eq_none (by omega)]; rfl
    · rw [if_neg hj, ih]
      by_cases h1 : j < n
      · rw [if_pos h1, if_pos (by omega)]
      · rw [if_neg h1, if_neg (by omega)]

theorem foldlM_range_succ {σ : Type} (f : σ → Nat → Except String σ) (n : Nat) (s : σ) :
    (List.range (n + 1)).foldlM f s = ((List.range n).foldlM f s >>= fun r => f r n) := by
  rw [List.range_succ, List.foldlM_append]
  congr 1
  funext r
  simp [List.foldlM_cons]

theorem updRow_pure (cols : List SCol) (F : Nat → Bytes → (Int → Bytes) → Bytes)
    (hF : ∀ (i : Nat) (c : SCol), cols[i]? = some c → ∀ L : Lookups, c.eval L = Except.ok (F i (L.key [46]) L.part))
    (row : List Bytes) (e : Bytes) :
    ∀ n, n ≤ cols.length → (List.range n).foldlM (updCol cols e) row = .ok (pureUpd (fun i v => F i v (partOf e)) n row) := by
  intro n
  induction n with
  | zero => intro _; rfl
  | succ n ih =>
    intro hn
    rw [foldlM_range_succ, ih (by omega)]
    show updCol cols e _ n = _
    unfold updCol
    have hlt : n < cols.length := by omega
    rw [List.getElem?_eq_getElem hlt]
    simp only
    rw [hF n cols[n] (List.getElem?_eq_getElem hlt)]
    simp [Except.map, pureUpd, colLookups]

theorem rowComm_of_commCols (cols : List SCol) (h : ∀ c ∈ cols, CommCol c) : RowComm cols := by
  classical
  -- choose the update function of every column
  let F : Nat → Bytes → (Int → Bytes) → Bytes := fun i =>
    if hi : i < cols.length then Classical.choose (h cols[i] (List.getElem_mem hi)) else fun v _ => v
  have hF : ∀ (i : Nat) (c : SCol), cols[i]? = some c → ∀ L : Lookups, c.eval L = Except.ok (F i (L.key [46]) L.part) := by
    intro i c hc L
    obtain ⟨hi, rfl⟩ := List.getElem?_eq_some_iff.mp hc
    simp only [F, dif_pos hi]
    exact (Classical.choose_spec (h cols[i] (List.getElem_mem hi))).1 L
  have hcomm : ∀ i cur p q, F i (F i cur p) q = F i (F i cur q) p := by
    intro i cur p q
    by_cases hi : i < cols.length
    · simp only [F, dif_pos hi]
      exact (Classical.choose_spec (h cols[i] (List.getElem_mem hi))).2 cur p q
    · simp only [F, dif_neg hi]
  intro row e₁ e₂ _
  unfold updRow
  rw [updRow_pure cols F hF row e₁ _ (Nat.le_refl _), updRow_pure cols F hF row e₂ _ (Nat.le_refl _)]
  show (List.range cols.length).foldlM (updCol cols e₂) _ = (List.range cols.length).foldlM (updCol cols e₁) _
  rw [updRow_pure cols F hF _ e₂ _ (Nat.le_refl _), updRow_pure cols F hF _ e₁ _ (Nat.le_refl _)]
  congr 1
  apply List.ext_getElem?
  intro j
  rw [pureUpd_get, pureUpd_get, pureUpd_get, pureUpd_get]
  by_cases hj : j < cols.length
  · simp only [if_pos hj, Option.map_map]
    congr 1
    funext v
    exact hcomm j v (partOf e₁) (partOf e₂)
  · simp only [if_neg hj]

/-! ### the set-up loops of `reduceFunction` -/

/-- What the set-up keeps true: reachable, no data yet, `maxKeylen` bounds every accumulator name. -/
structure SetupInv (s : AccGroup) (maxKeylen : Nat) : Prop where
  reach : AccReach s
  nodata : s.data = []
  keylen : ∀ n ∈ s.dataCols, n.length ≤ maxKeylen

theorem addGroupExpr_dataCols (s : AccGroup) (n : Bytes) (c : Option Stage) : (s.addGroupExpr n c).1.dataCols = s.dataCols := by
  unfold AccGroup.addGroupExpr
  split; · rfl
  split; · rfl
  cases c <;> rfl

theorem setSort_dataCols (s : AccGroup) (c : Option Stage) : (s.setSort c).1.dataCols = s.dataCols := by
  unfold AccGroup.setSort
  cases c <;> rfl

theorem addDataExpr_dataCols (s : AccGroup) (n : Bytes) (c : Option Stage) (i : Bytes) :
    ∀ x ∈ (s.addDataExpr n c i).1.dataCols, x ∈ s.dataCols ∨ x = n := by
  unfold AccGroup.addDataExpr
  split; · intro x hx; exact Or.inl hx
  split; · intro x hx; exact Or.inl hx
  cases c with
  | none => intro x hx; exact Or.inl hx
  | some kb =>
    intro x hx
    simp only [AccGroup.dataCols, List.map_append, List.map_cons, List.map_nil, List.mem_append, List.mem_singleton] at hx ⊢
    exact hx

namespace SetupInv
variable {s : AccGroup} {mk : Nat} (inv : SetupInv s mk)
include inv

theorem addGroup (n : Bytes) (c : Option Stage) : SetupInv (s.addGroupExpr n c).1 mk :=
  ⟨AccReach.step s _ (.addGroup n c) _ inv.reach rfl, by rw [addGroupExpr_data]; exact inv.nodata,
   by rw [addGroupExpr_dataCols]; exact inv.keylen⟩

theorem setSort (c : Option Stage) : SetupInv (s.setSort c).1 mk :=
  ⟨AccReach.step s _ (.setSort c) _ inv.reach rfl, by rw [setSort_data]; exact inv.nodata,
   by rw [setSort_dataCols]; exact inv.keylen⟩

theorem addData (n : Bytes) (c : Option Stage) (i : Bytes) :
    SetupInv (s.addDataExpr n c i).1 (if n.length > mk then n.length else mk) := by
  refine ⟨AccReach.step s _ (.addData n c i) _ inv.reach rfl, by rw [addDataExpr_data]; exact inv.nodata, ?_⟩
  intro x hx
  rcases addDataExpr_dataCols s n c i x hx with h | rfl
  · have := inv.keylen x h
    split <;> omega
  · split <;> omega

end SetupInv

theorem setupGroups_inv (compile : Bytes → Option Stage) (gs : List Bytes) (s s' : AccGroup) (mk : Nat)
    (inv : SetupInv s mk) (h : setupGroups compile gs s = .ok s') : SetupInv s' mk := by
  induction gs generalizing s with
  | nil => simp only [setupGroups, Except.ok.injEq] at h; subst h; exact inv
  | cons g gs ih =>
    have step := inv.addGroup (parseKeyValue g).1 (compile (parseKeyValue g).2)
    simp only [setupGroups] at h
    split at h
    · cases h
    · rename_i s1 hr
      rw [hr] at step
      exact ih s1 step h

theorem setupAccums_inv (compile : Bytes → Option Stage) (dflt : Bytes) (es : List Bytes) (s s' : AccGroup) (mk mk' : Nat)
    (inv : SetupInv s mk) (h : setupAccums compile dflt es (s, mk) = .ok (s', mk')) : SetupInv s' mk' := by
  induction es generalizing s mk with
  | nil => simp only [setupAccums, Except.ok.injEq, Prod.mk.injEq] at h; obtain ⟨rfl, rfl⟩ := h; exact inv
  | cons e es ih =>
    have step := inv.addData (parseKeyValInitial e dflt).1 (compile (parseKeyValInitial e dflt).2.2) (parseKeyValInitial e dflt).2.1
    simp only [setupAccums] at h
    split at h
    · cases h
    · rename_i s1 hr
      rw [hr] at step
      exact ih s1 _ step h

/-- The aggregator `reduceFunction` hands to the aggregation loop: reachable by `Add…`/`SetSort` calls, without
data, and `maxKeylen` is at least the length of every accumulator name. -/
theorem reduceSetup_inv (compile : Bytes → Option Stage) (a : ReduceArgs) (s0 : AccGroup) (mk : Nat)
    (h : reduceSetup compile a = .ok (s0, mk)) : SetupInv s0 mk := by
  unfold reduceSetup at h
  cases h1 : setupGroups compile a.group {} with
  | error c => rw [h1] at h; cases h
  | ok s1 =>
    rw [h1] at h
    have i1 : SetupInv s1 0 := setupGroups_inv compile a.group {} s1 0 ⟨AccReach.init, rfl, by simp [AccGroup.dataCols]⟩ h1
    simp only at h
    cases h2 : setupAccums compile a.initial a.accum (s1, 0) with
    | error c => rw [h2] at h; cases h
    | ok r =>
      obtain ⟨s2, mk2⟩ := r
      rw [h2] at h
      have i2 := setupAccums_inv compile a.initial a.accum s1 s2 0 mk2 i1 h2
      have step := i2.setSort (compile a.sort)
      simp only at h
      split at h
      · split at h
        · cases h
        · rename_i s3 hr
          rw [hr] at step
          cases h; exact step
      · cases h; exact i2

/-- A table row holds the same cells as the CSV record: the padded key parts, then the row of the group. -/
theorem reduceTableRow_eq (s : AccGroup) (g : Bytes) :
    reduceTableRow s g = padParts s.groupColCount (groupKeyParts g) ++ s.dataOf g := by
  have hc : s.colCount = s.groupColCount + s.colDef.length := rfl
  -- the fresh buffer: the cells the loop assigns, the rest of the group cells, the data cells
  have hbuf : List.replicate s.colCount ([] : Bytes) =
      List.replicate ((groupKeyParts g).take s.groupColCount).length [] ++
        (List.replicate (s.groupColCount - (groupKeyParts g).length) [] ++ List.replicate s.colDef.length []) := by
    rw [List.replicate_append_replicate, List.replicate_append_replicate]; congr 1; simp [List.length_take]; omega
  have hl := padParts_length s.groupColCount (groupKeyParts g)
  unfold reduceTableRow
  dsimp only
  rw [hbuf, foldl_set_zipIdx _ _ _ (by simp), ← List.append_assoc, ← padParts_eq, List.take_left' hl, List.drop_left' hl,
    goCopy_same_length _ _ (by simp [AccGroup.dataOf])]

theorem exists_map_ok {α β : Type} (g : α → β) (x : Except String α) (h : ∃ r, x = .ok r) : ∃ l, x.map g = .ok l := by
  obtain ⟨r, rfl⟩ := h; exact ⟨g r, rfl⟩

/-- The simple output never panics when `maxKeylen` bounds the accumulator names (`strings.Repeat` gets a
non-negative count, `colNames[idx]` is in range). -/
theorem reduceSimple_ok (s : AccGroup) (mk : Nat) (c : Counters) (hk : ∀ n ∈ s.dataCols, n.length ≤ mk) :
    ∃ lines, reduceSimple s mk c = .ok lines := by
  unfold reduceSimple
  dsimp only
  apply exists_map_ok
  apply mapM_ok_of_forall
  intro p hp
  have hlt : p.2 < s.dataCols.length := by
    have := List.mem_zipIdx hp
    simp [AccGroup.dataOf, AccGroup.dataCols] at this ⊢
    omega
  rw [List.getElem?_eq_getElem hlt]
  simp only
  have := hk _ (List.getElem_mem hlt)
  rw [if_neg (by omega)]
  exact ⟨_, rfl⟩

/-! ### `--sort-reverse`: `sorting.Reverse(sorter)` = `!sorter(a, b)` on distinct keys is the flipped order -/

section reverse
open List List.MergeSort.Internal

theorem merge_congr {α : Type} {r s : α → α → Bool} {l l' : List α} (hl : ∀ a ∈ l, ∀ b ∈ l', r a b = s a b) :
    l.merge l' r = l.merge l' s := by
  have := List.map_merge (f := id) (r := r) (s := s) (l := l) (l' := l') (by simpa using hl)
  simpa using this

theorem mergeSort_congr_nodup {α : Type} {r s : α → α → Bool} : ∀ (l : List α), l.Nodup →
    (∀ a ∈ l, ∀ b ∈ l, a ≠ b → r a b = s a b) → l.mergeSort r = l.mergeSort s
  | [], _, _ => by simp
  | [x], _, _ => by simp
  | a :: b :: l, hnd, h => by
    have hsplit : (a :: b :: l).take (((a :: b :: l).length + 1) / 2) ++ (a :: b :: l).drop (((a :: b :: l).length + 1) / 2) = a :: b :: l :=
      List.take_append_drop _ _
    have hnd' := hnd
    rw [← hsplit] at hnd'
    have hdis := List.nodup_append.mp hnd'
    simp only [mergeSort, splitInTwo_fst, splitInTwo_snd]
    have ht : ∀ x, x ∈ (a :: b :: l).take (((a :: b :: l).length + 1) / 2) → x ∈ a :: b :: l := fun x hx => List.mem_of_mem_take hx
    have hd : ∀ x, x ∈ (a :: b :: l).drop (((a :: b :: l).length + 1) / 2) → x ∈ a :: b :: l := fun x hx => List.mem_of_mem_drop hx
    rw [mergeSort_congr_nodup _ hdis.1 (fun x hx y hy hne => h x (ht x hx) y (ht y hy) hne),
      mergeSort_congr_nodup _ hdis.2.1 (fun x hx y hy hne => h x (hd x hx) y (hd y hy) hne)]
    apply merge_congr
    intro x hx y hy
    rw [List.mem_mergeSort] at hx hy
    exact h x (ht x hx) y (hd y hy) (hdis.2.2 x hx y hy)
  termination_by l => l.length
  decreasing_by all_goals (simp; omega)

end reverse

theorem not_less_eq_flip {α : Type} {less : α → α → Bool} (h : StrictTotal less) {a b : α} (hne : a ≠ b) :
    (!less a b) = less b a := by
  cases hab : less a b with
  | true => rw [h.asymm a b hab]; rfl
  | false => rw [h.total a b hne hab]; rfl

theorem flip_strictTotal {α : Type} {less : α → α → Bool} (h : StrictTotal less) : StrictTotal (fun x y => less y x) :=
  ⟨fun a => h.irrefl a, fun a b c h1 h2 => h.trans c b a h2 h1, fun a b hne hab => h.total b a (fun e => hne e.symm) hab⟩

/-- `Groups(Reverse(sorter))` on the distinct keys of a map is `Groups` with the flipped comparison. -/
theorem groupsWith_reverse (s : AccGroup) (less : Bytes → Bytes → Bool) (hlt : StrictTotal less) (order : List Bytes)
    (hnd : order.Nodup) :
    s.groupsWith (fun x y => !less x y) order = s.groupsWith (fun x y => less y x) order := by
  unfold AccGroup.groupsWith
  cases s.sortExpr with
  | none =>
    simp only
    congr 1
    apply mergeSort_congr_nodup order hnd
    intro a _ b _ hne
    rw [not_less_eq_flip hlt (fun e => hne e.symm)]
  | some e =>
    simp only
    have hs : sortLess (fun x y => !less x y) = sortLess (fun x y => less y x) := by
      funext a b
      unfold sortLess
      by_cases h2 : a.2 = b.2
      · rw [if_pos h2, if_pos h2]
      · rw [if_neg h2, if_neg h2]; exact not_less_eq_flip hlt h2
    rw [hs]

/-- The comparison `Groups` effectively sorts the distinct keys by, given the sorter of the render callback. -/
def effLess (a : ReduceArgs) (less : Bytes → Bytes → Bool) : Bytes → Bytes → Bool :=
  if a.sortReverse then fun x y => less y x else less

theorem effLess_strictTotal (a : ReduceArgs) {less : Bytes → Bytes → Bool} (hlt : StrictTotal less) :
    StrictTotal (effLess a less) := by
  unfold effLess; split
  · exact flip_strictTotal hlt
  · exact hlt

theorem groupsWith_reduceSorter (a : ReduceArgs) (s : AccGroup) (less : Bytes → Bytes → Bool) (hlt : StrictTotal less)
    (order : List Bytes) (hnd : order.Nodup) :
    s.groupsWith (reduceSorter a less) order = s.groupsWith (effLess a less) order := by
  unfold reduceSorter effLess
  split
  · exact groupsWith_reverse s less hlt order hnd
  · rfl

end Rare.C03

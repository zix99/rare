import Rare.Base.F64
/-!
Rounding lemmas for the software binary64 model: `roundNE` (nearest integer, ties to even),
`scaleOf`, `roundMag` (magnitude pattern of the nearest float).

Main results
* `roundNE_mono`, `roundNE_intCast`, `roundNE_err` (|x − roundNE x| ≤ 1/2);
* `roundMag_mono`: `0 ≤ q₁ ≤ q₂ → roundMag q₁ ≤ roundMag q₂` (patterns of non-negative floats are
  ordered like their values);
* `rawMag_exact`: a value `m·2^E/2^1074` with a significand that fits (`m < 2^53`, normalised
  unless `E = 0`) rounds to the pattern `E·2^52 + m` itself.
-/
namespace Rare.F64

/-! ### small facts about `Rat` -/

theorem rat_div_le_div_right {a b c : Rat} (hc : 0 < c) (h : a ≤ b) : a / c ≤ b / c := by
  rw [Rat.div_def, Rat.div_def]
  exact Rat.mul_le_mul_of_nonneg_right h (Rat.le_of_lt (Rat.inv_pos.mpr hc))

theorem rat_le_div_iff {a b c : Rat} (hc : 0 < c) : a ≤ b / c ↔ a * c ≤ b := by
  rw [← Rat.not_lt, ← Rat.not_lt, Rat.div_lt_iff hc]

theorem rat_div_le_iff {a b c : Rat} (hc : 0 < c) : a / c ≤ b ↔ a ≤ b * c := by
  rw [← Rat.not_lt, ← Rat.not_lt, Rat.lt_div_iff hc]

theorem natCast_pos_of_pos {n : Nat} (h : 0 < n) : (0 : Rat) < (n : Rat) := by
  have := (Rat.natCast_lt_natCast (a := 0) (b := n)).mpr h
  simpa using this

theorem pow2_cast_pos (E : Nat) : (0 : Rat) < ((2 ^ E : Nat) : Rat) :=
  natCast_pos_of_pos (Nat.pow_pos (by decide))

theorem two1074_eq : two1074 = ((2 ^ 1074 : Nat) : Rat) := by
  unfold two1074
  rw [Rat.natCast_pow]
  rfl

theorem two1074_pos : 0 < two1074 := by
  rw [two1074_eq]; exact pow2_cast_pos _

theorem two1074_ne : two1074 ≠ 0 := Rat.ne_of_gt two1074_pos

/-- `⌊x⌋ = f` from the two bounds. -/
theorem floor_eq_of {x : Rat} {f : Int} (h1 : (f : Rat) ≤ x) (h2 : x < (f : Rat) + 1) : x.floor = f := by
  have a : f ≤ x.floor := Rat.le_floor_iff.mpr h1
  have b : x.floor < f + 1 := Rat.floor_lt_iff.mpr (by simpa using h2)
  omega

/-! ### `roundNE` -/

theorem roundNE_intCast (n : Int) : roundNE (n : Rat) = n := by
  unfold roundNE
  simp only [Rat.floor_intCast]
  have : (n : Rat) - (n : Rat) < 1 / 2 := by grind
  simp [this]

/-- `roundNE x` is the floor when the fraction is at most a half, the floor plus one when it is at least a half. -/
theorem roundNE_cases (x : Rat) :
    (roundNE x = x.floor ∧ x - (x.floor : Rat) ≤ 1 / 2) ∨ (roundNE x = x.floor + 1 ∧ 1 / 2 ≤ x - (x.floor : Rat)) := by
  unfold roundNE
  simp only []
  by_cases h1 : x - (x.floor : Rat) < 1 / 2
  · rw [if_pos h1]; exact Or.inl ⟨rfl, Rat.le_of_lt h1⟩
  · rw [if_neg h1]
    by_cases h2 : 1 / 2 < x - (x.floor : Rat)
    · rw [if_pos h2]; exact Or.inr ⟨rfl, Rat.le_of_lt h2⟩
    · rw [if_neg h2]
      split
      · exact Or.inl ⟨rfl, Rat.not_lt.mp h2⟩
      · exact Or.inr ⟨rfl, Rat.not_lt.mp h1⟩

theorem roundNE_mono {x y : Rat} (h : x ≤ y) : roundNE x ≤ roundNE y := by
  have hf : x.floor ≤ y.floor := Rat.floor_monotone h
  rcases roundNE_cases x with ⟨ex, hx⟩ | ⟨ex, hx⟩ <;> rcases roundNE_cases y with ⟨ey, hy⟩ | ⟨ey, hy⟩ <;>
    rw [ex, ey]
  · exact hf
  · omega
  · -- up from `x`, down from `y`: only when the floors differ (same floor: both fractions are a half, `x = y`)
    by_cases hlt : x.floor < y.floor
    · omega
    · have he : x.floor = y.floor := by omega
      rw [he] at hx
      have hxy : x = y := by grind
      subst hxy
      omega
  · omega

/-- An integer below `x` is below its rounding; an integer above `x` is above it. -/
theorem le_roundNE_of_intCast_le {n : Int} {x : Rat} (h : (n : Rat) ≤ x) : n ≤ roundNE x := by
  have := roundNE_mono h
  rwa [roundNE_intCast] at this

theorem roundNE_le_of_le_intCast {n : Int} {x : Rat} (h : x ≤ (n : Rat)) : roundNE x ≤ n := by
  have := roundNE_mono h
  rwa [roundNE_intCast] at this

theorem roundNE_nonneg {x : Rat} (h : 0 ≤ x) : 0 ≤ roundNE x :=
  le_roundNE_of_intCast_le (n := 0) (by simpa using h)

/-- Rounding error: at most one half. -/
theorem roundNE_err (x : Rat) : x - 1/2 ≤ (roundNE x : Rat) ∧ (roundNE x : Rat) ≤ x + 1/2 := by
  have h1 := Rat.floor_le x
  have h2 := Rat.lt_floor_add_one x
  rw [Rat.intCast_add] at h2
  rcases roundNE_cases x with ⟨e, h⟩ | ⟨e, h⟩ <;> rw [e]
  · constructor <;> grind
  · rw [Rat.intCast_add]; constructor <;> grind

/-! ### `scaleOf` -/

theorem log2_mono {a b : Nat} (h : a ≤ b) : a.log2 ≤ b.log2 := by
  by_cases ha : a = 0
  · subst ha; simp [Nat.log2_zero]
  · have hb : b ≠ 0 := by omega
    exact (Nat.le_log2 hb).mpr (Nat.le_trans (Nat.log2_self_le ha) h)

theorem scaleOf_mono {a b : Nat} (h : a ≤ b) : scaleOf a ≤ scaleOf b := by
  unfold scaleOf
  split
  · omega
  · split
    · omega
    · have := log2_mono h; omega

/-- When the scale is positive, `t` has exactly `scale + 53` bits. -/
theorem scaleOf_pos_bounds {t : Nat} (h : 0 < scaleOf t) :
    2 ^ (scaleOf t + 52) ≤ t ∧ t < 2 ^ (scaleOf t + 53) := by
  unfold scaleOf at h ⊢
  split at h
  · omega
  · rename_i ht
    have ht0 : t ≠ 0 := by omega
    have hl : 53 ≤ t.log2 := (Nat.le_log2 ht0).mpr (by omega)
    simp only [ht, if_false]
    have e1 : t.log2 - 52 + 52 = t.log2 := by omega
    have e2 : t.log2 - 52 + 53 = t.log2 + 1 := by omega
    rw [e1, e2]
    exact ⟨Nat.log2_self_le ht0, Nat.lt_log2_self⟩

theorem scaleOf_zero_iff {t : Nat} : scaleOf t = 0 ↔ t < P53 := by
  unfold scaleOf
  split
  · simp [*]
  · rename_i ht
    have ht0 : t ≠ 0 := by omega
    have hl : 53 ≤ t.log2 := (Nat.le_log2 ht0).mpr (by omega)
    constructor
    · intro h; omega
    · intro h; omega

/-! ### `roundMag` -/

/-- The pieces of `roundMag q`. -/
def yOf (q : Rat) : Rat := q * two1074
def tOf (q : Rat) : Nat := (yOf q).floor.toNat
def eOf (q : Rat) : Nat := scaleOf (tOf q)
def xOf (q : Rat) : Rat := yOf q / ((2 ^ eOf q : Nat) : Rat)
def mOf (q : Rat) : Nat := (roundNE (xOf q)).toNat
def rawMag (q : Rat) : Nat := eOf q * P52 + mOf q

theorem roundMag_eq (q : Rat) : roundMag q = min (rawMag q) InfMag := rfl

theorem yOf_nonneg {q : Rat} (h : 0 ≤ q) : 0 ≤ yOf q :=
  Rat.mul_nonneg h (Rat.le_of_lt two1074_pos)

theorem yOf_mono {q₁ q₂ : Rat} (h : q₁ ≤ q₂) : yOf q₁ ≤ yOf q₂ :=
  Rat.mul_le_mul_of_nonneg_right h (Rat.le_of_lt two1074_pos)

theorem tOf_cast {q : Rat} (h : 0 ≤ q) : ((tOf q : Nat) : Int) = (yOf q).floor := by
  unfold tOf
  have : 0 ≤ (yOf q).floor := Rat.le_floor_iff.mpr (by simpa using yOf_nonneg h)
  omega

theorem tOf_le {q : Rat} (h : 0 ≤ q) : ((tOf q : Nat) : Rat) ≤ yOf q := by
  have := Rat.floor_le (yOf q)
  rw [← tOf_cast h] at this
  exact this

theorem lt_tOf_succ {q : Rat} (h : 0 ≤ q) : yOf q < ((tOf q + 1 : Nat) : Rat) := by
  have := Rat.lt_floor_add_one (yOf q)
  rw [← tOf_cast h, Rat.intCast_add, Rat.intCast_natCast] at this
  rw [Rat.natCast_add]
  exact this

theorem tOf_mono {q₁ q₂ : Rat} (h : q₁ ≤ q₂) : tOf q₁ ≤ tOf q₂ := by
  unfold tOf
  have := Rat.floor_monotone (yOf_mono h)
  omega

theorem eOf_mono {q₁ q₂ : Rat} (h : q₁ ≤ q₂) : eOf q₁ ≤ eOf q₂ := scaleOf_mono (tOf_mono h)

theorem xOf_nonneg {q : Rat} (h : 0 ≤ q) : 0 ≤ xOf q := by
  unfold xOf
  rw [rat_le_div_iff (pow2_cast_pos _)]
  simpa using yOf_nonneg h

theorem mOf_cast {q : Rat} (h : 0 ≤ q) : ((mOf q : Nat) : Int) = roundNE (xOf q) := by
  unfold mOf
  have := roundNE_nonneg (xOf_nonneg h)
  omega

/-- In the normal range the scaled value lies in `[2^52, 2^53)`. -/
theorem xOf_bounds {q : Rat} (h : 0 ≤ q) (hE : 0 < eOf q) :
    ((P52 : Nat) : Rat) ≤ xOf q ∧ xOf q < ((P53 : Nat) : Rat) := by
  obtain ⟨b1, b2⟩ := scaleOf_pos_bounds hE
  have c1 : ((2 ^ (eOf q + 52) : Nat) : Rat) ≤ yOf q :=
    Rat.le_trans (Rat.natCast_le_natCast.mpr b1) (tOf_le h)
  have c2 : yOf q < ((2 ^ (eOf q + 53) : Nat) : Rat) := by
    have d1 := lt_tOf_succ h
    have d2 : ((tOf q + 1 : Nat) : Rat) ≤ ((2 ^ (eOf q + 53) : Nat) : Rat) := Rat.natCast_le_natCast.mpr b2
    grind
  unfold xOf
  constructor
  · rw [rat_le_div_iff (pow2_cast_pos _), ← Rat.natCast_mul]
    have : P52 * 2 ^ eOf q = 2 ^ (eOf q + 52) := by rw [Nat.pow_add]; omega
    rw [this]; exact c1
  · rw [Rat.div_lt_iff (pow2_cast_pos _), ← Rat.natCast_mul]
    have : P53 * 2 ^ eOf q = 2 ^ (eOf q + 53) := by rw [Nat.pow_add]; omega
    rw [this]; exact c2


/-- Normal range: the rounded significand lies in `[2^52, 2^53]`. -/
theorem mOf_bounds_pos {q : Rat} (h : 0 ≤ q) (hE : 0 < eOf q) : P52 ≤ mOf q ∧ mOf q ≤ P53 := by
  obtain ⟨b1, b2⟩ := xOf_bounds h hE
  have c1 : ((P52 : Nat) : Int) ≤ roundNE (xOf q) := le_roundNE_of_intCast_le (by simpa using b1)
  have c2 : roundNE (xOf q) ≤ ((P53 : Nat) : Int) :=
    roundNE_le_of_le_intCast (by simpa using Rat.le_of_lt b2)
  have := mOf_cast h
  omega

/-- Subnormal range (scale 0): the rounded significand is at most `2^53`. -/
theorem mOf_le_zero {q : Rat} (h : 0 ≤ q) (hE : eOf q = 0) : mOf q ≤ P53 := by
  have ht : tOf q < P53 := scaleOf_zero_iff.mp hE
  have hx : xOf q = yOf q := by
    unfold xOf; rw [hE]; simp only [Nat.pow_zero]; grind
  have c : yOf q ≤ ((P53 : Nat) : Rat) := by
    have d1 := lt_tOf_succ h
    have d2 : ((tOf q + 1 : Nat) : Rat) ≤ ((P53 : Nat) : Rat) := Rat.natCast_le_natCast.mpr ht
    grind
  have c2 : roundNE (xOf q) ≤ ((P53 : Nat) : Int) := by
    rw [hx]; exact roundNE_le_of_le_intCast (by simpa using c)
  have := mOf_cast h
  omega

theorem mOf_le {q : Rat} (h : 0 ≤ q) : mOf q ≤ P53 := by
  by_cases hE : eOf q = 0
  · exact mOf_le_zero h hE
  · exact (mOf_bounds_pos h (by omega)).2

/-- The unclamped pattern is monotone. -/
theorem rawMag_mono {q₁ q₂ : Rat} (h0 : 0 ≤ q₁) (h : q₁ ≤ q₂) : rawMag q₁ ≤ rawMag q₂ := by
  have h2 : 0 ≤ q₂ := Rat.le_trans h0 h
  have hE := eOf_mono h
  unfold rawMag
  by_cases he : eOf q₁ = eOf q₂
  · -- same scale: the significands are ordered
    have hx : xOf q₁ ≤ xOf q₂ := by
      unfold xOf; rw [he]; exact rat_div_le_div_right (pow2_cast_pos _) (yOf_mono h)
    have hm := roundNE_mono hx
    have a := mOf_cast h0
    have b := mOf_cast h2
    rw [he]; omega
  · have hlt : eOf q₁ < eOf q₂ := by omega
    have a := mOf_le h0
    have b := (mOf_bounds_pos h2 (by omega)).1
    have : (eOf q₁ + 1) * P52 ≤ eOf q₂ * P52 := Nat.mul_le_mul_right _ hlt
    omega

/-- **Rounding is monotone**: the pattern of the float nearest to `q` grows with `q ≥ 0`. -/
theorem roundMag_mono {q₁ q₂ : Rat} (h0 : 0 ≤ q₁) (h : q₁ ≤ q₂) : roundMag q₁ ≤ roundMag q₂ := by
  rw [roundMag_eq, roundMag_eq]
  have := rawMag_mono h0 h
  omega

theorem roundMag_le_inf (q : Rat) : roundMag q ≤ InfMag := by
  rw [roundMag_eq]; omega

/-- **Exactness**: `m·2^E/2^1074` with a significand that fits is its own rounding. -/
theorem rawMag_exact (E m : Nat) (hm : m < P53) (hn : E = 0 ∨ P52 ≤ m) :
    rawMag (((m * 2 ^ E : Nat) : Rat) / two1074) = E * P52 + m := by
  have hy : yOf (((m * 2 ^ E : Nat) : Rat) / two1074) = ((m * 2 ^ E : Nat) : Rat) := by
    unfold yOf; exact Rat.div_mul_cancel two1074_ne
  have ht : tOf (((m * 2 ^ E : Nat) : Rat) / two1074) = m * 2 ^ E := by
    unfold tOf; rw [hy]
    have : ((m * 2 ^ E : Nat) : Rat) = (((m * 2 ^ E : Nat) : Int) : Rat) := rfl
    rw [this, Rat.floor_intCast]; omega
  have he : eOf (((m * 2 ^ E : Nat) : Rat) / two1074) = E := by
    unfold eOf; rw [ht]
    rcases hn with h0 | h52
    · subst h0; simp only [Nat.pow_zero, Nat.mul_one]; exact scaleOf_zero_iff.mpr hm
    · by_cases hE0 : E = 0
      · subst hE0; simp only [Nat.pow_zero, Nat.mul_one]; exact scaleOf_zero_iff.mpr hm
      · -- m·2^E has exactly E+53 bits
        have hpos : 0 < 2 ^ E := Nat.pow_pos (by decide)
        have h2E : 2 ≤ 2 ^ E := by
          have : 2 ^ 1 ≤ 2 ^ E := Nat.pow_le_pow_right (by decide) (by omega)
          simpa using this
        have hge : P53 ≤ m * 2 ^ E := by
          have : P52 * 2 ≤ m * 2 ^ E := Nat.mul_le_mul h52 h2E
          omega
        have hne : m * 2 ^ E ≠ 0 := by omega
        unfold scaleOf
        rw [if_neg (by omega)]
        have hlog : (m * 2 ^ E).log2 = E + 52 := by
          rw [Nat.log2_eq_iff hne]
          constructor
          · rw [Nat.pow_add, Nat.mul_comm]; exact Nat.mul_le_mul_right _ h52
          · have e : 2 ^ (E + 52 + 1) = P53 * 2 ^ E := by
              rw [show E + 52 + 1 = 53 + E by omega, Nat.pow_add]
            rw [e]; exact Nat.mul_lt_mul_of_pos_right hm hpos
        omega
  have hx : xOf (((m * 2 ^ E : Nat) : Rat) / two1074) = ((m : Nat) : Rat) := by
    unfold xOf; rw [hy, he, Rat.natCast_mul]
    exact Rat.mul_div_cancel (Rat.ne_of_gt (pow2_cast_pos E))
  have hmm : mOf (((m * 2 ^ E : Nat) : Rat) / two1074) = m := by
    unfold mOf; rw [hx]
    have : ((m : Nat) : Rat) = (((m : Nat) : Int) : Rat) := rfl
    rw [this, roundNE_intCast]; omega
  unfold rawMag; rw [he, hmm]

end Rare.F64

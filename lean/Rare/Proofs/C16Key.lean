import Rare.Proofs.C16Views
import Rare.Proofs.C16Special
import Rare.Model.C16Cmd
/-!
C16, the view as an aggregation key:

* the text has no control byte (no NUL – rare's array separator –, no line feed, no tab): it is ONE line and
  ONE array element, `smartFormatResult` of `rare expression` prints it unchanged;
* the text is a complete invariant of the members it shows: two texts are equal iff the member names are
  equal and the captures are equal up to the letter case of the words `true` / `false`.
-/
namespace Rare.C16

/-- no byte below 0x20 -/
def printable (b : Bytes) : Bool := b.all fun c => decide (0x20 ≤ c)

theorem printable_append (a b : Bytes) : printable (a ++ b) = (printable a && printable b) := by
  simp [printable]

theorem printable_cons (c : UInt8) (b : Bytes) : printable (c :: b) = (decide (0x20 ≤ c) && printable b) := by
  simp [printable]

theorem printable_flatMap {α : Type} (l : List α) (f : α → Bytes) (h : ∀ a ∈ l, printable (f a) = true) :
    printable (l.flatMap f) = true := by
  induction l with
  | nil => rfl
  | cons a l ih =>
    rw [List.flatMap_cons, printable_append, h a (by simp), ih (fun b hb => h b (by simp [hb]))]
    rfl

theorem esc1_printable (c : UInt8) : printable (esc1 c) = true := by
  simp only [printable, List.all_eq_true, decide_eq_true_eq]
  rcases esc1_bytes c with ⟨e, h⟩ | ⟨_, _, h⟩
  · rw [e]; intro d hd; rw [List.mem_singleton.mp hd]; exact h
  · exact fun d hd => (h d hd).1

theorem escape_printable (s : Bytes) : printable (escape s) = true := by
  rw [escape_eq_flatMap]
  exact printable_flatMap s esc1 (fun c _ => esc1_printable c)

theorem isDig_printable (b : Bytes) (h : b.all isDig = true) : printable b = true := by
  simp only [printable, List.all_eq_true] at h ⊢
  intro c hc
  have := h c hc
  simp only [isDig, Bool.and_eq_true, decide_eq_true_eq] at this ⊢
  exact UInt8.le_trans (by decide) this.1

theorem stringText_printable (v : Bytes) : printable (stringR.text v) = true := by
  show printable (0x22 :: (escape v ++ [0x22])) = true
  rw [printable_cons, printable_append, escape_printable]; rfl

theorem valueText_printable (v : Bytes) : printable (valueText v) = true := by
  rcases writeInferred_cases v with ⟨hn, _, _, ht, _⟩ | ⟨_, _, _, ht, _⟩ | ⟨_, _, _, ht, _⟩ | ⟨_, _, _, ht, _⟩ <;> rw [ht]
  · obtain ⟨ip, fp, _, hip, hfp, _, h | h⟩ := isNumeric_shape v hn
    · rw [h.1]; exact isDig_printable ip hip
    · rw [h.1, printable_append, printable_cons, isDig_printable ip hip, isDig_printable fp hfp]; rfl
  · decide
  · decide
  · exact stringText_printable v

theorem printable_join (l : List (UInt8 × Bytes)) :
    printable (join l) = l.all fun p => decide (0x20 ≤ p.1) && printable p.2 := by
  simp [printable, join, List.all_flatMap]

theorem objText_printable (R : ValR) (hR : ∀ v, printable (R.text v) = true) (ms : List (Bytes × Bytes)) :
    printable (objText R ms) = true := by
  rw [objText_pieces, printable_join]
  cases ms <;> simp [pieces, textOf, List.all_flatMap, escape_printable, hR, show printable [] = true from rfl]

theorem printable_iff (t : Bytes) : printable t = true ↔ ∀ b ∈ t, 0x20 ≤ b := by
  simp [printable]

theorem json_printable (named numbered : Bool) (order : List (Bytes × Int)) (indices : List Int) (line out : Bytes)
    (hty : GoTyped order indices) (h : json named numbered order indices line = .ok out) : printable out = true := by
  rw [json_ok_text named numbered order indices line out hty h]
  exact objText_printable inferredR valueText_printable _

theorem special_printable (texts : List Bytes) (order : List (Bytes × Bytes)) :
    printable (buildSpecialKeyJson texts order) = true := by
  rw [special_text]
  exact objText_printable stringR stringText_printable _

theorem not_mem_of_printable (s : Bytes) (h : printable s = true) : arraySeparator ∉ s :=
  fun hm => absurd ((printable_iff s).mp h _ hm) (by decide)

theorem smartFormat_of_printable (s : Bytes) (h : printable s = true) : smartFormatResult s = s := by
  unfold smartFormatResult
  rw [if_neg (by simpa using not_mem_of_printable s h)]

theorem splitSep_not_mem (sep : UInt8) : ∀ s : Bytes, sep ∉ s → splitSep sep s = [s] := by
  intro s
  induction s with
  | nil => intro _; rfl
  | cons c r ih =>
    intro h
    have hc : c ≠ sep := fun e => h (e ▸ List.mem_cons_self)
    have hr : sep ∉ r := fun m => h (List.mem_cons_of_mem _ m)
    simp [splitSep, hc, ih hr]

theorem splitSep_append (sep : UInt8) : ∀ (a r : Bytes), sep ∉ a →
    splitSep sep (a ++ sep :: r) = a :: splitSep sep r := by
  intro a
  induction a with
  | nil => intro r _; simp [splitSep]
  | cons c a ih =>
    intro r h
    have hc : c ≠ sep := fun e => h (e ▸ List.mem_cons_self)
    have ha : sep ∉ a := fun m => h (List.mem_cons_of_mem _ m)
    simp [splitSep, hc, ih r ha]

theorem split_makeArrayGo : ∀ (args : List Bytes) (a : Bytes) (i : Nat),
    (∀ x ∈ a :: args, printable x = true) →
    splitSep arraySeparator (a ++ makeArrayGo (i + 1) args) = a :: args := by
  intro args
  induction args with
  | nil =>
    intro a i h
    simp only [makeArrayGo, List.append_nil]
    exact splitSep_not_mem _ a (not_mem_of_printable a (h a (by simp)))
  | cons b r ih =>
    intro a i h
    simp only [makeArrayGo, Nat.zero_lt_succ, if_true, List.cons_append, List.nil_append]
    rw [splitSep_append _ a _ (not_mem_of_printable a (h a (by simp)))]
    rw [ih b (i + 1) (fun x hx => h x (List.mem_cons_of_mem _ hx))]

theorem split_makeArray (a : Bytes) (args : List Bytes) (h : ∀ x ∈ a :: args, printable x = true) :
    splitSep arraySeparator (makeArray (a :: args)) = a :: args := by
  have := split_makeArrayGo args a 0 h
  simpa [makeArray, makeArrayGo] using this

theorem mapGet_mapSet {β : Type} (d : β) (k : Bytes) (v : β) (k' : Bytes) (m : List (Bytes × β)) :
    mapGet d (mapSet m k v) k' = if k' = k then v else mapGet d m k' := by
  have hq : ((fun p : Bytes × β => p.1 == k') ∘ fun p => if p.1 == k then (k, v) else p) =
      fun p => p.1 == k' := by
    funext p
    by_cases hp : p.1 = k <;> simp [hp]
  unfold mapSet mapGet
  by_cases hany : m.any (fun p => p.1 == k) = true
  · rw [if_pos hany, List.find?_map, hq]
    by_cases hk : k' = k
    · subst hk
      obtain ⟨p, hp, hb⟩ := List.any_eq_true.mp hany
      cases hf : m.find? (fun p => p.1 == k') with
      | none => exact absurd hb (by simpa using List.find?_eq_none.mp hf p hp)
      | some q =>
        have : q.1 = k' := by simpa using List.find?_some hf
        simp [this]
    · cases hf : m.find? (fun p => p.1 == k') with
      | none => simp [hk]
      | some q =>
        have : q.1 = k' := by simpa using List.find?_some hf
        simp [hk, this]
  · rw [if_neg hany, List.find?_append]
    by_cases hk : k' = k
    · subst hk
      have : m.find? (fun p => p.1 == k') = none := by
        rw [List.find?_eq_none]
        intro p hp hb
        exact hany (List.any_eq_true.mpr ⟨p, hp, hb⟩)
      simp [this]
    · have hb : (k == k') = false := by simpa using fun e => hk e.symm
      cases hf : m.find? (fun p => p.1 == k') with
      | some q => simp [hk]
      | none => simp [hk, hb]
/-- the emulated keys are assigned last: whatever `-k` says, `Keys[key]` of a view key is the view -/
theorem expressionKeys_view (data kvs : List Bytes) (σ : List (Bytes × Bytes)) (key : Bytes) (f : Bool × Bool)
    (h : viewFlags key = some f) :
    mapGet [] (expressionKeys data kvs σ) key =
      buildSpecialKeyJson (if f.2 then data else []) (if f.1 then σ else []) := by
  unfold expressionKeys
  simp only [mapGet_mapSet]
  rcases viewFlags_cases key with ⟨rfl, e⟩ | ⟨rfl, e⟩ | ⟨rfl | rfl, e⟩ | ⟨_, e⟩ <;> rw [e] at h <;> cases h <;> simp

/-- `canonVal` leaves a capture alone unless it is a spelling of `true` or of `false` -/
theorem canonVal_cases (v : Bytes) :
    (equalFoldLen v litTrue = false ∧ equalFoldLen v litFalse = false ∧ canonVal v = v) ∨
    (equalFoldLen v litTrue = true ∧ equalFoldLen v litFalse = false ∧ canonVal v = litTrue) ∨
    (equalFoldLen v litTrue = false ∧ equalFoldLen v litFalse = true ∧ canonVal v = litFalse) := by
  rcases writeInferred_cases v with ⟨_, h1, h2, _, hc, _⟩ | ⟨_, h1, h2, _, hc, _⟩ | ⟨_, h1, h2, _, hc, _⟩ | ⟨_, h1, h2, _, hc, _⟩
  · exact .inl ⟨h1, h2, hc⟩
  · exact .inr (.inl ⟨h1, h2, hc⟩)
  · exact .inr (.inr ⟨h1, h2, hc⟩)
  · exact .inl ⟨h1, h2, hc⟩

theorem canonVal_eq_lit (v : Bytes) :
    (canonVal v = litTrue ↔ equalFoldLen v litTrue = true) ∧ (canonVal v = litFalse ↔ equalFoldLen v litFalse = true) := by
  rcases canonVal_cases v with ⟨h1, h2, hc⟩ | ⟨h1, h2, hc⟩ | ⟨h1, h2, hc⟩ <;> rw [hc, h1, h2]
  · exact ⟨⟨fun e => absurd (e ▸ h1) (by decide), nofun⟩, ⟨fun e => absurd (e ▸ h2) (by decide), nofun⟩⟩
  · decide
  · decide

theorem valueText_canon (v : Bytes) : valueText (canonVal v) = valueText v := by
  rcases writeInferred_cases v with ⟨_, _, _, _, hc, _⟩ | ⟨_, _, _, ht, hc, _⟩ | ⟨_, _, _, ht, hc, _⟩ | ⟨_, _, _, _, hc, _⟩ <;>
    rw [hc]
  · rw [ht]; decide
  · rw [ht]; decide

theorem canonVal_idem (v : Bytes) : canonVal (canonVal v) = canonVal v := by
  rcases canonVal_cases v with ⟨_, _, hc⟩ | ⟨_, _, hc⟩ | ⟨_, _, hc⟩ <;> rw [hc]
  · exact hc
  · decide
  · decide

theorem canonVal_eq_nil (v : Bytes) : canonVal v = [] ↔ v = [] := by
  rcases canonVal_cases v with ⟨_, _, hc⟩ | ⟨h, _, hc⟩ | ⟨_, h, hc⟩ <;> rw [hc]
  · exact ⟨nofun, fun e => absurd (e ▸ h) (by decide)⟩
  · exact ⟨nofun, fun e => absurd (e ▸ h) (by decide)⟩

theorem canonVal_eq_iff (a b : Bytes) :
    canonVal a = canonVal b ↔
      a = b ∨ (a ∈ spellings litTrue ∧ b ∈ spellings litTrue) ∨ (a ∈ spellings litFalse ∧ b ∈ spellings litFalse) := by
  rw [← equalFoldLen_iff a litTrue litTrue_lower, ← equalFoldLen_iff b litTrue litTrue_lower,
    ← equalFoldLen_iff a litFalse litFalse_lower, ← equalFoldLen_iff b litFalse litFalse_lower]
  constructor
  · intro h
    rcases canonVal_cases a with ⟨ta, fa, ca⟩ | ⟨ta, _, ca⟩ | ⟨_, fa, ca⟩
    · rcases canonVal_cases b with ⟨_, _, cb⟩ | ⟨_, _, cb⟩ | ⟨_, _, cb⟩
      · exact .inl (ca.symm.trans (h.trans cb))
      · rw [(canonVal_eq_lit a).1.mp (h.trans cb)] at ta; cases ta
      · rw [(canonVal_eq_lit a).2.mp (h.trans cb)] at fa; cases fa
    · exact .inr (.inl ⟨ta, (canonVal_eq_lit b).1.mp (h.symm.trans ca)⟩)
    · exact .inr (.inr ⟨fa, (canonVal_eq_lit b).2.mp (h.symm.trans ca)⟩)
  · rintro (rfl | ⟨ta, tb⟩ | ⟨fa, fb⟩)
    · rfl
    · rw [(canonVal_eq_lit a).1.mpr ta, (canonVal_eq_lit b).1.mpr tb]
    · rw [(canonVal_eq_lit a).2.mpr fa, (canonVal_eq_lit b).2.mpr fb]

theorem inferredVal_of_valueText_eq (a b : Bytes) (h : valueText a = valueText b) : inferredVal a = inferredVal b := by
  have pa := parseValue_valueText a [0x7d] ⟨[], Or.inr rfl⟩
  have pb := parseValue_valueText b [0x7d] ⟨[], Or.inr rfl⟩
  rw [h, pb] at pa
  simp only [Option.some.injEq, Prod.mk.injEq, and_true] at pa
  exact pa.symm

/-- the canonical form can be read off the value text and what it denotes -/
theorem canonVal_of_text (v : Bytes) :
    canonVal v =
      match inferredVal v with
      | .str s => s
      | .bool true => litTrue
      | .bool false => litFalse
      | _ => valueText v := by
  rcases writeInferred_cases v with ⟨_, _, _, ht, hc, m, e, _, hv⟩ | ⟨_, _, _, _, hc, hv⟩ | ⟨_, _, _, _, hc, hv⟩ |
    ⟨_, _, _, _, hc, hv⟩ <;> rw [hc, hv]
  exact ht.symm

theorem valueText_eq_iff (a b : Bytes) : valueText a = valueText b ↔ canonVal a = canonVal b := by
  constructor
  · intro h
    rw [canonVal_of_text a, canonVal_of_text b, inferredVal_of_valueText_eq a b h, h]
  · intro h
    rw [← valueText_canon a, ← valueText_canon b, h]

theorem delim_tail (R : ValR) (ms : List (Bytes × Bytes)) (t : Bytes) : Delim (renderTail R ms ++ 0x7d :: t) := by
  cases ms with
  | nil => exact ⟨t, Or.inr (by simp [renderTail])⟩
  | cons m r => exact ⟨_, Or.inl (by rw [renderTail_cons]; rfl)⟩

theorem renderMember_split (R : ValR) (m1 m2 : Bytes × Bytes) (t1 t2 : Bytes) (h1 : Delim t1) (h2 : Delim t2)
    (h : renderMember R m1 ++ t1 = renderMember R m2 ++ t2) :
    m1.1 = m2.1 ∧ R.text m1.2 = R.text m2.2 ∧ t1 = t2 := by
  have p1 := parseMember_render R m1 t1 h1
  have p2 := parseMember_render R m2 t2 h2
  rw [h, p2] at p1
  simp only [Option.some.injEq, Prod.mk.injEq, dec] at p1
  obtain ⟨⟨hk, _⟩, ht⟩ := p1
  subst ht
  have hr := List.append_cancel_right h
  unfold renderMember at hr
  rw [hk] at hr
  simp only [List.cons.injEq, true_and, List.append_cancel_left_eq] at hr
  exact ⟨hk.symm, hr, rfl⟩

theorem renderTail_inj (R : ValR) : ∀ (ms1 ms2 : List (Bytes × Bytes)),
    renderTail R ms1 ++ [0x7d] = renderTail R ms2 ++ [0x7d] → ms1.map (textOf R) = ms2.map (textOf R) := by
  intro ms1
  induction ms1 with
  | nil =>
    intro ms2 h
    cases ms2 with
    | nil => rfl
    | cons m r => rw [renderTail_cons] at h; simp [renderTail] at h
  | cons m1 r1 ih =>
    intro ms2 h
    cases ms2 with
    | nil => rw [renderTail_cons] at h; simp [renderTail] at h
    | cons m2 r2 =>
      rw [renderTail_cons, renderTail_cons] at h
      simp only [List.cons_append, List.cons.injEq, true_and, List.append_assoc] at h
      obtain ⟨hk, hv, ht⟩ := renderMember_split R m1 m2 _ _ (delim_tail R r1 []) (delim_tail R r2 []) h
      simp only [List.map_cons, textOf, hk, hv, ih r2 ht]

theorem objText_inj (R : ValR) (ms1 ms2 : List (Bytes × Bytes)) (h : objText R ms1 = objText R ms2) :
    ms1.map (textOf R) = ms2.map (textOf R) := by
  unfold objText at h
  simp only [List.cons.injEq, true_and] at h
  cases ms1 with
  | nil =>
    cases ms2 with
    | nil => rfl
    | cons m r => simp [renderList, renderMember] at h
  | cons m1 r1 =>
    cases ms2 with
    | nil => simp [renderList, renderMember] at h
    | cons m2 r2 =>
      refine renderTail_inj R _ _ ?_
      simp only [renderList] at h
      rw [renderTail_cons, renderTail_cons]
      exact congrArg (0x2c :: 0x20 :: ·) h

theorem map_eq_map_iff_pointwise {α β γ : Type} (f : α → β) (g : α → γ) (hfg : ∀ a b, f a = f b ↔ g a = g b) :
    ∀ (l1 l2 : List α), l1.map f = l2.map f ↔ l1.map g = l2.map g := by
  intro l1
  induction l1 with
  | nil => intro l2; cases l2 <;> simp
  | cons a r ih =>
    intro l2
    cases l2 with
    | nil => simp
    | cons b r2 => simp only [List.map_cons, List.cons.injEq, hfg a b, ih r2]

/-- name and canonical capture of a member -/
def canonM (m : Bytes × Bytes) : Bytes × Bytes := (m.1, canonVal m.2)

theorem objText_eq_iff (ms1 ms2 : List (Bytes × Bytes)) :
    objText inferredR ms1 = objText inferredR ms2 ↔ ms1.map canonM = ms2.map canonM := by
  have hp : ∀ a b : Bytes × Bytes, textOf inferredR a = textOf inferredR b ↔ canonM a = canonM b := by
    intro a b
    simp only [textOf, canonM, Prod.mk.injEq]
    exact and_congr Iff.rfl (valueText_eq_iff a.2 b.2)
  rw [← map_eq_map_iff_pointwise (textOf inferredR) canonM hp]
  constructor
  · exact objText_inj inferredR ms1 ms2
  · intro h; rw [objText_pieces, objText_pieces, h]

/-- strings written with `WriteString` are read back exactly, so the text determines the members -/
theorem objText_string_inj (ms1 ms2 : List (Bytes × Bytes)) (h : objText stringR ms1 = objText stringR ms2) :
    ms1 = ms2 := by
  have hp := parseObj_objText stringR ms1
  rw [h, parseObj_objText, Option.some.injEq] at hp
  refine ((List.map_inj_right fun a b e => ?_).mp hp).symm
  exact Prod.ext (Prod.mk.inj e).1 (JVal.str.inj (Prod.mk.inj e).2)

theorem expectedNumbered_ext (indices : List Int) (line : Bytes) : ∀ (k : Nat),
    expectedNumbered indices line =
      (List.range (indices.length / 2 + k)).filterMap fun i =>
        let v := capture indices line (i : Nat)
        if v = [] then none else some (natAscii i, v) := by
  intro k
  induction k with
  | zero => rfl
  | succ k ih =>
    rw [← Nat.add_assoc, List.range_succ, List.filterMap_append, ← ih]
    have hc := capture_out_of_range indices line (indices.length / 2 + k) (by omega)
    simp only [List.filterMap_cons, List.filterMap_nil, hc, if_true, List.append_nil]

theorem filterMap_eq_tagged {α β : Type} (tag : β → α) (g1 g2 : α → Option β)
    (h1 : ∀ a y, g1 a = some y → tag y = a) (h2 : ∀ a y, g2 a = some y → tag y = a) :
    ∀ l : List α, l.Nodup → (l.filterMap g1 = l.filterMap g2 ↔ ∀ a ∈ l, g1 a = g2 a) := by
  intro l
  induction l with
  | nil => intro _; simp
  | cons a r ih =>
    intro hnd
    have hr := (List.nodup_cons.mp hnd)
    have ih' := ih hr.2
    have notin : ∀ (g : α → Option β), (∀ a y, g a = some y → tag y = a) → ∀ y, tag y = a → y ∉ r.filterMap g := by
      intro g hg y hy hm
      obtain ⟨x, hx, e⟩ := List.mem_filterMap.mp hm
      have := hg x y e
      rw [hy] at this
      exact hr.1 (this ▸ hx)
    constructor
    · intro h b hb
      cases e1 : g1 a with
      | none =>
        cases e2 : g2 a with
        | none =>
          simp only [List.filterMap_cons, e1, e2] at h
          rcases List.mem_cons.mp hb with rfl | hb
          · rw [e1, e2]
          · exact ih'.mp h b hb
        | some y =>
          simp only [List.filterMap_cons, e1, e2] at h
          exact absurd (h ▸ List.mem_cons_self) (notin g1 h1 y (h2 a y e2))
      | some x =>
        cases e2 : g2 a with
        | none =>
          simp only [List.filterMap_cons, e1, e2] at h
          exact absurd (h ▸ List.mem_cons_self) (notin g2 h2 x (h1 a x e1))
        | some y =>
          simp only [List.filterMap_cons, e1, e2, List.cons.injEq] at h
          rcases List.mem_cons.mp hb with rfl | hb
          · rw [e1, e2, h.1]
          · exact ih'.mp h.2 b hb
    · intro h
      simp only [List.filterMap_cons, h a List.mem_cons_self]
      have := ih'.mpr (fun b hb => h b (List.mem_cons_of_mem _ hb))
      rw [this]

theorem numbered_canon_iff (i1 i2 : List Int) (l1 l2 : Bytes) :
    (expectedNumbered i1 l1).map canonM = (expectedNumbered i2 l2).map canonM ↔
      ∀ i : Nat, canonVal (capture i1 l1 (i : Nat)) = canonVal (capture i2 l2 (i : Nat)) := by
  have htag : ∀ (ix : List Int) (ln : Bytes) (a : Nat) (y : Bytes × Bytes),
      Option.map canonM (if capture ix ln (a : Nat) = [] then none else some (natAscii a, capture ix ln (a : Nat))) = some y →
      digVal y.1 = a := by
    intro ix ln a y h
    split at h
    · cases h
    · cases h; exact digVal_natAscii a
  have key : ∀ i : Nat,
      Option.map canonM (if capture i1 l1 (i : Nat) = [] then none else some (natAscii i, capture i1 l1 (i : Nat))) =
        Option.map canonM (if capture i2 l2 (i : Nat) = [] then none else some (natAscii i, capture i2 l2 (i : Nat))) ↔
      canonVal (capture i1 l1 (i : Nat)) = canonVal (capture i2 l2 (i : Nat)) := by
    intro i
    have h0 : canonVal [] = [] := by decide
    by_cases h1 : capture i1 l1 (i : Nat) = [] <;> by_cases h2 : capture i2 l2 (i : Nat) = [] <;>
      simp [h1, h2, h0, canonM, canonVal_eq_nil, eq_comm (a := ([] : Bytes))]
  have e2 := expectedNumbered_ext i2 l2 (i1.length / 2)
  rw [Nat.add_comm] at e2
  rw [expectedNumbered_ext i1 l1 (i2.length / 2), e2, List.map_filterMap, List.map_filterMap,
    filterMap_eq_tagged (fun y : Bytes × Bytes => digVal y.1) _ _ (htag i1 l1) (htag i2 l2) _ List.nodup_range]
  constructor
  · intro h i
    by_cases hi : i < i1.length / 2 + i2.length / 2
    · exact (key i).mp (h i (List.mem_range.mpr hi))
    · rw [capture_out_of_range i1 l1 i (by omega), capture_out_of_range i2 l2 i (by omega)]
  · exact fun h i _ => (key i).mpr (h i)

theorem named_canon_iff (order : List (Bytes × Int)) (i1 i2 : List Int) (l1 l2 : Bytes)
    (hnd : (order.map (·.1)).Nodup) :
    (namedMembers order i1 l1).map canonM = (namedMembers order i2 l2).map canonM ↔
      ∀ p ∈ order, canonVal (capture i1 l1 p.2) = canonVal (capture i2 l2 p.2) := by
  simp only [namedMembers, List.map_map]
  rw [List.map_inj_left]
  constructor
  · intro h p hp
    have := h p.1 ((sortNames_perm _).mem_iff.mpr (List.mem_map_of_mem hp))
    simp only [Function.comp, canonM, Prod.mk.injEq, true_and] at this
    rw [mapGet_mem 0 order p hnd hp] at this
    exact this
  · intro h n hn
    obtain ⟨p, hp, e⟩ := List.mem_map.mp ((sortNames_perm _).mem_iff.mp hn)
    subst e
    simp only [Function.comp, canonM, Prod.mk.injEq, true_and]
    rw [mapGet_mem 0 order p hnd hp]
    exact h p hp

theorem sameShown_iff (named numbered : Bool) (order : List (Bytes × Int)) (i1 i2 : List Int) (l1 l2 : Bytes) :
    sameShown named numbered order i1 l1 i2 l2 = true ↔
      ((named = true → ∀ p ∈ order, canonVal (capture i1 l1 p.2) = canonVal (capture i2 l2 p.2)) ∧
       (numbered = true → ∀ i : Nat, canonVal (capture i1 l1 (i : Nat)) = canonVal (capture i2 l2 (i : Nat)))) := by
  unfold sameShown
  simp only [Bool.and_eq_true, Bool.or_eq_true, Bool.not_eq_true', List.all_eq_true, beq_iff_eq, List.mem_range]
  constructor
  · rintro ⟨h1, h2⟩
    refine ⟨fun hn => ?_, fun hu i => ?_⟩
    · rcases h1 with h | h
      · rw [hn] at h; cases h
      · exact h
    · rcases h2 with h | h
      · rw [hu] at h; cases h
      · by_cases hi : i < i1.length / 2 + i2.length / 2
        · exact h i hi
        · rw [capture_out_of_range i1 l1 i (by omega), capture_out_of_range i2 l2 i (by omega)]
  · rintro ⟨h1, h2⟩
    refine ⟨?_, ?_⟩
    · cases named with
      | false => left; rfl
      | true => right; exact h1 rfl
    · cases numbered with
      | false => left; rfl
      | true => right; exact fun i _ => h2 rfl i

theorem viewMembers_canon_iff (named numbered : Bool) (order : List (Bytes × Int)) (i1 i2 : List Int) (l1 l2 : Bytes)
    (hnd : (order.map (·.1)).Nodup) :
    (viewMembers named numbered order i1 l1).map canonM = (viewMembers named numbered order i2 l2).map canonM ↔
      ((named = true → ∀ p ∈ order, canonVal (capture i1 l1 p.2) = canonVal (capture i2 l2 p.2)) ∧
       (numbered = true → ∀ i : Nat, canonVal (capture i1 l1 (i : Nat)) = canonVal (capture i2 l2 (i : Nat)))) := by
  unfold viewMembers
  rw [List.map_append, List.map_append]
  have hlen : ((if named then namedMembers order i1 l1 else []).map canonM).length =
      ((if named then namedMembers order i2 l2 else []).map canonM).length := by
    cases named <;> simp [namedMembers]
  constructor
  · intro h
    obtain ⟨ha, hb⟩ := List.append_inj h hlen
    refine ⟨fun hn => ?_, fun hu => ?_⟩
    · subst hn; exact (named_canon_iff order i1 i2 l1 l2 hnd).mp ha
    · subst hu; exact (numbered_canon_iff i1 i2 l1 l2).mp hb
  · rintro ⟨h1, h2⟩
    congr 1
    · cases named with
      | false => rfl
      | true => exact (named_canon_iff order i1 i2 l1 l2 hnd).mpr (h1 rfl)
    · cases numbered with
      | false => rfl
      | true => exact (numbered_canon_iff i1 i2 l1 l2).mpr (h2 rfl)

end Rare.C16

import Rare.Model.C10Src
import Rare.Proofs.C10State
/-!
Lemmas about the meaning of the data the translator emits for C10 (no `Gen` import here: `Props/C10.lean`
instantiates them with the generated definitions).
-/
namespace Rare.C10
open Rare.Expr

section
variable {L : Type} (lib : TimeLib L) (emptyTime : Bytes) (constTime static : Bool) {s : Bytes} (hs : s ≠ []) (st : TimeSt L)
include hs

/-- Up to `format.Load()` the closure chooses the cell and, under static analysis of a date expression that is not
    constant, touches the context. -/
theorem cacheChoose_expected (next : CProg) :
    execProg lib emptyTime constTime static s
        (.op .evalDate <| .ifS .strEmpty .retErr <| .op .cellAtomic <|
          .ifS .inStatic (.op .cellStatic <| .ifS .notConstTime (.op (.touch (-1)) .nil) .nil) <| next)
        { st := st }
      = execProg lib emptyTime constTime static s next
          { str := s, useStatic := static, touched := if timeTouches .cur constTime static s then [-1] else [], st := st } := by
  cases static <;> cases constTime <;> simp [execProg, execOp, evalCond, hs, timeTouches]

/-- From `format.Load()` on it is `timeStep .cur` on the cell chosen; the touches stay as they are. -/
theorem cacheLoad_expected (u : Bool) (t : List Int) :
    execProg lib emptyTime constTime static s
        (.op .load <| .ifS .liveEmpty
          (.op .declErr <| .op .detect <| .ifS .errNonNil .retErr <| .ifS .strNeEmptyTime (.op .store .nil) .nil) <|
          .op .parse <| .ifS .errNonNil .retErr <| .retFmt)
        { str := s, useStatic := u, touched := t, st := st }
      = .ret (timeStep .cur lib emptyTime u s st).1 (timeStep .cur lib emptyTime u s st).2 t := by
  simp only [timeStep, hs, if_false, execProg, execOp, evalCond, CVars.cell]
  cases hc : (if u = true then st.static else st.real) with
  | some l => cases hp : lib.parse l s <;> simp [hc, hp, TimeLib.parseOr]
  | none =>
    cases hd : lib.detect s with
    | none => simp [hc]
    | some l =>
      by_cases he : s = emptyTime
      · subst he; cases hp : lib.parse l s <;> simp [hc, hp, TimeLib.parseOr]
      · cases hp : lib.parse l s <;> simp [hc, he, hp, TimeLib.parseOr]

end

/-- The program read from the source (1dba502) means `timeStep .cur` and `timeTouches .cur`. -/
theorem cacheStepOf_expected {L : Type} (lib : TimeLib L) (emptyTime : Bytes) (constTime static : Bool) (s : Bytes)
    (st : TimeSt L) :
    cacheStepOf cacheClosureExpected lib emptyTime constTime static s st
      = some ((timeStep .cur lib emptyTime static s st).1, (timeStep .cur lib emptyTime static s st).2,
          if timeTouches .cur constTime static s then [-1] else []) := by
  unfold cacheStepOf cacheClosureExpected
  by_cases hs : s = []
  · subst hs; rw [timeTouches_empty]; rfl
  · rw [cacheChoose_expected lib emptyTime constTime static hs, cacheLoad_expected lib emptyTime constTime static hs]

/-- `Comp.probe` is `EvalStaticStage` with a monitor that counts every look-up and answers "". -/
theorem runMonitor_probeN {α : Type} (c : Comp α) (n : Nat) :
    runMonitor (fun k _ => (k + 1, [])) (fun k _ => (k + 1, [])) c n = c.probeN n := by
  induction c generalizing n with
  | ret a => rfl
  | getMatch i k ih => simp [runMonitor, Comp.probeN, ih]
  | getKey s k ih => simp [runMonitor, Comp.probeN, ih]
  | panic m => rfl

theorem evalStatic_probe {α : Type} (c : Comp α) :
    evalStatic (fun k _ => (k + 1, [])) (fun k _ => (k + 1, [])) 0 (fun n => n == 0) c = c.probe := by
  simp only [evalStatic, Comp.probe, runMonitor_probeN]
  cases c.probeN 0 with
  | error m => rfl
  | ok p => rfl

/-- `InStaticAnalysis` through forwarding wrappers is the root's answer. -/
theorem inStaticChain_forwards (dflt : Bool) (ws : List StaticAnswer) (root : StaticAnswer)
    (h : ∀ a ∈ ws, a = .forward) : inStaticChain dflt (ws ++ [root]) = inStaticChain dflt [root] := by
  induction ws with
  | nil => rfl
  | cons a r ih =>
    cases h a (List.mem_cons_self ..)
    exact ih fun b hb => h b (List.mem_cons_of_mem _ hb)

theorem inStaticChain_forward (dflt : Bool) (n : Nat) (root : StaticAnswer) :
    inStaticChain dflt (List.replicate n .forward ++ [root]) = inStaticChain dflt [root] :=
  inStaticChain_forwards dflt _ root fun _ ha => List.eq_of_mem_replicate ha

end Rare.C10

import Rare.Proofs.C08Arith
import Rare.Proofs.C08Strings
import Rare.Proofs.C08Math
import Rare.Model.Expr.Std
/-!
C08 for the seven helpers whose model stops at a library call it does not compute (`pow`, `log10`, `log2`, `ln`:
`math.Pow` / `math.Log*`; `upper`, `lower`: the Unicode case tables on non-ASCII input; `!`: the float64 rendering of
a formula value).  They are outside `safeTable` (as are, by name only, `bytesize` `bytesizesi` `downscale`, whose
registered builder is the fully safe binary64 one of `Funcs/Float.lean`).  What IS proved about them here: on argument expressions that cannot panic the builder never fails at
compile time, and in the stage it returns the ONLY stopping points are the explicit `unmodelled:` markers – every
arity check, constant-argument evaluation, number parse and error marker in front of the library call is panic-free
for all inputs.  (`Rare/Drv/Expr.lean` prints such a marker as `unmodelled …`, where the oracle of the
correspondence is "the real code returned".)
-/
namespace Rare.C08
open Rare Rare.Expr Rare.Expr.Funcs

/-- No panic node other than an `unmodelled:…` marker is reachable. -/
inductive SafeU {α : Type} : Comp α → Prop
  | ret (a : α) : SafeU (.ret a)
  | getMatch (i : Int) (k : Bytes → Comp α) : (∀ b, SafeU (k b)) → SafeU (.getMatch i k)
  | getKey (s : Bytes) (k : Bytes → Comp α) : (∀ b, SafeU (k b)) → SafeU (.getKey s k)
  | marker (m : String) : (∃ w, m = "unmodelled:" ++ w) → SafeU (.panic m)

theorem SafeU.ofSafe {α : Type} {c : Comp α} (h : Safe c) : SafeU c := by
  induction h with
  | ret a => exact .ret a
  | getMatch i k _ ih => exact .getMatch _ _ ih
  | getKey s k _ ih => exact .getKey _ _ ih

theorem SafeU.bind {α β : Type} {c : Comp α} {f : α → Comp β} (h : Safe c) (hf : ∀ a, SafeU (f a)) :
    SafeU (c >>= f) := by
  show SafeU (c.bind f)
  induction h with
  | ret a => exact hf a
  | getMatch i k _ ih => exact .getMatch _ _ ih
  | getKey s k _ ih => exact .getKey _ _ ih

theorem SafeU.ofSafeMod {α : Type} {c : Comp α} (h : Math.SafeMod c) : SafeU c := by
  induction h with
  | ret a => exact .ret a
  | getMatch i k _ ih => exact .getMatch _ _ ih
  | getKey s k _ ih => exact .getKey _ _ ih
  | marker m hm =>
    obtain ⟨w, rfl⟩ := hm
    exact .marker _ ⟨"!" ++ w, by rw [← String.append_assoc]; rfl⟩

/-- A stage of a `SafeU` computation evaluated in a context returns or stops at an `unmodelled:` marker. -/
theorem SafeU.run {α : Type} {c : Comp α} (h : SafeU c) (ctx : Ctx) :
    (∃ v, c.run ctx = .ok v) ∨ (∃ w, c.run ctx = .error ("unmodelled:" ++ w)) := by
  induction h with
  | ret a => exact .inl ⟨a, rfl⟩
  | getMatch i k _ ih => exact ih _
  | getKey s k _ ih => exact ih _
  | marker m hm => obtain ⟨w, rfl⟩ := hm; exact .inr ⟨w, rfl⟩

/-- On safe arguments: no compile-time failure, and a stage that stops only at `unmodelled:` markers. -/
def SafeUBuilder (b : Builder) : Prop :=
  ∀ args : List Stage, (∀ a ∈ args, Safe a) →
    ∃ built, b args = .ok built ∧ ∀ s, built.stage = some s → SafeU s

theorem safeU_ok {s : Stage} (h : SafeU s) : ∃ built, ok s = .ok built ∧ ∀ s', built.stage = some s' → SafeU s' :=
  ⟨⟨some s, none⟩, rfl, fun s' h' => by cases h'; exact h⟩

theorem safeU_ofResult {r : Except String Built} (h : SafeResult r) :
    ∃ built, r = .ok built ∧ ∀ s, built.stage = some s → SafeU s := by
  obtain ⟨b, e, hs⟩ := h
  exact ⟨b, e, fun s h' => SafeU.ofSafe (hs s h')⟩

theorem unmodelledStage_safeU (why : String) : SafeU (Float.unmodelledStage why) := .marker _ ⟨why, rfl⟩

theorem floatRunU_safeU (why : String) (typed : List (Comp (Option F64))) (h : ∀ t ∈ typed, Safe t) :
    SafeU (Float.floatRunU why typed) := by
  cases typed with
  | nil => exact .ret _
  | cons t rest =>
    unfold Float.floatRunU
    apply SafeU.bind (h t (by simp))
    intro v
    cases v with
    | none => exact .ret _
    | some x =>
      cases rest with
      | nil => exact unmodelledStage_safeU why
      | cons t2 r2 =>
        apply SafeU.bind (h t2 (by simp))
        intro w
        cases w with
        | none => exact .ret _
        | some y => exact unmodelledStage_safeU why

theorem floatHelperU_safeU (why : String) : SafeUBuilder (Float.floatHelperU why) := by
  intro args h
  unfold Float.floatHelperU
  split
  · exact safeU_ofResult SafeResult.errArgCount
  · rcases mapTypedArgs_safe Float.parseF args h with e | ⟨ts, e, hts⟩
    · rw [e]; exact safeU_ofResult SafeResult.errNum
    · rw [e]; exact safeU_ok (floatRunU_safeU why ts hts)

theorem unaryU_safeU (why : String) : SafeUBuilder (Float.unaryU why) := by
  intro args h
  unfold Float.unaryU
  split
  · rename_i a
    apply safeU_ok
    apply SafeU.bind (h a (by simp))
    intro v
    cases Float.parseF v with
    | none => exact .ret _
    | some x => exact unmodelledStage_safeU why
  · exact safeU_ofResult SafeResult.errArgCount

theorem caseHelper_safeU (f : UInt8 → UInt8) : SafeUBuilder (Strings.caseHelper f) := by
  intro args h
  unfold Strings.caseHelper
  split
  · rename_i a
    apply safeU_ok
    apply SafeU.bind (h a (by simp))
    intro v
    split
    · exact .ret _
    · exact .marker _ ⟨"non-ascii-case", rfl⟩
  · exact safeU_ofResult SafeResult.errArgCount

theorem safeU_of_safeBuilder {b : Builder} (h : SafeBuilder b) : SafeUBuilder b :=
  fun args ha => safeU_ofResult (h args ha)

theorem kfMath_safeU : SafeUBuilder Math.kfMath := by
  intro args h
  obtain ⟨b, e, hs⟩ := Math.kfMath_safeMod args h
  exact ⟨b, e, fun s h' => SafeU.ofSafeMod (hs s h')⟩

end Rare.C08

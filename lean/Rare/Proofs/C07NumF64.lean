import Rare.Model.C07NumF64
import Rare.Proofs.F64Arith
import Rare.Proofs.F64Fast
import Rare.Proofs.C07Mode
/-!
C07, numerical aggregator over the software binary64 model (`Model/C07NumF64.lean`):
counting, min/max (IEEE comparisons, starting at `±Inf`), `Analyze` sorting with Go's
NaN-first order, nearest-rank `Median` / `Quantile`, `Mode`.  The arithmetic part (exact runs, mean between
min and max) is in `C07NumF64Arith.lean`.
-/
namespace Rare.C07
open Rare Rare.F64

/-- `decide +kernel` on a closed statement about a float run (`decide_run c₁ c₂ …` also unfolds the constants `cᵢ` that
hide samples).  The run is unfolded down to the `F64` operations, and these are replaced by their twins of
`Proofs/F64Fast.lean` – the same functions, which the kernel evaluates several times faster. -/
macro "decide_run" ids:ident* : tactic =>
  `(tactic| (delta runFv NumF.samplef NumF.new NumF.varianceF NumF.stdDev f64Ops $ids*
             simp (config := { zeta := false }) only [F64.Fast.ops]
             decide +kernel))

/-! ### structure of a run -/

theorem samplef_parseErrors (keep : Bool) (s : NumF) (v : F64) : (NumF.samplef keep s v).parseErrors = s.parseErrors := rfl
theorem samplef_samples (keep : Bool) (s : NumF) (v : F64) : (NumF.samplef keep s v).samples = s.samples + 1 := rfl
theorem samplef_values (keep : Bool) (s : NumF) (v : F64) :
    (NumF.samplef keep s v).values = if keep then s.values ++ [v] else s.values := rfl
theorem samplef_min (keep : Bool) (s : NumF) (v : F64) :
    (NumF.samplef keep s v).min = if F64.lt v s.min then v else s.min := by
  unfold NumF.samplef Numerical.samplef; rfl
theorem samplef_max (keep : Bool) (s : NumF) (v : F64) :
    (NumF.samplef keep s v).max = if F64.lt s.max v then v else s.max := by
  unfold NumF.samplef Numerical.samplef; rfl

/-- `samplef` does not look at the parse-error counter. -/
theorem samplef_withErrors (keep : Bool) (s : NumF) (v : F64) (e : Nat) :
    NumF.samplef keep { s with parseErrors := e } v = { NumF.samplef keep s v with parseErrors := e } := by
  unfold NumF.samplef Numerical.samplef; rfl

theorem foldl_samplef_withErrors (keep : Bool) (l : List F64) : ∀ (t : NumF) (n : Nat),
    l.foldl (NumF.samplef keep) { t with parseErrors := n } = { l.foldl (NumF.samplef keep) t with parseErrors := n } := by
  induction l with
  | nil => intro t n; rfl
  | cons v l ih => intro t n; rw [List.foldl_cons, samplef_withErrors, ih]; rfl

theorem runF_eq_aux (keep : Bool) (h : List Bytes) : ∀ (s : NumF),
    h.foldl (NumF.sample keep) s =
      { (h.filterMap F64.parseFloat).foldl (NumF.samplef keep) s with
        parseErrors := s.parseErrors + h.countP (fun e => (F64.parseFloat e).isNone) } := by
  induction h with
  | nil => intro s; simp
  | cons e h ih =>
    intro s
    rw [List.foldl_cons, ih]
    cases hp : F64.parseFloat e with
    | none =>
      have e1 : NumF.sample keep s e = { s with parseErrors := s.parseErrors + 1 } := by
        unfold NumF.sample; rw [hp]
      rw [e1, List.filterMap_cons_none hp, List.countP_cons_of_pos (by simp [hp])]
      rw [foldl_samplef_withErrors]
      simp only [Numerical.mk.injEq, true_and, and_true]
      omega
    | some v =>
      have e1 : NumF.sample keep s e = NumF.samplef keep s v := by
        unfold NumF.sample; rw [hp]
      rw [e1, List.filterMap_cons_some hp, List.foldl_cons, samplef_parseErrors,
        List.countP_cons_of_neg (by simp [hp])]

/-- A history of raw strings is the `Samplef` run over the parsable ones, plus the count of the others. -/
theorem runF_eq (keep : Bool) (h : List Bytes) :
    runF keep h = { runFv keep (h.filterMap F64.parseFloat) with
                    parseErrors := h.countP (fun e => (F64.parseFloat e).isNone) } := by
  unfold runF runFv
  rw [runF_eq_aux]
  simp [NumF.new, Numerical.new]

theorem runFv_fold_samples (keep : Bool) (l : List F64) : ∀ s : NumF,
    (l.foldl (NumF.samplef keep) s).samples = s.samples + l.length ∧
    (l.foldl (NumF.samplef keep) s).parseErrors = s.parseErrors ∧
    (l.foldl (NumF.samplef keep) s).values = if keep then s.values ++ l else s.values := by
  induction l with
  | nil => intro s; cases keep <;> simp
  | cons v l ih =>
    intro s
    obtain ⟨a, b, c⟩ := ih (NumF.samplef keep s v)
    rw [List.foldl_cons, a, b, c, samplef_samples, samplef_parseErrors, samplef_values]
    refine ⟨by simp; omega, rfl, ?_⟩
    cases keep <;> simp

theorem runFv_samples (keep : Bool) (l : List F64) : (runFv keep l).samples = l.length := by
  have := (runFv_fold_samples keep l NumF.new).1
  simpa [runFv, NumF.new, Numerical.new] using this

theorem runFv_values (keep : Bool) (l : List F64) : (runFv keep l).values = if keep then l else [] := by
  have := (runFv_fold_samples keep l NumF.new).2.2
  simpa [runFv, NumF.new, Numerical.new] using this

/-- `Variance()` of a run, by its length. -/
theorem runFv_varianceF (keep : Bool) (l : List F64) : (runFv keep l).varianceF =
    if l.length > 1 then F64.div (runFv keep l).variance (F64.ofInt ((l.length - 1 : Nat) : Int)) else F64.zero false := by
  show Numerical.varianceOf f64Ops _ = _
  unfold Numerical.varianceOf; rw [runFv_samples]; rfl

theorem runFv_parseErrors (keep : Bool) (l : List F64) : (runFv keep l).parseErrors = 0 :=
  (runFv_fold_samples keep l NumF.new).2.1

theorem runFv_snoc (keep : Bool) (l : List F64) (x : F64) :
    runFv keep (l ++ [x]) = NumF.samplef keep (runFv keep l) x := by
  unfold runFv; rw [List.foldl_append]; rfl

/-- Induction along a run of at most `2^53` samples that all satisfy `Q`: the state after the first sample, then
one more `Samplef` on the state reached by a non-empty prefix. -/
theorem runFv_induction (keep : Bool) {Q : F64 → Prop} {P : List F64 → NumF → Prop}
    (first : ∀ x, Q x → P [x] (NumF.samplef keep NumF.new x))
    (step : ∀ l x, l ≠ [] → l.length + 1 ≤ P53 → Q x → P l (runFv keep l) →
      P (l ++ [x]) (NumF.samplef keep (runFv keep l) x))
    (l : List F64) (hne : l ≠ []) (hn : l.length ≤ P53) (hl : ∀ x ∈ l, Q x) : P l (runFv keep l) := by
  generalize hk : l.length = k at hn
  induction k generalizing l with
  | zero => exact absurd (List.length_eq_zero_iff.mp hk) hne
  | succ k ih =>
    rw [← List.dropLast_concat_getLast hne] at hl ⊢
    have hlen : l.dropLast.length = k := by rw [List.length_dropLast]; omega
    by_cases hd : l.dropLast = []
    · rw [hd]; exact first _ (hl _ (by simp))
    · rw [runFv_snoc]
      exact step _ _ hd (by omega) (hl _ (by simp))
        (ih _ hd (fun y hy => hl y (by simp [hy])) hlen (by omega))

/-! ### the order: everything is a comparison of integer keys -/

theorem lt_iff_key (x y : F64) : F64.lt x y = true ↔ x.isNaN = false ∧ y.isNaN = false ∧ x.key < y.key := by
  unfold F64.lt; simp [and_assoc]

theorem le_iff_key (x y : F64) : F64.le x y = true ↔ x.isNaN = false ∧ y.isNaN = false ∧ x.key ≤ y.key := by
  unfold F64.le; simp [and_assoc]

theorem eq_iff_key (x y : F64) : F64.eq x y = true ↔ x.isNaN = false ∧ y.isNaN = false ∧ x.key = y.key := by
  unfold F64.eq; simp [and_assoc]

theorem key_bounds (x : F64) : -(P63 : Int) < x.key ∧ x.key < (P63 : Int) := by
  have := mag_lt x
  unfold key; split <;> omega

/-- Sort key of Go's float order: NaN below everything. -/
def skey (x : F64) : Int := if x.isNaN then -(P64 : Int) else x.key

theorem goLess_iff (x y : F64) : goLess x y = true ↔ skey x < skey y := by
  have bx := key_bounds x
  have b := key_bounds y
  unfold goLess skey
  cases hx : x.isNaN <;> cases hy : y.isNaN <;> simp [lt_iff_key, hx, hy] <;> omega

theorem goLess_false_iff (x y : F64) : goLess x y = false ↔ skey y ≤ skey x := by
  have := goLess_iff x y
  cases h : goLess x y
  · simp only [true_iff]; rw [h] at this; simp at this; omega
  · simp only [Bool.true_eq_false, false_iff]; rw [h] at this; simp at this; omega

theorem sameF_iff (x y : F64) : sameF x y = true ↔ skey x = skey y := by
  have bx := key_bounds x
  have b := key_bounds y
  unfold sameF skey
  cases hx : x.isNaN <;> cases hy : y.isNaN <;> simp [eq_iff_key, hx, hy] <;> omega

theorem isNaN_posInf : posInf.isNaN = false := by decide
theorem isNaN_negInf : negInf.isNaN = false := by decide

/-! ### Min / Max -/

theorem flt_irrefl (x : F64) : F64.lt x x = false :=
  Bool.eq_false_iff.mpr fun h => Int.lt_irrefl _ ((lt_iff_key x x).mp h).2.2

theorem flt_trans {x y z : F64} (h1 : F64.lt x y = true) (h2 : F64.lt y z = true) : F64.lt x z = true := by
  rw [lt_iff_key] at h1 h2 ⊢
  exact ⟨h1.1, h2.2.1, Int.lt_trans h1.2.2 h2.2.2⟩

theorem fle_of_lt {x y : F64} (h : F64.lt x y = true) : F64.le x y = true := by
  rw [lt_iff_key] at h; rw [le_iff_key]
  exact ⟨h.1, h.2.1, Int.le_of_lt h.2.2⟩

theorem fle_of_not_lt {x y : F64} (hx : x.isNaN = false) (hy : y.isNaN = false) (h : F64.lt y x = false) :
    F64.le x y = true := by
  rw [le_iff_key]
  exact ⟨hx, hy, Int.not_lt.mp fun hk => Bool.false_ne_true (h.symm.trans ((lt_iff_key y x).mpr ⟨hy, hx, hk⟩))⟩

/-- `Min()` after a fold is the start value or a sample below it, and no sample is below it. -/
theorem min_fold (keep : Bool) (l : List F64) (s : NumF) :
    ((l.foldl (NumF.samplef keep) s).min = s.min ∨
      ((l.foldl (NumF.samplef keep) s).min ∈ l ∧ F64.lt (l.foldl (NumF.samplef keep) s).min s.min = true)) ∧
    ∀ y ∈ l, F64.lt y (l.foldl (NumF.samplef keep) s).min = false := by
  have := foldl_pick f64Ops.lt flt_irrefl (fun _ _ _ => flt_trans) l s.min
  rwa [← foldl_samplef_min f64Ops keep] at this

theorem max_fold (keep : Bool) (l : List F64) (s : NumF) :
    ((l.foldl (NumF.samplef keep) s).max = s.max ∨
      ((l.foldl (NumF.samplef keep) s).max ∈ l ∧ F64.lt s.max (l.foldl (NumF.samplef keep) s).max = true)) ∧
    ∀ y ∈ l, F64.lt (l.foldl (NumF.samplef keep) s).max y = false := by
  have := foldl_pick (fun a b => f64Ops.lt b a) flt_irrefl (fun _ _ _ h1 h2 => flt_trans h2 h1) l s.max
  rwa [← foldl_samplef_max f64Ops keep] at this

/-- Invariant-style description of the running minimum / maximum after a fold. -/
theorem minmax_fold (keep : Bool) (l : List F64) : ∀ (s : NumF), s.min.isNaN = false → s.max.isNaN = false →
    let r := l.foldl (NumF.samplef keep) s
    r.min.isNaN = false ∧ r.max.isNaN = false ∧
    (r.min = s.min ∨ r.min ∈ l) ∧ F64.le r.min s.min = true ∧
    (∀ y ∈ l, y.isNaN = false → F64.le r.min y = true) ∧
    ((∃ y ∈ l, F64.lt y s.min = true) → r.min ∈ l) ∧
    (r.max = s.max ∨ r.max ∈ l) ∧ F64.le s.max r.max = true ∧
    (∀ y ∈ l, y.isNaN = false → F64.le y r.max = true) ∧
    ((∃ y ∈ l, F64.lt s.max y = true) → r.max ∈ l) := by
  intro s h1 h2 r
  obtain ⟨a1, a2⟩ := min_fold keep l s
  obtain ⟨b1, b2⟩ := max_fold keep l s
  have hn : r.min.isNaN = false := by
    rcases a1 with e | h
    · exact e ▸ h1
    · exact ((lt_iff_key _ _).mp h.2).1
  have hx : r.max.isNaN = false := by
    rcases b1 with e | h
    · exact e ▸ h2
    · exact ((lt_iff_key _ _).mp h.2).2.1
  refine ⟨hn, hx, a1.imp id And.left, ?_, fun y hy hyn => fle_of_not_lt hn hyn (a2 y hy), ?_,
    b1.imp id And.left, ?_, fun y hy hyn => fle_of_not_lt hyn hx (b2 y hy), ?_⟩
  · rcases a1 with e | h
    · rw [e]; exact fle_of_not_lt h1 h1 (flt_irrefl _)
    · exact fle_of_lt h.2
  · rintro ⟨y, hy, hlt⟩
    rcases a1 with e | h
    · exact absurd ((e ▸ a2 y hy).symm.trans hlt) Bool.false_ne_true
    · exact h.1
  · rcases b1 with e | h
    · rw [e]; exact fle_of_not_lt h2 h2 (flt_irrefl _)
    · exact fle_of_lt h.2
  · rintro ⟨y, hy, hlt⟩
    rcases b1 with e | h
    · exact absurd ((e ▸ b2 y hy).symm.trans hlt) Bool.false_ne_true
    · exact h.1

/-! ### Analyze: the sort -/

theorem analyzeF_perm (rev : Bool) (l : List F64) : (analyzeF rev l).Perm l := analyze_perm f64SortOps rev l

theorem analyzeF_length (rev : Bool) (l : List F64) : (analyzeF rev l).length = l.length :=
  (analyzeF_perm rev l).length_eq

/-- The order of `IsSortedF`, on sort keys. -/
theorem sortedDir_iff (rev : Bool) (a b : F64) :
    (if rev then goLess a b else goLess b a) = false ↔ if rev then skey b ≤ skey a else skey a ≤ skey b := by
  cases rev <;> simp [goLess_false_iff]

/-- Merge sort with `fun a b => !lt b a` sorts, when `lt` is the strict order of an integer key. -/
theorem pairwise_mergeSort_key {α : Type} (k : α → Int) (lt : α → α → Bool) (h : ∀ a b, lt a b = false ↔ k b ≤ k a)
    (l : List α) : (l.mergeSort (fun a b => !lt b a)).Pairwise (fun a b => lt b a = false) := by
  have := List.pairwise_mergeSort (le := fun a b => !lt b a)
    (by intro a b c h1 h2; simp only [Bool.not_eq_true', h] at h1 h2 ⊢; omega)
    (by intro a b; simp only [Bool.or_eq_true, Bool.not_eq_true', h]; omega) l
  exact this.imp (by intro a b hab; simpa using hab)

theorem analyzeF_sorted (rev : Bool) (l : List F64) : IsSortedF rev (analyzeF rev l) l := by
  refine ⟨analyzeF_perm rev l, ?_⟩
  cases rev
  · exact pairwise_mergeSort_key skey goLess goLess_false_iff l
  · exact pairwise_mergeSort_key (fun x => -skey x) (fun a b => goLess b a)
      (fun a b => by rw [goLess_false_iff]; omega) l

/-- The sort keys of a sorted arrangement are determined by the multiset. -/
theorem sorted_skey_eq (rev : Bool) (s s' l : List F64) (h : IsSortedF rev s l) (h' : IsSortedF rev s' l) :
    s.map skey = s'.map skey := by
  have hp : (s.map skey).Perm (s'.map skey) := (h.1.trans h'.1.symm).map skey
  have key : ∀ t : List F64, IsSortedF rev t l →
      (t.map skey).Pairwise (fun a b => if rev then b ≤ a else a ≤ b) := fun t ht => by
    rw [List.pairwise_map]; exact ht.2.imp (sortedDir_iff rev _ _).mp
  exact List.Perm.eq_of_pairwise (fun a b _ _ h1 h2 => by cases rev <;> simp at h1 h2 <;> omega) (key s h) (key s' h') hp

/-- Rank `k` of the sorted samples is well defined up to the sign of zero / identity of NaN, whatever
(unstable) sorting algorithm produced the arrangement. -/
theorem rank_unique (rev : Bool) (s s' l : List F64) (h : IsSortedF rev s l) (h' : IsSortedF rev s' l)
    (k : Nat) (x x' : F64) (hx : s[k]? = some x) (hx' : s'[k]? = some x') : sameF x x' = true := by
  have e := sorted_skey_eq rev s s' l h h'
  have e1 : (s.map skey)[k]? = some (skey x) := by rw [List.getElem?_map, hx]; rfl
  have e2 : (s'.map skey)[k]? = some (skey x') := by rw [List.getElem?_map, hx']; rfl
  rw [e, e2] at e1
  rw [sameF_iff]
  exact (Option.some.inj e1).symm

/-- In a sorted arrangement nothing at a later index sorts before anything at an earlier one. -/
theorem sorted_rank_bounds (rev : Bool) (s l : List F64) (h : IsSortedF rev s l) (i j : Nat) (hij : i < j)
    (x y : F64) (hx : s[i]? = some x) (hy : s[j]? = some y) :
    (if rev then goLess x y else goLess y x) = false := by
  have hj : j < s.length := (List.getElem?_eq_some_iff.mp hy).1
  rw [List.getElem?_eq_getElem (by omega)] at hx
  rw [List.getElem?_eq_getElem hj] at hy
  cases hx; cases hy
  exact List.pairwise_iff_getElem.mp h.2 i j (by omega) hj hij

/-! ### Median / Quantile -/

theorem medianF_eq (s : List F64) (hne : s ≠ []) : ∃ x, s[s.length / 2]? = some x ∧ medianF s = x :=
  median_eq _ s hne

theorem medianF_nil : medianF [] = F64.zero false := rfl

theorem quantileF_ok (s : List F64) (hs : 0 < s.length) (p : F64) :
    ∃ x, s[clampIdx s.length (quantileIdx s.length p)]? = some x ∧ quantileF s p = .ok x :=
  quantileAt_ok _ s hs _

theorem quantileF_nil (p : F64) : quantileF [] p = .ok (F64.zero false) := rfl

/-! ### the index `int(float64(n) * p)` -/

theorem truncRat_nonneg {q : Rat} (h : 0 ≤ q) : truncRat q = q.floor := by
  unfold truncRat; rw [if_neg (by grind)]

/-- For a probability `0 ≤ p ≤ 1` and at most `2^53` samples the raw index is within `[0, n]`: only the
upper clamp can ever act, and only when the rounded product `n·p` reaches `n`. -/
theorem quantileIdx_bounds (n : Nat) (hn : n ≤ P53) (p : F64) (hp : p.isFinite = true)
    (h0 : 0 ≤ p.toRat) (h1 : p.toRat ≤ 1) :
    0 ≤ quantileIdx n p ∧ quantileIdx n p ≤ n ∧
    quantileIdx n p = (F64.ofRatS ((F64.ofInt n).sign != p.sign) ((n : Rat) * p.toRat)).toRat.floor := by
  obtain ⟨nf, nv⟩ := isFinite_ofInt (n : Int) (by omega)
  have nv' : (F64.ofInt (n : Int)).toRat = (n : Rat) := by rw [nv, Rat.intCast_natCast]
  have hprod : F64.mul (F64.ofInt (n : Int)) p = F64.ofRatS ((F64.ofInt n).sign != p.sign) ((n : Rat) * p.toRat) := by
    rw [mul_finite nf hp, nv']
  generalize hr : F64.ofRatS ((F64.ofInt n).sign != p.sign) ((n : Rat) * p.toRat) = r at hprod
  have hn0 : (0 : Rat) ≤ (n : Rat) := by exact_mod_cast Nat.zero_le n
  have q0 : (0 : Rat) ≤ (n : Rat) * p.toRat := Rat.mul_nonneg hn0 h0
  have q1 : (n : Rat) * p.toRat ≤ (n : Rat) := by
    have := Rat.mul_le_mul_of_nonneg_left h1 hn0
    rwa [Rat.mul_one] at this
  have zrep := ofRatS_rep false rep_zero
  have nrep := ofRatS_rep false (rep_int (n := (n : Int)) (by omega))
  have l1 : F64.le (F64.ofRatS false 0) r = true := by rw [← hr]; exact ofRatS_le_ofRatS _ _ q0
  have l2 : F64.le r (F64.ofRatS false ((n : Int) : Rat)) = true := by
    rw [← hr]; exact ofRatS_le_ofRatS _ _ (by rw [Rat.intCast_natCast]; exact q1)
  have rf : r.isFinite = true := finite_of_between zrep.1 nrep.1 l1 l2
  have v0 : 0 ≤ r.toRat := by
    have := (le_iff_toRat_le zrep.1 rf).mp l1; rwa [zrep.2] at this
  have v1 : r.toRat ≤ (n : Rat) := by
    have := (le_iff_toRat_le rf nrep.1).mp l2; rw [nrep.2, Rat.intCast_natCast] at this; exact this
  have f0 : 0 ≤ r.toRat.floor := by rw [Rat.le_floor_iff]; simpa using v0
  have f1 : r.toRat.floor ≤ (n : Int) := by
    have : ((r.toRat.floor : Int) : Rat) ≤ r.toRat := Rat.floor_le _
    have : ((r.toRat.floor : Int) : Rat) ≤ ((n : Int) : Rat) := by
      rw [Rat.intCast_natCast]; grind
    exact Rat.intCast_le_intCast.mp this
  have hidx : quantileIdx n p = r.toRat.floor := by
    unfold quantileIdx
    rw [hprod]
    unfold F64.toInt64
    rw [rf, truncRat_nonneg v0]
    have : ¬ ((r.toRat.floor < minInt64 || maxInt64 < r.toRat.floor) = true) := by
      simp only [Bool.or_eq_true, decide_eq_true_eq, not_or]
      unfold minInt64 maxInt64
      omega
    simp [this]
  exact ⟨by rw [hidx]; exact f0, by rw [hidx]; exact f1, hidx⟩

/-! ### Mode -/

def mapState {α β : Type} (f : α → β) (st : ModeState α) : ModeState β :=
  ⟨st.maxObserved, f st.maxValue, st.currObserved, f st.currValue⟩

theorem modeStepG_map {α β : Type} (f : α → β) (eqa : α → α → Bool) (eqb : β → β → Bool)
    (st : ModeState α) (v : α) (h : eqb (f v) (f st.currValue) = eqa v st.currValue) :
    mapState f (modeStepG eqa st v) = modeStepG eqb (mapState f st) (f v) := by
  unfold modeStepG mapState
  simp only [h]
  cases eqa v st.currValue <;> simp <;> split <;> rfl

theorem modeStepG_curr {α : Type} (eq : α → α → Bool) (st : ModeState α) (v : α) :
    (modeStepG eq st v).currValue = v ∨ (modeStepG eq st v).currValue = st.currValue := by
  unfold modeStepG
  cases eq v st.currValue <;> simp <;> split <;> simp

theorem mode_fold_map {α β : Type} (f : α → β) (eqa : α → α → Bool) (eqb : β → β → Bool) (L : List α) (z : α)
    (h : ∀ a ∈ L, ∀ b, (b ∈ L ∨ b = z) → eqb (f a) (f b) = eqa a b) (l : List α) :
    ∀ st : ModeState α, (∀ a ∈ l, a ∈ L) → (st.currValue ∈ L ∨ st.currValue = z) →
      mapState f (l.foldl (modeStepG eqa) st) = (l.map f).foldl (modeStepG eqb) (mapState f st) := by
  induction l with
  | nil => intro st _ _; rfl
  | cons v l ih =>
    intro st hl hc
    have hv : v ∈ L := hl v (by simp)
    rw [List.foldl_cons, List.map_cons, List.foldl_cons,
      ih _ (fun a ha => hl a (by simp [ha])) ?_, modeStepG_map f eqa eqb st v (h v hv _ hc)]
    rcases modeStepG_curr eqa st v with e | e
    · rw [e]; exact Or.inl hv
    · rw [e]; exact hc

/-- `Mode` commutes with any map under which the equality tests agree. -/
theorem mode_map {α β : Type} (f : α → β) (z : α) (eqa : α → α → Bool) (eqb : β → β → Bool) (l : List α)
    (h : ∀ a ∈ l, ∀ b, (b ∈ l ∨ b = z) → eqb (f a) (f b) = eqa a b) :
    f (mode z eqa l) = mode (f z) eqb (l.map f) := by
  rw [mode_eq_foldG, mode_eq_foldG]
  have := mode_fold_map f eqa eqb l z h l ⟨0, z, 0, z⟩ (fun a ha => ha) (Or.inr rfl)
  have e : mapState f (⟨0, z, 0, z⟩ : ModeState α) = ⟨0, f z, 0, f z⟩ := rfl
  rw [e] at this
  rw [← this]; rfl

def keyQ (x : F64) : Rat := ((x.key : Int) : Rat)

theorem keyQ_eq_iff (x y : F64) : keyQ x = keyQ y ↔ x.key = y.key := by
  unfold keyQ; exact Rat.intCast_inj

theorem keyQ_le_iff (x y : F64) : keyQ x ≤ keyQ y ↔ x.key ≤ y.key := by
  unfold keyQ; exact Rat.intCast_le_intCast

theorem decide_keyQ_eq {a b : F64} (ha : a.isNaN = false) (hb : b.isNaN = false) :
    decide (keyQ a = keyQ b) = F64.eq a b := by
  rw [Bool.eq_iff_iff, decide_eq_true_iff, keyQ_eq_iff, eq_iff_key, ha, hb]; simp

theorem skey_of_not_nan {x : F64} (h : x.isNaN = false) : skey x = x.key := by
  unfold skey; rw [h]; rfl

theorem count_map_keyQ (s : List F64) (hn : ∀ x ∈ s, x.isNaN = false) (y : F64) (hy : y.isNaN = false) :
    (s.map keyQ).count (keyQ y) = s.countP (fun x => F64.eq y x) := by
  rw [List.count_eq_countP, List.countP_map]
  apply List.countP_congr
  intro x hx
  simp only [Function.comp, beq_iff_eq, keyQ_eq_iff, eq_iff_key, hy, hn x hx, true_and]
  exact ⟨fun e => e.symm, fun e => e.symm⟩

theorem isNaN_of_key_eq {a b : F64} (h : a.key = b.key) : a.isNaN = b.isNaN := by
  have : a.mag = b.mag := by unfold key at h; split at h <;> split at h <;> omega
  unfold isNaN; rw [this]

/-- What `Mode()` promises about a result that is a number: it `==` a sample, no value occurs more often, and among the
values of that multiplicity it is the first in the sort order. -/
def ModeOK (rev : Bool) (l : List F64) (m : F64) : Prop :=
  (∃ x ∈ l, F64.eq m x = true) ∧
  (∀ y, l.countP (fun x => F64.eq y x) ≤ l.countP (fun x => F64.eq m x)) ∧
  (∀ y ∈ l, l.countP (fun x => F64.eq y x) = l.countP (fun x => F64.eq m x) → F64.eq y m = false →
    (if rev then F64.lt y m else F64.lt m y) = true)

/-- `ModeOK` from the corresponding facts about a count `C` of keys that agrees with the `==`-multiplicities. -/
theorem modeOK_of_keys {rev : Bool} {l : List F64} {m x : F64} {C : Rat → Nat} (hx : x ∈ l) (hxn : x.isNaN = false)
    (hxk : keyQ x = keyQ m) (hcnt : ∀ y : F64, y.isNaN = false → C (keyQ y) = l.countP (fun x => F64.eq y x))
    (bound : ∀ k, C k ≤ C (keyQ m))
    (tie : ∀ k, C k = C (keyQ m) → k ≠ keyQ m → if rev then k ≤ keyQ m else keyQ m ≤ k) :
    m.isNaN = false ∧ ModeOK rev l m := by
  have hmn : m.isNaN = false := (isNaN_of_key_eq ((keyQ_eq_iff _ _).mp hxk)).symm.trans hxn
  have hmx : F64.eq m x = true := (eq_iff_key _ _).mpr ⟨hmn, hxn, ((keyQ_eq_iff _ _).mp hxk).symm⟩
  have hnan : ∀ y : F64, y.isNaN = true → l.countP (fun x => F64.eq y x) = 0 := fun y hy => by
    rw [List.countP_eq_zero]; intro a _; simp [eq_iff_key, hy]
  refine ⟨hmn, ⟨x, hx, hmx⟩, fun y => ?_, fun y hyl hc hne2 => ?_⟩
  · cases hy : y.isNaN
    · rw [← hcnt y hy, ← hcnt m hmn]; exact bound _
    · rw [hnan y hy]; omega
  · cases hy : y.isNaN
    · rw [← hcnt y hy, ← hcnt m hmn] at hc
      have hk : y.key ≠ m.key := fun e => by
        rw [(eq_iff_key y m).mpr ⟨hy, hmn, e⟩] at hne2; cases hne2
      have := tie (keyQ y) hc (fun e => hk ((keyQ_eq_iff _ _).mp e))
      cases rev <;> simp only [Bool.false_eq_true, if_false, if_true] at this ⊢ <;> rw [lt_iff_key] <;>
        have := (keyQ_le_iff _ _).mp this
      · exact ⟨hmn, hy, by omega⟩
      · exact ⟨hy, hmn, by omega⟩
    · have : 0 < l.countP (fun x => F64.eq m x) := List.countP_pos_iff.mpr ⟨x, hx, hmx⟩
      rw [hnan y hy] at hc; omega

/-- `Mode()` on a NaN-free sorted arrangement `s`: a value whose multiplicity (counted with the IEEE `==`,
so `-0` and `+0` are one value) is maximal, and among several such values the first in the sort order. -/
theorem modeF_scan (rev : Bool) (s l : List F64) (hs : IsSortedF rev s l) (hne : l ≠ [])
    (hn : ∀ x ∈ l, x.isNaN = false) :
    let m := modeF s
    m.isNaN = false ∧ (∃ x ∈ l, F64.eq m x = true) ∧
    (∀ y, l.countP (fun x => F64.eq y x) ≤ l.countP (fun x => F64.eq m x)) ∧
    (∀ y ∈ l, l.countP (fun x => F64.eq y x) = l.countP (fun x => F64.eq m x) → F64.eq y m = false →
      (if rev then F64.lt y m else F64.lt m y) = true) := by
  intro m
  have hns : ∀ x ∈ s, x.isNaN = false := fun x hx => hn x (hs.1.mem_iff.mp hx)
  have hz : (F64.zero false).isNaN = false := by decide
  have hsne : s ≠ [] := by
    intro e; rw [e] at hs; exact hne hs.1.symm.eq_nil
  -- transfer to the keys
  have hmap : keyQ m = mode (keyQ (F64.zero false)) (fun a b => decide (a = b)) (s.map keyQ) := by
    apply mode_map keyQ (F64.zero false) F64.eq (fun a b => decide (a = b)) s
    intro a ha b hb
    have hbn : b.isNaN = false := by
      rcases hb with hb | hb
      · exact hns b hb
      · rw [hb]; exact hz
    exact decide_keyQ_eq (hns a ha) hbn
  have hz0 : keyQ (F64.zero false) = 0 := by
    have : (F64.zero false).key = 0 := by decide
    unfold keyQ; rw [this]; rfl
  rw [hz0] at hmap
  have hsorted : (s.map keyQ).Pairwise (fun a b => if rev then b ≤ a else a ≤ b) := by
    rw [List.pairwise_map]
    have := List.Pairwise.and_mem.mp hs.2
    refine this.imp ?_
    intro a b ⟨ha, hb, hh⟩
    rw [sortedDir_iff, skey_of_not_nan (hns a ha), skey_of_not_nan (hns b hb)] at hh
    cases rev <;> exact (keyQ_le_iff _ _).mpr hh
  obtain ⟨hm, hb, ht⟩ := mode_scan (fun a b => if rev then b ≤ a else a ≤ b) (dirLe_antisymm rev) (s.map keyQ)
    (by simpa using hsne) hsorted
  rw [← hmap] at hm hb ht
  obtain ⟨x, hxs, hxk⟩ := List.mem_map.mp hm
  exact modeOK_of_keys (hs.1.mem_iff.mp hxs) (hns x hxs) hxk
    (fun y hy => by rw [count_map_keyQ s hns y hy]; exact hs.1.countP_eq _) hb ht

/-! ### Min / Max of finite samples are samples -/

/-- Non-NaN floats with the same non-zero key are the same pattern. -/
theorem eq_of_key_eq {x y : F64} (h : x.key = y.key) (hne : x.key ≠ 0) : x = y := by
  have hx := ofSM_sign_mag x
  have hy := ofSM_sign_mag y
  have mx := mag_lt x
  have my := mag_lt y
  unfold key at h hne
  cases sx : x.sign <;> cases sy : y.sign <;> rw [sx] at h hne hx <;> rw [sy] at h hy <;>
    simp only [Bool.false_eq_true, if_false, if_true] at h hne
  · have : x.mag = y.mag := by omega
    rw [← hx, ← hy, this]
  · omega
  · omega
  · have : x.mag = y.mag := by omega
    rw [← hx, ← hy, this]

theorem min_unchanged (keep : Bool) (l : List F64) (s : NumF) (h : ∀ y ∈ l, F64.lt y s.min = false) :
    (l.foldl (NumF.samplef keep) s).min = s.min :=
  (min_fold keep l s).1.resolve_right fun h' => Bool.false_ne_true ((h _ h'.1).symm.trans h'.2)

theorem max_unchanged (keep : Bool) (l : List F64) (s : NumF) (h : ∀ y ∈ l, F64.lt s.max y = false) :
    (l.foldl (NumF.samplef keep) s).max = s.max :=
  (max_fold keep l s).1.resolve_right fun h' => Bool.false_ne_true ((h _ h'.1).symm.trans h'.2)

theorem key_posInf : posInf.key = 9218868437227405312 := by decide
theorem key_negInf : negInf.key = -9218868437227405312 := by decide

theorem finite_key_bounds {x : F64} (h : x.isFinite = true) :
    -9218868437227405311 ≤ x.key ∧ x.key ≤ 9218868437227405311 := by
  rw [isFinite_iff] at h
  unfold key; split <;> omega

theorem not_nan_key_bounds {x : F64} (h : x.isNaN = false) :
    -9218868437227405312 ≤ x.key ∧ x.key ≤ 9218868437227405312 := by
  simp [isNaN] at h
  unfold key; split <;> omega

/-- Only `+Inf` itself is not below `+Inf`. -/
theorem eq_posInf_of_not_lt {x : F64} (hx : x.isNaN = false) (h : F64.lt x posInf = false) : x = posInf := by
  have hb := not_nan_key_bounds hx
  have : ¬ x.key < posInf.key := fun hk =>
    Bool.false_ne_true (h.symm.trans ((lt_iff_key x posInf).mpr ⟨hx, isNaN_posInf, hk⟩))
  rw [key_posInf] at this
  exact eq_of_key_eq (by rw [key_posInf]; omega) (by omega)

theorem eq_negInf_of_not_lt {x : F64} (hx : x.isNaN = false) (h : F64.lt negInf x = false) : x = negInf := by
  have hb := not_nan_key_bounds hx
  have : ¬ negInf.key < x.key := fun hk =>
    Bool.false_ne_true (h.symm.trans ((lt_iff_key negInf x).mpr ⟨isNaN_negInf, hx, hk⟩))
  rw [key_negInf] at this
  exact eq_of_key_eq (by rw [key_negInf]; omega) (by omega)

/-- As soon as one sample is not NaN, `Min()` / `Max()` are samples. -/
theorem minmax_mem (keep : Bool) (l : List F64) (hex : ∃ x ∈ l, x.isNaN = false) :
    (runFv keep l).min ∈ l ∧ (runFv keep l).max ∈ l := by
  obtain ⟨x, hx, hxn⟩ := hex
  obtain ⟨a1, a2⟩ := min_fold keep l NumF.new
  obtain ⟨b1, b2⟩ := max_fold keep l NumF.new
  constructor
  · rcases a1 with e | h
    · have e' : (runFv keep l).min = posInf := e
      rw [e', ← eq_posInf_of_not_lt hxn (e' ▸ a2 x hx)]; exact hx
    · exact h.1
  · rcases b1 with e | h
    · have e' : (runFv keep l).max = negInf := e
      rw [e', ← eq_negInf_of_not_lt hxn (e' ▸ b2 x hx)]; exact hx
    · exact h.1

theorem length_filterMap_add_countP {α β : Type} (f : α → Option β) (l : List α) :
    (l.filterMap f).length + l.countP (fun e => (f e).isNone) = l.length := by
  induction l with
  | nil => rfl
  | cons x l ih =>
    cases h : f x with
    | none => rw [List.filterMap_cons_none h, List.countP_cons_of_pos (by simp [h])]; simp; omega
    | some v => rw [List.filterMap_cons_some h, List.countP_cons_of_neg (by simp [h])]; simp; omega

end Rare.C07

import Rare.Proofs.C09Pos
/-! C09: with builders that never report an error, every compile error is a syntax error – so `errs = []` iff well formed. -/
namespace Rare.C09
open Rare Rare.Expr

/-- no builder of the registry ever returns an error value (e.g. the probe registry of pure functions) -/
def NoBuilderErr (reg : Registry) : Prop := ∀ name f args b, reg name = some f → f args = .ok b → b.err = none

/-- The errors that function builders reported (kind `.func`) among the recorded errors. -/
def funcErrs (errs : List CErr) : List CErr := errs.filter fun e => (synKindOf e.kind).isNone

theorem funcErrs_append (a b : List CErr) : funcErrs (a ++ b) = funcErrs a ++ funcErrs b := List.filter_append ..

theorem funcErrs_shift (l : List CErr) (k : Nat) (h : funcErrs l = []) :
    funcErrs (l.map fun e => { e with index := e.index + k }) = [] := by
  simp only [funcErrs, List.filter_eq_nil_iff, List.mem_map] at h ⊢
  rintro _ ⟨e, he, rfl⟩
  exact h e he

/-- Without builder errors the recorded errors are their syntax errors. -/
theorem synOf_allSyn (l : List CErr) (h : funcErrs l = []) : l = (synOf l).map SynErr.toCErr := by
  induction l with
  | nil => rfl
  | cons e r ih =>
    simp only [funcErrs, List.filter_eq_nil_iff, List.mem_cons, forall_eq_or_imp] at h
    have hr : funcErrs r = [] := List.filter_eq_nil_iff.mpr h.2
    show [e] ++ r = List.map _ (synOf ([e] ++ r))
    rw [synOf_append, List.map_append, ← ih hr]
    congr 1
    obtain ⟨kind, c, i⟩ := e
    cases kind with
    | unterminated => rfl
    | emptyStatement => rfl
    | missingFunction => rfl
    | func tag => simp [synKindOf] at h

theorem close_noFunc (g : Nat) (reg : Registry) (opt : Bool) (hreg : NoBuilderErr reg) (all : List Char) (i : Nat)
    (st st' : CompSt) (hA : ∀ a s e, compileF g reg opt a = .ok (s, e) → funcErrs e = [])
    (h : closeStatement g reg opt all i st = .ok st') :
    funcErrs st'.errs = funcErrs st.errs ++ [] ∧ st'.startStatement = st.startStatement := by
  obtain ⟨hstart, he⟩ := close_errs g reg opt all i st st' h
  refine ⟨?_, hstart⟩
  match hs : splitArgs st.sb with
  | [] => simp only [hs] at he; rw [he, funcErrs_append]; rfl
  | [a] => simp only [hs] at he; rw [he]; simp
  | name :: b :: r =>
    simp only [hs] at he
    cases hr : reg name with
    | none => simp only [hr] at he; rw [he, funcErrs_append]; rfl
    | some f =>
      simp only [hr] at he
      obtain ⟨cargs, aerrs, bt, hc, hf, he⟩ := he
      obtain ⟨hargs, _⟩ := args_errs g reg opt funcErrs funcErrs_append rfl (fun _ => []) (b :: r) (fun a _ => hA a)
        cargs aerrs hc
      have hargs : funcErrs aerrs = [] := by rw [hargs]; simp
      rw [he, hreg name f cargs bt hr hf, funcErrs_append, funcErrs_append, funcErrs_shift _ _ hargs]
      simp [funcErrs]

theorem compileF_noFunc (reg : Registry) (opt : Bool) (hreg : NoBuilderErr reg) :
    ∀ (f : Nat) (t : List Char) s e, compileF f reg opt t = .ok (s, e) → funcErrs e = [] :=
  compileF_errs reg opt funcErrs funcErrs_append rfl (fun _ _ => []) (fun _ _ _ => []) (fun _ => [])
    (fun _ _ => by simp) (fun t => by cases openStart t <;> rfl)
    fun g all i st st' hA h => close_noFunc g reg opt hreg all i st st' hA h

theorem errs_nil_iff (reg : Registry) (opt : Bool) (hreg : NoBuilderErr reg) (t : List Char) (s : List Stage) (e : List CErr)
    (h : compile reg opt t = .ok (s, e)) : e = [] ↔ WellFormed splitArgs (fun n => (reg n).isSome) t := by
  rw [← synErrs_nil_iff_wf splitArgs _ (fun _ _ h => splitArgs_len h) (t.length + 1) t (by omega), synErrs,
    ← compileF_syn reg opt _ t s e h]
  constructor
  · rintro rfl; rfl
  · intro hs
    rw [synOf_allSyn e (compileF_noFunc reg opt hreg _ t s e h), hs]; rfl

end Rare.C09

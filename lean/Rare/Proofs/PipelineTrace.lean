import Rare.Model.PipelineTrace
import Rare.Proofs.Pipeline
import Rare.Proofs.Batcher
import Rare.Proofs.TraceOrder
/-!
The named, executable transition function `Pipeline.apply` is exactly the transition relation
`Pipeline.Step`; a successful replay of logged events is a labelled path, hence a path of `Step`.
-/
namespace Rare.Pipeline

variable {α : Type}

theorem apply_sound {cls : α → Cls} {R B K : Nat} {s s' : St α} {l : Label}
    (h : apply cls R B K s l = some s') : Step cls R B K s s' := by
  cases l with
  | start i =>
    simp only [apply] at h
    split at h
    · rename_i bs hs
      split at h
      · rename_i hlt
        simp only [Option.some.injEq] at h; subst h
        exact .start s i bs hs hlt
      · simp at h
    · simp at h
  | send i =>
    simp only [apply] at h
    split at h
    · rename_i b bs hs
      split at h
      · rename_i hlt
        simp only [Option.some.injEq] at h; subst h
        exact .send s i b bs hs hlt
      · simp at h
    · simp at h
  | finish i =>
    simp only [apply] at h
    split at h
    · rename_i hs
      simp only [Option.some.injEq] at h; subst h
      exact .finish s i hs
    · simp at h
  | closeC =>
    simp only [apply] at h
    split at h
    · rename_i hc
      simp only [Option.some.injEq] at h; subst h
      exact .closeC s hc.1 hc.2
    · simp at h
  | wrecv j =>
    simp only [apply] at h
    split at h
    · rename_i b rest hw hc
      simp only [Option.some.injEq] at h; subst h
      exact .wrecv s j b rest hw hc
    · simp at h
  | wproc j =>
    simp only [apply] at h
    split at h
    · rename_i x todo acc hw
      simp only [Option.some.injEq] at h; subst h
      exact .wproc s j x todo acc hw
    · simp at h
  | wsend j =>
    simp only [apply] at h
    split at h
    · rename_i a acc hw
      split at h
      · rename_i hlt
        simp only [Option.some.injEq] at h; subst h
        exact .wsend s j (a :: acc) hw (by simp) hlt
      · simp at h
    · simp at h
  | wskip j =>
    simp only [apply] at h
    split at h
    · rename_i hw
      simp only [Option.some.injEq] at h; subst h
      exact .wskip s j hw
    · simp at h
  | wexit j =>
    simp only [apply] at h
    split at h
    · rename_i hw hc
      split at h
      · rename_i hcl
        simp only [Option.some.injEq] at h; subst h
        exact .wexit s j hw hc hcl
      · simp at h
    · simp at h
  | closeRC =>
    simp only [apply] at h
    split at h
    · rename_i hc
      simp only [Option.some.injEq] at h; subst h
      exact .closeRC s hc.1 hc.2
    · simp at h
  | crecv =>
    simp only [apply] at h
    split at h
    · rename_i m rest hrc
      split at h
      · rename_i hd
        simp only [Option.some.injEq] at h; subst h
        exact .crecv s m rest hrc hd
      · simp at h
    · simp at h
  | cdone =>
    simp only [apply] at h
    split at h
    · rename_i hrc
      split at h
      · rename_i hd
        simp only [Option.some.injEq] at h; subst h
        exact .cdone s hrc hd.1 hd.2
      · simp at h
    · simp at h

/-- Every transition of the relation has a name: `apply` is not a restriction of `Step`. -/
theorem apply_complete {cls : α → Cls} {R B K : Nat} {s s' : St α}
    (h : Step cls R B K s s') : ∃ l, apply cls R B K s l = some s' := by
  cases h with
  | start i bs hs hlt => exact ⟨.start i, by simp [apply, hs, hlt]⟩
  | send i b bs hs hlt => exact ⟨.send i, by simp [apply, hs, hlt]⟩
  | finish i hs => exact ⟨.finish i, by simp [apply, hs]⟩
  | closeC h1 h2 => exact ⟨.closeC, by simp only [apply]; rw [if_pos ⟨h1, h2⟩]⟩
  | wrecv j b rest hw hc => exact ⟨.wrecv j, by simp [apply, hw, hc]⟩
  | wproc j x todo acc hw => exact ⟨.wproc j, by simp [apply, hw]⟩
  | wsend j acc hw hne hlt =>
    cases acc with
    | nil => exact absurd rfl hne
    | cons a acc => exact ⟨.wsend j, by simp [apply, hw, hlt]⟩
  | wskip j hw => exact ⟨.wskip j, by simp [apply, hw]⟩
  | wexit j hw hc hcl => exact ⟨.wexit j, by simp [apply, hw, hc, hcl]⟩
  | closeRC h1 h2 => exact ⟨.closeRC, by simp only [apply]; rw [if_pos ⟨h1, h2⟩]⟩
  | crecv m rest hrc hd => exact ⟨.crecv, by simp [apply, hrc, hd]⟩
  | cdone hrc h1 h2 => exact ⟨.cdone, by simp [apply, hrc, h1, h2]⟩

theorem applyAll_lpath {cls : α → Cls} {R B K : Nat} : ∀ (ls : List Label) (s s' : St α),
    applyAll cls R B K s ls = some s' → LPath cls R B K s ls s'
  | [], s, s', h => by
    simp only [applyAll, Option.some.injEq] at h; subst h; exact .nil s
  | l :: ls, s, s', h => by
    simp only [applyAll] at h
    cases ha : apply cls R B K s l with
    | none => rw [ha] at h; simp at h
    | some s1 =>
      rw [ha] at h
      simp only [Option.bind_some] at h
      exact .cons ha (applyAll_lpath ls s1 s' h)

theorem LPath.append {cls : α → Cls} {R B K : Nat} {s s' s'' : St α} {l1 l2 : List Label}
    (h1 : LPath cls R B K s l1 s') (h2 : LPath cls R B K s' l2 s'') : LPath cls R B K s (l1 ++ l2) s'' := by
  induction h1 with
  | nil s => exact h2
  | cons ha _ ih => exact .cons ha (ih h2)

/-- A labelled path is a path of the transition relation. -/
theorem LPath.reach {cls : α → Cls} {R B K : Nat} {s0 s s' : St α} {ls : List Label}
    (h : LPath cls R B K s ls s') (hr : Reach cls R B K s0 s) : Reach cls R B K s0 s' := by
  induction h with
  | nil s => exact hr
  | cons ha _ ih => exact ih (.step hr (apply_sound ha))

theorem lpath_nil_eq {α : Type} {cls : α → Cls} {R B K : Nat} {s s' : St α} (h : LPath cls R B K s [] s') : s' = s := by
  generalize hl : ([] : List Label) = l at h
  cases h with
  | nil => rfl
  | cons _ _ => cases hl

end Rare.Pipeline

namespace Rare.PipelineTrace
open Rare.Pipeline Rare.C01 Rare.TraceOrder

/-- The labelled path a sequence of logged events stands for: every event contributes, in order, the
    transitions `evLabels` assigns to it in the state reached so far. -/
inductive EvPath (cfg : Cfg) (wg : List Nat) : PSt → List Ev → List Label → PSt → Prop
  | nil (ps) : EvPath cfg wg ps [] [] ps
  | cons {ps ps1 ps' e es ls ls'} : evLabels cfg wg ps e = some ls →
      LPath cfg.cls cfg.R cfg.B cfg.K ps.lts ls ps1.lts →
      EvPath cfg wg ps1 es ls' ps' → EvPath cfg wg ps (e :: es) (ls ++ ls') ps'

theorem pstep_sound {cfg : Cfg} {wg : List Nat} {ps ps' : PSt} {e : Ev} (h : pstep cfg wg ps e = some ps') :
    ∃ ls, evLabels cfg wg ps e = some ls ∧ LPath cfg.cls cfg.R cfg.B cfg.K ps.lts ls ps'.lts := by
  unfold pstep at h
  split at h
  · simp at h
  · rename_i ls hl
    split at h
    · simp at h
    · rename_i s' ha
      simp only [Option.some.injEq] at h
      subst h
      exact ⟨ls, hl, applyAll_lpath ls _ _ ha⟩

theorem pstep_stopped {cfg : Cfg} {wg : List Nat} {ps ps' : PSt} {e : Ev} (h : pstep cfg wg ps e = some ps') :
    ps'.stopped = if e.kind = "sc" then e.src :: ps.stopped else ps.stopped := by
  unfold pstep at h
  split at h
  · simp at h
  · split at h
    · simp at h
    · simp only [Option.some.injEq] at h
      subst h
      rfl

theorem replay_evpath {cfg : Cfg} {wg : List Nat} : ∀ (evs : List Ev) (ps ps' : PSt),
    replay (machine cfg wg) ps evs = some ps' → ∃ labels, EvPath cfg wg ps evs labels ps'
  | [], ps, ps', h => by
    simp only [replay, Option.some.injEq] at h; subst h; exact ⟨[], .nil ps⟩
  | e :: es, ps, ps', h => by
    obtain ⟨ps1, hs, h⟩ := replay_cons.mp h
    obtain ⟨ls, hl, hp⟩ := pstep_sound (cfg := cfg) (wg := wg) hs
    obtain ⟨ls', hr⟩ := replay_evpath es ps1 ps' h
    exact ⟨ls ++ ls', .cons hl hp hr⟩

theorem EvPath.lpath {cfg : Cfg} {wg : List Nat} {ps ps' : PSt} {evs : List Ev} {labels : List Label}
    (h : EvPath cfg wg ps evs labels ps') : LPath cfg.cls cfg.R cfg.B cfg.K ps.lts labels ps'.lts := by
  induction h with
  | nil ps => exact .nil _
  | cons _ hp _ ih => exact hp.append ih

/-! ### The derived batches are a partition of the inputs' lines -/

theorem batchesWith_flatten {batch : Nat} {oracle : List Bool} {ls : List Line} {fl : List (Nat × Nat)}
    {bs : List (List Line)} (h : batchesWith batch oracle ls fl = some bs) : bs.flatten = ls := by
  unfold batchesWith at h
  simp only at h
  split at h
  · simp only [Option.some.injEq] at h
    subst h
    rw [← List.flatMap_def, Batcher.run_lines, flagged, List.map_map]
    exact List.zipIdx_map_fst 0 ls
  · simp at h

theorem mapM_flatMap_eq {γ β δ : Type} (f : γ → Option β) (g : β → List δ) (k : γ → List δ)
    (hf : ∀ x y, f x = some y → g y = k x) :
    ∀ (l : List γ) (ys : List β), l.mapM f = some ys → ys.flatMap g = l.flatMap k
  | [], ys, h => by
    simp at h; subst h; rfl
  | x :: l, ys, h => by
    rw [List.mapM_cons] at h
    cases h1 : f x with
    | none => rw [h1] at h; simp at h
    | some y =>
      rw [h1] at h
      cases h2 : l.mapM f with
      | none => rw [h2] at h; simp at h
      | some rest =>
        rw [h2] at h
        simp at h
        subst h
        rw [List.flatMap_cons, List.flatMap_cons, hf x y h1, mapM_flatMap_eq f g k hf l rest h2]

theorem batchesOf_lines {cfg : Cfg} {tr : List Ev} {bss : List (List (List Line))}
    (h : batchesOf cfg tr = some bss) : bss.flatMap List.flatten = allLines cfg.inputs := by
  unfold batchesOf at h
  refine mapM_flatMap_eq (fun p : Bytes × Nat => batchesOfSource cfg tr p.2 p.1) List.flatten
    (fun p => linesOf p.2 p.1) (fun p bs hp => ?_) _ _ h
  rw [batchesOfSource] at hp
  exact batchesWith_flatten hp

theorem batchesOf_exampleLog :
    batchesOf exampleCfg exampleLog = some [[[⟨0, 1, [97, 98]⟩], [⟨0, 2, [120]⟩]]] := by
  decide +kernel

end Rare.PipelineTrace

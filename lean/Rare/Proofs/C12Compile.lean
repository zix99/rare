import Rare.Model.C12
import Rare.Proofs.C12Find
/-! `CompileEx` on the text of a pattern: the compiled structure and the three errors. -/
namespace Rare.C12

def NoTok (l : Bytes) : Prop := firstIndex [pct, lbrace] l = none

theorem noTok_cons {c : UInt8} {l : Bytes} :
    NoTok (c :: l) ↔ ([pct, lbrace].isPrefixOf (c :: l) = false) ∧ NoTok l := by
  unfold NoTok
  simp only [firstIndex]
  split
  · rename_i h; simp [h]
  · rename_i h
    cases firstIndex [pct, lbrace] l <;> simp [h]

theorem index_tok_at (lead X : Bytes) (h : NoTok lead) :
    firstIndex [pct, lbrace] (lead ++ ([pct, lbrace] ++ X)) = some lead.length :=
  firstIndex_append_at X h fun m h1 h2 => by
    have : m = 1 := by simp at h2; omega
    subst this; decide

theorem index_rbrace_at (key X : Bytes) (h : rbrace ∉ key) :
    firstIndex [rbrace] (key ++ ([rbrace] ++ X)) = some key.length :=
  firstIndex_append_at X (firstIndex_singleton_none.mpr h) fun m h1 h2 => by simp at h2; omega

theorem specialFlags_eq (t : Tok) : specialFlags t.key = (t.skip, t.name) := by
  unfold specialFlags Tok.skip Tok.name
  cases hk : t.key with
  | nil => simp
  | cons c l =>
    by_cases hq : c = qmark
    · simp [hq]
    · simp [hq]

def RestOK (rest : Bytes) : Prop := rest = [] ∨ ∃ Y, rest = [pct, lbrace] ++ Y

theorem stringsIndex_some {s u : Bytes} {i : Nat} (h : firstIndex u s = some i) : stringsIndex s u = (i : Int) := by
  simp [stringsIndex, h]
theorem stringsIndex_none {s u : Bytes} (h : firstIndex u s = none) : stringsIndex s u = -1 := by
  simp [stringsIndex, h]

def stepResult (ic : Bool) (lead : Bytes) (t : Tok) (rest : Bytes) (st : CState) :
    Except CErr (CState ⊕ (Bytes × CState)) :=
  let st1 : CState := if st.parts.length = 0 then { st with pre := lead } else st
  if t.lit = [] ∧ rest ≠ [] then .error .sequential
  else
    let st2 : CState := { st1 with parts := st1.parts ++ [tokOf ic t] }
    if !t.skip then
      if lookupName st2.groupNames t.name then .error .conflict
      else .ok (.inr (rest, { st2 with groupIndex := st2.groupIndex + 1,
                                       groupNames := st2.groupNames ++ [(t.name, st2.groupIndex + 1)] }))
    else .ok (.inr (rest, st2))

theorem compileStep_tok (ic : Bool) (lead : Bytes) (t : Tok) (rest : Bytes) (st : CState)
    (hl : NoTok lead) (hk : rbrace ∉ t.key) (hlit : NoTok t.lit) (hr : RestOK rest) :
    compileStep ic (lead ++ (t.render ++ rest)) st = stepResult ic lead t rest st := by
  have e0 : lead ++ (t.render ++ rest) = lead ++ ([pct, lbrace] ++ (t.key ++ ([rbrace] ++ (t.lit ++ rest)))) := by
    simp [Tok.render]
  have i1 := stringsIndex_some (index_tok_at lead (t.key ++ ([rbrace] ++ (t.lit ++ rest))) hl)
  have i2 := stringsIndex_some (index_rbrace_at t.key (t.lit ++ rest) hk)
  have d1 : (lead ++ ([pct, lbrace] ++ (t.key ++ ([rbrace] ++ (t.lit ++ rest))))).drop (lead.length + 2)
      = t.key ++ ([rbrace] ++ (t.lit ++ rest)) := by
    rw [List.drop_append]; simp
  have t1 : (lead ++ ([pct, lbrace] ++ (t.key ++ ([rbrace] ++ (t.lit ++ rest))))).take lead.length = lead := by
    simp
  have d2 : (t.key ++ ([rbrace] ++ (t.lit ++ rest))).drop (t.key.length + 1) = t.lit ++ rest := by
    rw [List.drop_append]; simp
  have t2 : (t.key ++ ([rbrace] ++ (t.lit ++ rest))).take t.key.length = t.key := by simp
  have hn1 : ¬ ((lead.length : Int) < 0) := by omega
  have hn2 : ¬ ((t.key.length : Int) < 0) := by omega
  unfold compileStep
  simp only [e0, i1, hn1, if_false, Int.toNat_natCast, d1, t1, i2, hn2, d2, t2, specialFlags_eq]
  unfold stepResult
  rcases hr with rfl | ⟨Y, rfl⟩
  · -- nothing follows: delimiter runs to the end of the pattern
    have i3 := stringsIndex_none (by simpa [NoTok] using hlit : firstIndex [pct, lbrace] (t.lit ++ []) = none)
    simp only [i3]
    simp [tokOf]
  · have i3 := stringsIndex_some (index_tok_at t.lit Y hlit)
    simp only [i3]
    by_cases hle : t.lit = []
    · simp [hle]
    · have : ¬ ((t.lit.length : Int) = 0) := by
        have := List.length_pos_iff.mpr hle; omega
      have hn3 : ¬ ((t.lit.length : Int) < 0) := by omega
      simp [hle, hn3, tokOf]


def tailText : Option Bytes → Bytes
  | none => []
  | some j => [pct, lbrace] ++ j

def restText (toks : List Tok) (tail : Option Bytes) : Bytes := (toks.map Tok.render).flatten ++ tailText tail

theorem restText_cons (t : Tok) (ts : List Tok) (tail : Option Bytes) :
    restText (t :: ts) tail = t.render ++ restText ts tail := by simp [restText]

theorem restText_ok (ts : List Tok) (tail : Option Bytes) : RestOK (restText ts tail) := by
  cases ts with
  | nil => cases tail with
    | none => left; rfl
    | some j => right; exact ⟨j, by simp [restText, tailText]⟩
  | cons t ts => right; exact ⟨t.key ++ [rbrace] ++ t.lit ++ restText ts tail, by simp [restText_cons, Tok.render]⟩

theorem restText_ne_nil (ts : List Tok) (tail : Option Bytes) :
    restText ts tail ≠ [] ↔ (ts ≠ [] ∨ tail.isSome = true) := by
  cases ts with
  | nil => cases tail <;> simp [restText, tailText]
  | cons t ts => simp [restText_cons, Tok.render]

def cerr : CompileErr → CErr
  | .unclosed => .unclosed
  | .sequential => .sequential
  | .conflict => .conflict

/-- the loop state after the tokens `done` of a pattern with leading literal `pre` went through -/
def stateOf (ic : Bool) (pre : Bytes) (done : List Tok) : CState :=
  { parts := done.map (tokOf ic), groupNames := nameTable done, pre := pre, groupIndex := capCount done }

theorem lookupName_nameTable (done : List Tok) (n : Bytes) :
    lookupName (nameTable done) n = true ↔ n ∈ (done.filter fun t => !t.skip).map Tok.name := by
  simp only [lookupName, List.any_eq_true, beq_iff_eq, Prod.exists]
  constructor
  · rintro ⟨a, i, hm, rfl⟩
    exact List.mem_of_getElem? (List.mem_zipIdx_iff_le_and_getElem?_sub.mp hm).2
  · intro h
    obtain ⟨i, hi⟩ := List.getElem?_of_mem h
    exact ⟨n, i + 1, List.mem_zipIdx_iff_le_and_getElem?_sub.mpr ⟨by omega, by simpa using hi⟩, rfl⟩

/-- one more token in closed form: what `stepResult` makes of the state after `done` -/
theorem stepResult_stateOf (ic : Bool) (lead pre : Bytes) (done : List Tok) (t : Tok) (rest : Bytes) :
    stepResult ic lead t rest (stateOf ic pre done) =
      if t.lit = [] ∧ rest ≠ [] then .error .sequential
      else if !t.skip ∧ lookupName (nameTable done) t.name then .error .conflict
      else .ok (.inr (rest, stateOf ic (if done = [] then lead else pre) (done ++ [t]))) := by
  have hpre : (if (stateOf ic pre done).parts.length = 0 then { stateOf ic pre done with pre := lead }
      else stateOf ic pre done) = stateOf ic (if done = [] then lead else pre) done := by
    cases done <;> simp [stateOf]
  unfold stepResult
  simp only [hpre]
  by_cases hseq : t.lit = [] ∧ rest ≠ []
  · simp [hseq]
  · by_cases hs : t.skip = true
    · simp [hseq, hs, stateOf, nameTable, capCount, List.filter_append]
    · simp [hseq, hs, stateOf, nameTable, capCount, List.filter_append, List.zipIdx_append, Nat.add_comm]

theorem compileLoop_spec (ic : Bool) (tail : Option Bytes) (htail : ∀ j, tail = some j → rbrace ∉ j) :
    ∀ (toks done : List Tok) (lead pre : Bytes) (seen : List Bytes) (fuel : Nat),
    NoTok lead → (∀ t ∈ toks, rbrace ∉ t.key ∧ NoTok t.lit) →
    (∀ n, n ∈ seen ↔ n ∈ (done.filter fun t => !t.skip).map Tok.name) →
    (lead ++ restText toks tail).length < fuel →
    compileLoop ic fuel (lead ++ restText toks tail) (stateOf ic pre done) =
      match specErrors tail.isSome toks seen with
      | some e => .error (cerr e)
      | none => .ok (stateOf ic (if done = [] then lead else pre) (done ++ toks)) := by
  intro toks
  induction toks with
  | nil =>
    intro done lead pre seen fuel hl _ _ hf
    have hpre : (if (stateOf ic pre done).parts.length = 0 then { stateOf ic pre done with pre := lead }
        else stateOf ic pre done) = stateOf ic (if done = [] then lead else pre) done := by
      cases done <;> simp [stateOf]
    cases fuel with
    | zero => omega
    | succ f =>
      cases tail with
      | none =>
        have i1 : stringsIndex lead [pct, lbrace] = -1 := stringsIndex_none hl
        simp only [restText, tailText, List.map_nil, List.flatten_nil, List.append_nil, compileLoop,
          compileStep, i1, specErrors, Option.isSome_none, hpre]
        simp
      | some j =>
        have i1 := stringsIndex_some (index_tok_at lead j hl)
        have i2 := stringsIndex_none (firstIndex_singleton_none.mpr (htail j rfl))
        have d1 : (lead ++ ([pct, lbrace] ++ j)).drop (lead.length + 2) = j := by
          rw [List.drop_append]; simp
        have hn1 : ¬ ((lead.length : Int) < 0) := by omega
        simp only [restText, tailText, List.map_nil, List.flatten_nil, List.nil_append, compileLoop,
          compileStep, i1, hn1, if_false, Int.toNat_natCast, d1, i2, specErrors, Option.isSome_some]
        simp [cerr]
  | cons t ts ih =>
    intro done lead pre seen fuel hl hts hseen hf
    cases fuel with
    | zero => omega
    | succ f =>
      have ht := hts t (by simp)
      rw [restText_cons] at hf ⊢
      simp only [compileLoop]
      rw [compileStep_tok ic lead t _ _ hl ht.1 ht.2 (restText_ok ts tail), stepResult_stateOf, specErrors]
      have hne := restText_ne_nil ts tail
      by_cases hseq : t.lit = [] ∧ (ts ≠ [] ∨ tail.isSome = true)
      · simp [hseq, hne.mpr hseq.2, cerr]
      · have hseq' : ¬ (t.lit = [] ∧ restText ts tail ≠ []) := fun h => hseq ⟨h.1, hne.mp h.2⟩
        rw [if_neg hseq, if_neg hseq']
        have hdup : lookupName (nameTable done) t.name = true ↔ t.name ∈ seen := by
          rw [lookupName_nameTable, hseen]
        by_cases hc : (!t.skip) = true ∧ t.name ∈ seen
        · rw [if_pos hc, if_pos ⟨hc.1, hdup.mpr hc.2⟩]; rfl
        · rw [if_neg hc, if_neg fun h => hc ⟨h.1, hdup.mp h.2⟩]
          have hlen : (restText ts tail).length + 3 ≤ (lead ++ (t.render ++ restText ts tail)).length := by
            simp [Tok.render]; omega
          have := ih (done ++ [t]) [] (if done = [] then lead else pre) (if t.skip then seen else t.name :: seen) f
            (by simp [NoTok, firstIndex]) (fun x hx => hts x (by simp [hx]))
            (by intro n; by_cases hs : t.skip = true <;> simp [List.filter_append, hs, hseen n, or_comm])
            (by simp; omega)
          simp only [List.nil_append] at this
          simp only [this]
          simp

/-- `CompileEx` on the text of a pattern (optionally followed by an unclosed token). -/
theorem compileEx_render (ic : Bool) (p : Pat) (hp : p.Shape) (tail : Option Bytes)
    (htail : ∀ j, tail = some j → rbrace ∉ j) :
    compileEx (p.render ++ tailText tail) ic =
      match specErrors tail.isSome p.toks [] with
      | some e => .error (cerr e)
      | none => .ok { tokens := p.toks.map (tokOf ic), pre := if ic then lower p.pre else p.pre, ic := ic,
                      groupNames := nameTable p.toks, groupCount := capCount p.toks } := by
  have he : p.render ++ tailText tail = p.pre ++ restText p.toks tail := by
    simp [Pat.render, restText]
  have := compileLoop_spec ic tail htail p.toks [] p.pre [] [] ((p.pre ++ restText p.toks tail).length + 1)
    hp.1 hp.2 (by simp) (by omega)
  unfold compileEx
  rw [he, show ({} : CState) = stateOf ic [] [] from rfl, this]
  cases specErrors tail.isSome p.toks [] with
  | some e => rfl
  | none => rfl

end Rare.C12

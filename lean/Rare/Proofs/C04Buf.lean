import Rare.Proofs.C04
/-!
BufferedReadAhead (`pkg/readahead/buffered.go`) as a scanner over a window of the immediate scanner's kind: its
`Scan()` hands out lines with the immediate scanner's `emitAt` / `emitTail`, and its refill is a regrow followed by a
run of the immediate scanner's `Read` step into the fresh array.  So it meets the same `Post`, preserves the same
`Closed` predicates, and the theorems about repeated calls (`Scans`) apply.
-/
namespace Rare.C04

/-- The buffered scanner's state as a window.  After trimming the current array is full (`cap = end`); a refill leaves
    at least `maxBufLen / 2` free bytes behind the kept window, which is what `bufSize` is to the regrow (and
    `NewBuffered`'s `maxBufLen > 1` is `bufSize ≥ 1`). -/
def Buf.win (s : Buf) : Imm :=
  { bufSize := s.maxBufLen / 2, cap := s.buf.length, buf := s.buf, offset := s.offset, eof := s.eof, rd := s.rd,
    mem := s.mem, errs := s.errs, delivered := s.delivered }

/-- Predicates preserved by the buffered scanner's steps: emitting (only `offset` changes) and
    refilling (a new array built from the kept tail plus what `fill` read). -/
structure BClosed (P : Buf → Prop) : Prop where
  emit : ∀ (s : Buf) (o : Nat), P s → P { s with offset := o }
  refill : ∀ (s : Buf) (acc : Bytes) (rd' : Reader) (eof' : Bool) (errs' : Nat) (dl' : Bytes), P s → s.eof = false →
    Buf.fill (s.rd.measure + 2) (max s.maxBufLen ((s.buf.drop s.offset).length + s.maxBufLen / 2)) (s.buf.drop s.offset)
      s.rd s.errs s.delivered = some (acc, rd', eof', errs', dl') →
    P { s with mem := s.mem ++ [s.buf], buf := acc, offset := 0, rd := rd', eof := eof', errs := errs', delivered := dl' }

/-! ### the fill loop -/

/-- The fill loop is a run of the immediate scanner's `Read` step (`recv`, then `fail` on an error) on a window `w`
    whose current array is the fresh one: what that step preserves, the loop preserves. -/
theorem fill_preserved {P : Imm → Prop} (read : ReadClosed P) (w : Imm) :
    ∀ (f : Nat) (acc : Bytes) (rd : Reader) (errs : Nat) (dl : Bytes) {acc' rd' eof' errs' dl'},
      Buf.fill f w.cap acc rd errs dl = some (acc', rd', eof', errs', dl') →
      P { w with buf := acc, rd := rd, eof := false, errs := errs, delivered := dl } →
      P { w with buf := acc', rd := rd', eof := eof', errs := errs', delivered := dl' } := by
  intro f
  induction f with
  | zero => intro acc rd errs dl acc' rd' eof' errs' dl' h; cases h
  | succ f ih =>
    intro acc rd errs dl acc' rd' eof' errs' dl' h hp
    simp only [Buf.fill] at h
    split at h
    · rename_i hlt
      have hr := read _ hp rfl hlt
      simp only at hr
      generalize rd.read (w.cap - acc.length) = r at h hr
      split at h
      · rename_i e heq
        simp only [heq] at hr
        cases h
        exact hr
      · rename_i heq
        simp only [heq] at hr
        exact ih _ _ _ _ h hr
    · cases h
      exact hp

/-- With fuel beyond the reader's measure the fill loop ends; the reader does not go back, and if the loop ends without
    an error it has made progress, unless the array was full from the start. -/
theorem fill_some : ∀ (f cap : Nat) (acc : Bytes) (rd : Reader) (errs : Nat) (dl : Bytes), rd.measure < f →
    ∃ acc' rd' eof' errs' dl', Buf.fill f cap acc rd errs dl = some (acc', rd', eof', errs', dl') ∧
      rd'.measure ≤ rd.measure ∧ (eof' = false → acc.length < cap → rd'.measure < rd.measure) := by
  intro f
  induction f with
  | zero => intro cap acc rd errs dl h; omega
  | succ f ih =>
    intro cap acc rd errs dl hf
    simp only [Buf.fill]
    split
    · rename_i hlt
      have hle := read_measure_le rd (cap - acc.length)
      have hdec := read_measure rd (cap - acc.length) (by omega)
      generalize rd.read (cap - acc.length) = r at hle hdec
      split
      · exact ⟨_, _, _, _, _, rfl, hle, fun h => by cases h⟩
      · rename_i heq
        have := hdec heq
        obtain ⟨acc', rd', eof', errs', dl', hfill, hm, _⟩ := ih cap (acc ++ r.1) r.2.2 errs (dl ++ r.1) (by omega)
        exact ⟨acc', rd', eof', errs', dl', hfill, by omega, fun _ _ => by omega⟩
    · exact ⟨_, _, _, _, _, rfl, Nat.le_refl _, fun _ h => by omega⟩

/-- The refill on the window: the immediate scanner's regrow (the array is full: `cap = end`) with another size for
    the fresh array, the fill loop, and trimming the array to what was filled.  It preserves what the regrow and the
    `Read` step preserve, provided the size of the array does not matter. -/
theorem refill_preserved {P : Imm → Prop} (grown : ∀ w, P w → P w.grown) (read : ReadClosed P)
    (hcap : ∀ w c, P w → P { w with cap := c }) {s : Buf} {acc rd' eof' errs' dl'} (he : s.eof = false)
    (hfill : Buf.fill (s.rd.measure + 2) (max s.maxBufLen ((s.buf.drop s.offset).length + s.maxBufLen / 2))
      (s.buf.drop s.offset) s.rd s.errs s.delivered = some (acc, rd', eof', errs', dl')) (hp : P s.win) :
    P ({ s with mem := s.mem ++ [s.buf], buf := acc, offset := 0, rd := rd', eof := eof', errs := errs',
                delivered := dl' } : Buf).win := by
  have h1 : P s.win.regrow := by
    have := grown _ hp
    rwa [Imm.grown, if_pos (show s.win.buf.length ≥ s.win.cap from Nat.le_refl _)] at this
  have h2 := hcap _ (max s.maxBufLen ((s.buf.drop s.offset).length + s.maxBufLen / 2)) h1
  have h3 := fill_preserved read { s.win.regrow with cap := max s.maxBufLen ((s.buf.drop s.offset).length + s.maxBufLen / 2) }
    _ _ _ _ _ hfill (by rw [← he]; exact h2)
  exact hcap _ acc.length h3

/-- the refill keeps the invariant: nothing is consumed, and what it reads is both delivered and pending -/
theorem refill_inv {s : Buf} {C : Bytes} {acc rd' eof' errs' dl'} (h : Inv s.win C) (he : s.eof = false)
    (hfill : Buf.fill (s.rd.measure + 2) (max s.maxBufLen ((s.buf.drop s.offset).length + s.maxBufLen / 2))
      (s.buf.drop s.offset) s.rd s.errs s.delivered = some (acc, rd', eof', errs', dl')) :
    Inv ({ s with mem := s.mem ++ [s.buf], buf := acc, offset := 0, rd := rd', eof := eof', errs := errs',
                  delivered := dl' } : Buf).win C := by
  refine refill_preserved (P := fun w => Inv w C) (fun _ hw => (grown_spec hw).1) (fun w hw _ _ => ?_)
    (fun _ _ hw => ⟨hw.off, hw.del, hw.bs⟩) he hfill h
  have h1 := (recv_spec hw (w.rd.read (w.cap - w.buf.length)).1 (w.rd.read (w.cap - w.buf.length)).2.2).1
  dsimp only
  split
  · exact h1
  · exact ⟨h1.off, h1.del, h1.bs⟩

/-- the refill archives the old array unchanged and fills a fresh one -/
theorem refill_ext (s : Buf) (acc : Bytes) (rd' : Reader) (eof' : Bool) (errs' : Nat) (dl' : Bytes) :
    Ext s.arrays ({ s with mem := s.mem ++ [s.buf], buf := acc, offset := 0, rd := rd',
                           eof := eof', errs := errs', delivered := dl' } : Buf).arrays := by
  simpa [Buf.arrays] using Ext.append (s.mem ++ [s.buf]) [acc]

/-! ### one `Scan()` -/

theorem bscan_post (f : Nat) : ∀ {s : Buf} {C : Bytes}, Inv s.win C → Post C (s.scan f).1 (s.scan f).2.win := by
  induction f with
  | zero => intro s C h; exact h
  | succ f ih =>
    intro s C h
    simp only [Buf.scan]
    split
    · rename_i rel heq
      obtain ⟨a, r, ha, hp, rfl⟩ := idxNl_some heq
      exact emitAt_post h ha hp
    · rename_i heq
      split
      · rename_i hc
        simp only [Bool.and_eq_true, decide_eq_true_eq] at hc
        refine emitTail_post h (idxNl_none.mp heq) ?_ hc.1
        rw [Ne, pending_eq_nil]; exact Nat.not_le.mpr hc.2
      · rename_i hc
        split
        · rename_i hne
          split
          · exact h
          · rename_i hfill
            exact ih (refill_inv h (by simpa using hne) hfill)
        · rename_i hne
          have he : s.eof = true := by simpa using hne
          refine ⟨he, pending_eq_nil.mpr ?_, h⟩
          show s.buf.length ≤ s.offset
          simpa [he] using hc

theorem bscan_closed {P : Imm → Prop} (hP : Closed P) (hcap : ∀ w c, P w → P { w with cap := c }) (f : Nat) :
    ∀ {s : Buf}, P s.win → P (s.scan f).2.win := by
  induction f with
  | zero => intro s h; exact h
  | succ f ih =>
    intro s h
    simp only [Buf.scan]
    split
    · exact hP.emitAt _ _ h
    · split
      · exact hP.emitTail _ h
      · split
        · rename_i hne
          split
          · exact h
          · rename_i hfill
            exact ih (refill_preserved hP.grown hP.read hcap (by simpa using hne) hfill h)
        · exact h

/-- The outer loop of the buffered `Scan()` never runs out of fuel. -/
theorem bscan_nofuel (f : Nat) : ∀ {s : Buf} {C : Bytes}, Inv s.win C → s.rd.measure + 1 < f → (s.scan f).1 ≠ .fuel := by
  induction f with
  | zero => intro s C _ h; omega
  | succ f ih =>
    intro s C h hf
    simp only [Buf.scan]
    split
    · simp
    · split
      · simp
      · split
        · rename_i hne
          -- the fresh array has room beyond the kept window, so a refill that ends without an error has read
          have hroom : (s.buf.drop s.offset).length < max s.maxBufLen ((s.buf.drop s.offset).length + s.maxBufLen / 2) :=
            Nat.lt_of_lt_of_le (Nat.lt_add_of_pos_right h.bs) (Nat.le_max_right _ _)
          obtain ⟨acc, rd', eof', errs', dl', hfill, hle, hdec⟩ := fill_some (s.rd.measure + 2)
            (max s.maxBufLen ((s.buf.drop s.offset).length + s.maxBufLen / 2)) (s.buf.drop s.offset) s.rd s.errs
            s.delivered (Nat.lt_add_of_pos_right (by decide))
          rw [hfill]
          simp only
          cases eof' with
          | false =>
            have : rd'.measure < s.rd.measure := hdec rfl hroom
            exact ih (refill_inv h (by simpa using hne) hfill) (show rd'.measure + 1 < f by omega)
          | true =>
            -- with eof set the next round cannot refill again: it emits or finishes
            cases f with
            | zero => omega
            | succ f' =>
              simp only [Buf.scan]
              split
              · simp
              · split <;> simp
        · simp

theorem bscan_final {f : Nat} (hf : 0 < f) {s : Buf} (he : s.win.eof = true) (hp : s.win.pending = []) :
    s.scan f = (.done, s) := by
  obtain ⟨g, rfl⟩ : ∃ g, f = g + 1 := ⟨f - 1, by omega⟩
  have hp' : s.buf.drop s.offset = [] := hp
  have he' : s.eof = true := he
  have hge : ¬ s.offset < s.buf.length := Nat.not_lt.mpr (pending_eq_nil.mp hp)
  simp [Buf.scan, hp', idxNl, he', hge]

/-! ### the calls -/

theorem Buf.scans {f : Nat} (hf : 0 < f) : Scans Buf.win (Buf.scan f) where
  post := bscan_post f
  final := bscan_final hf
  closed := fun hP hcap _ _ _ => bscan_closed hP hcap f

theorem bgood_init (m : Nat) (rd : Reader) (h : 2 ≤ m) : Good (Buf.init m rd).win [] :=
  ⟨[], ⟨Nat.le_refl _, rfl, show 1 ≤ m / 2 by omega⟩, Or.inl Boundary.nil⟩

theorem bscanAll_closed {P} (hP : Closed P) (hcap : ∀ w c, P w → P { w with cap := c }) {f : Nat} (hf : 0 < f)
    (n : Nat) {s : Buf} {E : List Bytes} (hg : Good s.win E) (hp : P s.win) : P (s.scanAll f n).2.2.win := by
  rw [Buf.scanAll_eq]
  exact (Buf.scans hf).calls_closed hP hcap hg hp n

theorem bscanAll_finished {f : Nat} (hf : 0 < f) (n : Nat) {s : Buf} {E : List Bytes} (hg : Good s.win E)
    (hd : (s.scanAll f n).2.1 = true) :
    splitLines (s.scanAll f n).2.2.delivered = E ++ (s.scanAll f n).1.map (·.2) ∧
    (s.scanAll f n).2.2.eof = true ∧ (s.scanAll f n).2.2.win.pending = [] := by
  rw [Buf.scanAll_eq] at hd ⊢
  exact (Buf.scans hf).done hg hd

theorem bscanAll_views {f : Nat} (hf : 0 < f) (n : Nat) {s : Buf} {E : List Bytes} (hg : Good s.win E) :
    ∀ vb ∈ (s.scanAll f n).1, ViewOK (s.scanAll f n).2.2.arrays vb.1 ∧ readView (s.scanAll f n).2.2.arrays vb.1 = vb.2 := by
  rw [Buf.scanAll_eq]
  exact (Buf.scans hf).views hg n

theorem bscanAll_done (f : Nat) (data : Bytes) (n : Nat) {s : Buf} {E : List Bytes} (hg : Good s.win E)
    (hd : s.delivered ++ s.rd.rest = data) (hm : s.rd.measure + 1 < f) (hn : data.length - s.win.consumed < n) :
    (s.scanAll f n).2.1 = true := by
  rw [Buf.scanAll_eq]
  exact (Buf.scans (by omega)).terminates data (m := f - 1)
    (fun {t _} hinv (hlt : t.rd.measure < f - 1) => bscan_nofuel f hinv (by omega)) n hg hd
    (show s.rd.measure < f - 1 by omega) hn

end Rare.C04

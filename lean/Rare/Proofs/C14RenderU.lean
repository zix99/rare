import Rare.Proofs.C14HeatWidth
import Rare.Proofs.C14Legend
/-!
# C14: heatmap and sparkline as whole renderers, for every float instance satisfying `UnitLaws`

`Heatmap.WriteTable` and `Spark.WriteTable` on ANY aggregated state: no panic, one cell per displayed column, exact
"(n more)" notes, the legend on line 0.  The float operations are abstract: the theorems hold for exact rationals
(`unitLaws_rat`, every integer in the domain) and for IEEE binary64 on int64 cell values (`unitLaws_f64`).  `Scale` is
a unit value at every call because the cell values, the range of the table and the legend keys (`int64(…)` results)
are in the domain of the instance.
-/
namespace Rare.C14
open Rare Rare.C20

section
variable {α : Type} {A : Arith α} {Dom : Int → Prop} {Unit : α → Prop} {le : α → α → Prop}

/-- every cell value of the aggregated state is in the domain of the float instance (int64 for binary64) -/
def DomCells (Dom : Int → Prop) (c : Cells) : Prop := ∀ e ∈ c, Dom e.2

theorem dom_maxmin (U : UnitLaws A Dom Unit le) : Dom maxInt64 ∧ Dom minInt64 := by
  have a := U.dom_wrap maxInt64
  have b := U.dom_wrap minInt64
  have ea : wrap64 maxInt64 = maxInt64 := by decide
  have eb : wrap64 minInt64 = minInt64 := by decide
  rw [ea] at a; rw [eb] at b
  exact ⟨a, b⟩

theorem dom_value (U : UnitLaws A Dom Unit le) (c : Cells) (hc : DomCells Dom c) (r k : Nat) : Dom (c.value r k) := by
  unfold Cells.value
  split
  · rename_i e he
    exact hc e (List.mem_of_find?_eq_some he)
  · exact U.dom_zero

theorem foldl_invariant {σ β : Type} (P : σ → Prop) (f : σ → β → σ) (hf : ∀ s b, P s → P (f s b)) :
    ∀ (l : List β) (s : σ), P s → P (l.foldl f s)
  | [], _, h => h
  | b :: l, s, h => foldl_invariant P f hf l (f s b) (hf s b h)

theorem dom_minMax (U : UnitLaws A Dom Unit le) (c : Cells) (hc : DomCells Dom c) : Dom c.minMax.1 ∧ Dom c.minMax.2 := by
  unfold Cells.minMax
  split
  · exact ⟨U.dom_zero, U.dom_zero⟩
  · refine foldl_invariant (fun acc : Int × Int => Dom acc.1 ∧ Dom acc.2) _ (fun acc r h => ?_) c.rows _ (dom_maxmin U)
    refine foldl_invariant (fun acc : Int × Int => Dom acc.1 ∧ Dom acc.2) _ (fun acc k h => ?_) c.cols _ h
    have hv := dom_value U c hc r k
    constructor
    · show Dom (if c.value r k < acc.1 then c.value r k else acc.1); split; exact hv; exact h.1
    · show Dom (if c.value r k > acc.2 then c.value r k else acc.2); split; exact hv; exact h.2

/-! ### heatmap -/

/-- `Heatmap.WriteRow(idx, name, cols)`: it returns, the row-key column is widened to the key when needed, and the line is the
coloured key, blanks up to the column after the key column, ONE heat cell per value -/
theorem heat_writeRow_ok_u (U : UnitLaws A Dom Unit le) (env : Env) (h : Heatmap) (vt : VirtualTerm) (ho : vt.closed = false)
    (idx : Nat) (name : Bytes) (vals : List Int) (hd : ∀ v ∈ vals, Dom v) (hmn : Dom h.minVal) (hmx : Dom h.maxVal) :
    ∃ h' vt' cells, h.writeRow A env vt (idx : Int) name vals = .ok (h', vt') ∧ vt'.closed = false ∧
      h'.minVal = h.minVal ∧ h'.maxVal = h.maxVal ∧
      h'.maxRowKeyWidth = (if strLen env name > h.maxRowKeyWidth then strLen env name else h.maxRowKeyWidth) ∧
      vt'.lines[2 + idx]? = some (wrap env cYellow name ++ writeRepeat 32 (h'.maxRowKeyWidth - strLen env name + 1) ++ List.flatten cells) ∧
      cells.length = vals.length ∧ (∀ cell ∈ cells, IsHeatCell env cell) ∧
      (∀ j x, j ≠ 2 + idx → vt.lines[j]? = some x → vt'.lines[j]? = some x) := by
  have key : ∀ h1 : Heatmap, h1 = (if strLen env name > h.maxRowKeyWidth then { h with maxRowKeyWidth := strLen env name } else h) →
      h.writeRow A env vt (idx : Int) name vals = (do
        let cells ← vals.mapM fun v => heatWrite A env (scale A h1.scaler v h1.minVal h1.maxVal)
        let vt' ← vt.writeForLine (2 + (idx : Int)) (wrap env cYellow name ++ writeRepeat 32 (h1.maxRowKeyWidth - strLen env name + 1) ++ cells.flatten)
        pure (h1, vt')) := by
    intro h1 e; subst e; rfl
  rw [key _ rfl]
  generalize hh1 : (if strLen env name > h.maxRowKeyWidth then { h with maxRowKeyWidth := strLen env name } else h) = h1
  have h1s : h1.minVal = h.minVal ∧ h1.maxVal = h.maxVal ∧
      h1.maxRowKeyWidth = (if strLen env name > h.maxRowKeyWidth then strLen env name else h.maxRowKeyWidth) := by
    rw [← hh1]; split <;> exact ⟨rfl, rfl, rfl⟩
  obtain ⟨cells, hcells, hlen, hall⟩ := mapM_ok_all
    (fun v => heatWrite A env (scale A h1.scaler v h1.minVal h1.maxVal)) (IsHeatCell env) vals
    (by
      intro v hv
      rw [h1s.1, h1s.2.1]
      exact U.heatWrite_cell env (U.scale_unit _ (hd v hv) hmn hmx))
  have hcast : (2 : Int) + (idx : Int) = ((2 + idx : Nat) : Int) := by omega
  obtain ⟨vt', hw, ho', hline, hkeep⟩ := vt_write_ok vt ho (2 + idx)
    (wrap env cYellow name ++ writeRepeat 32 (h1.maxRowKeyWidth - strLen env name + 1) ++ cells.flatten)
  refine ⟨h1, vt', cells, ?_, ho', h1s.1, h1s.2.1, h1s.2.2, hline, hlen, hall, hkeep⟩
  simp only [hcells, bind, Except.bind, hcast, hw]
  rfl

/-- `Heatmap.WriteRow(idx, name, cols)` as a whole, for every float instance satisfying `UnitLaws`: it returns, the row
key column is widened to the key when needed, and the line it writes – the coloured key, blanks, ONE heat cell
per value – is exactly `maxRowKeyWidth + 1 + len(values)` cells wide: the cells start in visible column
`maxRowKeyWidth + 1` and there is one column per value (keys: any bytes not ending inside a colour sequence) -/
theorem heat_writeRow_width (U : UnitLaws A Dom Unit le)
    (env : Env) (h : Heatmap) (vt : VirtualTerm) (ho : vt.closed = false) (idx : Nat) (name : Bytes) (vals : List Int)
    (ht : Terminated env name) (hd : ∀ v ∈ vals, Dom v) (hmn : Dom h.minVal) (hmx : Dom h.maxVal) :
    ∃ h' vt' line cells, h.writeRow A env vt (idx : Int) name vals = .ok (h', vt') ∧ vt'.closed = false ∧
      vt'.lines[2 + idx]? = some line ∧
      h'.maxRowKeyWidth = (if strLen env name > h.maxRowKeyWidth then strLen env name else h.maxRowKeyWidth) ∧
      line = wrap env cYellow name ++ writeRepeat 32 (h'.maxRowKeyWidth - strLen env name + 1) ++ List.flatten cells ∧
      cells.length = vals.length ∧ (∀ c ∈ cells, IsHeatCell env c) ∧
      strLen env line = h'.maxRowKeyWidth + 1 + vals.length ∧
      (∀ j x, j ≠ 2 + idx → vt.lines[j]? = some x → vt'.lines[j]? = some x) := by
  obtain ⟨h', vt', cells, hw, ho', _, _, hkw, hline, hlen, hall, hkeep⟩ := heat_writeRow_ok_u U env h vt ho idx name vals hd hmn hmx
  refine ⟨h', vt', _, cells, hw, ho', hline, hkw, rfl, hlen, hall, ?_, hkeep⟩
  have hn := strLen_nonneg env name
  obtain ⟨p, hp⟩ : ∃ p : Nat, h'.maxRowKeyWidth - strLen env name + 1 = ((p + 1 : Nat) : Int) :=
    ⟨(h'.maxRowKeyWidth - strLen env name).toNat, by rw [hkw]; split <;> omega⟩
  rw [hp, heatRow_width env name p cells ht hall, hlen]
  omega

/-- the body of the row loop of `Heatmap.WriteTable` -/
def heatRowStepU (A : Arith α) (env : Env) (rkeys : List Bytes) (c : Cells) (shownCols : List Nat)
    (st : Heatmap × VirtualTerm) (ri : Nat × Nat) : Res (Heatmap × VirtualTerm) :=
  st.1.writeRow A env st.2 ri.2 (keyAt rkeys ri.1) (shownCols.map (c.value ri.1))

/-- the row loop of `Heatmap.WriteTable`: line `2 + i` is the row of the `i`-th displayed row, nothing else changes -/
theorem heat_rows_ok_u (U : UnitLaws A Dom Unit le) (env : Env) (rkeys : List Bytes) (c : Cells) (hc : DomCells Dom c) (shownCols : List Nat) :
    ∀ (l : List Nat) (b : Nat) (st : Heatmap × VirtualTerm), st.2.closed = false ∧ Dom st.1.minVal ∧ Dom st.1.maxVal → (∀ (i : Nat) (r : Nat), l[i]? = some r → True) →
    ∃ st', (l.zipIdx b).foldlM (heatRowStepU A env rkeys c shownCols) st = .ok st' ∧ (st'.2.closed = false ∧ Dom st'.1.minVal ∧ Dom st'.1.maxVal) ∧
      (∀ (i : Nat) (r : Nat), l[i]? = some r → ∃ line, st'.2.lines[2 + (b + i)]? = some line ∧ IsHeatRow env (keyAt rkeys r) shownCols.length line) ∧
      (∀ j x, (j < 2 + b ∨ 2 + (b + l.length) ≤ j) → st.2.lines[j]? = some x → st'.2.lines[j]? = some x) :=
  foldlM_zipIdx_inv (I := fun st : Heatmap × VirtualTerm => st.2.closed = false ∧ Dom st.1.minVal ∧ Dom st.1.maxVal) (P := fun _ _ => True)
    (Q := fun i r (st : Heatmap × VirtualTerm) => ∃ line, st.2.lines[2 + i]? = some line ∧ IsHeatRow env (keyAt rkeys r) shownCols.length line)
    (K := fun a e (st st' : Heatmap × VirtualTerm) => ∀ j x, (j < 2 + a ∨ 2 + e ≤ j) → st.2.lines[j]? = some x → st'.2.lines[j]? = some x)
    (fun _ _ _ _ _ hx => hx)
    (fun a e _ _ _ hae h1 h2 j x hj hx => h2 j x (by omega) (h1 j x (by omega) hx))
    (fun i _ e _ _ hie hq hkeep => let ⟨line, hl, hrow⟩ := hq; ⟨line, hkeep _ _ (Or.inl (by omega)) hl, hrow⟩)
    (fun st r i hI _ => by
      obtain ⟨ho, hmn, hmx⟩ := hI
      obtain ⟨h1, vt1, cells, hw, ho1, e1, e2, _, hline, hlen, hall, hkeep⟩ :=
        heat_writeRow_ok_u U env st.1 st.2 ho i (keyAt rkeys r) (shownCols.map (c.value r))
          (by intro v hv; obtain ⟨k, _, rfl⟩ := List.mem_map.mp hv; exact dom_value U c hc r k) hmn hmx
      exact ⟨(h1, vt1), hw, ⟨ho1, by rw [e1]; exact hmn, by rw [e2]; exact hmx⟩,
        ⟨_, hline, _, cells, rfl, by simpa using hlen, hall⟩, fun j x hj => hkeep j x (by omega)⟩)

theorem heat_writeRows_eq_u (env : Env) (h : Heatmap) (vt : VirtualTerm) (rkeys : List Bytes) (c : Cells) (shownCols rows : List Nat) :
    h.writeRows A env vt rkeys c shownCols rows = (rows.zipIdx 0).foldlM (heatRowStepU A env rkeys c shownCols) (h, vt) := rfl

theorem dom_range (U : UnitLaws A Dom Unit le) (h : Heatmap) (c : Cells) (hc : DomCells Dom c) (hmn : Dom h.minVal) (hmx : Dom h.maxVal) :
    Dom (h.range c).1 ∧ Dom (h.range c).2 := by
  obtain ⟨m1, m2⟩ := dom_minMax U c hc
  unfold Heatmap.range
  cases h1 : h.fixedMin <;> cases h2 : h.fixedMax <;> simp <;> (constructor <;> assumption)

/-- `Heatmap.WriteTable` on ANY aggregated state with cell values in the domain, for every float instance -/
theorem heat_writeTable_ok_u (U : UnitLaws A Dom Unit le) (env : Env) (h : Heatmap) (vt : VirtualTerm) (ho : vt.closed = false)
    (hrc : 0 ≤ h.rowCount) (hcc : 0 ≤ h.colCount) (rkeys ckeys : List Bytes) (c : Cells) (hc : DomCells Dom c) (hmn : Dom h.minVal) (hmx : Dom h.maxVal) :
    ∃ h' vt' hdr legend, h.writeTable A env vt rkeys ckeys c = .ok (h', vt') ∧ vt'.closed = false ∧
      (∀ (i : Nat) (r : Nat), (c.rows.take (mini c.rows.length h.rowCount).toNat)[i]? = some r →
        ∃ line, vt'.lines[2 + i]? = some line ∧ IsHeatRow env (keyAt rkeys r) (mini c.cols.length h.colCount).toNat line) ∧
      ((c.rows.length : Int) > mini c.rows.length h.rowCount →
        vt'.lines[2 + (mini c.rows.length h.rowCount).toNat]? =
          some (wrap env cBrightBlack (moreNote ((c.rows.length : Int) - mini c.rows.length h.rowCount))) ∧
        h'.currentRows = 3 + mini c.rows.length h.rowCount) ∧
      (¬ (c.rows.length : Int) > mini c.rows.length h.rowCount → h'.currentRows = 2 + mini c.rows.length h.rowCount) ∧
      vt'.lines[1]? = some hdr ∧
      (∃ body, hdr = (if mini (c.cols.length : Int) h.colCount < c.cols.length
        then body ++ wrap env cBrightBlack ([32] ++ moreNote ((c.cols.length : Int) - h.colCount)) else body)) ∧
      vt'.lines[0]? = some legend ∧ IsLegendLine A env h (h.range c).1 (h.range c).2 legend := by
  have hr := dom_range U h c hc hmn hmx
  have hr1 := hr.1
  have hr2 := hr.2
  -- legend
  obtain ⟨vt1, parts, hu, ho1, hline0, hplen, hparts, _⟩ := heat_legend_line_u U env h vt ho (h.range c).1 (h.range c).2 hr1 hr2
  have hleg : IsLegendLine A env h (h.range c).1 (h.range c).2 (writeRepeat 32 (h.maxRowKeyWidth + 1) ++ parts.flatten) :=
    ⟨parts, rfl, hplen, fun i k hk => (hparts i k hk).2⟩
  generalize hh1 : ({ h with minVal := (h.range c).1, maxVal := (h.range c).2 } : Heatmap) = h1 at hu
  have hrc1 : h1.rowCount = h.rowCount := by rw [← hh1]
  have hcc1 : h1.colCount = h.colCount := by rw [← hh1]
  -- header
  obtain ⟨r, hr⟩ := headerText_ok env h1 (c.cols.map (keyAt ckeys))
  have hcount := headerText_count env h1 _ r hr
  obtain ⟨body, hbody⟩ := headerText_note env h1 _ r hr
  simp only [List.length_map, hcc1] at hcount hbody
  obtain ⟨vt2, hw2, ho2, hline2, hkeep2⟩ := vt_write_ok vt1 ho1 1 r.1
  -- displayed columns
  have hc0 : 0 ≤ r.2 := by rw [hcount]; exact mini_nonneg (by omega) hcc
  have hc1 : r.2 ≤ c.cols.length := by rw [hcount]; exact mini_le_left _ _
  have hslice := sliceTo_ok c.cols r.2 hc0 hc1
  -- rows
  obtain ⟨st3, hf3, ⟨ho3, _, _⟩, hrows3, hkeep3⟩ := heat_rows_ok_u U env rkeys c hc (c.cols.take r.2.toNat)
    (c.rows.take (mini c.rows.length h.rowCount).toNat) 0 (h1, vt2) ⟨ho2, by rw [← hh1]; exact hr1, by rw [← hh1]; exact hr2⟩ (fun _ _ _ => trivial)
  have hnr0 : 0 ≤ mini (c.rows.length : Int) h.rowCount := mini_nonneg (by omega) hrc
  have hnr1 := mini_le_left (c.rows.length : Int) h.rowCount
  have htl : (c.rows.take (mini (c.rows.length : Int) h.rowCount).toNat).length = (mini (c.rows.length : Int) h.rowCount).toNat := by
    rw [List.length_take]; omega
  have hncols : (c.cols.take r.2.toNat).length = (mini (c.cols.length : Int) h.colCount).toNat := by
    rw [List.length_take, hcount]; omega
  have hmain : h.writeTable A env vt rkeys ckeys c =
      st3.1.writeRowsNote env st3.2 c.rows.length (mini c.rows.length h.rowCount) := by
    unfold Heatmap.writeTable
    simp only [hu, bind, Except.bind, hr]
    have : (1 : Int) = ((1 : Nat) : Int) := rfl
    rw [this, hw2]
    simp only [hslice, hrc1, heat_writeRows_eq_u, hf3]
  rw [hmain]
  unfold Heatmap.writeRowsNote
  have hrow : ∀ (i : Nat) (r' : Nat), (c.rows.take (mini (c.rows.length : Int) h.rowCount).toNat)[i]? = some r' →
      ∃ line, st3.2.lines[2 + i]? = some line ∧ IsHeatRow env (keyAt rkeys r') (mini (c.cols.length : Int) h.colCount).toNat line := by
    intro i r' hi
    obtain ⟨line, hl, hrow⟩ := hrows3 i r' hi
    rw [hncols] at hrow
    exact ⟨line, by simpa using hl, hrow⟩
  have hhdr : st3.2.lines[1]? = some r.1 := hkeep3 1 _ (Or.inl (by omega)) hline2
  have hl3 : st3.2.lines[0]? = some (writeRepeat 32 (h.maxRowKeyWidth + 1) ++ parts.flatten) :=
    hkeep3 0 _ (Or.inl (by omega)) (hkeep2 0 _ (by omega) hline0)
  by_cases hmore : (c.rows.length : Int) > mini c.rows.length h.rowCount
  · rw [if_pos hmore]
    have hcast : (2 : Int) + mini (c.rows.length : Int) h.rowCount = ((2 + (mini (c.rows.length : Int) h.rowCount).toNat : Nat) : Int) := by omega
    obtain ⟨vt4, hw4, ho4, hline4, hkeep4⟩ := vt_write_ok st3.2 ho3 (2 + (mini (c.rows.length : Int) h.rowCount).toNat)
      (wrap env cBrightBlack (moreNote ((c.rows.length : Int) - mini c.rows.length h.rowCount)))
    refine ⟨_, vt4, r.1, _, by rw [hcast, hw4]; rfl, ho4, ?_, fun _ => ⟨hline4, rfl⟩, fun hn => absurd hmore hn, ?_, ⟨body, hbody⟩,
      hkeep4 0 _ (by omega) hl3, hleg⟩
    · intro i r' hi
      obtain ⟨line, hl, hrow⟩ := hrow i r' hi
      have hil : i < (mini (c.rows.length : Int) h.rowCount).toNat := htl ▸ (List.getElem?_eq_some_iff.mp hi).1
      exact ⟨line, hkeep4 _ _ (by omega) hl, hrow⟩
    · exact hkeep4 1 _ (by omega) hhdr
  · rw [if_neg hmore]
    exact ⟨_, st3.2, r.1, _, rfl, ho3, hrow, fun hm => absurd hm hmore, fun _ => rfl, hhdr, ⟨body, hbody⟩, hl3, hleg⟩

/-! ### sparkline -/

theorem sparkCells_ok_u (U : UnitLaws A Dom Unit le) (env : Env) (k : Scaler) (vals : List Int) (min max : Int)
    (hd : ∀ v ∈ vals, Dom v) (hmn : Dom min) (hmx : Dom max) :
    ∃ cells, sparkCells A env k vals min max = .ok cells ∧ cells.length = vals.length ∧ ∀ c ∈ cells, IsSparkGlyph c := by
  unfold sparkCells
  apply mapM_ok_all
  intro v hv
  exact U.sparkWrite_glyph env (U.scale_unit k (hd v hv) hmn hmx)

theorem spark_rowCells_ok_u (U : UnitLaws A Dom Unit le) (env : Env) (s : Spark) (rkeys : List Bytes) (c : Cells) (hc : DomCells Dom c)
    (colIdx : List Nat) (r : Nat) :
    ∃ row, s.rowCells A env rkeys c colIdx c.minMax.1 c.minMax.2 r = .ok row ∧ IsSparkRow env s rkeys c colIdx r row := by
  unfold Spark.rowCells
  obtain ⟨cells, hc, hlen, hall⟩ := sparkCells_ok_u U env s.scaler (colIdx.map (c.value r)) c.minMax.1 c.minMax.2
    (by intro v hv; obtain ⟨k, _, rfl⟩ := List.mem_map.mp hv; exact dom_value U c hc r k) (dom_minMax U c hc).1 (dom_minMax U c hc).2
  simp only [hc, bind, Except.bind, pure, Except.pure]
  refine ⟨_, rfl, cells, _, _, rfl, by simpa using hlen, hall, ?_⟩
  intro f l hf hl
  simp [hf, hl]

/-- the calls `Spark.WriteTable` makes on its table: the header (when a column is displayed), `WriteRow(i + 1, …)` with the
cells of the `i`-th displayed row, the rows note -/
theorem spark_script_ok (U : UnitLaws A Dom Unit le) (env : Env) (s : Spark) (hcc : 0 ≤ s.colCount) (rkeys ckeys : List Bytes)
    (c : Cells) (hc : DomCells Dom c) :
    ∃ (colIdx : List Nat) (g : Nat → List Bytes), s.shownCols c = .ok colIdx ∧ (colIdx.length : Int) = mini c.cols.length s.colCount ∧
      (∀ r, IsSparkRow env s rkeys c colIdx r (g r)) ∧
      s.script A env rkeys ckeys c = .ok (Spark.headerOps env (colIdx.map (keyAt ckeys)) ++
        ((s.shownRows c).zipIdx.map fun (ri : Nat × Nat) => TableOp.row ((ri.2 : Int) + 1) (g ri.1)) ++ (s.noteOps env c).1,
        (s.noteOps env c).2) := by
  obtain ⟨colIdx, hcols, hncols⟩ := spark_shownCols_ok s hcc c
  -- a total version of the row cells
  let g : Nat → List Bytes := fun r =>
    match s.rowCells A env rkeys c colIdx c.minMax.1 c.minMax.2 r with
    | .ok row => row
    | .error _ => []
  have hg : ∀ r, s.rowCells A env rkeys c colIdx c.minMax.1 c.minMax.2 r = .ok (g r) ∧ IsSparkRow env s rkeys c colIdx r (g r) := by
    intro r
    obtain ⟨row, hrow, hsr⟩ := spark_rowCells_ok_u U env s rkeys c hc colIdx r
    have : g r = row := by show (match s.rowCells _ env rkeys c colIdx c.minMax.1 c.minMax.2 r with | .ok row => row | .error _ => []) = row; rw [hrow]
    rw [this]; exact ⟨hrow, hsr⟩
  refine ⟨colIdx, g, hcols, hncols, fun r => (hg r).2, ?_⟩
  have hrowOps : (s.shownRows c).zipIdx.mapM (s.rowOp A env rkeys c colIdx) =
      .ok ((s.shownRows c).zipIdx.map fun (ri : Nat × Nat) => TableOp.row ((ri.2 : Int) + 1) (g ri.1)) := by
    apply mapM_eq_map
    intro x _
    unfold Spark.rowOp
    rw [(hg x.1).1]; rfl
  unfold Spark.script
  rw [hcols]
  show (do let rowOps ← (s.shownRows c).zipIdx.mapM (s.rowOp A env rkeys c colIdx)
           (pure (Spark.headerOps env (colIdx.map (keyAt ckeys)) ++ rowOps ++ (s.noteOps env c).1, (s.noteOps env c).2) : Res (List TableOp × Int))) = _
  rw [hrowOps]; rfl

/-- `Spark.WriteTable` on ANY aggregated state, any scale, colour/unicode on or off, limits ≥ 0: it returns,
the table invariant holds (columns line up), every displayed row has exactly one glyph per DISPLAYED
column (`min(#columns, colCount)`, none for 0) and the first/last values under the formatter, and the
rows note counts exactly the rows not shown -/
theorem spark_writeTable_ok_u (U : UnitLaws A Dom Unit le) (env : Env) (s : Spark) (vt : VirtualTerm)
    (hinv : TableInv env s.table vt) (hrc : 0 ≤ s.rowCount) (hcc : 0 ≤ s.colCount) (hmr : s.table.maxRows = s.rowCount + 1)
    (rkeys ckeys : List Bytes) (c : Cells) (hc : DomCells Dom c) :
    ∃ s' vt' colIdx, s.writeTable A env vt rkeys ckeys c = .ok (s', vt') ∧ TableInv env s'.table vt' ∧
      s.shownCols c = .ok colIdx ∧ (colIdx.length : Int) = mini c.cols.length s.colCount ∧
      (∀ (i : Nat) (r : Nat), (s.shownRows c)[i]? = some r →
        ∃ row, s'.table.rows[i + 1]? = some row ∧ IsSparkRow env s rkeys c colIdx r row) ∧
      ((c.rows.length : Int) > mini c.rows.length s.rowCount →
        s'.footerOffset = 1 ∧ vt'.lines[s'.table.activeRows.toNat]? =
          some (wrap env cBrightBlack (moreNote ((c.rows.length : Int) - mini c.rows.length s.rowCount)))) ∧
      (¬ (c.rows.length : Int) > mini c.rows.length s.rowCount → s'.footerOffset = 0) := by
  obtain ⟨colIdx, g, hcols, hncols, hg, hscript⟩ := spark_script_ok U env s hcc rkeys ckeys c hc
  generalize hhdr : Spark.headerOps env (colIdx.map (keyAt ckeys)) = hdr at hscript
  generalize hrowOps : ((s.shownRows c).zipIdx.map fun (ri : Nat × Nat) => TableOp.row ((ri.2 : Int) + 1) (g ri.1)) = rowOps at hscript
  have hnr0 : 0 ≤ mini (c.rows.length : Int) s.rowCount := mini_nonneg (by omega) hrc
  have hnr1 := mini_le_left (c.rows.length : Int) s.rowCount
  have hshl : ((s.shownRows c).length : Int) = mini c.rows.length s.rowCount := by
    unfold Spark.shownRows; rw [List.length_take]; omega
  have hnn1 : ∀ op ∈ hdr ++ rowOps, op.NonNeg := by
    intro op hop
    rcases List.mem_append.mp hop with hop | hop
    · rw [← hhdr] at hop
      unfold Spark.headerOps at hop
      split at hop
      · simp only [List.mem_singleton] at hop; subst hop; exact Int.le_refl 0
      · simp at hop
    · rw [← hrowOps] at hop; exact rowOps_nonneg g _ 0 op hop
  obtain ⟨t1, vt1, hrun1, hinv1, _, hmr1, _, _, hrows1⟩ := runOps_inv env (hdr ++ rowOps) s.table vt hinv hnn1
  have hrl := hinv.rows_len
  have hrowsAt : ∀ (i : Nat) (r : Nat), (s.shownRows c)[i]? = some r → t1.rows[i + 1]? = some (g r) := by
    intro i r hi
    have hil : i < (s.shownRows c).length := (List.getElem?_eq_some_iff.mp hi).1
    have hle := mini_le_right (c.rows.length : Int) s.rowCount
    have e : latestRow (hdr ++ rowOps) (i + 1) = some (g r) := by
      have h2' := latestRow_seq g (s.shownRows c) 0 i r hi
      rw [Nat.zero_add, hrowOps] at h2'
      rw [latestRow_append, h2']; rfl
    rw [hrows1, rowsAfter_get s.table.maxRows (i + 1) (by omega) _ s.table.rows (by omega) hnn1, e]; rfl
  have hwt : s.writeTable A env vt rkeys ckeys c = (do
      let r ← TableWriter.runOps env (t1, vt1) (s.noteOps env c).1
      (pure ({ s with table := r.1, footerOffset := (s.noteOps env c).2 }, r.2) : Res (Spark × VirtualTerm))) := by
    unfold Spark.writeTable
    rw [hscript]
    show (do let r ← TableWriter.runOps env (s.table, vt) (hdr ++ rowOps ++ (s.noteOps env c).1)
             (pure ({ s with table := r.1, footerOffset := (s.noteOps env c).2 }, r.2) : Res (Spark × VirtualTerm))) = _
    rw [runOps_append, hrun1]; rfl
  rw [hwt]
  by_cases hmore : (c.rows.length : Int) > mini c.rows.length s.rowCount
  · have hnote : s.noteOps env c = ([TableOp.footer 0 (wrap env cBrightBlack (moreNote ((c.rows.length : Int) - mini c.rows.length s.rowCount)))], 1) := by
      unfold Spark.noteOps; simp only; rw [if_pos hmore]
    obtain ⟨vt2, hw2, hinv2, hline2⟩ := writeFooter_inv env t1 vt1 hinv1 0
      (wrap env cBrightBlack (moreNote ((c.rows.length : Int) - mini c.rows.length s.rowCount)))
    refine ⟨{ s with table := t1, footerOffset := 1 }, vt2, colIdx, ?_, hinv2, hcols, hncols,
      fun i r hi => ⟨g r, hrowsAt i r hi, hg r⟩, fun _ => ⟨rfl, by simpa using hline2⟩, fun hn => absurd hmore hn⟩
    rw [hnote]
    unfold TableWriter.runOps
    rw [foldlM_singleton]
    show (do let r ← (do let v ← t1.writeFooter vt1 0 _; (pure (t1, v) : Res (TableWriter × VirtualTerm)))
             (pure ({ s with table := r.1, footerOffset := 1 }, r.2) : Res (Spark × VirtualTerm))) = _
    simp only [Int.natCast_zero] at hw2
    rw [hw2]; rfl
  · have hnote : s.noteOps env c = ([], 0) := by
      unfold Spark.noteOps; simp only; rw [if_neg hmore]
    refine ⟨{ s with table := t1, footerOffset := 0 }, vt1, colIdx, ?_, hinv1, hcols, hncols,
      fun i r hi => ⟨g r, hrowsAt i r hi, hg r⟩, fun hm => absurd hm hmore, fun _ => rfl⟩
    rw [hnote]; rfl

end
end Rare.C14

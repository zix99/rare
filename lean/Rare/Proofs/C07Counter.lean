import Rare.Proofs.C07Split
/-! Counter (counter.go): the state after a history is the fold of the parsed history. -/
namespace Rare.C07

theorem Counter.sample_eq (c : Counter) (e : Bytes) :
    c.sample e = match (parseCounter e).inc with
      | none => { c with errors := c.errors + 1 }
      | some n => c.sampleValue (parseCounter e).k1 n := by
  obtain ⟨a0, a1, b1, -, -⟩ := splitter_fields nul e (by simp [nul])
  unfold Counter.sample parseCounter
  simp only [a0, a1, b1]
  have hne := splitOn_ne_nil nul e
  rcases hs : splitOn nul e with _ | ⟨k, _ | ⟨v, rest⟩⟩
  · exact absurd hs hne
  · simp
  · simp only [List.headD_cons, List.tail_cons, List.isEmpty_cons, Bool.not_false, if_true]
    cases atoi v <;> rfl

theorem total_wrap (sel : Parsed → Bool) (h : List Parsed) : wrap64 (total sel h) = total sel h := by
  simp [Rare.C07.total, wrap64_idem]

theorem total_snoc_skip (sel : Parsed → Bool) (hp : List Parsed) (p : Parsed) (h : incIf sel p = 0) :
    total sel (hp ++ [p]) = total sel hp := by
  rw [total_snoc, h, Int.add_zero, total_wrap]

theorem incIf_eq_zero {sel : Parsed → Bool} {p : Parsed} (h : (p.inc.isSome && sel p) = false) : incIf sel p = 0 := by
  unfold incIf
  cases hi : p.inc with
  | none => rfl
  | some v => simp [hi] at h; simp [h]

theorem present_snoc_skip (sel : Parsed → Bool) (hp : List Parsed) (p : Parsed) (h : (p.inc.isSome && sel p) = false) :
    present sel (hp ++ [p]) = present sel hp := by
  rw [present_snoc, h, Bool.or_false]

theorem incIf_none (sel : Parsed → Bool) (p : Parsed) (h : p.inc = none) : incIf sel p = 0 :=
  incIf_eq_zero (by simp [h])

/-- A map from keys to totals stays one when the sample's key gets its increment added (`sel x` selects the
samples of key `x`). -/
theorem aget_upd (m : List (Bytes × Int)) (k k' : Bytes) (inc : Int) (sel : Bytes → Parsed → Bool) (hp : List Parsed)
    (p : Parsed) (hinc : p.inc = some inc) (hsel : ∀ x, sel x p = decide (k = x))
    (h : ∀ x, aget m x = if present (sel x) hp then some (total (sel x) hp) else none) :
    aget (aset m k (wrap64 ((aget m k).getD 0 + inc))) k' =
      if present (sel k') (hp ++ [p]) then some (total (sel k') (hp ++ [p])) else none := by
  rw [aget_aset, present_snoc, total_snoc]
  simp only [incIf, hinc, Option.isSome_some, Bool.true_and, hsel]
  by_cases hk : k = k'
  · subst hk
    simp only [if_true, decide_true, Bool.or_true]
    rw [h k]
    by_cases hp' : present (sel k) hp = true
    · simp [hp']
    · have hp'' : present (sel k) hp = false := by simpa using hp'
      simp [hp'', total_of_not_present _ _ hp'']
  · simp only [hk, if_false, decide_false, Bool.or_false, Int.add_zero, Bool.false_eq_true]
    rw [h k']; simp [total_wrap]

/-- Invariant tying a counter to a parsed history. -/
structure CounterInv (c : Counter) (hp : List Parsed) : Prop where
  items : ∀ k, aget c.items k = if present (selKey k) hp then some (total (selKey k) hp) else none
  total : c.total = total selAll hp
  errors : c.errors = errorCount hp

theorem counterInv_init : CounterInv {} [] := by
  constructor <;> simp [present, Rare.C07.total, sumBy, errorCount, wrap64_zero]

theorem counterInv_step (c : Counter) (hp : List Parsed) (e : Bytes) (h : CounterInv c hp) :
    CounterInv (c.sample e) (hp ++ [parseCounter e]) := by
  rw [Counter.sample_eq]
  cases hi : (parseCounter e).inc with
  | none =>
    constructor
    · intro k; simp [present_snoc, total_snoc_skip _ _ _ (incIf_none _ _ hi), hi, h.items k]
    · simp [total_snoc_skip _ _ _ (incIf_none _ _ hi), h.total]
    · simp [errorCount_snoc, hi, h.errors]
  | some n =>
    constructor
    · intro k
      exact aget_upd c.items (parseCounter e).k1 k n selKey hp _ hi
        (by intro x; simp [selKey, Bool.beq_eq_decide_eq]) h.items
    · simp [Counter.sampleValue, total_snoc, incIf, hi, selAll, h.total]
    · simp [Counter.sampleValue, errorCount_snoc, hi, h.errors]

theorem counterInv_foldl (l : List Bytes) (c : Counter) (hp : List Parsed) (h : CounterInv c hp) :
    CounterInv (l.foldl Counter.sample c) (hp ++ l.map parseCounter) := by
  induction l generalizing c hp with
  | nil => simpa using h
  | cons e l ih =>
    have := ih _ _ (counterInv_step c hp e h)
    simpa [List.append_assoc] using this

theorem counterInv_run (h : List Bytes) : CounterInv (Counter.run h) (h.map parseCounter) := by
  have := counterInv_foldl h {} [] counterInv_init
  simpa [Counter.run] using this

end Rare.C07

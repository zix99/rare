import Rare.Model.C09Utf8
import Rare.Proofs.C20Utf8
/-!
C09: UTF-8 glue.  `Rare.C20.decodeUtf8` (Go's `[]rune(s)`) against the structural definition of
well-formed UTF-8 (`seqLen`, `wellFormed`: Unicode table 3-7) and against `Rare.C20.encodeUtf8`.
-/
namespace Rare.C09
open Rare Rare.Expr
open Rare.C20 (decode1 encodeRune validScalar isCont accLo accHi runeError)

/-! ### `decode1` on each shape of input -/

def cp2 (x y : Nat) : Nat := (x - 0xC0) * 64 + (y - 0x80)
def cp3 (x y z : Nat) : Nat := (x - 0xE0) * 4096 + (y - 0x80) * 64 + (z - 0x80)
def cp4 (x y z w : Nat) : Nat := (x - 0xF0) * 262144 + (y - 0x80) * 4096 + (z - 0x80) * 64 + (w - 0x80)

theorem decode1_s1 (b0 : UInt8) : decode1 [b0] = if b0.toNat < 0x80 then (b0.toNat, 1) else (0xFFFD, 1) := rfl

theorem decode1_s2 (b0 b1 : UInt8) : decode1 [b0, b1] =
    if b0.toNat < 0x80 then (b0.toNat, 1)
    else if 0xC2 ≤ b0.toNat ∧ b0.toNat ≤ 0xDF ∧ isCont b1.toNat then (cp2 b0.toNat b1.toNat, 2)
    else (0xFFFD, 1) := rfl

theorem decode1_s3 (b0 b1 b2 : UInt8) : decode1 [b0, b1, b2] =
    if b0.toNat < 0x80 then (b0.toNat, 1)
    else if 0xC2 ≤ b0.toNat ∧ b0.toNat ≤ 0xDF ∧ isCont b1.toNat then (cp2 b0.toNat b1.toNat, 2)
    else if 0xE0 ≤ b0.toNat ∧ b0.toNat ≤ 0xEF ∧ accLo b0.toNat ≤ b1.toNat ∧ b1.toNat ≤ accHi b0.toNat ∧ isCont b2.toNat then
      (cp3 b0.toNat b1.toNat b2.toNat, 3)
    else (0xFFFD, 1) := rfl

theorem decode1_s4 (b0 b1 b2 b3 : UInt8) (r : Bytes) : decode1 (b0 :: b1 :: b2 :: b3 :: r) =
    if b0.toNat < 0x80 then (b0.toNat, 1)
    else if 0xC2 ≤ b0.toNat ∧ b0.toNat ≤ 0xDF ∧ isCont b1.toNat then (cp2 b0.toNat b1.toNat, 2)
    else if 0xE0 ≤ b0.toNat ∧ b0.toNat ≤ 0xEF ∧ accLo b0.toNat ≤ b1.toNat ∧ b1.toNat ≤ accHi b0.toNat ∧ isCont b2.toNat then
      (cp3 b0.toNat b1.toNat b2.toNat, 3)
    else if 0xF0 ≤ b0.toNat ∧ b0.toNat ≤ 0xF4 ∧ accLo b0.toNat ≤ b1.toNat ∧ b1.toNat ≤ accHi b0.toNat ∧
        isCont b2.toNat ∧ isCont b3.toNat then
      (cp4 b0.toNat b1.toNat b2.toNat b3.toNat, 4)
    else (0xFFFD, 1) := rfl

/-- The byte ranges of table 3-7 as arithmetic facts. -/
def R2 (x y : Nat) : Prop := 0xC2 ≤ x ∧ x ≤ 0xDF ∧ 0x80 ≤ y ∧ y ≤ 0xBF
def R3 (x y z : Nat) : Prop :=
  0xE0 ≤ x ∧ x ≤ 0xEF ∧ 0x80 ≤ y ∧ y ≤ 0xBF ∧ (x = 0xE0 → 0xA0 ≤ y) ∧ (x = 0xED → y ≤ 0x9F) ∧ 0x80 ≤ z ∧ z ≤ 0xBF
def R4 (x y z w : Nat) : Prop :=
  0xF0 ≤ x ∧ x ≤ 0xF4 ∧ 0x80 ≤ y ∧ y ≤ 0xBF ∧ (x = 0xF0 → 0x90 ≤ y) ∧ (x = 0xF4 → y ≤ 0x8F) ∧ 0x80 ≤ z ∧ z ≤ 0xBF ∧
    0x80 ≤ w ∧ w ≤ 0xBF

/-! Go's acceptance tests in `decode1` say what the table says. -/

theorem accept2_iff (x y : Nat) : (0xC2 ≤ x ∧ x ≤ 0xDF ∧ isCont y = true) ↔ R2 x y := by
  simp only [R2, isCont, Bool.and_eq_true, decide_eq_true_eq]

theorem accept3_iff (x y z : Nat) :
    (0xE0 ≤ x ∧ x ≤ 0xEF ∧ accLo x ≤ y ∧ y ≤ accHi x ∧ isCont z = true) ↔ R3 x y z := by
  simp only [R3, accLo, accHi, isCont, Bool.and_eq_true, decide_eq_true_eq]
  grind

theorem accept4_iff (x y z w : Nat) :
    (0xF0 ≤ x ∧ x ≤ 0xF4 ∧ accLo x ≤ y ∧ y ≤ accHi x ∧ isCont z = true ∧ isCont w = true) ↔ R4 x y z w := by
  simp only [R4, accLo, accHi, isCont, Bool.and_eq_true, decide_eq_true_eq]
  grind

/-! A sequence of the table at the head: `seqLen` is its length, `decode1` reads it. -/

theorem seqLen_R1 (b0 : UInt8) (tl : Bytes) (h : b0.toNat < 0x80) : seqLen (b0 :: tl) = 1 := by
  simp only [seqLen, if_pos h]

theorem seqLen_R2 (b0 b1 : UInt8) (r : Bytes) (h : R2 b0.toNat b1.toNat) : seqLen (b0 :: b1 :: r) = 2 := by
  unfold R2 at h
  simp only [seqLen]
  rw [if_neg (by omega), if_pos (by omega), if_pos (by omega)]

theorem seqLen_R3 (b0 b1 b2 : UInt8) (r : Bytes) (h : R3 b0.toNat b1.toNat b2.toNat) :
    seqLen (b0 :: b1 :: b2 :: r) = 3 := by
  unfold R3 at h
  simp only [seqLen]
  rw [if_neg (by omega), if_neg (by omega), if_pos (by omega), if_pos (by grind)]

theorem seqLen_R4 (b0 b1 b2 b3 : UInt8) (r : Bytes) (h : R4 b0.toNat b1.toNat b2.toNat b3.toNat) :
    seqLen (b0 :: b1 :: b2 :: b3 :: r) = 4 := by
  unfold R4 at h
  simp only [seqLen]
  rw [if_neg (by omega), if_neg (by omega), if_neg (by omega), if_pos (by omega), if_pos (by grind)]

theorem decode1_R2 (b0 b1 : UInt8) (r : Bytes) (h : R2 b0.toNat b1.toNat) :
    decode1 (b0 :: b1 :: r) = (cp2 b0.toNat b1.toNat, 2) := by
  obtain ⟨h0, h0', h1⟩ := (accept2_iff _ _).mpr h
  exact C20.decode1_two b0 b1 r ⟨h0, h0'⟩ h1

theorem decode1_R3 (b0 b1 b2 : UInt8) (r : Bytes) (h : R3 b0.toNat b1.toNat b2.toNat) :
    decode1 (b0 :: b1 :: b2 :: r) = (cp3 b0.toNat b1.toNat b2.toNat, 3) := by
  obtain ⟨h0, h0', h1, h1', h2⟩ := (accept3_iff _ _ _).mpr h
  exact C20.decode1_three b0 b1 b2 r ⟨h0, h0'⟩ ⟨h1, h1'⟩ h2

theorem decode1_R4 (b0 b1 b2 b3 : UInt8) (r : Bytes) (h : R4 b0.toNat b1.toNat b2.toNat b3.toNat) :
    decode1 (b0 :: b1 :: b2 :: b3 :: r) = (cp4 b0.toNat b1.toNat b2.toNat b3.toNat, 4) := by
  obtain ⟨h0, h0', h1, h1', h2, h3⟩ := (accept4_iff _ _ _ _).mpr h
  exact C20.decode1_four b0 b1 b2 b3 r ⟨h0, h0'⟩ ⟨h1, h1'⟩ h2 h3

/-- What `seqLen` accepts is a sequence of the table. -/
theorem seqLen_pos (b0 : UInt8) (tl : Bytes) (h : seqLen (b0 :: tl) ≠ 0) :
    b0.toNat < 0x80 ∨ (∃ b1 r, tl = b1 :: r ∧ R2 b0.toNat b1.toNat) ∨
    (∃ b1 b2 r, tl = b1 :: b2 :: r ∧ R3 b0.toNat b1.toNat b2.toNat) ∨
    (∃ b1 b2 b3 r, tl = b1 :: b2 :: b3 :: r ∧ R4 b0.toNat b1.toNat b2.toNat b3.toNat) := by
  by_cases h1 : b0.toNat < 0x80
  · exact .inl h1
  by_cases h2 : 0xC2 ≤ b0.toNat ∧ b0.toNat ≤ 0xDF
  · simp only [seqLen, if_neg h1, if_pos h2] at h
    split at h
    · rename_i b1 r
      by_cases c : R2 b0.toNat b1.toNat
      · exact .inr (.inl ⟨_, _, rfl, c⟩)
      · rw [if_neg fun c' => c ⟨h2.1, h2.2, c'⟩] at h
        exact absurd rfl h
    · exact absurd rfl h
  by_cases h3 : 0xE0 ≤ b0.toNat ∧ b0.toNat ≤ 0xEF
  · simp only [seqLen, if_neg h1, if_neg h2, if_pos h3] at h
    split at h
    · rename_i b1 b2 r
      by_cases c : R3 b0.toNat b1.toNat b2.toNat
      · exact .inr (.inr (.inl ⟨_, _, _, rfl, c⟩))
      · rw [if_neg fun c' => c (by unfold R3; grind)] at h
        exact absurd rfl h
    · exact absurd rfl h
  by_cases h4 : 0xF0 ≤ b0.toNat ∧ b0.toNat ≤ 0xF4
  · simp only [seqLen, if_neg h1, if_neg h2, if_neg h3, if_pos h4] at h
    split at h
    · rename_i b1 b2 b3 r
      by_cases c : R4 b0.toNat b1.toNat b2.toNat b3.toNat
      · exact .inr (.inr (.inr ⟨_, _, _, _, rfl, c⟩))
      · rw [if_neg fun c' => c (by unfold R4; grind)] at h
        exact absurd rfl h
    · exact absurd rfl h
  · simp only [seqLen, if_neg h1, if_neg h2, if_neg h3, if_neg h4] at h
    exact absurd rfl h

/-- No well-formed sequence starts at the head: U+FFFD, width ONE. -/
theorem decode1_bad (b0 : UInt8) (tl : Bytes) (h : seqLen (b0 :: tl) = 0) : decode1 (b0 :: tl) = (0xFFFD, 1) := by
  have h1 : ¬ b0.toNat < 0x80 := fun c => by rw [seqLen_R1 _ _ c] at h; cases h
  have h2 : ∀ b1 r, tl = b1 :: r → ¬ (0xC2 ≤ b0.toNat ∧ b0.toNat ≤ 0xDF ∧ isCont b1.toNat = true) := by
    rintro b1 r rfl c
    rw [seqLen_R2 _ _ _ ((accept2_iff _ _).mp c)] at h; cases h
  have h3 : ∀ b1 b2 r, tl = b1 :: b2 :: r → ¬ (0xE0 ≤ b0.toNat ∧ b0.toNat ≤ 0xEF ∧ accLo b0.toNat ≤ b1.toNat ∧
      b1.toNat ≤ accHi b0.toNat ∧ isCont b2.toNat = true) := by
    rintro b1 b2 r rfl c
    rw [seqLen_R3 _ _ _ _ ((accept3_iff _ _ _).mp c)] at h; cases h
  rcases tl with _ | ⟨b1, _ | ⟨b2, _ | ⟨b3, r⟩⟩⟩
  · rw [decode1_s1, if_neg h1]
  · rw [decode1_s2, if_neg h1, if_neg (h2 _ _ rfl)]
  · rw [decode1_s3, if_neg h1, if_neg (h2 _ _ rfl), if_neg (h3 _ _ _ rfl)]
  · rw [decode1_s4, if_neg h1, if_neg (h2 _ _ rfl), if_neg (h3 _ _ _ rfl), if_neg]
    intro c
    rw [seqLen_R4 _ _ _ _ _ ((accept4_iff _ _ _ _).mp c)] at h; cases h

/-- One step of the decoder against the table: either no well-formed sequence starts at the head and
    the decoder answers (U+FFFD, width 1), or the sequence of table 3-7 that starts there is what the
    decoder reads, with its width. -/
theorem decode1_view (b0 : UInt8) (tl : Bytes) :
    (seqLen (b0 :: tl) = 0 ∧ decode1 (b0 :: tl) = (0xFFFD, 1)) ∨
    (b0.toNat < 0x80 ∧ seqLen (b0 :: tl) = 1 ∧ decode1 (b0 :: tl) = (b0.toNat, 1)) ∨
    (∃ b1 r, tl = b1 :: r ∧ R2 b0.toNat b1.toNat ∧ seqLen (b0 :: tl) = 2 ∧
      decode1 (b0 :: tl) = (cp2 b0.toNat b1.toNat, 2)) ∨
    (∃ b1 b2 r, tl = b1 :: b2 :: r ∧ R3 b0.toNat b1.toNat b2.toNat ∧ seqLen (b0 :: tl) = 3 ∧
      decode1 (b0 :: tl) = (cp3 b0.toNat b1.toNat b2.toNat, 3)) ∨
    (∃ b1 b2 b3 r, tl = b1 :: b2 :: b3 :: r ∧ R4 b0.toNat b1.toNat b2.toNat b3.toNat ∧ seqLen (b0 :: tl) = 4 ∧
      decode1 (b0 :: tl) = (cp4 b0.toNat b1.toNat b2.toNat b3.toNat, 4)) := by
  by_cases h : seqLen (b0 :: tl) = 0
  · exact .inl ⟨h, decode1_bad b0 tl h⟩
  rcases seqLen_pos b0 tl h with h1 | ⟨b1, r, rfl, hr⟩ | ⟨b1, b2, r, rfl, hr⟩ | ⟨b1, b2, b3, r, rfl, hr⟩
  · exact .inr (.inl ⟨h1, seqLen_R1 _ _ h1, C20.decode1_ascii _ _ h1⟩)
  · exact .inr (.inr (.inl ⟨_, _, rfl, hr, seqLen_R2 _ _ _ hr, decode1_R2 _ _ _ hr⟩))
  · exact .inr (.inr (.inr (.inl ⟨_, _, _, rfl, hr, seqLen_R3 _ _ _ _ hr, decode1_R3 _ _ _ _ hr⟩)))
  · exact .inr (.inr (.inr (.inr ⟨_, _, _, _, rfl, hr, seqLen_R4 _ _ _ _ _ hr, decode1_R4 _ _ _ _ _ hr⟩)))

/-! ### what the decoder read is what the encoder writes -/

theorem ofNat_toNat (b : UInt8) : UInt8.ofNat b.toNat = b := by simp

theorem enc1 (x : Nat) (h : x < 0x80) : encodeRune x = [UInt8.ofNat x] := by simp [encodeRune, h]

theorem encodeRune_2 (n : Nat) (h : 0x80 ≤ n) (h' : n < 0x800) :
    encodeRune n = [UInt8.ofNat (0xC0 + n / 64), UInt8.ofNat (0x80 + n % 64)] := by
  simp only [encodeRune, if_neg (show ¬ n < 0x80 by omega), if_pos h']

theorem encodeRune_3 (n : Nat) (h : 0x800 ≤ n) (h' : n < 0x10000) (hs : n < 0xD800 ∨ 0xE000 ≤ n) :
    encodeRune n = [UInt8.ofNat (0xE0 + n / 4096), UInt8.ofNat (0x80 + n / 64 % 64), UInt8.ofNat (0x80 + n % 64)] := by
  simp only [encodeRune, if_neg (show ¬ n < 0x80 by omega), if_neg (show ¬ n < 0x800 by omega),
    if_neg (show ¬ ((0xD800 ≤ n ∧ n < 0xE000) ∨ 0x110000 ≤ n) by omega), if_pos h']

theorem encodeRune_4 (n : Nat) (h : 0x10000 ≤ n) (h' : n < 0x110000) :
    encodeRune n = [UInt8.ofNat (0xF0 + n / 262144), UInt8.ofNat (0x80 + n / 4096 % 64),
      UInt8.ofNat (0x80 + n / 64 % 64), UInt8.ofNat (0x80 + n % 64)] := by
  simp only [encodeRune, if_neg (show ¬ n < 0x80 by omega), if_neg (show ¬ n < 0x800 by omega),
    if_neg (show ¬ ((0xD800 ≤ n ∧ n < 0xE000) ∨ 0x110000 ≤ n) by omega), if_neg (show ¬ n < 0x10000 by omega)]

theorem enc2 (x y : Nat) (h : R2 x y) : encodeRune (cp2 x y) = [UInt8.ofNat x, UInt8.ofNat y] := by
  obtain ⟨hx, hx', hy, hy'⟩ := h
  have e : 0xC0 + cp2 x y / 64 = x ∧ 0x80 + cp2 x y % 64 = y := by unfold cp2; omega
  rw [encodeRune_2 _ (by unfold cp2; omega) (by unfold cp2; omega), e.1, e.2]

theorem enc3 (x y z : Nat) (h : R3 x y z) :
    encodeRune (cp3 x y z) = [UInt8.ofNat x, UInt8.ofNat y, UInt8.ofNat z] := by
  have hr : 0x800 ≤ cp3 x y z ∧ cp3 x y z < 0x10000 ∧ (cp3 x y z < 0xD800 ∨ 0xE000 ≤ cp3 x y z) := by
    unfold R3 at h; unfold cp3; omega
  obtain ⟨hx, -, hy, hy', -, -, hz, hz'⟩ := h
  have e : 0xE0 + cp3 x y z / 4096 = x ∧ 0x80 + cp3 x y z / 64 % 64 = y ∧ 0x80 + cp3 x y z % 64 = z := by
    unfold cp3; omega
  rw [encodeRune_3 _ hr.1 hr.2.1 hr.2.2, e.1, e.2.1, e.2.2]

theorem enc4 (x y z w : Nat) (h : R4 x y z w) :
    encodeRune (cp4 x y z w) = [UInt8.ofNat x, UInt8.ofNat y, UInt8.ofNat z, UInt8.ofNat w] := by
  have hr : 0x10000 ≤ cp4 x y z w ∧ cp4 x y z w < 0x110000 := by unfold R4 at h; unfold cp4; omega
  obtain ⟨hx, -, hy, hy', -, -, hz, hz', hw, hw'⟩ := h
  have e : 0xF0 + cp4 x y z w / 262144 = x ∧ 0x80 + cp4 x y z w / 4096 % 64 = y ∧
      0x80 + cp4 x y z w / 64 % 64 = z ∧ 0x80 + cp4 x y z w % 64 = w := by unfold cp4; omega
  rw [encodeRune_4 _ hr.1 hr.2, e.1, e.2.1, e.2.2.1, e.2.2.2]

/-- A well-formed sequence starts at the head: the decoder reads exactly it (width = its length) and
    the encoder writes it back. -/
theorem decode1_good (b0 : UInt8) (tl : Bytes) (h : seqLen (b0 :: tl) ≠ 0) :
    (decode1 (b0 :: tl)).2 = seqLen (b0 :: tl) ∧
    encodeRune (decode1 (b0 :: tl)).1 = (b0 :: tl).take (seqLen (b0 :: tl)) ∧
    seqLen (b0 :: tl) ≤ (b0 :: tl).length := by
  rcases decode1_view b0 tl with ⟨h0, _⟩ | ⟨hx, hs, hd⟩ | ⟨b1, r, rfl, hr, hs, hd⟩ | ⟨b1, b2, r, rfl, hr, hs, hd⟩ |
      ⟨b1, b2, b3, r, rfl, hr, hs, hd⟩
  · exact absurd h0 h
  · rw [hs, hd]; simp [enc1 _ hx]
  · rw [hs, hd]; simp [enc2 _ _ hr]
  · rw [hs, hd]; simp [enc3 _ _ _ hr]
  · rw [hs, hd]; simp [enc4 _ _ _ _ hr]

/-! ### the decoder, sequence by sequence -/

/-- **One replacement rune per invalid byte**: where no well-formed sequence starts, the decoder emits
    one U+FFFD and resumes at the very next byte. -/
theorem decodeUtf8_bad (b0 : UInt8) (tl : Bytes) (h : seqLen (b0 :: tl) = 0) :
    decodeUtf8 (b0 :: tl) = 0xFFFD :: decodeUtf8 tl := by
  show Rare.C20.decodeUtf8 (b0 :: tl) = _
  rw [Rare.C20.decodeUtf8_cons, decode1_bad b0 tl h]
  simp [decodeUtf8]

theorem drop_cons_pred (b0 : UInt8) (tl : Bytes) (n : Nat) (h : n ≠ 0) : (b0 :: tl).drop n = tl.drop (n - 1) := by
  cases n with
  | zero => exact absurd rfl h
  | succ k => simp

/-- Where a well-formed sequence starts, the decoder emits its scalar value – whose encoding is that
    sequence – and resumes right after it. -/
theorem decodeUtf8_good (b0 : UInt8) (tl : Bytes) (h : seqLen (b0 :: tl) ≠ 0) :
    ∃ cp, validScalar cp ∧ encodeRune cp = (b0 :: tl).take (seqLen (b0 :: tl)) ∧
      decodeUtf8 (b0 :: tl) = cp :: decodeUtf8 ((b0 :: tl).drop (seqLen (b0 :: tl))) := by
  obtain ⟨h1, h2, _⟩ := decode1_good b0 tl h
  refine ⟨(decode1 (b0 :: tl)).1, Rare.C20.decode1_valid _, h2, ?_⟩
  show Rare.C20.decodeUtf8 (b0 :: tl) = _
  rw [Rare.C20.decodeUtf8_cons, h1, drop_cons_pred b0 tl _ h]

theorem encodeUtf8_cons (r : Nat) (rs : List Nat) : encodeUtf8 (r :: rs) = encodeRune r ++ encodeUtf8 rs := by
  simp [encodeUtf8, Rare.C20.encodeUtf8]

/-! ### well-formed ⇔ decoding and re-encoding gives the bytes back -/

theorem wellFormedF_roundtrip : ∀ (f : Nat) (bs : Bytes), wellFormedF f bs = true → encodeUtf8 (decodeUtf8 bs) = bs := by
  intro f
  induction f with
  | zero =>
    intro bs h
    cases bs with
    | nil => rfl
    | cons b tl => simp [wellFormedF] at h
  | succ f ih =>
    intro bs h
    cases bs with
    | nil => rfl
    | cons b0 tl =>
      simp only [wellFormedF, Bool.and_eq_true, bne_iff_ne, ne_eq] at h
      obtain ⟨cp, _, he, hd⟩ := decodeUtf8_good b0 tl h.1
      rw [hd, encodeUtf8_cons, he, drop_cons_pred b0 tl _ h.1, ih _ h.2, ← drop_cons_pred b0 tl _ h.1]
      exact List.take_append_drop _ _

theorem seqLen_fffd (r : Bytes) : seqLen (0xEF :: 0xBF :: 0xBD :: r) = 3 := by
  simp [seqLen]

theorem roundtrip_wellFormedF : ∀ (f : Nat) (bs : Bytes), bs.length ≤ f → encodeUtf8 (decodeUtf8 bs) = bs →
    wellFormedF f bs = true := by
  intro f
  induction f with
  | zero =>
    intro bs hl _
    have : bs = [] := List.eq_nil_of_length_eq_zero (by omega)
    subst this; rfl
  | succ f ih =>
    intro bs hl h
    cases bs with
    | nil => rfl
    | cons b0 tl =>
      by_cases h0 : seqLen (b0 :: tl) = 0
      · exfalso
        rw [decodeUtf8_bad b0 tl h0, encodeUtf8_cons] at h
        have he : encodeRune 0xFFFD = [0xEF, 0xBF, 0xBD] := by decide
        rw [he] at h
        simp only [List.cons_append, List.nil_append, List.cons.injEq] at h
        obtain ⟨rfl, h⟩ := h
        rw [← h, seqLen_fffd] at h0
        cases h0
      · obtain ⟨cp, _, he, hd⟩ := decodeUtf8_good b0 tl h0
        have hlen : seqLen (b0 :: tl) ≤ (b0 :: tl).length := (decode1_good b0 tl h0).2.2
        rw [hd, encodeUtf8_cons, he] at h
        have h' : encodeUtf8 (decodeUtf8 ((b0 :: tl).drop (seqLen (b0 :: tl)))) = (b0 :: tl).drop (seqLen (b0 :: tl)) := by
          have h2 : (b0 :: tl).take (seqLen (b0 :: tl)) ++ encodeUtf8 (decodeUtf8 ((b0 :: tl).drop (seqLen (b0 :: tl)))) =
              (b0 :: tl).take (seqLen (b0 :: tl)) ++ (b0 :: tl).drop (seqLen (b0 :: tl)) := by
            rw [List.take_append_drop]; exact h
          exact List.append_cancel_left h2
        simp only [wellFormedF, Bool.and_eq_true, bne_iff_ne, ne_eq]
        refine ⟨h0, ?_⟩
        rw [← drop_cons_pred b0 tl _ h0]
        apply ih _ _ h'
        simp only [List.length_drop, List.length_cons] at hl ⊢
        omega

/-- `wellFormed` (table 3-7) holds exactly of the byte strings that survive `[]rune` and back. -/
theorem wellFormed_iff (bs : Bytes) : wellFormed bs = true ↔ encodeUtf8 (decodeUtf8 bs) = bs :=
  ⟨wellFormedF_roundtrip _ bs, roundtrip_wellFormedF _ bs (Nat.le_refl _)⟩

end Rare.C09

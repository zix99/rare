import Rare.Proofs.C16Names
import Rare.Proofs.C16Table
import Rare.Proofs.C16Num
import Rare.Proofs.GoInt
/-!
C16: `rare expression -k name=value` (`parseKeyValue`, `parseKeyValuesIntoMap`, the emulated special
keys), `MarshalStringMapInferred`, `WriteInt`.
-/
namespace Rare.C16

theorem idxOf_lt_of_mem (s : Bytes) (c : UInt8) (h : c ∈ s) : s.idxOf c < s.length :=
  List.idxOf_lt_length_iff.mpr h

theorem parseKeyValue_none (s : Bytes) (h : (0x3d : UInt8) ∉ s) : parseKeyValue s = (s, s) := by
  have : ¬ s.idxOf (0x3d : UInt8) < s.length := fun hl => h (List.idxOf_lt_length_iff.mp hl)
  simp [parseKeyValue, indexByte, this]

theorem idxOf_append_cons (k v : Bytes) (c : UInt8) (h : c ∉ k) : (k ++ c :: v).idxOf c = k.length := by
  induction k with
  | nil => simp
  | cons a k ih =>
    simp only [List.mem_cons, not_or] at h
    have hne : ¬ (a == c) = true := by simpa using fun e => h.1 e.symm
    simp only [List.cons_append, List.idxOf_cons, hne, cond_false]
    rw [ih h.2]; simp

theorem parseKeyValue_split (k v : Bytes) (h : (0x3d : UInt8) ∉ k) : parseKeyValue (k ++ 0x3d :: v) = (k, v) := by
  have e := idxOf_append_cons k v 0x3d h
  have hl : (k ++ 0x3d :: v).idxOf (0x3d : UInt8) < (k ++ 0x3d :: v).length := by rw [e]; simp
  simp only [parseKeyValue, indexByte, e]
  have : ¬ ((k.length : Nat) : Int) < 0 := by omega
  simp [this]

theorem exists_first_split (s : Bytes) (c : UInt8) (h : c ∈ s) : ∃ k v, s = k ++ c :: v ∧ c ∉ k := by
  induction s with
  | nil => simp at h
  | cons a s ih =>
    by_cases e : a = c
    · exact ⟨[], s, by simp [e], by simp⟩
    · have hs : c ∈ s := by
        rcases List.mem_cons.mp h with h' | h'
        · exact absurd h'.symm e
        · exact h'
      obtain ⟨k, v, e1, e2⟩ := ih hs
      exact ⟨a :: k, v, by simp [e1], by simp [e2]; exact fun h' => e h'.symm⟩

theorem parseKeyValue_cases (s : Bytes) :
    ((0x3d : UInt8) ∉ s ∧ parseKeyValue s = (s, s)) ∨
    (s = (parseKeyValue s).1 ++ 0x3d :: (parseKeyValue s).2 ∧ (0x3d : UInt8) ∉ (parseKeyValue s).1) := by
  by_cases h : (0x3d : UInt8) ∈ s
  · obtain ⟨k, v, e, hk⟩ := exists_first_split s 0x3d h
    right
    rw [e, parseKeyValue_split k v hk]
    exact ⟨rfl, hk⟩
  · exact Or.inl ⟨h, parseKeyValue_none s h⟩

/-- the pair that `ret[k] = v` in a loop leaves for `k`: the LAST argument whose key is `k` -/
def lastValue (pairs : List (Bytes × Bytes)) (k : Bytes) : Option Bytes :=
  (pairs.reverse.find? (fun p => p.1 == k)).map (·.2)

def setAll (m : List (Bytes × Bytes)) (pairs : List (Bytes × Bytes)) : List (Bytes × Bytes) :=
  pairs.foldl (fun m p => mapSet m p.1 p.2) m

theorem kvMap_eq (kvs : List Bytes) : parseKeyValuesIntoMap kvs = setAll [] (kvs.map parseKeyValue) := by
  unfold parseKeyValuesIntoMap setAll
  rw [List.foldl_map]

theorem setAll_nodup : ∀ (pairs m : List (Bytes × Bytes)), (m.map (·.1)).Nodup → ((setAll m pairs).map (·.1)).Nodup := by
  intro pairs
  induction pairs with
  | nil => intro m h; exact h
  | cons p ps ih => intro m h; exact ih _ (mapSet_nodup m p.1 p.2 h)

theorem setAll_mem_iff : ∀ (pairs m : List (Bytes × Bytes)) (q : Bytes × Bytes),
    q ∈ setAll m pairs ↔ (lastValue pairs q.1 = some q.2 ∨ (lastValue pairs q.1 = none ∧ q ∈ m)) := by
  intro pairs
  induction pairs with
  | nil => intro m q; simp [setAll, lastValue]
  | cons p ps ih =>
    intro m q
    have hl : lastValue (p :: ps) q.1 =
        match lastValue ps q.1 with
        | some v => some v
        | none => if p.1 == q.1 then some p.2 else none := by
      unfold lastValue
      simp only [List.reverse_cons, List.find?_append]
      cases h : ps.reverse.find? (fun x => x.1 == q.1) with
      | some x => simp
      | none =>
        by_cases e : (p.1 == q.1) = true
        · simp [e]
        · simp [e]
    show q ∈ setAll (mapSet m p.1 p.2) ps ↔ _
    rw [ih, hl, mapSet_mem_iff]
    cases h : lastValue ps q.1 with
    | some v => simp
    | none =>
      by_cases e : p.1 = q.1
      · simp only [e, beq_self_eq_true, if_true, Option.some.injEq, ne_eq, not_true_eq_false, and_false, false_or,
          reduceCtorEq, false_and, or_false, true_and]
        constructor
        · intro h'; rw [h']
        · intro h'; cases q; simp_all
      · have e' : ¬ (p.1 == q.1) = true := by simpa using e
        have e2 : q.1 ≠ p.1 := fun h' => e h'.symm
        simp only [e', if_false, Bool.false_eq_true, reduceCtorEq, false_or, true_and, ne_eq, e2, not_false_eq_true, and_true]
        constructor
        · rintro (h' | h')
          · exact h'
          · exact absurd (congrArg Prod.fst h') e2
        · intro h'; exact Or.inl h'

theorem kvMap_spec (kvs : List Bytes) :
    ((parseKeyValuesIntoMap kvs).map (·.1)).Nodup ∧
    ∀ q : Bytes × Bytes, q ∈ parseKeyValuesIntoMap kvs ↔ lastValue (kvs.map parseKeyValue) q.1 = some q.2 := by
  rw [kvMap_eq]
  refine ⟨setAll_nodup _ [] (by simp), ?_⟩
  intro q
  rw [setAll_mem_iff]
  simp

theorem indexedMembers_names : ∀ (texts : List Bytes) (i : Nat),
    (indexedMembers i texts).map (·.1) = (List.range' i texts.length).map natAscii := by
  intro texts
  induction texts with
  | nil => intro i; simp [indexedMembers]
  | cons v r ih => intro i; simp [indexedMembers, ih, List.range'_succ]

theorem specialMembers_names (texts : List Bytes) (order : List (Bytes × Bytes)) :
    (specialMembers texts order).map (·.1) =
      (List.range texts.length).map natAscii ++ sortNames (order.map (·.1)) := by
  simp [specialMembers, indexedMembers_names, List.range_eq_range', Function.comp_def]

theorem indexed_names_nodup (n : Nat) : ((List.range n).map natAscii).Nodup := by
  unfold List.Nodup
  rw [List.pairwise_map]
  exact List.Pairwise.imp (fun h e => h (natAscii_inj _ _ e)) List.nodup_range

theorem marshal_text (order : List (Bytes × Bytes)) : marshalStringMap order = objText stringR order := by
  have : order.foldl (fun (jb : JB) p => jb.writeString p.1 p.2) JB.opened = writeAllW JB.writeString JB.opened order := rfl
  unfold marshalStringMap
  rw [this]
  exact writeAllW_opened writeString_eq order

theorem digVal_cons (c : UInt8) (r : Bytes) : digVal (c :: r) = (c.toNat - 48) * 10 ^ r.length + digVal r := by
  have := digVal_append [c] r
  simpa [digVal] using this

theorem digVal_lt : ∀ b : Bytes, b.all isDig = true → digVal b < 10 ^ b.length := by
  intro b
  induction b with
  | nil => intro _; simp [digVal]
  | cons c r ih =>
    intro h
    simp only [List.all_cons, Bool.and_eq_true] at h
    have h1 := ih h.2
    have hc : c.toNat - 48 ≤ 9 := by
      have := h.1
      simp only [isDig, Bool.and_eq_true, decide_eq_true_eq] at this
      have := UInt8.le_iff_toNat_le.mp this.2
      simp at this; omega
    rw [digVal_cons, List.length_cons, Nat.pow_succ]
    calc (c.toNat - 48) * 10 ^ r.length + digVal r
        < (c.toNat - 48) * 10 ^ r.length + 10 ^ r.length := by omega
      _ = (c.toNat - 48 + 1) * 10 ^ r.length := by rw [Nat.add_mul]; simp
      _ ≤ 10 * 10 ^ r.length := Nat.mul_le_mul_right _ (by omega)
      _ = 10 ^ r.length * 10 := Nat.mul_comm _ _

theorem natDigits_all (n : Nat) : (natDigits n).all isDig = true := Rare.natDigits_all n

theorem natDigits_length (n : Nat) : (natDigits n).length = (Nat.toDigits 10 n).length := by simp [natDigits]

theorem natDigits_no_leading_zero (n : Nat) : ¬ (1 < (natDigits n).length ∧ (natDigits n).head? = some 0x30) := by
  rintro ⟨hl, hh⟩
  have hv : digVal (natDigits n) = n := digVal_natAscii n
  have hall := natDigits_all n
  match hd : natDigits n, hl, hh with
  | a :: b :: r, _, hh =>
    simp at hh; subst hh
    rw [hd] at hv hall
    simp only [List.all_cons, Bool.and_eq_true] at hall
    have hlt := digVal_lt (b :: r) (by simp [hall.2])
    rw [digVal_cons] at hv
    have hn : n < 10 ^ (b :: r).length := by rw [← hv]; simpa using hlt
    have := (Nat.length_toDigits_le_iff (b := 10) (n := n) (k := (b :: r).length) (by decide) (by simp)).mpr hn
    rw [← natDigits_length, hd] at this
    simp at this
    omega

theorem parseNumber_itoa (n : Int) (t : Bytes) (ht : EndsNumber t) :
    parseNumber (itoa n ++ t) = some (.num n 0, t) := by
  have h := parseNumber_int (decide (n < 0)) (natDigits n.natAbs) t (natDigits_ne_nil _) (natDigits_all _)
    (natDigits_no_leading_zero _) ht
  rw [show digVal (natDigits n.natAbs) = n.natAbs from digVal_natAscii _] at h
  by_cases hn : n < 0
  · simp only [hn, decide_true, if_true] at h
    rw [itoa, if_pos hn, h]
    congr 3; omega
  · simp only [hn, decide_false, Bool.false_eq_true, if_false] at h
    rw [itoa, if_neg hn, h]
    congr 3; omega

theorem itoa_head (n : Int) : ∃ c r, itoa n = c :: r ∧ (c = 0x2d ∨ isDig c = true) := by
  unfold itoa
  split
  · exact ⟨_, _, rfl, .inl rfl⟩
  · have h := natDigits_all n.natAbs
    match hd : natDigits n.natAbs, natDigits_ne_nil n.natAbs with
    | c :: r, _ =>
      rw [hd] at h
      exact ⟨c, r, rfl, .inr (by simp only [List.all_cons, Bool.and_eq_true] at h; exact h.1)⟩

/-- the renderer of `WriteInt(_, n)` (constant in the string argument) -/
def intR (n : Int) : ValR :=
  ⟨fun _ => itoa n, fun _ => .num n 0,
   by
    intro _ t ht
    obtain ⟨c, r, hi, hc⟩ := itoa_head n
    have hp := parseNumber_itoa n t ht.endsNumber
    rw [hi] at hp ⊢
    rw [List.cons_append, (parseValue_number c _ hc).1]
    exact hp,
   by
    intro _ t
    obtain ⟨c, r, hi, hc⟩ := itoa_head n
    rw [hi]
    exact (parseValue_number c _ hc).2⟩

theorem writeInt_eq (n : Int) : Writes (intR n) (fun j k _ => j.writeInt k n) :=
  fun j k v => writeLiteral_text (intR n) j k v

end Rare.C16

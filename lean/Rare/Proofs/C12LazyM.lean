import Rare.Proofs.C12Rx
/-! Mode-level (case-sensitive / ignore-case) forms of the facts of `Proofs/C12Lazy.lean` and
`Proofs/C12Rx.lean`. -/
namespace Rare.C12

/-- the backtracking matcher of a mode -/
def lazyFor (ic : Bool) (p : Pat) (line : Bytes) : Option (List Nat) :=
  if ic then lazyDissectIC p line else lazyDissect p line

theorem lazyFor_eq_specFor (ic : Bool) (p : Pat) (line : Bytes) : lazyFor ic p line = specFor ic p line := by
  cases ic <;> simp [lazyFor, specFor, lazyDissectIC, specDissectIC, lazyDissect_eq_spec]

theorem map_ofNat_injective {a b : List Nat} (h : a.map Int.ofNat = b.map Int.ofNat) : a = b := by
  induction a generalizing b with
  | nil => cases b <;> simp_all
  | cons x xs ih =>
    cases b with
    | nil => simp at h
    | cons y ys =>
      simp only [List.map_cons, List.cons.injEq] at h
      rw [ih h.2, Int.ofNat_inj.mp h.1]

/-- what `CompileEx` accepts is in the class of the regex seam (`midLits`), in both modes -/
theorem midLits_patFor {ic : Bool} {p : Pat} (hp : p.Shape) {d : Dissect}
    (hc : compileEx p.render ic = .ok d) : midLits (patFor ic p).toks = true := by
  have hm := midLits_of_specErrors _ _ (compileEx_ok hp hc).1
  cases ic
  · simpa [patFor] using hm
  · simpa [patFor, Pat.lowerLits, midLits_lowerLit] using hm

end Rare.C12

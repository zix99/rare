import Rare.Proofs.ExprCore
import Rare.Model.C10
/-! Optimised and unoptimised compilation produce the same stage (C10). -/
namespace Rare.Expr

/-- One unfolding of the rune loop for a rune that is not a backslash. -/
theorem compileLoop_cons {fuel : Nat} {reg : Registry} {opt : Bool} {all : List Char} {r : Char} {rest : List Char}
    {i : Nat} {st : CompSt} (hr : ¬ r = '\\') :
    compileLoop fuel reg opt all (r :: rest) i st =
      if r = '{' then
        if st.inStatement = 0 then
          compileLoop fuel reg opt all rest (i + 1)
            { st with stages := (if st.sb.isEmpty then st.stages else st.stages ++ [Stage.lit (charsToBytes st.sb)]),
                      sb := (if st.sb.isEmpty then st.sb else []), startStatement := i, inStatement := 1 }
        else
          compileLoop fuel reg opt all rest (i + 1) { st with sb := st.sb ++ [r], inStatement := st.inStatement + 1 }
      else if r = '}' && st.inStatement > 0 then
        if st.inStatement = 1 then
          match closeStatement fuel reg opt all i st with
          | .error m => .error m
          | .ok st' => compileLoop fuel reg opt all rest (i + 1) { st' with sb := [], inStatement := 0 }
        else
          compileLoop fuel reg opt all rest (i + 1) { st with sb := st.sb ++ [r], inStatement := st.inStatement - 1 }
      else compileLoop fuel reg opt all rest (i + 1) { st with sb := st.sb ++ [r] } := by
  cases rest <;> simp only [compileLoop, hr, if_false] <;> rfl

def M1 (reg : Registry) (fuel : Nat) (all rs : List Char) (i : Nat) (st : CompSt) : Prop :=
  ∀ st', compileLoop fuel reg true all rs i st = .ok st' → compileLoop fuel reg false all rs i st = .ok st'
def M2 (reg : Registry) (fuel : Nat) (all : List Char) (i : Nat) (st : CompSt) : Prop :=
  ∀ st', closeStatement fuel reg true all i st = .ok st' → closeStatement fuel reg false all i st = .ok st'
def M3 (reg : Registry) (fuel : Nat) (as : List (List Char)) : Prop :=
  ∀ r, compileArgs fuel reg true as = .ok r → compileArgs fuel reg false as = .ok r
def M4 (reg : Registry) (fuel : Nat) (t : List Char) : Prop :=
  ∀ s e, compileF fuel reg true t = .ok (s, e) →
    ∃ s', compileF fuel reg false t = .ok (s', e) ∧ concatStages s' = concatStages s

/-- `closeStatement` depends on the optimiser only through the compilation of the call's arguments. -/
theorem closeStatement_opt {reg : Registry} {fuel : Nat} {all : List Char} {i : Nat} {st : CompSt}
    (h3 : ∀ name fargs, splitArgs st.sb = name :: fargs → reg name ≠ none → M3 reg fuel fargs) : M2 reg fuel all i st := by
  intro st' h
  unfold closeStatement at h ⊢
  cases hargs : splitArgs st.sb with
  | nil => rw [hargs] at h; exact h
  | cons name fargs =>
    rw [hargs] at h
    cases fargs with
    | nil => exact h
    | cons b r =>
      simp only at h ⊢
      cases hreg : reg name with
      | none => rw [hreg] at h; exact h
      | some f =>
        rw [hreg] at h
        cases hca : compileArgs fuel reg true (b :: r) with
        | error m => simp only [hca] at h; cases h
        | ok p => simp only [hca, h3 name _ hargs (hreg ▸ Option.some_ne_none f) p hca] at h ⊢; exact h

theorem opt_mutual (reg : Registry) :
    (∀ fuel all rs i st, M1 reg fuel all rs i st) ∧ (∀ fuel all i st, M2 reg fuel all i st) ∧
    (∀ fuel as, M3 reg fuel as) ∧ (∀ fuel t, M4 reg fuel t) := by
  apply compileLoop.mutual_induct reg true (M1 reg) (M2 reg) (M3 reg) (M4 reg)
  -- compileLoop
  · intro fuel all x st st' h; simpa [compileLoop] using h
  · intro fuel all i st st' h; simpa [compileLoop] using h
  · intro fuel all i st e rest' ih st' h
    simp only [compileLoop, if_true] at h ⊢
    exact ih _ h
  · intro fuel all rest i st h0 stages sb hne ih st' h
    rw [compileLoop_cons hne] at h ⊢
    simp only [if_true, h0] at h ⊢
    exact ih _ h
  · intro fuel all rest i st h0 hne ih st' h
    rw [compileLoop_cons hne] at h ⊢
    simp only [if_false, if_true, h0] at h ⊢
    exact ih _ h
  · intro fuel all r rest i st h1 h2 h3 h4 m hcl ih2 st' h
    rw [compileLoop_cons h1, if_neg h2, if_pos h3, if_pos h4, hcl] at h
    cases h
  · intro fuel all r rest i st h1 h2 h3 h4 st'' hcl ih2 ih1 st' h
    rw [compileLoop_cons h1, if_neg h2, if_pos h3, if_pos h4] at h ⊢
    rw [hcl] at h; rw [ih2 _ hcl]
    exact ih1 _ h
  · intro fuel all r rest i st h1 h2 h3 h4 ih st' h
    rw [compileLoop_cons h1, if_neg h2, if_pos h3, if_neg h4] at h ⊢
    exact ih _ h
  · intro fuel all r rest i st h1 h2 h3 ih st' h
    rw [compileLoop_cons h1, if_neg h2, if_neg h3] at h ⊢
    exact ih _ h
  -- closeStatement
  · intro fuel all i st args hargs
    exact closeStatement_opt fun name fargs e _ => by rw [show splitArgs st.sb = [] from hargs] at e; cases e
  · intro fuel all i st args a hargs
    exact closeStatement_opt fun name fargs e _ => by
      rw [show splitArgs st.sb = [a] from hargs] at e; cases e; exact fun _ h => by simpa only [compileArgs] using h
  · intro fuel all i st args name fargs hne hargs hreg
    exact closeStatement_opt fun _ _ e hr => by
      rw [show splitArgs st.sb = name :: fargs from hargs] at e; cases e; exact absurd hreg hr
  · intro fuel all i st args name fargs hne hargs f hreg m hca ih3
    exact closeStatement_opt fun _ _ e _ => by rw [show splitArgs st.sb = name :: fargs from hargs] at e; cases e; exact ih3
  · intro fuel all i st args name fargs hne hargs f hreg cargs aerrs hca m hf ih3
    exact closeStatement_opt fun _ _ e _ => by rw [show splitArgs st.sb = name :: fargs from hargs] at e; cases e; exact ih3
  · intro fuel all i st args name fargs hne hargs f hreg cargs aerrs hca b hf ih3
    exact closeStatement_opt fun _ _ e _ => by rw [show splitArgs st.sb = name :: fargs from hargs] at e; cases e; exact ih3
  -- compileArgs
  · intro fuel r h; simpa [compileArgs] using h
  · intro fuel a rest m hcf ih4 r h
    simp only [compileArgs, hcf] at h; cases h
  · intro fuel a rest cargs aerrs hcf m hca ih4 ih3 r h
    simp only [compileArgs, hcf, hca] at h; cases h
  · intro fuel a rest cargs aerrs hcf cargs' aerrs' hca ih4 ih3 r h
    obtain ⟨s', hs', hcs⟩ := ih4 _ _ hcf
    have := ih3 _ hca
    simp only [compileArgs, hcf, hca, hs', this] at h ⊢
    simp only [joinStages_eq] at h ⊢
    rw [hcs]; exact h
  -- compileF
  · intro t s e h; simp [compileF] at h
  · intro t fuel m hl ih1 s e h
    simp only [compileF, hl] at h; cases h
  · intro t fuel st' hl stages _ m ho ih1 s e h
    simp only [compileF, hl, if_true] at h
    rw [show optimize (if st'.sb.isEmpty = true then st'.stages else st'.stages ++ [Stage.lit (charsToBytes st'.sb)])
        = .error m from ho] at h
    cases h
  · intro t fuel st' hl stages _ s0 ho ih1 s e h
    have hl' := ih1 _ hl
    simp only [compileF, hl, if_true] at h
    rw [show optimize (if st'.sb.isEmpty = true then st'.stages else st'.stages ++ [Stage.lit (charsToBytes st'.sb)])
        = .ok s0 from ho] at h
    simp only [Except.ok.injEq, Prod.mk.injEq] at h
    obtain ⟨rfl, rfl⟩ := h
    refine ⟨_, by simp only [compileF, hl']; rfl, ?_⟩
    exact (optimize_sound _ _ ho).symm
  · intro t fuel st' hl hne; exact absurd rfl hne

/-- **Optimisation never changes a value.**  If compiling a template with static optimisation
    succeeds, compiling it without succeeds too, reports the same errors, and the two compiled
    expressions are the same stage – hence evaluate identically in every context. -/
theorem compile_opt_sound (reg : Registry) (t : List Char) (s : List Stage) (e : List CErr)
    (h : compile reg true t = .ok (s, e)) :
    ∃ s', compile reg false t = .ok (s', e) ∧ buildKey s' = buildKey s :=
  (opt_mutual reg).2.2.2 _ t s e h

end Rare.Expr

namespace Rare.C10
open Rare.Expr

theorem withArgs_run {α : Type} (args : List Stage) (ctx : Ctx) (vals : List Bytes)
    (hargs : args.map (·.run ctx) = vals.map .ok) (c : Comp α) :
    (withArgs args c).run ctx = c.run (argCtx ctx args.length vals) := by
  induction c with
  | ret a => rfl
  | getKey s k ih => simp only [withArgs, Comp.run, argCtx]; exact ih _
  | panic m => rfl
  | getMatch i k ih =>
    simp only [withArgs]
    split
    · rename_i h
      simp only [Comp.run, argCtx, h, if_true]
      exact ih _
    split
    · rename_i h0 h
      simp only [Comp.run, argCtx, h0, h, if_true, if_false]
      exact ih _
    · rename_i h0 h
      have hlt : i.toNat < args.length := by omega
      have hlen : vals.length = args.length := by
        have := congrArg List.length hargs; simpa using this.symm
      have hget : (args.getD i.toNat (.ret [])).run ctx = .ok (vals.getD i.toNat []) := by
        have h1 := congrArg (fun l => l[i.toNat]?) hargs
        simp only [List.getElem?_map] at h1
        rw [List.getD_eq_getElem?_getD, List.getD_eq_getElem?_getD]
        rw [List.getElem?_eq_getElem hlt] at h1 ⊢
        rw [List.getElem?_eq_getElem (by omega)] at h1 ⊢
        simpa using h1
      rw [Comp.run_bind, hget]
      simp only [Comp.run, argCtx, h0, h, if_false]
      exact ih _

def clean (l : Bytes) : Bytes := trimSpaceGo (trimAfterHash l)

/-- Specification of the joiner on already cleaned, non-blank lines: a line ending in `\` continues
    into the next one (the backslash dropped, nothing inserted). -/
def groupCont : List Bytes → Bytes → List Bytes
  | [], sb => if sb.isEmpty then [] else [sb]
  | l :: rest, sb =>
    if l.getLast? = some 92 then groupCont rest (sb ++ l.dropLast) else (sb ++ l) :: groupCont rest []

theorem joinPhrases_eq_groupCont (lines : List Bytes) : ∀ sb,
    joinPhrases lines sb = groupCont ((lines.map clean).filter (fun l => !l.isEmpty)) sb := by
  induction lines with
  | nil => intro sb; rfl
  | cons l rest ih =>
    intro sb
    simp only [joinPhrases, List.map_cons, List.filter_cons, clean]
    by_cases he : (trimSpaceGo (trimAfterHash l)).isEmpty = true
    · simp only [he, if_true, Bool.not_true, Bool.false_eq_true, if_false]; exact ih sb
    · simp only [he, Bool.false_eq_true, if_false, Bool.not_false, if_true, groupCont]
      split
      · exact ih _
      · rw [ih]

end Rare.C10

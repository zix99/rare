import Rare.Model.C12Rx
import Rare.Proofs.C02Rx
import Rare.Proofs.C12Lazy
import Rare.Proofs.C12Ext
/-!
Seam C12 / C02: C02's model of Go's regexp engine, run on the expression a dissect pattern stands
for (`Model/C12Rx.lean`), returns the dissect specification's answer.  The proof unfolds the
priority-ordered match list `den` of the expression into the backtracking matcher `lazyDissect`
(they are the same search, written twice) and then uses `lazyDissect_eq_spec`.
-/
namespace Rare.C12
open Rare.C02.Rx

/-! ### `firstFrom` algebra -/

theorem firstFrom_congr {α : Type} (f g : Nat → Option α) (fuel start : Nat)
    (h : ∀ i, start ≤ i → i < start + fuel → f i = g i) : firstFrom f fuel start = firstFrom g fuel start := by
  induction fuel generalizing start with
  | zero => rfl
  | succ k ih =>
    simp only [firstFrom]
    rw [h start (Nat.le_refl _) (by omega), ih (start + 1) (fun i a b => h i (by omega) (by omega))]

theorem firstFrom_map {α β : Type} (f : Nat → Option α) (g : α → β) (fuel start : Nat) :
    (firstFrom f fuel start).map g = firstFrom (fun j => (f j).map g) fuel start := by
  induction fuel generalizing start with
  | zero => rfl
  | succ k ih =>
    simp only [firstFrom]
    cases f start with
    | none => exact ih _
    | some x => rfl

theorem firstFrom_shift {α : Type} (f : Nat → Option α) (fuel start : Nat) :
    firstFrom f fuel start = firstFrom (fun m => f (start + m)) fuel 0 := by
  induction fuel generalizing start f with
  | zero => rfl
  | succ k ih =>
    simp only [firstFrom, Nat.add_zero]
    cases f start with
    | some x => rfl
    | none =>
      rw [ih f (start + 1), ih (fun m => f (start + m)) 1]
      apply firstFrom_congr
      intro i _ _
      show f (start + 1 + i) = f (start + (1 + i))
      congr 1; omega

theorem head?_flatMap_range' {α : Type} (F : Nat → List α) (k i : Nat) :
    ((List.range' i k).flatMap F).head? = firstFrom (fun j => (F j).head?) k i := by
  induction k generalizing i with
  | zero => rfl
  | succ k ih =>
    simp only [List.range'_succ, List.flatMap_cons, List.head?_append, firstFrom, ih]
    cases (F i).head? <;> rfl

/-! ### `den` of the building blocks -/

theorem den_anyByte (s : Bytes) (i : Nat) (c : Caps) :
    den s anyByte i c = if i < s.length then [(i + 1, c)] else [] := by
  simp only [anyByte, den]
  by_cases h : i < s.length
  · simp [h, inCls]
  · simp [h]

theorem den_litRe (s u : Bytes) (k : Re) (i : Nat) (c : Caps) :
    den s (litRe u k) i c = if u <+: s.drop i then den s k (i + u.length) c else [] := by
  induction u generalizing i with
  | nil => simp [litRe]
  | cons b bs ih =>
    simp only [litRe, den]
    by_cases h : i < s.length
    · have hd : s.drop i = s[i] :: s.drop (i + 1) := List.drop_eq_getElem_cons h
      simp only [List.getElem?_eq_getElem h, hd, List.cons_prefix_cons]
      by_cases hb : s[i] = b
      · subst hb
        have hin : inCls false [(s[i], s[i])] s[i] = true := by simp [inCls]
        simp only [hin, if_true, List.flatMap_cons, List.flatMap_nil, List.append_nil, ih, true_and,
          List.length_cons]
        rw [show i + 1 + bs.length = i + (bs.length + 1) by omega]
      · have hin : inCls false [(b, b)] s[i] = false := by
          simp only [inCls, List.any_cons, List.any_nil, Bool.or_false, Bool.false_bne]
          rw [Bool.and_eq_false_iff]
          by_cases h1 : b ≤ s[i]
          · right
            simp only [decide_eq_false_iff_not]
            intro h2
            exact hb (UInt8.le_antisymm h2 h1)
          · left; simp [h1]
        have hb' : ¬ (b = s[i]) := fun e => hb e.symm
        simp [hin, hb']
    · have hn : s.drop i = [] := List.drop_eq_nil_of_le (Nat.le_of_not_lt h)
      simp [List.getElem?_eq_none (Nat.le_of_not_lt h), hn]

theorem iter_lazy_any (s : Bytes) (c : Caps) : ∀ f i, i ≤ s.length → s.length - i ≤ f →
    iter (den s anyByte) false f i c = (List.range' i (s.length - i + 1)).map (·, c) := by
  intro f
  induction f with
  | zero =>
    intro i hi hf
    have : s.length - i = 0 := by omega
    simp [iter, this]
  | succ f ih =>
    intro i hi hf
    simp only [iter, Bool.false_eq_true, if_false, den_anyByte]
    by_cases h : i < s.length
    · simp only [h, if_true, List.filter_cons, Nat.lt_succ_self, decide_true, List.filter_nil,
        List.flatMap_cons, List.flatMap_nil, List.append_nil]
      rw [ih (i + 1) (by omega) (by omega)]
      rw [show s.length - i + 1 = (s.length - (i + 1) + 1) + 1 by omega, List.range'_succ]
      rfl
    · have : s.length - i = 0 := by omega
      simp [h, this]

theorem iter_greedy_any_head (s : Bytes) (c : Caps) : ∀ f i, i ≤ s.length → s.length - i ≤ f →
    (iter (den s anyByte) true f i c).head? = some (s.length, c) := by
  intro f
  induction f with
  | zero =>
    intro i hi hf
    have : i = s.length := by omega
    simp [iter, this]
  | succ f ih =>
    intro i hi hf
    simp only [iter, if_true, den_anyByte]
    by_cases h : i < s.length
    · simp only [h, if_true, List.filter_cons, Nat.lt_succ_self, decide_true, List.filter_nil,
        List.flatMap_cons, List.flatMap_nil, List.append_nil, List.head?_append]
      rw [ih (i + 1) (by omega) (by omega)]
      rfl
    · have : i = s.length := by omega
      simp [this]

/-! ### the capture log of the expression vs. the capture list of the specification -/

/-- the log after closing groups `n, n+1, …` with the spans `caps = [a₁, b₁, a₂, b₂, …]` -/
def logOf : List Nat → Nat → Caps → Caps
  | a :: b :: rest, n, c => logOf rest (n + 1) ((n, a, b) :: c)
  | _, _, c => c

theorem flatMap_pair_id (l : List Res) : (l.flatMap fun r => [(r.1, r.2)]) = l := by simp

/-- only the last token may lack its trailing literal -/
theorem midLits_cons {t : Tok} {ts : List Tok} (h : midLits (t :: ts) = true) :
    (t.lit = [] → ts = []) ∧ midLits ts = true := by
  cases ts with
  | nil => exact ⟨fun _ => rfl, rfl⟩
  | cons t' ts' =>
    simp only [midLits, Bool.and_eq_true, bne_iff_ne, ne_eq] at h
    exact ⟨fun hl => absurd hl h.1, h.2⟩

/-- **The priority list of the expression starts with the backtracking matcher's answer.** -/
theorem den_toksRe_head (s : Bytes) : ∀ (ts : List Tok) (n pos : Nat) (c : Caps),
    midLits ts = true → pos ≤ s.length →
    (den s (toksRe ts n) pos c).head? = (lazyToks s ts pos).map fun ce => (ce.2, logOf ce.1 n c) := by
  intro ts
  induction ts with
  | nil => intro n pos c _ _; simp [toksRe, den, lazyToks, logOf]
  | cons t ts ih =>
    intro n pos c hm hp
    obtain ⟨hlast, hmts⟩ := midLits_cons hm
    by_cases hl : t.lit = []
    · -- the last token: greedy loop to the end of the line
      cases hlast hl
      have hlen : pos + (s.length - pos) = s.length := by omega
      simp only [toksRe, hl, beq_self_eq_true, litRe, den, lazyToks, if_true, List.length_nil, Nat.add_zero,
        Option.map_some, hlen, List.append_nil]
      by_cases hs : t.skip = true
      · simp only [hs, if_true, den, flatMap_pair_id]
        rw [iter_greedy_any_head s c _ pos hp (by omega)]
        simp [logOf]
      · simp only [hs, Bool.false_eq_true, if_false, den, flatMap_pair_id, List.head?_map]
        rw [iter_greedy_any_head s c _ pos hp (by omega)]
        simp [logOf]
    · have hbeq : (t.lit == []) = false := by simpa using hl
      -- the list of the token's loop: positions pos, pos+1, …, len, each with its log
      have hloop : den s (if t.skip then Re.star (t.lit == []) anyByte else Re.grp n (Re.star (t.lit == []) anyByte)) pos c =
          (List.range' pos (s.length - pos + 1)).map fun j => (j, if t.skip then c else (n, pos, j) :: c) := by
        by_cases hs : t.skip = true
        · simp only [hs, if_true, den, hbeq]
          exact iter_lazy_any s c _ pos hp (by omega)
        · simp only [hs, Bool.false_eq_true, if_false, den, hbeq]
          rw [iter_lazy_any s c _ pos hp (by omega), List.map_map]
          rfl
      simp only [toksRe, den]
      rw [hloop, List.flatMap_map, head?_flatMap_range']
      simp only [lazyToks, hl, if_false]
      rw [firstFrom_map, firstFrom_shift (fuel := s.length - pos + 1) (start := pos)]
      apply firstFrom_congr
      intro m _ hm2
      simp only [den_litRe, List.isPrefixOf_iff_prefix]
      by_cases hpre : t.lit <+: s.drop (pos + m)
      · have hin := prefix_in_line hl hpre
        simp only [hpre, if_true]
        rw [ih _ _ _ hmts hin, Option.map_map]
        apply Option.map_congr
        intro ce _
        by_cases hs : t.skip = true
        · simp [hs]
        · simp [hs, logOf]
      · simp [hpre]

/-! ### `search` as `firstFrom`, the top level -/

theorem searchFrom_eq_firstFrom (s : Bytes) (r : Re) (fuel start : Nat) :
    searchFrom s r fuel start = firstFrom (fun p => (matchAt s r p).map fun res => (p, res)) fuel start := by
  induction fuel generalizing start with
  | zero => rfl
  | succ k ih =>
    simp only [searchFrom, firstFrom]
    cases matchAt s r start with
    | none => exact ih _
    | some x => rfl

theorem lookup_logOf : ∀ (m : Nat) (caps : List Nat) (k : Nat) (c : Caps) (n : Nat),
    caps.length = 2 * m → n < k → lookup (logOf caps k c) n = lookup c n := by
  intro m
  induction m with
  | zero =>
    intro caps k c n hl _
    have : caps = [] := List.length_eq_zero_iff.mp (by omega)
    subst this; rfl
  | succ m ih =>
    intro caps k c n hl hn
    match caps, hl with
    | a :: b :: rest, hl =>
      simp only [logOf]
      rw [ih rest (k + 1) _ n (by simp at hl; omega) (by omega)]
      have : (k == n) = false := by simp; omega
      simp [lookup, this]

theorem groupPairs_logOf : ∀ (m : Nat) (caps : List Nat) (k : Nat) (c : Caps),
    caps.length = 2 * m → groupPairs (logOf caps k c) m k = caps.map Int.ofNat := by
  intro m
  induction m with
  | zero =>
    intro caps k c hl
    have : caps = [] := List.length_eq_zero_iff.mp (by omega)
    subst this; rfl
  | succ m ih =>
    intro caps k c hl
    match caps, hl with
    | a :: b :: rest, hl =>
      have hr : rest.length = 2 * m := by simp at hl; omega
      simp only [logOf, groupPairs, List.map_cons]
      rw [ih rest (k + 1) _ hr]
      have : lookup (logOf rest (k + 1) ((k, a, b) :: c)) k = some (a, b) := by
        rw [lookup_logOf m rest (k + 1) _ k hr (by omega)]
        simp [lookup]
      simp [spanOf, this]


theorem matchAt_patRe (p : Pat) (line : Bytes) (hm : midLits p.toks = true) (i : Nat) (hi : i ≤ line.length) :
    matchAt line (patRe p) i =
      if p.pre <+: line.drop i then
        (lazyToks line p.toks (i + p.pre.length)).map fun ce => (ce.2, logOf ce.1 1 [])
      else none := by
  rw [matchAt_eq, patRe, den_litRe]
  by_cases hp : p.pre <+: line.drop i
  · have hlen : i + p.pre.length ≤ line.length := by
      have := hp.length_le
      simp only [List.length_drop] at this
      omega
    simp only [hp, if_true]
    exact den_toksRe_head line p.toks 1 _ [] hm hlen
  · simp [hp]

theorem search_patRe (p : Pat) (line : Bytes) (hm : midLits p.toks = true) :
    (search line (patRe p)).map (indicesOf (groupsOf p.toks)) = (lazyDissect p line).map (·.map Int.ofNat) := by
  simp only [search, searchFrom_eq_firstFrom, lazyDissect, firstFrom_map]
  apply firstFrom_congr
  intro i _ hi
  rw [matchAt_patRe p line hm i (by omega)]
  simp only [List.isPrefixOf_iff_prefix]
  by_cases hp : p.pre <+: line.drop i
  · simp only [hp, if_true, Option.map_map]
    apply Option.map_congr
    intro ce hce
    rw [lazyToks_eq_spec] at hce
    obtain ⟨caps, e⟩ := ce
    have hl : caps.length = 2 * groupsOf p.toks := specToks_caps_length hce
    simp only [Function.comp, indicesOf, groupPairs_logOf _ caps 1 [] hl]
    rfl
  · simp [hp]

/-- C02's regexp model on the pattern's expression = the backtracking matcher = the specification -/
theorem rxDissect_eq_spec (p : Pat) (line : Bytes) (hm : midLits p.toks = true) :
    rxDissect p line = (specDissect p line).map (·.map Int.ofNat) := by
  have h := search_patRe p line hm
  rw [lazyDissect_eq_spec] at h
  simp only [rxDissect, Rare.C02.Rx.findSubmatchIndex]
  cases hs : search line (patRe p) with
  | none =>
    rw [hs] at h
    cases hd : specDissect p line with
    | none => rfl
    | some r => rw [hd] at h; cases h
  | some m =>
    rw [hs] at h
    simp only [Option.map_some] at h
    rw [← h]
    simp [indicesOf]


/-- what `CompileEx` accepts has a trailing literal on every token but the last -/
theorem midLits_of_specErrors : ∀ (ts : List Tok) (seen : List Bytes), specErrors false ts seen = none → midLits ts = true := by
  intro ts
  induction ts with
  | nil => intro _ _; rfl
  | cons t ts ih =>
    intro seen h
    simp only [specErrors] at h
    split at h
    · cases h
    · rename_i h1
      split at h
      · cases h
      · cases ts with
        | nil => rfl
        | cons t' ts' =>
          have hl : t.lit ≠ [] := by
            intro hl
            exact h1 ⟨hl, Or.inl (by simp)⟩
          have := ih _ h
          simp [midLits, hl, this]

theorem midLits_lowerLit (ts : List Tok) : midLits (ts.map Tok.lowerLit) = midLits ts := by
  induction ts with
  | nil => rfl
  | cons t ts ih =>
    cases ts with
    | nil => rfl
    | cons t' ts' =>
      simp only [List.map_cons, midLits] at ih ⊢
      rw [ih]
      congr 1
      simp only [Tok.lowerLit, lower]
      cases hl : t.lit with
      | nil => rfl
      | cons a as => rfl


/-! ### the specification without positions: the line is an instance of the pattern -/

/-- `v₁ lit₁ v₂ lit₂ …` -/
def bodyOf (ts : List Tok) (vs : List Bytes) : Bytes := ((vs.zip ts).map fun vt => vt.1 ++ vt.2.lit).flatten

theorem endsOpen_cons_cons (t t' : Tok) (ts : List Tok) : endsOpen (t :: t' :: ts) = endsOpen (t' :: ts) := by
  simp [endsOpen, List.getLast?_cons_cons]

theorem isSplit_of_text {line : Bytes} : ∀ (ts : List Tok) (vs : List Bytes) (pos : Nat) (rest : Bytes),
    midLits ts = true → vs.length = ts.length → line.drop pos = bodyOf ts vs ++ rest → pos ≤ line.length →
    (endsOpen ts = true → rest = []) → IsSplit line ts pos (vs.map List.length) := by
  intro ts
  induction ts with
  | nil =>
    intro vs pos rest _ hl _ _ _
    have : vs = [] := List.length_eq_zero_iff.mp (by simpa using hl)
    subst this; simp [IsSplit]
  | cons t ts ih =>
    intro vs pos rest hm hl htext hp hopen
    match vs, hl with
    | v :: vs, hl =>
      have hl' : vs.length = ts.length := by simpa using hl
      simp only [bodyOf, List.zip_cons_cons, List.map_cons, List.flatten_cons] at htext
      have hlen := congrArg List.length htext
      simp only [List.length_drop, List.length_append] at hlen
      have hdrop : line.drop (pos + v.length) = t.lit ++ (bodyOf ts vs ++ rest) := by
        rw [← List.drop_drop, htext]
        simp [bodyOf, List.append_assoc]
      have hdrop2 : line.drop (pos + v.length + t.lit.length) = bodyOf ts vs ++ rest := by
        rw [← List.drop_drop, hdrop]; simp
      obtain ⟨hlast, hmts⟩ := midLits_cons hm
      simp only [List.map_cons, IsSplit]
      refine ⟨by omega, ?_, ?_⟩
      · by_cases hlit : t.lit = []
        · simp only [hlit, if_true]
          cases hlast hlit
          have hvs : vs = [] := List.length_eq_zero_iff.mp (by simpa using hl')
          subst hvs
          have hr : rest = [] := hopen (by simp [endsOpen, hlit])
          subst hr
          simp [hlit] at hlen
          omega
        · simp only [hlit, if_false]
          rw [hdrop]; exact List.prefix_append _ _
      · apply ih vs _ rest hmts hl' hdrop2 (by omega)
        intro ho
        cases ts with
        | nil => simp [endsOpen] at ho
        | cons t' ts' => exact hopen (by rw [endsOpen_cons_cons]; exact ho)

theorem isSplit_end_of_open {line : Bytes} : ∀ (ts : List Tok) (pos : Nat) (ns : List Nat),
    IsSplit line ts pos ns → endsOpen ts = true → (capsOf ts pos ns).2 = line.length := by
  intro ts
  induction ts with
  | nil => intro pos ns _ ho; simp [endsOpen] at ho
  | cons t ts ih =>
    intro pos ns h ho
    match ns, h with
    | n :: ns, h =>
      simp only [IsSplit] at h
      simp only [capsOf]
      cases ts with
      | nil =>
        have hlit : t.lit = [] := by simpa [endsOpen] using ho
        have h2 := h.2.1
        simp only [hlit, if_true] at h2
        have hns : ns = [] := by simpa [IsSplit] using h.2.2
        subst hns
        simp [capsOf, hlit, h2]
      | cons t' ts' =>
        exact ih _ _ h.2.2 (by rw [endsOpen_cons_cons] at ho; exact ho)

/-- **Readings and instances are the same thing**: the line has a reading (`IsMatch`) iff it is an
instance of the pattern (`IsInstance`: `before ++ lit₀ v₁ lit₁ … ++ after`). -/
theorem isInstance_iff_isMatch (p : Pat) (hm : midLits p.toks = true) (line : Bytes) :
    IsInstance p line ↔ ∃ s ns, IsMatch p line s ns := by
  constructor
  · rintro ⟨a, vs, rest, hl, htext, hopen⟩
    have hlen := congrArg List.length htext
    simp only [instantiate, List.length_append] at hlen
    have hd : line.drop a.length = p.pre ++ (bodyOf p.toks vs ++ rest) := by
      rw [htext]; simp [instantiate, bodyOf, List.append_assoc]
    have hd2 : line.drop (a.length + p.pre.length) = bodyOf p.toks vs ++ rest := by
      rw [← List.drop_drop, hd]; simp
    exact ⟨a.length, vs.map List.length, by omega, by rw [hd]; exact List.prefix_append _ _,
      isSplit_of_text p.toks vs _ rest hm hl hd2 (by omega) hopen⟩
  · rintro ⟨s, ns, hb, hpre, hsplit⟩
    obtain ⟨h1, h2, h3⟩ := split_span hsplit hb
    refine ⟨line.take s, valuesOf line p.toks (s + p.pre.length) ns,
      line.drop (capsOf p.toks (s + p.pre.length) ns).2, valuesOf_length (IsSplit_length hsplit), ?_, ?_⟩
    · generalize hE : (capsOf p.toks (s + p.pre.length) ns).2 = E at h1 h2 h3
      simp only [instantiate, ← h1]
      have e1 : line.drop s = p.pre ++ line.drop (s + p.pre.length) := by
        rw [← List.drop_drop]
        conv => lhs; rw [← List.take_append_drop p.pre.length (line.drop s)]
        rw [take_of_prefix hpre]
      have e2 : line.drop (s + p.pre.length) =
          (line.drop (s + p.pre.length)).take (E - (s + p.pre.length)) ++ line.drop E := by
        conv => lhs; rw [← List.take_append_drop (E - (s + p.pre.length)) (line.drop (s + p.pre.length))]
        rw [List.drop_drop]
        congr 2; omega
      conv => lhs; rw [← List.take_append_drop s line, e1, e2]
      simp [List.append_assoc]
    · intro ho
      rw [isSplit_end_of_open _ _ _ hsplit ho]
      simp

end Rare.C12

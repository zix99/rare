import Rare.Proofs.ExprSafe
import Rare.Model.Expr.Std
/-!
C08: a table with every name once (the first entry of a name is the one `lookupTable` – and so the registry –
resolves; later entries of the same name are dead).  `stdTable` lists `bytesize` `bytesizesi` `downscale` twice: the
binary64 builders of `Funcs/Float.lean` come first, the integer-only ones of `Funcs/Strings.lean` are shadowed.
-/
namespace Rare.C08
open Rare Rare.Expr

/-- keep the first entry of every name (`seen`: names already met) -/
def dedup : Table → List String → Table
  | [], _ => []
  | p :: r, seen => if p.1 ∈ seen then dedup r seen else p :: dedup r (p.1 :: seen)

theorem beq_false_of_ne {a b : String} (h : a ≠ b) : (a == b) = false := by
  apply Bool.eq_false_iff.mpr
  intro he
  exact h (by simpa using he)

/-- an entry of the deduplicated table is the entry `find?` resolves for its name -/
theorem mem_dedup_find (t : Table) : ∀ (seen : List String) (p : String × Builder), p ∈ dedup t seen →
    t.find? (fun x => x.1 == p.1) = some p ∧ p.1 ∉ seen := by
  induction t with
  | nil => intro seen p h; simp [dedup] at h
  | cons q r ih =>
    intro seen p h
    simp only [dedup] at h
    by_cases hs : q.1 ∈ seen
    · rw [if_pos hs] at h
      obtain ⟨h1, h2⟩ := ih seen p h
      refine ⟨?_, h2⟩
      have hne : (q.1 == p.1) = false := beq_false_of_ne fun (e : q.1 = p.1) => h2 (e ▸ hs)
      rw [List.find?_cons, hne]
      exact h1
    · rw [if_neg hs] at h
      rcases List.mem_cons.mp h with e | h'
      · subst e
        exact ⟨by rw [List.find?_cons]; simp, hs⟩
      · obtain ⟨h1, h2⟩ := ih (q.1 :: seen) p h'
        have hne' : q.1 ≠ p.1 := fun e => h2 (by simp [e])
        refine ⟨?_, fun hin => h2 (List.mem_cons_of_mem _ hin)⟩
        rw [List.find?_cons, beq_false_of_ne hne']
        exact h1

/-- looking a name up in the deduplicated table is looking it up in the table -/
theorem find_dedup (t : Table) (n : String) : ∀ seen : List String,
    (dedup t seen).find? (fun x => x.1 == n) = if n ∈ seen then none else t.find? (fun x => x.1 == n) := by
  induction t with
  | nil => intro seen; simp [dedup]
  | cons q r ih =>
    intro seen
    simp only [dedup]
    by_cases hs : q.1 ∈ seen
    · rw [if_pos hs, ih seen]
      by_cases hn : n ∈ seen
      · rw [if_pos hn, if_pos hn]
      · rw [if_neg hn, if_neg hn, List.find?_cons, beq_false_of_ne fun (e : q.1 = n) => hn (e ▸ hs)]
    · rw [if_neg hs]
      by_cases hq : q.1 = n
      · have hn : n ∉ seen := hq ▸ hs
        rw [if_neg hn, List.find?_cons, List.find?_cons]
        have : (q.1 == n) = true := by simp [hq]
        rw [this]
      · rw [List.find?_cons, beq_false_of_ne hq, ih (q.1 :: seen), List.find?_cons, beq_false_of_ne hq]
        by_cases hn : n ∈ seen
        · rw [if_pos hn, if_pos (List.mem_cons_of_mem _ hn)]
        · have : n ∉ q.1 :: seen := by
            intro h
            rcases List.mem_cons.mp h with e | e
            · exact hq e.symm
            · exact hn e
          rw [if_neg hn, if_neg this]

theorem find?_congr' {α : Type} (p q : α → Bool) : ∀ l : List α, (∀ x ∈ l, p x = q x) → l.find? p = l.find? q
  | [], _ => rfl
  | a :: r, h => by
    rw [List.find?_cons, List.find?_cons, h a (by simp), find?_congr' p q r fun x hx => h x (by simp [hx])]

theorem lookup_dedup (t : Table) (n : String) : lookupTable (dedup t []) n = lookupTable t n := by
  unfold lookupTable
  rw [find_dedup t n []]
  simp

/-- A registry made of a table of safe builders (and no names outside the model) is safe. -/
theorem mkRegistry_safe {t : Table} (ht : ∀ p ∈ t, SafeBuilder p.2) : SafeRegistry (mkRegistry t []) := by
  intro name b h
  unfold mkRegistry lookupTable at h
  cases hf : t.find? (fun x => x.1 == String.ofList name) with
  | none => simp [hf] at h
  | some p =>
    simp only [hf, Option.map_some, Option.some.injEq] at h
    exact h ▸ ht p (List.mem_of_find?_eq_some hf)

end Rare.C08

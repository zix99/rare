import Rare.Proofs.C10
import Rare.Model.C10State
/-! Hidden state of stage closures: the date-layout cache and pooled context objects. -/
namespace Rare.C10
open Rare.Expr

/-! ### probing = running against the all-empty context -/

theorem probeN_run_empty {α : Type} (c : Comp α) : ∀ n,
    c.run emptyCtx = match c.probeN n with
      | .ok (a, _) => .ok a
      | .error m => .error m := by
  induction c with
  | ret a => intro n; rfl
  | getMatch i k ih => intro n; exact ih _ _
  | getKey s k ih => intro n; exact ih _ _
  | panic m => intro n; rfl

theorem bind_eq_ret {α β : Type} {c : Comp α} {f : α → Comp β} {b : β} (h : c.bind f = .ret b) :
    ∃ a, c = .ret a ∧ f a = .ret b := by
  cases c with
  | ret a => exact ⟨a, rfl, h⟩
  | getMatch i k => simp [Comp.bind] at h
  | getKey s k => simp [Comp.bind] at h
  | panic m => simp [Comp.bind] at h

theorem emptyOf_of_probeN {s : Stage} {v : Bytes} {n m : Nat} (h : s.probeN n = .ok (v, m)) : emptyOf s = v := by
  have h0 := probeN_run_empty s 0
  have hn := probeN_run_empty s n
  rw [h] at hn
  rw [hn] at h0
  unfold emptyOf Comp.probe
  cases hp : s.probeN 0 with
  | error e => rw [hp] at h0; cases h0
  | ok p => obtain ⟨a, k⟩ := p; rw [hp] at h0; simp only [Except.ok.injEq] at h0; simp [h0]

@[simp] theorem timeTouches_real (rev : TimeRev) (c : Bool) (s : Bytes) : timeTouches rev c false s = false := by
  simp [timeTouches]

@[simp] theorem timeTouches_const (rev : TimeRev) (static : Bool) (s : Bytes) : timeTouches rev true static s = false := by
  simp [timeTouches]

@[simp] theorem timeTouches_empty (rev : TimeRev) (c static : Bool) : timeTouches rev c static [] = false := by
  simp [timeTouches]

theorem timeTouches_cur_static {s : Bytes} (h : s ≠ []) : timeTouches .cur false true s = true := by
  simp [timeTouches, h]

@[simp] theorem touchIf_false {α : Type} (c : Comp α) : touchIf false c = c := rfl

theorem touchIf_true {α : Type} (c : Comp α) : touchIf true c = .getMatch (-1) fun _ => c := rfl

/-- A touch is invisible to an evaluation (the answer is dropped). -/
theorem run_touchIf {α : Type} (b : Bool) (c : Comp α) (ctx : Ctx) : (touchIf b c).run ctx = c.run ctx := by
  cases b <;> rfl

/-- …and counted by the monitor. -/
theorem probeN_touchIf {α : Type} (b : Bool) (c : Comp α) (n : Nat) :
    (touchIf b c).probeN n = c.probeN (if b then n + 1 else n) := by
  cases b <;> rfl

theorem constOf_ret (d : Bytes) : constOf (.ret d : Stage) = true := rfl

/-! ### what `optimize` makes of a stage with hidden state -/

/-- A static analysis that reports "constant" made no look-up: there the stage is a literal. -/
theorem probeStep_const {σ α : Type} {s : SComp σ α} {st : σ} {v : α} (h : (s.probeStep st).1 = .ok (v, true)) :
    s true st = .ret (v, (s.probeStep st).2) := by
  unfold SComp.probeStep at h ⊢
  cases hq : (s true st).probe with
  | error m => rw [hq] at h; cases h
  | ok q =>
    obtain ⟨⟨v', s'⟩, c'⟩ := q
    rw [hq] at h
    cases h
    exact Comp.probe_constant _ _ hq

/-- The stage is left alone, or replaced by the value of a static analysis that made no look-up. -/
theorem optimizeS_cases {σ : Type} (s : SStage σ) (st : σ) :
    optimizeS s st = s ∨
      ∃ v, s true st = .ret (v, (s.probeStep st).2) ∧ optimizeS s st = fun _ st' => .ret (v, st') := by
  unfold optimizeS
  cases hp : (s.probeStep st).1 with
  | error m => exact .inl rfl
  | ok p =>
    obtain ⟨v, c⟩ := p
    cases c
    · exact .inl rfl
    · exact .inr ⟨v, probeStep_const hp, rfl⟩

/-! ### histories: static analyses are invisible when they only touch what real evaluations do not see -/

/-- `π` projects the state onto what evaluations on input see; if they depend on the state through `π` only and a
    static analysis leaves `π` alone, static analyses can be struck out of every history. -/
theorem probe_invisible_of {σ ρ : Type} (s : SStage σ) (π : σ → ρ)
    (hreal : ∀ st st' ctx, π st = π st' → (s.step st ctx).1 = (s.step st' ctx).1 ∧ π (s.step st ctx).2 = π (s.step st' ctx).2)
    (hprobe : ∀ st, π (s.probeStep st).2 = π st) (evs : List Ev) :
    ∀ st st', π st = π st' → runEvents s st evs = runEvents s st' (evs.filter Ev.isReal) := by
  induction evs with
  | nil => intro st st' _; rfl
  | cons e rest ih =>
    intro st st' h
    cases e with
    | real ctx =>
      simp only [runEvents, List.filter_cons, Ev.isReal, if_true]
      rw [(hreal st st' ctx h).1, ih _ _ (hreal st st' ctx h).2]
    | probe =>
      simp only [runEvents, List.filter_cons, Ev.isReal, Bool.false_eq_true, if_false]
      exact ih _ _ ((hprobe st).trans h)

/-- …and histories from states with the same projection answer alike. -/
theorem events_agree_of {σ ρ : Type} (s : SStage σ) (π : σ → ρ)
    (hreal : ∀ st st' ctx, π st = π st' → (s.step st ctx).1 = (s.step st' ctx).1 ∧ π (s.step st ctx).2 = π (s.step st' ctx).2)
    (hprobe : ∀ st, π (s.probeStep st).2 = π st) (evs : List Ev) (st st' : σ) (h : π st = π st') :
    runEvents s st evs = runEvents s st' evs :=
  (probe_invisible_of s π hreal hprobe evs st st' h).trans (probe_invisible_of s π hreal hprobe evs st' st' rfl).symm

/-- A static analysis never writes `atomicFormat` (code as it is). -/
theorem timeStep_cur_static {L : Type} (lib : TimeLib L) (e s : Bytes) (st : TimeSt L) :
    (timeStep .cur lib e true s st).2.real = st.real := by
  unfold timeStep
  by_cases h : s = []
  · simp [h]
  · simp only [h, if_false]
    cases hs : st.static with
    | some l => simp
    | none =>
      cases lib.detect s with
      | none => simp
      | some l => by_cases h2 : s = e <;> simp [h2]

/-- An evaluation on input sees `atomicFormat` only. -/
theorem timeStep_cur_real {L : Type} (lib : TimeLib L) (e s : Bytes) (st st' : TimeSt L) (h : st.real = st'.real) :
    (timeStep .cur lib e false s st).1 = (timeStep .cur lib e false s st').1 ∧
      (timeStep .cur lib e false s st).2.real = (timeStep .cur lib e false s st').2.real := by
  unfold timeStep
  by_cases hs : s = []
  · simp [hs, h]
  · simp only [hs, if_false]
    rw [← h]
    cases hr : st.real with
    | some l => simp [← h, hr]
    | none =>
      cases lib.detect s with
      | none => simp [← h, hr]
      | some l => by_cases h2 : s = e <;> simp [← h, hr, h2]

theorem timeCache_hreal {L : Type} (lib : TimeLib L) (date : Stage) (st st' : TimeSt L) (ctx : Ctx)
    (h : st.real = st'.real) :
    ((timeCache lib date).step st ctx).1 = ((timeCache lib date).step st' ctx).1 ∧
      ((timeCache lib date).step st ctx).2.real = ((timeCache lib date).step st' ctx).2.real := by
  unfold SComp.step timeCache timeCacheRev
  rw [Comp.run_bind, Comp.run_bind]
  cases date.run ctx with
  | error m => exact ⟨rfl, h⟩
  | ok s =>
    have := timeStep_cur_real lib (emptyOf date) s st st' h
    simp only [timeTouches_real, touchIf_false, Comp.run]
    exact ⟨by rw [this.1], this.2⟩

theorem timeCache_probeStep {L : Type} (lib : TimeLib L) (date : Stage) (st : TimeSt L) :
    ((timeCache lib date).probeStep st).2.real = st.real := by
  unfold SComp.probeStep Comp.probe timeCache timeCacheRev
  rw [Comp.probeN_bind]
  cases hp : date.probeN 0 with
  | error m => rfl
  | ok p =>
    obtain ⟨v, n⟩ := p
    simp only [probeN_touchIf, Comp.probeN]
    exact timeStep_cur_static lib _ v st

theorem time_probe_invisible {L : Type} (lib : TimeLib L) (date : Stage) (evs : List Ev) (st : TimeSt L) :
    runEvents (timeCache lib date) st evs = runEvents (timeCache lib date) st (evs.filter Ev.isReal) :=
  probe_invisible_of _ TimeSt.real (timeCache_hreal lib date) (timeCache_probeStep lib date) evs st st rfl

/-- A literal has no hidden state: every history gives the literal. -/
theorem runEvents_lit {σ : Type} (v : Bytes) (evs : List Ev) : ∀ st : σ,
    runEvents (fun _ st' => (.ret (v, st') : Comp (Bytes × σ))) st evs = (evs.filter Ev.isReal).map fun _ => .ok v := by
  induction evs with
  | nil => intro st; rfl
  | cons e rest ih =>
    intro st
    cases e with
    | real ctx =>
      simp only [runEvents, List.filter_cons, Ev.isReal, if_true, List.map_cons, SComp.step, Comp.run]
      rw [ih]
    | probe =>
      simp only [runEvents, List.filter_cons, Ev.isReal, Bool.false_eq_true, if_false, SComp.probeStep, Comp.probe,
        Comp.probeN]
      exact ih st

/-- What the `cache` stage answers for a CONSTANT date `d` while nothing is remembered: `d` parsed by its own
    layout. -/
def ownLayout {L : Type} (lib : TimeLib L) (d : Bytes) : Bytes :=
  if d = [] then ErrorParsing else
  match lib.detect d with
  | none => ErrorParsing
  | some l => lib.parseOr l d

theorem timeStep_const {L : Type} (lib : TimeLib L) (d : Bytes) (static : Bool) (st : TimeSt L)
    (h : (if static then st.static else st.real) = none) :
    timeStep .cur lib d static d st = (ownLayout lib d, st) := by
  unfold timeStep ownLayout
  by_cases hd : d = []
  · simp [hd]
  · cases static <;> simp only [Bool.false_eq_true, if_false, if_true] at h <;>
      cases lib.detect d <;> simp [hd, h]

/-- A `cache` stage over a CONSTANT date never remembers anything and answers the same every time. -/
theorem runEvents_time_const {L : Type} (lib : TimeLib L) (d : Bytes) (evs : List Ev) :
    runEvents (timeCache lib (.ret d)) TimeSt.fresh evs = (evs.filter Ev.isReal).map fun _ => .ok (ownLayout lib d) := by
  have he : emptyOf (.ret d : Stage) = d := rfl
  induction evs with
  | nil => rfl
  | cons e rest ih =>
    cases e with
    | real ctx =>
      simp only [runEvents, List.filter_cons, Ev.isReal, if_true, List.map_cons, SComp.step, timeCache, timeCacheRev,
        Comp.bind, timeTouches_real, touchIf_false, Comp.run, he, timeStep_const lib d false TimeSt.fresh rfl]
      exact congrArg _ ih
    | probe =>
      simp only [runEvents, List.filter_cons, Ev.isReal, Bool.false_eq_true, if_false, SComp.probeStep, Comp.probe,
        timeCache, timeCacheRev, Comp.bind, constOf_ret, timeTouches_const, touchIf_false, Comp.probeN, he,
        timeStep_const lib d true TimeSt.fresh rfl]
      exact ih

theorem time_optimize_events {L : Type} (lib : TimeLib L) (date : Stage) (evs : List Ev) :
    runEvents (optimizeS (timeCache lib date) TimeSt.fresh) ((timeCache lib date).probeStep TimeSt.fresh).2 evs
      = runEvents (timeCache lib date) TimeSt.fresh evs := by
  rcases optimizeS_cases (timeCache lib date) TimeSt.fresh with h | ⟨v, hret, h⟩ <;> rw [h]
  · exact events_agree_of _ TimeSt.real (timeCache_hreal lib date) (timeCache_probeStep lib date) evs _ _
      (timeCache_probeStep lib date _)
  · -- the stage made no look-up: the date expression is a literal
    obtain ⟨d, hd, hf⟩ := bind_eq_ret (c := date) hret
    subst hd
    have he : emptyOf (.ret d : Stage) = d := rfl
    rw [he, constOf_ret, timeTouches_const, touchIf_false, timeStep_const lib d true TimeSt.fresh rfl] at hf
    rw [runEvents_lit, runEvents_time_const, ← (Prod.mk.inj (Comp.ret.inj hf)).1]

/-! ### counterexamples (a toy library: the layout of a date is its length) -/

/-- `detect s` = the length of `s`; `parse l s` succeeds iff `s` has length `l`. -/
def toyLib : TimeLib Nat := ⟨fun s => some s.length, fun l s => if s.length = l then some s else none⟩

/-- `"ab{0}"` -/
def toyDate : Stage := .getMatch 0 fun b => .ret ([97, 98] ++ b)

def toyCtx (v : Bytes) : Ctx := ⟨fun _ => v, fun _ => []⟩

/-! ### a `cache` stage reached through sub-contexts -/

theorem timeOnElems_probe {L : Type} (lib : TimeLib L) (elems : List Stage) :
    ∀ (st : TimeSt L) (n : Nat) (r : List Bytes × TimeSt L) (m : Nat),
    (timeOnElems .cur lib elems true st).probeN n = .ok (r, m) → r.2.real = st.real := by
  induction elems with
  | nil => intro st n r m h; simp only [timeOnElems, Comp.probeN, Except.ok.injEq, Prod.mk.injEq] at h; rw [← h.1]
  | cons e rest ih =>
    intro st n r m h
    simp only [timeOnElems] at h
    rw [Comp.probeN_bind] at h
    cases hp : e.probeN n with
    | error msg => rw [hp] at h; cases h
    | ok p =>
      obtain ⟨v, n'⟩ := p
      rw [hp] at h
      simp only [probeN_touchIf] at h
      rw [Comp.probeN_bind] at h
      generalize (if timeTouches .cur false true v = true then n' + 1 else n') = n'' at h
      cases hr : (timeOnElems .cur lib rest true (timeStep .cur lib [] true v st).2).probeN n'' with
      | error msg => rw [hr] at h; cases h
      | ok q =>
        obtain ⟨q1, m'⟩ := q
        rw [hr] at h
        simp only [Comp.probeN, Except.ok.injEq, Prod.mk.injEq] at h
        have := ih _ n'' q1 m' hr
        rw [← h.1]; simp only; rw [this]; exact timeStep_cur_static lib [] v st

theorem timeMap_probeStep {L : Type} (lib : TimeLib L) (elems : List Stage) (st : TimeSt L) :
    ((timeMapStage .cur lib elems).probeStep st).2.real = st.real := by
  unfold SComp.probeStep Comp.probe timeMapStage
  rw [Comp.probeN_bind]
  cases hp : (timeOnElems .cur lib elems true st).probeN 0 with
  | error m => rfl
  | ok p =>
    obtain ⟨r, n⟩ := p
    simp only [Comp.probeN]
    exact timeOnElems_probe lib elems st 0 r n hp

theorem run_bind_ret {α β : Type} (c : Comp α) (f : α → β) (ctx : Ctx) :
    (c.bind fun a => .ret (f a)).run ctx = (c.run ctx).map f := by
  rw [Comp.run_bind]; cases c.run ctx <;> rfl

/-- Evaluations on input of the enclosing stage see `atomicFormat` only. -/
theorem timeOnElems_real {L : Type} (lib : TimeLib L) (elems : List Stage) (ctx : Ctx) :
    ∀ (st st' : TimeSt L), st.real = st'.real →
    ((timeOnElems .cur lib elems false st).run ctx).map (fun p => (p.1, p.2.real))
      = ((timeOnElems .cur lib elems false st').run ctx).map (fun p => (p.1, p.2.real)) := by
  induction elems with
  | nil => intro st st' h; simp only [timeOnElems, Comp.run, Except.map, h]
  | cons e rest ih =>
    intro st st' h
    simp only [timeOnElems]
    rw [Comp.run_bind, Comp.run_bind]
    cases e.run ctx with
    | error m => rfl
    | ok v =>
      obtain ⟨h1, h2⟩ := timeStep_cur_real lib [] v st st' h
      have key : ∀ (x : Except String (List Bytes × TimeSt L)) (a : Bytes),
          (x.map fun p => (a :: p.1, p.2)).map (fun p => (p.1, p.2.real))
            = (x.map fun p => (p.1, p.2.real)).map fun q => (a :: q.1, q.2) := fun x a => by cases x <;> rfl
      simp only [timeTouches_real, touchIf_false, run_bind_ret, h1]
      rw [key, key, ih _ _ h2]

theorem timeMap_hreal {L : Type} (lib : TimeLib L) (elems : List Stage) (st st' : TimeSt L) (ctx : Ctx)
    (h : st.real = st'.real) :
    ((timeMapStage .cur lib elems).step st ctx).1 = ((timeMapStage .cur lib elems).step st' ctx).1 ∧
      ((timeMapStage .cur lib elems).step st ctx).2.real = ((timeMapStage .cur lib elems).step st' ctx).2.real := by
  have := timeOnElems_real lib elems ctx st st' h
  unfold SComp.step timeMapStage
  rw [run_bind_ret, run_bind_ret]
  cases h1 : (timeOnElems .cur lib elems false st).run ctx <;>
    cases h2 : (timeOnElems .cur lib elems false st').run ctx <;>
    simp only [h1, h2, Except.map, Except.ok.injEq, Except.error.injEq, Prod.mk.injEq, reduceCtorEq] at this ⊢
  · exact ⟨this, h⟩
  · exact ⟨congrArg _ this.1, this.2⟩

theorem timeMap_probe_invisible {L : Type} (lib : TimeLib L) (elems : List Stage) (evs : List Ev) (st : TimeSt L) :
    runEvents (timeMapStage .cur lib elems) st evs = runEvents (timeMapStage .cur lib elems) st (evs.filter Ev.isReal) :=
  probe_invisible_of _ TimeSt.real (timeMap_hreal lib elems) (timeMap_probeStep lib elems) evs st st rfl

theorem withSub_run' {α : Type} (ctx : Ctx) (v0 v1 : Bytes) (c : Comp α) :
    (c.withSub v0 v1).run ctx = c.run (SubObj.ctx ⟨ctx, v0, v1⟩) := by
  induction c with
  | ret a => rfl
  | getMatch i k ih =>
    simp only [Comp.withSub]
    split
    · rename_i h; simp only [Comp.run, ih, SubObj.ctx, h, if_true]
    · rename_i h; simp only [Comp.run, ih, SubObj.ctx, h, if_false]
  | getKey s k ih => simp only [Comp.withSub, Comp.run, ih, SubObj.ctx]
  | panic m => rfl

end Rare.C10

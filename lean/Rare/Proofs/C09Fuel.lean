import Rare.Proofs.C09Loop
/-! C09: the recursion fuel of `compile` (template length + 1) always suffices. -/
namespace Rare.C09
open Rare Rare.Expr

/-! ### the scanner does not depend on fuel beyond what its arguments need -/

section
variable (g1 g2 : Nat) (reg : Registry) (opt : Bool)

theorem args_eq (fargs : List (List Char))
    (h : ∀ a ∈ fargs, compileF g1 reg opt a = compileF g2 reg opt a) :
    compileArgs g1 reg opt fargs = compileArgs g2 reg opt fargs := by
  induction fargs with
  | nil => rw [compileArgs, compileArgs]
  | cons a r ih =>
    rw [compileArgs, compileArgs, h a (by simp), ih (fun b hb => h b (by simp [hb]))]

theorem close_eq (all : List Char) (i : Nat) (st : CompSt)
    (h : ∀ a ∈ splitArgs st.sb, compileF g1 reg opt a = compileF g2 reg opt a) :
    closeStatement g1 reg opt all i st = closeStatement g2 reg opt all i st := by
  rw [closeStatement, closeStatement]
  match hs : splitArgs st.sb with
  | [] => rfl
  | [a] => rfl
  | name :: b :: r =>
    have : compileArgs g1 reg opt (b :: r) = compileArgs g2 reg opt (b :: r) :=
      args_eq g1 g2 reg opt _ (fun a ha => h a (by rw [hs]; simp [List.mem_cons.mp ha]))
    simp only [this]

theorem loop_eq (N : Nat) (all : List Char)
    (hA : ∀ a : List Char, a.length < N → compileF g1 reg opt a = compileF g2 reg opt a) :
    ∀ (rest : List Char) (i : Nat) (st : CompSt), st.sb.length + rest.length ≤ N →
      compileLoop g1 reg opt all rest i st = compileLoop g2 reg opt all rest i st := by
  refine loop_induction g1 reg opt all (P := fun rest i st r => r = compileLoop g2 reg opt all rest i st) N
    ?_ ?_ ?_ ?_ ?_ ?_ ?_ ?_ ?_
  · intro i st; rw [loop_nil]
  · intro i st; rw [loop_esc_last]
  · intro e rest i st r ih; rw [loop_esc]; exact ih
  · intro rest i st r h0 ih; rw [loop_open0 _ _ _ _ _ _ _ h0]; exact ih
  · intro rest i st r h0 ih; rw [loop_openN _ _ _ _ _ _ _ h0]; exact ih
  · intro rest i st m h1 ha hc
    rw [loop_close1 _ _ _ _ _ _ _ h1, ← close_eq g1 g2 reg opt all i st fun a h => hA a (ha a h), hc]
  · intro rest i st st' r h1 ha hc ih
    rw [loop_close1 _ _ _ _ _ _ _ h1, ← close_eq g1 g2 reg opt all i st fun a h => hA a (ha a h), hc]; exact ih
  · intro rest i st r hN ih; rw [loop_closeN _ _ _ _ _ _ _ hN]; exact ih
  · intro c rest i st r h1 h2 h3 ih; rw [loop_plain _ _ _ _ _ _ _ _ h1 h2 h3]; exact ih

theorem compileF_succ_eq (t : List Char)
    (hA : ∀ a : List Char, a.length < t.length → compileF g1 reg opt a = compileF g2 reg opt a) :
    compileF (g1 + 1) reg opt t = compileF (g2 + 1) reg opt t := by
  rw [compileF, compileF, loop_eq g1 g2 reg opt t.length t hA t 0 _ (by simp)]

end

/-- Fuel above the template length is never looked at. -/
theorem compileF_fuel_irrelevant (reg : Registry) (opt : Bool) :
    ∀ (L : Nat) (t : List Char), t.length < L → ∀ f1 f2, t.length < f1 → t.length < f2 →
      compileF f1 reg opt t = compileF f2 reg opt t := by
  intro L
  induction L with
  | zero => intro t h; omega
  | succ L ih =>
    intro t hL f1 f2 h1 h2
    obtain ⟨g1, rfl⟩ : ∃ g, f1 = g + 1 := ⟨f1 - 1, by omega⟩
    obtain ⟨g2, rfl⟩ : ∃ g, f2 = g + 1 := ⟨f2 - 1, by omega⟩
    exact compileF_succ_eq g1 g2 reg opt t (fun a ha => ih a (by omega) g1 g2 (by omega) (by omega))

/-! ### the out-of-fuel branch is never taken -/

/-- No function builder of the registry fails with the model's own out-of-fuel message. -/
def NoFuelMsg (reg : Registry) : Prop :=
  ∀ name f args, reg name = some f → f args ≠ .error "out of fuel"

end Rare.C09

import Rare.Proofs.C07NumF64Err
/-!
C07 – `StdDev()` = `math.Sqrt(Variance())`.

* `isqrt_spec`: the Newton iteration of `Rare.F64.isqrt` returns the integer square root, for EVERY `n`
  (the fuel `log2 n + 2` suffices: the distance to the root at least halves in every step);
* `sqrt_bracket`: hence `F64.sqrt x` of a positive finite `x` is the correct rounding of a rational `t` whose
  square brackets `x` within `2^-603`.
-/
namespace Rare.F64

theorem exists_isqrt (n : Nat) : ∃ s, s * s ≤ n ∧ n < (s + 1) * (s + 1) := by
  induction n with
  | zero => exact ⟨0, by decide, by decide⟩
  | succ n ih =>
    obtain ⟨s, h1, h2⟩ := ih
    by_cases h : (s + 1) * (s + 1) ≤ n + 1
    · refine ⟨s + 1, h, ?_⟩
      have : (s + 1 + 1) * (s + 1 + 1) = (s + 1) * (s + 1) + 2 * s + 3 := by grind
      omega
    · exact ⟨s, by omega, by omega⟩

theorem amgm (a b : Nat) : 4 * (a * b) ≤ (a + b) * (a + b) := by
  rcases Nat.le_total a b with h | h
  · obtain ⟨k, rfl⟩ := Nat.exists_eq_add_of_le h
    have : (a + (a + k)) * (a + (a + k)) = 4 * (a * (a + k)) + k * k := by grind
    omega
  · obtain ⟨k, rfl⟩ := Nat.exists_eq_add_of_le h
    have : (b + k + b) * (b + k + b) = 4 * ((b + k) * b) + k * k := by grind
    omega

/-- One Newton step never goes below the root. -/
theorem newton_ge (n s x : Nat) (hs : s * s ≤ n) (hx : 0 < x) : s ≤ (x + n / x) / 2 := by
  apply Nat.le_of_not_lt
  intro hlt
  have h1 : x + n / x ≤ 2 * ((x + n / x) / 2) + 1 := by omega
  have h2 : n < x * (n / x + 1) := Nat.lt_mul_div_succ n hx
  have h3 := amgm x (n / x + 1)
  have h4 : (x + (n / x + 1)) * (x + (n / x + 1)) ≤ (2 * ((x + n / x) / 2) + 2) * (2 * ((x + n / x) / 2) + 2) :=
    Nat.mul_le_mul (by omega) (by omega)
  have h5 : ((x + n / x) / 2 + 1) * ((x + n / x) / 2 + 1) ≤ s * s := Nat.mul_le_mul (by omega) (by omega)
  have h6 : (2 * ((x + n / x) / 2) + 2) * (2 * ((x + n / x) / 2) + 2) =
      4 * (((x + n / x) / 2 + 1) * ((x + n / x) / 2 + 1)) := by grind
  omega

theorem isqrtLoop_spec (n s : Nat) (hs1 : s * s ≤ n) (hs2 : n < (s + 1) * (s + 1)) (hn : 0 < n) :
    ∀ (f x : Nat), s ≤ x → x - s < 2 ^ f → isqrtLoop (f + 1) n x = s := by
  have hs0 : 0 < s := by
    apply Nat.pos_of_ne_zero
    intro h; rw [h] at hs2; omega
  intro f
  induction f with
  | zero =>
    intro x h1 h2
    have hx : x = s := by simp at h2; omega
    subst hx
    have hq : x ≤ n / x := (Nat.le_div_iff_mul_le hs0).mpr hs1
    unfold isqrtLoop
    simp only
    rw [if_neg (by omega)]
  | succ f ih =>
    intro x h1 h2
    have hx0 : 0 < x := by omega
    have hge := newton_ge n s x hs1 hx0
    unfold isqrtLoop
    simp only
    by_cases hxs : x = s
    · subst hxs
      have hq : x ≤ n / x := (Nat.le_div_iff_mul_le hs0).mpr hs1
      rw [if_neg (by omega)]
    · have hq : n / x ≤ s := by
        have : n / x < s + 1 := by
          rw [Nat.div_lt_iff_lt_mul hx0]
          have := Nat.mul_le_mul_left (s + 1) (show s + 1 ≤ x by omega)
          omega
        omega
      rw [if_pos (by omega)]
      apply ih _ hge
      have : 2 ^ (f + 1) = 2 * 2 ^ f := by rw [Nat.pow_succ]; omega
      omega

/-- **`isqrt` is the integer square root**, for every `n`. -/
theorem isqrt_spec (n : Nat) : isqrt n * isqrt n ≤ n ∧ n < (isqrt n + 1) * (isqrt n + 1) := by
  by_cases h0 : n = 0
  · subst h0; decide
  · obtain ⟨s, hs1, hs2⟩ := exists_isqrt n
    have hn : 0 < n := Nat.pos_of_ne_zero h0
    have hlog : n < 2 ^ (n.log2 + 1) := Nat.lt_log2_self
    -- the start value is above the root
    have hx0 : n < 2 ^ (n.log2 / 2 + 1) * 2 ^ (n.log2 / 2 + 1) := by
      rw [← Nat.pow_add]
      have : n.log2 + 1 ≤ n.log2 / 2 + 1 + (n.log2 / 2 + 1) := by omega
      exact Nat.lt_of_lt_of_le hlog (Nat.pow_le_pow_right (by decide) this)
    have hsx : s ≤ 2 ^ (n.log2 / 2 + 1) := by
      apply Nat.le_of_not_lt
      intro hlt
      have := Nat.mul_le_mul (Nat.le_of_lt hlt) (Nat.le_of_lt hlt)
      omega
    have hd : 2 ^ (n.log2 / 2 + 1) - s < 2 ^ (n.log2 + 1) := by
      have : 2 ^ (n.log2 / 2 + 1) ≤ 2 ^ (n.log2 + 1) := Nat.pow_le_pow_right (by decide) (by omega)
      have hs0 : 0 < s := by
        apply Nat.pos_of_ne_zero
        intro h; rw [h] at hs2; omega
      omega
    have := isqrtLoop_spec n s hs1 hs2 hn (n.log2 + 1) _ hsx hd
    have e : isqrt n = s := by
      unfold isqrt; rw [if_neg h0]; exact this
    rw [e]; exact ⟨hs1, hs2⟩

/-- `2^-603`: half a unit of the integer root's scale. -/
def sqrtEps : Rat := 1 / ((2 ^ 603 : Nat) : Rat)

theorem mul_self_le_mul_self {a b : Rat} (h0 : 0 ≤ a) (h : a ≤ b) : a * a ≤ b * b :=
  Rat.le_trans (Rat.mul_le_mul_of_nonneg_left h h0) (Rat.mul_le_mul_of_nonneg_right h (Rat.le_trans h0 h))

/-- In units of `I`: from `s² ≤ n ≤ (s+1)²` and `x = n·I²`, the value `x` lies between the squares of `t ∓ I/2`, for
`t = s·I` when `n = s²` and for the midpoint `t = (s + 1/2)·I` in general. -/
theorem bracket_arith {I s n x : Rat} (hI : 0 < I) (hs : 1 ≤ s) (c1 : s * s ≤ n) (c2 : n ≤ (s + 1) * (s + 1))
    (hx : x = n * (I * I)) :
    (n = s * s → I / 2 ≤ s * I ∧ (s * I - I / 2) * (s * I - I / 2) ≤ x ∧ x ≤ (s * I + I / 2) * (s * I + I / 2)) ∧
    (I / 2 ≤ (s + 1 / 2) * I ∧ ((s + 1 / 2) * I - I / 2) * ((s + 1 / 2) * I - I / 2) ≤ x ∧
      x ≤ ((s + 1 / 2) * I + I / 2) * ((s + 1 / 2) * I + I / 2)) := by
  have hII := Rat.mul_nonneg (Rat.le_of_lt hI) (Rat.le_of_lt hI)
  have sq : ∀ a : Rat, a * a * (I * I) = (a * I) * (a * I) := fun a => by grind
  have lo := Rat.mul_le_mul_of_nonneg_right c1 hII
  have hi := Rat.mul_le_mul_of_nonneg_right c2 hII
  rw [sq, ← hx] at lo hi
  have hsI : I ≤ s * I := by
    have := Rat.mul_le_mul_of_nonneg_right hs (Rat.le_of_lt hI)
    rwa [Rat.one_mul] at this
  constructor
  · intro e
    have ex : x = (s * I) * (s * I) := by rw [hx, e, sq]
    exact ⟨by grind, by rw [ex]; exact mul_self_le_mul_self (by grind) (by grind),
      by rw [ex]; exact mul_self_le_mul_self (by grind) (by grind)⟩
  · rw [show (s + 1 / 2) * I - I / 2 = s * I by grind, show (s + 1 / 2) * I + I / 2 = (s + 1) * I by grind]
    exact ⟨by grind, lo, hi⟩

theorem natCast_mul_self_le {a b : Nat} (h : a * a ≤ b) : ((a : Nat) : Rat) * ((a : Nat) : Rat) ≤ ((b : Nat) : Rat) := by
  rw [← Rat.natCast_mul]; exact Rat.natCast_le_natCast.mpr h

/-- **`math.Sqrt` of a positive finite float** is the correct rounding (`ofRatS`, to nearest even) of a rational `t`
whose square brackets the argument: `(t − 2^-603)² ≤ x ≤ (t + 2^-603)²` (with equality `t² = x` when the root is
rational at that scale), and `t ≥ 2^-603`. -/
theorem sqrt_bracket (x : F64) (hf : x.isFinite = true) (hp : 0 < x.toRat) :
    ∃ t : Rat, sqrtEps ≤ t ∧ F64.sqrt x = ofRatS false t ∧
      (t - sqrtEps) * (t - sqrtEps) ≤ x.toRat ∧ x.toRat ≤ (t + sqrtEps) * (t + sqrtEps) := by
  have hs : x.sign = false := by
    cases h : x.sign
    · rfl
    · have := toRat_of_neg h
      have := magVal_nonneg x.mag
      grind
  have hz : x.isZero = false := by
    cases h : x.isZero
    · rfl
    · have := toRat_eq_zero_of_mag ((isZero_iff x).mp h)
      grind
  have hv : x.toRat = ((magSig x.mag * 2 ^ magScale x.mag : Nat) : Rat) / two1074 := by
    rw [toRat_of_pos hs]; rfl
  -- the scale
  have hD0 : (0 : Rat) < ((2 ^ 602 : Nat) : Rat) := pow2_cast_pos _
  have hDD : ((2 ^ 602 : Nat) : Rat) * ((2 ^ 602 : Nat) : Rat) = ((2 ^ 130 : Nat) : Rat) * two1074 := by
    rw [two1074_eq, ← Rat.natCast_mul, ← Rat.natCast_mul, ← Nat.pow_add, ← Nat.pow_add]
  have h603 : ((2 ^ 603 : Nat) : Rat) = 2 * ((2 ^ 602 : Nat) : Rat) := by
    rw [show (2 ^ 603 : Nat) = 2 * 2 ^ 602 by rw [Nat.pow_succ]; omega, Rat.natCast_mul]; rfl
  generalize hD : ((2 ^ 602 : Nat) : Rat) = D at *
  have hDne : D ≠ 0 := Rat.ne_of_gt hD0
  have hinv : D * D⁻¹ = 1 := Rat.mul_inv_cancel D hDne
  have hi0 : 0 < D⁻¹ := by
    have : 0 < 1 / D := Rare.C07.rat_div_pos (by decide) hD0
    rw [Rat.div_def, Rat.one_mul] at this; exact this
  have heps : sqrtEps = D⁻¹ / 2 := by
    unfold sqrtEps; rw [h603, Rat.div_def, Rat.div_def, Rat.inv_mul_rev]; grind
  -- the value as n / D²
  have hn : ((magSig x.mag * 2 ^ magScale x.mag * 2 ^ 130 : Nat) : Rat) =
      ((magSig x.mag * 2 ^ magScale x.mag : Nat) : Rat) * ((2 ^ 130 : Nat) : Rat) := Rat.natCast_mul _ _
  have h130 : (0 : Rat) < ((2 ^ 130 : Nat) : Rat) := pow2_cast_pos _
  have ht0 := two1074_pos
  have hvn : x.toRat = ((magSig x.mag * 2 ^ magScale x.mag * 2 ^ 130 : Nat) : Rat) * (D⁻¹ * D⁻¹) := by
    rw [hv, hn, Rat.div_def]
    have e1 : two1074 * two1074⁻¹ = 1 := Rat.mul_inv_cancel _ (Rat.ne_of_gt ht0)
    have e2 : (D * D) * (D⁻¹ * D⁻¹) = 1 := by grind
    rw [hDD] at e2
    grind
  obtain ⟨s1, s2⟩ := isqrt_spec (magSig x.mag * 2 ^ magScale x.mag * 2 ^ 130)
  unfold F64.sqrt
  rw [not_nan_of_finite hf, hz, hs, not_inf_of_finite hf]
  simp only [Bool.false_eq_true, if_false]
  generalize hnn : magSig x.mag * 2 ^ magScale x.mag * 2 ^ 130 = n at *
  generalize hss : isqrt n = s at *
  have hnpos : 0 < n := by
    apply Nat.pos_of_ne_zero
    intro h; rw [h] at hvn
    have : x.toRat = 0 := by rw [hvn]; simp
    grind
  have hs0 : 1 ≤ s := by
    apply Nat.pos_of_ne_zero
    intro h; rw [h] at s2; omega
  have hsq : (1 : Rat) ≤ (s : Rat) := by
    have := Rat.natCast_le_natCast.mpr hs0
    exact this
  have c1 : (s : Rat) * (s : Rat) ≤ (n : Rat) := natCast_mul_self_le s1
  have c2 : (n : Rat) ≤ ((s : Rat) + 1) * ((s : Rat) + 1) := by
    have : ((n : Nat) : Rat) ≤ (((s + 1) * (s + 1) : Nat) : Rat) := Rat.natCast_le_natCast.mpr (Nat.le_of_lt s2)
    rw [Rat.natCast_mul, Rat.natCast_add] at this
    exact this
  obtain ⟨hex', hne'⟩ := bracket_arith hi0 hsq c1 c2 hvn
  rw [heps]
  by_cases hex : s * s = n
  · rw [if_pos hex]
    exact ⟨(s : Rat) * D⁻¹, (hex' (by rw [← hex, Rat.natCast_mul])).1, by unfold ofRat; rw [Rat.div_def, hD],
      (hex' (by rw [← hex, Rat.natCast_mul])).2⟩
  · rw [if_neg hex]
    refine ⟨((s : Rat) + 1 / 2) * D⁻¹, hne'.1, ?_, hne'.2⟩
    unfold ofRat
    rw [h603]
    have e : ((2 * s + 1 : Nat) : Rat) / (2 * D) = ((s : Rat) + 1 / 2) * D⁻¹ := by
      rw [Rat.natCast_add, Rat.natCast_mul, Rat.div_def, Rat.inv_mul_rev]
      have h2 : ((2 : Nat) : Rat) = 2 := rfl
      have h1 : ((1 : Nat) : Rat) = 1 := rfl
      rw [h2, h1]; grind
    rw [e]

end Rare.F64

namespace Rare.C07
open Rare Rare.F64

theorem rep_two513 : Rep (((2 ^ 513 : Nat) : Rat)) := by
  have := rep_of_dyadic 1 1587 (by decide) (by
    rw [Nat.one_mul]; exact Nat.pow_lt_pow_right (by decide) (by decide))
  have e : ((1 * 2 ^ 1587 : Nat) : Rat) / two1074 = ((2 ^ 513 : Nat) : Rat) := by decide +kernel
  rwa [e] at this

theorem maxF64_lt : maxF64.toRat < ((2 ^ 512 : Nat) : Rat) * ((2 ^ 512 : Nat) : Rat) := by decide +kernel

theorem finite_le_max {x : F64} (h : x.isFinite = true) : x.toRat ≤ maxF64.toRat := by
  have hm : maxF64.isFinite = true := by decide
  have hk : maxF64.key = 9218868437227405311 := by decide
  have := (finite_key_bounds h).2
  have hle : F64.le x maxF64 = true := by
    rw [le_iff_key]; exact ⟨not_nan_of_finite h, not_nan_of_finite hm, by rw [hk]; exact this⟩
  exact (le_iff_toRat_le h hm).mp hle

/-- **`StdDev()` = `math.Sqrt(Variance())` for a positive finite variance**: the result is finite, it is the correct
rounding of a rational `t ≥ 2^-603` with `(t − 2^-603)² ≤ Variance() ≤ (t + 2^-603)²`, and `|StdDev() − t| ≤ t·u + η`. -/
theorem sqrt_finite_err (x : F64) (hf : x.isFinite = true) (hp : 0 < x.toRat) :
    (F64.sqrt x).isFinite = true ∧
    ∃ t : Rat, sqrtEps ≤ t ∧ F64.sqrt x = ofRatS false t ∧
      (t - sqrtEps) * (t - sqrtEps) ≤ x.toRat ∧ x.toRat ≤ (t + sqrtEps) * (t + sqrtEps) ∧
      (F64.sqrt x).toRat - t ≤ t * uF + etaF ∧ t - (F64.sqrt x).toRat ≤ t * uF + etaF := by
  obtain ⟨t, ht, hsq, b1, b2⟩ := sqrt_bracket x hf hp
  have he : 0 < sqrtEps := by
    unfold sqrtEps; exact rat_div_pos (by decide) (pow2_cast_pos _)
  have hB : (0 : Rat) < ((2 ^ 512 : Nat) : Rat) := pow2_cast_pos _
  have h513 : ((2 ^ 513 : Nat) : Rat) = 2 * ((2 ^ 512 : Nat) : Rat) := by
    rw [show (2 ^ 513 : Nat) = 2 * 2 ^ 512 by rw [Nat.pow_succ]; omega, Rat.natCast_mul]; rfl
  have heB : sqrtEps ≤ ((2 ^ 512 : Nat) : Rat) := by decide +kernel
  have hx := finite_le_max hf
  have hm := maxF64_lt
  have r513 := rep_two513
  generalize ((2 ^ 512 : Nat) : Rat) = B at *
  have hlt : t - sqrtEps < B := by
    apply Rat.not_le.mp
    intro hge
    have := Rat.mul_le_mul_of_nonneg_left hge (Rat.le_of_lt hB)
    have h2 := Rat.mul_le_mul_of_nonneg_right hge (show (0 : Rat) ≤ t - sqrtEps by grind)
    grind
  rw [h513] at r513
  have fin := round_between_rep hsq rep_zero r513 (by grind) (by grind)
  have E := (near_ofRatS hsq fin.1).1
  have hat : absRat t = t := by unfold absRat; rw [if_neg (by grind)]
  rw [hat] at E
  exact ⟨fin.1, t, ht, hsq, b1, b2, E.1, E.2⟩

end Rare.C07

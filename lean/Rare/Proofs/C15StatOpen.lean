import Rare.Model.C15StatOpen
import Rare.Model.C15Replace
/-!
C15 – the `Stat`/`Open` pair of `reopenIfReplaced` is linearizable: inode numbers are never re-used for the
path – a file created at the path or renamed onto it is a fresh inode – so "not the open file" is stable
under every interleaving of the (full) writer and the fsnotify goroutine.
-/
namespace Rare.Follow

variable {β : Type}

/-- what the environment can do to the things `reopenIfReplaced` looks at -/
structure EnvInv (s1 s : NSt β) : Prop where
  handle : s.f = s1.f
  hist : s.hist = s1.hist
  delivered : s.delivered = s1.delivered
  next : s1.fs.next ≤ s.fs.next
  path : ∀ i, s.fs.path = some i → s1.fs.path = some i ∨ s1.fs.next ≤ i

/-- transitions of the full writer and the fsnotify goroutine between two system calls of the reader -/
inductive EnvStepsO (cfg : NCfg) : NSt β → NSt β → Prop
  | refl (s : NSt β) : EnvStepsO cfg s s
  | step {w : Who} {s s' s'' : NSt β} : w ≠ .reader → NStepO cfg w s s' → EnvStepsO cfg s' s'' → EnvStepsO cfg s s''

theorem envInv_refl (s : NSt β) : EnvInv s s :=
  ⟨rfl, rfl, rfl, Nat.le_refl _, fun _ h => Or.inl h⟩

theorem envInv_step {cfg : NCfg} {w : Who} {s1 s s' : NSt β} (h : EnvInv s1 s) (hw : w ≠ .reader)
    (hs : NStep cfg w s s') : EnvInv s1 s' := by
  obtain ⟨h1, h2, h3, h4, h5⟩ := h
  cases hs with
  | append _ i bs hp hne => exact ⟨h1, h2, h3, h4, h5⟩
  | remove _ i hp => exact ⟨h1, h2, h3, h4, by intro i hi; simp [FS.remove] at hi⟩
  | create _ hp =>
    refine ⟨h1, h2, h3, by simp only [FS.create]; omega, ?_⟩
    intro i hi
    simp only [FS.create, Option.some.injEq] at hi
    exact Or.inr (by omega)
  | noise _ => exact ⟨h1, h2, h3, h4, h5⟩
  | dispatch _ e rest he => cases e <;> exact ⟨h1, h2, h3, h4, h5⟩
  | _ => exact absurd rfl hw

theorem envInv_stepO {cfg : NCfg} {w : Who} {s1 s s' : NSt β} (h : EnvInv s1 s) (hw : w ≠ .reader)
    (hs : NStepO cfg w s s') : EnvInv s1 s' := by
  cases hs with
  | base hb =>
    cases hb with
    | base hn => exact envInv_step h hw hn
    | rename _ i hp =>
      obtain ⟨h1, h2, h3, h4, _⟩ := h
      exact ⟨h1, h2, h3, h4, by intro i hi; simp [FS.remove] at hi⟩
  | replace _ i bs hp =>
    obtain ⟨h1, h2, h3, h4, _⟩ := h
    refine ⟨h1, h2, h3, by simp only [FS.replace]; omega, ?_⟩
    intro j hj
    simp only [FS.replace, Option.some.injEq] at hj
    exact Or.inr (by omega)

theorem envInv_stepsO {cfg : NCfg} {s0 s1 s2 : NSt β} (hi : EnvInv s0 s1) (hs : EnvStepsO cfg s1 s2) :
    EnvInv s0 s2 := by
  induction hs with
  | refl => exact hi
  | step hw hst _ ih => exact ih (envInv_stepO hi hw hst)

/-- the basic environment is part of the full one -/
theorem envSteps_is_envStepsO {cfg : NCfg} {s1 s2 : NSt β} (hs : EnvSteps cfg s1 s2) : EnvStepsO cfg s1 s2 := by
  induction hs with
  | refl => exact .refl _
  | step hw hst _ ih => exact .step hw (.base (.base hst)) ih

theorem envInv_steps {cfg : NCfg} {s1 s2 : NSt β} (hs : EnvSteps cfg s1 s2) : EnvInv s1 s2 :=
  envInv_stepsO (envInv_refl s1) (envSteps_is_envStepsO hs)

/-- "the file at the path is not the one that is open" survives every interleaving: a path that is set
    again gets a fresh inode. -/
theorem not_same_of_envInv {s1 s2 : NSt β} (he : EnvInv s1 s2)
    (halloc : ∀ h, s1.f = some h → h.ino < s1.fs.next) (hns : sameFile s1 = false) : sameFile s2 = false := by
  obtain ⟨h1, _, _, _, h5⟩ := he
  unfold sameFile at hns ⊢
  rw [h1]
  cases hf : s1.f with
  | none => rfl
  | some h =>
    rw [hf] at hns
    cases hp2 : s2.fs.path with
    | none => rfl
    | some i =>
      simp only
      rcases h5 i hp2 with hp1 | hge
      · rw [hp1] at hns; exact hns
      · have := halloc h hf
        simp only [beq_eq_false_iff_ne, ne_eq]
        omega

/-- `reopenIfReplaced` split into the `Stat` in `s1` and the `Open` in `s2`: when `Stat` saw another file or none
    the outcome is that of the atomic transition executed at the `Open`; when it saw the open file, of the
    atomic transition executed at the `Stat`, which does nothing. -/
theorem reopenAfterStat_linearizable {s1 s2 : NSt β} (he : EnvInv s1 s2)
    (halloc : ∀ h, s1.f = some h → h.ino < s1.fs.next) :
    reopenAfterStat (sameFile s1) s2 = (if sameFile s1 then s2 else reopenIfReplaced s2) ∧
    (sameFile s1 = true → reopenIfReplaced s1 = s1) := by
  constructor
  · cases hsf : sameFile s1 with
    | true => simp [reopenAfterStat]
    | false => simp [reopenAfterStat, reopenIfReplaced, not_same_of_envInv he halloc hsf]
  · intro hsf; simp [reopenIfReplaced, hsf]

end Rare.Follow

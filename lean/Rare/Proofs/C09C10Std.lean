import Rare.Proofs.C09C10
import Rare.Model.Expr.Std
/-!
C09 × C10: members of the *standard* function registry satisfy the registry hypothesis of
`print_compile` (`Implements`) – shown for a lazy builder (`if`, three arguments), a strict one (`not`)
and a variadic fold (`eq`, two arguments); the same two-line proof pattern works for every helper whose
stage only runs its argument stages and computes.

Not every standard helper can satisfy `Implements` (and for those the tree semantics "value = function
of the argument values" is not what rare documents either):
* helpers that demand *constant* arguments (`bucket`'s size, `format`'s pattern, `select`'s index …)
  answer a compile error for `{f {0} {1}}`;
* helpers that type-check constant arguments at compile time (`{sumi abc 1}`: compile error
  `ErrorNum` – the value `<BAD-TYPE>` is still what the tree semantics of `sumi` says, but "compiles
  without errors" fails; with integer or non-constant arguments they are pure functions);
* helpers that evaluate an argument in a sub-context (`@map`, `@filter`, `@reduce`, `@for`, user functions
  with `{0}` rebinding) – the argument's value in the caller's context is not what they use;
* `{time live}` / `{time delta}` (not a function of the arguments at all);
* helpers outside the model (`unmodelledBuilder`).
-/
namespace Rare.C09
open Rare Rare.Expr

def ifSem : List Bytes → Bytes
  | [c, t, e] => if truthy c then t else e
  | _ => []

def notSem : List Bytes → Bytes
  | [a] => if truthy a then FalsyVal else TruthyVal
  | _ => []

def eqSem : List Bytes → Bytes
  | [a, b] => if a = b then TruthyVal else FalsyVal
  | _ => []

theorem map_run_3 {ctx : Ctx} {c t e : Stage} {vals : List Bytes}
    (h : [c, t, e].map (·.run ctx) = vals.map .ok) :
    ∃ vc vt ve, vals = [vc, vt, ve] ∧ c.run ctx = .ok vc ∧ t.run ctx = .ok vt ∧ e.run ctx = .ok ve := by
  rcases vals with _ | ⟨vc, _ | ⟨vt, _ | ⟨ve, _ | ⟨x, r⟩⟩⟩⟩ <;> simp at h
  exact ⟨vc, vt, ve, rfl, h.1, h.2.1, h.2.2⟩

/-- `{if c t e}` is lazy (only one branch is run), yet implements if-then-else on the values. -/
theorem kfIf_implements : Implements Funcs.Logic.kfIf ifSem 3 := by
  intro cargs hlen _
  match cargs, hlen with
  | [c, t, e], _ =>
    refine ⟨_, rfl, fun ctx vals h => ?_⟩
    obtain ⟨vc, vt, ve, rfl, hc, ht, he⟩ := map_run_3 h
    show (c.bind fun v => if truthy v then t else e).run ctx = _
    rw [Comp.run_bind, hc]
    simp only [ifSem]
    split
    · exact ht
    · exact he

theorem kfNot_implements : Implements Funcs.Logic.kfNot notSem 1 := by
  intro cargs hlen _
  match cargs, hlen with
  | [a], _ =>
    refine ⟨_, rfl, fun ctx vals h => ?_⟩
    rcases vals with _ | ⟨va, _ | ⟨x, r⟩⟩ <;> simp at h
    show (a.bind fun v => .ret (if truthy v then FalsyVal else TruthyVal)).run ctx = _
    rw [Comp.run_bind, h]
    rfl

theorem kfEq_implements :
    Implements (Funcs.Logic.stringComparator fun a b => if a = b then TruthyVal else FalsyVal) eqSem 2 := by
  intro cargs hlen _
  match cargs, hlen with
  | [a, b], _ =>
    refine ⟨_, rfl, fun ctx vals h => ?_⟩
    rcases vals with _ | ⟨va, _ | ⟨vb, _ | ⟨x, r⟩⟩⟩ <;> simp at h
    show (a.bind fun v => b.bind fun w => .ret (if v = w then TruthyVal else FalsyVal)).run ctx = _
    rw [Comp.run_bind, h.1]
    simp only []
    rw [Comp.run_bind, h.2]
    rfl

/-- The standard registry (with any list of known-but-unmodelled names). -/
def stdRegistry (known : List String) : Registry := mkRegistry stdTable known

theorem std_if (known : List String) : stdRegistry known "if".toList = some Funcs.Logic.kfIf := by
  simp [stdRegistry, mkRegistry, lookupTable, stdTable, Funcs.Logic.table, List.find?]
theorem std_not (known : List String) : stdRegistry known "not".toList = some Funcs.Logic.kfNot := by
  simp [stdRegistry, mkRegistry, lookupTable, stdTable, Funcs.Logic.table, List.find?]
theorem std_eq (known : List String) : stdRegistry known "eq".toList =
    some (Funcs.Logic.stringComparator fun a b => if a = b then TruthyVal else FalsyVal) := by
  simp [stdRegistry, mkRegistry, lookupTable, stdTable, Funcs.Logic.table, List.find?]

/-- The meaning of the three names in the spec's environment. -/
def stdFn (f : List Char) : List Bytes → Bytes :=
  if f = "if".toList then ifSem else if f = "not".toList then notSem else if f = "eq".toList then eqSem
  else fun _ => []

/-- `{if {eq {0} "a b"} {not {k}} no}` -/
def stdTree : C09.Expr :=
  .call "if".toList [.call "eq".toList [.group 0, .lit "a b".toList], .call "not".toList [.key "k".toList], .lit "no".toList]

theorem stdTree_regSem (known : List String) : RegSem (stdRegistry known) stdFn stdTree := by
  simp only [stdTree, RegSem, RegSemArgs]
  exact ⟨⟨_, std_if known, kfIf_implements⟩, ⟨⟨_, std_eq known, kfEq_implements⟩, trivial, trivial, trivial⟩,
    ⟨⟨_, std_not known, kfNot_implements⟩, trivial, trivial⟩, trivial, trivial⟩

end Rare.C09

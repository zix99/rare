import Rare.Proofs.C14Unit
/-!
# C14: the histogram as a whole renderer – the redraw invariant

`HistoInv`: every WRITTEN line of the histogram shows its latest (key, value) drawn with the CURRENT state
of the writer – key column width, running maximum, total: the number is `Formatter(value, 0, maxVal)` and the
bar is `BarWrite(Scale(value, 0, maxVal), 50)` for the one `maxVal` of the writer, so the bars of one
histogram are proportional to each other.  The invariant holds for a new histogram and is preserved by EVERY
sequence of `WriteForLine` / `UpdateTotal` calls (after the repair 7b183e0; before it a full refresh skipped
the rows whose value is not positive).  Proved for every instance of the float operations satisfying
`UnitLaws` (ℚ and binary64).
-/
namespace Rare.C14
open Rare Rare.C20

section
variable {α : Type} {A : Arith α} {Dom : Int → Prop} {Unit : α → Prop} {le : α → α → Prop}

/-- the bytes `BarWrite` writes for a histogram line (it never fails, `histo_writeLine_eq`) -/
def Histo.barBytes (A : Arith α) (env : Env) (h : Histo) (val : Int) : Bytes :=
  match barWrite A env (scale A h.scaler val 0 h.maxVal) 50 with
  | .ok b => b
  | .error _ => []

/-- the text of a histogram line as a function of the writer's CURRENT state -/
def Histo.lineText (A : Arith α) (env : Env) (h : Histo) (key : Bytes) (val : Int) : Bytes :=
  let s := wrap env cYellow (padVis env key h.textSpacing) ++ ascii "    " ++ padRight (h.fmt.apply val 0 h.maxVal) 10
  let s := if h.showPct ∧ h.total > 0 then s ++ [32] ++ wrap env cCyan pctText else s
  if h.showBar ∧ h.maxVal > 0 then s ++ [32] ++ colorWrite env cBlue (h.barBytes A env val) else s

theorem histo_writeLine_eq (U : UnitLaws A Dom Unit le) (env : Env) (h : Histo) (vt : VirtualTerm) (line : Int) (key : Bytes) (val : Int)
    (hd : Dom val) (hm : Dom h.maxVal) :
    h.writeLine A env vt line key val = vt.writeForLine line (h.lineText A env key val) := by
  obtain ⟨_, _, hb, _⟩ := U.barWrite_ok env (U.scale_unit h.scaler hd U.dom_zero hm) (maxLen := 50) (by omega) (by omega)
  unfold Histo.writeLine Histo.lineText Histo.barBytes
  simp only [hb]
  split <;> rfl

/-- the text does not depend on the stored rows -/
theorem histo_lineText_items (env : Env) (h : Histo) (items : List (Option (Bytes × Int))) (key : Bytes) (val : Int) :
    ({ h with items := items } : Histo).lineText A env key val = h.lineText A env key val := rfl

/-- the redraw invariant of a histogram writing into `vt` -/
structure HistoInv (A : Arith α) (Dom : Int → Prop) (env : Env) (h : Histo) (vt : VirtualTerm) : Prop where
  isOpen : vt.closed = false
  dom_max : Dom h.maxVal
  dom_items : ∀ (i : Nat) (k : Bytes) (v : Int), h.items[i]? = some (some (k, v)) → Dom v
  /-- every written line shows its row drawn with the current state -/
  drawn : ∀ (i : Nat) (k : Bytes) (v : Int), h.items[i]? = some (some (k, v)) → vt.lines[i]? = some (h.lineText A env k v)
  /-- the running maximum covers every row, the key column every key -/
  max_cover : ∀ (i : Nat) (k : Bytes) (v : Int), h.items[i]? = some (some (k, v)) → v ≤ h.maxVal
  key_cover : ∀ (i : Nat) (k : Bytes) (v : Int), h.items[i]? = some (some (k, v)) → strLen env k ≤ h.textSpacing

/-- one item of `fullRender`: a written line is redrawn with the state `h`, the other lines stay -/
theorem histo_renderItem_ok (U : UnitLaws A Dom Unit le) (env : Env) (h : Histo) (hm : Dom h.maxVal) (vt : VirtualTerm) (ho : vt.closed = false)
    (it : Option (Bytes × Int)) (b : Nat) (hd : ∀ k v, it = some (k, v) → Dom v) :
    ∃ vt1, h.renderItem A env vt (it, b) = .ok vt1 ∧ vt1.closed = false ∧
      (∀ k v, it = some (k, v) → vt1.lines[b]? = some (h.lineText A env k v)) ∧
      (∀ j x, j ≠ b → vt.lines[j]? = some x → vt1.lines[j]? = some x) := by
  cases it with
  | none => exact ⟨vt, rfl, ho, (by intro k v e; cases e), fun j x _ hx => hx⟩
  | some kv =>
    obtain ⟨k, v⟩ := kv
    obtain ⟨vt1, hw, ho1, hl, hk⟩ := vt_write_ok vt ho b (h.lineText A env k v)
    refine ⟨vt1, ?_, ho1, ?_, hk⟩
    · show h.writeLine A env vt (b : Int) k v = _
      rw [histo_writeLine_eq U env h vt b k v (hd k v rfl) hm, hw]
    · intro k' v' e; cases e; exact hl

/-- the settings of the writer (they never change) -/
def Histo.SameConfig (h h' : Histo) : Prop :=
  h'.showBar = h.showBar ∧ h'.showPct = h.showPct ∧ h'.scaler = h.scaler ∧ h'.fmt = h.fmt ∧ h'.items.length = h.items.length

theorem Histo.SameConfig.refl (h : Histo) : h.SameConfig h := ⟨rfl, rfl, rfl, rfl, rfl⟩

theorem Histo.SameConfig.trans {a b c : Histo} (h1 : a.SameConfig b) (h2 : b.SameConfig c) : a.SameConfig c :=
  ⟨h2.1.trans h1.1, h2.2.1.trans h1.2.1, h2.2.2.1.trans h1.2.2.1, h2.2.2.2.1.trans h1.2.2.2.1, h2.2.2.2.2.trans h1.2.2.2.2⟩

/-- the state after `WriteForLine(n, key, val)` for `n < len(items)` -/
def Histo.afterLine (env : Env) (h : Histo) (n : Nat) (key : Bytes) (val : Int) : Histo :=
  { h with textSpacing := if strLen env key > h.textSpacing then strLen env key else h.textSpacing,
           maxVal := if val > h.maxVal then val else h.maxVal,
           items := h.items.set n (some (key, val)) }

theorem histo_writeForLine_unfold (env : Env) (h : Histo) (vt : VirtualTerm) (n : Nat) (key : Bytes) (val : Int) (hn : n < h.items.length) :
    h.writeForLine A env vt (n : Int) key val =
      if strLen env key > h.textSpacing ∨ val > h.maxVal then (do
        let vt' ← (h.afterLine env n key val).fullRender A env vt
        pure (h.afterLine env n key val, vt'))
      else (do
        let vt' ← (h.afterLine env n key val).writeLine A env vt (n : Int) key val
        pure (h.afterLine env n key val, vt')) := by
  unfold Histo.writeForLine Histo.afterLine
  rw [if_neg (by omega)]
  simp only [setIdx_nat h.items n _ hn, bind, Except.bind]
  by_cases h1 : strLen env key > h.textSpacing <;> by_cases h2 : val > h.maxVal <;> simp [h1, h2] <;> rfl

/-- a full refresh re-establishes "every written line is drawn with the current state" -/
theorem histo_fullRender_inv (U : UnitLaws A Dom Unit le) (env : Env) (h : Histo) (vt : VirtualTerm) (ho : vt.closed = false)
    (hm : Dom h.maxVal) (hdi : ∀ (i : Nat) (k : Bytes) (v : Int), h.items[i]? = some (some (k, v)) → Dom v)
    (hmc : ∀ (i : Nat) (k : Bytes) (v : Int), h.items[i]? = some (some (k, v)) → v ≤ h.maxVal)
    (hkc : ∀ (i : Nat) (k : Bytes) (v : Int), h.items[i]? = some (some (k, v)) → strLen env k ≤ h.textSpacing) :
    ∃ vt', h.fullRender A env vt = .ok vt' ∧ HistoInv A Dom env h vt' := by
  obtain ⟨vt', hf, ho', hrows, _⟩ := foldlM_zipIdx_inv (step := h.renderItem A env)
    (I := fun vt => vt.closed = false) (P := fun _ it => ∀ k v, it = some (k, v) → Dom v)
    (Q := fun i it vt => ∀ k v, it = some (k, v) → vt.lines[i]? = some (h.lineText A env k v))
    (K := fun a c vt vt' => ∀ j x, (j < a ∨ c ≤ j) → vt.lines[j]? = some x → vt'.lines[j]? = some x)
    (fun _ _ _ _ _ hx => hx)
    (fun a c _ _ _ hac h1 h2 j x hj hx => h2 j x (by omega) (h1 j x (by omega) hx))
    (fun i _ c _ _ hic hq hk k v e => hk i _ (Or.inl (by omega)) (hq k v e))
    (fun vt it i ho hd => by
      obtain ⟨vt1, h1, h2, h3, h4⟩ := histo_renderItem_ok U env h hm vt ho it i hd
      exact ⟨vt1, h1, h2, h3, fun j x hj => h4 j x (by omega)⟩)
    h.items 0 vt ho (fun i it hi k v e => hdi i k v (e ▸ hi))
  refine ⟨vt', hf, ho', hm, hdi, ?_, hmc, hkc⟩
  intro i k v hi
  have := hrows i _ hi k v rfl
  rwa [Nat.zero_add] at this

theorem histo_afterLine_items (env : Env) (h : Histo) (n : Nat) (key : Bytes) (val : Int) (hn : n < h.items.length)
    (i : Nat) (k : Bytes) (v : Int) (hi : (h.afterLine env n key val).items[i]? = some (some (k, v))) :
    (i = n ∧ k = key ∧ v = val) ∨ (i ≠ n ∧ h.items[i]? = some (some (k, v))) := by
  unfold Histo.afterLine at hi
  simp only at hi
  by_cases e : i = n
  · subst e
    rw [getElem?_set_self' _ _ _ hn] at hi
    cases hi
    exact Or.inl ⟨rfl, rfl, rfl⟩
  · rw [getElem?_set_ne' _ _ _ _ e] at hi
    exact Or.inr ⟨e, hi⟩

/-- `WriteForLine(n, key, val)`, `n < len(items)`, preserves the invariant: either everything is redrawn with
the new key width / maximum, or nothing but the line changed and the other lines are still current -/
theorem histo_writeForLine_inv (U : UnitLaws A Dom Unit le) (env : Env) (h : Histo) (vt : VirtualTerm) (hinv : HistoInv A Dom env h vt)
    (n : Nat) (key : Bytes) (val : Int) (hd : Dom val) (hn : n < h.items.length) :
    ∃ vt', h.writeForLine A env vt (n : Int) key val = .ok (h.afterLine env n key val, vt') ∧
      HistoInv A Dom env (h.afterLine env n key val) vt' := by
  rw [histo_writeForLine_unfold env h vt n key val hn]
  have hm1 : Dom (h.afterLine env n key val).maxVal := by
    show Dom (if val > h.maxVal then val else h.maxVal)
    split
    · exact hd
    · exact hinv.dom_max
  have hdi1 : ∀ (i : Nat) (k : Bytes) (v : Int), (h.afterLine env n key val).items[i]? = some (some (k, v)) → Dom v := by
    intro i k v hi
    rcases histo_afterLine_items env h n key val hn i k v hi with ⟨_, _, rfl⟩ | ⟨_, h'⟩
    · exact hd
    · exact hinv.dom_items i k v h'
  have hmc1 : ∀ (i : Nat) (k : Bytes) (v : Int), (h.afterLine env n key val).items[i]? = some (some (k, v)) → v ≤ (h.afterLine env n key val).maxVal := by
    intro i k v hi
    show v ≤ (if val > h.maxVal then val else h.maxVal)
    rcases histo_afterLine_items env h n key val hn i k v hi with ⟨_, _, rfl⟩ | ⟨_, h'⟩
    · split <;> omega
    · have := hinv.max_cover i k v h'
      split <;> omega
  have hkc1 : ∀ (i : Nat) (k : Bytes) (v : Int), (h.afterLine env n key val).items[i]? = some (some (k, v)) →
      strLen env k ≤ (h.afterLine env n key val).textSpacing := by
    intro i k v hi
    show strLen env k ≤ (if strLen env key > h.textSpacing then strLen env key else h.textSpacing)
    rcases histo_afterLine_items env h n key val hn i k v hi with ⟨_, rfl, _⟩ | ⟨_, h'⟩
    · split <;> omega
    · have := hinv.key_cover i k v h'
      split <;> omega
  by_cases need : strLen env key > h.textSpacing ∨ val > h.maxVal
  · rw [if_pos need]
    obtain ⟨vt', hf, hinv'⟩ := histo_fullRender_inv U env (h.afterLine env n key val) vt hinv.isOpen hm1 hdi1 hmc1 hkc1
    exact ⟨vt', by rw [hf]; rfl, hinv'⟩
  · rw [if_neg need]
    have e : h.afterLine env n key val = { h with items := h.items.set n (some (key, val)) } := by
      unfold Histo.afterLine
      rw [if_neg (by omega), if_neg (by omega)]
    rw [histo_writeLine_eq U env _ vt n key val hd hm1]
    obtain ⟨vt', hw, ho', hl, hk⟩ := vt_write_ok vt hinv.isOpen n ((h.afterLine env n key val).lineText A env key val)
    refine ⟨vt', by rw [hw]; rfl, ho', hm1, hdi1, ?_, hmc1, hkc1⟩
    intro i k v hi
    rcases histo_afterLine_items env h n key val hn i k v hi with ⟨rfl, rfl, rfl⟩ | ⟨hne, h'⟩
    · exact hl
    · rw [e, histo_lineText_items]
      exact hk i _ hne (hinv.drawn i k v h')

/-- a line number at or beyond the end of the histogram is ignored -/
theorem histo_writeForLine_beyond (env : Env) (h : Histo) (vt : VirtualTerm) (n : Nat) (key : Bytes) (val : Int) (hn : h.items.length ≤ n) :
    h.writeForLine A env vt (n : Int) key val = .ok (h, vt) := by
  unfold Histo.writeForLine
  rw [if_pos (by omega)]; rfl

/-- `UpdateTotal(total)` preserves the invariant (everything is redrawn with the new total) -/
theorem histo_updateTotal_inv (U : UnitLaws A Dom Unit le) (env : Env) (h : Histo) (vt : VirtualTerm) (hinv : HistoInv A Dom env h vt) (total : Int) :
    ∃ vt', h.updateTotal A env vt total = .ok ({ h with total := total }, vt') ∧ HistoInv A Dom env { h with total := total } vt' := by
  obtain ⟨vt', hf, hinv'⟩ := histo_fullRender_inv U env { h with total := total } vt hinv.isOpen hinv.dom_max hinv.dom_items hinv.max_cover hinv.key_cover
  refine ⟨vt', ?_, hinv'⟩
  unfold Histo.updateTotal
  simp only [bind, Except.bind, hf]; rfl

/-! ### every sequence of calls -/

/- `HistoOp`, `Histo.applyOp`, `Histo.runOps` (a call on a `HistoWriter`, a sequence of calls) are in `Rare/Model/C14.lean`; the driver runs them. -/

/-- the call is one the float instance handles: the value is in its domain.  ANY line number is fine (after 4855857 a
line at or beyond `len(items)` is ignored; before, `line == len(items)` indexed out of range and had to be excluded here) -/
def HistoOp.Valid (Dom : Int → Prop) : HistoOp → Prop
  | .line _ _ val => Dom val
  | .total _ => True

/-- the writer's state after a call (a pure function of the call) -/
def Histo.stateAfter (env : Env) (h : Histo) : HistoOp → Histo
  | .line n key val => if n < h.items.length then h.afterLine env n key val else h
  | .total t => { h with total := t }

def Histo.stateAfterAll (env : Env) (h : Histo) (ops : List HistoOp) : Histo := ops.foldl (Histo.stateAfter env) h

theorem histo_stateAfter_line (env : Env) (h : Histo) (n : Nat) (key : Bytes) (val : Int) :
    h.stateAfter env (.line n key val) = if n < h.items.length then h.afterLine env n key val else h := rfl

theorem histo_afterLine_config (env : Env) (h : Histo) (n : Nat) (key : Bytes) (val : Int) :
    h.SameConfig (h.afterLine env n key val) ∧ h.maxVal ≤ (h.afterLine env n key val).maxVal ∧
      h.textSpacing ≤ (h.afterLine env n key val).textSpacing := by
  refine ⟨⟨rfl, rfl, rfl, rfl, List.length_set ..⟩, ?_, ?_⟩
  · show h.maxVal ≤ (if val > h.maxVal then val else h.maxVal); split <;> omega
  · show h.textSpacing ≤ (if strLen env key > h.textSpacing then strLen env key else h.textSpacing); split <;> omega

theorem histo_stateAfter_config (env : Env) (h : Histo) (op : HistoOp) :
    h.SameConfig (h.stateAfter env op) ∧ h.maxVal ≤ (h.stateAfter env op).maxVal ∧ h.textSpacing ≤ (h.stateAfter env op).textSpacing := by
  cases op with
  | line n key val =>
    rw [histo_stateAfter_line]
    split
    · exact histo_afterLine_config env h n key val
    · exact ⟨Histo.SameConfig.refl h, Int.le_refl _, Int.le_refl _⟩
  | total t => exact ⟨⟨rfl, rfl, rfl, rfl, rfl⟩, Int.le_refl _, Int.le_refl _⟩

/-- the settings never change, the running maximum and the key column only grow -/
theorem histo_stateAfterAll_config (env : Env) : ∀ (ops : List HistoOp) (h : Histo),
    h.SameConfig (h.stateAfterAll env ops) ∧ h.maxVal ≤ (h.stateAfterAll env ops).maxVal ∧
      h.textSpacing ≤ (h.stateAfterAll env ops).textSpacing := by
  intro ops
  induction ops with
  | nil => intro h; exact ⟨Histo.SameConfig.refl h, Int.le_refl _, Int.le_refl _⟩
  | cons op rest ih =>
    intro h
    obtain ⟨c1, m1, t1⟩ := histo_stateAfter_config env h op
    obtain ⟨c2, m2, t2⟩ := ih (h.stateAfter env op)
    exact ⟨c1.trans c2, Int.le_trans m1 m2, Int.le_trans t1 t2⟩

theorem histo_applyOp_inv (U : UnitLaws A Dom Unit le) (env : Env) (h : Histo) (vt : VirtualTerm) (hinv : HistoInv A Dom env h vt)
    (op : HistoOp) (hv : op.Valid Dom) :
    ∃ vt', Histo.applyOp A env (h, vt) op = .ok (h.stateAfter env op, vt') ∧ HistoInv A Dom env (h.stateAfter env op) vt' := by
  cases op with
  | line n key val =>
    have hd : Dom val := hv
    rw [histo_stateAfter_line]
    by_cases hn : n < h.items.length
    · rw [if_pos hn]
      exact histo_writeForLine_inv U env h vt hinv n key val hd hn
    · rw [if_neg hn]
      exact ⟨vt, histo_writeForLine_beyond env h vt n key val (by omega), hinv⟩
  | total t => exact histo_updateTotal_inv U env h vt hinv t

/-- the redraw invariant is preserved by EVERY sequence of `WriteForLine` / `UpdateTotal` calls -/
theorem histo_runOps_inv (U : UnitLaws A Dom Unit le) (env : Env) : ∀ (ops : List HistoOp) (h : Histo) (vt : VirtualTerm),
    HistoInv A Dom env h vt → (∀ op ∈ ops, op.Valid Dom) →
    ∃ vt', Histo.runOps A env (h, vt) ops = .ok (h.stateAfterAll env ops, vt') ∧ HistoInv A Dom env (h.stateAfterAll env ops) vt' := by
  intro ops
  induction ops with
  | nil => intro h vt hinv _; exact ⟨vt, rfl, hinv⟩
  | cons op rest ih =>
    intro h vt hinv hv
    obtain ⟨vt1, h1, hinv1⟩ := histo_applyOp_inv U env h vt hinv op (hv op (by simp))
    obtain ⟨vt2, h2, hinv2⟩ := ih (h.stateAfter env op) vt1 hinv1 (by
      intro o ho; exact hv o (by simp [ho]))
    refine ⟨vt2, ?_, hinv2⟩
    unfold Histo.runOps
    rw [List.foldlM_cons, h1]
    exact h2

/-- a new histogram on an empty terminal satisfies the invariant -/
theorem histo_new_inv (U : UnitLaws A Dom Unit le) (env : Env) (maxLines : Int) (showBar showPct : Bool) (scaler : Scaler) (fmt : Fmt) (h : Histo)
    (hn : Histo.new maxLines showBar showPct scaler fmt = .ok h) :
    HistoInv A Dom env h VirtualTerm.new ∧ (h.items.length : Int) = maxLines ∧ h.maxVal = 0 := by
  unfold Histo.new makeSlice at hn
  split at hn
  · cases hn
  · rename_i hml
    cases hn
    have hnone : ∀ (i : Nat) (k : Bytes) (v : Int), (List.replicate maxLines.toNat (none : Option (Bytes × Int)))[i]? ≠ some (some (k, v)) :=
      fun i k v hi => by cases List.eq_of_mem_replicate (List.mem_of_getElem? hi)
    refine ⟨⟨rfl, U.dom_zero, ?_, ?_, ?_, ?_⟩, by simp; omega, rfl⟩ <;> intro i k v hi <;> exact absurd hi (hnone i k v)

/-! ### a render: `writeHistoOutput` of cmd/histo.go -/

/-- the `WriteForLine` calls of one render: the displayed items on the lines `b, b+1, …` -/
def histoLineOps (b : Nat) (l : List (Bytes × Int)) : List HistoOp := (l.zipIdx b).map fun p => HistoOp.line p.2 p.1.1 p.1.2

/-- the items a render displays: those with at least `atLeast` samples, in the sorted order -/
def histoShown (items : List (Bytes × Int)) (atLeast : Int) : List (Bytes × Int) := items.filter fun it => decide (it.2 ≥ atLeast)

/-- the calls of one render -/
def histoOutputOps (items : List (Bytes × Int)) (total atLeast : Int) : List HistoOp :=
  HistoOp.total total :: histoLineOps 0 (histoShown items atLeast)

theorem histoLineOps_cons (b : Nat) (it : Bytes × Int) (l : List (Bytes × Int)) :
    histoLineOps b (it :: l) = HistoOp.line b it.1 it.2 :: histoLineOps (b + 1) l := by
  simp [histoLineOps, List.zipIdx_cons]

theorem histo_stateAfterAll_cons (env : Env) (h : Histo) (op : HistoOp) (ops : List HistoOp) :
    h.stateAfterAll env (op :: ops) = (h.stateAfter env op).stateAfterAll env ops := rfl

/-- the rows stored after the `WriteForLine` calls of a render: line `b + i` holds the `i`-th displayed item -/
theorem histo_lineOps_items (env : Env) : ∀ (l : List (Bytes × Int)) (b : Nat) (h : Histo), b + l.length ≤ h.items.length →
    (∀ (i : Nat) (it : Bytes × Int), l[i]? = some it → (h.stateAfterAll env (histoLineOps b l)).items[b + i]? = some (some it)) ∧
    (∀ j, j < b → (h.stateAfterAll env (histoLineOps b l)).items[j]? = h.items[j]?) := by
  intro l
  induction l with
  | nil => intro b h _; exact ⟨by intro i it hi; simp at hi, fun j _ => rfl⟩
  | cons it l ih =>
    intro b h hb
    simp only [List.length_cons] at hb
    rw [histoLineOps_cons, histo_stateAfterAll_cons, histo_stateAfter_line, if_pos (by omega)]
    have hlen : (h.afterLine env b it.1 it.2).items.length = h.items.length := List.length_set ..
    obtain ⟨i1, i2⟩ := ih (b + 1) (h.afterLine env b it.1 it.2) (by rw [hlen]; omega)
    constructor
    · intro i x hi
      cases i with
      | zero =>
        simp at hi; subst hi
        simp only [Nat.add_zero]
        rw [i2 b (by omega)]
        show (h.items.set b (some (it.1, it.2)))[b]? = _
        rw [getElem?_set_self' _ _ _ (by omega)]
      | succ i =>
        have := i1 i x (by simpa using hi)
        rwa [show b + 1 + i = b + (i + 1) by omega] at this
    · intro j hj
      rw [i2 j (by omega)]
      show (h.items.set b (some (it.1, it.2)))[j]? = _
      rw [getElem?_set_ne' _ _ _ _ (by omega)]

/-- the item loop of `writeHistoOutput` from a state satisfying the invariant -/
theorem histo_loop_inv (U : UnitLaws A Dom Unit le) (env : Env) (atLeast : Int) : ∀ (items : List (Bytes × Int)) (h : Histo) (vt : VirtualTerm) (b : Nat),
    HistoInv A Dom env h vt → (∀ it ∈ items, Dom it.2) → b + (histoShown items atLeast).length ≤ h.items.length →
    ∃ vt', items.foldlM (fun (s : Histo × VirtualTerm × Int) (it : Bytes × Int) =>
        if it.2 ≥ atLeast then do
          let (h, vt) ← s.1.writeForLine A env s.2.1 s.2.2 it.1 it.2
          pure (h, vt, s.2.2 + 1)
        else pure s) (h, vt, (b : Int)) =
          .ok (h.stateAfterAll env (histoLineOps b (histoShown items atLeast)), vt', ((b + (histoShown items atLeast).length : Nat) : Int)) ∧
      HistoInv A Dom env (h.stateAfterAll env (histoLineOps b (histoShown items atLeast))) vt' := by
  intro items
  induction items with
  | nil => intro h vt b hinv _ _; exact ⟨vt, rfl, hinv⟩
  | cons it rest ih =>
    intro h vt b hinv hdom hb
    rw [List.foldlM_cons]
    by_cases hge : it.2 ≥ atLeast
    · have hs : histoShown (it :: rest) atLeast = it :: histoShown rest atLeast := by simp [histoShown, hge]
      rw [hs] at hb ⊢
      simp only [List.length_cons] at hb
      obtain ⟨vt1, hw, hinv1⟩ := histo_writeForLine_inv U env h vt hinv b it.1 it.2 (hdom it (by simp)) (by omega)
      have hlen : (h.afterLine env b it.1 it.2).items.length = h.items.length := List.length_set ..
      obtain ⟨vt2, hf, hinv2⟩ := ih (h.afterLine env b it.1 it.2) vt1 (b + 1) hinv1 (fun x hx => hdom x (by simp [hx])) (by rw [hlen]; omega)
      simp only [histoLineOps_cons, histo_stateAfterAll_cons, histo_stateAfter_line, if_pos (show b < h.items.length by omega)]
      refine ⟨vt2, ?_, hinv2⟩
      simp only [if_pos hge, hw, bind, Except.bind, pure, Except.pure]
      have e1 : ((b : Int) + 1) = ((b + 1 : Nat) : Int) := by omega
      have e2 : b + (histoShown rest atLeast).length.succ = b + 1 + (histoShown rest atLeast).length := by omega
      rw [e1, List.length_cons, e2]
      exact hf
    · have hs : histoShown (it :: rest) atLeast = histoShown rest atLeast := by simp [histoShown, hge]
      rw [hs] at hb ⊢
      obtain ⟨vt2, hf, hinv2⟩ := ih h vt b hinv (fun x hx => hdom x (by simp [hx])) hb
      refine ⟨vt2, ?_, hinv2⟩
      simp only [if_neg hge, bind, Except.bind, pure, Except.pure]
      exact hf

/-- ONE RENDER (`writeHistoOutput`), from any state satisfying the invariant – in particular after any number of
earlier renders: it returns, the invariant holds again, the state is the one after `UpdateTotal` and one
`WriteForLine` per displayed item -/
theorem histo_writeOutput_inv (U : UnitLaws A Dom Unit le) (env : Env) (h : Histo) (vt : VirtualTerm) (hinv : HistoInv A Dom env h vt)
    (items : List (Bytes × Int)) (total atLeast : Int) (hdom : ∀ it ∈ items, Dom it.2)
    (hfit : (histoShown items atLeast).length ≤ h.items.length) :
    ∃ vt', h.writeOutput A env vt items total atLeast = .ok (h.stateAfterAll env (histoOutputOps items total atLeast), vt') ∧
      HistoInv A Dom env (h.stateAfterAll env (histoOutputOps items total atLeast)) vt' := by
  obtain ⟨vt1, hu, hinv1⟩ := histo_updateTotal_inv U env h vt hinv total
  obtain ⟨vt2, hl, hinv2⟩ := histo_loop_inv U env atLeast items { h with total := total } vt1 0 hinv1 hdom (by simpa using hfit)
  refine ⟨vt2, ?_, hinv2⟩
  unfold Histo.writeOutput
  simp only [Int.natCast_zero, bind, Except.bind, pure, Except.pure] at hl
  simp only [hu, bind, Except.bind, pure, Except.pure]
  rw [hl]
  rfl

/-! ### what a line drawn with the current state looks like -/

/-- the bar of a line: the glyphs of `BarWrite(Scale(val, 0, maxVal), 50)` – at most 50 -/
theorem histo_bar_shape (U : UnitLaws A Dom Unit le) (env : Env) (h : Histo) (val : Int) (hd : Dom val) (hm : Dom h.maxVal) :
    ∃ rs, barWriteR A env (scale A h.scaler val 0 h.maxVal) 50 = .ok rs ∧ h.barBytes A env val = rs.flatMap encodeRune ∧
      (rs.length : Int) = glyphCount A env 50 (scale A h.scaler val 0 h.maxVal) ∧ rs.length ≤ 50 := by
  obtain ⟨rs, hrs, hb, hl, hle⟩ := U.barWrite_ok env (U.scale_unit h.scaler hd U.dom_zero hm) (maxLen := 50) (by omega) (by omega)
  exact ⟨rs, hrs, by unfold Histo.barBytes; rw [hb], hl, by omega⟩

/-- the line: key column, `Formatter(val, 0, maxVal)` for the CURRENT maximum, percentage, bar -/
theorem histo_lineText_shape (env : Env) (h : Histo) (key : Bytes) (val : Int) :
    ∃ tail, h.lineText A env key val = h.lineHead env key val ++ tail ∧
      (h.showBar = true ∧ h.maxVal > 0 → ∃ mid, tail = mid ++ [32] ++ colorWrite env cBlue (h.barBytes A env val)) ∧
      (¬ (h.showBar = true ∧ h.maxVal > 0) → tail = if h.showPct = true ∧ h.total > 0 then [32] ++ wrap env cCyan pctText else []) := by
  unfold Histo.lineText Histo.lineHead
  by_cases hb : h.showBar = true ∧ h.maxVal > 0
  · by_cases hp : h.showPct = true ∧ h.total > 0
    · exact ⟨[32] ++ wrap env cCyan pctText ++ [32] ++ colorWrite env cBlue (h.barBytes A env val), by simp [hb, hp, List.append_assoc],
        fun _ => ⟨[32] ++ wrap env cCyan pctText, rfl⟩, fun hn => absurd hb hn⟩
    · exact ⟨[32] ++ colorWrite env cBlue (h.barBytes A env val), by simp [hb, hp, List.append_assoc],
        fun _ => ⟨[], rfl⟩, fun hn => absurd hb hn⟩
  · by_cases hp : h.showPct = true ∧ h.total > 0
    · exact ⟨[32] ++ wrap env cCyan pctText, by simp [hb, hp, List.append_assoc], fun hh => absurd hh hb, fun _ => by simp [hp]⟩
    · exact ⟨[], by simp [hb, hp], fun hh => absurd hh hb, fun _ => by simp [hp]⟩

/-- bars of one histogram are proportional: a larger value never has fewer glyphs -/
theorem histo_bars_monotone (U : UnitLaws A Dom Unit le) (env : Env) (h : Histo) (val val' : Int) (hd : Dom val) (hd' : Dom val') (hm : Dom h.maxVal)
    (hvv : val ≤ val') :
    glyphCount A env 50 (scale A h.scaler val 0 h.maxVal) ≤ glyphCount A env 50 (scale A h.scaler val' 0 h.maxVal) :=
  U.glyphCount_mono env (U.scale_unit h.scaler hd U.dom_zero hm) (U.scale_unit h.scaler hd' U.dom_zero hm)
    (U.scale_mono h.scaler hd hd' U.dom_zero hm hvv) (by omega) (by omega)

/-- the rows stored and the state after one render of the histogram -/
theorem histo_render_rows (env : Env) (h : Histo) (items : List (Bytes × Int)) (total atLeast : Int)
    (hfit : (histoShown items atLeast).length ≤ h.items.length) (i : Nat) (it : Bytes × Int) (hi : (histoShown items atLeast)[i]? = some it) :
    (h.stateAfterAll env (histoOutputOps items total atLeast)).items[i]? = some (some it) := by
  unfold histoOutputOps
  rw [histo_stateAfterAll_cons]
  have := (histo_lineOps_items env (histoShown items atLeast) 0 (h.stateAfter env (.total total))
    (by rw [Nat.zero_add]; exact hfit)).1 i it hi
  rwa [Nat.zero_add] at this

end
end Rare.C14

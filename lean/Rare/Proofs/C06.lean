import Rare.Model.C06
import Rare.Model.C06Exec
import Rare.Spec.C06
import Rare.Proofs.Pipeline
/-! Helper lemmas for the C06 property theorems. -/
namespace Rare.C06
open Rare.Pipeline Rare.C01

theorem sum_indicator {β : Type} [BEq β] [LawfulBEq β] (x : β) :
    ∀ ls : List (List β), (∀ l ∈ ls, l.Nodup) →
      (ls.map (List.count x)).sum = (ls.filter (fun l => l.contains x)).length
  | [], _ => by simp
  | l :: ls, h => by
    have hl := h l (by simp)
    have ih := sum_indicator x ls (fun l' hl' => h l' (by simp [hl']))
    simp only [List.map_cons, List.sum_cons, List.filter_cons, ih, hl.count]
    by_cases hx : x ∈ l <;> simp [hx] <;> omega

/-- Every expansion of one argument is duplicate-free when the oracle's listings are. -/
theorem expandArg_nodup (fs : FsOracle) (recursive : Bool)
    (hg : ∀ p l, fs.glob p = .found l → l.Nodup) (hw : ∀ p, (fs.walk p).Nodup) (p : Path) :
    (expandArg fs recursive p).Nodup := by
  unfold expandArg
  split
  · exact hw p
  · split
    · simp
    · rename_i l hl
      split
      · exact hg p l hl
      · simp

theorem runFile_errs (gunzip : Bool) (name : Path) (f : FileOracle) :
    (runFile gunzip name f).errs = if (readOutcome f gunzip).failed then 1 else 0 := by
  unfold runFile readOutcome readOutcomeG openFileToReader
  cases h : openFileToReaderG true f gunzip with
  | none => simp [Outcome.failed]
  | some rb =>
    obtain ⟨rd, fb⟩ := rb
    cases hs : streamOf f rd with
    | mk data err => cases err <;> simp [runStream, Outcome.failed, hs]

theorem runFile_lines (gunzip : Bool) (name : Path) (f : FileOracle) :
    (runFile gunzip name f).lines = C04.splitLines (readOutcome f gunzip).delivered := by
  unfold runFile readOutcome readOutcomeG openFileToReader
  cases h : openFileToReaderG true f gunzip with
  | none => simp [Outcome.delivered, C04.splitLines, C04.splitGo]
  | some rb =>
    obtain ⟨rd, fb⟩ := rb
    cases hs : streamOf f rd with
    | mk data err => cases err <;> simp [runStream, Outcome.delivered, hs]

theorem runFile_name (gunzip : Bool) (name : Path) (f : FileOracle) :
    (runFile gunzip name f).name = name := by
  unfold runFile
  cases h : openFileToReader f gunzip with
  | none => rfl
  | some rb =>
    obtain ⟨rd, fb⟩ := rb
    cases hs : streamOf f rd with
    | mk data err => simp [runStream, hs]

theorem sum_errs_eq (l : List Bool) :
    (l.map fun b => if b then 1 else 0).sum = Spec.specErrors l := by
  induction l with
  | nil => rfl
  | cons b l ih =>
    simp only [List.map_cons, List.sum_cons, ih, Spec.specErrors, List.filter_cons]
    cases b <;> simp <;> omega

/-! ### the reader goroutines, statement by statement -/

theorem openFileToReader_eq_none (f : FileOracle) (gunzip : Bool) :
    openFileToReader f gunzip = none ↔ f.canOpen = false := by
  unfold openFileToReader openFileToReaderG
  cases f.canOpen <;> cases gunzip <;> cases f.gzHeaderOk <;> simp

theorem interpOnError_std (name : Bytes) (e : Eff) :
    interpOnError name [.incErr, .logReadErr] e
      = { e with errs := e.errs + 1, logs := e.logs ++ [.readError name] } := rfl

/-- the statements of the goroutine when `os.Open` fails -/
theorem interpReader_openErr (gunzip : Bool) (name : Path) (f : FileOracle)
    (hop : openFileToReader f gunzip = none) (cb ops : List String)
    (hops : ops.map classify = [.declFile, .openFile, .logOpenErr, .incErr, .release, .stop, .wgDone]) :
    interpReader cb gunzip name f ops =
      { errs := 1, logs := [.openError name], stopped := 1, released := 1, done := 1 } := by
  simp only [interpReader, hops, List.foldl, interpStmt, hop]
  simp

/-- … and when it returns the reader `rd` -/
theorem interpReader_opened (gunzip : Bool) (name : Path) (f : FileOracle) (rd : Rd) (fb : Bool)
    (hop : openFileToReader f gunzip = some (rd, fb))
    (cb : List String) (hcb : cb.map classify = [.incErr, .logReadErr]) (ops : List String)
    (hops : ops.map classify = [.declFile, .openFile, .start, .sync, .closeFile, .release, .stop, .wgDone]) :
    interpReader cb gunzip name f ops =
      { errs := if (streamOf f rd).2 then 1 else 0,
        logs := (if fb then [.gunzipFallback name] else []) ++ if (streamOf f rd).2 then [.readError name] else [],
        lines := C04.splitLines (streamOf f rd).1, rd := some rd,
        started := 1, stopped := 1, released := 1, done := 1, closed := 1 } := by
  simp only [interpReader, hops, hcb, List.foldl, interpStmt, hop, interpOnError_std]
  cases (streamOf f rd).2 <;> simp

theorem interpStdin_std (name data : Bytes) (fails : Bool) (cb : List String)
    (hcb : cb.map classify = [.incErr, .logReadErr]) (ops : List String)
    (hops : ops.map classify = [.startStdin, .syncFlush, .closeChan, .closeReader]) :
    interpStdin cb name data fails ops =
      { errs := if fails then 1 else 0, logs := if fails then [.readError name] else [],
        lines := C04.splitLines data, started := 1, closed := 1, chanClosed := 1,
        errsAtClose := some (if fails then 1 else 0) } := by
  simp only [interpStdin, hops, hcb, List.foldl, interpStdinStmt, interpOnError_std]
  cases fails <;> simp

/-! ### semaphore accounting in the pipeline transition system -/

theorem filter_set_length {γ : Type} (p : γ → Bool) :
    ∀ {l : List γ} {i : Nat} {a : γ} (b : γ), l[i]? = some a →
      ((l.set i b).filter p).length + (if p a then 1 else 0) = (l.filter p).length + (if p b then 1 else 0) := by
  intro l
  induction l with
  | nil => intro i a b h; simp at h
  | cons x xs ih =>
    intro i a b h
    cases i with
    | zero =>
      simp at h; subst h
      simp only [List.set_cons_zero, List.filter_cons]
      cases hx : p x <;> cases hb : p b <;> simp
    | succ i =>
      simp at h
      have := ih b h
      simp only [List.set_cons_succ, List.filter_cons]
      cases hx : p x <;> simp <;> omega

/-- The semaphore bound: never more than `R` reader goroutines hold a slot. -/
theorem active_le {α : Type} {cls : α → Cls} {R B K : Nat} {s s' : St α}
    (hs : Step cls R B K s s') (h : activeCount s ≤ R) : activeCount s' ≤ R := by
  cases hs with
  | start i bs hi hlt =>
    have := filter_set_length SrcSt.isActive (SrcSt.active bs) hi
    simp [SrcSt.isActive] at this
    simp only [activeCount] at *; omega
  | send i b bs hi hc =>
    have := filter_set_length SrcSt.isActive (SrcSt.active bs) hi
    simp [SrcSt.isActive] at this
    simp only [activeCount] at *; omega
  | finish i hi =>
    have := filter_set_length SrcSt.isActive (SrcSt.done (α := α)) hi
    simp [SrcSt.isActive] at this
    simp only [activeCount] at *; omega
  | closeC _ _ => exact h
  | wrecv _ _ _ _ _ => exact h
  | wproc _ _ _ _ _ => exact h
  | wsend _ _ _ _ _ => exact h
  | wskip _ _ => exact h
  | wexit _ _ _ _ => exact h
  | closeRC _ _ => exact h
  | crecv _ _ _ _ => exact h
  | cdone _ _ _ => exact h

theorem active_le_reach {α : Type} {cls : α → Cls} {R B K : Nat} {s0 s : St α}
    (hr : Reach cls R B K s0 s) (h0 : activeCount s0 ≤ R) : activeCount s ≤ R := by
  induction hr with
  | refl => exact h0
  | step _ hs ih => exact active_le hs ih

theorem active_init {α : Type} (inputs : List (List (List α))) (W : Nat) : activeCount (init inputs W) = 0 := by
  simp [activeCount, init, List.filter_map, Function.comp_def, SrcSt.isActive]

theorem active_zero_of_all_done {α : Type} {s : St α} (h : s.srcs.all SrcSt.isDone = true) : activeCount s = 0 := by
  simp only [activeCount, List.length_eq_zero_iff, List.filter_eq_nil_iff]
  intro a ha
  rw [List.all_eq_true] at h
  have := h a ha
  cases a <;> simp_all [SrcSt.isDone, SrcSt.isActive]

/-! ### lines of one source inside the sequential reference -/

theorem linesOf_src (i : Nat) (d : Bytes) : ∀ l ∈ linesOf i d, l.src = i := by
  intro l hl
  simp only [linesOf, List.mem_map] at hl
  obtain ⟨p, _, rfl⟩ := hl
  rfl

theorem filter_linesOf_self (i : Nat) (d : Bytes) : (linesOf i d).filter (fun l => decide (l.src = i)) = linesOf i d := by
  rw [List.filter_eq_self]
  intro l hl
  simp [linesOf_src i d l hl]

theorem filter_linesOf_other {i j : Nat} (h : j ≠ i) (d : Bytes) :
    (linesOf j d).filter (fun l => decide (l.src = i)) = [] := by
  rw [List.filter_eq_nil_iff]
  intro l hl
  simp [linesOf_src j d l hl, h]

theorem filter_src_zipIdx (i : Nat) : ∀ (datas : List Bytes) (k : Nat),
    (((datas.zipIdx k).flatMap fun p => linesOf p.2 p.1).filter (fun l => decide (l.src = i)))
      = if k ≤ i then (match datas[i - k]? with | some d => linesOf i d | none => []) else [] := by
  intro datas
  induction datas with
  | nil => intro k; simp
  | cons d ds ih =>
    intro k
    simp only [List.zipIdx_cons, List.flatMap_cons, List.filter_append, ih (k + 1)]
    by_cases hki : k = i
    · subst hki
      have h1 : ¬ (k + 1 ≤ k) := by omega
      simp [filter_linesOf_self, h1]
    · rw [filter_linesOf_other hki]
      by_cases hle : k ≤ i
      · have h1 : k + 1 ≤ i := by omega
        have h2 : i - k = (i - (k + 1)) + 1 := by omega
        simp [hle, h1, h2]
      · have h1 : ¬ (k + 1 ≤ i) := by omega
        simp [hle, h1]

theorem filter_src_allLines (datas : List Bytes) (i : Nat) (d : Bytes) (h : datas[i]? = some d) :
    (allLines datas).filter (fun l => decide (l.src = i)) = linesOf i d := by
  unfold allLines
  rw [filter_src_zipIdx i datas 0]
  simp [h]

/-! ### the whole run in terms of what each planned input delivers -/

/-- what one planned input hands to the extractor and whether it is counted as a read error -/
def Source.delivered (gunzip : Bool) (files : Path → FileOracle) (stdin : Bytes) : Source → Bytes
  | .stdin => stdin
  | .file p => (readOutcome (files p) gunzip).delivered

def Source.failed (gunzip : Bool) (files : Path → FileOracle) (stdinFails : Bool) : Source → Bool
  | .stdin => stdinFails
  | .file p => (readOutcome (files p) gunzip).failed

theorem exitCode_spec (re : Nat) (pe : Option Nat) (m : Nat) :
    (exitCode re pe m).1 = Spec.specExit re (pe.getD 0) m := by
  unfold exitCode Spec.specExit
  cases pe <;> simp <;> (repeat' split) <;> simp_all

end Rare.C06

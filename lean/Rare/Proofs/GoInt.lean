import Rare.Base.GoInt
/-! Facts about the int64 and decimal-digit helpers of `Rare/Base/GoInt.lean` that several properties use. -/
namespace Rare

/-- An int64 is its own wrap-around. -/
theorem wrap64_id {x : Int} (h1 : minInt64 ≤ x) (h2 : x ≤ maxInt64) : wrap64 x = x := by
  unfold wrap64; unfold minInt64 at h1; unfold maxInt64 at h2; omega

/-- The byte `natDigits` writes for the digit `d`. -/
theorem digitChar_byte : ∀ d : Nat, d < 10 → UInt8.ofNat (Nat.digitChar d).toNat = UInt8.ofNat (48 + d) := by decide

theorem natDigits_all (n : Nat) : (natDigits n).all isDigitB = true := by
  simp only [natDigits, List.all_map, List.all_eq_true]
  intro c hc
  have hd := Nat.isDigit_of_mem_toDigits (by decide) (by decide) hc
  simp only [Char.isDigit, Bool.and_eq_true, decide_eq_true_eq] at hd
  have h1 : 48 ≤ c.toNat := UInt32.le_iff_toNat_le.mp hd.1
  have h2 : c.toNat ≤ 57 := UInt32.le_iff_toNat_le.mp hd.2
  simp only [Function.comp, isDigitB, Bool.and_eq_true, decide_eq_true_eq]
  constructor
  · apply UInt8.le_iff_toNat_le.mpr; simp; omega
  · apply UInt8.le_iff_toNat_le.mpr; simp; omega

theorem natDigits_ne_nil (n : Nat) : natDigits n ≠ [] := by
  simp [natDigits, Nat.toDigits_ne_nil]

theorem digitsVal_append (a b : Bytes) (acc : Nat) : digitsVal (a ++ b) acc = digitsVal b (digitsVal a acc) := by
  induction a generalizing acc with
  | nil => rfl
  | cons c a ih => simp [digitsVal, ih]

theorem digitsVal_snoc (l : Bytes) (b : UInt8) (acc : Nat) :
    digitsVal (l ++ [b]) acc = digitsVal l acc * 10 + (b.toNat - 48) := by
  rw [digitsVal_append]; rfl

end Rare

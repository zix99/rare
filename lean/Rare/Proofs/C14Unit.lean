import Rare.Proofs.C14F64
import Rare.Proofs.C14Heat
/-!
# C14: the laws of a `float64` instance that the renderer proofs use, and its two instances

`UnitLaws A Dom Unit le` collects what the proofs about cells, bars and whole renderers need of an instance
`A` of the `float64` operations: `Scale` of integers in `Dom` is a `Unit` value and monotone (`le`), and
`int(u * float64(n))` of a unit value lies in `[0, n]` and is monotone, for `0 ≤ n ≤ 2^53`.

* `unitLaws_rat`: exact rational arithmetic with abstract monotone logarithms (`Dom` = every integer);
* `unitLaws_f64`: IEEE-754 binary64 (`Dom` = int64, `Unit` = finite float with value in `[0,1]`).

Everything below the instances is proved once for both: palette lookups (`heatWrite`, `sparkWrite`) never
fail and give one cell, `BarWrite` writes at most `maxLen` glyphs and more for a larger value.
-/
namespace Rare.C14
open Rare Rare.C20

structure UnitLaws {α : Type} (A : Arith α) (Dom : Int → Prop) (Unit : α → Prop) (le : α → α → Prop) : Prop where
  dom_zero : Dom 0
  dom_wrap : ∀ x, Dom (wrap64 x)
  dom_trunc : ∀ x, Dom (A.trunc x)
  scale_unit : ∀ (k : Scaler) {v mn mx : Int}, Dom v → Dom mn → Dom mx → Unit (scale A k v mn mx)
  scale_mono : ∀ (k : Scaler) {v v' mn mx : Int}, Dom v → Dom v' → Dom mn → Dom mx → v ≤ v' →
    le (scale A k v mn mx) (scale A k v' mn mx)
  trunc_mul : ∀ {u : α} {n : Int}, Unit u → 0 ≤ n → n ≤ 9007199254740992 →
    0 ≤ A.trunc (A.mul u (A.ofInt n)) ∧ A.trunc (A.mul u (A.ofInt n)) ≤ n
  trunc_mul_mono : ∀ {u v : α} {n : Int}, Unit u → Unit v → le u v → 0 ≤ n → n ≤ 9007199254740992 →
    A.trunc (A.mul u (A.ofInt n)) ≤ A.trunc (A.mul v (A.ofInt n))

/-- exact rational arithmetic, logarithms only assumed monotone and non-negative above 1 -/
theorem unitLaws_rat {L2 L10 : Rat → Rat} (h2 : LogLike L2) (h10 : LogLike L10) :
    UnitLaws (ratArith L2 L10) (fun _ => True) (fun u => 0 ≤ u ∧ u ≤ 1) (fun u v => u ≤ v) where
  dom_zero := trivial
  dom_wrap := fun _ => trivial
  dom_trunc := fun _ => trivial
  scale_unit := fun k v mn mx _ _ _ => scale_bounds h2 h10 k v mn mx
  scale_mono := fun k _ _ mn mx _ _ _ _ h => scale_mono h2 h10 k mn mx h
  trunc_mul := fun hu h0 _ => trunc_mul_bounds hu.1 hu.2 h0
  trunc_mul_mono := fun hu _ huv h0 _ => trunc_mul_mono hu.1 huv h0

theorem toInt64_i64 (x : F64) : I64 (F64.toInt64 x) := by
  unfold F64.toInt64 I64
  split
  · unfold minInt64 maxInt64; omega
  · simp only
    split
    · unfold minInt64 maxInt64; omega
    · rename_i h
      simp only [Bool.or_eq_true, decide_eq_true_eq, not_or, Int.not_lt] at h
      exact h

/-- IEEE-754 binary64 (`Rare.F64`), logarithms assumed finite and monotone on `[1, ∞)` with `log 1 = 0` -/
theorem unitLaws_f64 {L2 L10 P2 P10 : F64 → F64} (h2 : LogLikeF64 L2) (h10 : LogLikeF64 L10) :
    UnitLaws (f64Arith L2 L10 P2 P10) I64 UnitF64 (fun u v => u.toRat ≤ v.toRat) where
  dom_zero := by unfold I64 minInt64 maxInt64; omega
  dom_wrap := i64_wrap
  dom_trunc := toInt64_i64
  scale_unit := fun k _ _ _ hv hmn hmx => scale_f64_unit h2 h10 k hv hmn hmx
  scale_mono := fun k _ _ _ _ hv hv' hmn hmx h => scale_f64_mono h2 h10 k hv hv' hmn hmx h
  trunc_mul := fun hu h0 h1 => by
    simp only [f64Arith]
    exact ⟨(trunc_mul_f64 hu h0 h1).1, (trunc_mul_f64 hu h0 h1).2.1⟩
  trunc_mul_mono := fun hu hv huv h0 h1 => by
    simp only [f64Arith]
    exact trunc_mul_f64_mono hu hv huv h0 h1

/-! ### consequences, for every instance -/

section
variable {α : Type} {A : Arith α} {Dom : Int → Prop} {Unit : α → Prop} {le : α → α → Prop}

/-- `Bucket(n, u)` is an index into a table of `n` entries (`1 ≤ n ≤ 2^53`) -/
theorem UnitLaws.bucket_bounds (U : UnitLaws A Dom Unit le) {u : α} (hu : Unit u) {n : Int} (hn : 1 ≤ n) (hn' : n ≤ 9007199254740992) :
    0 ≤ bucket A n u ∧ bucket A n u < n := by
  have := U.trunc_mul hu (n := n - 1) (by omega) (by omega)
  unfold bucket; omega

/-- `LengthVal(n, u)` lies in `[0, n]` -/
theorem UnitLaws.lengthVal_bounds (U : UnitLaws A Dom Unit le) {u : α} (hu : Unit u) {n : Int} (hn : 0 ≤ n) (hn' : n ≤ 9007199254740992) :
    0 ≤ lengthVal A n u ∧ lengthVal A n u ≤ n :=
  U.trunc_mul hu hn hn'

theorem UnitLaws.lengthVal_mono (U : UnitLaws A Dom Unit le) {u v : α} (hu : Unit u) (hv : Unit v) (huv : le u v) {n : Int} (hn : 0 ≤ n)
    (hn' : n ≤ 9007199254740992) : lengthVal A n u ≤ lengthVal A n v :=
  U.trunc_mul_mono hu hv huv hn hn'

/-- `HeatWrite` of a unit value: no panic, one heat cell -/
theorem UnitLaws.heatWrite_cell (U : UnitLaws A Dom Unit le) (env : Env) {u : α} (hu : Unit u) :
    ∃ b, heatWrite A env u = .ok b ∧ IsHeatCell env b := by
  unfold heatWrite
  by_cases hc : env.color
  · obtain ⟨a, b⟩ := U.bucket_bounds hu (n := (heatmapColors.length : Int)) (by decide) (by decide)
    obtain ⟨x, hx⟩ := getIdx_ok heatmapColors a b
    refine ⟨wrap env x (encodeRune (if env.unicode then fullBlock else heatmapNonUnicode)), ?_, Or.inr ⟨x, getIdx_mem hx, rfl⟩⟩
    simp [hc, hx, bind, Except.bind, pure, Except.pure]
  · obtain ⟨a, b⟩ := U.bucket_bounds hu (n := (heatmapAscii.length : Int)) (by decide) (by decide)
    obtain ⟨x, hx⟩ := getIdx_ok heatmapAscii a b
    exact ⟨x, by simp [hc, hx], Or.inl (getIdx_mem hx)⟩

/-- `SparkWrite` of a unit value: no panic, one glyph of the palette -/
theorem UnitLaws.sparkWrite_glyph (U : UnitLaws A Dom Unit le) (env : Env) {u : α} (hu : Unit u) :
    ∃ b, sparkWrite A env u = .ok b ∧ IsSparkGlyph b := by
  unfold sparkWrite
  by_cases hc : env.unicode
  · obtain ⟨a, b⟩ := U.bucket_bounds hu (n := (sparkBlocks.length : Int)) (by decide) (by decide)
    obtain ⟨x, hx⟩ := getIdx_ok sparkBlocks a b
    exact ⟨encodeRune x, by simp [hc, hx, bind, Except.bind, pure, Except.pure], x, Or.inl (getIdx_mem hx), rfl⟩
  · obtain ⟨a, b⟩ := U.bucket_bounds hu (n := (sparkAscii.length : Int)) (by decide) (by decide)
    obtain ⟨x, hx⟩ := getIdx_ok sparkAscii a b
    exact ⟨encodeRune x, by simp [hc, hx, bind, Except.bind, pure, Except.pure], x, Or.inr (getIdx_mem hx), rfl⟩

/-- number of glyphs of `BarWrite` as a function of the scaled block count -/
def glyphCount (A : Arith α) (env : Env) (maxLen : Int) (u : α) : Int :=
  if env.unicode then
    let rem := lengthVal A (wrap64 (maxLen * barUnicodePartCount)) u
    (barParts rem).1 + (if (barParts rem).2 > 0 then 1 else 0)
  else lengthVal A maxLen u

theorem wrap_mul9 {maxLen : Int} (hm : 0 ≤ maxLen) (hs : maxLen < 1000000000000000000) :
    wrap64 (maxLen * barUnicodePartCount) = maxLen * 9 := by
  have : barUnicodePartCount = 9 := by decide
  rw [this]; exact wrap64_small (by omega) (by omega)

theorem barParts_nonneg {rem : Int} (h : 0 ≤ rem) : barParts rem = (rem / 9, rem % 9) := by
  have : barUnicodePartCount = 9 := by decide
  simp [barParts, this, show ¬ rem < 0 by omega]

/-! `BarWrite(w, u, maxLen)` from what it needs of `u`: `LengthVal(n, u)` lies in `[0, n]` for the two lengths it computes, `maxLen`
(ASCII) and `maxLen * 9` (eighth blocks) -/

theorem barWriteR_ok_of (env : Env) {u : α} {maxLen : Int} (hm : 0 ≤ maxLen) (hs : maxLen < 1000000000000000000)
    (hl : ∀ n, 0 ≤ n → n ≤ maxLen * 9 → 0 ≤ lengthVal A n u ∧ lengthVal A n u ≤ n) :
    ∃ rs, barWriteR A env u maxLen = .ok rs ∧ (rs.length : Int) = glyphCount A env maxLen u := by
  unfold barWriteR glyphCount
  by_cases hc : env.unicode
  · obtain ⟨a, b⟩ := hl (maxLen * 9) (by omega) (by omega)
    simp only [hc, if_true, wrap_mul9 hm hs]
    generalize lengthVal A (maxLen * 9) u = rem at a b
    rw [barParts_nonneg a]
    simp only
    by_cases hpart : rem % 9 > 0
    · have h9 : (barUnicode.length : Int) = 9 := by decide
      obtain ⟨x, hx⟩ := getIdx_ok barUnicode (i := rem % 9) (by omega) (by omega)
      refine ⟨List.replicate (rem / 9).toNat fullBlock ++ [x], ?_, ?_⟩
      · simp [hpart, hx, bind, Except.bind, pure, Except.pure]
      · simp [hpart]; omega
    · refine ⟨List.replicate (rem / 9).toNat fullBlock, ?_, ?_⟩
      · simp [hpart, pure, Except.pure]
      · simp [hpart]; omega
  · obtain ⟨a, b⟩ := hl maxLen hm (by omega)
    refine ⟨List.replicate (lengthVal A maxLen u).toNat nonUnicodeBlock, by simp [hc, pure, Except.pure], ?_⟩
    simp [hc]; omega

/-- a bar never has more glyphs than its maximum width -/
theorem glyphCount_le_of (env : Env) {u : α} {maxLen : Int} (hm : 0 ≤ maxLen) (hs : maxLen < 1000000000000000000)
    (hl : ∀ n, 0 ≤ n → n ≤ maxLen * 9 → 0 ≤ lengthVal A n u ∧ lengthVal A n u ≤ n) :
    0 ≤ glyphCount A env maxLen u ∧ glyphCount A env maxLen u ≤ maxLen := by
  unfold glyphCount
  by_cases hc : env.unicode
  · obtain ⟨a, b⟩ := hl (maxLen * 9) (by omega) (by omega)
    simp only [hc, if_true, wrap_mul9 hm hs]
    generalize lengthVal A (maxLen * 9) u = rem at a b
    rw [barParts_nonneg a]; simp only
    split <;> omega
  · simpa [hc] using hl maxLen hm (by omega)

/-- a bar grows with `LengthVal` -/
theorem glyphCount_mono_of (env : Env) {u v : α} {maxLen : Int} (hm : 0 ≤ maxLen) (hs : maxLen < 1000000000000000000)
    (hu : 0 ≤ lengthVal A (maxLen * 9) u)
    (huv : ∀ n, 0 ≤ n → n ≤ maxLen * 9 → lengthVal A n u ≤ lengthVal A n v) :
    glyphCount A env maxLen u ≤ glyphCount A env maxLen v := by
  unfold glyphCount
  by_cases hc : env.unicode
  · have hmono := huv (maxLen * 9) (by omega) (by omega)
    simp only [hc, if_true, wrap_mul9 hm hs]
    generalize lengthVal A (maxLen * 9) u = r1 at hu hmono
    generalize lengthVal A (maxLen * 9) v = r2 at hmono
    rw [barParts_nonneg hu, barParts_nonneg (show 0 ≤ r2 by omega)]; simp only
    split <;> split <;> omega
  · simpa [hc] using huv maxLen hm (by omega)

/-- `BarWrite` of a unit value (`0 ≤ maxLen ≤ 10^15`): no panic, `glyphCount` glyphs -/
theorem UnitLaws.barWriteR_ok (U : UnitLaws A Dom Unit le) (env : Env) {u : α} (hu : Unit u) {maxLen : Int} (hm : 0 ≤ maxLen)
    (hs : maxLen ≤ 1000000000000000) :
    ∃ rs, barWriteR A env u maxLen = .ok rs ∧ (rs.length : Int) = glyphCount A env maxLen u :=
  barWriteR_ok_of env hm (by omega) fun _ h0 h1 => U.lengthVal_bounds hu h0 (by omega)

theorem UnitLaws.glyphCount_le (U : UnitLaws A Dom Unit le) (env : Env) {u : α} (hu : Unit u) {maxLen : Int} (hm : 0 ≤ maxLen)
    (hs : maxLen ≤ 1000000000000000) : 0 ≤ glyphCount A env maxLen u ∧ glyphCount A env maxLen u ≤ maxLen :=
  glyphCount_le_of env hm (by omega) fun _ h0 h1 => U.lengthVal_bounds hu h0 (by omega)

theorem UnitLaws.glyphCount_mono (U : UnitLaws A Dom Unit le) (env : Env) {u v : α} (hu : Unit u) (hv : Unit v) (huv : le u v) {maxLen : Int}
    (hm : 0 ≤ maxLen) (hs : maxLen ≤ 1000000000000000) : glyphCount A env maxLen u ≤ glyphCount A env maxLen v :=
  glyphCount_mono_of env hm (by omega) (U.lengthVal_bounds hu (by omega) (by omega)).1
    fun _ h0 h1 => U.lengthVal_mono hu hv huv h0 (by omega)

/-- `BarWrite` of a unit value never panics: it writes the bytes of `glyphCount` glyphs, at most `maxLen` -/
theorem UnitLaws.barWrite_ok (U : UnitLaws A Dom Unit le) (env : Env) {u : α} (hu : Unit u) {maxLen : Int} (hm : 0 ≤ maxLen)
    (hs : maxLen ≤ 1000000000000000) :
    ∃ rs, barWriteR A env u maxLen = .ok rs ∧ barWrite A env u maxLen = .ok (rs.flatMap encodeRune) ∧
      (rs.length : Int) = glyphCount A env maxLen u ∧ (rs.length : Int) ≤ maxLen := by
  obtain ⟨rs, hrs, hl⟩ := U.barWriteR_ok env hu hm hs
  have hle := (U.glyphCount_le env hu hm hs).2
  exact ⟨rs, hrs, by unfold barWrite; rw [hrs]; rfl, hl, by omega⟩

end
end Rare.C14

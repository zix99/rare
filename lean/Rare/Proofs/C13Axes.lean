import Rare.Model.C13Axes
import Rare.Proofs.C13Main
import Rare.Proofs.C13Algo
/-! The render loop and the two axes of table/heatmap/spark (helper lemmas for C13). -/
namespace Rare.C13

/-- The rows of every render are what the row sorter alone produces from the rows of the renders so far,
the columns what the column sorter alone produces: no information flows between the axes. -/
theorem tableRenders_split {α σr σc : Type} (rowRun : σr → List α → List α × σr)
    (colRun : σc → List α → List α × σc) : ∀ (renders : List (List α × List α)) (sr : σr) (sc : σc),
    tableRenders rowRun colRun sr sc renders
      = (axisRenders colRun sc (renders.map (·.1))).zip (axisRenders rowRun sr (renders.map (·.2)))
  | [], _, _ => rfl
  | (cols, rows) :: rest, sr, sc => by
    simp only [tableRenders, List.map_cons, axisRenders, List.zip_cons_cons]
    rw [tableRenders_split rowRun colRun rest]

theorem axisRenders_length {α σ : Type} (sortRun : σ → List α → List α × σ) :
    ∀ (arrivals : List (List α)) (s : σ), (axisRenders sortRun s arrivals).length = arrivals.length
  | [], _ => rfl
  | a :: rest, s => by simp [axisRenders, axisRenders_length sortRun rest]

/-- A closure that is faithful to an order of `items`, used for a whole render loop (its variables are kept
between the renders): every render of a duplicate-free part of `items` is the sorted arrangement of that part. -/
theorem axisRenders_faithful {α σ : Type} {cmp : SCmp α σ} {init : σ} {less : α → α → Bool}
    (alg : List α → Algo α (List α)) (hc : SortContract alg) (items : List α)
    (hf : Faithful cmp init (· ∈ items) less) (ho : OrderOn (· ∈ items) less)
    (arrivals : List (List α)) (ha : ∀ a ∈ arrivals, a.Nodup ∧ ∀ x ∈ a, x ∈ items) :
    axisRenders (fun s l => Algo.run cmp s (alg l)) init arrivals = arrivals.map (isort less) := by
  obtain ⟨Inv, h0, hstep⟩ := hf
  have main : ∀ (arrivals : List (List α)) (s : σ), Inv s → (∀ a ∈ arrivals, a.Nodup ∧ ∀ x ∈ a, x ∈ items) →
      axisRenders (fun s l => Algo.run cmp s (alg l)) s arrivals = arrivals.map (isort less) := by
    intro arrivals
    induction arrivals with
    | nil => intros; rfl
    | cons a rest ih =>
      intro s hs hall
      obtain ⟨hnd, hsub⟩ := hall a (List.mem_cons_self ..)
      have hw : Algo.Within (· ∈ items) (alg a) := (hc.within a).mono hsub
      have hr := Algo.run_eq_runPure cmp less Inv (· ∈ items) hstep (alg a) hw s hs
      have hoa : OrderOn (· ∈ a) less := ho.mono hsub
      simp only [axisRenders, List.map_cons]
      rw [hr.1, hc.result hnd hoa, ih _ hr.2 (fun b hb => hall b (List.mem_cons_of_mem _ hb))]
  exact main arrivals init h0 ha

/-- Two render histories whose renders are permutations of each other (same keys, other map order). -/
theorem forall₂_perm_within {α : Type} {items : List α} {l1 l2 : List (List α)} (h : SameRenders l1 l2)
    (h1 : ∀ a ∈ l1, a.Nodup ∧ ∀ x ∈ a, x ∈ items) : ∀ a ∈ l2, a.Nodup ∧ ∀ x ∈ a, x ∈ items := by
  induction h with
  | nil => intro a ha; cases ha
  | @cons a b l1' l2' hp _ ih =>
    intro c hc
    rcases List.mem_cons.mp hc with e | e
    · subst e
      obtain ⟨hnd, hsub⟩ := h1 a (List.mem_cons_self ..)
      exact ⟨hp.nodup_iff.mp hnd, fun x hx => hsub x (hp.mem_iff.mpr hx)⟩
    · exact ih (fun a' ha' => h1 a' (List.mem_cons_of_mem _ ha')) c e

theorem map_isort_perm {α : Type} {items : List α} {less : α → α → Bool} (ho : OrderOn (· ∈ items) less)
    {l1 l2 : List (List α)} (h : SameRenders l1 l2)
    (h1 : ∀ a ∈ l1, a.Nodup ∧ ∀ x ∈ a, x ∈ items) : l1.map (isort less) = l2.map (isort less) := by
  induction h with
  | nil => rfl
  | @cons a b l1' l2' hp _ ih =>
    obtain ⟨hnd, hsub⟩ := h1 a (List.mem_cons_self ..)
    simp only [List.map_cons]
    rw [isort_perm_invariant hnd (ho.mono hsub) hp, ih (fun a' ha' => h1 a' (List.mem_cons_of_mem _ ha'))]

end Rare.C13

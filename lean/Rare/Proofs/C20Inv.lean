import Rare.Proofs.C20Main
/-! C20: one `WriteForLine` / `Close` through the terminal, and the invariant over a history. -/
namespace Rare.C20

def cfg (W : Nat) (trim : Bool) : Cfg := { E := handEsc, autoTrim := trim, cols := W }

theorem writeForLine_fst (c : Cfg) (w : TermWriter) (l : Int) (txt : Bytes) :
    (w.writeForLine c l txt).1 =
      { w with cursorHidden := w.cursorHidden || w.hideCursor, cursor := l,
               maxLine := if l > w.maxLine then l else w.maxLine } := by
  obtain ⟨cursor, hidden, maxLine, clearLine, hideCursor⟩ := w
  cases hidden <;> cases hideCursor <;> rfl

theorem writeForLine_snd (c : Cfg) (w : TermWriter) (l : Int) (txt : Bytes) :
    (w.writeForLine c l txt).2 =
      (if w.hideCursor && !w.cursorHidden then c.E.seq c.E.hide else []) ++ (w.goTo c.E l).2 ++
        (writeLineNoWrap c.E c.autoTrim c.cols txt ++ if w.clearLine then c.E.seq c.E.erase else []) := by
  obtain ⟨cursor, hidden, maxLine, clearLine, hideCursor⟩ := w
  cases hidden <;> cases hideCursor <;> rfl

theorem close_fst (c : Cfg) (w : TermWriter) : (w.close c).1 = { w with cursor := w.maxLine } := by
  simp [TermWriter.close, TermWriter.goTo]

theorem close_snd (c : Cfg) (w : TermWriter) :
    (w.close c).2 =
      (w.goTo c.E w.maxLine).2 ++ (c.E.closeNl ++ if w.cursorHidden then c.E.seq c.E.unhide else []) := by
  simp [TermWriter.close, TermWriter.goTo]

theorem goTo_clear (E : Esc) (w : TermWriter) (l : Int) : (w.goTo E l).1.clearLine = w.clearLine := rfl
theorem goTo_hidden (E : Esc) (w : TermWriter) (l : Int) : (w.goTo E l).1.cursorHidden = w.cursorHidden := rfl

theorem isAscii_repeat (n : Nat) (p : Bytes) (hp : IsAscii p) : IsAscii (repeatBytes n p) := by
  intro x hx
  simp only [repeatBytes, List.mem_flatten, List.mem_replicate] at hx
  obtain ⟨l, ⟨_, hl⟩, hx⟩ := hx
  subst hl
  exact hp x hx

theorem isAscii_small (a : Bytes) (h : a.all (fun x => decide (x.toNat < 0x80)) = true) : IsAscii a := by
  intro x hx
  have := List.all_eq_true.mp h x hx
  simpa using this

theorem clean_small (a : Bytes) (h : a.all (fun x => decide (x.toNat < 0x80)) = true) : Clean a :=
  Clean.asciiList a (isAscii_small a h)

theorem decode_hide : decodeUtf8 (handEsc.seq handEsc.hide) = [27, 91, 63, 50, 53, 108] := by decide
theorem decode_unhide : decodeUtf8 (handEsc.seq handEsc.unhide) = [27, 91, 63, 50, 53, 104] := by decide
theorem decode_erase : decodeUtf8 (handEsc.seq handEsc.erase) = [27, 91, 48, 75] := by decide
theorem decode_up : decodeUtf8 (moveUpf handEsc handEsc.upArg) = [27, 91, 49, 65] := by decide
theorem decode_closeNl : decodeUtf8 handEsc.closeNl = [10] := by decide

/-- `goTo(line)` writes `line - cursor` line feeds or `cursor - line` times `ESC[1A`, then `\r` -/
theorem goTo_runes (w : TermWriter) (line : Nat) (hc : 0 ≤ w.cursor) :
    Clean (w.goTo handEsc line).2 ∧
    decodeUtf8 (w.goTo handEsc line).2 =
      List.replicate (line - w.cursor.toNat) 10 ++
        (List.replicate (w.cursor.toNat - line) [27, 91, 49, 65]).flatten ++ [13] := by
  have ha : IsAscii (w.goTo handEsc line).2 := by
    intro x hx
    simp only [TermWriter.goTo, List.mem_append] at hx
    rcases hx with (hx | hx) | hx
    · exact isAscii_repeat _ _ (isAscii_small _ (by decide)) x hx
    · exact isAscii_repeat _ _ (isAscii_small _ (by decide)) x hx
    · exact isAscii_small _ (by decide) x hx
  refine ⟨Clean.asciiList _ ha, ?_⟩
  have hd : ((line : Int) - w.cursor).toNat = line - w.cursor.toNat := by omega
  have hu : (w.cursor - (line : Int)).toNat = w.cursor.toNat - line := by omega
  have hnl : handEsc.nl.map (·.toNat) = [10] := rfl
  have hup : (moveUpf handEsc handEsc.upArg).map (·.toNat) = [27, 91, 49, 65] := by decide
  have hcr : handEsc.cr.map (·.toNat) = [13] := rfl
  rw [decodeUtf8_of_ascii _ ha]
  simp [TermWriter.goTo, repeatBytes, List.map_flatten, hd, hu, hnl, hup, hcr]

/-- `goTo(line)` from a synchronised state: the terminal ends on row `r0 + line`, column 0 -/
theorem goTo_feed (w : TermWriter) (line : Nat) (t : Term) (r0 : Nat) (hps : t.ps = .ground)
    (hrow : (t.row : Int) = r0 + w.cursor) (hc : 0 ≤ w.cursor) (hH : r0 + line < t.height) :
    Clean (w.goTo handEsc line).2 ∧
    t.feedBytes (w.goTo handEsc line).2 = { t with row := r0 + line, col := 0 } := by
  obtain ⟨hclean, hdec⟩ := goTo_runes w line hc
  refine ⟨hclean, ?_⟩
  rw [Term.feedBytes, hdec]
  by_cases hle : w.cursor.toNat ≤ line
  · rw [Nat.sub_eq_zero_of_le hle, List.replicate_zero, List.flatten_nil, List.append_nil,
      feed_downs _ t hps (by omega)]
    have : t.row + (line - w.cursor.toNat) = r0 + line := by omega
    rw [this]
  · rw [Nat.sub_eq_zero_of_le (by omega), List.replicate_zero, List.nil_append, feed_ups _ t hps (by omega)]
    have : t.row - (w.cursor.toNat - line) = r0 + line := by omega
    rw [this]

/-- One `WriteForLine(l, txt)` from a synchronised state. -/
theorem write_feed (W r0 : Nat) (trim : Bool) (w : TermWriter) (t : Term) (l : Nat) (txt : Bytes)
    (hps : t.ps = .ground) (hw : t.width = W) (hrow : (t.row : Int) = r0 + w.cursor) (hc : 0 ≤ w.cursor)
    (hH : r0 + l < t.height) (hclear : w.clearLine = true) (hhide : w.hideCursor = true)
    (hvis : t.cursorVisible = !w.cursorHidden) (htxt : TextOK W trim txt) :
    Clean (w.writeForLine (cfg W trim) l txt).2 ∧
    t.feedBytes (w.writeForLine (cfg W trim) l txt).2 =
      { t with cursorVisible := false, row := r0 + l, col := (shown W trim txt).length,
               rows := setRow t.rows (r0 + l) (shown W trim txt) } := by
  obtain ⟨toks, hp, hclean, hdec, hshown, hlen⟩ := piece_spec W trim txt htxt
  obtain ⟨w', ht, o, rows, row, col, vis, ps⟩ := t
  simp only at hps hw hvis hrow hH; subst hps hw hvis
  have hcl1 : Clean (if w.hideCursor && !w.cursorHidden then handEsc.seq handEsc.hide else []) := by
    split
    · exact clean_small _ (by decide)
    · exact Clean.nil
  have h1 : (Term.mk w' ht o rows row col (!w.cursorHidden) .ground).feedBytes
      (if w.hideCursor && !w.cursorHidden then handEsc.seq handEsc.hide else []) =
      ⟨w', ht, o, rows, row, col, false, .ground⟩ := by
    rw [hhide]
    cases w.cursorHidden
    · exact (congrArg _ decode_hide).trans (feed_hide _ rfl)
    · rfl
  obtain ⟨hcl2, h2⟩ := goTo_feed w l ⟨w', ht, o, rows, row, col, false, .ground⟩ r0 rfl hrow hc hH
  rw [writeForLine_snd, hclear]
  simp only [cfg, if_true]
  refine ⟨(hcl1.append hcl2).append (hclean.append (clean_small _ (by decide))), ?_⟩
  rw [feedBytes_append _ _ _ (hcl1.append hcl2), feedBytes_append _ _ _ hcl1, h1, h2, Term.feedBytes, hclean,
    hdec, decode_erase, feed_line toks hp _ rfl rfl hlen, hshown]

theorem latest_snoc {κ α : Type} [DecidableEq κ] (h : List (κ × α)) (u : κ × α) (i : κ) :
    latest (h ++ [u]) i = if u.1 = i then some u.2 else latest h i := by
  simp [latest, List.foldl_append]

theorem latest_some {κ α : Type} [DecidableEq κ] (h : List (κ × α)) (i : κ) (x : α) :
    latest h i = some x → (i, x) ∈ h := by
  have : ∀ (h : List (κ × α)) (acc : Option α),
      h.foldl (fun acc u => if u.1 = i then some u.2 else acc) acc = some x → acc = some x ∨ (i, x) ∈ h := by
    intro h
    induction h with
    | nil => intro acc hh; exact Or.inl hh
    | cons u rest ih =>
      intro acc hh
      rcases ih _ hh with h1 | h1
      · replace h1 : (if u.1 = i then some u.2 else acc) = some x := h1
        by_cases hu : u.1 = i
        · rw [if_pos hu] at h1
          exact Or.inr (by rw [← hu, ← Option.some.inj h1]; exact List.mem_cons_self)
        · rw [if_neg hu] at h1; exact Or.inl h1
      · exact Or.inr (List.mem_cons_of_mem _ h1)
  intro hl
  rcases this h none hl with h1 | h1
  · cases h1
  · exact h1

/-- the writer and the terminal agree, and the screen shows the latest texts -/
structure Inv (W H r0 : Nat) (trim : Bool) (t0 : Term) (hist : List (Nat × Bytes)) (w : TermWriter) (t : Term) : Prop where
  ps : t.ps = .ground
  width : t.width = W
  height : t.height = H
  onlcr : t.onlcr = t0.onlcr
  row : (t.row : Int) = r0 + w.cursor
  cur0 : 0 ≤ w.cursor
  curLe : w.cursor ≤ w.maxLine
  maxGe : ∀ u ∈ hist, (u.1 : Int) ≤ w.maxLine
  maxIn : w.maxLine = 0 ∨ ∃ u ∈ hist, (u.1 : Int) = w.maxLine
  clear : w.clearLine = true
  hideC : w.hideCursor = true
  vis : t.cursorVisible = !w.cursorHidden
  written : ∀ i txt, latest hist i = some txt → t.rows (r0 + i) = shown W trim txt
  other : ∀ j, (∀ i, latest hist i ≠ none → r0 + i ≠ j) → t.rows j = t0.rows j

theorem inv_init (W H r0 : Nat) (trim : Bool) (t0 : Term) (hps : t0.ps = .ground) (hw : t0.width = W)
    (hh : t0.height = H) (hr : t0.row = r0) (hv : t0.cursorVisible = true) :
    Inv W H r0 trim t0 [] TermWriter.new t0 := by
  refine ⟨hps, hw, hh, rfl, by simp [TermWriter.new, hr], by simp [TermWriter.new], by simp [TermWriter.new],
    by simp, Or.inl rfl, rfl, rfl, by simp [TermWriter.new, hv], ?_, fun _ _ => rfl⟩
  intro i txt h; simp [latest] at h

theorem inv_step {W H r0 : Nat} {trim : Bool} {t0 : Term} {hist : List (Nat × Bytes)} {w : TermWriter} {t : Term}
    (inv : Inv W H r0 trim t0 hist w t) (l : Nat) (txt : Bytes) (hl : r0 + l + 1 < H) (htxt : TextOK W trim txt) :
    Clean (w.writeForLine (cfg W trim) l txt).2 ∧
    Inv W H r0 trim t0 (hist ++ [(l, txt)]) (w.writeForLine (cfg W trim) l txt).1
      (t.feedBytes (w.writeForLine (cfg W trim) l txt).2) := by
  obtain ⟨hclean, hfeed⟩ := write_feed W r0 trim w t l txt inv.ps inv.width inv.row inv.cur0
    (by rw [inv.height]; omega) inv.clear inv.hideC inv.vis htxt
  refine ⟨hclean, ?_⟩
  rw [hfeed, writeForLine_fst, inv.hideC, Bool.or_true]
  refine ⟨inv.ps, inv.width, inv.height, inv.onlcr, ?_, ?_, ?_, ?_, ?_, inv.clear, rfl, rfl, ?_, ?_⟩
  · simp
  · simp
  · simp only; split <;> omega
  · intro u hu
    simp only [List.mem_append, List.mem_singleton] at hu
    simp only
    rcases hu with hu | hu
    · have := inv.maxGe u hu; split <;> omega
    · subst hu; simp only; split <;> omega
  · simp only
    by_cases hgt : (l : Int) > w.maxLine
    · right; exact ⟨(l, txt), by simp, by simp [hgt]⟩
    · simp only [hgt, if_false]
      rcases inv.maxIn with h | ⟨u, hu, hum⟩
      · left; exact h
      · right; exact ⟨u, by simp [hu], hum⟩
  · intro i x hx
    rw [latest_snoc] at hx
    simp only at hx ⊢
    by_cases hli : l = i
    · subst hli; simp at hx; subst hx; simp [setRow]
    · simp only [hli, if_false] at hx
      rw [setRow_ne _ _ _ _ (by omega)]
      exact inv.written i x hx
  · intro j hj
    have hjl : j ≠ r0 + l := by
      have := hj l (by rw [latest_snoc]; simp)
      omega
    simp only
    rw [setRow_ne _ _ _ _ hjl]
    apply inv.other j
    intro i hi
    apply hj i
    rw [latest_snoc]
    simp only
    split
    · simp
    · exact hi

def castHist (h : List (Nat × Bytes)) : List (Int × Bytes) := h.map fun u => ((u.1 : Int), u.2)

theorem inv_run (W H r0 : Nat) (trim : Bool) (t0 : Term) : ∀ (rest hist : List (Nat × Bytes)) (w : TermWriter) (t : Term),
    Inv W H r0 trim t0 hist w t → (∀ u ∈ rest, r0 + u.1 + 1 < H ∧ TextOK W trim u.2) →
    Clean (w.runHistory (cfg W trim) (castHist rest)).2 ∧
    Inv W H r0 trim t0 (hist ++ rest) (w.runHistory (cfg W trim) (castHist rest)).1
      (t.feedBytes (w.runHistory (cfg W trim) (castHist rest)).2) := by
  intro rest
  induction rest with
  | nil => intro hist w t inv _; exact ⟨Clean.nil, by simpa [castHist, TermWriter.runHistory, feedBytes_nil] using inv⟩
  | cons u rest ih =>
    intro hist w t inv h
    obtain ⟨hu1, hu2⟩ := h u (by simp)
    obtain ⟨hclean, inv'⟩ := inv_step inv u.1 u.2 hu1 hu2
    obtain ⟨hclean', this⟩ := ih (hist ++ [(u.1, u.2)]) _ _ inv' (fun x hx => h x (by simp [hx]))
    simp only [castHist, List.map_cons, TermWriter.runHistory]
    rw [feedBytes_append _ _ _ hclean]
    exact ⟨hclean.append hclean', by simpa [castHist] using this⟩

/-- `Close()` from a synchronised state -/
theorem close_feed {W H r0 : Nat} {trim : Bool} {t0 : Term} {hist : List (Nat × Bytes)} {w : TermWriter} {t : Term}
    (inv : Inv W H r0 trim t0 hist w t) (hH : r0 + 1 < H) (hrows : ∀ u ∈ hist, r0 + u.1 + 1 < H) :
    t.feedBytes (w.close (cfg W trim)).2 =
      { t with row := r0 + w.maxLine.toNat + 1, col := 0, cursorVisible := true } := by
  have hm0 : 0 ≤ w.maxLine := by have := inv.cur0; have := inv.curLe; omega
  have hmH : r0 + w.maxLine.toNat + 1 < t.height := by
    rw [inv.height]
    rcases inv.maxIn with h | ⟨u, hu, hum⟩
    · rw [h]; simpa using hH
    · have := hrows u hu; omega
  have hcast : ((w.maxLine.toNat : Nat) : Int) = w.maxLine := by omega
  obtain ⟨hcl, hg⟩ := goTo_feed w w.maxLine.toNat t r0 inv.ps inv.row inv.cur0 (by omega)
  rw [hcast] at hcl hg
  rw [close_snd]
  simp only [cfg]
  rw [feedBytes_append _ _ _ hcl, hg, feedBytes_append _ _ _ (clean_small _ (by decide))]
  have hps := inv.ps; have hvis := inv.vis
  obtain ⟨w', ht, o, rows, row, col, vis, ps⟩ := t
  simp only at hps hvis hmH ⊢; subst hps hvis
  have h1 : (Term.mk w' ht o rows (r0 + w.maxLine.toNat) 0 (!w.cursorHidden) .ground).feedBytes handEsc.closeNl =
      ⟨w', ht, o, rows, r0 + w.maxLine.toNat + 1, 0, !w.cursorHidden, .ground⟩ := by
    rw [Term.feedBytes, decode_closeNl, feed_cons, feed_nil, step_lf _ rfl, Term.lineFeed_fit _ hmH]
    simp only [ite_self]
  rw [h1]
  cases w.cursorHidden
  · rfl
  · exact (congrArg _ decode_unhide).trans (feed_show _ rfl)

end Rare.C20

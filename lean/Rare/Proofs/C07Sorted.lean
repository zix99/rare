import Rare.Model.C07Sorted
import Rare.Proofs.C07Acc
import Rare.Proofs.C07Counter
import Rare.Proofs.C07Table
/-! Sorted / counted accessors: determinism for strict total sorters, the default sorters, `minSlice`. -/
namespace Rare.C07

/-- The comparison `SortBy` performs on two keys. -/
def keyLess (less : NVLess) (val : Bytes → Int) (a b : Bytes) : Bool := less (a, val a) (b, val b)

theorem nvName_strictTotal (val : Bytes → Int) : StrictTotal (keyLess nvNameSorter val) :=
  ⟨bLt_irrefl, fun _ _ _ => bLt_trans, fun _ _ => bLt_total⟩

theorem keyLess_nvValue (val : Bytes → Int) (a b : Bytes) :
    keyLess nvValueSorter val a b = if val a = val b then bLt a b else decide (val b < val a) := by
  unfold keyLess nvValueSorter
  simp only
  by_cases h : val a = val b
  · simp [h]
  · simp only [h, if_false]
    rw [Bool.eq_iff_iff]; simp; omega

theorem nvValue_strictTotal (val : Bytes → Int) : StrictTotal (keyLess nvValueSorter val) := by
  have : keyLess nvValueSorter val = fun a b => if val a = val b then bLt a b else decide (val b < val a) := by
    funext a b; exact keyLess_nvValue val a b
  rw [this]
  refine lex_strictTotal val id (fun x y => decide (y < x)) ⟨?_, ?_, ?_⟩ (fun _ _ _ e => e)
  · intro a; simp
  · intro a b c h1 h2; simp only [decide_eq_true_eq] at *; omega
  · intro a b hne h; simp only [decide_eq_true_eq, decide_eq_false_iff_not] at *; omega
theorem orderedKeys_spec (less : NVLess) (val : Bytes → Int) (hst : StrictTotal (keyLess less val)) (o1 : List Bytes) :
    (orderedKeys less val o1).Perm o1 ∧
    (orderedKeys less val o1).Pairwise (fun a b => (!keyLess less val b a) = true) ∧
    ∀ o2, o2.Perm o1 → orderedKeys less val o2 = orderedKeys less val o1 :=
  ⟨List.mergeSort_perm _ _, hst.mergeSort_sorted o1, fun o2 hp => hst.mergeSort_perm_eq o2 o1 hp⟩

theorem minSlice_spec {α : Type} (items : List α) (count : Int) :
    minSlice items count = if count < 0 then .error "slice bounds out of range" else .ok (items.take count.toNat) := by
  unfold minSlice
  by_cases h1 : (items.length : Int) < count
  · have : ¬ count < 0 := by omega
    simp only [h1, if_true, this, if_false]
    rw [List.take_of_length_le (by omega)]
  · simp [h1]

theorem counter_sample_keys (c : Counter) (e : Bytes) (h : (akeys c.items).Nodup) : (akeys (c.sample e).items).Nodup := by
  unfold Counter.sample
  simp only
  split
  · split
    · exact h
    · exact akeys_aset_nodup _ _ _ h
  · exact akeys_aset_nodup _ _ _ h

theorem counter_keys_nodup (h : List Bytes) : (akeys (Counter.run h).items).Nodup := by
  unfold Counter.run
  have : ∀ (l : List Bytes) (c : Counter), (akeys c.items).Nodup → (akeys (l.foldl Counter.sample c).items).Nodup := by
    intro l
    induction l with
    | nil => intro c hc; exact hc
    | cons e l ih => intro c hc; exact ih _ (counter_sample_keys c e hc)
  exact this h {} (by simp [akeys])

theorem filterMap_keys {α : Type} (m : List (Bytes × α)) (ks : List Bytes) (h : ∀ k ∈ ks, (aget m k).isSome = true) :
    (ks.filterMap fun k => (aget m k).map fun v => (k, v)).map (·.1) = ks := by
  induction ks with
  | nil => rfl
  | cons k ks ih =>
    have hk := h k (by simp)
    obtain ⟨v, hv⟩ := Option.isSome_iff_exists.mp hk
    simp only [List.filterMap_cons, hv, Option.map_some, List.map_cons]
    rw [ih (fun k' hk' => h k' (List.mem_cons_of_mem _ hk'))]

end Rare.C07

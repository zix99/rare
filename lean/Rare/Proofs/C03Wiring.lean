import Rare.Proofs.C03Det
import Rare.Proofs.C07Acc
import Rare.Model.C03Wiring
/-! Helper lemmas for the theorems about the regenerated wiring table (`Rare/Gen/C03.lean`). -/
namespace Rare.C03
open Rare.C07 Rare.C13

/-- C07's and C13's byte-wise string orders are one function (Go's `<` on strings). -/
theorem bLt_eq_bytesLt : bLt = bytesLt := by
  funext a b
  induction a generalizing b with
  | nil => cases b <;> rfl
  | cons x xs ih =>
    cases b with
    | nil => rfl
    | cons y ys =>
      simp only [bLt, bytesLt, ih ys]
      congr 1

/-- `DetermineErrorState` as an if-chain of the shape the translator emits. -/
theorem evalExitChain_model (readErrors : Int) (aggNil : Bool) (parseErrors matched : Nat) :
    evalExitChain [(.gt0 .readErrors, 2), (.and .aggNotNil (.gt0 .parseErrors), 2), (.eq0 .matchedLines, 1)] 0
      readErrors aggNil parseErrors matched = determineErrorState readErrors aggNil parseErrors matched := by
  simp only [evalExitChain, Cond.eval, Obs.eval, determineErrorState, gt_iff_lt, decide_eq_true_eq, Int.natCast_pos,
    Int.natCast_eq_zero]

end Rare.C03

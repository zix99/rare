import Rare.Proofs.C13Model
import Rare.Model.C13Date
import Rare.Proofs.C18Cal
import Rare.Proofs.C18Layout
import Rare.Proofs.C18RT
/-!
C13 `date` over the modelled `time.Parse`: the `layoutLib` plumbing, the order the closure computes
on keys that parse with the inferred layout, and – composing with C18's format/parse round trip –
keys that denote ONE instant in different zones.
-/
namespace Rare.C13

theorem layoutId_get {layouts : List Bytes} {l : Bytes} (hl : l ∈ layouts) :
    ∃ i, layoutId layouts l = some i ∧ layouts[i]? = some l := by
  have hi : layouts.idxOf l < layouts.length := List.idxOf_lt_length_of_mem hl
  refine ⟨layouts.idxOf l, by simp [layoutId, hi], ?_⟩
  rw [List.getElem?_eq_getElem hi]
  simp

/-- A key whose inferred layout is `l`: its id stands for `l`, i.e. `time.Parse` with that id is the
model of `time.Parse(l, ·)`. -/
theorem layoutLib_spec (layouts : List Bytes) (lay : Key → Option Bytes) {l : Bytes} (hl : l ∈ layouts) :
    ∃ i, (∀ k, lay k = some l → (realOracle (layoutLib layouts lay)).dfmt k = some i)
      ∧ (realOracle (layoutLib layouts lay)).dparse i = timeParseNs l := by
  obtain ⟨i, h1, h2⟩ := layoutId_get hl
  refine ⟨i, fun k hk => ?_, funext fun k => ?_⟩
  · simp [realOracle, layoutLib, hk, h1]
  · simp [realOracle, layoutLib, h2]

/-- The two statements of `ByDate` after both keys parsed are the model's `if d0 = d1 …`. -/
theorem byDateParsed_eq (d0 d1 : Int) (a b : Key) :
    byDateParsed d0 d1 a b = (if d0 = d1 then bytesLt a b else decide (d0 < d1)) := by
  simp [byDateParsed, instEqual, instBefore]

/-- The order of the instants the modelled `time.Parse` gives under layout `l`, ties by text. -/
def realChrono (l : Bytes) : Key → Key → Bool := chronoLess (fun k => (timeParseNs l k).getD 0)

/-- Every key of `P` has the inferred layout `l` and parses with it: whatever was compared before,
the `ByDate` closure answers `realChrono l`. -/
theorem date_real_faithful {σ : Type} (layouts : List Bytes) (lay : Key → Option Bytes) (l : Bytes)
    (hl : l ∈ layouts) (fb : SCmp Key σ) (init : σ) (P : Key → Prop)
    (hlay : ∀ k, P k → lay k = some l) (hp : ∀ k, P k → (timeParseNs l k).isSome = true) :
    Faithful (byDate (realOracle (layoutLib layouts lay)) fb) ({}, init) P (realChrono l) := by
  obtain ⟨i, hi1, hi2⟩ := layoutLib_spec layouts lay hl
  rw [realChrono, ← hi2]
  exact date_faithful_layout _ fb init P i (fun k hk => hi1 k (hlay k hk)) (fun k hk => by rw [hi2]; exact hp k hk)

/-- A fresh closure on two keys that parse with the layout inferred from the first. -/
theorem byDate_fresh_real {σ : Type} (layouts : List Bytes) (lay : Key → Option Bytes) (l : Bytes)
    (hl : l ∈ layouts) (fb : SCmp Key σ) (s0 : σ) (a b : Key) (x y : Int)
    (hlay : lay a = some l) (ha : timeParseNs l a = some x) (hb : timeParseNs l b = some y) :
    (byDate (realOracle (layoutLib layouts lay)) fb ({}, s0) a b).1 = byDateParsed x y a b := by
  obtain ⟨i, hi1, hi2⟩ := layoutLib_spec layouts lay hl
  rw [byDateParsed_eq, byDate_fresh, hi1 a hlay, byDate_layout, hi2, ha, hb]

/-- Under the same hypotheses the set is `dateUniform` (so the permutation theorems apply) and what
the `date` mode denotes on it is `realChrono l`. -/
theorem dateUniform_real (layouts : List Bytes) (lay : Key → Option Bytes) (l : Bytes) (hl : l ∈ layouts)
    (sets : List SortSet) (keys : List Key)
    (hlay : ∀ k ∈ keys, lay k = some l) (hp : ∀ k ∈ keys, (timeParseNs l k).isSome = true) :
    dateUniform (realOracle (layoutLib layouts lay)) sets keys = true
    ∧ (keys ≠ [] → dateSpec (realOracle (layoutLib layouts lay)) sets keys = realChrono l) := by
  obtain ⟨i, hi1, hi2⟩ := layoutLib_spec layouts lay hl
  cases keys with
  | nil => exact ⟨rfl, fun h => absurd rfl h⟩
  | cons k0 rest =>
    have h0 := hi1 k0 (hlay k0 (List.mem_cons_self ..))
    have hall : (k0 :: rest).all (fun k => (realOracle (layoutLib layouts lay)).dfmt k == some i
        && ((realOracle (layoutLib layouts lay)).dparse i k).isSome) = true := by
      rw [List.all_eq_true]
      intro k hk
      rw [hi1 k (hlay k hk), hi2, hp k hk, beq_self_eq_true]
      rfl
    refine ⟨?_, fun _ => ?_⟩
    · simp only [dateUniform, h0, hall]
    · unfold dateSpec dateSpecLess
      simp only [h0]
      rw [if_pos hall, hi2]
      rfl

/-! ### one instant, several zones (composition with C18's round trip) -/

/-- Layouts that carry the instant: full date, time of day to the second, a numeric zone offset and
no two-digit year (the decidable classifier of C18, restated here so that this file depends on C18's
proof files only). -/
def carriesInstant (ts : List C18.Tok) : Bool :=
  C18.holdsInstant ts && (C18.carries ts).contains 's' && !(C18.carries ts).contains 'y'

section
open C18

/-- For every layout of C18's round-trip class that carries the instant (date, time to the second,
numeric offset, four-digit year), every instant `unix` and every zone offset (whole minutes,
|off| < 25 h): the text `time.Format` prints for `unix` in that zone is read back by the modelled
`time.Parse` as exactly `unix` – whatever the zone.  (C18's `roundtrip_core` + the civil calendar.) -/
theorem timeParseNs_format (layout : Bytes) (hRT : RT (tokenize layout) = true)
    (hC : carriesInstant (tokenize layout) = true) (unix off : Int) (abbr : Bytes) (hoff : OffOK off)
    (hy : 0 ≤ (civilOf unix off).y ∧ (civilOf unix off).y ≤ 9999)
    (habbr : Tok.std .tz ∈ tokenize layout → AbbrOK abbr off) :
    timeParseNs layout (formatLayout layout (timeVOf unix off abbr)) = some (unix * 1000000000) := by
  simp only [carriesInstant, Bool.and_eq_true, Bool.not_eq_true'] at hC
  obtain ⟨⟨hI, cs⟩, cy⟩ := hC
  have hvalid : (timeVOf unix off abbr).dt.valid := civilOf_valid unix off hy
  have hnoy : ¬ (Tok.std .year ∈ tokenize layout) := not_mem_of_carries (s := .year) cy
  obtain ⟨p, hp, hdt, hinst⟩ := roundtrip_core (tokenize layout) hRT hI (timeVOf unix off abbr)
    ⟨hvalid, rfl, weekday_range' _, hoff, fun hm => absurd hm hnoy, habbr⟩
  have hprec : precOf (tokenize layout) = .second ∨ precOf (tokenize layout) = .nano := by
    simp only [holdsInstant, Bool.and_eq_true] at hI
    obtain ⟨⟨⟨⟨⟨cY, cM⟩, cD⟩, ch⟩, cm⟩, cz⟩ := hI
    simp only [precOf, cY, cM, cD, ch, cm, cs, Bool.not_true, Bool.false_eq_true, if_false]
    split <;> simp
  have hwall : wallSeconds (truncTo (precOf (tokenize layout)) (timeVOf unix off abbr).dt) - (timeVOf unix off abbr).off = unix := by
    obtain ⟨w1, w2, _⟩ := wall_trunc unix off
    rcases hprec with h | h <;> rw [h]
    · exact w2
    · exact w1
  have hns : p.dt.ns = 0 := by
    rw [hdt]
    cases precOf (tokenize layout) <;> rfl
  -- the instant: `instantOf` with the location that matches whatever zone source the text has
  have hw : wallSeconds p.dt - parsedOffset p = unix := by
    have h := hinst 0 (match p.zone with | .name n => n | _ => [])
    rw [hwall] at h
    unfold instantOf at h
    unfold parsedOffset
    cases hz : p.zone <;> simp only [hz] at h ⊢
    · simpa using h
    · simpa using h
    · simp only [if_true] at h
      simpa using h
    · simpa using h
  have hp' : parseLayout layout (formatLayout layout (timeVOf unix off abbr)) = .ok p := hp
  unfold timeParseNs
  rw [hp']
  simp only [parsedNs, hw, hns, Int.add_zero]

end

end Rare.C13

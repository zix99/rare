import Rare.Proofs.C17Gen
import Rare.Proofs.C17Atoi
/-!
C17: well-formedness of array values.

Reading a packed list back gives the concatenation of the readings of its members
(`elems_pack_flatMap`), so the separators of `pack ys` are exactly the `ys.length - 1` joints plus the
separators that sit inside members (`count_pack`); the reading is `ys` itself exactly when no member
contains a separator (`elems_pack_iff`).  Elements of a reading never contain a separator
(`elems_nul_free`), nor does a decimal rendering (`itoa_nul_free`).
-/
namespace Rare.C17
open Rare Rare.Expr Rare.Expr.Funcs.Range

theorem isPrefixOf_single (b c : UInt8) (r : Bytes) : ([b] : Bytes).isPrefixOf (c :: r) = (b == c) := by
  simp [List.isPrefixOf]

theorem splitGo_single_cons (b c : UInt8) (r cur : Bytes) :
    splitGo [b] (c :: r) 0 cur =
      if c = b then cur :: splitGo [b] r 0 [] else splitGo [b] r 0 (cur ++ [c]) := by
  simp only [splitGo, isPrefixOf_single, List.length_cons, List.length_nil, Nat.sub_self]
  by_cases h : c = b
  · subst h; simp
  · have : (b == c) = false := by simpa using fun e => h e.symm
    simp [this, h]

/-- One-byte delimiter: the split of `x ++ [b] ++ t` is the split of `x` followed by the split of `t`. -/
theorem splitGo_single_append (b : UInt8) (x t cur : Bytes) :
    splitGo [b] (x ++ b :: t) 0 cur = splitGo [b] x 0 cur ++ splitGo [b] t 0 [] := by
  induction x generalizing cur with
  | nil => simp [splitGo_single_cons, splitGo]
  | cons c x ih =>
    simp only [List.cons_append, splitGo_single_cons]
    by_cases h : c = b
    · simp [h, ih]
    · simp [h, ih]

theorem splitGo_single_free (b : UInt8) (s cur : Bytes) (hc : b ∉ cur) :
    ∀ x ∈ splitGo [b] s 0 cur, b ∉ x := by
  induction s generalizing cur with
  | nil => intro x hx; simp [splitGo] at hx; subst hx; exact hc
  | cons c r ih =>
    intro x hx
    rw [splitGo_single_cons] at hx
    by_cases h : c = b
    · simp only [h, if_true, List.mem_cons] at hx
      rcases hx with rfl | hx
      · exact hc
      · exact ih [] (by simp) x hx
    · simp only [h, if_false] at hx
      exact ih (cur ++ [c]) (by simp [hc]; exact fun e => h e.symm) x hx

/-- An element of an array value never contains the separator. -/
theorem elems_nul_free (s : Bytes) : ∀ x ∈ elems s, NUL ∉ x :=
  splitGo_single_free NUL s [] (by simp)

theorem elems_append_sep (x t : Bytes) : elems (x ++ [NUL] ++ t) = elems x ++ elems t := by
  unfold elems splitOn
  have : x ++ [NUL] ++ t = x ++ NUL :: t := by simp
  rw [this, splitGo_single_append]

/-- **Reading a packed list back** gives the readings of its members, concatenated: a member that
    itself contains separators (produced by a sub-expression) contributes its own elements. -/
theorem elems_pack_flatMap (ys : List Bytes) (hy : ys ≠ []) : elems (pack ys) = ys.flatMap elems := by
  induction ys with
  | nil => exact absurd rfl hy
  | cons x r ih =>
    cases r with
    | nil => simp [pack, join]
    | cons y r =>
      have e : pack (x :: y :: r) = x ++ [NUL] ++ pack (y :: r) := rfl
      rw [e, elems_append_sep, ih (by simp)]
      simp

theorem count_join_single (b : UInt8) (ys : List Bytes) (hy : ys ≠ []) :
    (join [b] ys).count b + 1 = ys.length + (ys.map (List.count b)).sum := by
  induction ys with
  | nil => exact absurd rfl hy
  | cons x r ih =>
    cases r with
    | nil => simp [join]; omega
    | cons y r =>
      have e : join [b] (x :: y :: r) = x ++ [b] ++ join [b] (y :: r) := rfl
      have := ih (by simp)
      rw [e]
      simp only [List.count_append, List.count_cons_self, List.count_nil, List.length_cons, List.map_cons,
        List.sum_cons] at this ⊢
      omega

/-- **Separator census**: the separators of a packed non-empty list are its `length - 1` joints plus
    the separators inside its members – nothing leading, trailing or doubled is ever added. -/
theorem count_pack (ys : List Bytes) (hy : ys ≠ []) :
    (pack ys).count NUL + 1 = ys.length + (ys.map (List.count NUL)).sum :=
  count_join_single NUL ys hy

/-- The exact side condition of "the result reads back as the specified list". -/
theorem elems_pack_iff (ys : List Bytes) (hy : ys ≠ []) :
    elems (pack ys) = ys ↔ ∀ y ∈ ys, NUL ∉ y := by
  constructor
  · intro h y hm
    exact elems_nul_free (pack ys) y (h.symm ▸ hm)
  · intro h
    unfold elems pack
    apply splitOn_join [NUL] (by simp) ys hy
    intro y hm hi
    apply h y hm
    have : [NUL] <:+: y := by simpa using hi
    simpa using this.subset (List.mem_singleton.mpr rfl)

/-- Number of elements read back = joints + 1 + separators inside members. -/
theorem elems_pack_length (ys : List Bytes) (hy : ys ≠ []) :
    (elems (pack ys)).length = ys.length + (ys.map (List.count NUL)).sum := by
  rw [elems_length]; exact count_pack ys hy

/-- Sub-lists of a reading are separator-free. -/
theorem nul_free_of_subset {xs : List Bytes} {s : Bytes} (h : ∀ x ∈ xs, x ∈ elems s) :
    ∀ x ∈ xs, NUL ∉ x := fun x hx => elems_nul_free s x (h x hx)

theorem mem_join_infix (d x : Bytes) (xs : List Bytes) (h : x ∈ xs) : x <:+: join d xs := by
  induction xs with
  | nil => cases h
  | cons y r ih =>
    cases r with
    | nil =>
      have : x = y := by simpa using h
      subst this; exact List.infix_refl _
    | cons z r =>
      have e : join d (y :: z :: r) = y ++ d ++ join d (z :: r) := rfl
      rw [e]
      rcases List.mem_cons.mp h with rfl | h'
      · exact ⟨[], d ++ join d (z :: r), by simp⟩
      · exact List.IsInfix.trans (ih h') (List.suffix_append _ _).isInfix

/-- The pieces of a separator-free string are separator-free. -/
theorem splitOn_nul_free (d : Bytes) (hd : d ≠ []) (s : Bytes) (hs : NUL ∉ s) :
    ∀ x ∈ splitOn d s, NUL ∉ x := by
  intro x hx hm
  have h1 : x <:+: s := by
    have := mem_join_infix d x _ hx
    rwa [join_splitOn d hd s] at this
  exact hs (h1.subset hm)

end Rare.C17

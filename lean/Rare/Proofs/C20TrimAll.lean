import Rare.Proofs.C20Trim
import Rare.Proofs.C20Utf8
/-! C20: the trimming scanner on ARBITRARY rune strings (unterminated colour sequences,
control characters, anything), and the cell-width bound. -/
namespace Rare.C20

theorem trimGo_hand_true (cols vis : Int) (r : Rune) (rest : List Rune) :
    trimGo handEsc cols true vis (r :: rest) =
      if r ≠ 109 ∧ rest ≠ [] then 1 + trimGo handEsc cols true vis rest else 1 + trimGo handEsc cols false vis rest := rfl

theorem trimGo_hand_false (cols vis : Int) (r : Rune) (rest : List Rune) :
    trimGo handEsc cols false vis (r :: rest) =
      if vis < cols then
        if r = 27 then
          if r ≠ 109 ∧ rest ≠ [] then 1 + trimGo handEsc cols true vis rest else 1 + trimGo handEsc cols false vis rest
        else 1 + trimGo handEsc cols false (vis + 1) rest
      else 0 := rfl

/-- the observable of one scan: visible runes of the kept prefix (in the mode the scan started in) -/
def scanVis (inEsc : Bool) (out : List Rune) : List Rune :=
  if inEsc then visibleRunes.skipSgr out else visibleRunes out

/-- The scan loop in both of its modes, on any rune string.  `inEsc = false`: head of the outer loop
with `vis ≤ cols` visible runes so far; `inEsc = true`: inside the inner loop. -/
theorem trimGo_any (cols : Int) : ∀ (rs : List Rune) (inEsc : Bool) (vis : Int), vis ≤ cols →
    trimGo handEsc cols inEsc vis rs ≤ rs.length ∧
    vis + ((scanVis inEsc (rs.take (trimGo handEsc cols inEsc vis rs))).length : Int) ≤ cols ∧
      (trimGo handEsc cols inEsc vis rs = rs.length ∨
        (endsInEsc inEsc (rs.take (trimGo handEsc cols inEsc vis rs)) = false ∧
         vis + ((scanVis inEsc (rs.take (trimGo handEsc cols inEsc vis rs))).length : Int) = cols)) := by
  intro rs
  induction rs with
  | nil =>
    intro inEsc vis h
    cases inEsc <;> simp [trimGo, scanVis, visibleRunes, visibleRunes.skipSgr] <;> omega
  | cons r rest ih =>
    intro inEsc vis h
    cases inEsc with
    | true =>
      rw [trimGo_hand_true]
      by_cases hc : r ≠ 109 ∧ rest ≠ []
      · obtain ⟨h1, h2, h3⟩ := ih true vis h
        rw [if_pos hc, Nat.add_comm 1, List.take_succ_cons]
        simp only [scanVis, if_true, skipSgr_ch r hc.1, endsInEsc, List.length_cons, hc.1, ne_eq,
          not_false_eq_true, decide_true] at h2 h3 ⊢
        refine ⟨by omega, h2, ?_⟩
        rcases h3 with h3 | h3
        · left; omega
        · right; exact h3
      · rw [if_neg hc, Nat.add_comm 1, List.take_succ_cons]
        by_cases hr : r = 109
        · obtain ⟨h1, h2, h3⟩ := ih false vis h
          rw [hr]
          simp only [scanVis, if_true, skipSgr_m, endsInEsc, List.length_cons, Bool.false_eq_true, if_false,
            ne_eq, not_true_eq_false, decide_false] at h2 h3 ⊢
          refine ⟨by omega, h2, ?_⟩
          rcases h3 with h3 | h3
          · left; omega
          · right; exact h3
        · have hrest : rest = [] := by
            by_cases hn : rest = []
            · exact hn
            · exact absurd ⟨hr, hn⟩ hc
          rw [hrest]
          simp [trimGo, scanVis, visibleRunes.skipSgr, hr]; omega
    | false =>
      rw [trimGo_hand_false]
      by_cases hv : vis < cols
      · rw [if_pos hv]
        by_cases he : r = 27
        · rw [if_pos he, he]
          by_cases hn : rest = []
          · rw [hn]
            simp [trimGo, scanVis, visibleRunes_esc, visibleRunes.skipSgr]; omega
          · obtain ⟨h1, h2, h3⟩ := ih true vis h
            have hc : (27 : Nat) ≠ 109 ∧ rest ≠ [] := ⟨by decide, hn⟩
            rw [if_pos hc, Nat.add_comm 1, List.take_succ_cons]
            simp only [scanVis, if_true, Bool.false_eq_true, if_false, visibleRunes_esc, endsInEsc, List.length_cons,
              decide_true] at h2 h3 ⊢
            refine ⟨by omega, h2, ?_⟩
            rcases h3 with h3 | h3
            · left; omega
            · right; exact h3
        · obtain ⟨h1, h2, h3⟩ := ih false (vis + 1) (by omega)
          rw [if_neg he, Nat.add_comm 1, List.take_succ_cons]
          simp only [scanVis, Bool.false_eq_true, if_false, visibleRunes_ch r he, endsInEsc, List.length_cons, he,
            decide_false] at h2 h3 ⊢
          refine ⟨by omega, by omega, ?_⟩
          rcases h3 with h3 | h3
          · left; omega
          · right; exact ⟨h3.1, by omega⟩
      · rw [if_neg hv]
        simp [scanVis, visibleRunes, endsInEsc]; omega

/-- cells occupied by a rune string: at most two per rune when no rune is wider than two cells -/
theorem cellsOf_le (cw : Rune → Nat) (hcw : ∀ r, cw r ≤ 2) (l : List Rune) : cellsOf cw l ≤ 2 * l.length := by
  induction l with
  | nil => simp [cellsOf]
  | cons r l ih =>
    have := hcw r
    simp only [cellsOf, List.map_cons, List.sum_cons, List.length_cons] at ih ⊢
    omega

theorem cellsOf_one (cw : Rune → Nat) (l : List Rune) (h : ∀ r ∈ l, cw r = 1) : cellsOf cw l = l.length := by
  induction l with
  | nil => simp [cellsOf]
  | cons r l ih =>
    have h1 := h r (by simp)
    have := ih (fun x hx => h x (by simp [hx]))
    simp only [cellsOf, List.map_cons, List.sum_cons, List.length_cons] at this ⊢
    omega

end Rare.C20

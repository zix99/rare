import Rare.Proofs.C04Buf
/-!
A small-step relation for `Scan()` and "every `Scan()` is a path of it".

`Imm.Micro s o t` / `Buf.Micro s o t`: ONE state change of the scanner (`o` = the slice it hands out, if it is the step
that hands one out).  `Imm.Path P s os u`: a finite sequence of such steps from `s` to `u` handing out `os`, EVERY state
on the way (ends included) satisfying `P`.  `scan_path`, `scanAll_path`, `bscan_path`, `bscanAll_path`: the model's
`scan` / `scanAll` are such paths (so there is no state change in the model outside the listed steps), and
`Path.lift`: a predicate preserved by every micro-step holds at every intermediate state of every scan.
-/
namespace Rare.C04

/-! ### ImmediateReadAhead -/

/-- the single state changes of `ImmediateReadAhead.Scan` -/
inductive Imm.Micro : Imm → Option (View × Bytes) → Imm → Prop
  /-- `if s.end >= len(s.buf) { old := s.buf; s.buf = make(…); copy(…); s.end -= s.offset; s.offset = 0 }` -/
  | regrow (s : Imm) : s.buf.length ≥ s.cap → Micro s none s.regrow
  /-- `n, err := s.r.Read(s.buf[s.end:]); s.end += n` (only with room: `end < len(buf)`) -/
  | read (s : Imm) : s.buf.length < s.cap →
      Micro s none (s.recv (s.rd.read (s.cap - s.buf.length)).1 (s.rd.read (s.cap - s.buf.length)).2.2)
  /-- `s.eof = true; if err != io.EOF && s.onError != nil { s.onError(err) }`: only right after the `Read` that
      returned `err` -/
  | fail (s : Imm) (e : RErr) : (s.rd.read (s.cap - s.buf.length)).2.1 = some e →
      Micro (s.recv (s.rd.read (s.cap - s.buf.length)).1 (s.rd.read (s.cap - s.buf.length)).2.2) none
        ((s.recv (s.rd.read (s.cap - s.buf.length)).1 (s.rd.read (s.cap - s.buf.length)).2.2).fail e)
  /-- `s.token = dropCR(s.buf[s.offset:s.offset+eol]); s.offset += eol+1; return true` -/
  | emitAt (s : Imm) (k : Nat) : Micro s (s.emitAt k).1.tok? (s.emitAt k).2
  /-- `s.token = s.buf[s.offset:s.end]; s.offset = s.end; return true` (only with `eof` set) -/
  | emitTail (s : Imm) : s.eof = true → s.offset < s.buf.length → Micro s s.emitTail.1.tok? s.emitTail.2

inductive Imm.Path (P : Imm → Prop) : Imm → List (View × Bytes) → Imm → Prop
  | stop (s : Imm) : P s → Path P s [] s
  | step {s t u : Imm} {o : Option (View × Bytes)} {os : List (View × Bytes)} :
      P s → Imm.Micro s o t → Path P t os u → Path P s (o.toList ++ os) u

theorem Imm.Path.single {P : Imm → Prop} {s t : Imm} {o} (hs : P s) (ht : P t) (h : Imm.Micro s o t) :
    Imm.Path P s o.toList t := by
  have := Imm.Path.step hs h (Imm.Path.stop t ht)
  simpa using this

theorem Imm.Path.trans {P : Imm → Prop} {s t u : Imm} {o1 o2} (h1 : Imm.Path P s o1 t) (h2 : Imm.Path P t o2 u) :
    Imm.Path P s (o1 ++ o2) u := by
  induction h1 with
  | stop s _ => simpa using h2
  | step hs hm _ ih => rw [List.append_assoc]; exact Imm.Path.step hs hm (ih h2)

/-- a predicate preserved by every micro-step holds all along every path -/
theorem Imm.Path.lift {P : Imm → Prop} (hP : ∀ s o t, Imm.Micro s o t → P s → P t) {s u : Imm} {os}
    (h : Imm.Path (fun _ => True) s os u) (hs : P s) : Imm.Path P s os u := by
  induction h with
  | stop s _ => exact Imm.Path.stop s hs
  | step _ hm _ ih => exact Imm.Path.step hs hm (ih (hP _ _ _ hm hs))

theorem Imm.Path.last {P : Imm → Prop} {s u : Imm} {os} (h : Imm.Path P s os u) : P u := by
  induction h with
  | stop s hs => exact hs
  | step _ _ _ ih => exact ih

abbrev T : Imm → Prop := fun _ => True

theorem top_path {s : Imm} {r : Res × Imm} (ht : s.top = some r) : Imm.Path T s r.1.toks r.2 := by
  rcases top_some ht with ⟨a, _, _, _, rfl⟩ | ⟨_, hne, he, rfl⟩ | ⟨_, _, rfl⟩
  · exact Imm.Path.single trivial trivial (Imm.Micro.emitAt s _)
  · exact Imm.Path.single trivial trivial
      (Imm.Micro.emitTail s he (Nat.lt_of_not_le fun h => hne (pending_eq_nil.mpr h)))
  · exact Imm.Path.stop s trivial

theorem grown_path (s : Imm) : Imm.Path T s [] s.grown := by
  unfold Imm.grown
  split
  · rename_i h
    exact Imm.Path.single (o := none) trivial trivial (Imm.Micro.regrow s h)
  · exact Imm.Path.stop s trivial

theorem readLoop_path (f : Nat) : ∀ s : Imm, 1 ≤ s.bufSize →
    Imm.Path T s (s.readLoop f).1.toks (s.readLoop f).2 := by
  induction f with
  | zero => intro s _; exact Imm.Path.stop s trivial
  | succ f ih =>
    intro s hb
    have hread := Imm.Micro.read s.grown (grown_room s hb)
    have hfail := Imm.Micro.fail s.grown
    simp only [Imm.readLoop]
    generalize s.grown.rd.read (s.grown.cap - s.grown.buf.length) = r at hread hfail
    have p0 : Imm.Path T s ([] ++ (none : Option (View × Bytes)).toList) (s.grown.recv r.1 r.2.2) :=
      (grown_path s).trans (Imm.Path.single trivial trivial hread)
    simp only [Option.toList, List.append_nil] at p0
    cases h2 : r.2.1 with
    | some e =>
      have p1 := p0.trans (Imm.Path.single (P := T) trivial trivial (hfail e h2))
      simpa using p1.trans (top_path (s := (s.grown.recv r.1 r.2.2).fail e) (topEof_eq_top _ rfl))
    | none =>
      cases h3 : idxNl r.1 with
      | some eol =>
        have p1 := p0.trans (Imm.Path.single (P := T) trivial trivial
          (Imm.Micro.emitAt (s.grown.recv r.1 r.2.2) (s.grown.buf.length + eol - s.grown.offset)))
        simpa [Res.toks] using p1
      | none =>
        simpa using p0.trans (ih (s.grown.recv r.1 r.2.2) (by
          show 1 ≤ s.grown.bufSize
          rw [grown_bufSize]; exact hb))

theorem scan_path (f : Nat) (s : Imm) (hb : 1 ≤ s.bufSize) :
    Imm.Path T s (s.scan f).1.toks (s.scan f).2 := by
  unfold Imm.scan
  split
  · rename_i r ht
    exact top_path ht
  · exact readLoop_path f s hb

theorem micro_bufSize {s t : Imm} {o} (h : Imm.Micro s o t) : t.bufSize = s.bufSize := by
  cases h <;> rfl

theorem scan_bufSize (f : Nat) (s : Imm) (hb : 1 ≤ s.bufSize) : (s.scan f).2.bufSize = s.bufSize :=
  ((scan_path f s hb).lift (P := fun t => t.bufSize = s.bufSize) (fun _ _ _ hm hp => (micro_bufSize hm).trans hp) rfl).last

theorem scanAll_path (f n : Nat) (s : Imm) (hb : 1 ≤ s.bufSize) :
    Imm.Path T s (s.scanAll f n).1 (s.scanAll f n).2.2 ∧ (s.scanAll f n).2.2.bufSize = s.bufSize := by
  rw [Imm.scanAll_eq]
  simpa using calls_trace (scan := Imm.scan f) (J := fun pre t => Imm.Path T s pre t ∧ t.bufSize = s.bufSize)
    (fun pre t ⟨hp, ht⟩ => ⟨hp.trans (scan_path f t (ht ▸ hb)), (scan_bufSize f t (ht ▸ hb)).trans ht⟩) n [] s
    ⟨Imm.Path.stop s trivial, rfl⟩

/-- every micro-step only extends the arrays -/
theorem micro_ext {s t : Imm} {o} (h : Imm.Micro s o t) : Ext s.arrays t.arrays := by
  cases h with
  | regrow _ hge =>
    have := grown_ext s
    simpa [Imm.grown, hge] using this
  | read _ _ => exact recv_ext s _ _
  | fail s0 e _ => exact Ext.refl _
  | emitAt _ k => exact Ext.refl _
  | emitTail _ _ _ => exact Ext.refl _

/-! ### BufferedReadAhead -/

/-- the single state changes of `BufferedReadAhead.Scan` (the model keeps `s.buf[:readOffset]` as `buf`) -/
inductive Buf.Micro : Buf → Option (View × Bytes) → Buf → Prop
  /-- `start := s.offset; s.offset += relIndex+1; s.token = dropCR(s.buf[start:start+relIndex]); return true` -/
  | emitLine (s : Buf) (rel : Nat) :
      Micro s (some (⟨s.mem.length, s.offset, s.offset + (dropCR ((s.buf.drop s.offset).take rel)).length⟩,
                     dropCR ((s.buf.drop s.offset).take rel))) { s with offset := s.offset + rel + 1 }
  /-- `ret := s.buf[s.offset:]; s.offset = len(s.buf); s.token = ret; return true` (only with `eof` set) -/
  | emitTail (s : Buf) : s.eof = true → s.offset < s.buf.length →
      Micro s (some (⟨s.mem.length, s.offset, s.buf.length⟩, s.buf.drop s.offset)) { s with offset := s.buf.length }
  /-- `oldbuf := s.buf; s.buf = make(…); copy(s.buf, oldbuf[s.offset:])` (only with `eof` not set) -/
  | alloc (s : Buf) : s.eof = false →
      Micro s none { s with mem := s.mem ++ [s.buf], buf := s.buf.drop s.offset, offset := 0 }
  /-- `n, err := s.r.Read(s.buf[readOffset:]); readOffset += n` -/
  | read (s : Buf) (room : Nat) :
      Micro s none { s with buf := s.buf ++ (s.rd.read room).1, rd := (s.rd.read room).2.2,
                            delivered := s.delivered ++ (s.rd.read room).1 }
  /-- `if err != io.EOF && s.onError != nil { s.onError(err) }; s.eof = true`: only right after the `Read` that
      returned `err` -/
  | fail (s : Buf) (room : Nat) (e : RErr) : (s.rd.read room).2.1 = some e →
      Micro { s with buf := s.buf ++ (s.rd.read room).1, rd := (s.rd.read room).2.2,
                     delivered := s.delivered ++ (s.rd.read room).1 } none
            { s with buf := s.buf ++ (s.rd.read room).1, rd := (s.rd.read room).2.2,
                     delivered := s.delivered ++ (s.rd.read room).1, eof := true,
                     errs := if e = .fail then s.errs + 1 else s.errs }

inductive Buf.Path (P : Buf → Prop) : Buf → List (View × Bytes) → Buf → Prop
  | stop (s : Buf) : P s → Path P s [] s
  | step {s t u : Buf} {o : Option (View × Bytes)} {os : List (View × Bytes)} :
      P s → Buf.Micro s o t → Path P t os u → Path P s (o.toList ++ os) u

theorem Buf.Path.single {P : Buf → Prop} {s t : Buf} {o} (hs : P s) (ht : P t) (h : Buf.Micro s o t) :
    Buf.Path P s o.toList t := by
  have := Buf.Path.step hs h (Buf.Path.stop t ht)
  simpa using this

theorem Buf.Path.trans {P : Buf → Prop} {s t u : Buf} {o1 o2} (h1 : Buf.Path P s o1 t) (h2 : Buf.Path P t o2 u) :
    Buf.Path P s (o1 ++ o2) u := by
  induction h1 with
  | stop s _ => simpa using h2
  | step hs hm _ ih => rw [List.append_assoc]; exact Buf.Path.step hs hm (ih h2)

theorem Buf.Path.lift {P : Buf → Prop} (hP : ∀ s o t, Buf.Micro s o t → P s → P t) {s u : Buf} {os}
    (h : Buf.Path (fun _ => True) s os u) (hs : P s) : Buf.Path P s os u := by
  induction h with
  | stop s _ => exact Buf.Path.stop s hs
  | step _ hm _ ih => exact Buf.Path.step hs hm (ih (hP _ _ _ hm hs))

theorem Buf.Path.last {P : Buf → Prop} {s u : Buf} {os} (h : Buf.Path P s os u) : P u := by
  induction h with
  | stop s hs => exact hs
  | step _ _ _ ih => exact ih

abbrev BT : Buf → Prop := fun _ => True

/-- the state of the scanner while the fill loop runs -/
def Buf.during (s : Buf) (acc : Bytes) (rd : Reader) (eof : Bool) (errs : Nat) (dl : Bytes) : Buf :=
  { s with buf := acc, rd := rd, eof := eof, errs := errs, delivered := dl }

theorem fill_path (b : Buf) : ∀ (f cap : Nat) (acc : Bytes) (rd : Reader) (errs : Nat) (dl : Bytes)
    (acc' : Bytes) (rd' : Reader) (eof' : Bool) (errs' : Nat) (dl' : Bytes),
    Buf.fill f cap acc rd errs dl = some (acc', rd', eof', errs', dl') →
    Buf.Path BT (b.during acc rd false errs dl) [] (b.during acc' rd' eof' errs' dl') := by
  intro f
  induction f with
  | zero => intro cap acc rd errs dl acc' rd' eof' errs' dl' h; simp [Buf.fill] at h
  | succ f ih =>
    intro cap acc rd errs dl acc' rd' eof' errs' dl' h
    simp only [Buf.fill] at h
    split at h
    · have hread := Buf.Micro.read (b.during acc rd false errs dl) (cap - acc.length)
      have hfail := Buf.Micro.fail (b.during acc rd false errs dl) (cap - acc.length)
      simp only [Buf.during] at hread hfail
      generalize rd.read (cap - acc.length) = r at h hread hfail
      have p0 : Buf.Path BT (b.during acc rd false errs dl) (none : Option (View × Bytes)).toList
          (b.during (acc ++ r.1) r.2.2 false errs (dl ++ r.1)) := Buf.Path.single trivial trivial hread
      cases h2 : r.2.1 with
      | some e =>
        rw [h2] at h
        simp only [Option.some.injEq, Prod.mk.injEq] at h
        obtain ⟨rfl, rfl, rfl, rfl, rfl⟩ := h
        have p1 := p0.trans (Buf.Path.single (P := BT) trivial trivial (hfail e h2))
        simpa [Buf.during] using p1
      | none =>
        rw [h2] at h
        have p1 := p0.trans (ih _ _ _ _ _ _ _ _ _ _ h)
        simpa using p1
    · simp only [Option.some.injEq, Prod.mk.injEq] at h
      obtain ⟨rfl, rfl, rfl, rfl, rfl⟩ := h
      exact Buf.Path.stop _ trivial

theorem bscan_path (f : Nat) : ∀ s : Buf, Buf.Path BT s (s.scan f).1.toks (s.scan f).2 := by
  induction f with
  | zero => intro s; exact Buf.Path.stop s trivial
  | succ f ih =>
    intro s
    simp only [Buf.scan]
    split
    · rename_i rel _
      exact Buf.Path.single trivial trivial (Buf.Micro.emitLine s rel)
    · split
      · rename_i hc
        have hc' : s.eof = true ∧ s.offset < s.buf.length := by simpa using hc
        exact Buf.Path.single trivial trivial (Buf.Micro.emitTail s hc'.1 hc'.2)
      · split
        · rename_i hne
          have he : s.eof = false := by simpa using hne
          split
          · exact Buf.Path.stop s trivial
          · rename_i acc rd' eof' errs' dl' hfill
            have p0 : Buf.Path BT s (none : Option (View × Bytes)).toList _ :=
              Buf.Path.single trivial trivial (Buf.Micro.alloc s he)
            have p1 := fill_path ({ s with mem := s.mem ++ [s.buf], buf := s.buf.drop s.offset, offset := 0 } : Buf)
              _ _ _ _ _ _ _ _ _ _ _ hfill
            have e0 : ({ s with mem := s.mem ++ [s.buf], buf := s.buf.drop s.offset, offset := 0 } : Buf)
                = ({ s with mem := s.mem ++ [s.buf], buf := s.buf.drop s.offset, offset := 0 } : Buf).during
                    (s.buf.drop s.offset) s.rd false s.errs s.delivered := by
              simp [Buf.during, ← he]
            rw [e0] at p0
            have p2 := (p0.trans p1).trans (ih _)
            simpa [Buf.during] using p2
        · exact Buf.Path.stop s trivial

theorem bscanAll_path (f n : Nat) (s : Buf) : Buf.Path BT s (s.scanAll f n).1 (s.scanAll f n).2.2 := by
  rw [Buf.scanAll_eq]
  simpa using calls_trace (scan := Buf.scan f) (J := fun pre t => Buf.Path BT s pre t)
    (fun pre t hp => hp.trans (bscan_path f t)) n [] s (Buf.Path.stop s trivial)

theorem bmicro_ext {s t : Buf} {o} (h : Buf.Micro s o t) : Ext s.arrays t.arrays := by
  cases h with
  | emitLine _ rel => exact Ext.refl _
  | emitTail _ _ _ => exact Ext.refl _
  | alloc _ _ => simpa [Buf.arrays] using Ext.append (s.mem ++ [s.buf]) [s.buf.drop s.offset]
  | read _ room => simpa [Buf.arrays] using Ext.last s.mem s.buf (s.rd.read room).1
  | fail s0 room e _ => exact Ext.refl _

/-- a valid view reads the same all along a path of micro-steps -/
theorem path_keeps_view {s u : Imm} {os} (h : Imm.Path T s os u) (v : View) (b : Bytes)
    (hv : ViewOK s.arrays v ∧ readView s.arrays v = b) :
    Imm.Path (fun t => ViewOK t.arrays v ∧ readView t.arrays v = b) s os u :=
  Imm.Path.lift (fun _ _ _ hm hp => view_ext (micro_ext hm) hp) h hv

theorem bpath_keeps_view {s u : Buf} {os} (h : Buf.Path BT s os u) (v : View) (b : Bytes)
    (hv : ViewOK s.arrays v ∧ readView s.arrays v = b) :
    Buf.Path (fun t => ViewOK t.arrays v ∧ readView t.arrays v = b) s os u :=
  Buf.Path.lift (fun _ _ _ hm hp => view_ext (bmicro_ext hm) hp) h hv

end Rare.C04

import Rare.Proofs.C20Inv2
/-! C20: the writer after `Close()`, and the no-scroll special case of `Reachable`. -/
namespace Rare.C20

theorem close_maxLine (c : Cfg) (w : TermWriter) : (w.close c).1.maxLine = w.maxLine := by
  rw [close_fst]

theorem close_cursor (c : Cfg) (w : TermWriter) : (w.close c).1.cursor = w.maxLine := by
  rw [close_fst]

/-- when every line fits below the start row, every update is reachable -/
theorem reachable_of_fits (H r0 : Nat) : ∀ (rest : List (Nat × Bytes)) (m : Nat), r0 + m < H →
    (∀ u ∈ rest, r0 + u.1 < H) → Reachable H r0 m rest := by
  intro rest
  induction rest with
  | nil => intro _ _ _; trivial
  | cons u rest ih =>
    intro m hm h
    have hu := h u (by simp)
    refine ⟨by omega, ih _ (by omega) (fun x hx => h x (by simp [hx]))⟩

end Rare.C20

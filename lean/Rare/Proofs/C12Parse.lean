import Rare.Proofs.C12Main
/-! Every byte string is a pattern text (`p.render` + optional unclosed tail): the grammar is total. -/
namespace Rare.C12

theorem split_tok (s : Bytes) : NoTok s ∨ ∃ l r, s = l ++ ([pct, lbrace] ++ r) ∧ NoTok l :=
  firstIndex_split (by decide) s

theorem split_rbrace (s : Bytes) : rbrace ∉ s ∨ ∃ k r, s = k ++ ([rbrace] ++ r) ∧ rbrace ∉ k := by
  rcases firstIndex_split (u := [rbrace]) (by simp) s with h | ⟨k, r, hs, hk⟩
  · exact Or.inl (firstIndex_singleton_none.mp h)
  · exact Or.inr ⟨k, r, hs, firstIndex_singleton_none.mp hk⟩

/-- everything after a token opener parses as tokens (+ optionally an unclosed tail) -/
theorem parse_rest : ∀ (n : Nat) (s : Bytes), s.length ≤ n →
    ∃ toks tail, (∀ t ∈ toks, rbrace ∉ t.key ∧ NoTok t.lit) ∧ (∀ j, tail = some j → rbrace ∉ j) ∧
      [pct, lbrace] ++ s = restText toks tail := by
  intro n
  induction n with
  | zero =>
    intro s hs
    have : s = [] := List.length_eq_zero_iff.mp (by omega)
    subst this
    exact ⟨[], some [], by simp, by intro j h; cases h; simp, by simp [restText, tailText]⟩
  | succ n ih =>
    intro s hs
    rcases split_rbrace s with h | ⟨k, r, hs', hk⟩
    · exact ⟨[], some s, by simp, by intro j hj; cases hj; exact h, by simp [restText, tailText]⟩
    · rcases split_tok r with hr | ⟨l, r', hr', hl⟩
      · refine ⟨[⟨k, r⟩], none, ?_, ?_, ?_⟩
        · intro t ht; simp at ht; subst ht; exact ⟨hk, hr⟩
        · intro j hj; cases hj
        · simp [restText, tailText, Tok.render, hs']
      · have hlen : r'.length ≤ n := by
          subst hs' hr'; simp at hs; omega
        obtain ⟨toks, tail, h1, h2, h3⟩ := ih r' hlen
        refine ⟨⟨k, l⟩ :: toks, tail, ?_, h2, ?_⟩
        · intro t ht
          simp only [List.mem_cons] at ht
          rcases ht with rfl | ht
          · exact ⟨hk, hl⟩
          · exact h1 t ht
        · rw [restText_cons, ← h3]
          simp [Tok.render, hs', hr']

/-- **Every byte string is a pattern text**: `p.render`, optionally followed by an unclosed token. -/
theorem parse_total (s : Bytes) :
    ∃ (p : Pat) (tail : Option Bytes), p.Shape ∧ (∀ j, tail = some j → rbrace ∉ j) ∧
      s = p.render ++ tailText tail := by
  rcases split_tok s with h | ⟨l, r, hs, hl⟩
  · refine ⟨⟨s, []⟩, none, ⟨h, by simp⟩, ?_, ?_⟩
    · intro j hj; cases hj
    · simp [Pat.render, tailText]
  · obtain ⟨toks, tail, h1, h2, h3⟩ := parse_rest r.length r (Nat.le_refl _)
    refine ⟨⟨l, toks⟩, tail, ⟨hl, h1⟩, h2, ?_⟩
    rw [hs, h3]; simp [Pat.render, restText]

theorem specErrors_unclosed_ne_none (toks : List Tok) (seen : List Bytes) :
    specErrors true toks seen ≠ none := by
  induction toks generalizing seen with
  | nil => simp [specErrors]
  | cons t ts ih =>
    simp only [specErrors]
    split
    · simp
    · split
      · simp
      · exact ih _

/-- whatever compiles is the text of a well-formed pattern -/
theorem compiles_is_pattern {s : Bytes} {ic : Bool} {d : Dissect} (h : compileEx s ic = .ok d) :
    ∃ p : Pat, p.Shape ∧ s = p.render := by
  obtain ⟨p, tail, hp, ht, hs⟩ := parse_total s
  cases tail with
  | none => exact ⟨p, hp, by simpa [tailText] using hs⟩
  | some j =>
    exfalso
    rw [hs, compileEx_render ic p hp (some j) ht] at h
    cases he : specErrors true p.toks [] with
    | none => exact specErrors_unclosed_ne_none _ _ he
    | some e => simp [he] at h

end Rare.C12

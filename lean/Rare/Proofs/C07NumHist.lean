import Rare.Model.C07NumHist
import Rare.Proofs.C07NumF64
/-!
C07, `MatchNumerical` as a state machine with `Analyze()` calls between the samples (`Model/C07NumHist.lean`):

* a run with any sorting algorithm behind `Analyze()` (`HistRun`) keeps the aggregator equal, up to the stored ORDER of the
  kept values, to the plain `Samplef` fold over the samples of the history (`histRun_sameUpToOrder`, `histRun_final`);
* the executable machine is such a run (`histRun_is_run`); runs split at every position (`histRun_split`);
* the order statistics of two sorted arrangements of the same samples agree: `medianF_sorted_unique`,
  `quantileF_sorted_unique`, `modeF_sorted_unique` (up to the sign of a zero / the identity of a NaN);
* `sorted_append_iff`: when appending a sample to a sorted slice keeps it sorted – the only situation in which a re-sort
  could be skipped (ascending: the sample is not below the last value; `Reverse`: not above it).
-/
namespace Rare.C07
open Rare Rare.F64

/-- The same aggregator up to the stored order of the kept values. -/
def SameUpToOrder (a b : NumF) : Prop :=
  a.samples = b.samples ∧ a.mean = b.mean ∧ a.variance = b.variance ∧ a.min = b.min ∧ a.max = b.max ∧
  a.parseErrors = b.parseErrors ∧ a.values.Perm b.values

theorem SameUpToOrder.refl (a : NumF) : SameUpToOrder a a := ⟨rfl, rfl, rfl, rfl, rfl, rfl, List.Perm.refl _⟩

theorem sameUpToOrder_samplef (keep : Bool) (a b : NumF) (v : F64) (h : SameUpToOrder a b) :
    SameUpToOrder (NumF.samplef keep a v) (NumF.samplef keep b v) := by
  obtain ⟨h1, h2, h3, h4, h5, h6, h7⟩ := h
  refine ⟨?_, ?_, ?_, ?_, ?_, ?_, ?_⟩
  · show a.samples + 1 = b.samples + 1
    rw [h1]
  · show f64Ops.add a.mean (f64Ops.div (f64Ops.sub v a.mean) (f64Ops.ofNat (a.samples + 1))) =
      f64Ops.add b.mean (f64Ops.div (f64Ops.sub v b.mean) (f64Ops.ofNat (b.samples + 1)))
    rw [h1, h2]
  · show f64Ops.add a.variance (f64Ops.mul (f64Ops.sub v a.mean)
        (f64Ops.sub v (f64Ops.add a.mean (f64Ops.div (f64Ops.sub v a.mean) (f64Ops.ofNat (a.samples + 1)))))) =
      f64Ops.add b.variance (f64Ops.mul (f64Ops.sub v b.mean)
        (f64Ops.sub v (f64Ops.add b.mean (f64Ops.div (f64Ops.sub v b.mean) (f64Ops.ofNat (b.samples + 1))))))
    rw [h1, h2, h3]
  · rw [samplef_min, samplef_min, h4]
  · rw [samplef_max, samplef_max, h5]
  · rw [samplef_parseErrors, samplef_parseErrors, h6]
  · rw [samplef_values, samplef_values]
    cases keep
    · simpa using h7
    · simpa using h7.append_right [v]

theorem sameUpToOrder_sample (keep : Bool) (a b : NumF) (e : Bytes) (h : SameUpToOrder a b) :
    SameUpToOrder (NumF.sample keep a e) (NumF.sample keep b e) := by
  unfold NumF.sample
  cases F64.parseFloat e with
  | none =>
    obtain ⟨h1, h2, h3, h4, h5, h6, h7⟩ := h
    exact ⟨h1, h2, h3, h4, h5, by show a.parseErrors + 1 = b.parseErrors + 1; rw [h6], h7⟩
  | some v => exact sameUpToOrder_samplef keep a b v h

/-- The history without its `Analyze()` calls. -/
def plainStep (keep : Bool) (s : NumF) : NumOp → NumF
  | .samplef v => NumF.samplef keep s v
  | .sample e => NumF.sample keep s e
  | .analyze => s

def plainRun (keep : Bool) (s : NumF) (ops : List NumOp) : NumF := ops.foldl (plainStep keep) s

theorem histStep_sameUpToOrder (keep rev : Bool) {a a' : NumF} {op : NumOp} {o : Option (List F64)}
    (h : HistStep keep rev a op a' o) (b : NumF) (hab : SameUpToOrder a b) :
    SameUpToOrder a' (plainStep keep b op) := by
  cases h with
  | samplef v => exact sameUpToOrder_samplef keep _ b v hab
  | sample e => exact sameUpToOrder_sample keep _ b e hab
  | analyze o hs =>
    obtain ⟨h1, h2, h3, h4, h5, h6, h7⟩ := hab
    exact ⟨h1, h2, h3, h4, h5, h6, hs.1.trans h7⟩

/-- `Analyze()` calls between the samples change nothing but the stored order of the kept values. -/
theorem histRun_sameUpToOrder (keep rev : Bool) {a a' : NumF} {ops : List NumOp} {vs : List (List F64)}
    (h : HistRun keep rev a ops a' vs) : ∀ b : NumF, SameUpToOrder a b → SameUpToOrder a' (plainRun keep b ops) := by
  induction h with
  | nil s => intro b hab; exact hab
  | cons h1 _ ih =>
    intro b hab
    exact ih _ (histStep_sameUpToOrder keep rev h1 b hab)

theorem plainRun_eq (keep : Bool) (ops : List NumOp) : ∀ s : NumF,
    plainRun keep s ops =
      { (histSamples ops).foldl (NumF.samplef keep) s with
        parseErrors := s.parseErrors + ops.countP NumOp.isParseError } := by
  induction ops with
  | nil => intro s; simp [plainRun, histSamples]
  | cons op ops ih =>
    intro s
    unfold plainRun at ih ⊢
    rw [List.foldl_cons, ih]
    cases op with
    | samplef v =>
      have e1 : histSamples (NumOp.samplef v :: ops) = v :: histSamples ops := by
        simp [histSamples, NumOp.value?]
      rw [e1, List.foldl_cons, List.countP_cons_of_neg (by simp [NumOp.isParseError])]
      rfl
    | analyze =>
      have e1 : histSamples (NumOp.analyze :: ops) = histSamples ops :=
        List.filterMap_cons_none (f := NumOp.value?) (a := NumOp.analyze) (l := ops) rfl
      rw [e1, List.countP_cons_of_neg (by simp [NumOp.isParseError])]
      rfl
    | sample e =>
      cases hp : F64.parseFloat e with
      | none =>
        have e1 : histSamples (NumOp.sample e :: ops) = histSamples ops := by
          simp [histSamples, NumOp.value?, hp]
        have e2 : plainStep keep s (NumOp.sample e) = { s with parseErrors := s.parseErrors + 1 } := by
          simp only [plainStep, NumF.sample, hp]
        rw [e1, e2, List.countP_cons_of_pos (by simp [NumOp.isParseError, hp]), foldl_samplef_withErrors]
        simp only [Numerical.mk.injEq, true_and, and_true]
        omega
      | some v =>
        have e1 : histSamples (NumOp.sample e :: ops) = v :: histSamples ops := by
          simp [histSamples, NumOp.value?, hp]
        have e2 : plainStep keep s (NumOp.sample e) = NumF.samplef keep s v := by
          simp only [plainStep, NumF.sample, hp]
        rw [e1, e2, List.foldl_cons, samplef_parseErrors, List.countP_cons_of_neg (by simp [NumOp.isParseError, hp])]

/-- The aggregator after ANY run of a history on a new aggregator: the moments and counters of the plain `Samplef` fold
over the samples of the history, and the stored values are an arrangement of the kept ones. -/
theorem histRun_final (keep rev : Bool) (ops : List NumOp) (s : NumF) (vs : List (List F64))
    (h : HistRun keep rev NumF.new ops s vs) :
    SameUpToOrder s { runFv keep (histSamples ops) with parseErrors := ops.countP NumOp.isParseError } ∧
    s.values.Perm (keptOf keep (histSamples ops)) := by
  have h1 := histRun_sameUpToOrder keep rev h NumF.new (SameUpToOrder.refl _)
  rw [plainRun_eq] at h1
  have e : (NumF.new).parseErrors + ops.countP NumOp.isParseError = ops.countP NumOp.isParseError := by
    show 0 + _ = _; omega
  rw [e] at h1
  refine ⟨h1, ?_⟩
  have := h1.2.2.2.2.2.2
  have e2 : (runFv keep (histSamples ops)).values = keptOf keep (histSamples ops) := runFv_values keep _
  exact this.trans (by rw [← e2]; exact List.Perm.refl _)

/-! ### the executable machine is a run; runs split -/

theorem histStep_stepOp (keep rev : Bool) (s : NumF) (op : NumOp) :
    HistStep keep rev s op (NumF.stepOp keep rev s op).1 (NumF.stepOp keep rev s op).2 := by
  cases op with
  | samplef v => exact HistStep.samplef s v
  | sample e => exact HistStep.sample s e
  | analyze => exact HistStep.analyze s (analyzeF rev s.values) (analyzeF_sorted rev s.values)

theorem histRunFrom_acc (keep rev : Bool) (ops : List NumOp) : ∀ (s : NumF) (acc : List (List F64)),
    ops.foldl (fun (a : NumF × List (List F64)) op =>
      ((NumF.stepOp keep rev a.1 op).1, a.2 ++ (NumF.stepOp keep rev a.1 op).2.toList)) (s, acc) =
    ((histRunFrom keep rev s ops).1, acc ++ (histRunFrom keep rev s ops).2) := by
  induction ops with
  | nil => intro s acc; simp [histRunFrom]
  | cons op ops ih =>
    intro s acc
    unfold histRunFrom
    rw [List.foldl_cons, List.foldl_cons, ih, ih (NumF.stepOp keep rev s op).1 ([] ++ _)]
    simp [List.append_assoc]

theorem histRunFrom_cons (keep rev : Bool) (s : NumF) (op : NumOp) (ops : List NumOp) :
    histRunFrom keep rev s (op :: ops) =
      ((histRunFrom keep rev (NumF.stepOp keep rev s op).1 ops).1,
       (NumF.stepOp keep rev s op).2.toList ++ (histRunFrom keep rev (NumF.stepOp keep rev s op).1 ops).2) := by
  show List.foldl _ _ (op :: ops) = _
  rw [List.foldl_cons, histRunFrom_acc]
  simp

theorem histRun_is_run (keep rev : Bool) (ops : List NumOp) : ∀ s : NumF,
    HistRun keep rev s ops (histRunFrom keep rev s ops).1 (histRunFrom keep rev s ops).2 := by
  induction ops with
  | nil => intro s; exact HistRun.nil s
  | cons op ops ih =>
    intro s
    rw [histRunFrom_cons]
    exact HistRun.cons (histStep_stepOp keep rev s op) (ih _)

theorem histRun_split (keep rev : Bool) (pre : List NumOp) : ∀ {a a' : NumF} {post : List NumOp} {vs : List (List F64)},
    HistRun keep rev a (pre ++ post) a' vs →
    ∃ m v1 v2, HistRun keep rev a pre m v1 ∧ HistRun keep rev m post a' v2 ∧ vs = v1 ++ v2 := by
  induction pre with
  | nil => intro a a' post vs h; exact ⟨a, [], vs, HistRun.nil a, h, rfl⟩
  | cons op pre ih =>
    intro a a' post vs h
    cases h with
    | cons h1 h2 =>
      obtain ⟨m, v1, v2, r1, r2, e⟩ := ih h2
      exact ⟨m, _, v2, HistRun.cons h1 r1, r2, by rw [e, List.append_assoc]⟩

theorem histRun_views_length (keep rev : Bool) {a a' : NumF} {ops : List NumOp} {vs : List (List F64)}
    (h : HistRun keep rev a ops a' vs) : vs.length = ops.countP NumOp.isAnalyze := by
  induction h with
  | nil s => rfl
  | cons h1 _ ih =>
    rw [List.length_append, ih]
    cases h1 with
    | samplef v => rw [List.countP_cons_of_neg (by simp [NumOp.isAnalyze])]; simp
    | sample e => rw [List.countP_cons_of_neg (by simp [NumOp.isAnalyze])]; simp
    | analyze o hs => rw [List.countP_cons_of_pos (by simp [NumOp.isAnalyze])]; simp; omega

/-- The view of every `Analyze()` of a run: a sorted arrangement of ALL samples kept before it. -/
theorem histRun_view (keep rev : Bool) (ops : List NumOp) (s : NumF) (vs : List (List F64))
    (h : HistRun keep rev NumF.new ops s vs) (pre post : List NumOp) (e : ops = pre ++ NumOp.analyze :: post) :
    ∃ o, vs[pre.countP NumOp.isAnalyze]? = some o ∧ IsSortedF rev o (keptOf keep (histSamples pre)) := by
  subst e
  obtain ⟨m, v1, v2, r1, r2, e⟩ := histRun_split keep rev pre h
  have hl := histRun_views_length keep rev r1
  have hm := (histRun_final keep rev pre m v1 r1).2
  cases r2 with
  | cons h1 h2 =>
    cases h1 with
    | analyze o hs =>
      refine ⟨o, ?_, hs.1.trans hm, hs.2⟩
      rw [e, ← hl]
      simp

/-! ### order statistics of two sorted arrangements -/

theorem isSortedF_length {rev : Bool} {s l : List F64} (h : IsSortedF rev s l) : s.length = l.length := h.1.length_eq

theorem sameF_zero : sameF (F64.zero false) (F64.zero false) = true := by decide

theorem medianF_sorted_unique (rev : Bool) (s s' l : List F64) (h : IsSortedF rev s l) (h' : IsSortedF rev s' l) :
    sameF (medianF s) (medianF s') = true := by
  cases l with
  | nil =>
    have e1 : s = [] := h.1.eq_nil
    have e2 : s' = [] := h'.1.eq_nil
    rw [e1, e2]; exact sameF_zero
  | cons x l =>
    have n1 : s ≠ [] := by intro e; rw [e] at h; exact List.cons_ne_nil _ _ h.1.symm.eq_nil
    have n2 : s' ≠ [] := by intro e; rw [e] at h'; exact List.cons_ne_nil _ _ h'.1.symm.eq_nil
    obtain ⟨a, ha, ea⟩ := medianF_eq s n1
    obtain ⟨b, hb, eb⟩ := medianF_eq s' n2
    rw [ea, eb]
    rw [isSortedF_length h] at ha
    rw [isSortedF_length h'] at hb
    exact rank_unique rev s s' _ h h' _ a b ha hb

theorem quantileF_sorted_unique (rev : Bool) (s s' l : List F64) (h : IsSortedF rev s l) (h' : IsSortedF rev s' l)
    (p : F64) : ∃ x x', quantileF s p = .ok x ∧ quantileF s' p = .ok x' ∧ sameF x x' = true := by
  cases l with
  | nil =>
    have e1 : s = [] := h.1.eq_nil
    have e2 : s' = [] := h'.1.eq_nil
    rw [e1, e2]
    exact ⟨_, _, quantileF_nil p, quantileF_nil p, sameF_zero⟩
  | cons x l =>
    have l1 := isSortedF_length h
    have l2 := isSortedF_length h'
    have p1 : 0 < s.length := by rw [l1]; simp
    have p2 : 0 < s'.length := by rw [l2]; simp
    obtain ⟨a, ha, ea⟩ := quantileF_ok s p1 p
    obtain ⟨b, hb, eb⟩ := quantileF_ok s' p2 p
    rw [l1] at ha
    rw [l2] at hb
    exact ⟨a, b, ea, eb, rank_unique rev s s' _ h h' _ a b ha hb⟩

/-- The equality test of `Mode()` on sort keys: a NaN key equals nothing. -/
def eqKey (a b : Int) : Bool := a == b && a != -(P64 : Int)

theorem eqKey_skey (x y : F64) : eqKey (skey x) (skey y) = F64.eq x y := by
  have bx := key_bounds x
  have b := key_bounds y
  have hP : (P64 : Int) = 2 * (P63 : Int) := by decide
  cases h : F64.eq x y
  · have := eq_iff_key x y
    rw [h] at this
    simp only [Bool.false_eq_true, false_iff] at this
    unfold eqKey skey
    cases hx : x.isNaN <;> cases hy : y.isNaN <;> simp [hx, hy] at this ⊢ <;> omega
  · obtain ⟨hx, hy, hk⟩ := (eq_iff_key x y).mp h
    unfold eqKey skey
    simp [hx, hy, hk]
    omega

/-- `Mode()` is a function of the sort keys. -/
theorem skey_modeF (s : List F64) : skey (modeF s) = mode (skey (F64.zero false)) eqKey (s.map skey) := by
  unfold modeF
  exact mode_map skey (F64.zero false) F64.eq eqKey s (fun a _ b _ => eqKey_skey a b)

/-- `Mode()` does not depend on which sorted arrangement the (unstable) sort produced. -/
theorem modeF_sorted_unique (rev : Bool) (s s' l : List F64) (h : IsSortedF rev s l) (h' : IsSortedF rev s' l) :
    sameF (modeF s) (modeF s') = true := by
  rw [sameF_iff, skey_modeF, skey_modeF, sorted_skey_eq rev s s' l h h']

/-- An arrangement is sorted for one direction iff its reverse is sorted for the other. -/
theorem isSortedF_reverse (rev : Bool) (s l : List F64) : IsSortedF rev s l ↔ IsSortedF (!rev) s.reverse l := by
  unfold IsSortedF
  constructor
  · intro ⟨hp, hs⟩
    refine ⟨(List.reverse_perm s).trans hp, ?_⟩
    rw [List.pairwise_reverse]
    cases rev <;> simpa using hs
  · intro ⟨hp, hs⟩
    refine ⟨(List.reverse_perm s).symm.trans hp, ?_⟩
    rw [List.pairwise_reverse] at hs
    cases rev <;> simpa using hs


/-! ### when an appended sample leaves the slice sorted -/

theorem isSortedF_append_iff (rev : Bool) (o l : List F64) (v : F64) (h : IsSortedF rev o l) :
    IsSortedF rev (o ++ [v]) (l ++ [v]) ↔ ∀ a ∈ o, (if rev then goLess a v else goLess v a) = false := by
  constructor
  · intro hs a ha
    have := (List.pairwise_append.mp hs.2).2.2 a ha v (by simp)
    exact this
  · intro hv
    refine ⟨h.1.append_right [v], List.pairwise_append.mpr ⟨h.2, List.pairwise_singleton _ _, ?_⟩⟩
    intro a ha b hb
    have : b = v := by simpa using hb
    rw [this]; exact hv a ha

/-- Appending `v` to a non-empty sorted slice keeps it sorted iff `v` is not before its LAST element in the sort order:
ascending `v` is not below the last value, with `Reverse` `v` is not ABOVE it. -/
theorem sorted_append_iff (rev : Bool) (o l : List F64) (last v : F64) (h : IsSortedF rev o l)
    (hl : o.getLast? = some last) :
    IsSortedF rev (o ++ [v]) (l ++ [v]) ↔ (if rev then goLess last v else goLess v last) = false := by
  rw [isSortedF_append_iff rev o l v h]
  have hmem : last ∈ o := List.mem_of_getLast? hl
  constructor
  · intro hall; exact hall last hmem
  · intro hlast a ha
    -- every element of `o` is not after `last`
    obtain ⟨pre, rfl⟩ : ∃ pre, o = pre ++ [last] := List.getLast?_eq_some_iff.mp hl
    rcases List.mem_append.mp ha with hp | hp
    · have := (List.pairwise_append.mp h.2).2.2 a hp last (by simp)
      rw [sortedDir_iff] at this hlast ⊢
      cases rev <;> simp only [Bool.false_eq_true, if_false, if_true] at this hlast ⊢ <;> omega
    · have : a = last := by simpa using hp
      rw [this]; exact hlast

end Rare.C07

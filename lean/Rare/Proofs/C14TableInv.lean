import Rare.Proofs.C14Table
/-!
The `TableWriter` invariant over every sequence of `WriteRow` / `WriteFooter` calls, and what it
gives: column `k` starts at the same visible offset in every drawn row.
-/
namespace Rare.C14
open Rare Rare.C20

/-! ### the text of a row -/

/-- one cell as `writeRow` draws it: padded to the column width, plus the separating blank -/
def cellText (env : Env) (w : Int) (c : Bytes) : Bytes := c ++ spaces (w - strLen env c) ++ [32]

/-- the text of a row whose cells occupy the columns `k, k+1, …` (pure form of `TableWriter.rowText`) -/
def rowTextP (env : Env) (cw : List Int) : Nat → List Bytes → Bytes
  | _, [] => []
  | k, c :: rest => cellText env (cw.getD k 0) c ++ rowTextP env cw (k + 1) rest

theorem getIdx_nat {α : Type} (l : List α) (k : Nat) (d : α) (h : k < l.length) : getIdx l (k : Int) = .ok (l.getD k d) := by
  unfold getIdx
  have : ¬ ((k : Int) < 0) := by omega
  simp only [this, if_false, Int.toNat_natCast]
  rw [List.getElem?_eq_getElem h]
  simp [List.getD, List.getElem?_eq_getElem h]

/-- the body of the loop of `writeRow` -/
def cellM (env : Env) (cw : List Int) (p : Bytes × Nat) : Res Bytes := do
  let w ← getIdx cw p.2
  pure (p.1 ++ spaces (w - strLen env p.1) ++ [32])

theorem rowText_aux (env : Env) (cw : List Int) : ∀ (l : List Bytes) (n : Nat), n + l.length ≤ cw.length →
    ∃ parts, (l.zipIdx n).mapM (cellM env cw) = .ok parts ∧ parts.flatten = rowTextP env cw n l := by
  intro l
  induction l with
  | nil => intro n _; exact ⟨[], rfl, rfl⟩
  | cons c rest ih =>
    intro n hn
    obtain ⟨parts, hp, hf⟩ := ih (n + 1) (by simp at hn ⊢; omega)
    have hstep : cellM env cw (c, n) = .ok (cellText env (cw.getD n 0) c) := by
      unfold cellM
      rw [getIdx_nat cw n 0 (by simp at hn; omega)]
      rfl
    refine ⟨cellText env (cw.getD n 0) c :: parts, ?_, ?_⟩
    · rw [List.zipIdx_cons, List.mapM_cons, hstep, hp]; rfl
    · simp [rowTextP, hf]

theorem rowText_eq (env : Env) (mc : Int) (cw : List Int) (cols : List Bytes) (h : (cols.take mc.toNat).length ≤ cw.length) :
    TableWriter.rowText env mc cw cols = .ok (rowTextP env cw 0 (cols.take mc.toNat)) := by
  obtain ⟨parts, hp, hf⟩ := rowText_aux env cw (cols.take mc.toNat) 0 (by omega)
  show (do let parts ← (cols.take mc.toNat).zipIdx.mapM (cellM env cw); (pure parts.flatten : Res Bytes)) = _
  rw [hp, ← hf]; rfl

/-! ### the width-tracking loop -/

theorem setIdx_nat {α : Type} (l : List α) (k : Nat) (x : α) (h : k < l.length) : setIdx l (k : Int) x = .ok (l.set k x) := by
  unfold setIdx
  have : ¬ ((k : Int) < 0 ∨ (k : Int) ≥ l.length) := by omega
  rw [if_neg this, Int.toNat_natCast]

theorem getD_set_int (l : List Int) (n k : Nat) (x : Int) :
    (l.set n x).getD k 0 = if n = k ∧ n < l.length then x else l.getD k 0 := by
  simp only [List.getD_eq_getElem?_getD, List.getElem?_set]
  by_cases h : n = k
  · subst h
    by_cases h2 : n < l.length <;> simp [h2]
  · simp [h]

/-- the body of the width loop of `WriteRow` -/
def widenStep (env : Env) (acc : List Int × Bool) (ci : Bytes × Nat) : Res (List Int × Bool) := do
  let w ← getIdx acc.1 ci.2
  let runeLen := strLen env ci.1
  if runeLen > w then
    let cw ← setIdx acc.1 ci.2 runeLen
    pure (cw, true)
  else pure acc

/-- one step of the width loop: the widths only grow, the cell now fits its column, and the flag says whether a width changed -/
theorem widenStep_ok (env : Env) (acc : List Int × Bool) (c : Bytes) (n : Nat) (h : n < acc.1.length) :
    ∃ acc', widenStep env acc (c, n) = .ok acc' ∧ acc'.1.length = acc.1.length ∧
      (∀ k, acc.1.getD k 0 ≤ acc'.1.getD k 0) ∧ strLen env c ≤ acc'.1.getD n 0 ∧
      (acc'.2 = false → acc'.1 = acc.1) ∧ (acc.2 = true → acc'.2 = true) := by
  unfold widenStep
  simp only [getIdx_nat acc.1 n 0 h, bind, Except.bind]
  split
  · rename_i hg
    refine ⟨(acc.1.set n (strLen env c), true), by simp only [setIdx_nat acc.1 n _ h]; rfl, List.length_set .., ?_, ?_,
      fun h => (by cases h), fun _ => rfl⟩
    · intro k
      rw [getD_set_int]
      split
      · rename_i hk
        obtain ⟨rfl, _⟩ := hk
        omega
      · exact Int.le_refl _
    · rw [getD_set_int, if_pos ⟨rfl, h⟩]
      exact Int.le_refl _
  · rename_i hg
    exact ⟨acc, rfl, rfl, fun _ => Int.le_refl _, by omega, fun _ => rfl, fun h => h⟩

/-- A loop over `l.zipIdx b` whose step for index `i` establishes `Q i x` and keeps what does not belong to index `i`
(`K i (i + 1)`), where "what is outside `a … c-1` is kept" (`K a c`) composes and preserves `Q i x` for `i < a`:
afterwards `Q (b + i) x` holds for EVERY element, and the loop keeps what is outside `b … b + l.length - 1`. -/
theorem foldlM_zipIdx_inv {σ α : Type} {step : σ → α × Nat → Res σ} {I : σ → Prop} {P : Nat → α → Prop} {Q : Nat → α → σ → Prop}
    {K : Nat → Nat → σ → σ → Prop} (hrefl : ∀ n s, K n n s s)
    (htrans : ∀ a c s s' s'', a < c → K a (a + 1) s s' → K (a + 1) c s' s'' → K a c s s'')
    (hkeep : ∀ i x c s s', i < c → Q i x s → K (i + 1) c s s' → Q i x s')
    (hstep : ∀ s x i, I s → P i x → ∃ s', step s (x, i) = .ok s' ∧ I s' ∧ Q i x s' ∧ K i (i + 1) s s') :
    ∀ (l : List α) (b : Nat) (s : σ), I s → (∀ i x, l[i]? = some x → P (b + i) x) →
      ∃ s', (l.zipIdx b).foldlM step s = .ok s' ∧ I s' ∧ (∀ i x, l[i]? = some x → Q (b + i) x s') ∧ K b (b + l.length) s s' := by
  intro l
  induction l with
  | nil => intro b s hI _; exact ⟨s, rfl, hI, by intro i x h; simp at h, hrefl b s⟩
  | cons y l ih =>
    intro b s hI hP
    obtain ⟨s1, h1, hI1, hQ1, hK1⟩ := hstep s y b hI (hP 0 y rfl)
    obtain ⟨s2, h2, hI2, hQ2, hK2⟩ := ih (b + 1) s1 hI1 (fun i x hi => by
      have := hP (i + 1) x (by simpa using hi)
      rwa [show b + (i + 1) = b + 1 + i by omega] at this)
    rw [show b + 1 + l.length = b + (y :: l).length by simp; omega] at hK2
    refine ⟨s2, ?_, hI2, ?_, htrans b _ s s1 s2 (by simp) hK1 hK2⟩
    · rw [List.zipIdx_cons, List.foldlM_cons, h1]; exact h2
    · intro i x hi
      cases i with
      | zero =>
        simp at hi; subst hi
        exact hkeep b _ _ s1 s2 (by simp) hQ1 hK2
      | succ i =>
        have := hQ2 i x (by simpa using hi)
        rwa [show b + 1 + i = b + (i + 1) by omega] at this

theorem widen_ok (env : Env) (mc : Int) (cols : List Bytes) (cw : List Int) (h : (cols.take mc.toNat).length ≤ cw.length) :
    ∃ cw' need, TableWriter.widen env mc cols cw = .ok (cw', need) ∧ cw'.length = cw.length ∧
      (∀ k, cw.getD k 0 ≤ cw'.getD k 0) ∧
      (∀ j c, (cols.take mc.toNat)[j]? = some c → strLen env c ≤ cw'.getD j 0) ∧
      (need = false → cw' = cw) := by
  obtain ⟨⟨cw', need⟩, hf, hlen, hfit, -, hmono, hsame, -⟩ := foldlM_zipIdx_inv (step := widenStep env)
    (I := fun s => s.1.length = cw.length) (P := fun i _ => i < cw.length)
    (Q := fun i c s => strLen env c ≤ s.1.getD i 0)
    (K := fun _ _ s s' => s'.1.length = s.1.length ∧ (∀ k, s.1.getD k 0 ≤ s'.1.getD k 0) ∧
      (s'.2 = false → s'.1 = s.1) ∧ (s.2 = true → s'.2 = true))
    (fun _ _ => ⟨rfl, fun _ => Int.le_refl _, fun _ => rfl, fun h => h⟩)
    (fun _ _ _ s' _ _ h1 h2 => ⟨h2.1.trans h1.1, fun k => Int.le_trans (h1.2.1 k) (h2.2.1 k),
      fun hn => (h2.2.2.1 hn).trans (h1.2.2.1 (by
        cases e : s'.2 with
        | false => rfl
        | true => rw [h2.2.2.2 e] at hn; cases hn)),
      fun h => h2.2.2.2 (h1.2.2.2 h)⟩)
    (fun i _ _ _ _ _ hq hk => Int.le_trans hq (hk.2.1 i))
    (fun s c i hI hP => by
      obtain ⟨s', hs, hl, hm, hc, hsm, hnd⟩ := widenStep_ok env s c i (by rw [hI]; exact hP)
      exact ⟨s', hs, hl.trans hI, hc, hl, hm, hsm, hnd⟩)
    (cols.take mc.toNat) 0 (cw, false) rfl (fun i c hi => by have := (List.getElem?_eq_some_iff.mp hi).1; omega)
  refine ⟨cw', need, hf, hlen, hmono, ?_, hsame⟩
  intro j c hj
  have := hfit j c hj
  rwa [Nat.zero_add] at this

theorem foldlM_singleton {β α : Type} (f : β → α → Res β) (b : β) (a : α) : [a].foldlM f b = f b a := by
  simp [List.foldlM_cons, List.foldlM_nil]

/-! ### VirtualTerm -/

theorem vt_write_ok (v : VirtualTerm) (hc : v.closed = false) (n : Nat) (text : Bytes) :
    ∃ v', v.writeForLine (n : Int) text = .ok v' ∧ v'.closed = false ∧ v'.lines[n]? = some text ∧
      (∀ j x, j ≠ n → v.lines[j]? = some x → v'.lines[j]? = some x) := by
  unfold VirtualTerm.writeForLine
  have h0 : ¬ ((n : Int) < 0) := by omega
  simp only [hc, Bool.false_eq_true, if_false, h0, Int.toNat_natCast]
  refine ⟨_, rfl, rfl, ?_, ?_⟩
  · simp only [List.getElem?_set]
    have : n < (v.lines ++ List.replicate (n + 1 - v.lines.length) ([] : Bytes)).length := by
      simp only [List.length_append, List.length_replicate]; omega
    rw [if_pos trivial, if_pos this]
  · intro j x hj hx
    simp only [List.getElem?_set]
    rw [if_neg (by omega)]
    have hlt : j < v.lines.length := (List.getElem?_eq_some_iff.mp hx).1
    rw [List.getElem?_append_left hlt]; exact hx

/-! ### the invariant -/

/-- what every sequence of `WriteRow` / `WriteFooter` calls maintains -/
structure TableInv (env : Env) (t : TableWriter) (vt : VirtualTerm) : Prop where
  mc_nonneg : 0 ≤ t.maxCols
  mr_nonneg : 0 ≤ t.maxRows
  cw_len : t.colWidth.length = t.maxCols.toNat
  rows_len : t.rows.length = t.maxRows.toNat
  active_lo : 0 ≤ t.activeRows
  active_hi : t.activeRows ≤ t.maxRows
  vt_open : vt.closed = false
  cw_nonneg : ∀ k : Nat, 0 ≤ t.colWidth.getD k 0
  /-- rows at and below `activeRows` were never written -/
  beyond : ∀ (i : Nat) (r : List Bytes), t.rows[i]? = some r → t.activeRows.toNat ≤ i → r = []
  /-- every written row is on the screen as drawn with the CURRENT column widths -/
  drawn : ∀ (i : Nat) (r : List Bytes), t.rows[i]? = some r → r ≠ [] →
    vt.lines[i]? = some (rowTextP env t.colWidth 0 (r.take t.maxCols.toNat))
  /-- every displayed cell fits its column -/
  fit : ∀ (i : Nat) (r : List Bytes) (k : Nat) (c : Bytes), t.rows[i]? = some r → (r.take t.maxCols.toNat)[k]? = some c → strLen env c ≤ t.colWidth.getD k 0

/-- the body of the full-update loop of `WriteRow` -/
def redrawStep (env : Env) (t : TableWriter) (rows : List (List Bytes)) (v : VirtualTerm) (i : Nat) : Res VirtualTerm := do
  let r ← getIdx rows i
  t.drawRow env v i r

theorem drawRow_ok (env : Env) (t : TableWriter) (hcw : t.colWidth.length = t.maxCols.toNat) (vt : VirtualTerm)
    (ho : vt.closed = false) (n : Nat) (cols : List Bytes) :
    ∃ vt', t.drawRow env vt n cols = .ok vt' ∧ vt'.closed = false ∧
      vt'.lines[n]? = some (rowTextP env t.colWidth 0 (cols.take t.maxCols.toNat)) ∧
      (∀ j x, j ≠ n → vt.lines[j]? = some x → vt'.lines[j]? = some x) := by
  unfold TableWriter.drawRow
  rw [rowText_eq env t.maxCols t.colWidth cols (by rw [hcw, List.length_take]; omega)]
  exact vt_write_ok vt ho n _

theorem redraw_ok (env : Env) (t : TableWriter) (hcw : t.colWidth.length = t.maxCols.toNat) (rows : List (List Bytes)) :
    ∀ n, n ≤ rows.length → ∀ vt : VirtualTerm, vt.closed = false →
    ∃ vt', (List.range n).foldlM (redrawStep env t rows) vt = .ok vt' ∧ vt'.closed = false ∧
      (∀ i r, i < n → rows[i]? = some r → vt'.lines[i]? = some (rowTextP env t.colWidth 0 (r.take t.maxCols.toNat))) ∧
      (∀ j x, n ≤ j → vt.lines[j]? = some x → vt'.lines[j]? = some x) := by
  intro n
  induction n with
  | zero =>
    intro _ vt ho
    exact ⟨vt, rfl, ho, by intro i r hi; omega, fun j x _ h => h⟩
  | succ n ih =>
    intro hn vt ho
    obtain ⟨vt1, hf1, ho1, hd1, hk1⟩ := ih (by omega) vt ho
    have hlt : n < rows.length := by omega
    obtain ⟨vt2, hf2, ho2, hd2, hk2⟩ := drawRow_ok env t hcw vt1 ho1 n (rows.getD n [])
    refine ⟨vt2, ?_, ho2, ?_, ?_⟩
    · rw [List.range_succ, List.foldlM_append, hf1]
      show List.foldlM (redrawStep env t rows) vt1 [n] = _
      rw [foldlM_singleton]
      unfold redrawStep
      rw [getIdx_nat rows n [] hlt]
      exact hf2
    · intro i r hi hr
      by_cases hin : i = n
      · subst hin
        have : rows.getD i [] = r := by simp [List.getD, hr]
        rw [← this]; exact hd2
      · exact hk2 i _ hin (hd1 i r (by omega) hr)
    · intro j x hj hx
      exact hk2 j x (by omega) (hk1 j x (by omega) hx)

theorem writeRow_unfold (env : Env) (t : TableWriter) (vt : VirtualTerm) (n : Nat) (cols : List Bytes)
    (hge : ¬ ((n : Int) ≥ t.maxRows)) (hn : n < t.rows.length) (cw' : List Int) (need : Bool)
    (hw : TableWriter.widen env t.maxCols cols t.colWidth = .ok (cw', need)) :
    t.writeRow env vt (n : Int) cols =
      (let active := if (n : Int) ≥ t.activeRows then (n : Int) + 1 else t.activeRows
       let t' : TableWriter := { t with activeRows := active, rows := t.rows.set n cols, colWidth := cw' }
       if need then do
         let vt' ← (List.range active.toNat).foldlM (redrawStep env t' (t.rows.set n cols)) vt
         pure (t', vt')
       else do
         let vt' ← t'.drawRow env vt n cols
         pure (t', vt')) := by
  unfold TableWriter.writeRow
  rw [if_neg hge]
  simp only [setIdx_nat t.rows n cols hn, hw, bind, Except.bind, pure, Except.pure]
  cases need <;> rfl

theorem getElem?_set_ne' {α : Type} (l : List α) (n i : Nat) (x : α) (h : i ≠ n) : (l.set n x)[i]? = l[i]? := by
  rw [List.getElem?_set]; rw [if_neg (by omega)]

theorem getElem?_set_self' {α : Type} (l : List α) (n : Nat) (x : α) (h : n < l.length) : (l.set n x)[n]? = some x := by
  rw [List.getElem?_set]; simp [h]

/-- `WriteRow(n, cols...)` keeps the invariant, never panics, and only widens columns -/
theorem writeRow_inv (env : Env) (t : TableWriter) (vt : VirtualTerm) (h : TableInv env t vt) (n : Nat) (cols : List Bytes) :
    ∃ t' vt', t.writeRow env vt (n : Int) cols = .ok (t', vt') ∧ TableInv env t' vt' ∧
      t'.maxCols = t.maxCols ∧ t'.maxRows = t.maxRows ∧ t.activeRows ≤ t'.activeRows ∧
      (∀ k, t.colWidth.getD k 0 ≤ t'.colWidth.getD k 0) ∧
      t'.rows = (if (n : Int) ≥ t.maxRows then t.rows else t.rows.set n cols) ∧
      (∀ j x, t'.activeRows.toNat ≤ j → vt.lines[j]? = some x → vt'.lines[j]? = some x) := by
  by_cases hge : (n : Int) ≥ t.maxRows
  · refine ⟨t, vt, ?_, h, rfl, rfl, Int.le_refl _, fun _ => Int.le_refl _, by rw [if_pos hge], fun j x _ hx => hx⟩
    unfold TableWriter.writeRow; rw [if_pos hge]; rfl
  · have hmr := h.mr_nonneg
    have hn : n < t.rows.length := by rw [h.rows_len]; omega
    have htk : (cols.take t.maxCols.toNat).length ≤ t.colWidth.length := by rw [h.cw_len, List.length_take]; omega
    obtain ⟨cw', need, hw, hlen, hmono, hfitc, hsame⟩ := widen_ok env t.maxCols cols t.colWidth htk
    rw [writeRow_unfold env t vt n cols hge hn cw' need hw]
    have hal := h.active_lo
    have hah := h.active_hi
    generalize hact : (if (n : Int) ≥ t.activeRows then (n : Int) + 1 else t.activeRows) = active
    obtain ⟨hact_lo, hact_n, hact_hi⟩ : t.activeRows ≤ active ∧ (n : Int) < active ∧ active ≤ t.maxRows := by
      rw [← hact]; split <;> omega
    -- properties that do not depend on the drawing
    have hbeyond : ∀ (i : Nat) (r : List Bytes), (t.rows.set n cols)[i]? = some r → active.toNat ≤ i → r = [] := by
      intro i r hr hi
      have hin : i ≠ n := by omega
      rw [getElem?_set_ne' _ _ _ _ hin] at hr
      exact h.beyond i r hr (by omega)
    have hfit : ∀ (i : Nat) (r : List Bytes) (k : Nat) (c : Bytes), (t.rows.set n cols)[i]? = some r →
        (r.take t.maxCols.toNat)[k]? = some c → strLen env c ≤ cw'.getD k 0 := by
      intro i r k c hr hc
      by_cases hin : i = n
      · subst hin
        rw [getElem?_set_self' _ _ _ hn] at hr
        cases hr
        exact hfitc k c hc
      · rw [getElem?_set_ne' _ _ _ _ hin] at hr
        exact Int.le_trans (h.fit i r k c hr hc) (hmono k)
    have hcw' : cw'.length = t.maxCols.toNat := hlen.trans h.cw_len
    -- the invariant of the new state follows once the written rows are on the screen
    have hinv' : ∀ vt' : VirtualTerm, vt'.closed = false →
        (∀ (i : Nat) (r : List Bytes), (t.rows.set n cols)[i]? = some r → r ≠ [] →
          vt'.lines[i]? = some (rowTextP env cw' 0 (r.take t.maxCols.toNat))) →
        TableInv env { t with activeRows := active, rows := t.rows.set n cols, colWidth := cw' } vt' := fun vt' ho hd =>
      { mc_nonneg := h.mc_nonneg, mr_nonneg := h.mr_nonneg
        cw_len := hcw'
        rows_len := (List.length_set ..).trans h.rows_len
        active_lo := Int.le_trans hal hact_lo
        active_hi := hact_hi
        vt_open := ho
        cw_nonneg := fun k => Int.le_trans (h.cw_nonneg k) (hmono k)
        beyond := hbeyond
        drawn := hd
        fit := hfit }
    cases need with
    | true =>
      simp only [if_true]
      obtain ⟨vt', hf, ho, hd, hk⟩ := redraw_ok env { t with activeRows := active, rows := t.rows.set n cols, colWidth := cw' } hcw'
        (t.rows.set n cols) active.toNat (by rw [List.length_set, h.rows_len]; omega) vt h.vt_open
      refine ⟨_, vt', by rw [hf]; rfl, hinv' vt' ho ?_, rfl, rfl, hact_lo, hmono, by rw [if_neg hge], hk⟩
      intro i r hr hne
      exact hd i r (Nat.lt_of_not_le fun hge' => hne (hbeyond i r hr hge')) hr
    | false =>
      cases hsame rfl
      simp only [Bool.false_eq_true, if_false]
      obtain ⟨vt', hf, ho, hd, hk⟩ := drawRow_ok env { t with activeRows := active, rows := t.rows.set n cols, colWidth := t.colWidth }
        h.cw_len vt h.vt_open n cols
      refine ⟨_, vt', by rw [hf]; rfl, hinv' vt' ho ?_, rfl, rfl, hact_lo, hmono, by rw [if_neg hge],
        fun j x (hj : active.toNat ≤ j) hx => hk j x (by omega) hx⟩
      intro i r hr hne
      by_cases hin : i = n
      · subst hin
        rw [getElem?_set_self' _ _ _ hn] at hr
        cases hr
        exact hd
      · rw [getElem?_set_ne' _ _ _ _ hin] at hr
        exact hk i _ hin (h.drawn i r hr hne)

/-- `WriteFooter(idx, line)` for `idx ≥ 0` writes below the rows: the invariant is kept -/
theorem writeFooter_inv (env : Env) (t : TableWriter) (vt : VirtualTerm) (h : TableInv env t vt) (idx : Nat) (line : Bytes) :
    ∃ vt', t.writeFooter vt (idx : Int) line = .ok vt' ∧ TableInv env t vt' ∧
      vt'.lines[t.activeRows.toNat + idx]? = some line := by
  unfold TableWriter.writeFooter
  have hal := h.active_lo
  have hcast : t.activeRows + (idx : Int) = ((t.activeRows.toNat + idx : Nat) : Int) := by omega
  rw [hcast]
  obtain ⟨vt', hf, ho, hd, hk⟩ := vt_write_ok vt h.vt_open (t.activeRows.toNat + idx) line
  refine ⟨vt', hf, ?_, hd⟩
  exact { h with
    vt_open := ho
    drawn := by
      intro i r hr hne
      have hi : i < t.activeRows.toNat := Nat.lt_of_not_le fun hge' => hne (h.beyond i r hr hge')
      exact hk i _ (by omega) (h.drawn i r hr hne) }

/-! ### every sequence of calls -/

/-- the calls the renderers make: row numbers and footer indices are never negative -/
def TableOp.NonNeg : TableOp → Prop
  | .row n _ => 0 ≤ n
  | .footer idx _ => 0 ≤ idx

/-- the rows a table remembers after a sequence of calls: the latest cells of every row below `maxRows` -/
def rowsAfter (maxRows : Int) (rows : List (List Bytes)) (ops : List TableOp) : List (List Bytes) :=
  ops.foldl (fun rows op => match op with
    | .row n cols => if n ≥ maxRows then rows else rows.set n.toNat cols
    | .footer _ _ => rows) rows

theorem new_inv (env : Env) (mc mr : Int) (hmc : 0 ≤ mc) (hmr : 0 ≤ mr) :
    ∃ t, TableWriter.new mc mr = .ok t ∧ TableInv env t VirtualTerm.new ∧ t.maxCols = mc ∧ t.maxRows = mr ∧
      t.rows = List.replicate mr.toNat [] ∧ t.colWidth = List.replicate mc.toNat 0 := by
  unfold TableWriter.new makeSlice
  have h1 : ¬ (mr < 0) := by omega
  have h2 : ¬ (mc < 0) := by omega
  simp only [h1, h2, if_false, bind, Except.bind, pure, Except.pure]
  have hrep : ∀ (i : Nat) (r : List Bytes), (List.replicate mr.toNat ([] : List Bytes))[i]? = some r → r = [] :=
    fun i r hr => List.eq_of_mem_replicate (List.mem_of_getElem? hr)
  refine ⟨_, rfl, ?_, rfl, rfl, rfl, rfl⟩
  exact {
    mc_nonneg := hmc, mr_nonneg := hmr
    cw_len := by simp
    rows_len := by simp
    active_lo := Int.le_refl _
    active_hi := hmr
    vt_open := rfl
    cw_nonneg := by
      intro k
      simp only [List.getD_eq_getElem?_getD, List.getElem?_replicate]
      split <;> simp
    beyond := fun i r hr _ => hrep i r hr
    drawn := fun i r hr hne => absurd (hrep i r hr) hne
    fit := by
      intro i r k c hr hc
      cases hrep i r hr
      simp at hc }

theorem apply_inv (env : Env) (t : TableWriter) (vt : VirtualTerm) (h : TableInv env t vt) (op : TableOp) (hop : op.NonNeg) :
    ∃ t' vt', TableWriter.apply env (t, vt) op = .ok (t', vt') ∧ TableInv env t' vt' ∧
      t'.maxCols = t.maxCols ∧ t'.maxRows = t.maxRows ∧ t.activeRows ≤ t'.activeRows ∧
      (∀ k, t.colWidth.getD k 0 ≤ t'.colWidth.getD k 0) ∧ t'.rows = rowsAfter t.maxRows t.rows [op] := by
  cases op with
  | row n cols =>
    have hn : n = ((n.toNat : Nat) : Int) := by have : 0 ≤ n := hop; omega
    obtain ⟨t', vt', hf, hinv, h1, h2, h3, h4, h5, _⟩ := writeRow_inv env t vt h n.toNat cols
    rw [← hn] at hf h5
    exact ⟨t', vt', hf, hinv, h1, h2, h3, h4, h5⟩
  | footer idx line =>
    have hn : idx = ((idx.toNat : Nat) : Int) := by have : 0 ≤ idx := hop; omega
    obtain ⟨vt', hf, hinv, _⟩ := writeFooter_inv env t vt h idx.toNat line
    rw [← hn] at hf
    refine ⟨t, vt', ?_, hinv, rfl, rfl, Int.le_refl _, fun _ => Int.le_refl _, rfl⟩
    show (do let vt ← t.writeFooter vt idx line; (pure (t, vt) : Res (TableWriter × VirtualTerm))) = _
    rw [hf]; rfl

/-- EVERY sequence of `WriteRow` / `WriteFooter` calls: no panic, the invariant holds at the end, widths only grow -/
theorem runOps_inv (env : Env) : ∀ (ops : List TableOp) (t : TableWriter) (vt : VirtualTerm), TableInv env t vt →
    (∀ op ∈ ops, op.NonNeg) →
    ∃ t' vt', TableWriter.runOps env (t, vt) ops = .ok (t', vt') ∧ TableInv env t' vt' ∧
      t'.maxCols = t.maxCols ∧ t'.maxRows = t.maxRows ∧ t.activeRows ≤ t'.activeRows ∧
      (∀ k, t.colWidth.getD k 0 ≤ t'.colWidth.getD k 0) ∧ t'.rows = rowsAfter t.maxRows t.rows ops := by
  intro ops
  induction ops with
  | nil =>
    intro t vt h _
    exact ⟨t, vt, rfl, h, rfl, rfl, Int.le_refl _, fun _ => Int.le_refl _, rfl⟩
  | cons op rest ih =>
    intro t vt h hops
    obtain ⟨t1, vt1, hf1, hinv1, hmc1, hmr1, ha1, hw1, hr1⟩ := apply_inv env t vt h op (hops op (by simp))
    obtain ⟨t2, vt2, hf2, hinv2, hmc2, hmr2, ha2, hw2, hr2⟩ := ih t1 vt1 hinv1 (fun o ho => hops o (by simp [ho]))
    refine ⟨t2, vt2, ?_, hinv2, by rw [hmc2, hmc1], by rw [hmr2, hmr1], Int.le_trans ha1 ha2,
      fun k => Int.le_trans (hw1 k) (hw2 k), ?_⟩
    · unfold TableWriter.runOps
      rw [List.foldlM_cons, hf1]
      exact hf2
    · rw [hr2, hr1, hmr1]; rfl

/-! ### alignment -/

/-- total visible width of the `k` columns from column `n` on, each with its separating blank -/
def widthSum (cw : List Int) : Nat → Nat → Int
  | _, 0 => 0
  | n, k + 1 => cw.getD n 0 + 1 + widthSum cw (n + 1) k

/-- the visible offset at which column `k` starts: `Σ_{j<k} (colWidth[j] + 1)` -/
def colOffset (cw : List Int) (k : Nat) : Int := widthSum cw 0 k

theorem colOffset_succ (cw : List Int) (k : Nat) : colOffset cw (k + 1) = colOffset cw k + (cw.getD k 0 + 1) := by
  unfold colOffset
  have : ∀ (m n : Nat), widthSum cw n (m + 1) = widthSum cw n m + (cw.getD (n + m) 0 + 1) := by
    intro m
    induction m with
    | zero => intro n; simp [widthSum]
    | succ m ih =>
      intro n
      rw [widthSum, ih (n + 1), widthSum, show n + 1 + m = n + (m + 1) by omega]
      omega
  simpa using this k 0

theorem cellText_eq (env : Env) (w : Int) (c : Bytes) :
    cellText env w c = c ++ List.replicate ((w - strLen env c).toNat + 1) (32 : UInt8) := by
  simp [cellText, spaces, List.replicate_succ', List.append_assoc]

theorem strLen_rowTextP (env : Env) (cw : List Int) : ∀ (row : List Bytes) (n : Nat) (rest : Bytes),
    (∀ c ∈ row, Terminated env c) → (∀ j c, row[j]? = some c → strLen env c ≤ cw.getD (n + j) 0) →
    strLen env (rowTextP env cw n row ++ rest) = widthSum cw n row.length + strLen env rest := by
  intro row
  induction row with
  | nil => intro n rest _ _; simp [rowTextP, widthSum]
  | cons c row ih =>
    intro n rest ht hf
    have hc := hf 0 c (by simp)
    have h0 := strLen_nonneg env c
    simp only [rowTextP, List.length_cons, widthSum]
    rw [cellText_eq, List.append_assoc, strLen_fill_append env 32 (by decide) (by decide) c _ _ (ht c (by simp))]
    rw [ih (n + 1) rest (fun c' hc' => ht c' (by simp [hc'])) (fun j c' hj => by
      have := hf (j + 1) c' (by simpa using hj)
      rw [show n + 1 + j = n + (j + 1) by omega]; exact this)]
    simp only [Nat.add_zero] at hc
    omega

theorem rowTextP_split (env : Env) (cw : List Int) : ∀ (row : List Bytes) (n k : Nat),
    rowTextP env cw n row = rowTextP env cw n (row.take k) ++ rowTextP env cw (n + k) (row.drop k) := by
  intro row
  induction row with
  | nil => intro n k; simp [rowTextP]
  | cons c row ih =>
    intro n k
    cases k with
    | zero => simp [rowTextP]
    | succ k =>
      simp only [List.take_succ_cons, List.drop_succ_cons, rowTextP, List.append_assoc]
      rw [ih (n + 1) k, show n + 1 + k = n + (k + 1) by omega]

theorem getElem?_take_some {α : Type} {l : List α} {k j : Nat} {x : α} (h : (l.take k)[j]? = some x) : j < k ∧ l[j]? = some x := by
  rw [List.getElem?_take] at h
  split at h
  · exact ⟨‹_›, h⟩
  · cases h

/-- in a row drawn with the widths `cw`, cell `k` starts at visible offset `colOffset cw k` – whatever
the cells contain (multi-byte, invalid UTF-8, colour sequences), provided the cells before it do not
end inside a colour sequence – and it ends before the next column starts -/
theorem cell_position (env : Env) (cw : List Int) (row : List Bytes) (k : Nat) (c : Bytes) (hk : row[k]? = some c)
    (hterm : ∀ j c', j < k → row[j]? = some c' → Terminated env c')
    (hfit : ∀ j c', row[j]? = some c' → strLen env c' ≤ cw.getD j 0) :
    ∃ pre post, rowTextP env cw 0 row = pre ++ c ++ post ∧ strLen env pre = colOffset cw k ∧
      colOffset cw k + strLen env c < colOffset cw (k + 1) := by
  have hlt : k < row.length := (List.getElem?_eq_some_iff.mp hk).1
  have hdrop : row.drop k = c :: row.drop (k + 1) := by
    rw [List.drop_eq_getElem_cons hlt]
    congr 1
    rw [List.getElem?_eq_getElem hlt] at hk
    exact Option.some.inj hk
  refine ⟨rowTextP env cw 0 (row.take k), spaces (cw.getD k 0 - strLen env c) ++ [32] ++ rowTextP env cw (k + 1) (row.drop (k + 1)), ?_, ?_, ?_⟩
  · rw [rowTextP_split env cw row 0 k, hdrop]
    simp [rowTextP, cellText, List.append_assoc]
  · have h := strLen_rowTextP env cw (row.take k) 0 []
      (fun c' hc' => by
        obtain ⟨j, hj⟩ := List.getElem?_of_mem hc'
        exact hterm j c' (getElem?_take_some hj).1 (getElem?_take_some hj).2)
      (fun j c' hj => by simpa using hfit j c' (getElem?_take_some hj).2)
    rw [List.append_nil, strLen_nil, Int.add_zero] at h
    rw [h, List.length_take, Nat.min_eq_left (by omega)]
    rfl
  · rw [colOffset_succ]
    have := hfit k c hk
    omega

/-! ### the invariant gives alignment -/

theorem table_cell_position (env : Env) (t : TableWriter) (vt : VirtualTerm) (h : TableInv env t vt)
    (i : Nat) (r : List Bytes) (hr : t.rows[i]? = some r) (k : Nat) (c : Bytes) (hc : (r.take t.maxCols.toNat)[k]? = some c)
    (hterm : ∀ j c', j < k → r[j]? = some c' → Terminated env c') :
    ∃ pre post, vt.lines[i]? = some (pre ++ c ++ post) ∧ strLen env pre = colOffset t.colWidth k ∧
      colOffset t.colWidth k + strLen env c < colOffset t.colWidth (k + 1) ∧
      (k : Int) < t.maxCols ∧ (i : Int) < t.maxRows := by
  have hne : r ≠ [] := by intro h0; subst h0; simp at hc
  have hd := h.drawn i r hr hne
  have hk := getElem?_take_some hc
  obtain ⟨pre, post, heq, hpre, hend⟩ := cell_position env t.colWidth (r.take t.maxCols.toNat) k c hc
    (fun j c' hj hjc => hterm j c' hj (getElem?_take_some hjc).2)
    (fun j c' hj => h.fit i r j c' hr hj)
  refine ⟨pre, post, by rw [hd, heq], hpre, hend, ?_, ?_⟩
  · have := h.mc_nonneg; omega
  · have hi : i < t.rows.length := (List.getElem?_eq_some_iff.mp hr).1
    rw [h.rows_len] at hi
    have := h.mr_nonneg; omega

theorem colOffset_zero (cw : List Int) : colOffset cw 0 = 0 := rfl

theorem table_spec_aligned (env : Env) (t : TableWriter) (vt : VirtualTerm) (h : TableInv env t vt)
    (rs : List (List Bytes × Bytes))
    (hrs : ∀ p ∈ rs, ∃ (i : Nat) (r : List Bytes), t.rows[i]? = some r ∧ vt.lines[i]? = some p.2 ∧ p.1 = r.take t.maxCols.toNat ∧
      ∀ c ∈ p.1, Terminated env c) :
    Spec.Aligned (strLen env) rs := by
  refine ⟨colOffset t.colWidth, colOffset_zero _, ?_, ?_⟩
  · intro k
    rw [colOffset_succ]
    have := h.cw_nonneg k
    omega
  · intro p hp k cell hcell
    obtain ⟨i, r, hr, hline, hp1, hterm⟩ := hrs p hp
    rw [hp1] at hcell
    obtain ⟨pre, post, hl, hpre, hend, _, _⟩ := table_cell_position env t vt h i r hr k cell hcell
      (by
        intro j c' hj hjc
        apply hterm c'
        rw [hp1]
        have hk := (getElem?_take_some hcell).1
        apply List.mem_of_getElem? (i := j)
        rw [List.getElem?_take, if_pos (by omega)]
        exact hjc)
    refine ⟨pre, post, ?_, hpre, hend⟩
    rw [hline] at hl
    exact Option.some.inj hl

/-! ### `StrLen` is the visible width -/

theorem strLenGo_visible : ∀ (l : List Nat) (n : Nat),
    strLenGo false l n = n + (visibleRunes l).length ∧ strLenGo true l n = n + (visibleRunes.skipSgr l).length := by
  intro l
  induction l with
  | nil => intro n; simp [strLenGo, visibleRunes, visibleRunes.skipSgr]
  | cons r rest ih =>
    intro n
    constructor
    · simp only [strLenGo, visibleRunes, ESC]
      by_cases h : r = 27
      · simp only [h, if_true]; exact (ih n).2
      · simp only [h, if_false, Bool.false_and, Bool.false_eq_true, Bool.not_false, if_true, List.length_cons]
        rw [(ih (n + 1)).1]; omega
    · simp only [strLenGo, visibleRunes.skipSgr]
      by_cases h : r = 27
      · simp only [h, if_true]
        have : ¬ ((27 : Nat) = 109) := by decide
        simp only [this, if_false]
        exact (ih n).2
      · simp only [h, if_false, Bool.true_and, decide_eq_true_eq]
        by_cases h2 : r = 109
        · simp only [h2, if_true]; exact (ih n).1
        · simp only [h2, if_false, Bool.not_true, Bool.false_eq_true]; exact (ih n).2

theorem strLen_colour (env : Env) (s : Bytes) (hc : env.color = true) : strLen env s = (Spec.visLen s : Nat) := by
  unfold strLen Spec.visLen
  simp only [hc, Bool.not_true, Bool.false_eq_true, if_false]
  rw [(strLenGo_visible _ 0).1]; simp

theorem strLen_plain (env : Env) (s : Bytes) (hc : env.color = false) : strLen env s = ((decodeUtf8 s).length : Nat) := by
  unfold strLen
  simp [hc]

end Rare.C14

import Rare.Proofs.C13Lower
import Rare.Proofs.C13Num
import Rare.Proofs.C13Main
/-! C13: the closures built with the modelled `strings.ToLower` (`goToLower tl`) and with its
look-up equivalent `lowerK` give the same answers along every comparison sequence. -/
namespace Rare.C13
open Rare

/-- Two closures over the same captured variables agree (answer and next state) from every state
satisfying `Inv`, and `Inv` is preserved. -/
def EqOn {α σ : Type} (Inv : σ → Prop) (c1 c2 : SCmp α σ) : Prop :=
  ∀ s a b, Inv s → c1 s a b = c2 s a b ∧ Inv (c1 s a b).2

theorem EqOn.refl {α σ : Type} (c : SCmp α σ) : EqOn (fun _ => True) c c :=
  fun _ _ _ _ => ⟨rfl, trivial⟩

theorem EqOn.run_eq {α σ ρ : Type} {Inv : σ → Prop} {c1 c2 : SCmp α σ} (h : EqOn Inv c1 c2) :
    ∀ (alg : Algo α ρ) (s : σ), Inv s → Algo.run c1 s alg = Algo.run c2 s alg := by
  intro alg
  induction alg with
  | done r => intro s _; rfl
  | ask a b k ih =>
    intro s hs
    have := h s a b hs
    simp only [Algo.run]
    rw [← this.1]
    exact ih _ _ this.2

theorem EqOn.runSeq_eq {α σ : Type} {Inv : σ → Prop} {c1 c2 : SCmp α σ} (h : EqOn Inv c1 c2) :
    ∀ (pairs : List (α × α)) (s : σ), Inv s → runSeq c1 s pairs = runSeq c2 s pairs := by
  intro pairs
  induction pairs with
  | nil => intro s _; rfl
  | cons p rest ih =>
    intro s hs
    obtain ⟨a, b⟩ := p
    have := h s a b hs
    simp only [runSeq]
    rw [← this.1]
    rw [ih _ this.2]

theorem EqOn.valueNil {σ : Type} {Inv : σ → Prop} {c1 c2 : SCmp Key σ} (h : EqOn Inv c1 c2) :
    EqOn Inv (valueNilSorter c1) (valueNilSorter c2) :=
  fun s a b hs => h s a.name b.name hs

theorem EqOn.reverse {α σ : Type} {Inv : σ → Prop} {c1 c2 : SCmp α σ} (h : EqOn Inv c1 c2) :
    EqOn Inv (reverse c1) (reverse c2) := by
  intro s a b hs
  have := h s a b hs
  unfold Rare.C13.reverse
  simp only
  rw [← this.1]
  exact ⟨rfl, this.2⟩

/-- The two lower-casing functions answer every look-up in the tables `sets` alike. -/
def LookupAgree (sets : List SortSet) (l1 l2 : Key → Key) : Prop :=
  ∀ set ∈ sets, ∀ k, set.get (l1 k) = set.get (l2 k)

theorem find?_congr' {α : Type} : ∀ (l : List α) (p q : α → Bool), (∀ x ∈ l, p x = q x) → l.find? p = l.find? q
  | [], _, _, _ => rfl
  | x :: xs, p, q, h => by
    rw [List.find?_cons, List.find?_cons, h x (List.mem_cons_self ..)]
    rw [find?_congr' xs p q (fun y hy => h y (List.mem_cons_of_mem _ hy))]

theorem infer_agree {sets : List SortSet} {l1 l2 : Key → Key} (h : LookupAgree sets l1 l2) (k : Key) :
    inferSortSetByValue sets l1 k = inferSortSetByValue sets l2 k := by
  unfold inferSortSetByValue
  simp only
  exact find?_congr' sets _ _ (fun set hset => by rw [h set hset k])

/-- the captured `set` is `nil` or one of `sets` -/
def CtxInv (sets : List SortSet) (st : CtxState) : Prop := ∀ T, st.set = some T → T ∈ sets

theorem ctx_eqOn {σ : Type} (sets : List SortSet) (l1 l2 : Key → Key) (h : LookupAgree sets l1 l2)
    {InvF : σ → Prop} {fb1 fb2 : SCmp Key σ} (hfb : EqOn InvF fb1 fb2) :
    EqOn (fun s => CtxInv sets s.1 ∧ InvF s.2) (byContextualEx sets l1 fb1) (byContextualEx sets l2 fb2) := by
  intro (st, t) a b ⟨hs, hF⟩
  have hfbab := hfb t a b hF
  have fallen : ∀ st : CtxState, st.fallback = true → CtxInv sets st →
      byContextualEx sets l1 fb1 (st, t) a b = byContextualEx sets l2 fb2 (st, t) a b
        ∧ CtxInv sets (byContextualEx sets l1 fb1 (st, t) a b).2.1
        ∧ InvF (byContextualEx sets l1 fb1 (st, t) a b).2.2 := by
    intro st hst hinv
    rw [byContextualEx_fallback _ _ _ st hst, byContextualEx_fallback _ _ _ st hst, ← hfbab.1]
    exact ⟨rfl, hinv, hfbab.2⟩
  have onSet : ∀ T ∈ sets,
      byContextualEx sets l1 fb1 ({ set := some T, fallback := false }, t) a b
          = byContextualEx sets l2 fb2 ({ set := some T, fallback := false }, t) a b
        ∧ CtxInv sets (byContextualEx sets l1 fb1 ({ set := some T, fallback := false }, t) a b).2.1
        ∧ InvF (byContextualEx sets l1 fb1 ({ set := some T, fallback := false }, t) a b).2.2 := by
    intro T hT
    have hinv : ∀ f, CtxInv sets { set := some T, fallback := f } := fun _ _ e => Option.some.inj e ▸ hT
    rw [byContextualEx_set, byContextualEx_set, ← h T hT a, ← h T hT b, ← hfbab.1]
    cases T.get (l1 a) with
    | none => exact ⟨rfl, hinv _, hfbab.2⟩
    | some v0 =>
      cases T.get (l1 b) with
      | none => exact ⟨rfl, hinv _, hfbab.2⟩
      | some v1 => exact ⟨rfl, hinv _, hF⟩
  obtain ⟨set, fbk⟩ := st
  cases fbk with
  | true => exact fallen _ rfl hs
  | false =>
    cases set with
    | some T => exact onSet T (hs T rfl)
    | none =>
      rw [byContextualEx_fresh, byContextualEx_fresh, ← infer_agree h a]
      cases hi : inferSortSetByValue sets l1 a with
      | none => exact fallen _ rfl (fun _ e => nomatch e)
      | some T => exact onSet T (List.mem_of_find?_eq_some hi)

theorem date_eqOn {σ : Type} (o : Oracle) {InvF : σ → Prop} {fb1 fb2 : SCmp Key σ} (hfb : EqOn InvF fb1 fb2) :
    EqOn (fun s => InvF s.2) (byDate o fb1) (byDate o fb2) := by
  intro (st, t) a b hF
  have hfbab := hfb t a b hF
  have fallen : ∀ st : DateState, st.fallback = true →
      byDate o fb1 (st, t) a b = byDate o fb2 (st, t) a b ∧ InvF (byDate o fb1 (st, t) a b).2.2 := by
    intro st hst
    rw [byDate_fallback _ _ st hst, byDate_fallback _ _ st hst, ← hfbab.1]
    exact ⟨rfl, hfbab.2⟩
  have onLayout : ∀ f : Nat,
      byDate o fb1 ({ format := some f, fallback := false }, t) a b
          = byDate o fb2 ({ format := some f, fallback := false }, t) a b
        ∧ InvF (byDate o fb1 ({ format := some f, fallback := false }, t) a b).2.2 := by
    intro f
    rw [byDate_layout, byDate_layout, ← hfbab.1]
    cases o.dparse f a with
    | none => exact ⟨rfl, hfbab.2⟩
    | some d0 =>
      cases o.dparse f b with
      | none => exact ⟨rfl, hfbab.2⟩
      | some d1 => exact ⟨rfl, hF⟩
  obtain ⟨fmt, fbk⟩ := st
  cases fbk with
  | true => exact fallen _ rfl
  | false =>
    cases fmt with
    | some f => exact onLayout f
    | none =>
      rw [byDate_fresh, byDate_fresh]
      cases o.dfmt a with
      | none => exact fallen _ rfl
      | some f => exact onLayout f

/-- ASCII-keyed tables: every key of every table is an ASCII string. -/
def AsciiKeys (sets : List SortSet) : Prop := ∀ set ∈ sets, ∀ e ∈ set, e.1.all (fun c => c < 128) = true

theorem lookup_congr {x y : Key} : ∀ (m : SortSet), (∀ e ∈ m, (x = e.1 ↔ y = e.1)) → m.get x = m.get y
  | [], _ => rfl
  | e :: rest, h => by
    have ih := lookup_congr rest fun e' he' => h e' (List.mem_cons_of_mem _ he')
    unfold SortSet.get at ih ⊢
    rw [List.lookup_cons, List.lookup_cons, ih, Bool.beq_eq_decide_eq, Bool.beq_eq_decide_eq,
      decide_eq_decide.mpr (h e (List.mem_cons_self ..))]

/-- In a table with distinct keys a look-up finds exactly the entries. -/
theorem get_eq_some_iff_mem {name : Key} {i : Nat} : ∀ (m : SortSet), (m.map (·.1)).Nodup →
    (m.get name = some i ↔ (name, i) ∈ m)
  | [], _ => by simp [SortSet.get]
  | e :: rest, nd => by
    rw [List.map_cons, List.nodup_cons] at nd
    have ih := get_eq_some_iff_mem (name := name) (i := i) rest nd.2
    unfold SortSet.get at ih ⊢
    rw [List.lookup_cons, List.mem_cons, ← ih]
    by_cases hne : name = e.1
    · have : rest.lookup e.1 = none := by
        rw [List.lookup_eq_none_iff]
        intro p hp
        exact bne_iff_ne.mpr fun h => nd.1 (h ▸ List.mem_map_of_mem (f := fun x : Key × Nat => x.1) hp)
      subst hne
      simp [this, Prod.ext_iff, eq_comm]
    · have : (name == e.1) = false := beq_false_of_ne hne
      simp [this, Prod.ext_iff, hne]

/-- The weekday and month tables, evaluated once: the keys are ASCII, no table has a key twice, and no
weekday key is a month key. -/
theorem sortSets_keys :
    AsciiKeys sortSets ∧ (∀ s ∈ sortSets, (s.map (·.1)).Nodup)
      ∧ weekdays.all (fun p => (months.get p.1).isNone) = true := by
  unfold AsciiKeys
  simp -index only [sortSets, weekdays, months, asc_ofList]
  decide +kernel

/-- On ASCII-keyed tables `strings.ToLower` and `lowerK` answer every look-up alike. -/
theorem lookupAgree_lower (tl : Nat → Nat) (h : RuneLower tl) (sets : List SortSet) (ha : AsciiKeys sets) :
    LookupAgree sets (goToLower tl) lowerK := by
  intro set hset k
  apply lookup_congr
  intro e he
  exact lower_lookup tl h k e.1 (ha set hset e he)

/-- `contextual` built with `strings.ToLower` = `contextual` built with `lowerK`, along every
adaptive comparison sequence. -/
theorem contextual_lower_run (tl : Nat → Nat) (h : RuneLower tl) (sets : List SortSet) (ha : AsciiKeys sets)
    (d : DateLib) {ρ : Type} (alg : Algo Key ρ) :
    Algo.run (byContextual (goOracle tl d) sets) ({}, ()) alg = Algo.run (byContextual (realOracle d) sets) ({}, ()) alg := by
  have e := ctx_eqOn sets (goToLower tl) lowerK (lookupAgree_lower tl h sets ha) (EqOn.refl (pureCmp (byNameSmart realNum)))
  exact e.run_eq alg ({}, ()) ⟨fun _ e => (nomatch e), trivial⟩

/-- … and `date` (whose fallback is `contextual`). -/
theorem date_lower_run (tl : Nat → Nat) (h : RuneLower tl) (sets : List SortSet) (ha : AsciiKeys sets)
    (d : DateLib) {ρ : Type} (alg : Algo Key ρ) :
    Algo.run (byDateWithContextual (goOracle tl d) sets) ({}, {}, ()) alg
      = Algo.run (byDateWithContextual (realOracle d) sets) ({}, {}, ()) alg := by
  have e := ctx_eqOn sets (goToLower tl) lowerK (lookupAgree_lower tl h sets ha) (EqOn.refl (pureCmp (byNameSmart realNum)))
  have e2 := date_eqOn (goOracle tl d) e
  exact e2.run_eq alg ({}, {}, ()) ⟨fun _ e => (nomatch e), trivial⟩

end Rare.C13

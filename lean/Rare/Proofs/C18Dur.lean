import Rare.Model.C18
import Rare.Proofs.GoInt
/-!
C18: decimal digits read back (`natDigits`, `itoa`/`atoi`, `leadingInt`), and what `Duration.String`
prints for whole seconds.
-/
namespace Rare.C18

def dig (d : Nat) : UInt8 := UInt8.ofNat (48 + d)

theorem dig_isDigit : ∀ d : Nat, d < 10 → isDigitB (dig d) = true := by decide
theorem dig_val : ∀ d : Nat, d < 10 → (dig d).toNat - 48 = d := by decide
theorem dig_ge : ∀ d : Nat, d < 10 → ¬ (dig d < 48 ∨ dig d > 57) := by decide

theorem natDigits_lt (n : Nat) (h : n < 10) : natDigits n = [dig n] := by
  unfold natDigits
  rw [Nat.toDigits_of_lt_base h]
  simp [digitChar_byte n h, dig]

theorem natDigits_ge (n : Nat) (h : 10 ≤ n) : natDigits n = natDigits (n / 10) ++ [dig (n % 10)] := by
  unfold natDigits
  rw [Nat.toDigits_of_base_le (by omega) (by omega)]
  simp [digitChar_byte (n % 10) (by omega), dig]

theorem digitsVal_natDigits (n : Nat) : digitsVal (natDigits n) 0 = n := by
  induction n using Nat.strongRecOn with
  | _ n ih =>
    by_cases h : n < 10
    · rw [natDigits_lt n h]; simp [digitsVal, dig_val n h]
    · rw [natDigits_ge n (by omega), digitsVal_append, ih (n / 10) (by omega)]
      simp only [digitsVal, dig_val (n % 10) (by omega)]
      omega

theorem natDigits_head (n : Nat) : ∃ c r, natDigits n = c :: r ∧ isDigitB c = true := by
  have hne := natDigits_ne_nil n
  have hall := natDigits_all n
  cases h : natDigits n with
  | nil => exact absurd h hne
  | cons c r => rw [h] at hall; simp at hall; exact ⟨c, r, rfl, hall.1⟩

theorem isDigitB_ne_sign {c : UInt8} (h : isDigitB c = true) : c ≠ 43 ∧ c ≠ 45 := by
  constructor <;> (intro e; subst e; revert h; decide)

/-- `strconv.ParseInt(strconv.FormatInt(v, 10), 10, 64) = v`. -/
theorem atoi_itoa (v : Int) (h : inInt64 v = true) : atoi (itoa v) = some v := by
  obtain ⟨c, r, hcr, hc⟩ := natDigits_head v.natAbs
  have hall := natDigits_all v.natAbs
  have hval := digitsVal_natDigits v.natAbs
  have hs := isDigitB_ne_sign hc
  have hne : (natDigits v.natAbs).isEmpty = false := by rw [hcr]; rfl
  unfold itoa atoi
  by_cases hv : v < 0
  · simp only [hv, if_true, hne, hall, Bool.not_true, Bool.or_false, Bool.false_eq_true, if_false, hval]
    have : -(v.natAbs : Int) = v := by omega
    simp only [this, h, if_true]
  · simp only [hv, if_false]
    rw [hcr]
    have hall' : (c :: r).all isDigitB = true := hcr ▸ hall
    have hval' : digitsVal (c :: r) 0 = v.natAbs := hcr ▸ hval
    split
    · next _ ds heq => exact absurd (List.cons.inj heq).1 hs.1
    · next _ ds heq => exact absurd (List.cons.inj heq).1 hs.2
    · simp only [List.isEmpty_cons, hall', Bool.not_true, Bool.or_false, Bool.false_eq_true, if_false, hval']
      have : (v.natAbs : Int) = v := by omega
      simp only [this, h, if_true]

theorem digitsVal_mono (ds : Bytes) (x : Nat) : x ≤ digitsVal ds x := by
  induction ds generalizing x with
  | nil => exact Nat.le_refl _
  | cons c r ih =>
    simp only [digitsVal]
    exact Nat.le_trans (by omega) (ih _)

theorem leadingInt_stop (c : UInt8) (r : Bytes) (x : Nat) (hc : isDigitB c = false) : leadingInt (c :: r) x = some (x, c :: r) := by
  have : c < 48 ∨ c > 57 := by
    unfold isDigitB at hc
    simp only [Bool.and_eq_false_iff, decide_eq_false_iff_not] at hc
    rcases hc with h | h
    · left; simpa using h
    · right; simpa using h
  simp [leadingInt, this]

/-- The text after a group: nothing, or another group (starting with a digit). -/
def GroupTail (rest : Bytes) : Prop := rest = [] ∨ ∃ c r, rest = c :: r ∧ isDigitB c = true

theorem isDigit_numChar {c : UInt8} (h : isDigitB c = true) : isNumChar c = true := by
  unfold isDigitB at h
  simp only [Bool.and_eq_true, decide_eq_true_eq] at h
  simp [isNumChar, h.1, h.2]

theorem splitFrac_nodot (u : UInt8) (rest : Bytes) (h : u ≠ 46) : splitFrac (u :: rest) = ([], u :: rest, false) := by
  unfold splitFrac
  split
  · next r' h' => cases h'; exact absurd rfl h
  · rfl

theorem groupTail_digits (k : Nat) (rest : Bytes) : GroupTail (natDigits k ++ rest) := by
  obtain ⟨c, r, h, hc⟩ := natDigits_head k
  exact Or.inr ⟨c, r ++ rest, by rw [h]; rfl, hc⟩

/-- `h`/`m`/`s` text of a positive whole number of seconds, as `Duration.String` lays it out. -/
def hmsText (N : Nat) : Bytes :=
  let secPart := natDigits (N % 60) ++ [115]
  let m := N / 60
  if m > 0 then
    (if m / 60 > 0 then natDigits (m / 60) ++ [104] else []) ++ natDigits (m % 60) ++ [109] ++ secPart
  else secPart

theorem durationString_seconds (n : Int) (hn : n ≠ 0) :
    durationString (n * 1000000000) = some (if n < 0 then 45 :: hmsText n.natAbs else hmsText n.natAbs) := by
  have hu : (n * 1000000000).natAbs = n.natAbs * 1000000000 := by rw [Int.natAbs_mul]; rfl
  have hpos : 0 < n.natAbs := by omega
  have h0 : ¬ (n.natAbs * 1000000000 = 0) := by omega
  have h1 : ¬ (n.natAbs * 1000000000 < 1000000000) := by omega
  have hm : n.natAbs * 1000000000 % 1000000000 = 0 := Nat.mul_mod_left _ _
  have hd : n.natAbs * 1000000000 / 1000000000 = n.natAbs := Nat.mul_div_cancel _ (by decide)
  have hf : dropTrailingZeros (natPad 0 9) = [] := by decide
  have hneg : (n * 1000000000 < 0) = (n < 0) := by
    apply propext; constructor <;> intro h <;> omega
  unfold durationString hmsText
  simp only [hu, h0, h1, if_false, hm, hd, hf, List.isEmpty_nil, if_true, List.append_nil, hneg]

end Rare.C18

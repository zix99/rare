import Rare.Model.C17Heap
import Rare.Proofs.C17Gen
import Rare.Proofs.C17Pool
/-!
C17: the heap machine of `Model/C17Heap.lean` computes, for every template, what the pool-free model computes –
from ANY heap whose free objects hold arbitrary leftovers, as long as the objects on the current context's
parent chain are checked out.

* `val`, `valE` – the value of a template as a list function of its context (no pool, no model loops); `valE`
  with the panics of its leaves; `den_valE`: the pool-free model `den` computes `valE`;
* `Good h l ref` – the context value `ref` is the chain `l` of distinct, checked-out objects ending in the root;
* `Frame h h' ex` – what an evaluation may do to the heap: the pool stays duplicate-free, objects are only ever
  ADDED (fresh numbers), every checked-out object outside `ex` keeps all its fields;
* `ev_valE` – `ev` returns `valE` and, with a value, a `Frame`d heap (in particular: no stack overflow with fuel
  above chain length + nesting depth, the object a helper holds is never handed to a nested helper, and every
  helper leaves the pool's free list as it found it, up to order and fresh objects).
-/
namespace Rare.C17
open Rare Rare.Expr Rare.C17Pool Rare.C17Heap

inductive NoPanic : Stage → Prop
  | ret (a : Bytes) : NoPanic (.ret a)
  | getMatch (i : Int) (k : Bytes → Stage) : (∀ b, NoPanic (k b)) → NoPanic (.getMatch i k)
  | getKey (s : Bytes) (k : Bytes → Stage) : (∀ b, NoPanic (k b)) → NoPanic (.getKey s k)

/-- The value of a stage (`[]` for a panic, which `NoPanic` excludes). -/
def evalD (ctx : Ctx) : Stage → Bytes
  | .ret a => a
  | .getMatch i k => evalD ctx (k (ctx.getMatch i))
  | .getKey s k => evalD ctx (k (ctx.getKey s))
  | .panic _ => []

theorem run_noPanic (ctx : Ctx) (c : Stage) (h : NoPanic c) : c.run ctx = .ok (evalD ctx c) := by
  induction h with
  | ret a => rfl
  | getMatch i k _ ih => simp only [Comp.run, evalD]; exact ih _
  | getKey s k _ ih => simp only [Comp.run, evalD]; exact ih _

/-- Every leaf of the template is a stage that cannot panic. -/
def Total : Tm → Prop
  | .scalar c => NoPanic c
  | .app1 _ a => Total a
  | .app2 _ a b => Total a ∧ Total b
  | .map a f => Total a ∧ Total f
  | .filter a p => Total a ∧ Total p
  | .reduce _ a f => Total a ∧ Total f
  | .for_ s c n => Total s ∧ Total c ∧ Total n

/-- The value of a template: the list reading of the helpers, sub-expressions in `subCtx`. -/
def val : Tm → Ctx → Bytes
  | .scalar c, ctx => evalD ctx c
  | .app1 g a, ctx => g (val a ctx)
  | .app2 g a b, ctx => g (val a ctx) (val b ctx)
  | .map a f, ctx => pack ((elems (val a ctx)).map fun x => val f (subCtx ctx x []))
  | .filter a p, ctx => pack ((elems (val a ctx)).filter fun x => truthy (val p (subCtx ctx x [])))
  | .reduce init a f, ctx => reduce (fun m x => val f (subCtx ctx m x)) init (elems (val a ctx))
  | .for_ s c n, ctx =>
    match iterateWhile (fun v k => truthy (val c (subCtx ctx v (itoa (k : Nat)))))
        (fun v k => val n (subCtx ctx v (itoa (k : Nat)))) Gen.maxIterations 0 (val s ctx) with
    | some ys => pack ys
    | none => Funcs.Range.InfMarker

/-- The value of a template, panics included: sub-expressions are evaluated element by element, left to right, and
    the first panic ends the evaluation with its message. -/
def valE : Tm → Ctx → Except String Bytes
  | .scalar c, ctx => c.run ctx
  | .app1 g a, ctx => (valE a ctx).map g
  | .app2 g a b, ctx =>
    match valE a ctx with
    | .error m => .error m
    | .ok x => (valE b ctx).map (g x)
  | .map a f, ctx =>
    match valE a ctx with
    | .error m => .error m
    | .ok arr =>
      (loopE (fun v0 v1 => valE f (subCtx ctx v0 v1)) (fun (_ : List Bytes) x => (x, [])) (fun s _ y => s ++ [y])
        (elems arr) []).map pack
  | .filter a p, ctx =>
    match valE a ctx with
    | .error m => .error m
    | .ok arr =>
      (loopE (fun v0 v1 => valE p (subCtx ctx v0 v1)) (fun (_ : List Bytes) x => (x, []))
        (fun s x y => if truthy y then s ++ [x] else s) (elems arr) []).map pack
  | .reduce init a f, ctx =>
    match valE a ctx with
    | .error m => .error m
    | .ok arr =>
      loopE (fun v0 v1 => valE f (subCtx ctx v0 v1)) (fun (memo : Bytes) x => (memo, x)) (fun _ _ y => y)
        (reduceStart init (elems arr)).2 (reduceStart init (elems arr)).1
  | .for_ s c n, ctx =>
    match valE s ctx with
    | .error m => .error m
    | .ok v =>
      (forE (fun v0 v1 => valE c (subCtx ctx v0 v1)) (fun v0 v1 => valE n (subCtx ctx v0 v1))
        (Gen.maxIterations + 2) 0 v []).map forOut

/-- On total templates nothing panics and `valE` is `val`. -/
theorem valE_total : ∀ (t : Tm) (ctx : Ctx), Total t → valE t ctx = .ok (val t ctx)
  | .scalar c, ctx, ht => run_noPanic ctx c ht
  | .app1 g a, ctx, ht => by
    simp only [valE, val, valE_total a ctx ht]; rfl
  | .app2 g a b, ctx, ht => by
    simp only [valE, val, valE_total a ctx ht.1, valE_total b ctx ht.2]; rfl
  | .map a f, ctx, ht => by
    simp only [valE, val, valE_total a ctx ht.1, fun v0 v1 => valE_total f (subCtx ctx v0 v1) ht.2, loopE_map_ok]; rfl
  | .filter a p, ctx, ht => by
    simp only [valE, val, valE_total a ctx ht.1, fun v0 v1 => valE_total p (subCtx ctx v0 v1) ht.2, loopE_filter_ok]
    rfl
  | .reduce init a f, ctx, ht => by
    simp only [valE, val, valE_total a ctx ht.1, fun v0 v1 => valE_total f (subCtx ctx v0 v1) ht.2, loopE_ok,
      foldl_reduceStart]
  | .for_ s c n, ctx, ht => by
    simp only [valE, val, valE_total s ctx ht.1, fun v0 v1 => valE_total c (subCtx ctx v0 v1) ht.2.1,
      fun v0 v1 => valE_total n (subCtx ctx v0 v1) ht.2.2,
      forE_ok _ _ (Gen.maxIterations + 2) 0 _ [] (Nat.zero_le _) (by omega), Nat.sub_zero]
    cases iterateWhile (fun v k => truthy (val c (subCtx ctx v (itoa (k : Nat)))))
      (fun v k => val n (subCtx ctx v (itoa (k : Nat)))) Gen.maxIterations 0 (val s ctx) <;> rfl

/-- The pool-free model (`mapStage` … of Funcs/Range.lean with their splitter loops) computes `valE`. -/
theorem den_valE : ∀ (t : Tm) (ctx : Ctx), (den t).run ctx = valE t ctx
  | .scalar _, _ => rfl
  | .app1 g a, ctx => by
    simp only [den, valE]
    rw [Comp.run_bind, den_valE a ctx]
    cases valE a ctx <;> rfl
  | .app2 g a b, ctx => by
    simp only [den, valE]
    rw [Comp.run_bind, den_valE a ctx]
    cases valE a ctx with
    | error m => rfl
    | ok x =>
      simp only []
      rw [Comp.run_bind, den_valE b ctx]
      cases valE b ctx <;> rfl
  | .map a f, ctx => by
    simp only [den, valE, mapStage_runE, den_valE a ctx, fun v0 v1 => den_valE f (subCtx ctx v0 v1)]
    cases valE a ctx <;> rfl
  | .filter a p, ctx => by
    simp only [den, valE, filterStage_runE, den_valE a ctx, fun v0 v1 => den_valE p (subCtx ctx v0 v1)]
    cases valE a ctx <;> rfl
  | .reduce init a f, ctx => by
    simp only [den, valE, reduceStage_runE, den_valE a ctx, fun v0 v1 => den_valE f (subCtx ctx v0 v1)]
    cases valE a ctx <;> rfl
  | .for_ s c n, ctx => by
    simp only [den, valE, forStage_runE, den_valE s ctx, fun v0 v1 => den_valE c (subCtx ctx v0 v1),
      fun v0 v1 => den_valE n (subCtx ctx v0 v1)]
    cases valE s ctx <;> rfl

def chainOf (objs : Nat → Obj) : List Nat → Ref → Prop
  | [], .root => True
  | o :: l, .obj o' => o' = o ∧ chainOf objs l (objs o).parent
  | _, _ => False

/-- The context a chain of objects denotes. -/
def ctxOf (root : Ctx) (objs : Nat → Obj) : List Nat → Ctx
  | [] => root
  | o :: l => subCtx (ctxOf root objs l) (objs o).v0 (objs o).v1

theorem chainOf_congr (objs objs' : Nat → Obj) : ∀ (l : List Nat) (ref : Ref),
    (∀ x ∈ l, objs' x = objs x) → chainOf objs l ref → chainOf objs' l ref
  | [], .root, _, _ => trivial
  | [], .obj _, _, h => h.elim
  | _ :: _, .root, _, h => h.elim
  | o :: l, .obj o', he, h => by
    obtain ⟨e, hc⟩ := h
    refine ⟨e, ?_⟩
    rw [he o (by simp)]
    exact chainOf_congr objs objs' l _ (fun x hx => he x (by simp [hx])) hc

theorem ctxOf_congr (root : Ctx) (objs objs' : Nat → Obj) : ∀ (l : List Nat),
    (∀ x ∈ l, objs' x = objs x) → ctxOf root objs' l = ctxOf root objs l
  | [], _ => rfl
  | o :: l, he => by
    simp only [ctxOf]
    rw [he o (by simp), ctxOf_congr root objs objs' l (fun x hx => he x (by simp [hx]))]

/-- Two values are stored in the object that heads a chain: the chain stands, the contexts below it are what they
    were, and the head now denotes the sub-context of the two values. -/
theorem chain_store (objs objs' : Nat → Obj) (o : Nat) (l : List Nat) (a b : Bytes) (ho : o ∉ l)
    (hat : objs' o = { objs o with v0 := a, v1 := b }) (hoff : ∀ x, x ≠ o → objs' x = objs x)
    (hc : chainOf objs (o :: l) (.obj o)) :
    chainOf objs' (o :: l) (.obj o) ∧
    (∀ root, ctxOf root objs' (o :: l) = subCtx (ctxOf root objs l) a b) ∧
    (∀ root, ctxOf root objs' l = ctxOf root objs l) := by
  have hagree : ∀ x ∈ l, objs' x = objs x := fun x hx => hoff x (fun e => ho (e ▸ hx))
  refine ⟨⟨rfl, ?_⟩, fun root => ?_, fun root => ctxOf_congr root objs objs' l hagree⟩
  · rw [hat]
    exact chainOf_congr objs objs' l _ hagree hc.2
  · simp only [ctxOf]
    rw [ctxOf_congr root objs objs' l hagree, hat]

theorem getMatchH_root (root : Ctx) (objs : Nat → Obj) (fuel : Nat) (i : Int) :
    getMatchH root objs fuel .root i = .ok (root.getMatch i) := by
  cases fuel <;> rfl

theorem getKeyH_root (root : Ctx) (objs : Nat → Obj) (fuel : Nat) (k : Bytes) :
    getKeyH root objs fuel .root k = .ok (root.getKey k) := by
  cases fuel <;> rfl

theorem getMatchH_chain (root : Ctx) (objs : Nat → Obj) (i : Int) : ∀ (l : List Nat) (ref : Ref) (fuel : Nat),
    chainOf objs l ref → l.length < fuel →
    getMatchH root objs fuel ref i = .ok ((ctxOf root objs l).getMatch i)
  | [], .root, fuel, _, _ => getMatchH_root root objs fuel i
  | [], .obj _, _, h, _ => h.elim
  | _ :: _, .root, _, h, _ => h.elim
  | o :: l, .obj o', fuel, h, hf => by
    obtain ⟨e, hc⟩ := h
    subst e
    cases fuel with
    | zero => simp at hf
    | succ f =>
      simp only [getMatchH, ctxOf, subCtx]
      by_cases hi : i < 0
      · simp only [hi, if_true]
        exact getMatchH_chain root objs i l _ f hc (by simpa using hf)
      · simp [hi]

theorem getKeyH_chain (root : Ctx) (objs : Nat → Obj) (k : Bytes) : ∀ (l : List Nat) (ref : Ref) (fuel : Nat),
    chainOf objs l ref → l.length < fuel →
    getKeyH root objs fuel ref k = .ok ((ctxOf root objs l).getKey k)
  | [], .root, fuel, _, _ => getKeyH_root root objs fuel k
  | [], .obj _, _, h, _ => h.elim
  | _ :: _, .root, _, h, _ => h.elim
  | o :: l, .obj o', fuel, h, hf => by
    obtain ⟨e, hc⟩ := h
    subst e
    cases fuel with
    | zero => simp at hf
    | succ f =>
      simp only [getKeyH, ctxOf, subCtx]
      exact getKeyH_chain root objs k l _ f hc (by simpa using hf)

theorem runH_chain (root : Ctx) (objs : Nat → Obj) (l : List Nat) (ref : Ref) (fuel : Nat)
    (hc : chainOf objs l ref) (hf : l.length < fuel) (c : Stage) :
    runH root objs fuel ref c = c.run (ctxOf root objs l) := by
  induction c with
  | ret a => rfl
  | getMatch i k ih => simp only [runH, Comp.run, getMatchH_chain root objs i l ref fuel hc hf]; exact ih _
  | getKey s k ih => simp only [runH, Comp.run, getKeyH_chain root objs s l ref fuel hc hf]; exact ih _
  | panic m => rfl

def PoolOk (p : Pool) : Prop := p.free.Nodup ∧ ∀ o ∈ p.free, o < p.next

/-- allocated and not in the free list: checked out -/
def Held (p : Pool) (o : Nat) : Prop := o < p.next ∧ o ∉ p.free

structure Good (h : Heap) (l : List Nat) (ref : Ref) : Prop where
  pool : PoolOk h.pool
  chain : chainOf h.objs l ref
  nodup : l.Nodup
  held : ∀ o ∈ l, Held h.pool o

structure Frame (h h' : Heap) (ex : List Nat) : Prop where
  pool : PoolOk h'.pool
  next_le : h.pool.next ≤ h'.pool.next
  free : ∀ x, x ∈ h'.pool.free ↔ x ∈ h.pool.free ∨ (h.pool.next ≤ x ∧ x < h'.pool.next)
  keep : ∀ x, Held h.pool x → x ∉ ex → h'.objs x = h.objs x

theorem Frame.refl (h : Heap) (hp : PoolOk h.pool) (ex : List Nat) : Frame h h ex :=
  ⟨hp, Nat.le_refl _, fun x => ⟨Or.inl, fun e => e.elim id (fun ⟨a, b⟩ => by omega)⟩, fun _ _ _ => rfl⟩

theorem Frame.held {h h' : Heap} {ex : List Nat} (f : Frame h h' ex) {x : Nat} (hx : Held h.pool x) :
    Held h'.pool x := by
  refine ⟨Nat.lt_of_lt_of_le hx.1 f.next_le, fun hm => ?_⟩
  rcases (f.free x).mp hm with e | ⟨e, _⟩
  · exact hx.2 e
  · have := hx.1; omega

theorem Frame.trans {h h1 h2 : Heap} {ex : List Nat} (f1 : Frame h h1 ex) (f2 : Frame h1 h2 ex) :
    Frame h h2 ex := by
  refine ⟨f2.pool, Nat.le_trans f1.next_le f2.next_le, fun x => ?_, fun x hx hn => ?_⟩
  · have a := f1.free x
    have b := f2.free x
    have n1 := f1.next_le
    have n2 := f2.next_le
    grind
  · rw [f2.keep x (f1.held hx) hn, f1.keep x hx hn]

theorem Frame.mono {h h' : Heap} {ex : List Nat} (f : Frame h h' []) : Frame h h' ex :=
  ⟨f.pool, f.next_le, f.free, fun x hx _ => f.keep x hx (by simp)⟩

theorem Good.frame {h h' : Heap} {l : List Nat} {ref : Ref} {ex : List Nat} (g : Good h l ref)
    (f : Frame h h' ex) (hd : ∀ x ∈ l, x ∉ ex) : Good h' l ref :=
  ⟨f.pool, chainOf_congr h.objs h'.objs l ref (fun x hx => f.keep x (g.held x hx) (hd x hx)) g.chain, g.nodup,
    fun o ho => f.held (g.held o ho)⟩

theorem ctxOf_frame (root : Ctx) {h h' : Heap} {l : List Nat} {ref : Ref} {ex : List Nat} (g : Good h l ref)
    (f : Frame h h' ex) (hd : ∀ x ∈ l, x ∉ ex) : ctxOf root h'.objs l = ctxOf root h.objs l :=
  ctxOf_congr root h.objs h'.objs l (fun x hx => f.keep x (g.held x hx) (hd x hx))

/-- `s.vals[0] = a; s.vals[1] = b` on the head of the chain. -/
theorem setVals_good {h : Heap} {o : Nat} {l : List Nat} (g : Good h (o :: l) (.obj o)) (a b : Bytes) :
    Good (h.setVals o a b) (o :: l) (.obj o) ∧ Frame h (h.setVals o a b) [o] ∧
    (∀ root, ctxOf root (h.setVals o a b).objs (o :: l) = subCtx (ctxOf root h.objs l) a b) ∧
    (∀ root, ctxOf root (h.setVals o a b).objs l = ctxOf root h.objs l) := by
  have hoff : ∀ x, x ≠ o → (h.setVals o a b).objs x = h.objs x := fun x hx => by simp [Heap.setVals, Heap.set, hx]
  obtain ⟨hc, h1, h2⟩ := chain_store h.objs (h.setVals o a b).objs o l a b (List.nodup_cons.mp g.nodup).1
    (by simp [Heap.setVals, Heap.set]) hoff g.chain
  exact ⟨⟨g.pool, hc, g.nodup, g.held⟩,
    ⟨g.pool, Nat.le_refl _, (Frame.refl h g.pool []).free, fun x _ hx => hoff x (by simpa using hx)⟩, h1, h2⟩

/-- From `Get` to the deferred `Return`: whatever happened in between respected the object. -/
theorem release_frame {h h1 h3 : Heap} {o : Nat}
    (hnh : ¬ Held h.pool o) (hle : h.pool.next ≤ h1.pool.next)
    (hfree : ∀ x, x ∈ h1.pool.free ∨ x = o ↔ x ∈ h.pool.free ∨ (h.pool.next ≤ x ∧ x < h1.pool.next))
    (hagree : ∀ x, x ≠ o → h1.objs x = h.objs x)
    (hheld1 : Held h1.pool o) (hh : ∀ x, Held h.pool x → Held h1.pool x)
    (f : Frame h1 h3 [o]) : Frame h (release h3 o) [] := by
  have ho3 : Held h3.pool o := f.held hheld1
  have n3 := f.next_le
  refine ⟨⟨?_, ?_⟩, Nat.le_trans hle f.next_le, fun x => ?_, fun x hx _ => ?_⟩
  · show (h3.pool.free ++ [o]).Nodup
    refine List.nodup_append.mpr ⟨f.pool.1, by simp, ?_⟩
    intro a ha b hb e
    simp at hb; subst hb; subst e; exact ho3.2 ha
  · intro x hx
    have : x ∈ h3.pool.free ++ [o] := hx
    simp only [List.mem_append, List.mem_singleton] at this
    rcases this with e | e
    · exact f.pool.2 x e
    · subst e; exact ho3.1
  · show x ∈ h3.pool.free ++ [o] ↔ x ∈ h.pool.free ∨ (h.pool.next ≤ x ∧ x < h3.pool.next)
    have a := f.free x
    have b := hfree x
    grind
  · have hxo : x ≠ o := fun e => hnh (e ▸ hx)
    show h3.objs x = h.objs x
    rw [f.keep x (hh x hx) (by simpa using hxo), hagree x hxo]

/-- `Get` and the overwrite put a fresh object in front of the chain and leave the chain as it was; when whatever
    follows respects every other checked-out object, the deferred `Return` restores the pool. -/
theorem acquire_spec {h : Heap} {l : List Nat} {ref : Ref} (g : Good h l ref) :
    Good (acquire h ref).2 ((acquire h ref).1 :: l) (.obj (acquire h ref).1) ∧
    Good (acquire h ref).2 l ref ∧
    (∀ root, ctxOf root (acquire h ref).2.objs l = ctxOf root h.objs l) ∧
    (∀ h3, Frame (acquire h ref).2 h3 [(acquire h ref).1] → Frame h (release h3 (acquire h ref).1) []) := by
  obtain ⟨hn, hb⟩ := g.pool
  obtain ⟨hn1, ho, hsub, hle, hlt, hfree⟩ := get_spec h.pool hn hb
  simp only [acquire]
  generalize h.pool.get.1 = o at *
  generalize h.pool.get.2 = p1 at *
  have hp1 : PoolOk p1 := ⟨hn1, fun x hx => Nat.lt_of_lt_of_le (hb x (hsub x hx)) hle⟩
  have hho : Held p1 o := ⟨hlt, ho⟩
  have hnh : ¬ Held h.pool o := fun hh =>
    ((hfree o).mp (Or.inr rfl)).elim hh.2 fun e => absurd hh.1 (Nat.not_lt.mpr e.1)
  have hheld : ∀ x, Held h.pool x → Held p1 x := fun x hx =>
    ⟨Nat.lt_of_lt_of_le hx.1 hle, fun hm => hx.2 (hsub x hm)⟩
  have hol : o ∉ l := fun hm => hnh (g.held o hm)
  have hagree : ∀ x, x ≠ o → (({ h with pool := p1 } : Heap).set o ⟨ref, [], []⟩).objs x = h.objs x := by
    intro x hx; simp [Heap.set, hx]
  have hagl : ∀ x ∈ l, (({ h with pool := p1 } : Heap).set o ⟨ref, [], []⟩).objs x = h.objs x :=
    fun x hx => hagree x (fun e => hol (e ▸ hx))
  have hchain : chainOf (({ h with pool := p1 } : Heap).set o ⟨ref, [], []⟩).objs l ref :=
    chainOf_congr h.objs _ l ref hagl g.chain
  have hheld1 : ∀ x ∈ o :: l, Held p1 x := by
    intro x hx
    rcases List.mem_cons.mp hx with e | hx
    · subst e; exact hho
    · exact hheld x (g.held x hx)
  refine ⟨⟨hp1, ⟨rfl, ?_⟩, List.nodup_cons.mpr ⟨hol, g.nodup⟩, hheld1⟩, ⟨hp1, hchain, g.nodup, fun x hx => hheld x (g.held x hx)⟩,
    fun root => ctxOf_congr root h.objs _ l hagl, fun _ => release_frame hnh hle hfree hagree hho hheld⟩
  have : ((({ h with pool := p1 } : Heap).set o ⟨ref, [], []⟩).objs o).parent = ref := by simp [Heap.set]
  rw [this]; exact hchain

/-- The invariant of a helper's loop: its object heads the chain, the enclosing context is `ctx`. -/
def LoopInv (root ctx : Ctx) (o : Nat) (l : List Nat) (h : Heap) : Prop :=
  Good h (o :: l) (.obj o) ∧ ctxOf root h.objs l = ctx

theorem loopInv_step {root ctx : Ctx} {o : Nat} {l : List Nat} {h h' : Heap} (hi : LoopInv root ctx o l h)
    (a b : Bytes) (f : Frame (h.setVals o a b) h' []) : LoopInv root ctx o l h' ∧ Frame h h' [o] := by
  obtain ⟨g1, f1, _, hc⟩ := setVals_good hi.1 a b
  refine ⟨⟨g1.frame f (by simp), ?_⟩, f1.trans f.mono⟩
  rw [ctxOf_congr root (h.setVals o a b).objs h'.objs l
    (fun x hx => f.keep x (g1.held x (List.mem_cons_of_mem _ hx)) (by simp)), hc root, hi.2]

/-- The initial situation of an evaluation: the line's match context and any pool in order. -/
theorem good_root (h : Heap) (hp : PoolOk h.pool) : Good h [] .root := ⟨hp, trivial, by simp, by simp⟩

/-- `NewObjectPool(n)` is in order. -/
theorem poolOk_new (n : Nat) : PoolOk (Pool.new n) := by
  constructor
  · simp [Pool.new, List.nodup_range]
  · intro o ho; simpa [Pool.new] using ho

/-- A machine's result against a value-level result: the same value and a final heap with `Q`, or the same panic. -/
def Agree {H α : Type} (Q : H → Prop) (r : Except String (α × H)) (e : Except String α) : Prop :=
  match e with
  | .ok v => ∃ h', r = .ok (v, h') ∧ Q h'
  | .error m => r = .error m

/-- What follows a step that agrees: after the same panic on both sides, or after the same value, with the heap
    the step left.  Used as `refine a.bind (fun _ => rfl) fun v h1 q => ?_` on a goal that matches on both results:
    the motive is read off the goal, and a panic is propagated by both matches alike. -/
@[elab_as_elim]
theorem Agree.bind {H α : Type} {Q : H → Prop} {r : Except String (α × H)} {e : Except String α}
    {motive : Except String (α × H) → Except String α → Prop} (a : Agree Q r e)
    (error : ∀ m, motive (.error m) (.error m)) (ok : ∀ v h1, Q h1 → motive (.ok (v, h1)) (.ok v)) : motive r e := by
  cases e with
  | error m => cases a; exact error m
  | ok v => obtain ⟨h1, rfl, q⟩ := a; exact ok v h1 q

theorem Agree.mono {H α : Type} {Q Q' : H → Prop} {r : Except String (α × H)} {e : Except String α}
    (a : Agree Q r e) (hq : ∀ h, Q h → Q' h) : Agree Q' r e := by
  cases e with
  | error m => exact a
  | ok v => obtain ⟨h1, e1, q⟩ := a; exact ⟨h1, e1, hq h1 q⟩

/-- The sub-expression, run against the object after `Eval` stored `a`, `b`, answers `F a b` and keeps the loop's
    invariant. -/
def SubOk (root ctx : Ctx) (evf : Ref → Heap → Res) (o : Nat) (l : List Nat)
    (F : Bytes → Bytes → Except String Bytes) : Prop :=
  ∀ h a b, LoopInv root ctx o l h →
    Agree (fun h' => LoopInv root ctx o l h' ∧ Frame h h' [o]) (evf (.obj o) (h.setVals o a b)) (F a b)

theorem objLoop_spec {σ : Type} (root ctx : Ctx) (evf : Ref → Heap → Res) (o : Nat) (l : List Nat)
    (F : Bytes → Bytes → Except String Bytes) (hsub : SubOk root ctx evf o l F)
    (args : σ → Bytes → Bytes × Bytes) (upd : σ → Bytes → Bytes → σ) :
    ∀ (xs : List Bytes) (s : σ) (h : Heap), LoopInv root ctx o l h →
      Agree (fun h' => LoopInv root ctx o l h' ∧ Frame h h' [o]) (objLoop evf o args upd xs s h) (loopE F args upd xs s)
  | [], s, h, hi => ⟨h, rfl, hi, Frame.refl h hi.1.pool _⟩
  | x :: xs, s, h, hi => by
    simp only [loopE, objLoop]
    refine (hsub h _ _ hi).bind (fun _ => rfl) fun y h1 ⟨hi1, fr1⟩ => ?_
    exact (objLoop_spec root ctx evf o l F hsub args upd xs (upd s x y) h1 hi1).mono
      fun h2 ⟨hi2, fr2⟩ => ⟨hi2, fr1.trans fr2⟩

theorem forLoopH_spec (root ctx : Ctx) (evc evn : Ref → Heap → Res) (o : Nat) (l : List Nat)
    (Fc Fn : Bytes → Bytes → Except String Bytes) (hc : SubOk root ctx evc o l Fc) (hn : SubOk root ctx evn o l Fn) :
    ∀ (fuel idx : Nat) (v : Bytes) (acc : List Bytes) (h : Heap), LoopInv root ctx o l h →
      Agree (fun h' => LoopInv root ctx o l h' ∧ Frame h h' [o]) (forLoopH evc evn o fuel idx v acc h)
        (forE Fc Fn fuel idx v acc)
  | 0, idx, v, acc, h, _ => rfl
  | fuel + 1, idx, v, acc, h, hi => by
    simp only [forE, forLoopH]
    refine (hc h v _ hi).bind (fun _ => rfl) fun c h1 ⟨hi1, fr1⟩ => ?_
    by_cases ht : truthy c = true
    · simp only [ht, Bool.not_true, Bool.false_eq_true, if_false]
      refine (hn h1 v _ hi1).bind (fun _ => rfl) fun v' h2 ⟨hi2, fr2⟩ => ?_
      by_cases hmax : idx + 1 > Gen.maxIterations
      · simp only [hmax, if_true]
        exact ⟨h2, rfl, hi2, fr1.trans fr2⟩
      · simp only [hmax, if_false]
        exact (forLoopH_spec root ctx evc evn o l Fc Fn hc hn fuel (idx + 1) v' (acc ++ [v]) h2 hi2).mono
          fun h3 ⟨hi3, fr3⟩ => ⟨hi3, (fr1.trans fr2).trans fr3⟩
    · have ht' : truthy c = false := by simpa using ht
      simp only [ht', Bool.not_false, if_true]
      exact ⟨h1, rfl, hi1, fr1⟩

/-- The induction hypothesis for a sub-template, as a statement about its evaluator. -/
def EvOk (root : Ctx) (fuel : Nat) (t : Tm) : Prop :=
  ∀ (ref : Ref) (h : Heap) (l : List Nat), Good h l ref → l.length + depth t < fuel →
    Agree (Frame h · []) (ev root fuel t ref h) (valE t (ctxOf root h.objs l))

theorem subOk_of_evOk {root : Ctx} {fuel : Nat} {f : Tm} (ih : EvOk root fuel f) (ctx : Ctx) (o : Nat) (l : List Nat)
    (hlen : (o :: l).length + depth f < fuel) :
    SubOk root ctx (ev root fuel f) o l (fun a b => valE f (subCtx ctx a b)) := by
  intro h a b hi
  obtain ⟨g1, _, hc, _⟩ := setVals_good hi.1 a b
  have := ih (.obj o) (h.setVals o a b) (o :: l) g1 hlen
  rw [hc root, hi.2] at this
  exact this.mono fun h' f => loopInv_step hi a b f

theorem ev_valE (root : Ctx) (fuel : Nat) : ∀ (t : Tm), EvOk root fuel t
  | .scalar c => by
    intro ref h l g hf
    simp only [ev, valE, runH_chain root h.objs l ref fuel g.chain (by simp [depth] at hf; omega) c]
    cases c.run (ctxOf root h.objs l) with
    | error m => rfl
    | ok v => exact ⟨h, rfl, Frame.refl h g.pool _⟩
  | .app1 gf a => by
    intro ref h l g hf
    simp only [ev, valE]
    refine (ev_valE root fuel a ref h l g (by simpa [depth] using hf)).bind (fun _ => rfl) fun x h1 f1 => ?_
    exact ⟨h1, rfl, f1⟩
  | .app2 gf a b => by
    intro ref h l g hf
    have hd : l.length + depth a < fuel ∧ l.length + depth b < fuel := by simp only [depth] at hf; omega
    simp only [ev, valE]
    refine (ev_valE root fuel a ref h l g hd.1).bind (fun _ => rfl) fun x h1 f1 => ?_
    dsimp only
    have hb := ev_valE root fuel b ref h1 l (g.frame f1 (by simp)) hd.2
    rw [ctxOf_frame root g f1 (by simp)] at hb
    refine hb.bind (fun _ => rfl) fun y h2 f2 => ?_
    exact ⟨h2, rfl, f1.trans f2⟩
  | .map a f => by
    intro ref h l g hf
    have hd : l.length + depth a < fuel ∧ l.length + 1 + depth f < fuel := by simp only [depth] at hf; omega
    obtain ⟨g1, g1l, hctx, hrel⟩ := acquire_spec g (ref := ref)
    have ha := ev_valE root fuel a ref (acquire h ref).2 l g1l hd.1
    rw [hctx root] at ha
    simp only [ev, valE]
    refine ha.bind (fun _ => rfl) fun arr h2 fr2 => ?_
    dsimp only
    have hi : LoopInv root (ctxOf root h.objs l) (acquire h ref).1 l h2 :=
      ⟨g1.frame fr2 (by simp), by rw [ctxOf_frame root g1l fr2 (by simp), hctx root]⟩
    refine (objLoop_spec root _ _ _ l _ (subOk_of_evOk (ev_valE root fuel f) _ _ l (by simp; omega)) _ _ (elems arr) []
      h2 hi).bind (fun _ => rfl) fun ys h3 ⟨_, fr3⟩ => ?_
    exact ⟨_, rfl, hrel h3 (fr2.mono.trans fr3)⟩
  | .filter a p => by
    intro ref h l g hf
    have hd : l.length + depth a < fuel ∧ l.length + 1 + depth p < fuel := by simp only [depth] at hf; omega
    simp only [ev, valE]
    refine (ev_valE root fuel a ref h l g hd.1).bind (fun _ => rfl) fun arr h1 f1 => ?_
    dsimp only
    obtain ⟨ga, _, hctx, hrel⟩ := acquire_spec (g.frame f1 (by simp)) (ref := ref)
    have hi : LoopInv root (ctxOf root h.objs l) (acquire h1 ref).1 l (acquire h1 ref).2 :=
      ⟨ga, by rw [hctx root, ctxOf_frame root g f1 (by simp)]⟩
    refine (objLoop_spec root _ _ _ l _ (subOk_of_evOk (ev_valE root fuel p) _ _ l (by simp; omega)) _ _ (elems arr) []
      _ hi).bind (fun _ => rfl) fun ys h3 ⟨_, fr3⟩ => ?_
    exact ⟨_, rfl, f1.trans (hrel h3 fr3)⟩
  | .reduce init a f => by
    intro ref h l g hf
    have hd : l.length + depth a < fuel ∧ l.length + 1 + depth f < fuel := by simp only [depth] at hf; omega
    obtain ⟨g1, g1l, hctx, hrel⟩ := acquire_spec g (ref := ref)
    have ha := ev_valE root fuel a ref (acquire h ref).2 l g1l hd.1
    rw [hctx root] at ha
    simp only [ev, valE]
    refine ha.bind (fun _ => rfl) fun arr h2 fr2 => ?_
    dsimp only
    have hi : LoopInv root (ctxOf root h.objs l) (acquire h ref).1 l h2 :=
      ⟨g1.frame fr2 (by simp), by rw [ctxOf_frame root g1l fr2 (by simp), hctx root]⟩
    refine (objLoop_spec root _ _ _ l _ (subOk_of_evOk (ev_valE root fuel f) _ _ l (by simp; omega)) _ _
      (reduceStart init (elems arr)).2 (reduceStart init (elems arr)).1 h2 hi).bind (fun _ => rfl)
      fun memo h3 ⟨_, fr3⟩ => ?_
    exact ⟨_, rfl, hrel h3 (fr2.mono.trans fr3)⟩
  | .for_ s c n => by
    intro ref h l g hf
    have hd : l.length + depth s < fuel ∧ l.length + 1 + depth c < fuel ∧ l.length + 1 + depth n < fuel := by
      simp only [depth] at hf; omega
    simp only [ev, valE]
    refine (ev_valE root fuel s ref h l g hd.1).bind (fun _ => rfl) fun v h1 f1 => ?_
    dsimp only
    obtain ⟨ga, _, hctx, hrel⟩ := acquire_spec (g.frame f1 (by simp)) (ref := ref)
    have hi : LoopInv root (ctxOf root h.objs l) (acquire h1 ref).1 l (acquire h1 ref).2 :=
      ⟨ga, by rw [hctx root, ctxOf_frame root g f1 (by simp)]⟩
    refine (forLoopH_spec root _ _ _ _ l _ _ (subOk_of_evOk (ev_valE root fuel c) _ _ l (by simp; omega))
      (subOk_of_evOk (ev_valE root fuel n) _ _ l (by simp; omega)) (Gen.maxIterations + 2) 0 v [] _ hi).bind
      (fun _ => rfl) fun r h3 ⟨_, fr3⟩ => ?_
    cases r <;> exact ⟨_, rfl, f1.trans (hrel h3 fr3)⟩

theorem ev_val (root : Ctx) (fuel : Nat) (t : Tm) (ht : Total t) (ref : Ref) (h : Heap) (l : List Nat)
    (g : Good h l ref) (hf : l.length + depth t < fuel) :
    ∃ h', ev root fuel t ref h = .ok (val t (ctxOf root h.objs l), h') ∧ Frame h h' [] := by
  have := ev_valE root fuel t ref h l g hf
  rwa [valE_total t _ ht] at this

end Rare.C17

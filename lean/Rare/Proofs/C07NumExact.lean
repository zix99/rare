import Rare.Proofs.C07NumF64
import Rare.Proofs.C07Num
/-!
C07: the float order statistics against the EXACT spec (`Spec/C07.lean`: `IsSortedOf`, `IsRank`, `IsMode` over `Rat`).
For finite samples Go's float order is the order of the exact values, so a sorted arrangement of the floats, read as
rationals, IS the sorted list of the values (`sorted_map_toRat`), and `Mode()` commutes with `toRat` (`modeF_toRat`).
-/
namespace Rare.C07
open Rare Rare.F64

theorem goLess_false_iff_toRat {x y : F64} (hx : x.isFinite = true) (hy : y.isFinite = true) :
    goLess y x = false ↔ x.toRat ≤ y.toRat := by
  rw [goLess_false_iff, ← F64.le_iff_toRat_le hx hy, le_iff_key]
  have nx := F64.not_nan_of_finite hx
  have ny := F64.not_nan_of_finite hy
  simp [skey, nx, ny]

theorem eq_iff_toRat_eq {x y : F64} (hx : x.isFinite = true) (hy : y.isFinite = true) :
    F64.eq x y = true ↔ x.toRat = y.toRat := by
  have nx := F64.not_nan_of_finite hx
  have ny := F64.not_nan_of_finite hy
  have h1 := F64.le_iff_toRat_le hx hy
  have h2 := F64.le_iff_toRat_le hy hx
  rw [le_iff_key] at h1 h2
  rw [eq_iff_key]
  constructor
  · intro ⟨_, _, hk⟩
    exact Rat.le_antisymm (h1.mp ⟨nx, ny, by omega⟩) (h2.mp ⟨ny, nx, by omega⟩)
  · intro h
    have a := (h1.mpr (by rw [h]; exact Rat.le_refl)).2.2
    have b := (h2.mpr (by rw [h]; exact Rat.le_refl)).2.2
    exact ⟨nx, ny, by omega⟩

/-- A sorted arrangement of finite floats, read as exact values, is sorted in the spec's sense. -/
theorem isSortedOf_map_toRat (rev : Bool) (l s : List F64) (hf : ∀ x ∈ l, x.isFinite = true) (hs : IsSortedF rev s l) :
    IsSortedOf rev (s.map F64.toRat) (l.map F64.toRat) := by
  refine ⟨hs.1.map _, ?_⟩
  rw [List.pairwise_map]
  have hfs : ∀ x ∈ s, x.isFinite = true := fun x hx => hf x (hs.1.mem_iff.mp hx)
  refine hs.2.imp_of_mem ?_
  intro a b ha hb h
  cases rev
  · simp only [Bool.false_eq_true, if_false] at h ⊢
    exact (goLess_false_iff_toRat (hfs a ha) (hfs b hb)).mp h
  · simp only [if_true] at h ⊢
    exact (goLess_false_iff_toRat (hfs b hb) (hfs a ha)).mp h

theorem sorted_map_toRat (rev : Bool) (l s : List F64) (hf : ∀ x ∈ l, x.isFinite = true) (hs : IsSortedF rev s l) :
    s.map F64.toRat = analyze ratOps rev (l.map F64.toRat) :=
  isSortedOf_unique rev _ _ _ (isSortedOf_map_toRat rev l s hf hs) (analyze_sorted rev _)

theorem toRat_zero : (F64.zero false).toRat = 0 := by decide +kernel

theorem modeF_toRat (s : List F64) (hf : ∀ x ∈ s, x.isFinite = true) :
    (modeF s).toRat = mode 0 (fun a b => decide (a = b)) (s.map F64.toRat) := by
  unfold modeF
  rw [mode_map F64.toRat (F64.zero false) F64.eq (fun a b => decide (a = b)) s, toRat_zero]
  intro a ha b hb
  have fa := hf a ha
  have fb : b.isFinite = true := by
    rcases hb with hb | hb
    · exact hf b hb
    · rw [hb]; decide
  cases h : F64.eq a b
  · have : a.toRat ≠ b.toRat := fun e => by
      have := (eq_iff_toRat_eq fa fb).mpr e; rw [h] at this; cases this
    simp [this]
  · have := (eq_iff_toRat_eq fa fb).mp h
    simp [this]

end Rare.C07

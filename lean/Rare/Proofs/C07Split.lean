import Rare.Proofs.C07Base
/-! The splitter yields the fields of `strings.Split` one by one (non-empty delimiter). -/
namespace Rare.C07

theorem splitOn_ne_nil (d s : Bytes) : splitOn d s ≠ [] := by
  cases s with
  | nil => simp [splitOn]
  | cons b r =>
    rw [splitOn]; split
    · simp
    · cases splitOn d r <;> simp [consHead]

theorem indexOf_none (d s : Bytes) (h : indexOf d s = none) : splitOn d s = [s] := by
  induction s with
  | nil => simp [splitOn]
  | cons b r ih =>
    rw [indexOf] at h
    split at h
    · simp at h
    · rename_i hp
      rw [splitOn, if_neg hp]
      have : indexOf d r = none := by simpa using h
      rw [ih this]; rfl

theorem indexOf_some (d : Bytes) (hd : d ≠ []) (s : Bytes) (i : Nat) (h : indexOf d s = some i) :
    splitOn d s = s.take i :: splitOn d (s.drop (i + d.length)) := by
  induction s generalizing i with
  | nil => simp [indexOf, hd] at h
  | cons b r ih =>
    rw [indexOf] at h
    split at h
    · rename_i hp
      have : i = 0 := by simpa using h.symm
      subst this
      rw [splitOn, if_pos hp]
      have hl : d.length = (d.length - 1) + 1 := by
        have : d.length ≠ 0 := by simpa using hd
        omega
      simp only [List.take_zero, Nat.zero_add]
      congr 2
      conv => rhs; rw [hl, List.drop_succ_cons]
    · rename_i hp
      obtain ⟨j, hj, rfl⟩ : ∃ j, indexOf d r = some j ∧ j + 1 = i := by
        cases hr : indexOf d r with
        | none => simp [hr] at h
        | some j => exact ⟨j, rfl, by simpa [hr] using h⟩
      rw [splitOn, if_neg hp, ih j hj]
      simp only [consHead, List.take_succ_cons]
      congr 2
      have : j + 1 + d.length = (j + d.length) + 1 := by omega
      rw [this, List.drop_succ_cons]

theorem indexOf_le (d s : Bytes) (i : Nat) (h : indexOf d s = some i) : i + d.length ≤ s.length := by
  induction s generalizing i with
  | nil =>
    rw [indexOf] at h; split at h
    · rename_i hd; subst hd
      have : i = 0 := by simpa using h.symm
      subst this; simp
    · simp at h
  | cons b r ih =>
    rw [indexOf] at h; split at h
    · rename_i hp
      have : i = 0 := by simpa using h.symm
      subst this
      have := List.IsPrefix.length_le (List.isPrefixOf_iff_prefix.mp hp)
      simpa using this
    · cases hr : indexOf d r with
      | none => simp [hr] at h
      | some j =>
        have : j + 1 = i := by simpa [hr] using h
        subst this
        have := ih j hr
        simp; omega

/-- The splitter is positioned in front of the fields `fs` (all of them consumed: `fs = []`). -/
def Tracks (s : Splitter) (fs : List Bytes) : Prop :=
  (s.next < 0 ∧ fs = []) ∨
  (0 ≤ s.next ∧ s.next.toNat ≤ s.S.length ∧ splitOn s.delim (s.S.drop s.next.toNat) = fs)

theorem tracks_init (d e : Bytes) : Tracks { S := e, delim := d } (splitOn d e) := by
  right; simp

theorem tracks_done (s : Splitter) (fs : List Bytes) (h : Tracks s fs) : s.done = fs.isEmpty := by
  rcases h with ⟨h1, h2⟩ | ⟨h1, _, h3⟩
  · subst h2; simp [Splitter.done, h1]
  · have := splitOn_ne_nil s.delim (s.S.drop s.next.toNat)
    rw [h3] at this
    cases fs with
    | nil => exact absurd rfl this
    | cons a b => simp [Splitter.done]; omega

/-- The position arithmetic of `Next()`: with `next ≥ 0`, the `int` offsets are the expected naturals. -/
theorem toNat_advance (n : Int) (i d : Nat) (h : 0 ≤ n) :
    ((i : Int) + n).toNat = i + n.toNat ∧ ((i : Int) + n + (d : Int)).toNat = n.toNat + (i + d) ∧
      (0 : Int) ≤ (i : Int) + n + (d : Int) := by
  obtain ⟨k, rfl⟩ := Int.eq_ofNat_of_zero_le h
  refine ⟨?_, ?_, Int.add_nonneg (Int.add_nonneg (Int.natCast_nonneg i) h) (Int.natCast_nonneg d)⟩
  · rw [← Int.natCast_add, Int.toNat_natCast, Int.toNat_natCast]
  · rw [← Int.natCast_add, ← Int.natCast_add, Int.toNat_natCast, Int.toNat_natCast, Nat.add_comm i k, Nat.add_assoc]

/-- `Next()` returns the next field (or "" when exhausted) and moves on. -/
theorem tracks_next (s : Splitter) (fs : List Bytes) (hd : s.delim ≠ []) (h : Tracks s fs) :
    s.next'.1 = fs.headD [] ∧ Tracks s.next'.2 fs.tail ∧ s.next'.2.delim = s.delim := by
  rcases h with ⟨h1, h2⟩ | ⟨h1, hle, h3⟩
  · subst h2
    simp only [Splitter.next', h1, if_true, List.headD_nil, List.tail_nil, true_and]
    exact ⟨Or.inl ⟨h1, rfl⟩, trivial⟩
  · have hn : ¬ s.next < 0 := by omega
    unfold Splitter.next'
    simp only [hn, if_false]
    cases hi : indexOf s.delim (s.S.drop s.next.toNat) with
    | none =>
      have := indexOf_none s.delim _ hi
      rw [this] at h3; subst h3
      simp only [List.headD_cons, List.tail_cons, true_and]
      exact ⟨Or.inl ⟨by simp, rfl⟩, trivial⟩
    | some i =>
      have hs := indexOf_some s.delim hd _ i hi
      have hb := indexOf_le s.delim _ i hi
      rw [hs] at h3; subst h3
      simp only [List.headD_cons, List.tail_cons]
      obtain ⟨e1, e2, e3⟩ := toNat_advance s.next i s.delim.length h1
      simp only [List.length_drop] at hb
      refine ⟨?_, Or.inr ⟨e3, ?_, ?_⟩, trivial⟩
      · rw [e1, List.drop_take, Nat.add_sub_cancel]
      · show ((i : Int) + s.next + (s.delim.length : Int)).toNat ≤ s.S.length
        rw [e2]; omega
      · show splitOn s.delim (s.S.drop ((i : Int) + s.next + (s.delim.length : Int)).toNat) = _
        rw [e2, List.drop_drop]

/-- `NextOk()` also reports whether a field was left. -/
theorem tracks_nextOk (s : Splitter) (fs : List Bytes) (hd : s.delim ≠ []) (h : Tracks s fs) :
    s.nextOk.1 = fs.headD [] ∧ s.nextOk.2.1 = !fs.isEmpty ∧ Tracks s.nextOk.2.2 fs.tail ∧
      s.nextOk.2.2.delim = s.delim := by
  obtain ⟨a, t, d⟩ := tracks_next s fs hd h
  exact ⟨a, by show (!s.done) = _; rw [tracks_done _ _ h], t, d⟩

/-- Three successive reads, as every `Sample` does them. -/
theorem splitter_fields (d e : Bytes) (hd : d ≠ []) :
    let s0 : Splitter := { S := e, delim := d }
    let r0 := s0.next'
    let r1 := r0.2.nextOk
    let r2 := r1.2.2.nextOk
    let fs := splitOn d e
    r0.1 = fs.headD [] ∧
    r1.1 = fs.tail.headD [] ∧ r1.2.1 = !fs.tail.isEmpty ∧
    r2.1 = fs.tail.tail.headD [] ∧ r2.2.1 = !fs.tail.tail.isEmpty := by
  intro s0 r0 r1 r2 fs
  obtain ⟨a0, t1, d1⟩ := tracks_next s0 fs hd (tracks_init d e)
  have hd1 : r0.2.delim ≠ [] := by rw [show r0.2.delim = s0.delim from d1]; exact hd
  obtain ⟨a1, b1, t2, d2⟩ := tracks_nextOk r0.2 fs.tail hd1 t1
  obtain ⟨a2, b2, -, -⟩ := tracks_nextOk r1.2.2 fs.tail.tail (d2 ▸ hd1) t2
  exact ⟨a0, a1, b1, a2, b2⟩

end Rare.C07

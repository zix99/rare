import Rare.Model.C02Hist
import Rare.Props.C16
/-!
C02: the capture values over a history of matches on ONE context – the worker's loop equals the map of a
context-free function; the field read / write sets of the source's methods, read off the lists regenerated into
`Gen.C02`; seam with C16's model of the same object (`C16.Ctx`, `ofC16`).
-/
namespace Rare.C02

theorem MatchCtx.load_names (c : MatchCtx) (h : LineHit) : (c.load h).names = c.names := rfl

/-- the four assignments overwrite everything a previous match left behind -/
theorem MatchCtx.load_load (c : MatchCtx) (h₁ h₂ : LineHit) : (c.load h₁).load h₂ = c.load h₂ := rfl

/-- a re-pointed context is the context built from the match and the name table alone -/
theorem MatchCtx.load_eq (c : MatchCtx) (h : LineHit) :
    c.load h = MatchCtx.mk h.line h.indices c.names h.source h.lineNum := rfl

theorem histLine_eq (keys : List Bytes) (c : MatchCtx) (h : LineHit) :
    histLine keys c h =
      (captureOf keys c.names h).map fun o => (if h.indices = [] then c else c.load h, o) := by
  unfold histLine captureOf
  by_cases hi : h.indices = []
  · simp [hi, Except.map]
  · simp only [hi, if_false, ← MatchCtx.load_eq]
    cases (c.load h).buildKeys keys <;> rfl

theorem histLine_names (keys : List Bytes) (c c' : MatchCtx) (h : LineHit) (o : Option KeyAns)
    (hp : histLine keys c h = .ok (c', o)) : c'.names = c.names := by
  rw [histLine_eq] at hp
  cases he : captureOf keys c.names h with
  | error e => simp [he, Except.map] at hp
  | ok v =>
    simp [he, Except.map] at hp
    rw [← hp.1]; split <;> rfl

theorem histFrom_eq_mapM (keys : List Bytes) (hs : List LineHit) :
    ∀ c : MatchCtx, histFrom keys c hs = hs.mapM (captureOf keys c.names) := by
  induction hs with
  | nil => intro c; rfl
  | cons h r ih =>
    intro c
    rw [histFrom, List.mapM_cons, histLine_eq]
    cases he : captureOf keys c.names h with
    | error e => rfl
    | ok v =>
      have hn : (if h.indices = [] then c else c.load h).names = c.names := by split <;> rfl
      simp only [Except.map, bind, Except.bind]
      rw [ih, hn]

/-- **the loop of one worker = the map of a context-free function over its history** -/
theorem histWorker_eq_mapM (keys : List Bytes) (nt : List (Bytes × Int)) (hs : List LineHit) :
    histWorker keys nt hs = hs.mapM (captureOf keys nt) := histFrom_eq_mapM keys hs (MatchCtx.fresh nt)

/-- fields `processLineSync` assigns, from the generated event list -/
def loadSetFields (ev : List (String × String × String)) : List String :=
  ev.filterMap fun e => if e.1 = "set" then some e.2.1 else none

/-- no assignment to the context comes after the first call the context is handed to -/
def setsBeforeUses (ev : List (String × String × String)) : Bool :=
  (ev.dropWhile fun e => e.1 ≠ "use").all fun e => e.1 ≠ "set"

abbrev MethodRow := String × List String × List String × List String × List String

/-- fields the named methods read (from the generated method table) -/
def methodReadsOf (names : List String) (ms : List MethodRow) : List String :=
  (ms.filter fun m => names.contains m.1).flatMap fun m => m.2.1

/-- fields ANY method of the context may write -/
def methodWrites (ms : List MethodRow) : List String := ms.flatMap fun m => m.2.2.1

/-- the methods the capture keys `{N}`, `{name}`, `{@}`, `{src}`, `{line}` run through -/
def captureMethods : List String := ["GetMatch", "GetKey", "array"]

/-- C16's context as the context of this model -/
def ofC16 (c : C16.Ctx) : MatchCtx := ⟨c.linePtr, c.indices, c.nameTable, c.source, c.lineNum⟩

def ofC16Hit (h : C16.Hit) : LineHit := ⟨h.source, h.lineNum, h.indices, h.line⟩

theorem ofC16_load (c : C16.Ctx) (h : C16.Hit) : ofC16 (c.load h) = (ofC16 c).load (ofC16Hit h) := rfl

theorem ofC16_fresh (nt : List (Bytes × Int)) : ofC16 (C16.Ctx.fresh nt) = MatchCtx.fresh nt := rfl

/-- a key that is neither decimal nor a JSON view: both models of `GetKey` answer the same bytes (or panic) -/
theorem keyVal_eq_C16 (c : C16.Ctx) (key : Bytes) (hd : atoi key = none) (hv : C16.viewFlags key = none) :
    (ofC16 c).keyVal key = (c.getKey key).map KeyAns.val := by
  unfold MatchCtx.keyVal
  rw [hd]
  show getKey c.toC02 key = _
  rw [C16.getKey_models_agree, hv]
  rfl

/-- a decimal key: `GetMatch` of both models -/
theorem keyVal_decimal_eq_C16 (c : C16.Ctx) (key : Bytes) (i : Int) (hd : atoi key = some i) :
    (ofC16 c).keyVal key = (c.getMatch i).map KeyAns.val := by
  unfold MatchCtx.keyVal
  rw [hd]
  simp only [ofC16, C16.Ctx.getMatch, C16.getMatch_eq_c02]

end Rare.C02

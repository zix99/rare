import Rare.Proofs.C09Print
import Rare.Proofs.C10
/-!
C09 × C10: a printed expression tree compiles – with the optimiser ON or OFF – to a stage that *denotes* the
tree.

`Val = C09.Expr → Ctx → Bytes` is an arbitrary denotation of trees that reads literals, group and key
references as the specification says (`ValOk`); `DenV val D stage e` says that the stage evaluates to
`val e ctx` in every context, that a literal is the constant stage `.ret`, and that a tree the certificate `D`
calls dynamic does look something up when probed.  The registry hypothesis `RegDenV` is per call *site*: the
registered builder, for argument stages denoting the argument trees, returns without compile error a stage
denoting the call.  So a builder may inspect its argument stages at compile time (constant arguments,
compile-time type checks, `EvalStaticStage`), and the meaning of a call need not be a function of its
argument values – the array helpers `@map @filter @reduce @for` evaluate an argument in a sub-context, so their
meaning depends on the argument's denotation in OTHER contexts.

What the optimiser adds is `optimize` after the rune loop of every (nested) `Compile`; a stage that evaluates
in every context evaluates in particular against the all-empty probing context, so `optimize` returns, and a
single stage that probes constant *is* the constant.

`C09Den.lean` is the instance of the tree semantics of `Spec/C09.lean` (`val e ctx = evalTree (envC sem ctx) e`),
`C09C10.lean` the instance of context-free semantics and builders that implement a function of the argument
values.
-/
namespace Rare.C09
open Rare Rare.Expr

/-! ### probing = running against the empty context -/

theorem probeN_of_run {α : Type} (c : Comp α) : ∀ (n : Nat) (a : α), c.run emptyCtx = .ok a →
    ∃ m, c.probeN n = .ok (a, m) := by
  induction c with
  | ret x => intro n a h; simp only [Comp.run, Except.ok.injEq] at h; exact ⟨n, by simp [Comp.probeN, h]⟩
  | getMatch i k ih => intro n a h; exact ih _ _ _ h
  | getKey s k ih => intro n a h; exact ih _ _ _ h
  | panic m => intro n a h; simp [Comp.run] at h

theorem probe_of_run {α : Type} (c : Comp α) (a : α) (h : c.run emptyCtx = .ok a) :
    ∃ b, c.probe = .ok (a, b) := by
  obtain ⟨m, hm⟩ := probeN_of_run c 0 a h
  exact ⟨m == 0, by simp [Comp.probe, hm]⟩

theorem optimizeGo_ok : ∀ (stages : List Stage) (sb : Bytes) (acc : List Stage),
    (∀ s ∈ stages, ∃ a, s.run emptyCtx = .ok a) → ∃ out, optimizeGo stages sb acc = .ok out := by
  intro stages
  induction stages with
  | nil => intro sb acc _; exact ⟨_, rfl⟩
  | cons st rest ih =>
    intro sb acc h
    obtain ⟨a, ha⟩ := h st (by simp)
    obtain ⟨b, hb⟩ := probe_of_run st a ha
    have hrest : ∀ s ∈ rest, ∃ a, s.run emptyCtx = .ok a := fun s hs => h s (by simp [hs])
    simp only [optimizeGo, hb]
    cases b with
    | true => exact ih _ _ hrest
    | false => exact ih _ _ hrest

/-- A stage that evaluates (does not panic) in every context. -/
def Total (s : Stage) : Prop := ∀ ctx : Ctx, ∃ v, s.run ctx = .ok v

/-! ### the optimiser on a single stage / a literal -/

/-- Optimising a one-stage list keeps the joined stage – literally (a stage that probes constant *is* the
    constant, `Comp.probe_constant`). -/
theorem optimize_single (s : Stage) (out : List Stage) (h : optimize [s] = .ok out) : joinStages out = s := by
  simp only [optimize, optimizeGo] at h
  cases hp : s.probe with
  | error m => rw [hp] at h; cases h
  | ok p =>
    obtain ⟨v, b⟩ := p
    rw [hp] at h
    cases b with
    | true =>
      have hs := Comp.probe_constant s v hp
      simp only [List.nil_append, Except.ok.injEq] at h
      subst h
      by_cases hv : v.isEmpty
      · have : v = [] := by simpa using hv
        subst this; rw [hs]; rfl
      · simp only [hv, Bool.false_eq_true, if_false]; rw [hs]; rfl
    | false =>
      simp only [List.isEmpty_nil, if_true, List.nil_append, Except.ok.injEq] at h
      subst h; rfl

theorem optimize_lit_join (s : List Char) :
    ∃ st, optimize (litStages s) = .ok st ∧ joinStages st = .ret (utf8 s) := by
  by_cases he : s.isEmpty
  · have hs : s = [] := by simpa using he
    subst hs
    exact ⟨[], by simp [litStages, optimize, optimizeGo], rfl⟩
  · have hl : litStages s = [Stage.lit (utf8 s)] := by simp [litStages, he]
    rw [hl]
    have hrun : ∀ ctx, (Stage.lit (utf8 s)).run ctx = .ok (utf8 s) := fun _ => rfl
    obtain ⟨b, hb⟩ := probe_of_run (Stage.lit (utf8 s)) (utf8 s) (hrun emptyCtx)
    obtain ⟨out, ho⟩ := optimizeGo_ok [Stage.lit (utf8 s)] [] [] (fun x hx => by
      simp only [List.mem_singleton] at hx; subst hx; exact ⟨_, hrun emptyCtx⟩)
    exact ⟨out, ho, optimize_single _ out ho⟩

section
variable (reg : Registry) (opt : Bool)

/-- The end of `Compile` after a single braced statement that produced `stage`. -/
theorem finishC_single (t : List Char) (stage : Stage) (htot : ∃ a, stage.run emptyCtx = .ok a) :
    ∃ out, finishC opt t ⟨[] ++ [stage], [], [], 0, 0⟩ = .ok (out, []) ∧ joinStages out = stage := by
  cases opt with
  | false => exact ⟨[stage], by simp [finishC], rfl⟩
  | true =>
    obtain ⟨out, ho⟩ := optimizeGo_ok [stage] [] [] (fun x hx => by
      simp only [List.mem_singleton] at hx; subst hx; exact htot)
    have ho' : optimize [stage] = .ok out := ho
    exact ⟨out, by simp [finishC, ho'], optimize_single _ out ho'⟩

theorem compileF_plain_den (fuel : Nat) (s : List Char) (h : plain s = true) :
    ∃ st, compileF (fuel + 1) reg opt s = .ok (st, []) ∧ joinStages st = .ret (utf8 s) := by
  obtain ⟨j, hj⟩ := loop_inert fuel reg opt s s [] 0 ⟨[], [], [], 0, 0⟩ (plain_inert h)
  rw [List.append_nil, loop_nil] at hj
  rw [compileF_eq, hj]
  have hst : (if s = [] then ([] : List Stage) else [Stage.lit (charsToBytes s)]) = litStages s := by
    cases s <;> simp [litStages, utf8_eq]
  cases opt with
  | false =>
    refine ⟨litStages s, by simp [finishC, hst], ?_⟩
    cases s with
    | nil => rfl
    | cons c r => simp [litStages, joinStages, Stage.lit]
  | true =>
    obtain ⟨st, h1, h2⟩ := optimize_lit_join s
    exact ⟨st, by simp [finishC, hst, h1], h2⟩

theorem compileF_var_den (fuel : Nat) (σ : Style) (w : List Char) (h : bare w = true) :
    ∃ st, compileF (fuel + 1) reg opt ('{' :: ((ws (σ []).lead ++ w ++ ws (σ []).trail) ++ ['}'])) = .ok (st, []) ∧
      joinStages st = stageSimpleVariable w := by
  have hl : LayoutOk true [(ws (σ []).lead, Piece.bare w)] := ⟨allSpace_ws _, Or.inl rfl, h, trivial⟩
  have hin : Inner (ws (σ []).lead ++ w ++ ws (σ []).trail) := by
    have := inner_append (inner_layout _ true hl) (inner_of_plain (plain_of_space (allSpace_ws (σ []).trail)))
    simpa [layout, Piece.text] using this
  obtain ⟨j, hj⟩ := compileF_braced fuel reg opt hin
  rw [hj, close_var fuel reg opt _ j ⟨[], [], _, 0, 1⟩ w (split_word σ w h)]
  have htot : ∃ a, (stageSimpleVariable w).run emptyCtx = .ok a := by
    unfold stageSimpleVariable
    split
    · exact ⟨_, rfl⟩
    · exact ⟨_, rfl⟩
  exact finishC_single opt _ _ htot

end

/-- A denotation of trees: the value of a tree in a context. -/
abbrev Val := C09.Expr → Ctx → Bytes

/-- The tree semantics of `Spec/C09.lean` under `sem` as a denotation. -/
def semVal (sem : Sem) : Val := fun e ctx => evalTree (envC sem ctx) e

/-- The denotation agrees with the specification on the leaves. -/
structure ValOk (val : Val) : Prop where
  lit : ∀ s ctx, val (.lit s) ctx = utf8 s
  group : ∀ n ctx, val (.group n) ctx = ctx.getMatch (n : Int)
  key : ∀ k ctx, val (.key k) ctx = ctx.getKey (utf8 k)

theorem semVal_ok (sem : Sem) : ValOk (semVal sem) := ⟨fun _ _ => rfl, fun _ _ => rfl, fun _ _ => rfl⟩

/-- `stage` denotes the tree `e` under `val`. -/
structure DenV (val : Val) (D : C09.Expr → Bool) (stage : Stage) (e : C09.Expr) : Prop where
  run : ∀ ctx, stage.run ctx = .ok (val e ctx)
  dyn : D e = true → ∃ v, stage.probe = .ok (v, false)
  lit : ∀ s, e = .lit s → stage = .ret (utf8 s)

def DenArgsV (val : Val) (D : C09.Expr → Bool) : List Stage → List C09.Expr → Prop
  | [], [] => True
  | s :: ss, e :: es => DenV val D s e ∧ DenArgsV val D ss es
  | _, _ => False

theorem DenArgsV.length {val : Val} {D : C09.Expr → Bool} : ∀ {cargs : List Stage} {args : List C09.Expr},
    DenArgsV val D cargs args → cargs.length = args.length
  | [], [], _ => rfl
  | _ :: ss, _ :: es, h => by simp [DenArgsV.length (cargs := ss) (args := es) h.2]
  | [], _ :: _, h => by cases h
  | _ :: _, [], h => by cases h

/-- The values of the argument trees in a context. -/
def valArgs (val : Val) (ctx : Ctx) (args : List C09.Expr) : List Bytes := args.map fun a => val a ctx

theorem valArgs_sem (sem : Sem) (ctx : Ctx) : ∀ args : List C09.Expr,
    valArgs (semVal sem) ctx args = evalArgs (envC sem ctx) args
  | [] => rfl
  | a :: rest => by
    have := valArgs_sem sem ctx rest
    simp only [valArgs] at this
    simp only [valArgs, List.map_cons, evalArgs, this]; rfl

theorem DenArgsV.runs {val : Val} {D : C09.Expr → Bool} (ctx : Ctx) : ∀ {cargs : List Stage} {args : List C09.Expr},
    DenArgsV val D cargs args → cargs.map (·.run ctx) = (valArgs val ctx args).map .ok
  | [], [], _ => rfl
  | s :: ss, e :: es, h => by
    have := DenArgsV.runs ctx (cargs := ss) (args := es) h.2
    simp only [valArgs, List.map_cons, h.1.run ctx] at *
    rw [this]
  | [], _ :: _, h => by cases h
  | _ :: _, [], h => by cases h

theorem DenArgsV.total {val : Val} {D : C09.Expr → Bool} : ∀ {cargs : List Stage} {args : List C09.Expr},
    DenArgsV val D cargs args → ∀ a ∈ cargs, Total a
  | [], [], _ => fun a ha => by cases ha
  | s :: ss, e :: es, h => fun a ha => by
    rcases List.mem_cons.mp ha with rfl | ha
    · exact fun ctx => ⟨_, h.1.run ctx⟩
    · exact DenArgsV.total (cargs := ss) (args := es) h.2 a ha
  | [], _ :: _, h => by cases h
  | _ :: _, [], h => by cases h

mutual
/-- Every function called in the tree is registered with a builder that, at this call site – for argument
    stages denoting the argument trees – returns without compile error a stage denoting the call. -/
def RegDenV (reg : Registry) (val : Val) (D : C09.Expr → Bool) : C09.Expr → Prop
  | .call f args =>
    (∃ b, reg f = some b ∧ ∀ cargs, DenArgsV val D cargs args →
      ∃ stage, b cargs = .ok ⟨some stage, none⟩ ∧ DenV val D stage (.call f args)) ∧
    RegDenArgsV reg val D args
  | .lit _ => True
  | .group _ => True
  | .key _ => True
def RegDenArgsV (reg : Registry) (val : Val) (D : C09.Expr → Bool) : List C09.Expr → Prop
  | [] => True
  | a :: rest => RegDenV reg val D a ∧ RegDenArgsV reg val D rest
end

section
variable (reg : Registry) (val : Val) (D : C09.Expr → Bool) (opt : Bool)

theorem den_varV (w : List Char) (e : C09.Expr)
    (hrun : ∀ ctx, (stageSimpleVariable w).run ctx = .ok (val e ctx)) (hne : ∀ s, e ≠ .lit s) :
    DenV val D (stageSimpleVariable w) e := by
  refine ⟨hrun, fun _ => ?_, fun s hs => absurd hs (hne s)⟩
  unfold stageSimpleVariable
  split
  · exact ⟨[], rfl⟩
  · exact ⟨[], rfl⟩

variable (hD : ∀ s, D (.lit s) = false) (hv : ValOk val)
include hD hv

mutual
theorem arg_denV : ∀ (e : C09.Expr) (σ : Style) (fuel : Nat), Admissible e → RegDenV reg val D e → depth e ≤ fuel →
    ∃ stages, compileF fuel reg opt (argString σ e) = .ok (stages, []) ∧ DenV val D (joinStages stages) e
  | .lit s, σ, fuel, ha, _, hd => by
    obtain ⟨g, rfl⟩ : ∃ g, fuel = g + 1 := ⟨fuel - 1, by simp [depth] at hd; omega⟩
    simp only [Admissible] at ha
    obtain ⟨st, h1, h2⟩ := compileF_plain_den reg opt g s ha
    refine ⟨st, h1, ?_⟩
    rw [h2]
    exact ⟨fun ctx => by rw [hv.lit]; rfl, fun h => (by rw [hD s] at h; cases h), fun s' hs => (by cases hs; rfl)⟩
  | .group n, σ, fuel, ha, _, hd => by
    obtain ⟨g, rfl⟩ : ∃ g, fuel = g + 1 := ⟨fuel - 1, by simp [depth] at hd; omega⟩
    simp only [Admissible] at ha
    obtain ⟨st, h1, h2⟩ := compileF_var_den reg opt g σ (decimal n) (bare_decimal n)
    refine ⟨st, ?_, ?_⟩
    · rw [argString, printArg_stmt σ _ (by intro s h; cases h)]
      exact h1
    · rw [h2]
      have hs : stageSimpleVariable (decimal n) = Comp.match_ (n : Int) := by
        simp [stageSimpleVariable, utf8_eq, atoi_decimal n ha]
      exact den_varV val D _ _ (fun ctx => by rw [hs, hv.group]; rfl) (by intro s h; cases h)
  | .key k, σ, fuel, ha, _, hd => by
    obtain ⟨g, rfl⟩ : ∃ g, fuel = g + 1 := ⟨fuel - 1, by simp [depth] at hd; omega⟩
    simp only [Admissible] at ha
    obtain ⟨st, h1, h2⟩ := compileF_var_den reg opt g σ k ha.1
    refine ⟨st, ?_, ?_⟩
    · rw [argString, printArg_stmt σ _ (by intro s h; cases h)]
      exact h1
    · rw [h2]
      have hs : stageSimpleVariable k = Comp.key (utf8 k) := by
        simp [stageSimpleVariable, utf8_eq, ha.2]
      exact den_varV val D _ _ (fun ctx => by rw [hs, hv.key]; rfl) (by intro s h; cases h)
  | .call f args, σ, fuel, ha, hreg, hd => by
    obtain ⟨g, rfl⟩ : ∃ g, fuel = g + 1 := ⟨fuel - 1, by simp [depth] at hd; omega⟩
    have hd' : depthArgs args ≤ g := by simp [depth] at hd; omega
    have hsplit := split_call σ f args ha
    have hpiece := argPiece_ok (.call f args) σ ha
    simp only [Admissible] at ha
    simp only [RegDenV] at hreg
    obtain ⟨⟨b, hb, himpl⟩, hregs⟩ := hreg
    obtain ⟨cargs, hc, hden⟩ := args_denV args σ 0 g ha.2.2 hregs hd'
    obtain ⟨stage, hst, hsd⟩ := himpl cargs hden
    cases args with
    | nil => exact absurd rfl ha.2.1
    | cons a rest =>
      have hin : Inner (stmtBody σ (.call f (a :: rest))) := by
        simpa [argPiece, Piece.ok] using hpiece
      obtain ⟨j, hj⟩ := compileF_braced g reg opt hin
      simp only [argStrings] at hsplit hc
      have hclose := close_call g reg opt ('{' :: (stmtBody σ (.call f (a :: rest)) ++ ['}'])) j
          ⟨[], [], stmtBody σ (.call f (a :: rest)), 0, 1⟩ f _ _ b cargs stage hsplit hb hc hst
      obtain ⟨out, h1, h2⟩ := finishC_single opt ('{' :: (stmtBody σ (.call f (a :: rest)) ++ ['}'])) stage
        ⟨_, hsd.run emptyCtx⟩
      refine ⟨out, ?_, by rw [h2]; exact hsd⟩
      rw [argString, printArg_stmt σ _ (by intro s h; cases h), hj, hclose]
      exact h1
theorem args_denV : ∀ (l : List C09.Expr) (σ : Style) (i fuel : Nat), AdmissibleArgs l → RegDenArgsV reg val D l →
    depthArgs l ≤ fuel →
    ∃ cargs, compileArgs fuel reg opt (argStrings σ i l) = .ok (cargs, []) ∧ DenArgsV val D cargs l
  | [], σ, i, fuel, _, _, _ => ⟨[], by rw [argStrings, compileArgs], trivial⟩
  | a :: rest, σ, i, fuel, ha, hreg, hd => by
    simp only [AdmissibleArgs] at ha
    simp only [RegDenArgsV] at hreg
    simp only [depthArgs] at hd
    obtain ⟨stages, h1, r1⟩ := arg_denV a (σ.child i) fuel ha.1 hreg.1 (by omega)
    obtain ⟨cargs, h2, r2⟩ := args_denV rest σ (i + 1) fuel ha.2 hreg.2 (by omega)
    refine ⟨joinStages stages :: cargs, ?_, ⟨r1, r2⟩⟩
    rw [argStrings, compileArgs, h1]
    simp only []
    rw [h2]
    simp
end

/-- **A printed tree, optimiser on or off, general registry hypothesis.** -/
theorem printTop_denV (σ : Style) (e : C09.Expr) (ha : AdmissibleTop e) (hreg : RegDenV reg val D e) :
    ∃ stages, compile reg opt (printTop σ e) = .ok (stages, []) ∧
      ∀ ctx, (buildKey stages).run ctx = .ok (val e ctx) := by
  have key : ∀ e : C09.Expr, Admissible e → RegDenV reg val D e →
      ∃ stages, compile reg opt (argString σ e) = .ok (stages, []) ∧
        ∀ ctx, (buildKey stages).run ctx = .ok (val e ctx) := by
    intro e ha hreg
    obtain ⟨st, h1, h2⟩ := arg_denV reg val D opt hD hv e σ ((argString σ e).length + 1 + depth e) ha hreg (by omega)
    refine ⟨st, ?_, fun ctx => ?_⟩
    · have := compileF_fuel_irrelevant reg opt ((argString σ e).length + 1) (argString σ e) (by omega)
        ((argString σ e).length + 1 + depth e) ((argString σ e).length + 1) (by omega) (by omega)
      rw [compile, ← this]; exact h1
    · rw [buildKey, ← joinStages_eq]; exact h2.run ctx
  cases e with
  | lit s =>
    obtain ⟨st, h1, h2⟩ := compileF_escapeLit (escapeLit s).length reg opt s
    exact ⟨st, h1, fun ctx => by rw [hv.lit]; exact h2 ctx⟩
  | group n => exact key _ ha hreg
  | key k => exact key _ ha hreg
  | call f args => exact key _ ha hreg

end

end Rare.C09

import Rare.Proofs.C19F64c
import Rare.Proofs.F64Parse
import Rare.Proofs.F64Val
/-!
C19: a decimal integer as CONSTANT of a formula (`strconv.ParseInt(s, 0, 64)`, then `float64(n)`) and as
the TEXT a variable is bound to (`strconv.ParseFloat(s, 64)` in the wrapper's look-up) denote the same binary64
value – for every int64, not only below 2^53 (both round the integer once, to nearest even).  With a leading
`-` the bound text denotes the negation, which is what the formula `-n` (unary minus applied to the constant)
evaluates to.
-/
namespace Rare.C19
open Rare Rare.F64 Rare.C19.IEEE

theorem dec_digit_facts : ∀ b : UInt8, isBaseDigit 10 b = true →
    isDigitB b = true ∧ litDigit b = b.toNat - 48 ∧ isAlpha b = false := by
  apply byte_forall
  decide +kernel

theorem baseVal_foldl_digitsVal : ∀ (ds : Bytes) (acc : Nat), (∀ d ∈ ds, isBaseDigit 10 d = true) →
    ds.foldl (fun a d => a * 10 + litDigit d) acc = digitsVal ds acc := by
  intro ds
  induction ds with
  | nil => intro acc _; rfl
  | cons d r ih =>
    intro acc h
    simp only [List.foldl_cons, digitsVal, (dec_digit_facts d (h d (by simp))).2.1]
    exact ih _ (fun x hx => h x (by simp [hx]))

theorem baseVal_digitsVal (ds : Bytes) (h : ∀ d ∈ ds, isBaseDigit 10 d = true) :
    baseVal 10 ds = digitsVal ds 0 := baseVal_foldl_digitsVal ds 0 h

theorem all_isDigitB (ds : Bytes) (h : ∀ d ∈ ds, isBaseDigit 10 d = true) : ds.all isDigitB = true := by
  rw [List.all_eq_true]
  intro d hd
  exact (dec_digit_facts d (h d hd)).1

/-- `ParseFloat` of a decimal integer text up to 2^63 is `float64` of the integer. -/
theorem parseFloat_dec_int (ds : Bytes) (hne : ds ≠ []) (hd : ∀ d ∈ ds, isBaseDigit 10 d = true)
    (hr : baseVal 10 ds ≤ 9223372036854775808) :
    F64.parseFloat ds = some (ofInt (baseVal 10 ds)) := by
  have h := parseFloat_digits none ds hne (all_isDigitB ds hd) (Or.inl rfl) (by rw [← baseVal_digitsVal ds hd]; exact hr)
  simp only [List.nil_append] at h
  rw [h, ← baseVal_digitsVal ds hd]
  rfl

theorem ofRatS_neg_pos {q : Rat} (hq : 0 < q) : ofRatS true (-q) = F64.neg (ofRatS false q) := by
  have hq0 : q ≠ 0 := by grind
  have hn0 : -q ≠ 0 := by grind
  have hnlt : ¬ q < 0 := by grind
  have hneg : -q < 0 := by grind
  have ha1 : absRat (-q) = q := by unfold absRat; simp [hneg]
  have ha2 : absRat q = q := by unfold absRat; simp [hnlt]
  unfold ofRatS
  simp only [hq0, hn0, if_false, hneg, hnlt, decide_true, decide_false, ha1, ha2]
  have hm := roundMag_lt_P63 q
  unfold F64.neg
  rw [sign_ofSM false hm, mag_ofSM false hm]
  rfl

theorem ofRatS_neg_nat (n : Nat) : ofRatS true (-(n : Rat)) = F64.neg (ofInt (n : Int)) := by
  have e : ((n : Int) : Rat) = (n : Rat) := rfl
  unfold ofInt ofRat
  rw [e]
  by_cases h0 : n = 0
  · subst h0; decide +kernel
  · exact ofRatS_neg_pos (by
      have : 0 < n := Nat.pos_of_ne_zero h0
      exact_mod_cast this)

/-- …and with a leading `-` the negation of it (also for 0: `-0`). -/
theorem parseFloat_neg_dec_int (ds : Bytes) (hne : ds ≠ []) (hd : ∀ d ∈ ds, isBaseDigit 10 d = true)
    (hr : baseVal 10 ds ≤ 9223372036854775808) :
    F64.parseFloat (45 :: ds) = some (F64.neg (ofInt (baseVal 10 ds))) := by
  have h := parseFloat_digits (some 45) ds hne (all_isDigitB ds hd) (Or.inr (Or.inr rfl))
    (by rw [← baseVal_digitsVal ds hd]; exact hr)
  simp only [List.cons_append, List.nil_append] at h
  rw [h, ← baseVal_digitsVal ds hd]
  congr 1
  simp only [beq_self_eq_true, if_true]
  exact ofRatS_neg_nat _

/-- **A decimal integer spelling (no leading zero, ANY length) reads the same as constant and as bound text**:
    what `compileToken` makes of the token (`ParseInt(s, 0, 64)` then `float64`, or – beyond int64 –
    `ParseFloat`) is what `ParseFloat` makes of the same text in the wrapper's look-up; a spelling too long
    for `ParseFloat` (≥ 1.8e308) is neither a constant nor a legal binding. -/
theorem classify_dec (L : Libm) (ds : Bytes) (hne : ds ≠ []) (h0 : ds.head? ≠ some 48)
    (hd : ∀ d ∈ ds, isBaseDigit 10 d = true) :
    classify (arith L) ds = (F64.parseFloat ds).map Atom.num := by
  have hal : ∀ b ∈ ds, isAlnumB b = true := by
    intro b hb
    have := hd b hb
    simp only [isBaseDigit, Bool.and_eq_true] at this
    exact this.1
  obtain ⟨hbox, hu⟩ := alnum_plain hne hal
  rw [parseIntLit_dec ds hne h0 hd] at hu
  by_cases hr : baseVal 10 ds ≤ 9223372036854775807
  · rw [if_pos hr] at hu
    rw [parseFloat_dec_int ds hne hd (by omega)]
    cases ds with
    | nil => exact absurd rfl hne
    | cons c r => simp only [classify, classifyE, hbox, Bool.false_eq_true, if_false, parseNum, hu, Option.map_some]; rfl
  · rw [if_neg hr] at hu
    cases ds with
    | nil => exact absurd rfl hne
    | cons c r =>
      have hvar : validVariableName (c :: r) = false := by
        simp [validVariableName, (dec_digit_facts c (hd c List.mem_cons_self)).2.2]
      have hpl : (arith L).parseFloat (c :: r) = parseLit (c :: r) := rfl
      simp only [classify, classifyE, hbox, Bool.false_eq_true, if_false, parseNum, hu, hpl, parseLit]
      cases F64.parseFloat (c :: r) with
      | none => simp [hvar]
      | some x => rfl

end Rare.C19

import Rare.Proofs.C19F64a
import Rare.Spec.C19F64
import Rare.Proofs.F64Fmt
/-!
C19, IEEE instance, part (b): the operator table unfolded, integer formulas are exact, comparisons
answer 0 or 1, NaN facts, the guarded integer operators, rendering of integer results.
-/
set_option linter.unusedSimpArgs false

namespace Rare.C19.IEEE
open Rare Rare.F64 Rare.C19

variable (L : Libm)

/-! ### the operator table, unfolded once -/

theorem bin_add (a b : F64) : (arith L).bin [43] a b = add a b := by
  simp [arith, arithOf, binOf, prim, ltF, leF, eqF, andF, orF]
theorem bin_mul (a b : F64) : (arith L).bin [42] a b = mul a b := by
  simp [arith, arithOf, binOf, prim, ltF, leF, eqF, andF, orF]
theorem bin_sub (a b : F64) : (arith L).bin [45] a b = sub a b := by
  simp [arith, arithOf, binOf, prim, ltF, leF, eqF, andF, orF]
theorem bin_div (a b : F64) : (arith L).bin [47] a b = div a b := by
  simp [arith, arithOf, binOf, prim, ltF, leF, eqF, andF, orF]
theorem bin_pow (a b : F64) : (arith L).bin [94] a b = (powCore a b).getD (L.pow a b) := by
  simp [arith, arithOf, binOf, prim, ltF, leF, eqF, andF, orF]
theorem bin_mod (a b : F64) : (arith L).bin [37] a b = intBinF modI a b := by
  simp [arith, arithOf, binOf, prim, ltF, leF, eqF, andF, orF]
theorem bin_shl (a b : F64) : (arith L).bin [60, 60] a b = intBinF shlI a b := by
  simp [arith, arithOf, binOf, prim, ltF, leF, eqF, andF, orF]
theorem bin_shr (a b : F64) : (arith L).bin [62, 62] a b = intBinF shrI a b := by
  simp [arith, arithOf, binOf, prim, ltF, leF, eqF, andF, orF]
theorem bin_and (a b : F64) : (arith L).bin [38] a b = intBinF andI a b := by
  simp [arith, arithOf, binOf, prim, ltF, leF, eqF, andF, orF]
theorem bin_or (a b : F64) : (arith L).bin [124] a b = intBinF orI a b := by
  simp [arith, arithOf, binOf, prim, ltF, leF, eqF, andF, orF]
theorem bin_lt (a b : F64) : (arith L).bin [60] a b = cond (lt a b) := by
  simp [arith, arithOf, binOf, prim, ltF, leF, eqF, andF, orF]
theorem bin_le (a b : F64) : (arith L).bin [60, 61] a b = cond (le a b) := by
  simp [arith, arithOf, binOf, prim, ltF, leF, eqF, andF, orF]
theorem bin_gt (a b : F64) : (arith L).bin [62] a b = cond (lt b a) := by
  simp [arith, arithOf, binOf, prim, ltF, leF, eqF, andF, orF]
theorem bin_ge (a b : F64) : (arith L).bin [62, 61] a b = cond (le b a) := by
  simp [arith, arithOf, binOf, prim, ltF, leF, eqF, andF, orF]
theorem bin_eq (a b : F64) : (arith L).bin [61, 61] a b = cond (F64.eq a b) := by
  simp [arith, arithOf, binOf, prim, ltF, leF, eqF, andF, orF]
theorem bin_andand (a b : F64) : (arith L).bin [38, 38] a b = cond (truthy a && truthy b) := by
  simp [arith, arithOf, binOf, prim, ltF, leF, eqF, andF, orF]
theorem bin_oror (a b : F64) : (arith L).bin [124, 124] a b = cond (truthy a || truthy b) := by
  simp [arith, arithOf, binOf, prim, ltF, leF, eqF, andF, orF]
theorem un_neg (a : F64) : (arith L).un [45] a = neg a := by
  simp [arith, arithOf, unOf, prim]
theorem un_not (a : F64) : (arith L).un [33] a = cond (!truthy a) := by
  simp [arith, arithOf, unOf, prim, notF]

/-- A key `exactFn` knows is bound to that function, whatever `L` is. -/
theorem un_exact {key : Bytes} {f : F64 → F64} (h : exactFn key = some f) (a : F64) : (arith L).un key a = f a := by
  have h1 : key ≠ [45] := by rintro rfl; cases h
  have h2 : key ≠ [33] := by rintro rfl; cases h
  simp only [arith, arithOf, unOf, prim, if_neg h1, if_neg h2, h]

theorem un_abs (a : F64) : (arith L).un [97, 98, 115] a = F64.abs a := un_exact L rfl a
theorem un_sqrt (a : F64) : (arith L).un [115, 113, 114, 116] a = sqrt a := un_exact L rfl a
theorem un_floor (a : F64) : (arith L).un [102, 108, 111, 111, 114] a = F64.floor a := un_exact L rfl a
theorem un_ceil (a : F64) : (arith L).un [99, 101, 105, 108] a = F64.ceil a := un_exact L rfl a
theorem un_round (a : F64) : (arith L).un [114, 111, 117, 110, 100] a = roundHalfAway a := un_exact L rfl a
theorem un_log (a : F64) : (arith L).un [108, 111, 103] a = Rare.C11.Log.logAsm a := un_exact L rfl a
theorem un_log10 (a : F64) : (arith L).un [108, 111, 103, 49, 48] a = Rare.C11.Log.log10 a := un_exact L rfl a
theorem un_log2 (a : F64) : (arith L).un [108, 111, 103, 50] a = Rare.C11.Log.log2 a := un_exact L rfl a
theorem un_sin (a : F64) : (arith L).un (ascii "sin") a = Rare.C19.Trig.sin a := by
  rw [show ascii "sin" = [115, 105, 110] by decide +kernel]; exact un_exact L rfl a
theorem un_cos (a : F64) : (arith L).un (ascii "cos") a = Rare.C19.Trig.cos a := by
  rw [show ascii "cos" = [99, 111, 115] by decide +kernel]; exact un_exact L rfl a
theorem un_tan (a : F64) : (arith L).un (ascii "tan") a = Rare.C19.Trig.tan a := by
  rw [show ascii "tan" = [116, 97, 110] by decide +kernel]; exact un_exact L rfl a
theorem un_asin (a : F64) : (arith L).un (ascii "asin") a = Rare.C19.Trig.asin a := by
  rw [show ascii "asin" = [97, 115, 105, 110] by decide +kernel]; exact un_exact L rfl a
theorem un_acos (a : F64) : (arith L).un (ascii "acos") a = Rare.C19.Trig.acos a := by
  rw [show ascii "acos" = [97, 99, 111, 115] by decide +kernel]; exact un_exact L rfl a
theorem un_atan (a : F64) : (arith L).un (ascii "atan") a = Rare.C19.Trig.atan a := by
  rw [show ascii "atan" = [97, 116, 97, 110] by decide +kernel]; exact un_exact L rfl a
theorem un_exp2 (a : F64) : (arith L).un (ascii "exp2") a = exp2 a := by
  rw [show ascii "exp2" = [101, 120, 112, 50] by decide +kernel]; exact un_exact L rfl a

/-! ### small facts about values -/

theorem cond_cases (c : Bool) : cond c = one ∨ cond c = zeroP := by
  cases c
  · exact Or.inr rfl
  · exact Or.inl rfl

theorem one_eq_ofInt : one = ofInt 1 := by decide +kernel
theorem zeroP_eq_ofInt : zeroP = ofInt 0 := by decide +kernel

theorem toRat?_ofInt {k : Int} (h : k.natAbs ≤ 9007199254740992) : (ofInt k).toRat? = some (k : Rat) :=
  toRat?_eq_some.mpr (isFinite_ofInt k h)

theorem toRat?_cond (c : Bool) : (cond c).toRat? = some ((b2i c : Int) : Rat) := by
  cases c
  · show zeroP.toRat? = _
    rw [zeroP_eq_ofInt]; exact toRat?_ofInt (by decide)
  · show one.toRat? = _
    rw [one_eq_ofInt]; exact toRat?_ofInt (by decide)

theorem toRat?_neg {x : F64} {q : Rat} (h : x.toRat? = some q) : (neg x).toRat? = some (-q) := by
  obtain ⟨hf, hv⟩ := toRat?_eq_some.mp h
  exact toRat?_eq_some.mpr ⟨by rw [isFinite_neg]; exact hf, by rw [toRat_neg, hv]⟩

theorem inRange_some {x n : Int} (h : inRange x = some n) : x = n ∧ n.natAbs ≤ 9007199254740992 := by
  unfold inRange at h
  split at h
  · injection h with h; subst h; exact ⟨rfl, by assumption⟩
  · cases h

theorem eq_as_le (x y : F64) : F64.eq x y = (le x y && le y x) := by
  unfold F64.eq le
  cases x.isNaN <;> cases y.isNaN <;> simp
  by_cases h : x.key = y.key
  · simp [h]
  · simp [h]; omega

/-- Comparisons of integer-valued floats are comparisons of the integers. -/
theorem lt_int {x y : F64} {a b : Int} (hx : x.toRat? = some (a : Rat)) (hy : y.toRat? = some (b : Rat)) :
    lt x y = decide (a < b) := by
  obtain ⟨fx, vx⟩ := toRat?_eq_some.mp hx
  obtain ⟨fy, vy⟩ := toRat?_eq_some.mp hy
  have h := lt_iff_toRat_lt fx fy
  rw [vx, vy, Rat.intCast_lt_intCast] at h
  by_cases hab : a < b
  · rw [h.mpr hab]; simp [hab]
  · have : ¬ (lt x y = true) := fun hc => hab (h.mp hc)
    simp [hab]; simpa using this

theorem le_int {x y : F64} {a b : Int} (hx : x.toRat? = some (a : Rat)) (hy : y.toRat? = some (b : Rat)) :
    le x y = decide (a ≤ b) := by
  obtain ⟨fx, vx⟩ := toRat?_eq_some.mp hx
  obtain ⟨fy, vy⟩ := toRat?_eq_some.mp hy
  have h := le_iff_toRat_le fx fy
  rw [vx, vy, Rat.intCast_le_intCast] at h
  by_cases hab : a ≤ b
  · rw [h.mpr hab]; simp [hab]
  · have : ¬ (le x y = true) := fun hc => hab (h.mp hc)
    simp [hab]; simpa using this

theorem eq_int {x y : F64} {a b : Int} (hx : x.toRat? = some (a : Rat)) (hy : y.toRat? = some (b : Rat)) :
    F64.eq x y = decide (a = b) := by
  rw [eq_as_le, le_int hx hy, le_int hy hx]
  by_cases h : a = b
  · subst h; simp
  · simp [h]; omega

/-! ### integer formulas are exact -/

/-- The float binding carries the integers of the integer binding (wherever they are within ±2^53). -/
def IntBinding (ib : Binding Int) (b : Binding F64) : Prop :=
  (∀ k, (ib.getKey k).natAbs ≤ 9007199254740992 → (b.getKey k).toRat? = some ((ib.getKey k : Int) : Rat)) ∧
  (∀ i, (ib.getMatch i).natAbs ≤ 9007199254740992 → (b.getMatch i).toRat? = some ((ib.getMatch i : Int) : Rat))

theorem alpha_facts : ∀ c : UInt8, isAlpha c = true → isDigitB c = false ∧ c ≠ 46 := by
  apply byte_forall
  decide +kernel

theorem alpha_alnum : ∀ c : UInt8, (isAlpha c || isDigitB c) = true → isAlnumB c = true := by
  apply byte_forall
  decide +kernel

/-- A valid variable name has no underscore, so `ParseInt` reads it as it reads any underscore-free text. -/
theorem varname_no_underscore {v : Bytes} (h : validVariableName v = true) : v.contains 95 = false := by
  cases hc : v.contains 95 with
  | false => rfl
  | true =>
    have hm : (95 : UInt8) ∈ v := by simpa using hc
    cases v with
    | nil => cases hm
    | cons c r =>
      simp only [validVariableName, Bool.and_eq_true, List.all_eq_true] at h
      rcases List.mem_cons.mp hm with e | hr
      · rw [← e] at h; exact absurd h.1 (by decide)
      · exact absurd (h.2 95 hr) (by decide)

theorem all_alnum {v : Bytes} (h : v.all isAlnumB = true) : ∀ b ∈ v, isAlnumB b = true := by
  intro b hb
  exact List.all_eq_true.mp h b hb

theorem intLeaf_sound {ib : Binding Int} {b : Binding F64} (hb : IntBinding ib b) (v : Bytes) (n : Int)
    (h : intLeaf ib v = some n) :
    ∃ a, classify (arith L) v = some a ∧ (a.eval b).toRat? = some (n : Rat) := by
  unfold intLeaf at h
  by_cases hbox : isBoxed v = true
  · simp only [hbox, if_true] at h
    cases hat : atoi ((v.drop 1).dropLast) with
    | some i =>
      rw [hat] at h
      obtain ⟨e, hr⟩ := inRange_some h
      refine ⟨.idx i, by simp only [classify, classifyE, hbox, if_true, hat], ?_⟩
      have := hb.2 i (by rw [e]; exact hr)
      rw [e] at this
      exact this
    | none =>
      rw [hat] at h
      obtain ⟨e, hr⟩ := inRange_some h
      refine ⟨.named ((v.drop 1).dropLast), by simp only [classify, classifyE, hbox, if_true, hat], ?_⟩
      have := hb.1 ((v.drop 1).dropLast) (by rw [e]; exact hr)
      rw [e] at this
      exact this
  · simp only [hbox, Bool.false_eq_true, if_false] at h
    cases hp : parseIntLit v with
    | some k =>
      rw [hp] at h
      simp only at h
      by_cases hal : v.all isAlnumB = true
      · simp only [hal, if_true] at h
        obtain ⟨e, hr⟩ := inRange_some h
        subst e
        have hne : v ≠ [] := by
          intro hv; subst hv; simp [parseIntLit] at hp
        have hc := classifyE_int (arith L) v k hne (all_alnum hal) hp
        refine ⟨.num ((arith L).ofInt k), by simp [classify, hc], ?_⟩
        exact toRat?_ofInt hr
      · simp [hal] at h
    | none =>
      rw [hp] at h
      simp only at h
      by_cases hv : (validVariableName v && (F64.parseFloat v).isNone) = true
      · simp only [hv, if_true] at h
        obtain ⟨e, hr⟩ := inRange_some h
        simp only [Bool.and_eq_true, Option.isNone_iff_eq_none] at hv
        obtain ⟨hvn, hpf⟩ := hv
        have hcl : classify (arith L) v = some (.named v) := by
          cases v with
          | nil => simp [validVariableName] at hvn
          | cons c r =>
            have hc : isAlpha c = true := by
              simp only [validVariableName, Bool.and_eq_true] at hvn; exact hvn.1
            obtain ⟨hd, h46⟩ := alpha_facts c hc
            have hpl : (arith L).parseFloat (c :: r) = .notNum := by
              show parseLit (c :: r) = _
              unfold parseLit; rw [hpf]
            have hu : parseIntU (c :: r) = none := by
              unfold parseIntU; rw [varname_no_underscore hvn]; exact hp
            simp [classify, classifyE, hbox, parseNum, hu, hpl, hvn]
        refine ⟨.named v, hcl, ?_⟩
        have := hb.1 v (by rw [e]; exact hr)
        rw [e] at this
        exact this
      · simp [hv] at h

theorem intEval_sound {ib : Binding Int} {b : Binding F64} (hb : IntBinding ib b) : ∀ (t : Tree) (n : Int),
    Tree.intEval ib t = some n → (t.eval (arith L) (classify (arith L)) b).toRat? = some (n : Rat) := by
  intro t
  induction t with
  | lit v =>
    intro n h
    obtain ⟨a, hc, hv⟩ := intLeaf_sound L hb v n h
    simp only [Tree.eval, hc]; exact hv
  | grp s e ih => intro n h; exact ih n h
  | un m e ih =>
    intro n h
    simp only [Tree.intEval] at h
    cases he : Tree.intEval ib e with
    | none => rw [he] at h; cases h
    | some x =>
      rw [he] at h
      simp only at h
      by_cases hm : m = [45]
      · subst hm
        simp only [if_true] at h
        obtain ⟨e1, _⟩ := inRange_some h
        subst e1
        simp only [Tree.eval, un_neg]
        have := toRat?_neg (ih x he)
        rw [Rat.intCast_neg]; exact this
      · simp [hm] at h
  | bin i op l r ihl ihr =>
    intro n h
    simp only [Tree.intEval] at h
    cases hl : Tree.intEval ib l with
    | none => rw [hl] at h; cases h
    | some a =>
      cases hr : Tree.intEval ib r with
      | none => rw [hl, hr] at h; cases h
      | some c =>
        rw [hl, hr] at h
        simp only at h
        have ha := ihl a hl
        have hc := ihr c hr
        simp only [Tree.eval]
        by_cases h1 : op = [43]
        · subst h1
          obtain ⟨rfl, hb1⟩ := inRange_some (by rwa [if_pos rfl] at h)
          rw [bin_add]; exact add_exact_int ha hc hb1
        rw [if_neg h1] at h
        by_cases h2 : op = [45]
        · subst h2
          obtain ⟨rfl, hb1⟩ := inRange_some (by rwa [if_pos rfl] at h)
          rw [bin_sub]; exact sub_exact_int ha hc hb1
        rw [if_neg h2] at h
        by_cases h3 : op = [42]
        · subst h3
          obtain ⟨rfl, hb1⟩ := inRange_some (by rwa [if_pos rfl] at h)
          rw [bin_mul]; exact mul_exact_int ha hc hb1
        rw [if_neg h3] at h
        by_cases h4 : op = [60]
        · subst h4
          rw [if_pos rfl] at h; cases h
          rw [bin_lt, lt_int ha hc]; exact toRat?_cond _
        rw [if_neg h4] at h
        by_cases h5 : op = [60, 61]
        · subst h5
          rw [if_pos rfl] at h; cases h
          rw [bin_le, le_int ha hc]; exact toRat?_cond _
        rw [if_neg h5] at h
        by_cases h6 : op = [62]
        · subst h6
          rw [if_pos rfl] at h; cases h
          rw [bin_gt, lt_int hc ha]; exact toRat?_cond _
        rw [if_neg h6] at h
        by_cases h7 : op = [62, 61]
        · subst h7
          rw [if_pos rfl] at h; cases h
          rw [bin_ge, le_int hc ha]; exact toRat?_cond _
        rw [if_neg h7] at h
        by_cases h8 : op = [61, 61]
        · subst h8
          rw [if_pos rfl] at h; cases h
          rw [bin_eq, eq_int ha hc]; exact toRat?_cond _
        rw [if_neg h8] at h; cases h

/-- A non-zero integer value within ±2^53 is rendered as that integer (`strconv.Itoa`). -/
theorem render_int {x : F64} {n : Int} (h : x.toRat? = some (n : Rat)) (hn : n ≠ 0)
    (hr : n.natAbs ≤ 9007199254740992) : render x = itoa n := by
  obtain ⟨hf, hv⟩ := toRat?_eq_some.mp h
  obtain ⟨hf', hv'⟩ := isFinite_ofInt n hr
  have hne : x.toRat ≠ 0 := by
    rw [hv]; intro e
    have : (n : Rat) = ((0 : Int) : Rat) := e
    exact hn (Rat.intCast_inj.mp this)
  have : x = ofInt n := eq_of_toRat_eq hf hf' (by rw [hv, hv']) hne
  rw [this]
  exact format_ofInt hr

/-! ### NaN -/

theorem isNaN_nan : F64.nan.isNaN = true := by decide

theorem isNaN_neg (x : F64) : (neg x).isNaN = x.isNaN := by
  unfold isNaN; rw [mag_neg]

theorem add_nan {a b : F64} (h : a.isNaN = true ∨ b.isNaN = true) : add a b = F64.nan := by
  unfold add
  rcases h with h | h <;> simp [h]

theorem sub_nan {a b : F64} (h : a.isNaN = true ∨ b.isNaN = true) : sub a b = F64.nan := by
  unfold sub
  apply add_nan
  rw [isNaN_neg]; exact h

theorem mul_nan {a b : F64} (h : a.isNaN = true ∨ b.isNaN = true) : mul a b = F64.nan := by
  unfold mul
  rcases h with h | h <;> simp [h]

theorem div_nan {a b : F64} (h : a.isNaN = true ∨ b.isNaN = true) : div a b = F64.nan := by
  unfold div
  rcases h with h | h <;> simp [h]

theorem lt_nan {a b : F64} (h : a.isNaN = true ∨ b.isNaN = true) : lt a b = false := by
  unfold lt
  rcases h with h | h <;> simp [h]

theorem le_nan {a b : F64} (h : a.isNaN = true ∨ b.isNaN = true) : le a b = false := by
  unfold le
  rcases h with h | h <;> simp [h]

theorem eq_nan {a b : F64} (h : a.isNaN = true ∨ b.isNaN = true) : F64.eq a b = false := by
  unfold F64.eq
  rcases h with h | h <;> simp [h]

theorem truthy_nan {a : F64} (h : a.isNaN = true) : truthy a = true := by
  unfold truthy
  rw [eq_nan (Or.inl h)]; rfl

theorem integral_nan (f : Rat → Int) {a : F64} (h : a.isNaN = true) : integral f a = F64.nan := by
  unfold integral; simp [h]

theorem sqrt_nan {a : F64} (h : a.isNaN = true) : sqrt a = F64.nan := by
  unfold sqrt; simp [h]

theorem abs_isNaN (a : F64) : (F64.abs a).isNaN = a.isNaN := by
  unfold F64.abs isNaN
  rw [mag_ofSM false (mag_lt a)]

/-! ### `math.Pow`'s leading special cases -/

theorem eq_zero_of_mag {y : F64} (h : y.mag = 0) : F64.eq y zeroP = true := by
  have hk : y.key = 0 := by unfold key; rw [h]; split <;> rfl
  have hn : y.isNaN = false := by unfold isNaN; rw [h]; decide
  unfold F64.eq
  rw [hn, hk]; decide

theorem pow_y_zero {x y : F64} (h : y.mag = 0) : powCore x y = some one := by
  unfold powCore powSpecial
  rw [eq_zero_of_mag h]; rfl

theorem eq_self_one : F64.eq one one = true := by decide

theorem pow_one_y (y : F64) : powCore one y = some one := by
  unfold powCore powSpecial
  rw [eq_self_one, Bool.or_true]; rfl

/-- `==` on a non-NaN pattern and itself, and `x == 1` only for `x = 1`. -/
theorem eq_one_iff (x : F64) : F64.eq x one = true ↔ x = one := by
  constructor
  · intro h
    unfold F64.eq at h
    simp only [Bool.and_eq_true, Bool.not_eq_true', decide_eq_true_eq] at h
    obtain ⟨_, hk⟩ := h
    have h1 : one.key = 4607182418800017408 := by decide
    rw [h1] at hk
    have hs : x.sign = false := by
      cases hs : x.sign with
      | false => rfl
      | true => unfold key at hk; rw [hs] at hk; simp at hk; omega
    have hm : x.mag = 4607182418800017408 := by
      unfold key at hk; rw [hs] at hk; simp at hk; omega
    rw [← ofSM_sign_mag x, hs, hm]; rfl
  · intro h; subst h; decide

theorem eq_one_false {x : F64} (h : x ≠ one) : F64.eq x one = false := by
  cases hx : F64.eq x one with
  | false => rfl
  | true => exact absurd ((eq_one_iff x).mp hx) h

theorem pow_x_one {x : F64} (h : x ≠ one) : powCore x one = some x := by
  have h2 : F64.eq one zeroP = false := by decide
  unfold powCore powSpecial
  rw [h2, eq_one_false h, eq_self_one]; rfl

theorem eq_zero_iff_mag (y : F64) (_hn : y.isNaN = false) : F64.eq y zeroP = true ↔ y.mag = 0 := by
  constructor
  · intro h
    unfold F64.eq at h
    simp only [Bool.and_eq_true, decide_eq_true_eq] at h
    have hz : zeroP.key = 0 := by decide
    have hk := h.2
    rw [hz] at hk
    unfold key at hk
    split at hk <;> omega
  · exact eq_zero_of_mag

theorem eq_zero_false {y : F64} (hy : y.mag ≠ 0) : F64.eq y zeroP = false := by
  cases hy0 : F64.eq y zeroP with
  | false => rfl
  | true =>
    have : y.isNaN = false := by unfold F64.eq at hy0; simp at hy0; exact hy0.1.1
    exact absurd ((eq_zero_iff_mag y this).mp hy0) hy

theorem pow_nan_x {x y : F64} (hx : x.isNaN = true) (hy : y.mag ≠ 0) :
    ∃ r, powCore x y = some r ∧ r.isNaN = true := by
  have h1 : F64.eq y zeroP = false := eq_zero_false hy
  have h2 : F64.eq x one = false := eq_nan (Or.inl hx)
  cases h3 : F64.eq y one with
  | false =>
    refine ⟨F64.nan, ?_, isNaN_nan⟩
    unfold powCore powSpecial
    simp [h1, h2, h3, hx]
  | true =>
    -- `Pow(NaN, 1)` returns `x` itself
    have := (eq_one_iff y).mp h3
    subst this
    have hne : x ≠ one := by intro e; subst e; exact absurd hx (by decide)
    exact ⟨x, pow_x_one hne, hx⟩

theorem pow_nan_y {x y : F64} (hy : y.isNaN = true) (hx : x ≠ one) : powCore x y = some F64.nan := by
  have h1 : F64.eq y zeroP = false := eq_nan (Or.inl hy)
  have h2 : F64.eq x one = false := eq_one_false hx
  have h3 : F64.eq y one = false := eq_nan (Or.inl hy)
  unfold powCore powSpecial
  simp [h1, h2, h3, hy]

theorem pow_half {x : F64} (hf : x.isFinite = true) (hz : x.mag ≠ 0) (h1 : x ≠ one) :
    powCore x half = some (sqrt x) := by
  have hn := not_nan_of_finite hf
  have hi := not_inf_of_finite hf
  have e1 : F64.eq half zeroP = false := by decide
  have e2 : F64.eq x one = false := eq_one_false h1
  have e3 : F64.eq half one = false := by decide
  have e4 : half.isNaN = false := by decide
  have e5 : F64.eq x zeroP = false := eq_zero_false hz
  have e6 : half.isInf = false := by decide
  have e7 : F64.eq half half = true := by decide
  unfold powCore powSpecial
  simp [e1, e2, e3, e4, e5, e6, e7, hn, hi]

/-! ### the guarded integer operators -/

theorem mod_zero {a b : F64} (h : toInt64 b = 0) : intBinF modI a b = F64.nan := by
  unfold intBinF modI; simp [h]

theorem mod_nonzero {a b : F64} (h : toInt64 b ≠ 0) :
    intBinF modI a b = ofInt (Int.tmod (toInt64 a) (toInt64 b)) := by
  unfold intBinF modI; simp [h]

/-- `int64(x)` truncates toward zero inside the int64 range. -/
theorem toInt64_trunc {x : F64} (hf : x.isFinite = true) (h1 : minInt64 ≤ truncRat x.toRat)
    (h2 : truncRat x.toRat ≤ maxInt64) : toInt64 x = truncRat x.toRat := by
  unfold toInt64
  have : ¬ (truncRat x.toRat < minInt64 ∨ maxInt64 < truncRat x.toRat) := by omega
  simp [hf, this]

theorem shl_neg {a b : F64} (h : toInt64 b < 0) : intBinF shlI a b = F64.nan := by
  unfold intBinF shlI; simp [h]

theorem shr_neg {a b : F64} (h : toInt64 b < 0) : intBinF shrI a b = F64.nan := by
  unfold intBinF shrI; simp [h]

end Rare.C19.IEEE

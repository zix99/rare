import Rare.Model.C16Ctx
import Rare.Proofs.C16
/-!
C16: the context over a history of matches – the worker's loop equals the map of a context-free function.
-/
namespace Rare.C16

theorem Ctx.load_nameTable (c : Ctx) (h : Hit) : (c.load h).nameTable = c.nameTable := rfl

/-- the four assignments overwrite everything a previous match left behind -/
theorem Ctx.load_load (c : Ctx) (h₁ h₂ : Hit) : (c.load h₁).load h₂ = c.load h₂ := rfl

/-- a re-pointed context is the context a fresh one would be -/
theorem Ctx.load_eq_fresh (c : Ctx) (h : Hit) : c.load h = (Ctx.fresh c.nameTable).load h := rfl

theorem processLine_eq (keys : List Bytes) (c : Ctx) (h : Hit) :
    processLine keys c h =
      (extractOf keys c.nameTable h).map fun o => (if h.indices = [] then c else c.load h, o) := by
  unfold processLine extractOf
  by_cases hi : h.indices = []
  · simp [hi, Except.map]
  · simp only [hi, if_false, ← Ctx.load_eq_fresh]
    cases (c.load h).buildKeys keys <;> rfl

theorem processLine_nameTable (keys : List Bytes) (c c' : Ctx) (h : Hit) (o : Option Bytes)
    (hp : processLine keys c h = .ok (c', o)) : c'.nameTable = c.nameTable := by
  rw [processLine_eq] at hp
  cases he : extractOf keys c.nameTable h with
  | error e => simp [he, Except.map] at hp
  | ok v =>
    simp [he, Except.map] at hp
    rw [← hp.1]; split <;> rfl

theorem runFrom_eq_mapM (keys : List Bytes) (hs : List Hit) :
    ∀ c : Ctx, runFrom keys c hs = hs.mapM (extractOf keys c.nameTable) := by
  induction hs with
  | nil => intro c; rfl
  | cons h r ih =>
    intro c
    rw [runFrom, List.mapM_cons, processLine_eq]
    cases he : extractOf keys c.nameTable h with
    | error e => rfl
    | ok v =>
      have hn : (if h.indices = [] then c else c.load h).nameTable = c.nameTable := by split <;> rfl
      simp only [Except.map, bind, Except.bind]
      rw [ih, hn]

theorem runWorker_eq_mapM (keys : List Bytes) (nt : List (Bytes × Int)) (hs : List Hit) :
    runWorker keys nt hs = hs.mapM (extractOf keys nt) := runFrom_eq_mapM keys hs (Ctx.fresh nt)

theorem mapM_ok_pointwise {α β ε : Type} (f : α → Except ε β) :
    ∀ (l : List α) (outs : List β), l.mapM f = .ok outs →
      outs.length = l.length ∧ ∀ (i : Nat) (a : α), l[i]? = some a → ∃ b, outs[i]? = some b ∧ f a = .ok b := by
  intro l
  induction l with
  | nil => intro outs h; simp [pure, Except.pure] at h; subst h; simp
  | cons x r ih =>
    intro outs h
    rw [List.mapM_cons] at h
    cases hx : f x with
    | error e => simp [hx, bind, Except.bind] at h
    | ok b =>
      cases hr : r.mapM f with
      | error e => simp [hx, hr, bind, Except.bind] at h
      | ok bs =>
        simp [hx, hr, bind, Except.bind, pure, Except.pure] at h
        subst h
        obtain ⟨hl, hp⟩ := ih bs hr
        refine ⟨by simp [hl], ?_⟩
        intro i a hi
        cases i with
        | zero => simp at hi; subst hi; exact ⟨b, by simp, hx⟩
        | succ j => simpa using hp j a (by simpa using hi)

/-- a view key of a match is `json` of the name table, the indices and the line – nothing else of the context -/
theorem keyOf_view (nt : List (Bytes × Int)) (h : Hit) (key : Bytes) (a b : Bool)
    (hv : viewFlags key = some (a, b)) : keyOf nt h key = json a b nt h.indices h.line := by
  rcases viewFlags_cases key with ⟨rfl, e⟩ | ⟨rfl, e⟩ | ⟨rfl | rfl, e⟩ | ⟨_, e⟩ <;> rw [e] at hv <;> cases hv <;> rfl

theorem keyOf_src_line (nt : List (Bytes × Int)) (h : Hit) :
    keyOf nt h keySrc = .ok h.source ∧ keyOf nt h keyLine = .ok (natAscii h.lineNum) := ⟨rfl, rfl⟩

/-- one view key on one matched line: the extracted key is the view text -/
theorem extractOf_view (nt : List (Bytes × Int)) (x : Hit) (key : Bytes) (a b : Bool)
    (hv : viewFlags key = some (a, b)) (hx : x.indices ≠ []) (o : Option Bytes)
    (h : extractOf [key] nt x = .ok o) :
    ∃ t, json a b nt x.indices x.line = .ok t ∧ o = if t = [] then none else some t := by
  have k := keyOf_view nt x key a b hv
  unfold keyOf at k
  unfold extractOf at h
  rw [if_neg hx, Ctx.buildKeys, k] at h
  obtain ⟨t, ht, h⟩ := bind_ok h
  cases h
  exact ⟨t, ht, rfl⟩

/-! ### The frame argument, for ANY object that is re-pointed per match and used through methods

An object is a valuation of field names.  Two kinds of steps happen to it: the owner re-points it at a
match (the fields in `W` take the match's values), or one of its methods runs (the fields in `MW` – the
fields methods may write – take arbitrary values, everything else stays).  A view is any function of the
object that reads the fields in `R` only. -/

abbrev Obj (V : Type) := String → V

inductive ObjStep (V : Type) where
  | repoint (m : Obj V)
  | method (writes : Obj V)

def ObjStep.apply {V : Type} (W MW : List String) (o : Obj V) : ObjStep V → Obj V
  | .repoint m => fun f => if f ∈ W then m f else o f
  | .method w => fun f => if f ∈ MW then w f else o f

def ReadsOnly {V β : Type} (R : List String) (view : Obj V → β) : Prop :=
  ∀ o o' : Obj V, (∀ f ∈ R, o f = o' f) → view o = view o'

theorem steps_keep {V : Type} (W MW : List String) (f : String) (hW : f ∉ W) (hM : f ∉ MW) :
    ∀ (steps : List (ObjStep V)) (o : Obj V), (steps.foldl (ObjStep.apply W MW) o) f = o f := by
  intro steps
  induction steps with
  | nil => intro o; rfl
  | cons s r ih =>
    intro o
    rw [List.foldl_cons, ih]
    cases s <;> simp [ObjStep.apply, hW, hM]

theorem methods_keep {V : Type} (W MW : List String) (f : String) (hM : f ∉ MW) :
    ∀ (ws : List (Obj V)) (o : Obj V), ((ws.map ObjStep.method).foldl (ObjStep.apply W MW) o) f = o f := by
  intro ws
  induction ws with
  | nil => intro o; rfl
  | cons w r ih =>
    intro o
    rw [List.map_cons, List.foldl_cons, ih]
    simp [ObjStep.apply, hM]

/-- **Frame.**  If no field a view reads is written by a method, then after ANY history (`before`: matches
and method calls in any order), a re-pointing at `m` and any number of further method calls on the same
match (`after`), the view answers what it answers on the constructed object `o₀` re-pointed once at `m`. -/
theorem frame {V β : Type} (W MW R : List String) (hdisj : ∀ f ∈ R, f ∉ MW)
    (view : Obj V → β) (hv : ReadsOnly R view)
    (o₀ : Obj V) (before : List (ObjStep V)) (m : Obj V) (after : List (Obj V)) :
    view ((after.map ObjStep.method).foldl (ObjStep.apply W MW)
        (ObjStep.apply W MW (before.foldl (ObjStep.apply W MW) o₀) (.repoint m)))
      = view (ObjStep.apply W MW o₀ (.repoint m)) := by
  apply hv
  intro f hf
  rw [methods_keep W MW f (hdisj f hf)]
  by_cases hW : f ∈ W
  · simp [ObjStep.apply, hW]
  · simp only [ObjStep.apply, hW, if_false]
    exact steps_keep W MW f hW (hdisj f hf) before o₀

/-- … and it is sharp: a view that reads a field a method writes can answer from a previous match -/
theorem frame_counterexample :
    ∃ (view : Obj Nat → Nat), ReadsOnly ["memo"] view ∧
      view (ObjStep.apply ["line"] ["memo"]
        (ObjStep.apply ["line"] ["memo"] (ObjStep.apply ["line"] ["memo"] (fun _ => 0) (.repoint fun _ => 1))
          (.method fun _ => 1)) (.repoint fun _ => 2))
      ≠ view (ObjStep.apply ["line"] ["memo"] (fun _ => 0) (.repoint fun _ => 2)) :=
  ⟨fun o => o "memo", fun o o' h => h "memo" (by simp), by simp [ObjStep.apply]⟩

end Rare.C16

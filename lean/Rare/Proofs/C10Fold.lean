import Rare.Proofs.C10State
/-!
A `cache` date stage reached through a binder / a funcs-file function.

The stage answers from its memory (the layout the first detected date left behind), so what it answers for a value
the caller holds constant is NOT a constant: the real library parses, by a remembered layout, values whose layout it
cannot detect (Go's `time.Parse` skips extra spaces that `dateparse.ParseFormat` rejects).  Up to /repo 6998c9c
(`TimeRev.v3`) the optimiser folded such a stage (`lenientLib` is the kernel-checked witness, the finding
`fold-lenient`); since 1dba502 (`TimeRev.cur`) a static analysis touches the context whenever the stage would consult
its memory, so the stage is folded only when EVERY value is the empty literal – and then it answers
`<PARSE-ERROR>` per value whatever the history: `timeMap_optimize`, for every library and all element stages.
-/
namespace Rare.C10
open Rare.Expr

/-- A static analysis of `{time {0}}` over `elems` that makes no look-up at all saw only empty literals: it leaves
    the cells alone, and every evaluation – static or on input, from any cells – answers the same and leaves the cells
    alone. -/
theorem timeOnElems_static_ret {L : Type} (lib : TimeLib L) :
    ∀ (elems : List Stage) (st : TimeSt L) (p : List Bytes × TimeSt L),
      timeOnElems .cur lib elems true st = .ret p →
      p.2 = st ∧ ∀ (static : Bool) (st' : TimeSt L), timeOnElems .cur lib elems static st' = .ret (p.1, st') := by
  intro elems
  induction elems with
  | nil =>
    intro st p h
    simp only [timeOnElems, Comp.ret.injEq] at h
    subst h
    exact ⟨rfl, fun _ _ => rfl⟩
  | cons e rest ih =>
    intro st p h
    simp only [timeOnElems] at h
    obtain ⟨v, he, hf⟩ := bind_eq_ret h
    subst he
    by_cases hv : v = []
    · subst hv
      have hstep : ∀ (static : Bool) (s : TimeSt L), timeStep .cur lib [] static [] s = (ErrorParsing, s) := by
        intro static s; simp [timeStep]
      simp only [timeTouches_empty, touchIf_false, hstep] at hf
      obtain ⟨q, hq, hp⟩ := bind_eq_ret hf
      simp only [Comp.ret.injEq] at hp
      subst hp
      obtain ⟨h2, hall⟩ := ih st q hq
      refine ⟨h2, fun static st' => ?_⟩
      simp only [timeOnElems, Comp.bind, timeTouches_empty, touchIf_false, hstep, hall static st']
    · rw [timeTouches_cur_static hv, touchIf_true] at hf
      cases hf

/-- …so the enclosing stage is a literal without memory. -/
theorem timeMap_static_ret {L : Type} (lib : TimeLib L) (elems : List Stage) (st : TimeSt L) (v : Bytes)
    (st1 : TimeSt L) (h : timeMapStage .cur lib elems true st = .ret (v, st1)) :
    timeMapStage .cur lib elems = fun _ st' => .ret (v, st') := by
  unfold timeMapStage at h
  obtain ⟨p, hp, hf⟩ := bind_eq_ret h
  simp only [Comp.ret.injEq, Prod.mk.injEq] at hf
  obtain ⟨_, hall⟩ := timeOnElems_static_ret lib elems st p hp
  funext static st'
  simp only [timeMapStage, hall static st', Comp.bind, hf.1]

/-- Histories from cells that agree on `atomicFormat` answer the same. -/
theorem timeMap_events_real {L : Type} (lib : TimeLib L) (elems : List Stage) (evs : List Ev) (st st' : TimeSt L)
    (h : st.real = st'.real) :
    runEvents (timeMapStage .cur lib elems) st evs = runEvents (timeMapStage .cur lib elems) st' evs :=
  events_agree_of _ TimeSt.real (timeMap_hreal lib elems) (timeMap_probeStep lib elems) evs st st' h

/-- **What `optimize` makes of the stage IS the stage** (as a state-passing function): it is either left alone or
    replaced by a literal it was equal to.  So whatever shares the hidden state with it – other call sites of the
    same funcs-file function, other elements – sees the same with and without optimisation. -/
theorem timeMap_optimizeS_eq {L : Type} (lib : TimeLib L) (elems : List Stage) (st : TimeSt L) :
    optimizeS (timeMapStage .cur lib elems) st = timeMapStage .cur lib elems := by
  rcases optimizeS_cases (timeMapStage .cur lib elems) st with h | ⟨v, hret, h⟩
  · exact h
  · rw [h]; exact (timeMap_static_ret lib elems st v _ hret).symm

/-- **`optimize_sound` for a `cache` stage behind a binder or a funcs-file function** – every library, ANY element
    stages (constant, dynamic, mixed, panicking), any cells the static analysis starts from, every history. -/
theorem timeMap_optimize {L : Type} (lib : TimeLib L) (elems : List Stage) (st : TimeSt L) (evs : List Ev) :
    runEvents (optimizeS (timeMapStage .cur lib elems) st) ((timeMapStage .cur lib elems).probeStep st).2 evs
      = runEvents (timeMapStage .cur lib elems) st evs := by
  rw [timeMap_optimizeS_eq]
  exact timeMap_events_real lib elems evs _ _ (timeMap_probeStep lib elems st)

/-- Over constant values one of which is not empty, the static analysis makes a look-up. -/
theorem timeOnElems_lits_not_ret {L : Type} (lib : TimeLib L) (v : Bytes) (hne : v ≠ []) :
    ∀ (vals : List Bytes) (st : TimeSt L) (p : List Bytes × TimeSt L), v ∈ vals →
      timeOnElems .cur lib (vals.map Stage.lit) true st ≠ .ret p := by
  intro vals
  induction vals with
  | nil => intro st p hmem; cases hmem
  | cons w rest ih =>
    intro st p hmem hp
    simp only [List.map_cons, timeOnElems, Stage.lit, Comp.bind] at hp
    by_cases hw : w = []
    · subst hw
      have hv : v ∈ rest := by
        rcases List.mem_cons.mp hmem with h1 | h1
        · exact absurd h1 hne
        · exact h1
      simp only [timeTouches_empty, touchIf_false] at hp
      obtain ⟨q, hq, _⟩ := bind_eq_ret hp
      exact ih _ q hv hq
    · rw [timeTouches_cur_static hw, touchIf_true] at hp
      cases hp

/-- A value that is not empty is never folded: the static analysis of the stage over constant values reports
    "not constant" as soon as one of them is non-empty. -/
theorem timeMap_nonempty_not_constant {L : Type} (lib : TimeLib L) (vals : List Bytes) (st : TimeSt L)
    (h : ∃ v ∈ vals, v ≠ []) :
    ∀ r, ((timeMapStage .cur lib (vals.map Stage.lit)).probeStep st).1 ≠ .ok (r, true) := by
  intro r hr
  have hret := probeStep_const hr
  unfold timeMapStage at hret
  obtain ⟨p, hp, _⟩ := bind_eq_ret hret
  obtain ⟨v, hmem, hne⟩ := h
  exact timeOnElems_lits_not_ret lib v hne vals st p hmem hp

/-! ### the witness: a library whose parser is more lenient than its detector -/

/-- Detects only values without a space (layout 1); parses by skipping spaces – as `time.Parse` does with the extra
    space of `"oct 7,  1970"`, which `dateparse.ParseFormat` rejects. -/
def lenientLib : TimeLib Nat := ⟨fun s => if 32 ∈ s then none else some 1, fun _ s => some (s.filter (· ≠ 32))⟩

end Rare.C10

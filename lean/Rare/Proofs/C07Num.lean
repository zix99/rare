import Rare.Proofs.C07Base
/-! C07 numerical aggregator: Welford recurrence (samples/mean/M2/variance/min/max) over ℚ,
`Analyze` sorting, `Median`, `Quantile` (index bounds, clamping) and `Mode`. -/
namespace Rare.C07

def runQ (keep : Bool) (l : List Rat) : Numerical Rat :=
  l.foldl (Numerical.samplef ratOps keep) (Numerical.new ratOps)

def ratSumSq : List Rat → Rat
  | [] => 0
  | x :: r => x * x + ratSumSq r

theorem ratSum_append (a b : List Rat) : ratSum (a ++ b) = ratSum a + ratSum b := by
  induction a with
  | nil => simp only [List.nil_append, ratSum]; grind
  | cons x a ih => simp only [List.cons_append, ratSum, ih]; grind

theorem ratSumSq_append (a b : List Rat) : ratSumSq (a ++ b) = ratSumSq a + ratSumSq b := by
  induction a with
  | nil => simp only [List.nil_append, ratSumSq]; grind
  | cons x a ih => simp only [List.cons_append, ratSumSq, ih]; grind

theorem natCast_pred {n : Nat} (h : 1 ≤ n) : ((n - 1 : Nat) : Rat) = (n : Rat) - 1 := by
  obtain ⟨k, rfl⟩ : ∃ k, n = k + 1 := ⟨n - 1, by omega⟩
  rw [Nat.add_sub_cancel, Rat.natCast_add]; grind

theorem natCast_succ_ne_zero (n : Nat) : ((n : Rat) + 1) ≠ 0 := by
  have : (0:Rat) ≤ (n:Rat) := by exact_mod_cast Nat.zero_le n
  grind

/-- Welford invariant relating a state to the prefix consumed so far. -/
structure WInv (s : Numerical Rat) (pre : List Rat) : Prop where
  samples : s.samples = pre.length
  mean : (pre.length : Rat) * s.mean = ratSum pre
  var : s.variance = ratSumSq pre - (pre.length : Rat) * (s.mean * s.mean)

theorem WInv.step {s : Numerical Rat} {pre : List Rat} (keep : Bool) (x : Rat) (h : WInv s pre) :
    WInv (Numerical.samplef ratOps keep s x) (pre ++ [x]) := by
  obtain ⟨h1, h2, h3⟩ := h
  have hn := natCast_succ_ne_zero pre.length
  refine ⟨?_, ?_, ?_⟩
  · simp [Numerical.samplef, h1]
  · simp only [Numerical.samplef, ratOps, List.length_append, List.length_cons, List.length_nil,
      ratSum_append, ratSum, h1, Rat.natCast_add, Nat.zero_add]
    grind
  · simp only [Numerical.samplef, ratOps, List.length_append, List.length_cons, List.length_nil,
      ratSumSq_append, ratSumSq, h1, Rat.natCast_add, Nat.zero_add, h3]
    grind

theorem WInv.foldl (keep : Bool) (l : List Rat) : ∀ (s : Numerical Rat) (pre : List Rat), WInv s pre →
    WInv (l.foldl (Numerical.samplef ratOps keep) s) (pre ++ l) := by
  induction l with
  | nil => intro s pre h; simpa using h
  | cons x l ih =>
    intro s pre h
    have := ih _ _ (h.step keep x)
    simpa [List.append_assoc] using this

theorem WInv.new : WInv (Numerical.new ratOps) [] := by
  refine ⟨rfl, ?_, ?_⟩ <;> simp [Numerical.new, ratOps, ratSum, ratSumSq] <;> grind

theorem runQ_inv (keep : Bool) (l : List Rat) : WInv (runQ keep l) l := by
  have := WInv.foldl keep l _ _ WInv.new
  simpa [runQ] using this

theorem welford_samples (keep : Bool) (l : List Rat) : (runQ keep l).samples = l.length :=
  (runQ_inv keep l).samples

theorem welford_mean (keep : Bool) (l : List Rat) : (runQ keep l).mean = mean l := by
  cases l with
  | nil => simp [runQ, Numerical.new, ratOps, mean, ratSum]; grind
  | cons x l =>
    have h := (runQ_inv keep (x :: l)).mean
    have hn := natCast_succ_ne_zero l.length
    simp only [mean, List.length_cons, Rat.natCast_add] at h ⊢
    grind

theorem ratSum_sqdev (c : Rat) (l : List Rat) :
    ratSum (l.map fun x => (x - c) * (x - c)) = ratSumSq l - 2 * c * ratSum l + (l.length : Rat) * (c * c) := by
  induction l with
  | nil => simp [ratSum, ratSumSq]; grind
  | cons x l ih => simp only [List.map_cons, ratSum, ratSumSq, ih, List.length_cons, Rat.natCast_add]; grind

theorem m2_eq (l : List Rat) : m2 l = ratSumSq l - (l.length : Rat) * (mean l * mean l) := by
  unfold m2; rw [ratSum_sqdev]
  cases l with
  | nil => simp [ratSum, ratSumSq]; grind
  | cons x l =>
    have hn := natCast_succ_ne_zero l.length
    have : ((x :: l).length : Rat) * mean (x :: l) = ratSum (x :: l) := by
      simp only [mean, List.length_cons, Rat.natCast_add]; grind
    grind

theorem welford_m2 (keep : Bool) (l : List Rat) : (runQ keep l).variance = m2 l := by
  rw [m2_eq, ← welford_mean keep l]; exact (runQ_inv keep l).var

theorem welford_variance (keep : Bool) (l : List Rat) :
    (runQ keep l).varianceOf ratOps = sampleVariance l := by
  unfold Numerical.varianceOf sampleVariance
  rw [welford_samples, welford_m2]
  by_cases h : l.length > 1
  · simp only [h, if_true, ratOps]
    rw [natCast_pred (by omega)]
  · simp [h, ratOps]


theorem values_foldl (l : List Rat) : ∀ (s : Numerical Rat),
    (l.foldl (Numerical.samplef ratOps true) s).values = s.values ++ l := by
  induction l with
  | nil => intro s; simp
  | cons x l ih => intro s; simp [ih, Numerical.samplef]

theorem welford_values (l : List Rat) : (runQ true l).values = l := by
  simp [runQ, values_foldl, Numerical.new]

/-! `Min` / `Max` are running extrema: the state keeps `m` unless the sample is `lt` it.  For any strict order
`lt` (irreflexive, transitive) the result is the start value or a sample below it, and no sample is below it. -/

theorem foldl_pick {α : Type} (lt : α → α → Bool) (irr : ∀ a, lt a a = false)
    (tr : ∀ a b c, lt a b = true → lt b c = true → lt a c = true) (l : List α) : ∀ m : α,
    (l.foldl (fun m x => if lt x m then x else m) m = m ∨
      (l.foldl (fun m x => if lt x m then x else m) m ∈ l ∧
        lt (l.foldl (fun m x => if lt x m then x else m) m) m = true)) ∧
    ∀ y ∈ l, lt y (l.foldl (fun m x => if lt x m then x else m) m) = false := by
  induction l with
  | nil => intro m; simp
  | cons x l ih =>
    intro m
    have asym : ∀ a b, lt a b = true → lt b a = false := fun a b h1 =>
      Bool.eq_false_iff.mpr fun h2 => Bool.false_ne_true ((irr a).symm.trans (tr a b a h1 h2))
    rw [List.foldl_cons]
    obtain ⟨h1, h2⟩ := ih (if lt x m then x else m)
    generalize l.foldl (fun m x => if lt x m then x else m) (if lt x m then x else m) = r at h1 h2
    simp only [List.mem_cons, forall_eq_or_imp]
    by_cases hx : lt x m = true
    · rw [if_pos hx] at h1
      rcases h1 with e | ⟨hm, hlt⟩
      · exact ⟨Or.inr ⟨Or.inl e, e ▸ hx⟩, e ▸ irr x, h2⟩
      · exact ⟨Or.inr ⟨Or.inr hm, tr r x m hlt hx⟩, asym r x hlt, h2⟩
    · rw [if_neg hx] at h1
      refine ⟨h1.imp id (fun h => ⟨Or.inr h.1, h.2⟩), ?_, h2⟩
      rcases h1 with e | ⟨_, hlt⟩
      · exact e ▸ Bool.eq_false_iff.mpr hx
      · exact Bool.eq_false_iff.mpr fun h => hx (tr x r m h hlt)

theorem foldl_samplef_min {α : Type} (o : NumOps α) (keep : Bool) (l : List α) : ∀ s : Numerical α,
    (l.foldl (Numerical.samplef o keep) s).min = l.foldl (fun m x => if o.lt x m then x else m) s.min := by
  induction l with
  | nil => intro s; rfl
  | cons x l ih => intro s; rw [List.foldl_cons, ih]; rfl

theorem foldl_samplef_max {α : Type} (o : NumOps α) (keep : Bool) (l : List α) : ∀ s : Numerical α,
    (l.foldl (Numerical.samplef o keep) s).max = l.foldl (fun m x => if o.lt m x then x else m) s.max := by
  induction l with
  | nil => intro s; rfl
  | cons x l ih => intro s; rw [List.foldl_cons, ih]; rfl

theorem welford_minmax (keep : Bool) (l : List Rat) (hne : l ≠ [])
    (hb : ∀ x ∈ l, ratOps.negMaxVal ≤ x ∧ x ≤ ratOps.maxVal) :
    IsMin l (runQ keep l).min ∧ IsMax l (runQ keep l).max := by
  obtain ⟨y, hy⟩ := List.exists_mem_of_ne_nil l hne
  have a := foldl_pick ratOps.lt (fun a => decide_eq_false Rat.lt_irrefl)
    (fun a b c h1 h2 => decide_eq_true (Std.lt_trans (of_decide_eq_true h1) (of_decide_eq_true h2)))
    l (Numerical.new ratOps).min
  have b := foldl_pick (fun a b => ratOps.lt b a) (fun a => decide_eq_false Rat.lt_irrefl)
    (fun a b c h1 h2 => decide_eq_true (Std.lt_trans (of_decide_eq_true h2) (of_decide_eq_true h1)))
    l (Numerical.new ratOps).max
  rw [← foldl_samplef_min ratOps keep] at a
  rw [← foldl_samplef_max ratOps keep] at b
  obtain ⟨a1, a2⟩ := a
  obtain ⟨b1, b2⟩ := b
  have a3 : ∀ z ∈ l, (runQ keep l).min ≤ z := fun z hz => Rat.not_lt.mp (of_decide_eq_false (a2 z hz))
  have b3 : ∀ z ∈ l, z ≤ (runQ keep l).max := fun z hz => Rat.not_lt.mp (of_decide_eq_false (b2 z hz))
  refine ⟨⟨?_, a3⟩, ⟨?_, b3⟩⟩
  · rcases a1 with e | h
    · -- still the start value: then `y`, which is neither above nor below it, is that value
      have e' : (runQ keep l).min = ratOps.maxVal := e
      have := Rat.le_antisymm (hb y hy).2 (e' ▸ a3 y hy)
      rw [e', ← this]; exact hy
    · exact h.1
  · rcases b1 with e | h
    · have e' : (runQ keep l).max = ratOps.negMaxVal := e
      have := Rat.le_antisymm (e' ▸ b3 y hy) (hb y hy).1
      rw [e', ← this]; exact hy
    · exact h.1


theorem analyze_perm {α : Type} (o : NumOps α) (rev : Bool) (l : List α) : (analyze o rev l).Perm l := by
  unfold analyze; split <;> exact List.mergeSort_perm _ _

theorem analyze_length (rev : Bool) (l : List Rat) : (analyze ratOps rev l).length = l.length :=
  (analyze_perm ratOps rev l).length_eq

theorem analyze_sorted (rev : Bool) (l : List Rat) : IsSortedOf rev (analyze ratOps rev l) l := by
  refine ⟨analyze_perm ratOps rev l, ?_⟩
  cases rev with
  | false =>
    simp only [analyze, Bool.false_eq_true, if_false, ratOps]
    have := List.pairwise_mergeSort (le := fun (a b : Rat) => !decide (b < a))
      (by intro a b c; simp; grind)
      (by intro a b; simp; grind) l
    exact this.imp (by intro a b; simp; grind)
  | true =>
    simp only [analyze, if_true, ratOps]
    have := List.pairwise_mergeSort (le := fun (a b : Rat) => !decide (a < b))
      (by intro a b c; simp; grind)
      (by intro a b; simp; grind) l
    exact this.imp (by intro a b; simp; grind)

/-- The order of a slice sorted ascending (`rev = false`) or descending is antisymmetric. -/
theorem dirLe_antisymm (rev : Bool) (a b : Rat) (h1 : if rev then b ≤ a else a ≤ b) (h2 : if rev then a ≤ b else b ≤ a) :
    a = b := by
  cases rev
  · exact Rat.le_antisymm h1 h2
  · exact Rat.le_antisymm h2 h1

/-- The sorted arrangement of a list of exact values is unique. -/
theorem isSortedOf_unique (rev : Bool) (s s' l : List Rat) (h : IsSortedOf rev s l) (h' : IsSortedOf rev s' l) : s = s' :=
  List.Perm.eq_of_pairwise (fun a b _ _ h1 h2 => dirLe_antisymm rev a b h1 h2) h.2 h'.2 (h.1.trans h'.1.symm)

/-- `Median()` of a non-empty slice is its element of rank `⌊n/2⌋`. -/
theorem median_eq {α : Type} (zero : α) (s : List α) (hne : s ≠ []) :
    ∃ x, s[s.length / 2]? = some x ∧ median zero s = x := by
  have hpos : 0 < s.length := List.length_pos_iff.mpr hne
  have hlt : s.length / 2 < s.length := by omega
  refine ⟨s[s.length / 2], List.getElem?_eq_getElem hlt, ?_⟩
  unfold median
  rw [if_neg (by omega), List.getElem?_eq_getElem hlt]; rfl

theorem median_rank (rev : Bool) (l : List Rat) (hne : l ≠ []) :
    IsRank rev l (l.length / 2) (median 0 (analyze ratOps rev l)) := by
  have hlen := analyze_length rev l
  obtain ⟨x, hx, hm⟩ := median_eq 0 (analyze ratOps rev l) (by
    intro h; rw [h] at hlen; exact hne (List.length_eq_zero_iff.mp hlen.symm))
  rw [hlen] at hx
  exact ⟨analyze ratOps rev l, analyze_sorted rev l, hm ▸ hx⟩

theorem quantile_index_in_bounds_iff (n : Nat) (hn : 0 < n) (p : Rat) (hp : 0 ≤ p) :
    (0 ≤ (((n : Rat) * p).floor) ∧ ((n : Rat) * p).floor < (n : Int)) ↔ p < 1 := by
  have hnq : (0:Rat) < (n:Rat) := Rat.natCast_pos.mpr hn
  have h0 : 0 ≤ ((n : Rat) * p).floor := by
    rw [Rat.le_floor_iff]; simpa using Rat.mul_nonneg (Rat.le_of_lt hnq) hp
  rw [Rat.floor_lt_iff, Rat.intCast_natCast]
  have := Rat.mul_lt_mul_left (a := p) (b := 1) hnq
  rw [Rat.mul_one] at this
  rw [this]
  exact ⟨fun h => h.2, fun h => ⟨h0, h⟩⟩

/-- The clamps of `Quantile`. -/
def clampIdx (n : Nat) (idx : Int) : Nat :=
  (if (if idx ≥ (n : Int) then (n : Int) - 1 else idx) < 0 then 0
   else (if idx ≥ (n : Int) then (n : Int) - 1 else idx)).toNat

theorem clampIdx_lt (n : Nat) (hn : 0 < n) (idx : Int) : clampIdx n idx < n := by
  unfold clampIdx; split <;> split <;> omega

theorem clampIdx_inside (n : Nat) (idx : Int) (h0 : 0 ≤ idx) (h1 : idx < n) : clampIdx n idx = idx.toNat := by
  have e : (if idx ≥ (n : Int) then (n : Int) - 1 else idx) = idx := if_neg (by omega)
  unfold clampIdx; rw [e, if_neg (by omega)]

theorem clampIdx_high (n : Nat) (idx : Int) (h1 : (n : Int) ≤ idx) : clampIdx n idx = n - 1 := by
  unfold clampIdx; rw [if_pos h1]; split <;> omega

theorem clampIdx_low (n : Nat) (idx : Int) (h0 : idx < 0) : clampIdx n idx = 0 := by
  have e : (if idx ≥ (n : Int) then (n : Int) - 1 else idx) = idx := if_neg (by omega)
  unfold clampIdx; rw [e, if_pos h0]; rfl

/-- `Quantile` on a non-empty slice returns its element at the clamped index. -/
theorem quantileAt_ok {α : Type} (zero : α) (s : List α) (hs : 0 < s.length) (idx : Int) :
    ∃ x, s[clampIdx s.length idx]? = some x ∧ quantileAt zero s idx = .ok x := by
  have hlt := clampIdx_lt s.length hs idx
  refine ⟨s[clampIdx s.length idx], List.getElem?_eq_getElem hlt, ?_⟩
  unfold quantileAt
  rw [if_neg (by omega)]
  simp only []
  have e : s[(if (if idx ≥ (s.length : Int) then (s.length : Int) - 1 else idx) < 0 then 0
      else (if idx ≥ (s.length : Int) then (s.length : Int) - 1 else idx)).toNat]? = some s[clampIdx s.length idx] :=
    List.getElem?_eq_getElem hlt
  rw [e]

theorem quantile_rank (rev : Bool) (l : List Rat) (hne : l ≠ []) (p : Rat) (hp0 : 0 ≤ p) (hp1 : p < 1) :
    ∃ x, quantileAt 0 (analyze ratOps rev l) (((l.length : Rat) * p).floor) = .ok x ∧
      IsRank rev l (((l.length : Rat) * p).floor.toNat) x := by
  have hlen := analyze_length rev l
  have hpos : 0 < l.length := List.length_pos_iff.mpr hne
  obtain ⟨hlo, hhi⟩ := (quantile_index_in_bounds_iff l.length hpos p hp0).mpr hp1
  obtain ⟨x, hx, hq⟩ := quantileAt_ok 0 (analyze ratOps rev l) (by omega) (((l.length : Rat) * p).floor)
  rw [hlen, clampIdx_inside _ _ hlo hhi] at hx
  exact ⟨x, hq, analyze ratOps rev l, analyze_sorted rev l, hx⟩

theorem quantile_total (rev : Bool) (l : List Rat) (idx : Int) :
    ∃ x, quantileAt 0 (analyze ratOps rev l) idx = .ok x ∧ (l ≠ [] → x ∈ l) := by
  have hlen := analyze_length rev l
  by_cases hne : l = []
  · subst hne
    refine ⟨0, ?_, fun h => absurd rfl h⟩
    unfold quantileAt; rw [if_pos (by simpa using hlen)]
  · have hpos : 0 < l.length := List.length_pos_iff.mpr hne
    obtain ⟨x, hx, hq⟩ := quantileAt_ok 0 (analyze ratOps rev l) (by omega) idx
    exact ⟨x, hq, fun _ => (analyze_perm ratOps rev l).mem_iff.mp (List.mem_of_getElem? hx)⟩

theorem quantile_one (rev : Bool) (l : List Rat) (hne : l ≠ []) :
    ∃ x, quantileAt 0 (analyze ratOps rev l) (l.length : Int) = .ok x ∧ IsRank rev l (l.length - 1) x := by
  have hlen := analyze_length rev l
  have hpos : 0 < l.length := List.length_pos_iff.mpr hne
  obtain ⟨x, hx, hq⟩ := quantileAt_ok 0 (analyze ratOps rev l) (by omega) (l.length : Int)
  rw [hlen, clampIdx_high _ _ (Int.le_refl _)] at hx
  exact ⟨x, hq, analyze ratOps rev l, analyze_sorted rev l, hx⟩

/-- One iteration of the loop in `Mode()`. -/
def modeStepG {α : Type} (eq : α → α → Bool) (st : ModeState α) (val : α) : ModeState α :=
  let st := if !eq val st.currValue then { st with currValue := val, currObserved := 0 } else st
  let st := { st with currObserved := st.currObserved + 1 }
  if st.currObserved > st.maxObserved then { st with maxValue := st.currValue, maxObserved := st.currObserved } else st

theorem mode_eq_foldG {α : Type} (z : α) (eq : α → α → Bool) (s : List α) :
    mode z eq s = (s.foldl (modeStepG eq) ⟨0, z, 0, z⟩).maxValue := rfl

/-- The loop over exact values. -/
def modeStep : ModeState Rat → Rat → ModeState Rat := modeStepG fun a b => decide (a = b)

theorem mode_eq (s : List Rat) :
    mode 0 (fun a b => decide (a = b)) s = (s.foldl modeStep ⟨0, 0, 0, 0⟩).maxValue := rfl

theorem modeStep_spec (st : ModeState Rat) (val : Rat) :
    ((modeStep st val).maxValue = st.maxValue ∧ (modeStep st val).maxObserved = st.maxObserved ∧ st.maxObserved ≥ 1) ∨
    ((modeStep st val).maxValue = val ∧ (modeStep st val).maxObserved ≥ 1) := by
  unfold modeStep modeStepG
  by_cases h : val = st.currValue <;> simp only [h, decide_true, decide_false, Bool.not_true, Bool.not_false, if_true, Bool.false_eq_true, if_false]
  all_goals split <;> simp <;> omega

theorem mode_foldl (L : List Rat) (s : List Rat) : ∀ (st : ModeState Rat), (∀ v ∈ s, v ∈ L) →
    st.maxObserved ≥ 1 → st.maxValue ∈ L →
    (s.foldl modeStep st).maxObserved ≥ 1 ∧ (s.foldl modeStep st).maxValue ∈ L := by
  induction s with
  | nil => intro st _ h1 h2; exact ⟨h1, h2⟩
  | cons x s ih =>
    intro st hs h1 h2
    simp only [List.foldl_cons]
    have hx : x ∈ L := hs x (by simp)
    apply ih _ (fun v hv => hs v (by simp [hv]))
    · rcases modeStep_spec st x with h | h <;> omega
    · rcases modeStep_spec st x with h | h
      · rw [h.1]; exact h2
      · rw [h.1]; exact hx

theorem mode_mem_of_ne_nil (s : List Rat) (hne : s ≠ []) : mode 0 (fun a b => decide (a = b)) s ∈ s := by
  rw [mode_eq]
  obtain ⟨x, s', rfl⟩ := List.exists_cons_of_ne_nil hne
  simp only [List.foldl_cons]
  have h0 : ((⟨0, 0, 0, 0⟩ : ModeState Rat)).maxObserved = 0 := rfl
  refine (mode_foldl (x :: s') s' _ (fun v hv => by simp [hv]) ?_ ?_).2
  · rcases modeStep_spec ⟨0, 0, 0, 0⟩ x with h | h <;> omega
  · rcases modeStep_spec ⟨0, 0, 0, 0⟩ x with h | h
    · omega
    · rw [h.1]; simp

theorem mode_mem (rev : Bool) (l : List Rat) (hne : l ≠ []) :
    mode 0 (fun a b => decide (a = b)) (analyze ratOps rev l) ∈ l := by
  have hlen := analyze_length rev l
  have hne' : analyze ratOps rev l ≠ [] := by
    intro h; rw [h] at hlen; exact hne (List.length_eq_zero_iff.mp hlen.symm)
  exact (analyze_perm ratOps rev l).mem_iff.mp (mode_mem_of_ne_nil _ hne')

end Rare.C07

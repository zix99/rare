import Rare.Proofs.C20Safe
import Rare.Proofs.C20Inv
/-! C20: one `WriteForLine` / `Close` through the reference terminal `Scr` – with scrolling and the
wider text class – and the invariant over a history: `Inv3` for a writer whose `Close()` has been called
`d` times before, `Inv2` for `d = 0`. -/
namespace Rare.C20

theorem Scr.feedBytes_append (t : Scr) (a b : Bytes) (ha : Clean a) :
    t.feedBytes (a ++ b) = (t.feedBytes a).feedBytes b := by
  simp [Scr.feedBytes, ha b, Scr.feed_append]

theorem Scr.feedBytes_nil (t : Scr) : t.feedBytes [] = t := rfl

/-- `goTo(line)`: with `x` the row the cursor would reach on an endless screen, the terminal scrolls
by the `x - (H-1)` line feeds that did not fit, and ends in column 0 (cursor-up stops at the top row) -/
theorem goTo_feed_scr (w : TermWriter) (line : Nat) (t : Scr) (hps : t.ps = .ground)
    (hc : 0 ≤ w.cursor) (hr : t.row < t.height)
    (x : Nat) (hx : x = t.row + (line - w.cursor.toNat) - (w.cursor.toNat - line)) :
    Clean (w.goTo handEsc line).2 ∧
    t.feedBytes (w.goTo handEsc line).2 =
      { t with rows := shiftN t.height (x - (t.height - 1)) t.rows, row := min x (t.height - 1), col := 0 } := by
  obtain ⟨hclean, hdec⟩ := goTo_runes w line hc
  refine ⟨hclean, ?_⟩
  rw [Scr.feedBytes, hdec]
  by_cases hle : w.cursor.toNat ≤ line
  · rw [Nat.sub_eq_zero_of_le hle, Nat.sub_zero] at hx
    rw [Nat.sub_eq_zero_of_le hle, List.replicate_zero, List.flatten_nil, List.append_nil, Scr.feed_downs _ t hr, hx]
  · rw [Nat.sub_eq_zero_of_le (Nat.le_of_not_le hle), Nat.add_zero] at hx
    have hxB : x ≤ t.height - 1 := by omega
    rw [Nat.sub_eq_zero_of_le (Nat.le_of_not_le hle), List.replicate_zero, List.nil_append, Scr.feed_ups _ t hps,
      Nat.sub_eq_zero_of_le hxB, shiftN_zero, Nat.min_eq_left hxB, hx]

/-- the text and the erase sequence, from column 0: the row is exactly the visible text -/
theorem line_feed_scr (W : Nat) (trim : Bool) (t : Scr) (txt : Bytes) (hps : t.ps = .ground) (hw : t.width = W)
    (hc : t.col = 0) (htxt : TextSafe t.cw W trim txt) :
    Clean (writeLineNoWrap handEsc trim W txt ++ handEsc.seq handEsc.erase) ∧
    t.feedBytes (writeLineNoWrap handEsc trim W txt ++ handEsc.seq handEsc.erase) =
      { t with rows := setRow t.rows t.row (shown W trim txt), col := (shown W trim txt).length } := by
  obtain ⟨toks, tail, hp, htl, hclean, hdec, hshown, hlen⟩ := piece_safe t.cw W trim txt htxt
  refine ⟨hclean.append (clean_small _ (by decide)), ?_⟩
  rw [Scr.feedBytes, hclean, hdec, decode_erase, Scr.feed_line toks tail t hp htl hps hc (hw ▸ hlen), hshown]

/-- One `WriteForLine(l, txt)`: the hide sequence is sent only when the writer believes the cursor is
visible. -/
theorem write_feed_scr (W : Nat) (trim : Bool) (w : TermWriter) (t : Scr) (l : Nat) (txt : Bytes)
    (hps : t.ps = .ground) (hw : t.width = W) (hc : 0 ≤ w.cursor) (hr : t.row < t.height)
    (hclear : w.clearLine = true) (hhide : w.hideCursor = true) (htxt : TextSafe t.cw W trim txt)
    (x : Nat) (hx : x = t.row + (l - w.cursor.toNat) - (w.cursor.toNat - l)) :
    Clean (w.writeForLine (cfg W trim) l txt).2 ∧
    t.feedBytes (w.writeForLine (cfg W trim) l txt).2 =
      { t with cursorVisible := w.cursorHidden && t.cursorVisible,
               row := min x (t.height - 1), col := (shown W trim txt).length,
               rows := setRow (shiftN t.height (x - (t.height - 1)) t.rows) (min x (t.height - 1))
                 (shown W trim txt) } := by
  obtain ⟨w', ht, o, cw, rows, row, col, vis, ps⟩ := t
  simp only at hps hw hr htxt hx; subst hps hw
  have hcl1 : Clean (if w.hideCursor && !w.cursorHidden then handEsc.seq handEsc.hide else []) := by
    split
    · exact clean_small _ (by decide)
    · exact Clean.nil
  have h1 : (Scr.mk w' ht o cw rows row col vis .ground).feedBytes
      (if w.hideCursor && !w.cursorHidden then handEsc.seq handEsc.hide else []) =
      ⟨w', ht, o, cw, rows, row, col, w.cursorHidden && vis, .ground⟩ := by
    rw [hhide]
    cases w.cursorHidden
    · exact (congrArg _ decode_hide).trans (Scr.feed_hide _)
    · rfl
  obtain ⟨hcl2, h2⟩ := goTo_feed_scr w l ⟨w', ht, o, cw, rows, row, col, w.cursorHidden && vis, .ground⟩ rfl hc hr x hx
  obtain ⟨hcl3, h3⟩ := line_feed_scr w' trim
    ⟨w', ht, o, cw, shiftN ht (x - (ht - 1)) rows, min x (ht - 1), 0, w.cursorHidden && vis, .ground⟩ txt rfl rfl rfl htxt
  rw [writeForLine_snd, hclear]
  simp only [cfg, if_true]
  refine ⟨(hcl1.append hcl2).append hcl3, ?_⟩
  rw [Scr.feedBytes_append _ _ _ (hcl1.append hcl2), Scr.feedBytes_append _ _ _ hcl1, h1, h2, h3]

/-- `Close()`: `goTo(maxLine)` (no scrolling when that row `x` is on the screen), a line feed, and the
show sequence when the writer believes the cursor is hidden -/
theorem close_feed_scr (W : Nat) (trim : Bool) (w : TermWriter) (t : Scr) (hps : t.ps = .ground)
    (hc : 0 ≤ w.cursor) (hcm : w.cursor ≤ w.maxLine) (hvis : w.cursorHidden = false → t.cursorVisible = true)
    (x : Nat) (hx : x = t.row + (w.maxLine.toNat - w.cursor.toNat)) (hfit : x < t.height) :
    Clean (w.close (cfg W trim)).2 ∧
    t.feedBytes (w.close (cfg W trim)).2 =
      { t with rows := shiftN t.height (x + 1 - (t.height - 1)) t.rows, row := min (x + 1) (t.height - 1),
               col := 0, cursorVisible := true } := by
  have hcast : ((w.maxLine.toNat : Nat) : Int) = w.maxLine := by omega
  have hxB : x ≤ t.height - 1 := Nat.le_sub_one_of_lt hfit
  have hcm' : w.cursor.toNat ≤ w.maxLine.toNat := Int.toNat_le_toNat hcm
  obtain ⟨hcl1, h1⟩ := goTo_feed_scr w w.maxLine.toNat t hps hc
    (Nat.lt_of_le_of_lt (hx ▸ Nat.le_add_right _ _) hfit) x (by rw [hx, Nat.sub_eq_zero_of_le hcm', Nat.sub_zero])
  rw [hcast, Nat.sub_eq_zero_of_le hxB, shiftN_zero, Nat.min_eq_left hxB] at h1
  rw [hcast] at hcl1
  have hcl2 : Clean (handEsc.closeNl ++ if w.cursorHidden then handEsc.seq handEsc.unhide else []) := by
    split
    · exact clean_small _ (by decide)
    · exact clean_small _ (by decide)
  rw [close_snd]
  simp only [cfg]
  refine ⟨hcl1.append hcl2, ?_⟩
  rw [Scr.feedBytes_append _ _ _ hcl1, h1, Scr.feedBytes_append _ _ _ (clean_small _ (by decide))]
  obtain ⟨w', ht, o, cw, rows, row, col, vis, ps⟩ := t
  simp only at hps hvis hfit ⊢; subst hps
  have h2 : (Scr.mk w' ht o cw rows x 0 vis .ground).feedBytes handEsc.closeNl =
      ⟨w', ht, o, cw, shiftN ht (x + 1 - (ht - 1)) rows, min (x + 1) (ht - 1), 0, vis, .ground⟩ := by
    rw [Scr.feedBytes, decode_closeNl, Scr.feed_cons, Scr.feed_nil, Scr.step_lf, Scr.lineFeed_eq _ hfit]
    simp only [ite_self]
  rw [h2]
  cases hh : w.cursorHidden
  · rw [hvis hh]; rfl
  · exact (congrArg _ decode_unhide).trans (Scr.feed_show _)

/-- what the rows show once `s` rows have scrolled off: line `i` of the history is on row `r0 + i - s`
(if still on the screen), every other row shows the start screen `s` rows further down -/
structure Shows (W H r0 : Nat) (trim : Bool) (rows0 : Nat → List Rune) (hist : List (Nat × Bytes)) (s : Nat)
    (rows : Nat → List Rune) : Prop where
  written : ∀ i txt, latest hist i = some txt → s ≤ r0 + i → rows (r0 + i - s) = shown W trim txt
  other : ∀ j, j < H → (∀ i, latest hist i ≠ none → r0 + i ≠ j + s) → rows j = shiftN H s rows0 j

variable {W H r0 : Nat} {trim : Bool} {rows0 : Nat → List Rune} {hist : List (Nat × Bytes)} {s : Nat}
  {rows : Nat → List Rune}

/-- the screen scrolls by `k` more rows (no line of the history is below the bottom row) -/
theorem Shows.shift (h : Shows W H r0 trim rows0 hist s rows) (k : Nat)
    (hon : ∀ i txt, latest hist i = some txt → r0 + i < s + H) :
    Shows W H r0 trim rows0 hist (s + k) (shiftN H k rows) := by
  by_cases hk : k = 0
  · subst hk; rw [shiftN_zero]; exact h
  refine ⟨fun i txt hi hsi => ?_, fun j hj hfree => ?_⟩
  · have hlt : r0 + i - (s + k) + k < H := by have := hon i txt hi; omega
    have e : r0 + i - (s + k) + k = r0 + i - s := by omega
    rw [shiftN_pos _ _ _ _ hk, if_pos hlt, e]
    exact h.written i txt hi (by omega)
  · rw [← shiftN_shiftN, shiftN_pos _ _ _ _ hk, shiftN_pos _ _ _ _ hk]
    split
    · rename_i hjk
      exact h.other (j + k) hjk (fun i hi => by have := hfree i hi; omega)
    · rfl

/-- a text is written on the row of line `l` -/
theorem Shows.write (h : Shows W H r0 trim rows0 hist s rows) (l row : Nat) (txt : Bytes) (hrow : row + s = r0 + l) :
    Shows W H r0 trim rows0 (hist ++ [(l, txt)]) s (setRow rows row (shown W trim txt)) := by
  refine ⟨fun i x hi hsi => ?_, fun j hj hfree => ?_⟩
  · rw [latest_snoc] at hi
    by_cases hli : l = i
    · rw [if_pos hli] at hi
      have : r0 + i - s = row := by omega
      rw [this, setRow_at, ← Option.some.inj hi]
    · rw [if_neg hli] at hi
      rw [setRow_ne _ _ _ _ (by omega)]
      exact h.written i x hi hsi
  · have hjl : j ≠ row := by
      have := hfree l (by rw [latest_snoc]; simp)
      omega
    rw [setRow_ne _ _ _ _ hjl]
    refine h.other j hj (fun i hi => hfree i ?_)
    rw [latest_snoc]
    split
    · simp
    · exact hi

/-! ### the invariant

`Close()` leaves the terminal's cursor one row below `maxLine` while the writer still believes it is
on `maxLine`: every update after `d` Closes is drawn `d` rows lower.  `Inv3` keeps the history in
PHYSICAL lines (`l + d` for a write to line `l` after `d` Closes), compares the writer's `cursor` /
`maxLine` with the terminal after adding `d`, and asks of `cursorHidden` only "not hidden ⇒ visible"
(after a Close the cursor is visible but the writer never hides it again). -/

/-- the scrolling of one move: `s` rows have scrolled off with the lowest line on `P`; the cursor goes
to the row of line `L`, which would be row `x` of an endless screen with bottom row `B` -/
theorem scroll_arith {B r0 P L x s : Nat} (hs : s = r0 + P - B) (hx : x + s = r0 + L) :
    s + (x - B) = r0 + max P L - B ∧ min x B + (r0 + max P L - B) = r0 + L := by
  have h1 : s + (x - B) = r0 + max P L - B := by
    rcases Nat.le_total P L with h | h
    · rw [Nat.max_eq_right h]; omega
    · rw [Nat.max_eq_left h]; omega
  refine ⟨h1, ?_⟩
  rw [← h1]
  clear h1 hs
  omega

/-- the same for `goTo` from line `c` to line `l` after `d` Closes; the line is still on the screen -/
theorem move_arith {B r0 P row c l d x : Nat} (hrow : row + (r0 + P - B) = r0 + (c + d))
    (hreach : r0 + max P (l + d) - B ≤ r0 + (l + d)) (hx : x = row + (l - c) - (c - l)) :
    r0 + P - B + (x - B) = r0 + max P (l + d) - B ∧ min x B + (r0 + max P (l + d) - B) = r0 + (l + d) := by
  have hsl : r0 + P - B ≤ r0 + (l + d) :=
    Nat.le_trans (Nat.sub_le_sub_right (Nat.add_le_add_left (Nat.le_max_left _ _) _) _) hreach
  clear hreach
  generalize hs : r0 + P - B = s at hrow hsl
  exact scroll_arith hs.symm (by clear hs; omega)

/-- `maxLine` after a write, for a writer with `0 ≤ maxLine` -/
theorem toNat_ite_max (l : Nat) (m : Int) (h : 0 ≤ m) :
    (if (l : Int) > m then (l : Int) else m).toNat = max m.toNat l ∧ (l : Int) ≤ if (l : Int) > m then (l : Int) else m := by
  split <;> omega

/-- the writer after `d` Closes and the terminal agree up to the offset `d`; `phys` = the history in
physical lines -/
structure Inv3 (W H r0 : Nat) (trim : Bool) (t0 : Scr) (phys : List (Nat × Bytes)) (d : Nat) (w : TermWriter) (t : Scr) : Prop where
  ps : t.ps = .ground
  width : t.width = W
  height : t.height = H
  onlcr : t.onlcr = t0.onlcr
  cw : t.cw = t0.cw
  rowlt : t.row < H
  row : t.row + (r0 + (w.maxLine.toNat + d) - (H - 1)) = r0 + (w.cursor.toNat + d)
  cur0 : 0 ≤ w.cursor
  curLe : w.cursor ≤ w.maxLine
  maxGe : ∀ u ∈ phys, u.1 ≤ w.maxLine.toNat + d
  clear : w.clearLine = true
  hideC : w.hideCursor = true
  vis : w.cursorHidden = false → t.cursorVisible = true
  written : ∀ i txt, latest phys i = some txt → r0 + (w.maxLine.toNat + d) - (H - 1) ≤ r0 + i →
    t.rows (r0 + i - (r0 + (w.maxLine.toNat + d) - (H - 1))) = shown W trim txt
  other : ∀ j, j < H → (∀ i, latest phys i ≠ none → r0 + i ≠ j + (r0 + (w.maxLine.toNat + d) - (H - 1))) →
    t.rows j = shiftN H (r0 + (w.maxLine.toNat + d) - (H - 1)) t0.rows j

theorem inv3_init (W H r0 : Nat) (trim : Bool) (t0 : Scr) (hps : t0.ps = .ground) (hw : t0.width = W)
    (hh : t0.height = H) (hr : t0.row = r0) (hlt : r0 < H) (hv : t0.cursorVisible = true) :
    Inv3 W H r0 trim t0 [] 0 TermWriter.new t0 := by
  have hs : r0 + (TermWriter.new.maxLine.toNat + 0) - (H - 1) = 0 := by simp [TermWriter.new]; omega
  refine ⟨hps, hw, hh, rfl, rfl, by omega, by rw [hs]; simp [TermWriter.new, hr], by simp [TermWriter.new],
    by simp [TermWriter.new], by simp, rfl, rfl, fun _ => hv, ?_, ?_⟩
  · intro i txt h; simp [latest] at h
  · intro j _ _; rw [hs, shiftN_zero]

section
variable {W H r0 : Nat} {trim : Bool} {t0 : Scr} {phys : List (Nat × Bytes)} {d : Nat} {w : TermWriter} {t : Scr}

theorem Inv3.shows (inv : Inv3 W H r0 trim t0 phys d w t) :
    Shows W H r0 trim t0.rows phys (r0 + (w.maxLine.toNat + d) - (H - 1)) t.rows := ⟨inv.written, inv.other⟩

/-- every line of the history is on the screen or above it -/
theorem Inv3.onScreen (inv : Inv3 W H r0 trim t0 phys d w t) (i : Nat) (txt : Bytes) (h : latest phys i = some txt) :
    r0 + i < r0 + (w.maxLine.toNat + d) - (H - 1) + H := by
  have := inv.maxGe _ (latest_some _ _ _ h)
  have := inv.rowlt
  omega

/-- a write to line `l` after `d` Closes: physical line `l + d` -/
theorem inv3_step (inv : Inv3 W H r0 trim t0 phys d w t) (l : Nat) (txt : Bytes)
    (hreach : r0 + max (w.maxLine.toNat + d) (l + d) - (H - 1) ≤ r0 + (l + d)) (htxt : TextSafe t0.cw W trim txt) :
    Clean (w.writeForLine (cfg W trim) l txt).2 ∧
    Inv3 W H r0 trim t0 (phys ++ [(l + d, txt)]) d (w.writeForLine (cfg W trim) l txt).1
      (t.feedBytes (w.writeForLine (cfg W trim) l txt).2) := by
  have hH := inv.height
  subst hH
  obtain ⟨hclean, hfeed⟩ := write_feed_scr W trim w t l txt inv.ps inv.width inv.cur0 inv.rowlt inv.clear inv.hideC
    (inv.cw ▸ htxt) _ rfl
  refine ⟨hclean, ?_⟩
  obtain ⟨hmax, hle⟩ := toNat_ite_max l w.maxLine (Int.le_trans inv.cur0 inv.curLe)
  obtain ⟨hs', hrow'⟩ := move_arith inv.row hreach rfl
  have sh := (inv.shows.shift _ inv.onScreen).write (l + d) _ txt (hs' ▸ hrow')
  rw [hs', Nat.add_max_add_right, ← hmax] at sh
  rw [Nat.add_max_add_right, ← hmax] at hrow'
  rw [hfeed, writeForLine_fst, inv.hideC, Bool.or_true]
  refine ⟨inv.ps, inv.width, rfl, inv.onlcr, inv.cw,
    Nat.lt_of_le_of_lt (Nat.min_le_right _ _) (Nat.sub_one_lt (Nat.ne_of_gt (Nat.zero_lt_of_lt inv.rowlt))),
    (by simpa using hrow'), Int.natCast_nonneg l, hle, ?_, inv.clear, rfl, (fun h => by cases h), sh.written, sh.other⟩
  intro u hu
  show u.1 ≤ (if (l : Int) > w.maxLine then (l : Int) else w.maxLine).toNat + d
  rw [hmax, ← Nat.add_max_add_right]
  rcases List.mem_append.mp hu with hu | hu
  · exact Nat.le_trans (inv.maxGe u hu) (Nat.le_max_left _ _)
  · rw [List.mem_singleton.mp hu]; exact Nat.le_max_right _ _

/-- `Close()` after `d` Closes: one more row may scroll off; the terminal's cursor ends one row below
the writer's `maxLine` – the offset grows to `d + 1` –, in column 0, visible -/
theorem inv3_close (inv : Inv3 W H r0 trim t0 phys d w t) :
    Clean (w.close (cfg W trim)).2 ∧
    Inv3 W H r0 trim t0 phys (d + 1) (w.close (cfg W trim)).1 (t.feedBytes (w.close (cfg W trim)).2) ∧
    (t.feedBytes (w.close (cfg W trim)).2).cursorVisible = true ∧ (t.feedBytes (w.close (cfg W trim)).2).col = 0 := by
  have hH := inv.height
  subst hH
  have hcm : w.cursor.toNat ≤ w.maxLine.toNat := Int.toNat_le_toNat inv.curLe
  have hx : t.row + (w.maxLine.toNat - w.cursor.toNat) + 1 + (r0 + (w.maxLine.toNat + d) - (t.height - 1))
      = r0 + (w.maxLine.toNat + d + 1) := by
    have := inv.row; omega
  have hfit : t.row + (w.maxLine.toNat - w.cursor.toNat) < t.height := by
    have := inv.rowlt; omega
  obtain ⟨hclean, hfeed⟩ := close_feed_scr W trim w t inv.ps inv.cur0 inv.curLe inv.vis _ rfl hfit
  obtain ⟨hs', hrow'⟩ := scroll_arith rfl hx
  rw [Nat.max_eq_right (Nat.le_succ _)] at hs' hrow'
  have sh := inv.shows.shift (t.row + (w.maxLine.toNat - w.cursor.toNat) + 1 - (t.height - 1)) inv.onScreen
  rw [hs'] at sh
  rw [hfeed, close_fst]
  exact ⟨hclean, ⟨inv.ps, inv.width, rfl, inv.onlcr, inv.cw,
    Nat.lt_of_le_of_lt (Nat.min_le_right _ _) (Nat.sub_one_lt (Nat.ne_of_gt (Nat.zero_lt_of_lt inv.rowlt))),
    hrow', Int.le_trans inv.cur0 inv.curLe, Int.le_refl _, fun u hu => Nat.le_succ_of_le (inv.maxGe u hu),
    inv.clear, inv.hideC, fun _ => rfl, sh.written, sh.other⟩, rfl, rfl⟩

end

/-- rows scrolled off the top so far: the block of lines `0 … maxLine` starts on row `r0` of a screen of `H` rows -/
def scrolled (H r0 : Nat) (maxLine : Int) : Nat := r0 + maxLine.toNat - (H - 1)

/-- the writer and the terminal agree (up to the rows that have scrolled off), and the screen shows
the latest texts of the lines that are still on it -/
structure Inv2 (W H r0 : Nat) (trim : Bool) (t0 : Scr) (hist : List (Nat × Bytes)) (w : TermWriter) (t : Scr) : Prop where
  ps : t.ps = .ground
  width : t.width = W
  height : t.height = H
  onlcr : t.onlcr = t0.onlcr
  cw : t.cw = t0.cw
  rowlt : t.row < H
  row : t.row + scrolled H r0 w.maxLine = r0 + w.cursor.toNat
  cur0 : 0 ≤ w.cursor
  curLe : w.cursor ≤ w.maxLine
  maxGe : ∀ u ∈ hist, (u.1 : Int) ≤ w.maxLine
  maxIn : w.maxLine = 0 ∨ ∃ u ∈ hist, (u.1 : Int) = w.maxLine
  clear : w.clearLine = true
  hideC : w.hideCursor = true
  vis : t.cursorVisible = !w.cursorHidden
  written : ∀ i txt, latest hist i = some txt → scrolled H r0 w.maxLine ≤ r0 + i →
    t.rows (r0 + i - scrolled H r0 w.maxLine) = shown W trim txt
  other : ∀ j, j < H → (∀ i, latest hist i ≠ none → r0 + i ≠ j + scrolled H r0 w.maxLine) →
    t.rows j = shiftN H (scrolled H r0 w.maxLine) t0.rows j

section
variable {W H r0 : Nat} {trim : Bool} {t0 : Scr} {hist : List (Nat × Bytes)} {w : TermWriter} {t : Scr}

theorem Inv2.inv3 (inv : Inv2 W H r0 trim t0 hist w t) : Inv3 W H r0 trim t0 hist 0 w t :=
  ⟨inv.ps, inv.width, inv.height, inv.onlcr, inv.cw, inv.rowlt, inv.row, inv.cur0, inv.curLe,
    fun u hu => Int.le_toNat (Int.le_trans inv.cur0 inv.curLe) |>.mpr (inv.maxGe u hu), inv.clear, inv.hideC,
    fun h => by rw [inv.vis, h]; rfl, inv.written, inv.other⟩

theorem Inv3.inv2 (inv : Inv3 W H r0 trim t0 hist 0 w t)
    (hin : w.maxLine = 0 ∨ ∃ u ∈ hist, (u.1 : Int) = w.maxLine) (hvis : t.cursorVisible = !w.cursorHidden) :
    Inv2 W H r0 trim t0 hist w t :=
  ⟨inv.ps, inv.width, inv.height, inv.onlcr, inv.cw, inv.rowlt, inv.row, inv.cur0, inv.curLe,
    fun u hu => Int.le_toNat (Int.le_trans inv.cur0 inv.curLe) |>.mp (inv.maxGe u hu), hin, inv.clear, inv.hideC,
    hvis, inv.written, inv.other⟩

end

theorem inv2_init (W H r0 : Nat) (trim : Bool) (t0 : Scr) (hps : t0.ps = .ground) (hw : t0.width = W)
    (hh : t0.height = H) (hr : t0.row = r0) (hlt : r0 < H) (hv : t0.cursorVisible = true) :
    Inv2 W H r0 trim t0 [] TermWriter.new t0 :=
  (inv3_init W H r0 trim t0 hps hw hh hr hlt hv).inv2 (Or.inl rfl) hv

theorem inv2_step {W H r0 : Nat} {trim : Bool} {t0 : Scr} {hist : List (Nat × Bytes)} {w : TermWriter} {t : Scr}
    (inv : Inv2 W H r0 trim t0 hist w t) (l : Nat) (txt : Bytes)
    (hreach : r0 + max w.maxLine.toNat l - (H - 1) ≤ r0 + l) (htxt : TextSafe t0.cw W trim txt) :
    Clean (w.writeForLine (cfg W trim) l txt).2 ∧
    Inv2 W H r0 trim t0 (hist ++ [(l, txt)]) (w.writeForLine (cfg W trim) l txt).1
      (t.feedBytes (w.writeForLine (cfg W trim) l txt).2) := by
  obtain ⟨hclean, inv'⟩ := inv3_step inv.inv3 l txt hreach htxt
  refine ⟨hclean, inv'.inv2 ?_ ?_⟩
  · rw [writeForLine_fst]
    by_cases hgt : (l : Int) > w.maxLine
    · exact Or.inr ⟨(l, txt), by simp, by simp [hgt]⟩
    · simp only [hgt, if_false]
      rcases inv.maxIn with h | ⟨u, hu, hum⟩
      · exact Or.inl h
      · exact Or.inr ⟨u, by simp [hu], hum⟩
  · rw [(write_feed_scr W trim w t l txt inv.ps inv.width inv.cur0 (inv.height ▸ inv.rowlt) inv.clear inv.hideC
      (inv.cw ▸ htxt) _ rfl).2, writeForLine_fst, inv.hideC, inv.vis]
    cases w.cursorHidden <;> rfl

theorem writeForLine_maxLine (c : Cfg) (w : TermWriter) (l : Int) (txt : Bytes) :
    (w.writeForLine c l txt).1.maxLine = if l > w.maxLine then l else w.maxLine := by
  rw [writeForLine_fst]

/-- every update goes to a line still on the screen, starting from the writer's `maxLine` -/
theorem inv2_run (W H r0 : Nat) (trim : Bool) (t0 : Scr) : ∀ (rest hist : List (Nat × Bytes)) (w : TermWriter) (t : Scr),
    Inv2 W H r0 trim t0 hist w t → Reachable H r0 w.maxLine.toNat rest → (∀ u ∈ rest, TextSafe t0.cw W trim u.2) →
    Clean (w.runHistory (cfg W trim) (castHist rest)).2 ∧
    Inv2 W H r0 trim t0 (hist ++ rest) (w.runHistory (cfg W trim) (castHist rest)).1
      (t.feedBytes (w.runHistory (cfg W trim) (castHist rest)).2) := by
  intro rest
  induction rest with
  | nil =>
    intro hist w t inv _ _
    exact ⟨by simpa [castHist, TermWriter.runHistory] using Clean.nil,
      by simpa [castHist, TermWriter.runHistory, Scr.feedBytes_nil] using inv⟩
  | cons u rest ih =>
    intro hist w t inv hreach h
    obtain ⟨hr1, hr2⟩ := hreach
    obtain ⟨hclean, inv'⟩ := inv2_step inv u.1 u.2 hr1 (h u (by simp))
    have hm : (w.writeForLine (cfg W trim) u.1 u.2).1.maxLine.toNat = max w.maxLine.toNat u.1 := by
      rw [writeForLine_maxLine]
      exact (toNat_ite_max u.1 w.maxLine (Int.le_trans inv.cur0 inv.curLe)).1
    have := ih (hist ++ [(u.1, u.2)]) _ _ inv' (by rw [hm]; exact hr2) (fun x hx => h x (by simp [hx]))
    simp only [castHist, List.map_cons, TermWriter.runHistory]
    rw [Scr.feedBytes_append _ _ _ hclean]
    exact ⟨Clean.append hclean (by simpa [castHist] using this.1), by simpa [castHist] using this.2⟩

end Rare.C20

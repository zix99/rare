import Rare.Proofs.C06Match
import Rare.Proofs.C06Resolve
/-! C06: `filepath.Glob` over a tree returns exactly the component-wise matching paths, in sorted order. -/
namespace Rare.C06.Glob
open Rare.C06.Spec

theorem components_eq : ∀ s : Bytes, components s = splitSlash s
  | [] => rfl
  | c :: cs => by
    simp only [components, splitSlash, components_eq cs, slash]
    rfl

theorem bytesLt_of_le_ne : ∀ a b : Bytes, lexLe a b = true → a ≠ b → bytesLt a b
  | [], [], _, h => absurd rfl h
  | [], _ :: _, _, _ => trivial
  | _ :: _, [], h, _ => by simp [lexLe] at h
  | a :: as, b :: bs, h, hne => by
    simp only [lexLe, Bool.or_eq_true, decide_eq_true_eq, Bool.and_eq_true, beq_iff_eq] at h
    rcases h with h | ⟨rfl, h⟩
    · exact Or.inl h
    · exact Or.inr ⟨rfl, bytesLt_of_le_ne as bs h (fun e => hne (by rw [e]))⟩

theorem bytesLt_irrefl : ∀ a : Bytes, ¬ bytesLt a a
  | [] => id
  | a :: as => by
    intro h
    rcases h with h | ⟨_, h⟩
    · exact UInt8.lt_irrefl _ h
    · exact bytesLt_irrefl as h

theorem compsLt_irrefl : ∀ a : List Bytes, ¬ compsLt a a
  | [] => id
  | a :: as => by
    intro h
    rcases h with h | ⟨_, h⟩
    · exact bytesLt_irrefl _ h
    · exact compsLt_irrefl as h

theorem compsLt_snoc (xs : List Bytes) (a b : Bytes) (h : bytesLt a b) : compsLt (xs ++ [a]) (xs ++ [b]) := by
  induction xs with
  | nil => exact Or.inl h
  | cons x xs ih => exact Or.inr ⟨rfl, ih⟩

theorem compsLt_append : ∀ (xs ys : List Bytes) (a b : List Bytes), xs.length = ys.length → compsLt xs ys →
    compsLt (xs ++ a) (ys ++ b)
  | xs, [], _, _, _, h => by cases xs <;> exact absurd h (by simp [compsLt])
  | [], _ :: _, _, _, hl, _ => by simp at hl
  | x :: xs, y :: ys, a, b, hl, h => by
    rcases h with h | ⟨rfl, h⟩
    · exact Or.inl h
    · exact Or.inr ⟨rfl, compsLt_append xs ys a b (by simpa using hl) h⟩

/-! ### the text of a multi-component pattern -/

theorem hasMeta_append (a b : Bytes) : hasMeta (a ++ b) = (hasMeta a || hasMeta b) := by
  simp [hasMeta, List.any_append]

theorem hasMeta_intercalate : ∀ cs : List Bytes, hasMeta (intercalateSlash cs) = cs.any hasMeta
  | [] => rfl
  | [a] => by simp [intercalateSlash]
  | a :: b :: rest => by
    have ih := hasMeta_intercalate (b :: rest)
    simp only [intercalateSlash, hasMeta_append, List.any_cons] at ih ⊢
    have : hasMeta (47 :: intercalateSlash (b :: rest)) = hasMeta (intercalateSlash (b :: rest)) := by
      simp [hasMeta]
    rw [this, ih]

theorem wellFormed_intercalate : ∀ cs : List Bytes, (∀ c ∈ cs, WellFormed c) → WellFormed (intercalateSlash cs)
  | [], _ => ⟨[], Parses.nil⟩
  | [a], h => h a (by simp)
  | a :: b :: rest, h => by
    obtain ⟨x, hx⟩ := h a (by simp)
    obtain ⟨y, hy⟩ := wellFormed_intercalate (b :: rest) (fun c hc => h c (by simp [hc]))
    exact ⟨_, parses_append hx (Parses.lit 47 (by decide) (by decide) (by decide) (by decide) hy)⟩

theorem noslash_reverse (c : Bytes) (hc : (47 : UInt8) ∉ c) : ∀ y ∈ c.reverse, decide (y ≠ 47) = true := by
  intro y hy
  simp only [ne_eq, decide_not, Bool.not_eq_true', decide_eq_false_iff_not]
  intro e; subst e; exact hc (by simpa using hy)

theorem splitPath_slash (a c : Bytes) (hc : (47 : UInt8) ∉ c) : splitPath (a ++ 47 :: c) = (a ++ [47], c) := by
  unfold splitPath
  have htw : (a ++ 47 :: c).reverse.takeWhile (· ≠ 47) = c.reverse := by
    rw [List.reverse_append, List.reverse_cons, List.append_assoc, List.takeWhile_append_of_pos (noslash_reverse c hc)]
    simp
  simp only [htw, List.reverse_reverse, List.length_append, List.length_cons]
  have : a.length + (c.length + 1) - c.length = a.length + 1 := by omega
  rw [this]
  have e : a ++ 47 :: c = (a ++ [47]) ++ c := by simp
  rw [e, List.take_left' (by simp)]

theorem splitPath_noslash (c : Bytes) (hc : (47 : UInt8) ∉ c) : splitPath c = ([], c) := by
  unfold splitPath
  have htw : c.reverse.takeWhile (· ≠ 47) = c.reverse := by
    simpa using List.takeWhile_append_of_pos (l₂ := []) (noslash_reverse c hc)
  rw [htw]
  simp

/-- the entries of one directory that match, as paths -/
def dirHits (root : Node) (d c : Bytes) : List Bytes :=
  match readDirNames root d with
  | none => []
  | some names => (names.filter (fun n => goMatch c n == .matched true)).map (join d)

theorem globNames_ok (d c : Bytes) : ∀ (names : List Name) (m : List Bytes),
    (∀ n ∈ names, ∃ b, goMatch c n = .matched b) →
    globNames d c names m = .ok (m ++ (names.filter (fun n => goMatch c n == .matched true)).map (join d))
  | [], m, _ => by simp [globNames]
  | n :: ns, m, h => by
    obtain ⟨b, hb⟩ := h n (by simp)
    have ih := globNames_ok d c ns
    cases b with
    | true =>
      simp only [globNames, hb, List.filter_cons, beq_self_eq_true, if_true, List.map_cons]
      rw [ih _ (fun x hx => h x (by simp [hx]))]
      simp
    | false =>
      simp only [globNames, hb, List.filter_cons]
      rw [ih _ (fun x hx => h x (by simp [hx]))]
      simp

theorem globDir_ok (root : Node) (d c : Bytes) (m : List Bytes) (h : WellFormed c) :
    globDir root d c m = .ok (m ++ dirHits root d c) := by
  unfold globDir dirHits
  cases readDirNames root d with
  | none => simp
  | some names => exact globNames_ok d c names m (fun n _ => goMatch_total c n h)

theorem globDirs_ok (root : Node) (c : Bytes) (h : WellFormed c) : ∀ (ds : List Bytes) (m : List Bytes),
    globDirs root c ds m = .ok (m ++ ds.flatMap (dirHits root · c))
  | [], m => by simp [globDirs]
  | d :: ds, m => by
    simp only [globDirs, globDir_ok root d c m h, globDirs_ok root c h ds, List.flatMap_cons, List.append_assoc]

/-- `d` is `.` (`ds = []`) or the path made of the proper names `ds` -/
def Dirish (k : Nat) (d : Bytes) (ds : List Name) : Prop :=
  ds.length = k ∧ (∀ x ∈ ds, NormalName x) ∧ d = (if ds = [] then dot else intercalateSlash ds)

theorem simple_ne_dot (ds : List Name) (hne : ds ≠ []) (hn : ∀ x ∈ ds, NormalName x) : intercalateSlash ds ≠ dot := by
  match ds, hne with
  | [a], _ => exact (hn a (by simp)).2.2.2.1
  | a :: b :: rest, _ =>
    simp only [intercalateSlash]
    intro e
    have hlen := congrArg List.length e
    have ha : a ≠ [] := (hn a (by simp)).1
    have hb := intercalateSlash_ne_nil (b :: rest) (by simp) (fun x hx => (hn x (by simp [hx])).1)
    cases a with
    | nil => exact ha rfl
    | cons x xs =>
      cases hi : intercalateSlash (b :: rest) with
      | nil => exact hb hi
      | cons y ys => rw [hi] at hlen; simp [dot] at hlen

theorem Dirish.join {k : Nat} {d : Bytes} {ds : List Name} (h : Dirish k d ds) {n : Name} (hn : NormalName n) :
    Glob.join d n = intercalateSlash (ds ++ [n]) ∧ pjoin d n = intercalateSlash (ds ++ [n]) ∧
      Dirish (k + 1) (intercalateSlash (ds ++ [n])) (ds ++ [n]) ∧
      components (intercalateSlash (ds ++ [n])) = ds ++ [n] := by
  obtain ⟨hk, hnorm, hd⟩ := h
  have hall : ∀ x ∈ ds ++ [n], NormalName x := List.forall_mem_append.2 ⟨hnorm, by simpa using hn⟩
  refine ⟨?_, ?_, ⟨by simp [hk], hall, by simp⟩, ?_⟩
  · by_cases hds : ds = []
    · subst hds; simp only [if_true] at hd; subst hd
      simpa [intercalateSlash] using (join_dot n hn).1
    · simp only [hds, if_false] at hd; subst hd
      exact join_simple ds n hds hnorm hn
  · unfold pjoin
    by_cases hds : ds = []
    · subst hds; simp only [if_true] at hd; subst hd
      simp [dotPath, dot, intercalateSlash]
    · simp only [hds, if_false] at hd; subst hd
      have : intercalateSlash ds ≠ dotPath := simple_ne_dot ds hds hnorm
      simp only [this, if_false, slash]
      exact (intercalateSlash_append_singleton ds n hds).symm
  · rw [components_eq]
    exact splitSlash_intercalate _ (by simp) (fun x hx => (hall x hx).2.1)

theorem Dirish.components {k : Nat} {d : Bytes} {ds : List Name} (h : Dirish k d ds) (hne : ds ≠ []) :
    components d = ds := by
  obtain ⟨_, hnorm, hd⟩ := h
  simp only [hne, if_false] at hd; subst hd
  rw [components_eq]
  exact splitSlash_intercalate _ hne (fun x hx => (hnorm x hx).2.1)

theorem Dirish.eq_nil_iff {k : Nat} {d : Bytes} {ds : List Name} (h : Dirish k d ds) : ds = [] ↔ k = 0 := by
  rw [← h.1, List.length_eq_zero_iff]

theorem Dirish.unique {k : Nat} {d : Bytes} {ds ds' : List Name} (h : Dirish k d ds) (h' : Dirish k d ds') : ds = ds' := by
  by_cases e : ds = []
  · rw [e, h'.eq_nil_iff.2 (h.eq_nil_iff.1 e)]
  · rw [← h.components e, ← h'.components (fun e' => e (h.eq_nil_iff.2 (h'.eq_nil_iff.1 e')))]

theorem pairwise_filter_map_of {α β : Type} {R : α → α → Prop} {S : β → β → Prop} (f : α → β) (p : α → Bool)
    (hf : ∀ a b, R a b → S (f a) (f b)) : ∀ l : List α, l.Pairwise R → ((l.filter p).map f).Pairwise S := by
  intro l hl
  exact List.Pairwise.map f hf (hl.sublist List.filter_sublist)

/-- One level of the expansion: from the directories `D` to the matching entries below them. -/
theorem glob_level (root : Node) (hw : root.WF) (c : Bytes) (ast : Pat) (k : Nat) (D : List Bytes) (R : Bytes → Prop)
    (hmem : ∀ d, d ∈ D ↔ R d) (hdir : ∀ d ∈ D, ∃ ds, Dirish k d ds) (hord : D.Pairwise pathLt)
    (hok : ∀ d ∈ D, ∀ names n, readDirNames root d = some names → n ∈ names →
      (goMatch c n = .matched true ↔ Matches ast n)) :
    (∀ p, p ∈ D.flatMap (dirHits root · c) ↔
      ∃ d names n, R d ∧ readDirNames root d = some names ∧ n ∈ names ∧ Matches ast n ∧ p = pjoin d n) ∧
    (∀ p ∈ D.flatMap (dirHits root · c), ∃ ds, Dirish (k + 1) p ds) ∧
    (D.flatMap (dirHits root · c)).Pairwise pathLt := by
  -- what one directory contributes
  have one : ∀ d ∈ D, ∀ ds, Dirish k d ds → ∀ p, p ∈ dirHits root d c ↔
      ∃ names n, readDirNames root d = some names ∧ n ∈ names ∧ Matches ast n ∧ p = intercalateSlash (ds ++ [n]) := by
    intro d hd ds hds p
    unfold dirHits
    cases hr : readDirNames root d with
    | none => simp
    | some names =>
      have hnn := (readDirNames_wf root hw d names hr).1
      simp only [List.mem_map, List.mem_filter, beq_iff_eq]
      constructor
      · intro ⟨n, ⟨hn, hm⟩, hp⟩
        exact ⟨names, n, rfl, hn, (hok d hd names n hr hn).1 hm, by rw [← hp, (hds.join (hnn n hn)).1]⟩
      · intro ⟨names', n, he, hn, hm, hp⟩
        cases he
        exact ⟨n, ⟨hn, (hok d hd names n hr hn).2 hm⟩, by rw [hp, (hds.join (hnn n hn)).1]⟩
  refine ⟨?_, ?_, ?_⟩
  · intro p
    simp only [List.mem_flatMap]
    constructor
    · intro ⟨d, hd, hp⟩
      obtain ⟨ds, hds⟩ := hdir d hd
      obtain ⟨names, n, hr, hn, hm, hpe⟩ := (one d hd ds hds p).1 hp
      have hnn := (readDirNames_wf root hw d names hr).1 n hn
      exact ⟨d, names, n, (hmem d).1 hd, hr, hn, hm, by rw [hpe, (hds.join hnn).2.1]⟩
    · intro ⟨d, names, n, hR, hr, hn, hm, hpe⟩
      have hd := (hmem d).2 hR
      obtain ⟨ds, hds⟩ := hdir d hd
      have hnn := (readDirNames_wf root hw d names hr).1 n hn
      exact ⟨d, hd, (one d hd ds hds p).2 ⟨names, n, hr, hn, hm, by rw [hpe, (hds.join hnn).2.1]⟩⟩
  · intro p hp
    simp only [List.mem_flatMap] at hp
    obtain ⟨d, hd, hp⟩ := hp
    obtain ⟨ds, hds⟩ := hdir d hd
    obtain ⟨names, n, hr, hn, _, hpe⟩ := (one d hd ds hds p).1 hp
    have hnn := (readDirNames_wf root hw d names hr).1 n hn
    exact ⟨ds ++ [n], by rw [hpe]; exact (hds.join hnn).2.2.1⟩
  · -- sorted: within one directory by the names, across directories by the directories
    have within : ∀ d ∈ D, (dirHits root d c).Pairwise pathLt := by
      intro d hd
      obtain ⟨ds, hds⟩ := hdir d hd
      unfold dirHits
      cases hr : readDirNames root d with
      | none => exact List.Pairwise.nil
      | some names =>
        obtain ⟨hnn, hsorted⟩ := readDirNames_wf root hw d names hr
        -- restrict to the names of this listing to have their normality at hand
        have : ((names.filter (fun n => goMatch c n == .matched true)).map (Glob.join d)).Pairwise pathLt := by
          have hs2 : names.Pairwise (fun a b => (lexLe a b = true ∧ a ≠ b) ∧ NormalName a ∧ NormalName b) := by
            apply List.Pairwise.imp_of_mem _ hsorted
            intro a b ha hb h
            exact ⟨h, hnn a ha, hnn b hb⟩
          apply pairwise_filter_map_of (Glob.join d) _ _ names hs2
          intro a b ⟨⟨hle, hne⟩, ha, hb⟩
          unfold pathLt
          rw [(hds.join ha).1, (hds.join hb).1, (hds.join ha).2.2.2, (hds.join hb).2.2.2]
          exact compsLt_snoc ds a b (bytesLt_of_le_ne a b hle hne)
        exact this
    have across : ∀ d ∈ D, ∀ d' ∈ D, pathLt d d' → ∀ p ∈ dirHits root d c, ∀ q ∈ dirHits root d' c, pathLt p q := by
      intro d hd d' hd' hlt p hp q hq
      obtain ⟨ds, hds⟩ := hdir d hd
      obtain ⟨ds', hds'⟩ := hdir d' hd'
      obtain ⟨names, n, hr, hn, _, hpe⟩ := (one d hd ds hds p).1 hp
      obtain ⟨names', n', hr', hn', _, hqe⟩ := (one d' hd' ds' hds' q).1 hq
      have hnn := (readDirNames_wf root hw d names hr).1 n hn
      have hnn' := (readDirNames_wf root hw d' names' hr').1 n' hn'
      unfold pathLt
      rw [hpe, hqe, (hds.join hnn).2.2.2, (hds'.join hnn').2.2.2]
      by_cases e : ds = []
      · -- both are `.`: impossible, `.` is not below itself
        have e' : ds' = [] := hds'.eq_nil_iff.2 (hds.eq_nil_iff.1 e)
        have h1 := hds.2.2; have h2 := hds'.2.2
        simp only [e, e', if_true] at h1 h2
        rw [h1, h2] at hlt
        exact absurd hlt (compsLt_irrefl _)
      · have e' : ds' ≠ [] := fun e' => e (hds.eq_nil_iff.2 (hds'.eq_nil_iff.1 e'))
        unfold pathLt at hlt
        rw [hds.components e, hds'.components e'] at hlt
        exact compsLt_append ds ds' [n] [n'] (by rw [hds.1, hds'.1]) hlt
    clear one hmem hok
    induction D with
    | nil => exact List.Pairwise.nil
    | cons d D ih =>
      simp only [List.flatMap_cons]
      rw [List.pairwise_append]
      have hord' := List.pairwise_cons.1 hord
      refine ⟨within d (by simp), ?_, ?_⟩
      · exact ih (fun x hx => hdir x (by simp [hx])) hord'.2 (fun x hx => within x (by simp [hx]))
          (fun x hx y hy => across x (by simp [hx]) y (by simp [hy]))
      · intro p hp q hq
        simp only [List.mem_flatMap] at hq
        obtain ⟨d', hd', hq⟩ := hq
        exact across d (by simp) d' (by simp [hd']) (hord'.1 d' hd') p hp q hq

/-- the file system as `Glob` sees it -/
def treeView (root : Node) : FsView := ⟨readDirNames root⟩

theorem split_last (xs : List Bytes) (c : Bytes) (hxs : xs ≠ []) (hne : ∀ x ∈ xs, x ≠ []) (hc : (47 : UInt8) ∉ c) :
    splitPath (intercalateSlash (xs ++ [c])) = (intercalateSlash xs ++ [47], c) ∧
    cleanGlobPath (intercalateSlash xs ++ [47]) = intercalateSlash xs := by
  constructor
  · rw [intercalateSlash_append_singleton xs c hxs]
    exact splitPath_slash _ c hc
  · have h1 := intercalateSlash_ne_nil xs hxs hne
    unfold cleanGlobPath
    have h2 : intercalateSlash xs ++ [47] ≠ [] := by simp
    have h3 : intercalateSlash xs ++ [47] ≠ [47] := by
      intro e
      have := congrArg List.length e
      simp only [List.length_append, List.length_cons, List.length_nil] at this
      exact h1 (List.length_eq_zero_iff.1 (by omega))
    simp [h2, h3]

theorem globRel_cons_iff (fs : FsView) (start c : Bytes) (rcs : List Bytes) (ast : Pat) (hp : Parses c ast) (p : Bytes) :
    GlobRel fs start (c :: rcs) p ↔
      ∃ d names n, GlobRel fs start rcs d ∧ fs.list d = some names ∧ n ∈ names ∧ Matches ast n ∧ p = pjoin d n := by
  simp only [GlobRel]
  constructor
  · intro ⟨d, names, n, ast', h1, h2, h3, h4, h5, h6⟩
    rw [parses_unique h4 hp] at h5
    exact ⟨d, names, n, h1, h2, h3, h5, h6⟩
  · intro ⟨d, names, n, h1, h2, h3, h5, h6⟩
    exact ⟨d, names, n, ast, h1, h2, h3, hp, h5, h6⟩

theorem globF_spec (root : Node) (hw : root.WF) (lits : List Name)
    (hl : ∀ x ∈ lits, NormalName x ∧ hasMeta x = false) :
    ∀ (rcs : List Bytes), rcs ≠ [] → (∀ c ∈ rcs, c ≠ [] ∧ (47 : UInt8) ∉ c ∧ WellFormed c) →
      (∀ c ∈ rcs, ∀ ast, Parses c ast → ∀ d names n, readDirNames root d = some names → n ∈ names →
        (goMatch c n = .matched true ↔ Matches ast n)) →
      (∀ c, rcs.getLast? = some c → hasMeta c = true) →
      ∀ f, rcs.length < f →
      ∃ L, globF f root (intercalateSlash (lits ++ rcs.reverse)) = .ok L ∧
        (∀ p, p ∈ L ↔ GlobRel (treeView root) (if lits = [] then dot else intercalateSlash lits) rcs p) ∧
        (∀ p ∈ L, ∃ ds, Dirish (lits.length + rcs.length) p ds) ∧ L.Pairwise pathLt := by
  intro rcs
  induction rcs with
  | nil => intro h; exact absurd rfl h
  | cons c rcs' ih =>
    intro _ hcs hmatch hmeta f hf
    obtain ⟨hcne, hcsl, hcwf⟩ := hcs c (by simp)
    obtain ⟨ast, hpc⟩ := hcwf
    cases f with
    | zero => omega
    | succ f =>
      -- the components before the last one
      have hlits_ne : ∀ x ∈ lits, x ≠ [] := fun x hx => (hl x hx).1.1
      have hxs_ne : ∀ x ∈ lits ++ rcs'.reverse, x ≠ [] := by
        intro x hx
        rcases List.mem_append.1 hx with h | h
        · exact hlits_ne x h
        · exact (hcs x (by simp [List.mem_reverse.1 h])).1
      have hall_wf : ∀ x ∈ lits ++ (c :: rcs').reverse, WellFormed x := by
        intro x hx
        rcases List.mem_append.1 hx with h | h
        · exact ⟨_, noMeta_parses x (hl x h).2⟩
        · exact (hcs x (List.mem_reverse.1 h)).2.2
      have hpat_wf := wellFormed_intercalate _ hall_wf
      obtain ⟨b, hb⟩ := goMatch_total _ [] hpat_wf
      have hpat_meta : hasMeta (intercalateSlash (lits ++ (c :: rcs').reverse)) = true := by
        rw [hasMeta_intercalate, List.any_eq_true]
        cases hg : (c :: rcs').getLast? with
        | none => simp at hg
        | some g =>
          exact ⟨g, List.mem_append_right _ (List.mem_reverse.2 (List.mem_of_getLast? hg)), hmeta g hg⟩
      have hrev : lits ++ (c :: rcs').reverse = (lits ++ rcs'.reverse) ++ [c] := by simp
      unfold globF
      simp only [hb, hpat_meta, Bool.not_true, Bool.false_eq_true, if_false]
      rw [hrev]
      by_cases hr0 : rcs' = []
      · -- the first pattern component: the directory is the literal prefix, or `.` if there is none
        subst hr0
        obtain ⟨dir0, hsp, hcgp⟩ : ∃ dir0, splitPath (intercalateSlash (lits ++ [c])) = (dir0, c) ∧
            cleanGlobPath dir0 = (if lits = [] then dot else intercalateSlash lits) := by
          by_cases hl0 : lits = []
          · subst hl0; exact ⟨[], splitPath_noslash c hcsl, rfl⟩
          · obtain ⟨h1, h2⟩ := split_last lits c hl0 hlits_ne hcsl
            exact ⟨_, h1, by rw [h2, if_neg hl0]⟩
        have hdm : hasMeta (if lits = [] then dot else intercalateSlash lits) = false := by
          split
          · decide
          · rw [hasMeta_intercalate]
            simp only [List.any_eq_false]
            intro x hxm
            simp [(hl x hxm).2]
        simp only [List.reverse_nil, List.append_nil, hsp, hcgp, hdm, Bool.not_false, if_true,
          globDir_ok root _ c [] ⟨ast, hpc⟩, List.nil_append]
        have hlev := glob_level root hw c ast lits.length [if lits = [] then dot else intercalateSlash lits]
          (fun d => d = if lits = [] then dot else intercalateSlash lits) (by simp)
          (by
            intro d hd; simp only [List.mem_singleton] at hd; subst hd
            exact ⟨lits, rfl, fun x hxm => (hl x hxm).1, rfl⟩)
          (List.pairwise_singleton _ _)
          (fun d _ names n hr hn => hmatch c (by simp) ast hpc d names n hr hn)
        simp only [List.flatMap_cons, List.flatMap_nil, List.append_nil] at hlev
        refine ⟨_, rfl, ?_, by simpa using hlev.2.1, hlev.2.2⟩
        intro p
        rw [hlev.1 p, globRel_cons_iff _ _ _ _ ast hpc]
        simp [GlobRel, treeView]
      · -- a deeper component: expand the directory part first
        have hx : lits ++ rcs'.reverse ≠ [] := by simp [hr0]
        have hlast : ∀ g, rcs'.getLast? = some g → hasMeta g = true := by
          intro g hg
          apply hmeta g
          cases rcs' with
          | nil => exact absurd rfl hr0
          | cons a as => simpa [List.getLast?_cons_cons] using hg
        obtain ⟨hsp, hcgp⟩ := split_last (lits ++ rcs'.reverse) c hx hxs_ne hcsl
        have hdir_ne : intercalateSlash (lits ++ rcs'.reverse) ≠ intercalateSlash (lits ++ rcs'.reverse ++ [c]) := by
          rw [intercalateSlash_append_singleton _ c hx]
          intro e
          have := congrArg List.length e
          simp at this
        have hdm : hasMeta (intercalateSlash (lits ++ rcs'.reverse)) = true := by
          rw [hasMeta_intercalate, List.any_eq_true]
          cases hg : rcs'.getLast? with
          | none => exact absurd (List.getLast?_eq_none_iff.1 hg) hr0
          | some g => exact ⟨g, List.mem_append_right _ (List.mem_reverse.2 (List.mem_of_getLast? hg)), hlast g hg⟩
        simp only [hsp, hcgp, hdm, Bool.not_true, Bool.false_eq_true, if_false, hdir_ne]
        obtain ⟨L', hL', hmem', hdir', hord'⟩ := ih hr0 (fun x hxm => hcs x (by simp [hxm]))
          (fun x hxm => hmatch x (by simp [hxm])) hlast f (by simp only [List.length_cons] at hf; omega)
        simp only [hL', globDirs_ok root c ⟨ast, hpc⟩, List.nil_append]
        have hlev := glob_level root hw c ast (lits.length + rcs'.length) L' _ hmem' hdir' hord'
          (fun d _ names n hr hn => hmatch c (by simp) ast hpc d names n hr hn)
        refine ⟨_, rfl, ?_, ?_, hlev.2.2⟩
        · intro p
          rw [hlev.1 p, globRel_cons_iff _ _ _ _ ast hpc]
          simp [treeView]
        · simpa [Nat.add_assoc] using hlev.2.1

end Rare.C06.Glob

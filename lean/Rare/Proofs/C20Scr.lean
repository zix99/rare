import Rare.Spec.C20Screen
import Rare.Proofs.C20Term
/-! C20 helper lemmas: what the reference terminal `Scr` (cell widths, scrolling, C0 controls) does
with the pieces the writer emits. -/
namespace Rare.C20

theorem Scr.feed_nil (t : Scr) : t.feed [] = t := rfl
theorem Scr.feed_cons (t : Scr) (r : Rune) (rs : List Rune) : t.feed (r :: rs) = (t.step r).feed rs := rfl
theorem Scr.feed_append (t : Scr) (a b : List Rune) : t.feed (a ++ b) = (t.feed a).feed b := by
  simp [Scr.feed, List.foldl_append]

theorem shiftN_zero (H : Nat) (rows : Nat → List Rune) : shiftN H 0 rows = rows := by
  funext j; simp [shiftN]

theorem shiftN_one (H : Nat) (rows : Nat → List Rune) : shiftN H 1 rows = shift1 H rows := by
  funext j; simp [shiftN, shift1]

theorem shiftN_pos (H k : Nat) (rows : Nat → List Rune) (j : Nat) (hk : k ≠ 0) :
    shiftN H k rows j = if j + k < H then rows (j + k) else [] := by
  simp only [shiftN, hk, if_false]

theorem shiftN_shiftN (H s k : Nat) (rows : Nat → List Rune) :
    shiftN H k (shiftN H s rows) = shiftN H (s + k) rows := by
  funext j
  by_cases hk : k = 0
  · subst hk; rfl
  · by_cases hs : s = 0
    · subst hs; rw [shiftN_zero, Nat.zero_add]
    · have hsk : s + k ≠ 0 := by omega
      have e : j + k + s = j + (s + k) := by omega
      simp only [shiftN, hk, hs, hsk, if_false, e]
      by_cases h : j + k < H
      · simp only [h, if_true]
      · have : ¬ j + (s + k) < H := by omega
        simp only [h, this, if_false]

/-! ### control sequences (from any parser state: ESC restarts) -/

theorem Scr.feed_hide (t : Scr) :
    t.feed [27, 91, 63, 50, 53, 108] = { t with cursorVisible := false, ps := .ground } := by
  obtain ⟨w, ht, o, cw, rows, row, col, vis, ps⟩ := t; rfl

theorem Scr.feed_show (t : Scr) :
    t.feed [27, 91, 63, 50, 53, 104] = { t with cursorVisible := true, ps := .ground } := by
  obtain ⟨w, ht, o, cw, rows, row, col, vis, ps⟩ := t; rfl

theorem Scr.feed_erase (t : Scr) :
    t.feed [27, 91, 48, 75] = ({ t with ps := .ground }).eraseToEol := by
  obtain ⟨w, ht, o, cw, rows, row, col, vis, ps⟩ := t; rfl

theorem Scr.feed_up1 (t : Scr) :
    t.feed [27, 91, 49, 65] = { t with row := t.row - min 1 t.row, ps := .ground } := by
  obtain ⟨w, ht, o, cw, rows, row, col, vis, ps⟩ := t; rfl

theorem Scr.step_cr (t : Scr) : t.step 13 = { t with col := 0 } := by
  obtain ⟨w, ht, o, cw, rows, row, col, vis, ps⟩ := t; rfl

theorem Scr.step_lf (t : Scr) : t.step 10 = t.lineFeed := by
  obtain ⟨w, ht, o, cw, rows, row, col, vis, ps⟩ := t; rfl

theorem Scr.lineFeed_fit (t : Scr) (h : t.row + 1 < t.height) :
    t.lineFeed = { t with row := t.row + 1, col := if t.onlcr then 0 else t.col } := by
  obtain ⟨w, ht, o, cw, rows, row, col, vis, ps⟩ := t
  cases o <;> simp [Scr.lineFeed, Scr.down, show row + 1 < ht from h]

theorem Scr.lineFeed_scroll (t : Scr) (h : ¬ t.row + 1 < t.height) :
    t.lineFeed = { t with rows := shift1 t.height t.rows, col := if t.onlcr then 0 else t.col } := by
  obtain ⟨w, ht, o, cw, rows, row, col, vis, ps⟩ := t
  cases o <;> simp [Scr.lineFeed, Scr.down, show ¬ row + 1 < ht from h]

/-- one line feed: the screen scrolls when the cursor is on the bottom row -/
theorem Scr.lineFeed_eq (t : Scr) (hr : t.row < t.height) :
    t.lineFeed = { t with rows := shiftN t.height (t.row + 1 - (t.height - 1)) t.rows,
                          row := min (t.row + 1) (t.height - 1),
                          col := if t.onlcr then 0 else t.col } := by
  by_cases h : t.row + 1 < t.height
  · have hB : t.row + 1 ≤ t.height - 1 := Nat.le_sub_one_of_lt h
    rw [Scr.lineFeed_fit t h, Nat.sub_eq_zero_of_le hB, Nat.min_eq_left hB, shiftN_zero]
  · have hB : t.height - 1 = t.row := by omega
    rw [Scr.lineFeed_scroll t h, hB, Nat.add_sub_cancel_left, shiftN_one, Nat.min_eq_right (Nat.le_add_right _ _)]

/-- `n` line feeds, then a carriage return: the screen scrolls by the number of line feeds that did
not fit below the cursor -/
theorem Scr.feed_downs (n : Nat) : ∀ (t : Scr), t.row < t.height →
    t.feed (List.replicate n 10 ++ [13]) =
      { t with rows := shiftN t.height (t.row + n - (t.height - 1)) t.rows,
               row := min (t.row + n) (t.height - 1), col := 0 } := by
  induction n with
  | zero =>
    intro t h
    have hB : t.row ≤ t.height - 1 := Nat.le_sub_one_of_lt h
    simp [Scr.feed_cons, Scr.feed_nil, Scr.step_cr, Nat.sub_eq_zero_of_le hB, Nat.min_eq_left hB, shiftN_zero]
  | succ n ih =>
    intro t hr
    rw [List.replicate_succ, List.cons_append, Scr.feed_cons, Scr.step_lf]
    by_cases h : t.row + 1 < t.height
    · rw [Scr.lineFeed_fit t h, ih _ (by exact h)]
      simp only [Nat.add_assoc, Nat.add_comm 1 n]
    · rw [Scr.lineFeed_scroll t h, ih _ (by exact hr)]
      have hB : t.height - 1 = t.row := by omega
      simp only [hB, Nat.add_sub_cancel_left, Nat.min_eq_right (Nat.le_add_right _ _), ← shiftN_one,
        shiftN_shiftN, Nat.add_comm 1 n]

/-- `n` times `ESC[1A`, then a carriage return: cursor-up stops at the top row -/
theorem Scr.feed_ups (n : Nat) : ∀ (t : Scr), t.ps = .ground →
    t.feed ((List.replicate n [27, 91, 49, 65]).flatten ++ [13]) = { t with row := t.row - n, col := 0 } := by
  induction n with
  | zero => intro t _; simp [Scr.feed_cons, Scr.feed_nil, Scr.step_cr]
  | succ n ih =>
    intro t h
    rw [List.replicate_succ, List.flatten_cons, List.append_assoc, Scr.feed_append, Scr.feed_up1, ih _ rfl]
    have e : t.row - min 1 t.row - n = t.row - (n + 1) := by omega
    simp only [e, ← h]

/-! ### SGR: zero width -/

theorem Scr.feed_params (p : List Rune) (hp : ∀ c ∈ p, 48 ≤ c ∧ c ≤ 59) :
    ∀ (t : Scr) (acc : List Rune), t.ps = .csi acc → t.feed p = { t with ps := .csi (acc ++ p) } := by
  induction p with
  | nil => intro t acc h; obtain ⟨w, ht, o, cw, rows, row, col, vis, ps⟩ := t; simp only at h; subst h; simp [Scr.feed_nil]
  | cons c p ih =>
    intro t acc h
    have hc := hp c (by simp)
    have hp' : ∀ x ∈ p, 48 ≤ x ∧ x ≤ 59 := fun x hx => hp x (by simp [hx])
    obtain ⟨w, ht, o, cw, rows, row, col, vis, ps⟩ := t
    simp only at h; subst h
    have h1 : c ≠ 27 := by omega
    have h2 : ¬ (c = 24 ∨ c = 26) := by omega
    have h3 : ¬ c < 32 := by omega
    have h4 : c ≤ 0x3F := by omega
    rw [Scr.feed_cons]
    simp only [Scr.step, h1, h2, h3, h4, if_false, if_true]
    rw [ih hp' _ (acc ++ [c]) rfl]
    simp

theorem Scr.step_m_csi (t : Scr) (acc : List Rune) (h : t.ps = .csi acc) :
    t.step 109 = { t with ps := .ground } := by
  obtain ⟨w, ht, o, cw, rows, row, col, vis, ps⟩ := t
  simp only at h; subst h; rfl

theorem Scr.feed_sgr (t : Scr) (p : List Rune) (hp : ∀ c ∈ p, 48 ≤ c ∧ c ≤ 59) :
    t.feed (27 :: 91 :: p ++ [109]) = { t with ps := .ground } := by
  rw [List.cons_append, List.cons_append, Scr.feed_cons, Scr.feed_cons, Scr.feed_append]
  have h0 : (t.step 27).step 91 = { t with ps := .csi [] } := by
    obtain ⟨w, ht, o, cw, rows, row, col, vis, ps⟩ := t; rfl
  rw [h0, Scr.feed_params p hp _ [] rfl, Scr.feed_cons, Scr.feed_nil, Scr.step_m_csi _ _ rfl]

/-- an unterminated colour sequence only changes the parser state -/
theorem Scr.feed_tail (t : Scr) (tail : List Rune) (h : SgrTail tail) (hg : t.ps = .ground) :
    ∃ q, t.feed tail = { t with ps := q } := by
  rcases h with h | h | ⟨p, h, hp⟩
  · subst h; exact ⟨.ground, by obtain ⟨w, ht, o, cw, rows, row, col, vis, ps⟩ := t; simp only at hg; subst hg; rfl⟩
  · subst h; exact ⟨.esc, by obtain ⟨w, ht, o, cw, rows, row, col, vis, ps⟩ := t; rfl⟩
  · subst h
    refine ⟨.csi ([] ++ p), ?_⟩
    rw [Scr.feed_cons, Scr.feed_cons]
    have h0 : (t.step 27).step 91 = { t with ps := .csi [] } := by
      obtain ⟨w, ht, o, cw, rows, row, col, vis, ps⟩ := t; rfl
    rw [h0, Scr.feed_params p hp _ [] rfl]

theorem Scr.step_print (t : Scr) (h : t.ps = .ground) (r : Rune) (hr : 32 ≤ r ∧ r ≠ 127) (hw : t.cw r = 1)
    (hc : t.col < t.width) :
    t.step r = { t with rows := setRow t.rows t.row (writeAt (t.rows t.row) t.col r), col := t.col + 1 } := by
  obtain ⟨w, ht, o, cw, rows, row, col, vis, ps⟩ := t
  simp only at h hw hc; subst h
  have h1 : r ≠ 27 := by omega
  have h2 : ¬ (r = 24 ∨ r = 26) := by omega
  have h3 : ¬ r < 32 := by omega
  have h4 : r ≠ 127 := hr.2
  have h5 : ¬ (col + 1 > w) := by omega
  simp [Scr.step, h1, h2, h3, h4, Scr.putChar, hw, h5]

theorem Scr.down_ps (t : Scr) : t.down.ps = t.ps := by
  unfold Scr.down; split <;> rfl

theorem Scr.putChar_ps (t : Scr) (r : Rune) : (t.putChar r).ps = t.ps := by
  unfold Scr.putChar
  extract_lets w src t' cells
  split
  · rfl
  · have ht' : t'.ps = t.ps := by
      show (if _ then _ else _ : Scr).ps = _
      split
      · exact Scr.down_ps t
      · rfl
    split <;> exact ht'

/-- a printable rune leaves the parser in the ground state (whatever its width) -/
theorem Scr.step_print_ps (t : Scr) (h : t.ps = .ground) (r : Rune) (hr : 32 ≤ r ∧ r ≠ 127) :
    (t.step r).ps = .ground := by
  have h1 : r ≠ 27 := by omega
  have h2 : ¬ (r = 24 ∨ r = 26) := by omega
  have h3 : ¬ r < 32 := by omega
  rw [Scr.step, if_neg h1, if_neg h2, if_neg h3, h, if_neg hr.2, Scr.putChar_ps, h]

/-- printable runes of width one that fit before the right margin -/
theorem Scr.feed_printables (vs : List Rune) :
    ∀ (t : Scr), (∀ r ∈ vs, 32 ≤ r ∧ r ≠ 127 ∧ t.cw r = 1) → t.ps = .ground → t.col + vs.length ≤ t.width →
    t.feed vs = { t with rows := setRow t.rows t.row (writeCells (t.rows t.row) t.col vs),
                         col := t.col + vs.length } := by
  induction vs with
  | nil =>
    intro t _ _ _
    obtain ⟨w, ht, o, cw, rows, row, col, vis, ps⟩ := t
    simp [Scr.feed_nil, writeCells, setRow_self]
  | cons v vs ih =>
    intro t hv h hfit
    have hv1 := hv v (by simp)
    have hv' : ∀ r ∈ vs, 32 ≤ r ∧ r ≠ 127 ∧ t.cw r = 1 := fun r hr => hv r (by simp [hr])
    rw [Scr.feed_cons, Scr.step_print t h v ⟨hv1.1, hv1.2.1⟩ hv1.2.2 (by simp at hfit; omega), ih]
    · obtain ⟨w, ht, o, cw, rows, row, col, vis, ps⟩ := t
      simp [writeCells, setRow_same, setRow_at]; omega
    · exact hv'
    · exact h
    · simp at hfit ⊢; omega

end Rare.C20

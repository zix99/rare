import Rare.Model.Batcher
namespace Rare.Batcher

variable {α : Type}

/-- Loop invariant after consuming the lines `pre`. -/
structure Inv (s : LoopSt α) (pre : List α) : Prop where
  nums : s.out.flatMap lineNumbers ++ s.cur.zipIdx s.start = pre.zipIdx 1
  start : s.start + s.cur.length = 1 + pre.length
  nonempty : ∀ b ∈ s.out, b.lines ≠ []

theorem inv_init : Inv (⟨[], [], 1⟩ : LoopSt α) [] := ⟨by simp, by simp, by simp⟩

theorem inv_step (n : Nat) {s : LoopSt α} {pre : List α} (h : Inv s pre) (x : α × Bool) :
    Inv (step n s x) (pre ++ [x.1]) := by
  have hz : (s.cur ++ [x.1]).zipIdx s.start = s.cur.zipIdx s.start ++ [(x.1, s.start + s.cur.length)] := by
    simp [List.zipIdx_append]
  have hp : (pre ++ [x.1]).zipIdx 1 = pre.zipIdx 1 ++ [(x.1, 1 + pre.length)] := by
    simp [List.zipIdx_append]
  unfold step
  dsimp only
  split
  · refine ⟨?_, by simp; have := h.start; omega, ?_⟩
    · simp only [List.flatMap_append, List.flatMap_cons, List.flatMap_nil, lineNumbers, List.append_nil,
        List.zipIdx_nil]
      rw [hz, hp, ← h.nums, h.start]; simp
    · intro b hb
      simp at hb
      rcases hb with hb | rfl
      · exact h.nonempty b hb
      · simp
  · refine ⟨?_, by simp; have := h.start; omega, h.nonempty⟩
    show s.out.flatMap lineNumbers ++ (s.cur ++ [x.1]).zipIdx s.start = _
    rw [hz, hp, ← h.nums, h.start]; simp

theorem inv_fold (n : Nat) (ls : List (α × Bool)) : ∀ {s : LoopSt α} {pre : List α}, Inv s pre →
    Inv (ls.foldl (step n) s) (pre ++ ls.map (·.1)) := by
  induction ls with
  | nil => intro s pre h; simpa using h
  | cons x xs ih =>
    intro s pre h
    have := ih (inv_step n h x)
    simpa using this

theorem finish_spec {s : LoopSt α} {pre : List α} (h : Inv s pre) :
    (finish s).flatMap lineNumbers = pre.zipIdx 1 ∧ ∀ b ∈ finish s, b.lines ≠ [] := by
  unfold finish
  split
  · rename_i hpos
    refine ⟨by rw [← h.nums]; simp [lineNumbers], ?_⟩
    intro b hb
    simp at hb
    rcases hb with hb | rfl
    · exact h.nonempty b hb
    · intro he; simp at he; simp [he] at hpos
  · rename_i hz
    have : s.cur = [] := by
      cases hc : s.cur with
      | nil => rfl
      | cons a b => simp [hc] at hz
    refine ⟨by rw [← h.nums, this]; simp, h.nonempty⟩

theorem run_spec (n : Nat) (ls : List (α × Bool)) :
    (run n ls).flatMap lineNumbers = (ls.map (·.1)).zipIdx 1 ∧ ∀ b ∈ run n ls, b.lines ≠ [] := by
  have := finish_spec (inv_fold n ls (inv_init (α := α)))
  rwa [List.nil_append] at this

/-- Batches that carry the numbered lines of `pre` carry the lines of `pre`. -/
theorem flat_of_numbers {bs : List (Batch α)} {pre : List α}
    (h : bs.flatMap lineNumbers = pre.zipIdx 1) : bs.flatMap (·.lines) = pre := by
  have := congrArg (List.map Prod.fst) h
  simpa [List.map_flatMap, lineNumbers, List.zipIdx_map_fst] using this

theorem run_lines (n : Nat) (ls : List (α × Bool)) : (run n ls).flatMap (·.lines) = ls.map (·.1) :=
  flat_of_numbers (run_spec n ls).1

end Rare.Batcher

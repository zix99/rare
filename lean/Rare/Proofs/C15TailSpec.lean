import Rare.Proofs.C15Tail
/-!
Consequences of the invariant `J` for `tailToChan` / `tailAfter`: termination, the numbered partition
in terms of BYTES (reading each line through its view), the delivered stream, prefix facts.
-/
namespace Rare.C15.Tail
open Rare.C04 Rare.C15.Batch

theorem iterN_add (source : String) (batchSize fuel : Nat) (timer : Nat → Bool) (a b : Nat) (s : TSt) :
    iterN source batchSize fuel timer (a + b) s =
      iterN source batchSize fuel timer b (iterN source batchSize fuel timer a s) := by
  induction a generalizing s with
  | zero => simp [iterN]
  | succ a ih => rw [Nat.succ_add]; simp only [iterN]; exact ih _

theorem lineNumbers_map {α β : Type} (f : α → β) (l : List α) (st : Nat) :
    Batcher.lineNumbers (⟨l.map f, st⟩ : Batcher.Batch β) =
      (Batcher.lineNumbers (⟨l, st⟩ : Batcher.Batch α)).map (Prod.map f id) := by
  simp [Batcher.lineNumbers, List.zipIdx_map]

/-- reading the views of all tokens gives their bytes -/
theorem toks_read {source : String} {s : TSt} (h : J source s) :
    (s.toks.map (·.1)).map (readView s.imm.arrays) = s.toks.map (·.2) := by
  rw [List.map_map]
  exact List.map_congr_left fun vb hvb => (h.views vb hvb).2

theorem numbered_eq (s : TSt) :
    s.numbered = (s.b.out.map s.b.read).map fun b => ⟨b.lines.map (readView s.imm.arrays), b.start⟩ := by
  simp [TSt.numbered, TSt.readBatch, St.read, List.map_map, Function.comp_def]

theorem numbered_numbers (s : TSt) :
    s.numbered.flatMap Batcher.lineNumbers =
      ((s.b.out.map s.b.read).flatMap Batcher.lineNumbers).map (Prod.map (readView s.imm.arrays) id) := by
  rw [numbered_eq, List.flatMap_map, List.map_flatMap]
  congr 1
  funext b
  exact lineNumbers_map _ _ _

theorem numbered_nonempty {s : TSt} (h : ∀ b ∈ s.b.out.map s.b.read, b.lines ≠ []) :
    ∀ b ∈ s.numbered, b.lines ≠ [] := by
  intro b hb
  rw [numbered_eq] at hb
  simp only [List.mem_map] at hb
  obtain ⟨b0, ⟨x, hx, rfl⟩, rfl⟩ := hb
  have := h (s.b.read x) (List.mem_map.mpr ⟨x, hx, rfl⟩)
  simpa using this

/-- After the loop: the batches on the channel, read (late) through both heaps, are a numbered
    partition of the lines of the stream the follow reader delivered. -/
theorem closed_spec {source : String} {s : TSt} (h : J source s) (hc : s.status = .closed) :
    s.numbered.flatMap Batcher.lineNumbers = (splitLines s.imm.delivered).zipIdx 1 ∧
    (∀ b ∈ s.numbered, b.lines ≠ []) ∧ s.imm.eof = true := by
  obtain ⟨h1, h2, h3, h4⟩ := h.fin hc
  refine ⟨?_, numbered_nonempty h2, h4⟩
  rw [numbered_numbers, h1, h3, ← toks_read h]
  exact List.zipIdx_map.symm

/-- While the loop runs: what was sent plus what is pending is a numbered partition of the tokens so
    far; every sent batch is non-empty. -/
theorem running_spec {source : String} {s : TSt} (h : J source s) (hc : s.status ≠ .closed) :
    s.numbered.flatMap Batcher.lineNumbers ++ s.pending.zipIdx s.b.start = (s.toks.map (·.2)).zipIdx 1 ∧
    (∀ b ∈ s.numbered, b.lines ≠ []) ∧ s.b.start + s.pending.length = 1 + s.toks.length := by
  obtain ⟨_, hinv⟩ := h.loop hc
  have hn := congrArg (List.map (Prod.map (readView s.imm.arrays) id)) hinv.nums
  rw [List.map_append, ← List.zipIdx_map, ← List.zipIdx_map, toks_read h] at hn
  refine ⟨?_, numbered_nonempty hinv.nonempty, ?_⟩
  · rw [numbered_numbers]; exact hn
  · have := hinv.start
    simpa [TSt.pending, TSt.readBatch, St.abs] using this

variable (source : String) (bufSize batchSize : Nat) (timer : Nat → Bool) (data : Bytes) (script : List Step)

theorem j_after (h : 1 ≤ bufSize) (k : Nat) : J source (tailAfter source bufSize batchSize timer data script k) :=
  j_iterN batchSize _ timer k (j_init source bufSize batchSize ⟨data, script⟩ h)

theorem tailToChan_eq : tailToChan source bufSize batchSize timer data script =
    tailAfter source bufSize batchSize timer data script (budget data script) := rfl

theorem tail_closed (h : 1 ≤ bufSize) : (tailToChan source bufSize batchSize timer data script).status = .closed := by
  have hg := good_init bufSize ⟨data, script⟩ h
  have hd : (Imm.scanAll (budget data script) (budget data script) (Imm.init bufSize ⟨data, script⟩)).2.1 = true := by
    apply scanAll_done _ data _ hg
    · simp [Imm.init]
    · simp [Imm.init, Reader.measure, budget]; omega
    · simp [Imm.init, Imm.consumed, budget]; omega
  exact (iterN_scanAll source batchSize (budget data script) timer (budget data script)
    (s := TSt.init bufSize batchSize ⟨data, script⟩) rfl hd).1

theorem after_nostuck (h : 1 ≤ bufSize) (k : Nat) :
    (tailAfter source bufSize batchSize timer data script k).status ≠ .stuck :=
  iterN_nostuck batchSize _ timer k (j_init source bufSize batchSize ⟨data, script⟩ h) (by simp [TSt.init])
    (by simp [TSt.init, Imm.init, Reader.measure, budget]; omega)

/-- What the scanner got from the follow reader is a prefix of the stream; all of it if no `Read` failed. -/
theorem after_delivered (h : 1 ≤ bufSize) (k : Nat) :
    (tailAfter source bufSize batchSize timer data script k).imm.delivered <+: data := by
  have := iterN_pred (closed_stream data) batchSize (budget data script) timer k
    (j_init source bufSize batchSize ⟨data, script⟩ h) (by simp [TSt.init, Imm.init])
  exact ⟨_, this⟩

theorem closed_delivered (h : 1 ≤ bufSize) (hs : ∀ st ∈ script, st.err = none) :
    (tailToChan source bufSize batchSize timer data script).imm.delivered = data := by
  have hj := j_after source bufSize batchSize timer data script h (budget data script)
  have hc := tail_closed source bufSize batchSize timer data script h
  have hstream := iterN_pred (closed_stream data) batchSize (budget data script) timer (budget data script)
    (j_init source bufSize batchSize ⟨data, script⟩ h) (by simp [TSt.init, Imm.init])
  have hdr := iterN_pred closed_drained batchSize (budget data script) timer (budget data script)
    (j_init source bufSize batchSize ⟨data, script⟩ h)
    (show (∀ st ∈ (TSt.init bufSize batchSize ⟨data, script⟩).imm.rd.script, st.err = none) ∧ _ from
      ⟨by simpa [TSt.init, Imm.init] using hs, by simp [TSt.init, Imm.init]⟩)
  have heof := (closed_spec hj hc).2.2
  have hrest := hdr.2 heof
  rw [← tailToChan_eq] at hj
  change (tailToChan source bufSize batchSize timer data script).imm.delivered ++
    (tailToChan source bufSize batchSize timer data script).imm.rd.rest = data at hstream
  change (tailToChan source bufSize batchSize timer data script).imm.rd.rest = [] at hrest
  rw [hrest] at hstream; simpa using hstream

/-- Later states extend earlier ones: the channel only grows and every batch keeps reading the same. -/
theorem after_stable (h : 1 ≤ bufSize) (k j : Nat) :
    (tailAfter source bufSize batchSize timer data script k).b.out <+:
      (tailAfter source bufSize batchSize timer data script (k + j)).b.out ∧
    ∀ x ∈ (tailAfter source bufSize batchSize timer data script k).b.out,
      (tailAfter source bufSize batchSize timer data script (k + j)).readBatch x.batch =
        (tailAfter source bufSize batchSize timer data script k).readBatch x.batch := by
  have hj := j_after source bufSize batchSize timer data script h k
  have heq : tailAfter source bufSize batchSize timer data script (k + j) =
      iterN source batchSize (budget data script) timer j (tailAfter source bufSize batchSize timer data script k) := by
    unfold tailAfter; exact iterN_add _ _ _ _ _ _ _
  rw [heq]
  exact ⟨(iterN_mono batchSize _ timer j hj).1, iterN_stable batchSize _ timer j hj⟩

/-- Once the channel is closed nothing changes any more. -/
theorem after_closed_fix (h : 1 ≤ bufSize) (k : Nat) (hk : budget data script ≤ k) :
    tailAfter source bufSize batchSize timer data script k = tailToChan source bufSize batchSize timer data script := by
  obtain ⟨d, rfl⟩ := Nat.exists_eq_add_of_le hk
  unfold tailAfter
  rw [iterN_add]
  apply iterN_not_running
  have := tail_closed source bufSize batchSize timer data script h
  unfold tailToChan at this
  rw [this]; decide

theorem lineNumbers_length {α : Type} (b : Batcher.Batch α) : (Batcher.lineNumbers b).length = b.lines.length := by
  simp [Batcher.lineNumbers]

theorem flat_numbers_length {α : Type} (bs : List (Batcher.Batch α)) :
    (bs.flatMap Batcher.lineNumbers).length = (bs.flatMap (·.lines)).length := by
  induction bs with
  | nil => rfl
  | cons b bs ih => simp [List.flatMap_cons, lineNumbers_length, ih]

/-- In a numbered partition the `BatchStart` of every (non-empty) batch is one more than the number of
    lines in the batches before it. -/
theorem numbers_start {α : Type} {bs : List (Batcher.Batch α)} {L : List α}
    (h : bs.flatMap Batcher.lineNumbers = L.zipIdx 1) (pre post : List (Batcher.Batch α)) (b : Batcher.Batch α)
    (hb : bs = pre ++ b :: post) (hne : b.lines ≠ []) :
    b.start = 1 + (pre.flatMap (·.lines)).length := by
  obtain ⟨x, xs, hx⟩ := List.exists_cons_of_ne_nil hne
  have hl : (Batcher.lineNumbers b) = (x, b.start) :: xs.zipIdx (b.start + 1) := by
    simp [Batcher.lineNumbers, hx, List.zipIdx_cons]
  have hget : (bs.flatMap Batcher.lineNumbers)[(pre.flatMap Batcher.lineNumbers).length]? = some (x, b.start) := by
    rw [hb, List.flatMap_append, List.flatMap_cons, hl]
    simp
  rw [h, List.getElem?_zipIdx] at hget
  cases hL : L[(pre.flatMap Batcher.lineNumbers).length]? with
  | none => rw [hL] at hget; simp at hget
  | some a =>
    rw [hL] at hget
    simp only [Option.map_some, Option.some.injEq, Prod.mk.injEq] at hget
    rw [← hget.2, flat_numbers_length]


end Rare.C15.Tail

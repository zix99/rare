import Rare.Proofs.LocksetHB
/-!
# The lockset argument over a trace model with RWMutex, atomics and `go` edges (C05)

`Proofs/LocksetHB.lean` proves "same exclusive mutex held ⇒ ordered by happens-before".  The tables the race check
runs on (`Gen.Access`, `Lockset.safePair`) use three disciplines, though: both accesses atomic · both hold the same
mutex, AT LEAST ONE of them exclusively (`sync.RWMutex`: the logger's printers hold `RLock`, `DeferLogs` /
`ImmediateLogs` hold `Lock`) · ordered by a `go` statement.  This file proves that these three are enough, over a
trace semantics that has them:

* events: `lock m` / `unlock m` / `rlock m` / `runlock m` (sync.Mutex is the RWMutex nobody r-locks), an access to a
  location (write?, atomic?), `spawn t` (the `go` statement that starts thread `t`), anything else;
* `Exec tr hs`: `hs k` = who holds what before event `k` (exclusive holder, multiset of read holders); `lock` needs
  the mutex free of both, `rlock` needs no exclusive holder, `unlock` / `runlock` need the caller to hold it; a spawned
  thread has no event before its `spawn`;
* happens-before (go.dev/ref/mem): program order; `Unlock` → every later `Lock` and `RLock`; `RUnlock` → every later
  `Lock`; the `go` statement → every event of the started goroutine; transitive closure;
* a data race: two conflicting accesses (same location, one a write, NOT both atomic) of different threads not
  ordered by happens-before.

`rw_mutex_orders`: two events whose threads hold the same mutex, at least one exclusively, are ordered.
`discipline_no_race`: if every conflicting pair follows one of the three disciplines there is no data race.
(Channel edges – the `outputDone` hand-shake – are not in this model; `raceFreeRoles` uses them for `aggLoop`.)
-/
namespace Rare.Lockset.HB2
open Rare.Lockset.HB (lost_between gained_between)

inductive Op where
  | lock (m : Nat)
  | unlock (m : Nat)
  | rlock (m : Nat)
  | runlock (m : Nat)
  | acc (x : Nat) (write atomic : Bool)
  | spawn (t : Nat)
  | other
  deriving DecidableEq, Repr

structure Ev where
  tid : Nat
  op : Op
  deriving DecidableEq, Repr

structure Locks where
  w : Nat → Option Nat      -- exclusive holder
  r : Nat → List Nat        -- read holders (a thread may hold several read locks)

def step (h : Locks) (e : Ev) : Option Locks :=
  match e.op with
  | .lock m => if h.w m = none ∧ h.r m = [] then some { h with w := fun x => if x = m then some e.tid else h.w x } else none
  | .unlock m => if h.w m = some e.tid then some { h with w := fun x => if x = m then none else h.w x } else none
  | .rlock m => if h.w m = none then some { h with r := fun x => if x = m then e.tid :: h.r x else h.r x } else none
  | .runlock m => if e.tid ∈ h.r m then some { h with r := fun x => if x = m then (h.r x).erase e.tid else h.r x } else none
  | _ => some h

structure Exec (tr : List Ev) (hs : Nat → Locks) : Prop where
  initw : ∀ m, (hs 0).w m = none
  initr : ∀ m, (hs 0).r m = []
  next : ∀ k e, tr[k]? = some e → step (hs k) e = some (hs (k + 1))
  /-- a goroutine does nothing before the `go` statement that starts it -/
  fresh : ∀ (k : Nat) (e : Ev) (t : Nat), tr[k]? = some e → e.op = Op.spawn t →
    ∀ (i : Nat) (e' : Ev), i ≤ k → tr[i]? = some e' → e'.tid ≠ t

inductive HB (tr : List Ev) : Nat → Nat → Prop
  | po {i j : Nat} {a b : Ev} : i < j → tr[i]? = some a → tr[j]? = some b → a.tid = b.tid → HB tr i j
  | swLock {i j : Nat} {a b : Ev} {m : Nat} : i < j → tr[i]? = some a → tr[j]? = some b →
      (a.op = .unlock m ∨ a.op = .runlock m) → b.op = .lock m → HB tr i j
  | swRLock {i j : Nat} {a b : Ev} {m : Nat} : i < j → tr[i]? = some a → tr[j]? = some b →
      a.op = .unlock m → b.op = .rlock m → HB tr i j
  | go {i j : Nat} {a b : Ev} {t : Nat} : i < j → tr[i]? = some a → tr[j]? = some b →
      a.op = .spawn t → b.tid = t → HB tr i j
  | trans {i j k : Nat} : HB tr i j → HB tr j k → HB tr i k

/-- Thread `t` holds mutex `m` – exclusively (`excl`) or as a reader. -/
def Holds (h : Locks) (m t : Nat) (excl : Bool) : Prop := if excl then h.w m = some t else t ∈ h.r m

instance (h : Locks) (m t : Nat) (excl : Bool) : Decidable (Holds h m t excl) := by
  unfold Holds; exact inferInstance

def Conflict (a b : Ev) : Prop :=
  ∃ x w1 a1 w2 a2, a.op = .acc x w1 a1 ∧ b.op = .acc x w2 a2 ∧ (w1 = true ∨ w2 = true) ∧ ¬ (a1 = true ∧ a2 = true)

def Race (tr : List Ev) : Prop :=
  ∃ i j a b, i < j ∧ tr[i]? = some a ∧ tr[j]? = some b ∧ Conflict a b ∧ a.tid ≠ b.tid ∧ ¬ HB tr i j

/-- What a step does to mutex `m`: nothing, or it is one of the four lock operations on `m`, enabled as `step` says. -/
theorem step_at {h h' : Locks} {e : Ev} (hs : step h e = some h') (m : Nat) :
    (h'.w m = h.w m ∧ h'.r m = h.r m) ∨
    (e.op = .lock m ∧ h.w m = none ∧ h.r m = [] ∧ h'.w m = some e.tid ∧ h'.r m = []) ∨
    (e.op = .unlock m ∧ h.w m = some e.tid ∧ h'.w m = none ∧ h'.r m = h.r m) ∨
    (e.op = .rlock m ∧ h.w m = none ∧ h'.w m = none ∧ h'.r m = e.tid :: h.r m) ∨
    (e.op = .runlock m ∧ e.tid ∈ h.r m ∧ h'.w m = h.w m ∧ h'.r m = (h.r m).erase e.tid) := by
  cases hop : e.op with
  | lock m' =>
    simp only [step, hop] at hs
    split at hs
    · rename_i hfree
      cases hs
      by_cases hm : m = m'
      · subst hm; exact .inr (.inl ⟨rfl, hfree.1, hfree.2, by simp, hfree.2⟩)
      · exact .inl (by simp [hm])
    · cases hs
  | unlock m' =>
    simp only [step, hop] at hs
    split at hs
    · rename_i hheld
      cases hs
      by_cases hm : m = m'
      · subst hm; exact .inr (.inr (.inl ⟨rfl, hheld, by simp, rfl⟩))
      · exact .inl (by simp [hm])
    · cases hs
  | rlock m' =>
    simp only [step, hop] at hs
    split at hs
    · rename_i hfree
      cases hs
      by_cases hm : m = m'
      · subst hm; exact .inr (.inr (.inr (.inl ⟨rfl, hfree, hfree, by simp⟩)))
      · exact .inl (by simp [hm])
    · cases hs
  | runlock m' =>
    simp only [step, hop] at hs
    split at hs
    · rename_i hmem
      cases hs
      by_cases hm : m = m'
      · subst hm; exact .inr (.inr (.inr (.inr ⟨rfl, hmem, rfl, by simp⟩)))
      · exact .inl (by simp [hm])
    · cases hs
  | acc x w a => simp only [step, hop] at hs; cases hs; exact .inl ⟨rfl, rfl⟩
  | spawn t' => simp only [step, hop] at hs; cases hs; exact .inl ⟨rfl, rfl⟩
  | other => simp only [step, hop] at hs; cases hs; exact .inl ⟨rfl, rfl⟩

theorem w_loses {h h' : Locks} {e : Ev} {m t : Nat} (hs : step h e = some h')
    (h1 : h.w m = some t) (h2 : h'.w m ≠ some t) : e.tid = t ∧ e.op = .unlock m ∧ h'.w m = none ∧ h'.r m = h.r m := by
  rcases step_at hs m with ⟨hw, _⟩ | ⟨_, hw, _⟩ | ⟨hop, hw, hw', hr⟩ | ⟨_, hw, _⟩ | ⟨_, _, hw, _⟩
  · exact absurd (hw.trans h1) h2
  · rw [h1] at hw; cases hw
  · rw [h1] at hw; exact ⟨(Option.some.inj hw).symm, hop, hw', hr⟩
  · rw [h1] at hw; cases hw
  · exact absurd (hw.trans h1) h2

theorem w_gains {h h' : Locks} {e : Ev} {m t : Nat} (hs : step h e = some h')
    (h1 : h.w m ≠ some t) (h2 : h'.w m = some t) : e.tid = t ∧ e.op = .lock m := by
  rcases step_at hs m with ⟨hw, _⟩ | ⟨hop, _, _, hw, _⟩ | ⟨_, _, hw, _⟩ | ⟨_, _, hw, _⟩ | ⟨_, _, hw, _⟩
  · exact absurd (hw.symm.trans h2) h1
  · rw [h2] at hw; exact ⟨(Option.some.inj hw).symm, hop⟩
  · rw [h2] at hw; cases hw
  · rw [h2] at hw; cases hw
  · exact absurd (hw.symm.trans h2) h1

theorem r_loses {h h' : Locks} {e : Ev} {m t : Nat} (hs : step h e = some h')
    (h1 : t ∈ h.r m) (h2 : t ∉ h'.r m) : e.tid = t ∧ e.op = .runlock m ∧ h'.w m = h.w m := by
  rcases step_at hs m with ⟨_, hr⟩ | ⟨_, _, hr, _⟩ | ⟨_, _, _, hr⟩ | ⟨_, _, _, hr⟩ | ⟨hop, _, hw, hr⟩
  · exact absurd (hr ▸ h1) h2
  · rw [hr] at h1; cases h1
  · exact absurd (hr ▸ h1) h2
  · exact absurd (hr ▸ List.mem_cons_of_mem _ h1) h2
  · by_cases ht : e.tid = t
    · exact ⟨ht, hop, hw⟩
    · exact absurd (hr ▸ (List.mem_erase_of_ne fun h => ht h.symm).mpr h1) h2

theorem r_gains {h h' : Locks} {e : Ev} {m t : Nat} (hs : step h e = some h')
    (h1 : t ∉ h.r m) (h2 : t ∈ h'.r m) : e.tid = t ∧ e.op = .rlock m := by
  rcases step_at hs m with ⟨_, hr⟩ | ⟨_, _, _, _, hr⟩ | ⟨_, _, _, hr⟩ | ⟨hop, _, _, hr⟩ | ⟨_, _, _, hr⟩
  · exact absurd (hr ▸ h2) h1
  · rw [hr] at h2; cases h2
  · exact absurd (hr ▸ h2) h1
  · rw [hr] at h2
    rcases List.mem_cons.mp h2 with h2 | h2
    · exact ⟨h2.symm, hop⟩
    · exact absurd h2 h1
  · rw [hr] at h2; exact absurd (List.mem_of_mem_erase h2) h1

/-- An exclusive holder excludes readers: preserved by every step. -/
theorem step_excl {h h' : Locks} {e : Ev} (hs : step h e = some h')
    (hi : ∀ m, h.w m ≠ none → h.r m = []) : ∀ m, h'.w m ≠ none → h'.r m = [] := by
  intro m hw
  rcases step_at hs m with ⟨hw', hr⟩ | ⟨_, _, _, _, hr⟩ | ⟨_, _, hw', _⟩ | ⟨_, _, hw', _⟩ | ⟨_, _, hw', hr⟩
  · rw [hr]; exact hi m (hw' ▸ hw)
  · exact hr
  · exact absurd hw' hw
  · exact absurd hw' hw
  · rw [hr, hi m (hw' ▸ hw)]; rfl

theorem excl_inv {tr : List Ev} {hs : Nat → Locks} (hex : Exec tr hs) :
    ∀ k, k ≤ tr.length → ∀ m, (hs k).w m ≠ none → (hs k).r m = [] := by
  intro k
  induction k with
  | zero => intro _ m hw; exact absurd (hex.initw m) hw
  | succ k ih =>
    intro hk
    have hlt : k < tr.length := hk
    exact step_excl (hex.next k _ (List.getElem?_eq_getElem hlt)) (ih (Nat.le_of_lt hlt))

/-- **Two events whose threads hold the same mutex, at least one of them exclusively, are ordered by
    happens-before.** -/
theorem rw_mutex_orders {tr : List Ev} {hs : Nat → Locks} (hex : Exec tr hs)
    {i j : Nat} {a b : Ev} (hij : i < j) (ha : tr[i]? = some a) (hb : tr[j]? = some b) {m : Nat} {la lb : Bool}
    (h1 : Holds (hs i) m a.tid la) (h2 : Holds (hs j) m b.tid lb) (hx : la = true ∨ lb = true) : HB tr i j := by
  by_cases hsame : a.tid = b.tid
  · exact .po hij ha hb hsame
  have hj : j ≤ tr.length := by
    have := (List.getElem?_eq_some_iff.mp hb).1; omega
  -- from a release step `r ≥ i` of `a.tid` and an acquire step `c > r`, `c < j` of `b.tid` with a sw edge between them
  have fin : ∀ r c er ec, i ≤ r → r < c → c < j → tr[r]? = some er → er.tid = a.tid → tr[c]? = some ec →
      ec.tid = b.tid → HB tr r c → HB tr i j := by
    intro r c er ec hir hrc hcj her e1 hec f1 hsw
    have hpo2 : HB tr c j := .po hcj hec hb f1
    by_cases hri : i = r
    · subst hri; exact .trans hsw hpo2
    · exact .trans (.trans (.po (by omega) ha her e1.symm) hsw) hpo2
  cases la with
  | true =>
    have h1' : (hs i).w m = some a.tid := h1
    have hnot : ¬ ((hs j).w m = some a.tid) := by
      cases lb with
      | true =>
        have h2' : (hs j).w m = some b.tid := h2
        rw [h2']; intro h; exact hsame (Option.some.inj h).symm
      | false =>
        have h2' : b.tid ∈ (hs j).r m := h2
        intro h
        have := excl_inv hex j hj m (by rw [h]; simp)
        rw [this] at h2'; cases h2'
    obtain ⟨r, hir, hrj, hpr, hnr⟩ := lost_between (fun k => (hs k).w m = some a.tid) i j (Nat.le_of_lt hij) h1' hnot
    have hrlen : r < tr.length := Nat.lt_of_lt_of_le hrj hj
    have her : tr[r]? = some tr[r] := List.getElem?_eq_getElem hrlen
    obtain ⟨e1, e2, e3, e4⟩ := w_loses (hex.next r _ her) hpr hnr
    cases lb with
    | true =>
      have h2' : (hs j).w m = some b.tid := h2
      have hfree : ¬ ((hs (r + 1)).w m = some b.tid) := by rw [e3]; intro h; cases h
      obtain ⟨c, hrc, hcj, hnc, hpc⟩ := gained_between (fun k => (hs k).w m = some b.tid) (r + 1) j hrj hfree h2'
      have hclen : c < tr.length := Nat.lt_of_lt_of_le hcj hj
      have hec : tr[c]? = some tr[c] := List.getElem?_eq_getElem hclen
      obtain ⟨f1, f2⟩ := w_gains (hex.next c _ hec) hnc hpc
      exact fin r c _ _ hir hrc hcj her e1 hec f1 (.swLock hrc her hec (.inl e2) f2)
    | false =>
      have h2' : b.tid ∈ (hs j).r m := h2
      have hr0 : (hs r).r m = [] := excl_inv hex r (Nat.le_of_lt hrlen) m (by rw [hpr]; simp)
      have hfree : ¬ (b.tid ∈ (hs (r + 1)).r m) := by rw [e4, hr0]; intro h; cases h
      obtain ⟨c, hrc, hcj, hnc, hpc⟩ := gained_between (fun k => b.tid ∈ (hs k).r m) (r + 1) j hrj hfree h2'
      have hclen : c < tr.length := Nat.lt_of_lt_of_le hcj hj
      have hec : tr[c]? = some tr[c] := List.getElem?_eq_getElem hclen
      obtain ⟨f1, f2⟩ := r_gains (hex.next c _ hec) hnc hpc
      exact fin r c _ _ hir hrc hcj her e1 hec f1 (.swRLock hrc her hec e2 f2)
  | false =>
    have hlb : lb = true := hx.resolve_left (by simp)
    subst hlb
    have h1' : a.tid ∈ (hs i).r m := h1
    have h2' : (hs j).w m = some b.tid := h2
    have hrj0 : (hs j).r m = [] := excl_inv hex j hj m (by rw [h2']; simp)
    have hnot : ¬ (a.tid ∈ (hs j).r m) := by rw [hrj0]; intro h; cases h
    obtain ⟨r, hir, hrj, hpr, hnr⟩ := lost_between (fun k => a.tid ∈ (hs k).r m) i j (Nat.le_of_lt hij) h1' hnot
    have hrlen : r < tr.length := Nat.lt_of_lt_of_le hrj hj
    have her : tr[r]? = some tr[r] := List.getElem?_eq_getElem hrlen
    obtain ⟨e1, e2, e3⟩ := r_loses (hex.next r _ her) hpr hnr
    have hw0 : (hs r).w m = none := by
      cases hw : (hs r).w m with
      | none => rfl
      | some t =>
        have := excl_inv hex r (Nat.le_of_lt hrlen) m (by rw [hw]; simp)
        rw [this] at hpr; cases hpr
    have hfree : ¬ ((hs (r + 1)).w m = some b.tid) := by rw [e3, hw0]; intro h; cases h
    obtain ⟨c, hrc, hcj, hnc, hpc⟩ := gained_between (fun k => (hs k).w m = some b.tid) (r + 1) j hrj hfree h2'
    have hclen : c < tr.length := Nat.lt_of_lt_of_le hcj hj
    have hec : tr[c]? = some tr[c] := List.getElem?_eq_getElem hclen
    obtain ⟨f1, f2⟩ := w_gains (hex.next c _ hec) hnc hpc
    exact fin r c _ _ hir hrc hcj her e1 hec f1 (.swLock hrc her hec (.inr e2) f2)

/-- The `go` rule: what a thread does before a `go` statement happens before everything the started goroutine does. -/
theorem go_orders {tr : List Ev} {i k j : Nat} {a c b : Ev} (hik : i ≤ k) (hkj : k < j)
    (ha : tr[i]? = some a) (hc : tr[k]? = some c) (hb : tr[j]? = some b)
    (hta : a.tid = c.tid) (hsp : c.op = .spawn b.tid) : HB tr i j := by
  have hgo : HB tr k j := .go hkj hc hb hsp rfl
  by_cases h : i = k
  · subst h; exact hgo
  · exact .trans (.po (by omega) ha hc hta) hgo

/-- The three disciplines of `Lockset.safePair`, for a pair of events `i < j`. -/
def Safe (tr : List Ev) (hs : Nat → Locks) (i j : Nat) (a b : Ev) : Prop :=
  (∃ m la lb, Holds (hs i) m a.tid la ∧ Holds (hs j) m b.tid lb ∧ (la = true ∨ lb = true)) ∨
  (∃ k c, i ≤ k ∧ k < j ∧ tr[k]? = some c ∧ c.tid = a.tid ∧ c.op = .spawn b.tid)

/-- **The lockset disciplines imply data-race freedom**: if every conflicting pair of accesses of different threads
    (same location, one a write, not both atomic) holds a common mutex – at least one side exclusively – or is
    separated by the `go` statement that started the later one's goroutine, the execution has no data race. -/
theorem discipline_no_race {tr : List Ev} {hs : Nat → Locks} (hex : Exec tr hs)
    (hdisc : ∀ i j a b, i < j → tr[i]? = some a → tr[j]? = some b → Conflict a b → a.tid ≠ b.tid →
      Safe tr hs i j a b) : ¬ Race tr := by
  rintro ⟨i, j, a, b, hij, ha, hb, hc, hne, hnhb⟩
  rcases hdisc i j a b hij ha hb hc hne with ⟨m, la, lb, h1, h2, hx⟩ | ⟨k, c, hik, hkj, hck, htc, hsp⟩
  · exact hnhb (rw_mutex_orders hex hij ha hb h1 h2 hx)
  · exact hnhb (go_orders hik hkj ha hck hb htc.symm hsp)

/-! ### Executions computed from a trace (for the concrete examples) -/

def init : Locks := ⟨fun _ => none, fun _ => []⟩

def statesOf (tr : List Ev) : Nat → Locks
  | 0 => init
  | k + 1 =>
    match tr[k]? with
    | some e => (step (statesOf tr k) e).getD (statesOf tr k)
    | none => statesOf tr k

def stepsOk (tr : List Ev) : Bool :=
  (List.range tr.length).all fun k =>
    match tr[k]? with
    | some e => (step (statesOf tr k) e).isSome
    | none => true

def freshOk (tr : List Ev) : Bool :=
  (List.range tr.length).all fun k =>
    match tr[k]? with
    | some e =>
      (match e.op with
       | .spawn t => (tr.take (k + 1)).all fun e' => e'.tid != t
       | _ => true)
    | none => true

theorem exec_of_checks (tr : List Ev) (h1 : stepsOk tr = true) (h2 : freshOk tr = true) : Exec tr (statesOf tr) := by
  refine ⟨fun _ => rfl, fun _ => rfl, ?_, ?_⟩
  · intro k e hk
    have hlt : k < tr.length := (List.getElem?_eq_some_iff.mp hk).1
    have := List.all_eq_true.mp h1 k (List.mem_range.mpr hlt)
    simp only [hk] at this
    simp only [statesOf, hk]
    cases hst : step (statesOf tr k) e with
    | none => rw [hst] at this; cases this
    | some s' => rfl
  · intro k e t hk hop i e' hik hi
    have hlt : k < tr.length := (List.getElem?_eq_some_iff.mp hk).1
    have := List.all_eq_true.mp h2 k (List.mem_range.mpr hlt)
    simp only [hk, hop] at this
    have hmem : e' ∈ tr.take (k + 1) := by
      apply List.mem_of_getElem? (i := i)
      rw [List.getElem?_take]; simp [Nat.lt_succ_of_le hik, hi]
    have := List.all_eq_true.mp this e' hmem
    simpa using this

/-- Boundary: two readers do NOT order each other – a write under `RLock` races with a read under `RLock`
    (thread 1 and thread 2 both r-lock mutex 0; 1 writes location 7, 2 reads it). -/
def rrDemo : List Ev :=
  [⟨1, .rlock 0⟩, ⟨2, .rlock 0⟩, ⟨1, .acc 7 true false⟩, ⟨2, .acc 7 false false⟩, ⟨1, .runlock 0⟩, ⟨2, .runlock 0⟩]

theorem HB.lt {tr : List Ev} {i j : Nat} (h : HB tr i j) : i < j := by
  induction h with
  | po h _ _ _ => exact h
  | swLock h _ _ _ _ => exact h
  | swRLock h _ _ _ _ => exact h
  | go h _ _ _ _ => exact h
  | trans _ _ h1 h2 => exact Nat.lt_trans h1 h2

theorem rr_hb_same_tid {i j : Nat} (h : HB rrDemo i j) :
    ∃ a b, rrDemo[i]? = some a ∧ rrDemo[j]? = some b ∧ a.tid = b.tid := by
  induction h with
  | po _ ha hb ht => exact ⟨_, _, ha, hb, ht⟩
  | swLock _ _ hb _ hop =>
    have := List.mem_of_getElem? hb
    simp only [rrDemo, List.mem_cons, List.not_mem_nil, or_false] at this
    rcases this with rfl | rfl | rfl | rfl | rfl | rfl <;> cases hop
  | swRLock _ ha _ hop _ =>
    have := List.mem_of_getElem? ha
    simp only [rrDemo, List.mem_cons, List.not_mem_nil, or_false] at this
    rcases this with rfl | rfl | rfl | rfl | rfl | rfl <;> cases hop
  | go _ ha _ hop _ =>
    have := List.mem_of_getElem? ha
    simp only [rrDemo, List.mem_cons, List.not_mem_nil, or_false] at this
    rcases this with rfl | rfl | rfl | rfl | rfl | rfl <;> cases hop
  | trans _ _ ih1 ih2 =>
    obtain ⟨a, b, ha, hb, hab⟩ := ih1
    obtain ⟨b', c, hb', hc, hbc⟩ := ih2
    rw [hb] at hb'; cases hb'
    exact ⟨a, c, ha, hc, hab.trans hbc⟩

theorem rr_race : Exec rrDemo (statesOf rrDemo) ∧
    Holds (statesOf rrDemo 2) 0 1 false ∧ Holds (statesOf rrDemo 3) 0 2 false ∧ Race rrDemo := by
  refine ⟨exec_of_checks _ (by decide) (by decide), by decide, by decide, ?_⟩
  refine ⟨2, 3, ⟨1, .acc 7 true false⟩, ⟨2, .acc 7 false false⟩, by decide, rfl, rfl,
    ⟨7, true, false, false, false, rfl, rfl, .inl rfl, by simp⟩, by decide, ?_⟩
  intro h
  obtain ⟨a, b, ha, hb, hab⟩ := rr_hb_same_tid h
  simp [rrDemo] at ha hb
  subst ha; subst hb
  cases hab

/-- A logger-shaped execution that follows the disciplines: thread 1 (`DeferLogs`) locks mutex 0, writes location 7,
    unlocks, then starts goroutine 2; goroutines 1 and 2 read location 7 under `RLock`; goroutine 2 bumps the atomic
    counter 9 which thread 1 reads atomically; thread 1 wrote location 8 before the `go` and goroutine 2 reads it
    without any lock. -/
def logDemo : List Ev :=
  [⟨1, .lock 0⟩, ⟨1, .acc 7 true false⟩, ⟨1, .unlock 0⟩, ⟨1, .acc 8 true false⟩, ⟨1, .spawn 2⟩,
   ⟨2, .rlock 0⟩, ⟨1, .rlock 0⟩, ⟨2, .acc 7 false false⟩, ⟨1, .acc 7 false false⟩, ⟨2, .acc 9 true true⟩,
   ⟨1, .acc 9 false true⟩, ⟨2, .acc 8 false false⟩, ⟨2, .runlock 0⟩, ⟨1, .runlock 0⟩]

theorem logDemo_exec : Exec logDemo (statesOf logDemo) := exec_of_checks _ (by decide) (by decide)

/-! ### A checker for the disciplines on a concrete trace (`guard x` = the mutex that protects location `x`) -/

def conflictB (a b : Ev) : Bool :=
  match a.op, b.op with
  | .acc x w1 a1, .acc y w2 a2 => x == y && (w1 || w2) && !(a1 && a2)
  | _, _ => false

def safeB (tr : List Ev) (guard : Nat → Nat) (i j : Nat) (a b : Ev) : Bool :=
  (match a.op with
   | .acc x _ _ => [true, false].any fun la => [true, false].any fun lb =>
       (la || lb) && decide (Holds (statesOf tr i) (guard x) a.tid la) && decide (Holds (statesOf tr j) (guard x) b.tid lb)
   | _ => false) ||
  (List.range j).any fun k => decide (i ≤ k) &&
    (match tr[k]? with
     | some c => decide (c.tid = a.tid) && decide (c.op = .spawn b.tid)
     | none => false)

def allSafe (tr : List Ev) (guard : Nat → Nat) : Bool :=
  (List.range tr.length).all fun j => (List.range j).all fun i =>
    match tr[i]?, tr[j]? with
    | some a, some b => !(conflictB a b && decide (a.tid ≠ b.tid)) || safeB tr guard i j a b
    | _, _ => true

theorem conflictB_of {a b : Ev} (h : Conflict a b) : conflictB a b = true := by
  obtain ⟨x, w1, a1, w2, a2, h1, h2, hw, hat⟩ := h
  have hat' : (a1 && a2) = false := Bool.eq_false_iff.mpr (by simpa using hat)
  simpa [conflictB, h1, h2, hat'] using hw

theorem safe_of_check {tr : List Ev} {guard : Nat → Nat} (h : allSafe tr guard = true) :
    ∀ i j a b, i < j → tr[i]? = some a → tr[j]? = some b → Conflict a b → a.tid ≠ b.tid →
      Safe tr (statesOf tr) i j a b := by
  intro i j a b hij ha hb hc hne
  have hj : j < tr.length := (List.getElem?_eq_some_iff.mp hb).1
  have h1 := List.all_eq_true.mp h j (List.mem_range.mpr hj)
  have h2 := List.all_eq_true.mp h1 i (List.mem_range.mpr hij)
  simp only [ha, hb, conflictB_of hc, hne, ne_eq, not_false_eq_true, decide_true, Bool.and_self, Bool.not_true,
    Bool.false_or] at h2
  unfold safeB at h2
  rcases Bool.or_eq_true _ _ |>.mp h2 with h3 | h3
  · obtain ⟨x, w1, a1, _, _, hop, _, _, _⟩ := hc
    simp only [hop] at h3
    obtain ⟨la, _, h4⟩ := List.any_eq_true.mp h3
    obtain ⟨lb, _, h5⟩ := List.any_eq_true.mp h4
    simp only [Bool.and_eq_true, Bool.or_eq_true, decide_eq_true_eq] at h5
    exact .inl ⟨guard x, la, lb, h5.1.2, h5.2, h5.1.1⟩
  · obtain ⟨k, hk, h4⟩ := List.any_eq_true.mp h3
    have hkj : k < j := List.mem_range.mp hk
    cases hck : tr[k]? with
    | none => simp [hck] at h4
    | some c =>
      simp only [hck, Bool.and_eq_true, decide_eq_true_eq] at h4
      exact .inr ⟨k, c, h4.1, hkj, hck, h4.2.1, h4.2.2⟩

/-- The logger-shaped execution follows the disciplines (mutex 0 guards locations 7; 8 is ordered by the `go`;
    9 is atomic), hence has no data race. -/
theorem logDemo_no_race : ¬ Race logDemo :=
  discipline_no_race logDemo_exec (safe_of_check (guard := fun _ => 0) (by decide))

end Rare.Lockset.HB2

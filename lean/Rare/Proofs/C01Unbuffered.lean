import Rare.Model.C01Unbuffered
import Rare.Proofs.Pipeline
/-! The unbuffered pipeline refines the buffered one with capacity 1; progress and termination. -/
namespace Rare.Pipeline

variable {α : Type}

theorem step_zero_c {cls : α → Cls} {R K : Nat} {s s' : St α} (h : Step cls R 0 K s s') (hc : s.c = []) : s'.c = [] := by
  cases h with
  | send i b bs h hcap => exact absurd hcap (Nat.not_lt_zero _)
  | wrecv j b rest h hc' => rw [hc] at hc'; cases hc'
  | _ => exact hc

/-- One unbuffered transition is one or two transitions of the buffered system with capacity 1, and leaves the
    channel empty. -/
theorem step0_sim {cls : α → Cls} {R K : Nat} {s s' : St α} (h : Step0 cls R K s s') (hc : s.c = []) :
    s'.c = [] ∧ (Step cls R 1 K s s' ∨ ∃ mid, Step cls R 1 K s mid ∧ Step cls R 1 K mid s') := by
  cases h with
  | other _ hst => exact ⟨step_zero_c hst hc, .inl (step_mono hst)⟩
  | handoff i j b bs hi hj hc' =>
    refine ⟨hc, .inr ⟨{ s with srcs := s.srcs.set i (.active bs), c := s.c ++ [b] }, ?_, ?_⟩⟩
    · exact .send s i b bs hi (by rw [hc]; exact Nat.zero_lt_one)
    · have := Step.wrecv (cls := cls) (R := R) (B := 1) (K := K)
        { s with srcs := s.srcs.set i (.active bs), c := s.c ++ [b] } j b [] hj (by simp [hc])
      simpa [hc] using this

theorem reach0_reach {cls : α → Cls} {R K : Nat} {s0 s : St α} (h0 : s0.c = []) (h : Reach0 cls R K s0 s) :
    s.c = [] ∧ Reach cls R 1 K s0 s := by
  induction h with
  | refl => exact ⟨h0, .refl⟩
  | step _ hs ih =>
    obtain ⟨hc, hr⟩ := ih
    obtain ⟨hc', hsim⟩ := step0_sim hs hc
    refine ⟨hc', ?_⟩
    rcases hsim with h1 | ⟨mid, h1, h2⟩
    · exact .step hr h1
    · exact .step (.step hr h1) h2

theorem step0_measure {cls : α → Cls} {R K : Nat} {s s' : St α} (h : Step0 cls R K s s') (hc : s.c = []) :
    measure s' < measure s := by
  rcases (step0_sim h hc).2 with h1 | ⟨mid, h1, h2⟩
  · exact step_measure h1
  · exact Nat.lt_trans (step_measure h2) (step_measure h1)

/-- No deadlock with an unbuffered batch channel. -/
theorem progress0 {cls : α → Cls} {R K : Nat} {s : St α}
    (hR : 1 ≤ R) (hK : 1 ≤ K) (hc : s.c = []) (hd : s.consDone = false) : ∃ s', Step0 cls R K s s' := by
  rcases progress_or_handoff (cls := cls) hR hK hd with ⟨s', hs⟩ | ⟨i, j, b, bs, hi, hj, _⟩
  · exact ⟨s', .other _ _ hs⟩
  · exact ⟨_, .handoff s i j b bs hi hj hc⟩

end Rare.Pipeline

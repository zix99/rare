import Rare.Proofs.C14Bars
/-!
Layout: the header loop of the heatmap terminates, `mapM` over cells that cannot fail, "(n more)" arithmetic.
-/
namespace Rare.C14
open Rare Rare.C20

theorem strLen_nonneg (env : Env) (s : Bytes) : 0 ≤ strLen env s := by
  unfold strLen; split <;> exact Int.natCast_nonneg _

/-! ### heatmap header -/

theorem headerLoop_ok (env : Env) (names : List Bytes) (colCount : Int) (hc : colCount ≤ names.length) :
    ∀ (fuel : Nat) (i : Int) (sb : Bytes), 0 ≤ i → colCount - i < fuel → 0 < fuel →
      ∃ r, headerLoop env names colCount fuel i sb = .ok r := by
  intro fuel
  induction fuel with
  | zero => intro i sb _ _ h; omega
  | succ fuel ih =>
    intro i sb hi hf _
    unfold headerLoop
    by_cases hlt : i < colCount
    · obtain ⟨name, hname⟩ := getIdx_ok names hi (by omega)
      simp only [hlt, not_true_eq_false, if_false, hname, bind, Except.bind]
      by_cases hbr : i ≠ 0 ∧ i + strLen env name + 2 ≥ colCount
      · obtain ⟨last, hlast⟩ := getIdx_ok names (i := colCount - 1) (by omega) (by omega)
        rw [if_pos hbr]
        simp only [hlast]
        exact ⟨_, rfl⟩
      · rw [if_neg hbr]
        have hn := strLen_nonneg env name
        by_cases hcount : mini (colCount - (i + strLen env name)) 2 > 0
        · simp only [hcount, if_true]
          apply ih
          · omega
          · omega
          · omega
        · simp only [hcount, if_false]
          apply ih
          · omega
          · have : colCount - (i + strLen env name) ≤ 0 := by
              unfold mini at hcount; split at hcount <;> omega
            omega
          · omega
    · simp [hlt]

/-- `WriteHeader` always returns (after b1ca348), for every list of column names – empty names
included – and every non-negative column limit -/
theorem headerText_ok (env : Env) (h : Heatmap) (names : List Bytes) :
    ∃ r, h.headerText env names = .ok r := by
  unfold Heatmap.headerText
  have hc : mini (names.length : Int) h.colCount ≤ names.length := by unfold mini; split <;> omega
  obtain ⟨r, hr⟩ := headerLoop_ok env names (mini (names.length : Int) h.colCount) hc
    ((mini (names.length : Int) h.colCount).toNat + 1) 0 (writeRepeat 32 (h.maxRowKeyWidth + 1)) (by omega) (by omega) (by omega)
  simp only [hr, bind, Except.bind, pure, Except.pure]
  exact ⟨_, rfl⟩

/-- the number of displayed columns `WriteHeader` reports -/
theorem headerText_count (env : Env) (h : Heatmap) (names : List Bytes) (r : Bytes × Int)
    (hr : h.headerText env names = .ok r) : r.2 = mini (names.length : Int) h.colCount := by
  unfold Heatmap.headerText at hr
  simp only [bind, Except.bind, pure, Except.pure] at hr
  split at hr
  · cases hr
  · cases hr; rfl

/-! ### one cell per displayed column -/

theorem mapM_ok_all {α β : Type} (f : α → Res β) (P : β → Prop) (l : List α) (h : ∀ x ∈ l, ∃ y, f x = .ok y ∧ P y) :
    ∃ ys, l.mapM f = .ok ys ∧ ys.length = l.length ∧ ∀ y ∈ ys, P y := by
  induction l with
  | nil => exact ⟨[], rfl, rfl, by simp⟩
  | cons x r ih =>
    obtain ⟨y, hy, hp⟩ := h x (by simp)
    obtain ⟨ys, hys, hl, hall⟩ := ih (fun z hz => h z (by simp [hz]))
    refine ⟨y :: ys, by simp [List.mapM_cons, hy, hys, bind, Except.bind, pure, Except.pure], by simp [hl], ?_⟩
    intro z hz
    rcases List.mem_cons.mp hz with rfl | hz
    · exact hp
    · exact hall z hz

/-- a spark glyph: one rune of one of the two palettes -/
def IsSparkGlyph (c : Bytes) : Prop := ∃ g, (g ∈ sparkBlocks ∨ g ∈ sparkAscii) ∧ c = encodeRune g

theorem getIdx_mem {α : Type} {l : List α} {i : Int} {x : α} (h : getIdx l i = .ok x) : x ∈ l := by
  unfold getIdx at h
  split at h
  · cases h
  · split at h
    · rename_i y hy
      cases h
      exact List.mem_of_getElem? hy
    · cases h

/-! ### "(n more)" -/

/-- rows: `rowCount := mini(len(rows), limit)` rows are drawn and the note shows `len(rows) - rowCount` -/
theorem more_rows_arith {α : Type} (rows : List α) (limit : Int) (hl : 0 ≤ limit) :
    ((rows.take (mini rows.length limit).toNat).length : Int) = mini rows.length limit ∧
    (rows.length : Int) - mini rows.length limit = (Spec.notShown rows.length (rows.take (mini rows.length limit).toNat).length : Nat) ∧
    (((rows.length : Int) > mini rows.length limit) ↔ 0 < Spec.notShown rows.length (rows.take (mini rows.length limit).toNat).length) := by
  unfold mini Spec.notShown
  simp only [List.length_take]
  split <;> omega

/-- columns: the header note shows `len(colNames) - s.colCount`, written only when
`colCount = mini(len, s.colCount) < len`, where it equals `len - colCount` -/
theorem more_cols_arith (len limit : Int) (h : mini len limit < len) : len - limit = len - mini len limit := by
  unfold mini at h ⊢; split at h <;> split <;> omega

end Rare.C14

import Rare.Proofs.C20Close2
import Rare.Model.C20Items
/-! C20: the invariant `Inv3` over a whole sequence of updates and `Close()` calls of the live writer. -/
namespace Rare.C20

/-- the texts of the sequence are in the class `TextSafe` -/
def Upd.Safe (cw : Rune → Nat) (W : Nat) (trim : Bool) : Upd → Prop
  | .w _ t => TextSafe cw W trim t
  | .c => True

theorem inv3_run (W H r0 : Nat) (trim : Bool) (t0 : Scr) : ∀ (rest : List Upd) (phys : List (Nat × Bytes)) (d : Nat)
    (w : TermWriter) (t : Scr),
    Inv3 W H r0 trim t0 phys d w t → ReachUpd H r0 (w.maxLine.toNat + d) d rest →
    (∀ u ∈ rest, u.Safe t0.cw W trim) →
    Clean (runItems (cfg W trim) w (rest.map Upd.item)).2 ∧
    Inv3 W H r0 trim t0 (phys ++ physHist d rest) (d + closesOf rest) (runItems (cfg W trim) w (rest.map Upd.item)).1
      (t.feedBytes (runItems (cfg W trim) w (rest.map Upd.item)).2) ∧
    (runItems (cfg W trim) w (rest.map Upd.item)).1.maxLine.toNat + (d + closesOf rest) = physMax (w.maxLine.toNat + d) d rest := by
  intro rest
  induction rest with
  | nil =>
    intro phys d w t inv _ _
    exact ⟨by simpa [runItems] using Clean.nil, by simpa [runItems, physHist, closesOf, Scr.feedBytes_nil] using inv,
      by simp [runItems, closesOf, physMax]⟩
  | cons u rest ih =>
    intro phys d w t inv hreach h
    cases u with
    | w l txt =>
      obtain ⟨hr1, hr2⟩ := hreach
      obtain ⟨hclean, inv'⟩ := inv3_step inv l txt hr1 (h (.w l txt) (by simp))
      have hm : (w.writeForLine (cfg W trim) l txt).1.maxLine.toNat + d = max (w.maxLine.toNat + d) (l + d) := by
        rw [writeForLine_maxLine, (toNat_ite_max l w.maxLine (Int.le_trans inv.cur0 inv.curLe)).1,
          Nat.add_max_add_right]
      obtain ⟨c1, c2, c3⟩ := ih (phys ++ [(l + d, txt)]) d _ _ inv' (by rw [hm]; exact hr2) (fun x hx => h x (by simp [hx]))
      simp only [List.map_cons, Upd.item, runItems, physHist, closesOf, physMax]
      rw [Scr.feedBytes_append _ _ _ hclean]
      refine ⟨Clean.append hclean c1, by simpa using c2, by rw [c3, hm]⟩
    | c =>
      obtain ⟨hclean, inv', _, _⟩ := inv3_close inv
      have hm : (w.close (cfg W trim)).1.maxLine.toNat + (d + 1) = w.maxLine.toNat + d + 1 := by
        rw [close_maxLine]; omega
      obtain ⟨c1, c2, c3⟩ := ih phys (d + 1) _ _ inv' (by rw [hm]; exact hreach) (fun x hx => h x (by simp [hx]))
      simp only [List.map_cons, Upd.item, runItems, physHist, closesOf, physMax]
      rw [Scr.feedBytes_append _ _ _ hclean]
      refine ⟨Clean.append hclean c1, ?_, ?_⟩
      · have e : d + (closesOf rest + 1) = d + 1 + closesOf rest := by omega
        rw [e]; exact c2
      · have e : d + (closesOf rest + 1) = d + 1 + closesOf rest := by omega
        rw [e, c3, hm]

/-- every physical line of the history is at most the physical maximum -/
theorem physHist_le : ∀ (us : List Upd) (m d : Nat), ∀ u ∈ physHist d us, u.1 ≤ physMax m d us := by
  have mono : ∀ (us : List Upd) (m m' d : Nat), m ≤ m' → physMax m d us ≤ physMax m' d us := by
    intro us
    induction us with
    | nil => intro m m' d h; simpa [physMax] using h
    | cons x us ih =>
      intro m m' d h
      cases x with
      | w l t => simp only [physMax]; exact ih _ _ _ (by omega)
      | c => simp only [physMax]; exact ih _ _ _ (by omega)
  have ge : ∀ (us : List Upd) (m d : Nat), m ≤ physMax m d us := by
    intro us
    induction us with
    | nil => intro m d; simp [physMax]
    | cons x us ih =>
      intro m d
      cases x with
      | w l t => simp only [physMax]; have := ih (max m (l + d)) d; omega
      | c => simp only [physMax]; have := ih (m + 1) (d + 1); omega
  intro us
  induction us with
  | nil => intro m d u hu; simp [physHist] at hu
  | cons x us ih =>
    intro m d u hu
    cases x with
    | w l t =>
      simp only [physHist, List.mem_cons] at hu
      simp only [physMax]
      rcases hu with rfl | hu
      · have := ge us (max m (l + d)) d; simp only; omega
      · exact ih _ _ u hu
    | c =>
      simp only [physHist] at hu
      simp only [physMax]
      exact ih _ _ u hu

end Rare.C20

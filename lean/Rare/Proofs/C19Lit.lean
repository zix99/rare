import Rare.Proofs.C19Grammar
/-!
C19: literals (`0x…`, `0b…`, `0o…`, decimal integers) through tokenizer, `compileToken` and the
parser; implied multiplication written out.
-/
namespace Rare.C19

variable {α : Type} (A : Arith α)

/-! ### facts about single bytes, by enumeration of all 256 -/

theorem byte_forall (P : UInt8 → Prop) (h : ∀ n, n < 256 → P (UInt8.ofNat n)) : ∀ b, P b := by
  intro b
  have := h b.toNat b.toNat_lt
  rwa [UInt8.ofNat_toNat] at this

theorem alnum_facts : ∀ b : UInt8, isAlnumB b = true →
    b ≠ 40 ∧ b ≠ 41 ∧ b ≠ 32 ∧ b ≠ 95 ∧ b ≠ 91 ∧ hasUnaryOp b = false ∧ digitVal b = some (litDigit b) ∧
    (opKeys.all fun k => match k with | c :: _ => c != b | [] => false) = true := by
  apply byte_forall
  decide +kernel

/-! ### the tokenizer on a run of letters and digits -/

theorem opKeys_not_mem (r : UInt8) (t : Bytes) (h : isAlnumB r = true) : ¬ (r :: t) ∈ opKeys := by
  intro hm
  have := List.all_eq_true.mp (alnum_facts r h).2.2.2.2.2.2.2 _ hm
  simp at this

theorem prefixInOps_alnum (r : UInt8) (rest : Bytes) (h : isAlnumB r = true) :
    prefixInOps (r :: rest) = none := by
  unfold prefixInOps
  simp only [maxOpLen]
  cases rest with
  | nil =>
    simp [prefixInOps.go, opKeys_not_mem r [] h]
  | cons x rest =>
    have e : (r :: x :: rest).take 2 = [r, x] := rfl
    simp [e, prefixInOps.go, opKeys_not_mem r [x] h, opKeys_not_mem r [] h]

theorem tokStep_alnum (ret : List Token) (sb : Bytes) (r : UInt8) (rest : Bytes) (h : isAlnumB r = true) :
    tokStep ⟨ret, sb, 0, 0⟩ r (r :: rest) = .ok ⟨ret, sb ++ [r], 0, 0⟩ := by
  obtain ⟨h40, h41, h32, _, _, hu, _, _⟩ := alnum_facts r h
  simp [tokStep, h40, h41, h32, hu, prefixInOps_alnum r rest h]

theorem tokLoop_alnum (ret : List Token) : ∀ (s sb : Bytes), (∀ b ∈ s, isAlnumB b = true) →
    tokLoop s ⟨ret, sb, 0, 0⟩ = .ok ⟨ret, sb ++ s, 0, 0⟩ := by
  intro s
  induction s with
  | nil => intro sb _; simp [tokLoop]
  | cons r rest ih =>
    intro sb h
    simp only [tokLoop, tokStep_alnum ret sb r rest (h r (by simp))]
    rw [ih (sb ++ [r]) (fun b hb => h b (by simp [hb]))]
    simp

/-- A non-empty run of ASCII letters and digits is one literal token. -/
theorem tokenize_alnum (s : Bytes) (hne : s ≠ []) (h : ∀ b ∈ s, isAlnumB b = true) :
    tokenize s = .ok [⟨s, .lit⟩] := by
  have he : s.isEmpty = false := by cases s with
    | nil => exact absurd rfl hne
    | cons _ _ => rfl
  simp [tokenize, tokLoop_alnum [] s [] h, he]

/-! ### `strconv.ParseInt(s, 0, 64)` on prefixed literals -/

theorem digitsBase_spec (base : Nat) : ∀ (ds : Bytes) (acc : Nat),
    (∀ d ∈ ds, isBaseDigit base d = true) →
    digitsBase base ds acc = some (ds.foldl (fun a d => a * base + litDigit d) acc) := by
  intro ds
  induction ds with
  | nil => intro acc _; rfl
  | cons d r ih =>
    intro acc h
    have hd := h d (by simp)
    simp only [isBaseDigit, Bool.and_eq_true, decide_eq_true_eq] at hd
    have hv := (alnum_facts d hd.1).2.2.2.2.2.2.1
    simp only [digitsBase, hv, hd.2, if_true, List.foldl_cons]
    exact ih _ (fun x hx => h x (by simp [hx]))

/-- prefix letter (either case) ↦ base, as `ParseInt(s, 0, 64)` reads it -/
def prefixBase (c : UInt8) : Option Nat :=
  if lowerB c = 98 then some 2 else if lowerB c = 111 then some 8 else if lowerB c = 120 then some 16 else none

theorem prefixBase_alnum : ∀ c : UInt8, (prefixBase c).isSome = true → isAlnumB c = true := by
  apply byte_forall
  decide +kernel

theorem parseIntLit_prefixed (c : UInt8) (base : Nat) (ds : Bytes) (hc : prefixBase c = some base)
    (hne : ds ≠ []) (hd : ∀ d ∈ ds, isBaseDigit base d = true) (hr : baseVal base ds ≤ 9223372036854775807) :
    parseIntLit (48 :: c :: ds) = some (baseVal base ds : Int) := by
  have hlen : 1 ≤ ds.length := List.length_pos_iff.mpr hne
  have hdb : digitsBase base ds 0 = some (baseVal base ds) := digitsBase_spec base ds 0 hd
  unfold prefixBase at hc
  split at hc
  · cases hc; simp [parseIntLit, *]
  split at hc
  · cases hc; simp [parseIntLit, *]
  split at hc <;> cases hc
  simp [parseIntLit, *]

/-- A decimal spelling without leading zero is read in base 10 and checked against MaxInt64. -/
theorem parseIntLit_dec (ds : Bytes) (hne : ds ≠ []) (h0 : ds.head? ≠ some 48)
    (hd : ∀ d ∈ ds, isBaseDigit 10 d = true) :
    parseIntLit ds = if baseVal 10 ds ≤ 9223372036854775807 then some (baseVal 10 ds : Int) else none := by
  have hdb : digitsBase 10 ds 0 = some (baseVal 10 ds) := digitsBase_spec 10 ds 0 hd
  cases ds with
  | nil => exact absurd rfl hne
  | cons d r =>
    have hd0 : d ≠ 48 := by intro e; subst e; simp at h0
    unfold parseIntLit
    split
    · rename_i heq; cases heq
    · rename_i heq; injection heq with h1 _; exact absurd h1 hd0
    · simp only [hdb]

/-! ### from a literal token to the compiled formula -/

/-- A run of letters and digits is not boxed and has no underscore for `ParseInt` to skip. -/
theorem alnum_plain {v : Bytes} (hne : v ≠ []) (hal : ∀ b ∈ v, isAlnumB b = true) :
    isBoxed v = false ∧ parseIntU v = parseIntLit v := by
  cases v with
  | nil => exact absurd rfl hne
  | cons c r =>
    have h91 : ¬ c = 91 := (alnum_facts c (hal c List.mem_cons_self)).2.2.2.2.1
    have hund : (c :: r).contains 95 = false := by
      cases hx : (c :: r).contains 95 with
      | false => rfl
      | true => exact absurd rfl (alnum_facts 95 (hal 95 (List.contains_iff_mem.mp hx))).2.2.2.1
    exact ⟨by simp [isBoxed, h91], by unfold parseIntU; rw [hund]; rfl⟩

theorem classifyE_int (v : Bytes) (n : Int) (hne : v ≠ []) (hal : ∀ b ∈ v, isAlnumB b = true)
    (hp : parseIntLit v = some n) : classifyE A v = .ok (.num (A.ofInt n)) := by
  obtain ⟨hbox, hu⟩ := alnum_plain hne hal
  cases v with
  | nil => exact absurd rfl hne
  | cons c r => simp only [classifyE, hbox, Bool.false_eq_true, if_false, parseNum, hu, hp]

/-- A formula that is a single literal token compiles to that literal. -/
theorem compile_single_lit (s : Bytes) (a : Atom α) (htok : tokenize s = .ok [⟨s, .lit⟩])
    (hc : classifyE A s = .ok a) : compile A s = .ok (.lit s, simplify A (Expr.ofAtom a)) := by
  simp only [compile, compileF, htok, compileTokens, getNextExpr, hc, climb]

theorem simplify_val (v : α) : simplify A (.val v) = .val v := rfl

/-- **Literal value, any prefix**: `0b…`, `0o…`, `0x…` (either case of the prefix letter and of the
    digits) compile to the constant whose value is the positional value of the digits. -/
theorem compile_prefixed_lit (c : UInt8) (base : Nat) (ds : Bytes) (hc : prefixBase c = some base)
    (hne : ds ≠ []) (hd : ∀ d ∈ ds, isBaseDigit base d = true) (hr : baseVal base ds ≤ 9223372036854775807) :
    compile A (48 :: c :: ds) = .ok (.lit (48 :: c :: ds), .val (A.ofInt (baseVal base ds))) := by
  have hcal : isAlnumB c = true := prefixBase_alnum c (by rw [hc]; rfl)
  have hal : ∀ b ∈ (48 :: c :: ds : Bytes), isAlnumB b = true := by
    intro b hb
    rcases List.mem_cons.mp hb with rfl | hb
    · decide
    · rcases List.mem_cons.mp hb with rfl | hb
      · exact hcal
      · have := hd b hb
        simp only [isBaseDigit, Bool.and_eq_true] at this
        exact this.1
  have hp := parseIntLit_prefixed c base ds hc hne hd hr
  have hcl := classifyE_int A _ _ (by simp) hal hp
  rw [compile_single_lit A _ _ (tokenize_alnum _ (by simp) hal) hcl]
  rfl

theorem compile_dec_lit (ds : Bytes) (hne : ds ≠ []) (h0 : ds.head? ≠ some 48)
    (hd : ∀ d ∈ ds, isBaseDigit 10 d = true) (hr : baseVal 10 ds ≤ 9223372036854775807) :
    compile A ds = .ok (.lit ds, .val (A.ofInt (baseVal 10 ds))) := by
  have hal : ∀ b ∈ ds, isAlnumB b = true := by
    intro b hb
    have := hd b hb
    simp only [isBaseDigit, Bool.and_eq_true] at this
    exact this.1
  have hcl := classifyE_int A _ _ hne hal (by rw [parseIntLit_dec ds hne h0 hd, if_pos hr])
  rw [compile_single_lit A _ _ (tokenize_alnum _ hne hal) hcl]
  rfl

/-! ### implied multiplication written out -/

theorem explicit_eval (cls : Bytes → Option (Atom α)) (b : Binding α) :
    ∀ t : Tree, t.explicit.eval A cls b = t.eval A cls b := by
  intro t
  induction t with
  | lit v => rfl
  | grp s e _ => rfl
  | un m e ih => simp only [Tree.explicit, Tree.eval, ih]
  | bin i op l r ihl ihr => simp only [Tree.explicit, Tree.eval, ihl, ihr]

theorem explicit_rootLvl (tb : List (List Bytes)) (t : Tree) : t.explicit.rootLvl tb = t.rootLvl tb := by
  cases t <;> rfl

theorem explicit_isAtom (t : Tree) : t.explicit.isAtom = t.isAtom := by
  cases t <;> rfl

theorem explicit_wp {tb : List (List Bytes)} : ∀ t : Tree, WellPrec tb t → WellPrec tb t.explicit := by
  intro t h
  induction h with
  | lit v => exact WellPrec.lit v
  | grp s e h _ => exact WellPrec.grp s e h
  | un m e hat _ ih => exact WellPrec.un m _ (by rw [explicit_isAtom]; exact hat) ih
  | bin i op l r lv _ _ hlv hl hr _ ihl ihr =>
    exact WellPrec.bin false op _ _ lv ihl ihr hlv (by rw [explicit_rootLvl]; exact hl)
      (by rw [explicit_rootLvl]; exact hr) (by intro h; cases h)

theorem explicit_deep {tk : Bytes → Option (List Token)} : ∀ t : Tree, Deep tk t → Deep tk t.explicit := by
  intro t h
  induction h with
  | lit v => exact Deep.lit v
  | grp s e h1 h2 _ => exact Deep.grp s e h1 h2
  | un m e _ ih => exact Deep.un m _ ih
  | bin i op l r _ _ ihl ihr => exact Deep.bin false op _ _ ihl ihr

theorem explicit_allLits (p : Bytes → Bool) : ∀ t : Tree, t.explicit.allLits p = t.allLits p := by
  intro t
  induction t with
  | lit v => rfl
  | grp s e _ => rfl
  | un m e ih => simp only [Tree.explicit, Tree.allLits, ih]
  | bin i op l r ihl ihr => simp only [Tree.explicit, Tree.allLits, ihl, ihr]

/-- No implied multiplication is left at this level of the text. -/
def Tree.noImplied : Tree → Bool
  | .bin i _ l r => !i && noImplied l && noImplied r
  | .un _ e => noImplied e
  | _ => true

theorem explicit_noImplied : ∀ t : Tree, t.explicit.noImplied = true := by
  intro t
  induction t with
  | lit v => rfl
  | grp s e _ => rfl
  | un m e ih => simpa only [Tree.explicit, Tree.noImplied] using ih
  | bin i op l r ihl ihr => simp [Tree.explicit, Tree.noImplied, ihl, ihr]

/-- Writing the implied multiplications out gives a formula that compiles to the same parse with
    explicit `*` nodes and has the same value under every binding. -/
theorem compile_explicit (s s' : Bytes) (t : Tree) (e : Expr α) (hc : compile A s = .ok (t, e))
    (htok : tok s' = some t.explicit.flatten) :
    ∃ e', compile A s' = .ok (t.explicit, e') ∧ ∀ b, e'.eval A b = e.eval A b := by
  obtain ⟨_, g⟩ := compileF_post A _ s t e hc
  have hl : Lits A t.explicit := by
    simp only [Lits, explicit_allLits]; exact g.lits
  obtain ⟨e', he'⟩ := compileF_complete A (s'.length + 1) s' t.explicit (Nat.lt_succ_self _) htok
    (explicit_wp t g.wp) (explicit_deep t g.deep) hl
  obtain ⟨_, g'⟩ := compileF_post A _ s' _ e' he'
  refine ⟨e', he', fun b => ?_⟩
  rw [g'.ev b, g.ev b, explicit_eval]

/-- Every implied node is a multiplication. -/
def Tree.impliedStar : Tree → Bool
  | .bin i op l r => (!i || op == starOp) && impliedStar l && impliedStar r
  | .un _ e => impliedStar e
  | _ => true

theorem wp_impliedStar {tb : List (List Bytes)} : ∀ t : Tree, WellPrec tb t → t.impliedStar = true := by
  intro t h
  induction h with
  | lit v => rfl
  | grp s e _ _ => rfl
  | un m e _ _ ih => simpa only [Tree.impliedStar] using ih
  | bin i op l r lv _ _ _ _ _ himp ihl ihr =>
    cases i with
    | false => simp [Tree.impliedStar, ihl, ihr]
    | true => simp [Tree.impliedStar, ihl, ihr, (himp rfl).1]

end Rare.C19

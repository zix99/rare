import Rare.Proofs.C12Pool
import Rare.Proofs.C12Index
/-! `FindSubmatchIndex` (with the pool as memory) refines `specDissect`. -/
namespace Rare.C12

def tokOf (ic : Bool) (t : Tok) : Token := ⟨t.name, if ic then lower t.lit else t.lit, t.skip⟩

/-- the pool after some writes through `ret`: same shape, nothing outside `ret` changed -/
structure Frame (p p' : Pool) (ret : View) : Prop where
  wf : p'.WF
  size : p'.size = p.size
  cur : p'.cur = p.cur
  off : p'.off = p.off
  hlen : p'.heap.length = p.heap.length
  other : ∀ w, ret.Disjoint w → p'.read w = p.read w

theorem Frame.refl {p : Pool} (h : p.WF) (ret : View) : Frame p p ret :=
  ⟨h, rfl, rfl, rfl, rfl, fun _ _ => rfl⟩

theorem Frame.trans {p p' p'' : Pool} {ret : View} (a : Frame p p' ret) (b : Frame p' p'' ret) :
    Frame p p'' ret :=
  ⟨b.wf, b.size.trans a.size, b.cur.trans a.cur, b.off.trans a.off, b.hlen.trans a.hlen,
   fun w hw => (b.other w hw).trans (a.other w hw)⟩

theorem Frame.of_write {p p' : Pool} {v : View} {i : Nat} {x : Int} (h : p.write v i x = .ok p')
    (hw : p.WF) : Frame p p' v := by
  obtain ⟨a, b, c, d, e⟩ := Pool.write_wf h hw
  exact ⟨a, b, c, d, e, fun w hd => Pool.write_read_other h hd⟩

theorem Frame.valid {p p' : Pool} {ret v : View} (f : Frame p p' ret) (hv : p.Valid v) : p'.Valid v := by
  unfold Pool.Valid at *; rw [f.hlen, f.size]; exact hv

theorem Frame.behind {p p' : Pool} {ret v : View} (f : Frame p p' ret) (hv : p.Behind v) : p'.Behind v := by
  unfold Pool.Behind at *; rw [f.cur, f.off]; exact ⟨f.valid hv.1, hv.2⟩

/-- the model's `endOffset` is the spec's token length (or negative when there is none) -/
theorem endOffset_eq (d : Dissect) (str : Bytes) (k : Tok) (pos : Nat) :
    (if k.lit = [] then ((str.drop pos).length : Int) else d.indexOf (str.drop pos) k.lit) =
      match tokLen (foldFor d.ic str) k pos with
      | some n => (n : Int)
      | none => -1 := by
  unfold tokLen
  split
  · simp [foldFor_length]
  · rw [indexOf_eq, foldFor_drop, stringsIndex]
    cases firstIndex k.lit ((foldFor d.ic str).drop pos) <;> rfl

def capCount (ks : List Tok) : Nat := (ks.filter (fun k => !k.skip)).length

theorem capCount_cons (t : Tok) (ts : List Tok) :
    capCount (t :: ts) = (if t.skip then 0 else 1) + capCount ts := by
  by_cases hs : t.skip = true
  · simp [capCount, List.filter, hs]
  · simp [capCount, List.filter, hs]; omega

theorem specToks_caps_length {line : Bytes} : ∀ {ts : List Tok} {pos : Nat} {caps : List Nat} {e : Nat},
    specToks line ts pos = some (caps, e) → caps.length = 2 * capCount ts := by
  intro ts
  induction ts with
  | nil => intro pos caps e h; simp [specToks] at h; simp [h.1, capCount]
  | cons t ts ih =>
    intro pos caps e h
    obtain ⟨n, caps', _, hr, rfl⟩ := specToks_cons_some h
    rw [capCount_cons, List.length_append, ih hr]
    by_cases hs : t.skip = true
    · simp [hs]
    · simp [hs]; omega

/-- `l` with `xs` written over it from index `i` on -/
def splice (l : List Int) (i : Nat) (xs : List Int) : List Int := l.take i ++ xs ++ l.drop (i + xs.length)

theorem splice_nil (l : List Int) (i : Nat) : splice l i [] = l := by simp [splice]

theorem splice_set {l : List Int} {i : Nat} (a : Int) (xs : List Int) (h : i < l.length) :
    splice (l.set i a) (i + 1) xs = splice l i (a :: xs) := by
  induction l generalizing i with
  | nil => simp at h
  | cons b l ih =>
    cases i with
    | zero => simp [splice, Nat.add_comm]
    | succ i =>
      have := ih (i := i) (by simpa using h)
      simp only [splice, List.length_cons] at this ⊢
      simp only [List.set_cons_succ, List.take_succ_cons, List.cons_append,
        show i + 1 + 1 + xs.length = (i + 1 + xs.length) + 1 by omega,
        show i + 1 + (xs.length + 1) = (i + (xs.length + 1)) + 1 by omega, List.drop_succ_cons, this]

/-- the whole result slice: `ret[0]`, the captures from index 2 on, `ret[1]` last -/
theorem splice_header {l : List Int} (x y : Int) {xs : List Int} (hl : l.length = xs.length + 2) :
    (splice (l.set 0 x) 2 xs).set 1 y = x :: y :: xs := by
  match l, hl with
  | a :: b :: l', hl => simp [splice]; simp at hl; omega

/-- The token loop on the compiled tokens of `ks` answers what the scan `specToks` answers and leaves
the captures in `ret` from `idx` on. -/
theorem tokenLoop_spec (d : Dissect) (str : Bytes) (ret : View) :
    ∀ (ks : List Tok) (pos idx : Nat) (p : Pool), p.WF → p.Valid ret → pos ≤ str.length →
      idx + 2 * capCount ks ≤ ret.len →
      ∃ p', tokenLoop d str ret (ks.map (tokOf false)) (pos : Int) idx p =
          .ok ((specToks (foldFor d.ic str) ks pos).map fun ce => (ce.2 : Int), p') ∧ Frame p p' ret ∧
        ∀ caps e, specToks (foldFor d.ic str) ks pos = some (caps, e) →
          p'.read ret = splice (p.read ret) idx (caps.map Int.ofNat) := by
  intro ks
  induction ks with
  | nil =>
    intro pos idx p hw hv hpos hidx
    refine ⟨p, rfl, Frame.refl hw ret, fun caps e h => ?_⟩
    cases h; simp [splice_nil]
  | cons k ks ih =>
    intro pos idx p hw hv hpos hidx
    have hnb : ¬ ((pos : Int) < 0 ∨ (str.length : Int) < (pos : Int)) := by omega
    simp only [List.map_cons, tokenLoop, tokOf, hnb, Bool.false_eq_true, if_false, Int.toNat_natCast]
    rw [endOffset_eq d str k pos, specToks_cons]
    cases hn : tokLen (foldFor d.ic str) k pos with
    | none => exact ⟨p, by simp, Frame.refl hw ret, fun _ _ h => by cases h⟩
    | some n =>
      have hb := tokLen_bound hn (by rw [foldFor_length]; exact hpos)
      rw [foldFor_length] at hb
      have hnn : ¬ ((n : Int) < 0) := by omega
      have hcast : (pos : Int) + (n : Int) + (k.lit.length : Int) = ((pos + n + k.lit.length : Nat) : Int) := by
        simp [Int.natCast_add]
      simp only [hnn, if_false, hcast]
      rw [capCount_cons] at hidx
      by_cases hs : k.skip = true
      · -- skipped token: no write
        simp only [hs, if_true, Nat.zero_add] at hidx
        obtain ⟨p', h1, f, hr⟩ := ih (pos + n + k.lit.length) idx p hw hv hb hidx
        simp only [hs, Bool.not_true, Bool.false_eq_true, if_false, if_true, List.nil_append]
        cases hrec : specToks (foldFor d.ic str) ks (pos + n + k.lit.length) with
        | none => exact ⟨p', by rw [h1, hrec], f, fun _ _ h => by cases h⟩
        | some ce =>
          obtain ⟨caps', e'⟩ := ce
          exact ⟨p', by rw [h1, hrec], f, fun _ _ h => by cases h; exact hr _ _ hrec⟩
      · have hs' : k.skip = false := by simpa using hs
        simp only [hs', Bool.false_eq_true, if_false] at hidx
        obtain ⟨p1, hp1⟩ := p.write_succeeds (v := ret) (i := idx) (pos : Int) (by omega)
        have f1 := Frame.of_write hp1 hw
        obtain ⟨p2, hp2⟩ := p1.write_succeeds (v := ret) (i := idx + 1) ((pos : Int) + (n : Int)) (by omega)
        have f12 := f1.trans (Frame.of_write hp2 f1.wf)
        obtain ⟨p', h1, f, hr⟩ := ih (pos + n + k.lit.length) (idx + 2) p2 f12.wf (f12.valid hv) hb (by omega)
        simp only [hs', Bool.not_false, if_true, Bool.false_eq_true, if_false, hp1, hp2]
        cases hrec : specToks (foldFor d.ic str) ks (pos + n + k.lit.length) with
        | none => exact ⟨p', by rw [h1, hrec], f12.trans f, fun _ _ h => by cases h⟩
        | some ce =>
          obtain ⟨caps', e'⟩ := ce
          refine ⟨p', by rw [h1, hrec]; rfl, f12.trans f, fun _ _ h => ?_⟩
          cases h
          have hl : idx + 1 < (p.read ret).length := by rw [Pool.read_length hw hv]; omega
          rw [hr _ _ hrec, Pool.write_read_self hp2 f1.wf (f1.valid hv), Pool.write_read_self hp1 hw hv,
            splice_set _ _ (by simpa using hl), splice_set _ _ (by omega)]
          simp [Int.natCast_add]

/-- One `FindSubmatchIndex` call: the answer is the specification's; the slice it returns is fresh,
holds the offsets, and no slice handed out before has changed. -/
theorem find_spec (s : Instance) (str : Bytes) (ks : List Tok)
    (hrel : s.d.tokens = ks.map (tokOf false)) (hcount : s.d.groupCount = capCount ks)
    (hw : s.pool.WF) (hsz : s.d.groupCount * 2 + 2 ≤ s.pool.size) :
    ∃ r s', findSubmatchIndex s str = .ok (r, s') ∧ s'.d = s.d ∧ PoolStep s.pool s'.pool ∧
      r.map s'.pool.read = (specDissect ⟨s.d.pre, ks⟩ (foldFor s.d.ic str)).map (·.map Int.ofNat) ∧
      ∀ v, r = some v → s'.pool.Behind v ∧ ∀ w, s.pool.Behind w → w.Disjoint v := by
  -- the start position
  have hstart : (if s.d.pre ≠ [] then
        (let st := s.d.indexOf str s.d.pre
         if st < 0 then none else some (st + (s.d.pre.length : Int)))
      else some 0) =
      (firstIndex s.d.pre (foldFor s.d.ic str)).map (fun i => ((i + s.d.pre.length : Nat) : Int)) := by
    by_cases hp : s.d.pre = []
    · simp [hp, firstIndex_nil]
    · simp only [hp, ne_eq, not_false_eq_true, if_true, indexOf_eq, stringsIndex]
      cases firstIndex s.d.pre (foldFor s.d.ic str) <;> simp [Int.natCast_add]
  unfold findSubmatchIndex
  simp only [hstart, specDissect]
  cases hf : firstIndex s.d.pre (foldFor s.d.ic str) with
  | none => exact ⟨none, s, rfl, rfl, PoolStep.refl hw, rfl, fun _ h => by cases h⟩
  | some i =>
    simp only [Option.map_some]
    have hib := (firstIndex_some_prefix hf).2
    rw [foldFor_length] at hib
    -- Get
    obtain ⟨ret, p1, hg, _⟩ := s.pool.get_succeeds hsz
    obtain ⟨wf1, sz1, hlen, hbeh, hkeep⟩ := Pool.get_spec hg hw
    simp only [hg]
    -- ret[0]
    obtain ⟨p2, hp2⟩ := p1.write_succeeds (v := ret) (i := 0) (((i + s.d.pre.length : Nat) : Int) - (s.d.pre.length : Int)) (by omega)
    have f2 := Frame.of_write hp2 wf1
    simp only [hp2]
    -- the loop
    obtain ⟨p3, h3, f3, hr3⟩ := tokenLoop_spec s.d str ret ks (i + s.d.pre.length) 2 p2 f2.wf
      (f2.valid hbeh.1) hib (by omega)
    rw [hrel, h3]
    -- writes through `ret` leave what was handed out before alone
    have old : ∀ (p' : Pool), Frame p1 p' ret → PoolStep s.pool p' := by
      intro p' f
      refine ⟨f.wf, f.size.trans sz1, fun w hbw => ?_⟩
      obtain ⟨b1, d1, r1⟩ := hkeep w hbw
      exact ⟨f.behind b1, (f.other w d1.symm).trans r1⟩
    have f23 := f2.trans f3
    cases hst : specToks (foldFor s.d.ic str) ks (i + s.d.pre.length) with
    | none => exact ⟨none, _, rfl, rfl, old p3 f23, rfl, fun _ h => by cases h⟩
    | some ce =>
      obtain ⟨caps, e⟩ := ce
      simp only [Option.map_some]
      -- ret[1]
      obtain ⟨p4, hp4⟩ := p3.write_succeeds (v := ret) (i := 1) (e : Int) (by omega)
      simp only [hp4]
      have f24 := f23.trans (Frame.of_write hp4 f23.wf)
      refine ⟨some ret, _, rfl, rfl, old p4 f24, ?_, fun v h => ?_⟩
      · have hl : (p1.read ret).length = (caps.map Int.ofNat).length + 2 := by
          rw [Pool.read_length wf1 hbeh.1, List.length_map, specToks_caps_length hst]; omega
        simp only [Option.map_some]
        rw [Pool.write_read_self hp4 f23.wf (f23.valid hbeh.1), hr3 _ _ hst, Pool.write_read_self hp2 wf1 hbeh.1,
          splice_header _ _ hl]
        simp [Int.natCast_add]
      · cases h
        exact ⟨f24.behind hbeh, fun w hbw => (hkeep w hbw).2.1⟩

/-- A whole sequence of lines matched by ONE instance: every returned slice, re-read after the
LAST call, holds the spec result of its own line; the slices are pairwise disjoint. -/
theorem runLines_spec (ks : List Tok) : ∀ (lines : List Bytes) (s : Instance),
    s.d.tokens = ks.map (tokOf false) → s.d.groupCount = capCount ks → s.pool.WF →
    s.d.groupCount * 2 + 2 ≤ s.pool.size →
    ∃ vs s', runLines s lines = .ok (vs, s') ∧ s'.d = s.d ∧ PoolStep s.pool s'.pool ∧
      vs.map (fun o => o.map s'.pool.read) =
        lines.map (fun l => (specDissect ⟨s.d.pre, ks⟩ (foldFor s.d.ic l)).map (·.map Int.ofNat)) ∧
      Fresh s.pool s'.pool (vs.filterMap id) := by
  intro lines
  induction lines with
  | nil =>
    intro s _ _ hw _
    exact ⟨[], s, rfl, rfl, PoolStep.refl hw, rfl, Fresh.nil _ _⟩
  | cons l ls ih =>
    intro s hrel hcount hw hsz
    obtain ⟨r, s1, hf, hd, st, hread, hv⟩ := find_spec s l ks hrel hcount hw hsz
    obtain ⟨vs, s', hr, hd', st', hres, hfresh⟩ :=
      ih s1 (hd ▸ hrel) (hd ▸ hcount) st.wf (by rw [hd, st.size]; exact hsz)
    refine ⟨r :: vs, s', by simp [runLines, hf, hr], hd'.trans hd, st.trans st', ?_, ?_⟩
    · rw [List.map_cons, List.map_cons, hres, hd, ← hread]
      congr 1
      cases r with
      | none => rfl
      | some v => simp [(st'.keep v (hv v rfl).1).2]
    · cases r with
      | none => exact hfresh.step st
      | some v => exact Fresh.cons st (hv v rfl).1 (hv v rfl).2 st' hfresh

end Rare.C12

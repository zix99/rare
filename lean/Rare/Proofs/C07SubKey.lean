import Rare.Proofs.C07SubKeyA
import Rare.Proofs.C07MinMax
/-! Sub-key counter (countersubkey.go): alignment invariant and fold theorem. -/
namespace Rare.C07

theorem SubKeyCounter.sample_eq (s : SubKeyCounter) (e : Bytes) :
    s.sample e = match (parseSubKey e).inc with
      | none => .ok { s with errors := s.errors + 1 }
      | some n => s.sampleValue (parseSubKey e).k1 (parseSubKey e).k2 n := by
  obtain ⟨a0, a1, -, a2, b2⟩ := splitter_fields nul e (by simp [nul])
  unfold SubKeyCounter.sample parseSubKey
  simp only [Splitter.nextOk] at a1 a2 b2
  simp only [Splitter.nextOk, a0, a1, a2, b2]
  have hne := splitOn_ne_nil nul e
  rcases hs : splitOn nul e with _ | ⟨k, _ | ⟨sk, _ | ⟨v, rest⟩⟩⟩
  · exact absurd hs hne
  · simp
  · simp
  · simp only [List.headD_cons, List.tail_cons, List.isEmpty_cons, Bool.not_false, if_true]
    cases atoi v <;> rfl

/-- The value in row `k`, column (sub-key) `x`. -/
def cellTot (hp : List Parsed) (k x : Bytes) : Int := total (selKeySub k x) hp

/-- The alignment invariant of the sub-key counter w.r.t. a parsed history. -/
structure SubInv (s : SubKeyCounter) (hp : List Parsed) : Prop where
  sorted : Sorted s.subKeys
  mem : ∀ x, x ∈ s.subKeys ↔ present (selSub x) hp = true
  idx : ∀ x i, aget s.subKeyIdx x = some i ↔ s.subKeys[i]? = some x
  itemsPresent : ∀ k, (aget s.items k).isSome = present (selKey k) hp
  items : ∀ k it, aget s.items k = some it →
    it.count = total (selKey k) hp ∧ it.submatches = s.subKeys.map (cellTot hp k)
  errors : s.errors = errorCount hp

theorem subInv_init : SubInv {} [] := by
  constructor <;> simp [present, errorCount, Sorted]

/-- steps 1–2 of `SampleValue`: fetch or create the row, add to its count. -/
def SubKeyCounter.bump (s : SubKeyCounter) (key : Bytes) (count : Int) : SubKeyCounter :=
  let s := s.getOrCreateKeyItem key
  match aget s.items key with
  | some it => { s with items := aset s.items key { it with count := wrap64 (it.count + count) } }
  | none => s

/-- step 4 of `SampleValue`. -/
def SubKeyCounter.finish (r : SubKeyCounter × Nat) (key : Bytes) (count : Int) : Except String SubKeyCounter :=
  match aget r.1.items key with
  | none => .error "nil item"
  | some it =>
    match it.submatches[r.2]? with
    | none => .error "index out of range"
    | some v => .ok { r.1 with items := aset r.1.items key { it with submatches := it.submatches.set r.2 (wrap64 (v + count)) } }

theorem sampleValue_eq (s : SubKeyCounter) (key sub : Bytes) (n : Int) :
    s.sampleValue key sub n = SubKeyCounter.finish ((s.bump key n).getOrCreateSubkeyIndex sub) key n := by
  delta SubKeyCounter.sampleValue SubKeyCounter.finish SubKeyCounter.bump; rfl

/-- A cell is empty as soon as a coarser selection (its row, its column) is. -/
theorem cellTot_zero (hp : List Parsed) (k x : Bytes) (sel : Parsed → Bool)
    (hsel : ∀ p, selKeySub k x p = true → sel p = true) (h : present sel hp = false) : cellTot hp k x = 0 := by
  refine total_of_not_present _ _ (Bool.eq_false_iff.mpr fun hc => ?_)
  rw [present_mono _ sel hp hsel hc] at h; cases h

theorem cellTot_zero_of_no_key (hp : List Parsed) (k x : Bytes) (h : present (selKey k) hp = false) :
    cellTot hp k x = 0 :=
  cellTot_zero hp k x _ (fun p hp' => by simp only [selKeySub, Bool.and_eq_true] at hp'; simpa [selKey] using hp'.1) h

theorem cellTot_zero_of_no_sub (hp : List Parsed) (k x : Bytes) (h : present (selSub x) hp = false) :
    cellTot hp k x = 0 :=
  cellTot_zero hp k x _ (fun p hp' => by simp only [selKeySub, Bool.and_eq_true] at hp'; simpa [selSub] using hp'.2) h

theorem bump_spec (s : SubKeyCounter) (hp : List Parsed) (key : Bytes) (n : Int) (h : SubInv s hp) :
    (s.bump key n).subKeys = s.subKeys ∧ (s.bump key n).subKeyIdx = s.subKeyIdx ∧ (s.bump key n).errors = s.errors ∧
    ∀ k, aget (s.bump key n).items k =
      if key = k then some ⟨wrap64 (total (selKey key) hp + n), s.subKeys.map (cellTot hp key)⟩ else aget s.items k := by
  unfold SubKeyCounter.bump SubKeyCounter.getOrCreateKeyItem
  cases hk : aget s.items key with
  | some it =>
    obtain ⟨c1, c2⟩ := h.items key it hk
    simp only [hk]
    refine ⟨trivial, trivial, trivial, ?_⟩
    intro k; rw [aget_aset]
    by_cases e : key = k
    · simp only [e, if_true, Option.some.injEq]
      rw [← e, c1, c2]
    · simp [e]
  | none =>
    have hnp : present (selKey key) hp = false := by
      have := h.itemsPresent key; rw [hk] at this; simpa using this.symm
    simp only [aget_aset_self]
    refine ⟨trivial, trivial, trivial, ?_⟩
    intro k; rw [aget_aset, aget_aset]
    by_cases e : key = k
    · simp only [e, if_true, Option.some.injEq]
      rw [← e, total_of_not_present _ _ hnp]
      congr 1
      exact replicate_eq_map _ _ (fun x _ => cellTot_zero_of_no_key hp key x hnp)
    · simp [e]

/-- the `!ok` branch of `getOrCreateSubkeyIndex`. -/
def idxNew (s : SubKeyCounter) (sub : Bytes) : SubKeyCounter × Nat :=
  let ins := insertAlphanumeric s.subKeys sub
  ({ s with subKeys := ins.1, subKeyIdx := regenIdx s.subKeyIdx ins.1 0,
            items := s.items.map fun (kv : Bytes × SubItem) =>
              (kv.1, { kv.2 with submatches := insertAt kv.2.submatches ins.2 0 }) }, ins.2)

theorem subkeyIndex_found (s : SubKeyCounter) (sub : Bytes) (i : Nat) (h : aget s.subKeyIdx sub = some i) :
    s.getOrCreateSubkeyIndex sub = (s, i) := by
  delta SubKeyCounter.getOrCreateSubkeyIndex; rw [h]

theorem subkeyIndex_new (s : SubKeyCounter) (sub : Bytes) (h : aget s.subKeyIdx sub = none) :
    s.getOrCreateSubkeyIndex sub = idxNew s sub := by
  delta SubKeyCounter.getOrCreateSubkeyIndex; rw [h]; rfl

/-- step 3: look up or create the sub-key column. -/
theorem subkeyIndex_spec (s : SubKeyCounter) (sub : Bytes) (hs : Sorted s.subKeys)
    (hidx : ∀ x i, aget s.subKeyIdx x = some i ↔ s.subKeys[i]? = some x) :
    let r := s.getOrCreateSubkeyIndex sub
    Sorted r.1.subKeys ∧ (∀ x, x ∈ r.1.subKeys ↔ x = sub ∨ x ∈ s.subKeys) ∧
    (∀ x i, aget r.1.subKeyIdx x = some i ↔ r.1.subKeys[i]? = some x) ∧
    r.1.subKeys[r.2]? = some sub ∧ r.1.errors = s.errors ∧
    (∀ k, (aget r.1.items k).isSome = (aget s.items k).isSome) ∧
    (∀ k it, aget s.items k = some it → ∃ it', aget r.1.items k = some it' ∧ it'.count = it.count ∧
      ∀ f : Bytes → Int, (sub ∉ s.subKeys → f sub = 0) → it.submatches = s.subKeys.map f →
        it'.submatches = r.1.subKeys.map f) := by
  intro r
  cases hl : aget s.subKeyIdx sub with
  | some i =>
    have hr : r = (s, i) := subkeyIndex_found s sub i hl
    have hi := (hidx sub i).mp hl
    rw [hr]
    refine ⟨hs, ?_, hidx, hi, rfl, fun _ => rfl, ?_⟩
    · intro x; constructor
      · exact Or.inr
      · rintro (h | h)
        · subst h; exact List.mem_of_getElem? hi
        · exact h
    · intro k it hk; exact ⟨it, hk, rfl, fun f _ hf => hf⟩
  | none =>
    have hnot : sub ∉ s.subKeys := by
      intro hm
      obtain ⟨i, hi⟩ := List.getElem?_of_mem hm
      have := (hidx sub i).mpr hi
      rw [hl] at this; cases this
    obtain ⟨e1, e2⟩ := insAlpha_eq s.subKeys sub
    have hr : r = idxNew s sub := subkeyIndex_new s sub hl
    unfold idxNew at hr
    rw [hr]
    have hsorted := insAlpha_sorted s.subKeys sub hs hnot
    have hnodup := sorted_nodup hsorted
    refine ⟨hsorted, fun x => mem_insAlpha _ _ _, ?_, ?_, rfl, ?_, ?_⟩
    · intro x i
      have spec := regenIdx_spec (insertAlphanumeric s.subKeys sub).1 s.subKeyIdx 0 hnodup x
      constructor
      · intro hx
        by_cases hm : x ∈ (insertAlphanumeric s.subKeys sub).1
        · obtain ⟨j, hj⟩ := List.getElem?_of_mem hm
          have := spec.1 j hj
          simp only [Nat.zero_add] at this
          have hx' : aget (regenIdx s.subKeyIdx (insertAlphanumeric s.subKeys sub).1 0) x = some i := hx
          rw [this] at hx'
          have : j = i := by simpa using hx'
          subst this; exact hj
        · exfalso
          have hx' : aget (regenIdx s.subKeyIdx (insertAlphanumeric s.subKeys sub).1 0) x = some i := hx
          rw [spec.2 hm] at hx'
          have := (hidx x i).mp hx'
          exact hm ((mem_insAlpha _ _ _).mpr (Or.inr (List.mem_of_getElem? this)))
      · intro hx
        have := spec.1 i hx
        simpa using this
    · show (insertAlphanumeric s.subKeys sub).1[(insertAlphanumeric s.subKeys sub).2]? = some sub
      rw [e1]; exact getElem?_insertAt_self _ _ _ e2
    · intro k
      have := aget_map_val s.items (fun (it : SubItem) =>
        ({ it with submatches := insertAt it.submatches (insertAlphanumeric s.subKeys sub).2 0 } : SubItem)) k
      refine (congrArg Option.isSome this).trans ?_
      simp
    · intro k it hk
      refine ⟨{ it with submatches := insertAt it.submatches (insertAlphanumeric s.subKeys sub).2 0 }, ?_, rfl, ?_⟩
      · have := aget_map_val s.items (fun (it : SubItem) =>
          ({ it with submatches := insertAt it.submatches (insertAlphanumeric s.subKeys sub).2 0 } : SubItem)) k
        exact this.trans (by rw [hk]; rfl)
      · intro f hf0 hf
        show insertAt it.submatches _ 0 = (insertAlphanumeric s.subKeys sub).1.map f
        rw [e1, ← insertAt_map, hf, hf0 hnot]

theorem cellTot_snoc (hp : List Parsed) (p : Parsed) (n : Int) (hi : p.inc = some n) (k x : Bytes) :
    cellTot (hp ++ [p]) k x = if p.k1 = k ∧ p.k2 = x then wrap64 (cellTot hp k x + n) else cellTot hp k x := by
  unfold cellTot
  by_cases h : p.k1 = k ∧ p.k2 = x
  · rw [total_snoc]; simp [incIf, hi, selKeySub, h.1, h.2]
  · rw [total_snoc_skip]
    · simp [h]
    · have : selKeySub k x p = false := by
        simp only [selKeySub, Bool.and_eq_false_iff, beq_eq_false_iff_ne]
        by_cases h1 : p.k1 = k
        · right; exact fun h2 => h ⟨h1, h2⟩
        · left; exact h1
      simp [incIf, hi, this]

theorem sampleValue_spec (s : SubKeyCounter) (hp : List Parsed) (p : Parsed) (n : Int) (hi : p.inc = some n)
    (h : SubInv s hp) : ∃ s', s.sampleValue p.k1 p.k2 n = .ok s' ∧ SubInv s' (hp ++ [p]) := by
  rw [sampleValue_eq]
  obtain ⟨b1, b2, b3, b4⟩ := bump_spec s hp p.k1 n h
  have hs2 : Sorted (s.bump p.k1 n).subKeys := by rw [b1]; exact h.sorted
  have hidx2 : ∀ x i, aget (s.bump p.k1 n).subKeyIdx x = some i ↔ (s.bump p.k1 n).subKeys[i]? = some x := by
    rw [b1, b2]; exact h.idx
  obtain ⟨c1, c2, c3, c4, c5, c6, c7⟩ := subkeyIndex_spec (s.bump p.k1 n) p.k2 hs2 hidx2
  generalize hr : (s.bump p.k1 n).getOrCreateSubkeyIndex p.k2 = r at c1 c2 c3 c4 c5 c6 c7
  rw [b1] at c2 c7
  -- the row of the sampled key
  have hkey := b4 p.k1
  simp only [if_true] at hkey
  obtain ⟨it', g1, g2, g3⟩ := c7 p.k1 _ hkey
  have hzero : ∀ k, p.k2 ∉ s.subKeys → cellTot hp k p.k2 = 0 := fun k hn =>
    cellTot_zero_of_no_sub hp k _ (Bool.eq_false_iff.mpr fun hc => hn ((h.mem p.k2).mpr hc))
  have g4 := g3 (cellTot hp p.k1) (hzero p.k1) rfl
  have hget : it'.submatches[r.2]? = some (cellTot hp p.k1 p.k2) := by
    rw [g4, List.getElem?_map, c4]; rfl
  unfold SubKeyCounter.finish
  simp only [g1, hget]
  refine ⟨_, rfl, ?_⟩
  have hnodup := sorted_nodup c1
  constructor
  · exact c1
  · intro x
    show x ∈ r.1.subKeys ↔ _
    rw [c2 x, present_snoc, h.mem x]
    simp only [hi, Option.isSome_some, Bool.true_and, selSub, Bool.or_eq_true, beq_iff_eq]
    rw [or_comm, eq_comm (a := x)]
  · exact c3
  · intro k
    show (aget (aset r.1.items p.k1 _) k).isSome = _
    rw [aget_aset, present_snoc]
    by_cases e : p.k1 = k
    · simp [e, hi, selKey]
    · simp only [e, if_false, hi, Option.isSome_some, Bool.true_and, selKey]
      rw [c6 k, b4 k]
      simp only [e, if_false, h.itemsPresent k]
      simp [e]
  · intro k it hk
    have hk' : aget (aset r.1.items p.k1 _) k = some it := hk
    rw [aget_aset] at hk'
    by_cases e : p.k1 = k
    · subst e
      simp only [if_true, Option.some.injEq] at hk'
      subst hk'
      constructor
      · show it'.count = _
        rw [g2, total_snoc]; simp [incIf, hi, selKey]
      · show it'.submatches.set r.2 _ = r.1.subKeys.map (cellTot (hp ++ [p]) p.k1)
        rw [g4]
        have := map_set_nodup r.1.subKeys (cellTot hp p.k1) (cellTot (hp ++ [p]) p.k1) r.2 p.k2 hnodup c4
          (by intro x hx; rw [cellTot_snoc hp p n hi]; have : ¬ (p.k2 = x) := fun e => hx e.symm; simp [this])
        rw [← this, cellTot_snoc hp p n hi]; simp
    · simp only [e, if_false] at hk'
      -- an untouched row: it comes from the old row through the re-indexing
      have hold : (aget s.items k).isSome := by
        have := c6 k; rw [hk', b4 k] at this; simp only [e, if_false] at this; simpa using this.symm
      obtain ⟨it0, hit0⟩ := Option.isSome_iff_exists.mp hold
      have hb : aget (s.bump p.k1 n).items k = some it0 := by rw [b4 k]; simp [e, hit0]
      obtain ⟨it1, k1, k2, k3⟩ := c7 k it0 hb
      rw [hk'] at k1
      have : it = it1 := by simpa using k1
      subst this
      obtain ⟨o1, o2⟩ := h.items k it0 hit0
      constructor
      · rw [k2, o1, total_snoc_skip]
        simp [incIf, hi, selKey, e]
      · rw [k3 (cellTot hp k) (hzero k) o2]
        apply List.map_congr_left
        intro x _
        rw [cellTot_snoc hp p n hi]; simp [e]
  · show r.1.errors = _
    rw [c5, b3, h.errors, errorCount_snoc]; simp [hi]

theorem subInv_step (s : SubKeyCounter) (hp : List Parsed) (e : Bytes) (h : SubInv s hp) :
    ∃ s', s.sample e = .ok s' ∧ SubInv s' (hp ++ [parseSubKey e]) := by
  rw [SubKeyCounter.sample_eq]
  cases hi : (parseSubKey e).inc with
  | some n => exact sampleValue_spec s hp _ n hi h
  | none =>
    refine ⟨_, rfl, ?_⟩
    have hz : ∀ sel, incIf sel (parseSubKey e) = 0 := fun sel => incIf_none sel _ hi
    constructor
    · exact h.sorted
    · intro x; rw [present_snoc]; simp [hi, h.mem x]
    · exact h.idx
    · intro k; rw [present_snoc]; simp [hi, h.itemsPresent k]
    · intro k it hk
      obtain ⟨o1, o2⟩ := h.items k it hk
      refine ⟨by rw [total_snoc_skip _ _ _ (hz _)]; exact o1, ?_⟩
      rw [o2]; apply List.map_congr_left; intro x _
      unfold cellTot; rw [total_snoc_skip _ _ _ (hz _)]
    · show s.errors + 1 = _
      rw [errorCount_snoc, h.errors]; simp [hi]

theorem subInv_foldlM (l : List Bytes) (s : SubKeyCounter) (hp : List Parsed) (h : SubInv s hp) :
    ∃ s', l.foldlM SubKeyCounter.sample s = .ok s' ∧ SubInv s' (hp ++ l.map parseSubKey) := by
  induction l generalizing s hp with
  | nil => exact ⟨s, rfl, by simpa using h⟩
  | cons e l ih =>
    obtain ⟨s1, h1, h2⟩ := subInv_step s hp e h
    obtain ⟨s2, h3, h4⟩ := ih s1 _ h2
    refine ⟨s2, ?_, by simpa [List.append_assoc] using h4⟩
    simp only [List.foldlM_cons, h1]; exact h3

theorem subInv_run (h : List Bytes) :
    ∃ s, SubKeyCounter.run h = .ok s ∧ SubInv s (h.map parseSubKey) := by
  have := subInv_foldlM h {} [] subInv_init
  simpa [SubKeyCounter.run] using this

end Rare.C07

import Rare.Model.C12
/-! The `IntPool` memory model: invariants, frame lemmas, disjointness of handed-out slices. -/
namespace Rare.C12

/-- two slices share no cell -/
def View.Disjoint (v w : View) : Prop :=
  v.arr ≠ w.arr ∨ v.start + v.len ≤ w.start ∨ w.start + w.len ≤ v.start

theorem View.Disjoint.symm {v w : View} (h : v.Disjoint w) : w.Disjoint v := by
  unfold View.Disjoint at *; omega

structure Pool.WF (p : Pool) : Prop where
  cur_lt : p.cur < p.heap.length
  lens : ∀ a ∈ p.heap, a.length = p.size
  off_le : p.off ≤ p.size

/-- the slice lies inside an allocated array -/
def Pool.Valid (p : Pool) (v : View) : Prop := v.arr < p.heap.length ∧ v.start + v.len ≤ p.size

/-- the slice lies behind the allocation frontier (everything `Get` handed out so far does) -/
def Pool.Behind (p : Pool) (v : View) : Prop :=
  p.Valid v ∧ (v.arr < p.cur ∨ (v.arr = p.cur ∧ v.start + v.len ≤ p.off))

def Pool.cell (p : Pool) (a i : Nat) : Option Int := (p.heap.getD a [])[i]?

theorem Pool.read_getElem? (p : Pool) (v : View) (k : Nat) :
    (p.read v)[k]? = if k < v.len then p.cell v.arr (v.start + k) else none := by
  simp only [Pool.read, Pool.cell, List.getElem?_take, List.getElem?_drop]

theorem Pool.WF.arr_length {p : Pool} (h : p.WF) {a : Nat} (ha : a < p.heap.length) :
    (p.heap.getD a []).length = p.size := by
  apply h.lens
  rw [List.getD_eq_getElem?_getD, List.getElem?_eq_getElem ha]
  simp

theorem Pool.WF.cell_isSome {p : Pool} (h : p.WF) {a i : Nat} (ha : a < p.heap.length) (hi : i < p.size) :
    ∃ x, p.cell a i = some x := by
  have hl := h.arr_length ha
  refine ⟨(p.heap.getD a [])[i]'(by omega), ?_⟩
  simp only [Pool.cell]
  rw [List.getElem?_eq_getElem]

theorem Pool.read_length {p : Pool} (h : p.WF) {v : View} (hv : p.Valid v) : (p.read v).length = v.len := by
  simp only [Pool.read, List.length_take, List.length_drop, h.arr_length hv.1]
  have := hv.2; omega

theorem Pool.new_wf (size : Nat) : (Pool.new size).WF :=
  ⟨by simp [Pool.new], by simp [Pool.new], by simp [Pool.new]⟩

/-! ### write -/

theorem Pool.write_ok {p p' : Pool} {v : View} {i : Nat} {x : Int} (h : p.write v i x = .ok p') :
    i < v.len ∧ p' = { p with heap := p.heap.modify v.arr (fun a => a.set (v.start + i) x) } := by
  simp only [Pool.write] at h
  split at h
  · cases h; exact ⟨by assumption, rfl⟩
  · cases h

theorem Pool.write_succeeds (p : Pool) {v : View} {i : Nat} (x : Int) (hi : i < v.len) :
    ∃ p', p.write v i x = .ok p' := by
  simp [Pool.write, hi]

theorem Pool.write_cell {p p' : Pool} {v : View} {i : Nat} {x : Int} (h : p.write v i x = .ok p')
    (a j : Nat) :
    p'.cell a j = if a = v.arr ∧ j = v.start + i then (p.cell a j).map (fun _ => x) else p.cell a j := by
  obtain ⟨_, rfl⟩ := Pool.write_ok h
  simp only [Pool.cell, List.getD_eq_getElem?_getD, List.getElem?_modify]
  by_cases ha : v.arr = a
  · subst ha
    cases hh : p.heap[v.arr]? with
    | none => simp
    | some arr =>
      simp only [if_true, Option.map_eq_map, Option.map_some, Option.getD_some, true_and]
      by_cases hj : v.start + i = j
      · subst hj
        rw [List.getElem?_set]
        by_cases hlt : v.start + i < arr.length
        · simp [hlt]
        · simp [hlt]
      · have : ¬ j = v.start + i := fun e => hj e.symm
        simp [hj, this]
  · have : ¬ a = v.arr := fun e => ha e.symm
    simp [ha, this]

theorem Pool.write_wf {p p' : Pool} {v : View} {i : Nat} {x : Int} (h : p.write v i x = .ok p')
    (hw : p.WF) : p'.WF ∧ p'.size = p.size ∧ p'.cur = p.cur ∧ p'.off = p.off ∧ p'.heap.length = p.heap.length := by
  obtain ⟨_, rfl⟩ := Pool.write_ok h
  refine ⟨⟨by simpa using hw.cur_lt, ?_, hw.off_le⟩, rfl, rfl, rfl, by simp⟩
  intro a ha
  simp only at ha
  rw [List.mem_iff_getElem?] at ha
  obtain ⟨k, hk⟩ := ha
  rw [List.getElem?_modify] at hk
  split at hk
  · cases hh : p.heap[k]? with
    | none => simp [hh] at hk
    | some b =>
      simp [hh] at hk; subst hk
      simp; exact hw.lens b (List.mem_of_getElem? hh)
  · simp at hk; exact hw.lens a (List.mem_of_getElem? hk)

/-- a write through `v` changes no slice disjoint from `v` -/
theorem Pool.write_read_other {p p' : Pool} {v w : View} {i : Nat} {x : Int}
    (h : p.write v i x = .ok p') (hd : v.Disjoint w) : p'.read w = p.read w := by
  have hi := (Pool.write_ok h).1
  apply List.ext_getElem?
  intro k
  rw [Pool.read_getElem?, Pool.read_getElem?]
  split
  · rw [Pool.write_cell h]
    split
    · rename_i hk hc
      unfold View.Disjoint at hd; omega
    · rfl
  · rfl

/-- a write through `v` at `i` is `set i` on what `v` reads -/
theorem Pool.write_read_self {p p' : Pool} {v : View} {i : Nat} {x : Int}
    (h : p.write v i x = .ok p') (hw : p.WF) (hv : p.Valid v) : p'.read v = (p.read v).set i x := by
  have hi := (Pool.write_ok h).1
  apply List.ext_getElem?
  intro k
  rw [List.getElem?_set, Pool.read_getElem?, Pool.read_getElem?, Pool.write_cell h]
  by_cases hk : i = k
  · subst hk
    obtain ⟨y, hy⟩ := hw.cell_isSome hv.1 (i := v.start + i) (by have := hv.2; omega)
    simp [hi, hy, Pool.read_length hw hv]
  · have : ¬ k = i := fun e => hk e.symm
    simp [hk, this]

/-! ### Get -/

theorem Pool.get_spec {p p' : Pool} {v : View} {n : Nat} (h : p.get n = .ok (v, p')) (hw : p.WF) :
    p'.WF ∧ p'.size = p.size ∧ v.len = n ∧ p'.Behind v ∧
    (∀ w, p.Behind w → p'.Behind w ∧ w.Disjoint v ∧ p'.read w = p.read w) := by
  simp only [Pool.get] at h
  split at h
  · split at h
    · cases h
    · rename_i hrem hsz
      cases h
      refine ⟨⟨by simp, ?_, by simpa using Nat.le_of_not_gt hsz⟩, rfl, rfl, ?_, ?_⟩
      · intro a ha
        simp only [List.mem_append, List.mem_singleton] at ha
        rcases ha with ha | rfl
        · exact hw.lens a ha
        · simp
      · refine ⟨⟨by simp, by simpa using Nat.le_of_not_gt hsz⟩, Or.inr ⟨rfl, by simp⟩⟩
      · intro w hb
        have hlt : w.arr < p.heap.length := hb.1.1
        refine ⟨⟨⟨by simp; omega, hb.1.2⟩, Or.inl (by simpa using hlt)⟩, Or.inl (by simp; omega), ?_⟩
        simp only [Pool.read, List.getD_eq_getElem?_getD]
        rw [List.getElem?_append_left hlt]
  · rename_i hrem
    cases h
    simp only [Pool.remaining, hw.arr_length hw.cur_lt] at hrem
    have hoff := hw.off_le
    refine ⟨⟨hw.cur_lt, hw.lens, by simp; omega⟩, rfl, rfl, ?_, ?_⟩
    · exact ⟨⟨hw.cur_lt, by simp; omega⟩, Or.inr ⟨rfl, by simp⟩⟩
    · intro w hb
      refine ⟨⟨hb.1, ?_⟩, ?_, rfl⟩
      · rcases hb.2 with h1 | h1
        · exact Or.inl h1
        · exact Or.inr ⟨h1.1, by simp; omega⟩
      · unfold View.Disjoint
        rcases hb.2 with h1 | h1
        · left; simp; omega
        · right; left; simp; omega

theorem Pool.get_succeeds (p : Pool) {n : Nat} (h : n ≤ p.size) :
    ∃ v p', p.get n = .ok (v, p') ∧ p'.size = p.size := by
  unfold Pool.get
  split
  · rw [if_neg (by omega)]; exact ⟨_, _, rfl, rfl⟩
  · exact ⟨_, _, rfl, rfl⟩

/-! ### what earlier slices see of later calls -/

/-- some calls later: pool still well formed, every slice handed out before is still behind the
frontier and reads the same -/
structure PoolStep (p p' : Pool) : Prop where
  wf : p'.WF
  size : p'.size = p.size
  keep : ∀ w, p.Behind w → p'.Behind w ∧ p'.read w = p.read w

theorem PoolStep.refl {p : Pool} (h : p.WF) : PoolStep p p := ⟨h, rfl, fun _ hw => ⟨hw, rfl⟩⟩

theorem PoolStep.trans {p p' p'' : Pool} (a : PoolStep p p') (b : PoolStep p' p'') : PoolStep p p'' :=
  ⟨b.wf, b.size.trans a.size, fun w hw =>
    ⟨(b.keep w (a.keep w hw).1).1, ((b.keep w (a.keep w hw).1).2).trans (a.keep w hw).2⟩⟩

/-- the slices `vs` handed out between `p` and `p'`: behind the new frontier, disjoint from everything
behind the old one and from each other -/
def Fresh (p p' : Pool) (vs : List View) : Prop :=
  (∀ v ∈ vs, p'.Behind v) ∧ (∀ w, p.Behind w → ∀ v ∈ vs, w.Disjoint v) ∧ vs.Pairwise View.Disjoint

theorem Fresh.nil (p p' : Pool) : Fresh p p' [] := ⟨by simp, by simp, by simp⟩

theorem Fresh.step {p p1 p' : Pool} {vs : List View} (st : PoolStep p p1) (f : Fresh p1 p' vs) : Fresh p p' vs :=
  ⟨f.1, fun w hw v hv => f.2.1 w (st.keep w hw).1 v hv, f.2.2⟩

theorem Fresh.cons {p p1 p' : Pool} {v : View} {vs : List View} (st : PoolStep p p1) (hv : p1.Behind v)
    (hd : ∀ w, p.Behind w → w.Disjoint v) (st' : PoolStep p1 p') (f : Fresh p1 p' vs) : Fresh p p' (v :: vs) := by
  refine ⟨fun x hx => ?_, fun w hw x hx => ?_, List.pairwise_cons.mpr ⟨fun x hx => f.2.1 v hv x hx, f.2.2⟩⟩
  · rcases List.mem_cons.mp hx with rfl | hx
    · exact (st'.keep _ hv).1
    · exact f.1 x hx
  · rcases List.mem_cons.mp hx with rfl | hx
    · exact hd w hw
    · exact f.2.1 w (st.keep w hw).1 x hx

/-! ### any sequence of `Get` calls -/

/-- a sequence of `Get(n₁), Get(n₂), …` on one pool -/
def getMany : Pool → List Nat → Except String (List View × Pool)
  | p, [] => .ok ([], p)
  | p, n :: ns =>
    match p.get n with
    | .error e => .error e
    | .ok (v, p') =>
      match getMany p' ns with
      | .error e => .error e
      | .ok (vs, p'') => .ok (v :: vs, p'')

theorem getMany_spec : ∀ (ns : List Nat) (p : Pool), p.WF → ∀ vs p', getMany p ns = .ok (vs, p') →
    PoolStep p p' ∧ Fresh p p' vs ∧ vs.map (·.len) = ns := by
  intro ns
  induction ns with
  | nil =>
    intro p hw vs p' h
    simp only [getMany] at h; cases h
    exact ⟨PoolStep.refl hw, Fresh.nil _ _, rfl⟩
  | cons n ns ih =>
    intro p hw vs p' h
    simp only [getMany] at h
    cases hg : p.get n with
    | error e => rw [hg] at h; cases h
    | ok r =>
      obtain ⟨v, p1⟩ := r
      rw [hg] at h
      simp only [] at h
      cases hm : getMany p1 ns with
      | error e => rw [hm] at h; cases h
      | ok r2 =>
        obtain ⟨vs1, p2⟩ := r2
        rw [hm] at h
        simp only [Except.ok.injEq, Prod.mk.injEq] at h
        obtain ⟨rfl, rfl⟩ := h
        obtain ⟨wf1, sz1, hlen, hbv, hkeep⟩ := Pool.get_spec hg hw
        have st : PoolStep p p1 := ⟨wf1, sz1, fun w hb => ⟨(hkeep w hb).1, (hkeep w hb).2.2⟩⟩
        obtain ⟨st', hfresh, hlens⟩ := ih p1 wf1 vs1 p2 hm
        exact ⟨st.trans st', Fresh.cons st hbv (fun w hb => (hkeep w hb).2.1) st' hfresh, by simp [hlen, hlens]⟩

theorem getMany_succeeds : ∀ (ns : List Nat) (p : Pool), (∀ n ∈ ns, n ≤ p.size) →
    ∃ vs p', getMany p ns = .ok (vs, p') ∧ p'.size = p.size := by
  intro ns
  induction ns with
  | nil => intro p _; exact ⟨[], p, rfl, rfl⟩
  | cons n ns ih =>
    intro p hn
    obtain ⟨v, p1, hg, hs⟩ := p.get_succeeds (hn n (by simp))
    obtain ⟨vs, p2, hm, hs2⟩ := ih p1 (fun m hm => by rw [hs]; exact hn m (by simp [hm]))
    exact ⟨v :: vs, p2, by simp [getMany, hg, hm], hs2.trans hs⟩

end Rare.C12

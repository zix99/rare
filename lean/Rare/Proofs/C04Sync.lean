import Rare.Model.C04Sync
import Rare.Proofs.Batcher
/-! `syncReaderToBatcher`: what the batching loop without a timer does to any list of tokens. -/
namespace Rare.C04

/-- `Batcher.run` without a timer: the batches partition the tokens, numbered from 1, and none is empty. -/
theorem run_partition {α : Type} (n : Nat) (toks : List α) :
    (Batcher.run n (toks.map (·, false))).flatMap Batcher.lineNumbers = toks.zipIdx 1 ∧
    (Batcher.run n (toks.map (·, false))).flatMap (·.lines) = toks ∧
    ∀ b ∈ Batcher.run n (toks.map (·, false)), b.lines ≠ [] := by
  have hm : (toks.map (·, false)).map (·.1) = toks := by rw [List.map_map]; exact List.map_id _
  have h := Batcher.run_spec n (toks.map (·, false))
  rw [hm] at h
  exact ⟨h.1, Batcher.flat_of_numbers h.1, h.2⟩

/-- The three components of `syncRun`.  (Stated for the record as a whole: unifying one projection of `syncRun` with its
    value makes Lean unfold `Batcher.run` first, which is slow.) -/
theorem syncRun_eq (batchSize : Nat) (data : Bytes) (script : List Step) :
    syncRun batchSize data script =
      ⟨Batcher.run batchSize
        ((Imm.scanAll (data.length + script.length + 3) (data.length + script.length + 3)
          (Imm.init Rare.Gen.readAheadBufferSize ⟨data, script⟩)).1.map (·, false)),
       (Imm.scanAll (data.length + script.length + 3) (data.length + script.length + 3)
          (Imm.init Rare.Gen.readAheadBufferSize ⟨data, script⟩)).2.1,
       (Imm.scanAll (data.length + script.length + 3) (data.length + script.length + 3)
          (Imm.init Rare.Gen.readAheadBufferSize ⟨data, script⟩)).2.2⟩ := rfl

end Rare.C04

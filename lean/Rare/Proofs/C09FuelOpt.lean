import Rare.Proofs.C09Errors
import Rare.Proofs.ExprCore
/-!
C09: the out-of-fuel branch of the model's `compile` is never the answer – optimiser ON as well.

With the optimiser on, `Compile` probes every stage it has built (`optimize` → `EvalStaticStage`), and a
stage that panics while being probed makes `Compile` panic with that stage's message.  So the statement
needs a hypothesis about panic *messages*: no stage that a builder of the registry returns can panic with
the model's own out-of-fuel text (`NoMsg`), given argument stages that cannot.  `NoMsgReg` states it; it
is discharged for the standard registry in `Rare/Proofs/C09FuelStd.lean`.
-/
namespace Rare.C09
open Rare Rare.Expr

/-- No `panic m` node is reachable in the interaction tree, whatever the context answers
    (other panic messages are allowed). -/
inductive NoMsg (m : String) {α : Type} : Comp α → Prop
  | ret (a : α) : NoMsg m (.ret a)
  | getMatch (i : Int) (k : Bytes → Comp α) : (∀ b, NoMsg m (k b)) → NoMsg m (.getMatch i k)
  | getKey (s : Bytes) (k : Bytes → Comp α) : (∀ b, NoMsg m (k b)) → NoMsg m (.getKey s k)
  | panic (m' : String) : m' ≠ m → NoMsg m (.panic m')

namespace NoMsg
variable {m : String}

theorem bind {α β : Type} {c : Comp α} {f : α → Comp β} (h : NoMsg m c) (hf : ∀ a, NoMsg m (f a)) :
    NoMsg m (c.bind f) := by
  induction h with
  | ret a => exact hf a
  | getMatch i k _ ih => exact .getMatch _ _ ih
  | getKey s k _ ih => exact .getKey _ _ ih
  | panic m' hne => exact .panic m' hne

theorem bind' {α β : Type} {c : Comp α} {f : α → Comp β} (h : NoMsg m c) (hf : ∀ a, NoMsg m (f a)) :
    NoMsg m (c >>= f) := bind h hf

theorem pure {α : Type} (a : α) : NoMsg m (Pure.pure a : Comp α) := .ret a

theorem map {α β : Type} {c : Comp α} (f : α → β) (h : NoMsg m c) : NoMsg m (f <$> c) :=
  bind h fun a => .ret (f a)

theorem probeN {α : Type} {c : Comp α} (h : NoMsg m c) : ∀ n, c.probeN n ≠ .error m := by
  induction h with
  | ret a => intro n; simp [Comp.probeN]
  | getMatch i k _ ih => intro n; exact ih _ _
  | getKey s k _ ih => intro n; exact ih _ _
  | panic m' hne => intro n; simp [Comp.probeN, hne]

theorem probe {α : Type} {c : Comp α} (h : NoMsg m c) : c.probe ≠ .error m := by
  have := h.probeN 0
  unfold Comp.probe
  cases hp : c.probeN 0 with
  | error e => rw [hp] at this; simpa using this
  | ok p => simp

theorem run {α : Type} {c : Comp α} (h : NoMsg m c) (ctx : Ctx) : c.run ctx ≠ .error m := by
  induction h with
  | ret a => simp [Comp.run]
  | getMatch i k _ ih => exact ih _
  | getKey s k _ ih => exact ih _
  | panic m' hne => simp [Comp.run, hne]

theorem withSub {α : Type} {c : Comp α} (h : NoMsg m c) (v0 v1 : Bytes) : NoMsg m (c.withSub v0 v1) := by
  induction h with
  | ret a => exact .ret a
  | getMatch i k _ ih =>
    simp only [Comp.withSub]
    split
    · exact .getMatch _ _ ih
    · exact ih _
  | getKey s k _ ih => exact .getKey _ _ ih
  | panic m' hne => exact .panic m' hne

theorem lit (b : Bytes) : NoMsg m (Stage.lit b) := .ret b
theorem match_ (i : Int) : NoMsg m (Comp.match_ i) := .getMatch _ _ fun b => .ret b
theorem key (k : Bytes) : NoMsg m (Comp.key k) := .getKey _ _ fun b => .ret b

/-- A stage that cannot panic at all cannot panic with `m`. -/
theorem of_constant {α : Type} (a : α) : NoMsg m (Comp.ret a) := .ret a

end NoMsg

def AllNoMsg (m : String) (l : List Stage) : Prop := ∀ s ∈ l, NoMsg m s

theorem AllNoMsg.nil {m : String} : AllNoMsg m [] := fun _ h => by cases h

theorem AllNoMsg.append {m : String} {a b : List Stage} (ha : AllNoMsg m a) (hb : AllNoMsg m b) :
    AllNoMsg m (a ++ b) := by
  intro s hs; rcases List.mem_append.mp hs with h | h
  · exact ha s h
  · exact hb s h

theorem AllNoMsg.single {m : String} {s : Stage} (h : NoMsg m s) : AllNoMsg m [s] := by
  intro x hx; simp at hx; rw [hx]; exact h

theorem NoMsg.concat {m : String} {l : List Stage} (h : AllNoMsg m l) : NoMsg m (concatStages l) := by
  induction l with
  | nil => exact .ret _
  | cons s rest ih =>
    exact NoMsg.bind (h s (by simp)) fun a => NoMsg.bind (ih fun x hx => h x (by simp [hx])) fun b => .ret _

theorem NoMsg.join {m : String} {l : List Stage} (h : AllNoMsg m l) : NoMsg m (joinStages l) := by
  rw [joinStages_eq]; exact NoMsg.concat h

theorem stageSimpleVariable_noMsg (m : String) (a : List Char) : NoMsg m (stageSimpleVariable a) := by
  unfold stageSimpleVariable; split
  · exact NoMsg.match_ _
  · exact NoMsg.key _

/-- The registry hypothesis: given argument stages that cannot panic with the out-of-fuel message, no
    builder fails with it at compile time, and the stage it returns cannot panic with it either. -/
def NoMsgReg (m : String) (reg : Registry) : Prop :=
  ∀ name f args, reg name = some f → AllNoMsg m args →
    f args ≠ .error m ∧ ∀ b s, f args = .ok b → b.stage = some s → NoMsg m s

def fuelMsg : String := "out of fuel"

/-! ### a property of stages that the compiler keeps -/

/-- `S` holds of the stages `Compile` makes itself and – given argument stages with `S` – of the stage a builder
    returns; no builder fails with `m`; and where the optimiser runs, probing a stage with `S` does not fail with
    `m`. -/
structure Kept (m : String) (S : Stage → Prop) (reg : Registry) (opt : Bool) : Prop where
  lit : ∀ b, S (Stage.lit b)
  var : ∀ a, S (stageSimpleVariable a)
  join : ∀ l : List Stage, (∀ s ∈ l, S s) → S (joinStages l)
  probe : opt = true → ∀ s, S s → s.probe ≠ .error m
  builder : ∀ name f args, reg name = some f → (∀ s ∈ args, S s) →
    f args ≠ .error m ∧ ∀ b s, f args = .ok b → b.stage = some s → S s

section
variable {m : String} {S : Stage → Prop} {reg : Registry} {opt : Bool} (K : Kept m S reg opt) (g : Nat)

/-- What is known about a compile result: it is not the error `m`, and its stages have `S`. -/
def GoodC (m : String) (S : Stage → Prop) (r : Except String (List Stage × List CErr)) : Prop :=
  r ≠ .error m ∧ ∀ s e, r = .ok (s, e) → ∀ x ∈ s, S x

def GoodSt (m : String) (S : Stage → Prop) (r : Except String CompSt) : Prop :=
  r ≠ .error m ∧ ∀ st, r = .ok st → ∀ x ∈ st.stages, S x

omit K in
theorem GoodSt.ok {st : CompSt} (h : ∀ x ∈ st.stages, S x) : GoodSt m S (.ok st) :=
  ⟨by simp, fun st' e => by cases e; exact h⟩

omit K in
theorem snoc_kept {l : List Stage} (h : ∀ x ∈ l, S x) {s : Stage} (hs : S s) : ∀ x ∈ l ++ [s], S x := by
  intro x hx
  rcases List.mem_append.mp hx with hx | hx
  · exact h x hx
  · rw [List.mem_singleton.mp hx]; exact hs

include K

theorem snocLit_kept {l : List Stage} (h : ∀ x ∈ l, S x) (sb : List Char) :
    ∀ x ∈ (if sb.isEmpty then l else l ++ [Stage.lit (charsToBytes sb)]), S x := by
  split
  · exact h
  · exact snoc_kept h (K.lit _)

/-- `optimize` of stages with `S` does not fail with `m`, and its output has `S`. -/
theorem optimizeGo_kept (ho : opt = true) : ∀ (stages : List Stage) (sb : Bytes) (acc : List Stage),
    (∀ x ∈ stages, S x) → (∀ x ∈ acc, S x) →
    optimizeGo stages sb acc ≠ .error m ∧ ∀ out, optimizeGo stages sb acc = .ok out → ∀ x ∈ out, S x := by
  intro stages
  induction stages with
  | nil =>
    intro sb acc _ ha
    refine ⟨by simp [optimizeGo], fun out h => ?_⟩
    simp only [optimizeGo, Except.ok.injEq] at h
    subst h
    split
    · exact ha
    · exact snoc_kept ha (K.lit _)
  | cons st rest ih =>
    intro sb acc hs ha
    have hst : S st := hs st (by simp)
    have hrest : ∀ x ∈ rest, S x := fun x hx => hs x (by simp [hx])
    have hp := K.probe ho st hst
    simp only [optimizeGo]
    cases hpr : st.probe with
    | error e =>
      rw [hpr] at hp
      exact ⟨by simpa using hp, fun out h => by simp at h⟩
    | ok p =>
      obtain ⟨v, b⟩ := p
      cases b with
      | true => exact ih _ _ hrest ha
      | false =>
        refine ih _ _ hrest (snoc_kept ?_ hst)
        split
        · exact ha
        · exact snoc_kept ha (K.lit _)

theorem args_good (fargs : List (List Char)) (h : ∀ a ∈ fargs, GoodC m S (compileF g reg opt a)) :
    compileArgs g reg opt fargs ≠ .error m ∧
      ∀ cs es, compileArgs g reg opt fargs = .ok (cs, es) → ∀ x ∈ cs, S x := by
  induction fargs with
  | nil =>
    rw [compileArgs]
    refine ⟨by simp, fun cs es h x hx => ?_⟩
    simp only [Except.ok.injEq, Prod.mk.injEq] at h
    rw [← h.1] at hx; cases hx
  | cons a r ih =>
    rw [compileArgs]
    have h1 := h a (by simp)
    have h2 := ih (fun b hb => h b (by simp [hb]))
    cases hc : compileF g reg opt a with
    | error e => rw [hc] at h1; exact ⟨by simpa using h1.1, fun cs es h => by simp at h⟩
    | ok p =>
      obtain ⟨st, er⟩ := p
      simp only []
      cases hc2 : compileArgs g reg opt r with
      | error e => rw [hc2] at h2; exact ⟨by simpa using h2.1, fun cs es h => by simp at h⟩
      | ok q =>
        obtain ⟨ss, es⟩ := q
        refine ⟨by simp, fun cs es' h => ?_⟩
        simp only [Except.ok.injEq, Prod.mk.injEq] at h
        rw [← h.1]
        rw [hc] at h1
        intro x hx
        rcases List.mem_cons.mp hx with rfl | hx
        · exact K.join _ (h1.2 st er rfl)
        · exact h2.2 ss es hc2 x hx

theorem close_good (all : List Char) (i : Nat) (st : CompSt) (hst : ∀ x ∈ st.stages, S x)
    (h : ∀ a ∈ splitArgs st.sb, GoodC m S (compileF g reg opt a)) :
    GoodSt m S (closeStatement g reg opt all i st) := by
  rw [closeStatement]
  match hs : splitArgs st.sb with
  | [] => exact GoodSt.ok hst
  | [a] => exact GoodSt.ok (snoc_kept hst (K.var a))
  | name :: b :: r =>
    simp only []
    cases hr : reg name with
    | none => exact GoodSt.ok (snoc_kept hst (K.lit _))
    | some f =>
      simp only []
      have h2 := args_good K g (b :: r) (fun a ha => h a (by rw [hs]; simp [List.mem_cons.mp ha]))
      cases hc : compileArgs g reg opt (b :: r) with
      | error e => rw [hc] at h2; exact ⟨by simpa using h2.1, fun st' h => by simp at h⟩
      | ok q =>
        obtain ⟨cargs, aerrs⟩ := q
        simp only []
        have h3 := K.builder name f cargs hr (h2.2 cargs aerrs hc)
        cases hf : f cargs with
        | error e => rw [hf] at h3; exact ⟨by simpa using h3.1, fun st' h => by simp at h⟩
        | ok bt =>
          refine GoodSt.ok ?_
          simp only []
          cases hbs : bt.stage with
          | none => exact hst
          | some s => exact snoc_kept hst (h3.2 bt s hf hbs)

theorem loop_good (N : Nat) (all : List Char)
    (hA : ∀ a : List Char, a.length < N → GoodC m S (compileF g reg opt a)) :
    ∀ (rest : List Char) (i : Nat) (st : CompSt), st.sb.length + rest.length ≤ N → (∀ x ∈ st.stages, S x) →
      GoodSt m S (compileLoop g reg opt all rest i st) := by
  refine loop_induction g reg opt all (P := fun _ _ st r => (∀ x ∈ st.stages, S x) → GoodSt m S r) N
    (fun _ _ => GoodSt.ok) (fun _ _ h => GoodSt.ok h) (fun _ _ _ _ _ ih => ih)
    (fun _ _ st _ _ ih hst => ih (snocLit_kept K hst st.sb)) (fun _ _ _ _ _ ih => ih) ?_ ?_ (fun _ _ _ _ _ ih => ih)
    (fun _ _ _ _ _ _ _ _ ih => ih)
  · intro rest i st e _ ha hc hst
    have := close_good K g all i st hst fun a h => hA a (ha a h)
    rw [hc] at this
    exact ⟨this.1, fun st' e => by cases e⟩
  · intro rest i st st' r _ ha hc ih hst
    have := close_good K g all i st hst fun a h => hA a (ha a h)
    rw [hc] at this
    exact ih (this.2 st' rfl)

/-- With fuel above the template length the recursive compiler never answers `m`, and the stages it returns have
    `S`. -/
theorem compileF_good : ∀ (L : Nat) (t : List Char), t.length < L → ∀ f, t.length < f →
    GoodC m S (compileF f reg opt t) := by
  intro L
  induction L with
  | zero => intro t h; omega
  | succ L ih =>
    intro t hL f h1
    obtain ⟨g, rfl⟩ : ∃ g, f = g + 1 := ⟨f - 1, by omega⟩
    have hl := loop_good K g t.length t (fun a ha => ih a (by omega) g (by omega)) t 0
      ⟨[], [], [], 0, 0⟩ (by simp) (fun _ hx => by cases hx)
    rw [compileF_eq]
    cases hc : compileLoop g reg opt t t 0 ⟨[], [], [], 0, 0⟩ with
    | error e => rw [hc] at hl; exact ⟨by simpa using hl.1, fun s e h => by simp at h⟩
    | ok st =>
      rw [hc] at hl
      have hst := snocLit_kept K (hl.2 st rfl) st.sb
      simp only [finishC]
      cases ho : opt with
      | false =>
        refine ⟨by simp, fun s e h => ?_⟩
        simp only [Bool.false_eq_true, if_false, Except.ok.injEq, Prod.mk.injEq] at h
        rw [← h.1]; exact hst
      | true =>
        have hopt := optimizeGo_kept K ho _ [] [] hst (fun _ hx => by cases hx)
        simp only [if_true]
        unfold optimize
        cases hopt' : optimizeGo (if st.sb.isEmpty = true then st.stages else st.stages ++ [Stage.lit (charsToBytes st.sb)]) [] [] with
        | error e => rw [hopt'] at hopt; exact ⟨by simpa using hopt.1, fun s e h => by simp at h⟩
        | ok out =>
          refine ⟨by simp, fun s e h => ?_⟩
          simp only [Except.ok.injEq, Prod.mk.injEq] at h
          rw [← h.1]; exact hopt.2 out hopt'

end

/-- Stages that cannot panic with `m` are kept, for a registry with `NoMsgReg`. -/
theorem kept_noMsg {m : String} {reg : Registry} (opt : Bool) (hreg : NoMsgReg m reg) : Kept m (NoMsg m) reg opt :=
  ⟨NoMsg.lit, stageSimpleVariable_noMsg m, fun _ h => NoMsg.join h, fun _ _ h => h.probe, hreg⟩

/-- Without the optimiser no stage is ever run at compile time: it is enough that no builder fails with `m`. -/
theorem kept_noopt {reg : Registry} (hreg : NoFuelMsg reg) : Kept "out of fuel" (fun _ => True) reg false :=
  ⟨fun _ => trivial, fun _ => trivial, fun _ _ => trivial, (fun h => nomatch h),
    fun name f args h _ => ⟨hreg name f args h, fun _ _ _ _ => trivial⟩⟩

end Rare.C09

import Rare.Proofs.C15Multi
import Rare.Proofs.C15Live
/-!
What the batches of one follower (`Rare.C15.Multi.FileRun.follower`) are, from the single-file theorems:
a numbered partition of the lines of its delivered stream when the stream ends, a numbered prefix of the
lines of the newline-terminated part while it is still following.
-/
namespace Rare.C15.Multi
open Rare.C04 Rare.C15.Tail Rare.C15.Batch

theorem prefix_flatMap {α β : Type} (f : α → List β) {l1 l2 : List α} (h : l1 <+: l2) :
    l1.flatMap f <+: l2.flatMap f := by
  obtain ⟨t, rfl⟩ := h
  rw [List.flatMap_append]
  exact List.prefix_append _ _

/-- The lines a follower's batches are cut from. -/
structure LinesOf (r : FileRun) (L : List Bytes) : Prop where
  ended : r.ends = true → L = splitLines r.data
  live : r.ends = false → ∃ C rest, r.data = C ++ rest ∧ nl ∉ rest ∧ (C = [] ∨ C.getLast? = some nl) ∧ L = splitLines C

theorem follower_lines (bufSize batchSize : Nat) (hb : 1 ≤ bufSize) (r : FileRun)
    (hs : ∀ st ∈ r.script, st.err = none) :
    ∃ L, LinesOf r L ∧
      (r.follower bufSize batchSize).batches.flatMap Batcher.lineNumbers <+: L.zipIdx 1 ∧
      (r.ends = true → (r.follower bufSize batchSize).batches.flatMap Batcher.lineNumbers = L.zipIdx 1) ∧
      (∀ b ∈ (r.follower bufSize batchSize).batches, b.lines ≠ []) := by
  cases he : r.ends with
  | true =>
    have hbs : (r.follower bufSize batchSize).batches =
        (tailToChan r.src bufSize batchSize r.timer r.data r.script).numbered := by simp [FileRun.follower, he]
    have hj : J r.src (tailToChan r.src bufSize batchSize r.timer r.data r.script) :=
      j_after r.src bufSize batchSize r.timer r.data r.script hb _
    have hc := tail_closed r.src bufSize batchSize r.timer r.data r.script hb
    obtain ⟨h1, h2, _⟩ := closed_spec hj hc
    rw [closed_delivered r.src bufSize batchSize r.timer r.data r.script hb hs] at h1
    rw [hbs]
    exact ⟨splitLines r.data, ⟨fun _ => rfl, fun h => by rw [he] at h; cases h⟩, by rw [h1]; exact List.prefix_refl _,
      fun _ => h1, h2⟩
  | false =>
    have hbs : (r.follower bufSize batchSize).batches =
        (live r.src bufSize batchSize r.timer r.data r.script).numbered := by simp [FileRun.follower, he]
    obtain ⟨hrun, C, rest, h1, h2, h3, h4⟩ := live_spec r.src bufSize batchSize r.timer r.data r.script hb hs
    have hj : J r.src (live r.src bufSize batchSize r.timer r.data r.script) :=
      j_after r.src bufSize batchSize r.timer r.data r.script hb _
    obtain ⟨g1, g2, _⟩ := running_spec hj (by rw [hrun]; decide)
    rw [h4] at g1
    rw [hbs]
    exact ⟨splitLines C, ⟨(fun h => by rw [he] at h; cases h), fun _ => ⟨C, rest, h1, h2, h3, rfl⟩⟩, ⟨_, g1⟩, (fun h => by cases h), g2⟩

/-- look-up in a mapped list -/
theorem get_map_follower {runs : List FileRun} {bufSize batchSize i : Nat} {r : FileRun} (h : runs[i]? = some r) :
    (runs.map (FileRun.follower bufSize batchSize))[i]? = some (r.follower bufSize batchSize) := by
  simp [List.getElem?_map, h]

end Rare.C15.Multi

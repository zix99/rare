import Rare.Model.C11Case
/-!
C11, `{upper}` / `{lower}`: lemmas about `unicode.ToUpper` / `ToLower` over the case-range table and about
`strings.ToUpper` / `ToLower` (`Rare/Model/C11Case.lean`).  Core Lean only.
-/
namespace Rare.C11.Case

/-- `Delta[UpperCase]` / `Delta[LowerCase]` of a range. -/
def deltaOf (lower : Bool) (c : Nat × Nat × Int × Int) : Int := if lower then c.2.2.2 else c.2.2.1

/-- What `unicode.to` does with a range that holds the rune. -/
def applyRange (lower : Bool) (c : Nat × Nat × Int × Int) (r : Nat) : Nat :=
  if deltaOf lower c > (maxRune : Int) then c.1 + ((r - c.1) - (r - c.1) % 2) + (if lower then 1 else 0)
  else ((r : Int) + deltaOf lower c).toNat

theorem applyRange_zero (lower : Bool) (c : Nat × Nat × Int × Int) (r : Nat) (h : deltaOf lower c = 0) :
    applyRange lower c r = r := by
  unfold applyRange
  rw [h, if_neg (by unfold maxRune; omega)]; omega

/-- `unicode.to`: either no range holds the rune and it is returned unchanged, or some range of the table holds
    it and its delta is applied. -/
theorem toRune_cases (lower : Bool) (r : Nat) :
    toRune lower r = r ∨ ∃ c ∈ caseRanges, c.1 ≤ r ∧ r ≤ c.2.1 ∧ toRune lower r = applyRange lower c r := by
  unfold toRune
  cases h : caseRanges.find? (fun c => decide (c.1 ≤ r) && decide (r ≤ c.2.1)) with
  | none => left; rfl
  | some c =>
    right
    have hm := List.mem_of_find?_eq_some h
    have hp := List.find?_some h
    simp only [Bool.and_eq_true, decide_eq_true_eq] at hp
    exact ⟨c, hm, hp.1, hp.2, rfl⟩

/-- The ranges of the list are non-empty, in increasing order, and start at `n` or later. -/
def sortedFrom (n : Nat) : List (Nat × Nat × Int × Int) → Bool
  | [] => true
  | c :: l => n ≤ c.1 && c.1 ≤ c.2.1 && sortedFrom (c.2.1 + 1) l

theorem caseRanges_sorted : sortedFrom 0 caseRanges = true := by decide +kernel

theorem le_of_sortedFrom : ∀ {l n}, sortedFrom n l = true → ∀ c ∈ l, n ≤ c.1
  | c0 :: l, n, h, c, hc => by
    simp only [sortedFrom, Bool.and_eq_true, decide_eq_true_eq] at h
    rcases List.mem_cons.mp hc with rfl | hc
    · exact h.1.1
    · have := le_of_sortedFrom h.2 c hc; omega

theorem find?_of_sortedFrom {r : Nat} : ∀ {l n}, sortedFrom n l = true → ∀ c ∈ l, c.1 ≤ r → r ≤ c.2.1 →
    l.find? (fun c => decide (c.1 ≤ r) && decide (r ≤ c.2.1)) = some c
  | c0 :: l, n, h, c, hc, h1, h2 => by
    simp only [sortedFrom, Bool.and_eq_true, decide_eq_true_eq] at h
    rcases List.mem_cons.mp hc with rfl | hc
    · rw [List.find?_cons_of_pos]; simp [h1, h2]
    · have := le_of_sortedFrom h.2 c hc
      rw [List.find?_cons_of_neg (by simp; omega)]
      exact find?_of_sortedFrom h.2 c hc h1 h2

/-- The table is sorted, so its ranges are disjoint: the first range holding a rune (the model's search) and the
    range Go's binary search finds are the one range that holds it. -/
theorem toRune_of_mem (lower : Bool) {c : Nat × Nat × Int × Int} {r : Nat} (hm : c ∈ caseRanges)
    (h1 : c.1 ≤ r) (h2 : r ≤ c.2.1) : toRune lower r = applyRange lower c r := by
  unfold toRune
  rw [find?_of_sortedFrom caseRanges_sorted c hm h1 h2]
  rfl

/-- The exceptional runes of a case: the non-ASCII runes whose mapping is ASCII. -/
def intoAscii (lower : Bool) (r : Nat) : Prop :=
  if lower then r = 0x130 ∨ r = 0x212A else r = 0x131 ∨ r = 0x17F

instance (lower : Bool) (r : Nat) : Decidable (intoAscii lower r) := by unfold intoAscii; infer_instance

/-- Range-level fact, checked entry by entry: a range reaching beyond ASCII starts beyond ASCII, and sends its
    runes beyond ASCII (the first one, hence all) unless it is one of the four single-rune ranges U+0130, U+0131,
    U+017F, U+212A. -/
def rangeOk (lower : Bool) (c : Nat × Nat × Int × Int) : Bool :=
  c.2.1 < 128 || (128 ≤ c.1 && (128 ≤ applyRange lower c c.1 || (c.1 = c.2.1 && intoAscii lower c.1)))

theorem ranges_ok : ∀ lower : Bool, caseRanges.all (rangeOk lower) = true := by decide +kernel

theorem applyRange_mono (lower : Bool) (c : Nat × Nat × Int × Int) {r : Nat} (h : c.1 ≤ r) :
    applyRange lower c c.1 ≤ applyRange lower c r := by
  unfold applyRange; split <;> omega

/-- A non-ASCII rune that is not exceptional is mapped to a non-ASCII rune. -/
theorem toRune_nonascii (lower : Bool) (r : Nat) (hr : 128 ≤ r) (hx : ¬ intoAscii lower r) :
    128 ≤ toRune lower r := by
  rcases toRune_cases lower r with h | ⟨c, hm, h1, h2, h⟩
  · rw [h]; exact hr
  · rw [h]
    have hok := List.all_eq_true.mp (ranges_ok lower) c hm
    unfold rangeOk at hok
    simp only [Bool.or_eq_true, Bool.and_eq_true, decide_eq_true_eq] at hok
    rcases hok with hlt | ⟨_, hge | ⟨heq, hex⟩⟩
    · omega
    · exact Nat.le_trans hge (applyRange_mono lower c h1)
    · exact absurd (by rwa [show r = c.1 by omega]) hx

/-- The table begins with `A–Z` and `a–z`; every other range lies beyond ASCII. -/
theorem caseRanges_ascii :
    ∃ rest, caseRanges = (65, 90, 0, 32) :: (97, 122, -32, 0) :: rest ∧ sortedFrom 128 rest = true :=
  ⟨_, rfl, by decide +kernel⟩

/-- On ASCII runes the table is the ASCII case shift. -/
theorem toRune_ascii (r : Nat) (hr : r < 128) :
    toUpperR r = (if 97 ≤ r ∧ r ≤ 122 then r - 32 else r) ∧
    toLowerR r = (if 65 ≤ r ∧ r ≤ 90 then r + 32 else r) := by
  obtain ⟨rest, e, hs⟩ := caseRanges_ascii
  unfold toUpperR toLowerR
  by_cases hA : 65 ≤ r ∧ r ≤ 90
  · have h := fun lower => toRune_of_mem lower (c := (65, 90, 0, 32)) (by rw [e]; simp) hA.1 hA.2
    rw [h, h, if_pos hA, if_neg (by omega)]
    simp [applyRange, deltaOf, maxRune]; omega
  · by_cases hB : 97 ≤ r ∧ r ≤ 122
    · have h := fun lower => toRune_of_mem lower (c := (97, 122, -32, 0)) (by rw [e]; simp) hB.1 hB.2
      rw [h, h, if_pos hB, if_neg hA]
      simp [applyRange, deltaOf, maxRune]; omega
    · have h : ∀ lower, toRune lower r = r := by
        intro lower
        rcases toRune_cases lower r with h | ⟨c, hm, h1, h2, _⟩
        · exact h
        · rw [e] at hm
          rcases List.mem_cons.mp hm with rfl | hm
          · exact absurd ⟨h1, h2⟩ hA
          · rcases List.mem_cons.mp hm with rfl | hm
            · exact absurd ⟨h1, h2⟩ hB
            · have := le_of_sortedFrom hs c hm; omega
      rw [h, h, if_neg hA, if_neg hB]; exact ⟨rfl, rfl⟩

/-- The four exceptional runes. -/
theorem toRune_exceptions :
    toUpperR 0x131 = 0x49 ∧ toUpperR 0x17F = 0x53 ∧ toLowerR 0x130 = 0x69 ∧ toLowerR 0x212A = 0x6B := by
  decide +kernel

/-- Beyond ASCII, exactly the exceptional runes are mapped into ASCII. -/
theorem toRune_lt_128_iff (lower : Bool) (r : Nat) (hr : 128 ≤ r) : toRune lower r < 128 ↔ intoAscii lower r := by
  constructor
  · intro hlt
    apply Decidable.byContradiction
    intro hx
    have := toRune_nonascii lower r hr hx
    omega
  · intro h
    obtain ⟨e1, e2, e3, e4⟩ := toRune_exceptions
    unfold toUpperR toLowerR at *
    unfold intoAscii at h
    cases lower
    · rcases h with rfl | rfl
      · rw [e1]; decide
      · rw [e2]; decide
    · rcases h with rfl | rfl
      · rw [e3]; decide
      · rw [e4]; decide

/-- `toRune` leaves alone what it makes of the runes of `c`: an alternating range holds whole pairs; a range with
    delta 0 moves nothing; a shifted range lands inside one of the ranges with delta 0, or it is a single rune and
    its image is fixed.  (`Nat.ble` in the search: the kernel evaluates it at once, `decide (_ ≤ _)` it has to
    unfold; the list of ranges with delta 0 is the same closed term for every `c`, so it is computed once.) -/
def imageFixed (lower : Bool) (c : Nat × Nat × Int × Int) : Bool :=
  let d := deltaOf lower c
  if d > (maxRune : Int) then (c.2.1 - c.1) % 2 = 1
  else d = 0 || (0 ≤ (c.1 : Int) + d &&
    let a := ((c.1 : Int) + d).toNat
    let b := ((c.2.1 : Int) + d).toNat
    ((caseRanges.filter fun c' => deltaOf lower c' = 0).any (fun c' => Nat.ble b c'.2.1 && Nat.ble c'.1 a) ||
     (c.1 = c.2.1 && toRune lower a = a)))

theorem images_fixed : ∀ lower : Bool, caseRanges.all (imageFixed lower) = true := by decide +kernel

theorem toRune_applyRange (lower : Bool) {c : Nat × Nat × Int × Int} {r : Nat} (hm : c ∈ caseRanges)
    (h1 : c.1 ≤ r) (h2 : r ≤ c.2.1) : toRune lower (applyRange lower c r) = applyRange lower c r := by
  have hok := List.all_eq_true.mp (images_fixed lower) c hm
  unfold imageFixed at hok
  by_cases hul : deltaOf lower c > (maxRune : Int)
  · -- the pair member of `r` lies in `c` again and is its own pair member
    rw [if_pos hul, decide_eq_true_eq] at hok
    have e : ∀ x, applyRange lower c x = c.1 + ((x - c.1) - (x - c.1) % 2) + (if lower then 1 else 0) := by
      intro x; unfold applyRange; rw [if_pos hul]
    have hbit : (if lower then 1 else 0 : Nat) ≤ 1 := by split <;> omega
    rw [e r]
    generalize (if lower then 1 else 0 : Nat) = bit at e hbit ⊢
    rw [toRune_of_mem lower hm (by omega) (by omega), e]
    omega
  · have e : applyRange lower c r = ((r : Int) + deltaOf lower c).toNat := by
      unfold applyRange; rw [if_neg hul]
    rw [if_neg hul] at hok
    simp only [Bool.or_eq_true, Bool.and_eq_true, decide_eq_true_eq, List.any_eq_true, List.mem_filter,
      Nat.ble_eq] at hok
    rcases hok with hz | ⟨hnn, ⟨c', ⟨hm', hz'⟩, hb, ha⟩ | ⟨hone, hfix⟩⟩
    · rw [applyRange_zero lower c r hz, toRune_of_mem lower hm h1 h2, applyRange_zero lower c r hz]
    · rw [toRune_of_mem lower hm' (by rw [e]; omega) (by rw [e]; omega), applyRange_zero lower c' _ hz']
    · rw [e, show r = c.1 by omega]; exact hfix

/-- **`unicode.ToUpper` / `unicode.ToLower` are idempotent on every rune.** -/
theorem toRune_idem (lower : Bool) (r : Nat) : toRune lower (toRune lower r) = toRune lower r := by
  rcases toRune_cases lower r with h | ⟨c, hm, h1, h2, h⟩
  · rw [h, h]
  · rw [h]; exact toRune_applyRange lower hm h1 h2

/-! ### `strings.ToUpper` / `ToLower` on ASCII text -/

theorem toNat_upperB (b : UInt8) :
    (upperB b).toNat = if 97 ≤ b.toNat ∧ b.toNat ≤ 122 then b.toNat - 32 else b.toNat := by
  unfold upperB
  simp only [Bool.and_eq_true, decide_eq_true_eq, UInt8.le_iff_toNat_le, UInt8.toNat_ofNat]
  split
  · rw [UInt8.toNat_sub_of_le _ _ (UInt8.le_iff_toNat_le.mpr (by simp; omega))]; rfl
  · rfl

theorem toNat_lowerB (b : UInt8) :
    (lowerB b).toNat = if 65 ≤ b.toNat ∧ b.toNat ≤ 90 then b.toNat + 32 else b.toNat := by
  unfold lowerB
  simp only [Bool.and_eq_true, decide_eq_true_eq, UInt8.le_iff_toNat_le, UInt8.toNat_ofNat]
  split
  · rw [UInt8.toNat_add]; simp; omega
  · rfl

theorem upperB_idem (b : UInt8) : upperB (upperB b) = upperB b := by
  apply UInt8.toNat_inj.mp
  have h := toNat_upperB b
  rw [toNat_upperB (upperB b), if_neg]
  split at h <;> omega

theorem lowerB_idem (b : UInt8) : lowerB (lowerB b) = lowerB b := by
  apply UInt8.toNat_inj.mp
  have h := toNat_lowerB b
  rw [toNat_lowerB (lowerB b), if_neg]
  split at h <;> omega

theorem upperB_ascii (b : UInt8) (h : b < 128) : upperB b < 128 := by
  have e := toNat_upperB b
  rw [UInt8.lt_iff_toNat_lt] at h ⊢
  split at e <;> simp at h ⊢ <;> omega

theorem lowerB_ascii (b : UInt8) (h : b < 128) : lowerB b < 128 := by
  have e := toNat_lowerB b
  rw [UInt8.lt_iff_toNat_lt] at h ⊢
  split at e <;> simp at h ⊢ <;> omega

/-- The shape `strings.ToUpper` and `strings.ToLower` share: ASCII text that holds no `letter` (of the other case)
    is returned as it is, other ASCII text is shifted byte by byte, anything else goes through `strings.Map`. -/
def goCase (letter : UInt8 → Bool) (shift : UInt8 → UInt8) (f : Nat → Nat) (s : Bytes) : Bytes :=
  if s.all (fun c => c < 128) then (if !s.any letter then s else s.map shift) else goMap f s

theorem goToUpper_eq_goCase : goToUpper = goCase (fun c => 97 ≤ c && c ≤ 122) upperB toUpperR := rfl

theorem goToLower_eq_goCase : goToLower = goCase (fun c => 65 ≤ c && c ≤ 90) lowerB toLowerR := rfl

theorem upperB_of_not_lower (b : UInt8) (h : ¬ (97 ≤ b && b ≤ 122) = true) : upperB b = b := if_neg h

theorem lowerB_of_not_upper (b : UInt8) (h : ¬ (65 ≤ b && b ≤ 90) = true) : lowerB b = b := if_neg h

/-- ASCII text: both fast paths are the byte-wise shift. -/
theorem goCase_ascii {letter : UInt8 → Bool} {shift : UInt8 → UInt8} (f : Nat → Nat)
    (hfix : ∀ b, ¬ letter b = true → shift b = b) (s : Bytes) (h : s.all (fun c => c < 128) = true) :
    goCase letter shift f s = s.map shift := by
  unfold goCase
  rw [if_pos h]
  cases hl : s.any letter with
  | true => rfl
  | false => exact ((List.map_congr_left fun b hb => hfix b (List.any_eq_false.mp hl b hb)).trans s.map_id').symm

theorem goCase_not_ascii (letter : UInt8 → Bool) (shift : UInt8 → UInt8) (f : Nat → Nat) (s : Bytes)
    (h : s.all (fun c => c < 128) = false) : goCase letter shift f s = goMap f s :=
  if_neg (by rw [h]; decide)

theorem goToUpper_ascii (s : Bytes) (h : s.all (fun c => c < 128) = true) : goToUpper s = s.map upperB :=
  goCase_ascii _ upperB_of_not_lower s h

theorem goToLower_ascii (s : Bytes) (h : s.all (fun c => c < 128) = true) : goToLower s = s.map lowerB :=
  goCase_ascii _ lowerB_of_not_upper s h

theorem all_ascii_map (f : UInt8 → UInt8) (hf : ∀ b, b < 128 → f b < 128) :
    ∀ s : Bytes, s.all (fun c => c < 128) = true → (s.map f).all (fun c => c < 128) = true
  | [], _ => rfl
  | b :: r, h => by
    simp only [List.all_cons, Bool.and_eq_true, decide_eq_true_eq] at h
    simp only [List.map_cons, List.all_cons, Bool.and_eq_true, decide_eq_true_eq]
    exact ⟨hf b h.1, all_ascii_map f hf r h.2⟩

end Rare.C11.Case

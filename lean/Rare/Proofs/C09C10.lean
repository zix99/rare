import Rare.Proofs.C09Den
/-!
C09 × C10: the print/compile theorem for registries whose builders implement a function of the argument
values.

The registry hypothesis is semantic (`Implements`): the builder of every function called in the tree returns,
for argument stages that evaluate, a stage that evaluates to the function's value – it need not be
syntactically `pureBuilder`, may evaluate lazily (`if`), may fold constants itself.  This is the case of
`C09Den.lean` with a context-free function environment and the certificate that calls nothing dynamic.
-/
namespace Rare.C09
open Rare Rare.Expr

theorem run_concat_each (ctx : Ctx) : ∀ (l : List Stage) (v : Bytes), (concatStages l).run ctx = .ok v →
    ∀ s ∈ l, ∃ a, s.run ctx = .ok a := by
  intro l
  induction l with
  | nil => intro v _ s hs; cases hs
  | cons x rest ih =>
    intro v h s hs
    rw [concat_cons, Comp.run_bind] at h
    cases hx : x.run ctx with
    | error m => rw [hx] at h; cases h
    | ok a =>
      rw [hx] at h
      simp only [] at h
      rw [Comp.run_bind] at h
      cases hr : (concatStages rest).run ctx with
      | error m => rw [hr] at h; cases h
      | ok b =>
        rcases List.mem_cons.mp hs with rfl | hs'
        · exact ⟨a, hx⟩
        · exact ih b hr s hs'

/-- Stages that evaluate (in every context) can be optimised, and C10's `optimize_preserves` then says
    that the optimised stages build the same key. -/
theorem optimize_ok_of_run (stages : List Stage) (v : Ctx → Bytes)
    (h : ∀ ctx, (concatStages stages).run ctx = .ok (v ctx)) :
    ∃ out, optimize stages = .ok out ∧ ∀ ctx, (concatStages out).run ctx = .ok (v ctx) := by
  obtain ⟨out, ho⟩ := optimizeGo_ok stages [] [] (run_concat_each emptyCtx stages _ (h emptyCtx))
  refine ⟨out, ho, fun ctx => ?_⟩
  have := Rare.Expr.optimize_sound stages out ho
  rw [this]; exact h ctx

/-- The builder `b` implements the function `sem` at arity `n`: given any `n` argument stages that
    evaluate in every context it returns – without a compile error – a stage which, in every context,
    evaluates to `sem` of the arguments' values there.  Nothing is said about how (strictly like
    `pureBuilder`, lazily like `if`, probing its arguments and folding constants at compile time …), nor
    about argument stages that can panic (a builder that probes such a stage may panic itself). -/
def Implements (b : Builder) (sem : List Bytes → Bytes) (n : Nat) : Prop :=
  ∀ cargs : List Stage, cargs.length = n → (∀ a ∈ cargs, Total a) →
    ∃ stage, b cargs = .ok ⟨some stage, none⟩ ∧
      ∀ (ctx : Ctx) (vals : List Bytes), cargs.map (·.run ctx) = vals.map .ok → stage.run ctx = .ok (sem vals)

mutual
/-- Every function called in the tree is registered with a builder that implements what `fn` says, at
    the arity of the call. -/
def RegSem (reg : Registry) (fn : List Char → List Bytes → Bytes) : C09.Expr → Prop
  | .call f args => (∃ b, reg f = some b ∧ Implements b (fn f) args.length) ∧ RegSemArgs reg fn args
  | .lit _ => True
  | .group _ => True
  | .key _ => True
def RegSemArgs (reg : Registry) (fn : List Char → List Bytes → Bytes) : List C09.Expr → Prop
  | [] => True
  | a :: rest => RegSem reg fn a ∧ RegSemArgs reg fn rest
end

theorem seq_run (ctx : Ctx) : ∀ (cargs : List Stage) (vals : List Bytes),
    cargs.map (·.run ctx) = vals.map .ok → (seqStages cargs).run ctx = .ok vals := by
  intro cargs
  induction cargs with
  | nil => intro vals h; cases vals with
    | nil => rfl
    | cons _ _ => simp at h
  | cons s rest ih =>
    intro vals h
    cases vals with
    | nil => simp at h
    | cons a b =>
      simp only [List.map_cons, List.cons.injEq] at h
      exact run_seq_cons s rest ctx a b h.1 (ih b h.2)

/-- `pureBuilder sem` implements `sem` at every arity. -/
theorem pureBuilder_implements (sem : List Bytes → Bytes) (n : Nat) : Implements (pureBuilder sem) sem n := by
  intro cargs _ _
  refine ⟨_, rfl, fun ctx vals h => ?_⟩
  rw [Comp.run_bind, seq_run ctx cargs vals h]
  rfl

mutual
theorem regSem_of_regOk (reg : Registry) (fn : List Char → List Bytes → Bytes) :
    ∀ e : C09.Expr, RegOk reg fn e → RegSem reg fn e
  | .lit _, _ => trivial
  | .group _, _ => trivial
  | .key _, _ => trivial
  | .call f args, h => by
    simp only [RegOk] at h
    exact ⟨⟨_, h.1, pureBuilder_implements _ _⟩, regSemArgs_of_regOkArgs reg fn args h.2⟩
theorem regSemArgs_of_regOkArgs (reg : Registry) (fn : List Char → List Bytes → Bytes) :
    ∀ l : List C09.Expr, RegOkArgs reg fn l → RegSemArgs reg fn l
  | [], _ => trivial
  | a :: rest, h => by
    simp only [RegOkArgs] at h
    exact ⟨regSem_of_regOk reg fn a h.1, regSemArgs_of_regOkArgs reg fn rest h.2⟩
end

/-! ### the instance of `RegDen` -/

mutual
theorem RegSem.toDen {reg : Registry} {fn : List Char → List Bytes → Bytes} : ∀ e : C09.Expr, RegSem reg fn e →
    RegDen reg (fun _ => fn) (fun _ => false) e
  | .lit _, _ => trivial
  | .group _, _ => trivial
  | .key _, _ => trivial
  | .call f args, ⟨⟨b, hb, himpl⟩, hargs⟩ =>
    ⟨⟨b, hb, fun cargs hden =>
      let ⟨stage, hst, hrun⟩ := himpl cargs hden.length hden.total
      ⟨stage, hst, fun ctx => (by rw [hrun ctx _ (hden.runs ctx), evalTree]; rfl), fun h => (by cases h),
        fun s hs => (by cases hs)⟩⟩, RegSemArgs.toDen args hargs⟩
theorem RegSemArgs.toDen {reg : Registry} {fn : List Char → List Bytes → Bytes} : ∀ l : List C09.Expr,
    RegSemArgs reg fn l → RegDenArgs reg (fun _ => fn) (fun _ => false) l
  | [], _ => trivial
  | a :: rest, ⟨h, hrest⟩ => ⟨RegSem.toDen a h, RegSemArgs.toDen rest hrest⟩
end

section
variable (reg : Registry) (fn : List Char → List Bytes → Bytes) (opt : Bool)

theorem evalArgs_length (env : Env) : ∀ l : List C09.Expr, (evalArgs env l).length = l.length
  | [] => rfl
  | a :: rest => by simp [evalArgs, evalArgs_length env rest]

theorem args_ok' : ∀ (l : List C09.Expr) (σ : Style) (i fuel : Nat), AdmissibleArgs l → RegSemArgs reg fn l →
    depthArgs l ≤ fuel →
    ∃ cargs, compileArgs fuel reg opt (argStrings σ i l) = .ok (cargs, []) ∧
      ∀ ctx, cargs.map (·.run ctx) = (evalArgs (envOf ctx fn) l).map .ok :=
  fun l σ i fuel ha hreg hd =>
    let ⟨cargs, h1, h2⟩ := args_den reg (fun _ => fn) (fun _ => false) opt (fun _ => rfl) l σ i fuel ha
      (RegSemArgs.toDen l hreg) hd
    ⟨cargs, h1, fun ctx => h2.runs ctx⟩

/-- A printed tree, optimiser on or off. -/
theorem printTop_ok (σ : Style) (e : C09.Expr) (ha : AdmissibleTop e) (hreg : RegSem reg fn e) :
    ∃ stages, compile reg opt (printTop σ e) = .ok (stages, []) ∧
      ∀ ctx, (buildKey stages).run ctx = .ok (evalTree (envOf ctx fn) e) :=
  printTop_den reg (fun _ => fn) (fun _ => false) opt (fun _ => rfl) σ e ha (RegSem.toDen e hreg)

end

end Rare.C09

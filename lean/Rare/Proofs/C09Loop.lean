import Rare.Model.C09
import Rare.Proofs.C08
/-! C09 helper lemmas about the rune scanner of `Compile` (`compileLoop`). -/
namespace Rare.C09
open Rare Rare.Expr

variable (fuel : Nat) (reg : Registry) (opt : Bool) (all : List Char)

theorem loop_nil (i : Nat) (st : CompSt) : compileLoop fuel reg opt all [] i st = .ok st := by
  rw [compileLoop]

theorem loop_esc (e : Char) (rest : List Char) (i : Nat) (st : CompSt) :
    compileLoop fuel reg opt all ('\\' :: e :: rest) i st =
      compileLoop fuel reg opt all rest (i + 2) { st with sb := st.sb ++ [unescape e] } := by
  rw [compileLoop]; simp

theorem loop_esc_last (i : Nat) (st : CompSt) :
    compileLoop fuel reg opt all ['\\'] i st = .ok { st with sb := st.sb ++ ['\\'] } := by
  rw [compileLoop]; simp

theorem loop_plain (r : Char) (rest : List Char) (i : Nat) (st : CompSt)
    (h1 : r ≠ '\\') (h2 : r ≠ '{') (h3 : r ≠ '}' ∨ st.inStatement = 0) :
    compileLoop fuel reg opt all (r :: rest) i st =
      compileLoop fuel reg opt all rest (i + 1) { st with sb := st.sb ++ [r] } := by
  cases rest with
  | nil => rw [loop_nil, compileLoop]; rcases h3 with h3 | h3 <;> simp [h1, h2, h3, loop_nil]
  | cons e r' => rw [compileLoop]; rcases h3 with h3 | h3 <;> simp [h1, h2, h3]

theorem loop_open0 (rest : List Char) (i : Nat) (st : CompSt) (h : st.inStatement = 0) :
    compileLoop fuel reg opt all ('{' :: rest) i st =
      compileLoop fuel reg opt all rest (i + 1)
        { st with stages := if st.sb.isEmpty then st.stages else st.stages ++ [Stage.lit (charsToBytes st.sb)],
                  sb := [], startStatement := i, inStatement := 1 } := by
  cases rest with
  | nil => rw [loop_nil, compileLoop]; cases hs : st.sb <;> simp [h, loop_nil]
  | cons e r' => rw [compileLoop]; cases hs : st.sb <;> simp [h]

theorem loop_openN (rest : List Char) (i : Nat) (st : CompSt) (h : st.inStatement ≠ 0) :
    compileLoop fuel reg opt all ('{' :: rest) i st =
      compileLoop fuel reg opt all rest (i + 1)
        { st with sb := st.sb ++ ['{'], inStatement := st.inStatement + 1 } := by
  cases rest with
  | nil => rw [loop_nil, compileLoop]; simp [h, loop_nil]
  | cons e r' => rw [compileLoop]; simp [h]

theorem loop_closeN (rest : List Char) (i : Nat) (st : CompSt) (h : 1 < st.inStatement) :
    compileLoop fuel reg opt all ('}' :: rest) i st =
      compileLoop fuel reg opt all rest (i + 1)
        { st with sb := st.sb ++ ['}'], inStatement := st.inStatement - 1 } := by
  have h0 : st.inStatement > 0 := by omega
  have h1 : st.inStatement ≠ 1 := by omega
  cases rest with
  | nil => rw [loop_nil, compileLoop]; simp [h0, h1, loop_nil]
  | cons e r' => rw [compileLoop]; simp [h0, h1]

theorem loop_close1 (rest : List Char) (i : Nat) (st : CompSt) (h : st.inStatement = 1) :
    compileLoop fuel reg opt all ('}' :: rest) i st =
      match closeStatement fuel reg opt all i st with
      | .error m => .error m
      | .ok st' => compileLoop fuel reg opt all rest (i + 1) { st' with sb := [], inStatement := 0 } := by
  cases hc : closeStatement fuel reg opt all i st <;> cases rest <;> rw [compileLoop] <;> simp [h, hc, loop_nil]


/-- **Induction along the scanner.**  `P rest i st r` holds of the scanner's result `r` on `rest` from position
    `i` in state `st` if it holds where the scanner stops and is carried back over each kind of step.  `N` bounds
    the text collected so far plus the text still to be read; it is what bounds the arguments that go to the
    nested `Compile` when a statement closes. -/
theorem loop_induction {P : List Char → Nat → CompSt → Except String CompSt → Prop} (N : Nat)
    (stop : ∀ i st, P [] i st (.ok st))
    (escLast : ∀ i st, P ['\\'] i st (.ok { st with sb := st.sb ++ ['\\'] }))
    (esc : ∀ e rest i st r, P rest (i + 2) { st with sb := st.sb ++ [unescape e] } r → P ('\\' :: e :: rest) i st r)
    (open0 : ∀ rest i st r, st.inStatement = 0 →
      P rest (i + 1) { st with stages := if st.sb.isEmpty then st.stages else st.stages ++ [Stage.lit (charsToBytes st.sb)],
                               sb := [], startStatement := i, inStatement := 1 } r →
      P ('{' :: rest) i st r)
    (openN : ∀ rest i st r, st.inStatement ≠ 0 →
      P rest (i + 1) { st with sb := st.sb ++ ['{'], inStatement := st.inStatement + 1 } r → P ('{' :: rest) i st r)
    (closeErr : ∀ rest i st m, st.inStatement = 1 → (∀ a ∈ splitArgs st.sb, a.length < N) →
      closeStatement fuel reg opt all i st = .error m → P ('}' :: rest) i st (.error m))
    (close1 : ∀ rest i st st' r, st.inStatement = 1 → (∀ a ∈ splitArgs st.sb, a.length < N) →
      closeStatement fuel reg opt all i st = .ok st' →
      P rest (i + 1) { st' with sb := [], inStatement := 0 } r → P ('}' :: rest) i st r)
    (closeN : ∀ rest i st r, 1 < st.inStatement →
      P rest (i + 1) { st with sb := st.sb ++ ['}'], inStatement := st.inStatement - 1 } r → P ('}' :: rest) i st r)
    (plain : ∀ c rest i st r, c ≠ '\\' → c ≠ '{' → (c ≠ '}' ∨ st.inStatement = 0) →
      P rest (i + 1) { st with sb := st.sb ++ [c] } r → P (c :: rest) i st r) :
    ∀ (rest : List Char) (i : Nat) (st : CompSt), st.sb.length + rest.length ≤ N →
      P rest i st (compileLoop fuel reg opt all rest i st) := by
  intro rest
  induction h : rest.length using Nat.strongRecOn generalizing rest with
  | _ n ih =>
    subst h
    intro i st hN
    cases rest with
    | nil => rw [loop_nil]; exact stop i st
    | cons c rest =>
      simp only [List.length_cons] at hN ih
      by_cases h1 : c = '\\'
      · subst h1
        cases rest with
        | nil => rw [loop_esc_last]; exact escLast i st
        | cons e rest =>
          simp only [List.length_cons] at hN ih
          rw [loop_esc]
          exact esc e rest i st _ (ih _ (by omega) rest rfl _ _ (by simp; omega))
      by_cases h2 : c = '{'
      · subst h2
        by_cases h0 : st.inStatement = 0
        · rw [loop_open0 _ _ _ _ _ _ _ h0]
          exact open0 rest i st _ h0 (ih _ (by omega) rest rfl _ _ (by simp; omega))
        · rw [loop_openN _ _ _ _ _ _ _ h0]
          exact openN rest i st _ h0 (ih _ (by omega) rest rfl _ _ (by simp; omega))
      by_cases h3 : c = '}' ∧ st.inStatement ≠ 0
      · obtain ⟨h3, h4⟩ := h3
        subst h3
        by_cases h5 : st.inStatement = 1
        · have hargs : ∀ a ∈ splitArgs st.sb, a.length < N := fun a ha => by
            have := splitArgs_len ha; omega
          rw [loop_close1 _ _ _ _ _ _ _ h5]
          cases hc : closeStatement fuel reg opt all i st with
          | error m => exact closeErr rest i st m h5 hargs hc
          | ok st' => exact close1 rest i st st' _ h5 hargs hc (ih _ (by omega) rest rfl _ _ (by simp; omega))
        · rw [loop_closeN _ _ _ _ _ _ _ (by omega)]
          exact closeN rest i st _ (by omega) (ih _ (by omega) rest rfl _ _ (by simp; omega))
      · have h3' : c ≠ '}' ∨ st.inStatement = 0 := by
          by_cases hc : c = '}'
          · exact .inr (Classical.byContradiction fun h => h3 ⟨hc, h⟩)
          · exact .inl hc
        rw [loop_plain _ _ _ _ _ _ _ _ h1 h2 h3']
        exact plain c rest i st _ h1 h2 h3' (ih _ (by omega) rest rfl _ _ (by simp; omega))

/-! ### runs -/

/-- Characters the scanner copies whatever its state. -/
def inert (t : List Char) : Bool := t.all fun c => c != '\\' && c != '{' && c != '}'

theorem loop_inert (t : List Char) : ∀ (rest : List Char) (i : Nat) (st : CompSt), inert t = true →
    ∃ j, compileLoop fuel reg opt all (t ++ rest) i st =
      compileLoop fuel reg opt all rest j { st with sb := st.sb ++ t } := by
  induction t with
  | nil => intro rest i st _; exact ⟨i, by simp⟩
  | cons c t ih =>
    intro rest i st h
    simp only [inert, List.all_cons, Bool.and_eq_true, bne_iff_ne, ne_eq] at h
    obtain ⟨j, hj⟩ := ih rest (i + 1) { st with sb := st.sb ++ [c] } (by simpa [inert] using h.2)
    refine ⟨j, ?_⟩
    rw [List.cons_append, loop_plain fuel reg opt all c _ i st h.1.1.1 h.1.1.2 (Or.inl h.1.2), hj]
    simp

theorem plain_inert {t : List Char} (h : plain t = true) : inert t = true := by
  simp only [plain, inert, List.all_eq_true] at *
  intro c hc
  have := h c hc
  simp only [special, Bool.not_eq_true', Bool.or_eq_false_iff, beq_eq_false_iff_ne] at this
  simp [this.1.1.2, this.1.2, this.2]

/-- `Inner` text inside a statement is copied and leaves the brace depth where it was. -/
theorem loop_inner {t : List Char} (hi : Inner t) : ∀ (rest : List Char) (i : Nat) (st : CompSt),
    1 ≤ st.inStatement →
    ∃ j, compileLoop fuel reg opt all (t ++ rest) i st =
      compileLoop fuel reg opt all rest j { st with sb := st.sb ++ t } := by
  induction hi with
  | nil => intro rest i st _; exact ⟨i, by simp⟩
  | char c t hc _ ih =>
    intro rest i st hk
    simp only [special, Bool.or_eq_false_iff, beq_eq_false_iff_ne] at hc
    obtain ⟨j, hj⟩ := ih rest (i + 1) { st with sb := st.sb ++ [c] } hk
    refine ⟨j, ?_⟩
    rw [List.cons_append, loop_plain fuel reg opt all c _ i st hc.1.1.2 hc.1.2 (Or.inl hc.2), hj]
    simp
  | quoted q t hp _ ih =>
    intro rest i st hk
    obtain ⟨j1, h1⟩ := loop_inert fuel reg opt all q (['"'] ++ t ++ rest) (i + 1)
      { st with sb := st.sb ++ ['"'] } (plain_inert hp)
    obtain ⟨j2, h2⟩ := ih rest (j1 + 1) { st with sb := st.sb ++ ['"'] ++ q ++ ['"'] } hk
    refine ⟨j2, ?_⟩
    have e : ['"'] ++ q ++ ['"'] ++ t ++ rest = '"' :: (q ++ (['"'] ++ t ++ rest)) := by simp
    rw [e, loop_plain fuel reg opt all '"' _ i st (by decide) (by decide) (Or.inl (by decide)), h1]
    have e2 : ['"'] ++ t ++ rest = '"' :: (t ++ rest) := by simp
    rw [e2, loop_plain fuel reg opt all '"' _ j1 _ (by decide) (by decide) (Or.inl (by decide)), h2]
    simp
  | braces b t _ _ ihb iht =>
    intro rest i st hk
    obtain ⟨j1, h1⟩ := ihb (['}'] ++ t ++ rest) (i + 1)
      { st with sb := st.sb ++ ['{'], inStatement := st.inStatement + 1 } (by simp)
    obtain ⟨j2, h2⟩ := iht rest (j1 + 1) { st with sb := st.sb ++ ['{'] ++ b ++ ['}'] } hk
    refine ⟨j2, ?_⟩
    have e : ['{'] ++ b ++ ['}'] ++ t ++ rest = '{' :: (b ++ (['}'] ++ t ++ rest)) := by simp
    rw [e, loop_openN fuel reg opt all _ i st (by omega), h1]
    have e2 : ['}'] ++ t ++ rest = '}' :: (t ++ rest) := by simp
    rw [e2, loop_closeN fuel reg opt all _ j1 _ (by simp; omega)]
    simp only [Nat.add_sub_cancel]
    rw [h2]
    simp

/-! ### literal text outside braces -/

/-- A rune is written outside braces either as itself (it is none of `\\ { }`) or as a backslash and a rune that
    `unescape` turns back into it. -/
theorem escapeChar_cases (c : Char) :
    (∃ e, escapeChar c = ['\\', e] ∧ unescape e = c) ∨ (escapeChar c = [c] ∧ c ≠ '\\' ∧ c ≠ '{' ∧ c ≠ '}') := by
  unfold escapeChar
  by_cases h1 : c = '\\' ∨ c = '{' ∨ c = '}'
  · rw [if_pos h1]
    exact .inl ⟨c, rfl, by rcases h1 with h | h | h <;> subst h <;> rfl⟩
  rw [if_neg h1]
  by_cases h2 : c = '\n'
  · rw [if_pos h2, h2]; exact .inl ⟨'n', rfl, rfl⟩
  rw [if_neg h2]
  by_cases h3 : c = '\t'
  · rw [if_pos h3, h3]; exact .inl ⟨'t', rfl, rfl⟩
  rw [if_neg h3]
  by_cases h4 : c = '\r'
  · rw [if_pos h4, h4]; exact .inl ⟨'r', rfl, rfl⟩
  rw [if_neg h4]
  simp only [not_or] at h1
  exact .inr ⟨rfl, h1⟩

theorem loop_escape (s : List Char) : ∀ (rest : List Char) (i : Nat) (st : CompSt), st.inStatement = 0 →
    ∃ j, compileLoop fuel reg opt all (escapeLit s ++ rest) i st =
      compileLoop fuel reg opt all rest j { st with sb := st.sb ++ s } := by
  induction s with
  | nil => intro rest i st _; exact ⟨i, by simp [escapeLit]⟩
  | cons c s ih =>
    intro rest i st h0
    have hcons : escapeLit (c :: s) ++ rest = escapeChar c ++ (escapeLit s ++ rest) := by
      simp [escapeLit]
    rw [hcons]
    rcases escapeChar_cases c with ⟨e, he, hu⟩ | ⟨he, h1, h2, h3⟩
    · obtain ⟨j, hj⟩ := ih rest (i + 2) { st with sb := st.sb ++ [c] } h0
      refine ⟨j, ?_⟩
      rw [he, List.cons_append, List.cons_append, List.nil_append, loop_esc, hu, hj]; simp
    · obtain ⟨j, hj⟩ := ih rest (i + 1) { st with sb := st.sb ++ [c] } h0
      refine ⟨j, ?_⟩
      rw [he, List.cons_append, List.nil_append, loop_plain fuel reg opt all c _ i st h1 h2 (Or.inl h3), hj]; simp


/-! ### running stages -/

theorem concat_cons (s : Stage) (r : List Stage) :
    concatStages (s :: r) = s.bind fun a => (concatStages r).bind fun b => .ret (a ++ b) := rfl

theorem run_concat_nil (ctx : Ctx) : (concatStages []).run ctx = .ok [] := rfl

theorem run_concat_single (s : Stage) (ctx : Ctx) : (concatStages [s]).run ctx = s.run ctx := by
  rw [concat_cons, Comp.run_bind]
  cases s.run ctx <;> simp [concatStages, Comp.bind, Comp.run]

theorem utf8_eq (s : List Char) : charsToBytes s = utf8 s := rfl

/-- Stages of a piece of literal text. -/
def litStages (s : List Char) : List Stage := if s.isEmpty then [] else [Stage.lit (utf8 s)]

theorem run_litStages (s : List Char) (ctx : Ctx) :
    (buildKey (litStages s)).run ctx = .ok (utf8 s) ∧ (joinStages (litStages s)).run ctx = .ok (utf8 s) := by
  cases s with
  | nil => simp [litStages, buildKey, joinStages, concatStages, Comp.run, Stage.lit, utf8]
  | cons c t =>
    simp only [litStages, List.isEmpty_cons, Bool.false_eq_true, if_false, buildKey, joinStages]
    rw [run_concat_single]; simp [Stage.lit, Comp.run]

theorem optimize_single_lit (b : Bytes) :
    ∃ st, optimize [Stage.lit b] = .ok st ∧ ∀ ctx, (buildKey st).run ctx = .ok b := by
  by_cases hb : b.isEmpty
  · refine ⟨[], by simp [optimize, optimizeGo, Stage.lit, Comp.probe, Comp.probeN, hb], fun ctx => ?_⟩
    have : b = [] := by simpa using hb
    rw [this]; rfl
  · refine ⟨[Stage.lit b], by simp [optimize, optimizeGo, Stage.lit, Comp.probe, Comp.probeN, hb], fun ctx => ?_⟩
    rw [buildKey, run_concat_single]; rfl

theorem optimize_litStages (s : List Char) :
    ∃ st, optimize (litStages s) = .ok st ∧ ∀ ctx, (buildKey st).run ctx = .ok (utf8 s) := by
  cases s with
  | nil => exact ⟨[], by simp [litStages, optimize, optimizeGo], fun ctx => by simp [buildKey, concatStages, Comp.run, utf8]⟩
  | cons c t => exact optimize_single_lit (utf8 (c :: t))

/-- Compiling escaped literal text (any registry, optimiser on or off, any fuel > 0). -/
theorem compileF_escapeLit (s : List Char) :
    ∃ st, compileF (fuel + 1) reg opt (escapeLit s) = .ok (st, []) ∧ ∀ ctx, (buildKey st).run ctx = .ok (utf8 s) := by
  obtain ⟨j, hj⟩ := loop_escape fuel reg opt (escapeLit s) s [] 0 ⟨[], [], [], 0, 0⟩ rfl
  rw [List.append_nil, loop_nil] at hj
  rw [compileF, hj]
  simp only [List.nil_append, ne_eq, not_true_eq_false, if_false]
  have hst : (if s.isEmpty = true then ([] : List Stage) else [Stage.lit (charsToBytes s)]) = litStages s := by
    simp [litStages, utf8_eq]
  rw [hst]
  cases opt with
  | false => exact ⟨litStages s, by simp, fun ctx => (run_litStages s ctx).1⟩
  | true =>
    obtain ⟨st, h1, h2⟩ := optimize_litStages s
    exact ⟨st, by simp [h1], h2⟩


end Rare.C09

import Rare.Proofs.C09Errors
import Rare.Spec.C09WF
/-! C09: the statement bodies of a template (`bodiesGo`), equation by equation, and the grammar `WellFormed` unfolded once. -/
namespace Rare.C09
open Rare Rare.Expr

theorem unescapeSpec_eq (c : Char) : unescapeSpec c = unescape c := rfl

/-- **Induction along a template, as the specs read it** (`bodiesGo`, `stmtsGo`, `openGo`, `braceDepth` outside
    an escape): `P d rest` for the brace depth `d` before `rest` – one case per kind of step; an escape takes the
    backslash and the escaped rune together, a `}` at depth 0 is ordinary text. -/
theorem scan_induction {P : Nat → List Char → Prop}
    (stop : ∀ d, P d [])
    (escLast : ∀ d, P d ['\\'])
    (esc : ∀ d e rest, P d rest → P d ('\\' :: e :: rest))
    (open0 : ∀ rest, P 1 rest → P 0 ('{' :: rest))
    (openN : ∀ d rest, d ≠ 0 → P (d + 1) rest → P d ('{' :: rest))
    (close1 : ∀ rest, P 0 rest → P 1 ('}' :: rest))
    (closeN : ∀ d rest, 1 < d → P (d - 1) rest → P d ('}' :: rest))
    (plain : ∀ d c rest, c ≠ '\\' → c ≠ '{' → (c ≠ '}' ∨ d = 0) → P d rest → P d (c :: rest)) :
    ∀ (rest : List Char) (d : Nat), P d rest := by
  intro rest
  induction h : rest.length using Nat.strongRecOn generalizing rest with
  | _ n ih =>
    subst h
    intro d
    cases rest with
    | nil => exact stop d
    | cons c rest =>
      simp only [List.length_cons] at ih
      by_cases h1 : c = '\\'
      · subst h1
        cases rest with
        | nil => exact escLast d
        | cons e rest => exact esc d e rest (ih _ (by simp only [List.length_cons]; omega) rest rfl d)
      by_cases h2 : c = '{'
      · subst h2
        by_cases h0 : d = 0
        · subst h0; exact open0 rest (ih _ (by omega) rest rfl 1)
        · exact openN d rest h0 (ih _ (by omega) rest rfl _)
      by_cases h3 : c = '}' ∧ d ≠ 0
      · obtain ⟨h3, h4⟩ := h3
        subst h3
        by_cases h5 : d = 1
        · subst h5; exact close1 rest (ih _ (by omega) rest rfl 0)
        · exact closeN d rest (by omega) (ih _ (by omega) rest rfl _)
      · have h3' : c ≠ '}' ∨ d = 0 := by
          by_cases hc : c = '}'
          · exact .inr (Classical.byContradiction fun h => h3 ⟨hc, h⟩)
          · exact .inl hc
        exact plain d c rest h1 h2 h3' (ih _ (by omega) rest rfl d)

/-! ### unfolding `bodiesGo` -/

theorem bodies_nil (d : Nat) (cur : List Char) : bodiesGo false d cur [] = [] := by rw [bodiesGo]
theorem bodies_esc_last (d : Nat) (cur : List Char) : bodiesGo false d cur ['\\'] = [] := by
  rw [bodiesGo]; simp [bodiesGo]
theorem bodies_esc (d : Nat) (cur : List Char) (e : Char) (rest : List Char) :
    bodiesGo false d cur ('\\' :: e :: rest) = bodiesGo false d (cur ++ [unescape e]) rest := by
  rw [bodiesGo]; simp [bodiesGo, unescapeSpec_eq]
theorem bodies_open0 (cur rest : List Char) : bodiesGo false 0 cur ('{' :: rest) = bodiesGo false 1 [] rest := by
  rw [bodiesGo]; simp
theorem bodies_openN (d : Nat) (hd : d ≠ 0) (cur rest : List Char) :
    bodiesGo false d cur ('{' :: rest) = bodiesGo false (d + 1) (cur ++ ['{']) rest := by
  rw [bodiesGo]; simp [hd]
theorem bodies_close1 (cur rest : List Char) : bodiesGo false 1 cur ('}' :: rest) = cur :: bodiesGo false 0 [] rest := by
  rw [bodiesGo]; simp
theorem bodies_closeN (d : Nat) (hd : 1 < d) (cur rest : List Char) :
    bodiesGo false d cur ('}' :: rest) = bodiesGo false (d - 1) (cur ++ ['}']) rest := by
  have h0 : d ≠ 0 := by omega
  have h1 : d ≠ 1 := by omega
  rw [bodiesGo]; simp [h0, h1]
theorem bodies_plain (d : Nat) (cur : List Char) (r : Char) (rest : List Char)
    (h1 : r ≠ '\\') (h2 : r ≠ '{') (h3 : r ≠ '}' ∨ d = 0) :
    bodiesGo false d cur (r :: rest) = bodiesGo false d (cur ++ [r]) rest := by
  rw [bodiesGo]
  rcases h3 with h3 | h3
  · simp [h1, h2, h3]
  · by_cases hr : r = '}'
    · subst hr; simp [h3]
    · simp [h1, h2, hr]

abbrev knownOf (reg : Registry) : List Char → Bool := fun n => (reg n).isSome

theorem wfTemplate_iff (split : List Char → List (List Char)) (known : List Char → Bool) (t : List Char) :
    WellFormed split known t ↔ (braceDepth false 0 t = 0 ∧ ∀ b ∈ bodies t, WellFormedStmt split known b) :=
  ⟨fun h => by cases h with | mk _ h1 h2 => exact ⟨h1, h2⟩, fun h => .mk t h.1 h.2⟩

end Rare.C09

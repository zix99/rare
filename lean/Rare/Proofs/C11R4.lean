import Rare.Proofs.C11Str
import Rare.Proofs.C11Float
/-! C11: call lemmas for the remaining string / logic / type helpers, path facts.  Core Lean only. -/
namespace Rare.C11
open Rare Rare.Expr Rare.Expr.Funcs

theorem test_call (test : Bytes → Bytes → Bool) (c : Ctx) (a b : Arg) :
    callHelper (Strings.testHelper test) [a, b] c = .ok (if test (a.val c) (b.val c) then a.val c else []) := by
  simp only [callHelper, Strings.testHelper, List.map, ok, Comp.bind_eq, Comp.run_bind, Arg.run_stage]; rfl

/-- `strings.Contains` is "occurs as a contiguous block". -/
theorem containsB_iff (sub : Bytes) : ∀ s : Bytes, Strings.containsB s sub = true ↔ sub <:+: s
  | [] => by
    simp only [Strings.containsB, List.isEmpty_iff]
    constructor
    · intro h; subst h; exact List.infix_refl _
    · intro h; exact List.eq_nil_of_infix_nil h
  | b :: r => by
    simp only [Strings.containsB, Bool.or_eq_true, List.isPrefixOf_iff_prefix, containsB_iff sub r]
    exact List.infix_cons_iff.symm

/-- `{coalesce …}`: the first non-empty value. -/
def coalesceSpec : List Bytes → Bytes
  | [] => []
  | v :: rest => if v ≠ [] then v else coalesceSpec rest

theorem coalesce_go_run (c : Ctx) : ∀ as : List Arg,
    (Logic.kfCoalesce.go (as.map Arg.stage)).run c = .ok (coalesceSpec (as.map (Arg.val c)))
  | [] => rfl
  | a :: rest => by
    simp only [List.map_cons, Logic.kfCoalesce.go, Comp.bind_eq, Comp.run_bind, Arg.run_stage, coalesceSpec]
    by_cases h : a.val c = []
    · simp only [h, ne_eq, not_true_eq_false, if_false]; exact coalesce_go_run c rest
    · simp only [h, ne_eq, not_false_eq_true, if_true]; rfl

theorem coalesce_call (c : Ctx) (as : List Arg) :
    callHelper Logic.kfCoalesce as c = .ok (coalesceSpec (as.map (Arg.val c))) := by
  simp only [callHelper, Logic.kfCoalesce, ok]; exact coalesce_go_run c as

/-- `{switch c₁ v₁ c₂ v₂ … [default]}`: the value after the first truthy condition, else the default, else "". -/
def switchSpec : List Bytes → Bytes
  | [] => []
  | [d] => d
  | cnd :: v :: rest => if truthy cnd then v else switchSpec rest

theorem switch_go_run (c : Ctx) : ∀ as : List Arg,
    (Logic.kfSwitch.go (as.map Arg.stage)).run c = .ok (switchSpec (as.map (Arg.val c)))
  | [] => rfl
  | [d] => by simp only [List.map, Logic.kfSwitch.go, Arg.run_stage, switchSpec]
  | cnd :: v :: rest => by
    simp only [List.map_cons, Logic.kfSwitch.go, Comp.bind_eq, Comp.run_bind, Arg.run_stage, switchSpec]
    cases truthy (cnd.val c)
    · simp only [Bool.false_eq_true, if_false]; exact switch_go_run c rest
    · simp only [if_true, Arg.run_stage]

theorem switch_call (c : Ctx) (as : List Arg) (h : 2 ≤ as.length) :
    callHelper Logic.kfSwitch as c = .ok (switchSpec (as.map (Arg.val c))) := by
  have : ¬ ((as.map Arg.stage).length ≤ 1) := by rw [List.length_map]; omega
  simp only [callHelper, Logic.kfSwitch, this, if_false, ok]
  exact switch_go_run c as

/-- The values joined by a delimiter. -/
def joinSpec (delim : Bytes) : List Bytes → Bytes
  | [] => []
  | [v] => v
  | v :: rest => v ++ delim ++ joinSpec delim rest

theorem joinRun_run (delim : Bytes) (c : Ctx) : ∀ as : List Arg,
    (Strings.joinRun delim (as.map Arg.stage)).run c = .ok ((as.map (Arg.val c)).flatMap (delim ++ ·))
  | [] => rfl
  | a :: rest => by
    simp only [List.map_cons, Strings.joinRun, Comp.bind_eq, Comp.run_bind, Arg.run_stage, joinRun_run delim c rest,
      List.flatMap_cons, List.append_assoc]; rfl

theorem joinSpec_cons (delim v : Bytes) : ∀ rest : List Bytes,
    joinSpec delim (v :: rest) = v ++ rest.flatMap (delim ++ ·)
  | [] => by simp [joinSpec]
  | w :: r => by
    rw [joinSpec, joinSpec_cons delim w r]
    · simp [List.flatMap_cons, List.append_assoc]
    · intro h; cases h

theorem join_call (delim : Bytes) (c : Ctx) (as : List Arg) :
    callHelper (Strings.kfJoin delim) as c = .ok (joinSpec delim (as.map (Arg.val c))) := by
  match as with
  | [] => rfl
  | [a] => simp only [callHelper, Strings.kfJoin, List.map, ok, Arg.run_stage, joinSpec]
  | a :: b :: rest =>
    have := joinRun_run delim c (b :: rest)
    simp only [callHelper, Strings.kfJoin, List.map_cons, ok, Comp.bind_eq, Comp.run_bind, Arg.run_stage]
    simp only [List.map_cons] at this
    rw [this, joinSpec_cons]; rfl

theorem lastElem_no_slash (p : Bytes) : ∀ b ∈ Misc.lastElem p, b ≠ 47 := by
  intro b hb
  unfold Misc.lastElem at hb
  rw [List.mem_reverse] at hb
  simpa using List.all_eq_true.mp List.all_takeWhile b hb

/-- `filepath.Base` is never empty, and contains a separator only when it is the root `/`. -/
theorem pathBase_facts (p : Bytes) :
    Misc.pathBase p ≠ [] ∧ (47 ∈ Misc.pathBase p → Misc.pathBase p = [47]) := by
  unfold Misc.pathBase
  by_cases h : p.isEmpty = true
  · simp [h]
  · simp only [h, Bool.false_eq_true, if_false]
    by_cases h2 : (Misc.lastElem (Misc.stripTrailingSlashes p)).isEmpty = true
    · simp [h2]
    · simp only [h2, Bool.false_eq_true, if_false]
      refine ⟨by simpa [List.isEmpty_iff] using h2, fun hm => ?_⟩
      exact absurd rfl (lastElem_no_slash _ 47 hm)

/-- The scan of `filepath.Ext` (from the end of the path): either nothing, or the dot-free, slash-free tail
    behind the last dot of the last element, with that dot. -/
theorem extLoop_spec : ∀ (r acc : Bytes),
    Misc.extLoop r acc = [] ∨
    ∃ k rest, r = k ++ 46 :: rest ∧ (∀ b ∈ k, b ≠ 46 ∧ b ≠ 47) ∧ Misc.extLoop r acc = 46 :: (k.reverse ++ acc)
  | [], _ => .inl rfl
  | ch :: r, acc => by
    unfold Misc.extLoop
    by_cases h1 : (ch == 47) = true
    · left; simp [h1]
    · by_cases h2 : (ch == 46) = true
      · right
        have e : ch = 46 := by simpa using h2
        subst e
        refine ⟨[], r, rfl, by simp, ?_⟩
        simp
      · simp only [h1, h2, Bool.false_eq_true, if_false]
        rcases extLoop_spec r (ch :: acc) with h | ⟨k, rest, hr, hk, he⟩
        · left; exact h
        · right
          refine ⟨ch :: k, rest, by rw [hr]; rfl, ?_, ?_⟩
          · intro b hb
            rcases List.mem_cons.mp hb with e | e
            · subst e; exact ⟨by simpa using h2, by simpa using h1⟩
            · exact hk b e
          · rw [he]; simp

/-- `filepath.Ext p` is empty, or it is a suffix `.xyz` of `p` whose tail holds neither `.` nor `/`. -/
theorem pathExt_facts (p : Bytes) :
    Misc.pathExt p = [] ∨
    ∃ pre k, p = pre ++ 46 :: k ∧ Misc.pathExt p = 46 :: k ∧ ∀ b ∈ k, b ≠ 46 ∧ b ≠ 47 := by
  unfold Misc.pathExt
  rcases extLoop_spec p.reverse [] with h | ⟨k, rest, hr, hk, he⟩
  · left; exact h
  · right
    refine ⟨rest.reverse, k.reverse, ?_, by rw [he]; simp, fun b hb => hk b (List.mem_reverse.mp hb)⟩
    have := congrArg List.reverse hr
    simpa using this

/-- Which builder (and which Go operator) each C11 helper name is bound to in `stdlib.StandardFunctions`. -/
def c11Dispatch : List (String × String) := [
  ("sumi", "arithmaticHelperi(a + b)"), ("subi", "arithmaticHelperi(a - b)"), ("multi", "arithmaticHelperi(a * b)"),
  ("divi", "arithmaticHelperiChecked(if b == 0;0,false;a / b,true)"),
  ("modi", "arithmaticHelperiChecked(if b == 0;0,false;a % b,true)"),
  ("maxi", "arithmaticHelperi(if a > b;a;b)"), ("mini", "arithmaticHelperi(if a < b;a;b)"),
  ("sumf", "arithmaticHelperf(a + b)"), ("subf", "arithmaticHelperf(a - b)"),
  ("multf", "arithmaticHelperf(a * b)"), ("divf", "arithmaticHelperf(a / b)"),
  ("ceil", "unaryArithmaticHelperfi(int64(math.Ceil(f)))"), ("floor", "unaryArithmaticHelperfi(int64(math.Floor(f)))"),
  ("sqrt", "unaryArithmaticHelperf(math.Sqrt)"), ("round", "kfRound"),
  ("lt", "arithmaticEqualityHelper(a < b)"), ("gt", "arithmaticEqualityHelper(a > b)"),
  ("lte", "arithmaticEqualityHelper(a <= b)"), ("gte", "arithmaticEqualityHelper(a >= b)"),
  ("eq", "stringComparator(if a == b;TruthyVal;FalsyVal)"), ("neq", "stringComparator(if a != b;TruthyVal;FalsyVal)"),
  ("not", "kfNot"), ("and", "kfAnd"), ("or", "kfOr"), ("if", "kfIf"), ("unless", "kfUnless"), ("switch", "kfSwitch"),
  ("coalesce", "kfCoalesce"), ("isint", "kfIsInt"), ("isnum", "kfIsNum"),
  ("bucket", "kfBucket"), ("bucketrange", "kfBucketRange"), ("clamp", "kfClamp"), ("expbucket", "kfExpBucket"),
  ("len", "kfLen"), ("like", "kfLike"), ("prefix", "kfPrefix"), ("suffix", "kfSuffix"), ("format", "kfFormat"),
  ("substr", "kfSubstr"), ("select", "kfSelect"), ("upper", "kfUpper"), ("lower", "kfLower"),
  ("tab", "kfJoin('\\t')"), ("$", "kfJoin(ArraySeparator)"), ("@", "kfJoin(ArraySeparator)"),
  ("basename", "kfPathBase"), ("dirname", "kfPathDir"), ("extname", "kfPathExt"),
  ("lookup", "kfLookupKey"), ("haskey", "kfHasKey"), ("csv", "kfCsv"),
  ("hi", "kfHumanizeInt"), ("hf", "kfHumanizeFloat"), ("bytesize", "kfBytesize"), ("bytesizesi", "kfBytesizeSi"),
  ("downscale", "kfDownscale"), ("percent", "kfPercent")]

def dispatchLookup (t : List (String × String)) (n : String) : Option String := (t.find? (·.1 == n)).map (·.2)

end Rare.C11

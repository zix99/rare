import Rare.Model.C05SignalTrace
import Rare.Proofs.AggLoopTrace
namespace Rare.AggLoopTrace
open Rare.AggLoop Rare.TraceOrder

theorem lpath_sreach {s0 : SSt Bytes} {b b' : St Bytes} {ls : List Label} (f : Bool)
    (h : LPath b ls b') (hr : SReach s0 ⟨b, f⟩) : SReach s0 ⟨b', f⟩ := by
  induction h with
  | nil s => exact hr
  | cons ha _ ih => exact ih (.step hr (.base ⟨_, f⟩ _ (apply_sound ha)))

theorem sastep_cases {s s' : SASt} {e : Ev} (h : sastep s e = some s') :
    (e.kind = "ms" ∧ s.a.lts.main = .loop ∧
      s' = ⟨{ s.a with lts := { s.a.lts with main := .sendDone } }, true⟩) ∨
    (e.kind ≠ "ms" ∧ ∃ a', astep s.a e = some a' ∧ s' = ⟨a', s.signalled⟩) := by
  unfold sastep at h
  split at h
  · next hk =>
    split at h
    · next hm => exact .inl ⟨hk, hm, (Option.some.inj h).symm⟩
    · cases h
  · next hk =>
    obtain ⟨a', ha, rfl⟩ := Option.map_eq_some_iff.mp h
    exact .inr ⟨hk, a', ha, rfl⟩

/-- One step of the signal machine is a (possibly empty) sequence of steps of the signal transition system. -/
theorem sastep_sound {s0 : SSt Bytes} {s s' : SASt} {e : Ev} (h : sastep s e = some s')
    (hr : SReach s0 s.sst) : SReach s0 s'.sst := by
  rcases sastep_cases h with ⟨_, hm, rfl⟩ | ⟨_, a', ha, rfl⟩
  · exact .step hr (.signal s.sst hm)
  · obtain ⟨ls, _, hp⟩ := astep_sound ha
    exact lpath_sreach s.signalled hp hr

theorem sreplay_reach {s0 : SSt Bytes} : ∀ (evs : List Ev) (s s' : SASt),
    replay smachine s evs = some s' → SReach s0 s.sst → SReach s0 s'.sst
  | [], s, s', h, hr => by
    simp only [replay, Option.some.injEq] at h; subst h; exact hr
  | e :: es, s, s', h, hr => by
    obtain ⟨s1, hs, h⟩ := replay_cons.mp h
    exact sreplay_reach es s1 s' h (sastep_sound hs hr)

/-- The flag is faithful: it is set exactly when the replayed events contain an `ms`. -/
theorem sreplay_signalled : ∀ (evs : List Ev) (s s' : SASt),
    replay smachine s evs = some s' → s'.signalled = (s.signalled || evs.any fun e => e.kind = "ms")
  | [], s, s', h => by
    simp only [replay, Option.some.injEq] at h; subst h; simp
  | e :: es, s, s', h => by
    obtain ⟨s1, hs, h⟩ := replay_cons.mp h
    have h1 : s1.signalled = (s.signalled || decide (e.kind = "ms")) := by
      rcases sastep_cases hs with ⟨hk, _, rfl⟩ | ⟨hk, a', _, rfl⟩ <;> simp [hk]
    rw [sreplay_signalled es s1 s' h, h1]; simp [Bool.or_assoc]

end Rare.AggLoopTrace

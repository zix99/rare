import Rare.Proofs.C05HBTable
/-!
# Channel edges in the happens-before model: the `outputDone` hand-shake (C05)

`Proofs/C05HB.lean` has mutexes, atomics and `go` edges.  The role table of `RunAggregationLoop` (`raceFreeRoles
Gen.Access.aggLoop`) needs one more edge: the final `writeOutput()` of the main goroutine takes NO lock; it is ordered
after every periodic render only because `outputDone <- true` is a send on an UNBUFFERED channel whose only receiver
– the ticker goroutine – returns right after the receive.  This file adds channels to the trace semantics:

* events (on top of the events of `HB2`, embedded with `COp.base`): `sendB c` (a send statement on the unbuffered
  channel `c` is chosen for the rendezvous; the sender blocks), `recv c` (a receive takes the offered value), `sendE c`
  (the send statement completes), `close c`, `recvClosed c` (a receive that returns because the channel is closed);
* channel state `idle → offered t → taken t → idle` and `idle → closed`; `ExecC` = an `HB2.Exec` of the projected trace
  + every event enabled in the channel state;
* happens-before `HBc` (go.dev/ref/mem): everything of `HB2.HB`; "a send on a channel is synchronised before the
  completion of the corresponding receive" (`chSend`); "a receive from an unbuffered channel is synchronised before
  the completion of the corresponding send" (`chRecv`); "the closing of a channel is synchronised before a receive
  that returns because the channel is closed" (`chClose`); transitive closure.

`handshake_orders`: when only goroutine `t` receives from `c` and does nothing after its receive, everything `t` ever
did happens before everything the sender does from the completion of its send on.
`discipline_no_race_chan`: common mutex / `go` separation / terminating hand-shake for every conflicting pair ⇒ no race.
`roles_no_race`: a role table passing `raceFreeRoles` + an execution it abstracts (`AbstractsC`: an `ord` mark means
"separated by the `go` statement or by a terminating hand-shake") ⇒ no data race.
`close_race`: with `close(c)` in place of the send (seeded/C05-outputdone-close) the edge points the other way
(close → receive): the run "periodic render in progress, main closes the channel and renders" is an execution WITH a
data race, although the ticker still holds the mutex and still observes the closed channel afterwards.
-/
namespace Rare.Lockset.HBC
open Rare.Lockset.HB (last_gain)
open Rare.Lockset.HB2
open Rare.Gen.Access (Acc)

inductive COp where
  | base (o : Op)
  | sendB (c : Nat)
  | recv (c : Nat)
  | sendE (c : Nat)
  | close (c : Nat)
  | recvClosed (c : Nat)
  deriving DecidableEq, Repr

structure CEv where
  tid : Nat
  op : COp
  deriving DecidableEq, Repr

/-- What `HB2` sees of an event: channel operations are "something else". -/
def proj (e : CEv) : Ev :=
  ⟨e.tid, match e.op with
    | .base o => o
    | _ => .other⟩

inductive ChSt where
  | idle
  | offered (t : Nat)
  | taken (t : Nat)
  | closed
  deriving DecidableEq, Repr

def cstep (s : Nat → ChSt) (e : CEv) : Option (Nat → ChSt) :=
  match e.op with
  | .base _ => some s
  | .sendB c => if s c = .idle then some (fun x => if x = c then .offered e.tid else s x) else none
  | .recv c =>
    match s c with
    | .offered t => if t ≠ e.tid then some (fun x => if x = c then .taken t else s x) else none
    | _ => none
  | .sendE c => if s c = .taken e.tid then some (fun x => if x = c then .idle else s x) else none
  | .close c => if s c = .idle then some (fun x => if x = c then .closed else s x) else none
  | .recvClosed c => if s c = .closed then some s else none

structure ExecC (tr : List CEv) (hs : Nat → Locks) (cs : Nat → Nat → ChSt) : Prop where
  base : Exec (tr.map proj) hs
  cinit : ∀ c, cs 0 c = .idle
  cnext : ∀ k e, tr[k]? = some e → cstep (cs k) e = some (cs (k + 1))

inductive HBc (tr : List CEv) : Nat → Nat → Prop
  | base {i j : Nat} : HB (tr.map proj) i j → HBc tr i j
  | chSend {i j : Nat} {a b : CEv} {c : Nat} : i < j → tr[i]? = some a → tr[j]? = some b →
      a.op = .sendB c → b.op = .recv c →
      (∀ k e, i < k → k < j → tr[k]? = some e → e.op ≠ .recv c) → HBc tr i j
  | chRecv {i j : Nat} {a b : CEv} {c : Nat} : i < j → tr[i]? = some a → tr[j]? = some b →
      a.op = .recv c → b.op = .sendE c →
      (∀ k e, i < k → k < j → tr[k]? = some e → e.op ≠ .sendE c) → HBc tr i j
  | chClose {i j : Nat} {a b : CEv} {c : Nat} : i < j → tr[i]? = some a → tr[j]? = some b →
      a.op = .close c → b.op = .recvClosed c → HBc tr i j
  | trans {i j k : Nat} : HBc tr i j → HBc tr j k → HBc tr i k

def ConflictC (a b : CEv) : Prop :=
  ∃ x w1 a1 w2 a2, a.op = .base (.acc x w1 a1) ∧ b.op = .base (.acc x w2 a2) ∧ (w1 = true ∨ w2 = true) ∧
    ¬ (a1 = true ∧ a2 = true)

def RaceC (tr : List CEv) : Prop :=
  ∃ i j a b, i < j ∧ tr[i]? = some a ∧ tr[j]? = some b ∧ ConflictC a b ∧ a.tid ≠ b.tid ∧ ¬ HBc tr i j

theorem proj_at {tr : List CEv} {k : Nat} {e : CEv} (h : tr[k]? = some e) : (tr.map proj)[k]? = some (proj e) := by
  simp [List.getElem?_map, h]

theorem po {tr : List CEv} {i j : Nat} {a b : CEv} (hij : i ≤ j) (ha : tr[i]? = some a) (hb : tr[j]? = some b)
    (ht : a.tid = b.tid) : i = j ∨ HBc tr i j := by
  by_cases h : i = j
  · exact .inl h
  · exact .inr (.base (.po (by omega) (proj_at ha) (proj_at hb) ht))

theorem taken_gained {s s' : Nat → ChSt} {e : CEv} {c t : Nat} (hs : cstep s e = some s')
    (h1 : s c ≠ .taken t) (h2 : s' c = .taken t) : e.op = .recv c ∧ e.tid ≠ t := by
  cases hop : e.op with
  | base o => simp only [cstep, hop] at hs; cases hs; exact absurd h2 h1
  | sendB c' =>
    simp only [cstep, hop] at hs
    split at hs
    · cases hs
      by_cases hc : c = c'
      · subst hc; simp at h2
      · simp [hc] at h2; exact absurd h2 h1
    · cases hs
  | recv c' =>
    simp only [cstep, hop] at hs
    split at hs
    · rename_i t' hoff
      split at hs
      · rename_i hne
        cases hs
        by_cases hc : c = c'
        · subst hc
          simp at h2
          subst h2
          exact ⟨rfl, fun h => hne h.symm⟩
        · simp [hc] at h2; exact absurd h2 h1
      · cases hs
    · cases hs
  | sendE c' =>
    simp only [cstep, hop] at hs
    split at hs
    · cases hs
      by_cases hc : c = c'
      · subst hc; simp at h2
      · simp [hc] at h2; exact absurd h2 h1
    · cases hs
  | close c' =>
    simp only [cstep, hop] at hs
    split at hs
    · cases hs
      by_cases hc : c = c'
      · subst hc; simp at h2
      · simp [hc] at h2; exact absurd h2 h1
    · cases hs
  | recvClosed c' =>
    simp only [cstep, hop] at hs
    split at hs
    · cases hs; exact absurd h2 h1
    · cases hs

theorem sendE_step {s s' : Nat → ChSt} {e : CEv} {c : Nat} (hs : cstep s e = some s') (hop : e.op = .sendE c) :
    s c = .taken e.tid ∧ s' c = .idle := by
  simp only [cstep, hop] at hs
  split at hs
  · rename_i h
    cases hs
    exact ⟨h, by simp⟩
  · cases hs

/-- A completed send has its receive: some other goroutine received on `c` before, no send on `c` completed in
    between, and that receive happens before the completion of the send. -/
theorem handshake_recv {tr : List CEv} {hs : Nat → Locks} {cs : Nat → Nat → ChSt} (hex : ExecC tr hs cs)
    {k : Nat} {e : CEv} {c : Nat} (hk : tr[k]? = some e) (hop : e.op = .sendE c) :
    ∃ r er, r < k ∧ tr[r]? = some er ∧ er.op = .recv c ∧ er.tid ≠ e.tid ∧ HBc tr r k := by
  have hpre := (sendE_step (hex.cnext k e hk) hop).1
  have hklen : k < tr.length := (List.getElem?_eq_some_iff.mp hk).1
  obtain ⟨r, _, hrk, hnr, hall⟩ := last_gain (fun n => cs n c = .taken e.tid) 0 k (Nat.zero_le _)
    (by rw [hex.cinit c]; intro h; cases h) hpre
  have hrlen : r < tr.length := by omega
  have her : tr[r]? = some tr[r] := List.getElem?_eq_getElem hrlen
  obtain ⟨g1, g2⟩ := taken_gained (hex.cnext r _ her) hnr (hall (r + 1) (by omega) (by omega))
  refine ⟨r, tr[r], hrk, her, g1, g2, .chRecv hrk her hk g1 hop ?_⟩
  intro k' e' h1 h2 hk' hop'
  have hidle := (sendE_step (hex.cnext k' e' hk') hop').2
  have := hall (k' + 1) (by omega) (by omega)
  rw [hidle] at this; cases this

/-- **The terminating hand-shake.**  `c` is unbuffered, only goroutine `t` receives from it and `t` does nothing
    after a receive from it (the ticker: `case <-outputDone: return`).  Then every event of `t` happens before every
    event of the sender from the completion of its send on (`outputDone <- true` … the final `writeOutput()`). -/
theorem handshake_orders {tr : List CEv} {hs : Nat → Locks} {cs : Nat → Nat → ChSt} (hex : ExecC tr hs cs)
    {k : Nat} {e : CEv} {c t : Nat} (hk : tr[k]? = some e) (hop : e.op = .sendE c)
    (honly : ∀ (r : Nat) (er : CEv), tr[r]? = some er → er.op = .recv c → er.tid = t)
    (hlast : ∀ (r r' : Nat) (er e' : CEv), tr[r]? = some er → er.op = .recv c → r < r' → tr[r']? = some e' →
      e'.tid ≠ t)
    {i j : Nat} {a b : CEv} (ha : tr[i]? = some a) (hat : a.tid = t) (hb : tr[j]? = some b) (hbt : b.tid = e.tid)
    (hkj : k ≤ j) : HBc tr i j := by
  obtain ⟨r, er, hrk, her, hrop, _, hrecv⟩ := handshake_recv hex hk hop
  have hert : er.tid = t := honly r er her hrop
  have hir : i ≤ r := by
    by_cases h : i ≤ r
    · exact h
    · exact absurd hat (hlast r i er a her hrop (by omega) ha)
  have h1 := po hir ha her (hat.trans hert.symm)
  have h2 := po hkj hk hb hbt.symm
  rcases h1 with rfl | h1 <;> rcases h2 with rfl | h2
  · exact hrecv
  · exact .trans hrecv h2
  · exact .trans h1 hrecv
  · exact .trans (.trans h1 hrecv) h2

/-- The later access's goroutine completed, not after that access, a send on an unbuffered channel that only the
    earlier access's goroutine receives from, and that goroutine does nothing after receiving. -/
def Handshake (tr : List CEv) (j : Nat) (a b : CEv) : Prop :=
  ∃ k e c, k ≤ j ∧ tr[k]? = some e ∧ e.tid = b.tid ∧ e.op = .sendE c ∧
    (∀ (r : Nat) (er : CEv), tr[r]? = some er → er.op = .recv c → er.tid = a.tid) ∧
    (∀ (r r' : Nat) (er e' : CEv), tr[r]? = some er → er.op = .recv c → r < r' → tr[r']? = some e' →
      e'.tid ≠ a.tid)

/-- The `go` statement that started the later access's goroutine was executed by the earlier access's goroutine, not
    before that access. -/
def GoSep (tr : List CEv) (i j : Nat) (a b : CEv) : Prop :=
  ∃ k c, i ≤ k ∧ k < j ∧ tr[k]? = some c ∧ c.tid = a.tid ∧ c.op = .base (.spawn b.tid)

def SafeC (tr : List CEv) (hs : Nat → Locks) (i j : Nat) (a b : CEv) : Prop :=
  (∃ m la lb, Holds (hs i) m a.tid la ∧ Holds (hs j) m b.tid lb ∧ (la = true ∨ lb = true)) ∨
  GoSep tr i j a b ∨ Handshake tr j a b

theorem safeC_orders {tr : List CEv} {hs : Nat → Locks} {cs : Nat → Nat → ChSt} (hex : ExecC tr hs cs)
    {i j : Nat} {a b : CEv} (hij : i < j) (ha : tr[i]? = some a) (hb : tr[j]? = some b)
    (h : SafeC tr hs i j a b) : HBc tr i j := by
  rcases h with ⟨m, la, lb, h1, h2, hx⟩ | ⟨k, c, hik, hkj, hck, htc, hsp⟩ | ⟨k, e, c, hkj, hk, het, hop, honly, hlast⟩
  · exact .base (rw_mutex_orders hex.base hij (proj_at ha) (proj_at hb) h1 h2 hx)
  · refine .base (go_orders hik hkj (proj_at ha) (proj_at hck) (proj_at hb) htc.symm ?_)
    simp [proj, hsp]
  · exact handshake_orders hex hk hop honly hlast ha rfl hb het.symm hkj

/-- **Mutex, `go` and terminating hand-shake imply data-race freedom.** -/
theorem discipline_no_race_chan {tr : List CEv} {hs : Nat → Locks} {cs : Nat → Nat → ChSt} (hex : ExecC tr hs cs)
    (hdisc : ∀ i j a b, i < j → tr[i]? = some a → tr[j]? = some b → ConflictC a b → a.tid ≠ b.tid →
      SafeC tr hs i j a b) : ¬ RaceC tr := by
  rintro ⟨i, j, a, b, hij, ha, hb, hc, hne, hnhb⟩
  exact hnhb (safeC_orders hex hij ha hb (hdisc i j a b hij ha hb hc hne))

/-- The trusted link between a ROLE table (one goroutine per role: `RunAggregationLoop`'s `main` / `go1`) and an
    execution.  As `HB2.Abstracts`, except that an `ord` mark is not taken to mean "ordered by happens-before" but
    what the extractor checks syntactically: the two sites are separated by the `go` statement, or by a hand-shake on
    an unbuffered channel whose only receiver returns after the receive. -/
structure AbstractsC (tr : List CEv) (hs : Nat → Locks) (rows : List Acc) (site : Nat → Option Acc)
    (mid : String → Nat) : Prop where
  covered : ∀ (k : Nat) (e : CEv) (x : Nat) (w a : Bool), tr[k]? = some e → e.op = .base (.acc x w a) →
    ∃ r, site k = some r ∧ r ∈ rows
  conflicts : ∀ (i j : Nat) (a b : CEv) (ra rb : Acc) (x : Nat) (w1 a1 w2 a2 : Bool),
    tr[i]? = some a → tr[j]? = some b → site i = some ra → site j = some rb →
    a.op = .base (.acc x w1 a1) → b.op = .base (.acc x w2 a2) → (w1 = true ∨ w2 = true) →
    Lockset.conflict ra rb = true
  roles : ∀ (i j : Nat) (a b : CEv) (ra rb : Acc), tr[i]? = some a → tr[j]? = some b → site i = some ra →
    site j = some rb → a.tid ≠ b.tid → ra.fn ≠ rb.fn
  atomic : ∀ (k : Nat) (e : CEv) (x : Nat) (w a : Bool) (r : Acc), tr[k]? = some e → e.op = .base (.acc x w a) →
    site k = some r → r.atomic = true → a = true
  excl : ∀ (k : Nat) (e : CEv) (r : Acc), tr[k]? = some e → site k = some r → r.lock = "W" →
    Holds (hs k) (mid r.mutex) e.tid true
  shared : ∀ (k : Nat) (e : CEv) (r : Acc), tr[k]? = some e → site k = some r → r.lock ≠ "" → r.lock ≠ "W" →
    Holds (hs k) (mid r.mutex) e.tid false
  ordered : ∀ (i j : Nat) (a b : CEv) (ra rb : Acc), i < j → tr[i]? = some a → tr[j]? = some b →
    site i = some ra → site j = some rb → a.tid ≠ b.tid → (rb.fn ∈ ra.ord ∨ ra.fn ∈ rb.ord) →
    GoSep tr i j a b ∨ Handshake tr j a b

/-- **A role table that passes the pairwise check + an execution it abstracts ⇒ no data race.** -/
theorem roles_no_race {tr : List CEv} {hs : Nat → Locks} {cs : Nat → Nat → ChSt} {rows : List Acc}
    {site : Nat → Option Acc} {mid : String → Nat} (hex : ExecC tr hs cs) (habs : AbstractsC tr hs rows site mid)
    (hsafe : ∀ a ∈ rows, ∀ b ∈ rows, a.fn ≠ b.fn → Lockset.conflict a b = true → Lockset.safePair a b = true) :
    ¬ RaceC tr := by
  refine discipline_no_race_chan hex ?_
  rintro i j a b hij ha hb ⟨x, w1, a1, w2, a2, hoa, hob, hw, hat⟩ hne
  obtain ⟨ra, hsa, hra⟩ := habs.covered i a x w1 a1 ha hoa
  obtain ⟨rb, hsb, hrb⟩ := habs.covered j b x w2 a2 hb hob
  have hc := habs.conflicts i j a b ra rb x w1 a1 w2 a2 ha hb hsa hsb hoa hob hw
  have hfn := habs.roles i j a b ra rb ha hb hsa hsb hne
  rcases Lockset.safePair_cases (hsafe ra hra rb hrb hfn hc) with ⟨h1, h2⟩ | ⟨hla, hlb, hm, hx⟩ | hord
  · exact absurd ⟨habs.atomic i a x w1 a1 ra ha hoa hsa h1, habs.atomic j b x w2 a2 rb hb hob hsb h2⟩ hat
  · have hA := holds_of_mark (habs.excl i a ra ha hsa) (habs.shared i a ra ha hsa) hla
    have hB := holds_of_mark (habs.excl j b rb hb hsb) (habs.shared j b rb hb hsb) hlb
    rw [← hm] at hB
    exact .inl ⟨_, _, _, hA, hB, by rcases hx with h | h <;> simp [h]⟩
  · exact .inr (habs.ordered i j a b ra rb hij ha hb hsa hsb hne hord)

end Rare.Lockset.HBC

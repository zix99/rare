import Rare.Proofs.C12Grammar
import Rare.Proofs.C12Go
/-! The fold is positional and ASCII-only; result shape and the name table; the leading literal of a
match seen in the ORIGINAL line; two instances under a schedule. -/
namespace Rare.C12

/-- no ASCII upper-case letter -/
def NoUpper (l : Bytes) : Prop := ∀ c ∈ l, ¬ (65 ≤ c ∧ c ≤ 90)

instance (l : Bytes) : Decidable (NoUpper l) := by unfold NoUpper; exact inferInstance

theorem lowerByte_of_not_upper {c : UInt8} (h : ¬ (65 ≤ c ∧ c ≤ 90)) : lowerByte c = c := by
  simp [lowerByte, h]

theorem lower_of_noUpper {l : Bytes} (h : NoUpper l) : lower l = l := by
  induction l with
  | nil => rfl
  | cons c cs ih =>
    have hc := h c (by simp)
    have := ih (fun x hx => h x (by simp [hx]))
    simp only [lower, List.map_cons] at this ⊢
    rw [this, lowerByte_of_not_upper hc]

theorem noUpper_lower (l : Bytes) : NoUpper (lower l) := by
  intro c hc
  obtain ⟨x, _, rfl⟩ := List.mem_map.mp hc
  simp only [UInt8.le_iff_toNat_le, UInt8.reduceToNat, lowerByte_toNat]
  split <;> omega

theorem lower_getElem? (l : Bytes) (i : Nat) : (lower l)[i]? = l[i]?.map lowerByte := by
  simp [lower]

/-! ### shape of a result -/

theorem specDissect_length {p : Pat} {line : Bytes} {r : List Nat} (h : specDissect p line = some r) :
    r.length = 2 * capCount p.toks + 2 := by
  obtain ⟨s, caps, e, _, hr, rfl⟩ := specDissect_some h
  simp [specToks_caps_length hr]

theorem capCount_eq_names (toks : List Tok) : capCount toks = (capturedNames toks).length := by
  simp [capCount, capturedNames]

theorem nameTable_eq (toks : List Tok) : nameTable toks = (capturedNames toks).zipIdx 1 := rfl

theorem mem_nameTable {toks : List Tok} {nm : Bytes} {i : Nat} :
    (nm, i) ∈ nameTable toks ↔ 1 ≤ i ∧ (capturedNames toks)[i - 1]? = some nm := by
  rw [nameTable_eq]; exact List.mem_zipIdx_iff_le_and_getElem?_sub

theorem nameTable_functional {toks : List Tok} (hn : (capturedNames toks).Nodup) {nm : Bytes} {i j : Nat}
    (hi : (nm, i) ∈ nameTable toks) (hj : (nm, j) ∈ nameTable toks) : i = j := by
  rw [mem_nameTable] at hi hj
  have hlt : i - 1 < (capturedNames toks).length := by
    rcases Nat.lt_or_ge (i - 1) (capturedNames toks).length with h' | h'
    · exact h'
    · rw [List.getElem?_eq_none h'] at hi; cases hi.2
  have := (List.getElem?_inj (j := j - 1) hlt hn).mp (hi.2.trans hj.2.symm)
  omega

/-- the slot pair of the `i`-th name (1-based) exists, is ordered and lies in the line -/
theorem specDissect_slot {p : Pat} {line : Bytes} {r : List Nat} (h : specDissect p line = some r)
    {i : Nat} (h1 : 1 ≤ i) (h2 : i ≤ capCount p.toks) :
    ∃ a b, r[2 * i]? = some a ∧ r[2 * i + 1]? = some b ∧ a ≤ b ∧ b ≤ line.length := by
  have hlen := specDissect_length h
  obtain ⟨s, e, caps, rfl, hpw, he, _⟩ := specDissect_ordered h
  obtain ⟨j, rfl⟩ : ∃ j, i = j + 1 := ⟨i - 1, by omega⟩
  simp only [List.length_cons] at hlen
  -- the slots are `caps[2j]`, `caps[2j+1]`; `caps ++ [e]` is a chain
  have hpw' := List.pairwise_iff_getElem.mp (List.pairwise_cons.mp hpw).2
  have hab := hpw' (2 * j) (2 * j + 1) (by simp; omega) (by simp; omega) (by omega)
  have hbe := hpw' (2 * j + 1) caps.length (by simp; omega) (by simp) (by omega)
  rw [List.getElem_append_left (by omega)] at hab hbe
  rw [List.getElem_append_left (by omega)] at hab
  rw [List.getElem_append_right (Nat.le_refl _)] at hbe
  refine ⟨_, _, ?_, ?_, hab, Nat.le_trans (by simpa using hbe) he⟩
  · rw [show 2 * (j + 1) = 2 * j + 1 + 1 by omega]; simp
  · rw [show 2 * (j + 1) + 1 = 2 * j + 1 + 1 + 1 by omega]; simp

/-- either mode: length of a result and its slot pairs -/
theorem specFor_slots {ic : Bool} {p : Pat} {line : Bytes} {r : List Nat} (h : specFor ic p line = some r) :
    r.length = 2 * capCount p.toks + 2 ∧
    ∀ i, 1 ≤ i → i ≤ capCount p.toks →
      ∃ a b, r[2 * i]? = some a ∧ r[2 * i + 1]? = some b ∧ a ≤ b ∧ b ≤ line.length := by
  rw [specFor_patFor] at h
  have hc := (compiled_eq_patFor ic p).2.2
  refine ⟨by rw [specDissect_length h, ← hc]; rfl, fun i h1 h2 => ?_⟩
  simpa [foldFor_length] using specDissect_slot h h1 (by rw [← hc]; exact h2)

/-! ### the leading literal of a match, read in the ORIGINAL line -/

theorem specDissect_leading {p : Pat} {line : Bytes} {r : List Nat} (h : specDissect p line = some r) :
    ∃ s rest, r = s :: rest ∧ s + p.pre.length ≤ line.length ∧ (line.drop s).take p.pre.length = p.pre ∧
      ∀ j < s, ¬ p.pre <+: line.drop j := by
  obtain ⟨s, caps, e, hf, _, rfl⟩ := specDissect_some h
  have hp := firstIndex_some_prefix hf
  exact ⟨s, _, rfl, hp.2, (List.prefix_iff_eq_take.mp hp.1).symm, fun j hj => firstIndex_min hf hj⟩

/-- either mode: the leading literal of a match, as the mode compares it, stands at the reported
offset of the ORIGINAL line, and nowhere earlier -/
theorem specFor_leading {ic : Bool} {p : Pat} {line : Bytes} {r : List Nat} (h : specFor ic p line = some r) :
    ∃ s rest, r = s :: rest ∧ s + p.pre.length ≤ line.length ∧
      foldFor ic ((line.drop s).take p.pre.length) = foldFor ic p.pre ∧
      ∀ j < s, ¬ foldFor ic p.pre <+: foldFor ic (line.drop j) := by
  rw [specFor_patFor] at h
  obtain ⟨s, rest, hr, hl, ht, hmin⟩ := specDissect_leading h
  simp only [patFor_pre, foldFor_length, ← foldFor_drop, ← foldFor_take] at hl ht hmin
  exact ⟨s, rest, hr, hl, ht, hmin⟩

theorem specDissectIC_of_noUpper {p : Pat} {line : Bytes} (hl : NoUpper line) (hp : NoUpper p.pre)
    (ht : ∀ t ∈ p.toks, NoUpper t.lit) : specDissectIC p line = specDissect p line := by
  have h1 : p.lowerLits = p := by
    cases p with
    | mk pre toks =>
      simp only [Pat.lowerLits, Pat.mk.injEq]
      refine ⟨lower_of_noUpper hp, ?_⟩
      have : ∀ t ∈ toks, Tok.lowerLit t = t := by
        intro t htm
        cases t with
        | mk key lit => simp [Tok.lowerLit, lower_of_noUpper (ht _ htm)]
      calc toks.map Tok.lowerLit = toks.map id := List.map_congr_left this
        _ = toks := List.map_id _
  rw [specDissectIC, h1, lower_of_noUpper hl]

/-- ignore-case finds the leading literal and the end of the match NO LATER than case-sensitive -/
theorem specDissect_ci_mono_le {p : Pat} {line : Bytes} {r : List Nat} (h : specDissect p line = some r) :
    ∃ s e caps s' e' caps', r = s :: e :: caps ∧ specDissectIC p line = some (s' :: e' :: caps') ∧
      s' ≤ s ∧ e' ≤ e ∧ caps'.length = caps.length := by
  obtain ⟨s, caps, e, hs, hrec, rfl⟩ := specDissect_some h
  obtain ⟨s', hs', hle⟩ := firstIndex_lower_le (pos := 0) (pos' := 0) (by simpa using hs) (Nat.le_refl 0)
  obtain ⟨c', e', h', hee⟩ := specToks_ci_mono (pos' := s' + (lower p.pre).length) hrec
    (by rw [lower_length]; omega)
  rw [List.drop_zero] at hs'
  refine ⟨s, e, caps, s', e', c', rfl, specDissect_of (p := p.lowerLits) hs' h', by omega, hee, ?_⟩
  rw [specToks_caps_length hrec, specToks_caps_length h', capCount_lowerLit]

theorem specDissect_ci_mono {p : Pat} {line : Bytes} {r : List Nat} (h : specDissect p line = some r) :
    ∃ r', specDissectIC p line = some r' := by
  obtain ⟨_, _, _, _, _, _, _, h', _⟩ := specDissect_ci_mono_le h
  exact ⟨_, h'⟩

theorem find_same_dissect {s s' : Instance} {str : Bytes} {r : Option View}
    (h : findSubmatchIndex s str = .ok (r, s')) : s'.d = s.d := by
  unfold findSubmatchIndex at h
  simp only at h
  repeat' split at h
  all_goals first | cases h; rfl | cases h


def pick (w : Bool) {α : Type} (l : List (Bool × α)) : List α := (l.filter fun x => x.1 == w).map (·.2)

theorem pick_cons (w w' : Bool) {α : Type} (x : α) (l : List (Bool × α)) :
    pick w ((w', x) :: l) = if w' = w then x :: pick w l else pick w l := by
  by_cases h : w' = w <;> simp [pick, h]

theorem runLines_cons_ok {s s' : Instance} {l : Bytes} {ls : List Bytes} {vs : List (Option View)}
    (h : runLines s (l :: ls) = .ok (vs, s')) :
    ∃ r s1 vs1, findSubmatchIndex s l = .ok (r, s1) ∧ runLines s1 ls = .ok (vs1, s') ∧ vs = r :: vs1 := by
  simp only [runLines] at h
  cases hf : findSubmatchIndex s l with
  | error e => simp [hf] at h
  | ok ra =>
    obtain ⟨r, s1⟩ := ra
    simp only [hf] at h
    cases hr : runLines s1 ls with
    | error e => simp [hr] at h
    | ok t =>
      obtain ⟨vs1, s2⟩ := t
      simp only [hr, Except.ok.injEq, Prod.mk.injEq] at h
      exact ⟨r, s1, vs1, rfl, h.2 ▸ hr, h.1.symm⟩

/-- two instances under a schedule: when each instance alone gets through its own lines, the
interleaved run gets through, ends in the same two states and hands each instance its own results -/
theorem runTwo_of_runLines : ∀ (sched : List (Bool × Bytes)) (a b : Instance) va a' vb b',
    runLines a (pick true sched) = .ok (va, a') → runLines b (pick false sched) = .ok (vb, b') →
    ∃ rs, runTwo a b sched = .ok (rs, a', b') ∧ pick true rs = va ∧ pick false rs = vb := by
  intro sched
  induction sched with
  | nil =>
    intro a b va a' vb b' ha hb
    simp only [pick, List.filter_nil, List.map_nil, runLines, Except.ok.injEq, Prod.mk.injEq] at ha hb
    exact ⟨[], by simp [runTwo, ha.2, hb.2], by simp [pick, ha.1], by simp [pick, hb.1]⟩
  | cons x rest ih =>
    intro a b va a' vb b' ha hb
    obtain ⟨w, l⟩ := x
    cases w with
    | true =>
      simp only [pick_cons, if_true, Bool.true_eq_false, if_false] at ha hb
      obtain ⟨r, a1, va1, hf, hr, rfl⟩ := runLines_cons_ok ha
      obtain ⟨rs, hrs, h1, h2⟩ := ih a1 b va1 a' vb b' hr hb
      exact ⟨(true, r) :: rs, by simp only [runTwo, if_true, hf, hrs], by simp [pick_cons, h1], by simp [pick_cons, h2]⟩
    | false =>
      simp only [pick_cons, if_true, Bool.false_eq_true, if_false] at ha hb
      obtain ⟨r, b1, vb1, hf, hr, rfl⟩ := runLines_cons_ok hb
      obtain ⟨rs, hrs, h1, h2⟩ := ih a b1 va a' vb1 b' ha hr
      exact ⟨(false, r) :: rs, by simp only [runTwo, Bool.false_eq_true, if_false, hf, hrs], by simp [pick_cons, h1],
        by simp [pick_cons, h2]⟩

end Rare.C12

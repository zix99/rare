import Rare.Model.C07Acc
import Rare.Spec.C07Acc
import Rare.Proofs.C07Split
import Rare.Proofs.C07SubKeyA
/-! Refinement proof: the `AccumulatingGroup` model computes the spec fold (`Spec/C07Acc`). -/
namespace Rare.C07
open Rare.Expr (Comp Stage Ctx)

/-! ### the part look-up -/

theorem nul_ne_nil : nul ≠ [] := by decide

theorem nthNext_tracks (n : Nat) (s : Splitter) (fs : List Bytes) (r : Bytes) (hd : s.delim ≠ [])
    (h : Tracks s fs) : Splitter.nthNext (n + 1) s r = fs.getD n [] := by
  induction n generalizing s fs r with
  | zero =>
    obtain ⟨a, _, _⟩ := tracks_next s fs hd h
    simp only [Splitter.nthNext, tracks_done s fs h]
    cases fs with
    | nil => simp
    | cons x t => simpa using a
  | succ m ih =>
    obtain ⟨a, t, d⟩ := tracks_next s fs hd h
    rw [Splitter.nthNext, tracks_done s fs h]
    cases fs with
    | nil => simp
    | cons x t' =>
      simp only [List.isEmpty_cons, Bool.false_eq_true, if_false]
      rw [ih s.next'.2 t' s.next'.1 (by rw [d]; exact hd) t]
      simp

theorem accGetMatch_eq (m : Bytes) : accGetMatch m = partOf m := by
  funext idx
  unfold accGetMatch partOf
  split
  · rfl
  · split
    · rw [Int.toNat_of_nonpos (by omega)]; rfl
    · obtain ⟨n, hn⟩ : ∃ n, idx.toNat = n + 1 := ⟨idx.toNat - 1, by omega⟩
      rw [hn, nthNext_tracks n _ (splitOn nul m) [] nul_ne_nil (tracks_init nul m)]
      rfl

/-- The sort context numbers the parts of the group key from 0. -/
theorem sortGetMatch_eq (k : Bytes) (idx : Int) :
    sortGetMatch k idx = if idx < 0 then [] else (splitOn nul k).getD idx.toNat [] := by
  unfold sortGetMatch
  split
  · rfl
  · rw [nthNext_tracks _ _ (splitOn nul k) [] nul_ne_nil (tracks_init nul k)]

/-! ### the group key -/

theorem nulJoin_cons (a : Bytes) (r : List Bytes) : nulJoin (a :: r) = a ++ r.flatMap (fun x => nul ++ x) := by
  induction r generalizing a with
  | nil => simp [nulJoin]
  | cons b r ih => rw [nulJoin, ih]; simp

/-- Evaluate a list of stages in order (what `mapM` does in `Except`). -/
theorem mapM_except_cons {α β : Type} (f : α → Except String β) (a : α) (l : List α) :
    (a :: l).mapM f = (match f a with
      | .error m => .error m
      | .ok b => match l.mapM f with
        | .error m => .error m
        | .ok bs => .ok (b :: bs)) := by
  rw [List.mapM_cons]
  cases f a <;> simp [bind, Except.bind, pure, Except.pure]
  cases l.mapM f <;> rfl

theorem joinGroupKey_succ (ctx : Ctx) (gs : List AccGroupDef) (i : Nat) (sb : Bytes) :
    joinGroupKey ctx gs (i + 1) sb =
      (gs.mapM (m := Except String) fun g => g.expr.run ctx).map fun vs => sb ++ vs.flatMap (fun x => nul ++ x) := by
  induction gs generalizing i sb with
  | nil => simp [joinGroupKey, Except.map, pure, Except.pure]
  | cons g rest ih =>
    rw [joinGroupKey, mapM_except_cons]
    cases g.expr.run ctx with
    | error m => simp [Except.map]
    | ok v =>
      simp only [Nat.zero_lt_succ, if_true]
      rw [ih]
      cases rest.mapM (m := Except String) fun g => g.expr.run ctx <;> simp [Except.map]

theorem buildGroupKey_eq (s : AccGroup) (ctx : Ctx) :
    s.buildGroupKey ctx = (s.groupDef.mapM (m := Except String) fun g => g.expr.run ctx).map nulJoin := by
  unfold AccGroup.buildGroupKey
  match hg : s.groupDef with
  | [] => simp [Except.map, pure, Except.pure, nulJoin]
  | [g] =>
    simp only [mapM_except_cons, List.mapM_nil, pure, Except.pure]
    cases g.expr.run ctx <;> simp [Except.map, nulJoin]
  | g :: g2 :: rest =>
    simp only
    rw [joinGroupKey, mapM_except_cons]
    cases g.expr.run ctx with
    | error m => simp [Except.map]
    | ok v =>
      simp only [Nat.lt_irrefl, if_false, List.nil_append]
      rw [joinGroupKey_succ]
      cases (g2 :: rest).mapM (m := Except String) fun g => g.expr.run ctx with
      | error m => simp [Except.map]
      | ok vs => simp [Except.map, nulJoin_cons]


/-! ### model definitions seen as spec definitions -/

def stageExpr (e : Stage) : SExpr := fun L => e.run { getMatch := L.part, getKey := L.key }

def AccDataDef.toSpec (d : AccDataDef) : SCol := ⟨d.name, d.initial, stageExpr d.expr⟩
def AccGroup.specCols (s : AccGroup) : List SCol := s.colDef.map AccDataDef.toSpec
def AccGroup.specGroups (s : AccGroup) : List SExpr := s.groupDef.map fun g => stageExpr g.expr

/-- Invariant of `AccumulatingGroup`: data-column names are distinct, `colIdxLookup` is exactly the
inverse of the column list, every row has one entry per data column, group names are distinct. -/
structure AccWF (s : AccGroup) : Prop where
  names_nodup : s.dataCols.Nodup
  idx : ∀ k j, aget s.colIdx k = some j ↔ s.dataCols[j]? = some k
  rows : ∀ k row, aget s.data k = some row → row.length = s.colDef.length
  gnames_nodup : s.groupCols.Nodup

theorem specCols_names (s : AccGroup) : s.specCols.map (·.name) = s.dataCols := by
  simp [AccGroup.specCols, AccGroup.dataCols, AccDataDef.toSpec]

theorem specCols_length (s : AccGroup) : s.specCols.length = s.colDef.length := by
  simp [AccGroup.specCols]

/-! ### named look-up -/

theorem zip_lookup_none (names : List Bytes) (row : List Bytes) (k : Bytes) (h : k ∉ names) :
    (names.zip row).lookup k = none := by
  induction names generalizing row with
  | nil => simp
  | cons n ns ih =>
    cases row with
    | nil => simp
    | cons r rs =>
      have hne : ¬ k = n := fun e => h (by simp [e])
      have : (k == n) = false := by simpa using hne
      simp only [List.zip_cons_cons, List.lookup_cons, this]
      exact ih rs (fun hm => h (List.mem_cons_of_mem _ hm))

theorem zip_lookup_some (names : List Bytes) (row : List Bytes) (k : Bytes) (j : Nat)
    (hn : names.Nodup) (hj : names[j]? = some k) : (names.zip row).lookup k = row[j]? := by
  induction names generalizing row j with
  | nil => simp at hj
  | cons n ns ih =>
    have hnd := List.nodup_cons.mp hn
    cases row with
    | nil => simp
    | cons r rs =>
      cases j with
      | zero =>
        obtain rfl : n = k := by simpa using hj
        simp
      | succ j =>
        have hj' : ns[j]? = some k := by simpa using hj
        have hne : (k == n) = false := by
          simpa using fun e : k = n => hnd.1 (e ▸ List.mem_of_getElem? hj')
        simp only [List.zip_cons_cons, List.lookup_cons, hne, List.getElem?_cons_succ]
        exact ih rs j hnd.2 hj'

theorem mem_dataCols_iff (s : AccGroup) (wf : AccWF s) (n : Bytes) :
    n ∈ s.dataCols ↔ (aget s.colIdx n).isSome = true := by
  constructor
  · intro hm
    obtain ⟨j, hj⟩ := List.getElem?_of_mem hm
    rw [(wf.idx n j).mpr hj]; rfl
  · intro h
    obtain ⟨j, hj⟩ := Option.isSome_iff_exists.mp h
    exact List.mem_of_getElem? ((wf.idx n j).mp hj)

theorem accKeyLookup_eq (s : AccGroup) (wf : AccWF s) (row : List Bytes) (k : Bytes) :
    accKeyLookup s.colIdx row k = named s.dataCols row k := by
  unfold accKeyLookup named
  cases hg : aget s.colIdx k with
  | some j =>
    have := (wf.idx k j).mp hg
    rw [zip_lookup_some _ row k j wf.names_nodup this]
    simp [List.getD_eq_getElem?_getD]
  | none =>
    rw [zip_lookup_none _ row k (mt (mem_dataCols_iff s wf k).mp (by rw [hg]; simp))]; rfl

/-- Every index the look-up closure uses is inside the row (no Go panic, no default value taken). -/
theorem accKeyLookup_in_range (s : AccGroup) (wf : AccWF s) (k : Bytes) (j : Nat) (row : List Bytes)
    (hrow : row.length = s.colDef.length) (h : aget s.colIdx k = some j) : j < row.length := by
  have := (wf.idx k j).mp h
  obtain ⟨hlt, _⟩ := List.getElem?_eq_some_iff.mp this
  simpa [hrow, AccGroup.dataCols] using hlt

/-! ### the column loop -/

theorem sampleCols_length (colIdx : List (Bytes × Nat)) (e : Bytes) (ds : List AccDataDef) (i : Nat)
    (row row' : List Bytes) (h : sampleCols colIdx e ds i row = .ok row') : row'.length = row.length := by
  induction ds generalizing i row with
  | nil => simp [sampleCols] at h; subst h; rfl
  | cons d rest ih =>
    rw [sampleCols] at h
    split at h
    · cases h
    · split at h
      · cases h
      · simpa using ih _ _ h

theorem accCtx_col (s : AccGroup) (wf : AccWF s) (e cur : Bytes) (row : List Bytes) (i : Nat)
    (hcur : row[i]? = some cur) :
    accCtx e cur (some (accKeyLookup s.colIdx row)) =
      { getMatch := (colLookups s.dataCols e row i).part, getKey := (colLookups s.dataCols e row i).key } := by
  unfold accCtx colLookups
  congr 1
  · exact accGetMatch_eq e
  · funext k
    unfold accGetKey dot
    by_cases hk : k = [46]
    · simp [hk, List.getD_eq_getElem?_getD, hcur]
    · simp only [hk, if_false]
      exact accKeyLookup_eq s wf row k

theorem updCol_at (cols : List SCol) (e : Bytes) (row : List Bytes) (i : Nat) (c : SCol) (h : cols[i]? = some c) :
    updCol cols e row i = (c.eval (colLookups (cols.map (·.name)) e row i)).map fun v => row.set i v := by
  unfold updCol; rw [h]

theorem sampleCols_eq (s : AccGroup) (wf : AccWF s) (e : Bytes) (k i : Nat) (row : List Bytes)
    (hk : k = s.colDef.length - i) (hrow : row.length = s.colDef.length) :
    sampleCols s.colIdx e (s.colDef.drop i) i row =
      (List.range' i k).foldlM (updCol s.specCols e) row := by
  induction k generalizing i row with
  | zero =>
    have : s.colDef.drop i = [] := List.drop_eq_nil_of_le (by omega)
    rw [this]; simp [sampleCols, pure, Except.pure]
  | succ k ih =>
    have hi : i < s.colDef.length := by omega
    have hir : i < row.length := by omega
    obtain ⟨cur, hcur⟩ : ∃ cur, row[i]? = some cur := ⟨row[i], List.getElem?_eq_getElem hir⟩
    rw [List.drop_eq_getElem_cons hi, sampleCols, List.range'_succ, List.foldlM_cons, hcur]
    simp only
    have hcol : s.specCols[i]? = some (s.colDef[i]).toSpec := by
      simp [AccGroup.specCols, List.getElem?_map, List.getElem?_eq_getElem hi]
    rw [updCol_at _ _ _ _ _ hcol]
    simp only [specCols_names, AccDataDef.toSpec, stageExpr]
    rw [accCtx_col s wf e cur row i hcur]
    generalize (s.colDef[i]).expr.run _ = res
    cases res with
    | error m => simp [Except.map, bind, Except.bind]
    | ok v =>
      simp only [Except.map, bind, Except.bind]
      exact ih (i + 1) (row.set i v) (by omega) (by simpa using hrow)

theorem sampleCols_updRow (s : AccGroup) (wf : AccWF s) (e : Bytes) (row : List Bytes)
    (hrow : row.length = s.colDef.length) :
    sampleCols s.colIdx e s.colDef 0 row = updRow s.specCols row e := by
  have := sampleCols_eq s wf e s.colDef.length 0 row (by omega) hrow
  simpa [updRow, specCols_length, List.range_eq_range'] using this


/-! ### one sample, then a history -/

/-- The model state holds exactly the spec map. -/
def Holds (s : AccGroup) (st : SState) : Prop := ∀ k, aget s.data k = st k

/-- Only `data` differs. -/
def SameDefs (s s' : AccGroup) : Prop :=
  s'.groupDef = s.groupDef ∧ s'.colDef = s.colDef ∧ s'.colIdx = s.colIdx ∧ s'.sortExpr = s.sortExpr

theorem SameDefs.refl (s : AccGroup) : SameDefs s s := ⟨rfl, rfl, rfl, rfl⟩
theorem SameDefs.trans {a b c : AccGroup} (h1 : SameDefs a b) (h2 : SameDefs b c) : SameDefs a c :=
  ⟨h2.1.trans h1.1, h2.2.1.trans h1.2.1, h2.2.2.1.trans h1.2.2.1, h2.2.2.2.trans h1.2.2.2⟩

theorem SameDefs.symm {a b : AccGroup} (h : SameDefs a b) : SameDefs b a :=
  ⟨h.1.symm, h.2.1.symm, h.2.2.1.symm, h.2.2.2.symm⟩

theorem SameDefs.specCols {a b : AccGroup} (h : SameDefs a b) : b.specCols = a.specCols := by
  unfold AccGroup.specCols; rw [h.2.1]
theorem SameDefs.specGroups {a b : AccGroup} (h : SameDefs a b) : b.specGroups = a.specGroups := by
  unfold AccGroup.specGroups; rw [h.1]

/-- Both sides fail with the same message, or both succeed with related results. -/
inductive ExRel {α β : Type} (R : α → β → Prop) : Except String α → Except String β → Prop
  | ok {a : α} {b : β} : R a b → ExRel R (.ok a) (.ok b)
  | error {m : String} : ExRel R (.error m) (.error m)

theorem ExRel.cases {α β : Type} {R : α → β → Prop} {x : Except String α} {y : Except String β}
    (h : ExRel R x y) : (∃ a b, x = .ok a ∧ y = .ok b ∧ R a b) ∨ (∃ m, x = .error m ∧ y = .error m) := by
  cases h with
  | ok r => exact Or.inl ⟨_, _, rfl, rfl, r⟩
  | error => exact Or.inr ⟨_, rfl, rfl⟩

theorem mapM_map_except {α β γ : Type} (f : α → β) (g : β → Except String γ) (l : List α) :
    (l.map f).mapM g = l.mapM (fun a => g (f a)) := by
  induction l with
  | nil => rfl
  | cons a l ih => rw [List.map_cons, mapM_except_cons, mapM_except_cons, ih]

theorem groupCtx_eq (e : Bytes) :
    accCtx e [] none = { getMatch := (groupLookups e).part, getKey := (groupLookups e).key } := by
  unfold accCtx groupLookups
  congr 1
  · exact accGetMatch_eq e
  · funext k; unfold accGetKey; split <;> rfl

theorem buildGroupKey_spec (s : AccGroup) (e : Bytes) :
    s.buildGroupKey (accCtx e [] none) = groupKeyOf s.specGroups e := by
  rw [buildGroupKey_eq, groupKeyOf, AccGroup.specGroups, mapM_map_except, groupCtx_eq]
  rfl

theorem initialRow_spec (s : AccGroup) : initialRow s.specCols = s.colDef.map (·.initial) := by
  simp [initialRow, AccGroup.specCols, AccDataDef.toSpec]

theorem sample_refines (s : AccGroup) (wf : AccWF s) (st : SState) (hh : Holds s st) (e : Bytes) :
    ExRel (fun s' st' => Holds s' st' ∧ AccWF s' ∧ SameDefs s s')
      (s.sample e) (specSample s.specGroups s.specCols st e) := by
  unfold AccGroup.sample specSample
  rw [buildGroupKey_spec]
  cases groupKeyOf s.specGroups e with
  | error m => exact ExRel.error
  | ok gk =>
    simp only
    have hrowEq : s.rowOrInit gk = (st gk).getD (initialRow s.specCols) := by
      unfold AccGroup.rowOrInit
      rw [← hh gk, initialRow_spec]
      cases aget s.data gk <;> rfl
    rw [hrowEq]
    have hlen : ((st gk).getD (initialRow s.specCols)).length = s.colDef.length := by
      rw [← hh gk]
      cases hg : aget s.data gk with
      | some row => simpa using wf.rows gk row hg
      | none => simp [initialRow_spec]
    rw [sampleCols_updRow s wf e _ hlen]
    cases hu : updRow s.specCols ((st gk).getD (initialRow s.specCols)) e with
    | error m => exact ExRel.error
    | ok row =>
      refine ExRel.ok ⟨?_, ?_, ⟨rfl, rfl, rfl, rfl⟩⟩
      · intro k
        show aget (aset s.data gk row) k = _
        rw [aget_aset, hh k]
        simp only [eq_comm (a := gk)]
      · have hrl : row.length = s.colDef.length := by
          rw [← sampleCols_updRow s wf e _ hlen] at hu
          rw [sampleCols_length _ _ _ _ _ _ hu, hlen]
        refine ⟨wf.names_nodup, wf.idx, ?_, wf.gnames_nodup⟩
        intro k r hr
        change aget (aset s.data gk row) k = some r at hr
        rw [aget_aset] at hr
        split at hr
        · cases hr; exact hrl
        · exact wf.rows k r hr

theorem foldlM_except_cons {α σ : Type} (f : σ → α → Except String σ) (s : σ) (a : α) (l : List α) :
    (a :: l).foldlM f s = (match f s a with
      | .error m => .error m
      | .ok s' => l.foldlM f s') := by
  rw [List.foldlM_cons]; cases f s a <;> rfl

theorem run_refines (s : AccGroup) (wf : AccWF s) (st : SState) (hh : Holds s st) (h : List Bytes) :
    ExRel (fun s' st' => Holds s' st' ∧ AccWF s' ∧ SameDefs s s')
      (s.run h) (h.foldlM (specSample s.specGroups s.specCols) st) := by
  induction h generalizing s st with
  | nil => exact ExRel.ok ⟨hh, wf, SameDefs.refl s⟩
  | cons e h ih =>
    unfold AccGroup.run
    rw [foldlM_except_cons, foldlM_except_cons]
    rcases (sample_refines s wf st hh e).cases with ⟨s1, st1, e1, e2, hh1, wf1, sd1⟩ | ⟨m, e1, e2⟩
    · rw [e1, e2]
      simp only
      have := ih s1 wf1 st1 hh1
      rw [sd1.specCols, sd1.specGroups] at this
      unfold AccGroup.run at this
      rcases this.cases with ⟨s2, st2, f1, f2, r2⟩ | ⟨m, f1, f2⟩
      · rw [f1, f2]; exact ExRel.ok ⟨r2.1, r2.2.1, sd1.trans r2.2.2⟩
      · rw [f1, f2]; exact ExRel.error
    · rw [e1, e2]; exact ExRel.error


/-! ### spec level: the row of a group is the fold over that group's own samples -/

/-- A sample whose group key is `k` succeeds exactly when re-evaluating row `k` does, and then stores that row. -/
theorem specSample_ok_iff {gs : List SExpr} {cols : List SCol} {st st' : SState} {e k : Bytes}
    (hk : groupKeyOf gs e = .ok k) :
    specSample gs cols st e = .ok st' ↔
      ∃ row, updRow cols ((st k).getD (initialRow cols)) e = .ok row ∧
        st' = fun k' => if k' = k then some row else st k' := by
  unfold specSample
  rw [hk]
  simp only
  split
  · rename_i m hu; rw [hu]; simp
  · rename_i row hu; rw [hu]; simp [eq_comm]

theorem subHistory_cons_eq (gs : List SExpr) (e : Bytes) (h : List Bytes) (k : Bytes)
    (hk : groupKeyOf gs e = .ok k) : subHistory gs (e :: h) k = e :: subHistory gs h k := by
  simp [subHistory, hk]

theorem subHistory_cons_ne (gs : List SExpr) (e : Bytes) (h : List Bytes) (k k' : Bytes)
    (hk : groupKeyOf gs e = .ok k') (hne : k' ≠ k) : subHistory gs (e :: h) k = subHistory gs h k := by
  simp [subHistory, hk, hne]

theorem specFold_sub (gs : List SExpr) (cols : List SCol) (h : List Bytes) (st0 st : SState)
    (hr : h.foldlM (specSample gs cols) st0 = .ok st) (k : Bytes) :
    ∃ row, (subHistory gs h k).foldlM (updRow cols) ((st0 k).getD (initialRow cols)) = .ok row ∧
      st k = if subHistory gs h k = [] then st0 k else some row := by
  induction h generalizing st0 with
  | nil =>
    simp only [List.foldlM_nil, pure, Except.pure] at hr
    cases hr
    exact ⟨_, rfl, by simp [subHistory]⟩
  | cons e h ih =>
    rw [foldlM_except_cons] at hr
    cases h1 : specSample gs cols st0 e with
    | error m => rw [h1] at hr; cases hr
    | ok st1 =>
      rw [h1] at hr
      cases hk : groupKeyOf gs e with
      | error m => simp [specSample, hk] at h1
      | ok ke =>
        obtain ⟨row1, hu, rfl⟩ := (specSample_ok_iff hk).mp h1
        obtain ⟨row, hrow, hst⟩ := ih _ hr
        by_cases hkk : k = ke
        · subst hkk
          rw [subHistory_cons_eq gs e h k hk]
          simp only [if_true, Option.getD_some] at hrow hst
          refine ⟨row, ?_, ?_⟩
          · rw [foldlM_except_cons, hu]; exact hrow
          · simp only [reduceCtorEq, if_false]
            rw [hst]
            split
            · rename_i hnil
              rw [hnil] at hrow
              simp only [List.foldlM_nil, pure, Except.pure, Except.ok.injEq] at hrow
              rw [hrow]
            · rfl
        · have hne : ke ≠ k := fun e => hkk e.symm
          rw [subHistory_cons_ne gs e h k ke hk hne]
          simp only [hkk, if_false] at hrow hst
          exact ⟨row, hrow, hst⟩

/-- A history is accepted exactly when every group key evaluates; then `subHistory` partitions it. -/
theorem specRun_sub (gs : List SExpr) (cols : List SCol) (h : List Bytes) (st : SState)
    (hr : specRun gs cols h = .ok st) (k : Bytes) :
    ∃ row, (subHistory gs h k).foldlM (updRow cols) (initialRow cols) = .ok row ∧
      st k = if subHistory gs h k = [] then none else some row := by
  simpa using specFold_sub gs cols h (fun _ => none) st hr k

/-! ### spec level: samples of different groups commute -/

theorem specSample_comm (gs : List SExpr) (cols : List SCol) (st st1 st12 : SState) (e1 e2 k1 k2 : Bytes)
    (hk1 : groupKeyOf gs e1 = .ok k1) (hk2 : groupKeyOf gs e2 = .ok k2) (hne : k1 ≠ k2)
    (h1 : specSample gs cols st e1 = .ok st1) (h2 : specSample gs cols st1 e2 = .ok st12) :
    ∃ st2, specSample gs cols st e2 = .ok st2 ∧ specSample gs cols st2 e1 = .ok st12 := by
  obtain ⟨row1, hu1, rfl⟩ := (specSample_ok_iff hk1).mp h1
  obtain ⟨row2, hu2, rfl⟩ := (specSample_ok_iff hk2).mp h2
  have hne' : ¬ k2 = k1 := fun e => hne e.symm
  simp only [hne', if_false] at hu2
  refine ⟨_, (specSample_ok_iff hk2).mpr ⟨row2, hu2, rfl⟩, (specSample_ok_iff hk1).mpr ⟨row1, ?_, ?_⟩⟩
  · simp only [hne, if_false]; exact hu1
  · funext k'
    by_cases a : k' = k1
    · subst a; simp [hne]
    · simp [a]


/-! ### group keys and their parts -/

theorem splitOn_nul_cons (b : UInt8) (r : Bytes) :
    splitOn nul (b :: r) = if b = 0 then [] :: splitOn nul r else consHead b (splitOn nul r) := by
  rw [splitOn]
  by_cases hb : b = 0
  · subst hb; simp [nul, List.isPrefixOf]
  · have : List.isPrefixOf nul (b :: r) = false := by
      simp [nul, List.isPrefixOf]; exact fun e => hb e.symm
    simp [this, hb]

/-- Joining the parts of any key with NUL gives the key back. -/
theorem nulJoin_splitOn (k : Bytes) : nulJoin (splitOn nul k) = k := by
  induction k with
  | nil => simp [splitOn, nulJoin]
  | cons b r ih =>
    rw [splitOn_nul_cons]
    obtain ⟨x, xs, hs⟩ := List.exists_cons_of_ne_nil (splitOn_ne_nil nul r)
    rw [hs] at ih ⊢
    by_cases hb : b = 0
    · subst hb
      simp only [if_true]
      rw [nulJoin_cons] at ih ⊢
      simp only [List.flatMap_cons, List.nil_append]
      rw [List.append_assoc, ih]; rfl
    · simp only [hb, if_false, consHead]
      rw [nulJoin_cons] at ih ⊢
      simp only [List.cons_append]
      rw [ih]

theorem nulJoin_parts (k : Bytes) : nulJoin (groupKeyParts k) = k := by
  unfold groupKeyParts
  split
  · rename_i h; subst h; rfl
  · exact nulJoin_splitOn k

theorem splitOn_nul_free (k p : Bytes) (h : p ∈ splitOn nul k) : (0 : UInt8) ∉ p := by
  induction k generalizing p with
  | nil => simp [splitOn] at h; subst h; simp
  | cons b r ih =>
    rw [splitOn_nul_cons] at h
    obtain ⟨x, xs, hs⟩ := List.exists_cons_of_ne_nil (splitOn_ne_nil nul r)
    rw [hs] at h ih
    by_cases hb : b = 0
    · simp only [hb, if_true, List.mem_cons] at h
      rcases h with h | h
      · subst h; simp
      · exact ih p (by simpa using h)
    · simp only [hb, if_false, consHead, List.mem_cons] at h
      rcases h with h | h
      · subst h
        have := ih x (by simp)
        simp only [List.mem_cons, not_or]
        exact ⟨fun e => hb e.symm, this⟩
      · exact ih p (by simp [h])

theorem splitOn_free_append (v rest : Bytes) (hv : (0 : UInt8) ∉ v) :
    splitOn nul (v ++ 0 :: rest) = v :: splitOn nul rest := by
  induction v with
  | nil => rw [List.nil_append, splitOn_nul_cons]; simp
  | cons b v ih =>
    simp only [List.mem_cons, not_or] at hv
    have hb : ¬ b = 0 := fun e => hv.1 e.symm
    rw [List.cons_append, splitOn_nul_cons, ih hv.2]
    simp [hb, consHead]

theorem splitOn_free (v : Bytes) (hv : (0 : UInt8) ∉ v) : splitOn nul v = [v] := by
  induction v with
  | nil => simp [splitOn]
  | cons b v ih =>
    simp only [List.mem_cons, not_or] at hv
    have hb : ¬ b = 0 := fun e => hv.1 e.symm
    rw [splitOn_nul_cons, ih hv.2]
    simp [hb, consHead]

theorem splitOn_nulJoin (vs : List Bytes) (hne : vs ≠ []) (hfree : ∀ v ∈ vs, (0 : UInt8) ∉ v) :
    splitOn nul (nulJoin vs) = vs := by
  induction vs with
  | nil => exact absurd rfl hne
  | cons v r ih =>
    cases r with
    | nil => simpa [nulJoin] using splitOn_free v (hfree v (by simp))
    | cons w r =>
      rw [nulJoin]
      have : v ++ nul ++ nulJoin (w :: r) = v ++ 0 :: nulJoin (w :: r) := by simp [nul]
      rw [this, splitOn_free_append v _ (hfree v (by simp)), ih (by simp) (fun x hx => hfree x (by simp [hx]))]

theorem nulJoin_eq_nil (vs : List Bytes) : nulJoin vs = [] ↔ vs = [] ∨ vs = [[]] := by
  constructor
  · intro h
    cases vs with
    | nil => exact Or.inl rfl
    | cons v r =>
      cases r with
      | nil => right; simp [nulJoin] at h; rw [h]
      | cons w r => simp [nulJoin, nul] at h
  · rintro (h | h) <;> subst h <;> rfl

/-- `Parts` of a built group key gives the group values back exactly when no value contains NUL and
the key is not built from a single empty value (whose key "" has no parts at all). -/
theorem parts_nulJoin_iff (vs : List Bytes) :
    groupKeyParts (nulJoin vs) = vs ↔ (∀ v ∈ vs, (0 : UInt8) ∉ v) ∧ vs ≠ [[]] := by
  constructor
  · intro h
    constructor
    · intro v hv
      rw [← h] at hv
      unfold groupKeyParts at hv
      split at hv
      · simp at hv
      · exact splitOn_nul_free _ v hv
    · intro h1
      subst h1
      simp [nulJoin, groupKeyParts] at h
  · rintro ⟨hfree, hne1⟩
    unfold groupKeyParts
    by_cases hnil : nulJoin vs = []
    · rcases (nulJoin_eq_nil vs).mp hnil with h | h
      · subst h; rfl
      · exact absurd h hne1
    · rw [if_neg hnil]
      apply splitOn_nulJoin vs _ hfree
      intro h; subst h; exact hnil rfl

theorem parts_single_empty : groupKeyParts (nulJoin [[]]) = [] := by decide


/-! ### Groups: sorting -/

/-- A strict total order given as a Boolean `less` (what a `sorting.NameSorter` such as `ByName` is). -/
structure StrictTotal {α : Type} (lt : α → α → Bool) : Prop where
  irrefl : ∀ a, lt a a = false
  trans : ∀ a b c, lt a b = true → lt b c = true → lt a c = true
  total : ∀ a b, a ≠ b → lt a b = false → lt b a = true

theorem bLt_strictTotal : StrictTotal bLt :=
  ⟨bLt_irrefl, fun _ _ _ => bLt_trans, fun _ _ => bLt_total⟩

namespace StrictTotal
variable {α : Type} {lt : α → α → Bool} (h : StrictTotal lt)
include h

theorem asymm (a b : α) (hab : lt a b = true) : lt b a = false := by
  cases hba : lt b a with
  | false => rfl
  | true => have := h.trans a b a hab hba; rw [h.irrefl] at this; cases this

theorem le_total (a b : α) : (!lt b a || !lt a b) = true := by
  cases hab : lt a b with
  | false => simp
  | true => simp [h.asymm a b hab]

theorem le_trans (a b c : α) (h1 : (!lt b a) = true) (h2 : (!lt c b) = true) : (!lt c a) = true := by
  simp only [Bool.not_eq_true'] at h1 h2 ⊢
  cases hca : lt c a with
  | false => rfl
  | true =>
    -- c < a; b ≮ a so a = b or a < b; either way c < b
    by_cases hab : a = b
    · subst hab; rw [hca] at h2; cases h2
    · have := h.total b a (fun e => hab e.symm) h1
      have := h.trans c a b hca this
      rw [this] at h2; cases h2

theorem le_antisymm (a b : α) (h1 : (!lt b a) = true) (h2 : (!lt a b) = true) : a = b := by
  simp only [Bool.not_eq_true'] at h1 h2
  by_cases hab : a = b
  · exact hab
  · have := h.total a b hab h2
    rw [this] at h1; cases h1

/-- Two arrangements of the same elements that are both sorted are equal. -/
theorem sorted_unique (l1 l2 : List α) (hp : l1.Perm l2)
    (s1 : l1.Pairwise fun a b => (!lt b a) = true) (s2 : l2.Pairwise fun a b => (!lt b a) = true) : l1 = l2 :=
  List.Perm.eq_of_pairwise (fun a b _ _ h1 h2 => h.le_antisymm a b h1 h2) s1 s2 hp

theorem mergeSort_sorted (l : List α) : (l.mergeSort fun a b => !lt b a).Pairwise fun a b => (!lt b a) = true :=
  List.pairwise_mergeSort (le := fun a b => !lt b a) (fun a b c => h.le_trans a b c) (fun a b => h.le_total a b) l

theorem mergeSort_perm_eq (l1 l2 : List α) (hp : l1.Perm l2) :
    (l1.mergeSort fun a b => !lt b a) = l2.mergeSort fun a b => !lt b a :=
  h.sorted_unique _ _ (((List.mergeSort_perm l1 _).trans hp).trans (List.mergeSort_perm l2 _).symm)
    (h.mergeSort_sorted l1) (h.mergeSort_sorted l2)

end StrictTotal

/-- Order by a key under `prim`, equal keys by name under `bLt`: again a strict total order, when key
and name together determine the element. -/
theorem lex_strictTotal {α κ : Type} [DecidableEq κ] (key : α → κ) (name : α → Bytes) (prim : κ → κ → Bool)
    (hp : StrictTotal prim) (hinj : ∀ a b, key a = key b → name a = name b → a = b) :
    StrictTotal fun a b => if key a = key b then bLt (name a) (name b) else prim (key a) (key b) := by
  refine ⟨?_, ?_, ?_⟩
  · intro a; simp only [if_true]; exact bLt_irrefl _
  · intro a b c h1 h2
    by_cases e1 : key a = key b
    · rw [if_pos e1] at h1
      rw [e1]
      by_cases e2 : key b = key c
      · rw [if_pos e2] at h2 ⊢; exact bLt_trans h1 h2
      · rw [if_neg e2] at h2 ⊢; exact h2
    · rw [if_neg e1] at h1
      by_cases e2 : key b = key c
      · rw [← e2, if_neg e1]; exact h1
      · rw [if_neg e2] at h2
        by_cases e3 : key a = key c
        · rw [e3, hp.asymm _ _ h2] at h1; cases h1
        · rw [if_neg e3]; exact hp.trans _ _ _ h1 h2
  · intro a b hne hab
    by_cases e1 : key a = key b
    · rw [if_pos e1] at hab; rw [if_pos e1.symm]
      exact bLt_total (fun e => hne (hinj a b e1 e)) hab
    · rw [if_neg e1] at hab; rw [if_neg (fun e => e1 e.symm)]
      exact hp.total _ _ e1 hab

/-- Sort key first (under `less`), equal sort keys by group key. -/
theorem sortLess_strictTotal (less : Bytes → Bytes → Bool) (h : StrictTotal less) : StrictTotal (sortLess less) :=
  lex_strictTotal (·.2) (·.1) less h fun _ _ e2 e1 => Prod.ext e1 e2

/-- The sort key the model computes for a group ("" if the expression panics – then `groupsWith` fails). -/
def AccGroup.sortKeyD (s : AccGroup) (e : Stage) (g : Bytes) : Bytes :=
  match s.sortKey e g with
  | .ok k => k
  | .error _ => []

theorem mapM_keyed (f : Bytes → Except String Bytes) (l : List Bytes) (r : List (Bytes × Bytes))
    (h : l.mapM (fun g => (f g).map fun k => (g, k)) = .ok r) :
    r = l.map (fun g => (g, match f g with | .ok k => k | .error _ => [])) ∧ ∀ g ∈ l, ∃ k, f g = .ok k := by
  induction l generalizing r with
  | nil => simp [pure, Except.pure] at h; subst h; simp
  | cons a l ih =>
    rw [mapM_except_cons] at h
    generalize hl : l.mapM (fun g => (f g).map fun k => (g, k)) = X at h ih
    cases ha : f a with
    | error m => simp [ha, Except.map] at h
    | ok k =>
      simp only [ha, Except.map] at h
      cases X with
      | error m => cases h
      | ok r' =>
        simp only [Except.ok.injEq] at h
        obtain ⟨e1, e2⟩ := ih r' rfl
        subst h
        refine ⟨by simp [e1, ha], ?_⟩
        intro g hg
        rcases List.mem_cons.mp hg with rfl | hg
        · exact ⟨k, ha⟩
        · exact e2 g hg

/-- `Groups`: a permutation of the keys; without a sort expression sorted by `less`, with one sorted
by (sort key, group key). -/
theorem groupsWith_spec (s : AccGroup) (less : Bytes → Bytes → Bool) (hlt : StrictTotal less)
    (order res : List Bytes) (h : s.groupsWith less order = .ok res) :
    res.Perm order ∧
    match s.sortExpr with
    | none => res.Pairwise fun a b => (!less b a) = true
    | some e => res.Pairwise fun a b => (!sortLess less (b, s.sortKeyD e b) (a, s.sortKeyD e a)) = true := by
  unfold AccGroup.groupsWith at h
  cases hs : s.sortExpr with
  | none =>
    rw [hs] at h
    simp only [Except.ok.injEq] at h
    subst h
    exact ⟨List.mergeSort_perm _ _, hlt.mergeSort_sorted order⟩
  | some e =>
    rw [hs] at h
    simp only at h
    split at h
    · rename_i hle
      simp only [Except.ok.injEq] at h
      subst h
      refine ⟨List.Perm.refl _, ?_⟩
      match order, hle with
      | [], _ => exact List.Pairwise.nil
      | [a], _ => simp
    · cases hm : order.mapM (fun g => (s.sortKey e g).map fun k => (g, k)) with
      | error m => rw [hm] at h; cases h
      | ok keyed =>
        rw [hm] at h
        simp only [Except.ok.injEq] at h
        subst h
        obtain ⟨hk' : keyed = order.map (fun g => (g, s.sortKeyD e g)), _⟩ := mapM_keyed (s.sortKey e) order keyed hm
        have hl2 := sortLess_strictTotal less hlt
        constructor
        · have := (List.mergeSort_perm keyed (fun a b => !sortLess less b a)).map (·.1)
          refine this.trans ?_
          rw [hk']; simp [Function.comp_def]
        · have srt := hl2.mergeSort_sorted keyed
          have hmem : ∀ p ∈ keyed.mergeSort (fun a b => !sortLess less b a), p = (p.1, s.sortKeyD e p.1) := by
            intro p hp
            have := (List.mergeSort_perm keyed _).mem_iff.mp hp
            rw [hk'] at this
            obtain ⟨g, _, rfl⟩ := List.mem_map.mp this
            rfl
          show List.Pairwise _ (List.map _ _)
          rw [List.pairwise_map]
          refine List.Pairwise.imp_of_mem ?_ srt
          intro a b ha hb hab
          rw [← hmem a ha, ← hmem b hb]; exact hab

/-- The answer of `Groups` does not depend on Go's map iteration order. -/
theorem groupsWith_deterministic (s : AccGroup) (less : Bytes → Bytes → Bool) (hlt : StrictTotal less)
    (o1 o2 r1 r2 : List Bytes) (hp : o1.Perm o2)
    (h1 : s.groupsWith less o1 = .ok r1) (h2 : s.groupsWith less o2 = .ok r2) : r1 = r2 := by
  obtain ⟨p1, s1⟩ := groupsWith_spec s less hlt o1 r1 h1
  obtain ⟨p2, s2⟩ := groupsWith_spec s less hlt o2 r2 h2
  have pp : r1.Perm r2 := (p1.trans hp).trans p2.symm
  cases hs : s.sortExpr with
  | none =>
    rw [hs] at s1 s2
    exact hlt.sorted_unique r1 r2 pp s1 s2
  | some e =>
    rw [hs] at s1 s2
    simp only at s1 s2
    have hl2 := sortLess_strictTotal less hlt
    have m1 : (r1.map fun g => (g, s.sortKeyD e g)) = r2.map fun g => (g, s.sortKeyD e g) :=
      hl2.sorted_unique _ _ (pp.map _) (by rw [List.pairwise_map]; exact s1) (by rw [List.pairwise_map]; exact s2)
    have := congrArg (List.map Prod.fst) m1
    simpa [Function.comp_def] using this


/-! ### every reachable aggregator is well-formed -/

theorem accwf_init : AccWF {} :=
  ⟨by simp [AccGroup.dataCols], by intro k j; simp [AccGroup.dataCols], by intro k row h; simp at h,
   by simp [AccGroup.groupCols]⟩

theorem getElem?_concat_eq_some {α : Type} (l : List α) (a b : α) (j : Nat) :
    (l ++ [a])[j]? = some b ↔ l[j]? = some b ∨ j = l.length ∧ a = b := by
  rcases Nat.lt_trichotomy j l.length with h | h | h
  · simp [List.getElem?_append_left h, Nat.ne_of_lt h]
  · simp [h]
  · rw [List.getElem?_eq_none (by simp; omega), List.getElem?_eq_none (by omega)]
    simp [Nat.ne_of_gt h]

theorem nodup_concat {α : Type} {l : List α} {a : α} (hl : l.Nodup) (ha : a ∉ l) : (l ++ [a]).Nodup :=
  List.nodup_append.mpr ⟨hl, List.pairwise_singleton _ a, fun _ hb _ hc e => ha (List.mem_singleton.mp hc ▸ e ▸ hb)⟩

theorem wf_addGroup (s : AccGroup) (wf : AccWF s) (n : Bytes) (c : Option Stage) : AccWF (s.addGroupExpr n c).1 := by
  unfold AccGroup.addGroupExpr
  split
  · exact wf
  · split
    · exact wf
    · rename_i _ hdup
      cases c with
      | none => exact wf
      | some kb =>
        refine ⟨wf.names_nodup, wf.idx, wf.rows, ?_⟩
        show (List.map (·.name) (s.groupDef ++ [⟨n, kb⟩])).Nodup
        rw [List.map_append]
        refine nodup_concat wf.gnames_nodup fun ha => hdup ?_
        obtain ⟨g, hg, hn⟩ := List.mem_map.mp ha
        exact List.any_eq_true.mpr ⟨g, hg, by simp [hn]⟩

theorem wf_addData (s : AccGroup) (wf : AccWF s) (n : Bytes) (c : Option Stage) (i : Bytes) :
    AccWF (s.addDataExpr n c i).1 := by
  unfold AccGroup.addDataExpr
  split
  · exact wf
  · rename_i hdata
    split
    · exact wf
    · rename_i hdup
      cases c with
      | none => exact wf
      | some kb =>
        have hnot := mt (mem_dataCols_iff s wf n).mp hdup
        have hcols : AccGroup.dataCols { s with colDef := s.colDef ++ [⟨n, kb, i⟩], colIdx := aset s.colIdx n s.colDef.length } =
            s.dataCols ++ [n] := by simp [AccGroup.dataCols]
        have hlen : s.dataCols.length = s.colDef.length := by simp [AccGroup.dataCols]
        refine ⟨?_, ?_, ?_, wf.gnames_nodup⟩
        · rw [hcols]; exact nodup_concat wf.names_nodup hnot
        · intro k j
          rw [hcols]
          show aget (aset s.colIdx n s.colDef.length) k = some j ↔ _
          rw [aget_aset, getElem?_concat_eq_some, ← wf.idx k j, hlen]
          by_cases hk : n = k
          · subst hk
            have : aget s.colIdx n ≠ some j := fun h => hnot (List.mem_of_getElem? ((wf.idx n j).mp h))
            simp [this, eq_comm]
          · simp [hk]
        · intro k row h
          have hnil : s.data = [] := List.eq_nil_of_length_eq_zero (by omega)
          change aget s.data k = some row at h
          rw [hnil] at h; simp at h

theorem wf_setSort (s : AccGroup) (wf : AccWF s) (c : Option Stage) : AccWF (s.setSort c).1 := by
  unfold AccGroup.setSort
  cases c with
  | none => exact wf
  | some kb => exact ⟨wf.names_nodup, wf.idx, wf.rows, wf.gnames_nodup⟩

theorem holds_self (s : AccGroup) : Holds s (fun k => aget s.data k) := fun _ => rfl

theorem wf_sample (s s' : AccGroup) (wf : AccWF s) (e : Bytes) (h : s.sample e = .ok s') : AccWF s' ∧ SameDefs s s' := by
  rcases (sample_refines s wf _ (holds_self s) e).cases with ⟨a, b, e1, _, _, wf1, sd1⟩ | ⟨m, e1, _⟩
  · rw [h] at e1; cases e1; exact ⟨wf1, sd1⟩
  · rw [h] at e1; cases e1

/-- States reachable from `NewAccumulatingGroup` by any sequence of calls (none of which panicked). -/
inductive AccReach : AccGroup → Prop
  | init : AccReach {}
  | step (s s' : AccGroup) (op : AccOp) (err : Option String) : AccReach s → s.apply op = .ok (s', err) → AccReach s'

/-- What a call that returns has done. -/
theorem apply_ok (s s' : AccGroup) (op : AccOp) (err : Option String) (h : s.apply op = .ok (s', err)) :
    (∃ n c, (s.addGroupExpr n c).1 = s') ∨ (∃ n c i, (s.addDataExpr n c i).1 = s') ∨
      (∃ c, (s.setSort c).1 = s') ∨ ∃ e, s.sample e = .ok s' := by
  cases op with
  | addGroup n c => exact .inl ⟨n, c, congrArg Prod.fst (Except.ok.inj h)⟩
  | addData n c i => exact .inr (.inl ⟨n, c, i, congrArg Prod.fst (Except.ok.inj h)⟩)
  | setSort c => exact .inr (.inr (.inl ⟨c, congrArg Prod.fst (Except.ok.inj h)⟩))
  | sample e =>
    simp only [AccGroup.apply] at h
    cases hs : s.sample e with
    | error m => rw [hs] at h; cases h
    | ok s1 => rw [hs] at h; cases h; exact .inr (.inr (.inr ⟨e, hs⟩))

theorem wf_apply (s s' : AccGroup) (wf : AccWF s) (op : AccOp) (err : Option String)
    (h : s.apply op = .ok (s', err)) : AccWF s' := by
  rcases apply_ok s s' op err h with ⟨n, c, rfl⟩ | ⟨n, c, i, rfl⟩ | ⟨c, rfl⟩ | ⟨e, hs⟩
  · exact wf_addGroup s wf n c
  · exact wf_addData s wf n c i
  · exact wf_setSort s wf c
  · exact (wf_sample s s' wf e hs).1

theorem reach_accwf {s : AccGroup} (h : AccReach s) : AccWF s := by
  induction h with
  | init => exact accwf_init
  | step s s' op err _ hstep ih => exact wf_apply s s' ih op err hstep


/-! ### which definitions are accepted -/

abbrev GCall := Bytes × Option Stage
abbrev DCall := Bytes × Option Stage × Bytes

def groupCalls : List AccOp → List GCall
  | [] => []
  | .addGroup n c :: r => (n, c) :: groupCalls r
  | _ :: r => groupCalls r

def dataCalls : List AccOp → List DCall
  | [] => []
  | .addData n c i :: r => (n, c, i) :: dataCalls r
  | _ :: r => dataCalls r

def toGDef (c : GCall) : Option AccGroupDef := c.2.map fun kb => ⟨c.1, kb⟩
def toDDef (c : DCall) : Option AccDataDef := c.2.1.map fun kb => ⟨c.1, kb, c.2.2⟩

def AccOp.isSample : AccOp → Bool
  | .sample _ => true
  | _ => false

/-- Perform a sequence of calls, discarding the returned errors. -/
def AccGroup.applyAll (s : AccGroup) (ops : List AccOp) : Except String AccGroup :=
  ops.foldlM (fun s op => (s.apply op).map (·.1)) s

/-- Left-to-right acceptance: a call is kept when it compiled and no kept call has its name. -/
def acceptStep {α : Type} (name : α → Bytes) (ok : α → Bool) (acc : List α) (c : α) : List α :=
  if ok c && !acc.any (fun x => name x == name c) then acc ++ [c] else acc

theorem accept_foldl {α : Type} (name : α → Bytes) (ok : α → Bool) (calls acc : List α) :
    calls.foldl (acceptStep name ok) acc =
      acc ++ (acceptedBy name ok calls).filter fun x => !acc.any (fun y => name y == name x) := by
  induction calls generalizing acc with
  | nil => simp [acceptedBy]
  | cons c r ih =>
    rw [List.foldl_cons, ih, acceptStep, acceptedBy]
    cases ok c
    · simp
    · cases hany : acc.any (fun x => name x == name c)
      · simp only [Bool.not_false, Bool.and_self, if_true, List.filter_cons, hany, List.filter_filter,
          List.append_assoc, List.singleton_append]
        congr 2
        apply List.filter_congr
        intro x _
        simp only [List.any_append, List.any_cons, List.any_nil, Bool.or_false, Bool.not_or, bne,
          BEq.comm (a := name c), Bool.and_comm]
      · simp only [Bool.not_true, Bool.and_false, Bool.false_eq_true, if_false, if_true, List.filter_cons, hany,
          List.filter_filter]
        congr 1
        apply List.filter_congr
        intro x _
        cases hx : acc.any (fun y => name y == name x)
        · obtain ⟨y, hy, hyc⟩ := List.any_eq_true.mp hany
          have : name x ≠ name c := fun e => by
            rw [List.any_eq_false] at hx; exact hx y hy (by rw [e]; exact hyc)
          simp [this]
        · simp

/-- What the configuration calls made so far have accepted. -/
structure CfgInv (s : AccGroup) (ga : List GCall) (da : List DCall) : Prop where
  wf : AccWF s
  nodata : s.data = []
  groups : s.groupDef = ga.filterMap toGDef
  gok : ∀ c ∈ ga, c.2.isSome = true
  cols : s.colDef = da.filterMap toDDef
  dok : ∀ c ∈ da, c.2.1.isSome = true

theorem filterMap_names {α β : Type} (f : α → Option β) (name : α → Bytes) (name' : β → Bytes) (l : List α)
    (h : ∀ c ∈ l, (f c).map name' = some (name c)) : (l.filterMap f).map name' = l.map name := by
  rw [List.map_filterMap]
  induction l with
  | nil => rfl
  | cons c r ih =>
    rw [List.filterMap_cons, h c List.mem_cons_self, ih fun c hc => h c (List.mem_cons_of_mem _ hc)]; rfl

theorem cfg_addGroup (s : AccGroup) (ga : List GCall) (da : List DCall) (inv : CfgInv s ga da)
    (n : Bytes) (c : Option Stage) :
    CfgInv (s.addGroupExpr n c).1 (acceptStep (·.1) (·.2.isSome) ga (n, c)) da := by
  have hwf := wf_addGroup s inv.wf n c
  have hnames : (ga.filterMap toGDef).map (·.name) = ga.map (·.1) :=
    filterMap_names _ _ _ ga fun c hc => by
      obtain ⟨n, _ | kb⟩ := c
      · cases inv.gok _ hc
      · rfl
  have hany : s.groupDef.any (fun g => g.name == n) = ga.any (fun x => x.1 == n) := by
    simpa [List.any_map, Function.comp_def, inv.groups] using congrArg (List.any · (· == n)) hnames
  unfold AccGroup.addGroupExpr acceptStep at *
  simp only [inv.nodata, List.length_nil, Nat.lt_irrefl, if_false] at hwf ⊢
  rw [hany] at hwf ⊢
  cases hdup : ga.any (fun x => x.1 == n) with
  | true => simpa using inv
  | false =>
    simp only [hdup, Bool.false_eq_true, if_false, Bool.not_false, Bool.and_true] at hwf ⊢
    cases c with
    | none => simpa using inv
    | some kb =>
      simp only [Option.isSome_some, if_true] at hwf ⊢
      refine ⟨hwf, rfl, ?_, ?_, inv.cols, inv.dok⟩
      · show s.groupDef ++ [⟨n, kb⟩] = _
        rw [inv.groups, List.filterMap_append]; rfl
      · intro c hc
        rcases List.mem_append.mp hc with h | h
        · exact inv.gok c h
        · cases List.mem_singleton.mp h; rfl

theorem cfg_addData (s : AccGroup) (ga : List GCall) (da : List DCall) (inv : CfgInv s ga da)
    (n : Bytes) (c : Option Stage) (i : Bytes) :
    CfgInv (s.addDataExpr n c i).1 ga (acceptStep (·.1) (·.2.1.isSome) da (n, c, i)) := by
  have hwf := wf_addData s inv.wf n c i
  have hnames : (da.filterMap toDDef).map (·.name) = da.map (·.1) :=
    filterMap_names _ _ _ da fun c hc => by
      obtain ⟨n, _ | kb, i⟩ := c
      · cases inv.dok _ hc
      · rfl
  have hany : (aget s.colIdx n).isSome = da.any (fun x => x.1 == n) := by
    have hcols : s.dataCols = da.map (·.1) := by
      unfold AccGroup.dataCols; rw [inv.cols]; exact hnames
    rw [Bool.eq_iff_iff, ← mem_dataCols_iff s inv.wf n, hcols, List.any_eq_true]
    simp only [List.mem_map, beq_iff_eq]
  unfold AccGroup.addDataExpr acceptStep at *
  simp only [inv.nodata, List.length_nil, Nat.lt_irrefl, if_false] at hwf ⊢
  rw [hany] at hwf ⊢
  cases hdup : da.any (fun x => x.1 == n) with
  | true => simpa using inv
  | false =>
    simp only [hdup, Bool.false_eq_true, if_false, Bool.not_false, Bool.and_true] at hwf ⊢
    cases c with
    | none => simpa using inv
    | some kb =>
      simp only [Option.isSome_some, if_true] at hwf ⊢
      refine ⟨hwf, rfl, inv.groups, inv.gok, ?_, ?_⟩
      · show s.colDef ++ [⟨n, kb, i⟩] = _
        rw [inv.cols, List.filterMap_append]; rfl
      · intro c hc
        rcases List.mem_append.mp hc with h | h
        · exact inv.dok c h
        · cases List.mem_singleton.mp h; rfl

theorem cfg_applyAll (ops : List AccOp) (hcfg : ∀ op ∈ ops, op.isSample = false)
    (s : AccGroup) (ga : List GCall) (da : List DCall) (inv : CfgInv s ga da) :
    ∃ s', s.applyAll ops = .ok s' ∧
      CfgInv s' ((groupCalls ops).foldl (acceptStep (·.1) (·.2.isSome)) ga)
        ((dataCalls ops).foldl (acceptStep (·.1) (·.2.1.isSome)) da) := by
  induction ops generalizing s ga da with
  | nil => exact ⟨s, rfl, inv⟩
  | cons op r ih =>
    have hr : ∀ op ∈ r, op.isSample = false := fun o ho => hcfg o (List.mem_cons_of_mem _ ho)
    unfold AccGroup.applyAll
    rw [foldlM_except_cons]
    cases op with
    | addGroup n c =>
      exact ih hr _ _ _ (cfg_addGroup s ga da inv n c)
    | addData n c i =>
      exact ih hr _ _ _ (cfg_addData s ga da inv n c i)
    | setSort c =>
      refine ih hr _ _ _ ?_
      cases c with
      | none => exact inv
      | some kb => exact ⟨wf_setSort s inv.wf (some kb), inv.nodata, inv.groups, inv.gok, inv.cols, inv.dok⟩
    | sample e => have := hcfg (.sample e) (by simp); simp [AccOp.isSample] at this

theorem cfg_init : CfgInv {} [] [] := ⟨accwf_init, rfl, rfl, by simp, rfl, by simp⟩


/-! ### model level: commutation, accessors -/

theorem foldlM_two {σ : Type} (f : σ → Bytes → Except String σ) (s : σ) (a b : Bytes) :
    [a, b].foldlM f s = (match f s a with | .error m => .error m | .ok s1 => f s1 b) := by
  simp only [List.foldlM_cons, List.foldlM_nil, bind_pure]
  cases f s a <;> rfl

theorem sample_comm_model (s s12 : AccGroup) (wf : AccWF s) (e1 e2 k1 k2 : Bytes)
    (hk1 : s.buildGroupKey (accCtx e1 [] none) = .ok k1) (hk2 : s.buildGroupKey (accCtx e2 [] none) = .ok k2)
    (hne : k1 ≠ k2) (h : s.run [e1, e2] = .ok s12) :
    ∃ s21, s.run [e2, e1] = .ok s21 ∧ (∀ k, aget s12.data k = aget s21.data k) ∧ SameDefs s12 s21 := by
  rw [buildGroupKey_spec] at hk1 hk2
  have r12 := run_refines s wf _ (holds_self s) [e1, e2]
  rcases r12.cases with ⟨a, st12, ea, eb, hh12, _, sd12⟩ | ⟨m, ea, _⟩
  · rw [h] at ea; cases ea
    rw [foldlM_two] at eb
    cases h1 : specSample s.specGroups s.specCols (fun k => aget s.data k) e1 with
    | error m => rw [h1] at eb; cases eb
    | ok st1 =>
      rw [h1] at eb
      simp only at eb
      obtain ⟨st2, g1, g2⟩ := specSample_comm _ _ _ st1 st12 e1 e2 k1 k2 hk1 hk2 hne h1 eb
      have r21 := run_refines s wf _ (holds_self s) [e2, e1]
      rw [foldlM_two, g1] at r21
      simp only at r21
      rw [g2] at r21
      rcases r21.cases with ⟨s21, st', fa, fb, hh21, _, sd21⟩ | ⟨m, _, fb⟩
      · cases fb
        exact ⟨s21, fa, fun k => (hh12 k).trans (hh21 k).symm, sd12.symm.trans sd21⟩
      · cases fb
  · rw [h] at ea; cases ea

theorem akeys_aset_nodup {α : Type} (m : List (Bytes × α)) (k : Bytes) (v : α) (h : (akeys m).Nodup) :
    (akeys (aset m k v)).Nodup := by
  induction m with
  | nil => simp [aset, akeys]
  | cons e m ih =>
    obtain ⟨k0, v0⟩ := e
    simp only [akeys, List.map_cons, List.nodup_cons] at h
    by_cases hk : k0 = k
    · subst hk; simpa [aset, akeys] using h
    · simp only [aset, hk, if_false, akeys, List.map_cons, List.nodup_cons]
      refine ⟨fun hm => h.1 ((mem_akeys_iff m k0).mpr ?_), ih h.2⟩
      rw [← aget_aset_ne m k k0 v (Ne.symm hk)]
      exact (mem_akeys_iff _ k0).mp hm

theorem sample_data_keys (s s' : AccGroup) (e : Bytes) (h : s.sample e = .ok s') (hn : (akeys s.data).Nodup) :
    (akeys s'.data).Nodup := by
  unfold AccGroup.sample at h
  split at h
  · cases h
  · split at h
    · cases h
    · simp only [Except.ok.injEq] at h
      subst h
      exact akeys_aset_nodup _ _ _ hn

theorem addGroupExpr_data (s : AccGroup) (n : Bytes) (c : Option Stage) : (s.addGroupExpr n c).1.data = s.data := by
  unfold AccGroup.addGroupExpr
  split; · rfl
  split; · rfl
  cases c <;> rfl

theorem addDataExpr_data (s : AccGroup) (n : Bytes) (c : Option Stage) (i : Bytes) :
    (s.addDataExpr n c i).1.data = s.data := by
  unfold AccGroup.addDataExpr
  split; · rfl
  split; · rfl
  cases c <;> rfl

theorem setSort_data (s : AccGroup) (c : Option Stage) : (s.setSort c).1.data = s.data := by
  unfold AccGroup.setSort
  cases c <;> rfl

/-- A call that returns either left the data alone (configuration) or was a successful `Sample`. -/
theorem apply_data (s s' : AccGroup) (op : AccOp) (err : Option String) (h : s.apply op = .ok (s', err)) :
    s'.data = s.data ∨ ∃ e, s.sample e = .ok s' := by
  rcases apply_ok s s' op err h with ⟨n, c, rfl⟩ | ⟨n, c, i, rfl⟩ | ⟨c, rfl⟩ | hs
  · exact .inl (addGroupExpr_data s n c)
  · exact .inl (addDataExpr_data s n c i)
  · exact .inl (setSort_data s c)
  · exact .inr hs

theorem reach_keys_nodup {s : AccGroup} (h : AccReach s) : (akeys s.data).Nodup := by
  induction h with
  | init => simp [akeys]
  | step s s' op err _ hstep ih =>
    rcases apply_data s s' op err hstep with hd | ⟨e, hs⟩
    · rw [hd]; exact ih
    · exact sample_data_keys s s' e hs ih

theorem dataOf_row (s : AccGroup) (k : Bytes) (row : List Bytes) (h : aget s.data k = some row)
    (hl : row.length = s.colDef.length) : s.dataOf k = row := by
  unfold AccGroup.dataOf AccGroup.dataNoCopy
  rw [h, ← hl]
  apply List.ext_getElem
  · simp
  · intro i h1 h2
    simp only [Option.getD_some, List.getElem_map, List.getElem_range]
    rw [List.getD_eq_getElem?_getD, List.getElem?_eq_getElem (by simpa using h1)]
    rfl

theorem dataOf_missing (s : AccGroup) (k : Bytes) (h : aget s.data k = none) :
    s.dataOf k = List.replicate s.colDef.length [] := by
  unfold AccGroup.dataOf AccGroup.dataNoCopy
  rw [h]
  apply List.ext_getElem
  · simp
  · intro i h1 h2
    simp

end Rare.C07

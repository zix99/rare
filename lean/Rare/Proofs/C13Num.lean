import Rare.Model.C13Num
import Rare.Proofs.C13Model
import Rare.Proofs.F64Arith
/-! C13 numeric mode over the modelled `strconv.ParseFloat`: the Go-shaped comparator `byNameSmartF`
is the parametric `byNameSmart` at `realNum`, and the integer order image `F64.key` orders keys
exactly as their exact values (`numVal`) do. -/
namespace Rare.C13
open Rare

theorem isNumF_eq (k : Key) : isNumF (F64.parseFloat k) = (realNum k).isNum := by
  unfold isNumF realNum
  cases F64.parseFloat k with
  | none => rfl
  | some v =>
    cases h : v.isNaN <;> simp [F64.eq, h, PF.isNum]

theorem byNameSmartF_eq (a b : Key) : byNameSmartF a b = byNameSmart realNum a b := by
  unfold byNameSmartF byNameSmart
  simp only [isNumF_eq]
  cases ha : F64.parseFloat a with
  | none => simp [realNum, ha, PF.isNum]
  | some x =>
    cases hb : F64.parseFloat b with
    | none => simp [realNum, ha, hb, PF.isNum]
    | some y =>
      cases hx : x.isNaN <;> cases hy : y.isNaN <;>
        simp [realNum, ha, hb, hx, hy, PF.isNum, PF.ord, F64.eq, F64.lt]

theorem key_of_inf {x : F64} (hi : x.isInf = true) : x.key = if x.sign then -(9218868437227405312 : Int) else 9218868437227405312 := by
  simp only [F64.isInf, decide_eq_true_eq] at hi
  unfold F64.key
  rw [hi]
  rfl

theorem key_bounds_finite {x : F64} (hf : x.isFinite = true) :
    -(9218868437227405312 : Int) < x.key ∧ x.key < 9218868437227405312 := by
  simp only [F64.isFinite, decide_eq_true_eq] at hf
  unfold F64.key
  split <;> omega

theorem key_lt_iff_finite {x y : F64} (hx : x.isFinite = true) (hy : y.isFinite = true) :
    x.key < y.key ↔ x.toRat < y.toRat := by
  have nx := F64.not_nan_of_finite hx
  have ny := F64.not_nan_of_finite hy
  rw [← F64.lt_iff_toRat_lt hx hy]
  simp [F64.lt, nx, ny]

theorem key_le_iff_finite {x y : F64} (hx : x.isFinite = true) (hy : y.isFinite = true) :
    x.key ≤ y.key ↔ x.toRat ≤ y.toRat := by
  have nx := F64.not_nan_of_finite hx
  have ny := F64.not_nan_of_finite hy
  rw [← F64.le_iff_toRat_le hx hy]
  simp [F64.le, nx, ny]

theorem key_eq_iff_finite {x y : F64} (hx : x.isFinite = true) (hy : y.isFinite = true) :
    x.key = y.key ↔ x.toRat = y.toRat := by
  have h1 := key_le_iff_finite hx hy
  have h2 := key_le_iff_finite hy hx
  constructor
  · intro h
    exact Rat.le_antisymm (h1.mp (by omega)) (h2.mp (by omega))
  · intro h
    have a := h1.mpr (by rw [h]; exact Rat.le_refl)
    have b := h2.mpr (by rw [h]; exact Rat.le_refl)
    omega

/-- A non-NaN float is finite, with its key strictly between those of the infinities, or an infinity. -/
theorem numValOf_view {x : F64} (hx : x.isNaN = false) :
    (x.isFinite = true ∧ numValOf x = .fin x.toRat
      ∧ -(9218868437227405312 : Int) < x.key ∧ x.key < 9218868437227405312)
    ∨ (numValOf x = .negInf ∧ x.key = -9218868437227405312)
    ∨ (numValOf x = .posInf ∧ x.key = 9218868437227405312) := by
  unfold numValOf
  rw [hx]
  cases hi : x.isInf with
  | false =>
    have hf := F64.finite_of_not_nan_inf hx hi
    exact Or.inl ⟨hf, rfl, key_bounds_finite hf⟩
  | true =>
    have hk := key_of_inf hi
    cases hs : x.sign <;> rw [hs] at hk
    · exact Or.inr (Or.inr ⟨rfl, hk⟩)
    · exact Or.inr (Or.inl ⟨rfl, hk⟩)

/-- Non-NaN floats: `key` is strictly monotone w.r.t. the extended-value order. -/
theorem key_lt_iff_numVal {x y : F64} (hx : x.isNaN = false) (hy : y.isNaN = false) :
    x.key < y.key ↔ NumVal.lt (numValOf x) (numValOf y) := by
  rcases numValOf_view hx with ⟨fx, vx, bx⟩ | ⟨vx, kx⟩ | ⟨vx, kx⟩ <;>
    rcases numValOf_view hy with ⟨fy, vy, by'⟩ | ⟨vy, ky⟩ | ⟨vy, ky⟩ <;> rw [vx, vy]
  · exact key_lt_iff_finite fx fy
  -- an infinity on one side or both: the keys are known constants or bounded by them
  all_goals simp only [NumVal.lt, iff_true, iff_false]; omega

theorem key_eq_iff_numVal {x y : F64} (hx : x.isNaN = false) (hy : y.isNaN = false) :
    x.key = y.key ↔ numValOf x = numValOf y := by
  rcases numValOf_view hx with ⟨fx, vx, bx⟩ | ⟨vx, kx⟩ | ⟨vx, kx⟩ <;>
    rcases numValOf_view hy with ⟨fy, vy, by'⟩ | ⟨vy, ky⟩ | ⟨vy, ky⟩ <;> rw [vx, vy]
  · rw [NumVal.fin.injEq]; exact key_eq_iff_finite fx fy
  all_goals simp only [reduceCtorEq, iff_true, iff_false]; omega

theorem numValOf_isNum {x : F64} (hx : x.isNaN = false) : numValOf x ≠ .notNum := by
  unfold numValOf
  rw [hx]
  simp only [Bool.false_eq_true, if_false]
  split
  · split <;> simp
  · simp

/-- What `realNum` says, in terms of the exact value. -/
theorem realNum_cases (k : Key) :
    (numVal k = .notNum ∧ (realNum k).mag = none) ∨
    (∃ x : F64, F64.parseFloat k = some x ∧ x.isNaN = false ∧ numVal k = numValOf x ∧
      (realNum k).mag = some x.key) := by
  unfold numVal realNum
  cases h : F64.parseFloat k with
  | none => exact Or.inl ⟨rfl, rfl⟩
  | some x =>
    cases hn : x.isNaN with
    | true => exact Or.inl ⟨by simp [numValOf, hn], by simp [PF.mag, hn]⟩
    | false => exact Or.inr ⟨x, rfl, hn, rfl, by simp [PF.mag, hn]⟩

theorem numVal_notNum_iff (k : Key) : numVal k = .notNum ↔ (realNum k).mag = none := by
  rcases realNum_cases k with ⟨h1, h2⟩ | ⟨x, _, hn, hv, hm⟩
  · exact ⟨fun _ => h2, fun _ => h1⟩
  · constructor
    · intro h; rw [hv] at h; exact absurd h (numValOf_isNum hn)
    · intro h; rw [hm] at h; exact absurd h (by simp)

/-- Equal exact values (or two non-numbers) ⇔ equal ranks of the parametric model. -/
theorem numVal_eq_iff (a b : Key) : numVal a = numVal b ↔ (realNum a).mag = (realNum b).mag := by
  rcases realNum_cases a with ⟨ha1, ha2⟩ | ⟨x, _, hxn, hxv, hxm⟩ <;>
    rcases realNum_cases b with ⟨hb1, hb2⟩ | ⟨y, _, hyn, hyv, hym⟩
  · rw [ha1, hb1, ha2, hb2]; simp
  · rw [ha1, ha2, hyv, hym]
    constructor
    · intro h; exact absurd h.symm (numValOf_isNum hyn)
    · intro h; exact absurd h (by simp)
  · rw [hb1, hb2, hxv, hxm]
    constructor
    · intro h; exact absurd h (numValOf_isNum hxn)
    · intro h; exact absurd h (by simp)
  · rw [hxv, hyv, hxm, hym, ← key_eq_iff_numVal hxn hyn]
    simp

/-- A strictly smaller exact value ⇔ a strictly smaller rank. -/
theorem numVal_lt_iff (a b : Key) :
    NumVal.lt (numVal a) (numVal b) ↔ ∃ p q, (realNum a).mag = some p ∧ (realNum b).mag = some q ∧ p < q := by
  rcases realNum_cases a with ⟨ha1, ha2⟩ | ⟨x, _, hxn, hxv, hxm⟩ <;>
    rcases realNum_cases b with ⟨hb1, hb2⟩ | ⟨y, _, hyn, hyv, hym⟩
  · rw [ha1, ha2]; simp [NumVal.lt]
  · rw [ha1, ha2]; simp [NumVal.lt]
  · rw [hb1, hb2]
    constructor
    · intro h; cases hv : numVal a <;> rw [hv] at h <;> simp [NumVal.lt] at h
    · intro ⟨p, q, _, h, _⟩; exact absurd h (by simp)
  · rw [hxv, hyv, hxm, hym, ← key_lt_iff_numVal hxn hyn]
    simp

end Rare.C13

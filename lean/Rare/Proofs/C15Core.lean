import Rare.Model.C15
/-!
C15 – lemmas shared by the notify and the polling transition systems: the *data invariant*
(delivered = concatenation of the segments of all handles, handle offsets within bounds) and its
preservation by the file operations, by a read, by closing and by opening a handle; and `descent`, the
argument behind every "with a silent writer … eventually" theorem.
-/
namespace Rare.Follow
open Rare.C15.Spec

variable {β : Type}

theorem extract_append_stable (c bs : List β) (a b : Nat) (h : b ≤ c.length ∨ b = a) :
    extract (c ++ bs) a b = extract c a b := by
  unfold extract
  rcases h with h | h
  · by_cases ha : a ≤ c.length
    · rw [List.drop_append_of_le_length ha, List.take_append_of_le_length (by simp; omega)]
    · have : b - a = 0 := by omega
      simp [this]
  · subst h; simp

theorem extract_read (c : List β) (a p n : Nat) (h : a ≤ p) :
    extract c a (p + n) = extract c a p ++ (c.drop p).take n := by
  unfold extract
  have : p + n - a = (p - a) + n := by omega
  rw [this, List.take_add, List.drop_drop]
  have : a + (p - a) = p := by omega
  rw [this]

theorem extract_self (c : List β) (a : Nat) : extract c a a = [] := by simp [extract]

theorem extract_to_end (c : List β) (a : Nat) : extract c a c.length = c.drop a := by
  simp only [extract]
  exact List.take_of_length_le (by simp)

theorem take_ne_nil {l : List β} {n : Nat} (h1 : 1 ≤ n) (hn : n ≤ l.length) : l.take n ≠ [] := by
  intro h0
  have := congrArg List.length h0
  simp only [List.length_take, List.length_nil] at this
  omega

theorem segments_congr (c c' : Nat → List β) (hs : List Handle)
    (h : ∀ x ∈ hs, extract (c' x.ino) x.start x.pos = extract (c x.ino) x.start x.pos) :
    segments c' hs = segments c hs := by
  induction hs with
  | nil => rfl
  | cons x xs ih =>
    simp only [segments, List.flatMap_cons] at ih ⊢
    rw [h x (by simp), ih (fun y hy => h y (by simp [hy]))]

theorem segments_append (c : Nat → List β) (xs ys : List Handle) :
    segments c (xs ++ ys) = segments c xs ++ segments c ys := by
  simp [segments, List.flatMap_append]

theorem segments_single (c : Nat → List β) (h : Handle) :
    segments c [h] = extract (c h.ino) h.start h.pos := by
  simp [segments]

/-- Data invariant. -/
structure Core (fs : FS β) (f : Option Handle) (hist : List Handle) (d : List β) : Prop where
  deliv : d = segments fs.content (hist ++ f.toList)
  bounds : ∀ h ∈ hist ++ f.toList,
    h.start ≤ h.pos ∧ (h.pos ≤ (fs.content h.ino).length ∨ h.pos = h.start) ∧ h.ino < fs.next
  pathLt : ∀ i, fs.path = some i → i < fs.next

variable {fs : FS β} {f : Option Handle} {hist : List Handle} {d : List β}

/-- The data invariant survives every change of the file system that only appends to the files the handles are
    on and never takes an inode number back. -/
theorem Core.mono {fs' : FS β} (h : Core fs f hist d)
    (hc : ∀ x ∈ hist ++ f.toList, ∃ bs, fs'.content x.ino = fs.content x.ino ++ bs)
    (hn : fs.next ≤ fs'.next) (hp : ∀ i, fs'.path = some i → i < fs'.next) : Core fs' f hist d := by
  refine ⟨?_, ?_, hp⟩
  · rw [h.deliv]
    symm
    apply segments_congr
    intro x hx
    obtain ⟨bs, hbs⟩ := hc x hx
    rw [hbs]
    exact extract_append_stable _ _ _ _ (h.bounds x hx).2.1
  · intro x hx
    obtain ⟨bs, hbs⟩ := hc x hx
    have hb := h.bounds x hx
    refine ⟨hb.1, ?_, Nat.lt_of_lt_of_le hb.2.2 hn⟩
    rw [hbs, List.length_append]
    exact hb.2.1.imp_left fun hle => Nat.le_trans hle (Nat.le_add_right _ _)

theorem Core.append (h : Core fs f hist d) (i : Nat) (bs : List β) :
    Core (fs.append i bs) f hist d := by
  refine h.mono (fun x _ => ?_) (Nat.le_refl _) h.pathLt
  simp only [FS.append]
  split
  · next hi => exact ⟨bs, by rw [hi]⟩
  · exact ⟨[], (List.append_nil _).symm⟩

theorem Core.remove (h : Core fs f hist d) : Core fs.remove f hist d :=
  ⟨h.deliv, h.bounds, by intro i hi; cases hi⟩

theorem Core.create (h : Core fs f hist d) : Core fs.create f hist d := by
  refine h.mono (fun x hx => ⟨[], ?_⟩) (Nat.le_succ _) (fun i hi => ?_)
  · have : x.ino ≠ fs.next := Nat.ne_of_lt (h.bounds x hx).2.2
    simp [FS.create, this]
  · simp only [FS.create, Option.some.injEq] at hi
    simp only [FS.create]; omega

theorem Core.read (h : Core fs (some x) hist d) (n : Nat) (hn : n ≤ (unread fs x).length) (h1 : 1 ≤ n) :
    Core fs (some { x with pos := x.pos + n }) hist (d ++ (unread fs x).take n) := by
  have hb := h.bounds x (by simp)
  have hlen : x.pos + n ≤ (fs.content x.ino).length := by
    simp only [unread, List.length_drop] at hn; omega
  refine ⟨?_, ?_, h.pathLt⟩
  · rw [h.deliv]
    simp only [Option.toList_some, segments_append, segments_single, unread]
    rw [extract_read _ _ _ _ hb.1, List.append_assoc]
  · intro y hy
    simp only [Option.toList_some, List.mem_append, List.mem_singleton] at hy
    rcases hy with hy | rfl
    · exact h.bounds y (by simp [hy])
    · exact ⟨by simp; omega, Or.inl hlen, hb.2.2⟩

theorem Core.closeOpt (h : Core fs f hist d) : Core fs none (hist ++ f.toList) d := by
  refine ⟨?_, ?_, h.pathLt⟩
  · simpa using h.deliv
  · simpa using h.bounds

theorem Core.close (h : Core fs (some x) hist d) : Core fs none (hist ++ [x]) d :=
  h.closeOpt

theorem Core.openAt (h : Core fs none hist d) (p : Nat) : Core fs (openAt fs p) hist d := by
  unfold Follow.openAt
  cases hp : fs.path with
  | none => exact h
  | some i =>
    refine ⟨?_, ?_, h.pathLt⟩
    · rw [h.deliv]
      simp [segments_append, segments_single, extract_self]
    · intro y hy
      simp only [Option.toList_some, List.mem_append, List.mem_singleton] at hy
      rcases hy with hy | rfl
      · exact h.bounds y (by simp [hy])
      · exact ⟨Nat.le_refl _, Or.inr rfl, h.pathLt i hp⟩

/-- Reaching a goal by descent.  `R` is a reflexive and transitive "runs to" relation that preserves `I`.  If
    from every `I`-state that satisfies `P` and is not a goal state some run leads to a goal state or to a
    `P`-state with a smaller measure, then from every such state some run leads to a goal state.  (All the
    "with a silent writer goroutine and reader eventually …" theorems are instances.) -/
theorem descent {σ : Type} {R : σ → σ → Prop} (refl : ∀ s, R s s) (trans : ∀ {a b c}, R a b → R b c → R a c)
    {I P G : σ → Prop} (inv : ∀ {a b}, R a b → I a → I b) (μ : σ → Nat)
    (run : ∀ s, I s → P s → ¬ G s → ∃ s', R s s' ∧ (G s' ∨ (P s' ∧ μ s' < μ s))) :
    ∀ s, I s → P s → ∃ s', R s s' ∧ I s' ∧ G s' := by
  suffices H : ∀ k s, μ s < k → I s → P s → ∃ s', R s s' ∧ G s' by
    intro s hI hP
    obtain ⟨s', hr, hG⟩ := H _ s (Nat.lt_succ_self _) hI hP
    exact ⟨s', hr, inv hr hI, hG⟩
  intro k
  induction k with
  | zero => intro s hk; exact absurd hk (Nat.not_lt_zero _)
  | succ k ih =>
    intro s hk hI hP
    by_cases hG : G s
    · exact ⟨s, refl s, hG⟩
    · obtain ⟨s1, hr1, hG1 | ⟨hP1, hlt⟩⟩ := run s hI hP hG
      · exact ⟨s1, hr1, hG1⟩
      · obtain ⟨s2, hr2, hG2⟩ := ih s1 (by omega) (inv hr1 hI) hP1
        exact ⟨s2, trans hr1 hr2, hG2⟩

end Rare.Follow

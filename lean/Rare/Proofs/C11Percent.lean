import Rare.Proofs.C11Float
import Rare.Proofs.C11Str
/-! C11: `{percent v p min max}` at the boundary `min = max` (division by zero as the code has it). -/
namespace Rare.C11
open Rare Rare.Expr Rare.Expr.Funcs

theorem F64.sub_self_zero {m : F64} (hm : m.isFinite = true) : F64.sub m m = F64.zero false := by
  rw [F64.sub_finite hm hm]
  have : m.toRat - m.toRat = 0 := by rw [Rat.sub_eq_add_neg, Rat.add_neg_cancel]
  rw [this]
  simp [F64.ofRatS]

theorem F64.mul_not_nan {x y : F64} (hx : x.isNaN = false) (hy : y.isFinite = true) (hy0 : y.mag ≠ 0) :
    (F64.mul x y).isNaN = false := by
  unfold F64.mul
  have hyn := F64.not_nan_of_finite hy
  have hyi := F64.not_inf_of_finite hy
  have hyz : y.isZero = false := by simp [F64.isZero, hy0]
  simp only [hx, hyn, Bool.or_self, Bool.false_eq_true, if_false, hyi, Bool.or_false, hyz]
  split
  · split
    · rename_i h1 h2
      -- x infinite and zero: impossible
      exfalso
      simp only [F64.isInf, decide_eq_true_eq] at h1
      simp only [F64.isZero, decide_eq_true_eq] at h2
      rw [h2] at h1; revert h1; decide
    · unfold F64.inf; exact F64.isNaN_ofSM _ (Nat.le_refl _)
  · exact F64.isNaN_ofRatS _ _

theorem F64.sub_not_nan_of_finite {x y : F64} (hx : x.isFinite = true) (hy : y.isFinite = true) :
    (F64.sub x y).isNaN = false := by
  rw [F64.sub_finite hx hy]; exact F64.isNaN_ofRatS _ _

theorem F64.isInf_of_not_finite {x : F64} (hn : x.isNaN = false) (hf : ¬ x.isFinite = true) : x.isInf = true := by
  simp only [F64.isNaN, F64.isFinite, F64.isInf, decide_eq_true_eq, decide_eq_false_iff_not] at *
  omega

/-- division of a non-NaN value by `+0`. -/
theorem F64.div_pos_zero {x : F64} (hx : x.isNaN = false) :
    F64.div x (F64.zero false) = if x.mag = 0 then F64.nan else F64.inf x.sign := by
  by_cases hf : x.isFinite = true
  · rw [F64.div_by_zero hf (by decide)]
    have : (F64.zero false).sign = false := by decide
    rw [this]; simp
  · have hi := F64.isInf_of_not_finite hx hf
    have hm : x.mag ≠ 0 := by
      simp only [F64.isInf, decide_eq_true_eq] at hi
      rw [hi]; decide
    unfold F64.div
    have h0 : (F64.zero false).isNaN = false := by decide
    have h1 : (F64.zero false).isInf = false := by decide
    have h2 : (F64.zero false).sign = false := by decide
    simp [hx, h0, hi, h1, h2, hm]

/-- `{percent a p min max}` with a constant precision `p ≤ 1024`; value, min and max constants, groups or keys that
    parse as floats. -/
theorem percent_call4 (c : Ctx) (a mn mx : Arg) (pb : Bytes) (p : Int) (hp : atoi pb = some p) (hmax : p ≤ 1024)
    (x lo hi : F64) (ha : Float.parseF (a.val c) = some x) (hlo : Float.parseF (mn.val c) = some lo)
    (hhi : Float.parseF (mx.val c) = some hi) :
    callHelper Float.kfPercent [a, .const pb, mn, mx] c = .ok (Float.percentStr x lo hi p) := by
  unfold callHelper Float.kfPercent
  have hpm : ¬ (p > Float.maxPrecision) := by unfold Float.maxPrecision; omega
  simp only [List.map_cons, List.map_nil, List.length_cons, List.length_nil, evalArgInt]
  rcases evalTyped_arg_run Float.parseF c mn with ⟨_, hn⟩ | ⟨t1, e1, ht1⟩
  · rw [hlo] at hn; cases hn
  rcases evalTyped_arg_run Float.parseF c mx with ⟨_, hn⟩ | ⟨t2, e2, ht2⟩
  · rw [hhi] at hn; cases hn
  simp [evalStageInt_const, hp, hpm, e1, e2, ok, Comp.bind_eq, Comp.run_bind, Arg.run_stage, ht1, ht2, hlo, hhi, ha]
  rfl

theorem F64.sub_pos_zero {v : F64} (hv : v.isFinite = true) : F64.sub v (F64.zero false) = v := by
  rw [F64.sub_finite hv (by decide)]
  have h0 : (F64.zero false).toRat = 0 := by decide +kernel
  have hs : (F64.zero false).sign = false := by decide
  rw [h0, hs, Rat.sub_eq_add_neg, Rat.neg_zero, Rat.add_zero]
  simpa using F64.ofRatS_toRat v hv

theorem F64.div_one {y : F64} (hn : y.isNaN = false) : F64.div y F64.one = y := by
  have h1 : F64.one.toRat = 1 := by decide +kernel
  have hs : F64.one.sign = false := by decide
  by_cases hf : y.isFinite = true
  · rw [F64.div_finite hf (by decide) (by decide), h1, hs, Rat.div_def, show (1 : Rat)⁻¹ = 1 from by decide +kernel, Rat.mul_one]
    simpa using F64.ofRatS_toRat y hf
  · have hi := F64.isInf_of_not_finite hn hf
    unfold F64.div
    have o1 : F64.one.isNaN = false := by decide
    have o2 : F64.one.isInf = false := by decide
    simp only [hn, o1, hi, o2, hs, Bool.or_self, Bool.false_eq_true, if_false, if_true, Bool.bne_false]
    simp only [F64.isInf, decide_eq_true_eq] at hi
    have := F64.ofSM_sign_mag y
    rw [hi] at this; exact this

end Rare.C11

import Rare.Proofs.C09Pos
import Rare.Spec.C09All
import Rare.Model.Expr.Std
import Rare.Model.C09Sig
/-! C09: the errors `Compile` reports are exactly `allErrs` – builder errors included – for registries with an
    arity signature. -/
namespace Rare.C09
open Rare Rare.Expr

def repKindOf : ErrKind → RepKind
  | .unterminated => .syn .unterminated
  | .emptyStatement => .syn .emptyStatement
  | .missingFunction => .syn .missingFunction
  | .func tag => .builder tag

/-- A recorded error as a reported error (nothing dropped). -/
def repOf (e : CErr) : RepErr := ⟨repKindOf e.kind, e.context, e.index⟩

/-- The registry has the signature: the same names, and every builder's error value is the signature's answer
    for the number of arguments it was called with. -/
structure HasSig (reg : Registry) (sig : Sig) : Prop where
  known : ∀ name, reg name = none ↔ sig name = none
  err : ∀ name f ar, reg name = some f → sig name = some ar →
    ∀ cargs b, f cargs = .ok b → b.err = ar cargs.length

theorem repOf_shift (l : List CErr) (k : Nat) :
    (l.map fun e => ({ e with index := e.index + k } : CErr)).map repOf = (l.map repOf).map (RepErr.shift k) := by
  simp only [List.map_map]
  apply List.map_congr_left
  intro e _
  rfl

theorem close_all (g : Nat) (reg : Registry) (opt : Bool) (sig : Sig) (inner : List Char → List RepErr)
    (hsig : HasSig reg sig) (all : List Char) (i : Nat) (st st' : CompSt)
    (hA : ∀ a s e, compileF g reg opt a = .ok (s, e) → e.map repOf = inner a)
    (h : closeStatement g reg opt all i st = .ok st') :
    st'.errs.map repOf = st.errs.map repOf ++ stmtErrsA splitArgs sig inner all ⟨st.startStatement, i, st.sb⟩ ∧
      st'.startStatement = st.startStatement := by
  obtain ⟨hstart, he⟩ := close_errs g reg opt all i st st' h
  refine ⟨?_, hstart⟩
  unfold stmtErrsA
  match hs : splitArgs st.sb with
  | [] => simp only [hs] at he; rw [he, List.map_append]; rfl
  | [a] => simp only [hs] at he; rw [he]; simp
  | name :: b :: r =>
    simp only [hs] at he
    cases hr : reg name with
    | none =>
      simp only [hr] at he
      rw [he, List.map_append]
      simp only [(hsig.known name).mp hr]; rfl
    | some f =>
      simp only [hr] at he
      obtain ⟨cargs, aerrs, bt, hc, hf, he⟩ := he
      cases hsn : sig name with
      | none => rw [(hsig.known name).mpr hsn] at hr; cases hr
      | some ar =>
        obtain ⟨hargs, hlen⟩ := args_errs g reg opt (List.map repOf) (fun _ _ => List.map_append) rfl inner (b :: r)
          (fun a _ => hA a) cargs aerrs hc
        have herr := hsig.err name f ar hr hsn cargs bt hf
        rw [hlen] at herr
        simp only [hsn]
        rw [he, List.map_append, List.map_append, repOf_shift, hargs, ← herr, List.append_assoc]
        cases bt.err <;> rfl

/-- **The complete list**, at every fuel at which `compileF` answers. -/
theorem compileF_all (reg : Registry) (opt : Bool) (sig : Sig) (hsig : HasSig reg sig) :
    ∀ (f : Nat) (t : List Char) s e, compileF f reg opt t = .ok (s, e) →
      e.map repOf = allErrsF splitArgs sig f t :=
  compileF_errs reg opt (List.map repOf) (fun _ _ => List.map_append) rfl (allErrsF splitArgs sig)
    (stmtErrsA splitArgs sig) (fun t => (openErr t).map RepErr.ofSyn) (fun _ _ => rfl)
    (fun t => by unfold openErr; cases openStart t <;> rfl)
    fun g all i st st' hA h => close_all g reg opt sig _ hsig all i st st' hA h

/-! ### fuel -/

theorem stmtErrsA_congr (split : List Char → List (List Char)) (sig : Sig)
    (i1 i2 : List Char → List RepErr) (t : List Char) (s : Stmt) (h : ∀ a ∈ split s.body, i1 a = i2 a) :
    stmtErrsA split sig i1 t s = stmtErrsA split sig i2 t s := by
  unfold stmtErrsA
  match hs : split s.body with
  | [] => rfl
  | [_] => rfl
  | name :: x :: xs =>
    simp only []
    have : (x :: xs).flatMap i1 = (x :: xs).flatMap i2 := by
      apply flatMap_congr'
      intro a ha
      exact h a (by rw [hs]; exact List.mem_cons_of_mem _ ha)
    rw [this]

theorem allErrs_unfold_gen (split : List Char → List (List Char)) (sig : Sig)
    (hsplit : ∀ b a, a ∈ split b → a.length ≤ b.length) (t : List Char) :
    allErrs split sig t =
      (stmts t).flatMap (stmtErrsA split sig (allErrs split sig) t) ++ (openErr t).map RepErr.ofSyn :=
  errsF_unfold split hsplit (allErrsF split sig) (stmtErrsA split sig) (fun t => (openErr t).map RepErr.ofSyn)
    (fun _ _ => rfl) (stmtErrsA_congr split sig) t

/-! ### dropping the builder errors gives `synErrs` -/

theorem synPart_shift (l : List RepErr) (k : Nat) :
    (l.map (RepErr.shift k)).filterMap RepErr.synPart = (l.filterMap RepErr.synPart).map (SynErr.shift k) := by
  rw [List.filterMap_map, List.map_filterMap]
  congr 1
  funext e
  obtain ⟨kind, c, i⟩ := e
  cases kind <;> rfl

theorem synPart_ofSyn (l : List SynErr) : (l.map RepErr.ofSyn).filterMap RepErr.synPart = l := by
  induction l with
  | nil => rfl
  | cons e r ih => simp [RepErr.ofSyn, RepErr.synPart] at ih ⊢; exact ih

theorem headErrs_synPart (o : Option (Nat → Option String)) (A : List RepErr) (B : List SynErr)
    (body : List Char) (start n : Nat) (hAB : A.filterMap RepErr.synPart = B) :
    (match o with
      | none => [(⟨.syn .missingFunction, body, start⟩ : RepErr)]
      | some ar => A ++ (match ar n with
        | some msg => [(⟨.builder msg, body, start⟩ : RepErr)]
        | none => [])).filterMap RepErr.synPart =
      if o.isSome then B else [⟨.missingFunction, body, start⟩] := by
  cases o with
  | none => simp [RepErr.synPart]
  | some ar =>
    simp only [Option.isSome_some, if_true, List.filterMap_append, hAB]
    cases ar n with
    | none => simp
    | some m => simp [RepErr.synPart]

theorem stmtErrsA_synPart (split : List Char → List (List Char)) (sig : Sig)
    (innerA : List Char → List RepErr) (innerS : List Char → List SynErr) (t : List Char) (s : Stmt)
    (h : ∀ a ∈ split s.body, (innerA a).filterMap RepErr.synPart = innerS a) :
    (stmtErrsA split sig innerA t s).filterMap RepErr.synPart =
      stmtErrs split (fun n => (sig n).isSome) innerS t s := by
  unfold stmtErrsA stmtErrs
  match hs : split s.body with
  | [] => simp [RepErr.synPart]
  | [_] => rfl
  | name :: x :: xs =>
    simp only []
    have hin : ((x :: xs).flatMap fun a => (innerA a).filterMap RepErr.synPart) = (x :: xs).flatMap innerS := by
      apply flatMap_congr'
      intro a ha
      exact h a (by rw [hs]; exact List.mem_cons_of_mem _ ha)
    exact headErrs_synPart (sig name) _ _ s.body s.start (x :: xs).length (by rw [synPart_shift, List.filterMap_flatMap, hin])

theorem allErrsF_synPart (split : List Char → List (List Char)) (sig : Sig) :
    ∀ (f : Nat) (t : List Char),
      (allErrsF split sig f t).filterMap RepErr.synPart = synErrsF split (fun n => (sig n).isSome) f t := by
  intro f
  induction f with
  | zero => intro t; rfl
  | succ f ih =>
    intro t
    rw [allErrsF, synErrsF, List.filterMap_append, synPart_ofSyn, List.filterMap_flatMap]
    congr 1
    apply flatMap_congr'
    intro s _
    exact stmtErrsA_synPart split sig _ _ t s (fun a _ => ih a)

/-! ### instances -/

theorem testRegistry_hasSig : HasSig testRegistry testSig := by
  constructor
  · intro name
    unfold testRegistry testSig pureRegistry
    by_cases h1 : name = "bad".toList
    · simp [h1]
    · by_cases h2 : name = "nil".toList
      · simp [h2]
      · simp only [h1, h2, if_false]
        by_cases h3 : probeNames.contains name = true <;> simp [h3]
  · intro name f ar hr hs cargs b hf
    unfold testRegistry pureRegistry at hr
    unfold testSig at hs
    have hnb : ¬ ("nil".toList = "bad".toList) := by decide
    by_cases h1 : name = "bad".toList
    · subst h1
      simp only [if_true, Option.some.injEq] at hr hs
      subst hr; subst hs; cases hf; rfl
    · by_cases h2 : name = "nil".toList
      · subst h2
        simp only [hnb, if_true, if_false, Option.some.injEq] at hr hs
        subst hr; subst hs; cases hf; rfl
      · simp only [h1, h2, if_false] at hr hs
        by_cases h3 : probeNames.contains name = true
        · simp only [h3, if_true, Option.some.injEq] at hr hs
          subst hr; subst hs
          simp only [pureBuilder, Except.ok.injEq] at hf
          subst hf; rfl
        · simp only [h3, if_false, Bool.false_eq_true] at hs
          cases hs

/-- A builder whose only error is the argument count: `ar n` says whether `n` arguments are accepted. -/
def ArityOnly (f : Builder) (ar : Nat → Bool) : Prop :=
  ∀ cargs b, f cargs = .ok b → b.err = if ar cargs.length then none else some "argcount"

theorem arity1 {f : Builder} (h0 : f [] = errArgCount) (h1 : ∀ a, ∃ s, f [a] = Rare.Expr.ok s)
    (h2 : ∀ a b r, f (a :: b :: r) = errArgCount) : ArityOnly f (fun n => n == 1) := by
  intro cargs b h
  match cargs, h with
  | [], h => rw [h0] at h; cases h; rfl
  | [a], h => obtain ⟨s, hs⟩ := h1 a; rw [hs] at h; cases h; rfl
  | a :: c :: r, h => rw [h2] at h; cases h; simp

theorem arity2 {f : Builder} (h0 : f [] = errArgCount) (h1 : ∀ a, f [a] = errArgCount) (h2 : ∀ a b, ∃ s, f [a, b] = Rare.Expr.ok s)
    (h3 : ∀ a b c r, f (a :: b :: c :: r) = errArgCount) : ArityOnly f (fun n => n == 2) := by
  intro cargs b h
  match cargs, h with
  | [], h => rw [h0] at h; cases h; rfl
  | [a], h => rw [h1] at h; cases h; rfl
  | [a, c], h => obtain ⟨s, hs⟩ := h2 a c; rw [hs] at h; cases h; rfl
  | a :: c :: d :: r, h => rw [h3] at h; cases h; simp

theorem arity3 {f : Builder} (h0 : f [] = errArgCount) (h1 : ∀ a, f [a] = errArgCount) (h2 : ∀ a b, f [a, b] = errArgCount)
    (h3 : ∀ a b c, ∃ s, f [a, b, c] = Rare.Expr.ok s) (h4 : ∀ a b c d r, f (a :: b :: c :: d :: r) = errArgCount) :
    ArityOnly f (fun n => n == 3) := by
  intro cargs b h
  match cargs, h with
  | [], h => rw [h0] at h; cases h; rfl
  | [a], h => rw [h1] at h; cases h; rfl
  | [a, c], h => rw [h2] at h; cases h; rfl
  | [a, c, d], h => obtain ⟨s, hs⟩ := h3 a c d; rw [hs] at h; cases h; rfl
  | a :: c :: d :: e :: r, h => rw [h4] at h; cases h; simp

theorem arityAny {f : Builder} (h : ∀ cargs, ∃ s, f cargs = Rare.Expr.ok s) : ArityOnly f (fun _ => true) := by
  intro cargs b hb
  obtain ⟨s, hs⟩ := h cargs; rw [hs] at hb; cases hb; rfl

theorem arityGe2 {f : Builder} (h0 : f [] = errArgCount) (h1 : ∀ a, f [a] = errArgCount)
    (h2 : ∀ a b r, ∃ s, f (a :: b :: r) = Rare.Expr.ok s) : ArityOnly f (fun n => decide (2 ≤ n)) := by
  intro cargs b h
  match cargs, h with
  | [], h => rw [h0] at h; cases h; rfl
  | [a], h => rw [h1] at h; cases h; rfl
  | a :: c :: r, h => obtain ⟨s, hs⟩ := h2 a c r; rw [hs] at h; cases h; simp

def ArityAll : List (String × (Nat → Bool)) → Prop
  | [] => True
  | p :: rest => (∃ f, lookupTable stdTable p.1 = some f ∧ ArityOnly f p.2) ∧ ArityAll rest

theorem arityAll_mem : ∀ {l : List (String × (Nat → Bool))}, ArityAll l → ∀ p ∈ l,
    ∃ f, lookupTable stdTable p.1 = some f ∧ ArityOnly f p.2
  | [], _, p, hp => by cases hp
  | q :: rest, h, p, hp => by
    rcases List.mem_cons.mp hp with rfl | hp
    · exact h.1
    · exact arityAll_mem h.2 p hp

section
open Funcs Funcs.Logic Funcs.Strings Funcs.Arith Funcs.Float Funcs.Misc Funcs.Range

theorem switch_arity : ArityOnly kfSwitch (fun n => decide (2 ≤ n)) := by
  intro cargs b h
  unfold kfSwitch at h
  by_cases hl : cargs.length ≤ 1
  · simp only [hl, if_true] at h; cases h
    have : ¬ 2 ≤ cargs.length := by omega
    simp [this]
  · simp only [hl, if_false] at h; cases h
    have : 2 ≤ cargs.length := by omega
    simp [this]

theorem csv_arity : ArityOnly kfCsv (fun _ => true) := arityAny fun cargs => by
  cases cargs with
  | nil => exact ⟨_, rfl⟩
  | cons a r => exact ⟨_, rfl⟩

theorem join_arity (d : Bytes) : ArityOnly (Strings.kfJoin d) (fun _ => true) := arityAny fun cargs => by
  match cargs with
  | [] => exact ⟨_, rfl⟩
  | [a] => exact ⟨_, rfl⟩
  | a :: b :: r => exact ⟨_, rfl⟩

theorem joinArgs_arity (d : UInt8) : ArityOnly (joinArgs d) (fun _ => true) := arityAny fun cargs => by
  match cargs with
  | [] => exact ⟨_, rfl⟩
  | [a] => exact ⟨_, rfl⟩
  | a :: b :: r => exact ⟨_, rfl⟩

theorem arityNames_all : ArityAll arityNames :=
  ⟨⟨_, rfl, arityAny fun _ => ⟨_, rfl⟩⟩, ⟨_, rfl, arityAny fun _ => ⟨_, rfl⟩⟩, ⟨_, rfl, arityAny fun _ => ⟨_, rfl⟩⟩,
   ⟨_, rfl, arityGe2 rfl (fun _ => rfl) fun _ _ _ => ⟨_, rfl⟩⟩, ⟨_, rfl, arityGe2 rfl (fun _ => rfl) fun _ _ _ => ⟨_, rfl⟩⟩,
   ⟨_, rfl, switch_arity⟩,
   ⟨_, rfl, arity1 rfl (fun _ => ⟨_, rfl⟩) fun _ _ _ => rfl⟩,
   ⟨_, rfl, arity2 rfl (fun _ => rfl) (fun _ _ => ⟨_, rfl⟩) fun _ _ _ _ => rfl⟩,
   ⟨_, rfl, arity1 rfl (fun _ => ⟨_, rfl⟩) fun _ _ _ => rfl⟩,
   ⟨_, rfl, arity1 rfl (fun _ => ⟨_, rfl⟩) fun _ _ _ => rfl⟩,
   ⟨_, rfl, arity1 rfl (fun _ => ⟨_, rfl⟩) fun _ _ _ => rfl⟩,
   ⟨_, rfl, arity1 rfl (fun _ => ⟨_, rfl⟩) fun _ _ _ => rfl⟩,
   ⟨_, rfl, arity1 rfl (fun _ => ⟨_, rfl⟩) fun _ _ _ => rfl⟩,
   ⟨_, rfl, arity1 rfl (fun _ => ⟨_, rfl⟩) fun _ _ _ => rfl⟩,
   ⟨_, rfl, arity1 rfl (fun _ => ⟨_, rfl⟩) fun _ _ _ => rfl⟩,
   ⟨_, rfl, arity1 rfl (fun _ => ⟨_, rfl⟩) fun _ _ _ => rfl⟩,
   ⟨_, rfl, arity1 rfl (fun _ => ⟨_, rfl⟩) fun _ _ _ => rfl⟩,
   ⟨_, rfl, arity1 rfl (fun _ => ⟨_, rfl⟩) fun _ _ _ => rfl⟩,
   ⟨_, rfl, arity1 rfl (fun _ => ⟨_, rfl⟩) fun _ _ _ => rfl⟩,
   ⟨_, rfl, arity1 rfl (fun _ => ⟨_, rfl⟩) fun _ _ _ => rfl⟩,
   ⟨_, rfl, arity1 rfl (fun _ => ⟨_, rfl⟩) fun _ _ _ => rfl⟩,
   ⟨_, rfl, arity2 rfl (fun _ => rfl) (fun _ _ => ⟨_, rfl⟩) fun _ _ _ _ => rfl⟩,
   ⟨_, rfl, arity2 rfl (fun _ => rfl) (fun _ _ => ⟨_, rfl⟩) fun _ _ _ _ => rfl⟩,
   ⟨_, rfl, arity2 rfl (fun _ => rfl) (fun _ _ => ⟨_, rfl⟩) fun _ _ _ _ => rfl⟩,
   ⟨_, rfl, arity2 rfl (fun _ => rfl) (fun _ _ => ⟨_, rfl⟩) fun _ _ _ _ => rfl⟩,
   ⟨_, rfl, arity2 rfl (fun _ => rfl) (fun _ _ => ⟨_, rfl⟩) fun _ _ _ _ => rfl⟩,
   ⟨_, rfl, arity2 rfl (fun _ => rfl) (fun _ _ => ⟨_, rfl⟩) fun _ _ _ _ => rfl⟩,
   ⟨_, rfl, arity3 rfl (fun _ => rfl) (fun _ _ => rfl) (fun _ _ _ => ⟨_, rfl⟩) fun _ _ _ _ _ => rfl⟩,
   ⟨_, rfl, arity3 rfl (fun _ => rfl) (fun _ _ => rfl) (fun _ _ _ => ⟨_, rfl⟩) fun _ _ _ _ _ => rfl⟩,
   ⟨_, rfl, join_arity _⟩, ⟨_, rfl, join_arity _⟩, ⟨_, rfl, join_arity _⟩, ⟨_, rfl, csv_arity⟩,
   trivial⟩

end

theorem arityLookup_mem {name : List Char} {ar : Nat → Bool} (h : arityLookup name = some ar) :
    (String.ofList name, ar) ∈ arityNames := by
  unfold arityLookup at h
  cases hf : arityNames.find? (·.1 == String.ofList name) with
  | none => rw [hf] at h; cases h
  | some p =>
    rw [hf] at h
    simp only [Option.map_some, Option.some.injEq] at h
    have hm := List.mem_of_find?_eq_some hf
    have hn := List.find?_some hf
    simp only [beq_iff_eq] at hn
    obtain ⟨a, b⟩ := p
    simp only at hn h
    subst hn; subst h; exact hm

theorem arityRegistry_hasSig : HasSig arityRegistry aritySig := by
  constructor
  · intro name
    unfold arityRegistry aritySig
    cases hl : arityLookup name with
    | none => simp
    | some ar =>
      obtain ⟨f, hf, _⟩ := arityAll_mem arityNames_all _ (arityLookup_mem hl)
      simp [hf]
  · intro name f ar hr hs cargs b hf
    unfold arityRegistry at hr
    unfold aritySig at hs
    cases hl : arityLookup name with
    | none => rw [hl] at hr; cases hr
    | some ar' =>
      rw [hl] at hr hs
      simp only [Option.map_some, Option.some.injEq] at hs
      obtain ⟨f', hf', ha⟩ := arityAll_mem arityNames_all _ (arityLookup_mem hl)
      simp only at hr
      rw [hf'] at hr
      cases hr
      subst hs
      exact ha cargs b hf

end Rare.C09

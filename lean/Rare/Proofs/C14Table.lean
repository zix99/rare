import Rare.Proofs.C14Layout
import Rare.Proofs.C14Utf8
/-!
Visible width (`color.StrLen`) of a text followed by filler characters: the key step of column alignment
(`TableWriter.writeRow` pads with blanks, the sparkline header with dots).
-/
namespace Rare.C14
open Rare Rare.C20

/-- state of the `StrLen` scanner (inside a colour sequence?) after some runes -/
def codeState : Bool → List Nat → Bool
  | st, [] => st
  | st, r :: rest => if r = 27 then codeState true rest else if st && r = 109 then codeState false rest else codeState st rest

theorem codeState_append (a b : List Nat) : ∀ st : Bool, codeState st (a ++ b) = codeState (codeState st a) b := by
  induction a with
  | nil => intro st; rfl
  | cons r rest ih =>
    intro st
    simp only [List.cons_append, codeState]
    split
    · exact ih _
    · split
      · exact ih _
      · exact ih _

theorem strLenGo_append (a b : List Nat) : ∀ (st : Bool) (n : Nat),
    strLenGo st (a ++ b) n = strLenGo (codeState st a) b (strLenGo st a n) := by
  induction a with
  | nil => intro st n; rfl
  | cons r rest ih =>
    intro st n
    simp only [List.cons_append, strLenGo, codeState]
    by_cases h1 : r = 27
    · simp [h1, ih]
    · by_cases h2 : (st && r = 109) = true
      · simp only [h1, if_false, h2, if_true]; exact ih _ _
      · simp only [h1, if_false, h2]
        cases st <;> simp [ih]

theorem strLenGo_acc (l : List Nat) : ∀ (st : Bool) (n : Nat), strLenGo st l n = n + strLenGo st l 0 := by
  induction l with
  | nil => intro st n; simp [strLenGo]
  | cons r rest ih =>
    intro st n
    simp only [strLenGo]
    split
    · exact ih _ _
    · split
      · exact ih _ _
      · split
        · rw [ih _ (n + 1), ih _ (0 + 1)]; omega
        · exact ih _ _

theorem codeState_fill (r : Nat) (hr : r ≠ 27) (k : Nat) : codeState false (List.replicate k r) = false := by
  induction k with
  | zero => rfl
  | succ k ih => simp [List.replicate_succ, codeState, hr, ih]

theorem strLenGo_fill (r : Nat) (hr : r ≠ 27) (k : Nat) (rest : List Nat) (n : Nat) :
    strLenGo false (List.replicate k r ++ rest) n = strLenGo false rest (n + k) := by
  induction k generalizing n with
  | zero => simp
  | succ k ih =>
    simp only [List.replicate_succ, List.cons_append, strLenGo, hr, if_false, Bool.false_and, Bool.false_eq_true, Bool.not_false, if_true]
    rw [ih]; congr 1; omega

/-- the text does not end inside a colour sequence -/
def Terminated (env : Env) (c : Bytes) : Prop := env.color = true → codeState false (decodeUtf8 c) = false

theorem strLen_nil (env : Env) : strLen env [] = 0 := by
  unfold strLen; split <;> rfl

/-- a text, at least one ASCII filler character, anything: the three decode separately, whatever the text ends with
(truncated UTF-8 included) -/
theorem decodeUtf8_fill (x : UInt8) (hx : x.toNat < 0x80) (c : Bytes) (m : Nat) (rest : Bytes) :
    decodeUtf8 (c ++ List.replicate (m + 1) x ++ rest) = decodeUtf8 c ++ List.replicate (m + 1) x.toNat ++ decodeUtf8 rest := by
  rw [List.replicate_succ, List.append_assoc, List.cons_append, decodeUtf8_before_ascii c x hx]
  rw [decodeUtf8_asciiList _ (by intro y hy; rw [List.eq_of_mem_replicate hy]; exact hx)]
  simp [List.replicate_succ]

/-- … and the visible widths add up, for EVERY text `c` that does not end inside a colour sequence -/
theorem strLen_fill_append (env : Env) (x : UInt8) (hx : x.toNat < 0x80) (hne : x.toNat ≠ 27) (c : Bytes) (m : Nat) (rest : Bytes)
    (ht : Terminated env c) :
    strLen env (c ++ List.replicate (m + 1) x ++ rest) = strLen env c + (m + 1 : Nat) + strLen env rest := by
  unfold strLen
  rw [decodeUtf8_fill x hx]
  by_cases hcol : env.color
  · have ht' := ht hcol
    simp only [hcol, Bool.not_true, Bool.false_eq_true, if_false]
    rw [List.append_assoc, strLenGo_append, ht', strLenGo_fill _ hne, strLenGo_acc]
    omega
  · simp only [hcol, Bool.not_false, if_true]
    simp only [List.length_append, List.length_replicate]
    omega

theorem writeRepeat_byte {r : Nat} {x : UInt8} (h : encodeRune r = [x]) (n : Nat) : writeRepeat r (n : Int) = List.replicate n x := by
  unfold writeRepeat
  rw [h, Int.toNat_natCast, List.flatten_replicate_singleton]

/-- a cell padded by `writeRow` to width `w ≥ StrLen(cell)` plus the separating blank is exactly
`w + 1` cells wide, whatever the cell contains (multi-byte, colour sequences) -/
theorem padded_width (env : Env) (c : Bytes) (w : Int) (hw : strLen env c ≤ w) (hc : Clean c) (ht : Terminated env c) :
    strLen env (c ++ spaces (w - strLen env c) ++ [32]) = w + 1 := by
  have hn := strLen_nonneg env c
  have hpad : c ++ spaces (w - strLen env c) ++ [32] = c ++ List.replicate ((w - strLen env c).toNat + 1) (32 : UInt8) ++ [] := by
    simp [spaces, List.replicate_succ', List.append_assoc]
  rw [hpad, strLen_fill_append env 32 (by decide) (by decide) c _ [] ht, strLen_nil]
  omega

end Rare.C14

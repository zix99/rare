import Rare.Proofs.C12Go
/-! `stringslite.Index` as compiled for amd64 (`goIndexAmd64`, `Model/C12Go.lean`) computes the
contract `stringsIndex`, GIVEN the documented contract of the assembly routine `bytealg.IndexString`
for needles of 2 … MaxLen bytes. -/
namespace Rare.C12

theorem goIndexLoopAsm_succ (asm : Bytes → Bytes → Int) (s sub : Bytes) (c0 c1 : UInt8) (t fuel i fails : Nat) :
    goIndexLoopAsm asm s sub c0 c1 t (fuel + 1) i fails =
      skipStep s sub c0 c1 t i fun i =>
        if fails + 1 > cutoverAmd64 i then
          (if asm (s.drop i) sub ≥ 0 then asm (s.drop i) sub + (i : Int) else -1)
        else goIndexLoopAsm asm s sub c0 c1 t fuel i (fails + 1) := rfl

section Asm
variable (maxLen : Nat) (asm : Bytes → Bytes → Int)
  (hasm : ∀ s' u : Bytes, 2 ≤ u.length → u.length ≤ maxLen → asm s' u = stringsIndex s' u)
include hasm

theorem goIndexLoopAsm_eq (s rest : Bytes) (c0 c1 : UInt8) (t : Nat) (ht : t + rest.length + 1 = s.length)
    (hmax : rest.length + 2 ≤ maxLen) :
    ∀ (fuel i fails : Nat), t - i < fuel → (∀ j < i, ¬ (c0 :: c1 :: rest) <+: s.drop j) →
      goIndexLoopAsm asm s (c0 :: c1 :: rest) c0 c1 t fuel i fails = stringsIndex s (c0 :: c1 :: rest) := by
  intro fuel
  induction fuel with
  | zero => intro i fails h; omega
  | succ fuel ih =>
    intro i fails hfuel hmin
    rw [goIndexLoopAsm_succ]
    refine skipStep_eq ht hmin fun i' hi hit hmin' => ?_
    have hfuel' : t - i' < fuel := by omega
    split
    · -- the rest handed to the routine may be one byte shorter than the needle
      rw [hasm _ _ (by simp) (by simpa using hmax), stringsIndex_drop (k := i') (by omega) hmin']
      have := stringsIndex_ge (s.drop i') (c0 :: c1 :: rest)
      split <;> split <;> omega
    · exact ih i' (fails + 1) hfuel' hmin'

/-- `stringslite.Index` on amd64 computes the contract, given the contract of the assembly routine. -/
theorem goIndexAmd64_eq (s sub : Bytes) : goIndexAmd64 maxLen asm s sub = stringsIndex s sub := by
  unfold goIndexAmd64
  split
  · simp [stringsIndex, firstIndex_nil]
  · exact goIndexByte_eq s _
  · rename_i c0 c1 rest
    refine goIndex_arms _ _ _ _ _ fun h => ?_
    split
    · rename_i h3
      split
      · exact hasm _ _ (by simp) (by simpa using h3)
      · exact goIndexLoopAsm_eq maxLen asm hasm s rest c0 c1 _ (by omega) h3 _ 0 0 (by omega) (by omega)
    · exact goIndexLoop_eq indexRabinKarp indexRabinKarp_eq s rest c0 c1 _ (by omega) _ 0 0 (by omega) (by omega)

end Asm

end Rare.C12

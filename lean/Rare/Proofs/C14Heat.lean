import Rare.Proofs.C14Render
/-!
What the heatmap and the sparkline draw: a heat cell, a spark glyph, a heatmap row, a sparkline row (`IsHeatCell`,
`IsHeatRow`, `IsSparkRow`), the pieces of `WriteTable` that do not touch a float (header note, displayed columns), and
the sparkline header `First...Last`, which spans the sparkline (c54b92c).  The renderers themselves are in
`C14RenderU.lean`.
-/
namespace Rare.C14
open Rare Rare.C20

/-! ### cells are one visible cell wide -/

theorem sparkGlyph_width (env : Env) (c : Bytes) (h : IsSparkGlyph c) : strLen env c = 1 := by
  obtain ⟨g, hg, rfl⟩ := h
  have : ∀ g ∈ sparkBlocks ++ sparkAscii, strLen env (encodeRune g) = 1 := by
    obtain ⟨col, uni⟩ := env
    cases col <;> cases uni <;> decide +kernel
  exact this g (by simp [hg])

/-- what `HeatWrite` writes: one character, or one coloured block -/
def IsHeatCell (env : Env) (c : Bytes) : Prop :=
  c ∈ heatmapAscii ∨ ∃ hc ∈ heatmapColors, c = wrap env hc (encodeRune (if env.unicode then fullBlock else heatmapNonUnicode))

section
variable {L2 L10 : Rat → Rat}

/-- the body of the row loop of `Heatmap.WriteTable` -/
def heatRowStep (A : Arith Rat) (env : Env) (rkeys : List Bytes) (c : Cells) (shownCols : List Nat)
    (st : Heatmap × VirtualTerm) (ri : Nat × Nat) : Res (Heatmap × VirtualTerm) :=
  st.1.writeRow A env st.2 ri.2 (keyAt rkeys ri.1) (shownCols.map (c.value ri.1))

/-- what a drawn heatmap row looks like: the key, padding blanks, one cell per displayed column -/
def IsHeatRow (env : Env) (key : Bytes) (ncols : Nat) (line : Bytes) : Prop :=
  ∃ pad cells, line = wrap env cYellow key ++ writeRepeat 32 pad ++ List.flatten cells ∧ cells.length = ncols ∧
    ∀ cell ∈ cells, IsHeatCell env cell

theorem heat_writeRows_eq (env : Env) (h : Heatmap) (vt : VirtualTerm) (rkeys : List Bytes) (c : Cells) (shownCols rows : List Nat) :
    h.writeRows (ratArith L2 L10) env vt rkeys c shownCols rows
      = (rows.zipIdx 0).foldlM (heatRowStep (ratArith L2 L10) env rkeys c shownCols) (h, vt) := rfl

/-- `WriteHeader`: the header is the loop's text, plus the column note exactly when columns are cut -/
theorem headerText_note (env : Env) (h : Heatmap) (names : List Bytes) (r : Bytes × Int) (hr : h.headerText env names = .ok r) :
    ∃ body, r.1 = (if mini (names.length : Int) h.colCount < names.length
      then body ++ wrap env cBrightBlack ([32] ++ moreNote ((names.length : Int) - h.colCount)) else body) := by
  unfold Heatmap.headerText at hr
  simp only [bind, Except.bind, pure, Except.pure] at hr
  split at hr
  · cases hr
  · rename_i body _
    cases hr
    exact ⟨body, rfl⟩

theorem sliceTo_ok {α : Type} (l : List α) (n : Int) (h0 : 0 ≤ n) (h1 : n ≤ l.length) : sliceTo l n = .ok (l.take n.toNat) := by
  unfold sliceTo; rw [if_neg (by omega)]

theorem mini_nonneg {a b : Int} (ha : 0 ≤ a) (hb : 0 ≤ b) : 0 ≤ mini a b := by unfold mini; split <;> omega
theorem mini_le_left (a b : Int) : mini a b ≤ a := by unfold mini; split <;> omega
theorem mini_le_right (a b : Int) : mini a b ≤ b := by unfold mini; split <;> omega

/-! ### sparkline -/

theorem mapM_eq_map {α β : Type} (f : α → Res β) (g : α → β) (l : List α) (h : ∀ x ∈ l, f x = .ok (g x)) :
    l.mapM f = .ok (l.map g) := by
  induction l with
  | nil => rfl
  | cons x r ih =>
    rw [List.mapM_cons, h x (by simp), ih (fun z hz => h z (by simp [hz]))]
    rfl

/-- the cells of a sparkline row: key, first value, one glyph per displayed column, last value -/
def IsSparkRow (env : Env) (s : Spark) (rkeys : List Bytes) (c : Cells) (colIdx : List Nat) (r : Nat) (row : List Bytes) : Prop :=
  ∃ cells first last, row = [wrap env cYellow (keyAt rkeys r), wrap env cBrightBlack first, List.flatten cells, wrap env cBrightBlack last] ∧
    cells.length = colIdx.length ∧ (∀ cell ∈ cells, IsSparkGlyph cell) ∧
    (∀ f l, colIdx.head? = some f → colIdx.getLast? = some l →
      first = s.fmt.apply (c.value r f) c.minMax.1 c.minMax.2 ∧ last = s.fmt.apply (c.value r l) c.minMax.1 c.minMax.2)

theorem spark_shownCols_ok (s : Spark) (hcc : 0 ≤ s.colCount) (c : Cells) :
    ∃ colIdx, s.shownCols c = .ok colIdx ∧ (colIdx.length : Int) = mini c.cols.length s.colCount := by
  unfold Spark.shownCols
  simp only
  split
  · rename_i hgt
    unfold sliceFrom
    rw [if_neg (by omega)]
    refine ⟨_, rfl, ?_⟩
    rw [List.length_drop]; unfold mini; split <;> omega
  · rename_i hle
    refine ⟨_, rfl, ?_⟩
    unfold mini; split <;> omega

theorem runOps_append (env : Env) (st : TableWriter × VirtualTerm) (a b : List TableOp) :
    TableWriter.runOps env st (a ++ b) = (do let st' ← TableWriter.runOps env st a; TableWriter.runOps env st' b) := by
  unfold TableWriter.runOps; rw [List.foldlM_append]

/-! ### histogram and bar graph lines: the number shown -/

/-- a histogram line: the key column, then the count under the formatter with the CURRENT maximum -/
def Histo.lineHead (env : Env) (h : Histo) (key : Bytes) (val : Int) : Bytes :=
  wrap env cYellow (padVis env key h.textSpacing) ++ ascii "    " ++ padRight (h.fmt.apply val 0 h.maxVal) 10

/-! ### the sparkline header spans the sparkline (c54b92c) -/

/-- when the first and the last column name fit next to each other, the `First...Last` text is exactly as
wide as the sparkline below it (one cell per displayed column), so the last name ends above the last
column – for multi-byte names too (c54b92c); otherwise it is the two names back to back -/
theorem spark_header_spans (env : Env) (names : List Bytes) (ht : Terminated env names.head!)
    (hfit : strLen env names.head! + strLen env names.getLast! < names.length) :
    strLen env (sparkHeaderText env names) = names.length := by
  unfold sparkHeaderText
  simp only
  have h1 := strLen_nonneg env names.head!
  have h2 := strLen_nonneg env names.getLast!
  rw [if_neg (by omega)]
  obtain ⟨m, hm⟩ : ∃ m : Nat, (names.length : Int) - strLen env names.head! - strLen env names.getLast! = ((m + 1 : Nat) : Int) :=
    ⟨((names.length : Int) - strLen env names.head! - strLen env names.getLast!).toNat - 1, by omega⟩
  rw [hm, writeRepeat_byte (x := 46) (by decide), strLen_fill_append env 46 (by decide) (by decide) _ m _ ht]
  omega

end
end Rare.C14

import Rare.Proofs.C20Main
import Rare.Proofs.C20Scr
/-! C20: the text class `TextSafe` (printable width-one runes, terminated colour sequences, optionally an
unterminated colour sequence at the very end; arbitrary bytes) through `WriteLineNoWrap` and through the
reference terminal `Scr`. -/
namespace Rare.C20

/-- What `WriteLineNoWrap` writes for a text of the class: self-delimiting bytes that decode to
tokens of the class (plus possibly the unterminated sequence) whose visible part is exactly
`shown`, no longer than the width. -/
theorem piece_safe (cw : Rune → Nat) (W : Nat) (trim : Bool) (txt : Bytes) (h : TextSafe cw W trim txt) :
    ∃ (toks' : List Tok) (tail' : List Rune), (∀ t ∈ toks', t.Safe cw) ∧ SgrTail tail' ∧
      Clean (writeLineNoWrap handEsc trim W txt) ∧
      decodeUtf8 (writeLineNoWrap handEsc trim W txt) = renderToks toks' ++ tail' ∧
      visToks toks' = shown W trim txt ∧ (visToks toks').length ≤ W := by
  obtain ⟨toks, tail, hp, htl, hd, hfit⟩ := h
  obtain ⟨toks', tail', hsub, htl', h⟩ := piece_toks W trim txt toks tail (fun t ht => (hp t ht).scannable)
    htl.scanTail hd hfit
  exact ⟨toks', tail', fun t ht => hp t (hsub t ht), htl'.elim (· ▸ htl) (· ▸ Or.inl rfl), h⟩

theorem Scr.feed_toks (cw : Rune → Nat) (toks : List Tok) (hp : ∀ t ∈ toks, t.Safe cw) :
    ∀ (t : Scr), t.ps = .ground → t.feed (renderToks toks) = t.feed (visToks toks) := by
  induction toks with
  | nil => intro t _; rfl
  | cons k ks ih =>
    intro t h
    have hk := hp k (by simp)
    have ih' := ih (fun t ht => hp t (by simp [ht]))
    cases k with
    | ch r =>
      have h' : 32 ≤ r ∧ r ≠ 127 ∧ cw r = 1 := hk
      simp only [renderToks_cons, visToks_cons, Tok.render, Tok.vis, List.singleton_append, Scr.feed_cons]
      exact ih' _ (Scr.step_print_ps t h r ⟨h'.1, h'.2.1⟩)
    | sgr b =>
      obtain ⟨p, hb, hpp⟩ := hk
      subst hb
      have : t.feed (Tok.render (Tok.sgr (91 :: p))) = t := by
        have := Scr.feed_sgr t p hpp
        obtain ⟨w, ht, o, cw', rows, row, col, vis, ps⟩ := t
        simp only at h; subst h
        exact this
      rw [renderToks_cons, visToks_cons, Scr.feed_append, this]
      exact ih' t h

theorem toks_vis_safe (cw : Rune → Nat) (toks : List Tok) (hp : ∀ t ∈ toks, t.Safe cw) :
    ∀ r ∈ visToks toks, 32 ≤ r ∧ r ≠ 127 ∧ cw r = 1 := by
  intro r hr
  simp only [visToks, List.mem_flatMap] at hr
  obtain ⟨k, hk, hrk⟩ := hr
  cases k with
  | ch x =>
    simp [Tok.vis] at hrk; subst hrk
    exact hp _ hk
  | sgr b => simp [Tok.vis] at hrk

/-- write a line at the cursor (column 0) and erase the rest: the row is exactly the visible text,
also when the text ends inside a colour sequence (the erase sequence's ESC restarts the parser) -/
theorem Scr.feed_line (toks : List Tok) (tail : List Rune) (t : Scr) (hp : ∀ k ∈ toks, k.Safe t.cw)
    (htl : SgrTail tail) (h : t.ps = .ground) (hc : t.col = 0) (hfit : (visToks toks).length ≤ t.width) :
    t.feed (renderToks toks ++ tail ++ [27, 91, 48, 75]) =
      { t with rows := setRow t.rows t.row (visToks toks), col := (visToks toks).length } := by
  rw [Scr.feed_append, Scr.feed_append, Scr.feed_toks t.cw toks hp t h,
    Scr.feed_printables (visToks toks) t (toks_vis_safe t.cw toks hp) h (by omega)]
  obtain ⟨q, hq⟩ := Scr.feed_tail
    { t with rows := setRow t.rows t.row (writeCells (t.rows t.row) t.col (visToks toks)),
             col := t.col + (visToks toks).length } tail htl h
  rw [hq, Scr.feed_erase]
  obtain ⟨w, ht, o, cw, rows, row, col, vis, ps⟩ := t
  simp only at hc h; subst hc h
  have := writeCells_take (visToks toks) (rows row) 0 (by omega)
  simp only [Nat.zero_add, List.take_zero, List.nil_append] at this
  simp [Scr.eraseToEol, setRow_at, setRow_same, this]

end Rare.C20

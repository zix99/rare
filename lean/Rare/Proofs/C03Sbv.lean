import Rare.Model.C03Cmd
import Rare.Model.C03Wiring
import Rare.Proofs.C13Lower
import Rare.Proofs.C03Cmd
/-! `helpers.SortsByValue` against `helpers.BuildSorter`: both read the flag text through `parseSort`, so they agree on every
spelling; with the real `strings.ToLower` (any rune map meeting C13's `RuneLower` contract) as with `lowerK`. -/
namespace Rare.C03
open Rare.C07 Rare.C13

theorem beq_lower (tl : Nat → Nat) (h : RuneLower tl) (k c : Bytes) (hc : c.all (fun x => x < 128) = true) :
    (goToLower tl k == c) = (lowerK k == c) := by
  rw [Bool.eq_iff_iff, beq_iff_eq, beq_iff_eq]
  exact lower_lookup tl h k c hc

/-- `parseSort` with Go's `strings.ToLower` and with `lowerK`: the same error / reverse flag, and the names compare alike
with every ASCII constant. -/
theorem parseSort_lower (tl : Nat → Nat) (h : RuneLower tl) (fullName : Bytes) :
    (match parseSort (goToLower tl) fullName, parseSort lowerK fullName with
     | .ok (n₁, r₁), .ok (n₂, r₂) => r₁ = r₂ ∧ n₁ = goToLower tl (splitNext colon fullName).1 ∧ n₂ = lowerK (splitNext colon fullName).1
     | .error _, .error _ => True
     | _, _ => False) := by
  unfold parseSort
  simp only [beq_lower tl h _ (asc "value") (by decide +kernel), beq_lower tl h _ (asc "rev") (by decide +kernel),
    beq_lower tl h _ (asc "reverse") (by decide +kernel), beq_lower tl h _ (asc "desc") (by decide +kernel),
    beq_lower tl h _ (asc "asc") (by decide +kernel)]
  cases (splitNext colon fullName).2 with
  | none => simp
  | some rest =>
    simp only
    by_cases h1 : (lowerK (splitNext colon rest).fst == asc "rev" || lowerK (splitNext colon rest).fst == asc "reverse") = true
    · simp [h1]
    · by_cases h2 : (lowerK (splitNext colon rest).fst == asc "desc") = true
      · simp [h1, h2]
      · by_cases h3 : (lowerK (splitNext colon rest).fst == asc "asc") = true
        · simp [h1, h2, h3]
        · simp [h1, h2, h3]

theorem sortsByValueWith_lower (tl : Nat → Nat) (h : RuneLower tl) (fullName : Bytes) :
    sortsByValueWith (goToLower tl) fullName = sortsByValue fullName := by
  have hp := parseSort_lower tl h fullName
  show sortsByValueWith (goToLower tl) fullName = sortsByValueWith lowerK fullName
  unfold sortsByValueWith
  cases h1 : parseSort (goToLower tl) fullName with
  | error e1 =>
    cases h2 : parseSort lowerK fullName with
    | error e2 => rfl
    | ok p2 => rw [h1, h2] at hp; exact hp.elim
  | ok p1 =>
    cases h2 : parseSort lowerK fullName with
    | error e2 => rw [h1, h2] at hp; exact hp.elim
    | ok p2 =>
      obtain ⟨n₁, r₁⟩ := p1
      obtain ⟨n₂, r₂⟩ := p2
      rw [h1, h2] at hp
      obtain ⟨_, rfl, rfl⟩ := hp
      exact beq_lower tl h _ (asc "value") (by decide +kernel)

theorem lowerB_idem (c : UInt8) : lowerB (lowerB c) = lowerB c := by
  unfold lowerB
  by_cases h : 65 ≤ c ∧ c ≤ 90
  · rw [if_pos h]
    have h1 := h.1
    have h2 := h.2
    rw [UInt8.le_iff_toNat_le] at h1 h2
    have e65 : (65 : UInt8).toNat = 65 := rfl
    have e90 : (90 : UInt8).toNat = 90 := rfl
    have e32 : (32 : UInt8).toNat = 32 := rfl
    have : ¬ (65 ≤ c + 32 ∧ c + 32 ≤ 90) := by
      intro hh
      have h3 := hh.2
      rw [UInt8.le_iff_toNat_le, UInt8.toNat_add] at h3
      omega
    rw [if_neg this]
  · rw [if_neg h, if_neg h]

theorem foldLower_lowered_aux : ∀ (n : Nat) (k l : Bytes), k.length ≤ n → foldLower k = some l → l.map lowerB = l := by
  intro n
  induction n with
  | zero =>
    intro k l hk h
    have : k = [] := List.eq_nil_of_length_eq_zero (by omega)
    subst this
    simp [foldLower] at h
    subst h
    rfl
  | succ n ih =>
    intro k l hk h
    cases k with
    | nil => simp [foldLower] at h; subst h; rfl
    | cons c r =>
      simp only [List.length_cons] at hk
      rcases foldLower_some_view c r l h with ⟨hc, l', hr, rfl⟩ | ⟨r', l', _, rfl, hr, rfl⟩ | ⟨r', l', _, rfl, hr, rfl⟩
      · simp [lowerB_idem, ih r l' (by omega) hr]
      · simp only [List.length_cons] at hk
        have := ih r' l' (by omega) hr
        simp only [List.map_cons, this]
        rfl
      · simp only [List.length_cons] at hk
        have := ih r' l' (by omega) hr
        simp only [List.map_cons, this]
        rfl

/-- `strings.ToLower` of an already lower-cased name: nothing changes (as far as `lowerK` can tell) -/
theorem lowerK_idem (k : Bytes) : lowerK (lowerK k) = lowerK k := by
  cases hf : foldLower k with
  | none =>
    have hk : lowerK k = k := by simp [lowerK, hf]
    rw [hk, hk]
  | some l =>
    have hk : lowerK k = l := by simp [lowerK, hf]
    rw [hk]
    have ha := foldLower_isAscii k l hf
    have hl := foldLower_lowered_aux k.length k l (Nat.le_refl _) hf
    simp [lowerK, foldLower_ascii l ha, hl]

theorem ite_eq_of_ne {α : Type} {c : Prop} [Decidable c] {a b v : α} (ha : a ≠ v) (h : (if c then a else b) = v) : b = v := by
  split at h
  · exact absurd h ha
  · exact h

theorem lookupMode_value_iff (lower : Key → Key) (name : Key) :
    lookupMode lower name = some .value ↔ lower name = asc "value" := by
  unfold lookupMode
  dsimp only
  generalize lower name = x
  constructor
  · intro h
    have h := ite_eq_of_ne (by decide) (ite_eq_of_ne (by decide) (ite_eq_of_ne (by decide) (ite_eq_of_ne (by decide) h)))
    split at h
    · rename_i hv; exact beq_iff_eq.mp hv
    · cases h
  · intro hv
    subst hv; decide +kernel

theorem parseSort_name {lower : Key → Key} {fullName name : Key} {rev : Bool}
    (h : parseSort lower fullName = .ok (name, rev)) : name = lower (splitNext colon fullName).1 := by
  unfold parseSort at h
  dsimp only at h
  split at h
  · cases h; rfl
  · split at h
    · cases h; rfl
    · split at h
      · cases h; rfl
      · split at h
        · cases h; rfl
        · cases h

/-- `SortsByValue` says "value-ordered" exactly for the spellings `BuildSorter` reads as the mode `value` -/
theorem sortsByValue_iff_kind (fullName : Bytes) :
    sortsByValue fullName = true ↔ ∃ rev, sortKind fullName = some (.value, rev) := by
  unfold sortsByValue sortKind
  cases hp : parseSort lowerK fullName with
  | error e => simp
  | ok p =>
    obtain ⟨name, rev⟩ := p
    have hn := parseSort_name hp
    subst hn
    dsimp only
    have hiff := lookupMode_value_iff lowerK (lowerK (splitNext colon fullName).1)
    rw [lowerK_idem] at hiff
    rw [beq_iff_eq, ← hiff]
    constructor
    · intro h; exact ⟨rev, by rw [h]; rfl⟩
    · rintro ⟨rev', h⟩
      cases hm : lookupMode lowerK (lowerK (splitNext colon fullName).1) with
      | none => rw [hm] at h; cases h
      | some m => rw [hm] at h; cases h; rfl

/-- `SortsByValue` says "value-ordered" exactly for the spellings for which `BuildSorter` builds the value sorter -/
theorem sortsByValue_iff_built (fullName : Bytes) :
    sortsByValue fullName = true ↔ ∃ rev, builtSorter lowerK fullName = some (true, rev) := by
  have hb : builtSorter lowerK fullName = (sortKind fullName).map fun k => (decide (k.1 = .value), k.2) := by
    unfold builtSorter sortKind
    cases parseSort lowerK fullName with
    | error e => rfl
    | ok p =>
      obtain ⟨name, rev⟩ := p
      dsimp only
      cases lookupMode lowerK name with
      | none => rfl
      | some m => cases m <;> rfl
  rw [sortsByValue_iff_kind, hb]
  constructor
  · rintro ⟨rev, h⟩; exact ⟨rev, by rw [h]; rfl⟩
  · rintro ⟨rev, h⟩
    cases hk : sortKind fullName with
    | none => rw [hk] at h; cases h
    | some k =>
      obtain ⟨m, r⟩ := k
      rw [hk] at h
      cases m <;> simp at h
      exact ⟨r, rfl⟩

/-- `valueNilSorter`: the values of the two rows are never looked at -/
theorem valueNilSorter_ignores {σ : Type} (c : SCmp Key σ) (st : σ) (a b : NV) (va vb : Int) :
    valueNilSorter c st a b = valueNilSorter c st ⟨a.name, va⟩ ⟨b.name, vb⟩ := rfl

/-- What the trim guard of `spark` relies on, for EVERY sort name `BuildSorter` accepts (the inferring ones included, any
oracle for `ParseFloat` / date formats): when `SortsByValue` answers false the built comparator never looks at the values of
the rows – the column order is a function of the column NAMES – and when it answers true the comparator is the value sorter. -/
theorem buildSorter_by_name_or_value (o : Oracle) (ho : o.lower = lowerK) (sets : List SortSet) (fullName : Bytes) (s : Sorter)
    (hb : buildSorter o sets fullName = .ok s) :
    (sortsByValue fullName = false → ∀ (st : s.σ) (a b : NV) (va vb : Int), s.cmp st a b = s.cmp st ⟨a.name, va⟩ ⟨b.name, vb⟩) ∧
    (sortsByValue fullName = true →
      s = ⟨Unit, (), valueSorterEx (pureCmp byName)⟩ ∨ s = ⟨Unit, (), reverse (valueSorterEx (pureCmp byName))⟩) := by
  -- the sorter built is the one of the mode and direction `sortKind` reads
  obtain ⟨m, rev, hk, rfl⟩ : ∃ m rev, sortKind fullName = some (m, rev) ∧
      s = if rev then (modeSorter o sets m).reversed else modeSorter o sets m := by
    unfold buildSorter lookupSorter at hb
    rw [ho] at hb
    unfold sortKind
    cases hp : parseSort lowerK fullName with
    | error e => rw [hp] at hb; cases hb
    | ok p =>
      obtain ⟨name, rev⟩ := p
      rw [hp] at hb
      dsimp only at hb ⊢
      cases hm : lookupMode lowerK name with
      | none => rw [hm] at hb; cases hb
      | some m => rw [hm] at hb; cases hb; exact ⟨m, rev, rfl, rfl⟩
  have hv := sortsByValue_iff_kind fullName
  by_cases hval : m = .value
  · subst hval
    refine ⟨fun hf => ?_, fun _ => ?_⟩
    · rw [hv.mpr ⟨rev, hk⟩] at hf; cases hf
    · cases rev
      · exact Or.inl rfl
      · exact Or.inr rfl
  · refine ⟨fun _ st a b va vb => ?_, fun ht => ?_⟩
    · cases m with
      | value => exact absurd rfl hval
      | _ => cases rev <;> rfl
    · obtain ⟨r, h⟩ := hv.mp ht
      rw [hk] at h; cases h
      exact absurd rfl hval

end Rare.C03

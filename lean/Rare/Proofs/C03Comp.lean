import Rare.Props.C01
import Rare.Props.C05
import Rare.Proofs.C02
import Rare.Model.C03
/-! Helper lemmas for the composition theorems of C03: pipeline ∘ aggregation loop, file splits. -/
namespace Rare.C03
open Rare.Pipeline Rare.C01

/-- Tuning that must not matter: reader concurrency, channel capacities, workers, batch size, flush timer. -/
structure Config where
  R : Nat
  B : Nat
  K : Nat
  W : Nat
  batchSize : Nat
  timer : Nat → Nat → Bool

/-- The batches source `i` with content `data` will send (C01's batching loop on C04's lines). -/
def batchesOf (cfg : Config) (i : Nat) (data : Bytes) : List (List Line) :=
  (Batcher.run cfg.batchSize ((linesOf i data).map fun l => (l, cfg.timer i l.num))).map (·.lines)

def pipelineInit (cfg : Config) (datas : List Bytes) : St Line :=
  init ((datas.zipIdx 0).map fun p => batchesOf cfg p.2 p.1) cfg.W

/-- `sampled` is the aggregator's complete sample history in SOME terminal state of the whole program:
the extraction pipeline ran to its end under some schedule, handing the consumer `s.consumed`; the
match batches arrived at `RunAggregationLoop` as `stream`; the loop ran to its end under some schedule
of main goroutine / ticker / arrivals. -/
def Terminal (cls : Line → Cls) (key : Line → Bytes) (cfg : Config) (datas : List Bytes) (sampled : List Bytes) : Prop :=
  ∃ (s : St Line) (stream : List (List Bytes)) (a : AggLoop.St Bytes),
    Reach cls cfg.R cfg.B cfg.K (pipelineInit cfg datas) s ∧ s.consDone = true ∧
    stream.flatten = s.consumed.map key ∧
    AggLoop.Reach (AggLoop.init stream) a ∧ a.main = .finished ∧ sampled = a.sampled

/-- the sequential reference: keys of the matching lines, source after source, line after line -/
def refSamples (cls : Line → Cls) (key : Line → Bytes) (datas : List Bytes) : List Bytes :=
  (seqMatches cls (allLines datas)).map key

theorem terminal_perm (cls : Line → Cls) (key : Line → Bytes) (cfg : Config) (hW : 1 ≤ cfg.W) (datas : List Bytes)
    (sampled : List Bytes) (h : Terminal cls key cfg datas sampled) :
    sampled.Perm (refSamples cls key datas) := by
  obtain ⟨s, stream, a, hr, hd, hst, ha, hf, rfl⟩ := h
  have hs := (C05.final_render_after_last_sample stream ha (Or.inr hf)).1
  rw [hs, hst]
  exact (C01.pipeline_final_bytes cls cfg.R cfg.B cfg.K cfg.W cfg.batchSize hW datas cfg.timer hr hd).1.map key

theorem exited_holds_nothing {α : Type} {w : WSt α} (h : w.isExited = true) : w.todo = [] ∧ w.acc = [] := by
  cases w <;> first | exact ⟨rfl, rfl⟩ | cases h

theorem done_holds_nothing {α : Type} {x : SrcSt α} (h : x.isDone = true) : x.lines = [] := by
  cases x <;> first | rfl | cases h

/-- In a terminal state of the pipeline nothing is left anywhere upstream of the consumer. -/
theorem terminal_empty {α : Type} [DecidableEq α] {cls : α → Cls} {B K : Nat} {all : List α} {s : St α}
    (hinv : Inv cls B K all s) (hW : s.workers ≠ []) (hd : s.consDone = true) :
    s.rc = [] ∧ wAcc s = [] ∧ wTodo s = [] ∧ s.c = [] ∧ srcLines s = [] := by
  obtain ⟨hrcl, hrc⟩ := hinv.consdone hd
  have hwall := List.all_eq_true.mp (hinv.rcclosed hrcl)
  obtain ⟨w, hw⟩ := List.exists_mem_of_ne_nil _ hW
  obtain ⟨hcl, hc⟩ := hinv.exited (List.any_eq_true.mpr ⟨w, hw, hwall w hw⟩)
  have hsall := List.all_eq_true.mp (hinv.cclosed hcl)
  refine ⟨hrc, ?_, ?_, hc, ?_⟩
  · exact List.flatMap_eq_nil_iff.mpr fun w hw => (exited_holds_nothing (hwall w hw)).2
  · exact List.flatMap_eq_nil_iff.mpr fun w hw => (exited_holds_nothing (hwall w hw)).1
  · exact List.flatMap_eq_nil_iff.mpr fun x hx => done_holds_nothing (hsall x hx)

/-- One source, one worker: the consumer receives the matches in input order (FIFO), for every
schedule, batch size, timer behaviour and channel capacity. -/
theorem terminal_fifo (cls : Line → Cls) (key : Line → Bytes) (cfg : Config) (hW : cfg.W = 1) (data : Bytes)
    (sampled : List Bytes) (h : Terminal cls key cfg [data] sampled) :
    sampled = refSamples cls key [data] := by
  obtain ⟨s, stream, a, hr, hd, hst, ha, hf, rfl⟩ := h
  have hs := (C05.final_render_after_last_sample stream ha (Or.inr hf)).1
  rw [hs, hst]
  have hinv := C01.pipeline_invariant cls cfg.R cfg.B cfg.K cfg.W _ hr
  have h1 : (pipelineInit cfg [data]).srcs.length = 1 := by simp [pipelineInit, init]
  have h2 : (pipelineInit cfg [data]).workers.length = 1 := by simp [pipelineInit, init, hW]
  obtain ⟨ho, _, hw1⟩ := fifo_reach cls h1 h2 hr
  have hne : s.workers ≠ [] := by intro h0; rw [h0] at hw1; simp at hw1
  obtain ⟨e1, e2, e3, e4, e5⟩ := terminal_empty hinv hne hd
  have hseq : s.consumed = (batchesOf cfg 0 data).flatten.filter (isMatched cls) := by
    have := ho
    simp only [orderSeq, e1, e2, e3, e4, e5, List.flatten_nil, List.append_nil, List.filter_nil] at this
    rw [this]
    simp [pipelineInit, init, wAcc, wTodo, srcLines, SrcSt.lines, WSt.acc, WSt.todo, hW]
  have hb : (batchesOf cfg 0 data).flatten = linesOf 0 data := by
    have := (C01.batches_concat cfg.batchSize ((linesOf 0 data).map fun l => (l, cfg.timer 0 l.num))).1
    rw [List.flatMap_def] at this
    simp only [List.map_map] at this
    unfold batchesOf
    rw [this]; simp [Function.comp_def]
  rw [hseq, hb]
  simp [refSamples, seqMatches, allLines]

/-! ### dividing lines among files -/

/-- a file holding the lines `ls`, each terminated by LF -/
def unlines (ls : List Bytes) : Bytes := ls.flatMap fun l => l ++ [nl]

/-- a line as a log file can hold it: no LF inside, and not ending in CR (the scanner drops that CR) -/
def CleanLine (l : Bytes) : Prop := nl ∉ l ∧ l.getLast? ≠ some cr

theorem splitGo_line (l : Bytes) : ∀ (cur rest : Bytes), nl ∉ l →
    C04.splitGo cur (l ++ nl :: rest) = C04.dropCR (cur ++ l) :: C04.splitGo [] rest := by
  induction l with
  | nil => intro cur rest _; simp [C04.splitGo]
  | cons b r ih =>
    intro cur rest h
    have hb : b ≠ nl := fun e => h (by simp [e])
    have hr : nl ∉ r := fun e => h (by simp [e])
    simp only [List.cons_append, C04.splitGo, if_neg hb]
    rw [ih _ _ hr]
    simp

theorem splitLines_unlines (ls : List Bytes) (h : ∀ l ∈ ls, CleanLine l) : C04.splitLines (unlines ls) = ls := by
  unfold C04.splitLines
  induction ls with
  | nil => simp [unlines, C04.splitGo]
  | cons l rest ih =>
    have hl := h l (by simp)
    simp only [unlines, List.flatMap_cons, List.append_assoc, List.singleton_append]
    rw [splitGo_line l [] _ hl.1]
    have : C04.dropCR ([] ++ l) = l := by
      simp only [List.nil_append, C04.dropCR]
      rw [if_neg hl.2]
    rw [this]
    congr 1
    exact ih (fun x hx => h x (by simp [hx]))

theorem allLines_text (datas : List Bytes) : (allLines datas).map (·.text) = datas.flatMap C04.splitLines := by
  unfold allLines
  rw [List.map_flatMap]
  have e : ∀ p : Bytes × Nat, (linesOf p.2 p.1).map (·.text) = C04.splitLines p.1 := by
    intro p
    simp only [linesOf, List.map_map]
    have : ((fun (l : Line) => l.text) ∘ fun (q : Bytes × Nat) => (⟨p.2, q.2, q.1⟩ : Line)) = Prod.fst := by
      funext q; rfl
    rw [this, List.zipIdx_map_fst]
  simp only [e]
  have : datas.flatMap C04.splitLines = ((datas.zipIdx 0).map Prod.fst).flatMap C04.splitLines := by
    rw [List.zipIdx_map_fst]
  rw [this, List.flatMap_map]

/-- When classification and key depend on the text of the line only (no `{src}`, no `{line}`), the
reference samples are a function of the sequence of line texts. -/
theorem refSamples_of_texts (clsT : Bytes → Cls) (keyT : Bytes → Bytes) (datas : List Bytes) :
    refSamples (fun l => clsT l.text) (fun l => keyT l.text) datas =
      ((datas.flatMap C04.splitLines).filter fun t => clsT t = .matched).map keyT := by
  rw [← allLines_text, List.filter_map, List.map_map]
  rfl

end Rare.C03

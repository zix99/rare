import Rare.Model.C05Signal
import Rare.Proofs.AggLoop
namespace Rare.AggLoop

variable {κ : Type}

/-- Invariant of the loop with the signal path: as `Inv`, except that "everything has been sampled" once main has
    left the loop only holds when no signal arrived; with a signal what holds is "everything RECEIVED has been
    sampled" (whole batches) and the final render shows exactly that. -/
structure SInv (stream : List (List κ)) (s : SSt κ) : Prop where
  mainOwns : s.base.main.isSampling = true ↔ s.base.mutex = .main
  tickOwns : s.base.ticker = .rendering ↔ s.base.mutex = .ticker
  flow : s.base.received ++ s.base.rc.flatten ++ s.base.future.flatten = stream.flatten
  hand : s.base.sampled ++ s.base.main.inHand = s.base.received
  closed : s.base.rcClosed = true → s.base.future = []
  drained : (s.base.main = .sendDone ∨ s.base.main = .finalRender ∨ s.base.main = .finished) → s.signalled = false →
      s.base.sampled = stream.flatten ∧ s.base.rc = [] ∧ s.base.future = []
  stopped : s.base.ticker = .stopped ↔ (s.base.main = .finalRender ∨ s.base.main = .finished)
  frozen : s.base.ticker = .rendering → s.base.snap = s.base.sampled
  prefixes : ∀ r ∈ s.base.renders, r <+: stream.flatten
  last : s.base.main = .finished → s.base.renders.getLast? = some s.base.sampled
  /-- the signal only ever takes main out of its select -/
  sig : s.signalled = true → (s.base.main = .sendDone ∨ s.base.main = .finalRender ∨ s.base.main = .finished)

theorem sinv_init (stream : List (List κ)) : SInv stream (sinit stream) := by
  refine ⟨by simp [sinit, init, Main.isSampling], by simp [sinit, init], by simp [sinit, init], by simp [sinit, init, Main.inHand],
    by simp [sinit, init], by simp [sinit, init], by simp [sinit, init], by simp [sinit, init], by simp [sinit, init],
    by simp [sinit, init], by simp [sinit]⟩

theorem ssampled_prefix {stream : List (List κ)} {s : SSt κ} (h : SInv stream s) : s.base.sampled <+: stream.flatten := by
  have h1 := h.flow
  have h2 := h.hand
  exact ⟨s.base.main.inHand ++ s.base.rc.flatten ++ s.base.future.flatten, by rw [← h1, ← h2]; simp⟩

/-- once main has left the loop nothing is half-sampled: the aggregator holds exactly what was received -/
theorem sampled_eq_received {stream : List (List κ)} {s : SSt κ} (h : SInv stream s)
    (hm : s.base.main = .sendDone ∨ s.base.main = .finalRender ∨ s.base.main = .finished ∨ s.base.main = .loop) :
    s.base.sampled = s.base.received := by
  have := h.hand
  rcases hm with hm | hm | hm | hm <;> rw [hm] at this <;> simpa [Main.inHand] using this

theorem sinv_step {stream : List (List κ)} {s s' : SSt κ} (h : SInv stream s) (hs : SStep s s') : SInv stream s' := by
  -- what main's and the ticker's program counters say about the mutex and the signal flag
  have hns : s.base.main.isSampling = false → s.base.mutex ≠ .main :=
    fun hm he => by rw [h.mainOwns.mpr he] at hm; cases hm
  have hnt : s.base.ticker ≠ .rendering → s.base.mutex ≠ .ticker := fun ht he => ht (h.tickOwns.mpr he)
  have hnsig : ∀ {m}, s.base.main = m → m ≠ .sendDone → m ≠ .finalRender → m ≠ .finished → s.signalled ≠ true :=
    fun hm h1 h2 h3 he => by rcases h.sig he with h' | h' | h' <;> rw [hm] at h' <;> contradiction
  cases hs with
  | signal hm =>
    exact ⟨by simpa [Main.isSampling] using hns (by rw [hm]; rfl), h.tickOwns, h.flow,
      by simpa [hm, Main.inHand] using h.hand, h.closed, by simp, by simpa [hm] using h.stopped, h.frozen,
      h.prefixes, by simp, by simp⟩
  | base b' hb =>
    cases hb with
    | arrive b rest hf =>
      refine ⟨h.mainOwns, h.tickOwns, by simpa [hf] using h.flow, h.hand, ?_, ?_, h.stopped, h.frozen, h.prefixes,
        h.last, h.sig⟩
      · intro hc; have := h.closed hc; rw [hf] at this; cases this
      · intro hm hsg; have := (h.drained hm hsg).2.2; rw [hf] at this; cases this
    | close hf hc =>
      exact ⟨h.mainOwns, h.tickOwns, h.flow, h.hand, fun _ => hf, h.drained, h.stopped, h.frozen, h.prefixes, h.last, h.sig⟩
    | recv b rest hm hrc =>
      refine ⟨by simpa [Main.isSampling] using hns (by rw [hm]; rfl), h.tickOwns, by simpa [hrc] using h.flow, ?_,
        h.closed, by simp, by simpa [hm] using h.stopped, h.frozen, h.prefixes, by simp,
        fun he => absurd he (hnsig hm (by simp) (by simp) (by simp))⟩
      have := h.hand; rw [hm] at this; simp [Main.inHand] at this ⊢; rw [this]
    | mlock b hm hmu =>
      have hnr : s.base.ticker ≠ .rendering := fun he => by have := h.tickOwns.mp he; rw [hmu] at this; cases this
      exact ⟨by simp [Main.isSampling], by simpa using hnr, h.flow, by simpa [hm, Main.inHand] using h.hand, h.closed,
        by simp, by simpa [hm] using h.stopped, fun hr => absurd hr hnr, h.prefixes, by simp,
        fun he => absurd he (hnsig hm (by simp) (by simp) (by simp))⟩
    | sample x xs hm =>
      have hown : s.base.mutex = .main := h.mainOwns.mp (by rw [hm]; rfl)
      have hnr : s.base.ticker ≠ .rendering := fun he => by have := h.tickOwns.mp he; rw [hown] at this; cases this
      exact ⟨by simp [Main.isSampling, hown], h.tickOwns, h.flow, by simpa [hm, Main.inHand] using h.hand, h.closed,
        by simp, by simpa [hm] using h.stopped, fun hr => absurd hr hnr, h.prefixes, by simp,
        fun he => absurd he (hnsig hm (by simp) (by simp) (by simp))⟩
    | munlock hm =>
      have hown : s.base.mutex = .main := h.mainOwns.mp (by rw [hm]; rfl)
      have hnr : s.base.ticker ≠ .rendering := fun he => by have := h.tickOwns.mp he; rw [hown] at this; cases this
      exact ⟨by simp [Main.isSampling], by simpa using hnr, h.flow, by simpa [hm, Main.inHand] using h.hand, h.closed,
        by simp, by simpa [hm] using h.stopped, fun hr => absurd hr hnr, h.prefixes, by simp,
        fun he => absurd he (hnsig hm (by simp) (by simp) (by simp))⟩
    | eof hm hrc hcl =>
      have hf := h.closed hcl
      refine ⟨by simpa [Main.isSampling] using hns (by rw [hm]; rfl), h.tickOwns, h.flow,
        by simpa [hm, Main.inHand] using h.hand, h.closed, fun _ _ => ⟨?_, hrc, hf⟩, by simpa [hm] using h.stopped,
        h.frozen, h.prefixes, by simp, fun _ => by simp⟩
      have h1 := h.flow; have h2 := h.hand
      rw [hm] at h2; simp [Main.inHand] at h2
      rw [hrc, hf] at h1; simp at h1
      rw [h2, h1]
    | handshake hm ht =>
      exact ⟨by simpa [Main.isSampling] using hns (by rw [hm]; rfl), by simpa using hnt (by rw [ht]; simp), h.flow,
        by simpa [hm, Main.inHand] using h.hand, h.closed, fun _ hsg => h.drained (Or.inl hm) hsg, by simp, by simp,
        h.prefixes, by simp, fun _ => by simp⟩
    | final hm =>
      refine ⟨by simpa [Main.isSampling] using hns (by rw [hm]; rfl), h.tickOwns, h.flow,
        by simpa [hm, Main.inHand] using h.hand, h.closed, fun _ hsg => h.drained (Or.inr (Or.inl hm)) hsg,
        by simpa [hm] using h.stopped, h.frozen, ?_, fun _ => by simp, fun _ => by simp⟩
      intro r hr
      rcases List.mem_append.mp hr with hr | hr
      · exact h.prefixes r hr
      · rw [List.mem_singleton.mp hr]; exact ssampled_prefix h
    | fire ht =>
      exact ⟨h.mainOwns, by simpa using hnt (by rw [ht]; simp), h.flow, h.hand, h.closed, h.drained,
        by simpa [ht] using h.stopped, by simp, h.prefixes, h.last, h.sig⟩
    | tlock ht hmu =>
      have hns' : s.base.main.isSampling ≠ true := fun he => by have := h.mainOwns.mp he; rw [hmu] at this; cases this
      exact ⟨by simpa using hns', by simp, h.flow, h.hand, h.closed, h.drained, by simpa [ht] using h.stopped, by simp,
        h.prefixes, h.last, h.sig⟩
    | tunlock ht =>
      have hown : s.base.mutex = .ticker := h.tickOwns.mp ht
      have hns' : s.base.main.isSampling ≠ true := fun he => by have := h.mainOwns.mp he; rw [hown] at this; cases this
      have hnf : s.base.main ≠ .finished := fun he => by have := h.stopped.mpr (Or.inr he); rw [ht] at this; cases this
      refine ⟨by simpa using hns', by simp, h.flow, h.hand, h.closed, h.drained, by simpa [ht] using h.stopped, by simp,
        ?_, fun he => absurd he hnf, h.sig⟩
      intro r hr
      rcases List.mem_append.mp hr with hr | hr
      · exact h.prefixes r hr
      · rw [List.mem_singleton.mp hr]; exact ssampled_prefix h

theorem sinv_reach {stream : List (List κ)} {s : SSt κ} (hr : SReach (sinit stream) s) : SInv stream s := by
  induction hr with
  | refl => exact sinv_init stream
  | step _ hs ih => exact sinv_step ih hs

/-- A run of the loop without a signal is a run of the base transition system (and vice versa). -/
theorem sreach_unsignalled {stream : List (List κ)} {s : SSt κ} (hr : SReach (sinit stream) s)
    (hs : s.signalled = false) : Reach (init stream) s.base := by
  induction hr with
  | refl => exact .refl
  | step _ hstep ih =>
    cases hstep with
    | base b' hb => exact .step (ih hs) hb
    | signal hm => cases hs

theorem reach_sreach {stream : List (List κ)} {b : St κ} (hr : Reach (init stream) b) :
    SReach (sinit stream) ⟨b, false⟩ := by
  induction hr with
  | refl => exact .refl
  | step _ hstep ih => exact .step ih (.base ⟨_, false⟩ _ hstep)

/-- The invariant of the loop without the signal path is `SInv` of the same state with no signal. -/
theorem SInv.toInv {stream : List (List κ)} {b : St κ} (h : SInv stream ⟨b, false⟩) : Inv stream b :=
  ⟨h.mainOwns, h.tickOwns, h.flow, h.hand, h.closed, fun hm => h.drained hm rfl, h.stopped, h.frozen, h.prefixes,
    fun hm => by rw [h.last hm, (h.drained (.inr (.inr hm)) rfl).1]⟩

theorem inv_reach {stream : List (List κ)} {s : St κ} (hr : Reach (init stream) s) : Inv stream s :=
  (sinv_reach (reach_sreach hr)).toInv

/-- No deadlock with the signal path either. -/
theorem sprogress {stream : List (List κ)} {s : SSt κ} (h : SInv stream s) (hf : s.base.main ≠ .finished) :
    ∃ s', SStep s s' :=
  let ⟨b', hb⟩ := progress_of h.mainOwns h.tickOwns h.stopped hf
  ⟨_, .base s b' hb⟩

/-- After a signal main needs at most: hand-shake, final render. The measure of the base system, cut down to what
    main still does, decreases on every non-ticker step. -/
def smeasure (s : SSt κ) : Nat := if s.signalled then mainW s.base.main else measure s.base

theorem sstep_measure {s s' : SSt κ} (hs : SStep s s') (hsig : s.signalled = true → s.base.main = .sendDone ∨ s.base.main = .finalRender ∨ s.base.main = .finished) :
    smeasure s' < smeasure s ∨ (smeasure s' = smeasure s ∧ s'.base.main = s.base.main ∧ s'.base.sampled = s.base.sampled) := by
  cases hs with
  | signal hm =>
    left
    cases hsg : s.signalled with
    | true => have := hsig hsg; rw [hm] at this; simp at this
    | false => simp [smeasure, hsg, measure, hm, mainW] <;> omega
  | base b' hb =>
    cases hsg : s.signalled with
    | false => simpa [smeasure, hsg] using step_measure hb
    | true =>
      have hm3 := hsig hsg
      simp only [smeasure, hsg, if_true]
      cases hb with
      | arrive b rest hf => right; exact ⟨rfl, rfl, rfl⟩
      | close hf hc => right; exact ⟨rfl, rfl, rfl⟩
      | recv b rest hm hrc => rw [hm] at hm3; simp at hm3
      | mlock b hm hmu => rw [hm] at hm3; simp at hm3
      | sample x xs hm => rw [hm] at hm3; simp at hm3
      | munlock hm => rw [hm] at hm3; simp at hm3
      | eof hm hrc hcl => rw [hm] at hm3; simp at hm3
      | handshake hm ht => left; simp [hm, mainW]
      | final hm => left; simp [hm, mainW]
      | fire ht => right; exact ⟨rfl, rfl, rfl⟩
      | tlock ht hmu => right; exact ⟨rfl, rfl, rfl⟩
      | tunlock ht => right; exact ⟨rfl, rfl, rfl⟩

end Rare.AggLoop

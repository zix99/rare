import Rare.Model.C07AccCompile
import Rare.Proofs.C07Acc
import Rare.Proofs.C10
import Rare.Proofs.C08
/-!
C07 × C10: the accumulating group configured through the compiler with static optimisation ON is the
same aggregator as the one configured with optimisation OFF (`compile_opt_sound` of C10: whenever the
optimising compile succeeds, the plain compile succeeds with the same errors and the same built key).
-/
namespace Rare.C07
open Rare.Expr (Stage Registry compile buildKey compile_opt_sound)

theorem compileStage_opt (reg : Registry) (t : List Char) (c : Option Stage)
    (h : compileStage reg true t = .ok c) : compileStage reg false t = .ok c := by
  unfold compileStage at h ⊢
  cases hc : compile reg true t with
  | error m => rw [hc] at h; cases h
  | ok r =>
    obtain ⟨s, e⟩ := r
    rw [hc] at h
    obtain ⟨s', h1, h2⟩ := compile_opt_sound reg t s e hc
    rw [h1]
    simp only [Except.ok.injEq] at h ⊢
    rw [h2]; exact h

/-- The template a call hands to `Compile`. -/
def AccTOp.template : AccTOp → List Char
  | .addGroup _ t => t
  | .addData _ t _ => t
  | .setSort t => t
  | .sample _ => []

/-- The `AccOp` a template-level call performs once its template is compiled. -/
def AccTOp.withStage : AccTOp → Option Stage → AccOp
  | .addGroup n _, c => .addGroup n c
  | .addData n _ i, c => .addData n c i
  | .setSort _, c => .setSort c
  | .sample e, _ => .sample e

/-- A template-level call compiles its template, unless Go returns before `Compile`, and then is an `AccOp`. -/
theorem applyT_eq (reg : Registry) (opt : Bool) (s : AccGroup) (op : AccTOp) :
    s.applyT reg opt op =
      if s.compiles op then
        match compileStage reg opt op.template with
        | .error m => .error m
        | .ok c => s.apply (op.withStage c)
      else s.apply (op.withStage none) := by
  cases op with
  | addGroup n t =>
    simp only [AccGroup.applyT, AccTOp.template]
    split
    · cases compileStage reg opt t <;> rfl
    · rfl
  | addData n t i =>
    simp only [AccGroup.applyT, AccTOp.template]
    split
    · cases compileStage reg opt t <;> rfl
    · rfl
  | setSort t =>
    rw [show s.compiles (.setSort t) = true from rfl, if_pos rfl]
    simp only [AccGroup.applyT, AccTOp.template]
    cases compileStage reg opt t <;> rfl
  | sample e => rfl

theorem applyT_opt (reg : Registry) (s : AccGroup) (op : AccTOp) (r : AccGroup × Option String)
    (h : s.applyT reg true op = .ok r) : s.applyT reg false op = .ok r := by
  rw [applyT_eq] at h ⊢
  split
  · rename_i hc
    rw [if_pos hc] at h
    cases h1 : compileStage reg true op.template with
    | error m => rw [h1] at h; cases h
    | ok c => rw [h1] at h; rw [compileStage_opt reg _ c h1]; exact h
  · rename_i hc
    rw [if_neg hc] at h; exact h

theorem applyAllT_cons_ok {reg : Registry} {opt : Bool} {s : AccGroup} {op : AccTOp} {rest : List AccTOp}
    {r : AccGroup × List (Option String)} (h : AccGroup.applyAllT reg opt s (op :: rest) = .ok r) :
    ∃ s' e q, s.applyT reg opt op = .ok (s', e) ∧ AccGroup.applyAllT reg opt s' rest = .ok q ∧
      r = (q.1, e :: q.2) := by
  unfold AccGroup.applyAllT at h
  cases h1 : s.applyT reg opt op with
  | error m => rw [h1] at h; cases h
  | ok p =>
    obtain ⟨s', e⟩ := p
    rw [h1] at h
    simp only at h
    cases h2 : AccGroup.applyAllT reg opt s' rest with
    | error m => rw [h2] at h; cases h
    | ok q => rw [h2] at h; exact ⟨s', e, q, rfl, h2, (Except.ok.inj h).symm⟩

theorem applyAllT_opt (reg : Registry) (ops : List AccTOp) : ∀ (s : AccGroup) (r : AccGroup × List (Option String)),
    s.applyAllT reg true ops = .ok r → s.applyAllT reg false ops = .ok r := by
  induction ops with
  | nil => intro s r h; exact h
  | cons op rest ih =>
    intro s r h
    obtain ⟨s', e, q, h1, h2, rfl⟩ := applyAllT_cons_ok h
    unfold AccGroup.applyAllT
    rw [applyT_opt reg s op _ h1]
    simp only
    rw [ih s' q h2]

/-- A template-level call is one of the `AccOp` calls the refinement proof is about. -/
theorem applyT_is_apply (reg : Registry) (opt : Bool) (s s' : AccGroup) (op : AccTOp) (e : Option String)
    (h : s.applyT reg opt op = .ok (s', e)) : ∃ aop : AccOp, s.apply aop = .ok (s', e) := by
  rw [applyT_eq] at h
  split at h
  · cases h1 : compileStage reg opt op.template with
    | error m => rw [h1] at h; cases h
    | ok c => rw [h1] at h; exact ⟨_, h⟩
  · exact ⟨_, h⟩

theorem reach_applyAllT (reg : Registry) (opt : Bool) (ops : List AccTOp) : ∀ (s : AccGroup) (r : AccGroup × List (Option String)),
    AccReach s → s.applyAllT reg opt ops = .ok r → AccReach r.1 := by
  induction ops with
  | nil => intro s r hr h; simp only [AccGroup.applyAllT, Except.ok.injEq] at h; subst h; exact hr
  | cons op rest ih =>
    intro s r hr h
    obtain ⟨s', e, q, h1, h2, rfl⟩ := applyAllT_cons_ok h
    obtain ⟨aop, ha⟩ := applyT_is_apply reg opt s s' op e h1
    exact ih s' q (AccReach.step s s' aop e hr ha) h2

/-! ### configuration never panics for a registry of safe builders -/

theorem compileStage_ok (reg : Registry) (hreg : Rare.Expr.SafeRegistry reg) (opt : Bool) (t : List Char) :
    ∃ c, compileStage reg opt t = .ok c := by
  obtain ⟨st, errs, h, _⟩ := Rare.Expr.compile_total reg hreg opt t
  unfold compileStage; rw [h]; exact ⟨_, rfl⟩

theorem applyT_cfg_ok (reg : Registry) (hreg : Rare.Expr.SafeRegistry reg) (opt : Bool) (s : AccGroup) (op : AccTOp)
    (hop : op.isSample = false) : ∃ s' e, s.applyT reg opt op = .ok (s', e) ∧ s'.data = s.data := by
  have hcfg : ∀ c, ∃ s' e, s.apply (op.withStage c) = .ok (s', e) ∧ s'.data = s.data := by
    intro c
    cases op with
    | addGroup n t => exact ⟨_, _, rfl, addGroupExpr_data s n c⟩
    | addData n t i => exact ⟨_, _, rfl, addDataExpr_data s n c i⟩
    | setSort t => exact ⟨_, _, rfl, setSort_data s c⟩
    | sample e => cases hop
  obtain ⟨c, hc⟩ := compileStage_ok reg hreg opt op.template
  rw [applyT_eq, hc]
  split
  · exact hcfg c
  · exact hcfg none

theorem applyAllT_cfg_ok (reg : Registry) (hreg : Rare.Expr.SafeRegistry reg) (opt : Bool) (ops : List AccTOp) :
    ∀ s : AccGroup, (∀ op ∈ ops, op.isSample = false) →
      ∃ s' es, s.applyAllT reg opt ops = .ok (s', es) ∧ s'.data = s.data := by
  induction ops with
  | nil => intro s _; exact ⟨s, [], rfl, rfl⟩
  | cons op rest ih =>
    intro s h
    obtain ⟨s1, e1, h1, d1⟩ := applyT_cfg_ok reg hreg opt s op (h op (by simp))
    obtain ⟨s2, es, h2, d2⟩ := ih s1 (fun o ho => h o (by simp [ho]))
    refine ⟨s2, e1 :: es, ?_, by rw [d2, d1]⟩
    unfold AccGroup.applyAllT
    rw [h1]; simp only; rw [h2]

end Rare.C07

import Rare.Proofs.C19Complete
import Rare.Spec.C19Grammar
/-!
`compile` succeeds exactly on the texts the token grammar of `Spec/C19Grammar.lean` accepts.

* `scan_operand`, `scan_climb`, `scan_compileTokens`: on a token list the grammar accepts,
  `getNextExpr` / the precedence-climbing loop / `compileTokens` never answer an error
  (provided the group compiler succeeds on the groups the grammar accepts).
* `flatten_scan`: the flattening of a well-precedenced tree is accepted.
* `compileF_accepts`, `accepts_compileF`: both directions for texts, by induction on the nesting budget.
-/
namespace Rare.C19

variable {α : Type} (A : Arith α)

/-- the literal check and operator check of the grammar, instantiated for the model -/
def okLitM (v : Bytes) : Bool := (classify A v).isSome
def isOpM (o : Bytes) : Bool := opKeys.contains o

/-- After an operand the grammar reads the next token as the loop does: a written operator and then an
    operand, or a group, which is an implied `*` and the operand at once. -/
theorem scan_after (okLit okGrp : Bytes → Bool) {tk : Token} {tl : List Token} {op : Bytes} {c : Bool}
    (hop : getNextOp tk = .ok (op, c)) :
    scan okLit okGrp isOpM false (tk :: tl) = scan okLit okGrp isOpM true (if c = true then tl else tk :: tl) := by
  obtain ⟨val, ty⟩ := tk
  cases ty <;> simp only [getNextOp] at hop
  · cases hop
  · cases hop; simp only [scan, Bool.false_eq_true, if_false]
  · split at hop <;> cases hop
    simp only [scan, isOpM, ‹opKeys.contains _ = true›, Bool.true_and, if_true]
  · cases hop

theorem scan_op (okLit okGrp : Bytes → Bool) {tk : Token} {rest : List Token}
    (hs : scan okLit okGrp isOpM false (tk :: rest) = true) : ∃ op c, getNextOp tk = .ok (op, c) := by
  obtain ⟨val, ty⟩ := tk
  cases ty <;> simp only [scan, Bool.and_eq_true] at hs
  · cases hs
  · exact ⟨_, _, rfl⟩
  · have hk : opKeys.contains val = true := hs.1
    exact ⟨val, true, by simp only [getNextOp, hk, if_true]⟩
  · cases hs

section fwd
variable {cg : Bytes → Except Err (Parsed α)} {N : Nat} (okGrp : Bytes → Bool)
  (hg : ∀ g, g.length < N → okGrp g = true → ∃ r, cg g = .ok r)
include hg

/-- An operand the grammar accepts is compiled by `getNextExpr`, which leaves a rest the grammar accepts
    after an operand. -/
theorem scan_operand (toks : List Token) (hl : GrpLt N toks) (h : scan (okLitM A) okGrp isOpM true toks = true) :
    match getNextExpr A cg toks with
    | .ok (_, rest) => scan (okLitM A) okGrp isOpM false rest = true
    | .error _ => False := by
  fun_induction getNextExpr A cg toks with
  | case1 => cases h
  | case2 tk rest ht => simp only [scan, ht, Bool.and_eq_true] at h; exact h.2
  | case3 tk rest ht e hc => simp only [scan, ht, Bool.and_eq_true, okLitM, classify, hc] at h; cases h.1
  | case4 tk rest ht => simp only [scan, ht, Bool.and_eq_true] at h; exact h.2
  | case5 tk rest ht e hc =>
    simp only [scan, ht, Bool.and_eq_true] at h
    obtain ⟨r, hr⟩ := hg tk.val (hl tk List.mem_cons_self ht) h.1
    rw [hr] at hc; cases hc
  | case6 tk rest ht t e rest' hne ih =>
    simp only [scan, ht] at h
    have := ih (fun x hx => hl x (List.mem_cons_of_mem _ hx)) h
    rwa [hne] at this
  | case7 tk rest ht e hne ih =>
    simp only [scan, ht] at h
    have := ih (fun x hx => hl x (List.mem_cons_of_mem _ hx)) h
    rwa [hne] at this
  | case8 tk rest ht => simp only [scan, ht] at h; cases h

/-- On what the grammar accepts after an operand, the loop of `compileTokens(last)` succeeds and
    leaves a list that the grammar accepts after an operand. -/
theorem scan_climb (f : Nat) (last : Bytes) (ret : Parsed α) (toks : List Token) (hl : toks.length < f)
    (hgl : GrpLt N toks) (hs : scan (okLitM A) okGrp isOpM false toks = true) :
    match climb A cg f last ret toks with
    | .ok (_, rest') => scan (okLitM A) okGrp isOpM false rest' = true
    | .error _ => False := by
  fun_induction climb A cg f last ret toks with
  | case1 => omega
  | case2 => rfl
  | case8 => exact hs
  | case3 _ _ _ tk rest e hop =>
    obtain ⟨op, c, hop'⟩ := scan_op _ _ hs
    rw [hop'] at hop; cases hop
  | case4 _ last _ tk rest op c hop e hord =>
    obtain ⟨ord, ho⟩ := getNextOp_order hop last
    rw [ho] at hord; cases hord
  | case5 f last ret tk rest op c hop toks0 e hne hord =>
    rw [scan_after _ _ hop] at hs
    obtain ⟨pre, hp⟩ : ∃ pre, tk :: rest = pre ++ toks0 := inner_tail c tk rest
    have := scan_operand A okGrp hg toks0 (grpLt_append.mp (hp ▸ hgl)).2 hs
    rwa [hne] at this
  | case6 f last ret tk rest op c hop toks0 first toks1 hne e hc1 hord ih1 =>
    rw [scan_after _ _ hop] at hs
    obtain ⟨pre, hp⟩ : ∃ pre, tk :: rest = pre ++ toks0 := inner_tail c tk rest
    have hs1 := scan_operand A okGrp hg toks0 (grpLt_append.mp (hp ▸ hgl)).2 hs
    rw [hne] at hs1
    rw [hp, (getNextExpr_flat A _ _ _ hne).2] at hl hgl
    have := flatten_pos first.1
    have := ih1 (by simp only [List.length_append] at hl; omega) (grpLt_append.mp (grpLt_append.mp hgl).2).2 hs1
    rwa [hc1] at this
  | case7 f last ret tk rest op c hop toks0 first toks1 hne rhs toks2 hc1 hord ih1 ih2 =>
    rw [scan_after _ _ hop] at hs
    obtain ⟨pre, hp⟩ : ∃ pre, tk :: rest = pre ++ toks0 := inner_tail c tk rest
    have hs1 := scan_operand A okGrp hg toks0 (grpLt_append.mp (hp ▸ hgl)).2 hs
    rw [hne] at hs1
    obtain ⟨mid, hm, _⟩ := climb_flat A _ _ _ _ _ _ hc1
    rw [hp, (getNextExpr_flat A _ _ _ hne).2] at hl hgl
    have := flatten_pos first.1
    have hs2 := ih1 (by simp only [List.length_append] at hl; omega) (grpLt_append.mp (grpLt_append.mp hgl).2).2 hs1
    rw [hc1] at hs2
    rw [hm] at hl hgl
    exact ih2 (by simp only [List.length_append] at hl; omega)
      (grpLt_append.mp (grpLt_append.mp (grpLt_append.mp hgl).2).2).2 hs2

/-- `compileTokens` succeeds on every token list the grammar accepts. -/
theorem scan_compileTokens (toks : List Token) (hgl : GrpLt N toks)
    (hs : scan (okLitM A) okGrp isOpM true toks = true) : ∃ r, compileTokens A cg toks = .ok r := by
  have h1 := scan_operand A okGrp hg toks hgl hs
  unfold compileTokens
  split at h1
  · rename_i first rest hne
    have h2 := scan_climb A okGrp hg (rest.length + 1) [] first rest (Nat.lt_succ_self _)
      (by rw [(getNextExpr_flat A _ _ _ hne).2] at hgl; exact (grpLt_append.mp hgl).2) h1
    rw [hne]
    split at h2
    · rename_i r _ hc
      exact ⟨r, by simp only [hc]⟩
    · cases h2
  · cases h1

end fwd

/-! ### the flattening of a well-precedenced tree is accepted -/

theorem flatten_scan {N : Nat} (okGrp : Bytes → Bool)
    (hG : ∀ s0 e0, s0.length < N → tok s0 = some e0.flatten → WellPrec orderOfOps e0 → Deep tok e0 →
      Lits A e0 → okGrp s0 = true) :
    ∀ t : Tree, WellPrec orderOfOps t → Deep tok t → Lits A t → GrpLt N t.flatten →
      ∀ rest, scan (okLitM A) okGrp isOpM true (t.flatten ++ rest) =
        scan (okLitM A) okGrp isOpM false rest := by
  intro t
  induction t with
  | lit v =>
    intro _ _ hl _ rest
    have : okLitM A v = true := hl
    simp only [Tree.flatten, List.cons_append, List.nil_append, scan, this, Bool.true_and]
  | grp s e0 _ =>
    intro hwp hd hl hgl rest
    cases hwp with
    | grp _ _ hwp0 =>
      cases hd with
      | grp _ _ htok hd0 =>
        have := hG s e0 (hgl ⟨s, .group⟩ List.mem_cons_self rfl) htok hwp0 hd0 hl
        simp only [Tree.flatten, List.cons_append, List.nil_append, scan, this, Bool.true_and]
  | un m e0 ih =>
    intro hwp hd hl hgl rest
    cases hwp with
    | un _ _ hat hwp0 =>
      cases hd with
      | un _ _ hd0 => exact ih hwp0 hd0 hl (fun tk hm => hgl tk (List.mem_cons_of_mem _ hm)) rest
  | bin i op l r ihl ihr =>
    intro hwp hd hl hgl rest
    cases hwp with
    | bin _ _ _ _ lv hwl hwr hlv _ _ himp =>
      cases hd with
      | bin _ _ _ _ hdl hdr =>
        obtain ⟨hll, hlr⟩ := (lits_bin A).mp hl
        obtain ⟨hgl1, hgl2⟩ := grpLt_bin hgl
        obtain ⟨tk, tl, hcons, hop, htl⟩ := bin_head hlv himp rest
        simp only [Tree.flatten, List.append_assoc] at hcons ⊢
        rw [ihl hwl hdl hll hgl1, hcons, scan_after _ _ hop, htl, ihr hwr hdr hlr hgl2]

/-! ### texts -/

abbrev acceptsM (f : Nat) (s : Bytes) : Bool := acceptsF tok (okLitM A) isOpM f s

/-- what compiles is accepted -/
theorem compileF_accepts : ∀ (f : Nat) (s : Bytes) (r : Parsed α), s.length < f →
    compileF A f s = .ok r → acceptsM A f s = true := by
  intro f
  induction f with
  | zero => intro s r h; omega
  | succ f ih =>
    intro s r hlen h
    obtain ⟨t, e⟩ := r
    obtain ⟨htok, g⟩ := compileF_post A _ s t e h
    have hgl := tok_group_len htok
    have hG : ∀ s0 e0, s0.length < s.length → tok s0 = some e0.flatten → WellPrec orderOfOps e0 →
        Deep tok e0 → Lits A e0 → acceptsM A f s0 = true := by
      intro s0 e0 hl0 ht0 hw0 hd0 hll0
      obtain ⟨ex, hex⟩ := compileF_complete A f s0 e0 (by omega) ht0 hw0 hd0 hll0
      exact ih s0 _ (by omega) hex
    have := flatten_scan A (acceptsM A f) hG t g.wp g.deep g.lits hgl []
    simp only [List.append_nil] at this
    simp only [acceptsM, acceptsF, htok, this, scan]

/-- what is accepted compiles -/
theorem accepts_compileF : ∀ (f : Nat) (s : Bytes), s.length < f → acceptsM A f s = true →
    ∃ r, compileF A f s = .ok r := by
  intro f
  induction f with
  | zero => intro s h; omega
  | succ f ih =>
    intro s hlen h
    simp only [acceptsM, acceptsF] at h
    cases htk : tok s with
    | none => rw [htk] at h; cases h
    | some toks =>
      rw [htk] at h
      simp only at h
      have hgl := tok_group_len htk
      have hg : ∀ g, g.length < s.length → acceptsM A f g = true → ∃ r, compileF A f g = .ok r :=
        fun g hl0 ha => ih g (by omega) ha
      obtain ⟨r, hr⟩ := scan_compileTokens A (acceptsM A f) hg toks hgl h
      simp only [tok] at htk
      cases ht : tokenize s with
      | error err => rw [ht] at htk; cases htk
      | ok l =>
        rw [ht] at htk
        injection htk with htk
        subst htk
        exact ⟨r, by simp only [compileF, ht, hr]⟩

/-- **`compile` succeeds exactly on the texts of the grammar.** -/
theorem compile_iff_accepts (s : Bytes) :
    (∃ r, compile A s = .ok r) ↔ accepts tok (okLitM A) isOpM s = true := by
  constructor
  · rintro ⟨r, h⟩
    exact compileF_accepts A _ s r (Nat.lt_succ_self _) h
  · intro h
    exact accepts_compileF A _ s (Nat.lt_succ_self _) h

end Rare.C19

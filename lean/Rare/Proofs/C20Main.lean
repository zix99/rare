import Rare.Proofs.C20Trim
import Rare.Proofs.C20Utf8
import Rare.Proofs.C20Term
/-! C20: what `WriteLineNoWrap` writes for a text made of tokens, and tokens through the terminal `Term`. -/
namespace Rare.C20

/-- hypotheses on a text: printable runes and SGR colour sequences only; with trimming off it
must fit and be well-formed UTF-8 -/
def TextOK (W : Nat) (trim : Bool) (txt : Bytes) : Prop :=
  ∃ toks : List Tok, (∀ t ∈ toks, t.Printable) ∧ decodeUtf8 txt = renderToks toks ∧
    (trim = false → (visToks toks).length ≤ W ∧ ValidUtf8 txt)

theorem feedBytes_append (t : Term) (a b : Bytes) (ha : Clean a) :
    t.feedBytes (a ++ b) = (t.feedBytes a).feedBytes b := by
  simp [Term.feedBytes, ha b, feed_append]

theorem feedBytes_nil (t : Term) : t.feedBytes [] = t := rfl

theorem rtok_hand (t : Tok) : rtok handEsc t = t.render := by cases t <;> rfl

theorem rtoks_hand (ts : List Tok) : rtoks handEsc ts = renderToks ts := by
  have : rtok handEsc = Tok.render := funext rtok_hand
  simp [rtoks, renderToks, this]

theorem Tok.Scannable.hand {t : Tok} (h : t.Scannable) : TokScannable handEsc t := by
  cases t <;> exact h

/-- colour parameters contain no `m` -/
theorem params_no_m (p : List Rune) (hp : ∀ c ∈ p, 48 ≤ c ∧ c ≤ 59) : (109 : Nat) ∉ 91 :: p := by
  intro hm
  rcases List.mem_cons.mp hm with hm | hm
  · exact absurd hm (by decide)
  · have := hp 109 hm; omega

theorem Tok.Printable.scannable {t : Tok} (h : t.Printable) : t.Scannable := by
  cases t with
  | ch r => have h' : 32 ≤ r ∧ r ≠ 127 := h; show r ≠ 27; omega
  | sgr b => obtain ⟨p, rfl, hp⟩ := h; exact params_no_m p hp

theorem Tok.Safe.scannable {cw : Rune → Nat} {t : Tok} (h : t.Safe cw) : t.Scannable := by
  cases t with
  | ch r => have h' : 32 ≤ r ∧ r ≠ 127 ∧ cw r = 1 := h; show r ≠ 27; omega
  | sgr b => obtain ⟨p, rfl, hp⟩ := h; exact params_no_m p hp

theorem SgrTail.scanTail {tail : List Rune} (h : SgrTail tail) : ScanTail handEsc tail := by
  rcases h with h | h | ⟨p, h, hp⟩
  · exact Or.inl h
  · exact Or.inr ⟨[], h, by simp⟩
  · exact Or.inr ⟨91 :: p, h, params_no_m p hp⟩

theorem trimToks_mem (cols : Int) (toks : List Tok) : ∀ vis, ∀ t ∈ trimToks cols vis toks, t ∈ toks := by
  intro vis t ht
  obtain ⟨rest, hr⟩ := trimToks_prefix cols toks vis
  rw [hr]; exact List.mem_append_left _ ht

/-- trimmed runes of a token text: the trimmed tokens, and the unterminated tail if there was room left -/
theorem trimRunes_toks (cols : Int) (toks : List Tok) (tail : List Rune)
    (h : ∀ t ∈ toks, t.Scannable) (ht : ScanTail handEsc tail) :
    trimRunes handEsc cols (renderToks toks ++ tail) =
      renderToks (trimToks cols 0 toks) ++ keptTail cols 0 toks tail := by
  have := trimGo_toks_tail handEsc (by decide) cols toks tail ht 0 (fun t ht => (h t ht).hand)
  rw [rtoks_hand, rtoks_hand] at this
  unfold trimRunes
  rw [this]
  rcases keptTail_cases cols toks tail 0 with ⟨h1, h2⟩ | h1
  · rw [h1, h2, ← List.length_append, List.take_length]
  · rw [h1]
    obtain ⟨rest, hr⟩ := trimToks_prefix cols toks 0
    have : renderToks toks = renderToks (trimToks cols 0 toks) ++ renderToks rest := by
      conv => lhs; rw [hr]
      simp [renderToks]
    rw [this]; simp

/-- the visible runes of a token text are the visible parts of its tokens -/
theorem visibleRunes_toks (toks : List Tok) (tail : List Rune)
    (h : ∀ t ∈ toks, t.Scannable) (ht : ScanTail handEsc tail) :
    visibleRunes (renderToks toks ++ tail) = visToks toks := by
  induction toks with
  | nil =>
    rcases ht with rfl | ⟨b, rfl, hb⟩
    · rfl
    · exact (visibleRunes_esc b).trans (skipSgr_no_m b hb)
  | cons t ts ih =>
    have ih' := ih (fun t ht => h t (by simp [ht]))
    have ht := h t (by simp)
    rw [renderToks_cons, visToks_cons, List.append_assoc]
    cases t with
    | ch r => exact (visibleRunes_ch r ht _).trans (congrArg _ ih')
    | sgr b =>
      show visibleRunes (27 :: (b ++ [109]) ++ (renderToks ts ++ tail)) = visToks ts
      rw [List.cons_append, List.append_assoc, visibleRunes_esc, List.singleton_append, skipSgr_body b _ ht, ih']

/-- What `WriteLineNoWrap` writes for a text that decodes to scannable tokens `toks` (and possibly an
unterminated escape sequence `tail` at the end): self-delimiting bytes that decode to some of these
tokens (and the tail, or nothing), whose visible part is exactly `shown`, no longer than the width. -/
theorem piece_toks (W : Nat) (trim : Bool) (txt : Bytes) (toks : List Tok) (tail : List Rune)
    (hs : ∀ t ∈ toks, t.Scannable) (htl : ScanTail handEsc tail) (hd : decodeUtf8 txt = renderToks toks ++ tail)
    (hfit : trim = false → (visToks toks).length ≤ W ∧ ValidUtf8 txt) :
    ∃ (toks' : List Tok) (tail' : List Rune), (∀ t ∈ toks', t ∈ toks) ∧ (tail' = tail ∨ tail' = []) ∧
      Clean (writeLineNoWrap handEsc trim W txt) ∧
      decodeUtf8 (writeLineNoWrap handEsc trim W txt) = renderToks toks' ++ tail' ∧
      visToks toks' = shown W trim txt ∧ (visToks toks').length ≤ W := by
  have hvis : visibleRunes (decodeUtf8 txt) = visToks toks := hd ▸ visibleRunes_toks toks tail hs htl
  cases trim with
  | false =>
    obtain ⟨hl, hv⟩ := hfit rfl
    refine ⟨toks, tail, fun _ h => h, Or.inl rfl, ?_, hd, by simp [shown, hvis], hl⟩
    show Clean txt
    rw [← hv]; exact Clean.encode _ (decodeUtf8_valid txt)
  | true =>
    have hw : writeLineNoWrap handEsc true W txt =
        encodeUtf8 (renderToks (trimToks W 0 toks) ++ keptTail W 0 toks tail) := by
      simp [writeLineNoWrap, hd, trimRunes_toks W toks tail hs htl]
    have hkt : keptTail W 0 toks tail = tail ∨ keptTail W 0 toks tail = [] :=
      (keptTail_cases W toks tail 0).imp And.left id
    have hvalid : ∀ r ∈ renderToks (trimToks W 0 toks) ++ keptTail W 0 toks tail, validScalar r := by
      intro r hr
      obtain ⟨rest, hrest⟩ := trimToks_prefix W toks 0
      have hsplit : renderToks toks = renderToks (trimToks W 0 toks) ++ renderToks rest := by
        conv => lhs; rw [hrest]
        simp [renderToks]
      apply decodeUtf8_valid txt
      rw [hd, hsplit]
      rcases List.mem_append.mp hr with hr | hr
      · exact List.mem_append_left _ (List.mem_append_left _ hr)
      · rcases hkt with h | h <;> rw [h] at hr
        · exact List.mem_append_right _ hr
        · cases hr
    refine ⟨trimToks W 0 toks, keptTail W 0 toks tail, trimToks_mem W toks 0, hkt, ?_, ?_, ?_, ?_⟩
    · rw [hw]; exact Clean.encode _ hvalid
    · rw [hw]; exact decodeUtf8_encodeUtf8 _ hvalid
    · simp [shown, hvis, visToks_trimToks W toks 0]
    · have := trimToks_vis_le W toks 0
      omega

/-- `piece_toks` for a text of printable tokens -/
theorem piece_spec (W : Nat) (trim : Bool) (txt : Bytes) (h : TextOK W trim txt) :
    ∃ toks' : List Tok, (∀ t ∈ toks', t.Printable) ∧
      Clean (writeLineNoWrap handEsc trim W txt) ∧
      decodeUtf8 (writeLineNoWrap handEsc trim W txt) = renderToks toks' ∧
      visToks toks' = shown W trim txt ∧ (visToks toks').length ≤ W := by
  obtain ⟨toks, hp, hd, hfit⟩ := h
  obtain ⟨toks', tail', hsub, htl, h1, h2, h3, h4⟩ := piece_toks W trim txt toks []
    (fun t ht => (hp t ht).scannable) (Or.inl rfl) (by rw [hd, List.append_nil]) hfit
  have : tail' = [] := htl.elim id id
  rw [this, List.append_nil] at h2
  exact ⟨toks', fun t ht => hp t (hsub t ht), h1, h2, h3, h4⟩

theorem step_printable_ground (t : Term) (h : t.ps = .ground) (r : Nat) (hr : 32 ≤ r ∧ r ≠ 127) :
    (t.step r).ps = .ground := by
  obtain ⟨w, ht, o, rows, row, col, vis, ps⟩ := t
  simp only at h; subst h
  have h1 : r ≠ ESC := by unfold ESC; omega
  have h2 : r ≠ LF := by unfold LF; omega
  have h3 : r ≠ CR := by unfold CR; omega
  have h4 : ¬ (r < 32 ∨ r = 127) := by omega
  simp only [Term.step, h1, h2, h3, h4, if_false, Term.putChar]
  split <;> simp [Term.down] <;> split <;> rfl

theorem feed_toks (toks : List Tok) (hp : ∀ t ∈ toks, t.Printable) :
    ∀ (t : Term), t.ps = .ground → t.feed (renderToks toks) = t.feed (visToks toks) := by
  induction toks with
  | nil => intro t _; rfl
  | cons k ks ih =>
    intro t h
    have hk := hp k (by simp)
    have ih' := ih (fun t ht => hp t (by simp [ht]))
    cases k with
    | ch r =>
      have h' : 32 ≤ r ∧ r ≠ 127 := hk
      simp only [renderToks_cons, visToks_cons, Tok.render, Tok.vis, List.singleton_append, feed_cons]
      exact ih' _ (step_printable_ground t h r h')
    | sgr b =>
      obtain ⟨p, hb, hpp⟩ := hk
      subst hb
      have : t.feed (Tok.render (Tok.sgr (91 :: p))) = t := feed_sgr t h p hpp
      rw [renderToks_cons, visToks_cons, feed_append, this]
      exact ih' t h

theorem toks_vis_printable (toks : List Tok) (hp : ∀ t ∈ toks, t.Printable) :
    ∀ r ∈ visToks toks, 32 ≤ r ∧ r ≠ 127 := by
  intro r hr
  simp only [visToks, List.mem_flatMap] at hr
  obtain ⟨k, hk, hrk⟩ := hr
  cases k with
  | ch x =>
    simp [Tok.vis] at hrk; subst hrk
    exact hp _ hk
  | sgr b => simp [Tok.vis] at hrk

/-- write a line at the cursor (column 0) and erase the rest: the row is exactly the visible text -/
theorem feed_line (toks : List Tok) (hp : ∀ t ∈ toks, t.Printable) (t : Term) (h : t.ps = .ground)
    (hc : t.col = 0) (hfit : (visToks toks).length ≤ t.width) :
    t.feed (renderToks toks ++ [27, 91, 48, 75]) =
      { t with rows := setRow t.rows t.row (visToks toks), col := (visToks toks).length } := by
  rw [feed_append, feed_toks toks hp t h,
    feed_printables (visToks toks) (toks_vis_printable toks hp) t h (by omega)]
  rw [feed_erase _ (by simpa using h)]
  obtain ⟨w, ht, o, rows, row, col, vis, ps⟩ := t
  simp only at hc; subst hc
  have := writeCells_take (visToks toks) (rows row) 0 (by omega)
  simp only [Nat.zero_add, List.take_zero, List.nil_append] at this
  simp [Term.eraseToEol, setRow_at, setRow_same, this]

end Rare.C20

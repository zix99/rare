import Rare.Model.C19
/-!
Helper lemmas for C19: simplification is invisible, `opCodeOrder` against `level`, the
precedence-climbing invariant (`climb_post`) from which `parse_wellprec` follows, the tokenizer step, and the
errors of `compile`: the code never panics and the recursion budgets of the model are never exhausted (so
"the model returns" is not an assumption: every formula either compiles or is rejected with one of the Go
error values).
-/
namespace Rare.C19

variable {α : Type} (A : Arith α)

/-! ### simplify -/

theorem probe_eval (e : Expr α) (h : (e.probe A).2 = 0) (b : Binding α) :
    e.eval A b = (e.probe A).1 := by
  induction e with
  | val v => rfl
  | named n => simp [Expr.probe] at h
  | idx i => simp [Expr.probe] at h
  | un m e ih =>
    simp only [Expr.probe] at h ⊢
    simp only [Expr.eval, ih h]
  | bin op l r ihl ihr =>
    simp only [Expr.probe] at h ⊢
    have h1 : (l.probe A).2 = 0 := by omega
    have h2 : (r.probe A).2 = 0 := by omega
    simp only [Expr.eval, ihl h1, ihr h2]

theorem simplify_eval (e : Expr α) (b : Binding α) : (simplify A e).eval A b = e.eval A b := by
  unfold simplify
  by_cases h : (e.probe A).2 = 0
  · simp only [h, if_true, Expr.eval]
    exact (probe_eval A e h b).symm
  · simp only [h, if_false]

/-! ### opCodeOrder and levels -/

/-- `opCodeOrder` compares the levels of the two operators in the table, and panics when neither has one. -/
theorem opCodeOrderGo_eq (t : List (List Bytes)) (a b : Bytes) :
    opCodeOrderGo t a b =
      match level t a, level t b with
      | none, none => .error (.panic "op not found")
      | some _, none => .ok (-1)
      | none, some _ => .ok 1
      | some la, some lb => .ok (if la = lb then 0 else if la < lb then -1 else 1) := by
  induction t with
  | nil => rfl
  | cons set rest ih =>
    simp only [opCodeOrderGo, level, ih]
    cases set.contains a <;> cases set.contains b <;> cases level rest a <;> cases level rest b <;>
      simp <;> omega

theorem order_one {t : List (List Bytes)} {a b : Bytes} :
    opCodeOrderGo t a b = .ok 1 ↔ ∃ lb, level t b = some lb ∧ ∀ la, level t a = some la → lb < la := by
  rw [opCodeOrderGo_eq]
  cases level t a <;> cases level t b <;> simp <;> omega

theorem order_not_one {t : List (List Bytes)} {a b : Bytes} :
    (∃ r, opCodeOrderGo t a b = .ok r ∧ r ≠ 1) ↔
      ∃ la, level t a = some la ∧ ∀ lb, level t b = some lb → la ≤ lb := by
  rw [opCodeOrderGo_eq]
  cases level t a <;> cases level t b <;> simp <;> omega

theorem order_total {t : List (List Bytes)} {a b : Bytes} {lb : Nat} (h : level t b = some lb) :
    ∃ r, opCodeOrderGo t a b = .ok r := by
  rw [opCodeOrderGo_eq, h]
  cases level t a <;> exact ⟨_, rfl⟩

/-! ### The parser builds well-precedenced parse trees -/

/-- The tokenizer as a partial function. -/
def tok (s : Bytes) : Option (List Token) :=
  match tokenize s with
  | .ok l => some l
  | .error _ => none

/-- What every compiled (sub-)formula satisfies: its ghost tree is a common-order parse, groups
    are parses of their own text, and the (simplified) Go expression evaluates like the tree. -/
structure Good (t : Tree) (e : Expr α) : Prop where
  wp : WellPrec orderOfOps t
  deep : Deep tok t
  lits : t.allLits (fun v => (classify A v).isSome) = true
  ev : ∀ b, e.eval A b = t.eval A (classify A) b

/-- Hypothesis on the group compiler. -/
def Hcg (cg : Bytes → Except Err (Parsed α)) : Prop :=
  ∀ s t e, cg s = .ok (t, e) → tok s = some t.flatten ∧ Good A t e

theorem ofAtom_eval (a : Atom α) (b : Binding α) : (Expr.ofAtom a).eval A b = a.eval b := by
  cases a <;> rfl

/-- `getNextExpr` takes an atom off the front of the tokens, whatever the group compiler is. -/
theorem getNextExpr_flat {cg : Bytes → Except Err (Parsed α)} (toks : List Token) (r : Parsed α)
    (rest : List Token) (h : getNextExpr A cg toks = .ok (r, rest)) :
    r.1.isAtom = true ∧ toks = r.1.flatten ++ rest := by
  -- the cases of `getNextExpr`: 1 no token; 2/3 a literal, classified or not; 4/5 a group, compiled or not;
  -- 6/7 a unary operator, with or without an operand after it; 8 a binary operator
  fun_induction getNextExpr A cg toks generalizing r rest with
  | case1 | case3 | case5 | case7 | case8 => cases h
  | case2 tk _ ht => cases tk; cases ht; cases h; exact ⟨rfl, rfl⟩
  | case4 tk _ ht => cases tk; cases ht; cases h; exact ⟨rfl, rfl⟩
  | case6 tk _ ht t e _ hne ih =>
    cases tk; cases ht; cases h
    exact ⟨rfl, by rw [(ih _ _ hne).2]; rfl⟩

theorem getNextExpr_good {cg : Bytes → Except Err (Parsed α)} (hcg : Hcg A cg) (toks : List Token)
    (r : Parsed α) (rest : List Token) (h : getNextExpr A cg toks = .ok (r, rest)) : Good A r.1 r.2 := by
  fun_induction getNextExpr A cg toks generalizing r rest with
  | case1 | case3 | case5 | case7 | case8 => cases h
  | case2 tk _ _ a hc =>
    cases h
    exact ⟨.lit _, .lit _, by simp only [Tree.allLits, classify, hc]; rfl,
      fun b => by simp only [Tree.eval, classify, hc, ofAtom_eval]⟩
  | case4 tk _ _ t e hc =>
    cases h
    obtain ⟨htok, g⟩ := hcg _ _ _ hc
    exact ⟨.grp _ _ g.wp, .grp _ _ htok g.deep, g.lits, g.ev⟩
  | case6 tk _ _ t e _ hne ih =>
    cases h
    have g := ih _ _ hne
    exact ⟨.un _ _ (getNextExpr_flat A _ _ _ hne).1 g.wp, .un _ _ g.deep, g.lits,
      fun b => by simp only [Expr.eval, Tree.eval, g.ev b]⟩

/-- Level of the operator the loop would see next. -/
def headLvl (toks : List Token) : Option Nat :=
  match toks with
  | [] => none
  | tk :: _ =>
    match getNextOp tk with
    | .ok (op, _) => level orderOfOps op
    | .error _ => none

/-- What one run of the loop of `compileTokens(last)` establishes. -/
structure Post (last : Bytes) (t : Tree) (toks : List Token) (t' : Tree) (e' : Expr α)
    (rest' : List Token) : Prop where
  flat : t.flatten ++ toks = t'.flatten ++ rest'
  good : Good A t' e'
  stop : rest' = [] ∨ ∃ la, level orderOfOps last = some la ∧ ∀ x, headLvl rest' = some x → la ≤ x
  root : ∀ x, t'.rootLvl orderOfOps = some x →
    t.rootLvl orderOfOps = some x ∨ ∀ l, level orderOfOps last = some l → x < l
  swg : t'.startsWithGroup = t.startsWithGroup
  len : rest'.length ≤ toks.length

theorem atom_rootLvl {t : Tree} (h : t.isAtom = true) : t.rootLvl orderOfOps = none := by
  cases t <;> simp_all [Tree.isAtom, Tree.rootLvl]

theorem getNextOp_ok {tk : Token} {op : Bytes} {c : Bool} (h : getNextOp tk = .ok (op, c)) :
    (c = true ∧ tk = ⟨op, .op⟩) ∨ (c = false ∧ op = starOp ∧ tk.t = .group) := by
  obtain ⟨val, ty⟩ := tk
  cases ty <;> simp only [getNextOp] at h
  · cases h
  · cases h; exact .inr ⟨rfl, rfl, rfl⟩
  · split at h <;> cases h
    exact .inl ⟨rfl, rfl⟩
  · cases h

/-- The loop moves a prefix of the tokens into the flattening of the accumulated operand, whatever the
    group compiler is. -/
theorem climb_flat {cg : Bytes → Except Err (Parsed α)} (f : Nat) (last : Bytes) (ret : Parsed α)
    (toks : List Token) (r : Parsed α) (rest' : List Token) (h : climb A cg f last ret toks = .ok (r, rest')) :
    ∃ mid, toks = mid ++ rest' ∧ r.1.flatten = ret.1.flatten ++ mid := by
  -- the cases of `climb`: 1 no fuel; 2 no token left; 3 no operator next; 4 `opCodeOrder` fails; 5 a tighter
  -- operator without an operand after it; 6 the loop over that operand fails; 7 it succeeds, and the loop goes on
  -- with the new node; 8 the next operator is not tighter: stop
  fun_induction climb A cg f last ret toks generalizing r rest' with
  | case1 | case3 | case4 | case5 | case6 => cases h
  | case2 | case8 => cases h; exact ⟨[], rfl, (List.append_nil _).symm⟩
  | case7 f last ret tk rest op c hop toks0 first toks1 hne rhs toks2 hc1 hord ih1 ih2 =>
    obtain ⟨mid1, h1, f1⟩ := ih1 _ _ hc1
    obtain ⟨mid2, h2, f2⟩ := ih2 _ _ h
    have h0 : toks0 = first.1.flatten ++ toks1 := (getNextExpr_flat A _ _ _ hne).2
    rcases getNextOp_ok hop with ⟨rfl, rfl⟩ | ⟨rfl, -, -⟩
    · refine ⟨⟨op, .op⟩ :: (first.1.flatten ++ mid1 ++ mid2), ?_, ?_⟩
      · rw [show rest = first.1.flatten ++ toks1 from h0, h1, h2]; simp
      · rw [f2]; simp [Tree.flatten, f1]
    · refine ⟨first.1.flatten ++ mid1 ++ mid2, ?_, ?_⟩
      · rw [show tk :: rest = first.1.flatten ++ toks1 from h0, h1, h2]; simp
      · rw [f2]; simp [Tree.flatten, f1]

theorem climb_post {cg : Bytes → Except Err (Parsed α)} (hcg : Hcg A cg) :
    ∀ (f : Nat) (last : Bytes) (t : Tree) (e : Expr α) (toks : List Token)
      (t' : Tree) (e' : Expr α) (rest' : List Token),
      climb A cg f last (t, e) toks = .ok ((t', e'), rest') →
      Good A t e →
      (∀ tl x, t.rootLvl orderOfOps = some tl → headLvl toks = some x → tl ≤ x) →
      Post A last t toks t' e' rest' := by
  suffices aux : ∀ (f : Nat) (last : Bytes) (ret : Parsed α) (toks : List Token) (r : Parsed α)
      (rest' : List Token), climb A cg f last ret toks = .ok (r, rest') → Good A ret.1 ret.2 →
      (∀ tl x, ret.1.rootLvl orderOfOps = some tl → headLvl toks = some x → tl ≤ x) →
      Post A last ret.1 toks r.1 r.2 rest' from
    fun f last t e toks t' e' rest' h => aux f last (t, e) toks (t', e') rest' h
  intro f last ret toks r rest' h g hpre
  fun_induction climb A cg f last ret toks generalizing r rest' with
  | case1 | case3 | case4 | case5 | case6 => cases h
  | case2 =>
    cases h
    exact ⟨rfl, ⟨g.wp, g.deep, g.lits, fun b => by rw [simplify_eval]; exact g.ev b⟩, .inl rfl,
      fun x hx => .inl hx, rfl, Nat.le_refl _⟩
  | case8 f last ret tk rest op c hop ord hord h1 =>
    cases h
    obtain ⟨la, hla, hle⟩ := order_not_one.mp ⟨ord, hord, h1⟩
    refine ⟨rfl, g, .inr ⟨la, hla, fun x hx => hle x ?_⟩, fun x hx => .inl hx, rfl, Nat.le_refl _⟩
    simpa only [headLvl, hop] using hx
  | case7 f last ret tk rest op c hop toks0 first toks1 hne rhs toks2 hc1 hord ih1 ih2 =>
    obtain ⟨lop, hlop, hlt⟩ := order_one.mp hord
    have hat1 := (getNextExpr_flat A _ _ _ hne).1
    have p1 := ih1 _ _ hc1 (getNextExpr_good A hcg _ _ _ hne)
      (by intro tl x htl; rw [atom_rootLvl hat1] at htl; cases htl)
    -- the right operand binds tighter than `op`
    have hroot2 : ∀ x, rhs.1.rootLvl orderOfOps = some x → x < lop := by
      intro x hx
      rcases p1.root x hx with h' | h'
      · rw [atom_rootLvl hat1] at h'; cases h'
      · exact h' lop hlop
    -- an implied `*` stands in front of a group
    have himp : (!c) = true → op = starOp ∧ rhs.1.startsWithGroup = true := by
      intro hc
      rcases getNextOp_ok hop with ⟨rfl, _⟩ | ⟨rfl, hstar, hgrp⟩
      · cases hc
      · refine ⟨hstar, ?_⟩
        rw [p1.swg]
        obtain ⟨val, ty⟩ := tk
        cases hgrp
        simp only [toks0, Bool.false_eq_true, if_false, getNextExpr] at hne
        split at hne <;> cases hne
        rfl
    have gbin : Good A (Tree.bin (!c) op ret.1 rhs.1) (Expr.bin op (simplify A ret.2) (simplify A rhs.2)) :=
      ⟨.bin _ _ _ _ lop g.wp p1.good.wp hlop
          (fun x hx => hpre x lop hx (by simp only [headLvl, hop, hlop])) hroot2 himp,
        .bin _ _ _ _ g.deep p1.good.deep,
        by simp only [Tree.allLits, g.lits, p1.good.lits, Bool.and_self],
        fun b => by simp only [Expr.eval, Tree.eval, simplify_eval, g.ev b, p1.good.ev b]⟩
    have p2 := ih2 _ _ h gbin (by
      intro tl x htl hx
      simp only [Tree.rootLvl, hlop, Option.some.injEq] at htl
      subst htl
      rcases p1.stop with hnil | ⟨la, hla, hle⟩
      · rw [hnil] at hx; cases hx
      · rw [hlop] at hla; cases hla; exact hle x hx)
    obtain ⟨mid, hm, hf⟩ := climb_flat A _ _ _ _ _ _ (show climb A cg (f + 1) last ret (tk :: rest) = _ by
      simp only [climb, hop, hord, if_true, toks0, hne, hc1]; exact h)
    refine ⟨by rw [hm, hf, List.append_assoc], p2.good, p2.stop, ?_, p2.swg, by rw [hm]; simp⟩
    intro x hx
    rcases p2.root x hx with h' | h'
    · simp only [Tree.rootLvl, hlop, Option.some.injEq] at h'
      subst h'
      exact .inr hlt
    · exact .inr h'

theorem level_empty : level orderOfOps [] = none := by decide

theorem compileTokens_ok {cg : Bytes → Except Err (Parsed α)} {toks : List Token} {r : Parsed α}
    (h : compileTokens A cg toks = .ok r) :
    ∃ first rest rest', getNextExpr A cg toks = .ok (first, rest) ∧
      climb A cg (rest.length + 1) [] first rest = .ok (r, rest') := by
  unfold compileTokens at h
  split at h
  · cases h
  · split at h <;> cases h
    exact ⟨_, _, _, ‹_›, ‹_›⟩

theorem compileTokens_post {cg : Bytes → Except Err (Parsed α)} (hcg : Hcg A cg)
    (toks : List Token) (t : Tree) (e : Expr α)
    (h : compileTokens A cg toks = .ok (t, e)) : t.flatten = toks ∧ Good A t e := by
  obtain ⟨first, rest, rest', hne, hc⟩ := compileTokens_ok A h
  obtain ⟨hat, hfl⟩ := getNextExpr_flat A _ _ _ hne
  have p := climb_post A hcg _ _ _ _ _ _ _ _ hc (getNextExpr_good A hcg _ _ _ hne)
    (by intro tl x htl; rw [atom_rootLvl hat] at htl; cases htl)
  refine ⟨?_, p.good⟩
  rcases p.stop with hnil | ⟨la, hla, _⟩
  · rw [hfl, p.flat, hnil, List.append_nil]
  · rw [level_empty] at hla; cases hla

theorem compileF_post (f : Nat) (s : Bytes) (t : Tree) (e : Expr α) (h : compileF A f s = .ok (t, e)) :
    tok s = some t.flatten ∧ Good A t e := by
  induction f generalizing s t e with
  | zero => cases h
  | succ f ih =>
    unfold compileF at h
    split at h
    · cases h
    · rename_i toks htk
      obtain ⟨hfl, g⟩ := compileTokens_post A (cg := compileF A f) ih toks t e h
      exact ⟨by simp only [tok, htk, hfl], g⟩

theorem flatten_pos (t : Tree) : 0 < t.flatten.length := by
  induction t with
  | bin i op l r ihl _ => simp only [Tree.flatten, List.length_append]; omega
  | _ => simp [Tree.flatten]

/-! ### the tokenizer: a group's text is shorter than the formula -/

/-- every group token of the list has a text shorter than `N` -/
def GrpLt (N : Nat) (toks : List Token) : Prop := ∀ tk ∈ toks, tk.t = .group → tk.val.length < N

theorem grpLt_append {N : Nat} {a b : List Token} : GrpLt N (a ++ b) ↔ GrpLt N a ∧ GrpLt N b := by
  simp only [GrpLt, List.mem_append, or_imp, forall_and]

/-- One step of the tokenizer fails only on an unmatched `)`.  Otherwise the only group token it can add
    is the text collected in `sb` inside parentheses, and `sb`, counted with the parenthesis that opened it,
    grows by at most one byte. -/
theorem tokStep_spec (st : TokSt) (r : UInt8) (s : Bytes) :
    match tokStep st r s with
    | .error e => e = .overclosed
    | .ok st' =>
      (∀ tk ∈ st'.ret, tk.t = .group → tk ∈ st.ret ∨ (tk.val = st.sb ∧ 0 < st.parens)) ∧
      st'.sb.length + min st'.parens 1 ≤ st.sb.length + min st.parens 1 + 1 := by
  have old : ∀ tk ∈ st.ret, tk.t = .group → tk ∈ st.ret ∨ (tk.val = st.sb ∧ 0 < st.parens) :=
    fun _ h _ => .inl h
  have snoc : ∀ (l : List Token) (x : Token), (x.t = .group → x.val = st.sb ∧ 0 < st.parens) →
      (∀ tk ∈ l, tk.t = .group → tk ∈ st.ret ∨ (tk.val = st.sb ∧ 0 < st.parens)) →
      ∀ tk ∈ l ++ [x], tk.t = .group → tk ∈ st.ret ∨ (tk.val = st.sb ∧ 0 < st.parens) := by
    intro l x hx hl tk hm hg
    rcases List.mem_append.mp hm with hm | hm
    · exact hl tk hm hg
    · rw [List.mem_singleton.mp hm] at hg ⊢; exact .inr (hx hg)
  unfold tokStep
  by_cases hk : st.skip > 0
  · rw [if_pos hk]; exact ⟨old, Nat.le_succ _⟩
  rw [if_neg hk]
  by_cases h40 : r = 40
  · by_cases hp : st.parens > 0
    · rw [if_pos (by simp [h40, hp])]
      exact ⟨old, by simp only [List.length_append, List.length_singleton]; omega⟩
    rw [if_neg (by simp [hp])]
    by_cases he : st.sb.isEmpty = true
    · rw [if_neg (by simp [he]), if_pos h40]; exact ⟨old, by simp only; omega⟩
    · rw [if_pos (by simp [h40, he])]
      exact ⟨snoc _ _ (by split <;> nofun) old, by simp only [List.length_nil]; omega⟩
  rw [if_neg (by simp [h40]), if_neg (by simp [h40]), if_neg h40]
  by_cases h41 : r = 41
  · rw [if_pos h41]
    by_cases h1 : st.parens = 1
    · rw [if_pos h1]
      exact ⟨snoc _ _ (fun _ => ⟨rfl, by omega⟩) old, by simp only [List.length_nil]; omega⟩
    rw [if_neg h1]
    by_cases h0 : st.parens = 0
    · rw [if_pos h0]
    · rw [if_neg h0]; exact ⟨old, by simp only [List.length_append, List.length_singleton]; omega⟩
  rw [if_neg h41]
  by_cases h32 : r = 32
  · rw [if_pos h32]; exact ⟨old, Nat.le_succ _⟩
  rw [if_neg h32]
  by_cases hu : (decide (st.parens = 0) && st.sb.isEmpty && (st.ret.isEmpty || lastIsOp st.ret) && hasUnaryOp r) = true
  · rw [if_pos hu]; exact ⟨snoc _ _ nofun old, Nat.le_succ _⟩
  rw [if_neg hu]
  generalize (if st.parens = 0 then prefixInOps s else none) = o
  cases o with
  | none => exact ⟨old, by simp only [List.length_append, List.length_singleton]; omega⟩
  | some opCode =>
    refine ⟨snoc _ _ nofun ?_, by simp only [List.length_nil]; omega⟩
    split
    · exact old
    · exact snoc _ _ nofun old

def TInv (st : TokSt) (n : Nat) : Prop :=
  (∀ tk ∈ st.ret, tk.t = .group → tk.val.length < n) ∧ st.sb.length + min st.parens 1 ≤ n

theorem tokStep_inv {st st' : TokSt} {r : UInt8} {s : Bytes} {n : Nat} (hi : TInv st n)
    (h : tokStep st r s = .ok st') : TInv st' (n + 1) := by
  have hs := tokStep_spec st r s
  rw [h] at hs
  have hsb := hi.2
  refine ⟨fun tk hm hg => ?_, by have := hs.2; omega⟩
  rcases hs.1 tk hm hg with hm | ⟨hv, hp⟩
  · exact Nat.lt_succ_of_lt (hi.1 tk hm hg)
  · rw [hv]; omega

theorem tokLoop_inv (s : Bytes) (st st' : TokSt) (n : Nat) (hi : TInv st n) (h : tokLoop s st = .ok st') :
    TInv st' (n + s.length) := by
  fun_induction tokLoop s st generalizing n with
  | case1 => cases h; exact hi
  | case2 => cases h
  | case3 r rest st st1 hs ih =>
    have := ih (n + 1) (tokStep_inv hi hs) h
    rwa [Nat.add_right_comm] at this

theorem tok_group_len {s : Bytes} {toks : List Token} (h : tok s = some toks) : GrpLt s.length toks := by
  unfold tok tokenize at h
  split at h <;> cases h
  rename_i ht
  split at ht
  · cases ht
  · rename_i st hl
    have inv := tokLoop_inv s _ st 0 ⟨fun _ hm => (by cases hm), Nat.le_refl _⟩ hl
    rw [Nat.zero_add] at inv
    split at ht <;> cases ht
    split
    · exact inv.1
    · exact grpLt_append.mpr ⟨inv.1, fun tk hm hg => by rw [List.mem_singleton.mp hm] at hg; cases hg⟩

/-! ### every error is one of the Go error values -/

/-- One of the error values of the Go code: not a panic, and – where the budget `b` suffices – not the
    model's own `fuel`. -/
def GoErr (b : Prop) (e : Err) : Prop := (∀ m, e ≠ .panic m) ∧ (b → e ≠ .fuel)

theorem GoErr.mono {b b' : Prop} {e : Err} (h : GoErr b e) (hb : b' → b) : GoErr b' e :=
  ⟨h.1, fun h' => h.2 (hb h')⟩

theorem tokLoop_err (s : Bytes) (st : TokSt) (err : Err) (h : tokLoop s st = .error err) : err = .overclosed := by
  fun_induction tokLoop s st with
  | case1 => cases h
  | case2 r rest st e hs =>
    cases h
    have := tokStep_spec st r (r :: rest)
    rwa [hs] at this
  | case3 r rest st st' hs ih => exact ih h

theorem tokenize_err {b : Prop} {s : Bytes} {err : Err} (h : tokenize s = .error err) : GoErr b err := by
  unfold tokenize at h
  split at h
  · rename_i hl
    cases h; cases tokLoop_err _ _ _ hl; exact ⟨nofun, fun _ => nofun⟩
  · split at h <;> cases h
    exact ⟨nofun, fun _ => nofun⟩

theorem classifyE_err {b : Prop} {v : Bytes} {err : Err} (h : classifyE A v = .error err) : GoErr b err := by
  unfold classifyE at h
  split at h
  · simp only at h
    split at h <;> cases h
  · split at h
    · cases h
    · cases h; exact ⟨nofun, fun _ => nofun⟩
    · split at h <;> cases h
      exact ⟨nofun, fun _ => nofun⟩

theorem getNextOp_err {b : Prop} {tk : Token} {err : Err} (h : getNextOp tk = .error err) : GoErr b err := by
  unfold getNextOp at h
  split at h
  · split at h <;> cases h
    exact ⟨nofun, fun _ => nofun⟩
  · cases h
  · cases h; exact ⟨nofun, fun _ => nofun⟩

/-- the errors of the group compiler on the group tokens of the list are Go error values -/
def GrpErr (cg : Bytes → Except Err (Parsed α)) (b : Prop) (toks : List Token) : Prop :=
  ∀ tk ∈ toks, tk.t = .group → ∀ e, cg tk.val = .error e → GoErr b e

theorem getNextExpr_err {cg : Bytes → Except Err (Parsed α)} {b : Prop} (toks : List Token)
    (hg : GrpErr cg b toks) (err : Err) (h : getNextExpr A cg toks = .error err) : GoErr b err := by
  fun_induction getNextExpr A cg toks with
  | case1 | case8 => cases h; exact ⟨nofun, fun _ => nofun⟩
  | case2 | case4 | case6 => cases h
  | case3 tk _ _ e hc => cases h; exact classifyE_err A hc
  | case5 tk _ ht e hc => cases h; exact hg tk List.mem_cons_self ht _ hc
  | case7 tk rest _ e hne ih => cases h; exact ih (fun x hx => hg x (List.mem_cons_of_mem _ hx)) hne

theorem level_of_keys : opKeys.all (fun op => (level orderOfOps op).isSome) = true := by decide +kernel

theorem level_of_mem (op : Bytes) (h : opKeys.contains op = true) : (level orderOfOps op).isSome = true :=
  List.all_eq_true.mp level_of_keys op (List.contains_iff_mem.mp h)

/-- `opCodeOrder` never reaches its panic on an operator `getNextOp` hands out. -/
theorem getNextOp_order {tk : Token} {op : Bytes} {c : Bool} (h : getNextOp tk = .ok (op, c)) (last : Bytes) :
    ∃ ord, opCodeOrder last op = .ok ord := by
  have hl : (level orderOfOps op).isSome = true := by
    obtain ⟨val, ty⟩ := tk
    cases ty <;> simp only [getNextOp] at h
    · cases h
    · cases h; decide
    · split at h <;> cases h
      exact level_of_mem _ ‹_›
    · cases h
  cases hlv : level orderOfOps op with
  | none => rw [hlv] at hl; cases hl
  | some lb => exact order_total hlv

/-- the tokens the first operand of the inner frame is taken from are a tail of the loop's tokens -/
theorem inner_tail (c : Bool) (tk : Token) (rest : List Token) :
    ∃ pre, tk :: rest = pre ++ (if c = true then rest else tk :: rest) := by
  cases c
  · exact ⟨[], rfl⟩
  · exact ⟨[tk], rfl⟩

/-- Every round of the loop consumes a token, so a budget above their number is never exhausted. -/
theorem climb_err {cg : Bytes → Except Err (Parsed α)} {b : Prop} (f : Nat) (last : Bytes) (ret : Parsed α)
    (toks : List Token) (hg : GrpErr cg b toks) (err : Err)
    (h : climb A cg f last ret toks = .error err) : GoErr (b ∧ toks.length < f) err := by
  fun_induction climb A cg f last ret toks with
  | case1 => cases h; exact ⟨nofun, fun hl => absurd hl.2 (Nat.not_lt_zero _)⟩
  | case2 | case8 => cases h
  | case3 _ _ _ tk _ e hop => cases h; exact getNextOp_err hop
  | case4 _ last _ tk _ op c hop e hord =>
    obtain ⟨ord, ho⟩ := getNextOp_order hop last
    rw [ho] at hord; cases hord
  | case5 f last ret tk rest op c hop toks0 e hne hord =>
    cases h
    obtain ⟨pre, hp⟩ : ∃ pre, tk :: rest = pre ++ toks0 := inner_tail c tk rest
    exact (getNextExpr_err A toks0 (fun x hx => hg x (by rw [hp]; exact List.mem_append_right _ hx)) _ hne).mono
      And.left
  | case6 f last ret tk rest op c hop toks0 first toks1 hne e hc1 hord ih1 =>
    cases h
    obtain ⟨pre, hp⟩ : ∃ pre, tk :: rest = pre ++ toks0 := inner_tail c tk rest
    rw [hp, (getNextExpr_flat A _ _ _ hne).2] at hg ⊢
    have := flatten_pos first.1
    exact (ih1 (fun x hx => hg x (List.mem_append_right _ (List.mem_append_right _ hx))) hc1).mono
      (fun ⟨hb, hl⟩ => ⟨hb, by simp only [List.length_append] at hl; omega⟩)
  | case7 f last ret tk rest op c hop toks0 first toks1 hne rhs toks2 hc1 hord ih1 ih2 =>
    obtain ⟨pre, hp⟩ : ∃ pre, tk :: rest = pre ++ toks0 := inner_tail c tk rest
    obtain ⟨mid, hm, _⟩ := climb_flat A _ _ _ _ _ _ hc1
    rw [hp, (getNextExpr_flat A _ _ _ hne).2, hm] at hg ⊢
    have := flatten_pos first.1
    exact (ih2 (fun x hx => hg x
        (List.mem_append_right _ (List.mem_append_right _ (List.mem_append_right _ hx)))) h).mono
      (fun ⟨hb, hl⟩ => ⟨hb, by simp only [List.length_append] at hl; omega⟩)

/-- The nesting budget: a group is strictly shorter than the text around it (`tok_group_len`). -/
theorem compileF_err (f : Nat) (s : Bytes) (err : Err) (h : compileF A f s = .error err) :
    GoErr (s.length < f) err := by
  induction f generalizing s err with
  | zero => cases h; exact ⟨nofun, fun hl => absurd hl (Nat.not_lt_zero _)⟩
  | succ f ih =>
    unfold compileF at h
    split at h
    · cases h; exact tokenize_err ‹_›
    · rename_i toks htk
      have hgl : GrpLt s.length toks := tok_group_len (by simp only [tok, htk])
      have hg : GrpErr (compileF A f) (s.length < f + 1) toks :=
        fun tk hm hgr e he => (ih tk.val e he).mono (fun _ => by have := hgl tk hm hgr; omega)
      unfold compileTokens at h
      split at h
      · cases h; exact getNextExpr_err A _ hg _ ‹_›
      · rename_i first rest hne
        split at h <;> cases h
        refine (climb_err A _ _ _ _ (fun x hx => hg x ?_) _ ‹_›).mono (fun hb => ⟨hb, Nat.lt_succ_self _⟩)
        rw [(getNextExpr_flat A _ _ _ hne).2]
        exact List.mem_append_right _ hx

theorem compileF_noPanic (f : Nat) (s : Bytes) (err : Err) (h : compileF A f s = .error err) (m : String) :
    err ≠ .panic m :=
  (compileF_err A f s err h).1 m

/-- `compile` never runs out of its recursion budget. -/
theorem compile_noFuel (s : Bytes) : compile A s ≠ .error .fuel :=
  fun h => (compileF_err A _ s _ h).2 (Nat.lt_succ_self _) rfl

end Rare.C19

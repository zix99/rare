import Rare.Model.C05Close
namespace Rare.C05Close

/-- Invariant: once closed, every reader is past `doneAt` (program counters only grow). -/
def Inv (c : Cfg) (s : St) : Prop := s.closed = true → ∀ p ∈ s.pcs, c.doneAt ≤ p

theorem inv_step {c : Cfg} {s s' : St} (h : Inv c s) (hs : Step c s s') : Inv c s' := by
  cases hs with
  | adv i hi hlt =>
    intro hc p hp
    have hc' : s.closed = true := hc
    rcases List.mem_or_eq_of_mem_set hp with hp | rfl
    · exact h hc' p hp
    · have := h hc' s.pcs[i] (List.getElem_mem hi)
      omega
  | close hcl hall => intro _ p hp; exact hall p hp

theorem inv_reach {c : Cfg} {n : Nat} {s : St} (hr : Reach c (init n) s) : Inv c s := by
  induction hr with
  | refl => intro h; simp [init] at h
  | step _ hs ih => exact inv_step ih hs

theorem length_reach {c : Cfg} {n : Nat} {s : St} (hr : Reach c (init n) s) : s.pcs.length = n := by
  induction hr with
  | refl => simp [init]
  | step _ hs ih =>
    cases hs with
    | adv i hi hlt => simpa using ih
    | close _ _ => exact ih

theorem status_complete_of_stopped {c : Cfg} {s : St} (h : ∀ p ∈ s.pcs, c.stoppedAt ≤ p) :
    active c s = 0 ∧ readCount c s = s.pcs.length := by
  constructor
  · simp only [active, List.length_eq_zero_iff, List.filter_eq_nil_iff, decide_eq_true_eq]
    intro p hp; have := h p hp; omega
  · have : s.pcs.filter (fun p => decide (c.stoppedAt ≤ p)) = s.pcs := by
      rw [List.filter_eq_self]; intro p hp; simpa using h p hp
    simp [readCount, this]

/-- With `stoppedAt ≤ doneAt` (status first, then `wg.Done()`): when the channel is closed the status is complete. -/
theorem closed_status_complete {c : Cfg} (hord : c.stoppedAt ≤ c.doneAt) {n : Nat} {s : St}
    (hr : Reach c (init n) s) (hc : s.closed = true) : active c s = 0 ∧ readCount c s = n := by
  rw [← length_reach hr]
  exact status_complete_of_stopped fun p hp => Nat.le_trans hord (inv_reach hr hc p hp)

/-- Whatever the order: when every reader has finished its exit block the status is complete. -/
theorem quiescent_status_complete (c : Cfg) (hs2 : c.stoppedAt ≤ 2) {n : Nat} {s : St}
    (hr : Reach c (init n) s) (hq : ∀ p ∈ s.pcs, p = 2) : active c s = 0 ∧ readCount c s = n := by
  rw [← length_reach hr]
  exact status_complete_of_stopped fun p hp => hq p hp ▸ hs2

end Rare.C05Close

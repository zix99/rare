import Rare.Proofs.C15PollLive
/-!
C15 – plain polling follow ends the stream once the file is gone: with the path empty and a silent
writer the reader reads what is left, does its `ReadAttempts` empty reads, `Stat`s and returns EOF.
-/
namespace Rare.Follow
open Rare.C15.Spec

variable {β : Type} {cfg : PCfg} {ex : Bool} {st0 : Nat}

def unreadLenP (s : PSt β) : Nat :=
  match s.f with
  | some h => (unread s.fs h).length
  | none => 0

def prankP (a : Nat) : PRd → Nat
  | .attempt i => a + 2 - i
  | .check => 1
  | .opening _ => 0
  | .ended => 0

/-- From a state that has not returned EOF some run of the reader returns EOF or delivers another byte. -/
theorem poll_plain_inner (hre : cfg.reopen = false) {s : PSt β} (h : PInv cfg ex st0 s) (hp : s.fs.path = none) :
    ∃ s', PSysReach cfg s s' ∧ (s'.rd = .ended ∨ unreadLenP s' < unreadLenP s) := by
  have := poll_descent (P := fun t => t.fs.path = none ∧ unreadLenP t = unreadLenP s)
    (G := fun t => t.rd = .ended ∨ unreadLenP t < unreadLenP s) (fun t => prankP cfg.attempts t.rd) ?_ h ⟨hp, rfl⟩
  · obtain ⟨s', hr, _, hg⟩ := this
    exact ⟨s', hr, hg⟩
  · rintro t ht ⟨htp, htu⟩ hng
    cases hrd : t.rd with
    | ended => exact absurd (Or.inl hrd) hng
    | opening sz => exact absurd hrd (ht.noOpenPlain hre sz)
    | check => exact ⟨_, .step (.statGone t hrd hre htp) (.refl _), Or.inl (Or.inl rfl)⟩
    | attempt i =>
      have hi := ht.att i hrd
      -- a step that neither reads nor touches the handle: the place in the loop advances
      have idle : ∀ r, PStep cfg .reader t { t with rd := r } → prankP cfg.attempts r < cfg.attempts + 2 - i →
          ∃ t', PSysReach cfg t t' ∧ ((t'.rd = .ended ∨ unreadLenP t' < unreadLenP s) ∨
            ((t'.fs.path = none ∧ unreadLenP t' = unreadLenP s) ∧
              prankP cfg.attempts t'.rd < prankP cfg.attempts (.attempt i))) :=
        fun r hs hlt => ⟨_, .step hs (.refl _), Or.inr ⟨⟨htp, htu⟩, hlt⟩⟩
      cases hf : t.f with
      | none => exact idle _ (.nilSleep t i hrd hf) (by simp only [prankP]; omega)
      | some x =>
        by_cases hlt : i < cfg.attempts
        · cases hu : unread t.fs x with
          | nil => exact idle _ (.readEmpty t x i hrd hlt hf hu) (by simp only [prankP]; omega)
          | cons a l =>
            refine ⟨_, .step (.readSome t x i 1 hrd hlt hf (Nat.le_refl 1) (by rw [hu]; simp)) (.refl _),
              Or.inl (Or.inr ?_)⟩
            have : (unread t.fs x).length = l.length + 1 := by rw [hu]; simp
            rw [← htu]
            simp only [unreadLenP, hf, unread, List.length_drop] at this ⊢
            omega
        · have : i = cfg.attempts := by omega
          subst this
          exact idle _ (.loopDone t x hrd hf) (by simp only [prankP]; omega)

/-- Plain polling follow, the path empty, the writer silent: the reader returns EOF. -/
theorem poll_plain_ends (hre : cfg.reopen = false) {s : PSt β} (h : PInv cfg ex st0 s) (hp : s.fs.path = none) :
    ∃ s', PSysReach cfg s s' ∧ s'.rd = .ended := by
  have := poll_descent (P := fun t => t.fs.path = none) (G := fun t => t.rd = .ended) unreadLenP ?_ h hp
  · obtain ⟨s', hr, _, he⟩ := this
    exact ⟨s', hr, he⟩
  · intro t ht htp _
    obtain ⟨t', hr, hg⟩ := poll_plain_inner hre ht htp
    refine ⟨t', hr, hg.imp_right fun hlt => ⟨?_, hlt⟩⟩
    rw [(psysreach_inv hr ht).2.1]; exact htp

end Rare.Follow

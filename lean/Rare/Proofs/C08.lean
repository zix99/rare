import Rare.Proofs.ExprSafe
import Rare.Proofs.C10
/-! With a registry of safe builders, compilation never panics, never runs out of fuel and yields safe stages (C08). -/
namespace Rare.Expr

/-! ### the splitter does not invent characters -/

/-- Characters held by the splitter: the pending argument and the finished ones. -/
def SplitSt.size (s : SplitSt) : Nat := s.sb.length + (s.args.map List.length).sum

/-- Whatever the branch, a step keeps the characters it holds and adds at most the one it reads. -/
theorem splitStep_size (s : SplitSt) (r : Char) : (splitStep s r).size ≤ s.size + 1 := by
  unfold splitStep
  simp only [apply_ite SplitSt.size]
  simp only [SplitSt.size, apply_ite List.length, List.length_append, List.map_append, List.sum_append,
    List.length_cons, List.length_nil, List.map_cons, List.map_nil, List.sum_cons, List.sum_nil]
  repeat' apply ite_le
  all_goals grind

theorem splitFold_size (t : List Char) : ∀ s : SplitSt, (t.foldl splitStep s).size ≤ s.size + t.length := by
  induction t with
  | nil => intro s; exact Nat.le_refl _
  | cons r rest ih =>
    intro s
    have h1 := ih (splitStep s r)
    have h2 := splitStep_size s r
    simp only [List.foldl_cons, List.length_cons]
    omega

theorem mem_length_le_sum {a : List Char} {l : List (List Char)} (h : a ∈ l) : a.length ≤ (l.map List.length).sum := by
  induction l with
  | nil => simp at h
  | cons x xs ih =>
    simp only [List.mem_cons] at h
    rcases h with rfl | h
    · simp
    · have := ih h; simp; omega

/-- Every argument produced by the splitter is no longer than the text it was split from. -/
theorem splitArgs_len {a t : List Char} (h : a ∈ splitArgs t) : a.length ≤ t.length := by
  unfold splitArgs at h
  have hs : (t.foldl splitStep SplitSt.init).size ≤ 0 + t.length := splitFold_size t SplitSt.init
  dsimp only at h
  generalize t.foldl splitStep SplitSt.init = s at hs h
  unfold SplitSt.size at hs
  split at h
  · have := mem_length_le_sum h; omega
  · rcases List.mem_append.mp h with h | h
    · have := mem_length_le_sum h; omega
    · simp at h; rw [h]; omega

theorem splitArgs_tail_len {sb name : List Char} {fargs : List (List Char)} {fuel : Nat}
    (hargs : splitArgs sb = name :: fargs) (hl : sb.length < fuel) : ∀ a ∈ fargs, a.length < fuel := fun a ha =>
  Nat.lt_of_le_of_lt (splitArgs_len (by rw [hargs]; exact List.mem_cons_of_mem _ ha)) hl

/-! ### the four functions of `Compile`

What is carried through their mutual recursion: the stages compiled so far are safe, and the fuel covers the text
still to be read (every nested template is a piece of the pending statement, so it is shorter).  Then each function
returns, and what it returns is safe. -/

theorem AllSafe.flush {l : List Stage} (h : AllSafe l) (sb : List Char) :
    AllSafe (if sb.isEmpty = true then l else l ++ [Stage.lit (charsToBytes sb)]) := by
  split
  · exact h
  · exact h.append (AllSafe.single (Safe.lit _))

def T1 (reg : Registry) (opt : Bool) (fuel : Nat) (all rs : List Char) (i : Nat) (st : CompSt) : Prop :=
  AllSafe st.stages → st.sb.length + rs.length ≤ fuel →
    ∃ st', compileLoop fuel reg opt all rs i st = .ok st' ∧ AllSafe st'.stages
def T2 (reg : Registry) (opt : Bool) (fuel : Nat) (all : List Char) (i : Nat) (st : CompSt) : Prop :=
  AllSafe st.stages → st.sb.length < fuel → ∃ st', closeStatement fuel reg opt all i st = .ok st' ∧ AllSafe st'.stages
def T3 (reg : Registry) (opt : Bool) (fuel : Nat) (as : List (List Char)) : Prop :=
  (∀ a ∈ as, a.length < fuel) → ∃ r, compileArgs fuel reg opt as = .ok r ∧ AllSafe r.1
def T4 (reg : Registry) (opt : Bool) (fuel : Nat) (t : List Char) : Prop :=
  t.length < fuel → ∃ r, compileF fuel reg opt t = .ok r ∧ AllSafe r.1

theorem total_mutual (reg : Registry) (hreg : SafeRegistry reg) (opt : Bool) :
    (∀ fuel all rs i st, T1 reg opt fuel all rs i st) ∧ (∀ fuel all i st, T2 reg opt fuel all i st) ∧
    (∀ fuel as, T3 reg opt fuel as) ∧ (∀ fuel t, T4 reg opt fuel t) := by
  apply compileLoop.mutual_induct reg opt (T1 reg opt) (T2 reg opt) (T3 reg opt) (T4 reg opt)
  -- compileLoop
  · intro fuel all x st hs _
    rw [compileLoop]
    exact ⟨st, rfl, hs⟩
  · intro fuel all i st hs _
    simp only [compileLoop, if_true]
    exact ⟨_, rfl, hs⟩
  · intro fuel all i st e rest' ih hs hl
    simp only [compileLoop, if_true]
    exact ih hs (by simp at hl ⊢; omega)
  · intro fuel all rest i st h0 stages sb hne ih hs hl
    rw [compileLoop_cons hne]
    simp only [if_true, h0]
    refine ih (hs.flush _) ?_
    show (if st.sb.isEmpty = true then st.sb else []).length + rest.length ≤ fuel
    simp at hl
    split <;> (try simp) <;> omega
  · intro fuel all rest i st h0 hne ih hs hl
    rw [compileLoop_cons hne]
    simp only [if_true, h0, if_false]
    exact ih hs (by simp at hl ⊢; omega)
  · intro fuel all r rest i st h1 h2 h3 h4 m hcl ih2 hs hl
    obtain ⟨st', h', _⟩ := ih2 hs (by simp at hl; omega)
    rw [hcl] at h'; cases h'
  · intro fuel all r rest i st h1 h2 h3 h4 st'' hcl ih2 ih1 hs hl
    obtain ⟨st', h', hs'⟩ := ih2 hs (by simp at hl; omega)
    rw [hcl] at h'; cases h'
    rw [compileLoop_cons h1, if_neg h2, if_pos h3, if_pos h4, hcl]
    exact ih1 hs' (by simp at hl ⊢; omega)
  · intro fuel all r rest i st h1 h2 h3 h4 ih hs hl
    rw [compileLoop_cons h1, if_neg h2, if_pos h3, if_neg h4]
    exact ih hs (by simp at hl ⊢; omega)
  · intro fuel all r rest i st h1 h2 h3 ih hs hl
    rw [compileLoop_cons h1, if_neg h2, if_neg h3]
    exact ih hs (by simp at hl ⊢; omega)
  -- closeStatement
  · intro fuel all i st args hargs hs _
    simp only [closeStatement]
    rw [show splitArgs st.sb = [] from hargs]
    exact ⟨_, rfl, hs⟩
  · intro fuel all i st args a hargs hs _
    simp only [closeStatement]
    rw [show splitArgs st.sb = [a] from hargs]
    exact ⟨_, rfl, hs.append (AllSafe.single (stageSimpleVariable_safe a))⟩
  · intro fuel all i st args name fargs hne hargs hreg' hs _
    simp only [closeStatement]
    rw [show splitArgs st.sb = name :: fargs from hargs]
    cases fargs with
    | nil => exact absurd rfl hne
    | cons b r => simp only [hreg']; exact ⟨_, rfl, hs.append (AllSafe.single (Safe.lit _))⟩
  · intro fuel all i st args name fargs hne hargs f hreg' m hca ih3 hs hl
    obtain ⟨r, hr, _⟩ := ih3 (splitArgs_tail_len hargs hl)
    rw [hca] at hr; cases hr
  · intro fuel all i st args name fargs hne hargs f hreg' cargs aerrs hca m hf ih3 hs hl
    obtain ⟨r, hr, hsafe⟩ := ih3 (splitArgs_tail_len hargs hl)
    rw [hca] at hr; cases hr
    -- a safe builder on safe arguments does not fail
    obtain ⟨built, hb, _⟩ := hreg name f hreg' cargs hsafe
    rw [hf] at hb; cases hb
  · intro fuel all i st args name fargs hne hargs f hreg' cargs aerrs hca b hf ih3 hs hl
    obtain ⟨r, hr, hsafe⟩ := ih3 (splitArgs_tail_len hargs hl)
    rw [hca] at hr; cases hr
    obtain ⟨built, hb, hst⟩ := hreg name f hreg' cargs hsafe
    rw [hf] at hb; cases hb
    simp only [closeStatement]
    rw [show splitArgs st.sb = name :: fargs from hargs]
    cases fargs with
    | nil => exact absurd rfl hne
    | cons b' r =>
      simp only [hreg', hca, hf]
      refine ⟨_, rfl, ?_⟩
      show AllSafe (match b.stage with | some s => st.stages ++ [s] | none => st.stages)
      split
      · rename_i s hs'
        exact hs.append (AllSafe.single (hst s hs'))
      · exact hs
  -- compileArgs
  · intro fuel _
    rw [compileArgs]
    exact ⟨_, rfl, fun s hs => by simp at hs⟩
  · intro fuel a rest m hcf ih4 hl
    obtain ⟨r, hr, _⟩ := ih4 (hl a (by simp))
    rw [hcf] at hr; cases hr
  · intro fuel a rest cargs aerrs hcf m hca ih4 ih3 hl
    obtain ⟨r, hr, _⟩ := ih3 (fun x hx => hl x (by simp [hx]))
    rw [hca] at hr; cases hr
  · intro fuel a rest cargs aerrs hcf cargs' aerrs' hca ih4 ih3 hl
    obtain ⟨r, hr, h4⟩ := ih4 (hl a (by simp))
    obtain ⟨r', hr', h3⟩ := ih3 (fun x hx => hl x (by simp [hx]))
    rw [hcf] at hr; rw [hca] at hr'; cases hr; cases hr'
    simp only [compileArgs, hcf, hca]
    refine ⟨_, rfl, ?_⟩
    intro s hs
    rcases List.mem_cons.mp hs with rfl | hs
    · exact Safe.join h4
    · exact h3 s hs
  -- compileF
  · intro t hl; omega
  · intro t fuel m hl ih1 hlen
    obtain ⟨st', h', _⟩ := ih1 (fun x hx => by simp at hx) (by simp; omega)
    rw [hl] at h'; cases h'
  · intro t fuel st' hl stages hopt m ho ih1 hlen
    -- optimize of safe stages cannot fail
    obtain ⟨st'', h', hs'⟩ := ih1 (fun x hx => by simp at hx) (by simp; omega)
    rw [hl] at h'; cases h'
    obtain ⟨out, hout, _⟩ := optimizeGo_safe _ [] [] (hs'.flush st'.sb) (fun x hx => by simp at hx)
    have : optimize (if st'.sb.isEmpty = true then st'.stages else st'.stages ++ [Stage.lit (charsToBytes st'.sb)]) = .error m := ho
    rw [optimize, hout] at this; cases this
  · intro t fuel st' hl stages hopt s0 ho ih1 hlen
    obtain ⟨st'', h', hs'⟩ := ih1 (fun x hx => by simp at hx) (by simp; omega)
    rw [hl] at h'; cases h'
    obtain ⟨out, hout, hos⟩ := optimizeGo_safe _ [] [] (hs'.flush st'.sb) (fun x hx => by simp at hx)
    have ho' : optimize (if st'.sb.isEmpty = true then st'.stages else st'.stages ++ [Stage.lit (charsToBytes st'.sb)]) = .ok s0 := ho
    have : out = s0 := by rw [optimize, hout] at ho'; cases ho'; rfl
    subst this
    rw [compileF, hl]
    simp only [hopt, if_true, ho']
    exact ⟨_, rfl, hos⟩
  · intro t fuel st' hl hopt ih1 hlen
    obtain ⟨st'', h', hs'⟩ := ih1 (fun x hx => by simp at hx) (by simp; omega)
    rw [hl] at h'; cases h'
    rw [compileF, hl]
    simp only [hopt]
    exact ⟨_, rfl, hs'.flush st'.sb⟩

/-- **Compilation is total.**  For a registry of safe function builders, every template compiles (with
    or without optimisation): the compiler neither panics nor fails to return, and every compiled stage
    is panic-free. -/
theorem compile_total (reg : Registry) (hreg : SafeRegistry reg) (opt : Bool) (t : List Char) :
    ∃ stages errs, compile reg opt t = .ok (stages, errs) ∧ AllSafe stages := by
  obtain ⟨⟨stages, errs⟩, hr, hs⟩ := (total_mutual reg hreg opt).2.2.2 (t.length + 1) t (by omega)
  exact ⟨stages, errs, hr, hs⟩

/-- **Evaluation is total.**  Evaluating what `compile` produced against any context returns a string. -/
theorem eval_total (reg : Registry) (hreg : SafeRegistry reg) (opt : Bool) (t : List Char) (ctx : Ctx) :
    ∃ stages errs v, compile reg opt t = .ok (stages, errs) ∧ (buildKey stages).run ctx = .ok v := by
  obtain ⟨stages, errs, hc, hs⟩ := compile_total reg hreg opt t
  obtain ⟨v, hv⟩ := (Safe.concat hs).run ctx
  exact ⟨stages, errs, v, hc, hv⟩

end Rare.Expr

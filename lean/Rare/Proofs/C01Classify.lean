import Rare.Model.C01Classify
import Rare.Model.PipelineTrace
import Rare.Proofs.Batcher
import Rare.Proofs.Pipeline
/-!
Helper lemmas for the classification theorems of C01 (`Props/C01.lean`): the reference lines carry their
own source index and 1-based position; the short-circuit loop of `IgnoreMatch` is `any Truthy`;
`processLine` against the specification `classify`.
-/
namespace Rare.C01
open Rare.Pipeline Rare.Expr Rare.Batcher

/-! ### the reference lines -/

/-- A line of `linesOf i data` is the `j`-th segment of `splitLines data`, numbered `j + 1`, of source `i`. -/
theorem mem_linesOf {i : Nat} {data : Bytes} {l : Line} (h : l ∈ linesOf i data) :
    l.src = i ∧ 1 ≤ l.num ∧ (C04.splitLines data)[l.num - 1]? = some l.text := by
  obtain ⟨p, hp, rfl⟩ := List.mem_map.mp h
  obtain ⟨h1, h2⟩ := List.mem_zipIdx_iff_le_and_getElem?_sub.mp hp
  exact ⟨rfl, h1, h2⟩

/-- Every line of the sequential reference carries its own source index and its 1-based position in
    that source's `splitLines`. -/
theorem mem_allLines {datas : List Bytes} {l : Line} (h : l ∈ allLines datas) :
    ∃ data, datas[l.src]? = some data ∧ 1 ≤ l.num ∧ (C04.splitLines data)[l.num - 1]? = some l.text := by
  obtain ⟨p, hp, hl⟩ := List.mem_flatMap.mp h
  obtain ⟨h1, h2, h3⟩ := mem_linesOf hl
  exact ⟨p.1, by rw [h1]; exact (List.mem_zipIdx_iff_le_and_getElem?_sub.mp hp).2, h2, h3⟩

/-- Numbering the lines of a source again from 1 gives every line its own number. -/
theorem zipIdx_linesOf {i : Nat} {data : Bytes} {p : Line × Nat} (h : p ∈ (linesOf i data).zipIdx 1) :
    p.2 = p.1.num := by
  obtain ⟨h1, h2⟩ := List.mem_zipIdx_iff_le_and_getElem?_sub.mp h
  simp only [linesOf, List.getElem?_map, List.getElem?_zipIdx, Option.map_eq_some_iff] at h2
  obtain ⟨_, ⟨_, _, rfl⟩, hp⟩ := h2
  rw [← hp]
  show p.2 = 1 + (p.2 - 1)
  omega

/-- Whatever the batch size and the timer, the batches cut from a list of lines, put end to end, are that list. -/
theorem run_flatten {α : Type} (batchSize : Nat) (ls : List α) (timer : α → Bool) :
    ((run batchSize (ls.map fun l => (l, timer l))).map (·.lines)).flatten = ls := by
  rw [← List.flatMap_def, run_lines, List.map_map]
  exact List.map_id _

/-- … so the batches of all sources, put end to end, are the sequential reference. -/
theorem batched_allLines (batchSize : Nat) (datas : List Bytes) (timer : Nat → Nat → Bool) :
    ((datas.zipIdx 0).map fun p =>
      (run batchSize ((linesOf p.2 p.1).map fun l => (l, timer p.2 l.num))).map (·.lines)).flatMap List.flatten
      = allLines datas := by
  unfold allLines
  rw [List.flatMap_map]
  congr 1
  funext p
  exact run_flatten batchSize _ _

/-! ### `IgnoreMatch` -/

/-- all ignore expressions evaluated (no short-circuit): the results, or the first panic -/
def evalAll (c : C02.MatchCtx) : List Stage → Except String (List Bytes)
  | [] => .ok []
  | e :: rest =>
    match evalStage c e with
    | .error m => .error m
    | .ok r =>
      match evalAll c rest with
      | .error m => .error m
      | .ok rs => .ok (r :: rs)

theorem ignoreLoop_any (c : C02.MatchCtx) : ∀ (es : List Stage) (rs : List Bytes), evalAll c es = .ok rs →
    ignoreLoop c es = .ok (rs.any Expr.truthy) := by
  intro es
  induction es with
  | nil => intro rs h; simp [evalAll] at h; subst h; rfl
  | cons e rest ih =>
    intro rs h
    unfold evalAll at h
    cases he : evalStage c e with
    | error m => simp [he] at h
    | ok r =>
      simp only [he] at h
      cases hr : evalAll c rest with
      | error m => simp [hr] at h
      | ok rs' =>
        simp only [hr, Except.ok.injEq] at h
        subst h
        unfold ignoreLoop
        simp only [he, List.any_cons]
        by_cases ht : Expr.truthy r = true
        · simp [ht]
        · simp only [ht, Bool.false_eq_true, if_false, Bool.false_or]
          exact ih rs' hr

theorem ignoreMatch_any (c : C02.MatchCtx) (ig : Option (List Stage)) (rs : List Bytes)
    (h : evalAll c (ig.getD []) = .ok rs) : ignoreMatch c ig = .ok (rs.any Expr.truthy) := by
  cases ig with
  | none => simp [evalAll] at h; subst h; rfl
  | some es =>
    simp only [Option.getD_some] at h
    show (if es.length = 0 then Except.ok false else ignoreLoop c es) = _
    by_cases hl : es.length = 0
    · have : es = [] := List.eq_nil_of_length_eq_zero hl
      subst this
      simp [evalAll] at h; subst h; rfl
    · rw [if_neg hl]; exact ignoreLoop_any c es rs h

/-- `processLineSync` against the specification: with every ignore expression and the extract expression
    evaluated in the line's OWN context, the outcome is `classify`'s. -/
theorem processLine_classify (e : Extractor) (l : Line) (rs : List Bytes) (key : Bytes)
    (hig : evalAll (ctxOf e l) (e.ignore.getD []) = .ok rs)
    (hkey : evalStage (ctxOf e l) e.extract = .ok key) :
    ∃ o, processLine e l = .ok o ∧ o.cls = classify (decide ((e.matcher l.text).length > 0)) rs key ∧
      (o.cls = .matched → o = .matched key) := by
  have hm := ignoreMatch_any (ctxOf e l) e.ignore rs hig
  unfold processLine classify
  by_cases hmatch : (e.matcher l.text).length > 0
  · simp only [hmatch, if_true, hm, hkey, decide_true]
    cases hany : rs.any Expr.truthy with
    | true => exact ⟨.ignored, rfl, by simp [Outcome.cls], by simp [Outcome.cls]⟩
    | false =>
      by_cases hk : key.length > 0
      · exact ⟨.matched key, by simp [hk], by simp [Outcome.cls, hk], fun _ => rfl⟩
      · exact ⟨.ignored, by simp [hk], by simp [Outcome.cls, hk], by simp [Outcome.cls]⟩
  · simp only [hmatch, if_false, decide_false]
    exact ⟨.unmatched, rfl, by simp [Outcome.cls], by simp [Outcome.cls]⟩

theorem clsOf_of_ok {e : Extractor} {l : Line} {o : Outcome} (h : processLine e l = .ok o) : clsOf e l = o.cls := by
  simp [clsOf, h]

theorem keyOf_of_matched {e : Extractor} {l : Line} {k : Bytes} (h : processLine e l = .ok (.matched k)) :
    keyOf e l = k := by
  simp [keyOf, h]

theorem matched_of_clsOf {e : Extractor} {l : Line} (h : clsOf e l = .matched) :
    processLine e l = .ok (.matched (keyOf e l)) := by
  unfold clsOf at h
  cases hp : processLine e l with
  | error m => simp [hp] at h
  | ok o =>
    cases o with
    | matched k => simp [keyOf, hp]
    | ignored => simp [hp, Outcome.cls] at h
    | unmatched => simp [hp, Outcome.cls] at h

/-- A matched line has a non-empty key. -/
theorem matched_key_nonempty {e : Extractor} {l : Line} {k : Bytes} (h : processLine e l = .ok (.matched k)) :
    k ≠ [] := by
  unfold processLine at h
  split at h
  · split at h
    · simp at h
    · simp at h
    · split at h
      · simp at h
      · rename_i key _
        split at h
        · rename_i hk
          simp only [Except.ok.injEq, Outcome.matched.injEq] at h
          subst h
          intro hn; simp [hn] at hk
        · simp at h
  · simp at h

theorem decide_clsOf_eq {e : Extractor} {all : List Line} (hnp : NoPanic e all) (c : Cls) :
    ∀ l ∈ all, decide (clsOf e l = c) = outcomeIs e c l := by
  intro l hl
  obtain ⟨o, ho⟩ := hnp l hl
  simp only [clsOf, outcomeIs, ho]
  by_cases h : o.cls = c <;> simp [h]

theorem filter_matched_eq {e : Extractor} {all : List Line} (hnp : NoPanic e all) :
    all.filter (isMatched (clsOf e)) = all.filter (outcomeIs e .matched) :=
  List.filter_congr (decide_clsOf_eq hnp .matched)

theorem filter_ignored_eq {e : Extractor} {all : List Line} (hnp : NoPanic e all) :
    all.filter (isIgnored (clsOf e)) = all.filter (outcomeIs e .ignored) :=
  List.filter_congr (decide_clsOf_eq hnp .ignored)

/-- Every line that is evaluated without a panic falls in exactly one class. -/
theorem class_counts (e : Extractor) (all : List Line) (hnp : NoPanic e all) :
    all.length = (all.filter (outcomeIs e .matched)).length + (all.filter (outcomeIs e .ignored)).length +
      (all.filter (outcomeIs e .unmatched)).length := by
  rw [← filter_matched_eq hnp, ← filter_ignored_eq hnp, ← List.filter_congr (decide_clsOf_eq hnp .unmatched)]
  exact length_eq_class_counts (clsOf e) all

theorem ok_of_toOption {α : Type} {x : Except String α} {a : α} (h : x.toOption = some a) : x = .ok a := by
  cases x with
  | error m => simp [Except.toOption] at h
  | ok b => simp [Except.toOption] at h; rw [h]

/-! ### a small accepted log under a configured classifier (non-vacuity examples of Props/C01) -/

open Rare.TraceOrder Rare.PipelineTrace in
/-- `exampleCfg` (one reader source `ab⏎x⏎`, batch size 1, one worker) with the classifier of
    `exampleExtractor` (ignore `{eq {line} 1}`): line 1 is ignored, line 2 (`x`) does not match. -/
def exampleCfg2 : PipelineTrace.Cfg := { PipelineTrace.exampleCfg with cls := clsOf exampleExtractor }

open Rare.TraceOrder Rare.PipelineTrace in
/-- the log of such a run: no match batch is ever sent -/
def exampleLog2 : List Ev :=
  let mk (g : Nat) (k : String) (src a b : Nat) : Ev := ⟨g, k, src, a, b, []⟩
  [mk 0 "so" 0 0 0, mk 0 "sb" 0 1 1, mk 0 "fl" 0 1 1, mk 1 "ws" noSrc 0 0, mk 0 "st" 0 1 1, mk 0 "fl" 0 2 1,
   mk 1 "wr" 0 1 1, mk 1 "li" 0 1 0, mk 0 "st" 0 2 1, mk 0 "sn" 0 0 0, mk 0 "cc" noSrc 0 0,
   mk 1 "wr" 0 2 1, mk 1 "lu" 0 2 0, mk 1 "wx" noSrc 0 0, mk 3 "rc" noSrc 0 0,
   mk 2 "cd" noSrc 0 0]

end Rare.C01

import Rare.Proofs.C16Rat
import Rare.Proofs.C16Json
/-! C16: member names of the numbered part are the decimal numerals of the group numbers. -/
namespace Rare.C16

theorem digFold_chars : ∀ (l : List Char) (acc : Nat), (∀ c ∈ l, c.isDigit = true) →
    (l.map (fun c => UInt8.ofNat c.toNat)).foldl (fun a c => a * 10 + (c.toNat - 48)) acc
      = Nat.ofDigitChars 10 l acc := by
  intro l
  induction l with
  | nil => intro acc _; rfl
  | cons c l ih =>
    intro acc h
    have hd := h c (by simp)
    simp only [Char.isDigit, Bool.and_eq_true, decide_eq_true_eq] at hd
    have h2 : c.toNat ≤ 57 := UInt32.le_iff_toNat_le.mp hd.2
    simp only [List.map_cons, List.foldl_cons, Nat.ofDigitChars]
    have e : (UInt8.ofNat c.toNat).toNat = c.toNat := by simp; omega
    rw [e, ih _ (fun d hd => h d (by simp [hd]))]
    simp [Nat.ofDigitChars, Nat.mul_comm]

theorem digVal_natAscii (n : Nat) : digVal (natAscii n) = n := by
  unfold digVal natAscii natDigits
  rw [digFold_chars _ 0 (fun c hc => Nat.isDigit_of_mem_toDigits (by decide) (by decide) hc)]
  exact Nat.ofDigitChars_toDigits (by decide) (by decide)

theorem natAscii_inj (a b : Nat) (h : natAscii a = natAscii b) : a = b := by
  rw [← digVal_natAscii a, ← digVal_natAscii b, h]

theorem numbered_names_nodup (indices : List Int) (line : Bytes) :
    ((expectedNumbered indices line).map (·.1)).Nodup := by
  unfold expectedNumbered
  rw [List.map_filterMap]
  refine List.Pairwise.filterMap _ ?_ List.nodup_range
  intro a a' hne b hb b' hb' e
  subst e
  by_cases h1 : capture indices line (a : Nat) = [] <;> by_cases h2 : capture indices line (a' : Nat) = [] <;>
    simp [h1, h2] at hb hb'
  exact hne (natAscii_inj _ _ (hb.trans hb'.symm))

theorem named_names (order : List (Bytes × Int)) (indices : List Int) (line : Bytes) :
    (namedMembers order indices line).map (·.1) = sortNames (order.map (·.1)) := by
  simp [namedMembers, List.map_map, Function.comp_def]

end Rare.C16

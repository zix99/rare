import Rare.Proofs.Pipeline
/-!
C01: reader concurrency.  At most `R` reader goroutines run at the same time in every reachable state (the semaphore
`make(chan struct{}, concurrency)` of `OpenFilesToChan`), and `min R n` of them can: the bound is attained.
-/
namespace Rare.Pipeline
variable {α : Type}

theorem filter_length_set (p : SrcSt α → Bool) (l : List (SrcSt α)) (i : Nat) (x old : SrcSt α) (h : l[i]? = some old) :
    ((l.set i x).filter p).length + (if p old then 1 else 0) = (l.filter p).length + (if p x then 1 else 0) := by
  obtain ⟨l1, l2, rfl, hs⟩ := set_split h x
  rw [hs]
  simp only [List.filter_append, List.filter_cons, List.length_append]
  cases p old <;> cases p x <;> simp <;> omega

theorem activeCount_step {cls : α → Cls} {R B K : Nat} {s s' : St α} (h : Step cls R B K s s') (hb : activeCount s ≤ R) :
    activeCount s' ≤ R := by
  cases h with
  | start i bs h1 h2 =>
    have := filter_length_set SrcSt.isActive s.srcs i (.active bs) (.waiting bs) h1
    simp only [SrcSt.isActive, if_true, Bool.false_eq_true, if_false] at this
    simp only [activeCount] at *
    omega
  | send i b bs h1 h2 =>
    have := filter_length_set SrcSt.isActive s.srcs i (.active bs) (.active (b :: bs)) h1
    simp only [SrcSt.isActive, if_true] at this
    simp only [activeCount] at *
    omega
  | finish i h1 =>
    have := filter_length_set SrcSt.isActive s.srcs i .done (.active []) h1
    simp only [SrcSt.isActive, if_true, Bool.false_eq_true, if_false] at this
    simp only [activeCount] at *
    omega
  | _ => simpa [activeCount] using hb

theorem activeCount_reach {cls : α → Cls} {R B K : Nat} {s0 s : St α} (h : Reach cls R B K s0 s) (h0 : activeCount s0 ≤ R) :
    activeCount s ≤ R := by
  induction h with
  | refl => exact h0
  | step _ hs ih => exact activeCount_step hs ih

theorem activeCount_init (inputs : List (List (List α))) (W : Nat) : activeCount (init inputs W) = 0 := by
  simp [activeCount, init, List.filter_map, Function.comp_def, SrcSt.isActive]

/-- the state in which the first `k` sources run and the others wait -/
def started (inputs : List (List (List α))) (W k : Nat) : St α :=
  { init inputs W with srcs := (inputs.map SrcSt.active).take k ++ (inputs.map SrcSt.waiting).drop k }

theorem filter_active_take (k : Nat) : ∀ (l : List (List (List α))),
    (((l.map SrcSt.active).take k).filter SrcSt.isActive).length = min k l.length := by
  intro l
  have : ((l.map SrcSt.active).take k).filter SrcSt.isActive = (l.map SrcSt.active).take k := by
    apply List.filter_eq_self.mpr
    intro x hx
    have := List.mem_of_mem_take hx
    simp only [List.mem_map] at this
    obtain ⟨b, _, rfl⟩ := this
    rfl
  rw [this]; simp [List.length_take]

theorem filter_active_drop (k : Nat) (l : List (List (List α))) :
    (((l.map SrcSt.waiting).drop k).filter SrcSt.isActive).length = 0 := by
  have : ((l.map SrcSt.waiting).drop k).filter SrcSt.isActive = [] := by
    apply List.filter_eq_nil_iff.mpr
    intro x hx
    have := List.mem_of_mem_drop hx
    simp only [List.mem_map] at this
    obtain ⟨b, _, rfl⟩ := this
    simp [SrcSt.isActive]
  rw [this]; rfl

theorem activeCount_started (inputs : List (List (List α))) (W k : Nat) :
    activeCount (started inputs W k) = min k inputs.length := by
  simp only [activeCount, started, List.filter_append, List.length_append, filter_active_take, filter_active_drop]
  omega

theorem started_reach (cls : α → Cls) (R B K W : Nat) (inputs : List (List (List α))) :
    ∀ k, k ≤ R → k ≤ inputs.length → Reach cls R B K (init inputs W) (started inputs W k)
  | 0, _, _ => by
    have : started inputs W 0 = init inputs W := by simp [started, init]
    rw [this]; exact .refl
  | k + 1, hR, hn => by
    have ih := started_reach cls R B K W inputs k (by omega) (by omega)
    have hk : k < inputs.length := by omega
    have hlen : ((inputs.map SrcSt.active).take k).length = k := by simp [List.length_take]; omega
    have hd : (inputs.map SrcSt.waiting).drop k = SrcSt.waiting inputs[k] :: (inputs.map SrcSt.waiting).drop (k + 1) := by
      rw [List.drop_eq_getElem_cons (by simpa using hk)]; simp
    have hget : (started inputs W k).srcs[k]? = some (.waiting inputs[k]) := by
      simp only [started]
      rw [List.getElem?_append_right (by omega), hlen, hd]; simp
    have hac : activeCount (started inputs W k) < R := by
      rw [activeCount_started]; omega
    have hstep := Step.start (cls := cls) (R := R) (B := B) (K := K) (started inputs W k) k inputs[k] hget hac
    have hs : { started inputs W k with srcs := (started inputs W k).srcs.set k (.active inputs[k]) } = started inputs W (k + 1) := by
      simp only [started]
      congr 1
      rw [List.set_append_right _ _ (by omega), hlen, Nat.sub_self, hd, List.set_cons_zero]
      have ht : (inputs.map SrcSt.active).take (k + 1) = (inputs.map SrcSt.active).take k ++ [SrcSt.active inputs[k]] := by
        rw [List.take_add_one]; simp [hk]
      rw [ht, List.append_assoc]; rfl
    rw [← hs]
    exact .step ih hstep
end Rare.Pipeline

import Rare.Proofs.C08ArrayBound
/-!
C08, `{@reduce}`: its answer IS an accumulator value - the initial value, the first element, or the last value of
the reducer.  So it is bounded by whatever bounds the reducer's values (and `for_doubling_all` is the family where
nothing does).
-/
namespace Rare.C08
open Rare Rare.Expr Rare.Expr.Funcs Rare.Expr.Funcs.Range Rare.C17

theorem foldl_length_le (f : Bytes → Bytes → Bytes) (B : Nat) (hB : ∀ a b, (f a b).length ≤ B) :
    ∀ (r : List Bytes) (x : Bytes), (r.foldl f x).length ≤ max B x.length
  | [], x => by simp only [List.foldl_nil]; omega
  | y :: r, x => by
    have := foldl_length_le f B hB r (f x y)
    have := hB x y
    simp only [List.foldl_cons]
    omega

theorem elem_length_le (arr x : Bytes) (r : List Bytes) (h : elems arr = x :: r) : x.length ≤ arr.length := by
  have hne : elems arr ≠ [] := by rw [h]; simp
  have hp := pack_length (elems arr) hne
  have e : (pack (elems arr)).length = arr.length := congrArg List.length (join_splitOn [NUL] (by simp) arr)
  rw [h] at hp e
  simp only [packSize] at hp
  omega

/-- `{@reduce a sub [init]}` answers at most `max B (max |init| |a|)` bytes when every value of `sub` has at most `B`. -/
theorem reduceStage_length (c : Ctx) (init : Bytes) (a0 a1 : Stage) (h0 : Safe a0) (h1 : Safe a1) (B : Nat)
    (hB : ∀ v0 v1 o, a1.run (subCtx c v0 v1) = .ok o → o.length ≤ B) :
    ∃ arr out, a0.run c = .ok arr ∧ (reduceStage init a0 a1).run c = .ok out ∧
      out.length ≤ max B (max init.length arr.length) := by
  obtain ⟨arr, ha⟩ := Safe.run h0 c
  obtain ⟨f, hf⟩ : ∃ f : Bytes → Bytes → Bytes, ∀ v0 v1, a1.run (subCtx c v0 v1) = .ok (f v0 v1) :=
    ⟨subVal c a1 h1, subVal_spec c a1 h1⟩
  have hfB : ∀ a b, (f a b).length ≤ B := fun a b => hB a b _ (hf a b)
  have hb : ∀ memo x, (a1.withSub memo x).run c = .ok (f memo x) := fun memo x => by
    rw [withSub_run]; exact hf memo x
  have hne : elems arr ≠ [] := by unfold elems splitOn; exact splitGo_ne_nil _ _ _ _
  have hel : elems arr = splitOn ArraySeparatorString arr := rfl
  cases he : elems arr with
  | nil => exact absurd he hne
  | cons x r =>
    have hx := elem_length_le arr x r he
    by_cases hi : init = []
    · refine ⟨arr, r.foldl f x, ha, ?_, ?_⟩
      · unfold reduceStage
        rw [Comp.run_bind_ok ha]
        obtain ⟨e1, e2, e3⟩ := first_next arr ArraySeparatorString (by simp [ArraySeparatorString])
        simp only [hi, if_true]
        rw [splitLoop_run c _ _ f hb _ _ _ (by rw [e2]; simp [ArraySeparatorString])
          (by simp only [loopFuel]; omega)]
        rw [foldWhile_true, e2]
        rw [← hel, he] at e1
        injection e1 with e1a e1b
        rw [← e1a, ← e1b]
      · have := foldl_length_le f B hfB r x
        omega
    · refine ⟨arr, (x :: r).foldl f init, ha, ?_, ?_⟩
      · unfold reduceStage
        rw [Comp.run_bind_ok ha]
        simp only [hi, if_false]
        rw [splitLoop_run_init c _ _ f hb arr _ (by simp [ArraySeparatorString]), foldWhile_true, ← hel, he]
      · have := foldl_length_le f B hfB (x :: r) init
        omega

end Rare.C08

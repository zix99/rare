import Rare.Proofs.C05CloseProg
/-!
# What the status line shows WHILE the readers run (C05, Model/C05CloseProg.lean)

In every reachable state, for any exit block made of `stopFileReading` / `wg.Done()` in any order:
`readBytes ≤ sentBytes` (the byte counter never runs ahead of what was handed to the batch channel: `incReadBytes`
follows the send) and `active + readCount ≤ number of sources` (a source is never listed as active and counted as
read at the same time, nor counted twice).
-/
namespace Rare.C05Prog

def quiet : Act → Bool
  | .send _ => false
  | .inc _ => false
  | _ => true

theorem step_quiet (t : RStat) {a : Act} (h : quiet a = true) :
    (t.step a).bytes = t.bytes ∧ (t.step a).sent = t.sent := by
  cases a with
  | send b => cases h
  | inc b => cases h
  | stop => simp only [RStat.step]; split <;> exact ⟨rfl, rfl⟩
  | _ => exact ⟨rfl, rfl⟩

theorem foldl_quiet (l : List Act) (t : RStat) (h : ∀ a ∈ l, quiet a = true) :
    (l.foldl RStat.step t).bytes = t.bytes ∧ (l.foldl RStat.step t).sent = t.sent := by
  induction l generalizing t with
  | nil => exact ⟨rfl, rfl⟩
  | cons a l ih =>
    have ha := step_quiet t (h a (by simp))
    have := ih (t.step a) fun b hb => h b (by simp [hb])
    exact ⟨this.1.trans ha.1, this.2.trans ha.2⟩

theorem foldl_batches_prefix (bs : List Nat) (tail l : List Act) (t : RStat) (ht : ∀ a ∈ tail, quiet a = true)
    (hl : l <+: (bs.flatMap fun b => [Act.send b, Act.inc b]) ++ tail) (h0 : t.bytes ≤ t.sent) :
    (l.foldl RStat.step t).bytes ≤ (l.foldl RStat.step t).sent := by
  induction bs generalizing l t with
  | nil =>
    have hq : ∀ a ∈ l, quiet a = true := fun a ha => ht a (by simpa using hl.subset ha)
    have := foldl_quiet l t hq
    rw [this.1, this.2]; exact h0
  | cons b bs ih =>
    simp only [List.flatMap_cons, List.cons_append, List.nil_append] at hl
    rcases List.prefix_cons_iff.mp hl with rfl | ⟨l1, rfl, hl1⟩
    · exact h0
    · rcases List.prefix_cons_iff.mp hl1 with rfl | ⟨l2, rfl, hl2⟩
      · simp [RStat.step]; omega
      · simp only [List.foldl_cons]
        exact ih l2 _ hl2 (by simp [RStat.step]; omega)

/-- Per source: whatever prefix of its program has been executed, the bytes counted are bytes already sent. -/
theorem prefix_bytes_le_sent (exit : List Act) (hex : ∀ a ∈ exit, quiet a = true) (f : Src) (l : List Act)
    (hl : l <+: prog exit f) : (statOf l).bytes ≤ (statOf l).sent := by
  cases f with
  | none =>
    have hq : ∀ a ∈ l, quiet a = true := by
      intro a ha
      have := hl.subset ha
      simp only [prog, body, List.cons_append, List.nil_append, List.mem_cons] at this
      rcases this with rfl | h
      · rfl
      · exact hex a h
    have := foldl_quiet l {} hq
    simp only [statOf]; rw [this.1, this.2]; exact Nat.le_refl _
  | some bs =>
    simp only [prog, body, List.cons_append] at hl
    rcases List.prefix_cons_iff.mp hl with rfl | ⟨l1, rfl, hl1⟩
    · exact Nat.le_refl _
    · simp only [statOf, List.foldl_cons]
      exact foldl_batches_prefix bs exit l1 _ hex hl1 (Nat.le_refl _)

/-- `slot t` = 1 when the source is listed as active, plus the times it was counted as read. -/
def slot (t : RStat) : Nat := (if t.active then 1 else 0) + t.read

theorem step_slot (t : RStat) {a : Act} (h : a ≠ Act.opened) : slot (t.step a) = slot t := by
  cases a with
  | opened => exact absurd rfl h
  | stop =>
    simp only [RStat.step, slot]
    by_cases hact : t.active = true
    · simp [hact]; omega
    · simp [hact]
  | _ => rfl

theorem foldl_slot (l : List Act) (t : RStat) (h : ∀ a ∈ l, a ≠ Act.opened) :
    slot (l.foldl RStat.step t) = slot t := by
  induction l generalizing t with
  | nil => rfl
  | cons a l ih =>
    exact (ih (t.step a) fun b hb => h b (by simp [hb])).trans (step_slot t (h a (by simp)))

theorem prefix_slot_le_one (exit : List Act) (hex : ∀ a ∈ exit, a = Act.stop ∨ a = Act.done) (f : Src) (l : List Act)
    (hl : l <+: prog exit f) : slot (statOf l) ≤ 1 := by
  have hexit : ∀ a ∈ exit, a ≠ Act.opened := by
    intro a ha; rcases hex a ha with rfl | rfl <;> simp
  cases f with
  | none =>
    have : ∀ a ∈ l, a ≠ Act.opened := by
      intro a ha
      have := hl.subset ha
      simp only [prog, body, List.cons_append, List.nil_append, List.mem_cons] at this
      rcases this with rfl | h
      · simp
      · exact hexit a h
    simp only [statOf]; rw [foldl_slot l {} this]; simp [slot]
  | some bs =>
    simp only [prog, body, List.cons_append] at hl
    rcases List.prefix_cons_iff.mp hl with rfl | ⟨l1, rfl, hl1⟩
    · simp [statOf, slot]
    · have : ∀ a ∈ l1, a ≠ Act.opened := by
        intro a ha
        have := hl1.subset ha
        simp only [List.mem_append, List.mem_flatMap, List.mem_cons, List.not_mem_nil, or_false] at this
        rcases this with ⟨b, _, rfl | rfl⟩ | h
        · simp
        · simp
        · exact hexit a h
      simp only [statOf, List.foldl_cons]
      rw [foldl_slot l1 _ this]; simp [slot, RStat.step]

theorem sum_le_sum {α : Type} (l : List α) (g h : α → Nat) (hle : ∀ a ∈ l, g a ≤ h a) :
    (l.map g).sum ≤ (l.map h).sum := by
  induction l with
  | nil => exact Nat.le_refl _
  | cons a r ih =>
    have h1 := hle a (by simp)
    have h2 := ih (fun b hb => hle b (by simp [hb]))
    simp only [List.map_cons, List.sum_cons]; omega

theorem sum_add {α : Type} (l : List α) (g h : α → Nat) :
    (l.map fun a => g a + h a).sum = (l.map g).sum + (l.map h).sum := by
  induction l with
  | nil => rfl
  | cons a r ih => simp only [List.map_cons, List.sum_cons, ih]; omega

/-- **While the readers run**: in every reachable state the byte counter is not ahead of the bytes handed to the
    channel, and active + read never exceeds the number of sources. -/
theorem running_status_bounds (exit : List Act) (hex : ∀ a ∈ exit, a = Act.stop ∨ a = Act.done) (fs : List Src)
    {s : St} (hr : Reach (init (fs.map (prog exit))) s) :
    readBytes s ≤ sentBytes s ∧ active s + readCount s ≤ fs.length := by
  have h := inv_reach hr
  have hq : ∀ a ∈ exit, quiet a = true := by
    intro a ha; rcases hex a ha with rfl | rfl <;> rfl
  have hpre : ∀ r ∈ s.rs, ∃ f, r.exec <+: prog exit f := by
    intro r hrm
    have hp : r.exec ++ r.todo ∈ fs.map (prog exit) := by
      rw [← h.prog]; exact List.mem_map.mpr ⟨r, hrm, rfl⟩
    obtain ⟨f, _, hf⟩ := List.mem_map.mp hp
    exact ⟨f, by rw [hf]; exact List.prefix_append _ _⟩
  have hlen : s.rs.length = fs.length := by
    have := congrArg List.length h.prog
    simpa using this
  constructor
  · exact sum_le_sum s.rs _ _ fun r hrm => by
      obtain ⟨f, hf⟩ := hpre r hrm
      exact prefix_bytes_le_sent exit hq f r.exec hf
  · have h1 : active s = (s.rs.map fun r => if (statOf r.exec).active then 1 else 0).sum :=
      (sum_ite_eq_filter_length (fun r : R => (statOf r.exec).active) s.rs).symm
    have h2 : active s + readCount s = (s.rs.map fun r => slot (statOf r.exec)).sum := by
      rw [h1, readCount, ← sum_add]; rfl
    have h3 : (s.rs.map fun r => slot (statOf r.exec)).sum ≤ (s.rs.map fun _ => 1).sum :=
      sum_le_sum s.rs _ _ fun r hrm => by
        obtain ⟨f, hf⟩ := hpre r hrm
        exact prefix_slot_le_one exit hex f r.exec hf
    have h4 := sum_map_const s.rs 1
    omega

end Rare.C05Prog

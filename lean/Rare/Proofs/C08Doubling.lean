import Rare.Proofs.C08Size
import Rare.Proofs.C18Dur
/-!
C08, the family the caps do not bound, for ALL round counts: `{@for s "{lt {1} n}" "{0}{0}"}` – an increment that
returns its own previous value twice – answers exactly `|s|·(2^n − 1)` bytes plus `n − 1` separators after `n`
rounds, for every `n ≤ MAX_ITERATIONS`.
-/
namespace Rare.C08
open Rare Rare.Expr Rare.Expr.Funcs

/-- The increment `{0}{0}` (the previous value twice) and a condition that holds until round `n`. -/
def dblIncr : Stage := .getMatch 0 fun a => .getMatch 0 fun b => .ret (a ++ b)
def untilRound (n : Nat) : Stage := .getMatch 1 fun i => .ret (if i = itoa (n : Int) then [] else [49])

theorem itoa_nat_inj (a b : Nat) (ha : a ≤ Gen.maxIterations) (hb : b ≤ Gen.maxIterations)
    (h : itoa (a : Int) = itoa (b : Int)) : a = b := by
  have ia : inInt64 (a : Int) = true := by
    rw [C11.inInt64_iff]; unfold minInt64 maxInt64; simp only [Gen.maxIterations] at ha; omega
  have ib : inInt64 (b : Int) = true := by
    rw [C11.inInt64_iff]; unfold minInt64 maxInt64; simp only [Gen.maxIterations] at hb; omega
  have h1 := C18.atoi_itoa (a : Int) ia
  have h2 := C18.atoi_itoa (b : Int) ib
  rw [h] at h1
  rw [h1] at h2
  have := Option.some.inj h2
  omega

theorem ret_bind {α β : Type} (a : α) (f : α → Comp β) : (Comp.ret a).bind f = f a := rfl

theorem untilRound_withSub (n : Nat) (val i : Bytes) :
    (untilRound n).withSub val i = .ret (if i = itoa (n : Int) then [] else [49]) := rfl

theorem dblIncr_withSub (val i : Bytes) : dblIncr.withSub val i = .ret (val ++ val) := rfl

/-- The loop invariant: `k` rounds to go from round `idx` with a value of `L` bytes. -/
theorem forLoop_doubling (c : Ctx) :
    ∀ (k fuel idx : Nat) (val : Bytes) (sb : Range.Sb), idx + k ≤ Gen.maxIterations → k < fuel →
      ∃ out, (Range.forLoop (untilRound (idx + k)) dblIncr fuel val idx sb).run c = .ok out ∧
        out.length + val.length + (if idx = 0 ∧ 0 < k then 1 else 0) = sb.rev.length + val.length * 2 ^ k + k := by
  intro k
  induction k with
  | zero =>
    intro fuel idx val sb _ hf
    obtain ⟨fuel, rfl⟩ : ∃ f, fuel = f + 1 := ⟨fuel - 1, by omega⟩
    refine ⟨sb.str, ?_, ?_⟩
    · rw [Range.forLoop]
      simp only [Nat.add_zero, untilRound_withSub, if_true]
      rfl
    · simp [Range.Sb.str]
  | succ k ih =>
    intro fuel idx val sb hle hf
    obtain ⟨fuel, rfl⟩ : ∃ f, fuel = f + 1 := ⟨fuel - 1, by omega⟩
    have hne : itoa (idx : Int) ≠ itoa ((idx + (k + 1) : Nat) : Int) := by
      intro h
      have := itoa_nat_inj idx (idx + (k + 1)) (by omega) hle h
      omega
    have hnext : ¬ idx + 1 > Gen.maxIterations := by omega
    obtain ⟨out, hrun, hlen⟩ := ih fuel (idx + 1) (val ++ val)
      ((if idx > 0 then sb.write Range.ArraySeparatorString else sb).write val) (by omega) (by omega)
    refine ⟨out, ?_, ?_⟩
    · rw [Range.forLoop]
      have ht : truthy [49] = true := by decide
      have e : idx + 1 + k = idx + (k + 1) := by omega
      rw [e] at hrun
      simp only [untilRound_withSub, dblIncr_withSub, ret_bind, if_neg hne, ht, Bool.not_true, Bool.false_eq_true,
        if_false, if_neg hnext]
      exact hrun
    · have hsb : ((if idx > 0 then sb.write Range.ArraySeparatorString else sb).write val).rev.length
          = sb.rev.length + (if idx > 0 then 1 else 0) + val.length := by
        rw [Sb.write_rev_length]
        split
        · rw [Sb.write_rev_length]; simp [Range.ArraySeparatorString]
        · simp
      rw [hsb] at hlen
      simp only [List.length_append] at hlen
      have hpow : val.length * 2 ^ (k + 1) = (val.length + val.length) * 2 ^ k := by
        rw [Nat.pow_succ, Nat.add_mul]; rw [Nat.mul_comm (2 ^ k) 2, ← Nat.mul_assoc, Nat.mul_two, Nat.add_mul]
      rw [hpow]
      generalize (val.length + val.length) * 2 ^ k = P at hlen ⊢
      have h10 : ¬ (idx + 1 = 0 ∧ 0 < k) := by omega
      rw [if_neg h10] at hlen
      by_cases h0 : idx = 0
      · subst h0; simp at hlen ⊢; omega
      · have : idx > 0 := by omega
        simp [this, h0] at hlen ⊢; omega

/-- **Doubling for every round count**: `{@for s <until round n> "{0}{0}"}` returns, and its answer has exactly
    `|s|·(2^n − 1)` bytes of values and `n − 1` separators. -/
theorem forStage_doubling (c : Ctx) (s : Bytes) (n : Nat) (hn : n ≤ Gen.maxIterations) :
    ∃ out, (Range.forStage (.ret s) (untilRound n) dblIncr).run c = .ok out ∧
      out.length + s.length + (if 0 < n then 1 else 0) = s.length * 2 ^ n + n := by
  obtain ⟨out, h, hl⟩ := forLoop_doubling c n (Gen.maxIterations + 2) 0 s {} (by omega) (by omega)
  refine ⟨out, ?_, ?_⟩
  · simp only [Nat.zero_add] at h
    exact h
  · simpa using hl

end Rare.C08

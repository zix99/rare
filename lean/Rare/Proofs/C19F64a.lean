import Rare.Proofs.C19Lit
import Rare.Model.C19F64
/-!
C19, IEEE instance, part (a): the tainted evaluation `arithT` (what the driver runs) is sound for
the instance `arith L` of the theorems, for every behaviour `L` of the libm-backed functions.
-/
namespace Rare.C19.IEEE
open Rare Rare.F64 Rare.C19

variable (L : Libm)

/-- `o` is tainted or is the value `v`. -/
def Sound (o : TV) (v : F64) : Prop := ∀ x, o = some x → x = v

theorem sound_some (v : F64) : Sound (some v) v := fun _ h => (Option.some.inj h).symm

theorem sound_none (v : F64) : Sound none v := fun _ h => by cases h

theorem sound_lift2 (f : F64 → F64 → F64) {a b : TV} {a' b' : F64} (ha : Sound a a') (hb : Sound b b') :
    Sound (lift2 f a b) (f a' b') := by
  cases a with
  | none => exact sound_none _
  | some x =>
    cases b with
    | none => exact sound_none _
    | some y =>
      rw [ha x rfl, hb y rfl]
      exact sound_some _

theorem sound_map (f : F64 → F64) {a : TV} {a' : F64} (ha : Sound a a') : Sound (Option.map f a) (f a') := by
  cases a with
  | none => exact sound_none _
  | some x => rw [ha x rfl]; exact sound_some _

theorem sound_pow {a b : TV} {a' b' : F64} (ha : Sound a a') (hb : Sound b b') :
    Sound (primT.pow a b) ((prim L).pow a' b') := by
  cases a with
  | none => exact sound_none _
  | some x =>
    cases b with
    | none => exact sound_none _
    | some y =>
      rw [ha x rfl, hb y rfl]
      show Sound (powCore a' b') ((powCore a' b').getD (L.pow a' b'))
      cases powCore a' b' with
      | none => exact sound_none _
      | some r => exact sound_some _

theorem sound_fn (name : Bytes) {a : TV} {a' : F64} (ha : Sound a a') :
    Sound (primT.fn name a) ((prim L).fn name a') := by
  cases a with
  | none => exact sound_none _
  | some x =>
    rw [ha x rfl]
    show Sound (match some a', exactFn name with
      | some x, some f => some (f x)
      | _, _ => none) (match exactFn name with
      | some f => f a'
      | none => L.fn name a')
    cases exactFn name with
    | none => exact sound_none _
    | some f => exact sound_some _

theorem sound_intBin (f : Int → Int → Option Int) {a b : TV} {a' b' : F64} (ha : Sound a a') (hb : Sound b b') :
    Sound (primT.intBin f a b) ((prim L).intBin f a' b') :=
  sound_lift2 (intBinF f) ha hb

/-- Every binary operator of the tainted arithmetic is sound for `arith L`. -/
theorem sound_bin (op : Bytes) {a b : TV} {a' b' : F64} (ha : Sound a a') (hb : Sound b b') :
    Sound (arithT.bin op a b) ((arith L).bin op a' b') := by
  show Sound (binOf primT op a b) (binOf (prim L) op a' b')
  unfold binOf
  by_cases h : op = [43]
  · rw [if_pos h, if_pos h]; exact sound_lift2 add ha hb
  rw [if_neg h, if_neg h]
  by_cases h : op = [42]
  · rw [if_pos h, if_pos h]; exact sound_lift2 mul ha hb
  rw [if_neg h, if_neg h]
  by_cases h : op = [45]
  · rw [if_pos h, if_pos h]; exact sound_lift2 sub ha hb
  rw [if_neg h, if_neg h]
  by_cases h : op = [47]
  · rw [if_pos h, if_pos h]; exact sound_lift2 div ha hb
  rw [if_neg h, if_neg h]
  by_cases h : op = [94]
  · rw [if_pos h, if_pos h]; exact sound_pow L ha hb
  rw [if_neg h, if_neg h]
  by_cases h : op = [37]
  · rw [if_pos h, if_pos h]; exact sound_intBin L modI ha hb
  rw [if_neg h, if_neg h]
  by_cases h : op = [60, 60]
  · rw [if_pos h, if_pos h]; exact sound_intBin L shlI ha hb
  rw [if_neg h, if_neg h]
  by_cases h : op = [62, 62]
  · rw [if_pos h, if_pos h]; exact sound_intBin L shrI ha hb
  rw [if_neg h, if_neg h]
  by_cases h : op = [38]
  · rw [if_pos h, if_pos h]; exact sound_intBin L andI ha hb
  rw [if_neg h, if_neg h]
  by_cases h : op = [124]
  · rw [if_pos h, if_pos h]; exact sound_intBin L orI ha hb
  rw [if_neg h, if_neg h]
  by_cases h : op = [60]
  · rw [if_pos h, if_pos h]; exact sound_lift2 ltF ha hb
  rw [if_neg h, if_neg h]
  by_cases h : op = [60, 61]
  · rw [if_pos h, if_pos h]; exact sound_lift2 leF ha hb
  rw [if_neg h, if_neg h]
  by_cases h : op = [62]
  · rw [if_pos h, if_pos h]; exact sound_lift2 ltF hb ha
  rw [if_neg h, if_neg h]
  by_cases h : op = [62, 61]
  · rw [if_pos h, if_pos h]; exact sound_lift2 leF hb ha
  rw [if_neg h, if_neg h]
  by_cases h : op = [61, 61]
  · rw [if_pos h, if_pos h]; exact sound_lift2 eqF ha hb
  rw [if_neg h, if_neg h]
  by_cases h : op = [38, 38]
  · rw [if_pos h, if_pos h]; exact sound_lift2 andF ha hb
  rw [if_neg h, if_neg h]
  by_cases h : op = [124, 124]
  · rw [if_pos h, if_pos h]; exact sound_lift2 orF ha hb
  rw [if_neg h, if_neg h]
  exact sound_some _

theorem sound_un (m : Bytes) {a : TV} {a' : F64} (ha : Sound a a') :
    Sound (arithT.un m a) ((arith L).un m a') := by
  show Sound (unOf primT m a) (unOf (prim L) m a')
  unfold unOf
  by_cases h : m = [45]
  · rw [if_pos h, if_pos h]; exact sound_map neg ha
  rw [if_neg h, if_neg h]
  by_cases h : m = [33]
  · rw [if_pos h, if_pos h]; exact sound_map notF ha
  rw [if_neg h, if_neg h]
  exact sound_fn L m ha

/-! ### literals are classified alike -/

def liftAtom : Atom F64 → Atom TV
  | .num x => .num (some x)
  | .named n => .named n
  | .idx i => .idx i

theorem parseNum_lift (v : Bytes) :
    parseNum arithT v = match parseNum (arith L) v with
      | .val x => .val (some x)
      | .notNum => .notNum
      | .unmodelled w => .unmodelled w := by
  unfold parseNum
  cases v with
  | nil => rfl
  | cons c r =>
    simp only
    cases parseIntU (c :: r) with
    | some k => rfl
    | none =>
      show primT.parseFloat (c :: r) = match parseLit (c :: r) with
        | .val x => .val (some x)
        | .notNum => .notNum
        | .unmodelled w => .unmodelled w
      unfold parseLit
      show (match F64.parseFloat (c :: r) with
        | some v => NumRes.val (some v)
        | none => NumRes.notNum) = _
      cases F64.parseFloat (c :: r) <;> rfl

theorem classifyE_lift (v : Bytes) :
    classifyE arithT v = (classifyE (arith L) v).map liftAtom := by
  unfold classifyE
  by_cases hb : isBoxed v = true
  · simp only [hb, if_true]
    cases atoi ((v.drop 1).dropLast) <;> rfl
  · simp only [hb, Bool.false_eq_true, if_false]
    rw [parseNum_lift L v]
    cases parseNum (arith L) v with
    | val x => rfl
    | unmodelled w => rfl
    | notNum =>
      simp only
      cases validVariableName v <;> rfl

theorem classify_lift (v : Bytes) : classify arithT v = (classify (arith L) v).map liftAtom := by
  unfold classify
  rw [classifyE_lift L v]
  cases classifyE (arith L) v <;> rfl

theorem classify_isSome (v : Bytes) : (classify arithT v).isSome = (classify (arith L) v).isSome := by
  rw [classify_lift L v]
  cases classify (arith L) v <;> rfl

/-! ### values of parse trees -/

/-- The tainted binding is sound for the plain one. -/
def SoundB (bT : Binding TV) (b : Binding F64) : Prop :=
  (∀ k, Sound (bT.getKey k) (b.getKey k)) ∧ (∀ i, Sound (bT.getMatch i) (b.getMatch i))

theorem sound_tree {bT : Binding TV} {b : Binding F64} (hb : SoundB bT b) : ∀ t : Tree,
    Sound (t.eval arithT (classify arithT) bT) (t.eval (arith L) (classify (arith L)) b) := by
  intro t
  induction t with
  | lit v =>
    simp only [Tree.eval]
    rw [classify_lift L v]
    cases classify (arith L) v with
    | none => exact sound_some _
    | some a =>
      cases a with
      | num x => exact sound_some _
      | named n => exact hb.1 n
      | idx i => exact hb.2 i
  | grp s e ih => exact ih
  | un m e ih => exact sound_un L m ih
  | bin i op l r ihl ihr => exact sound_bin L op ihl ihr

/-- **Soundness of the tainted evaluation.**  If a formula compiles in the tainted arithmetic it
    compiles, to the same parse, in `arith L` for every `L`; and whenever the tainted value is not
    tainted it *is* the value in `arith L`. -/
theorem taint_sound_aux (s : Bytes) (t : Tree) (eT : Expr TV) (h : compile arithT s = .ok (t, eT))
    (bT : Binding TV) (b : Binding F64) (hb : SoundB bT b) :
    ∃ e, compile (arith L) s = .ok (t, e) ∧ Sound (eT.eval arithT bT) (e.eval (arith L) b) := by
  obtain ⟨e, he⟩ := compile_transfer arithT (arith L) (fun v => (classify_isSome L v).symm) s t eT h
  refine ⟨e, he, ?_⟩
  rw [(compileF_post arithT _ s t eT h).2.ev bT, (compileF_post (arith L) _ s t e he).2.ev b]
  exact sound_tree L hb t

/-- The tainted arithmetic and `arith L` accept exactly the same formula texts. -/
theorem compile_ok_iff (s : Bytes) :
    (∃ t eT, compile arithT s = .ok (t, eT)) ↔ (∃ t e, compile (arith L) s = .ok (t, e)) :=
  ⟨fun ⟨t, eT, h⟩ => ⟨t, compile_transfer arithT (arith L) (fun v => (classify_isSome L v).symm) s t eT h⟩,
   fun ⟨t, e, h⟩ => ⟨t, compile_transfer (arith L) arithT (classify_isSome L) s t e h⟩⟩

end Rare.C19.IEEE

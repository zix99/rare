import Rare.Proofs.C16Obj
/-! C16: the object builder appends rendered members; `GetMatch` against the specification of a capture; the two
loops of `json` as one loop. -/
namespace Rare.C16

/-- `w` writes one member whose value is rendered by `R` -/
def Writes (R : ValR) (w : JB → Bytes → Bytes → JB) : Prop :=
  ∀ (j : JB) (k v : Bytes), w j k v =
    ⟨j.sb ++ (if 0 < j.keyCount then [0x2c, 0x20] else []) ++ renderMember R (k, v), j.keyCount + 1⟩

/-- `WriteLiteral` with the text of a value writes the member -/
theorem writeLiteral_text (R : ValR) (j : JB) (k v : Bytes) :
    j.writeLiteral k (R.text v) =
      ⟨j.sb ++ (if 0 < j.keyCount then [0x2c, 0x20] else []) ++ renderMember R (k, v), j.keyCount + 1⟩ := by
  by_cases hk : 0 < j.keyCount <;> simp [hk, JB.writeLiteral, JB.writeKey, renderMember]

theorem writeInferred_eq : Writes inferredR JB.writeInferred := by
  intro j k v
  rw [← writeLiteral_text]
  show _ = j.writeLiteral k (valueText v)
  unfold JB.writeInferred
  rcases writeInferred_cases v with ⟨hn, h1, h2, ht, _⟩ | ⟨hn, h1, h2, ht, _⟩ | ⟨hn, h1, h2, ht, _⟩ | ⟨hn, h1, h2, ht, _⟩ <;>
    rw [ht]
  · rw [if_pos hn]
  · rw [hn, h1]; rfl
  · rw [hn, h1, h2]; rfl
  · rw [hn, h1, h2]; simp [JB.writeString, JB.writeLiteral]

theorem writeString_eq : Writes stringR JB.writeString := by
  intro j k v
  rw [← writeLiteral_text]
  simp [JB.writeString, JB.writeLiteral, stringR]
def writeAllW (w : JB → Bytes → Bytes → JB) (j : JB) (ms : List (Bytes × Bytes)) : JB :=
  ms.foldl (fun j m => w j m.1 m.2) j

theorem writeAllW_pos {R : ValR} {w : JB → Bytes → Bytes → JB} (hw : Writes R w) :
    ∀ (ms : List (Bytes × Bytes)) (j : JB), 0 < j.keyCount →
    writeAllW w j ms = ⟨j.sb ++ renderTail R ms, j.keyCount + ms.length⟩ := by
  intro ms
  induction ms with
  | nil => intro j _; simp [writeAllW, renderTail]
  | cons m ms ih =>
    intro j hk
    have := ih (w j m.1 m.2) (by rw [hw]; simp)
    simp only [writeAllW, List.foldl_cons] at this ⊢
    rw [this, hw, renderTail_cons]
    simp [hk]; omega

theorem writeAllW_opened {R : ValR} {w : JB → Bytes → Bytes → JB} (hw : Writes R w)
    (ms : List (Bytes × Bytes)) : (writeAllW w JB.opened ms).close.sb = objText R ms := by
  cases ms with
  | nil => simp [writeAllW, JB.opened, JB.close, objText, renderList]
  | cons m ms =>
    have := writeAllW_pos hw ms (w JB.opened m.1 m.2) (by rw [hw]; simp)
    simp only [writeAllW, List.foldl_cons] at this ⊢
    rw [this, hw]
    simp [JB.opened, JB.close, objText, renderList]

theorem writeAllW_append (w : JB → Bytes → Bytes → JB) (j : JB) (a b : List (Bytes × Bytes)) :
    writeAllW w (writeAllW w j a) b = writeAllW w j (a ++ b) := by
  simp [writeAllW, List.foldl_append]

def indexedMembers : Nat → List Bytes → List (Bytes × Bytes)
  | _, [] => []
  | i, v :: r => (natAscii i, v) :: indexedMembers (i + 1) r

theorem writeIndexed_eq : ∀ (texts : List Bytes) (i : Nat) (j : JB),
    writeIndexed j i texts = writeAllW JB.writeString j (indexedMembers i texts) := by
  intro texts
  induction texts with
  | nil => intro i j; simp [writeIndexed, indexedMembers, writeAllW]
  | cons v r ih => intro i j; simp [writeIndexed, indexedMembers, writeAllW, ih]

def specialMembers (texts : List Bytes) (order : List (Bytes × Bytes)) : List (Bytes × Bytes) :=
  indexedMembers 0 texts ++ (sortNames (order.map (·.1))).map fun k => (k, mapGet [] order k)

theorem special_text (texts : List Bytes) (order : List (Bytes × Bytes)) :
    buildSpecialKeyJson texts order = objText stringR (specialMembers texts order) := by
  have h : ∀ (ks : List Bytes) (j : JB),
      ks.foldl (fun (jb : JB) k => jb.writeString k (mapGet [] order k)) j
        = writeAllW JB.writeString j (ks.map fun k => (k, mapGet [] order k)) := by
    intro ks
    induction ks with
    | nil => intro j; simp [writeAllW]
    | cons k ks ih => intro j; simp [writeAllW, ih]
  unfold buildSpecialKeyJson specialMembers
  simp only [writeIndexed_eq, h, writeAllW_append]
  exact writeAllW_opened writeString_eq _

theorem wrap64_small (i : Int) (h0 : 0 ≤ i) (h1 : i < 4611686018427387904) : wrap64 (i * 2) = 2 * i := by
  unfold wrap64; omega

theorem wrap64_big (i : Int) (h0 : 4611686018427387904 ≤ i) (h1 : i ≤ maxInt64) : wrap64 (i * 2) < 0 := by
  unfold wrap64 maxInt64 at *; omega

/-- The three guards of `GetMatch` (with Go's wrap-around `idx * 2`) are the spec's guard, for every
Go `int` index – huge indices included: from 2^62 on the doubled index wraps to a negative number. -/
theorem getMatch_guard (indices : List Int) (i : Int) (hi : minInt64 ≤ i ∧ i ≤ maxInt64)
    (hl : (indices.length : Int) ≤ maxInt64) :
    (i < 0 ∨ wrap64 (i * 2) < 0 ∨ wrap64 (i * 2) + 1 ≥ (indices.length : Int)) ↔
      (i < 0 ∨ (2 * i + 1).toNat ≥ indices.length) := by
  by_cases hn : i < 0
  · simp [hn]
  · by_cases hb : i < 4611686018427387904
    · rw [wrap64_small i (by omega) hb]; omega
    · have := wrap64_big i (by omega) hi.2
      unfold maxInt64 at *
      constructor
      · intro _; right; omega
      · intro _; right; left; exact this

theorem getMatch_ok (indices : List Int) (line : Bytes) (i : Int) (v : Bytes)
    (hi : minInt64 ≤ i ∧ i ≤ maxInt64) (hl : (indices.length : Int) ≤ maxInt64)
    (h : getMatch indices line i = .ok v) : v = capture indices line i := by
  unfold getMatch at h
  unfold capture
  simp only [] at h
  by_cases h1 : i < 0 ∨ (2 * i + 1).toNat ≥ indices.length
  · rw [if_pos ((getMatch_guard indices i hi hl).mpr h1)] at h
    rw [if_pos h1]
    cases h; rfl
  · rw [if_neg (fun hh => h1 ((getMatch_guard indices i hi hl).mp hh))] at h
    rw [if_neg h1]
    have hw : wrap64 (i * 2) = 2 * i := by
      apply wrap64_small <;> (unfold maxInt64 at *; omega)
    rw [hw] at h
    by_cases h2 : indices.getD (2 * i).toNat 0 < 0 ∨ indices.getD (2 * i + 1).toNat 0 < 0
    · simp only [if_pos h2] at h ⊢
      cases h; rfl
    · simp only [if_neg h2] at h ⊢
      split at h
      · cases h
      · cases h; rfl

theorem mapGet_range (order : List (Bytes × Int)) (hr : ∀ p ∈ order, minInt64 ≤ p.2 ∧ p.2 ≤ maxInt64)
    (n : Bytes) : minInt64 ≤ mapGet 0 order n ∧ mapGet 0 order n ≤ maxInt64 := by
  unfold mapGet
  cases hf : order.find? (fun p => p.1 == n) with
  | none => simp [minInt64, maxInt64]
  | some p => exact hr p (List.mem_of_find?_eq_some hf)

/-- `idx * 2`, wrapped or not, is even: the pair of indices it selects is a group's pair -/
theorem wrap64_double (i : Int) : ∃ k : Int, wrap64 (i * 2) = 2 * k :=
  ⟨wrap64 (i * 2) / 2, by unfold wrap64; omega⟩

theorem getMatch_total (indices : List Int) (line : Bytes) (hf : FitsLine indices line) (i : Int) :
    ∃ v, getMatch indices line i = .ok v := by
  unfold getMatch
  simp only []
  obtain ⟨k, hk⟩ := wrap64_double i
  rw [hk]
  by_cases h1 : i < 0 ∨ 2 * k < 0 ∨ 2 * k + 1 ≥ (indices.length : Int)
  · rw [if_pos h1]; exact ⟨_, rfl⟩
  · rw [if_neg h1]
    obtain ⟨k, rfl⟩ := Int.eq_ofNat_of_zero_le (by omega : 0 ≤ k)
    rw [show (2 * (k : Int)).toNat = 2 * k by omega, show (2 * (k : Int) + 1).toNat = 2 * k + 1 by omega]
    have hk := hf k (by omega)
    by_cases h2 : indices.getD (2 * k) 0 < 0 ∨ indices.getD (2 * k + 1) 0 < 0
    · simp only [if_pos h2]; exact ⟨_, rfl⟩
    · simp only [if_neg h2]
      rw [if_neg (by omega)]; exact ⟨_, rfl⟩
def namedMembers (order : List (Bytes × Int)) (indices : List Int) (line : Bytes) : List (Bytes × Bytes) :=
  (sortNames (order.map (·.1))).map fun n => (n, capture indices line (mapGet 0 order n))

theorem mem_expectedNumbered (indices : List Int) (line : Bytes) (m : Bytes × Bytes) :
    m ∈ expectedNumbered indices line ↔
      ∃ i : Nat, i < indices.length / 2 ∧ capture indices line (i : Nat) ≠ [] ∧
        m = (natAscii i, capture indices line (i : Nat)) := by
  simp only [expectedNumbered, List.mem_filterMap, List.mem_range]
  constructor
  · rintro ⟨i, hi, e⟩
    by_cases hc : capture indices line (i : Nat) = []
    · simp [hc] at e
    · exact ⟨i, hi, hc, by simpa [hc] using e.symm⟩
  · rintro ⟨i, hi, hc, e⟩
    exact ⟨i, hi, by simp [hc, e]⟩

/-- the body both loops of `json` share: fetch group `idx a`, write it under `name a` unless it is to be left out -/
def viewStep {α : Type} (indices : List Int) (line : Bytes) (idx : α → Int) (name : α → Bytes)
    (keep : Bytes → Prop) [DecidablePred keep] (jb : JB) (a : α) : Except String JB := do
  let v ← getMatch indices line (idx a)
  pure (if keep v then jb.writeInferred (name a) v else jb)

theorem namedStep_eq (order : List (Bytes × Int)) (indices : List Int) (line : Bytes) :
    namedStep order indices line = viewStep indices line (mapGet 0 order) id (fun _ => True) := rfl

theorem numberedStep_eq (indices : List Int) (line : Bytes) :
    numberedStep indices line = viewStep indices line (fun i : Nat => (i : Int)) natAscii (· ≠ []) := rfl

section
variable {α : Type} (indices : List Int) (line : Bytes) (idx : α → Int) (name : α → Bytes)
    (keep : Bytes → Prop) [DecidablePred keep]

theorem viewStep_loop (hl : (indices.length : Int) ≤ maxInt64) :
    ∀ (l : List α) (j j' : JB), (∀ a ∈ l, minInt64 ≤ idx a ∧ idx a ≤ maxInt64) →
      l.foldlM (viewStep indices line idx name keep) j = .ok j' →
      j' = writeAllW JB.writeInferred j (l.filterMap fun a =>
        if keep (capture indices line (idx a)) then some (name a, capture indices line (idx a)) else none) := by
  intro l
  induction l with
  | nil => intro j j' _ h; cases h; rfl
  | cons a l ih =>
    intro j j' hr h
    rw [List.foldlM_cons] at h
    cases hg : getMatch indices line (idx a) with
    | error e => simp [viewStep, hg, bind, Except.bind] at h
    | ok v =>
      cases getMatch_ok _ _ _ _ (hr a (by simp)) hl hg
      simp only [viewStep, hg, bind, Except.bind, pure, Except.pure] at h
      rw [ih _ _ (fun x hx => hr x (by simp [hx])) h]
      by_cases hk : keep (capture indices line (idx a)) <;> simp [hk, writeAllW]

theorem viewStep_total (hf : FitsLine indices line) :
    ∀ (l : List α) (j : JB), ∃ j', l.foldlM (viewStep indices line idx name keep) j = .ok j' := by
  intro l
  induction l with
  | nil => intro j; exact ⟨j, rfl⟩
  | cons a l ih =>
    intro j
    obtain ⟨v, hv⟩ := getMatch_total indices line hf (idx a)
    obtain ⟨j', h'⟩ := ih (if keep v then j.writeInferred (name a) v else j)
    exact ⟨j', by rw [List.foldlM_cons]; simp only [viewStep, hv, bind, Except.bind, pure, Except.pure]; exact h'⟩

end

theorem json_eq (named numbered : Bool) (order : List (Bytes × Int)) (indices : List Int) (line : Bytes) :
    json named numbered order indices line =
      ((if named then sortNames (order.map (·.1)) else []).foldlM (namedStep order indices line) JB.opened >>= fun jb =>
        (if numbered then List.range (indices.length / 2) else []).foldlM (numberedStep indices line) jb >>= fun jb =>
          pure jb.close.sb) := by
  cases named <;> cases numbered <;> rfl

/-- The text `json` returns, when it returns, is the object text of the sorted named captures
followed by the non-empty numbered captures. -/
theorem json_ok_text (named numbered : Bool) (order : List (Bytes × Int)) (indices : List Int)
    (line out : Bytes) (ht : GoTyped order indices) (h : json named numbered order indices line = .ok out) :
    out = objText inferredR ((if named then namedMembers order indices line else []) ++
                   (if numbered then expectedNumbered indices line else [])) := by
  rw [json_eq, namedStep_eq, numberedStep_eq] at h
  obtain ⟨j1, h1, h⟩ := bind_ok h
  obtain ⟨j2, h2, h⟩ := bind_ok h
  cases h
  have hi : ∀ i ∈ (if numbered then List.range (indices.length / 2) else []), minInt64 ≤ (i : Int) ∧ (i : Int) ≤ maxInt64 := by
    intro i hi
    have : i < indices.length := by cases numbered <;> simp at hi; omega
    have := ht.len
    unfold minInt64; omega
  rw [viewStep_loop _ _ _ _ _ ht.len _ _ _ hi h2,
    viewStep_loop _ _ _ _ _ ht.len _ _ _ (fun n _ => mapGet_range order ht.idx n) h1, writeAllW_append,
    writeAllW_opened writeInferred_eq]
  congr 2
  · cases named <;> simp [namedMembers]
  · cases numbered <;> simp [expectedNumbered, ite_not]

theorem json_total (named numbered : Bool) (order : List (Bytes × Int)) (indices : List Int) (line : Bytes)
    (hf : FitsLine indices line) : ∃ out, json named numbered order indices line = .ok out := by
  rw [json_eq, namedStep_eq, numberedStep_eq]
  obtain ⟨j1, h1⟩ := viewStep_total indices line (mapGet 0 order) id (fun _ => True) hf
    (if named then sortNames (order.map (·.1)) else []) JB.opened
  obtain ⟨j2, h2⟩ := viewStep_total indices line (fun i : Nat => (i : Int)) natAscii (· ≠ []) hf
    (if numbered then List.range (indices.length / 2) else []) j1
  exact ⟨j2.close.sb, by rw [h1]; simp only [bind, Except.bind]; rw [h2]; rfl⟩

end Rare.C16

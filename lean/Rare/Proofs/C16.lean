import Rare.Model.C16
/-! C16: `escape` byte by byte and the table it consults; the key switch; what `isNumeric` accepts, against the
RFC 8259 number grammar. -/
namespace Rare.C16

/-- ASCII literal as bytes, reducible by `decide` (for examples) -/
def lit (s : String) : Bytes := s.toList.map (fun c => UInt8.ofNat c.toNat)

/-- on a literal, `lit` is the list of its characters' codes (saves the kernel the UTF-8 decoding of the literal) -/
theorem lit_ofList (l : List Char) : lit (String.ofList l) = l.map (fun c => UInt8.ofNat c.toNat) := by
  unfold lit; rw [String.toList_ofList]

theorem bind_ok {ε α β : Type} {x : Except ε α} {f : α → Except ε β} {b : β} (h : x >>= f = .ok b) :
    ∃ a, x = .ok a ∧ f a = .ok b := by
  cases x with
  | error e => cases h
  | ok a => exact ⟨a, rfl, h⟩

/-- what `escape` does to one byte -/
def esc1 (c : UInt8) : Bytes := if lookup c ≠ [] then lookup c else [c]

theorem escapeLoop_spec (s : Bytes) : ∀ (r pre : Bytes) (hm : Bool) (sb : Bytes),
    s = pre ++ r →
    (hm = true → sb = pre.flatMap esc1) →
    (hm = false → sb = [] ∧ pre.flatMap esc1 = pre) →
    (if (escapeLoop s pre.length hm sb r).1 then (escapeLoop s pre.length hm sb r).2 else s)
      = s.flatMap esc1 := by
  intro r
  induction r with
  | nil =>
    intro pre hm sb hs h1 h2
    simp only [escapeLoop]
    cases hm with
    | true => simp [h1 rfl, hs]
    | false => simp [hs, (h2 rfl).2]
  | cons c r ih =>
    intro pre hm sb hs h1 h2
    have hlen : (pre ++ [c]).length = pre.length + 1 := by simp
    have hs' : s = (pre ++ [c]) ++ r := by simp [hs]
    unfold escapeLoop
    by_cases hl : lookup c ≠ []
    · simp only [if_pos hl]
      rw [← hlen]
      apply ih (pre ++ [c]) true _ hs'
      · intro _
        cases hm with
        | true => simp [h1 rfl, esc1, hl]
        | false =>
          have := h2 rfl
          simp [this.1, hs, esc1, hl, List.flatMap_append, this.2]
      · intro h; cases h
    · simp only [if_neg hl]
      have hl' : lookup c = [] := by simpa using hl
      cases hm with
      | true =>
        simp only [↓reduceIte]
        rw [← hlen]
        apply ih (pre ++ [c]) true _ hs'
        · intro _; simp [h1 rfl, esc1, hl']
        · intro h; cases h
      | false =>
        simp only [Bool.false_eq_true, ↓reduceIte]
        rw [← hlen]
        apply ih (pre ++ [c]) false _ hs'
        · intro h; cases h
        · intro _
          have := h2 rfl
          exact ⟨this.1, by simp [List.flatMap_append, this.2, esc1, hl']⟩

theorem escape_eq_flatMap (s : Bytes) : escape s = s.flatMap esc1 := by
  have := escapeLoop_spec s s [] false [] (by simp) (by intro h; cases h) (by intro _; simp)
  simpa [escape] using this

theorem escape_nil : escape [] = [] := by simp [escape_eq_flatMap]

theorem escape_cons (c : UInt8) (s : Bytes) : escape (c :: s) = esc1 c ++ escape s := by
  simp [escape_eq_flatMap]

theorem escape_append (a b : Bytes) : escape (a ++ b) = escape a ++ escape b := by
  simp [escape_eq_flatMap]

/-- The three kinds of table entry: none, a two-character escape that `unescape1` reads back as the byte,
`\u00XX` for the remaining control characters. -/
theorem escapeEntry_cases (n : Nat) :
    (escapeEntry n = [] ∧ ¬ (n < 0x20 ∨ n = 0x22 ∨ n = 0x5c)) ∨
    (∃ x, escapeEntry n = [0x5c, x] ∧
      (x ≠ 0x75 ∧ unescape1 x = some (UInt8.ofNat n) ∧ 0x20 ≤ x ∧ x < 0x80 ∧ (n < 0x20 ∨ n = 0x22 ∨ n = 0x5c))) ∨
    (escapeEntry n = uEsc n ∧ n < 0x20) := by
  by_cases h1 : n = 8
  · subst h1; exact .inr (.inl ⟨_, rfl, by decide⟩)
  by_cases h2 : n = 9
  · subst h2; exact .inr (.inl ⟨_, rfl, by decide⟩)
  by_cases h3 : n = 10
  · subst h3; exact .inr (.inl ⟨_, rfl, by decide⟩)
  by_cases h4 : n = 12
  · subst h4; exact .inr (.inl ⟨_, rfl, by decide⟩)
  by_cases h5 : n = 13
  · subst h5; exact .inr (.inl ⟨_, rfl, by decide⟩)
  by_cases h6 : n < 0x20
  · exact .inr (.inr ⟨by simp only [escapeEntry, h1, h2, h3, h4, h5, h6, if_false, if_true], h6⟩)
  by_cases h7 : n = 0x22
  · subst h7; exact .inr (.inl ⟨_, rfl, by decide⟩)
  by_cases h8 : n = 0x5c
  · subst h8; exact .inr (.inl ⟨_, rfl, by decide⟩)
  · exact .inl ⟨by simp only [escapeEntry, h1, h2, h3, h4, h5, h6, h7, h8, if_false], by omega⟩

theorem escapeEntry_ne_nil_iff (n : Nat) : escapeEntry n ≠ [] ↔ (n < 0x20 ∨ n = 0x22 ∨ n = 0x5c) := by
  rcases escapeEntry_cases n with ⟨h, hn⟩ | ⟨x, h, _, _, _, _, hn⟩ | ⟨h, hn⟩ <;> simp [h, hn, uEsc]

theorem escapeLookup_getD (n : Nat) : escapeLookup.getD n [] = escapeEntry n := by
  by_cases h : n < 93
  · simp [escapeLookup, h]
  · have : escapeEntry n = [] := by
      false_or_by_contra
      have := (escapeEntry_ne_nil_iff n).mp ‹_›
      omega
    simp [escapeLookup, h, this]

theorem lookup_eq_entry (c : UInt8) : lookup c = escapeEntry c.toNat := by
  rw [← escapeLookup_getD]
  unfold lookup
  by_cases h : c.toNat < escapeLookup.length
  · rw [if_pos h]
  · rw [if_neg h, List.getD_eq_getElem?_getD, List.getElem?_eq_none (Nat.le_of_not_lt h)]
    rfl

/-- `escapeEntry_cases` for a byte -/
theorem lookup_cases (c : UInt8) :
    (lookup c = [] ∧ 0x20 ≤ c ∧ c ≠ 0x22 ∧ c ≠ 0x5c) ∨
    (∃ x, lookup c = [0x5c, x] ∧ x ≠ 0x75 ∧ unescape1 x = some c ∧ 0x20 ≤ x ∧ x < 0x80 ∧ c < 0x80) ∨
    (lookup c = uEsc c.toNat ∧ c.toNat < 0x20) := by
  rw [lookup_eq_entry]
  rcases escapeEntry_cases c.toNat with ⟨h, hn⟩ | ⟨x, h, hx, hu, h1, h2, hn⟩ | h
  · refine .inl ⟨h, UInt8.le_iff_toNat_le.mpr (by simp; omega), ?_, ?_⟩ <;>
      (intro e; subst e; exact hn (by decide))
  · rw [UInt8.ofNat_toNat] at hu
    exact .inr (.inl ⟨x, h, hx, hu, h1, h2, UInt8.lt_iff_toNat_lt.mpr (by simp; omega)⟩)
  · exact .inr (.inr h)

theorem hexDigit_ok : ∀ k, k < 16 → hexVal (hexDigit k) = some k ∧ 0x20 ≤ hexDigit k ∧ hexDigit k < 0x80 := by
  decide

abbrev consOut (c : UInt8) (o : Option (Bytes × Bytes)) : Option (Bytes × Bytes) :=
  o.map fun p => (c :: p.1, p.2)

theorem strBody_plain (c : UInt8) (tail : Bytes) (h1 : 0x20 ≤ c) (h2 : c ≠ 0x22) (h3 : c ≠ 0x5c) :
    strBody .norm (c :: tail) = consOut c (strBody .norm tail) := by
  have : ¬ c < 0x20 := UInt8.not_lt.mpr h1
  simp [strBody, h2, h3, this]

theorem strBody_short (x c : UInt8) (tail : Bytes) (hx : x ≠ 0x75) (hu : unescape1 x = some c) :
    strBody .norm (0x5c :: x :: tail) = consOut c (strBody .norm tail) := by
  simp [strBody, hx, hu]

theorem strBody_u (h3 h4 c : UInt8) (p q : Nat) (tail : Bytes)
    (hp : hexVal h3 = some p) (hq : hexVal h4 = some q) (hc : p * 16 + q = c.toNat) (hlt : c.toNat < 0x80) :
    strBody .norm (0x5c :: 0x75 :: 0x30 :: 0x30 :: h3 :: h4 :: tail) = consOut c (strBody .norm tail) := by
  have e : utf8Enc c.toNat = [c] := by simp [utf8Enc, hlt]
  have ns : ¬ (0xD800 ≤ c.toNat ∧ c.toNat < 0xE000) := by omega
  have hz : hexVal 0x30 = some 0 := by decide
  simp [strBody, hz, hp, hq, hc, e, ns]

/-- Every table entry is an escape sequence the RFC parser reads back as the byte. -/
theorem strBody_esc1 (c : UInt8) (tail : Bytes) :
    strBody .norm (esc1 c ++ tail) = consOut c (strBody .norm tail) := by
  unfold esc1
  rcases lookup_cases c with ⟨h, h1, h2, h3⟩ | ⟨x, h, hx, hu, _⟩ | ⟨h, hn⟩
  · rw [h, if_neg (by simp)]
    exact strBody_plain c tail h1 h2 h3
  · rw [h, if_pos (by simp)]
    exact strBody_short x c tail hx hu
  · rw [h, if_pos (by simp [uEsc])]
    exact strBody_u _ _ c _ _ tail (hexDigit_ok (c.toNat / 16) (by omega)).1 (hexDigit_ok (c.toNat % 16) (by omega)).1
      (by omega) (by omega)

/-- What `escape` writes for one byte: the byte itself when it needs no escape, otherwise – only for ASCII
bytes – a non-empty sequence of printable ASCII. -/
theorem esc1_bytes (c : UInt8) :
    (esc1 c = [c] ∧ 0x20 ≤ c) ∨ (c < 0x80 ∧ esc1 c ≠ [] ∧ ∀ d ∈ esc1 c, 0x20 ≤ d ∧ d < 0x80) := by
  unfold esc1
  rcases lookup_cases c with ⟨h, h1, _⟩ | ⟨x, h, _, _, hx, hx', hc⟩ | ⟨h, hn⟩
  · rw [h, if_neg (by simp)]
    exact .inl ⟨rfl, h1⟩
  · rw [h, if_pos (by simp)]
    refine .inr ⟨hc, by simp, ?_⟩
    intro d hd
    simp only [List.mem_cons, List.not_mem_nil, or_false] at hd
    rcases hd with rfl | rfl
    · decide
    · exact ⟨hx, hx'⟩
  · rw [h, if_pos (by simp [uEsc])]
    refine .inr ⟨UInt8.lt_iff_toNat_lt.mpr (by simp; omega), by simp [uEsc], ?_⟩
    intro d hd
    simp only [uEsc, List.mem_cons, List.not_mem_nil, or_false] at hd
    rcases hd with rfl | rfl | rfl | rfl | rfl | rfl
    · decide
    · decide
    · decide
    · decide
    · exact (hexDigit_ok _ (by omega)).2
    · exact (hexDigit_ok _ (by omega)).2

theorem strBody_escape (s tail : Bytes) :
    strBody .norm (escape s ++ 0x22 :: tail) = some (s, tail) := by
  induction s with
  | nil => simp [escape_nil, strBody]
  | cons c s ih =>
    rw [escape_cons, List.append_assoc, strBody_esc1, ih]
    rfl

/-- the four view keys, and every other key -/
theorem viewFlags_cases (key : Bytes) :
    (key = [0x2e] ∧ viewFlags key = some (true, false)) ∨ (key = [0x23] ∧ viewFlags key = some (false, true)) ∨
    ((key = [0x2e, 0x23] ∨ key = [0x23, 0x2e]) ∧ viewFlags key = some (true, true)) ∨
    ((key ≠ [0x2e] ∧ key ≠ [0x23] ∧ key ≠ [0x2e, 0x23] ∧ key ≠ [0x23, 0x2e]) ∧ viewFlags key = none) := by
  unfold viewFlags
  by_cases h1 : key = [0x2e]
  · exact .inl ⟨h1, if_pos h1⟩
  by_cases h2 : key = [0x23]
  · exact .inr (.inl ⟨h2, by rw [if_neg h1, if_pos h2]⟩)
  by_cases h3 : key = [0x2e, 0x23] ∨ key = [0x23, 0x2e]
  · exact .inr (.inr (.inl ⟨h3, by rw [if_neg h1, if_neg h2, if_pos h3]⟩))
  · exact .inr (.inr (.inr ⟨⟨h1, h2, fun h => h3 (.inl h), fun h => h3 (.inr h)⟩,
      by rw [if_neg h1, if_neg h2, if_neg h3]⟩))

theorem viewFlags_isSome_iff (key : Bytes) :
    (viewFlags key).isSome = true ↔ key = [0x2e] ∨ key = [0x23] ∨ key = [0x2e, 0x23] ∨ key = [0x23, 0x2e] := by
  rcases viewFlags_cases key with ⟨h', h⟩ | ⟨h', h⟩ | ⟨h', h⟩ | ⟨⟨h1, h2, h3, h4⟩, h⟩
  · rw [h]; exact ⟨fun _ => .inl h', fun _ => rfl⟩
  · rw [h]; exact ⟨fun _ => .inr (.inl h'), fun _ => rfl⟩
  · rw [h]; exact ⟨fun _ => .inr (.inr h'), fun _ => rfl⟩
  · simp [h, h1, h2, h3, h4]

/-- `GetKey` answers the JSON views on exactly the keys of `viewFlags`, with its flags -/
theorem getKeyJson_eq_map (key : Bytes) (order : List (Bytes × Int)) (indices : List Int) (line : Bytes) :
    getKeyJson key order indices line = (viewFlags key).map fun f => json f.1 f.2 order indices line := by
  rcases viewFlags_cases key with ⟨rfl, h⟩ | ⟨rfl, h⟩ | ⟨rfl | rfl, h⟩ | ⟨⟨h1, h2, h3, h4⟩, h⟩
  · rw [h]; rfl
  · rw [h]; rfl
  · rw [h]; rfl
  · rw [h]; rfl
  · rw [h]; simp [getKeyJson, h1, h2, h3, h4]

/-- … and so do the emulated keys of `rare expression` -/
theorem expressionJsonKey_eq_map (key : Bytes) (data : List Bytes) (order : List (Bytes × Bytes)) :
    expressionJsonKey key data order =
      (viewFlags key).map (fun f => buildSpecialKeyJson (if f.2 then data else []) (if f.1 then order else [])) := by
  rcases viewFlags_cases key with ⟨rfl, h⟩ | ⟨rfl, h⟩ | ⟨rfl | rfl, h⟩ | ⟨⟨h1, h2, h3, h4⟩, h⟩
  · rw [h]; rfl
  · rw [h]; rfl
  · rw [h]; rfl
  · rw [h]; rfl
  · rw [h]; simp [expressionJsonKey, h1, h2, h3, h4]

theorem isDig_ne (c d : UInt8) (h : isDig c = true) (hd : isDig d = false) : c ≠ d := by
  intro e; subst e; simp [h] at hd

/-- `t` cannot continue a number -/
def EndsNumber (t : Bytes) : Prop :=
  ∀ c, t.head? = some c → isDig c = false ∧ c ≠ 0x2e ∧ c ≠ 0x65 ∧ c ≠ 0x45

theorem endsNumber_nil : EndsNumber [] := by intro c h; simp at h

theorem endsNumber_cons (c : UInt8) (r : Bytes) (h : isDig c = false ∧ c ≠ 0x2e ∧ c ≠ 0x65 ∧ c ≠ 0x45) :
    EndsNumber (c :: r) := by
  intro d hd; simp at hd; subst hd; exact h

theorem span_eq_tw (p : UInt8 → Bool) (l : Bytes) : l.span p = (l.takeWhile p, l.dropWhile p) := by
  have : ∀ (l acc : Bytes), List.span.loop p l acc = (acc.reverse ++ l.takeWhile p, l.dropWhile p) := by
    intro l
    induction l with
    | nil => intro acc; simp [List.span.loop]
    | cons a l ih =>
      intro acc
      by_cases h : p a = true
      · simp [List.span.loop, h, ih]
      · simp [List.span.loop, h]
  simp [List.span, this]

theorem span_digits (ip t : Bytes) (hall : ip.all isDig = true)
    (ht : ∀ c, t.head? = some c → isDig c = false) : (ip ++ t).span isDig = (ip, t) := by
  have hall' := List.all_eq_true.mp hall
  rw [span_eq_tw, List.takeWhile_append_of_pos hall', List.dropWhile_append_of_pos hall']
  cases t with
  | nil => simp
  | cons c r => simp [ht c rfl]

/-- `span`: the two parts make up the list, the first satisfies `p` throughout, the second does not start with it -/
theorem span_spec (p : UInt8 → Bool) (l : Bytes) :
    ∃ a b, l.span p = (a, b) ∧ a ++ b = l ∧ a.all p = true ∧ ∀ c r, b = c :: r → p c = false := by
  refine ⟨_, _, span_eq_tw p l, List.takeWhile_append_dropWhile, List.all_takeWhile, fun c r h => ?_⟩
  have := List.head_dropWhile_not p (l := l) (by rw [h]; simp)
  simpa [h] using this

theorem isDig_iff (c : UInt8) : isDig c = true ↔ ¬ (c < 0x30 ∨ c > 0x39) := by
  simp only [isDig, Bool.and_eq_true, decide_eq_true_eq, not_or, UInt8.not_lt, gt_iff_lt]

theorem numLoop2_eq : ∀ (r : Bytes) (i : Nat),
    numLoop2 i r = if r.all isDig = true then some (i + r.length) else none := by
  intro r
  induction r with
  | nil => intro i; rfl
  | cons c r ih =>
    intro i
    rw [numLoop2, List.all_cons, List.length_cons]
    by_cases hc : isDig c = true
    · rw [if_neg ((isDig_iff c).mp hc), ih, hc, Bool.true_and, Nat.add_right_comm, Nat.add_assoc]
    · rw [if_pos (by rwa [isDig_iff, Classical.not_not] at hc), Bool.not_eq_true _ |>.mp hc]; rfl

/-- the first loop on `digits ++ rest`, where `rest` does not start with a digit -/
theorem numLoop1_eq : ∀ (ip : Bytes) (i : Nat) (rest : Bytes), ip.all isDig = true →
    (∀ c r, rest = c :: r → isDig c = false) →
    numLoop1 i (ip ++ rest) =
      match rest with
      | [] => some (i + ip.length, [])
      | c :: r => if c = 0x2e ∧ i + ip.length ≠ 0 ∧ r ≠ [] then some (i + ip.length + 1, r) else none := by
  intro ip
  induction ip with
  | nil =>
    intro i rest _ hrest
    cases rest with
    | nil => rfl
    | cons c r =>
      have hc : c < 0x30 ∨ c > 0x39 := by
        have := hrest c r rfl
        rwa [← Bool.not_eq_true, isDig_iff, Classical.not_not] at this
      simp only [List.nil_append, numLoop1, List.length_nil, Nat.add_zero]
      by_cases hd : c = 0x2e
      · by_cases hi : i = 0 <;> by_cases hr : r = [] <;> simp [hd, hi, hr]
      · simp [hd, hc]
  | cons a ip ih =>
    intro i rest hall hrest
    rw [List.all_cons, Bool.and_eq_true] at hall
    have ha := (isDig_iff a).mp hall.1
    have hd : a ≠ 0x2e := by rintro rfl; exact absurd hall.1 (by decide)
    rw [List.cons_append, numLoop1, if_neg hd, if_neg ha, ih (i + 1) rest hall.2 hrest, List.length_cons]
    cases rest <;> simp only [Nat.add_right_comm i 1, Nat.add_assoc i _ 1]

theorem isNumeric_append (ip rest : Bytes) (hall : ip.all isDig = true)
    (hrest : ∀ c r, rest = c :: r → isDig c = false) :
    isNumeric (ip ++ rest) = true ↔
      ip ≠ [] ∧ ¬ (1 < ip.length ∧ ip.head? = some 0x30) ∧
        (rest = [] ∨ ∃ fp, rest = 0x2e :: fp ∧ fp ≠ [] ∧ fp.all isDig = true) := by
  -- the leading-zero guard looks at `ip` only: after a leading zero comes a digit, the point, or nothing
  have hguard : (1 < (ip ++ rest).length ∧ (ip ++ rest).head? = some 0x30 ∧ (ip ++ rest).tail.head? ≠ some 0x2e) ↔
      (1 < ip.length ∧ ip.head? = some 0x30) ∨ (ip = [0x30] ∧ ∃ c r, rest = c :: r ∧ c ≠ 0x2e) := by
    match ip, hall with
    | [], _ =>
      cases rest with
      | nil => simp
      | cons c r => have := hrest c r rfl; simp; rintro _ rfl; exact absurd this (by decide)
    | [a], _ => cases rest <;> simp
    | a :: b :: ip', hall =>
      have hb : b ≠ 0x2e := by rintro rfl; simp [isDig] at hall
      simp [hb]
  unfold isNumeric
  by_cases hg : 1 < (ip ++ rest).length ∧ (ip ++ rest).head? = some 0x30 ∧ (ip ++ rest).tail.head? ≠ some 0x2e
  · rw [if_pos hg]
    rcases hguard.mp hg with h | ⟨rfl, c, r, rfl, hc⟩
    · simp [h]
    · simp [hc]
  · rw [if_neg hg, numLoop1_eq ip 0 rest hall hrest]
    have hnz : ¬ (1 < ip.length ∧ ip.head? = some 0x30) := fun h => hg (hguard.mpr (.inl h))
    cases rest with
    | nil => simp [numLoop2_eq, hnz, List.length_pos_iff]
    | cons c r =>
      by_cases hc : c = 0x2e
      · subst hc
        by_cases hi : ip = []
        · simp [hi]
        by_cases hr : r = []
        · simp [hr]
        cases ha : r.all isDig <;> simp [-List.all_eq_true, numLoop2_eq, hi, hr, hnz, ha]
        omega
      · simp [hc]
/-- **The exact shapes** `isNumeric` accepts: `int` or `int.frac` without a superfluous leading zero. -/
theorem isNumeric_iff_shape (s : Bytes) :
    isNumeric s = true ↔
      ∃ ip fp, ip ≠ [] ∧ ip.all isDig = true ∧ fp.all isDig = true ∧ ¬ (1 < ip.length ∧ ip.head? = some 0x30) ∧
        ((s = ip ∧ fp = []) ∨ (s = ip ++ 0x2e :: fp ∧ fp ≠ [])) := by
  constructor
  · intro h
    obtain ⟨ip, rest, _, rfl, hall, hrest⟩ := span_spec isDig s
    obtain ⟨hne, hnz, rfl | ⟨fp, rfl, hfne, hfall⟩⟩ := (isNumeric_append ip rest hall hrest).mp h
    · exact ⟨ip, [], hne, hall, rfl, hnz, .inl ⟨List.append_nil _, rfl⟩⟩
    · exact ⟨ip, fp, hne, hall, hfall, hnz, .inr ⟨rfl, hfne⟩⟩
  · rintro ⟨ip, fp, hne, hall, hfall, hnz, ⟨rfl, rfl⟩ | ⟨rfl, hfne⟩⟩
    · rw [← List.append_nil s]
      exact (isNumeric_append s [] hall nofun).mpr ⟨hne, hnz, .inl rfl⟩
    · exact (isNumeric_append ip _ hall (by rintro c r ⟨⟩; decide)).mpr ⟨hne, hnz, .inr ⟨fp, rfl, hfne, hfall⟩⟩

theorem isNumeric_shape (s : Bytes) (h : isNumeric s = true) :
    ∃ ip fp, ip ≠ [] ∧ ip.all isDig = true ∧ fp.all isDig = true ∧
      ¬ (1 < ip.length ∧ ip.head? = some 0x30) ∧
      ((s = ip ∧ fp = []) ∨ (s = ip ++ 0x2e :: fp ∧ fp ≠ [])) :=
  (isNumeric_iff_shape s).mp h

theorem parseFrac_end (t : Bytes) (h : EndsNumber t) : parseFrac t = some ([], t) := by
  cases t with
  | nil => simp [parseFrac]
  | cons c r => simp [parseFrac, (h c (by simp)).2.1]

theorem parseExp_end (t : Bytes) (h : EndsNumber t) : parseExp t = some (0, t) := by
  cases t with
  | nil => simp [parseExp]
  | cons c r => simp [parseExp, (h c (by simp)).2.2.1, (h c (by simp)).2.2.2]

theorem head_digit_append (ip t : Bytes) (hne : ip ≠ []) (hall : ip.all isDig = true) :
    ∃ a, (ip ++ t).head? = some a ∧ isDig a = true := by
  cases ip with
  | nil => exact absurd rfl hne
  | cons a ip' => simp at hall; exact ⟨a, by simp, hall.1⟩

/-- a digit string without superfluous leading zero, with or without a minus sign, is read as that integer -/
theorem parseNumber_int (neg : Bool) (ip t : Bytes) (hne : ip ≠ []) (hall : ip.all isDig = true)
    (hnz : ¬ (1 < ip.length ∧ ip.head? = some 0x30)) (ht : EndsNumber t) :
    parseNumber ((if neg then 0x2d :: ip else ip) ++ t) =
      some (.num (if neg then -(digVal ip : Int) else digVal ip) 0, t) := by
  obtain ⟨a, ha, hda⟩ := head_digit_append ip t hne hall
  have hneg : ¬ ((ip ++ t).head? = some 0x2d) := by
    rw [ha]; intro e; simp at e; subst e; simp [isDig] at hda
  have hsp := span_digits ip t hall (fun c hc => (ht c hc).1)
  cases neg with
  | false =>
    simp only [Bool.false_eq_true, if_false, parseNumber, hneg, hsp, hne, hnz, parseFrac_end t ht, parseExp_end t ht]
    simp
  | true =>
    simp only [if_true, List.cons_append, parseNumber, List.head?_cons, List.tail_cons, hsp, hne, hnz, if_false,
      parseFrac_end t ht, parseExp_end t ht]
    simp
theorem parseNumber_frac (ip fp t : Bytes) (hne : ip ≠ []) (hall : ip.all isDig = true)
    (hfne : fp ≠ []) (hfall : fp.all isDig = true)
    (hnz : ¬ (1 < ip.length ∧ ip.head? = some 0x30)) (ht : EndsNumber t) :
    parseNumber (ip ++ 0x2e :: (fp ++ t)) = some (.num (digVal (ip ++ fp)) (-(fp.length : Int)), t) := by
  obtain ⟨a, ha, hda⟩ := head_digit_append ip (0x2e :: (fp ++ t)) hne hall
  have hneg : ¬ ((ip ++ 0x2e :: (fp ++ t)).head? = some 0x2d) := by
    rw [ha]; intro e; simp at e; subst e; simp [isDig] at hda
  have hsp := span_digits ip (0x2e :: (fp ++ t)) hall (by intro c hc; simp at hc; subst hc; decide)
  have hsp2 := span_digits fp t hfall (fun c hc => (ht c hc).1)
  have hfr : parseFrac (0x2e :: (fp ++ t)) = some (fp, t) := by
    simp [parseFrac, hsp2, hfne]
  simp only [parseNumber, hneg, if_false, hsp, hne, hnz, hfr, parseExp_end t ht]
  simp

theorem decimalValue_int (ip : Bytes) (hne : ip ≠ []) (hall : ip.all isDig = true) :
    decimalValue ip = some ((digVal ip : Int), (0 : Int)) := by
  have hsp := span_digits ip [] hall (by intro c hc; simp at hc)
  simp only [List.append_nil] at hsp
  simp [decimalValue, hsp, hne]

theorem decimalValue_frac (ip fp : Bytes) (hne : ip ≠ []) (hall : ip.all isDig = true)
    (hfne : fp ≠ []) (hfall : fp.all isDig = true) :
    decimalValue (ip ++ 0x2e :: fp) = some ((digVal (ip ++ fp) : Int), -(fp.length : Int)) := by
  have hsp := span_digits ip (0x2e :: fp) hall (by intro c hc; simp at hc; subst hc; decide)
  simp only [decimalValue, hsp, hne, if_false]
  simp [hfne]
  simpa using hfall

theorem sameValue_refl (m e : Int) : sameValue m e m e = true := by simp [sameValue]

theorem isNumeric_parse (s t : Bytes) (h : isNumeric s = true) (ht : EndsNumber t) :
    ∃ m e, parseNumber (s ++ t) = some (.num m e, t) ∧ decimalValue s = some (m, e) := by
  obtain ⟨ip, fp, hne, hall, hfall, hnz, hcase⟩ := isNumeric_shape s h
  rcases hcase with ⟨e1, _⟩ | ⟨e1, hfne⟩
  · rw [e1]
    exact ⟨digVal ip, 0, parseNumber_int false ip t hne hall hnz ht, decimalValue_int ip hne hall⟩
  · rw [e1]
    refine ⟨digVal (ip ++ fp), -(fp.length : Int), ?_, decimalValue_frac ip fp hne hall hfne hfall⟩
    have := parseNumber_frac ip fp t hne hall hfne hfall hnz ht
    simpa using this

theorem isNumeric_head (s : Bytes) (h : isNumeric s = true) : ∃ a r, s = a :: r ∧ isDig a = true := by
  obtain ⟨ip, fp, hne, hall, _, _, hcase⟩ := isNumeric_shape s h
  cases ip with
  | nil => exact absurd rfl hne
  | cons a ip' =>
    simp at hall
    rcases hcase with ⟨e1, _⟩ | ⟨e1, _⟩
    · exact ⟨a, ip', e1, hall.1⟩
    · exact ⟨a, ip' ++ 0x2e :: fp, by simp [e1], hall.1⟩

end Rare.C16

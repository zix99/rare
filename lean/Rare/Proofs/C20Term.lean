import Rare.Spec.C20
/-! C20 helper lemmas: what the reference terminal does with the pieces the writer emits. -/
namespace Rare.C20

theorem feed_nil (t : Term) : t.feed [] = t := rfl
theorem feed_cons (t : Term) (r : Rune) (rs : List Rune) : t.feed (r :: rs) = (t.step r).feed rs := rfl
theorem feed_append (t : Term) (a b : List Rune) : t.feed (a ++ b) = (t.feed a).feed b := by
  simp [Term.feed, List.foldl_append]

theorem setRow_same (rows : Nat → List Rune) (i : Nat) (a b : List Rune) :
    setRow (setRow rows i a) i b = setRow rows i b := by
  funext j; by_cases h : j = i <;> simp [setRow, h]

theorem setRow_self (rows : Nat → List Rune) (i : Nat) : setRow rows i (rows i) = rows := by
  funext j; by_cases h : j = i <;> simp [setRow, h]

theorem setRow_at (rows : Nat → List Rune) (i : Nat) (a : List Rune) : setRow rows i a i = a := by
  simp [setRow]

theorem setRow_ne (rows : Nat → List Rune) (i j : Nat) (a : List Rune) (h : j ≠ i) : setRow rows i a j = rows j := by
  simp [setRow, h]

theorem feed_hide (t : Term) (h : t.ps = .ground) :
    t.feed [27, 91, 63, 50, 53, 108] = { t with cursorVisible := false } := by
  obtain ⟨w, ht, o, rows, row, col, vis, ps⟩ := t
  simp only at h; subst h; rfl

theorem feed_show (t : Term) (h : t.ps = .ground) :
    t.feed [27, 91, 63, 50, 53, 104] = { t with cursorVisible := true } := by
  obtain ⟨w, ht, o, rows, row, col, vis, ps⟩ := t
  simp only at h; subst h; rfl

theorem feed_erase (t : Term) (h : t.ps = .ground) :
    t.feed [27, 91, 48, 75] = t.eraseToEol := by
  obtain ⟨w, ht, o, rows, row, col, vis, ps⟩ := t
  simp only at h; subst h; rfl

theorem feed_up1 (t : Term) (h : t.ps = .ground) :
    t.feed [27, 91, 49, 65] = { t with row := t.row - min 1 t.row } := by
  obtain ⟨w, ht, o, rows, row, col, vis, ps⟩ := t
  simp only at h; subst h; rfl

theorem step_cr (t : Term) (h : t.ps = .ground) : t.step 13 = { t with col := 0 } := by
  obtain ⟨w, ht, o, rows, row, col, vis, ps⟩ := t
  simp only at h; subst h; rfl

theorem step_lf (t : Term) (h : t.ps = .ground) : t.step 10 = t.lineFeed := by
  obtain ⟨w, ht, o, rows, row, col, vis, ps⟩ := t
  simp only at h; subst h; rfl

theorem Term.lineFeed_fit (t : Term) (h : t.row + 1 < t.height) :
    t.lineFeed = { t with row := t.row + 1, col := if t.onlcr then 0 else t.col } := by
  obtain ⟨w, ht, o, rows, row, col, vis, ps⟩ := t
  cases o <;> simp [Term.lineFeed, Term.down, show row + 1 < ht from h]

/-- `n` line feeds, then a carriage return (no scrolling) -/
theorem feed_downs (n : Nat) : ∀ (t : Term), t.ps = .ground → t.row + n < t.height →
    t.feed (List.replicate n 10 ++ [13]) = { t with row := t.row + n, col := 0 } := by
  induction n with
  | zero => intro t h _; simp [feed_cons, feed_nil, step_cr t h]
  | succ n ih =>
    intro t h hn
    rw [List.replicate_succ, List.cons_append, feed_cons, step_lf t h, Term.lineFeed_fit t (by omega),
      ih _ (by exact h) (by simp only; omega)]
    simp only [Nat.add_assoc, Nat.add_comm 1 n]

/-- `n` times `ESC[1A`, then a carriage return -/
theorem feed_ups (n : Nat) : ∀ (t : Term), t.ps = .ground → n ≤ t.row →
    t.feed ((List.replicate n [27, 91, 49, 65]).flatten ++ [13]) = { t with row := t.row - n, col := 0 } := by
  induction n with
  | zero => intro t h _; simp [feed_cons, feed_nil, step_cr t h]
  | succ n ih =>
    intro t h hn
    rw [List.replicate_succ, List.flatten_cons, List.append_assoc, feed_append, feed_up1 t h,
      ih _ (by exact h) (by simp only; omega)]
    have e : t.row - min 1 t.row - n = t.row - (n + 1) := by omega
    simp only [e]

/-! ### SGR: zero width -/

theorem feed_csi_params (p : List Rune) (hp : ∀ c ∈ p, 48 ≤ c ∧ c ≤ 59) :
    ∀ (t : Term) (acc : List Rune), t.ps = .csi acc →
    t.feed (p ++ [109]) = { t with ps := .ground } := by
  induction p with
  | nil =>
    intro t acc h
    obtain ⟨w, ht, o, rows, row, col, vis, ps⟩ := t
    simp only at h; subst h
    simp [feed_cons, feed_nil, Term.step, Term.dispatch]
  | cons c p ih =>
    intro t acc h
    have hc := hp c (by simp)
    have hp' : ∀ x ∈ p, 48 ≤ x ∧ x ≤ 59 := fun x hx => hp x (by simp [hx])
    obtain ⟨w, ht, o, rows, row, col, vis, ps⟩ := t
    simp only at h; subst h
    have h1 : 0x20 ≤ c ∧ c ≤ 0x3F := by omega
    rw [List.cons_append, feed_cons]
    simp only [Term.step, h1, and_self, if_true]
    rw [ih hp' _ (acc ++ [c]) rfl]

theorem feed_sgr (t : Term) (h : t.ps = .ground) (p : List Rune) (hp : ∀ c ∈ p, 48 ≤ c ∧ c ≤ 59) :
    t.feed (27 :: 91 :: p ++ [109]) = t := by
  obtain ⟨w, ht, o, rows, row, col, vis, ps⟩ := t
  simp only at h; subst h
  rw [List.cons_append, List.cons_append, feed_cons, feed_cons]
  have : (Term.step (Term.step ⟨w, ht, o, rows, row, col, vis, .ground⟩ 27) 91) = ⟨w, ht, o, rows, row, col, vis, .csi []⟩ := rfl
  rw [this, feed_csi_params p hp _ [] rfl]

/-- cells of a row after writing `vs` from column `c` on -/
def writeCells (cells : List Rune) : Nat → List Rune → List Rune
  | _, [] => cells
  | c, v :: vs => writeCells (writeAt cells c v) (c + 1) vs

theorem step_print (t : Term) (h : t.ps = .ground) (r : Rune) (hr : 32 ≤ r ∧ r ≠ 127) (hc : t.col < t.width) :
    t.step r = { t with rows := setRow t.rows t.row (writeAt (t.rows t.row) t.col r), col := t.col + 1 } := by
  obtain ⟨w, ht, o, rows, row, col, vis, ps⟩ := t
  simp only at h; subst h
  have h1 : r ≠ ESC := by unfold ESC; omega
  have h2 : r ≠ LF := by unfold LF; omega
  have h3 : r ≠ CR := by unfold CR; omega
  have h4 : ¬ (r < 32 ∨ r = 127) := by omega
  have hc' : col < w := hc
  have h5 : ¬ (col ≥ w) := by omega
  simp [Term.step, h1, h2, h3, h4, Term.putChar, h5]

/-- printable runes that fit before the right margin -/
theorem feed_printables (vs : List Rune) (hv : ∀ r ∈ vs, 32 ≤ r ∧ r ≠ 127) :
    ∀ (t : Term), t.ps = .ground → t.col + vs.length ≤ t.width →
    t.feed vs = { t with rows := setRow t.rows t.row (writeCells (t.rows t.row) t.col vs),
                         col := t.col + vs.length } := by
  induction vs with
  | nil =>
    intro t _ _
    obtain ⟨w, ht, o, rows, row, col, vis, ps⟩ := t
    simp [feed_nil, writeCells, setRow_self]
  | cons v vs ih =>
    intro t h hfit
    have hv1 := hv v (by simp)
    have hv' : ∀ r ∈ vs, 32 ≤ r ∧ r ≠ 127 := fun r hr => hv r (by simp [hr])
    rw [feed_cons, step_print t h v hv1 (by simp at hfit; omega), ih hv']
    · obtain ⟨w, ht, o, rows, row, col, vis, ps⟩ := t
      simp [writeCells, setRow_same, setRow_at]; omega
    · exact h
    · simp at hfit ⊢; omega

theorem writeAt_le (cells : List Rune) (c : Nat) (r : Rune) (h : c ≤ cells.length) :
    writeAt cells c r = cells.take c ++ r :: cells.drop (c + 1) := by
  have : c - cells.length = 0 := by omega
  simp [writeAt, this]

theorem writeCells_take (vs : List Rune) : ∀ (cells : List Rune) (c : Nat), c ≤ cells.length →
    (writeCells cells c vs).take (c + vs.length) = cells.take c ++ vs := by
  induction vs with
  | nil => intro cells c _; simp [writeCells]
  | cons v vs ih =>
    intro cells c h
    have hl : c + 1 ≤ (writeAt cells c v).length := by
      rw [writeAt_le cells c v h]; simp; omega
    have e : c + (v :: vs).length = (c + 1) + vs.length := by simp; omega
    rw [writeCells, e, ih _ _ hl, writeAt_le cells c v h]
    have hlen : (cells.take c).length = c := by simp [h]
    have : (cells.take c ++ v :: cells.drop (c + 1)).take (c + 1) = cells.take c ++ [v] := by
      simp [List.take_append, hlen]
      exact List.take_of_length_le (by omega)
    rw [this]; simp

end Rare.C20

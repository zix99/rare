import Rare.Proofs.C18RT
import Rare.Gen.C18
/-!
C18: the tokens of the named formats, computed once from the generated table; what `Props` says about
the table is then read off the token lists.
-/
namespace Rare.C18

def namedTokens : List (String × List Tok) := [
  ("", [.std .longYear, .lit [45], .std .zeroMonth, .lit [45], .std .zeroDay, .lit [84], .std .hour, .lit [58], .std .zeroMinute, .lit [58], .std .zeroSecond, .std (.isoTZ .colon)]),
  ("ANSIC", [.std .weekDay, .lit [32], .std .month, .lit [32], .std .underDay, .lit [32], .std .hour, .lit [58], .std .zeroMinute, .lit [58], .std .zeroSecond, .lit [32], .std .longYear]),
  ("DAY", [.std .zeroDay]),
  ("HOUR", [.std .hour]),
  ("MINUTE", [.std .zeroMinute]),
  ("MNTH", [.std .month]),
  ("MONTH", [.std .zeroMonth]),
  ("MONTHNAME", [.std .longMonth]),
  ("NGINX", [.std .underDay, .lit [47], .std .month, .lit [47], .std .longYear, .lit [58], .std .hour, .lit [58], .std .zeroMinute, .lit [58], .std .zeroSecond, .lit [32], .std (.numTZ .hhmm)]),
  ("NTIMEZONE", [.std (.numTZ .hhmm)]),
  ("NTZ", [.std (.numTZ .hhmm)]),
  ("RFC1123", [.std .weekDay, .lit [44, 32], .std .zeroDay, .lit [32], .std .month, .lit [32], .std .longYear, .lit [32], .std .hour, .lit [58], .std .zeroMinute, .lit [58], .std .zeroSecond, .lit [32], .std .tz]),
  ("RFC1123Z", [.std .weekDay, .lit [44, 32], .std .zeroDay, .lit [32], .std .month, .lit [32], .std .longYear, .lit [32], .std .hour, .lit [58], .std .zeroMinute, .lit [58], .std .zeroSecond, .lit [32], .std (.numTZ .hhmm)]),
  ("RFC3339", [.std .longYear, .lit [45], .std .zeroMonth, .lit [45], .std .zeroDay, .lit [84], .std .hour, .lit [58], .std .zeroMinute, .lit [58], .std .zeroSecond, .std (.isoTZ .colon)]),
  ("RFC3339N", [.std .longYear, .lit [45], .std .zeroMonth, .lit [45], .std .zeroDay, .lit [84], .std .hour, .lit [58], .std .zeroMinute, .lit [58], .std .zeroSecond, .std (.frac9 9 46), .std (.isoTZ .colon)]),
  ("RFC822", [.std .zeroDay, .lit [32], .std .month, .lit [32], .std .year, .lit [32], .std .hour, .lit [58], .std .zeroMinute, .lit [32], .std .tz]),
  ("RFC822Z", [.std .zeroDay, .lit [32], .std .month, .lit [32], .std .year, .lit [32], .std .hour, .lit [58], .std .zeroMinute, .lit [32], .std (.numTZ .hhmm)]),
  ("RUBY", [.std .weekDay, .lit [32], .std .month, .lit [32], .std .zeroDay, .lit [32], .std .hour, .lit [58], .std .zeroMinute, .lit [58], .std .zeroSecond, .lit [32], .std (.numTZ .hhmm), .lit [32], .std .longYear]),
  ("SECOND", [.std .zeroSecond]),
  ("TIMEZONE", [.std .tz]),
  ("UNIX", [.std .weekDay, .lit [32], .std .month, .lit [32], .std .underDay, .lit [32], .std .hour, .lit [58], .std .zeroMinute, .lit [58], .std .zeroSecond, .lit [32], .std .tz, .lit [32], .std .longYear]),
  ("WDAY", [.std .weekDay]),
  ("WEEKDAY", [.std .longWeekDay]),
  ("YEAR", [.std .longYear])]

theorem namedTokens_eq : Gen.C18.timeFormats.map (fun e => (e.1, tokenize (asc e.2))) = namedTokens := by
  simp only [Gen.C18.timeFormats, List.map_cons, List.map_nil]
  repeat rw [asc_ofList]
  decide +kernel

/-- What holds of every entry of `namedTokens` holds of the names and tokens of the generated table. -/
theorem named_forall (P : String → List Tok → Prop) (h : ∀ p ∈ namedTokens, P p.1 p.2) :
    ∀ e ∈ Gen.C18.timeFormats, P e.1 (tokenize (asc e.2)) := fun e he =>
  h _ (namedTokens_eq ▸ List.mem_map.mpr ⟨e, he, rfl⟩)

theorem named_map {α : Type} (F : String → List Tok → α) :
    Gen.C18.timeFormats.map (fun e => F e.1 (tokenize (asc e.2))) = namedTokens.map (fun p => F p.1 p.2) := by
  rw [← namedTokens_eq, List.map_map]; rfl

theorem named_filter_map {α : Type} (P : List Tok → Bool) (F : String → List Tok → α) :
    (Gen.C18.timeFormats.filter (fun e => P (tokenize (asc e.2)))).map (fun e => F e.1 (tokenize (asc e.2)))
      = (namedTokens.filter (fun p => P p.2)).map (fun p => F p.1 p.2) := by
  rw [← namedTokens_eq, List.filter_map, List.map_map]; rfl

/-- What `Props` needs of each named format: it is in the round-trip class; only `RFC822` and
`RFC822Z` have a two-digit year; those holding an instant have no abbreviation token, and carry seconds
except `RFC822Z` (minutes) and `RFC3339N` (nanoseconds). -/
theorem named_class : ∀ e ∈ Gen.C18.timeFormats,
    RT (tokenize (asc e.2)) = true
    ∧ ((tokenize (asc e.2)).contains (.std .year) = true → e.1 = "RFC822" ∨ e.1 = "RFC822Z")
    ∧ (holdsInstant (tokenize (asc e.2)) = true →
        (tokenize (asc e.2)).contains (.std .tz) = false
        ∧ ((tokenize (asc e.2)).contains (.std .year) = true → e.1 = "RFC822Z")
        ∧ precOf (tokenize (asc e.2)) = if e.1 = "RFC822Z" then .minute else if e.1 = "RFC3339N" then .nano else .second) :=
  named_forall (fun n ts => RT ts = true
      ∧ (ts.contains (.std .year) = true → n = "RFC822" ∨ n = "RFC822Z")
      ∧ (holdsInstant ts = true → ts.contains (.std .tz) = false ∧ (ts.contains (.std .year) = true → n = "RFC822Z")
          ∧ precOf ts = if n = "RFC822Z" then .minute else if n = "RFC3339N" then .nano else .second))
    (by decide +kernel)

end Rare.C18

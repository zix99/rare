import Rare.Proofs.C20Lift
/-! C20: what the BUFFERED writer prints (`VirtualTerm.WriteToOutput`: every stored line
through `WriteLineNoWrap`, then `\n`) run through the reference terminal `Scr` – so that the screen it
leaves can be compared with the screen of the live writer. -/
namespace Rare.C20

/-- `TextSafe` without the unterminated colour sequence at the end: the buffered writer does not
follow a line with an erase sequence (whose ESC would restart the terminal's parser), so a line that
ends inside an escape sequence swallows the beginning of the NEXT line
(`buffered_unterminated_counterexample` in Props). -/
def TextComplete (cw : Rune → Nat) (W : Nat) (trim : Bool) (txt : Bytes) : Prop :=
  ∃ toks : List Tok, (∀ t ∈ toks, t.Safe cw) ∧ decodeUtf8 txt = renderToks toks ∧
    (trim = false → (visToks toks).length ≤ W ∧ ValidUtf8 txt)

theorem TextComplete.safe {cw : Rune → Nat} {W : Nat} {trim : Bool} {txt : Bytes}
    (h : TextComplete cw W trim txt) : TextSafe cw W trim txt := by
  obtain ⟨toks, hp, hd, hfit⟩ := h
  exact ⟨toks, [], hp, Or.inl rfl, by simpa using hd, hfit⟩

theorem TextComplete.nil (cw : Rune → Nat) (W : Nat) (trim : Bool) : TextComplete cw W trim [] :=
  ⟨[], by simp, by simp [decodeUtf8_nil, renderToks], fun _ => ⟨by simp [visToks], by simp [ValidUtf8, decodeUtf8_nil, encodeUtf8]⟩⟩

/-- `piece_toks` for a complete text: what is written decodes to whole tokens, nothing after them -/
theorem piece_complete (cw : Rune → Nat) (W : Nat) (trim : Bool) (txt : Bytes) (h : TextComplete cw W trim txt) :
    ∃ toks' : List Tok, (∀ t ∈ toks', t.Safe cw) ∧
      Clean (writeLineNoWrap handEsc trim W txt) ∧
      decodeUtf8 (writeLineNoWrap handEsc trim W txt) = renderToks toks' ∧
      visToks toks' = shown W trim txt ∧ (visToks toks').length ≤ W := by
  obtain ⟨toks, hp, hd, hfit⟩ := h
  obtain ⟨toks', tail', hsub, htl, h1, h2, h3, h4⟩ := piece_toks W trim txt toks []
    (fun t ht => (hp t ht).scannable) (Or.inl rfl) (by rw [hd, List.append_nil]) hfit
  have : tail' = [] := htl.elim id id
  rw [this, List.append_nil] at h2
  exact ⟨toks', fun t ht => hp t (hsub t ht), h1, h2, h3, h4⟩

theorem shown_nil (W : Nat) (trim : Bool) : shown W trim [] = [] := by
  cases trim <;> simp [shown, decodeUtf8_nil, visibleRunes]

theorem writeCells_end (vs : List Rune) : ∀ (cells : List Rune), writeCells cells cells.length vs = cells ++ vs := by
  induction vs with
  | nil => intro cells; simp [writeCells]
  | cons v vs ih =>
    intro cells
    have e : writeAt cells cells.length v = cells ++ [v] := by
      rw [writeAt_le cells cells.length v (Nat.le_refl _)]; simp
    rw [writeCells, e]
    have := ih (cells ++ [v])
    simp only [List.length_append, List.length_singleton] at this
    rw [this]; simp

theorem writeCells_blank (vs : List Rune) : writeCells [] 0 vs = vs := by
  simpa using writeCells_end vs []

/-- a line feed on a terminal in ONLCR mode, not on the last row (any column, any parser state) -/
theorem Scr.step_lf_onlcr (t : Scr) (ho : t.onlcr = true) (hr : t.row + 1 < t.height) :
    t.step 10 = { t with row := t.row + 1, col := 0 } := by
  rw [Scr.step_lf]
  obtain ⟨w, ht, o, cw, rows, row, col, vis, ps⟩ := t
  simp only at ho hr; subst ho
  simp [Scr.lineFeed, Scr.down, hr]

/-- One stored line as the buffered writer prints it: the (cut) text from column 0, then `\n`. -/
theorem Scr.feed_buffered_line (W : Nat) (trim : Bool) (t : Scr) (txt : Bytes) (hps : t.ps = .ground)
    (hw : t.width = W) (hc : t.col = 0) (ho : t.onlcr = true) (hr : t.row + 1 < t.height)
    (htxt : TextComplete t.cw W trim txt) :
    Clean (writeLineNoWrap handEsc trim W txt ++ [10]) ∧
    t.feedBytes (writeLineNoWrap handEsc trim W txt ++ [10]) =
      { t with rows := setRow t.rows t.row (writeCells (t.rows t.row) 0 (shown W trim txt)),
               row := t.row + 1, col := 0 } := by
  obtain ⟨toks, hp, hclean, hdec, hshown, hlen⟩ := piece_complete t.cw W trim txt htxt
  have hnl : IsAscii [10] := by intro x hx; simp at hx; subst hx; decide
  refine ⟨Clean.append hclean (Clean.asciiList _ hnl), ?_⟩
  rw [Scr.feedBytes_append _ _ _ hclean]
  have h1 : t.feedBytes (writeLineNoWrap handEsc trim W txt) =
      { t with rows := setRow t.rows t.row (writeCells (t.rows t.row) 0 (shown W trim txt)),
               col := (shown W trim txt).length } := by
    rw [Scr.feedBytes, hdec, Scr.feed_toks t.cw toks hp t hps,
      Scr.feed_printables (visToks toks) t (toks_vis_safe t.cw toks hp) hps (by rw [hc, hw]; omega), hshown, hc]
    simp
  rw [h1, Scr.feedBytes, decodeUtf8_of_ascii _ hnl]
  exact Scr.step_lf_onlcr _ ho hr

/-- All stored lines, top to bottom. -/
theorem Scr.feed_buffered (W : Nat) (trim : Bool) : ∀ (lines : List Bytes) (t : Scr), t.ps = .ground → t.width = W →
    t.col = 0 → t.onlcr = true → t.row + lines.length < t.height → (∀ l ∈ lines, TextComplete t.cw W trim l) →
    t.feedBytes (lines.flatMap (fun l => writeLineNoWrap handEsc trim W l ++ [10])) =
      { t with rows := fun j => if t.row ≤ j ∧ j < t.row + lines.length
                                 then writeCells (t.rows j) 0 (shown W trim (lines.getD (j - t.row) []))
                                 else t.rows j,
               row := t.row + lines.length, col := 0 } := by
  intro lines
  induction lines with
  | nil =>
    intro t _ _ hc _ _ _
    obtain ⟨w, ht, o, cw, rows, row, col, vis, ps⟩ := t
    simp only at hc; subst hc
    simp only [List.flatMap_nil, Scr.feedBytes_nil, List.length_nil, Nat.add_zero]
    congr 1
    funext j
    have : ¬ (row ≤ j ∧ j < row) := by omega
    simp [this]
  | cons l lines ih =>
    intro t hps hw hc ho hr htxt
    simp only [List.length_cons] at hr
    obtain ⟨hcl, h1⟩ := Scr.feed_buffered_line W trim t l hps hw hc ho (by omega) (htxt l (by simp))
    rw [List.flatMap_cons, Scr.feedBytes_append _ _ _ hcl, h1]
    have h2 := ih { t with rows := setRow t.rows t.row (writeCells (t.rows t.row) 0 (shown W trim l)),
                           row := t.row + 1, col := 0 }
      hps hw rfl ho (by simp only; omega) (fun x hx => htxt x (by simp [hx]))
    rw [h2]
    simp only [List.length_cons]
    congr 1
    · funext j
      by_cases h0 : j = t.row
      · have e1 : ¬ (t.row + 1 ≤ j ∧ j < t.row + 1 + lines.length) := by omega
        have e2 : t.row ≤ j ∧ j < t.row + (lines.length + 1) := by omega
        simp only [e1, e2, and_self, if_true, if_false]
        subst h0
        simp [setRow]
      · by_cases h2 : t.row + 1 ≤ j ∧ j < t.row + 1 + lines.length
        · have e2 : t.row ≤ j ∧ j < t.row + (lines.length + 1) := by omega
          have e3 : j - t.row = (j - (t.row + 1)) + 1 := by omega
          simp only [h2, e2, and_self, if_true, setRow_ne _ _ _ _ h0, e3, List.getD_cons_succ]
        · have e2 : ¬ (t.row ≤ j ∧ j < t.row + (lines.length + 1)) := by omega
          simp only [h2, e2, if_false, setRow_ne _ _ _ _ h0]
    · omega

/-- for a non-empty history the store has exactly `maxLine + 1` lines -/
theorem VInv.lineCount_eq {hist : List (Nat × Bytes)} {v : VirtualTerm} (h : VInv hist v) (hne : hist ≠ []) :
    v.lineCount = (maxLineOf (castHist hist)).toNat + 1 := by
  obtain ⟨u0, hu0⟩ := List.exists_mem_of_ne_nil hist hne
  have h0 := h.lt u0 hu0
  show v.lines.length = _
  have hle : v.lines.length ≤ (maxLineOf (castHist hist)).toNat + 1 := by
    rcases h.last with hc | ⟨x, hx, hxe⟩
    · omega
    · have := maxLineOf_ge hist x hx; omega
  rcases maxLineOf_mem hist with hm | ⟨y, hy, hye⟩
  · rw [hm] at hle ⊢; simp at hle ⊢; omega
  · have := h.lt y hy; omega

end Rare.C20

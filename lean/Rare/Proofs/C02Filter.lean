import Rare.Proofs.C02
import Rare.Model.C02Filter
import Rare.Spec.C02
/-! C02: `{@}` (`array()`) is the NUL-joined groups; the default `filter` output is the line cut into pieces at group
offsets with codes from the table in between (`strip`, `codes`, `texts`); what "colour codes removed" means on bytes
(`visible`); the whole output loop with `--line`, `--num`, `--extract`. -/
namespace Rare.C02

theorem joinSep_cons (sep x : Bytes) (r : List Bytes) :
    joinSep sep (x :: r) = x ++ (r.map (sep ++ ·)).flatten := by
  induction r generalizing x with
  | nil => simp [joinSep]
  | cons y r ih => simp [joinSep, ih y]

theorem arrayGo_eq (get : Nat → Except String Bytes) (half : Nat) (f : Nat → Bytes)
    (hget : ∀ i, i < half → get i = .ok (f i)) :
    ∀ (n i : Nat), half ≤ n + i → arrayGo get half n i =
      .ok (((List.range' i (half - i)).map fun k => (if k > 1 then [0] else []) ++ f k).flatten) := by
  intro n
  induction n with
  | zero =>
    intro i hn
    rw [Nat.sub_eq_zero_of_le (by omega)]
    rfl
  | succ n ih =>
    intro i hn
    unfold arrayGo
    by_cases hi : i < half
    · rw [if_pos hi, hget i hi, ih (i + 1) (by omega)]
      have e : half - i = (half - (i + 1)) + 1 := by omega
      rw [e, List.range'_succ]
      simp
    · rw [if_neg hi, Nat.sub_eq_zero_of_le (by omega)]
      rfl

theorem array_eq (line : Bytes) (indices : List Int) (hwf : WF line indices)
    (hlen : (indices.length : Int) < 4611686018427387904) :
    array line indices =
      .ok (joinSep [0] ((List.range' 1 (indices.length / 2 - 1)).map fun (k : Nat) => specGroup line indices (k : Int))) := by
  unfold array
  rw [arrayGo_eq _ (indices.length / 2) (fun k => specGroup line indices (k : Nat))
    (fun i _ => getMatch_eq_spec line indices i hwf hlen (by unfold minInt64 maxInt64; omega)) _ _ (Nat.le_add_right _ _)]
  congr 1
  cases indices.length / 2 - 1 with
  | zero => rfl
  | succ m =>
    -- the first element has no separator, every later one (`k > 1`) has
    rw [List.range'_succ, List.map_cons, List.map_cons, joinSep_cons, List.flatten_cons, List.map_map]
    congr 2
    apply List.map_congr_left
    intro k hk
    have := (List.mem_range'_1.mp hk).1
    simp only [Function.comp_apply, if_pos (show k > 1 by omega)]

/-- What `FindSubmatchIndex` of Go's `regexp` (and of dissect, and of `AlwaysMatch`) returns for a
matching line: an even number of offsets, at least the pair of the whole match, every pair either
`(-1, -1)` (group did not participate) or a range inside the line.  Nothing is assumed about the order
or nesting of the groups (a later group may lie before an earlier one, groups may overlap, coincide
or be empty). -/
structure EngineWF (line : Bytes) (indices : List Int) : Prop where
  two : 2 ≤ indices.length
  even : indices.length % 2 = 0
  wf : WF line indices

theorem WF.le_length {line : Bytes} {indices : List Int} (h : WF line indices) (he : indices.length % 2 = 0) :
    ∀ g ∈ indices, g ≤ line.length := by
  intro g hg
  obtain ⟨j, hj, rfl⟩ := List.getElem_of_mem hg
  rw [List.getElem_eq_getD 0]
  obtain ⟨k, rfl | rfl⟩ : ∃ k, j = 2 * k ∨ j = 2 * k + 1 := ⟨j / 2, by omega⟩
  · rcases h k (by omega) with ⟨h1, _⟩ | ⟨_, h1, h2⟩
    · rw [h1]; omega
    · exact Int.le_trans h1 h2
  · rcases h k (by omega) with ⟨_, h1⟩ | ⟨_, _, h2⟩
    · rw [h1]; omega
    · exact h2

/-- `lit` of a string given by its characters.  The kernel reads a string literal as `String.ofList` of its
characters, so rewriting a literal with this lemma hands it the characters directly; evaluating `lit` on the literal
itself makes it encode them to UTF-8 and decode them again (`String.toList`), which is most of the work in the
test vectors.  Use with `simp -index`: a literal matches `String.ofList ?l` by unification, not in simp's index. -/
theorem lit_ofList (l : List Char) : lit (String.ofList l) = l.map fun c => UInt8.ofNat c.toNat := by
  unfold lit
  rw [String.toList_ofList]

theorem strip_eq_texts (segs : List Seg) : strip segs = (texts segs).flatten := by
  induction segs with
  | nil => rfl
  | cons x xs ih => cases x <;> simp [strip, texts, ih]

theorem texts_append (a b : List Seg) : texts (a ++ b) = texts a ++ texts b := by
  induction a with
  | nil => rfl
  | cons x xs ih => cases x <;> simp [texts, ih]

theorem codes_append (a b : List Seg) : codes (a ++ b) = codes a ++ codes b := by
  induction a with
  | nil => rfl
  | cons x xs ih => cases x <;> simp [codes, ih]

/-- every line piece of an output stands in it contiguously -/
theorem text_infix_render : ∀ (segs : List Seg) (t : Bytes), t ∈ texts segs → t <:+: render segs := by
  intro segs
  induction segs with
  | nil => intro t h; cases h
  | cons x xs ih =>
    intro t h
    cases x with
    | text b =>
      rcases List.mem_cons.mp h with rfl | h
      · exact (List.prefix_append t _).isInfix
      · exact (ih t h).trans (List.suffix_append b _).isInfix
    | code b => exact (ih t h).trans (List.suffix_append b _).isInfix

/-- what a successful `WrapIndices` returned: the line as it is (no usable groups), or the pieces of the loop,
followed by the rest of the line when the loop stopped short of its end -/
theorem wrapIndices_ok {s : Bytes} {colors : List Bytes} {reset : Bytes} {groups : List Int} {segs : List Seg}
    (h : wrapIndices s colors reset groups = .ok segs) :
    segs = [.text s] ∨ ∃ segs' last, wrapLoop s colors reset groups 0 0 = .ok (segs', last) ∧
      (segs = segs' ∧ (s.length : Int) ≤ last ∨
        segs = segs' ++ [.text ((s.drop last.toNat).take ((s.length : Int).toNat - last.toNat))]) := by
  unfold wrapIndices at h
  split at h
  · exact .inl (Except.ok.inj h).symm
  · split at h
    · cases h
    · rename_i segs' last heq
      refine .inr ⟨segs', last, heq, ?_⟩
      split at h
      · split at h
        · rename_i t ht
          obtain ⟨_, _, _, rfl⟩ := goSlice_inv ht
          exact .inr (Except.ok.inj h).symm
        · cases h
      · rename_i hge
        exact .inl ⟨(Except.ok.inj h).symm, Int.not_lt.mp hge⟩

theorem wrapLoop_codes (s : Bytes) (colors : List Bytes) (reset : Bytes) (hc : colors ≠ []) :
    ∀ (groups : List Int) (i : Nat) (last : Int) (segs : List Seg) (l : Int),
      wrapLoop s colors reset groups i last = .ok (segs, l) → ∀ c ∈ codes segs, c = reset ∨ c ∈ colors := by
  intro groups i last
  fun_induction wrapLoop s colors reset groups i last with
  | case1 start stop rest i last hcnd a b hb ha segs' l' hrec ih =>
    intro segs l h c hcm
    obtain ⟨rfl, rfl⟩ := Prod.mk.inj (Except.ok.inj h)
    simp only [codes, List.mem_cons] at hcm
    rcases hcm with rfl | rfl | hcm
    · have hlt : i % colors.length < colors.length := Nat.mod_lt _ (List.length_pos_iff.mpr hc)
      exact Or.inr (by simp [List.getD, hlt])
    · exact Or.inl rfl
    · exact ih segs' l' hrec c hcm
  | case2 start stop rest i last hcnd a b hb ha m hrec ih => intro segs l h; cases h
  | case3 start stop rest i last hcnd m herr => intro segs l h; cases h
  | case4 start stop rest i last hcnd m herr => intro segs l h; cases h
  | case5 start stop rest i last hcnd ih => intro segs l h; exact ih segs l h
  | case6 t i last hne =>
    intro segs l h c hcm
    obtain ⟨rfl, _⟩ := Prod.mk.inj (Except.ok.inj h)
    cases hcm

theorem wrapIndices_codes (s : Bytes) (colors : List Bytes) (reset : Bytes) (hc : colors ≠ []) (groups : List Int)
    (segs : List Seg) (h : wrapIndices s colors reset groups = .ok segs) :
    ∀ c ∈ codes segs, c = reset ∨ c ∈ colors := by
  rcases wrapIndices_ok h with rfl | ⟨segs', last, heq, ⟨rfl, _⟩ | rfl⟩
  · intro c hcm; cases hcm
  · exact wrapLoop_codes s colors reset hc groups 0 0 _ last heq
  · intro c hcm
    rw [codes_append] at hcm
    exact wrapLoop_codes s colors reset hc groups 0 0 segs' last heq c (by simpa [codes] using hcm)

/-- `filter` highlights the whole match when there are no groups and the groups otherwise; an index list
shorter than one pair panics in `match.Indices[2:]` -/
theorem filterLine_eq (en : Bool) (colors : List Bytes) (reset : Bytes) (line : Bytes) (indices : List Int) :
    filterLine en colors reset line indices =
      if indices.length < 2 then .error "slice bounds out of range"
      else (wrapIndicesE en line colors reset (if indices.length = 2 then indices else indices.drop 2)).map
        (· ++ [.text [0x0a]]) := by
  unfold filterLine filterLineK
  by_cases hl : indices.length = 2
  · rw [if_pos hl, if_pos hl, if_neg (by omega)]
    cases wrapIndicesE en line colors reset indices <;> rfl
  · rw [if_neg hl, if_neg hl]
    split
    · rfl
    · cases wrapIndicesE en line colors reset (indices.drop 2) <;> rfl

theorem filterLine_on (colors : List Bytes) (reset : Bytes) (line : Bytes) (indices : List Int)
    (h2 : 2 ≤ indices.length) (hr : ∀ g ∈ indices, g ≤ line.length) :
    ∃ segs, filterLine true colors reset line indices = .ok (segs ++ [.text [0x0a]]) ∧ strip segs = line ∧
      (colors ≠ [] → ∀ c ∈ codes segs, c = reset ∨ c ∈ colors) := by
  have hr' : ∀ g ∈ (if indices.length = 2 then indices else indices.drop 2), g ≤ line.length := by
    split
    · exact hr
    · exact fun g hg => hr g (List.mem_of_mem_drop hg)
  obtain ⟨segs, hs, hst⟩ := wrapIndices_strip_eq line colors reset _ hr'
  refine ⟨segs, ?_, hst, fun hc => wrapIndices_codes line colors reset hc _ segs hs⟩
  rw [filterLine_eq, if_neg (by omega)]
  show (wrapIndices line colors reset _).map _ = _
  rw [hs]
  rfl

theorem filterLine_off (colors : List Bytes) (reset : Bytes) (line : Bytes) (indices : List Int)
    (h2 : 2 ≤ indices.length) :
    filterLine false colors reset line indices = .ok [.text line, .text [0x0a]] := by
  rw [filterLine_eq, if_neg (by omega)]
  rfl

theorem filterLine_strip (en : Bool) (colors : List Bytes) (reset : Bytes) (line : Bytes) (indices : List Int)
    (h2 : 2 ≤ indices.length) (hr : ∀ g ∈ indices, g ≤ line.length) :
    ∃ segs, filterLine en colors reset line indices = .ok segs ∧ strip segs = line ++ [0x0a] := by
  cases en
  · exact ⟨_, filterLine_off colors reset line indices h2, rfl⟩
  · obtain ⟨segs, hs, hst, _⟩ := filterLine_on colors reset line indices h2 hr
    exact ⟨_, hs, by rw [strip_append, hst]; rfl⟩

theorem visibleRun_append (esc : UInt8) : ∀ (a b : Bytes) (st : Bool),
    visibleRun esc st (a ++ b) =
      ((visibleRun esc st a).1 ++ (visibleRun esc (visibleRun esc st a).2 b).1,
       (visibleRun esc (visibleRun esc st a).2 b).2) := by
  intro a
  induction a with
  | nil => intro b st; rfl
  | cons c a ih =>
    intro b st
    rw [List.cons_append, visibleRun, visibleRun]
    by_cases h1 : c = esc
    · rw [if_pos h1, if_pos h1]; exact ih b true
    · rw [if_neg h1, if_neg h1]
      by_cases h2 : st = true ∧ c = 0x6d
      · rw [if_pos h2, if_pos h2]; exact ih b false
      · rw [if_neg h2, if_neg h2]
        cases st
        · rw [if_pos (by simp), if_pos (by simp), ih b false]; rfl
        · rw [if_neg (by simp), if_neg (by simp)]; exact ih b true

theorem visibleRun_plain (esc : UInt8) : ∀ (t : Bytes), esc ∉ t → visibleRun esc false t = (t, false) := by
  intro t
  induction t with
  | nil => intro _; rfl
  | cons c t ih =>
    intro h
    have hc : c ≠ esc := fun e => h (by simp [e])
    have ht : esc ∉ t := fun e => h (by simp [e])
    simp [visibleRun, hc, ih ht]

/-- a code the state machine recognises as one complete code when met outside a code -/
def ClosedCode (esc : UInt8) (c : Bytes) : Prop := visibleRun esc false c = ([], false)

instance (esc : UInt8) (c : Bytes) : Decidable (ClosedCode esc c) := by unfold ClosedCode; infer_instance

theorem visible_render (esc : UInt8) : ∀ (segs : List Seg),
    (∀ t ∈ texts segs, esc ∉ t) → (∀ c ∈ codes segs, ClosedCode esc c) →
    visibleRun esc false (render segs) = (strip segs, false) := by
  intro segs
  induction segs with
  | nil => intro _ _; rfl
  | cons x xs ih =>
    intro ht hc
    cases x with
    | text b =>
      have h1 := visibleRun_plain esc b (ht b (by simp [texts]))
      have h2 := ih (fun t h => ht t (by simp [texts, h])) (fun c h => hc c (by simpa [codes] using h))
      simp [render, strip, visibleRun_append, h1, h2]
    | code b =>
      have h1 : visibleRun esc false b = ([], false) := hc b (by simp [codes])
      have h2 := ih (fun t h => ht t (by simpa [texts] using h)) (fun c h => hc c (by simp [codes, h]))
      simp [render, strip, visibleRun_append, h1, h2]

theorem slice_infix (s : Bytes) (a1 a b b1 : Nat) (h1 : a1 ≤ a) (h2 : a ≤ b) (h3 : b ≤ b1) :
    (s.drop a).take (b - a) <:+: (s.drop a1).take (b1 - a1) := by
  have e1 := slice_concat s a1 a b h1 h2
  have e2 := slice_concat s a1 b b1 (by omega) h3
  exact ⟨(s.drop a1).take (a - a1), (s.drop b).take (b1 - b), by rw [e1, e2]⟩

theorem slice_infix_go (s : Bytes) {x y : Int} {a b : Nat} (h1 : x ≤ a) (h2 : a ≤ b) (h3 : (b : Int) ≤ y) :
    (s.drop a).take (b - a) <:+: (s.drop x.toNat).take (y.toNat - x.toNat) :=
  slice_infix s _ a b _ (by omega) h2 (by omega)

/-- The pieces of the wrap loop are cut at group offsets only: a non-empty stretch `s[a:b]` of what the loop
covered that no offset falls strictly inside of lies within ONE piece. -/
theorem wrapLoop_keeps (s : Bytes) (colors : List Bytes) (reset : Bytes) :
    ∀ (groups : List Int) (i : Nat) (last : Int) (segs : List Seg) (l : Int),
      wrapLoop s colors reset groups i last = .ok (segs, l) → 0 ≤ last →
      (l = last ∨ l ∈ groups) ∧
      ∀ (a b : Nat), last ≤ (a : Int) → a < b → (b : Int) ≤ l →
        (∀ g ∈ groups, ¬ ((a : Int) < g ∧ g < (b : Int))) →
        ∃ t ∈ texts segs, (s.drop a).take (b - a) <:+: t := by
  intro groups i last
  fun_induction wrapLoop s colors reset groups i last with
  | case1 start stop rest i last hcnd A B hb ha segs' l' hrec ih =>
    intro segs l h h0
    obtain ⟨rfl, rfl⟩ := Prod.mk.inj (Except.ok.inj h)
    obtain ⟨hl, hk⟩ := ih segs' l' hrec hcnd.2.1
    obtain ⟨_, _, _, rfl⟩ := goSlice_inv ha
    obtain ⟨_, _, _, rfl⟩ := goSlice_inv hb
    refine ⟨Or.inr (hl.elim (fun e => by simp [e]) (fun e => by simp [e])), ?_⟩
    intro a b hla hab hbl hno
    have hs1 := hno start (by simp)
    have hs2 := hno stop (by simp)
    simp only [texts, List.mem_cons, exists_eq_or_imp]
    by_cases c1 : (b : Int) ≤ start
    · exact Or.inl (slice_infix_go s hla (Nat.le_of_lt hab) c1)
    · by_cases c2 : start ≤ (a : Int) ∧ (b : Int) ≤ stop
      · exact Or.inr (Or.inl (slice_infix_go s c2.1 (Nat.le_of_lt hab) c2.2))
      · exact Or.inr (Or.inr (hk a b (by omega) hab hbl (fun g hg => hno g (by simp [hg]))))
  | case2 start stop rest i last hcnd a b hb ha m hrec ih => intro segs l h; cases h
  | case3 start stop rest i last hcnd m herr => intro segs l h; cases h
  | case4 start stop rest i last hcnd m herr => intro segs l h; cases h
  | case5 start stop rest i last hcnd ih =>
    intro segs l h h0
    obtain ⟨hl, hk⟩ := ih segs l h h0
    exact ⟨hl.imp_right (fun e => by simp [e]), fun a b hla hab hbl hno => hk a b hla hab hbl (fun g hg => hno g (by simp [hg]))⟩
  | case6 t i last hne =>
    intro segs l h h0
    obtain ⟨rfl, rfl⟩ := Prod.mk.inj (Except.ok.inj h)
    exact ⟨Or.inl rfl, fun a b hla hab hbl _ => by omega⟩

theorem wrapIndices_keeps (s : Bytes) (colors : List Bytes) (reset : Bytes) (groups : List Int) (segs : List Seg)
    (h : wrapIndices s colors reset groups = .ok segs) (a b : Nat) (hab : a ≤ b) (hb : b ≤ s.length)
    (hno : ∀ g ∈ groups, ¬ ((a : Int) < g ∧ g < (b : Int))) :
    (s.drop a).take (b - a) <:+: render segs := by
  rcases Nat.eq_or_lt_of_le hab with rfl | hlt
  · simp
  rcases wrapIndices_ok h with rfl | ⟨segs', last, heq, hsegs⟩
  · have := slice_infix s 0 a b s.length (Nat.zero_le _) hab hb
    simpa [render] using this
  obtain ⟨hl, hk⟩ := wrapLoop_keeps s colors reset groups 0 0 segs' last heq (Int.le_refl _)
  -- `last` is 0 or a group offset, so the stretch lies on one side of it
  have hside : (b : Int) ≤ last ∨ last ≤ (a : Int) := by
    rcases hl with e | e
    · omega
    · have := hno last e
      omega
  rcases hsegs with ⟨rfl, hge⟩ | rfl
  · obtain ⟨t, ht, hi⟩ := hk a b (Int.natCast_nonneg _) hlt (by omega) hno
    exact hi.trans (text_infix_render _ t ht)
  · rcases hside with c1 | c2
    · obtain ⟨t, ht, hi⟩ := hk a b (Int.natCast_nonneg _) hlt c1 hno
      exact hi.trans (text_infix_render _ t (by rw [texts_append]; exact List.mem_append_left _ ht))
    · exact (slice_infix_go s c2 hab (Int.ofNat_le.mpr hb)).trans
        (text_infix_render _ _ (by rw [texts_append]; exact List.mem_append_right _ List.mem_cons_self))

theorem texts_bytes_of_strip (segs : List Seg) (t : Bytes) (ht : t ∈ texts segs) : ∀ x ∈ t, x ∈ strip segs := by
  intro x hx
  rw [strip_eq_texts]
  exact List.mem_flatten.mpr ⟨t, ht, hx⟩

theorem strip_wrapE (en : Bool) (c r s : Bytes) : strip (wrapE en c r s) = s := by
  unfold wrapE
  cases en
  · simp [strip]
  · by_cases h : s.length < r.length ∨ s.drop (s.length - r.length) ≠ r <;> simp [h, strip]

theorem strip_filterPrefix (en : Bool) (p : Palette) (m : FMatch) :
    strip (filterPrefix en p m) = m.source ++ [0x20] ++ itoa m.lineNum ++ [0x3a, 0x20] := by
  unfold filterPrefix
  simp [strip_append, strip_wrapE, strip]

/-- the index list of a match is one a matcher can hand out -/
def FMatch.OK (m : FMatch) : Prop := 2 ≤ m.indices.length ∧ ∀ g ∈ m.indices, g ≤ m.line.length

/-- what `filter` should print for one match, colours aside -/
def plainLine (writeLines custom : Bool) (m : FMatch) : Bytes :=
  (if writeLines then m.source ++ [0x20] ++ itoa m.lineNum ++ [0x3a, 0x20] else []) ++
    (if custom then m.extracted else m.line) ++ [0x0a]

theorem filterOne_strip (en wl cu : Bool) (p : Palette) (m : FMatch) (h : cu = false → m.OK) :
    ∃ segs, filterOne en wl cu p m = .ok segs ∧ strip segs = plainLine wl cu m := by
  unfold filterOne plainLine
  have hpre : strip (if wl = true then filterPrefix en p m else []) =
      (if wl = true then m.source ++ [0x20] ++ itoa m.lineNum ++ [0x3a, 0x20] else []) := by
    cases wl
    · rfl
    · exact strip_filterPrefix en p m
  cases cu with
  | true => exact ⟨_, rfl, by rw [strip_append, hpre]; simp [strip]⟩
  | false =>
    obtain ⟨h2, hr⟩ := h rfl
    obtain ⟨segs, hs, hst⟩ := filterLine_strip en p.groups p.reset m.line m.indices h2 hr
    refine ⟨_, by rw [Bool.not_false, if_pos rfl, hs], ?_⟩
    rw [strip_append, hpre, hst]
    simp

theorem filterAll_strip (en wl cu : Bool) (p : Palette) (num : Nat) :
    ∀ (ms : List FMatch) (rl : Nat), (∀ m ∈ ms, cu = false → m.OK) → (num = 0 ∨ rl < num) →
      ∃ segs, filterAll en wl cu p num ms rl = .ok segs ∧
        strip segs = ((if num = 0 then ms else ms.take (num - rl)).flatMap (plainLine wl cu)) := by
  intro ms
  induction ms with
  | nil => intro rl _ _; exact ⟨[], rfl, by simp [strip]⟩
  | cons m ms ih =>
    intro rl hok hrl
    obtain ⟨segs, hs, hst⟩ := filterOne_strip en wl cu p m (hok m List.mem_cons_self)
    simp only [filterAll, hs]
    by_cases hlim : num > 0 ∧ rl + 1 ≥ num
    · -- the limit is reached with this match
      rw [if_pos hlim, if_neg (by omega), show num - rl = 1 by omega]
      exact ⟨segs, rfl, by simp [hst]⟩
    · rw [if_neg hlim]
      obtain ⟨rest, hr, hrst⟩ := ih (rl + 1) (fun x hx => hok x (List.mem_cons_of_mem _ hx)) (by omega)
      rw [hr]
      refine ⟨segs ++ rest, rfl, ?_⟩
      rw [strip_append, hst, hrst]
      by_cases h0 : num = 0
      · rw [if_pos h0, if_pos h0, List.flatMap_cons]
      · rw [if_neg h0, if_neg h0, show num - rl = (num - (rl + 1)) + 1 by omega, List.take_succ_cons, List.flatMap_cons]

end Rare.C02

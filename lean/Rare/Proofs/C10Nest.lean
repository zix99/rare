import Rare.Proofs.C10
import Rare.Proofs.C09Errors
import Rare.Proofs.C09Utf8Char
/-!
C10: nested user-defined functions and the loader.

* `withArgs_compose`: substitution composes – calling an outer function whose body calls an inner function is
  the inner body with its parameters replaced by the inner call's arguments, in which the outer parameters
  have been replaced by the outer call's arguments ("doubly inlined").
* `nest_run`: at every depth of nesting the innermost body runs in the context built level by level: each
  level's arguments are evaluated in the context of the level outside it, named keys and negative indices
  are the outermost caller's, an index beyond a level's arguments reads as empty.
* `loadDefs_spec`: what `LoadDefinitions` adds to the registry, in file order.
-/
namespace Rare.C10
open Rare Rare.Expr

theorem withArgs_bind {α β : Type} (args : List Stage) (c : Comp α) (f : α → Comp β) :
    withArgs args (c.bind f) = (withArgs args c).bind fun v => withArgs args (f v) := by
  induction c with
  | ret a => rfl
  | getKey s k ih => simp only [Comp.bind, withArgs]; congr 1; funext b; exact ih b
  | panic m => rfl
  | getMatch i k ih =>
    simp only [Comp.bind, withArgs]
    split
    · simp only [Comp.bind]; congr 1; funext b; exact ih b
    · split
      · exact ih []
      · rw [Comp.bind_assoc]; congr 1; funext v; exact ih v

theorem getD_map_withArgs (outer inner : List Stage) (n : Nat) (h : n < inner.length) :
    (inner.map (withArgs outer)).getD n (.ret []) = withArgs outer (inner.getD n (.ret [])) := by
  rw [List.getD_eq_getElem?_getD, List.getD_eq_getElem?_getD, List.getElem?_map,
    List.getElem?_eq_getElem h]
  rfl

/-- **Substitution composes.** -/
theorem withArgs_compose {α : Type} (outer inner : List Stage) (c : Comp α) :
    withArgs outer (withArgs inner c) = withArgs (inner.map (withArgs outer)) c := by
  induction c with
  | ret a => rfl
  | getKey s k ih => simp only [withArgs]; congr 1; funext b; exact ih b
  | panic m => rfl
  | getMatch i k ih =>
    simp only [withArgs, List.length_map]
    split
    · rename_i hneg
      simp only [withArgs, hneg, if_true]; congr 1; funext b; exact ih b
    · split
      · exact ih []
      · rename_i h0 h1
        rw [withArgs_bind, getD_map_withArgs outer inner i.toNat (by omega)]
        congr 1; funext v; exact ih v

/-- The stage of a chain of nested calls: `c` is the innermost body, the list holds the argument stages of
    the calls from the INNERMOST call (made inside the body of the function one level out) to the OUTERMOST
    (made by the template). -/
def nest {α : Type} (c : Comp α) : List (List Stage) → Comp α
  | [] => c
  | as :: outer => nest (withArgs as c) outer

/-- The contexts of a chain of nested calls, from the outermost caller's match inwards: each level's argument
    stages are evaluated in the context of the level outside it. -/
inductive Levels : Ctx → List (List Stage) → Ctx → Prop
  | nil (ctx : Ctx) : Levels ctx [] ctx
  | cons (ctx mid : Ctx) (as : List Stage) (outer : List (List Stage)) (vals : List Bytes) :
      Levels ctx outer mid → as.map (·.run mid) = vals.map .ok →
      Levels ctx (as :: outer) (argCtx mid as.length vals)

theorem nest_run {α : Type} (ctx : Ctx) : ∀ (levels : List (List Stage)) (inner : Ctx) (c : Comp α),
    Levels ctx levels inner → (nest c levels).run ctx = c.run inner := by
  intro levels
  induction levels with
  | nil => intro inner c h; cases h; rfl
  | cons as outer ih =>
    intro inner c h
    cases h with
    | cons mid _ _ vals hl hv =>
      rw [nest, ih mid (withArgs as c) hl, withArgs_run as mid vals hv]

/-- Named keys and negative indices are the outermost caller's at every level. -/
theorem levels_passthrough {ctx inner : Ctx} {levels : List (List Stage)} (h : Levels ctx levels inner) :
    inner.getKey = ctx.getKey ∧ ∀ i : Int, i < 0 → inner.getMatch i = ctx.getMatch i := by
  induction h with
  | nil => exact ⟨rfl, fun _ _ => rfl⟩
  | cons mid as outer vals _ _ ih =>
    refine ⟨ih.1, fun i hi => ?_⟩
    simp only [argCtx, hi, if_true]
    exact ih.2 i hi

/-- What `LoadDefinitions` does with a list of phrases, as a relation: the functions added, in file order,
    each compiled (optimiser on) against the registry extended by exactly the functions added BEFORE it. -/
inductive Loaded : Registry → List (Option (Bytes × Bytes)) → List (List Char × Builder) → Prop
  | done (reg : Registry) : Loaded reg [] []
  | noExpr (reg : Registry) (rest : List (Option (Bytes × Bytes))) (fs : List (List Char × Builder)) :
      Loaded reg rest fs → Loaded reg (none :: rest) fs
  | rejected (reg : Registry) (name expr : Bytes) (rest : List (Option (Bytes × Bytes)))
      (fs : List (List Char × Builder)) (stages : List Stage) (errs : List CErr) :
      C09.compileBytes reg true expr = .ok (stages, errs) → (errs ≠ [] ∨ C09.wellFormed name = false) →
      Loaded reg rest fs → Loaded reg (some (name, expr) :: rest) fs
  | added (reg : Registry) (name expr : Bytes) (rest : List (Option (Bytes × Bytes)))
      (fs : List (List Char × Builder)) (stages : List Stage) :
      C09.compileBytes reg true expr = .ok (stages, []) → C09.wellFormed name = true →
      Loaded (extend reg (C09.decodeRunes name) (userFunction stages)) rest fs →
      Loaded reg (some (name, expr) :: rest) ((C09.decodeRunes name, userFunction stages) :: fs)

theorem withFuncs_cons (reg : Registry) (n : List Char) (f : Builder) (fs : List (List Char × Builder)) :
    withFuncs reg ((n, f) :: fs) = withFuncs (extend reg n f) fs := rfl

theorem loadDefs_spec : ∀ (defs : List (Option (Bytes × Bytes))) (reg r : Registry) (fs : List (List Char × Builder)),
    loadDefs reg defs = .ok (r, fs) → Loaded reg defs fs ∧ r = withFuncs reg fs := by
  intro defs
  induction defs with
  | nil =>
    intro reg r fs h
    simp only [loadDefs, Except.ok.injEq, Prod.mk.injEq] at h
    obtain ⟨rfl, rfl⟩ := h
    exact ⟨.done _, rfl⟩
  | cons d rest ih =>
    intro reg r fs h
    cases d with
    | none =>
      simp only [loadDefs] at h
      obtain ⟨h1, h2⟩ := ih reg r fs h
      exact ⟨.noExpr _ _ _ h1, h2⟩
    | some p =>
      obtain ⟨name, expr⟩ := p
      simp only [loadDefs] at h
      cases hc : C09.compileBytes reg true expr with
      | error m => rw [hc] at h; cases h
      | ok q =>
        obtain ⟨stages, errs⟩ := q
        rw [hc] at h
        simp only [] at h
        by_cases hok : (errs.isEmpty && C09.wellFormed name) = true
        · simp only [hok, if_true] at h
          simp only [Bool.and_eq_true, List.isEmpty_iff] at hok
          obtain ⟨he, hw⟩ := hok
          subst he
          cases hl : loadDefs (extend reg (C09.decodeRunes name) (userFunction stages)) rest with
          | error m => rw [hl] at h; cases h
          | ok q2 =>
            obtain ⟨r2, fs2⟩ := q2
            rw [hl] at h
            simp only [Except.ok.injEq, Prod.mk.injEq] at h
            obtain ⟨rfl, rfl⟩ := h
            obtain ⟨h1, h2⟩ := ih _ _ _ hl
            exact ⟨.added _ _ _ _ _ _ hc hw h1, by rw [withFuncs_cons]; exact h2⟩
        · simp only [hok, Bool.false_eq_true, if_false] at h
          obtain ⟨h1, h2⟩ := ih reg r fs h
          refine ⟨.rejected _ _ _ _ _ stages errs hc ?_ h1, h2⟩
          simp only [Bool.and_eq_true, List.isEmpty_iff, not_and, Bool.not_eq_true] at hok
          by_cases he : errs = []
          · exact Or.inr (hok he)
          · exact Or.inl he

/-- …and conversely the relation determines the loader's answer. -/
theorem loadDefs_of_loaded {reg : Registry} {defs : List (Option (Bytes × Bytes))} {fs : List (List Char × Builder)}
    (h : Loaded reg defs fs) : loadDefs reg defs = .ok (withFuncs reg fs, fs) := by
  induction h with
  | done reg => rfl
  | noExpr reg rest fs _ ih => simpa only [loadDefs] using ih
  | rejected reg name expr rest fs stages errs hc hbad _ ih =>
    simp only [loadDefs, hc]
    have : (errs.isEmpty && C09.wellFormed name) = false := by
      rcases hbad with h | h
      · cases errs with
        | nil => exact absurd rfl h
        | cons _ _ => rfl
      · rw [h]; simp
    simp only [this, Bool.false_eq_true, if_false]
    exact ih
  | added reg name expr rest fs stages hc hw _ ih =>
    simp only [loadDefs, hc, hw, List.isEmpty_nil, Bool.and_self, if_true, ih]
    rfl

/-- **Forward references and recursion are compile errors.**  A definition whose body is a call `{g …}` of a
    name the compiler does not know *at that point* – not a builtin, not defined EARLIER in the file; in
    particular its own name, or a name defined later – compiles with `ErrorMissingFunction`, so it is logged
    and not added: the loader goes on exactly as if the line were not there. -/
theorem loadDefs_unknown_callee (reg : Registry) (name : Bytes) (w0 g w1 : List Char) (p1 : C09.Piece)
    (more : List (List Char × C09.Piece)) (trail : List Char) (rest : List (Option (Bytes × Bytes)))
    (hl : C09.LayoutOk true ((w0, .bare g) :: (w1, p1) :: more)) (ht : C09.allSpace trail = true)
    (hg : reg g = none) :
    loadDefs reg (some (name, encodeRunes ('{' :: ((C09.layout ((w0, .bare g) :: (w1, p1) :: more) ++ trail) ++ ['}']))) :: rest)
      = loadDefs reg rest := by
  obtain ⟨st, hc, _⟩ := C09.compileF_missing_function
    (('{' :: ((C09.layout ((w0, .bare g) :: (w1, p1) :: more) ++ trail) ++ ['}'])).length) reg true w0 g w1 p1 more trail hl ht hg
  have hcb : C09.compileBytes reg true (encodeRunes ('{' :: ((C09.layout ((w0, .bare g) :: (w1, p1) :: more) ++ trail) ++ ['}'])))
      = .ok (st, [⟨.missingFunction, C09.layout ((w0, .bare g) :: (w1, p1) :: more) ++ trail, 0⟩]) := by
    rw [C09.compileBytes, C09.decodeRunes_encodeRunes]; exact hc
  simp only [loadDefs, hcb, List.isEmpty_cons, Bool.false_and, Bool.false_eq_true, if_false]

end Rare.C10

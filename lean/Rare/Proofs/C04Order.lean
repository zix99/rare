import Rare.Proofs.C04Buf
/-!
The slices a scanner hands out are ordered and pairwise disjoint: a later slice lies in a later array, or in the
same array at or after the end of the earlier one.  Purely positional: no invariant is needed, so the statements hold
from every state.
-/
namespace Rare.C04

/-- state `t` is at or beyond the read position of `s` -/
def After (s t : Imm) : Prop := s.arr < t.arr ∨ (s.arr = t.arr ∧ s.offset ≤ t.offset)

/-- view `v` starts at or beyond the read position of `s` -/
def AfterV (s : Imm) (v : View) : Prop := s.arr < v.arr ∨ (s.arr = v.arr ∧ s.offset ≤ v.start)

/-- `a` lies entirely before `b` -/
def Before (a b : View) : Prop := a.arr < b.arr ∨ (a.arr = b.arr ∧ a.stop ≤ b.start)

theorem After.refl (s : Imm) : After s s := Or.inr ⟨rfl, Nat.le_refl _⟩

theorem After.trans {s t u : Imm} (h1 : After s t) (h2 : After t u) : After s u := by
  unfold After at *; omega

theorem After.view {s t : Imm} {v : View} (h1 : After s t) (h2 : AfterV t v) : AfterV s v := by
  unfold After AfterV at *; omega

/-- What one `Scan()` does to the read position: the slice handed out starts at or beyond the old position and ends
    at or before the new one. -/
def PosPost (s : Imm) : Res → Imm → Prop
  | .tok v _, s' => v.arr = s'.arr ∧ v.stop ≤ s'.offset ∧ AfterV s v ∧ After s s' ∧ v.start ≤ v.stop
  | .done, s' => After s s'
  | .fuel, s' => After s s'

theorem PosPost.mono {s t : Imm} (h : After s t) : ∀ {r : Res} {s' : Imm}, PosPost t r s' → PosPost s r s'
  | .tok _ _, _, ⟨a, b, c, d, e⟩ => ⟨a, b, h.view c, h.trans d, e⟩
  | .done, _, d => h.trans d
  | .fuel, _, d => h.trans d

theorem emitAt_pos (t : Imm) (k : Nat) : PosPost t (t.emitAt k).1 (t.emitAt k).2 := by
  have h1 := (dropCR_prefix ((t.buf.drop t.offset).take k)).length_le
  have h2 : ((t.buf.drop t.offset).take k).length ≤ k := List.length_take_le _ _
  refine ⟨rfl, ?_, Or.inr ⟨rfl, Nat.le_refl _⟩, Or.inr ⟨rfl, ?_⟩, ?_⟩
  · show t.offset + (dropCR ((t.buf.drop t.offset).take k)).length ≤ t.offset + k + 1
    omega
  · show t.offset ≤ t.offset + k + 1
    omega
  · show t.offset ≤ t.offset + (dropCR ((t.buf.drop t.offset).take k)).length
    omega

theorem emitTail_pos (t : Imm) (h : t.offset ≤ t.buf.length) : PosPost t t.emitTail.1 t.emitTail.2 :=
  ⟨rfl, Nat.le_refl _, Or.inr ⟨rfl, Nat.le_refl _⟩, Or.inr ⟨rfl, h⟩, h⟩

theorem top_pos {s : Imm} {r : Res × Imm} (ht : s.top = some r) : PosPost s r.1 r.2 := by
  rcases top_some ht with ⟨a, _, _, _, rfl⟩ | ⟨_, hne, _, rfl⟩ | ⟨_, _, rfl⟩
  · exact emitAt_pos s _
  · refine emitTail_pos s (Nat.le_of_lt (Nat.lt_of_not_le fun h => hne (pending_eq_nil.mpr h)))
  · exact After.refl s

theorem grown_after (s : Imm) : After s s.grown := by
  unfold Imm.grown
  split
  · exact Or.inl (by simp [Imm.arr, Imm.regrow])
  · exact After.refl s

theorem readLoop_pos (f : Nat) : ∀ (s : Imm), PosPost s (s.readLoop f).1 (s.readLoop f).2 := by
  induction f with
  | zero => intro s; exact After.refl s
  | succ f ih =>
    intro s
    simp only [Imm.readLoop]
    generalize s.grown.rd.read (s.grown.cap - s.grown.buf.length) = r
    have ha : After s (s.grown.recv r.1 r.2.2) := (grown_after s).trans (Or.inr ⟨rfl, Nat.le_refl _⟩)
    split
    · rename_i e _
      exact PosPost.mono (ha.trans (Or.inr ⟨rfl, Nat.le_refl _⟩))
        (top_pos (s := (s.grown.recv r.1 r.2.2).fail e) (topEof_eq_top _ rfl))
    · split
      · exact PosPost.mono ha (emitAt_pos _ _)
      · exact PosPost.mono ha (ih _)

theorem scan_pos (f : Nat) (s : Imm) : PosPost s (s.scan f).1 (s.scan f).2 := by
  unfold Imm.scan
  split
  · rename_i r ht
    exact top_pos ht
  · exact readLoop_pos f s

theorem bscan_pos (f : Nat) : ∀ s : Buf, PosPost s.win (s.scan f).1 (s.scan f).2.win := by
  induction f with
  | zero => intro s; exact After.refl _
  | succ f ih =>
    intro s
    simp only [Buf.scan]
    split
    · exact emitAt_pos s.win _
    · split
      · rename_i hc
        have hlt : s.offset < s.buf.length := by simp at hc; exact hc.2
        exact emitTail_pos s.win (Nat.le_of_lt hlt)
      · split
        · split
          · exact After.refl _
          · exact PosPost.mono (Or.inl (by simp [Imm.arr, Buf.win])) (ih _)
        · exact After.refl _

/-- In hand-out order every slice lies before every later one, and all of them at or beyond the starting position. -/
theorem calls_sorted {σ : Type} {win : σ → Imm} {scan : σ → Res × σ}
    (hpos : ∀ s, PosPost (win s) (scan s).1 (win (scan s).2)) : ∀ (n : Nat) (s : σ),
    (∀ vb ∈ (calls scan n s).1, AfterV (win s) vb.1 ∧ vb.1.start ≤ vb.1.stop) ∧
    List.Pairwise (fun a b : View × Bytes => Before a.1 b.1) (calls scan n s).1 := by
  intro n
  induction n with
  | zero => intro s; simp [calls]
  | succ n ih =>
    intro s
    have hp := hpos s
    simp only [calls]
    generalize scan s = r at hp
    obtain ⟨res, s'⟩ := r
    cases res with
    | tok v b =>
      obtain ⟨h1, h2, h3, h4, h5⟩ : PosPost (win s) (.tok v b) (win s') := hp
      obtain ⟨ia, ib⟩ := ih s'
      refine ⟨?_, List.Pairwise.cons (fun w hw => ?_) ib⟩
      · intro vb hvb
        rcases List.mem_cons.mp hvb with rfl | hm
        · exact ⟨h3, h5⟩
        · exact ⟨h4.view (ia vb hm).1, (ia vb hm).2⟩
      · have := (ia w hw).1
        unfold AfterV at this
        unfold Before
        simp only
        omega
    | done => simp
    | fuel => simp

end Rare.C04

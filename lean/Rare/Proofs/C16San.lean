import Rare.Proofs.C16Utf8
import Rare.Proofs.C16Bool
/-! C16: U+FFFD substitution (`sanitize`) commutes with everything the JSON writer does, and gives
well-formed UTF-8. -/
namespace Rare.C16

/-- the machine's invariant: `pend` is what has been read of the current sequence, in state `st` -/
structure PendOk (st : U8) (pend : Bytes) : Prop where
  run : u8Run .s0 pend = some st
  s0 : st = .s0 → pend = []
  high : ∀ x ∈ pend, ¬ x < 0x80

theorem PendOk.init : PendOk .s0 [] := ⟨rfl, fun _ => rfl, by simp⟩

theorem PendOk.ne_nil {st : U8} {pend : Bytes} (h : PendOk st pend) (hs : st ≠ .s0) : pend ≠ [] := by
  intro e; subst e
  have := h.run; simp [u8Run] at this; exact hs this.symm

theorem u8Run_snoc (a : Bytes) (c : UInt8) (st : U8) (h : u8Run .s0 a = some st) :
    u8Run .s0 (a ++ [c]) = u8Step st c := by
  rw [u8Run_append, h]
  simp only [Option.bind, u8Run]
  cases u8Step st c <;> rfl

theorem PendOk.step {st st' : U8} {pend : Bytes} {c : UInt8} (h : PendOk st pend)
    (hs : u8Step st c = some st') (hn : st' ≠ .s0) : PendOk st' (pend ++ [c]) := by
  refine ⟨by rw [u8Run_snoc pend c st h.run, hs], fun e => absurd e hn, ?_⟩
  intro x hx
  rcases List.mem_append.mp hx with hx | hx
  · exact h.high x hx
  · simp at hx; subst hx
    intro hc
    exact hn (u8Step_ascii st st' x hc hs).2

theorem PendOk.fresh {st' : U8} {c : UInt8} (hs : u8Step .s0 c = some st') (hn : st' ≠ .s0) :
    PendOk st' [c] := by
  simpa using PendOk.init.step hs hn

theorem u8Step_ascii_none (st : U8) (c : UInt8) (hc : c < 0x80) (hs : st ≠ .s0) : u8Step st c = none := by
  cases h : u8Step st c with
  | none => rfl
  | some st' => exact absurd (u8Step_ascii st st' c hc h).1 hs

theorem u8Step_s0_ascii (c : UInt8) (hc : c < 0x80) : u8Step .s0 c = some .s0 := by
  simp [u8Step, hc]

theorem san_ascii (st : U8) (pend : Bytes) (c : UInt8) (r : Bytes) (h : PendOk st pend) (hc : c < 0x80) :
    san st pend (c :: r) = fffds pend ++ c :: san .s0 [] r := by
  by_cases hs : st = .s0
  · subst hs
    have := h.s0 rfl; subst this
    simp [san, u8Step_s0_ascii c hc, fffds]
  · have hp := h.ne_nil hs
    simp [san, u8Step_ascii_none st c hc hs, hp, u8Step_s0_ascii c hc]

theorem san_nil (st : U8) (pend : Bytes) : san st pend [] = fffds pend := by simp [san]

theorem valid_fffds (pend : Bytes) : validUtf8 (fffds pend) = true := by
  induction pend with
  | nil => decide
  | cons x r ih => simp only [fffds, List.flatMap_cons] at ih ⊢; exact valid_append _ _ (by decide) ih

theorem fffd_high : ∀ x ∈ fffd, ¬ x < 0x80 := by decide

theorem fffds_high (pend : Bytes) : ∀ x ∈ fffds pend, ¬ x < 0x80 := by
  intro x hx
  obtain ⟨_, _, hx⟩ := List.mem_flatMap.mp hx
  exact fffd_high x hx

/-- reading one byte `c`: what is written (`out`) and the state after it.  `out` is well-formed and made of `c`
and bytes ≥ 0x80; if `c` continues the sequence nothing is lost, otherwise a U+FFFD is written -/
theorem san_step {st : U8} {pend : Bytes} (h : PendOk st pend) (c : UInt8) :
    ∃ out st' pend', PendOk st' pend' ∧ (∀ r, san st pend (c :: r) = out ++ san st' pend' r) ∧
      validUtf8 out = true ∧ (∀ x ∈ out, x = c ∨ ¬ x < 0x80) ∧
      (u8Step st c = some st' ∧ out ++ pend' = pend ++ [c] ∨ u8Step st c = none ∧ 0xEF ∈ out) := by
  have hh : ∀ x ∈ fffds pend, x = c ∨ ¬ x < 0x80 := fun x hm => .inr (fffds_high pend x hm)
  have hd : ∀ x ∈ fffd, x = c ∨ ¬ x < 0x80 := fun x hm => .inr (fffd_high x hm)
  cases hx : u8Step st c with
  | some st' =>
    by_cases hs : st' = .s0
    · refine ⟨pend ++ [c], .s0, [], .init, fun r => by simp [san, hx, hs], ?_,
        List.forall_mem_append.mpr ⟨fun x hm => .inr (h.high x hm), by simp⟩, .inl ⟨hs ▸ rfl, by simp⟩⟩
      simp only [validUtf8, beq_iff_eq]; rw [u8Run_snoc pend c st h.run, hx, hs]
    · exact ⟨[], st', pend ++ [c], h.step hx hs, fun r => by simp [san, hx, hs], by decide, nofun,
        .inl ⟨rfl, rfl⟩⟩
  | none =>
    by_cases hp : pend = []
    · subst hp
      exact ⟨fffd, .s0, [], .init, fun r => by simp [san, hx, fffds], by decide, hd, .inr ⟨rfl, by decide⟩⟩
    · have hf : 0xEF ∈ fffds pend := by
        cases pend with
        | nil => exact absurd rfl hp
        | cons p r => simp [fffds, fffd]
      cases hy : u8Step .s0 c with
      | some st' =>
        by_cases hs : st' = .s0
        · exact ⟨fffds pend ++ [c], .s0, [], .init, fun r => by simp [san, hx, hp, hy, hs],
            valid_append _ _ (valid_fffds pend) (by simp [validUtf8, u8Run, hy, hs]),
            List.forall_mem_append.mpr ⟨hh, by simp⟩, .inr ⟨rfl, List.mem_append_left _ hf⟩⟩
        · exact ⟨fffds pend, st', [c], .fresh hy hs, fun r => by simp [san, hx, hp, hy, hs], valid_fffds pend, hh,
            .inr ⟨rfl, hf⟩⟩
      | none =>
        exact ⟨fffds pend ++ fffd, .s0, [], .init, fun r => by simp [san, hx, hp, hy],
          valid_append _ _ (valid_fffds pend) (by decide), List.forall_mem_append.mpr ⟨hh, hd⟩,
          .inr ⟨rfl, List.mem_append_left _ hf⟩⟩

theorem san_split : ∀ (a : Bytes) (st : U8) (pend : Bytes) (c : UInt8) (b : Bytes), PendOk st pend → c < 0x80 →
    san st pend (a ++ c :: b) = san st pend a ++ c :: san .s0 [] b := by
  intro a
  induction a with
  | nil => intro st pend c b h hc; simp [san_ascii st pend c b h hc, san_nil]
  | cons x a ih =>
    intro st pend c b h hc
    obtain ⟨out, st', pend', h', e, _⟩ := san_step h x
    rw [List.cons_append, e, e, ih st' pend' c b h' hc, List.append_assoc]

theorem sanitize_split (a : Bytes) (c : UInt8) (b : Bytes) (hc : c < 0x80) :
    sanitize (a ++ c :: b) = sanitize a ++ c :: sanitize b := san_split a .s0 [] c b .init hc

theorem sanitize_cons_ascii (c : UInt8) (b : Bytes) (hc : c < 0x80) : sanitize (c :: b) = c :: sanitize b := by
  simpa [sanitize, san_nil, fffds] using sanitize_split [] c b hc

theorem sanitize_nil : sanitize [] = [] := by simp [sanitize, san, fffds]

theorem sanitize_ascii_append : ∀ (w b : Bytes), IsAscii w → sanitize (w ++ b) = w ++ sanitize b := by
  intro w
  induction w with
  | nil => intro b _; rfl
  | cons c w ih =>
    intro b h
    rw [List.cons_append, sanitize_cons_ascii c _ (h c (by simp)), ih b (fun d hd => h d (by simp [hd]))]
    rfl

theorem sanitize_ascii (a : Bytes) (h : IsAscii a) : sanitize a = a := by
  have := sanitize_ascii_append a [] h
  rwa [List.append_nil, sanitize_nil, List.append_nil] at this

theorem valid_san : ∀ (rest : Bytes) (st : U8) (pend : Bytes), PendOk st pend → validUtf8 (san st pend rest) = true := by
  intro rest
  induction rest with
  | nil => intro st pend _; rw [san_nil]; exact valid_fffds pend
  | cons x a ih =>
    intro st pend h
    obtain ⟨out, st', pend', h', e, hv, _⟩ := san_step h x
    rw [e]; exact valid_append _ _ hv (ih st' pend' h')

theorem valid_sanitize (b : Bytes) : validUtf8 (sanitize b) = true := valid_san b .s0 [] .init

theorem san_valid_id : ∀ (rest : Bytes) (st : U8) (pend : Bytes), PendOk st pend → u8Run st rest = some .s0 →
    san st pend rest = pend ++ rest := by
  intro rest
  induction rest with
  | nil =>
    intro st pend hp h
    simp [u8Run] at h
    have := hp.s0 h; subst this
    simp [san, fffds]
  | cons x a ih =>
    intro st pend hp h
    obtain ⟨out, st', pend', h', e, _, _, ⟨hx, ho⟩ | ⟨hx, _⟩⟩ := san_step hp x <;> simp only [u8Run, hx] at h
    · rw [e, ih st' pend' h' h, ← List.append_assoc, ho]; simp
    · cases h

theorem esc1_high (x : UInt8) (h : ¬ x < 0x80) : esc1 x = [x] := by
  rcases esc1_bytes x with ⟨e, _⟩ | ⟨hx, _⟩
  · exact e
  · exact absurd hx h

theorem escape_fix (l : Bytes) (h : ∀ x ∈ l, esc1 x = [x]) : escape l = l := by
  induction l with
  | nil => exact escape_nil
  | cons x l ih => rw [escape_cons, h x (by simp), ih (fun y hy => h y (by simp [hy]))]; rfl

theorem escape_fffds (pend : Bytes) : escape (fffds pend) = fffds pend :=
  escape_fix _ fun x hx => esc1_high x (fffds_high pend x hx)

theorem san_s0_ascii_word : ∀ (w b : Bytes), IsAscii w → san .s0 [] (w ++ b) = w ++ san .s0 [] b :=
  sanitize_ascii_append

theorem san_ascii_word (st : U8) (pend w b : Bytes) (h : PendOk st pend) (hw : IsAscii w) (hne : w ≠ []) :
    san st pend (w ++ b) = fffds pend ++ w ++ san .s0 [] b := by
  cases w with
  | nil => exact absurd rfl hne
  | cons c w =>
    rw [List.cons_append, san_ascii st pend c _ h (hw c (by simp)),
      san_s0_ascii_word w b (fun d hd => hw d (by simp [hd]))]
    simp

theorem san_escape : ∀ (s : Bytes) (st : U8) (pend : Bytes), PendOk st pend →
    san st pend (escape s) = escape (san st pend s) := by
  intro s
  induction s with
  | nil => intro st pend _; rw [escape_nil, san_nil, escape_fffds]
  | cons c s ih =>
    intro st pend h
    rw [escape_cons]
    rcases esc1_bytes c with ⟨e1, _⟩ | ⟨hc, hne, ha⟩
    · obtain ⟨out, st', pend', h', e, _, ho, _⟩ := san_step h c
      rw [e1, List.singleton_append, e, e, escape_append, ih st' pend' h',
        escape_fix out fun x hx => (ho x hx).elim (fun ex => ex ▸ e1) (esc1_high x)]
    · rw [san_ascii_word st pend (esc1 c) _ h (fun d hd => (ha d hd).2) hne, ih .s0 [] .init,
        san_ascii st pend c s h hc, escape_append, escape_fffds, escape_cons]
      simp

theorem sanitize_escape (s : Bytes) : sanitize (escape s) = escape (sanitize s) := san_escape s .s0 [] .init

theorem san_ascii_inv : ∀ (rest : Bytes) (st : U8) (pend : Bytes), PendOk st pend → IsAscii (san st pend rest) →
    IsAscii (pend ++ rest) := by
  intro rest
  induction rest with
  | nil =>
    intro st pend _ ha
    cases pend with
    | nil => exact nofun
    | cons p r => exact absurd (ha 0xEF (by simp [san, fffds, fffd])) (by decide)
  | cons x a ih =>
    intro st pend h ha
    obtain ⟨out, st', pend', h', e, _, _, ⟨_, ho⟩ | ⟨_, hf⟩⟩ := san_step h x <;> rw [e] at ha
    · have := ih st' pend' h' fun y hy => ha y (List.mem_append_right _ hy)
      rw [List.append_cons, ← ho, List.append_assoc]
      intro y hy
      rcases List.mem_append.mp hy with hy | hy
      · exact ha y (List.mem_append_left _ hy)
      · exact this y hy
    · exact absurd (ha 0xEF (List.mem_append_left _ hf)) (by decide)

theorem sanitize_not_ascii (v : Bytes) (h : ¬ IsAscii v) : ¬ IsAscii (sanitize v) :=
  fun ha => h (san_ascii_inv v .s0 [] .init ha)

theorem isDig_ascii (c : UInt8) (h : isDig c = true) : c < 0x80 := by
  simp only [isDig, Bool.and_eq_true, decide_eq_true_eq] at h
  have := UInt8.le_iff_toNat_le.mp h.2
  apply UInt8.lt_iff_toNat_lt.mpr
  simp at this ⊢; omega

theorem isNumeric_ascii (v : Bytes) (h : isNumeric v = true) : IsAscii v := by
  obtain ⟨ip, fp, _, hall, hfall, _, hcase⟩ := isNumeric_shape v h
  have hi : IsAscii ip := fun c hc => isDig_ascii c (List.all_eq_true.mp hall c hc)
  have hf : IsAscii fp := fun c hc => isDig_ascii c (List.all_eq_true.mp hfall c hc)
  rcases hcase with ⟨e, _⟩ | ⟨e, _⟩
  · rw [e]; exact hi
  · rw [e]; intro c hc
    rcases List.mem_append.mp hc with hc | hc
    · exact hi c hc
    · rcases List.mem_cons.mp hc with e | hc
      · subst e; decide
      · exact hf c hc

theorem equalFoldLen_ascii (v lit : Bytes) (hl : IsLowerWord lit) (h : equalFoldLen v lit = true) : IsAscii v := by
  have hm := (mem_spellings lit hl v).mp ((equalFoldLen_iff v lit hl).mp h)
  intro c hc
  have : lower c ∈ lit := by rw [← hm]; exact List.mem_map_of_mem hc
  have hb := hl _ this
  have ht := lower_toNat c
  apply UInt8.lt_iff_toNat_lt.mpr
  simp
  split at ht <;> omega

/-- the value text is the quoted, escaped capture unless the capture is a number or a boolean word, which are ASCII -/
theorem valueText_quote_or_ascii (v : Bytes) :
    valueText v = 0x22 :: (escape v ++ [0x22]) ∨ (IsAscii v ∧ IsAscii (valueText v)) := by
  rcases writeInferred_cases v with ⟨hn, _, _, ht, _⟩ | ⟨_, h1, _, ht, _⟩ | ⟨_, _, h2, ht, _⟩ | ⟨_, _, _, ht, _⟩
  · exact .inr ⟨isNumeric_ascii v hn, by rw [ht]; exact isNumeric_ascii v hn⟩
  · exact .inr ⟨equalFoldLen_ascii v _ litTrue_lower h1, by rw [ht]; exact (by decide : ∀ c ∈ litTrue, c < 0x80)⟩
  · exact .inr ⟨equalFoldLen_ascii v _ litFalse_lower h2, by rw [ht]; exact (by decide : ∀ c ∈ litFalse, c < 0x80)⟩
  · exact .inl ht

theorem valueText_sanitize (v : Bytes) : sanitize (valueText v) = valueText (sanitize v) := by
  have quote : ∀ w : Bytes, sanitize (0x22 :: (escape w ++ [0x22])) = 0x22 :: (escape (sanitize w) ++ [0x22]) := by
    intro w
    rw [sanitize_cons_ascii _ _ (by decide), sanitize_split _ _ _ (by decide), sanitize_escape, sanitize_nil]
  by_cases ha : IsAscii v
  · rw [sanitize_ascii v ha]
    rcases valueText_quote_or_ascii v with h | ⟨_, ht⟩
    · rw [h, quote, sanitize_ascii v ha]
    · exact sanitize_ascii _ ht
  · rw [(valueText_quote_or_ascii v).resolve_right fun h => ha h.1,
      (valueText_quote_or_ascii _).resolve_right fun h => sanitize_not_ascii v ha h.1, quote]

def san2 (m : Bytes × Bytes) : Bytes × Bytes := (sanitize m.1, sanitize m.2)

/-- a text cut into pieces, each a byte and what follows it -/
def join (l : List (UInt8 × Bytes)) : Bytes := l.flatMap fun p => p.1 :: p.2

/-- name and value text of a member -/
def textOf (R : ValR) (m : Bytes × Bytes) : Bytes × Bytes := (m.1, R.text m.2)

/-- an object text in pieces, from (name, value text) pairs: each byte the writer puts itself begins one, the
escaped names and the value texts are what follows (`drop 2`: no `, ` before the first member) -/
def pieces (ps : List (Bytes × Bytes)) : List (UInt8 × Bytes) :=
  (0x7b, []) :: ((ps.flatMap fun q =>
    [(0x2c, []), (0x20, []), (0x22, escape q.1), (0x22, []), (0x3a, []), (0x20, q.2)]).drop 2 ++ [(0x7d, [])])

theorem objText_pieces (R : ValR) (ms : List (Bytes × Bytes)) : objText R ms = join (pieces (ms.map (textOf R))) := by
  cases ms with
  | nil => rfl
  | cons m r =>
    simp [objText, pieces, join, renderList, renderTail, renderMember, textOf, List.flatMap_assoc, List.flatMap_map]

theorem pieces_head (ps : List (Bytes × Bytes)) : ∀ p ∈ pieces ps, 0x20 ≤ p.1 ∧ p.1 < 0x80 := by
  intro p hp
  rcases List.mem_cons.mp hp with rfl | hp
  · decide
  rcases List.mem_append.mp hp with hp | hp
  · obtain ⟨m, _, hm⟩ := List.mem_flatMap.mp (List.mem_of_mem_drop hp)
    simp only [List.mem_cons, List.not_mem_nil, or_false] at hm
    rcases hm with rfl | rfl | rfl | rfl | rfl | rfl <;> dsimp only <;> decide
  · rw [List.mem_singleton.mp hp]; decide

theorem sanitize_join (l : List (UInt8 × Bytes)) (h : ∀ p ∈ l, p.1 < 0x80) :
    sanitize (join l) = join (l.map fun p => (p.1, sanitize p.2)) := by
  induction l with
  | nil => exact sanitize_nil
  | cons p l ih =>
    have ih := ih fun q hq => h q (by simp [hq])
    have hp := h p (by simp)
    cases l with
    | nil => simp [join, sanitize_cons_ascii _ _ hp]
    | cons q l =>
      have hq := h q (by simp)
      simp only [join, List.flatMap_cons, List.map_cons, List.cons_append] at ih ⊢
      rw [sanitize_cons_ascii _ _ hp, sanitize_split _ _ _ hq, ← sanitize_cons_ascii _ _ hq, ih]

theorem objText_sanitize (ms : List (Bytes × Bytes)) :
    sanitize (objText inferredR ms) = objText inferredR (ms.map san2) := by
  rw [objText_pieces, objText_pieces, sanitize_join _ fun p hp => (pieces_head _ p hp).2]
  congr 1
  simp [pieces, textOf, List.map_drop, List.map_flatMap, List.flatMap_map, sanitize_nil, sanitize_escape,
    valueText_sanitize, san2, inferredR]

theorem u8Run_ascii_head (st : U8) (c : UInt8) (b : Bytes) (hc : c < 0x80) :
    u8Run st (c :: b) = if st = .s0 then u8Run .s0 b else none := by
  by_cases hs : st = .s0
  · subst hs; simp [u8Run, u8Step_s0_ascii c hc]
  · simp [u8Run, u8Step_ascii_none st c hc hs, hs]

theorem valid_split (a : Bytes) (c : UInt8) (b : Bytes) (hc : c < 0x80) :
    validUtf8 (a ++ c :: b) = (validUtf8 a && validUtf8 b) := by
  simp only [validUtf8]
  rw [u8Run_append]
  cases h : u8Run .s0 a with
  | none => simp
  | some st =>
    simp only [Option.bind]
    rw [u8Run_ascii_head st c b hc]
    by_cases hs : st = .s0
    · subst hs; simp
    · simp [hs]

theorem valid_cons_ascii_eq (c : UInt8) (b : Bytes) (hc : c < 0x80) : validUtf8 (c :: b) = validUtf8 b := by
  have := valid_split [] c b hc
  simpa [show validUtf8 [] = true by decide] using this

theorem u8Run_ascii_word (st : U8) (w b : Bytes) (hw : IsAscii w) (hne : w ≠ []) :
    u8Run st (w ++ b) = if st = .s0 then u8Run .s0 b else none := by
  cases w with
  | nil => exact absurd rfl hne
  | cons d w =>
    rw [List.cons_append, u8Run_ascii_head st d _ (hw d (by simp)), u8Run_append,
      u8Run_ascii w (fun x hx => hw x (by simp [hx]))]
    rfl

theorem u8Run_escape_eq : ∀ (s : Bytes) (st : U8), u8Run st (escape s) = u8Run st s := by
  intro s
  induction s with
  | nil => intro st; rw [escape_nil]
  | cons c s ih =>
    intro st
    rw [escape_cons]
    rcases esc1_bytes c with ⟨e1, _⟩ | ⟨hc, hne, ha⟩
    · rw [e1]
      simp only [List.cons_append, List.nil_append, u8Run]
      cases u8Step st c with
      | none => rfl
      | some st' => exact ih st'
    · rw [u8Run_ascii_word st (esc1 c) _ (fun d hd => (ha d hd).2) hne, u8Run_ascii_head st c s hc, ih]

theorem valid_escape_eq (s : Bytes) : validUtf8 (escape s) = validUtf8 s := by
  simp only [validUtf8, u8Run_escape_eq]

theorem valid_valueText_eq (v : Bytes) : validUtf8 (valueText v) = validUtf8 v := by
  rcases valueText_quote_or_ascii v with h | ⟨ha, ht⟩
  · rw [h, valid_cons_ascii_eq _ _ (by decide), valid_split _ _ _ (by decide), valid_escape_eq]
    exact Bool.and_true _
  · rw [valid_ascii _ ha, valid_ascii _ ht]

def pairValid (m : Bytes × Bytes) : Bool := validUtf8 m.1 && validUtf8 m.2

theorem valid_join (l : List (UInt8 × Bytes)) (h : ∀ p ∈ l, p.1 < 0x80) :
    validUtf8 (join l) = l.all fun p => validUtf8 p.2 := by
  induction l with
  | nil => decide
  | cons p l ih =>
    have ih := ih fun q hq => h q (by simp [hq])
    simp only [join, List.flatMap_cons, List.all_cons, List.cons_append] at ih ⊢
    rw [valid_cons_ascii_eq _ _ (h p (by simp)), ← ih]
    cases l with
    | nil => simp [show validUtf8 [] = true by decide]
    | cons q l =>
      have hq := h q (by simp)
      rw [List.flatMap_cons, List.cons_append, valid_split _ _ _ hq, valid_cons_ascii_eq _ _ hq]

theorem valid_objText_eq (ms : List (Bytes × Bytes)) : validUtf8 (objText inferredR ms) = ms.all pairValid := by
  rw [objText_pieces, valid_join _ fun p hp => (pieces_head _ p hp).2]
  have hn : validUtf8 [] = true := by decide
  cases ms with
  | nil => rfl
  | cons m r =>
    simp [pieces, textOf, pairValid, List.all_flatMap, Function.comp_def, valid_escape_eq, valid_valueText_eq, hn,
      inferredR, Bool.and_assoc]
    rfl

theorem sanitize_valid (b : Bytes) (h : validUtf8 b = true) : sanitize b = b := by
  have := san_valid_id b .s0 [] .init (by simpa [validUtf8] using h)
  simpa [sanitize] using this

end Rare.C16

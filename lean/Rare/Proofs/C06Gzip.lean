import Rare.Spec.C06Gzip
namespace Rare.C06.Gz

theorem crcUpdate_append (c : UInt32) (a b : Bytes) : crcUpdate (crcUpdate c a) b = crcUpdate c (a ++ b) := by
  simp [crcUpdate, List.foldl_append]

theorem readFull_append (n : Nat) (a r : Bytes) (h : a.length = n) : readFull n (a ++ r) = .ok (a, r) := by
  simp [readFull, ← h]

theorem le16_enc16 (n : Nat) (h : n < 65536) : le16 (enc16 n) = n := by
  simp [le16, enc16]
  omega

theorem enc16_length (n : Nat) : (enc16 n).length = 2 := rfl

theorem readString_enc : ∀ (name rest acc : Bytes) (i : Nat), (0 : UInt8) ∉ name → i + name.length ≤ 511 →
    readString (name ++ 0 :: rest) i acc = .ok (acc ++ name ++ [0], rest)
  | [], rest, acc, i, _, hl => by
    unfold readString
    have : ¬ i ≥ 512 := by simp at hl; omega
    simp [this]
  | b :: name, rest, acc, i, h0, hl => by
    unfold readString
    have : ¬ i ≥ 512 := by simp at hl; omega
    have hb : b ≠ 0 := by intro e; subst e; simp at h0
    have h0' : (0 : UInt8) ∉ name := by intro hm; exact h0 (by simp [hm])
    simp only [this, if_false, List.cons_append, hb]
    rw [readString_enc name rest (acc ++ [b]) (i + 1) h0' (by simp at hl; omega)]
    simp

theorem readString_sound : ∀ (s acc : Bytes) (i : Nat) (str r : Bytes), readString s i acc = .ok (str, r) →
    ∃ name, str = acc ++ name ++ [0] ∧ s = name ++ 0 :: r ∧ (0 : UInt8) ∉ name ∧ i + name.length ≤ 511
  | [], acc, i, str, r, h => by
    unfold readString at h
    split at h <;> simp at h
  | b :: s, acc, i, str, r, h => by
    unfold readString at h
    split at h
    · simp at h
    · rename_i hi
      simp only at h
      split at h
      · rename_i hb
        simp only [Except.ok.injEq, Prod.mk.injEq] at h
        exact ⟨[], by simp [← h.1, hb], by simp [← h.2, hb], by simp, by simp; omega⟩
      · rename_i hb
        obtain ⟨name, h1, h2, h3, h4⟩ := readString_sound s (acc ++ [b]) (i + 1) str r h
        refine ⟨b :: name, by simp [h1], by simp [h2], ?_, by simp; omega⟩
        intro hm
        rcases List.mem_cons.1 hm with e | e
        · exact hb e.symm
        · exact h3 e


/-! ### the optional fields as a writer lays them out -/

def encExtra (flg : UInt8) (extra : Bytes) : Bytes := if flg &&& flagExtra ≠ 0 then enc16 extra.length ++ extra else []
def encString (flg bit : UInt8) (str : Bytes) : Bytes := if flg &&& bit ≠ 0 then str ++ [0] else []
def encCrc (flg : UInt8) (dg : UInt32) : Bytes := if flg &&& flagHdrCrc ≠ 0 then enc16 (dg.toNat % 65536) else []

theorem stageExtra_enc (flg : UInt8) (extra rest : Bytes) (dg : UInt32) (hx : extra.length < 65536) :
    stageExtra flg (encExtra flg extra ++ rest) dg = .ok (rest, crcUpdate dg (encExtra flg extra)) := by
  unfold stageExtra encExtra
  by_cases hf : flg &&& flagExtra ≠ 0
  · simp only [if_pos hf, List.append_assoc, readFull_append 2 (enc16 extra.length) _ rfl, le16_enc16 _ hx,
      readFull_append _ extra rest rfl, crcUpdate_append]
  · simp [hf, crcUpdate]

theorem stageString_enc (flg bit : UInt8) (str rest : Bytes) (dg : UInt32) (h0 : (0 : UInt8) ∉ str) (hl : str.length ≤ 511) :
    stageString flg bit (encString flg bit str ++ rest) dg = .ok (rest, crcUpdate dg (encString flg bit str)) := by
  unfold stageString encString
  by_cases hf : flg &&& bit ≠ 0
  · simp only [if_pos hf, List.append_assoc, List.singleton_append]
    rw [readString_enc str rest [] 0 h0 (by omega)]
    simp
  · simp [hf, crcUpdate]

theorem stageCrc_enc (flg : UInt8) (rest : Bytes) (dg : UInt32) :
    stageCrc flg (encCrc flg dg ++ rest) dg = .ok rest := by
  unfold stageCrc encCrc
  by_cases hf : flg &&& flagHdrCrc ≠ 0
  · have h2 : dg.toNat % 65536 < 65536 := Nat.mod_lt _ (by decide)
    simp [if_pos hf, readFull_append 2 (enc16 _) rest rfl, le16_enc16 _ h2]
  · simp [hf]

theorem body_eq (h : Hdr) : h.body = [0x1f, 0x8b, 8, h.flg] ++ h.mid ++ encExtra h.flg h.extra ++
    encString h.flg flagName h.name ++ encString h.flg flagComment h.comment := rfl

theorem encode_eq (h : Hdr) : h.encode = h.body ++ encCrc h.flg (crcUpdate 0 h.body) := rfl

/-- every header a writer can produce is accepted, and the compressed data is found right behind it -/
theorem readHeaderRest_encode (h : Hdr) (hw : h.WF) (rest : Bytes) : readHeaderRest (h.encode ++ rest) = .ok rest := by
  obtain ⟨hm, hx, ⟨hn0, hnl⟩, ⟨hc0, hcl⟩⟩ := hw
  rw [encode_eq, body_eq]
  generalize hA : ([0x1f, 0x8b, 8, h.flg] ++ h.mid : Bytes) = A
  have h10 : A.length = 10 := by simp [← hA, hm]
  have hg : A.getD 0 0 = 0x1f ∧ A.getD 1 0 = 0x8b ∧ A.getD 2 0 = 8 ∧ A.getD 3 0 = h.flg := by
    rw [← hA]; exact ⟨rfl, rfl, rfl, rfl⟩
  unfold readHeaderRest
  simp only [List.append_assoc, readFull_append 10 A _ h10, hg, ne_eq, not_true_eq_false, or_self, if_false,
    stageExtra_enc _ _ _ _ hx, stageString_enc _ _ _ _ _ hn0 hnl, stageString_enc _ _ _ _ _ hc0 hcl, crcUpdate_append,
    stageCrc_enc]

/-! ### … and nothing else is -/

theorem readFull_sound (n : Nat) (s a r : Bytes) (h : readFull n s = .ok (a, r)) : s = a ++ r ∧ a.length = n := by
  unfold readFull at h
  split at h
  · rename_i hn
    simp only [Except.ok.injEq, Prod.mk.injEq] at h
    rw [← h.1, ← h.2]
    exact ⟨(List.take_append_drop n s).symm, by simp; omega⟩
  · split at h <;> cases h

theorem four_heads (h : Bytes) (hl : 4 ≤ h.length) :
    h = [h.getD 0 0, h.getD 1 0, h.getD 2 0, h.getD 3 0] ++ h.drop 4 := by
  match h, hl with
  | _ :: _ :: _ :: _ :: _, _ => rfl

theorem two_bytes (l : Bytes) (h : l.length = 2) : l = enc16 (le16 l) ∧ le16 l < 65536 := by
  match l, h with
  | [x, y], _ =>
    have hx := x.toNat_lt
    have hy := y.toNat_lt
    have e1 : (x.toNat + 256 * y.toNat) % 256 = x.toNat := by omega
    have e2 : (x.toNat + 256 * y.toNat) / 256 = y.toNat := by omega
    constructor
    · simp [le16, enc16, e1, e2]
    · simp [le16]; omega

theorem stageExtra_sound (flg : UInt8) (r r' : Bytes) (dg dg' : UInt32) (h : stageExtra flg r dg = .ok (r', dg')) :
    ∃ extra, extra.length < 65536 ∧ r = encExtra flg extra ++ r' ∧ dg' = crcUpdate dg (encExtra flg extra) := by
  unfold stageExtra at h
  by_cases hf : flg &&& flagExtra ≠ 0
  · simp only [if_pos hf] at h
    cases h1 : readFull 2 r with
    | error e => simp [h1] at h
    | ok p =>
      obtain ⟨l, r1⟩ := p
      simp only [h1] at h
      cases h2 : readFull (le16 l) r1 with
      | error e => simp [h2] at h
      | ok q =>
        obtain ⟨data, r2⟩ := q
        simp only [h2, Except.ok.injEq, Prod.mk.injEq] at h
        obtain ⟨hs1, hl1⟩ := readFull_sound _ _ _ _ h1
        obtain ⟨hs2, hl2⟩ := readFull_sound _ _ _ _ h2
        obtain ⟨he, hlt⟩ := two_bytes l hl1
        refine ⟨data, by omega, ?_, ?_⟩
        · unfold encExtra
          simp only [if_pos hf, hl2, ← he]
          rw [hs1, hs2, h.1]; simp
        · unfold encExtra
          simp only [if_pos hf, hl2, ← he]
          rw [← h.2, crcUpdate_append]
  · simp only [if_neg hf, Except.ok.injEq, Prod.mk.injEq] at h
    exact ⟨[], by simp, by simp [encExtra, if_neg hf, h.1], by simp [encExtra, if_neg hf, crcUpdate, h.2]⟩

theorem stageString_sound (flg bit : UInt8) (r r' : Bytes) (dg dg' : UInt32) (h : stageString flg bit r dg = .ok (r', dg')) :
    ∃ str, (0 : UInt8) ∉ str ∧ str.length ≤ 511 ∧ r = encString flg bit str ++ r' ∧ dg' = crcUpdate dg (encString flg bit str) := by
  unfold stageString at h
  by_cases hf : flg &&& bit ≠ 0
  · simp only [if_pos hf] at h
    cases h1 : readString r 0 [] with
    | error e => simp [h1] at h
    | ok p =>
      obtain ⟨str, r1⟩ := p
      simp only [h1, Except.ok.injEq, Prod.mk.injEq] at h
      obtain ⟨name, e1, e2, h0, hl⟩ := readString_sound _ _ _ _ _ h1
      refine ⟨name, h0, by omega, ?_, ?_⟩
      · simp only [encString, if_pos hf]; rw [e2, h.1]; simp
      · simp only [encString, if_pos hf]; rw [← h.2, e1]; simp
  · simp only [if_neg hf, Except.ok.injEq, Prod.mk.injEq] at h
    exact ⟨[], by simp, by simp, by simp [encString, if_neg hf, h.1], by simp [encString, if_neg hf, crcUpdate, h.2]⟩

theorem stageCrc_sound (flg : UInt8) (r r' : Bytes) (dg : UInt32) (h : stageCrc flg r dg = .ok r') :
    r = encCrc flg dg ++ r' := by
  unfold stageCrc at h
  by_cases hf : flg &&& flagHdrCrc ≠ 0
  · simp only [if_pos hf] at h
    cases h1 : readFull 2 r with
    | error e => simp [h1] at h
    | ok p =>
      obtain ⟨c, r1⟩ := p
      simp only [h1] at h
      split at h
      · cases h
      · rename_i hc
        simp only [Except.ok.injEq] at h
        obtain ⟨hs1, hl1⟩ := readFull_sound _ _ _ _ h1
        obtain ⟨he, _⟩ := two_bytes c hl1
        have hc' : le16 c = dg.toNat % 65536 := by simpa using hc
        simp only [encCrc, if_pos hf, ← hc', ← he]
        rw [hs1, h]
  · simp only [if_neg hf, Except.ok.injEq] at h
    simp [encCrc, if_neg hf, h]

/-- whatever `readHeader` accepts is a header as a writer lays it out (FLG as found, reserved bits and all) -/
theorem readHeaderRest_sound (s rest : Bytes) (h : readHeaderRest s = .ok rest) :
    ∃ hd : Hdr, hd.WF ∧ s = hd.encode ++ rest := by
  unfold readHeaderRest at h
  cases h0 : readFull 10 s with
  | error e => simp [h0] at h
  | ok p =>
    obtain ⟨h10, r0⟩ := p
    simp only [h0] at h
    obtain ⟨hs0, hl0⟩ := readFull_sound _ _ _ _ h0
    split at h
    · cases h
    · rename_i hmagic
      simp only [not_or, ne_eq, Decidable.not_not] at hmagic
      cases h1 : stageExtra (h10.getD 3 0) r0 (crcUpdate 0 h10) with
      | error e => simp only [h1] at h; cases h
      | ok p1 =>
        obtain ⟨r1, dg1⟩ := p1
        simp only [h1] at h
        cases h2 : stageString (h10.getD 3 0) flagName r1 dg1 with
        | error e => simp only [h2] at h; cases h
        | ok p2 =>
          obtain ⟨r2, dg2⟩ := p2
          simp only [h2] at h
          cases h3 : stageString (h10.getD 3 0) flagComment r2 dg2 with
          | error e => simp only [h3] at h; cases h
          | ok p3 =>
            obtain ⟨r3, dg3⟩ := p3
            simp only [h3] at h
            obtain ⟨extra, hx, e1, d1⟩ := stageExtra_sound _ _ _ _ _ h1
            obtain ⟨name, hn0, hnl, e2, d2⟩ := stageString_sound _ _ _ _ _ _ h2
            obtain ⟨comment, hc0, hcl, e3, d3⟩ := stageString_sound _ _ _ _ _ _ h3
            have e4 := stageCrc_sound _ _ _ _ h
            have e0 := four_heads h10 (by omega)
            rw [hmagic.1, hmagic.2.1, hmagic.2.2] at e0
            refine ⟨⟨h10.getD 3 0, h10.drop 4, extra, name, comment⟩,
              ⟨by simp [hl0], hx, ⟨hn0, hnl⟩, ⟨hc0, hcl⟩⟩, ?_⟩
            rw [encode_eq, body_eq]
            simp only []
            rw [← e0, hs0, e1, e2, e3, e4, d3, d2, d1]
            simp only [crcUpdate_append, List.append_assoc]

end Rare.C06.Gz

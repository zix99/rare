import Rare.Proofs.Pipeline
import Rare.Model.C02
/-! C02: with one reader and one worker the pipeline keeps `orderSeq` fixed (FIFO); `GetMatch` reads `specGroup` on
well-formed index lists; `WrapIndices` does not panic on in-range offsets and stripping its codes gives the line back. -/
namespace Rare.Pipeline

variable {α : Type}

/-- The sequence the consumer will have seen in the end, read off the current state when there is
    exactly one source and one worker: consumed, then the match channel, then the worker's match
    batch, then the matched lines among everything still upstream, in pipeline order. -/
def orderSeq (cls : α → Cls) (s : St α) : List α :=
  s.consumed ++ s.rc.flatten ++ wAcc s ++ (wTodo s ++ s.c.flatten ++ srcLines s).filter (isMatched cls)

theorem single_of_length_one {γ : Type} {l : List γ} (h : l.length = 1) : ∃ x, l = [x] := by
  match l, h with
  | [x], _ => exact ⟨x, rfl⟩

theorem single_get {γ : Type} {x a : γ} {i : Nat} (h : [x][i]? = some a) : i = 0 ∧ a = x := by
  cases i with
  | zero => simp at h; exact ⟨rfl, h.symm⟩
  | succ i => simp at h

theorem fifo_step (cls : α → Cls) {R B K : Nat} {s s' : St α} (h1 : s.srcs.length = 1)
    (h2 : s.workers.length = 1) (hs : Step cls R B K s s') : orderSeq cls s' = orderSeq cls s := by
  obtain ⟨x, hx⟩ := single_of_length_one h1
  obtain ⟨w, hw⟩ := single_of_length_one h2
  cases hs with
  | start i bs h hr =>
    rw [hx] at h; obtain ⟨rfl, rfl⟩ := single_get h
    simp [orderSeq, srcLines, hx, SrcSt.lines, wAcc, wTodo]
  | send i b bs h hcap =>
    rw [hx] at h; obtain ⟨rfl, rfl⟩ := single_get h
    simp [orderSeq, srcLines, hx, SrcSt.lines, wAcc, wTodo]
  | finish i h =>
    rw [hx] at h; obtain ⟨rfl, rfl⟩ := single_get h
    simp [orderSeq, srcLines, hx, SrcSt.lines, wAcc, wTodo]
  | closeC hall hc => rfl
  | wrecv j b rest h hc =>
    rw [hw] at h; obtain ⟨rfl, rfl⟩ := single_get h
    simp [orderSeq, srcLines, hw, hc, wAcc, wTodo, WSt.todo, WSt.acc]
  | wproc j y todo acc h =>
    rw [hw] at h; obtain ⟨rfl, rfl⟩ := single_get h
    by_cases hm : cls y = .matched <;>
      simp [orderSeq, srcLines, hw, wAcc, wTodo, WSt.todo, WSt.acc, hm, isMatched]
  | wsend j acc h hne hcap =>
    rw [hw] at h; obtain ⟨rfl, rfl⟩ := single_get h
    simp [orderSeq, srcLines, hw, wAcc, wTodo, WSt.todo, WSt.acc]
  | wskip j h =>
    rw [hw] at h; obtain ⟨rfl, rfl⟩ := single_get h
    simp [orderSeq, srcLines, hw, wAcc, wTodo, WSt.todo, WSt.acc]
  | wexit j h hc hcl =>
    rw [hw] at h; obtain ⟨rfl, rfl⟩ := single_get h
    simp [orderSeq, srcLines, hw, wAcc, wTodo, WSt.todo, WSt.acc]
  | closeRC hall hc => rfl
  | crecv m rest hrc hd => simp [orderSeq, hrc, wAcc, wTodo, srcLines]
  | cdone hrc hcl hd => rfl

theorem step_srcs_length {cls : α → Cls} {R B K : Nat} {s s' : St α} (hs : Step cls R B K s s') :
    s'.srcs.length = s.srcs.length := by
  cases hs <;> simp

theorem fifo_reach (cls : α → Cls) {R B K : Nat} {s0 s : St α} (h1 : s0.srcs.length = 1)
    (h2 : s0.workers.length = 1) (hr : Reach cls R B K s0 s) :
    orderSeq cls s = orderSeq cls s0 ∧ s.srcs.length = 1 ∧ s.workers.length = 1 := by
  induction hr with
  | refl => exact ⟨rfl, h1, h2⟩
  | step _ hs ih =>
    exact ⟨(fifo_step cls ih.2.1 ih.2.2 hs).trans ih.1, (step_srcs_length hs).trans ih.2.1,
      (step_workers_length hs).trans ih.2.2⟩

end Rare.Pipeline

namespace Rare.C02

theorem goSlice_ok {s : Bytes} {a b : Int} (h : 0 ≤ a ∧ a ≤ b ∧ b ≤ s.length) :
    goSlice s a b = .ok ((s.drop a.toNat).take (b.toNat - a.toNat)) := by
  simp [goSlice, h]

theorem slice_concat (s : Bytes) (a b c : Nat) (hab : a ≤ b) (hbc : b ≤ c) :
    (s.drop a).take (b - a) ++ (s.drop b).take (c - b) = (s.drop a).take (c - a) := by
  obtain ⟨d, rfl⟩ := Nat.exists_eq_add_of_le hab
  obtain ⟨e, rfl⟩ := Nat.exists_eq_add_of_le hbc
  rw [Nat.add_sub_cancel_left, Nat.add_sub_cancel_left, Nat.add_assoc, Nat.add_sub_cancel_left, List.take_add,
    List.drop_drop]

/-- Index slices as Go's matchers hand them out: every pair is either (-1,-1) (group did not
    participate) or a valid range of the line. -/
def WF (line : Bytes) (indices : List Int) : Prop :=
  ∀ k : Nat, 2 * k + 1 < indices.length →
    (indices.getD (2 * k) 0 = -1 ∧ indices.getD (2 * k + 1) 0 = -1) ∨
    (0 ≤ indices.getD (2 * k) 0 ∧ indices.getD (2 * k) 0 ≤ indices.getD (2 * k + 1) 0 ∧
      indices.getD (2 * k + 1) 0 ≤ line.length)

theorem WF.of_pairs {line : Bytes} {indices : List Int}
    (h : ∀ k < indices.length / 2,
      (indices.getD (2 * k) 0 = -1 ∧ indices.getD (2 * k + 1) 0 = -1) ∨
      (0 ≤ indices.getD (2 * k) 0 ∧ indices.getD (2 * k) 0 ≤ indices.getD (2 * k + 1) 0 ∧
        indices.getD (2 * k + 1) 0 ≤ line.length)) : WF line indices :=
  fun k hk => h k (by omega)

/-- The text of capture group `k` according to the leftmost match's index slice. -/
def specGroup (line : Bytes) (indices : List Int) (k : Int) : Bytes :=
  if 0 ≤ k ∧ 2 * k + 1 < indices.length then
    let a := indices.getD (2 * k.toNat) 0
    let b := indices.getD (2 * k.toNat + 1) 0
    if a < 0 ∨ b < 0 then [] else (line.drop a.toNat).take (b.toNat - a.toNat)
  else []

theorem specGroup_natCast (line : Bytes) (indices : List Int) (k : Nat) (h : 2 * k + 1 < indices.length) :
    specGroup line indices (k : Int) =
      if indices.getD (2 * k) 0 < 0 ∨ indices.getD (2 * k + 1) 0 < 0 then []
      else (line.drop (indices.getD (2 * k) 0).toNat).take
        ((indices.getD (2 * k + 1) 0).toNat - (indices.getD (2 * k) 0).toNat) := by
  unfold specGroup
  rw [if_pos ⟨Int.natCast_nonneg k, by omega⟩, Int.toNat_natCast]

/-- On index lists of realistic length the guard of `GetMatch`, computed in int64, is the plain bounds test. -/
theorem getMatch_guard (indices : List Int) (idx : Int)
    (hlen : (indices.length : Int) < 4611686018427387904) (hidx : minInt64 ≤ idx ∧ idx ≤ maxInt64) :
    (idx < 0 ∨ wrap64 (idx * 2) < 0 ∨ wrap64 (idx * 2) + 1 ≥ (indices.length : Int)) ↔
      ¬ (0 ≤ idx ∧ 2 * idx + 1 < indices.length) := by
  unfold wrap64 minInt64 maxInt64 at *
  omega

theorem getMatch_eq_spec (line : Bytes) (indices : List Int) (idx : Int)
    (hwf : WF line indices) (hlen : (indices.length : Int) < 4611686018427387904)
    (hidx : minInt64 ≤ idx ∧ idx ≤ maxInt64) :
    getMatch line indices idx = .ok (specGroup line indices idx) := by
  by_cases hbig : 0 ≤ idx ∧ 2 * idx + 1 < indices.length
  · obtain ⟨k, rfl⟩ := Int.eq_ofNat_of_zero_le hbig.1
    have hk : 2 * k + 1 < indices.length := by omega
    have hw : wrap64 ((k : Int) * 2) = ((2 * k : Nat) : Int) := by
      unfold wrap64
      rw [Int.emod_eq_of_lt (by omega) (by omega)]
      omega
    rw [specGroup_natCast line indices k hk, getMatch]
    dsimp only
    rw [if_neg (fun hg => (getMatch_guard indices k hlen hidx).mp hg hbig), hw, Int.toNat_natCast]
    rcases hwf k hk with ⟨ha, hb⟩ | ⟨ha, hab, hb⟩
    · rw [ha, hb]; rfl
    · rw [if_neg (by omega), if_neg (by omega)]
      exact goSlice_ok ⟨ha, hab, hb⟩
  · rw [getMatch, specGroup, if_neg hbig]
    exact if_pos ((getMatch_guard indices idx hlen hidx).mpr hbig)

theorem goSlice_inv {s : Bytes} {a b : Int} {v : Bytes} (h : goSlice s a b = .ok v) :
    0 ≤ a ∧ a ≤ b ∧ b ≤ s.length ∧ v = (s.drop a.toNat).take (b.toNat - a.toNat) := by
  unfold goSlice at h
  split at h
  · rename_i hc
    simp at h
    exact ⟨hc.1, hc.2.1, hc.2.2, h.symm⟩
  · simp at h

theorem goSlice_err {s : Bytes} {a b : Int} {m : String} (h : goSlice s a b = .error m) :
    ¬ (0 ≤ a ∧ a ≤ b ∧ b ≤ s.length) := by
  unfold goSlice at h
  split at h
  · simp at h
  · assumption

theorem strip_append (a b : List Seg) : strip (a ++ b) = strip a ++ strip b := by
  induction a with
  | nil => rfl
  | cons x xs ih => cases x <;> simp [strip, ih]

theorem render_append (a b : List Seg) : render (a ++ b) = render a ++ render b := by
  induction a with
  | nil => rfl
  | cons x xs ih => cases x <;> simp [render, ih]

theorem goSlice_concat (s : Bytes) {a b c : Int} (hab : a ≤ b) (hbc : b ≤ c) :
    (s.drop a.toNat).take (b.toNat - a.toNat) ++ (s.drop b.toNat).take (c.toNat - b.toNat) =
      (s.drop a.toNat).take (c.toNat - a.toNat) :=
  slice_concat s _ _ _ (Int.toNat_le_toNat hab) (Int.toNat_le_toNat hbc)

/-- Result of the wrap loop started at `last`: the stripped segments are the text from `last` to the
    new `last`. -/
theorem wrapLoop_strip (s : Bytes) (colors : List Bytes) (reset : Bytes) :
    ∀ (groups : List Int) (i : Nat) (last : Int), 0 ≤ last → last ≤ s.length →
      (∀ g ∈ groups, g ≤ s.length) →
      ∃ segs l, wrapLoop s colors reset groups i last = .ok (segs, l) ∧ last ≤ l ∧ l ≤ s.length ∧
        strip segs = (s.drop last.toNat).take (l.toNat - last.toNat) := by
  intro groups i last
  fun_induction wrapLoop s colors reset groups i last with
  | case1 start stop rest i last hc a b hb ha segs l hrec ih =>
    intro h0 hl hg
    obtain ⟨_, hls, _, rfl⟩ := goSlice_inv ha
    obtain ⟨hs0, hss, hstop, rfl⟩ := goSlice_inv hb
    obtain ⟨segs', l', heq, h1, h2, h3⟩ := ih (Int.le_trans hs0 hss) hstop
      (fun g hg' => hg g (List.mem_cons_of_mem _ (List.mem_cons_of_mem _ hg')))
    rw [hrec] at heq
    obtain ⟨rfl, rfl⟩ := Prod.mk.inj (Except.ok.inj heq)
    refine ⟨_, _, rfl, Int.le_trans hls (Int.le_trans hss h1), h2, ?_⟩
    rw [strip, strip, strip, strip, h3, ← List.append_assoc, goSlice_concat s hls hss,
      goSlice_concat s (Int.le_trans hls hss) h1]
  | case2 start stop rest i last hc a b hb ha m hrec ih =>
    intro h0 hl hg
    obtain ⟨hs0, hss, hstop, _⟩ := goSlice_inv hb
    obtain ⟨segs', l', heq, _⟩ := ih (Int.le_trans hs0 hss) hstop
      (fun g hg' => hg g (List.mem_cons_of_mem _ (List.mem_cons_of_mem _ hg')))
    rw [hrec] at heq; cases heq
  | case3 start stop rest i last hc m herr =>
    intro h0 hl hg
    exact absurd ⟨h0, hc.2.2.2, hg start List.mem_cons_self⟩ (goSlice_err herr)
  | case4 start stop rest i last hc m herr =>
    intro h0 hl hg
    exact absurd ⟨hc.1, Int.le_of_lt hc.2.2.1, hg stop (List.mem_cons_of_mem _ List.mem_cons_self)⟩
      (goSlice_err herr)
  | case5 start stop rest i last hc ih =>
    intro h0 hl hg
    exact ih h0 hl (fun g hg' => hg g (List.mem_cons_of_mem _ (List.mem_cons_of_mem _ hg')))
  | case6 t i last hne =>
    intro h0 hl hg
    exact ⟨[], last, rfl, Int.le_refl _, hl, by rw [Nat.sub_self]; rfl⟩

/-- `WrapIndices` never panics on in-range groups and removing the inserted codes gives the line back. -/
theorem wrapIndices_strip_eq (s : Bytes) (colors : List Bytes) (reset : Bytes) (groups : List Int)
    (hg : ∀ g ∈ groups, g ≤ s.length) :
    ∃ segs, wrapIndices s colors reset groups = .ok segs ∧ strip segs = s := by
  unfold wrapIndices
  split
  · exact ⟨_, rfl, List.append_nil s⟩
  · obtain ⟨segs, l, heq, h1, h2, h3⟩ :=
      wrapLoop_strip s colors reset groups 0 0 (Int.le_refl _) (Int.natCast_nonneg _) hg
    rw [heq]
    dsimp only
    have hall : (s.drop (0 : Int).toNat).take ((s.length : Int).toNat - (0 : Int).toNat) = s := by simp
    split
    · rw [goSlice_ok ⟨h1, h2, Int.le_refl _⟩]
      refine ⟨_, rfl, ?_⟩
      rw [strip_append, h3, strip, strip, List.append_nil, goSlice_concat s h1 h2, hall]
    · rename_i hge
      refine ⟨_, rfl, ?_⟩
      rw [h3, Int.le_antisymm h2 (Int.not_lt.mp hge), hall]

end Rare.C02

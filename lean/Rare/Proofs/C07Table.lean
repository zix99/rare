import Rare.Proofs.C07Counter
/-! Table (table.go): the state after a sample history is given by folds of the parsed history. -/
namespace Rare.C07

theorem Table.sample_eq (t : Table) (e : Bytes) (hd : t.delim ≠ []) :
    t.sample e = match (parseTable t.delim e).inc with
      | none => { t with errors := t.errors + 1 }
      | some n => t.sampleItem (parseTable t.delim e).k1 (parseTable t.delim e).k2 n := by
  obtain ⟨a0, a1, b1, a2, b2⟩ := splitter_fields t.delim e hd
  unfold Table.sample parseTable
  simp only [a0, a1, b1, a2, b2]
  have hne := splitOn_ne_nil t.delim e
  rcases hs : splitOn t.delim e with _ | ⟨c, _ | ⟨r, _ | ⟨v, rest⟩⟩⟩
  · exact absurd hs hne
  · simp
  · simp
  · simp only [List.headD_cons, List.tail_cons, List.isEmpty_cons, Bool.not_false, if_true]
    cases atoi v <;> rfl

theorem Table.sample_delim (t : Table) (e : Bytes) : (t.sample e).delim = t.delim := by
  unfold Table.sample
  simp only
  split
  · split <;> simp [Table.sampleItem]
  · split <;> simp [Table.sampleItem]

theorem akeys_aset_mem {α : Type} (m : List (Bytes × α)) (k : Bytes) (v : α) (x : Bytes) :
    x ∈ akeys (aset m k v) ↔ x = k ∨ x ∈ akeys m := by
  rw [mem_akeys_iff, mem_akeys_iff, aget_aset]
  by_cases h : k = x
  · subst h; simp
  · have : x ≠ k := fun e => h e.symm
    simp [h, this]

theorem nodup_aset {α : Type} (m : List (Bytes × α)) (k : Bytes) (v : α) (h : (akeys m).Nodup) :
    (akeys (aset m k v)).Nodup := by
  induction m with
  | nil => simp [aset, akeys]
  | cons e m ih =>
    obtain ⟨k0, v0⟩ := e
    simp only [akeys, List.map_cons, List.nodup_cons] at h
    by_cases hk : k0 = k
    · subst hk; simpa [aset, akeys] using h
    · simp only [aset, hk, if_false, akeys, List.map_cons, List.nodup_cons]
      refine ⟨?_, ih h.2⟩
      intro hm
      have := (akeys_aset_mem m k v k0).mp hm
      rcases this with h1 | h1
      · exact hk h1
      · exact h.1 h1

theorem mem_iff_aget {α : Type} (m : List (Bytes × α)) (h : (akeys m).Nodup) (k : Bytes) (v : α) :
    (k, v) ∈ m ↔ aget m k = some v := by
  induction m with
  | nil => simp
  | cons e m ih =>
    obtain ⟨k0, v0⟩ := e
    simp only [akeys, List.map_cons, List.nodup_cons] at h
    by_cases hk : k0 = k
    · subst hk
      simp only [List.mem_cons, Prod.mk.injEq, true_and, aget, if_true, Option.some.injEq]
      constructor
      · rintro (h1 | h1)
        · exact h1.symm
        · exact absurd (List.mem_map.mpr ⟨(k0, v), h1, rfl⟩) h.1
      · intro h1; exact Or.inl h1.symm
    · have hk' : ¬ (k = k0) := fun e => hk e.symm
      simp only [List.mem_cons, Prod.mk.injEq, hk', false_and, false_or, aget, hk, if_false]
      exact ih h.2

theorem sumBy_aset (m : List (Bytes × Int)) (k : Bytes) (v : Int) :
    sumBy (·.2) (aset m k v) = sumBy (·.2) m - (aget m k).getD 0 + v := by
  induction m with
  | nil => simp [aset, sumBy]
  | cons e m ih =>
    obtain ⟨k0, v0⟩ := e
    by_cases hk : k0 = k
    · simp [aset, aget, hk, sumBy]; omega
    · simp [aset, aget, hk, sumBy, ih]; omega

theorem foldl_wrap_sum (m : List (Bytes × Int)) (a : Int) :
    m.foldl (fun acc kv => wrap64 (acc + kv.2)) a = (if m = [] then a else wrap64 (a + sumBy (·.2) m)) := by
  induction m generalizing a with
  | nil => simp
  | cons e m ih =>
    simp only [List.foldl_cons, ih, reduceCtorEq, if_false, sumBy]
    split
    · rename_i h; subst h; simp [sumBy]
    · rw [wrap64_add_left]; congr 1; omega

structure RowOK (r : Bytes) (row : TableRow) (hp : List Parsed) : Prop where
  name : row.name = r
  sum : row.sum = total (selRow r) hp
  cells : ∀ c, aget row.cols c = if present (selCell c r) hp then some (total (selCell c r) hp) else none
  nodup : (akeys row.cols).Nodup
  cellsSum : wrap64 (sumBy (·.2) row.cols) = row.sum

structure TableInv (t : Table) (hp : List Parsed) : Prop where
  cols : ∀ c, aget t.cols c = if present (selCol c) hp then some (total (selCol c) hp) else none
  rowsPresent : ∀ r, (aget t.rows r).isSome = present (selRow r) hp
  rows : ∀ r row, aget t.rows r = some row → RowOK r row hp
  grand : wrap64 (sumBy (·.2) t.cols) = total selAll hp
  errors : t.errors = errorCount hp
  nodupRows : (akeys t.rows).Nodup
  nodupCols : (akeys t.cols).Nodup

theorem tableInv_init (d : Bytes) : TableInv { delim := d } [] := by
  constructor <;> simp [present, Rare.C07.total, sumBy, errorCount, wrap64_zero, akeys]

theorem present_cell_row (hp : List Parsed) (c r : Bytes) (h : present (selCell c r) hp = true) :
    present (selRow r) hp = true := by
  simp only [present, List.any_eq_true, Bool.and_eq_true, selCell, selRow] at h ⊢
  obtain ⟨x, hx, hs, _, hr⟩ := h
  exact ⟨x, hx, hs, hr⟩

theorem present_cell_col (hp : List Parsed) (c r : Bytes) (h : present (selCell c r) hp = true) :
    present (selCol c) hp = true := by
  simp only [present, List.any_eq_true, Bool.and_eq_true, selCell, selCol] at h ⊢
  obtain ⟨x, hx, hs, hc, _⟩ := h
  exact ⟨x, hx, hs, hc⟩

theorem present_row_cell (hp : List Parsed) (r : Bytes) (h : present (selRow r) hp = true) :
    ∃ c, present (selCell c r) hp = true := by
  simp only [present, List.any_eq_true, Bool.and_eq_true, selCell, selRow] at h ⊢
  obtain ⟨x, hx, hs, hr⟩ := h
  exact ⟨x.k1, x, hx, hs, beq_self_eq_true _, hr⟩

theorem present_col_cell (hp : List Parsed) (c : Bytes) (h : present (selCol c) hp = true) :
    ∃ r, present (selCell c r) hp = true := by
  simp only [present, List.any_eq_true, Bool.and_eq_true, selCell, selCol] at h ⊢
  obtain ⟨x, hx, hs, hc⟩ := h
  exact ⟨x.k2, x, hx, hs, hc, beq_self_eq_true _⟩

/-- A sample for another row (or without increment) leaves a row as it is. -/
theorem RowOK.skip {r : Bytes} {row : TableRow} {hp : List Parsed} {p : Parsed} (ok : RowOK r row hp)
    (h : (p.inc.isSome && selRow r p) = false) : RowOK r row (hp ++ [p]) := by
  have hc : ∀ c, (p.inc.isSome && selCell c r p) = false := by
    intro c; revert h; simp only [selRow, selCell]
    cases p.inc.isSome <;> cases (p.k2 == r) <;> simp
  constructor
  · exact ok.name
  · rw [total_snoc_skip _ _ _ (incIf_eq_zero h)]; exact ok.sum
  · intro c
    rw [present_snoc_skip _ _ _ (hc c), total_snoc_skip _ _ _ (incIf_eq_zero (hc c))]; exact ok.cells c
  · exact ok.nodup
  · exact ok.cellsSum

/-- The row that receives a sample. -/
theorem RowOK.step {r : Bytes} {row : TableRow} {hp : List Parsed} {p : Parsed} {n : Int} (ok : RowOK r row hp)
    (hi : p.inc = some n) (hk : p.k2 = r) :
    RowOK r { row with cols := aset row.cols p.k1 (wrap64 ((aget row.cols p.k1).getD 0 + n)),
                       sum := wrap64 (row.sum + n) } (hp ++ [p]) := by
  subst hk
  constructor
  · exact ok.name
  · simp [total_snoc, incIf, hi, selRow, ok.sum]
  · intro c
    exact aget_upd row.cols p.k1 c n (fun x => selCell x p.k2) hp p hi (by intro x; simp [selCell, Bool.beq_eq_decide_eq]) ok.cells
  · exact nodup_aset _ _ _ ok.nodup
  · show wrap64 (sumBy (·.2) (aset row.cols p.k1 _)) = wrap64 (row.sum + n)
    rw [sumBy_aset, ← ok.cellsSum, wrap64_add_right, wrap64_add_left]
    congr 1; omega

/-- The row a sample goes to: the recorded one, or a fresh one when no sample has named it yet. -/
theorem TableInv.rowOK_getD {t : Table} {hp : List Parsed} (h : TableInv t hp) (r : Bytes) :
    RowOK r ((aget t.rows r).getD { name := r }) hp := by
  cases hold : aget t.rows r with
  | some row => exact h.rows r row hold
  | none =>
    have hnp : present (selRow r) hp = false := by have := h.rowsPresent r; simpa [hold] using this.symm
    have hcell : ∀ c, present (selCell c r) hp = false := fun c => by
      cases hc : present (selCell c r) hp with
      | false => rfl
      | true => rw [present_cell_row hp c r hc] at hnp; exact Bool.noConfusion hnp
    constructor
    · rfl
    · simp [total_of_not_present _ _ hnp]
    · intro c; simp [hcell c]
    · simp [akeys]
    · simp [sumBy, wrap64_zero]

theorem tableInv_step (t : Table) (hp : List Parsed) (e : Bytes) (hd : t.delim ≠ []) (h : TableInv t hp) :
    TableInv (t.sample e) (hp ++ [parseTable t.delim e]) := by
  rw [Table.sample_eq t e hd]
  generalize parseTable t.delim e = p
  cases hi : p.inc with
  | none =>
    have hz : ∀ sel, incIf sel p = 0 := fun sel => incIf_none sel p hi
    constructor
    · intro c; simp [present_snoc, total_snoc_skip _ _ _ (hz _), hi, h.cols c]
    · intro r; simp [present_snoc, hi, h.rowsPresent r]
    · exact fun r row hr => (h.rows r row hr).skip (by simp [hi])
    · simp [total_snoc_skip _ _ _ (hz _), h.grand]
    · simp [errorCount_snoc, hi, h.errors]
    · exact h.nodupRows
    · exact h.nodupCols
  | some n =>
    simp only
    constructor
    · intro c
      exact aget_upd t.cols p.k1 c n selCol hp p hi (by intro x; simp [selCol, Bool.beq_eq_decide_eq]) h.cols
    · intro r
      simp only [Table.sampleItem, aget_aset, present_snoc, hi, Option.isSome_some, Bool.true_and, selRow]
      by_cases hk : p.k2 = r
      · simp [hk]
      · simp [hk, h.rowsPresent r]
    · intro r row hr
      simp only [Table.sampleItem, aget_aset] at hr
      by_cases hk : p.k2 = r
      · simp only [hk, if_true, Option.some.injEq] at hr
        subst hr
        exact (h.rowOK_getD r).step hi hk
      · simp only [hk, if_false] at hr
        exact (h.rows r row hr).skip (by simp [selRow, hk])
    · simp only [Table.sampleItem]
      rw [sumBy_aset, total_snoc, ← h.grand, wrap64_add_right, wrap64_add_left]
      simp only [incIf, hi, selAll, if_true]
      congr 1; omega
    · simp [Table.sampleItem, errorCount_snoc, hi, h.errors]
    · simp only [Table.sampleItem]; exact nodup_aset _ _ _ h.nodupRows
    · simp only [Table.sampleItem]; exact nodup_aset _ _ _ h.nodupCols

theorem tableInv_foldl (l : List Bytes) (t : Table) (hp : List Parsed) (hd : t.delim ≠ []) (h : TableInv t hp) :
    TableInv (l.foldl Table.sample t) (hp ++ l.map (parseTable t.delim)) ∧ (l.foldl Table.sample t).delim = t.delim := by
  induction l generalizing t hp with
  | nil => simpa using h
  | cons e l ih =>
    have hd' : (t.sample e).delim ≠ [] := by rw [Table.sample_delim]; exact hd
    have := ih (t.sample e) _ hd' (tableInv_step t hp e hd h)
    rw [Table.sample_delim] at this
    simpa [List.append_assoc] using this

theorem tableInv_run (d : Bytes) (hd : d ≠ []) (h : List Bytes) :
    TableInv (Table.run d h) (h.map (parseTable d)) := by
  have := (tableInv_foldl h { delim := d } [] hd (tableInv_init d)).1
  simpa [Table.run] using this

end Rare.C07

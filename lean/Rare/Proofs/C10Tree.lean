import Rare.Proofs.C10Nest
import Rare.Model.C10Tree
import Rare.Proofs.C09Frag
/-!
C10: funcs-file functions given as expression trees – a call equals its inlined body at every depth of
nesting, over the standard fragment of C09 (`Rare/Spec/C09Frag.lean`) extended by the functions defined
earlier in the file.

`semAdd sem (n, B)` is the specification: after the definition `n B`, a call `{n a₀ a₁ …}` means the body
tree `B` evaluated where `{i}` is the value of `aᵢ` (missing: empty), named keys and negative indices are
the caller's – and the calls inside `B` mean what they meant when `B` was defined (`sem`), so the unfolding
goes through every level of nesting.  `defs_loaded` shows by induction over the definition order (as the
loader builds the registry) that the real `LoadDefinitions` + `Compile` + `BuildKey` model computes exactly
that.
-/
namespace Rare.C10
open Rare Rare.Expr Rare.C09

/-- What is known about a registry and the meaning of its names while a definitions file is being loaded. -/
structure Inv (known : List String) (reg : Registry) (sem : Sem) (U : List (List Char)) : Prop where
  std : ∀ f, f ∉ U → reg f = stdRegistry known f ∧ ∀ ctx, sem ctx f = stdSem f
  usr : ∀ f ∈ U, ∃ (stages : List Stage) (bv : Ctx → Bytes), reg f = some (userFunction stages) ∧
    (∀ ctx, (buildKey stages).run ctx = .ok (bv ctx)) ∧
    (∀ ctx vals, sem ctx f vals = bv (argCtx ctx vals.length vals))
  fresh : ∀ f ∈ U, fragLookup (String.ofList f) = none

theorem inv_base (known : List String) : Inv known (stdRegistry known) (fun _ => stdSem) [] :=
  ⟨fun _ _ => ⟨rfl, fun _ => rfl⟩, fun _ h => (by cases h), fun _ h => (by cases h)⟩

section
variable {known : List String} {reg : Registry} {sem : Sem} {U : List (List Char)}

theorem call_regDen_inv (hinv : Inv known reg sem U) (f : List Char) (args : List C09.Expr)
    (h : (U.contains f || callOkS sem f args) = true) :
    ∃ b, reg f = some b ∧ ∀ cargs, DenArgs sem dynE cargs args →
      ∃ stage, b cargs = .ok ⟨some stage, none⟩ ∧ Den sem dynE stage (.call f args) := by
  by_cases hu : f ∈ U
  · obtain ⟨stages, bv, hreg, hbody, hsem⟩ := hinv.usr f hu
    refine ⟨_, hreg, fun cargs hden => ⟨_, rfl, ⟨fun ctx => ?_, fun hd => ?_, fun s hs => by cases hs⟩⟩⟩
    · rw [withArgs_run cargs ctx _ (hden.runs ctx), hbody]
      simp only [evalTree, envC, hsem]
      rw [evalArgs_length, hden.length]
    · simp [dynE, hinv.fresh f hu] at hd
  · have hc : callOkS sem f args = true := by
      simp only [Bool.or_eq_true, List.contains_iff_mem] at h
      rcases h with h | h
      · exact absurd h hu
      · exact h
    unfold callOkS at hc
    obtain ⟨hreg0, hsem0⟩ := hinv.std f hu
    cases hl : fragLookup (String.ofList f) with
    | none => rw [hl] at hc; cases hc
    | some e =>
      rw [hl] at hc
      simp only [Bool.and_eq_true] at hc
      obtain ⟨hok, hb⟩ := fragTable_ok _ (fragLookup_mem hl)
      refine ⟨e.builder, by rw [hreg0]; exact std_lookup known f _ hb, fun cargs hden => ?_⟩
      obtain ⟨stage, hi, hfirst⟩ := hok sem dynE args cargs hden hc.1 hc.2
      refine ⟨stage, hi.built, ⟨fun ctx => ?_, fun hd => ?_, fun s hs => by cases hs⟩⟩
      · rw [hi.run ctx _ (hden.runs ctx)]
        simp only [evalTree, envC, hsem0, stdSem, hl]
      · simp only [dynE, hl, Bool.and_eq_true] at hd
        match args, cargs, hden, hd with
        | a :: rest, c :: cs, hden, hd =>
          exact hfirst hd.1 c cs rfl (hden.1.dyn hd.2)

mutual
theorem regDen_inv (hinv : Inv known reg sem U) : ∀ e : C09.Expr, fragOkS sem U e = true → RegDen reg sem dynE e
  | .lit _, _ => trivial
  | .group _, _ => trivial
  | .key _, _ => trivial
  | .call f args, h => by
    simp only [fragOkS, Bool.and_eq_true] at h
    exact ⟨call_regDen_inv hinv f args h.1, regDenArgs_inv hinv args h.2⟩
theorem regDenArgs_inv (hinv : Inv known reg sem U) : ∀ l : List C09.Expr, fragOkSArgs sem U l = true →
    RegDenArgs reg sem dynE l
  | [], _ => trivial
  | a :: rest, h => by
    simp only [fragOkSArgs, Bool.and_eq_true] at h
    exact ⟨regDen_inv hinv a h.1, regDenArgs_inv hinv rest h.2⟩
end

/-- Under the invariant a tree over user functions and the standard fragment compiles – optimiser on or off –
    to what the tree means. -/
theorem compile_inv (hinv : Inv known reg sem U) (opt : Bool) (σ : Style) (e : C09.Expr) (ha : AdmissibleTop e)
    (hf : fragOkS sem U e = true) :
    ∃ stages, compile reg opt (printTop σ e) = .ok (stages, []) ∧
      ∀ ctx, (buildKey stages).run ctx = .ok (evalTree (envC sem ctx) e) :=
  printTop_den reg sem dynE opt (fun _ => rfl) σ e ha (regDen_inv hinv e hf)

/-- One more definition keeps the invariant. -/
theorem inv_extend (hinv : Inv known reg sem U) (n : List Char) (B : C09.Expr) (stages : List Stage)
    (hn : fragLookup (String.ofList n) = none)
    (hbody : ∀ ctx, (buildKey stages).run ctx = .ok (evalTree (envC sem ctx) B)) :
    Inv known (extend reg n (userFunction stages)) (semAdd sem (n, B)) (n :: U) := by
  refine ⟨fun f hf => ?_, fun f hf => ?_, fun f hf => ?_⟩
  · have hne : f ≠ n := fun e => hf (by simp [e])
    have hu : f ∉ U := fun e => hf (by simp [e])
    obtain ⟨h1, h2⟩ := hinv.std f hu
    exact ⟨by simp only [extend, hne, if_false]; exact h1, fun ctx => by funext vals; simp only [semAdd, hne, if_false, h2]⟩
  · by_cases hfn : f = n
    · subst hfn
      exact ⟨stages, fun ctx => evalTree (envC sem ctx) B, by simp [extend], hbody, fun ctx vals => by simp [semAdd]⟩
    · have hu : f ∈ U := by simpa [hfn] using hf
      obtain ⟨st, bv, h1, h2, h3⟩ := hinv.usr f hu
      exact ⟨st, bv, by simp only [extend, hfn, if_false]; exact h1, h2,
        fun ctx vals => by simp only [semAdd, hfn, if_false, h3]⟩
  · rcases List.mem_cons.mp hf with rfl | hu
    · exact hn
    · exact hinv.fresh f hu

end

/-- A definitions file given as trees: every name is new to the standard fragment, every body is an
    admissible tree over the fragment and the functions defined BEFORE it. -/
def DefsOk : Sem → List (List Char) → List (Def × Style) → Prop
  | _, _, [] => True
  | sem, U, ((n, B), _) :: rest =>
    fragLookup (String.ofList n) = none ∧ AdmissibleTop B ∧ fragOkS sem U B = true ∧
      DefsOk (semAdd sem (n, B)) (n :: U) rest

/-- The phrase of a definition as the loader sees it: name and the printed body. -/
def phrase (d : Def × Style) : Option (Bytes × Bytes) := some (encodeRunes d.1.1, encodeRunes (printTop d.2 d.1.2))

/-- **Loading a definitions file given as trees** (induction over the definition order, as the loader builds
    the registry): every definition is added, and afterwards the registry and the meaning of names are again
    related by the invariant – so every later tree (and every later definition) sees the earlier functions
    with the meaning `semDefs` gives them. -/
theorem defs_loaded (known : List String) : ∀ (defs : List (Def × Style)) (reg : Registry) (sem : Sem)
    (U : List (List Char)), Inv known reg sem U → DefsOk sem U defs →
    ∃ fs, loadDefs reg (defs.map phrase) = .ok (withFuncs reg fs, fs) ∧
      Inv known (withFuncs reg fs) (semDefs sem (defs.map (·.1))) ((defs.map (·.1.1)).reverse ++ U) := by
  intro defs
  induction defs with
  | nil => intro reg sem U hinv _; exact ⟨[], rfl, by simpa [semDefs, withFuncs] using hinv⟩
  | cons d rest ih =>
    intro reg sem U hinv hok
    obtain ⟨⟨n, B⟩, σ⟩ := d
    obtain ⟨hn, ha, hf, hrest⟩ := hok
    obtain ⟨stages, hc, hrun⟩ := compile_inv hinv true σ B ha hf
    have hinv' := inv_extend hinv n B stages hn hrun
    obtain ⟨fs, hl, hfin⟩ := ih _ _ _ hinv' hrest
    refine ⟨(n, userFunction stages) :: fs, ?_, ?_⟩
    · have hcb : C09.compileBytes reg true (encodeRunes (printTop σ B)) = .ok (stages, []) := by
        rw [C09.compileBytes, decodeRunes_encodeRunes]; exact hc
      simp only [List.map_cons, phrase, loadDefs, hcb, wellFormed_encodeRunes, List.isEmpty_nil, Bool.and_self, if_true,
        decodeRunes_encodeRunes, hl]
      rfl
    · simpa [semDefs, withFuncs_cons, List.append_assoc] using hfin

/-- **A call equals its inlined body, at every depth.**  For a definitions file given as trees (`DefsOk`),
    loaded into the standard registry, and every tree `e` over the fragment and the file's functions: the
    template compiles without errors – optimiser on or off – and evaluates to `evalTree` under `semDefs`, the
    semantics in which a call of a funcs-file function IS its body with `{i}` bound to the call's argument
    values (`semAdd_call`), the body's own calls unfolding the same way. -/
theorem call_nested_tree (known : List String) (defs : List (Def × Style)) (hok : DefsOk (fun _ => stdSem) [] defs)
    (opt : Bool) (σ : Style) (e : C09.Expr) (ha : AdmissibleTop e)
    (hf : fragOkS (semDefs (fun _ => stdSem) (defs.map (·.1))) ((defs.map (·.1.1)).reverse) e = true) :
    ∃ fs, loadDefs (stdRegistry known) (defs.map phrase) = .ok (withFuncs (stdRegistry known) fs, fs) ∧
      ∃ stages, compile (withFuncs (stdRegistry known) fs) opt (printTop σ e) = .ok (stages, []) ∧
        ∀ ctx, (buildKey stages).run ctx = .ok (evalTree (envC (semDefs (fun _ => stdSem) (defs.map (·.1))) ctx) e) := by
  obtain ⟨fs, hl, hinv⟩ := defs_loaded known defs _ _ [] (inv_base known) hok
  rw [List.append_nil] at hinv
  exact ⟨fs, hl, compile_inv hinv opt σ e ha hf⟩

/-- What a call of the function just defined means: the body tree, evaluated where `{i}` is the value of the
    call's `i`-th argument in the caller's match (an index beyond the arguments: empty), named keys and negative
    indices the caller's, and the names inside the body meaning what they meant BEFORE this definition. -/
theorem semAdd_call (sem : Sem) (n : List Char) (B : C09.Expr) (ctx : Ctx) (args : List C09.Expr) :
    evalTree (envC (semAdd sem (n, B)) ctx) (.call n args) =
      evalTree (envC sem (argCtx ctx args.length (evalArgs (envC (semAdd sem (n, B)) ctx) args))) B := by
  simp only [evalTree, envC, semAdd, if_true, evalArgs_length]

theorem argCtx_facts (ctx : Ctx) (k : Nat) (vals : List Bytes) :
    (argCtx ctx k vals).getKey = ctx.getKey ∧ (∀ i : Int, i < 0 → (argCtx ctx k vals).getMatch i = ctx.getMatch i) ∧
    (∀ i : Nat, k ≤ i → (argCtx ctx k vals).getMatch i = []) ∧
    (∀ i : Nat, i < k → (argCtx ctx k vals).getMatch i = vals.getD i []) := by
  refine ⟨rfl, fun i hi => if_pos hi, fun i hi => ?_, fun i hi => ?_⟩ <;> simp only [argCtx]
  · rw [if_neg (by omega), if_pos (by omega)]
  · rw [if_neg (by omega), if_neg (by omega), Int.toNat_natCast]

end Rare.C10

import Rare.Proofs.C03Reduce
import Rare.Proofs.C17Atoi
import Rare.Proofs.ExprCore
import Rare.Model.Expr.Funcs.Arith
/-!
The algebraic hypothesis of `reduce_commutative_schedule_independent` (`CommCol`) for the accumulator
expressions people write: `{sumi {.} {i}}`, `{maxi {.} {i}}`, `{mini {.} {i}}`, `{sumi {.} n}` (a count).

The stages are the ones the modelled builders of `funcsArithmatic.go` return (`Funcs.Arith.intHelper`) for the
argument stages `{.}` (a key look-up) and `{i}` (a match look-up) / a literal – what `Compile` hands to
`AddDataExpr` for these templates.
-/
namespace Rare.C03
open Rare.C07 Rare.Expr Rare.Expr.Funcs.Arith

theorem comp_run_bind {α β : Type} (c : Comp α) (f : α → Comp β) (ctx : Ctx) :
    (c.bind f).run ctx = (match c.run ctx with | .ok a => (f a).run ctx | .error m => .error m) :=
  Comp.run_bind c f ctx

/-- the argument `{.}` after `evalTypedStage` -/
def typedDot : Comp (Option Int) := (Comp.key dot).bind fun v => .ret (atoi v)
/-- the argument `{i}` after `evalTypedStage` -/
def typedMatch (i : Int) : Comp (Option Int) := (Comp.match_ i).bind fun v => .ret (atoi v)
/-- a literal argument that parses, after `evalTypedStage` -/
def typedLit (n : Int) : Comp (Option Int) := .ret (some n)

/-- `{op {.} {i}}` (`op` = `sumi`, `maxi`, …) as the builder compiles it. -/
def foldDotMatch (op : IntOp) (i : Int) : Stage := intRun op [typedDot, typedMatch i]
/-- `{op {.} n}` for an integer literal `n`. -/
def foldDotLit (op : IntOp) (n : Int) : Stage := intRun op [typedDot, typedLit n]

/-- The builder of `sumi`/`maxi`/… applied to the compiled arguments `{.}` and `{i}` returns `foldDotMatch`. -/
theorem intHelper_dot_match (op : IntOp) (i : Int) :
    intHelper op [Comp.key dot, Comp.match_ i] = ok (foldDotMatch op i) := rfl

/-- … and to `{.}` and a literal that is an int64 (`[]` stands for no look-up: the literal stage). -/
theorem intHelper_dot_lit (op : IntOp) (lit : Bytes) (n : Int) (h : atoi lit = some n) :
    intHelper op [Comp.key dot, Stage.lit lit] = ok (foldDotLit op n) := by
  simp [intHelper, mapTypedArgs, evalTypedStage, Comp.probe, Comp.probeN, Comp.key, Stage.lit, h, foldDotLit, typedDot, typedLit, ok]

/-- The update both stages perform: parse the accumulator and the operand, apply the checked operation. -/
def intUpd (op : IntOp) (cur : Bytes) (y : Option Int) : Bytes :=
  match atoi cur with
  | none => ErrorNum
  | some x =>
    match y with
    | none => ErrorNum
    | some y =>
      match op x y with
      | none => ErrorValue
      | some r => itoa r

theorem foldDotMatch_run (op : IntOp) (i : Int) (ctx : Ctx) :
    (foldDotMatch op i).run ctx = .ok (intUpd op (ctx.getKey dot) (atoi (ctx.getMatch i))) := by
  simp only [foldDotMatch, intRun, typedDot, typedMatch, Comp.key, Comp.match_, bind, Comp.bind, Comp.run, pure, foldRun, intUpd]
  cases atoi (ctx.getKey dot) with
  | none => rfl
  | some x =>
    simp only [Comp.run]
    cases atoi (ctx.getMatch i) with
    | none => rfl
    | some y =>
      simp only
      cases op x y with
      | none => rfl
      | some r => rfl

theorem foldDotLit_run (op : IntOp) (n : Int) (ctx : Ctx) :
    (foldDotLit op n).run ctx = .ok (intUpd op (ctx.getKey dot) (some n)) := by
  simp only [foldDotLit, intRun, typedDot, typedLit, Comp.key, bind, Comp.bind, Comp.run, pure, foldRun, intUpd]
  cases atoi (ctx.getKey dot) with
  | none => rfl
  | some x =>
    simp only
    cases op x n with
    | none => rfl
    | some r => rfl

theorem atoi_errorNum : atoi ErrorNum = none := by decide +kernel

/-- An operation that never rejects, keeps int64 operands inside int64 and can be applied in either order. -/
structure CommOp (op : IntOp) : Prop where
  total : ∀ x y, ∃ r, op x y = some r
  range : ∀ x y r, minInt64 ≤ x → x ≤ maxInt64 → minInt64 ≤ y → y ≤ maxInt64 → op x y = some r → minInt64 ≤ r ∧ r ≤ maxInt64
  comm : ∀ x a b ra rb, op x a = some ra → op x b = some rb → ∃ r, op ra b = some r ∧ op rb a = some r

theorem intUpd_comm (op : IntOp) (h : CommOp op) (cur : Bytes) (a b : Option Int)
    (ha : ∀ v, a = some v → minInt64 ≤ v ∧ v ≤ maxInt64) (hb : ∀ v, b = some v → minInt64 ≤ v ∧ v ≤ maxInt64) :
    intUpd op (intUpd op cur a) b = intUpd op (intUpd op cur b) a := by
  unfold intUpd
  cases hx : atoi cur with
  | none => simp only [atoi_errorNum]
  | some x =>
    have hxr := C17.atoi_range hx
    cases a with
    | none =>
      simp only [atoi_errorNum]
      cases b with
      | none => simp only [atoi_errorNum]
      | some bv =>
        obtain ⟨rb, hrb⟩ := h.total x bv
        simp only [hrb]
        cases atoi (itoa rb) <;> rfl
    | some av =>
      obtain ⟨ra, hra⟩ := h.total x av
      have har := ha av rfl
      have hrar := h.range x av ra hxr.1 hxr.2 har.1 har.2 hra
      simp only [hra, C17.atoi_itoa ra hrar.1 hrar.2]
      cases b with
      | none =>
        simp only [atoi_errorNum]
      | some bv =>
        obtain ⟨rb, hrb⟩ := h.total x bv
        have hbr := hb bv rfl
        have hrbr := h.range x bv rb hxr.1 hxr.2 hbr.1 hbr.2 hrb
        simp only [hrb, C17.atoi_itoa rb hrbr.1 hrbr.2]
        obtain ⟨r, h1, h2⟩ := h.comm x av bv ra rb hra hrb
        simp only [h1, h2]

theorem commOp_sum : CommOp opSum := by
  refine ⟨fun x y => ⟨_, rfl⟩, ?_, ?_⟩
  · intro x y r _ _ _ _ h
    simp only [opSum, Option.some.injEq] at h
    subst h; exact wrap64_inRange _
  · intro x a b ra rb h1 h2
    simp only [opSum, Option.some.injEq] at h1 h2
    subst h1 h2
    refine ⟨wrap64 (x + a + b), ?_, ?_⟩
    · simp only [opSum]; rw [wrap64_add_left]
    · simp only [opSum]; rw [wrap64_add_left]; congr 2; omega

theorem commOp_max : CommOp opMax := by
  refine ⟨fun x y => ⟨_, rfl⟩, ?_, ?_⟩
  · intro x y r h1 h2 h3 h4 h
    simp only [opMax, Option.some.injEq] at h
    omega
  · intro x a b ra rb h1 h2
    simp only [opMax, Option.some.injEq] at h1 h2
    subst h1 h2
    exact ⟨_, rfl, by simp only [opMax, Option.some.injEq]; omega⟩

theorem commOp_min : CommOp opMin := by
  refine ⟨fun x y => ⟨_, rfl⟩, ?_, ?_⟩
  · intro x y r h1 h2 h3 h4 h
    simp only [opMin, Option.some.injEq] at h
    omega
  · intro x a b ra rb h1 h2
    simp only [opMin, Option.some.injEq] at h1 h2
    subst h1 h2
    exact ⟨_, rfl, by simp only [opMin, Option.some.injEq]; omega⟩

/-- `name[:initial]={op {.} {i}}` is an order-insensitive accumulator for every `CommOp`. -/
theorem commCol_foldDotMatch (op : IntOp) (h : CommOp op) (name initial : Bytes) (i : Int) :
    CommCol (AccDataDef.toSpec ⟨name, foldDotMatch op i, initial⟩) := by
  refine ⟨fun cur part => intUpd op cur (atoi (part i)), ?_, ?_⟩
  · intro L
    show (foldDotMatch op i).run _ = _
    rw [foldDotMatch_run]
    rfl
  · intro cur p q
    exact intUpd_comm op h cur _ _ (fun v hv => C17.atoi_range hv) (fun v hv => C17.atoi_range hv)

/-- `name[:initial]={op {.} n}` (e.g. the counter `{sumi {.} 1}`) likewise. -/
theorem commCol_foldDotLit (op : IntOp) (name initial : Bytes) (n : Int) :
    CommCol (AccDataDef.toSpec ⟨name, foldDotLit op n, initial⟩) := by
  refine ⟨fun cur _ => intUpd op cur (some n), ?_, ?_⟩
  · intro L
    show (foldDotLit op n).run _ = _
    rw [foldDotLit_run]
    rfl
  · intro cur _ _
    rfl

end Rare.C03

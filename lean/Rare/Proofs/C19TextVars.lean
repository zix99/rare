import Rare.Proofs.C19Vars
import Rare.Proofs.C19Complete
/-!
C19: the look-ups of a compiled formula read off the formula TEXT.

`textVars` (`Model/C19Pool.lean`) walks the token stream of the text (the tokenizer specification `tok`): every literal token that
denotes `[n]` / `[name]` / a bare name is one look-up, a group token contributes the look-ups of its own text,
operators and unary modifiers none.  `textVarsF_tree`: that list IS `Expr.vars` of what `compile` builds.
-/
namespace Rare.C19
open Rare.C19.Pool

variable {α : Type}

theorem tokListVars_append (cls : Bytes → Option (Atom α)) (g : Bytes → List Var) (a b : List Token) :
    tokListVars cls g (a ++ b) = tokListVars cls g a ++ tokListVars cls g b := by
  induction a with
  | nil => rfl
  | cons tk rest ih => simp only [List.cons_append, tokListVars, ih, List.append_assoc]

theorem flatten_vars (cls : Bytes → Option (Atom α)) (g : Bytes → List Var) {N : Nat}
    (hG : ∀ s0 e0, s0.length < N → tok s0 = some e0.flatten → Deep tok e0 → g s0 = e0.vars cls) :
    ∀ t : Tree, Deep tok t → GrpLt N t.flatten → tokListVars cls g t.flatten = t.vars cls := by
  intro t
  induction t with
  | lit v =>
    intro _ _
    simp only [Tree.flatten, tokListVars, Tree.vars, List.append_nil]
    all_goals (cases cls v <;> rfl)
  | grp s e0 _ =>
    intro hd hgl
    cases hd with
    | grp _ _ htok hd0 =>
      have hlen : s.length < N := hgl ⟨s, .group⟩ (by simp [Tree.flatten]) rfl
      simp [Tree.flatten, tokListVars, Tree.vars, hG s e0 hlen htok hd0]
  | un m e0 ih =>
    intro hd hgl
    cases hd with
    | un _ _ hd0 =>
      have hg0 : GrpLt N e0.flatten := fun tk hm => hgl tk (by simp [Tree.flatten, hm])
      simp [Tree.flatten, tokListVars, Tree.vars, ih hd0 hg0]
  | bin i op l r ihl ihr =>
    intro hd hgl
    cases hd with
    | bin _ _ _ _ hdl hdr =>
      have hgl1 : GrpLt N l.flatten := fun tk hm => hgl tk (by simp [Tree.flatten, hm])
      have hgl2 : GrpLt N r.flatten := fun tk hm => hgl tk (by simp [Tree.flatten, hm])
      simp only [Tree.flatten, tokListVars_append, Tree.vars, ihl hdl hgl1, ihr hdr hgl2]
      cases i <;> simp [tokListVars]

theorem textVarsF_tree (cls : Bytes → Option (Atom α)) : ∀ (f : Nat) (s : Bytes) (t : Tree), s.length < f →
    tok s = some t.flatten → Deep tok t → textVarsF tok cls f s = t.vars cls := by
  intro f
  induction f with
  | zero => intro s t h; omega
  | succ f ih =>
    intro s t hlen htok hd
    simp only [textVarsF, htok]
    exact flatten_vars cls (textVarsF tok cls f)
      (fun s0 e0 h0 ht0 hd0 => ih s0 e0 (by omega) ht0 hd0) t hd (tok_group_len htok)

end Rare.C19

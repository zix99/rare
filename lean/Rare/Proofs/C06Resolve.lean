import Rare.Proofs.C06Path
/-! C06: what path resolution returns is a node of the tree; listings of a well-formed tree. -/
namespace Rare.C06.Glob

theorem Ents.find_wf : ∀ (e : Ents) (n : Name) (node : Node), e.WF → e.find n = some node → node.WF
  | .nil, _, _, _, h => by simp [Ents.find] at h
  | .cons m nd rest, n, node, hw, h => by
    simp only [Ents.WF] at hw
    unfold Ents.find at h
    split at h
    · cases h; exact hw.2.2.1
    · exact Ents.find_wf rest n node hw.2.2.2 h

theorem Ents.find_mem_names : ∀ (e : Ents) (n : Name) (node : Node), e.find n = some node → n ∈ e.names
  | .nil, _, _, h => by simp [Ents.find] at h
  | .cons m nd rest, n, node, h => by
    unfold Ents.find at h
    simp only [Ents.names, List.mem_cons]
    split at h
    · rename_i e; exact Or.inl e.symm
    · exact Or.inr (Ents.find_mem_names rest n node h)

theorem Ents.mem_names_find : ∀ (e : Ents) (n : Name), n ∈ e.names → ∃ node, e.find n = some node
  | .nil, _, h => by simp [Ents.names] at h
  | .cons m nd rest, n, h => by
    unfold Ents.find
    by_cases hm : m = n
    · exact ⟨nd, by simp [hm]⟩
    · simp only [hm, if_false]
      simp only [Ents.names, List.mem_cons] at h
      rcases h with h | h
      · exact absurd h.symm hm
      · exact Ents.mem_names_find rest n h

theorem Ents.names_wf : ∀ (e : Ents), e.WF → e.names.Nodup ∧ ∀ n ∈ e.names, NormalName n
  | .nil, _ => by simp [Ents.names]
  | .cons m nd rest, hw => by
    simp only [Ents.WF] at hw
    obtain ⟨ih1, ih2⟩ := Ents.names_wf rest hw.2.2.2
    refine ⟨List.nodup_cons.2 ⟨hw.2.1, ih1⟩, ?_⟩
    intro n hn
    simp only [Ents.names, List.mem_cons] at hn
    rcases hn with rfl | hn
    · exact hw.1
    · exact ih2 n hn

theorem Node.at_wf : ∀ (stack : List Name) (root node : Node), root.WF → root.at stack = some node → node.WF
  | [], root, node, hw, h => by simp only [Node.at, Option.some.injEq] at h; subst h; exact hw
  | c :: cs, root, node, hw, h => by
    cases root with
    | file => simp [Node.at] at h
    | link t => simp [Node.at] at h
    | dir e =>
      simp only [Node.at] at h
      cases hf : e.find c with
      | none => simp [hf] at h
      | some child =>
        simp only [hf] at h
        exact Node.at_wf cs child node (Ents.find_wf e c child hw hf) h

theorem dirNodeAt_wf (root : Node) (stack : List Name) (node : Node) (hw : root.WF)
    (h : dirNodeAt root stack = some node) : node.WF := by
  unfold dirNodeAt at h
  split at h
  · rename_i e he
    cases h
    exact Node.at_wf stack root _ hw he
  · cases h

theorem resolveAt_wf (root : Node) (hw : root.WF) : ∀ (d : Nat) (st : RState) (path : Bytes) (follow : Bool) (node : Node),
    resolveAt d root st path follow = some node → node.WF := by
  intro d
  induction d using Nat.strongRecOn with | _ d ih => ?_
  intro st path follow node h
  -- every answer is `dirNodeAt root _`, `root.at _` or the answer for the target of a link
  unfold resolveAt at h
  split at h
  · cases h
  split at h
  · cases h
  dsimp only at h
  split at h
  · exact dirNodeAt_wf root _ node hw h
  split at h
  · cases h
  split at h
  · split at h
    · cases h
    · exact dirNodeAt_wf root _ node hw h
  · split at h
    · cases h
    · split at h
      · split at h
        · cases h
        · split at h
          · cases h
          · exact ih _ (by omega) _ _ _ _ h
      · cases h; trivial
    · cases h
      exact Node.at_wf _ root _ hw (by assumption)

theorem stat_wf (root : Node) (hw : root.WF) (p : Bytes) (node : Node) (h : stat root p = some node) : node.WF :=
  resolveAt_wf root hw _ _ _ _ _ h

theorem lstat_wf (root : Node) (hw : root.WF) (p : Bytes) (node : Node) (h : lstat root p = some node) : node.WF :=
  resolveAt_wf root hw _ _ _ _ _ h

/-- the listing of a directory of a well-formed tree: proper names, strictly increasing -/
theorem readDirNames_wf (root : Node) (hw : root.WF) (p : Bytes) (names : List Name)
    (h : readDirNames root p = some names) :
    (∀ n ∈ names, NormalName n) ∧ names.Pairwise (fun a b => lexLe a b = true ∧ a ≠ b) := by
  unfold readDirNames at h
  split at h
  · rename_i ents hs
    cases h
    have hwf : Node.WF (.dir ents) := stat_wf root hw p _ hs
    simp only [Node.WF] at hwf
    obtain ⟨h1, h2⟩ := Ents.names_wf ents hwf
    exact ⟨fun n hn => h2 n (mem_sortNames.1 hn), sortNames_strict h1⟩
  · cases h

end Rare.C06.Glob

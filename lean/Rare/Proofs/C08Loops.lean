import Rare.Proofs.C11
/-!
C08, loops: generic lemmas about the scaling loop of `kfExpBucket` and the counter of `@range`, stated
for an arbitrary step function that is *equal to* the expected one – `Props/C08.lean` instantiates them
with the definitions regenerated from /repo (`Gen/C08.lean`), so a changed loop condition or body makes
the instantiation (an `rfl`) fail.
-/
namespace Rare.C08
open Rare Rare.Expr Rare.Expr.Funcs Rare.C11

/-- `k` rounds of a two-variable loop body. -/
def iterate (step : Int → Int → Int × Int) : Nat → Int × Int → Int × Int
  | 0, p => p
  | k + 1, p => iterate step k (step p.1 p.2)

theorem iterate_succ (step : Int → Int → Int × Int) (k : Nat) (p : Int × Int) :
    iterate step (k + 1) p = iterate step k (step p.1 p.2) := rfl

/-- The scaling loop `for val >= 10 { val /= 10; bucket *= 10 }`: from `v < 10^(f+1)` it leaves after at
    most `f` rounds; in every round it does run the product `bucket * 10` is a true int64 product; the
    bucket it leaves with is `b * 10^n`; and the fuelled loop of the hand model computes the same. -/
theorem expLoop_rounds (step : Int → Int → Int × Int)
    (hstep : ∀ v b, step v b = (goDiv v 10, wrap64 (b * 10))) :
    ∀ (f : Nat) (v b : Int), v < 10 ^ (f + 1) → 1 ≤ b → (10 ≤ v → b * v ≤ maxInt64) →
    ∃ n, n ≤ f ∧
      (∀ k, k < n → (iterate step k (v, b)).1 ≥ 10 ∧ 1 ≤ (iterate step k (v, b)).2 ∧
        (iterate step k (v, b)).2 * 10 ≤ maxInt64) ∧
      (iterate step n (v, b)).1 < 10 ∧ (iterate step n (v, b)).2 = b * 10 ^ n ∧
      (1 ≤ v → (10 : Int) ^ n ≤ v ∧ v < 10 * 10 ^ n) ∧
      (∀ g, n ≤ g → Arith.expLoop g v b = (iterate step n (v, b)).2) := by
  intro f
  induction f with
  | zero =>
    intro v b hlt _ _
    refine ⟨0, Nat.le_refl _, fun k hk => absurd hk (Nat.not_lt_zero _), ?_, ?_, ?_, ?_⟩
    · simp only [iterate]; simpa using hlt
    · simp [iterate]
    · intro h1; simp at hlt ⊢; omega
    · intro g _
      have hv : ¬ v ≥ 10 := by simp at hlt; omega
      cases g with
      | zero => rfl
      | succ g => simp [Arith.expLoop, hv, iterate]
  | succ f ih =>
    intro v b hlt hb hmax
    by_cases h10 : v ≥ 10
    · have hbv := hmax h10
      have hb10 : b * 10 ≤ b * v := Int.mul_le_mul_of_nonneg_left h10 (by omega)
      have hvmax : v ≤ maxInt64 := by
        have : 1 * v ≤ b * v := Int.mul_le_mul_of_nonneg_right hb (by omega)
        omega
      have e1 : goDiv v 10 = v / 10 := by
        unfold goDiv
        rw [Int.tdiv_eq_ediv_of_nonneg (by omega)]
        apply wrap64_id <;> i64
      have e2 : wrap64 (b * 10) = b * 10 := by
        apply wrap64_id <;> i64
      have hp : (10 : Int) ^ (f + 1 + 1) = 10 ^ (f + 1) * 10 := Int.pow_succ _ _
      have hle : b * 10 * (v / 10) ≤ b * v := by
        rw [Int.mul_assoc]
        exact Int.mul_le_mul_of_nonneg_left (by omega) (by omega)
      obtain ⟨n, hn, hrun, hexit, hval, hrange, hmodel⟩ :=
        ih (v / 10) (b * 10) (by omega) (by omega) (fun _ => by omega)
      have hs : step v b = (v / 10, b * 10) := by rw [hstep, e1, e2]
      refine ⟨n + 1, by omega, ?_, ?_, ?_, ?_, ?_⟩
      · intro k hk
        cases k with
        | zero =>
          show v ≥ 10 ∧ 1 ≤ b ∧ b * 10 ≤ maxInt64
          exact ⟨h10, hb, by omega⟩
        | succ k =>
          rw [iterate_succ]
          show (iterate step k (step v b)).1 ≥ 10 ∧ _
          rw [hs]
          exact hrun k (by omega)
      · rw [iterate_succ]; show (iterate step n (step v b)).1 < 10; rw [hs]; exact hexit
      · rw [iterate_succ]; show (iterate step n (step v b)).2 = _; rw [hs, hval, Int.pow_succ]
        rw [Int.mul_assoc, Int.mul_comm 10]
      · intro h1
        obtain ⟨r1, r2⟩ := hrange (by omega)
        rw [Int.pow_succ]; omega
      · intro g hg
        cases g with
        | zero => omega
        | succ g =>
          rw [iterate_succ]; show _ = (iterate step n (step v b)).2
          rw [hs, ← hmodel g (by omega)]
          simp only [Arith.expLoop, h10, if_true, e1, e2]
    · refine ⟨0, Nat.zero_le _, fun k hk => absurd hk (Nat.not_lt_zero _), ?_, ?_, ?_, ?_⟩
      · simp only [iterate]; omega
      · simp [iterate]
      · intro h1; simp; omega
      · intro g _
        cases g with
        | zero => rfl
        | succ g => simp [Arith.expLoop, h10, iterate]

/-- The counter of `@range`: when the `break` in front of the post statement is not taken, `i += incr` is a true
    (unwrapped) sum and moves `i` in the direction of `incr`.  Linear arithmetic over the definition of `wrap64`. -/
theorem range_step_exact (i incr : Int) (hi : inInt64 i = true) (hc : inInt64 incr = true)
    (hbrk : ((decide (incr > 0) && decide (i > wrap64 (maxInt64 - incr))) ||
      (decide (incr < 0) && decide (i < wrap64 (minInt64 - incr)))) = false) :
    wrap64 (i + incr) = i + incr ∧ inInt64 (i + incr) = true ∧
    (incr > 0 → i < i + incr) ∧ (incr < 0 → i + incr < i) := by
  rw [inInt64_iff] at hi hc ⊢
  simp only [Bool.or_eq_false_iff, Bool.and_eq_false_iff, decide_eq_false_iff_not] at hbrk
  unfold wrap64 minInt64 maxInt64 at *
  omega

end Rare.C08

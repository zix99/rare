import Rare.Proofs.C09Loop
import Rare.Gen.C09
/-!
C09: the hand model of the tokenizer state machines (`Rare/Model/Expr/Core.lean`) equals what the translator
regenerates from /repo (`Rare/Gen/C09.lean`: `splitTokenizedArguments` statement by statement, the branch
conditions of `Compile`'s rune loop, `unescape`).
-/
namespace Rare.C09
open Rare Rare.Expr

/-- the model's splitter state as the record of the Go function's local variables -/
def toGen (s : SplitSt) : Gen.C09.S := ⟨s.args, s.sb, s.depth, s.quoted, s.escaped⟩

theorem c92 : Char.ofNat 92 = '\\' := rfl
theorem c34 : Char.ofNat 34 = '"' := rfl
theorem c123 : Char.ofNat 123 = '{' := rfl
theorem c125 : Char.ofNat 125 = '}' := rfl

/-- Both are the same chain of tests; only the spelling of the conditions differs (`=` against `==`,
    a proposition against its `decide`), and Go's nested `if tokenDepth > 0` is a field-level `if` in the model. -/
theorem splitStep_gen (s : SplitSt) (r : Char) : toGen (splitStep s r) = Gen.C09.step isSpaceRune (toGen s) r := by
  obtain ⟨args, sb, depth, quoted, escaped⟩ := s
  simp only [splitStep, apply_ite toGen]
  dsimp only [Gen.C09.step, toGen, c92, c34, c123, c125]
  simp only [beq_iff_eq, Bool.and_eq_true, Bool.or_eq_true, decide_eq_true_eq]
  by_cases hd : depth > 0
  · simp only [if_pos hd]
  · simp only [if_neg hd]

theorem foldl_gen (t : List Char) : ∀ s, toGen (t.foldl splitStep s) = t.foldl (Gen.C09.step isSpaceRune) (toGen s) := by
  induction t with
  | nil => intro _; rfl
  | cons c t ih => intro s; simp only [List.foldl_cons]; rw [ih, splitStep_gen]

theorem splitArgs_gen (t : List Char) : splitArgs t = Gen.C09.split isSpaceRune t := by
  have h := foldl_gen t SplitSt.init
  have hi : toGen SplitSt.init = Gen.C09.init := rfl
  rw [hi] at h
  unfold splitArgs Gen.C09.split Gen.C09.finish
  rw [← h]
  generalize List.foldl splitStep SplitSt.init t = s
  obtain ⟨a, sb, d, q, e⟩ := s
  cases sb <;> simp [toGen]

theorem unescape_gen (c : Char) : unescape c = Gen.C09.unescape c := by
  simp only [unescape, Gen.C09.unescape, Gen.C09.unescapeTable]
  by_cases h1 : c = 'n'
  · subst h1; rfl
  by_cases h2 : c = 'r'
  · subst h2; rfl
  by_cases h3 : c = 't'
  · subst h3; rfl
  have e1 : (Char.ofNat 110 == c) = false := by simpa [show Char.ofNat 110 = 'n' from rfl] using fun h => h1 h.symm
  have e2 : (Char.ofNat 114 == c) = false := by simpa [show Char.ofNat 114 = 'r' from rfl] using fun h => h2 h.symm
  have e3 : (Char.ofNat 116 == c) = false := by simpa [show Char.ofNat 116 = 't' from rfl] using fun h => h3 h.symm
  simp [List.find?, e1, e2, e3, h1, h2, h3]

/-- index of the first condition of an if / else-if chain that holds (= length: the final `else`) -/
def firstTrue : List Bool → Nat
  | [] => 0
  | true :: _ => 0
  | false :: r => firstTrue r + 1

section
variable (fuel : Nat) (reg : Registry) (opt : Bool) (all : List Char)

theorem scanner_gen (r : Char) (rest : List Char) (i : Nat) (st : CompSt) :
    compileLoop fuel reg opt all (r :: rest) i st =
      match firstTrue (Gen.C09.scanConds r i (i + 1 + rest.length) st.inStatement), rest with
      | 0, e :: rest' => compileLoop fuel reg opt all rest' (i + 2) { st with sb := st.sb ++ [Gen.C09.unescape e] }
      | 0, [] => .ok st
      | 1, _ =>
        if st.inStatement = 0 then
          compileLoop fuel reg opt all rest (i + 1)
            { st with stages := if st.sb.isEmpty then st.stages else st.stages ++ [Stage.lit (charsToBytes st.sb)],
                      sb := [], startStatement := i, inStatement := 1 }
        else compileLoop fuel reg opt all rest (i + 1) { st with sb := st.sb ++ ['{'], inStatement := st.inStatement + 1 }
      | 2, _ =>
        if st.inStatement = 1 then
          match closeStatement fuel reg opt all i st with
          | .error m => .error m
          | .ok st' => compileLoop fuel reg opt all rest (i + 1) { st' with sb := [], inStatement := 0 }
        else compileLoop fuel reg opt all rest (i + 1) { st with sb := st.sb ++ ['}'], inStatement := st.inStatement - 1 }
      | _, _ => compileLoop fuel reg opt all rest (i + 1) { st with sb := st.sb ++ [r] } := by
  simp only [Gen.C09.scanConds, c92, c123, c125]
  by_cases h1 : r = '\\'
  · subst h1
    cases rest with
    | nil =>
      have : ¬ ((i : Int) + 1 < ((i + 1 + ([] : List Char).length : Nat) : Int)) := by simp
      simp [firstTrue, loop_esc_last, loop_nil]
    | cons e rest' =>
      have : ((i : Int) + 1 < (i : Int) + 1 + ((rest'.length : Int) + 1)) := by omega
      simp [firstTrue, this, loop_esc, unescape_gen]
  by_cases h2 : r = '{'
  · subst h2
    by_cases h0 : st.inStatement = 0
    · simp [firstTrue, h0, loop_open0 fuel reg opt all rest i st h0]
    · simp [firstTrue, h0, loop_openN fuel reg opt all rest i st h0]
  by_cases h3 : r = '}'
  · subst h3
    by_cases h0 : st.inStatement = 0
    · have := loop_plain fuel reg opt all '}' rest i st (by decide) (by decide) (Or.inr h0)
      simp [firstTrue, h0, this]
    · have hp : 0 < st.inStatement := by omega
      by_cases h1' : st.inStatement = 1
      · rw [loop_close1 fuel reg opt all rest i st h1']
        simp [firstTrue, h1']
        try rfl
      · rw [loop_closeN fuel reg opt all rest i st (by omega)]
        simp [firstTrue, hp, h1']
  · rw [loop_plain fuel reg opt all r rest i st h1 h2 (Or.inl h3)]
    have b1 : (r == '\\') = false := by simpa using h1
    have b2 : (r == '{') = false := by simpa using h2
    have b3 : (r == '}') = false := by simpa using h3
    simp only [b1, b2, b3, Bool.false_and, firstTrue]

end

theorem argConds_gen (args : List (List Char)) :
    Gen.C09.argConds args.length = [args.isEmpty, decide (args.length = 1)] := by
  cases args with
  | nil => simp [Gen.C09.argConds]
  | cons a r =>
    simp [Gen.C09.argConds]
    refine ⟨by omega, ?_⟩
    rw [← List.length_eq_zero_iff]; omega

end Rare.C09

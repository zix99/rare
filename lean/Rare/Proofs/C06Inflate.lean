import Rare.Model.C06Inflate
import Rare.Spec.C06Deflate
import Rare.Proofs.C06Gzip
import Rare.Proofs.C06
import Rare.Model.C06File
/-! Stored-block round trip, member concatenation, trailing garbage and truncation for the model of `compress/gzip`. -/
namespace Rare.C06.Gz

theorem bitsOf_cons (b : UInt8) (s : Bytes) : bitsOf (b :: s) = byteBits b ++ bitsOf s := by
  simp [bitsOf]

theorem bitsOf_append (a b : Bytes) : bitsOf (a ++ b) = bitsOf a ++ bitsOf b := by
  simp [bitsOf]

theorem byteBits_length (b : UInt8) : (byteBits b).length = 8 := rfl

theorem bitsOf_length (s : Bytes) : (bitsOf s).length = 8 * s.length := by
  induction s with
  | nil => rfl
  | cons b s ih => rw [bitsOf_cons, List.length_append, ih, byteBits_length, List.length_cons]; omega

theorem bitsVal_testBits : ∀ n < 256, bitsVal [n.testBit 0, n.testBit 1, n.testBit 2, n.testBit 3,
    n.testBit 4, n.testBit 5, n.testBit 6, n.testBit 7] = n := by
  decide +kernel

theorem bitsVal_byteBits (b : UInt8) : bitsVal (byteBits b) = b.toNat :=
  bitsVal_testBits b.toNat b.toNat_lt

theorem byte_of_bits (b : UInt8) : UInt8.ofNat (bitsVal (byteBits b)) = b := by
  rw [bitsVal_byteBits]; simp

theorem bitsVal_append (a b : Bits) : bitsVal (a ++ b) = bitsVal a + 2 ^ a.length * bitsVal b := by
  induction a with
  | nil => simp [bitsVal]
  | cons x a ih =>
    simp only [List.cons_append, bitsVal, ih, List.length_cons, Nat.pow_succ]
    rw [Nat.mul_add, ← Nat.add_assoc]; congr 1; ac_rfl

theorem takeBits_append (l r : Bits) : takeBits l.length (l ++ r) = some (l, r) := by
  induction l with
  | nil => rfl
  | cons x l ih => simp [takeBits, ih]

/-- one byte is read back from its eight bits -/
theorem bytesOf_byteBits (b : UInt8) (r : Bits) : bytesOf (byteBits b ++ r) = b :: bytesOf r := by
  have : bytesOf (byteBits b ++ r) = UInt8.ofNat (bitsVal (byteBits b)) :: bytesOf r := rfl
  rw [this, byte_of_bits]

theorem copyStored_byteBits (n : Nat) (b : UInt8) (r : Bits) (out : Array UInt8) :
    copyStored (n + 1) (byteBits b ++ r) out = copyStored n r (out.push b) := by
  have : copyStored (n + 1) (byteBits b ++ r) out
      = copyStored n r (out.push (UInt8.ofNat (bitsVal (byteBits b)))) := rfl
  rw [this, byte_of_bits]

theorem bytesOf_bitsOf (s : Bytes) : bytesOf (bitsOf s) = s := by
  induction s with
  | nil => rfl
  | cons b s ih => rw [bitsOf_cons, bytesOf_byteBits, ih]

theorem align_bitsOf (s : Bytes) : align (bitsOf s) = bitsOf s := by
  unfold align
  rw [bitsOf_length]
  simp

theorem readBits_append (l r : Bits) : readBits l.length (l ++ r) = some (bitsVal l, r) := by
  simp [readBits, takeBits_append]

theorem bitsOf_enc16 (n : Nat) (r : Bytes) :
    bitsOf (enc16 n ++ r) = (byteBits (UInt8.ofNat (n % 256)) ++ byteBits (UInt8.ofNat (n / 256))) ++ bitsOf r := by
  simp [enc16, bitsOf]

theorem readBits16_enc16 (n : Nat) (h : n < 65536) (r : Bytes) :
    readBits 16 (bitsOf (enc16 n ++ r)) = some (n, bitsOf r) := by
  rw [bitsOf_enc16]
  have hl : (byteBits (UInt8.ofNat (n % 256)) ++ byteBits (UInt8.ofNat (n / 256))).length = 16 := rfl
  have := readBits_append (byteBits (UInt8.ofNat (n % 256)) ++ byteBits (UInt8.ofNat (n / 256))) (bitsOf r)
  rw [hl] at this
  rw [this, bitsVal_append, bitsVal_byteBits, bitsVal_byteBits, byteBits_length]
  have h1 : (UInt8.ofNat (n % 256)).toNat = n % 256 := by simp
  have h2 : (UInt8.ofNat (n / 256)).toNat = n / 256 := by
    simp only [UInt8.toNat_ofNat']; omega
  rw [h1, h2]
  congr 2
  omega

/-- the block header byte: BFINAL, BTYPE = 00, five padding bits -/
theorem readBits3_hdr (final : Bool) (r : Bytes) :
    readBits 3 (bitsOf ((if final then (1 : UInt8) else 0) :: r)) =
      some ((if final then 1 else 0), [false, false, false, false, false] ++ bitsOf r) := by
  rw [bitsOf_cons]
  cases final <;> rfl

theorem align_pad5 (r : Bytes) : align ([false, false, false, false, false] ++ bitsOf r) = bitsOf r := by
  unfold align
  have : ([false, false, false, false, false] ++ bitsOf r).length % 8 = 5 := by
    rw [List.length_append, bitsOf_length]; simp <;> omega
  rw [this]; rfl

theorem copyStored_full (c r : Bytes) (out : Array UInt8) :
    copyStored c.length (bitsOf (c ++ r)) out = (out ++ c.toArray, some (bitsOf r)) := by
  induction c generalizing out with
  | nil => simp [copyStored]
  | cons b c ih =>
    rw [List.cons_append, bitsOf_cons, List.length_cons, copyStored_byteBits, ih]
    simp

/-- after the padding, LEN and NLEN the block copies `n` bytes of what follows -/
theorem storedBlock_lens (n : Nat) (hn : n ≤ 65535) (q : Bytes) (out : Array UInt8) :
    storedBlock ([false, false, false, false, false] ++ bitsOf (enc16 n ++ enc16 (65535 - n) ++ q)) out
      = copyStored n (bitsOf q) out := by
  unfold storedBlock
  rw [align_pad5]
  simp only [List.append_assoc]
  rw [readBits16_enc16 _ (by omega)]
  simp only []
  rw [readBits16_enc16 _ (by omega)]
  simp only [ne_eq, not_true_eq_false, ↓reduceIte]

theorem storedBlock_enc (c r : Bytes) (out : Array UInt8) (hc : c.length ≤ 65535) :
    storedBlock ([false, false, false, false, false] ++ bitsOf (enc16 c.length ++ enc16 (65535 - c.length) ++ c ++ r)) out
      = (out ++ c.toArray, some (bitsOf r)) := by
  rw [List.append_assoc _ c r, storedBlock_lens _ hc, copyStored_full]

theorem storedEnc_append (final : Bool) (c r : Bytes) :
    storedEnc final c ++ r = (if final then (1 : UInt8) else 0) :: (enc16 c.length ++ enc16 (65535 - c.length) ++ c ++ r) := by
  simp [storedEnc]

theorem inflate_storedEnc (final : Bool) (c r : Bytes) (out : Array UInt8) (fuel : Nat) (hc : c.length ≤ 65535) :
    inflate (fuel + 1) (bitsOf (storedEnc final c ++ r)) out =
      if final then (out ++ c.toArray, some (bitsOf r)) else inflate fuel (bitsOf r) (out ++ c.toArray) := by
  rw [storedEnc_append, inflate, readBits3_hdr]
  cases final
  · simp only [Bool.false_eq_true, ↓reduceIte]
    rw [storedBlock_enc c r out hc]
    simp
  · simp only [↓reduceIte]
    rw [storedBlock_enc c r out hc]

theorem inflate_deflateStored (chunks : List Bytes) (hne : chunks ≠ []) (hc : ∀ c ∈ chunks, c.length ≤ 65535)
    (r : Bytes) (out : Array UInt8) (fuel : Nat) (hf : chunks.length ≤ fuel) :
    inflate fuel (bitsOf (deflateStored chunks ++ r)) out = (out ++ chunks.flatten.toArray, some (bitsOf r)) := by
  induction chunks generalizing out fuel with
  | nil => exact absurd rfl hne
  | cons c cs ih =>
    cases fuel with
    | zero => simp at hf
    | succ fuel =>
      cases cs with
      | nil =>
        simp only [deflateStored, List.flatten_cons, List.flatten_nil, List.append_nil]
        exact inflate_storedEnc true c r out fuel (hc c (by simp))
      | cons c2 cs =>
        simp only [deflateStored, List.append_assoc]
        rw [inflate_storedEnc false c _ out fuel (hc c (by simp)), if_neg (by simp)]
        have := ih (by simp) (fun x hx => hc x (by simp [hx])) (out ++ c.toArray) fuel (by simp at hf ⊢; omega)
        rw [this]
        simp

/-! ## the member: trailer, next header -/

theorem storedEnc_length (final : Bool) (c : Bytes) : (storedEnc final c).length = 5 + c.length := by
  simp [storedEnc, enc16]; omega

theorem deflateStored_length_ge (chunks : List Bytes) : chunks.length ≤ (deflateStored chunks).length := by
  induction chunks with
  | nil => simp
  | cons c cs ih =>
    cases cs with
    | nil => simp [deflateStored, storedEnc_length]; omega
    | cons c2 cs =>
      simp only [deflateStored, List.length_append, storedEnc_length, List.length_cons] at ih ⊢
      omega

theorem le32_enc32 (n : Nat) (h : n < 4294967296) (x : Bytes) : le32 (enc32 n ++ x) = n := by
  simp only [le32, enc32, List.cons_append, List.nil_append, List.getD_cons_zero, List.getD_cons_succ,
    UInt8.toNat_ofNat', Nat.mod_mod]
  omega

theorem enc32_length (n : Nat) : (enc32 n).length = 4 := rfl

theorem trailer_length (d : Bytes) : (trailer d).length = 8 := rfl

theorem trailer_check (d x : Bytes) :
    le32 (trailer d ++ x) = (crcUpdate 0 d).toNat ∧ le32 ((trailer d ++ x).drop 4) = d.length % 4294967296 := by
  constructor
  · unfold trailer
    rw [List.append_assoc, le32_enc32 _ (crcUpdate 0 d).toNat_lt]
  · have : (trailer d ++ x).drop 4 = enc32 (d.length % 4294967296) ++ x := by
      simp [trailer, enc32]
    rw [this, le32_enc32 _ (Nat.mod_lt _ (by omega))]

/-- after a complete stream of stored blocks the eight bytes that follow decide -/
theorem memberBody_deflateStored (cs : List Bytes) (hok : ChunksOk cs) (x : Bytes) :
    memberBody (deflateStored cs ++ x) =
      match readFull 8 x with
      | .error _ => (cs.flatten, none)
      | .ok (t, rest) =>
        if le32 t = (crcUpdate 0 cs.flatten).toNat ∧ le32 (t.drop 4) = cs.flatten.length % 4294967296 then
          (cs.flatten, some rest)
        else (cs.flatten, none) := by
  unfold memberBody
  dsimp only
  rw [inflate_deflateStored cs hok.1 hok.2 _ #[] _ (by
    rw [bitsOf_length, List.length_append]
    have := deflateStored_length_ge cs
    omega)]
  simp only [Array.empty_append, List.toList_toArray, align_bitsOf, bytesOf_bitsOf]
  cases readFull 8 x <;> rfl

theorem memberBody_stored (chunks : List Bytes) (hok : ChunksOk chunks) (rest : Bytes) :
    memberBody (deflateStored chunks ++ trailer chunks.flatten ++ rest) = (chunks.flatten, some rest) := by
  rw [List.append_assoc, memberBody_deflateStored chunks hok, readFull_append 8 (trailer chunks.flatten) rest rfl]
  have hc := trailer_check chunks.flatten []
  simp only [List.append_nil] at hc
  simp [hc.1, hc.2]

/-! ## the file: members one after the other, then the end of the file or something that is no header -/

theorem noEOF_ne_eof (e : HdrErr) : noEOF e ≠ .eof := by cases e <;> simp [noEOF]

theorem stageExtra_ne_eof (flg : UInt8) (r : Bytes) (dg : UInt32) : stageExtra flg r dg ≠ .error .eof := by
  unfold stageExtra
  split
  · split
    · intro h; injection h with h; exact noEOF_ne_eof _ h
    · split
      · intro h; injection h with h; exact noEOF_ne_eof _ h
      · intro h; cases h
  · intro h; cases h

theorem stageString_ne_eof (flg bit : UInt8) (r : Bytes) (dg : UInt32) : stageString flg bit r dg ≠ .error .eof := by
  unfold stageString
  split
  · split
    · intro h; injection h with h; exact noEOF_ne_eof _ h
    · intro h; cases h
  · intro h; cases h

theorem stageCrc_ne_eof (flg : UInt8) (r : Bytes) (dg : UInt32) : stageCrc flg r dg ≠ .error .eof := by
  unfold stageCrc
  split
  · split
    · intro h; injection h with h; exact noEOF_ne_eof _ h
    · split <;> (intro h; cases h)
  · intro h; cases h

theorem readHeaderRest_eof (s : Bytes) : readHeaderRest s = .error .eof ↔ s = [] := by
  constructor
  · intro h
    unfold readHeaderRest at h
    split at h
    · rename_i e he
      unfold readFull at he
      split at he
      · cases he
      · split at he
        · assumption
        · injection he with he; injection h with h; rw [← he] at h; cases h
    · split at h
      · cases h
      · simp only [] at h
        split at h
        · rename_i e he; injection h with h; subst h; exact absurd he (stageExtra_ne_eof _ _ _)
        · split at h
          · rename_i e he; injection h with h; subst h; exact absurd he (stageString_ne_eof _ _ _ _)
          · split at h
            · rename_i e he; injection h with h; subst h; exact absurd he (stageString_ne_eof _ _ _ _)
            · exact absurd h (stageCrc_ne_eof _ _ _)
  · intro h; subst h; rfl

/-- what follows the last member: nothing, or bytes `gzip.NewReader` would not take for a header -/
def NoHeader (tail : Bytes) : Prop := ∀ r, readHeaderRest tail ≠ .ok r

/-- complete members are read one after the other; how the stream ends is decided by what follows the last of them (`z`) -/
theorem gunzipFrom_members {z d : Bytes} {e : Bool} {k : Nat}
    (hz : ∀ cs, ChunksOk cs → ∀ fuel, k ≤ fuel →
      gunzipFrom fuel (deflateStored cs ++ trailer cs.flatten ++ z) = (cs.flatten ++ d, e))
    (ms : List (Hdr × List Bytes)) (hms : MembersOk ms) (cs : List Bytes) (hcs : ChunksOk cs)
    (fuel : Nat) (hf : ms.length + k ≤ fuel) :
    gunzipFrom fuel (deflateStored cs ++ trailer cs.flatten ++ (fileStored ms ++ z))
      = (cs.flatten ++ (fileData ms ++ d), e) := by
  induction ms generalizing cs fuel with
  | nil => simpa [fileStored, fileData] using hz cs hcs fuel (by simpa using hf)
  | cons m ms ih =>
    cases fuel with
    | zero => simp at hf
    | succ fuel =>
      rw [gunzipFrom, memberBody_stored cs hcs]
      have hm := hms m (by simp)
      simp only [fileStored, memberStored, List.append_assoc]
      rw [readHeaderRest_encode m.1 hm.1]
      simp only []
      have := ih (fun x hx => hms x (by simp [hx])) m.2 hm.2 fuel (by simp at hf ⊢; omega)
      simp only [List.append_assoc] at this
      rw [this]
      simp [fileData]

theorem gunzipFrom_stored (ms : List (Hdr × List Bytes)) (hms : MembersOk ms) (cs : List Bytes) (hcs : ChunksOk cs)
    (tail : Bytes) (ht : NoHeader tail) (fuel : Nat) (hf : ms.length + 1 ≤ fuel) :
    gunzipFrom fuel (deflateStored cs ++ trailer cs.flatten ++ (fileStored ms ++ tail))
      = (cs.flatten ++ fileData ms, decide (tail ≠ [])) := by
  rw [gunzipFrom_members (d := []) (k := 1) ?_ ms hms cs hcs fuel hf, List.append_nil]
  intro cs hcs fuel hf
  obtain ⟨fuel, rfl⟩ : ∃ f, fuel = f + 1 := ⟨fuel - 1, by omega⟩
  rw [gunzipFrom, memberBody_stored cs hcs, List.append_nil]
  dsimp only
  cases hr : readHeaderRest tail with
  | ok r => exact absurd hr (ht r)
  | error e =>
    have hne : e ≠ .eof → tail ≠ [] := fun he h => by rw [(readHeaderRest_eof tail).2 h] at hr; cases hr; exact he rfl
    cases e with
    | eof => simp [(readHeaderRest_eof tail).1 hr]
    | unexpectedEOF => simp [hne nofun]
    | header => simp [hne nofun]

theorem encode_length_pos (h : Hdr) : 0 < h.encode.length := by
  simp [Hdr.encode, Hdr.body] <;> omega

theorem fileStored_length_ge (ms : List (Hdr × List Bytes)) : ms.length ≤ (fileStored ms).length := by
  induction ms with
  | nil => simp
  | cons m ms ih =>
    have := encode_length_pos m.1
    simp only [fileStored, memberStored, List.length_append, List.length_cons] at ih ⊢
    omega

/-- a file of stored members followed by `tail` -/
theorem gunzip_fileStored (m : Hdr × List Bytes) (ms : List (Hdr × List Bytes)) (hms : MembersOk (m :: ms))
    (tail : Bytes) (ht : NoHeader tail) :
    gunzip (fileStored (m :: ms) ++ tail) = some (fileData (m :: ms), decide (tail ≠ [])) := by
  have hm := hms m (by simp)
  unfold gunzip
  simp only [fileStored, memberStored, List.append_assoc]
  rw [readHeaderRest_encode m.1 hm.1]
  simp only []
  have := gunzipFrom_stored ms (fun x hx => hms x (by simp [hx])) m.2 hm.2 tail ht
  simp only [List.append_assoc] at this
  rw [this]
  · simp [fileData]
  · have := fileStored_length_ge ms
    simp only [List.length_append]
    omega

/-! ## truncation: every proper prefix of a member that still has its header fails, after a prefix of the data -/

theorem takeBits_none : ∀ (n : Nat) (s : Bits), s.length < n → takeBits n s = none
  | 0, _, h => by simp at h
  | n + 1, [], _ => rfl
  | n + 1, b :: s, h => by
    simp only [List.length_cons] at h
    simp [takeBits, takeBits_none n s (by omega)]

theorem readBits_none (n : Nat) (s : Bits) (h : s.length < n) : readBits n s = none := by
  simp [readBits, takeBits_none n s h]

theorem copyStored_short (q : Bytes) (n : Nat) (out : Array UInt8) (h : q.length < n) :
    copyStored n (bitsOf q) out = (out ++ q.toArray, none) := by
  induction q generalizing n out with
  | nil =>
    cases n with
    | zero => simp at h
    | succ n => simp [bitsOf, copyStored]
  | cons b q ih =>
    cases n with
    | zero => simp at h
    | succ n =>
      rw [bitsOf_cons, copyStored_byteBits, ih n _ (by simp at h; omega)]
      simp

theorem readBits16_two (a b : UInt8) (q : Bytes) :
    ∃ v, readBits 16 (bitsOf (a :: b :: q)) = some (v, bitsOf q) := by
  rw [bitsOf_cons, bitsOf_cons, ← List.append_assoc]
  have := readBits_append (byteBits a ++ byteBits b) (bitsOf q)
  exact ⟨_, this⟩

/-- the block is cut inside LEN / NLEN -/
theorem storedBlock_cut_hdr (q : Bytes) (hq : q.length < 4) (out : Array UInt8) :
    storedBlock ([false, false, false, false, false] ++ bitsOf q) out = (out, none) := by
  unfold storedBlock
  rw [align_pad5]
  match q, hq with
  | [], _ => rfl
  | [a], _ => rw [readBits_none 16 _ (by simp [bitsOf_length])]
  | a :: b :: q', hq =>
    obtain ⟨v, hv⟩ := readBits16_two a b q'
    rw [hv]
    simp only []
    rw [readBits_none 16 _ (by simp [bitsOf_length] at hq ⊢; omega)]

/-- the block is cut inside its data: the bytes that are there are delivered, then the read fails -/
theorem storedBlock_cut_data (c q : Bytes) (hc : c.length ≤ 65535) (hq : q.length < c.length) (out : Array UInt8) :
    storedBlock ([false, false, false, false, false] ++ bitsOf (enc16 c.length ++ enc16 (65535 - c.length) ++ q)) out
      = (out ++ q.toArray, none) := by
  rw [storedBlock_lens _ hc, copyStored_short q c.length out hq]

theorem inflate_zero (s : Bits) (out : Array UInt8) : inflate 0 s out = (out, none) := rfl

/-- one block cut anywhere before its end -/
theorem inflate_cut_block (f : Bool) (c R : Bytes) (hc : c.length ≤ 65535) (j : Nat) (hj : j < 5 + c.length)
    (out : Array UInt8) (fuel : Nat) :
    ∃ d : Bytes, inflate fuel (bitsOf ((storedEnc f c ++ R).take j)) out = (out ++ d.toArray, none) ∧ d <+: c := by
  cases fuel with
  | zero => exact ⟨[], by simp [inflate_zero], List.nil_prefix⟩
  | succ fuel =>
    cases j with
    | zero => exact ⟨[], by simp [bitsOf, inflate, readBits, takeBits], List.nil_prefix⟩
    | succ j =>
      rw [storedEnc_append, List.take_succ_cons, inflate, readBits3_hdr]
      have h0 : (if f = true then 1 else 0) / 2 = 0 := by cases f <;> rfl
      simp only [h0]
      by_cases h4 : j < 4
      · have hl : ((enc16 c.length ++ enc16 (65535 - c.length) ++ c ++ R).take j).length < 4 := by
          rw [List.length_take]; omega
        rw [storedBlock_cut_hdr _ hl]
        exact ⟨[], by simp, List.nil_prefix⟩
      · have ht : (enc16 c.length ++ enc16 (65535 - c.length) ++ c ++ R).take j
            = enc16 c.length ++ enc16 (65535 - c.length) ++ c.take (j - 4) := by
          have e4 : (enc16 c.length ++ enc16 (65535 - c.length)).length = 4 := rfl
          rw [List.append_assoc (enc16 c.length ++ enc16 (65535 - c.length)), List.take_append, e4,
            List.take_of_length_le (by rw [e4]; omega), List.take_append_of_le_length (by omega)]
        rw [ht, storedBlock_cut_data c _ hc (by rw [List.length_take]; omega)]
        exact ⟨c.take (j - 4), rfl, List.take_prefix _ _⟩

theorem deflateStored_length (cs : List Bytes) : (deflateStored cs).length = (cs.map fun c => 5 + c.length).sum := by
  induction cs with
  | nil => rfl
  | cons c cs ih =>
    cases cs with
    | nil => simp [deflateStored, storedEnc_length]
    | cons c2 cs => simp only [deflateStored, List.length_append, storedEnc_length, ih, List.map_cons, List.sum_cons]

/-- a stream of stored blocks cut anywhere before its end -/
theorem inflate_cut (cs : List Bytes) (hc : ∀ c ∈ cs, c.length ≤ 65535) (j : Nat) (hj : j < (deflateStored cs).length)
    (out : Array UInt8) (fuel : Nat) :
    ∃ d : Bytes, inflate fuel (bitsOf ((deflateStored cs).take j)) out = (out ++ d.toArray, none) ∧ d <+: cs.flatten := by
  induction cs generalizing j out fuel with
  | nil => simp [deflateStored] at hj
  | cons c cs ih =>
    have hcc := hc c (by simp)
    cases cs with
    | nil =>
      simp only [deflateStored, storedEnc_length] at hj
      have := inflate_cut_block true c [] hcc j hj out fuel
      simp only [List.append_nil] at this
      obtain ⟨d, h1, h2⟩ := this
      exact ⟨d, by simpa [deflateStored] using h1, by simpa using h2⟩
    | cons c2 cs =>
      by_cases hb : j < 5 + c.length
      · obtain ⟨d, h1, h2⟩ := inflate_cut_block false c (deflateStored (c2 :: cs)) hcc j hb out fuel
        refine ⟨d, by simpa [deflateStored] using h1, ?_⟩
        exact h2.trans (by simp)
      · cases fuel with
        | zero => exact ⟨[], by simp [inflate_zero], List.nil_prefix⟩
        | succ fuel =>
          have ht : (deflateStored (c :: c2 :: cs)).take j
              = storedEnc false c ++ (deflateStored (c2 :: cs)).take (j - (5 + c.length)) := by
            simp only [deflateStored]
            rw [List.take_append, storedEnc_length, List.take_of_length_le (by rw [storedEnc_length]; omega)]
          rw [ht, inflate_storedEnc false c _ out fuel hcc, if_neg (by simp)]
          have hj' : j - (5 + c.length) < (deflateStored (c2 :: cs)).length := by
            simp only [deflateStored, List.length_append, storedEnc_length] at hj
            omega
          obtain ⟨d, h1, h2⟩ := ih (fun x hx => hc x (by simp [hx])) (j - (5 + c.length)) hj' (out ++ c.toArray) fuel
          refine ⟨c ++ d, ?_, ?_⟩
          · rw [h1]; simp
          · simp only [List.flatten_cons] at h2 ⊢
            exact (List.prefix_append_right_inj c).2 h2

theorem readFull_short (n : Nat) (s : Bytes) (h : s.length < n) : ∃ e, readFull n s = .error e := by
  unfold readFull
  rw [if_neg (by omega)]
  split <;> exact ⟨_, rfl⟩

/-- the member body (DEFLATE stream + trailer) cut anywhere before its end -/
theorem memberBody_cut (cs : List Bytes) (hok : ChunksOk cs) (j : Nat)
    (hj : j < (deflateStored cs ++ trailer cs.flatten).length) :
    ∃ d : Bytes, memberBody ((deflateStored cs ++ trailer cs.flatten).take j) = (d, none) ∧ d <+: cs.flatten := by
  by_cases hd : j < (deflateStored cs).length
  · rw [List.take_append_of_le_length (by omega)]
    obtain ⟨d, h1, h2⟩ := inflate_cut cs hok.2 j hd #[] ((bitsOf ((deflateStored cs).take j)).length + 1)
    unfold memberBody
    dsimp only
    rw [h1]
    exact ⟨d, by simp, h2⟩
  · rw [List.take_append, List.take_of_length_le (by omega), memberBody_deflateStored cs hok]
    have hl : ((trailer cs.flatten).take (j - (deflateStored cs).length)).length < 8 := by
      rw [List.length_take, trailer_length]
      rw [List.length_append, trailer_length] at hj
      omega
    obtain ⟨e, he⟩ := readFull_short 8 _ hl
    rw [he]
    exact ⟨cs.flatten, rfl, List.prefix_refl _⟩

/-! ## truncation of a file of several members -/

/-- a proper, non-empty prefix of a header is no header (the encodings of headers are prefix-free) -/
theorem noHeader_cut_header (h : Hdr) (hw : h.WF) (j : Nat) (hj : j < h.encode.length) : NoHeader (h.encode.take j) := by
  intro r hr
  obtain ⟨hd, hdw, hs⟩ := readHeaderRest_sound _ _ hr
  have e1 : h.encode = hd.encode ++ (r ++ h.encode.drop j) := by
    rw [← List.append_assoc, ← hs, List.take_append_drop]
  have h1 := readHeaderRest_encode h hw []
  rw [List.append_nil, e1, readHeaderRest_encode hd hdw] at h1
  injection h1 with h1
  have : h.encode.drop j = [] := (List.append_eq_nil_iff.1 h1).2
  have := List.drop_eq_nil_iff.1 this
  omega

/-- complete members, then a member whose body is cut: everything decoded so far, then a read error -/
theorem gunzipFrom_stored_cut (ms : List (Hdr × List Bytes)) (hms : MembersOk ms) (cs : List Bytes) (hcs : ChunksOk cs)
    (h : Hdr) (hw : h.WF) (Y d : Bytes) (hY : memberBody Y = (d, none)) (fuel : Nat) (hf : ms.length + 2 ≤ fuel) :
    gunzipFrom fuel (deflateStored cs ++ trailer cs.flatten ++ (fileStored ms ++ (h.encode ++ Y)))
      = (cs.flatten ++ fileData ms ++ d, true) := by
  rw [gunzipFrom_members (k := 2) ?_ ms hms cs hcs fuel hf, List.append_assoc]
  intro cs hcs fuel hf
  obtain ⟨fuel, rfl⟩ : ∃ f, fuel = f + 2 := ⟨fuel - 2, by omega⟩
  rw [gunzipFrom, memberBody_stored cs hcs]
  dsimp only
  rw [readHeaderRest_encode h hw]
  simp only [gunzipFrom, hY]

theorem memberStored_length (h : Hdr) (cs : List Bytes) :
    (memberStored h cs).length = h.encode.length + (deflateStored cs ++ trailer cs.flatten).length := by
  simp [memberStored, List.append_assoc]

/-- **A file of gzip members cut anywhere**: `ms1` complete members, then `j` bytes of the next member `m`
    (`j` < its length; for the very first member the header must be there – `gzip_cut_in_header_is_plain`).
    The data of the complete members and a prefix of `m`'s data are delivered; the stream ends with a read error
    UNLESS the cut is exactly at the member boundary (`j = 0`), where what is left is a complete gzip file. -/
theorem gunzip_cut_file (ms1 : List (Hdr × List Bytes)) (m : Hdr × List Bytes) (hms : MembersOk (ms1 ++ [m])) (j : Nat)
    (hj : j < (memberStored m.1 m.2).length) (hfirst : ms1 = [] → m.1.encode.length ≤ j) :
    ∃ d : Bytes, d <+: m.2.flatten ∧
      gunzip (fileStored ms1 ++ (memberStored m.1 m.2).take j) = some (fileData ms1 ++ d, decide (j ≠ 0)) := by
  have hm := hms m (by simp)
  by_cases hh : m.1.encode.length ≤ j
  · -- the header of `m` is there, its body is cut
    have hjb : j - m.1.encode.length < (deflateStored m.2 ++ trailer m.2.flatten).length := by
      rw [memberStored_length] at hj; omega
    obtain ⟨d, h1, h2⟩ := memberBody_cut m.2 hm.2 _ hjb
    have hcut : (memberStored m.1 m.2).take j
        = m.1.encode ++ (deflateStored m.2 ++ trailer m.2.flatten).take (j - m.1.encode.length) := by
      unfold memberStored
      rw [List.append_assoc, List.take_append, List.take_of_length_le hh]
    have hj0 : j ≠ 0 := by have := encode_length_pos m.1; omega
    refine ⟨d, h2, ?_⟩
    rw [hcut]
    simp only [hj0, ne_eq, not_false_eq_true, decide_true]
    cases ms1 with
    | nil =>
      simp only [fileStored, List.nil_append, fileData, List.map_nil, List.flatten_nil]
      unfold gunzip
      rw [readHeaderRest_encode m.1 hm.1]
      simp only [gunzipFrom, h1]
    | cons m0 ms =>
      have hm0 := hms m0 (by simp)
      unfold gunzip
      simp only [fileStored, memberStored, List.append_assoc]
      rw [readHeaderRest_encode m0.1 hm0.1]
      simp only []
      have := gunzipFrom_stored_cut ms (fun x hx => hms x (by simp [hx])) m0.2 hm0.2 m.1 hm.1 _ d h1
      simp only [List.append_assoc] at this
      rw [this]
      · simp [fileData]
      · have := fileStored_length_ge ms
        have := encode_length_pos m.1
        simp only [List.length_append]
        omega
  · -- the cut is inside the header of `m` (or right before it): `ms1` is a complete file followed by a non-header
    have hlt : j < m.1.encode.length := by omega
    cases ms1 with
    | nil => exact absurd (hfirst rfl) hh
    | cons m0 ms =>
      have hcut : (memberStored m.1 m.2).take j = m.1.encode.take j := by
        unfold memberStored
        rw [List.append_assoc, List.take_append_of_le_length (by omega)]
      refine ⟨[], List.nil_prefix, ?_⟩
      rw [hcut, gunzip_fileStored m0 ms (fun x hx => hms x (by
        simp only [List.cons_append, List.mem_cons, List.mem_append] at hx ⊢
        rcases hx with hx | hx
        · exact Or.inl hx
        · exact Or.inr (Or.inl hx))) _ (noHeader_cut_header m.1 hm.1 j hlt)]
      have : (m.1.encode.take j ≠ []) ↔ j ≠ 0 := by
        have := encode_length_pos m.1
        rw [ne_eq, List.take_eq_nil_iff]
        constructor
        · intro h1 h2; exact h1 (Or.inl h2)
        · intro h1 h2
          rcases h2 with h2 | h2
          · exact h1 h2
          · rw [h2] at this; simp at this
      simp [this]

/-- **A gzip file cut anywhere after its header and before its end fails**, after delivering a prefix of its data. -/
theorem gunzip_cut (h : Hdr) (hw : h.WF) (cs : List Bytes) (hok : ChunksOk cs) (k : Nat)
    (hk1 : h.encode.length ≤ k) (hk2 : k < (memberStored h cs).length) :
    ∃ d : Bytes, gunzip ((memberStored h cs).take k) = some (d, true) ∧ d <+: cs.flatten := by
  obtain ⟨d, hd, hg⟩ := gunzip_cut_file [] (h, cs) (by intro m hm; simp at hm; subst hm; exact ⟨hw, hok⟩) k hk2 (fun _ => hk1)
  have hk0 : k ≠ 0 := by have := encode_length_pos h; omega
  exact ⟨d, by simpa [fileStored, fileData, hk0] using hg, hd⟩

/-- every cut point of a file of members is of that form -/
theorem fileStored_cut_decompose (ms : List (Hdr × List Bytes)) (k : Nat) (hk : k < (fileStored ms).length) :
    ∃ ms1 m ms2 j, ms = ms1 ++ m :: ms2 ∧ k = (fileStored ms1).length + j ∧ j < (memberStored m.1 m.2).length ∧
      (fileStored ms).take k = fileStored ms1 ++ (memberStored m.1 m.2).take j := by
  induction ms generalizing k with
  | nil => simp [fileStored] at hk
  | cons m ms ih =>
    by_cases hlt : k < (memberStored m.1 m.2).length
    · refine ⟨[], m, ms, k, rfl, by simp [fileStored], hlt, ?_⟩
      simp only [fileStored, List.nil_append]
      rw [List.take_append_of_le_length (by omega)]
    · simp only [fileStored, List.length_append] at hk
      obtain ⟨ms1, m', ms2, j, h1, h2, h3, h4⟩ := ih (k - (memberStored m.1 m.2).length) (by omega)
      refine ⟨m :: ms1, m', ms2, j, by simp [h1], by simp only [fileStored, List.length_append]; omega, h3, ?_⟩
      simp only [fileStored]
      rw [List.take_append, List.take_of_length_le (by omega), h4, List.append_assoc]

end Rare.C06.Gz

namespace Rare.C06

/-- what `rare -z` hands on for a file whose bytes the decoder model accepts as gzip -/
theorem runFile_of_gunzip (name : Path) (s d : Bytes) (e : Bool) (hg : Gz.gunzip s = some (d, e)) :
    (runFile true name (FileOracle.ofBytes s)).lines = C04.splitLines d ∧
    (runFile true name (FileOracle.ofBytes s)).errs = (if e then 1 else 0) := by
  have hh : Gz.headerOk s = true := by
    unfold Gz.gunzip at hg
    cases hr : Gz.readHeaderRest s with
    | error _ => simp [hr] at hg
    | ok r => simp [Gz.headerOk, Gz.readHeader, hr]
  have ho : readOutcome (FileOracle.ofBytes s) true = if e then .readErr d else .ok d := by
    simp [readOutcome, readOutcomeG, openFileToReaderG, FileOracle.ofBytes, FileOracle.gzHeaderOk, hh, streamOf,
      gzAnswers, hg]
  rw [runFile_lines, runFile_errs, ho]
  cases e <;> exact ⟨rfl, rfl⟩

end Rare.C06

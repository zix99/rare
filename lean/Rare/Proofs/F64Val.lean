import Rare.Proofs.F64Round
/-!
Values of the software binary64 model: fields of a pattern, the exact value `toRat`, the round trip
`ofRat ∘ toRat`, monotonicity of rounding in the float order, representability of integers and
dyadic rationals.
-/
namespace Rare.F64

/-! ### fields -/

theorem mag_lt (x : F64) : x.mag < P63 := by unfold mag; omega

theorem sign_ofSM (s : Bool) {m : Nat} (_h : m < P63) : (ofSM s m).sign = s := by
  unfold ofSM sign
  cases s <;> simp <;> omega

theorem mag_ofSM (s : Bool) {m : Nat} (h : m < P63) : (ofSM s m).mag = m := by
  unfold ofSM mag
  cases s <;> simp <;> omega

theorem ofSM_sign_mag (x : F64) : ofSM x.sign x.mag = x := by
  obtain ⟨b, hb⟩ := x
  unfold ofSM sign mag
  simp only [F64.mk.injEq]
  by_cases h : P63 ≤ b <;> simp [h] <;> omega

theorem key_ofSM (s : Bool) {m : Nat} (h : m < P63) :
    (ofSM s m).key = if s then -(m : Int) else (m : Int) := by
  unfold key; rw [sign_ofSM s h, mag_ofSM s h]

theorem isNaN_ofSM (s : Bool) {m : Nat} (h : m ≤ InfMag) : (ofSM s m).isNaN = false := by
  unfold isNaN; rw [mag_ofSM s (by omega)]; simp; omega

/-! ### decomposition of a magnitude pattern -/

theorem mag_decomp (m : Nat) :
    m = magScale m * P52 + magSig m ∧ (magScale m = 0 ∨ P52 ≤ magSig m) ∧ magSig m < P53 := by
  unfold magSig magScale
  omega

theorem magSig_pos {m : Nat} (h : 0 < m) : 0 < magSig m := by
  have := mag_decomp m; omega

theorem magScale_le {m : Nat} (h : m < InfMag) : magScale m ≤ 2045 := by
  unfold magScale; omega

/-! ### the exact value -/

theorem magVal_zero : magVal 0 = 0 := by
  unfold magVal magSig magScale
  simp [Rat.div_def]

theorem magVal_pos {m : Nat} (h : 0 < m) : 0 < magVal m := by
  unfold magVal
  rw [Rat.lt_div_iff two1074_pos, Rat.zero_mul]
  exact natCast_pos_of_pos (Nat.mul_pos (magSig_pos h) (Nat.pow_pos (by decide)))

theorem magVal_nonneg (m : Nat) : 0 ≤ magVal m := by
  by_cases h : m = 0
  · subst h; rw [magVal_zero]; exact Rat.le_refl
  · exact Rat.le_of_lt (magVal_pos (by omega))

theorem roundMag_zero : roundMag 0 = 0 := by
  have := rawMag_exact 0 0 (by omega) (Or.inl rfl)
  simp [Rat.div_def] at this
  rw [roundMag_eq, this]; omega

/-- Every finite magnitude pattern is the rounding of its own value. -/
theorem roundMag_magVal {m : Nat} (h : m < InfMag) : roundMag (magVal m) = m := by
  obtain ⟨h1, h2, h3⟩ := mag_decomp m
  have := rawMag_exact (magScale m) (magSig m) h3 h2
  unfold magVal
  rw [roundMag_eq, this]; omega

theorem toRat_eq_zero_of_mag {x : F64} (h : x.mag = 0) : x.toRat = 0 := by
  unfold toRat; rw [h, magVal_zero]; split <;> simp

theorem toRat_of_pos {x : F64} (h : x.sign = false) : x.toRat = magVal x.mag := by
  unfold toRat; simp [h]

theorem toRat_of_neg {x : F64} (h : x.sign = true) : x.toRat = -(magVal x.mag) := by
  unfold toRat; simp [h]

theorem absRat_toRat (x : F64) : absRat x.toRat = magVal x.mag := by
  have hn := magVal_nonneg x.mag
  unfold absRat toRat
  split <;> split <;> grind

theorem toRat_neg_iff (x : F64) : x.toRat < 0 ↔ (x.sign = true ∧ x.mag ≠ 0) := by
  constructor
  · intro h
    cases hs : x.sign
    · rw [toRat_of_pos hs] at h; have := magVal_nonneg x.mag; grind
    · refine ⟨rfl, ?_⟩
      intro hm; rw [toRat_eq_zero_of_mag hm] at h; grind
  · rintro ⟨hs, hm⟩
    rw [toRat_of_neg hs]
    have := magVal_pos (m := x.mag) (by omega)
    grind

theorem toRat_eq_zero_iff (x : F64) : x.toRat = 0 ↔ x.mag = 0 := by
  constructor
  · intro h
    apply Classical.byContradiction
    intro hm
    have := magVal_pos (m := x.mag) (by omega)
    unfold toRat at h
    split at h <;> grind
  · exact toRat_eq_zero_of_mag

/-! ### round trip -/

/-- **(a)** Rounding the exact value of a finite float gives the float back, when an exact zero is
    given the float's own sign. -/
theorem ofRatS_toRat (x : F64) (hf : x.isFinite = true) : ofRatS x.sign x.toRat = x := by
  have hlt : x.mag < InfMag := by simpa [isFinite] using hf
  unfold ofRatS
  by_cases hm : x.mag = 0
  · rw [if_pos (toRat_eq_zero_of_mag hm)]
    unfold zero; rw [← hm]; exact ofSM_sign_mag x
  · rw [if_neg (by rw [toRat_eq_zero_iff]; exact hm), absRat_toRat, roundMag_magVal hlt]
    have : decide (x.toRat < 0) = x.sign := by
      cases hs : x.sign
      · simp; intro h; have := (toRat_neg_iff x).mp h; simp [hs] at this
      · simp; exact (toRat_neg_iff x).mpr ⟨hs, hm⟩
    rw [this]; exact ofSM_sign_mag x

/-- **(a)** `ofRat (toRat x) = x` for every finite `x` other than `-0`… -/
theorem ofRat_toRat (x : F64) (hf : x.isFinite = true) (hz : ¬(x.sign = true ∧ x.mag = 0)) :
    ofRat x.toRat = x := by
  have := ofRatS_toRat x hf
  unfold ofRat
  by_cases hm : x.mag = 0
  · have hs : x.sign = false := by
      cases h : x.sign
      · rfl
      · exact absurd ⟨h, hm⟩ hz
    rw [hs] at this; exact this
  · unfold ofRatS at this ⊢
    rw [if_neg (by rw [toRat_eq_zero_iff]; exact hm)] at this ⊢
    exact this

/-- … and `-0`, whose value is `0`, comes back as `+0`. -/
theorem ofRat_toRat_negZero : ofRat (zero true).toRat = zero false := by
  have : (zero true).mag = 0 := by unfold zero; exact mag_ofSM true (by omega)
  rw [toRat_eq_zero_of_mag this]
  unfold ofRat ofRatS; simp

/-! ### rounding is monotone in the float order -/

theorem roundMag_lt_P63 (q : Rat) : roundMag q < P63 := by
  have := roundMag_le_inf q; omega

theorem isNaN_ofRatS (s : Bool) (q : Rat) : (ofRatS s q).isNaN = false := by
  unfold ofRatS
  split
  · unfold zero; exact isNaN_ofSM _ (by omega)
  · exact isNaN_ofSM _ (roundMag_le_inf _)

theorem key_ofRatS (s : Bool) (q : Rat) :
    (ofRatS s q).key = if q < 0 then -(roundMag (-q) : Int) else (roundMag q : Int) := by
  unfold ofRatS
  by_cases h0 : q = 0
  · subst h0
    rw [if_pos rfl]
    unfold zero
    rw [key_ofSM s (by omega)]
    have : ¬ ((0 : Rat) < 0) := by grind
    rw [if_neg this, roundMag_zero]
    cases s <;> simp
  · rw [if_neg h0, key_ofSM _ (roundMag_lt_P63 _)]
    unfold absRat
    by_cases hn : q < 0 <;> simp [hn]

theorem ofRatS_le_ofRatS (s₁ s₂ : Bool) {q₁ q₂ : Rat} (h : q₁ ≤ q₂) :
    le (ofRatS s₁ q₁) (ofRatS s₂ q₂) = true := by
  unfold le
  rw [isNaN_ofRatS, isNaN_ofRatS, key_ofRatS, key_ofRatS]
  simp only [Bool.not_false, Bool.true_and, decide_eq_true_eq]
  by_cases h1 : q₁ < 0
  · by_cases h2 : q₂ < 0
    · rw [if_pos h1, if_pos h2]
      have := roundMag_mono (q₁ := -q₂) (q₂ := -q₁) (by grind) (by grind)
      omega
    · rw [if_pos h1, if_neg h2]; omega
  · have h2 : ¬ q₂ < 0 := by grind
    rw [if_neg h1, if_neg h2]
    have := roundMag_mono (q₁ := q₁) (q₂ := q₂) (by grind) h
    omega

/-- **(c)** `ofRat` is monotone: `q₁ ≤ q₂ → ofRat q₁ ≤ ofRat q₂` in the IEEE order. -/
theorem ofRat_mono {q₁ q₂ : Rat} (h : q₁ ≤ q₂) : le (ofRat q₁) (ofRat q₂) = true :=
  ofRatS_le_ofRatS _ _ h

/-! ### representable values -/

/-- `q` is exactly the value of a finite float. -/
def Rep (q : Rat) : Prop := ∃ y : F64, y.isFinite = true ∧ y.toRat = q

theorem isFinite_iff (x : F64) : x.isFinite = true ↔ x.mag < InfMag := by simp [isFinite]

theorem magScale_magSig_of (E s : Nat) (hs : s < P53) (hn : E = 0 ∨ P52 ≤ s) :
    magScale (E * P52 + s) = E ∧ magSig (E * P52 + s) = s := by
  unfold magSig magScale
  omega

theorem pow2_52 : (2 : Nat) ^ 52 = P52 := by decide
theorem pow2_53 : (2 : Nat) ^ 53 = P53 := by decide

/-- Normalisation: a dyadic `m·2^e/2^1074` with a significand below `2^53` and below the overflow
    threshold is the value of a finite magnitude pattern. -/
theorem exists_mag_of_dyadic (m e : Nat) (hm : m < P53) (hr : m * 2 ^ e < 2 ^ 2098) :
    ∃ p, p < InfMag ∧ magVal p = ((m * 2 ^ e : Nat) : Rat) / two1074 := by
  by_cases hm0 : m = 0
  · subst hm0
    refine ⟨0, by omega, ?_⟩
    rw [magVal_zero]; simp [Rat.div_def]
  · have hL1 : 2 ^ m.log2 ≤ m := Nat.log2_self_le hm0
    have hL2 : m < 2 ^ (m.log2 + 1) := Nat.lt_log2_self
    have hL : m.log2 ≤ 52 := by
      have : m.log2 < 53 := (Nat.log2_lt hm0).mpr (by rw [pow2_53]; exact hm)
      omega
    by_cases hek : 52 - m.log2 ≤ e
    · -- normal: shift the significand up to 53 bits
      let k := 52 - m.log2
      have hk : m.log2 + k = 52 := by omega
      have s1 : P52 ≤ m * 2 ^ k := by
        have : 2 ^ m.log2 * 2 ^ k ≤ m * 2 ^ k := Nat.mul_le_mul_right _ hL1
        rwa [← Nat.pow_add, hk, pow2_52] at this
      have s2 : m * 2 ^ k < P53 := by
        have : m * 2 ^ k < 2 ^ (m.log2 + 1) * 2 ^ k :=
          Nat.mul_lt_mul_of_pos_right hL2 (Nat.pow_pos (by decide))
        rwa [← Nat.pow_add, show m.log2 + 1 + k = 53 by omega, pow2_53] at this
      have hval : m * 2 ^ k * 2 ^ (e - k) = m * 2 ^ e := by
        rw [Nat.mul_assoc, ← Nat.pow_add, show k + (e - k) = e by omega]
      have hE : e - k ≤ 2045 := by
        apply Classical.byContradiction
        intro hc
        have h1 : 2 ^ 2046 ≤ 2 ^ (e - k) := Nat.pow_le_pow_right (by decide) (by omega)
        have h2 : 2 ^ 52 * 2 ^ 2046 ≤ m * 2 ^ k * 2 ^ (e - k) := Nat.mul_le_mul (by rw [pow2_52]; exact s1) h1
        rw [hval, ← Nat.pow_add] at h2
        omega
      obtain ⟨p1, p2⟩ := magScale_magSig_of (e - k) (m * 2 ^ k) s2 (Or.inr s1)
      refine ⟨(e - k) * P52 + m * 2 ^ k, by omega, ?_⟩
      unfold magVal
      rw [p1, p2, hval]
    · -- subnormal: the value is a multiple of 2^-1074 below 2^52 units
      have s2 : m * 2 ^ e < P52 := by
        have : m * 2 ^ e < 2 ^ (m.log2 + 1) * 2 ^ e :=
          Nat.mul_lt_mul_of_pos_right hL2 (Nat.pow_pos (by decide))
        rw [← Nat.pow_add] at this
        have h2 : 2 ^ (m.log2 + 1 + e) ≤ 2 ^ 52 := Nat.pow_le_pow_right (by decide) (by omega)
        rw [pow2_52] at h2
        omega
      obtain ⟨p1, p2⟩ := magScale_magSig_of 0 (m * 2 ^ e) (by omega) (Or.inl rfl)
      refine ⟨0 * P52 + m * 2 ^ e, by omega, ?_⟩
      unfold magVal
      rw [p1, p2]; simp

theorem isFinite_ofSM (s : Bool) {p : Nat} (h : p < InfMag) : (ofSM s p).isFinite = true := by
  rw [isFinite_iff, mag_ofSM s (by omega)]; exact h

theorem rep_of_dyadic (m e : Nat) (hm : m < P53) (hr : m * 2 ^ e < 2 ^ 2098) :
    Rep (((m * 2 ^ e : Nat) : Rat) / two1074) := by
  obtain ⟨p, hp, hv⟩ := exists_mag_of_dyadic m e hm hr
  refine ⟨ofSM false p, isFinite_ofSM _ hp, ?_⟩
  rw [toRat_of_pos (sign_ofSM _ (by omega)), mag_ofSM _ (by omega), hv]

theorem mag_neg (x : F64) : (neg x).mag = x.mag := by
  unfold neg; exact mag_ofSM _ (mag_lt x)

theorem sign_neg (x : F64) : (neg x).sign = !x.sign := by
  unfold neg; exact sign_ofSM _ (mag_lt x)

theorem toRat_neg (x : F64) : (neg x).toRat = -x.toRat := by
  unfold toRat
  rw [mag_neg, sign_neg]
  cases x.sign <;> simp [Rat.neg_neg]

theorem isFinite_neg (x : F64) : (neg x).isFinite = x.isFinite := by
  unfold isFinite; rw [mag_neg]

theorem rep_neg {q : Rat} (h : Rep q) : Rep (-q) := by
  obtain ⟨y, hf, hv⟩ := h
  exact ⟨neg y, by rw [isFinite_neg]; exact hf, by rw [toRat_neg, hv]⟩

theorem zero_finite (s : Bool) : (zero s).isFinite = true ∧ (zero s).toRat = 0 :=
  ⟨isFinite_ofSM _ (by omega), toRat_eq_zero_of_mag (mag_ofSM _ (by omega))⟩

theorem rep_zero : Rep 0 := ⟨zero false, zero_finite false⟩

/-- Every natural number up to `2^53` is a float. -/
theorem rep_nat {n : Nat} (h : n ≤ P53) : Rep (n : Rat) := by
  have key : ∀ (m e : Nat), m * 2 ^ e = n * 2 ^ 1074 →
      ((m * 2 ^ e : Nat) : Rat) / two1074 = (n : Rat) := by
    intro m e he
    rw [he, Rat.natCast_mul, ← two1074_eq]
    exact Rat.mul_div_cancel two1074_ne
  by_cases hn : n < P53
  · have := rep_of_dyadic n 1074 hn (by
      have : n * 2 ^ 1074 < 2 ^ 53 * 2 ^ 1074 := Nat.mul_lt_mul_of_pos_right (by rw [pow2_53]; exact hn) (Nat.pow_pos (by decide))
      rw [← Nat.pow_add] at this
      exact Nat.lt_of_lt_of_le this (Nat.pow_le_pow_right (by decide) (by omega)))
    rwa [key n 1074 rfl] at this
  · have hn' : n = 2 ^ 53 := by rw [pow2_53]; omega
    have := rep_of_dyadic 1 1127 (by omega) (by
      rw [Nat.one_mul]; exact Nat.pow_lt_pow_right (by decide) (by omega))
    rwa [key 1 1127 (by rw [hn', Nat.one_mul, ← Nat.pow_add])] at this

/-- **(b)** Every integer `n` with `|n| ≤ 2^53` is a float. -/
theorem rep_int {n : Int} (h : n.natAbs ≤ P53) : Rep (n : Rat) := by
  rcases Int.natAbs_eq n with e | e
  · rw [e]; exact rep_nat h
  · rw [e, Rat.intCast_neg]; exact rep_neg (rep_nat h)

/-- Rounding a representable value returns it (with the requested sign of zero). -/
theorem ofRatS_rep (s : Bool) {q : Rat} (h : Rep q) :
    (ofRatS s q).isFinite = true ∧ (ofRatS s q).toRat = q := by
  obtain ⟨y, hf, hv⟩ := h
  by_cases h0 : q = 0
  · subst h0
    unfold ofRatS; rw [if_pos rfl]
    exact zero_finite s
  · have hy := ofRatS_toRat y hf
    rw [hv] at hy
    have : ofRatS s q = ofRatS y.sign q := by
      unfold ofRatS; rw [if_neg h0, if_neg h0]
    rw [this, hy]; exact ⟨hf, hv⟩

/-- **(b)** `toRat? (ofRat n) = some n` for every integer `|n| ≤ 2^53`. -/
theorem ofRat_exact_int {n : Int} (h : n.natAbs ≤ P53) : (ofRat (n : Rat)).toRat? = some (n : Rat) := by
  obtain ⟨a, b⟩ := ofRatS_rep false (rep_int h)
  unfold toRat? ofRat; rw [a, b]; rfl

/-- **(b)** More generally every `±m·2^e/2^1074` (`m < 2^53`, below the overflow threshold). -/
theorem ofRat_exact_dyadic (neg : Bool) (m e : Nat) (hm : m < P53) (hr : m * 2 ^ e < 2 ^ 2098) :
    let q : Rat := (if neg then -1 else 1) * (((m * 2 ^ e : Nat) : Rat) / two1074)
    (ofRat q).toRat? = some q := by
  intro q
  have hrep : Rep q := by
    have := rep_of_dyadic m e hm hr
    cases neg
    · simpa [q] using this
    · have := rep_neg this
      simpa [q, Rat.neg_mul] using this
  obtain ⟨a, b⟩ := ofRatS_rep false hrep
  unfold toRat? ofRat; rw [a, b]; rfl

end Rare.F64

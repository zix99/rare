import Rare.Proofs.C14Legend
import Rare.Proofs.C14F64
/-!
# C14 – the linear legend on IEEE-754 binary64 (`ScaleKeys` with the real float operations)

`legend_linear_exact` (exact rationals) carried over to the float computation Go performs, for ranges with
`|min|, |max| ≤ 2^53` and `(max - min) * 5 ≤ 2^53` (`LinExact`; every range within `±2^49` is one): `float64(min)`, `float64(max)`, `math.Floor/Ceil` of them, the span `maxf - minf` and the
products `span * float64(i)` (`i ≤ 5`, below `2^53`) are all EXACT; the quotient by `float64(5)` and the sum with `minf`
round once each, and rounding is monotone and fixes the floats `min`, `max` – so the six raw values are non-decreasing,
the first is `min` and the last is `max`.  For `max ≤ min` (all cells equal) `remapMinMax` widens the range to `[min, min + 1]` and the
legend is exactly `min`, `min + 1` (`scaleKeys_linear_f64_deg`).
-/
namespace Rare.C14
open Rare Rare.F64

theorem truncRat_mono {p q : Rat} (h : p ≤ q) : truncRat p ≤ truncRat q := by
  unfold truncRat
  by_cases hp : p < 0
  · rw [if_pos hp]
    by_cases hq : q < 0
    · rw [if_pos hq]
      have : (-q).floor ≤ (-p).floor := Rat.floor_monotone (by grind)
      omega
    · rw [if_neg hq]
      have h1 : (0 : Int) ≤ (-p).floor := Rat.le_floor_iff.mpr (by simp; grind)
      have h2 : (0 : Int) ≤ q.floor := Rat.le_floor_iff.mpr (by simp; grind)
      omega
  · rw [if_neg hp]
    have hq : ¬ q < 0 := by grind
    rw [if_neg hq]
    exact Rat.floor_monotone h

/-- the quotient step of a raw legend value of the linear scale: `(maxf - minf) * float64(i) / float64(5)` -/
def linQuotF (a b : F64) (i : Nat) : F64 := div (mul (sub b a) (ofInt (i : Int))) (ofInt 5)

/-- one raw legend value of the linear scale: `int64((maxf - minf) * float64(i) / float64(5) + minf)` -/
def linStepF (a b : F64) (i : Nat) : F64 := add (linQuotF a b i) a

/-- the class of ranges on which every operation of the linear `ScaleKeys` before the quotient is EXACT: both ends are
floats (`|·| ≤ 2^53`) and `span * 5 ≤ 2^53` (the largest product `span * float64(5)` is still an exact integer) -/
def LinExact (mn mx : Int) : Prop := -9007199254740992 ≤ mn ∧ mx ≤ 9007199254740992 ∧ (mx - mn) * 5 ≤ 9007199254740992

theorem ofInt_some {n : Int} (h : n.natAbs ≤ P53) : (ofInt n).toRat? = some (n : Rat) :=
  toRat?_eq_some.mpr (isFinite_ofInt n h)

theorem floor_ofInt {n : Int} (h : n.natAbs ≤ P53) : (floor (ofInt n)).toRat? = some (n : Rat) := by
  obtain ⟨f, v⟩ := isFinite_ofInt n h
  rw [floor_spec f, v, Rat.floor_intCast]

theorem ceil_ofInt {n : Int} (h : n.natAbs ≤ P53) : (ceil (ofInt n)).toRat? = some (n : Rat) := by
  obtain ⟨f, v⟩ := isFinite_ofInt n h
  rw [ceil_spec f, v, Rat.ceil_intCast]

section
variable {a b : F64} {mn mx : Int}

/-- the quotient step: finite, between 0 and the span, exact at both ends, monotone in `i` -/
theorem linQuot_props (ha : a.toRat? = some (mn : Rat)) (hb : b.toRat? = some (mx : Rat)) (hx : LinExact mn mx)
    (hlt : mn < mx) (i : Nat) (hi : i ≤ 5) :
    (linQuotF a b i).isFinite = true ∧
    ∃ s, linQuotF a b i = ofRatS s ((((mx - mn) * (i : Int) : Int) : Rat) / 5) := by
  unfold LinExact at hx
  unfold linQuotF
  have hd := sub_exact_int hb ha (by omega)
  have hi' := ofInt_some (n := (i : Int)) (by omega)
  have hbnd : ((mx - mn) * (i : Int)).natAbs ≤ P53 := by
    have h1 : 0 ≤ (mx - mn) * (i : Int) := Int.mul_nonneg (by omega) (by omega)
    have h2 : (mx - mn) * (i : Int) ≤ (mx - mn) * 5 := Int.mul_le_mul_of_nonneg_left (by omega) (by omega)
    omega
  have hp := mul_exact_int hd hi' hbnd
  obtain ⟨fp, vp⟩ := toRat?_eq_some.mp hp
  obtain ⟨f5, v5⟩ := isFinite_ofInt 5 (by decide)
  have hz : (ofInt 5).mag ≠ 0 := by decide +kernel
  have e := div_finite fp f5 hz
  rw [vp, v5] at e
  have e5 : ((5 : Int) : Rat) = 5 := rfl
  rw [e5] at e
  refine ⟨?_, _, e⟩
  rw [e]
  have h0 : (0 : Rat) ≤ (((mx - mn) * (i : Int) : Int) : Rat) / 5 := by
    have : (0 : Rat) ≤ (((mx - mn) * (i : Int) : Int) : Rat) := by
      have : (0 : Int) ≤ (mx - mn) * (i : Int) := Int.mul_nonneg (by omega) (by omega)
      exact_mod_cast this
    rw [Rat.div_def]; exact Rat.mul_nonneg this (by decide +kernel)
  have h1 : (((mx - mn) * (i : Int) : Int) : Rat) / 5 ≤ ((P53 : Int) : Rat) := by
    rw [rat_div_le_iff (by decide +kernel)]
    have h3 : (mx - mn) * (i : Int) ≤ (P53 : Int) * 5 := by
      have h2 : (mx - mn) * (i : Int) ≤ (mx - mn) * 5 := Int.mul_le_mul_of_nonneg_left (by omega) (by omega)
      omega
    have h4 : (((mx - mn) * (i : Int) : Int) : Rat) ≤ (((P53 : Int) * 5 : Int) : Rat) := (Rat.intCast_le_intCast).mpr h3
    have e6 : (((P53 : Int) * 5 : Int) : Rat) = ((P53 : Int) : Rat) * 5 := Rat.intCast_mul _ _
    rw [e6] at h4
    exact h4
  exact (round_between_rep rfl (rep_int (n := 0) (by decide)) (rep_int (n := (P53 : Int)) (by decide)) h0 h1).1


theorem span_cast_le (hlt : mn < mx) {i j : Nat} (h : i ≤ j) :
    (((mx - mn) * (i : Int) : Int) : Rat) / 5 ≤ (((mx - mn) * (j : Int) : Int) : Rat) / 5 := by
  apply rat_div_le_div_right (by decide +kernel)
  exact (Rat.intCast_le_intCast).mpr (Int.mul_le_mul_of_nonneg_left (by omega) (by omega))

theorem span_five : (((mx - mn) * ((5 : Nat) : Int) : Int) : Rat) / 5 = ((mx - mn : Int) : Rat) := by
  have e : (((mx - mn) * ((5 : Nat) : Int) : Int) : Rat) = ((mx - mn : Int) : Rat) * 5 := Rat.intCast_mul _ _
  rw [e, Rat.div_def, Rat.mul_assoc, Rat.mul_inv_cancel 5 (by decide +kernel), Rat.mul_one]

theorem span_zero : (((mx - mn) * ((0 : Nat) : Int) : Int) : Rat) / 5 = ((0 : Int) : Rat) := by
  have e : ((mx - mn) * ((0 : Nat) : Int) : Int) = 0 := by simp
  rw [e, Rat.div_def]; exact Rat.zero_mul _

/-- the value of the quotient: between 0 and the span, exact at both ends -/
theorem linQuot_val (ha : a.toRat? = some (mn : Rat)) (hb : b.toRat? = some (mx : Rat)) (hx : LinExact mn mx)
    (hlt : mn < mx) (i : Nat) (hi : i ≤ 5) :
    ((0 : Int) : Rat) ≤ (linQuotF a b i).toRat ∧
    (linQuotF a b i).toRat ≤ ((mx - mn : Int) : Rat) ∧
    (i = 0 → (linQuotF a b i).toRat = ((0 : Int) : Rat)) ∧
    (i = 5 → (linQuotF a b i).toRat = ((mx - mn : Int) : Rat)) := by
  obtain ⟨_, s, e⟩ := linQuot_props ha hb hx hlt i hi
  rw [e]
  have r0 : Rep ((0 : Int) : Rat) := rep_int (by decide)
  have rs : Rep ((mx - mn : Int) : Rat) := rep_int (by unfold LinExact at hx; omega)
  have l0 : ((0 : Int) : Rat) ≤ (((mx - mn) * (i : Int) : Int) : Rat) / 5 := by
    rw [← span_zero (mn := mn) (mx := mx)]; exact span_cast_le hlt (Nat.zero_le i)
  have l5 : (((mx - mn) * (i : Int) : Int) : Rat) / 5 ≤ ((mx - mn : Int) : Rat) := by
    rw [← span_five (mn := mn) (mx := mx)]; exact span_cast_le hlt hi
  obtain ⟨_, b1, b2⟩ := round_between_rep (s := s) rfl r0 rs l0 l5
  refine ⟨b1, b2, ?_, ?_⟩
  · intro h0; subst h0
    rw [span_zero]
    exact (ofRatS_rep s r0).2
  · intro h5; subst h5
    rw [span_five]
    exact (ofRatS_rep s rs).2

theorem linQuot_mono (ha : a.toRat? = some (mn : Rat)) (hb : b.toRat? = some (mx : Rat)) (hx : LinExact mn mx)
    (hlt : mn < mx) {i j : Nat} (hij : i ≤ j) (hj : j ≤ 5) :
    (linQuotF a b i).toRat ≤ (linQuotF a b j).toRat := by
  obtain ⟨fi, si, ei⟩ := linQuot_props ha hb hx hlt i (by omega)
  obtain ⟨fj, sj, ej⟩ := linQuot_props ha hb hx hlt j hj
  rw [ei] at fi ⊢
  rw [ej] at fj ⊢
  exact round_mono (span_cast_le hlt hij) si sj fi fj

/-- THE RAW VALUE: finite, within `[min, max]`, exactly `min` for `i = 0` and exactly `max` for `i = 5` -/
theorem linStepF_val (ha : a.toRat? = some (mn : Rat)) (hb : b.toRat? = some (mx : Rat)) (hx : LinExact mn mx)
    (hlt : mn < mx) (i : Nat) (hi : i ≤ 5) :
    (linStepF a b i).isFinite = true ∧ (mn : Rat) ≤ (linStepF a b i).toRat ∧ (linStepF a b i).toRat ≤ (mx : Rat) ∧
    (i = 0 → (linStepF a b i).toRat = (mn : Rat)) ∧ (i = 5 → (linStepF a b i).toRat = (mx : Rat)) := by
  obtain ⟨fq, _, _⟩ := linQuot_props ha hb hx hlt i hi
  obtain ⟨q0, q1, qz, q5⟩ := linQuot_val ha hb hx hlt i hi
  obtain ⟨fa, va⟩ := toRat?_eq_some.mp ha
  unfold linStepF
  rw [add_finite fq fa, va]
  have rmn : Rep (mn : Rat) := rep_int (by unfold LinExact at hx; omega)
  have rmx : Rep (mx : Rat) := rep_int (by unfold LinExact at hx; omega)
  have e0 : ((0 : Int) : Rat) = 0 := rfl
  have es : ((mx - mn : Int) : Rat) = (mx : Rat) - (mn : Rat) := Rat.intCast_sub _ _
  rw [e0] at q0 qz
  rw [es] at q1 q5
  have l0 : (mn : Rat) ≤ (linQuotF a b i).toRat + (mn : Rat) := by grind
  have l1 : (linQuotF a b i).toRat + (mn : Rat) ≤ (mx : Rat) := by grind
  obtain ⟨f, b1, b2⟩ := round_between_rep (s := (linQuotF a b i).sign && a.sign) rfl rmn rmx l0 l1
  refine ⟨f, b1, b2, ?_, ?_⟩
  · intro h0
    have e : (linQuotF a b i).toRat + (mn : Rat) = (mn : Rat) := by rw [qz h0]; grind
    rw [e]
    exact (ofRatS_rep _ rmn).2
  · intro h5
    have e : (linQuotF a b i).toRat + (mn : Rat) = (mx : Rat) := by rw [q5 h5]; grind
    rw [e]
    exact (ofRatS_rep _ rmx).2

theorem linStepF_mono (ha : a.toRat? = some (mn : Rat)) (hb : b.toRat? = some (mx : Rat)) (hx : LinExact mn mx)
    (hlt : mn < mx) {i j : Nat} (hij : i ≤ j) (hj : j ≤ 5) :
    (linStepF a b i).toRat ≤ (linStepF a b j).toRat := by
  obtain ⟨fi, _⟩ := linStepF_val ha hb hx hlt i (by omega)
  obtain ⟨fj, _⟩ := linStepF_val ha hb hx hlt j hj
  obtain ⟨fqi, _, _⟩ := linQuot_props ha hb hx hlt i (by omega)
  obtain ⟨fqj, _, _⟩ := linQuot_props ha hb hx hlt j hj
  obtain ⟨fa, va⟩ := toRat?_eq_some.mp ha
  have hq := linQuot_mono ha hb hx hlt hij hj
  unfold linStepF at fi fj ⊢
  rw [add_finite fqi fa] at fi ⊢
  rw [add_finite fqj fa] at fj ⊢
  exact round_mono (Rat.add_le_add_right.mpr hq) _ _ fi fj

/-- `int64(x)` of a finite float between two int64 integers is the truncation of its value, between them -/
theorem toInt64_between {x : F64} (hx : x.isFinite = true) {lo hi : Int} (h1 : (lo : Rat) ≤ x.toRat) (h2 : x.toRat ≤ (hi : Rat))
    (hlo : minInt64 ≤ lo) (hhi : hi ≤ maxInt64) : toInt64 x = truncRat x.toRat ∧ lo ≤ truncRat x.toRat ∧ truncRat x.toRat ≤ hi := by
  have a1 := truncRat_mono h1
  have a2 := truncRat_mono h2
  rw [truncRat_intCast] at a1 a2
  refine ⟨?_, a1, a2⟩
  unfold toInt64
  rw [hx]
  have : ¬ (truncRat x.toRat < minInt64 ∨ maxInt64 < truncRat x.toRat) := by omega
  simp [this]

end

/-- the raw values of the linear legend on binary64, `min < max` -/
theorem rawKeys_linear_f64 (L2 L10 P2 P10 : F64 → F64) (mn mx : Int) (hlt : mn < mx) :
    rawKeys (f64Arith L2 L10 P2 P10) .linear 6 mn mx =
      (List.range 6).map fun (i : Nat) => toInt64 (linStepF (floor (ofInt mn)) (ceil (ofInt mx)) i) := by
  have hr : remapMinMax (f64Arith L2 L10 P2 P10) .linear mn mx = (floor (ofInt mn), ceil (ofInt mx)) := by
    unfold remapMinMax
    have : ¬ mx ≤ mn := by omega
    simp only [this, if_false, mapVal, f64Arith]
  unfold rawKeys
  rw [hr]
  have e1 : (6 : Int).toNat = 6 := by decide
  have e2 : (6 : Int) - 1 = 5 := by decide
  simp only [e1, e2, unmapVal, f64Arith, linStepF, linQuotF]

/-- the keys of a legend whose raw values are `toInt64 (linStepF a b i)` with exact ends `lo < hi` in `LinExact` -/
theorem linKeys_of_raw {A : Arith F64} {k : Scaler} {mn mx : Int} {a b : F64} {lo hi : Int}
    (hraw : rawKeys A k 6 mn mx = (List.range 6).map fun (i : Nat) => toInt64 (linStepF a b i))
    (ha : a.toRat? = some (lo : Rat)) (hb : b.toRat? = some (hi : Rat)) (hlt : lo < hi) (hx : LinExact lo hi) :
    (scaleKeys A k 6 mn mx).Pairwise (· < ·) ∧ (scaleKeys A k 6 mn mx).head? = some lo ∧
    (scaleKeys A k 6 mn mx).getLast? = some hi ∧ (∀ x ∈ scaleKeys A k 6 mn mx, lo ≤ x ∧ x ≤ hi) := by
  have h64 : minInt64 ≤ lo ∧ hi ≤ maxInt64 := by unfold LinExact at hx; unfold minInt64 maxInt64; omega
  have key : ∀ i, i ≤ 5 → toInt64 (linStepF a b i) = truncRat (linStepF a b i).toRat := by
    intro i hi'
    obtain ⟨f, b1, b2, _, _⟩ := linStepF_val ha hb hx hlt i hi'
    exact (toInt64_between f b1 b2 h64.1 h64.2).1
  have h := scaleKeys_of_mono hraw fun {i j} hij hj => by
    rw [key i (by omega), key j hj]
    exact truncRat_mono (linStepF_mono ha hb hx hlt hij hj)
  rwa [key 0 (by omega), (linStepF_val ha hb hx hlt 0 (by omega)).2.2.2.1 rfl, truncRat_intCast,
    key 5 (by omega), (linStepF_val ha hb hx hlt 5 (by omega)).2.2.2.2 rfl, truncRat_intCast] at h

/-- THE LINEAR LEGEND on IEEE-754 binary64 (the computation Go performs), `min < max` in `LinExact`
(`|min|, |max| ≤ 2^53`, `(max - min) * 5 ≤ 2^53` – e.g. every range with `|min|, |max| ≤ 2^49`): the keys are
STRICTLY INCREASING, the first is `min`, the last is `max`, every key lies in `[min, max]` -/
theorem scaleKeys_linear_f64 (L2 L10 P2 P10 : F64 → F64) (mn mx : Int) (hlt : mn < mx) (hx : LinExact mn mx) :
    (scaleKeys (f64Arith L2 L10 P2 P10) .linear 6 mn mx).Pairwise (· < ·) ∧
    (scaleKeys (f64Arith L2 L10 P2 P10) .linear 6 mn mx).head? = some mn ∧
    (scaleKeys (f64Arith L2 L10 P2 P10) .linear 6 mn mx).getLast? = some mx ∧
    (∀ k ∈ scaleKeys (f64Arith L2 L10 P2 P10) .linear 6 mn mx, mn ≤ k ∧ k ≤ mx) :=
  linKeys_of_raw (rawKeys_linear_f64 L2 L10 P2 P10 mn mx hlt) (floor_ofInt (by unfold LinExact at hx; omega))
    (ceil_ofInt (by unfold LinExact at hx; omega)) hlt hx

/-! ### degenerate and reversed ranges (`max ≤ min`): the range is widened to `[min, min + 1]` -/

/-- the raw values of the linear legend on binary64 for a degenerate or reversed range (`max ≤ min`): `remapMinMax` widens
it to `[min, min + 1]` -/
theorem rawKeys_linear_f64_deg (L2 L10 P2 P10 : F64 → F64) (mn mx : Int) (hle : mx ≤ mn) :
    rawKeys (f64Arith L2 L10 P2 P10) .linear 6 mn mx =
      (List.range 6).map fun (i : Nat) => toInt64 (linStepF (floor (ofInt mn)) (ceil (ofInt (wrap64 (mn + 1)))) i) := by
  have hr : remapMinMax (f64Arith L2 L10 P2 P10) .linear mn mx = (floor (ofInt mn), ceil (ofInt (wrap64 (mn + 1)))) := by
    unfold remapMinMax
    simp only [hle, if_true, mapVal, f64Arith]
  unfold rawKeys
  rw [hr]
  have e1 : (6 : Int).toNat = 6 := by decide
  have e2 : (6 : Int) - 1 = 5 := by decide
  simp only [e1, e2, unmapVal, f64Arith, linStepF, linQuotF]

/-- a strictly increasing integer list from `n` to `n + 1` inside `[n, n + 1]` is `[n, n + 1]` -/
theorem two_keys {l : List Int} {n : Int} (hp : l.Pairwise (· < ·)) (hh : l.head? = some n) (hl : l.getLast? = some (n + 1))
    (hin : ∀ x ∈ l, n ≤ x ∧ x ≤ n + 1) : l = [n, n + 1] := by
  match l, hp, hh, hl, hin with
  | [], _, hh, _, _ => simp at hh
  | [x], _, hh, hl, _ => simp at hh hl; omega
  | [x, y], _, hh, hl, _ => simp at hh hl; rw [hh, hl]
  | x :: y :: z :: r, hp, hh, _, hin =>
    exfalso
    simp at hh
    have hxy : x < y := (List.pairwise_cons.mp hp).1 y (by simp)
    have hyz : y < z := (List.pairwise_cons.mp (List.pairwise_cons.mp hp).2).1 z (by simp)
    have hz := (hin z (by simp)).2
    omega

/-- DEGENERATE OR REVERSED RANGE on binary64 (`max ≤ min`, e.g. every cell holds the same value): the legend is exactly the two
numbers `min`, `min + 1` -/
theorem scaleKeys_linear_f64_deg (L2 L10 P2 P10 : F64 → F64) (mn mx : Int) (hle : mx ≤ mn)
    (hmn : -9007199254740992 ≤ mn) (hmn' : mn < 9007199254740992) :
    scaleKeys (f64Arith L2 L10 P2 P10) .linear 6 mn mx = [mn, mn + 1] := by
  have hw : wrap64 (mn + 1) = mn + 1 := by unfold wrap64; omega
  have ha : (floor (ofInt mn)).toRat? = some (mn : Rat) := floor_ofInt (by omega)
  have hb : (ceil (ofInt (wrap64 (mn + 1)))).toRat? = some ((mn + 1 : Int) : Rat) := by rw [hw]; exact ceil_ofInt (by omega)
  obtain ⟨p, h, l, i⟩ := linKeys_of_raw (rawKeys_linear_f64_deg L2 L10 P2 P10 mn mx hle) ha hb (by omega) ⟨hmn, by omega, by omega⟩
  exact two_keys p h l i

end Rare.C14

import Rare.Proofs.C07Num
/-! `Mode()`: the run-length scan over the ordered samples returns a value of maximal multiplicity,
and among several such values the one that comes first in the sort order. -/
namespace Rare.C07

/-- Invariant of the scan after the non-empty prefix `p` of a list sorted by `le`. -/
structure ModeInv (le : Rat → Rat → Prop) (p : List Rat) (st : ModeState Rat) : Prop where
  last : ∃ p', p = p' ++ [st.currValue]
  curr : st.currObserved = p.count st.currValue
  maxc : st.maxObserved = p.count st.maxValue
  maxm : st.maxValue ∈ p
  bound : ∀ y, p.count y ≤ st.maxObserved
  tie : ∀ y, p.count y = st.maxObserved → y ≠ st.maxValue → le st.maxValue y

theorem count_snoc (p : List Rat) (v y : Rat) : (p ++ [v]).count y = p.count y + if v = y then 1 else 0 := by
  rw [List.count_append, List.count_singleton]
  by_cases h : v = y <;> simp [h]

theorem modeStep_first (st : ModeState Rat) (val : Rat) (h1 : st.currObserved = 0) (h2 : st.maxObserved = 0) :
    modeStep st val = ⟨1, val, 1, val⟩ := by
  unfold modeStep modeStepG
  by_cases hv : val = st.currValue
  · simp [hv, h1, h2]
  · simp [hv, h2]

theorem modeStep_same (st : ModeState Rat) (val : Rat) (hv : val = st.currValue) :
    modeStep st val =
      if st.currObserved + 1 > st.maxObserved
      then ⟨st.currObserved + 1, val, st.currObserved + 1, val⟩
      else { st with currObserved := st.currObserved + 1 } := by
  unfold modeStep modeStepG
  subst hv
  simp

theorem modeStep_new (st : ModeState Rat) (val : Rat) (hv : val ≠ st.currValue) (hm : st.maxObserved ≥ 1) :
    modeStep st val = { st with currValue := val, currObserved := 1 } := by
  unfold modeStep modeStepG
  simp [hv]
  omega

theorem modeInv_first (le : Rat → Rat → Prop) (val : Rat) : ModeInv le [val] ⟨1, val, 1, val⟩ := by
  refine ⟨⟨[], rfl⟩, by simp, by simp, by simp, ?_, ?_⟩
  · intro y; rw [List.count_singleton]; split <;> simp
  · intro y hy hne
    rw [List.count_singleton] at hy
    split at hy
    · rename_i h; simp at h; exact absurd h.symm hne
    · simp at hy

theorem modeInv_step (le : Rat → Rat → Prop) (hanti : ∀ a b, le a b → le b a → a = b)
    (p : List Rat) (st : ModeState Rat) (val : Rat) (inv : ModeInv le p st)
    (hs : (p ++ [val]).Pairwise le) : ModeInv le (p ++ [val]) (modeStep st val) := by
  obtain ⟨p', hp'⟩ := inv.last
  have hle : ∀ x ∈ p, le x val := by
    intro x hx
    exact (List.pairwise_append.mp hs).2.2 x hx val (by simp)
  have hmax1 : st.maxObserved ≥ 1 := by
    rw [inv.maxc]; exact List.count_pos_iff.mpr inv.maxm
  by_cases hv : val = st.currValue
  · -- the current run continues
    rw [modeStep_same st val hv]
    have hcnt : (p ++ [val]).count val = st.currObserved + 1 := by
      rw [count_snoc, inv.curr, hv]; simp
    split
    · rename_i hgt
      refine ⟨⟨p, rfl⟩, hcnt.symm, hcnt.symm, by simp, ?_, ?_⟩
      · intro y
        rw [count_snoc]
        by_cases hy : val = y
        · subst hy; simp [inv.curr, hv]
        · have := inv.bound y; simp [hy]; omega
      · intro y hy hne
        exfalso
        rw [count_snoc] at hy
        have hy' : ¬ val = y := fun e => hne e.symm
        simp only [hy', if_false, Nat.add_zero] at hy
        have := inv.bound y
        change List.count y p = st.currObserved + 1 at hy
        omega
    · rename_i hle'
      have hmv : st.maxValue ≠ val := by
        intro e
        have : st.maxObserved = st.currObserved := by rw [inv.maxc, inv.curr, e, hv]
        omega
      refine ⟨⟨p, by rw [hv]⟩, ?_, ?_, by simp [inv.maxm], ?_, ?_⟩
      · show st.currObserved + 1 = _
        rw [← hv]; exact hcnt.symm
      · show st.maxObserved = _
        rw [count_snoc, inv.maxc, if_neg (fun e : val = st.maxValue => hmv e.symm)]; rfl
      · intro y
        show _ ≤ st.maxObserved
        rw [count_snoc]
        by_cases hy : val = y
        · subst hy; simp only [if_true]; have := inv.curr; rw [← hv] at this; omega
        · simp only [hy, if_false]; exact inv.bound y
      · intro y hy hne
        change (p ++ [val]).count y = st.maxObserved at hy
        change y ≠ st.maxValue at hne
        show le st.maxValue y
        rw [count_snoc] at hy
        by_cases hyv : val = y
        · subst hyv; exact hle _ inv.maxm
        · simp only [hyv, if_false, Nat.add_zero] at hy
          exact inv.tie y hy hne
  · -- a new run starts; `val` has not been seen before
    rw [modeStep_new st val hv hmax1]
    have hnot : val ∉ p := by
      intro hm
      rw [hp'] at hm
      rcases List.mem_append.mp hm with h | h
      · -- val ∈ p' so val ≤ currValue ≤ val
        have h1 : le val st.currValue := by
          have hsp : (p' ++ [st.currValue]).Pairwise le := by
            rw [← hp']; exact (List.pairwise_append.mp hs).1
          exact (List.pairwise_append.mp hsp).2.2 val h st.currValue (by simp)
        have h2 : le st.currValue val := hle _ (by rw [hp']; simp)
        exact hv (hanti _ _ h1 h2)
      · simp at h; exact hv h
    have hc0 : p.count val = 0 := List.count_eq_zero.mpr hnot
    have hmv : st.maxValue ≠ val := fun e => hnot (e ▸ inv.maxm)
    refine ⟨⟨p, rfl⟩, ?_, ?_, by simp [inv.maxm], ?_, ?_⟩
    · show 1 = _; rw [count_snoc, hc0]; simp
    · show st.maxObserved = _
      rw [count_snoc, inv.maxc, if_neg (fun e : val = st.maxValue => hmv e.symm)]; rfl
    · intro y
      show _ ≤ st.maxObserved
      rw [count_snoc]
      by_cases hy : val = y
      · subst hy; simp only [if_true, hc0]; omega
      · simp only [hy, if_false]; exact inv.bound y
    · intro y hy hne
      change (p ++ [val]).count y = st.maxObserved at hy
      change y ≠ st.maxValue at hne
      show le st.maxValue y
      rw [count_snoc] at hy
      by_cases hyv : val = y
      · subst hyv; exact hle _ inv.maxm
      · simp only [hyv, if_false, Nat.add_zero] at hy
        exact inv.tie y hy hne

theorem modeInv_foldl (le : Rat → Rat → Prop) (hanti : ∀ a b, le a b → le b a → a = b)
    (q p : List Rat) (st : ModeState Rat) (inv : ModeInv le p st) (hs : (p ++ q).Pairwise le) :
    ModeInv le (p ++ q) (q.foldl modeStep st) := by
  induction q generalizing p st with
  | nil => simpa using inv
  | cons v q ih =>
    rw [List.foldl_cons]
    have e : p ++ v :: q = (p ++ [v]) ++ q := by simp
    rw [e] at hs ⊢
    exact ih (p ++ [v]) _ (modeInv_step le hanti p st v inv (List.pairwise_append.mp hs).1) hs

/-- The scan over a non-empty list sorted by an antisymmetric `le`. -/
theorem mode_scan (le : Rat → Rat → Prop) (hanti : ∀ a b, le a b → le b a → a = b)
    (s : List Rat) (hne : s ≠ []) (hs : s.Pairwise le) :
    let m := mode 0 (fun a b => decide (a = b)) s
    m ∈ s ∧ (∀ y, s.count y ≤ s.count m) ∧ (∀ y, s.count y = s.count m → y ≠ m → le m y) := by
  obtain ⟨x, q, rfl⟩ := List.exists_cons_of_ne_nil hne
  intro m
  have hm : m = (q.foldl modeStep (modeStep ⟨0, 0, 0, 0⟩ x)).maxValue := by
    show mode 0 (fun a b => decide (a = b)) (x :: q) = _
    rw [mode_eq, List.foldl_cons]
  rw [modeStep_first _ x rfl rfl] at hm
  have inv := modeInv_foldl le hanti q [x] _ (modeInv_first le x) (by simpa using hs)
  simp only [List.singleton_append] at inv
  generalize q.foldl modeStep ⟨1, x, 1, x⟩ = fin at hm inv
  rw [hm]
  exact ⟨inv.maxm, fun y => by rw [← inv.maxc]; exact inv.bound y,
    fun y hy hne => inv.tie y (by rw [inv.maxc]; exact hy) hne⟩

end Rare.C07

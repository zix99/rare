import Rare.Proofs.C11
import Rare.Model.Expr.Funcs.Strings
/-!
Helper lemmas for the guard theorems of `Props/C08.lean` (which are stated about the definitions
regenerated from /repo into `Gen/C08.lean`): int64 wrap-around facts, the panic condition of
`strings.Repeat`, and `selectField` with its slice expressions made explicit.
-/
namespace Rare.C08
open Rare

/-- `strings.Repeat(s, count)` panics for a negative count and when `len(s) * count` does not fit an
    `int` (Go 1.23: `bits.Mul` high word non-zero or low word above `maxInt`). -/
def repeatPanics (len count : Int) : Prop := count < 0 ∨ len * count > maxInt64

theorem wrap64_inInt64 (x : Int) : inInt64 (wrap64 x) = true := by
  rw [C11.inInt64_iff]; unfold wrap64 minInt64 maxInt64; omega

/-- `wrap64 (idx * 2)` for a group index: negative (wrapped) unless `2*idx` fits, and then `+ 1` fits too
    (an even number is never `MaxInt64`). -/
theorem wrap_double (idx : Int) (h0 : 0 ≤ idx) (h1 : idx ≤ maxInt64) :
    (2 * idx ≤ maxInt64 ∧ wrap64 (idx * 2) = 2 * idx ∧ wrap64 (wrap64 (idx * 2) + 1) = 2 * idx + 1) ∨
    (maxInt64 < 2 * idx ∧ wrap64 (idx * 2) < 0) := by
  unfold maxInt64 at *; unfold wrap64; omega

/-- Go's `%` on an int64 dividend stays in range (same sign as the dividend, no larger in magnitude). -/
theorem tmod_inInt64 (a b : Int) (ha : inInt64 a = true) : inInt64 (Int.tmod a b) = true := by
  rw [C11.inInt64_iff] at *
  have h1 : (Int.tmod a b).natAbs ≤ a.natAbs := by rw [Int.natAbs_tmod]; exact Nat.mod_le _ _
  have h2 : 0 ≤ a → 0 ≤ Int.tmod a b := fun h => Int.tmod_nonneg b h
  have h3 : a ≤ 0 → Int.tmod a b ≤ 0 := fun h => by
    have := Int.tmod_nonneg b (show 0 ≤ -a by omega); rw [Int.neg_tmod] at this; omega
  unfold minInt64 maxInt64 at *
  omega

end Rare.C08

namespace Rare.Expr.Funcs.Strings
open Rare Rare.Expr

/-- `selectField` with Go's slice expressions `s[wordStart:i]` / `s[wordStart:]` made explicit
    (`goSlice` answers `.error` where Go panics with "slice bounds out of range"). -/
def selLoopC (s : Bytes) (idx : Int) : Bytes → Nat → SelSt → Except String Bytes
  | [], _, st => if st.currIdx = idx then goSlice s st.wordStart s.length else .ok []
  | c :: rest, i, st =>
    if (st.quoted && c == 34) || (!st.quoted && isSelDelim c) then
      if st.currIdx = idx then goSlice s st.wordStart i
      else selLoopC s idx rest (i + 1) { st with inDelim := true, quoted := false }
    else if c == 34 then selLoopC s idx rest (i + 1) { st with quoted := !st.quoted }
    else if st.inDelim then
      selLoopC s idx rest (i + 1) { st with wordStart := i, currIdx := st.currIdx + 1, inDelim := false }
    else selLoopC s idx rest (i + 1) st

theorem goSlice_nat (s : Bytes) (a b : Nat) (h1 : a ≤ b) (h2 : b ≤ s.length) :
    goSlice s a b = .ok ((s.drop a).take (b - a)) := by
  unfold goSlice
  rw [if_pos ⟨by omega, by omega, by omega⟩]
  simp

/-- `wordStart ≤ i ≤ len(s)` is an invariant of the loop: the checked loop never fails and computes
    what the model's total loop computes. -/
theorem selLoopC_ok (s : Bytes) (idx : Int) : ∀ (rest : Bytes) (i : Nat) (st : SelSt),
    st.wordStart ≤ i → i + rest.length = s.length →
    selLoopC s idx rest i st = .ok (selLoop s idx rest i st)
  | [], i, st, hw, hl => by
    unfold selLoopC selLoop
    simp only [List.length_nil, Nat.add_zero] at hl
    rw [apply_ite Except.ok]
    refine ite_congr rfl (fun _ => ?_) (fun _ => rfl)
    rw [goSlice_nat s _ _ (by omega) (by omega), List.take_of_length_le (by simp)]
  | c :: rest, i, st, hw, hl => by
    have ih := fun st' hw' => selLoopC_ok s idx rest (i + 1) st' hw' (by simp only [List.length_cons] at hl; omega)
    unfold selLoopC selLoop
    -- the two loops branch alike
    simp only [apply_ite Except.ok]
    exact ite_congr rfl
      (fun _ => ite_congr rfl (fun _ => goSlice_nat s _ _ hw (by simp only [List.length_cons] at hl; omega))
        fun _ => ih _ (by simp only; omega))
      fun _ => ite_congr rfl (fun _ => ih _ (by simp only; omega))
        fun _ => ite_congr rfl (fun _ => ih _ (by simp only; omega)) fun _ => ih _ (by omega)

end Rare.Expr.Funcs.Strings

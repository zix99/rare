import Rare.Proofs.C18RT
import Rare.Proofs.C18Offset
/-!
C18: the zone abbreviations Go's `parseTimeZone` reads back in full (so that a layout with `MST`
round-trips): three upper-case letters, four or five upper-case letters ending in `T`, and the
numeric abbreviations `±hh` (hh ≤ 23) of the tz database.
-/
namespace Rare.C18

def isUp (c : UInt8) : Bool := decide (65 ≤ c ∧ c ≤ 90)

theorem isUp_facts (c : UInt8) (h : isUp c = true) :
    65 ≤ c ∧ c ≤ 90 ∧ c ≠ 43 ∧ c ≠ 45 ∧ c ≠ 104 ∧ c ≠ 101 ∧ c ≠ 32 := by
  have ⟨h0, h1⟩ : 65 ≤ c ∧ c ≤ 90 := by simpa [isUp] using h
  refine ⟨h0, h1, ?_, ?_, ?_, ?_, ?_⟩ <;> (intro e; subst e; revert h0 h1; decide)

/-- The shapes of zone abbreviations `parseTimeZone` reads back: three upper-case letters, or four /
five upper-case letters ending in `T` (not starting with `GMT` / `UTC`). -/
def abbrShape (abbr : Bytes) : Bool :=
  match abbr with
  | [a, b, c] => isUp a && isUp b && isUp c
  | [a, b, c, d] => isUp a && isUp b && isUp c && d == 84 && !([a, b, c] == asc "GMT") && !([a, b, c] == asc "UTC")
  | [a, b, c, d, e] => isUp a && isUp b && isUp c && isUp d && e == 84 && !([a, b, c] == asc "GMT") && !([a, b, c] == asc "UTC")
  | _ => false

/-- `parseTimeZone` reads an abbreviation of these shapes in full, at the end of the text or before a space. -/
theorem ptz_shape (abbr : Bytes) (h : abbrShape abbr = true) (rest : Bytes) (hr : rest = [] ∨ ∃ r, rest = 32 :: r) :
    parseTimeZone (abbr ++ rest) = some abbr.length ∧ (∃ c r, abbr = c :: r ∧ c ≠ 32) ∧ (abbr.take 3 = utcB → abbr = utcB) := by
  have e1 : asc "ChST" = [67, 104, 83, 84] := by decide
  have e2 : asc "MeST" = [77, 101, 83, 84] := by decide
  have e3 : asc "GMT" = [71, 77, 84] := by decide
  match abbr, h with
  | [a, b, c], h =>
    simp only [abbrShape, Bool.and_eq_true] at h
    obtain ⟨⟨ha, hb⟩, hc⟩ := h
    obtain ⟨a0, a1, a43, a45, _, _, a32⟩ := isUp_facts a ha
    obtain ⟨b0, b1, _, _, b104, b101, _⟩ := isUp_facts b hb
    obtain ⟨c0, c1, _⟩ := isUp_facts c hc
    refine ⟨?_, ⟨a, _, rfl, a32⟩, id⟩
    rcases hr with rfl | ⟨r, rfl⟩ <;> unfold parseTimeZone <;>
      simp [e1, e2, e3, a43, a45, b104, b101, parseSignedOffset, List.takeWhile, a0, a1, b0, b1, c0, c1]
  | [a, b, c, d], h =>
    simp only [abbrShape, Bool.and_eq_true, beq_iff_eq, Bool.not_eq_true', beq_eq_false_iff_ne, e3] at h
    obtain ⟨⟨⟨⟨⟨ha, hb⟩, hc⟩, rfl⟩, hg⟩, hutc⟩ := h
    obtain ⟨a0, a1, a43, a45, _, _, a32⟩ := isUp_facts a ha
    obtain ⟨b0, b1, _, _, b104, b101, _⟩ := isUp_facts b hb
    obtain ⟨c0, c1, _⟩ := isUp_facts c hc
    have hg' : ¬ (a = 71 ∧ b = 77 ∧ c = 84) := fun ⟨x, y, z⟩ => hg (by rw [x, y, z])
    refine ⟨?_, ⟨a, _, rfl, a32⟩, fun e => absurd e hutc⟩
    rcases hr with rfl | ⟨r, rfl⟩ <;> unfold parseTimeZone <;>
      simp [e1, e2, e3, a43, a45, b104, b101, hg', List.takeWhile, a0, a1, b0, b1, c0, c1]
  | [a, b, c, d, e], h =>
    simp only [abbrShape, Bool.and_eq_true, beq_iff_eq, Bool.not_eq_true', beq_eq_false_iff_ne, e3] at h
    obtain ⟨⟨⟨⟨⟨⟨ha, hb⟩, hc⟩, hd⟩, rfl⟩, hg⟩, hutc⟩ := h
    obtain ⟨a0, a1, a43, a45, _, _, a32⟩ := isUp_facts a ha
    obtain ⟨b0, b1, _, _, b104, b101, _⟩ := isUp_facts b hb
    obtain ⟨c0, c1, _⟩ := isUp_facts c hc
    obtain ⟨d0, d1, _⟩ := isUp_facts d hd
    have hg' : ¬ (a = 71 ∧ b = 77 ∧ c = 84) := fun ⟨x, y, z⟩ => hg (by rw [x, y, z])
    refine ⟨?_, ⟨a, _, rfl, a32⟩, fun e => absurd e hutc⟩
    rcases hr with rfl | ⟨r, rfl⟩ <;> unfold parseTimeZone <;>
      simp [e1, e2, e3, a43, a45, b104, b101, hg', List.takeWhile, a0, a1, b0, b1, c0, c1, d0, d1]

theorem abbrOK_of_shape (abbr : Bytes) (off : Int) (h : abbrShape abbr = true) (hu : abbr = utcB → off = 0) : AbbrOK abbr off := by
  obtain ⟨hend, hhead, hutc⟩ := ptz_shape abbr h [] (Or.inl rfl)
  rw [List.append_nil] at hend
  refine ⟨?_, hhead, fun e => ⟨hutc e, hu (hutc e)⟩, hend, fun r => (ptz_shape abbr h _ (Or.inr ⟨r, rfl⟩)).1⟩
  have : abbr.length < 3 → parseTimeZone abbr = none := fun hl => by simp [parseTimeZone, hl]
  exact Nat.le_of_not_lt fun hl => by rw [this hl] at hend; cases hend

example : AbbrOK (asc "CEST") 7200 := abbrOK_of_shape _ _ (by decide) (by decide)
example : AbbrOK (asc "UTC") 0 := abbrOK_of_shape _ _ (by decide) (fun _ => rfl)
example : AbbrOK (asc "GMT") 0 := abbrOK_of_shape _ _ (by decide) (by decide)

/-- hours 00..23 as two digit bytes -/
def hh2 (d1 d2 : UInt8) : Bool := (d1 == 48 || d1 == 49) && isDigitB d2 || d1 == 50 && (decide (48 ≤ d2) && decide (d2 ≤ 51))

theorem hh2_facts (d1 d2 : UInt8) (h : hh2 d1 d2 = true) :
    isDigitB d1 = true ∧ isDigitB d2 = true ∧ (d1.toNat - 48) * 10 + (d2.toNat - 48) ≤ 23 := by
  unfold hh2 at h
  simp only [Bool.or_eq_true, Bool.and_eq_true, beq_iff_eq, decide_eq_true_eq] at h
  have dig : ∀ c : UInt8, isDigitB c = true → 48 ≤ c.toNat ∧ c.toNat ≤ 57 := by
    intro c hc
    unfold isDigitB at hc
    simp only [Bool.and_eq_true, decide_eq_true_eq] at hc
    exact ⟨by simpa [UInt8.le_iff_toNat_le] using hc.1, by simpa [UInt8.le_iff_toNat_le] using hc.2⟩
  rcases h with ⟨h1 | h1, h2⟩ | ⟨h1, h2, h3⟩
  · subst h1; have := dig d2 h2; exact ⟨by decide, h2, by simp; omega⟩
  · subst h1; have := dig d2 h2; exact ⟨by decide, h2, by simp; omega⟩
  · subst h1
    have a : 48 ≤ d2.toNat := by simpa [UInt8.le_iff_toNat_le] using h2
    have b : d2.toNat ≤ 51 := by simpa [UInt8.le_iff_toNat_le] using h3
    refine ⟨by decide, ?_, by simp; omega⟩
    unfold isDigitB
    simp only [Bool.and_eq_true, decide_eq_true_eq, UInt8.le_iff_toNat_le]
    exact ⟨by simpa using a, by simp; omega⟩

theorem ptz_numeric (s d1 d2 : UInt8) (hs : s = 43 ∨ s = 45) (h : hh2 d1 d2 = true) (rest : Bytes)
    (hr : rest = [] ∨ ∃ r, rest = 32 :: r) : parseTimeZone (s :: d1 :: d2 :: rest) = some 3 := by
  obtain ⟨h1, h2, hv⟩ := hh2_facts d1 d2 h
  have e1 : asc "ChST" = [67, 104, 83, 84] := by decide
  have e2 : asc "MeST" = [77, 101, 83, 84] := by decide
  have e3 : asc "GMT" = [71, 77, 84] := by decide
  have hval : digitsVal [d1, d2] 0 ≤ 23 := by simpa [digitsVal] using hv
  have hds : [d1, d2].all isDigitB = true := by simp [h1, h2]
  have hpso : ∀ tail, NoDigitHead tail → parseSignedOffset (s :: d1 :: d2 :: tail) = 3 := by
    intro tail ht
    have := parseSignedOffset_exact s hs [d1, d2] hds tail ht
    simpa [hval] using this
  have hnd : NoDigitHead rest := by
    rcases hr with hr | ⟨r, hr⟩
    · exact Or.inl hr
    · exact Or.inr ⟨32, r, hr, by decide⟩
  have hp := hpso rest hnd
  rcases hs with hs | hs <;> subst hs <;> rcases hr with hr | ⟨r, hr⟩ <;> subst hr <;>
  · unfold parseTimeZone
    simp [e1, e2, e3, hp]

/-- Numeric zone abbreviations of the tz database (`-03`, `+11`): a sign and an hour 00..23. -/
theorem abbrOK_numeric (s d1 d2 : UInt8) (off : Int) (hs : s = 43 ∨ s = 45) (h : hh2 d1 d2 = true) :
    AbbrOK [s, d1, d2] off := by
  refine ⟨by simp, ⟨s, _, rfl, by rcases hs with e | e <;> subst e <;> decide⟩, ?_,
    ptz_numeric s d1 d2 hs h [] (Or.inl rfl), fun r => ptz_numeric s d1 d2 hs h _ (Or.inr ⟨r, rfl⟩)⟩
  intro e
  exfalso
  have hutc : utcB = [85, 84, 67] := by decide
  rw [hutc] at e
  have : s = 85 := by
    have := congrArg List.head? e
    simpa using this
  rcases hs with e | e <;> subst e <;> exact absurd this (by decide)

example : AbbrOK (asc "-03") (-10800) := abbrOK_numeric 45 48 51 _ (Or.inr rfl) (by decide)
example : AbbrOK (asc "+11") 39600 := abbrOK_numeric 43 49 49 _ (Or.inl rfl) (by decide)

end Rare.C18

import Rare.Proofs.ExprSafe
import Rare.Proofs.C08Arith
import Rare.Model.Expr.Funcs.Format
/-!
C08 for `{format}`: the model of `fmt.Sprintf` on string operands (`Funcs/Format.lean`) never reaches one
of its explicit failure points – the operand index `a[argNum]` is always in range, and the loop over the
format always ends within its fuel (every iteration consumes at least the `%`) – for every format, every
operand list and every `unicode.IsPrint` oracle.  Hence `kfFormat` is a safe builder.
-/
namespace Rare.Expr.Funcs.Format
open Rare Rare.Expr

theorem flagLoop_len : ∀ (s : Bytes) (f : Fl), (flagLoop s f).2.length ≤ s.length
  | [], _ => Nat.le_refl _
  | c :: r, f => by
    have h : ∀ f', (flagLoop r f').2.length ≤ (c :: r).length := fun f' => Nat.le_succ_of_le (flagLoop_len r f')
    unfold flagLoop
    simp only [apply_ite Prod.snd, apply_ite List.length]
    exact ite_le (h _) <| ite_le (h _) <| ite_le (h _) <| ite_le (h _) <| ite_le (h _) (Nat.le_refl _)

theorem parsenumGo_len : ∀ (s : Bytes) (n : Nat) (b : Bool), (parsenumGo s n b).2.2.length ≤ s.length
  | [], _, _ => Nat.le_refl _
  | c :: r, n, b => by
    unfold parsenumGo
    simp only [apply_ite Prod.snd, apply_ite List.length]
    exact ite_le (ite_le (Nat.zero_le _) (Nat.le_succ_of_le (parsenumGo_len r _ _))) (Nat.le_refl _)

theorem parsenum_len (s : Bytes) : (parsenum s).2.2.length ≤ s.length := parsenumGo_len s 0 false

theorem argNumber_len (argNum : Nat) (fmt : Bytes) (numArgs : Nat) (re good : Bool) :
    (argNumber argNum fmt numArgs re good).rest.length ≤ fmt.length := by
  unfold argNumber
  split
  · rename_i after
    have h1 := (List.dropWhile_sublist (fun x => x != 93) (l := after)).length_le
    simp only [apply_ite ArgNum.rest, apply_ite List.length]
    refine ite_le (Nat.le_succ _) ?_
    split
    · exact Nat.le_succ _
    · rename_i x beyond htail
      rw [htail] at h1
      simp only [apply_ite ArgNum.rest, apply_ite List.length, List.length_cons] at h1 ⊢
      exact ite_le (by omega) (ite_le (by omega) (by omega))
  · exact Nat.le_refl _

theorem widthPart_len (a : List Bytes) (f : Fl) (out : Bytes) (n : ArgNum) :
    (widthPart a f out n).rest.length ≤ n.rest.length := by
  unfold widthPart
  split
  · rename_i r h; rw [h]; simp
  · exact parsenum_len _

theorem precPart_len (a : List Bytes) (m : Mid) : (precPart a m).rest.length ≤ m.rest.length := by
  unfold precPart
  split
  · rename_i r h
    split
    · exact Nat.le_refl _
    · simp only []
      have h2 := argNumber_len m.argNum r a.length m.reordered (if m.afterIndex then false else m.good)
      split
      · rename_i r2 h3
        rw [h3] at h2
        simp only [List.length_cons] at h2
        rw [h]; simp only [List.length_cons]; omega
      · have h4 := parsenum_len
          (argNumber m.argNum r a.length m.reordered (if m.afterIndex then false else m.good)).rest
        rw [h]; simp only [List.length_cons]; omega
  · exact Nat.le_refl _

theorem indexPart_len (a : List Bytes) (m : Mid) : (indexPart a m).rest.length ≤ m.rest.length := by
  unfold indexPart
  split
  · exact argNumber_len _ _ _ _ _
  · exact Nat.le_refl _

theorem argAt_ok (a : List Bytes) (i : Nat) (h : i < a.length) : ∃ v, argAt a i = .ok v := by
  unfold argAt
  rw [List.getElem?_eq_getElem h]
  exact ⟨_, rfl⟩

theorem verbSwitch_ok (isPrint : Nat → Bool) (a : List Bytes) (f : Fl) (good : Bool) (verb : Nat) (st : St) :
    ∃ st', verbSwitch isPrint a f good verb st = .ok st' := by
  unfold verbSwitch
  by_cases h1 : verb = 37
  · exact ⟨_, if_pos h1⟩
  by_cases h2 : (!good) = true
  · exact ⟨_, (if_neg h1).trans (if_pos h2)⟩
  by_cases h3 : st.argNum ≥ a.length
  · exact ⟨_, (if_neg h1).trans ((if_neg h2).trans (if_pos h3))⟩
  obtain ⟨v, hv⟩ := argAt_ok a st.argNum (by omega)
  rw [if_neg h1, if_neg h2, if_neg h3, hv]
  exact ⟨_, rfl⟩

theorem verbPart_ok (isPrint : Nat → Bool) (a : List Bytes) (m : Mid) :
    ∃ st' rest stop, verbPart isPrint a m = .ok (st', rest, stop) ∧ rest.length ≤ m.rest.length := by
  unfold verbPart
  split
  · exact ⟨_, _, _, rfl, by simp⟩
  · rename_i c r h
    simp only []
    obtain ⟨st', hs⟩ := verbSwitch_ok isPrint a m.f m.good
      (if c.toNat < 128 then (c.toNat, 1) else C20.decode1 (c :: r)).1
      { out := m.out, argNum := m.argNum, reordered := m.reordered }
    rw [hs]
    refine ⟨_, _, _, rfl, ?_⟩
    rw [h]
    simp only [List.length_drop, List.length_cons]
    omega

theorem slowPath_ok (isPrint : Nat → Bool) (a : List Bytes) (f : Fl) (fmt1 : Bytes) (st : St) :
    ∃ st' rest stop, slowPath isPrint a f fmt1 st = .ok (st', rest, stop) ∧ rest.length ≤ fmt1.length := by
  unfold slowPath
  obtain ⟨st', rest, stop, h, hl⟩ := verbPart_ok isPrint a
    (indexPart a (precPart a (widthPart a f st.out (argNumber st.argNum fmt1 a.length st.reordered true))))
  refine ⟨st', rest, stop, h, ?_⟩
  have h1 := indexPart_len a (precPart a (widthPart a f st.out (argNumber st.argNum fmt1 a.length st.reordered true)))
  have h2 := precPart_len a (widthPart a f st.out (argNumber st.argNum fmt1 a.length st.reordered true))
  have h3 := widthPart_len a f st.out (argNumber st.argNum fmt1 a.length st.reordered true)
  have h4 := argNumber_len st.argNum fmt1 a.length st.reordered true
  omega

theorem verbStep_ok (isPrint : Nat → Bool) (a : List Bytes) (fmt : Bytes) (st : St) :
    ∃ st' rest stop, verbStep isPrint a fmt st = .ok (st', rest, stop) ∧ rest.length ≤ fmt.length := by
  have hf := flagLoop_len fmt {}
  obtain ⟨st', rest, stop, hs, hl⟩ := slowPath_ok isPrint a (flagLoop fmt {}).1 (flagLoop fmt {}).2 st
  have hslow : ∃ st' rest stop, slowPath isPrint a (flagLoop fmt {}).1 (flagLoop fmt {}).2 st = .ok (st', rest, stop) ∧
      rest.length ≤ fmt.length := ⟨st', rest, stop, hs, by omega⟩
  unfold verbStep
  simp only []
  split
  · rename_i c r h
    by_cases hc : 97 ≤ c ∧ c ≤ 122 ∧ st.argNum < a.length
    · obtain ⟨v, hv⟩ := argAt_ok a st.argNum hc.2.2
      rw [if_pos hc, hv]
      refine ⟨_, _, _, rfl, ?_⟩
      rw [h] at hf; simp only [List.length_cons] at hf; omega
    · rw [if_neg hc]; exact hslow
  · exact hslow

theorem formatLoop_ok (isPrint : Nat → Bool) (a : List Bytes) :
    ∀ (fuel : Nat) (fmt : Bytes) (st : St), fmt.length < fuel → ∃ st', formatLoop isPrint a fuel fmt st = .ok st' := by
  intro fuel
  induction fuel with
  | zero => intro fmt st h; omega
  | succ fuel ih =>
    intro fmt st h
    cases fmt with
    | nil => exact ⟨st, rfl⟩
    | cons c r =>
      simp only [formatLoop]
      simp only [List.length_cons] at h
      split
      · exact ih _ _ (by omega)
      · obtain ⟨st', rest, stop, hs, hl⟩ := verbStep_ok isPrint a r st
        rw [hs]
        simp only []
        split
        · exact ⟨_, rfl⟩
        · exact ih _ _ (by omega)

/-- **`fmt.Sprintf` on string operands returns**: no operand index is out of range and the loop over the
    format ends, for every format, operand list and `IsPrint` oracle. -/
theorem sprintf_total (isPrint : Nat → Bool) (format : Bytes) (a : List Bytes) :
    ∃ out, sprintf isPrint format a = .ok out := by
  unfold sprintf
  obtain ⟨st, hs⟩ := formatLoop_ok isPrint a (format.length + 1) format {} (by omega)
  rw [hs]
  simp only []
  split <;> exact ⟨_, rfl⟩

theorem evalAll_safe : ∀ (l : List Stage), (∀ s ∈ l, Safe s) → Safe (evalAll l) := by
  intro l
  induction l with
  | nil => intro _; exact .ret _
  | cons s r ih =>
    intro h
    exact Safe.bind' (h s (by simp)) fun v =>
      Safe.bind' (ih fun x hx => h x (by simp [hx])) fun vs => Safe.pure _

theorem kfFormat_safe (isPrint : Nat → Bool) : SafeBuilder (kfFormat isPrint) := by
  intro args h
  show SafeResult _
  unfold kfFormat
  split
  · exact SafeResult.errArgCount
  · rename_i a0 rest
    refine SafeResult.ok (Safe.bind' (h a0 (by simp)) fun f => Safe.bind' (evalAll_safe rest fun x hx => h x (by simp [hx])) fun vs => ?_)
    obtain ⟨out, ho⟩ := sprintf_total isPrint f vs
    rw [ho]
    exact Safe.pure _

theorem format_safe (isPrint : Nat → Bool) : ∀ p ∈ table isPrint, SafeBuilder p.2 := by
  simp only [table, List.forall_mem_cons, List.not_mem_nil, false_imp_iff, implies_true, and_true]
  exact kfFormat_safe isPrint

end Rare.Expr.Funcs.Format

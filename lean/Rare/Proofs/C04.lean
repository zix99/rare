import Rare.Model.C04
/-!
Line splitting (C04): the equations of the specification, the invariant of `ImmediateReadAhead` and what one
`Scan()` achieves (`Post`), the predicates every step preserves (`Closed`), and the outer loop of repeated `Scan()`
calls, for any scanner whose `Scan()` meets `Post` on its window (`Scans`; `Proofs/C04Buf.lean` shows that the
buffered scanner is one).
-/
namespace Rare.C04

/-! ### spec lemmas -/

theorem splitGo_noNl (cur a rest : Bytes) (h : nl ∉ a) :
    splitGo cur (a ++ rest) = splitGo (cur ++ a) rest := by
  induction a generalizing cur with
  | nil => simp
  | cons b a ih =>
    have hb : b ≠ nl := fun e => h (by simp [e])
    have ha : nl ∉ a := fun e => h (by simp [e])
    simp [splitGo, hb, ih _ ha]

theorem splitGo_line (cur a rest : Bytes) (h : nl ∉ a) :
    splitGo cur (a ++ nl :: rest) = dropCR (cur ++ a) :: splitGo [] rest := by
  rw [splitGo_noNl _ _ _ h]; simp [splitGo]

theorem splitGo_tail (cur a : Bytes) (h : nl ∉ a) :
    splitGo cur a = if cur ++ a = [] then [] else [cur ++ a] := by
  have := splitGo_noNl cur a [] h
  simp at this; rw [this]; simp [splitGo]

/-- `E` is exactly the list of lines of the consumed prefix `C`, and `C` ends at a line boundary. -/
def Boundary (C : Bytes) (E : List Bytes) : Prop :=
  ∀ rest, splitLines (C ++ rest) = E ++ splitLines rest

theorem Boundary.nil : Boundary [] [] := by intro r; simp

theorem Boundary.line {C E} (h : Boundary C E) (a : Bytes) (ha : nl ∉ a) :
    Boundary (C ++ a ++ [nl]) (E ++ [dropCR a]) := by
  intro rest
  have := h (a ++ nl :: rest)
  simp only [List.append_assoc, List.singleton_append] at *
  rw [this]; simp [splitLines, splitGo_line _ _ _ ha]

/-- the stream ends after `C` with an unterminated rest `b` (`b = []`: it ends at the boundary) -/
theorem Boundary.tail {C E} (h : Boundary C E) (b : Bytes) (hb : nl ∉ b) :
    splitLines (C ++ b) = E ++ if b = [] then [] else [b] := by
  rw [h b, splitLines, splitGo_tail _ _ hb, List.nil_append]

/-! ### idxNl -/

theorem idxNl_none {l : Bytes} : idxNl l = none ↔ nl ∉ l := by
  induction l with
  | nil => simp [idxNl]
  | cons b r ih =>
    by_cases hb : b = nl
    · simp [idxNl, hb]
    · have : ¬ nl = b := fun e => hb e.symm
      simp [idxNl, hb, ih, this]

theorem idxNl_some {l : Bytes} {k : Nat} (h : idxNl l = some k) :
    ∃ a r, nl ∉ a ∧ l = a ++ nl :: r ∧ a.length = k := by
  induction l generalizing k with
  | nil => simp [idxNl] at h
  | cons b l ih =>
    by_cases hb : b = nl
    · simp [idxNl, hb] at h
      exact ⟨[], l, by simp, by simp [hb], h⟩
    · simp [idxNl, hb] at h
      obtain ⟨k', hk', rfl⟩ := h
      obtain ⟨a, r, ha, rfl, rfl⟩ := ih hk'
      exact ⟨b :: a, r, by simp [ha, Ne.symm hb], rfl, rfl⟩

theorem idxNl_append_noNl {a b : Bytes} (h : nl ∉ a) :
    idxNl (a ++ b) = (idxNl b).map (· + a.length) := by
  induction a with
  | nil => simp
  | cons x a ih =>
    have hx : x ≠ nl := fun e => h (by simp [e])
    have ha : nl ∉ a := fun e => h (by simp [e])
    simp [idxNl, hx, ih ha, Option.map_map]
    cases idxNl b <;> simp; omega

/-! ### ImmediateReadAhead: invariant and per-step lemmas -/

def Imm.pending (s : Imm) : Bytes := s.buf.drop s.offset

structure Inv (s : Imm) (C : Bytes) : Prop where
  off : s.offset ≤ s.buf.length
  del : s.delivered = C ++ s.pending
  bs : 1 ≤ s.bufSize

theorem pending_length (s : Imm) : s.pending.length = s.buf.length - s.offset := by
  simp [Imm.pending]

theorem pending_eq_nil {s : Imm} : s.pending = [] ↔ s.buf.length ≤ s.offset := by
  simp [Imm.pending]

/-! ### views into the backing arrays -/

def ViewOK (arrays : List Bytes) (v : View) : Prop :=
  v.arr < arrays.length ∧ v.start ≤ v.stop ∧ v.stop ≤ (arrays.getD v.arr []).length

/-- `B` extends `A`: no array disappears and every array only grows at its end. -/
def Ext (A B : List Bytes) : Prop :=
  A.length ≤ B.length ∧ ∀ i, i < A.length → A.getD i [] <+: B.getD i []

theorem Ext.refl (A : List Bytes) : Ext A A := ⟨Nat.le_refl _, fun _ _ => List.prefix_refl _⟩

theorem Ext.trans {A B D : List Bytes} (h1 : Ext A B) (h2 : Ext B D) : Ext A D :=
  ⟨Nat.le_trans h1.1 h2.1, fun i hi => List.IsPrefix.trans (h1.2 i hi) (h2.2 i (Nat.lt_of_lt_of_le hi h1.1))⟩

theorem readView_ext {A B : List Bytes} {v : View} (h : Ext A B) (hv : ViewOK A v) :
    readView B v = readView A v ∧ ViewOK B v := by
  obtain ⟨t, ht⟩ := h.2 v.arr hv.1
  have hlen : (A.getD v.arr []).length ≤ (B.getD v.arr []).length := by rw [← ht]; simp
  refine ⟨?_, Nat.lt_of_lt_of_le hv.1 h.1, hv.2.1, Nat.le_trans hv.2.2 hlen⟩
  unfold readView
  rw [← ht, List.drop_append_of_le_length (Nat.le_trans hv.2.1 hv.2.2), List.take_append_of_le_length]
  rw [List.length_drop]; have := hv.2.1; have := hv.2.2; omega

theorem view_ext {A B : List Bytes} {v : View} {b : Bytes} (h : Ext A B)
    (hv : ViewOK A v ∧ readView A v = b) : ViewOK B v ∧ readView B v = b :=
  ⟨(readView_ext h hv.1).2, by rw [(readView_ext h hv.1).1]; exact hv.2⟩

theorem dropCR_prefix (a : Bytes) : dropCR a <+: a := by
  unfold dropCR; split
  · exact List.dropLast_prefix a
  · exact List.prefix_refl a

theorem arrays_getD_arr (s : Imm) : s.arrays.getD s.arr [] = s.buf := by
  simp [Imm.arrays, Imm.arr, List.getD]

/-- what starts at `offset` in the current array is a valid view of it -/
theorem view_of_prefix {s : Imm} {b : Bytes} (ho : s.offset ≤ s.buf.length) (hb : b <+: s.pending) :
    ViewOK s.arrays ⟨s.arr, s.offset, s.offset + b.length⟩ ∧
    readView s.arrays ⟨s.arr, s.offset, s.offset + b.length⟩ = b := by
  have hl : b.length ≤ s.buf.length - s.offset := pending_length s ▸ hb.length_le
  refine ⟨⟨by simp [Imm.arrays, Imm.arr], by simp, ?_⟩, ?_⟩
  · show s.offset + b.length ≤ (s.arrays.getD s.arr []).length
    rw [arrays_getD_arr]; omega
  · unfold readView
    show List.take (s.offset + b.length - s.offset) (List.drop s.offset (s.arrays.getD s.arr [])) = b
    rw [arrays_getD_arr, Nat.add_sub_cancel_left]
    exact (List.prefix_iff_eq_take.mp hb).symm

/-- What one `Scan()` call achieved, relative to the consumed prefix `C`. -/
def Post (C : Bytes) : Res → Imm → Prop
  | .tok v b, s' =>
      (ViewOK s'.arrays v ∧ readView s'.arrays v = b) ∧
      ((∃ a, nl ∉ a ∧ b = dropCR a ∧ Inv s' (C ++ a ++ [nl])) ∨
       (nl ∉ b ∧ b ≠ [] ∧ s'.eof = true ∧ s'.pending = [] ∧ Inv s' (C ++ b)))
  | .done, s' => s'.eof = true ∧ s'.pending = [] ∧ Inv s' C
  | .fuel, s' => Inv s' C

/-- `emitAt` at the position of the first newline -/
theorem emitAt_post {s : Imm} {C a r : Bytes} (h : Inv s C) (ha : nl ∉ a) (hp : s.pending = a ++ nl :: r) :
    Post C (s.emitAt a.length).1 (s.emitAt a.length).2 := by
  have hb : s.buf.drop s.offset = a ++ nl :: r := hp
  have hl : s.offset + a.length + 1 ≤ s.buf.length := by
    have := pending_length s
    rw [hp] at this; simp at this; omega
  have hrest : s.buf.drop (s.offset + a.length + 1) = r := by
    rw [Nat.add_assoc, ← List.drop_drop, hb, show a ++ nl :: r = (a ++ [nl]) ++ r by simp]
    exact List.drop_left' (by simp)
  have hpre : dropCR a <+: s.pending := hp ▸ (dropCR_prefix a).trans (List.prefix_append _ _)
  simp only [Imm.emitAt, hb, List.take_left', Post]
  refine ⟨view_of_prefix h.off hpre, Or.inl ⟨a, ha, rfl, hl, ?_, h.bs⟩⟩
  simp only [Imm.pending, hrest]
  rw [h.del, hp]; simp

theorem emitTail_post {s : Imm} {C : Bytes} (h : Inv s C) (hn : nl ∉ s.pending) (hne : s.pending ≠ [])
    (he : s.eof = true) : Post C s.emitTail.1 s.emitTail.2 := by
  have hv := view_of_prefix h.off (List.prefix_refl s.pending)
  rw [pending_length, Nat.add_sub_cancel' h.off] at hv
  refine ⟨hv, Or.inr ⟨hn, hne, he, ?_, Nat.le_refl _, ?_, h.bs⟩⟩
  · simp [Imm.emitTail, Imm.pending]
  · simp [Imm.emitTail, Imm.pending]; exact h.del

/-- The three ways out of the code between `RESTART:` and the read loop. -/
theorem top_some {s : Imm} {r : Res × Imm} (ht : s.top = some r) :
    (∃ a t, nl ∉ a ∧ s.pending = a ++ nl :: t ∧ r = s.emitAt a.length) ∨
    (nl ∉ s.pending ∧ s.pending ≠ [] ∧ s.eof = true ∧ r = s.emitTail) ∨
    (s.pending = [] ∧ s.eof = true ∧ r = (.done, s)) := by
  unfold Imm.top at ht
  split at ht
  · rename_i hlt
    split at ht
    · rename_i eol heq
      obtain ⟨a, t, ha, hp, rfl⟩ := idxNl_some heq
      exact Or.inl ⟨a, t, ha, hp, (Option.some.inj ht).symm⟩
    · rename_i heq
      split at ht
      · rename_i he
        refine Or.inr (Or.inl ⟨idxNl_none.mp heq, ?_, he, (Option.some.inj ht).symm⟩)
        rw [Ne, pending_eq_nil]; omega
      · cases ht
  · rename_i hge
    split at ht
    · rename_i he
      exact Or.inr (Or.inr ⟨pending_eq_nil.mpr (by omega), he, (Option.some.inj ht).symm⟩)
    · cases ht

theorem top_none {s : Imm} (ht : s.top = none) : nl ∉ s.pending ∧ s.eof = false := by
  unfold Imm.top at ht
  split at ht
  · split at ht
    · cases ht
    · rename_i heq
      split at ht
      · cases ht
      · rename_i he
        exact ⟨idxNl_none.mp heq, by simpa using he⟩
  · rename_i hge
    split at ht
    · cases ht
    · rename_i he
      rw [pending_eq_nil.mpr (by omega)]
      exact ⟨by simp, by simpa using he⟩

/-- after `goto RESTART` from the error branch `eof` is set, and the prologue returns -/
theorem topEof_eq_top (s : Imm) (he : s.eof = true) : s.top = some s.topEof := by
  unfold Imm.top Imm.topEof
  simp only [he, if_true]
  split
  · split <;> rfl
  · rfl

theorem top_post {s : Imm} {C : Bytes} (h : Inv s C) {r : Res × Imm} (ht : s.top = some r) : Post C r.1 r.2 := by
  rcases top_some ht with ⟨a, t, ha, hp, rfl⟩ | ⟨hn, hne, he, rfl⟩ | ⟨hp, he, rfl⟩
  · exact emitAt_post h ha hp
  · exact emitTail_post h hn hne he
  · exact ⟨he, hp, h⟩

theorem grown_rd (s : Imm) : s.grown.rd = s.rd := by unfold Imm.grown; split <;> rfl

theorem grown_eof (s : Imm) : s.grown.eof = s.eof := by unfold Imm.grown; split <;> rfl

theorem grown_bufSize (s : Imm) : s.grown.bufSize = s.bufSize := by unfold Imm.grown; split <;> rfl

/-- after the regrow check there is room for the `Read` -/
theorem grown_room (s : Imm) (h : 1 ≤ s.bufSize) : s.grown.buf.length < s.grown.cap := by
  unfold Imm.grown
  split
  · simp [Imm.regrow]; omega
  · omega

theorem grown_spec {s : Imm} {C : Bytes} (h : Inv s C) :
    Inv s.grown C ∧ s.grown.pending = s.pending ∧ s.grown.buf.length < s.grown.cap := by
  refine ⟨?_, ?_, grown_room s h.bs⟩ <;> unfold Imm.grown <;> split
  · exact ⟨by simp [Imm.regrow], by simpa [Imm.regrow, Imm.pending] using h.del, h.bs⟩
  · exact h
  · simp [Imm.regrow, Imm.pending]
  · rfl

theorem recv_spec {s : Imm} {C : Bytes} (h : Inv s C) (bs : Bytes) (rd' : Reader) :
    Inv (s.recv bs rd') C ∧ (s.recv bs rd').pending = s.pending ++ bs := by
  have hp : (s.recv bs rd').pending = s.pending ++ bs := by
    simp [Imm.recv, Imm.pending, List.drop_append_of_le_length h.off]
  refine ⟨⟨by simp [Imm.recv]; have := h.off; omega, ?_, h.bs⟩, hp⟩
  rw [hp]; simp [Imm.recv, h.del]

theorem readLoop_post (f : Nat) : ∀ {s : Imm} {C : Bytes}, Inv s C → nl ∉ s.pending →
    Post C (s.readLoop f).1 (s.readLoop f).2 := by
  induction f with
  | zero => intro s C h _; exact h
  | succ f ih =>
    intro s C h hn
    have hg := grown_spec h
    simp only [Imm.readLoop]
    generalize hr : s.grown.rd.read (s.grown.cap - s.grown.buf.length) = r
    have h1 := recv_spec hg.1 r.1 r.2.2
    rw [hg.2.1] at h1
    split
    · rename_i e _
      exact top_post (s := (s.grown.recv r.1 r.2.2).fail e) ⟨h1.1.off, h1.1.del, h1.1.bs⟩ (topEof_eq_top _ rfl)
    · split
      · rename_i eol heq
        obtain ⟨a', rr, ha', hbs, rfl⟩ := idxNl_some heq
        have hpend : (s.grown.recv r.1 r.2.2).pending = (s.pending ++ a') ++ nl :: rr := by
          rw [h1.2, hbs]; simp
        have hlen : (s.pending ++ a').length = s.grown.buf.length + a'.length - s.grown.offset := by
          have := pending_length s.grown
          rw [hg.2.1] at this
          have ho := hg.1.off
          simp [this]; omega
        rw [← hlen]
        exact emitAt_post h1.1 (by simp [hn, ha']) hpend
      · rename_i heq
        apply ih h1.1
        rw [h1.2]; simp [hn, idxNl_none.mp heq]

theorem scan_post (f : Nat) {s : Imm} {C : Bytes} (h : Inv s C) :
    Post C (s.scan f).1 (s.scan f).2 := by
  unfold Imm.scan
  split
  · rename_i r ht
    exact top_post h ht
  · rename_i ht
    exact readLoop_post f h (top_none ht).1

/-- A finished scanner (`eof`, nothing pending) answers `false` and stays put. -/
theorem scan_final (f : Nat) {s : Imm} (he : s.eof = true) (hp : s.pending = []) :
    s.scan f = (.done, s) := by
  have hge : ¬ s.offset < s.buf.length := by have := pending_eq_nil.mp hp; omega
  simp [Imm.scan, Imm.top, hge, he]

/-- Scanner state `s` is consistent with having emitted exactly the lines `E`. -/
def Good (s : Imm) (E : List Bytes) : Prop :=
  ∃ C, Inv s C ∧ (Boundary C E ∨ (s.eof = true ∧ s.pending = [] ∧ splitLines s.delivered = E))

theorem good_init (bufSize : Nat) (rd : Reader) (h : 1 ≤ bufSize) : Good (Imm.init bufSize rd) [] :=
  ⟨[], ⟨by simp [Imm.init], by simp [Imm.init, Imm.pending], h⟩, Or.inl Boundary.nil⟩

/-! ### predicates preserved by every step of `Scan()` -/

structure Closed (P : Imm → Prop) : Prop where
  emitAt : ∀ s k, P s → P (s.emitAt k).2
  emitTail : ∀ s, P s → P s.emitTail.2
  grown : ∀ s, P s → P s.grown
  /-- a `Read` into a buffer with room, its result appended, and, if it returned an error, `fail` -/
  read : ∀ s, P s → s.eof = false → s.buf.length < s.cap →
    let r := s.rd.read (s.cap - s.buf.length)
    match r.2.1 with
    | none => P (s.recv r.1 r.2.2)
    | some e => P ((s.recv r.1 r.2.2).fail e)

/-- the `read` clause of `Closed` on its own -/
def ReadClosed (P : Imm → Prop) : Prop :=
  ∀ s, P s → s.eof = false → s.buf.length < s.cap →
    let r := s.rd.read (s.cap - s.buf.length)
    match r.2.1 with
    | none => P (s.recv r.1 r.2.2)
    | some e => P ((s.recv r.1 r.2.2).fail e)

/-- A predicate on the reader's side of the state - what only a `Read` changes - is `Closed` as soon as the `Read`
    step preserves it. -/
theorem Closed.of_read (Q : Reader → Bool → Nat → Bytes → Prop)
    (read : ReadClosed (fun s => Q s.rd s.eof s.errs s.delivered)) :
    Closed (fun s => Q s.rd s.eof s.errs s.delivered) where
  emitAt := fun _ _ h => h
  emitTail := fun _ h => h
  grown := fun s h => by unfold Imm.grown; split <;> exact h
  read := read

/- `Scan()` preserves what its steps preserve.  `Closed` asks the regrow to preserve `P` from every state; the read
   loop calls it only under the invariant and with no newline in the window, and the allocation bounds
   (`Proofs/C04More.lean`) need to know that. -/
section
variable {P : Imm → Prop} (emitAt : ∀ s k, P s → P (s.emitAt k).2) (emitTail : ∀ s, P s → P s.emitTail.2)
  (grown : ∀ s C, Inv s C → nl ∉ s.pending → P s → P s.grown) (read : ReadClosed P)
include emitAt emitTail

theorem top_preserved {s : Imm} {r : Res × Imm} (h : P s) (ht : s.top = some r) : P r.2 := by
  rcases top_some ht with ⟨a, _, _, _, rfl⟩ | ⟨_, _, _, rfl⟩ | ⟨_, _, rfl⟩
  · exact emitAt s _ h
  · exact emitTail s h
  · exact h

include grown read

theorem readLoop_preserved (f : Nat) : ∀ {s : Imm} {C : Bytes}, Inv s C → nl ∉ s.pending → s.eof = false →
    P s → P (s.readLoop f).2 := by
  induction f with
  | zero => intro s C _ _ _ h; exact h
  | succ f ih =>
    intro s C hinv hn he h
    have hg := grown_spec hinv
    have hr := read s.grown (grown s C hinv hn h) (by rw [grown_eof, he]) hg.2.2
    simp only [Imm.readLoop]
    generalize s.grown.rd.read (s.grown.cap - s.grown.buf.length) = r at hr
    have h1 := recv_spec hg.1 r.1 r.2.2
    split
    · rename_i e heq
      simp only [heq] at hr
      exact top_preserved emitAt emitTail hr (topEof_eq_top _ rfl)
    · rename_i heq
      simp only [heq] at hr
      split
      · exact emitAt _ _ hr
      · rename_i hnone
        refine ih h1.1 ?_ (by rw [← he, ← grown_eof s]; rfl) hr
        rw [h1.2, hg.2.1]; simp [hn, idxNl_none.mp hnone]

theorem scan_preserved (f : Nat) {s : Imm} {C : Bytes} (hinv : Inv s C) (h : P s) : P (s.scan f).2 := by
  unfold Imm.scan
  split
  · rename_i r ht
    exact top_preserved emitAt emitTail h ht
  · rename_i ht
    exact readLoop_preserved emitAt emitTail grown read f hinv (top_none ht).1 (top_none ht).2 h

end

theorem scan_closed {P} (hP : Closed P) (f : Nat) {s : Imm} {C : Bytes} (hinv : Inv s C) (h : P s) :
    P (s.scan f).2 :=
  scan_preserved hP.emitAt hP.emitTail (fun s _ _ _ => hP.grown s) hP.read f hinv h

/-! ### reader facts -/

/-- the three answers of the scripted reader -/
theorem read_cases (r : Reader) (room : Nat) :
    (∃ s ss, r.script = s :: ss ∧
      r.read room = (r.rest.take (min s.want room), s.err, ⟨r.rest.drop (min s.want room), ss⟩)) ∨
    (r.script = [] ∧ r.rest = [] ∧ r.read room = ([], some .eof, r)) ∨
    (r.script = [] ∧ r.rest ≠ [] ∧ r.read room = (r.rest.take room, none, { r with rest := r.rest.drop room })) := by
  unfold Reader.read
  split
  · rename_i hs
    split
    · rename_i hr; exact Or.inr (Or.inl ⟨hs, hr, rfl⟩)
    · rename_i hr; exact Or.inr (Or.inr ⟨hs, hr, rfl⟩)
  · rename_i s ss hs
    exact Or.inl ⟨s, ss, hs, rfl⟩

theorem read_take_drop (r : Reader) (room : Nat) :
    (r.read room).1 ++ (r.read room).2.2.rest = r.rest := by
  rcases read_cases r room with ⟨s, ss, _, h⟩ | ⟨_, hr, h⟩ | ⟨_, _, h⟩ <;> rw [h]
  · exact List.take_append_drop _ _
  · rfl
  · exact List.take_append_drop _ _

theorem read_len (r : Reader) (room : Nat) : (r.read room).1.length ≤ room := by
  rcases read_cases r room with ⟨s, ss, _, h⟩ | ⟨_, hr, h⟩ | ⟨_, _, h⟩ <;> rw [h]
  · exact Nat.le_trans (List.length_take_le _ _) (Nat.min_le_right _ _)
  · exact Nat.zero_le _
  · exact List.length_take_le _ _

theorem read_measure_le (r : Reader) (room : Nat) : (r.read room).2.2.measure ≤ r.measure := by
  rcases read_cases r room with ⟨s, ss, hs, h⟩ | ⟨_, hr, h⟩ | ⟨hs, _, h⟩ <;> rw [h]
  · simp only [Reader.measure, hs, List.length_cons, List.length_drop]; omega
  · exact Nat.le_refl _
  · simp only [Reader.measure, List.length_drop]; omega

theorem read_measure (r : Reader) (room : Nat) (hroom : 0 < room) (hn : (r.read room).2.1 = none) :
    (r.read room).2.2.measure < r.measure := by
  rcases read_cases r room with ⟨s, ss, hs, h⟩ | ⟨_, hr, h⟩ | ⟨hs, hr, h⟩ <;> rw [h] at hn ⊢
  · simp only [Reader.measure, hs, List.length_cons, List.length_drop]; omega
  · cases hn
  · have : 0 < r.rest.length := List.length_pos_iff.mpr hr
    simp only [Reader.measure, List.length_drop]; omega

theorem read_script_sub (r : Reader) (room : Nat) : ∀ st ∈ (r.read room).2.2.script, st ∈ r.script := by
  rcases read_cases r room with ⟨s, ss, hs, h⟩ | ⟨_, hr, h⟩ | ⟨hs, hr, h⟩ <;> rw [h]
  · intro st hst; rw [hs]; exact List.mem_cons_of_mem _ hst
  · exact fun _ h => h
  · exact fun _ h => h

theorem read_err_mem (r : Reader) (room : Nat) (e : RErr) (h : (r.read room).2.1 = some e) :
    (e = .eof ∧ r.script = [] ∧ r.rest = []) ∨ ∃ st ∈ r.script, st.err = some e := by
  rcases read_cases r room with ⟨s, ss, hs, h'⟩ | ⟨hs, hr, h'⟩ | ⟨hs, hr, h'⟩ <;> rw [h'] at h
  · exact Or.inr ⟨s, by simp [hs], h⟩
  · exact Or.inl ⟨(Option.some.inj h).symm, hs, hr⟩
  · cases h
/-- without a failing step in the script no `Read` fails -/
theorem read_nofail {r : Reader} {room : Nat} {e : RErr} (hnf : ∀ st ∈ r.script, st.err ≠ some .fail)
    (h : (r.read room).2.1 = some e) : e ≠ .fail := by
  rintro rfl
  rcases read_err_mem r room _ h with ⟨h1, _⟩ | ⟨st, hst, hse⟩
  · cases h1
  · exact hnf st hst hse

/-- with an error-free script the only error is the `io.EOF` of the drained reader -/
theorem read_drained {r : Reader} {room : Nat} {e : RErr} (hnone : ∀ st ∈ r.script, st.err = none)
    (h : (r.read room).2.1 = some e) : (r.read room).2.2.rest = [] := by
  rcases read_err_mem r room e h with ⟨_, _, hr⟩ | ⟨st, hst, hse⟩
  · have := read_take_drop r room
    rw [hr] at this; simp at this; exact this.2
  · rw [hnone st hst] at hse; cases hse

/-- Everything read so far plus what the reader still holds is the original stream. -/
theorem closed_stream (data : Bytes) : Closed (fun s => s.delivered ++ s.rd.rest = data) :=
  Closed.of_read (fun rd _ _ dl => dl ++ rd.rest = data) fun s h _ _ => by
    have := read_take_drop s.rd (s.cap - s.buf.length)
    dsimp only
    split <;> (simp only [Imm.recv, Imm.fail]; rw [List.append_assoc, this]; exact h)

theorem closed_measure (m : Nat) : Closed (fun s => s.rd.measure ≤ m) :=
  Closed.of_read (fun rd _ _ _ => rd.measure ≤ m) fun s h _ _ => by
    have := read_measure_le s.rd (s.cap - s.buf.length)
    dsimp only
    split <;> (simp only [Imm.recv, Imm.fail]; omega)

/-- The error callback fires at most once, and only together with end of stream. -/
theorem closed_errs : Closed (fun s => s.errs = 0 ∨ (s.errs = 1 ∧ s.eof = true)) :=
  Closed.of_read (fun _ eof errs _ => errs = 0 ∨ (errs = 1 ∧ eof = true)) fun s h he _ => by
    have h0 : s.errs = 0 := by
      rcases h with h | ⟨_, h⟩
      · exact h
      · rw [he] at h; cases h
    dsimp only
    split
    · simp only [Imm.recv]; exact Or.inl h0
    · rename_i e _
      simp only [Imm.recv, Imm.fail]
      by_cases hf : e = .fail <;> simp [hf, h0]

/-- With no failing step in the script the callback never fires. -/
theorem closed_nofail : Closed (fun s => (∀ st ∈ s.rd.script, st.err ≠ some .fail) ∧ s.errs = 0) :=
  Closed.of_read (fun rd _ errs _ => (∀ st ∈ rd.script, st.err ≠ some .fail) ∧ errs = 0) fun s h _ _ => by
    have hsub := read_script_sub s.rd (s.cap - s.buf.length)
    dsimp only
    split
    · simp only [Imm.recv]; exact ⟨fun st hst => h.1 st (hsub st hst), h.2⟩
    · rename_i e heq
      simp only [Imm.recv, Imm.fail]
      exact ⟨fun st hst => h.1 st (hsub st hst), by simp [read_nofail h.1 heq, h.2]⟩

/-- With an error-free script, end of stream is only ever signalled when the reader is drained. -/
theorem closed_drained : Closed (fun s => (∀ st ∈ s.rd.script, st.err = none) ∧ (s.eof = true → s.rd.rest = [])) :=
  Closed.of_read (fun rd eof _ _ => (∀ st ∈ rd.script, st.err = none) ∧ (eof = true → rd.rest = [])) fun s h he _ => by
    have hsub := read_script_sub s.rd (s.cap - s.buf.length)
    dsimp only
    split
    · simp only [Imm.recv]
      exact ⟨fun st hst => h.1 st (hsub st hst), fun h' => by rw [he] at h'; cases h'⟩
    · rename_i e heq
      simp only [Imm.recv, Imm.fail]
      exact ⟨fun st hst => h.1 st (hsub st hst), fun _ => read_drained h.1 heq⟩

/-! ### handed-out slices keep their contents -/

theorem Ext.append (A X : List Bytes) : Ext A (A ++ X) := by
  refine ⟨by simp, fun i hi => ?_⟩
  simp [List.getD, List.getElem?_append_left hi]

theorem Ext.last (mem : List Bytes) (buf bs : Bytes) : Ext (mem ++ [buf]) (mem ++ [buf ++ bs]) := by
  refine ⟨by simp, fun i hi => ?_⟩
  simp at hi
  by_cases h : i < mem.length
  · simp [List.getD, List.getElem?_append_left h]
  · have : i = mem.length := by omega
    subst this
    simp [List.getD]

theorem grown_ext (s : Imm) : Ext s.arrays s.grown.arrays := by
  unfold Imm.grown; split
  · simpa [Imm.arrays, Imm.regrow] using Ext.append (s.mem ++ [s.buf]) [s.buf.drop s.offset]
  · exact Ext.refl _

theorem recv_ext (s : Imm) (bs : Bytes) (rd' : Reader) : Ext s.arrays (s.recv bs rd').arrays :=
  Ext.last s.mem s.buf bs

theorem closed_ext (A : List Bytes) : Closed (fun s => Ext A s.arrays) where
  emitAt := fun s k h => h
  emitTail := fun s h => h
  grown := fun s h => h.trans (grown_ext s)
  read := fun s h _ _ => by
    dsimp only
    split <;> exact h.trans (Ext.last s.mem s.buf _)

/-! ### `Scan()` always returns (fuel is sufficient) -/

theorem top_nofuel {s : Imm} {r : Res × Imm} (ht : s.top = some r) : r.1 ≠ .fuel := by
  rcases top_some ht with ⟨_, _, _, _, rfl⟩ | ⟨_, _, _, rfl⟩ | ⟨_, _, rfl⟩ <;> simp [Imm.emitAt, Imm.emitTail]

theorem readLoop_nofuel (f : Nat) : ∀ {s : Imm} {C : Bytes}, Inv s C → s.rd.measure < f →
    (s.readLoop f).1 ≠ .fuel := by
  induction f with
  | zero => intro s C _ h; omega
  | succ f ih =>
    intro s C hinv hm
    have hg := grown_spec hinv
    simp only [Imm.readLoop]
    have hlt := read_measure s.grown.rd (s.grown.cap - s.grown.buf.length) (by have := hg.2.2; omega)
    generalize s.grown.rd.read (s.grown.cap - s.grown.buf.length) = r at hlt
    split
    · exact top_nofuel (topEof_eq_top _ rfl)
    · rename_i heq
      split
      · simp [Imm.emitAt]
      · apply ih (recv_spec hg.1 r.1 r.2.2).1
        have := hlt heq
        rw [grown_rd] at this
        show r.2.2.measure < f
        omega

theorem scan_nofuel (f : Nat) {s : Imm} {C : Bytes} (hinv : Inv s C) (hm : s.rd.measure < f) :
    (s.scan f).1 ≠ .fuel := by
  unfold Imm.scan
  split
  · rename_i r ht
    exact top_nofuel ht
  · exact readLoop_nofuel f hinv hm

/-! ### the outer loop: `Scan()` until it answers false, for any scanner -/

def Res.tok? : Res → Option (View × Bytes)
  | .tok v b => some (v, b)
  | _ => none

def Res.toks (r : Res) : List (View × Bytes) := r.tok?.toList

/-- `Imm.scanAll f` and `Buf.scanAll f` for an arbitrary `Scan()`. -/
def calls {σ : Type} (scan : σ → Res × σ) : Nat → σ → List (View × Bytes) × Bool × σ
  | 0, s => ([], false, s)
  | n + 1, s =>
    match scan s with
    | (.tok v b, s') =>
      let r := calls scan n s'
      ((v, b) :: r.1, r.2.1, r.2.2)
    | (.done, s') => ([], true, s')
    | (.fuel, s') => ([], false, s')

theorem Imm.scanAll_eq (f : Nat) : ∀ (n : Nat) (s : Imm), s.scanAll f n = calls (Imm.scan f) n s
  | 0, _ => rfl
  | n + 1, s => by
    simp only [Imm.scanAll, calls, Imm.scanAll_eq f n]
    rcases Imm.scan f s with ⟨_ | _ | _, _⟩ <;> rfl

theorem Buf.scanAll_eq (f : Nat) : ∀ (n : Nat) (s : Buf), s.scanAll f n = calls (Buf.scan f) n s
  | 0, _ => rfl
  | n + 1, s => by
    simp only [Buf.scanAll, calls, Buf.scanAll_eq f n]
    rcases Buf.scan f s with ⟨_ | _ | _, _⟩ <;> rfl

section calls
variable {σ : Type} {scan : σ → Res × σ}

/-- A relation between the tokens handed out so far and the state that every `Scan()` maintains holds after any
    number of calls. -/
theorem calls_trace {J : List (View × Bytes) → σ → Prop}
    (step : ∀ pre s, J pre s → J (pre ++ (scan s).1.toks) (scan s).2) :
    ∀ n pre s, J pre s → J (pre ++ (calls scan n s).1) (calls scan n s).2.2 := by
  intro n
  induction n with
  | zero => intro pre s h; simpa [calls] using h
  | succ n ih =>
    intro pre s h
    have hs := step pre s h
    simp only [calls]
    generalize scan s = r at hs
    obtain ⟨res, s'⟩ := r
    cases res with
    | tok v b => simpa [Res.toks, Res.tok?] using ih _ s' hs
    | done => simpa [Res.toks, Res.tok?] using hs
    | fuel => simpa [Res.toks, Res.tok?] using hs

/-- ... and if the calls ended with `false`, it held of the state whose `Scan()` answered so. -/
theorem calls_done {J : List (View × Bytes) → σ → Prop}
    (step : ∀ pre s, J pre s → J (pre ++ (scan s).1.toks) (scan s).2) :
    ∀ n pre s, J pre s → (calls scan n s).2.1 = true →
      ∃ t, J (pre ++ (calls scan n s).1) t ∧ scan t = (.done, (calls scan n s).2.2) := by
  intro n
  induction n with
  | zero => intro pre s _ h; simp [calls] at h
  | succ n ih =>
    intro pre s h hd
    have hs := step pre s h
    simp only [calls] at hd ⊢
    generalize hr : scan s = r at hs hd
    obtain ⟨res, s'⟩ := r
    cases res with
    | tok v b => simpa [Res.toks, Res.tok?] using ih _ s' hs hd
    | done => exact ⟨s, by simpa using h, hr⟩
    | fuel => simp at hd

/-- tokens of fewer calls are a prefix of the tokens of more calls -/
theorem calls_prefix (scan : σ → Res × σ) : ∀ (j k : Nat) (s : σ),
    (calls scan j s).1 <+: (calls scan (j + k) s).1 := by
  intro j
  induction j with
  | zero => intro k s; simp [calls]
  | succ j ih =>
    intro k s
    rw [Nat.add_right_comm]
    simp only [calls]
    generalize scan s = r
    obtain ⟨res, s'⟩ := r
    cases res with
    | tok v b => exact List.prefix_cons_inj _ |>.mpr (ih k s')
    | done => simp
    | fuel => simp

/-- more calls after the call that answered false change nothing -/
theorem calls_more (scan : σ → Res × σ) : ∀ (n k : Nat) (s : σ), (calls scan n s).2.1 = true →
    calls scan (n + k) s = calls scan n s := by
  intro n
  induction n with
  | zero => intro k s h; simp [calls] at h
  | succ n ih =>
    intro k s h
    rw [Nat.add_right_comm]
    simp only [calls] at h ⊢
    generalize scan s = r at h ⊢
    obtain ⟨res, s'⟩ := r
    cases res with
    | tok v b => simp only at h ⊢; rw [ih k s' h]
    | done => rfl
    | fuel => simp at h

/-- two `Scan()`s that agree on the states an invariant of the first allows give the same calls -/
theorem calls_congr {scan' : σ → Res × σ} {I : σ → Prop} (hI : ∀ s, I s → I (scan s).2)
    (heq : ∀ s, I s → scan' s = scan s) : ∀ (n : Nat) (s : σ), I s → calls scan' n s = calls scan n s := by
  intro n
  induction n with
  | zero => intro s _; rfl
  | succ n ih =>
    intro s h
    have hs := hI s h
    simp only [calls, heq s h]
    generalize scan s = r at hs
    obtain ⟨res, s'⟩ := r
    cases res with
    | tok v b => simp only; rw [ih s' hs]
    | done => rfl
    | fuel => rfl

end calls

/-- `scan` is the `Scan()` of a line scanner whose state `s` shows the window `win s` - buffer, offset, archived arrays,
    flags, reader - of an immediate scanner (`Imm` itself: `win = id`): it meets `Post` on that window, a finished
    scanner stays put, and it preserves the `Closed` predicates (those that do not look at the size of the array,
    which the buffered scanner trims). -/
structure Scans {σ : Type} (win : σ → Imm) (scan : σ → Res × σ) : Prop where
  post : ∀ {s C}, Inv (win s) C → Post C (scan s).1 (win (scan s).2)
  final : ∀ {s}, (win s).eof = true → (win s).pending = [] → scan s = (.done, s)
  closed : ∀ {P}, Closed P → (∀ w c, P w → P { w with cap := c }) → ∀ {s C}, Inv (win s) C → P (win s) →
    P (win (scan s).2)

def Imm.consumed (s : Imm) : Nat := s.delivered.length - s.pending.length

theorem consumed_eq {s : Imm} {C : Bytes} (h : Inv s C) : s.consumed = C.length := by
  simp [Imm.consumed, h.del]

namespace Scans
variable {σ : Type} {win : σ → Imm} {scan : σ → Res × σ} (h : Scans win scan)
include h

theorem good {s : σ} {E : List Bytes} (hg : Good (win s) E) :
    match scan s with
    | (.tok _ b, s') => Good (win s') (E ++ [b])
    | (.done, s') => splitLines (win s').delivered = E ∧ Good (win s') E
    | (.fuel, s') => Good (win s') E := by
  obtain ⟨C, hinv, hb | ⟨he, hp, hs⟩⟩ := hg
  · have hpost := h.post hinv
    generalize scan s = r at hpost
    obtain ⟨res, s'⟩ := r
    cases res with
    | tok v b =>
      rcases hpost with ⟨_, ⟨a, ha, rfl, hi⟩ | ⟨hnb, hne, he', hp', hi⟩⟩
      · exact ⟨_, hi, Or.inl (hb.line a ha)⟩
      · exact ⟨_, hi, Or.inr ⟨he', hp', by rw [hi.del, hp', List.append_nil, hb.tail b hnb, if_neg hne]⟩⟩
    | done =>
      obtain ⟨he', hp', hi⟩ := hpost
      have hs : splitLines (win s').delivered = E := by
        rw [hi.del, hp', List.append_nil]
        simpa using hb.tail [] (by simp)
      exact ⟨hs, _, hi, Or.inr ⟨he', hp', hs⟩⟩
    | fuel => exact ⟨C, hpost, Or.inl hb⟩
  · rw [h.final he hp]
    exact ⟨hs, C, hinv, Or.inr ⟨he, hp, hs⟩⟩

theorem good_toks {s : σ} {E : List Bytes} (hg : Good (win s) E) :
    Good (win (scan s).2) (E ++ (scan s).1.toks.map (·.2)) := by
  have := h.good hg
  generalize scan s = r at this
  obtain ⟨_ | _ | _, s'⟩ := r
  · simpa [Res.toks, Res.tok?] using this
  · simpa [Res.toks, Res.tok?] using this.2
  · simpa [Res.toks, Res.tok?] using this

/-- `calls_trace` for a relation that is maintained under the invariant; the lines handed out so far come along. -/
theorem trace {J : List (View × Bytes) → σ → Prop}
    (step : ∀ {pre s C}, Inv (win s) C → J pre s → J (pre ++ (scan s).1.toks) (scan s).2)
    {s : σ} {E : List Bytes} (hg : Good (win s) E) (h0 : J [] s) (n : Nat) :
    Good (win (calls scan n s).2.2) (E ++ (calls scan n s).1.map (·.2)) ∧ J (calls scan n s).1 (calls scan n s).2.2 := by
  have := calls_trace (scan := scan) (J := fun pre t => Good (win t) (E ++ pre.map (·.2)) ∧ J pre t)
    (fun pre t ⟨hgt, hj⟩ => by
      obtain ⟨C, hinv, _⟩ := id hgt
      exact ⟨by simpa using h.good_toks hgt, step hinv hj⟩) n [] s ⟨by simpa using hg, h0⟩
  simpa using this

/-- When the calls have ended with `false`, the lines handed out are the lines of all bytes delivered, the stream has
    ended and the window is empty. -/
theorem done {s : σ} {E : List Bytes} (hg : Good (win s) E) {n : Nat} (hd : (calls scan n s).2.1 = true) :
    splitLines (win (calls scan n s).2.2).delivered = E ++ (calls scan n s).1.map (·.2) ∧
    (win (calls scan n s).2.2).eof = true ∧ (win (calls scan n s).2.2).pending = [] := by
  obtain ⟨t, hgt, ht⟩ := calls_done (scan := scan) (J := fun pre t => Good (win t) (E ++ pre.map (·.2)))
    (fun pre t hgt => by simpa using h.good_toks hgt) n [] s (by simpa using hg) hd
  obtain ⟨C, hinv, _⟩ := id hgt
  have hgood := h.good hgt
  have hpost := h.post hinv
  rw [ht] at hgood hpost
  exact ⟨by simpa using hgood.1, hpost.1, hpost.2.1⟩

/-- Every token handed out is, after all later calls, still a valid view that reads as that token. -/
theorem views {s : σ} {E : List Bytes} (hg : Good (win s) E) (n : Nat) :
    ∀ vb ∈ (calls scan n s).1, ViewOK (win (calls scan n s).2.2).arrays vb.1 ∧
      readView (win (calls scan n s).2.2).arrays vb.1 = vb.2 := by
  refine (h.trace (J := fun pre t => ∀ vb ∈ pre, ViewOK (win t).arrays vb.1 ∧ readView (win t).arrays vb.1 = vb.2)
    (fun {pre t C} hinv hj vb hvb => ?_) hg (fun _ hvb => by cases hvb) n).2
  have hpost := h.post hinv
  rcases List.mem_append.mp hvb with hvb | hvb
  · exact view_ext (h.closed (closed_ext _) (fun _ _ hw => hw) hinv (Ext.refl _)) (hj vb hvb)
  · generalize scan t = r at hpost hvb
    obtain ⟨res, t'⟩ := r
    cases res with
    | tok v b =>
      obtain rfl : vb = (v, b) := by simpa [Res.toks, Res.tok?] using hvb
      exact hpost.1
    | done => cases hvb
    | fuel => cases hvb

/-- A `Closed` predicate holds after any number of calls. -/
theorem calls_closed {P} (hP : Closed P) (hcap : ∀ w c, P w → P { w with cap := c }) {s : σ} {E : List Bytes}
    (hg : Good (win s) E) (hp : P (win s)) (n : Nat) : P (win (calls scan n s).2.2) :=
  (h.trace (J := fun _ t => P (win t)) (fun hinv hj => h.closed hP hcap hinv hj) hg hp n).2

/-- With an error-free script everything has been delivered by the time the calls end with `false`. -/
theorem delivered_all {s : σ} {E : List Bytes} {data : Bytes} {n : Nat} (hg : Good (win s) E)
    (hd : (calls scan n s).2.1 = true) (hst : (win s).delivered ++ (win s).rd.rest = data)
    (hs : ∀ st ∈ (win s).rd.script, st.err = none) (he : (win s).eof = false) :
    (win (calls scan n s).2.2).delivered = data := by
  have hstream := h.calls_closed (closed_stream data) (fun _ _ hw => hw) hg hst n
  have hdr := h.calls_closed closed_drained (fun _ _ hw => hw) hg ⟨hs, fun h' => by rw [he] at h'; cases h'⟩ n
  rw [hdr.2 (h.done hg hd).2.1, List.append_nil] at hstream
  exact hstream

/-- Termination: a call that hands out a token consumes at least one byte of the stream, so if no call runs out of
    fuel (the reader's measure stays below `m`), more calls than the stream has bytes end with `false`. -/
theorem terminates (data : Bytes) {m : Nat}
    (nofuel : ∀ {s C}, Inv (win s) C → (win s).rd.measure < m → (scan s).1 ≠ .fuel) :
    ∀ (n : Nat) {s : σ} {E : List Bytes}, Good (win s) E → (win s).delivered ++ (win s).rd.rest = data →
      (win s).rd.measure < m → data.length - (win s).consumed < n → (calls scan n s).2.1 = true := by
  intro n
  induction n with
  | zero => intro s E _ _ _ hn; omega
  | succ n ih =>
    intro s E hg hd hm hn
    obtain ⟨C, hinv, _⟩ := id hg
    have hsg := h.good hg
    have hpost := h.post hinv
    have hnf := nofuel hinv hm
    have hd' := h.closed (closed_stream data) (fun _ _ hw => hw) hinv hd
    have hm' := h.closed (closed_measure (win s).rd.measure) (fun _ _ hw => hw) hinv (Nat.le_refl _)
    simp only [calls]
    generalize scan s = r at hsg hpost hnf hd' hm'
    obtain ⟨res, s'⟩ := r
    cases res with
    | tok v b =>
      apply ih hsg hd' (Nat.lt_of_le_of_lt hm' hm)
      have hle : (win s').consumed ≤ data.length :=
        Nat.le_trans (Nat.sub_le _ _) (by rw [← hd', List.length_append]; exact Nat.le_add_right _ _)
      have hlt : (win s).consumed < (win s').consumed := by
        rw [consumed_eq hinv]
        rcases hpost with ⟨_, ⟨a, _, _, hinv'⟩ | ⟨_, hne, _, _, hinv'⟩⟩
        · rw [consumed_eq hinv', List.length_append, List.length_append]
          exact Nat.lt_succ_of_le (Nat.le_add_right _ _)
        · rw [consumed_eq hinv', List.length_append]
          exact Nat.lt_add_of_pos_right (List.length_pos_iff.mpr hne)
      omega
    | done => rfl
    | fuel => exact absurd rfl hnf

end Scans

/-! ### the immediate scanner's calls -/

theorem Imm.scans (f : Nat) : Scans id (Imm.scan f) where
  post := scan_post f
  final := scan_final f
  closed := fun hP _ _ _ hinv => scan_closed hP f hinv

theorem scan_good (f : Nat) {s : Imm} {E : List Bytes} (hg : Good s E) :
    match s.scan f with
    | (.tok _ b, s') => Good s' (E ++ [b])
    | (.done, s') => splitLines s'.delivered = E ∧ Good s' E
    | (.fuel, s') => Good s' E := by
  have := (Imm.scans f).good hg
  generalize s.scan f = r at this ⊢
  obtain ⟨_ | _ | _, _⟩ := r <;> exact this

/-- once the calls have ended with `false`: the lines handed out, end of stream, nothing pending -/
theorem scanAll_finished (f n : Nat) {s : Imm} {E : List Bytes} (hg : Good s E) (hd : (s.scanAll f n).2.1 = true) :
    splitLines (s.scanAll f n).2.2.delivered = E ++ (s.scanAll f n).1.map (·.2) ∧
    (s.scanAll f n).2.2.eof = true ∧ (s.scanAll f n).2.2.pending = [] := by
  rw [Imm.scanAll_eq] at hd ⊢
  exact (Imm.scans f).done hg hd

theorem scanAll_good (f n : Nat) {s : Imm} {E : List Bytes} (hg : Good s E) (hd : (s.scanAll f n).2.1 = true) :
    splitLines (s.scanAll f n).2.2.delivered = E ++ (s.scanAll f n).1.map (·.2) :=
  (scanAll_finished f n hg hd).1

theorem scanAll_eof (f n : Nat) {s : Imm} {E : List Bytes} (hg : Good s E) (hd : (s.scanAll f n).2.1 = true) :
    (s.scanAll f n).2.2.eof = true :=
  (scanAll_finished f n hg hd).2.1

theorem scanAll_closed {P} (hP : Closed P) (f n : Nat) {s : Imm} {E : List Bytes} (hg : Good s E) (hp : P s) :
    P (s.scanAll f n).2.2 := by
  rw [Imm.scanAll_eq]
  exact ((Imm.scans f).trace (J := fun _ t => P t) (fun hinv hj => scan_closed hP f hinv hj) hg hp n).2

theorem scanAll_views (f n : Nat) {s : Imm} {E : List Bytes} (hg : Good s E) :
    ∀ vb ∈ (s.scanAll f n).1, ViewOK (s.scanAll f n).2.2.arrays vb.1 ∧ readView (s.scanAll f n).2.2.arrays vb.1 = vb.2 := by
  rw [Imm.scanAll_eq]
  exact (Imm.scans f).views hg n

theorem scanAll_done (f : Nat) (data : Bytes) (n : Nat) {s : Imm} {E : List Bytes} (hg : Good s E)
    (hd : s.delivered ++ s.rd.rest = data) (hm : s.rd.measure < f) (hn : data.length - s.consumed < n) :
    (s.scanAll f n).2.1 = true := by
  rw [Imm.scanAll_eq]
  exact (Imm.scans f).terminates data (scan_nofuel f) n hg hd hm hn

end Rare.C04

/-!
# The mutex rule of the lockset argument, proved over an abstract trace model

`Model/Lockset.lean` argues informally that "both accesses hold the same mutex" implies "ordered by
happens-before".  Here that step is proved for exclusive mutexes over a small trace semantics:

* an execution is a list of events (thread id, operation) in the order a sequentially consistent
  interleaving performs them (for data-race freedom it suffices to consider these: the Go memory model
  is DRF-SC); operations are `acq m`, `rel m`, an access to location `x`, or something else;
* `Exec tr hs`: `hs k m` is the holder of mutex `m` before event `k`; nobody holds anything at the start,
  `acq m` needs `m` free, `rel m` needs the releasing thread to hold it (sync.Mutex semantics);
* happens-before `HB` is the transitive closure of program order (same thread, earlier) and of
  "an `Unlock` of `m` is synchronised before every later `Lock` of `m`" (go.dev/ref/mem, "Locks");
* a data race is a pair of conflicting accesses of different threads that `HB` does not order.

`mutex_orders`: two events whose threads hold the same mutex when they execute are ordered by `HB`.
`lockset_no_race`: if every access to a location is made while holding that location's guard, the
execution has no data race.  (RWMutex, atomics, channels and `go` edges are not in this model.)
-/
namespace Rare.Lockset.HB

inductive Op where
  | acq (m : Nat)
  | rel (m : Nat)
  | acc (x : Nat) (write : Bool)
  | other
  deriving DecidableEq, Repr

structure Ev where
  tid : Nat
  op : Op
  deriving DecidableEq, Repr

abbrev Holders := Nat → Option Nat

def step (h : Holders) (e : Ev) : Option Holders :=
  match e.op with
  | .acq m => if h m = none then some (fun x => if x = m then some e.tid else h x) else none
  | .rel m => if h m = some e.tid then some (fun x => if x = m then none else h x) else none
  | _ => some h

/-- `hs k` = who holds which mutex before event `k`. -/
structure Exec (tr : List Ev) (hs : Nat → Holders) : Prop where
  init : ∀ m, hs 0 m = none
  next : ∀ k e, tr[k]? = some e → step (hs k) e = some (hs (k + 1))

inductive HB (tr : List Ev) : Nat → Nat → Prop
  | po {i j : Nat} {a b : Ev} : i < j → tr[i]? = some a → tr[j]? = some b → a.tid = b.tid → HB tr i j
  | sw {i j : Nat} {a b : Ev} {m : Nat} : i < j → tr[i]? = some a → tr[j]? = some b →
      a.op = .rel m → b.op = .acq m → HB tr i j
  | trans {i j k : Nat} : HB tr i j → HB tr j k → HB tr i k

theorem HB.lt {tr : List Ev} {i j : Nat} (h : HB tr i j) : i < j := by
  induction h with
  | po h _ _ _ => exact h
  | sw h _ _ _ _ => exact h
  | trans _ _ h1 h2 => exact Nat.lt_trans h1 h2

/-- A statement about the events of a trace and their positions follows from the statement for every valid index,
    which for a concrete trace is decidable. -/
theorem forall_index {α : Type} {l : List α} {P : Nat → α → Prop} (h : ∀ k (hk : k < l.length), P k l[k]) :
    ∀ k e, l[k]? = some e → P k e := by
  intro k e hk
  obtain ⟨hlt, rfl⟩ := List.getElem?_eq_some_iff.mp hk
  exact h k hlt

theorem last_gain (P : Nat → Prop) (lo : Nat) : ∀ hi, lo ≤ hi → ¬ P lo → P hi →
    ∃ r, lo ≤ r ∧ r < hi ∧ ¬ P r ∧ ∀ k, r < k → k ≤ hi → P k := by
  intro hi
  induction hi with
  | zero =>
    intro h0 hn hp
    have : lo = 0 := Nat.le_zero.mp h0
    subst this; exact absurd hp hn
  | succ hi ih =>
    intro hle hn hp
    have hlo : lo ≤ hi := by
      by_cases h : lo = hi + 1
      · subst h; exact absurd hp hn
      · omega
    by_cases hph : P hi
    · obtain ⟨r, h1, h2, h3, h4⟩ := ih hlo hn hph
      refine ⟨r, h1, by omega, h3, fun k hk1 hk2 => ?_⟩
      by_cases hk : k = hi + 1
      · subst hk; exact hp
      · exact h4 k hk1 (by omega)
    · refine ⟨hi, hlo, by omega, hph, fun k hk1 hk2 => ?_⟩
      have : k = hi + 1 := by omega
      subst this; exact hp

theorem gained_between (P : Nat → Prop) (i k : Nat) (hik : i ≤ k) (hi : ¬ P i) (hk : P k) :
    ∃ r, i ≤ r ∧ r < k ∧ ¬ P r ∧ P (r + 1) := by
  obtain ⟨r, h1, h2, h3, h4⟩ := last_gain P i k hik hi hk
  exact ⟨r, h1, h2, h3, h4 (r + 1) (Nat.lt_succ_self r) h2⟩

theorem lost_between (P : Nat → Prop) (i k : Nat) (hik : i ≤ k) (hi : P i) (hk : ¬ P k) :
    ∃ r, i ≤ r ∧ r < k ∧ P r ∧ ¬ P (r + 1) := by
  obtain ⟨r, h1, h2, h3, h4⟩ := gained_between (fun n => ¬ P n) i k hik (not_not_intro hi) hk
  exact ⟨r, h1, h2, Classical.not_not.mp h3, h4⟩

/-- What a step does to mutex `m`: nothing, or it is `acq m` on the free mutex, or `rel m` by its holder. -/
theorem step_at {h h' : Holders} {e : Ev} (hs : step h e = some h') (m : Nat) :
    h' m = h m ∨ (e.op = .acq m ∧ h m = none ∧ h' m = some e.tid) ∨
      (e.op = .rel m ∧ h m = some e.tid ∧ h' m = none) := by
  unfold step at hs
  split at hs
  · rename_i m' hop
    split at hs
    · rename_i hfree
      cases hs
      by_cases hm : m = m'
      · subst hm; exact .inr (.inl ⟨hop, hfree, by simp⟩)
      · exact .inl (by simp [hm])
    · cases hs
  · rename_i m' hop
    split at hs
    · rename_i hheld
      cases hs
      by_cases hm : m = m'
      · subst hm; exact .inr (.inr ⟨hop, hheld, by simp⟩)
      · exact .inl (by simp [hm])
    · cases hs
  · cases hs; exact .inl rfl

theorem step_loses {h h' : Holders} {e : Ev} {m t : Nat} (hs : step h e = some h')
    (h1 : h m = some t) (h2 : h' m ≠ some t) : e.tid = t ∧ e.op = .rel m ∧ h' m = none := by
  rcases step_at hs m with hsame | ⟨_, hfree, _⟩ | ⟨hop, hheld, hnone⟩
  · exact absurd (hsame.trans h1) h2
  · rw [h1] at hfree; cases hfree
  · rw [h1] at hheld; exact ⟨(Option.some.inj hheld).symm, hop, hnone⟩

theorem step_gains {h h' : Holders} {e : Ev} {m t : Nat} (hs : step h e = some h')
    (h1 : h m ≠ some t) (h2 : h' m = some t) : e.tid = t ∧ e.op = .acq m := by
  rcases step_at hs m with hsame | ⟨hop, _, hnew⟩ | ⟨_, _, hnone⟩
  · exact absurd (hsame.symm.trans h2) h1
  · rw [h2] at hnew; exact ⟨(Option.some.inj hnew).symm, hop⟩
  · rw [h2] at hnone; cases hnone

theorem release_then_acquire {tr : List Ev} {hs : Nat → Holders} (hex : Exec tr hs)
    {i j m t1 t2 : Nat} (hij : i < j) (hj : j ≤ tr.length)
    (h1 : hs i m = some t1) (h2 : hs j m = some t2) (hne : t1 ≠ t2) :
    ∃ r a er ea, i ≤ r ∧ r < a ∧ a < j ∧ tr[r]? = some er ∧ er.tid = t1 ∧ er.op = .rel m ∧
      tr[a]? = some ea ∧ ea.tid = t2 ∧ ea.op = .acq m := by
  have hnot : ¬ (hs j m = some t1) := by rw [h2]; intro h; exact hne (Option.some.inj h).symm
  obtain ⟨r, hir, hrj, hpr, hnr⟩ := lost_between (fun k => hs k m = some t1) i j (Nat.le_of_lt hij) h1 hnot
  have hrlen : r < tr.length := Nat.lt_of_lt_of_le hrj hj
  have her : tr[r]? = some tr[r] := List.getElem?_eq_getElem hrlen
  obtain ⟨e1, e2, e3⟩ := step_loses (hex.next r _ her) hpr hnr
  have hfree : ¬ (hs (r + 1) m = some t2) := by rw [e3]; intro h; cases h
  obtain ⟨a, hra, haj, hna, hpa⟩ := gained_between (fun k => hs k m = some t2) (r + 1) j hrj hfree h2
  have halen : a < tr.length := Nat.lt_of_lt_of_le haj hj
  have hea : tr[a]? = some tr[a] := List.getElem?_eq_getElem halen
  obtain ⟨f1, f2⟩ := step_gains (hex.next a _ hea) hna hpa
  exact ⟨r, a, tr[r], tr[a], hir, hra, haj, her, e1, e2, hea, f1, f2⟩

/-- **The mutex rule.**  Two events whose threads hold the same mutex when they execute are ordered by
    happens-before. -/
theorem mutex_orders {tr : List Ev} {hs : Nat → Holders} (hex : Exec tr hs)
    {i j : Nat} {a b : Ev} (hij : i < j) (ha : tr[i]? = some a) (hb : tr[j]? = some b) {m : Nat}
    (h1 : hs i m = some a.tid) (h2 : hs j m = some b.tid) : HB tr i j := by
  by_cases hsame : a.tid = b.tid
  · exact .po hij ha hb hsame
  · have hj : j ≤ tr.length := by
      have := (List.getElem?_eq_some_iff.mp hb).1; omega
    obtain ⟨r, c, er, ec, hir, hrc, hcj, her, e1, e2, hec, f1, f2⟩ :=
      release_then_acquire hex hij hj h1 h2 hsame
    have hsw : HB tr r c := .sw hrc her hec e2 f2
    have hpo2 : HB tr c j := .po hcj hec hb f1
    by_cases hri : i = r
    · subst hri; exact .trans hsw hpo2
    · have hlt : i < r := by omega
      exact .trans (.trans (.po hlt ha her e1.symm) hsw) hpo2

def Conflict (a b : Ev) : Prop :=
  ∃ x w1 w2, a.op = .acc x w1 ∧ b.op = .acc x w2 ∧ (w1 = true ∨ w2 = true)

/-- A data race: two conflicting accesses of different threads not ordered by happens-before. -/
def Race (tr : List Ev) : Prop :=
  ∃ i j a b, i < j ∧ tr[i]? = some a ∧ tr[j]? = some b ∧ Conflict a b ∧ a.tid ≠ b.tid ∧ ¬ HB tr i j

/-- **Lockset discipline ⇒ no data race** (exclusive mutexes): if every access to a location is made
    while the accessing thread holds that location's guard, no two conflicting accesses are unordered. -/
theorem lockset_no_race {tr : List Ev} {hs : Nat → Holders} (hex : Exec tr hs) (guard : Nat → Nat)
    (hdisc : ∀ k e x w, tr[k]? = some e → e.op = .acc x w → hs k (guard x) = some e.tid) : ¬ Race tr := by
  rintro ⟨i, j, a, b, hij, ha, hb, ⟨x, w1, w2, hxa, hxb, _⟩, _, hnhb⟩
  exact hnhb (mutex_orders hex hij ha hb (hdisc i a x w1 ha hxa) (hdisc j b x w2 hb hxb))

/-- A concrete execution satisfying the hypotheses: two threads each lock mutex 0, write location 7 and
    unlock. -/
def demo : List Ev :=
  [⟨1, .acq 0⟩, ⟨1, .acc 7 true⟩, ⟨1, .rel 0⟩, ⟨2, .acq 0⟩, ⟨2, .acc 7 true⟩, ⟨2, .rel 0⟩]

def demoHolders (k : Nat) : Holders := fun m =>
  if m = 0 then (if k = 1 ∨ k = 2 then some 1 else if k = 4 ∨ k = 5 then some 2 else none) else none

theorem demo_exec : Exec demo demoHolders := by
  refine ⟨fun m => by simp [demoHolders], ?_⟩
  intro k e hk
  have hlen : k < 6 := by
    have := (List.getElem?_eq_some_iff.mp hk).1; simpa [demo] using this
  have : k = 0 ∨ k = 1 ∨ k = 2 ∨ k = 3 ∨ k = 4 ∨ k = 5 := by omega
  rcases this with rfl | rfl | rfl | rfl | rfl | rfl <;>
    (simp [demo] at hk; subst hk; simp [step]
     first
       | (refine ⟨by simp [demoHolders], ?_⟩; funext m; by_cases hm : m = 0 <;> simp [demoHolders, hm])
       | (funext m; by_cases hm : m = 0 <;> simp [demoHolders, hm]))

theorem demo_disc : ∀ k e x w, demo[k]? = some e → e.op = .acc x w →
    demoHolders k ((fun _ => 0) x) = some e.tid := by
  intro k e x w hk hop
  rcases k with _ | _ | _ | _ | _ | _ | k <;> cases hk <;> cases hop <;> rfl

end Rare.Lockset.HB

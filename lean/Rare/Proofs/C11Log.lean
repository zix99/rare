import Rare.Proofs.C11Float
import Rare.Model.C11Log
import Rare.Spec.C11Log
import Rare.Proofs.F64Fast
/-!
Lemmas about the model of `math.Log` / `Log10` / `Log2` / `Pow` (`Rare/Model/C11Log.lean`): special cases for all
arguments, agreement of the assembly's decomposition with `Frexp` off the subnormal range, `log2` of powers of two,
the call-level equations of `{pow a b}`, finite tables, and the subnormal witness.
-/
namespace Rare.C11.Log
open Rare Rare.Expr Rare.Expr.Funcs Rare.C11

/-! ### `math.Log`: special cases -/

theorem logAsm_special (x : F64) :
    (x.mag = 0 → logAsm x = F64.inf true) ∧
    (x.isNaN = true → logAsm x = F64.nan) ∧
    (x.sign = true → x.mag ≠ 0 → logAsm x = F64.nan) ∧
    (x.sign = false → x.isInf = true → logAsm x = x) := by
  refine ⟨?_, ?_, ?_, ?_⟩
  · intro h; simp [logAsm, h]
  · intro h
    have : x.mag ≠ 0 := by
      intro h0; simp [F64.isNaN, h0] at h
    simp [logAsm, this, h]
  · intro hs hm
    unfold logAsm
    rw [if_neg hm]
    split
    · rfl
    · rfl
  · intro hs hi
    have hm : x.mag ≠ 0 := by
      intro h0; simp [F64.isInf, h0] at hi
    have hn : x.isNaN = false := by
      simp only [F64.isInf, decide_eq_true_eq] at hi
      simp [F64.isNaN, hi]
    simp [logAsm, hm, hn, hs, hi]

theorem frexpGo_normal (x : F64) (hn : 4503599627370496 ≤ x.mag) (hf : x.isFinite = true) :
    frexpGo x = (F64.ofSM x.sign (0x3FE * 4503599627370496 + x.frac), (x.expField : Int) - 0x3FE) := by
  have hm : x.mag ≠ 0 := by omega
  have hlt : ¬ (x.mag < 4503599627370496) := by omega
  simp [frexpGo, hm, hf, hlt]

/-- On every argument that is not subnormal the assembly's decomposition is `math.Frexp`'s: the code's answer is
    the specification's. -/
theorem logAsm_eq_logNorm (x : F64) (h : 4503599627370496 ≤ x.mag) : logAsm x = logNorm x := by
  unfold logAsm logNorm
  have hm : x.mag ≠ 0 := by omega
  rw [if_neg hm, if_neg hm]
  by_cases hn : x.isNaN = true
  · rw [if_pos hn, if_pos hn]
  · rw [if_neg hn, if_neg hn]
    by_cases hs : x.sign = true
    · rw [if_pos hs, if_pos hs]
    · rw [if_neg hs, if_neg hs]
      by_cases hi : x.isInf = true
      · rw [if_pos hi, if_pos hi]
      · rw [if_neg hi, if_neg hi]
        have hf : x.isFinite = true := by
          simp only [F64.isNaN, F64.isInf, F64.isFinite, decide_eq_true_eq] at hn hi ⊢
          omega
        have hs' : x.sign = false := by simpa using hs
        rw [frexpGo_normal x h hf, hs']
        rfl

/-! ### `math.Log2` of powers of two -/

theorem log2_pow2_normal (x : F64) (hs : x.sign = false) (hf : x.isFinite = true) (hn : 4503599627370496 ≤ x.mag)
    (hfrac : x.frac = 0) : log2 x = F64.ofInt ((x.expField : Int) - 1023) := by
  unfold log2
  rw [frexpGo_normal x hn hf, hs, hfrac, show F64.ofSM false (0x3FE * 4503599627370496 + 0) = half by decide +kernel]
  simp only [show F64.eq half half = true by decide +kernel, if_true]
  congr 1
  omega

theorem log2_pow2_subnormal :
    ((List.range 52).all fun j => log2 (F64.ofSM false (2 ^ j)) == F64.ofInt ((j : Int) - 1074)) = true := by
  unfold log2 frexpGo logAsm logCore
  simp (config := { zeta := false }) only [F64.Fast.ops]
  decide +kernel

/-! ### `{pow a b}`: the call -/

/-- `{pow a b}`: both values are parsed (a constant at build time), then `math.Pow` is applied once. -/
theorem kfPow_call (c : Ctx) (a b : Arg) :
    callHelper kfPow [a, b] c = match Float.parseF (a.val c), Float.parseF (b.val c) with
      | some x, some y => (match pow x y with
        | some r => .ok (Float.fmtF r)
        | none => (Float.unmodelledStage "pow").run c)
      | _, _ => .ok ErrorNum := by
  unfold callHelper kfPow
  have hnot : ¬ (([a, b].map Arg.stage).length < 2) := by simp
  simp only [hnot, if_false]
  rcases mapTyped_args Float.parseF c [a, b] with ⟨h, a', ha', hnone⟩ | ⟨typed, h, ht⟩
  · rw [h]
    simp only [List.mem_cons, List.not_mem_nil, or_false] at ha'
    rcases ha' with rfl | rfl
    · rw [hnone]; rfl
    · rw [hnone]; cases Float.parseF (a.val c) <;> rfl
  · rw [h]
    cases ht with
    | cons h1 h2 =>
      cases h2 with
      | cons h3 h4 =>
        cases h4
        show (powRun (_ :: _)).run c = _
        simp only [powRun, Comp.bind_eq, Comp.run_bind, h1]
        cases Float.parseF (a.val c) with
        | none => rfl
        | some x =>
          simp only [powFold, Comp.bind_eq, Comp.run_bind, h3]
          cases Float.parseF (b.val c) with
          | none => rfl
          | some y => simp only []; cases pow x y <;> rfl

theorem pow_call (c : Ctx) (a b : Arg) (x y r : F64)
    (ha : Float.parseF (a.val c) = some x) (hb : Float.parseF (b.val c) = some y) (hr : pow x y = some r) :
    callHelper kfPow [a, b] c = .ok (Float.fmtF r) := by
  simp only [kfPow_call, ha, hb, hr]

theorem pow_marker (c : Ctx) (a b : Arg)
    (hbad : Float.parseF (a.val c) = none ∨ Float.parseF (b.val c) = none) :
    callHelper kfPow [a, b] c = .ok ErrorNum := by
  rw [kfPow_call]
  rcases hbad with e | e <;> rw [e]
  cases Float.parseF (a.val c) <;> rfl
/-! ### finite tables (fully enumerated by the kernel) -/

/-- `2^e` for every `|e| ≤ 40` and at both ends of the exponent range is exact (`Ldexp(1, e)`), overflow gives `+Inf`,
    `2^-1075` is `0`. -/
theorem pow2_table :
    (((List.range 81).map (fun (j : Nat) => (j : Int) - 40) ++ [-1075, -1074, -1073, -1023, -1022, -1021, 1022, 1023, 1024]).all fun e =>
      pow two (F64.ofInt e) == some (ldexp F64.one e)) = true ∧
    ldexp F64.one 1024 = F64.inf false ∧ ldexp F64.one (-1075) = F64.zero false ∧ ldexp F64.one 10 = F64.ofInt 1024 := by
  decide +kernel

/-- `10^k`, `k = 0 … 22` (every power of ten that is a float): exact. -/
theorem pow10_table : ((List.range 23).all fun (k : Nat) =>
    pow (F64.ofInt 10) (F64.ofInt (k : Int)) == some (F64.ofInt (((10 ^ k : Nat) : Int)))) = true := by decide +kernel

/-- `log10 (10^k) = k` exactly for `k = 0 … 22` except `k = 15` (where `Log(x) * (1/Ln10)` is one ulp off). -/
theorem log10_table : ((List.range 23).filter fun (k : Nat) =>
    !(log10 (F64.ofInt (((10 ^ k : Nat) : Int))) == F64.ofInt (k : Int))) = [15] := by
  unfold log10 logAsm logCore
  simp (config := { zeta := false }) only [F64.Fast.ops]
  decide +kernel

theorem log_one : logAsm F64.one = F64.zero false ∧ log10 F64.one = F64.zero false ∧ log2 F64.one = F64.zero false := by
  decide +kernel

/-- A float from its bit pattern given as a number (probe tables of `Rare.Gen.C11`). -/
def bitsF (n : Nat) : F64 := F64.ofBits (UInt64.ofNat n)

theorem bitsF_bits (x : F64) : bitsF x.bits = x := by
  obtain ⟨n, hn⟩ := x
  simp only [bitsF, F64.ofBits, F64.mk.injEq, UInt64.toNat_ofNat']
  omega

/-- `Log10(x) = Log(x) * (1/Ln10)`: probes of `log10` are checked from the answers to the same probes of `ln`. -/
theorem log10Probes_of_logProbes : ∀ (P Q : List (Nat × Nat)),
    (P.all fun p => (logAsm (bitsF p.1)).bits == p.2) = true → P.length = Q.length →
    ((P.zip Q).all fun pq => pq.1.1 == pq.2.1 && (F64.mul (bitsF pq.1.2) invLn10).bits == pq.2.2) = true →
    (Q.all fun q => (log10 (bitsF q.1)).bits == q.2) = true
  | [], [], _, _, _ => rfl
  | p :: P, q :: Q, h1, hl, h2 => by
    simp only [List.all_cons, List.zip_cons_cons, Bool.and_eq_true, beq_iff_eq] at h1 h2 ⊢
    obtain ⟨⟨e1, e2⟩, h2'⟩ := h2
    refine ⟨?_, log10Probes_of_logProbes P Q h1.2 (by simpa using hl) h2'⟩
    unfold log10
    rw [← e1, ← e2, ← h1.1, bitsF_bits]
  | [], _ :: _, _, hl, _ => by cases hl
  | _ :: _, [], _, hl, _ => by cases hl

/-! ### the subnormal witness -/

/-- The smallest subnormal, `5e-324 = 2^-1074`. -/
def tiny : F64 := F64.ofSM false 1

theorem tiny_facts :
    Float.parseF (ascii "5e-324") = some tiny ∧ tiny.toRat = 1 / (((2 ^ 1074 : Nat) : Int) : Rat) ∧
    lnStr tiny = ascii "-709.0895657128241" ∧ log10Str tiny = ascii "-307.9536855642528" ∧
    Float.fmtF (logNorm tiny) = ascii "-744.4400719213812" ∧ Float.fmtF (log10Norm tiny) = ascii "-323.30621534311575" ∧
    log2Str tiny = ascii "-1074" := by
  unfold lnStr log10Str log2Str log10Norm logNorm log2 log10 frexpGo logAsm logCore
  simp (config := { zeta := false }) only [F64.Fast.ops]
  decide +kernel

theorem tiny_bound :
    ¬ ((logAsm tiny).toRat ≤ -((((1074 : Nat) : Int) : Rat) * (693 / 1000))) ∧
    (logNorm tiny).toRat ≤ -((((1074 : Nat) : Int) : Rat) * (693 / 1000)) := by
  unfold logNorm frexpGo logAsm logCore
  simp (config := { zeta := false }) only [F64.Fast.ops]
  decide +kernel

end Rare.C11.Log

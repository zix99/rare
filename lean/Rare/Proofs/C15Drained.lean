import Rare.Proofs.C15Notify
/-!
C15 – plain notify follow, "remove-after-drain": if the reader had delivered everything when the
file was removed, the removed file never changes again and the reader's handle stays where it is,
so whatever happens afterwards the delivered stream is the complete content after the start position.
-/
namespace Rare.Follow
open Rare.C15.Spec

variable {β : Type} {cfg : NCfg}

/-- the file with inode 0 is gone from the path, its content is `c`, and the only handle there ever
    was sits at its end -/
structure Drained (c : List β) (st0 : Nat) (s : NSt β) : Prop where
  content : s.fs.content 0 = c
  handles : s.hist ++ s.f.toList = [⟨0, st0, c.length⟩]
  away : s.fs.path ≠ some 0
  next : 1 ≤ s.fs.next
  pathLt : ∀ i, s.fs.path = some i → i < s.fs.next

theorem drained_step (hre : cfg.reopen = false) {c : List β} {st0 : Nat} {w : Who} {s s' : NSt β}
    (h : Drained c st0 s) (hs : NStep cfg w s s') : Drained c st0 s' := by
  cases hs with
  | append _ i bs hp hbs =>
    refine ⟨?_, h.handles, h.away, h.next, h.pathLt⟩
    have : (0 : Nat) ≠ i := by intro h0; subst h0; exact h.away hp
    simp only [FS.append, this, if_false]; exact h.content
  | remove _ i hp => exact ⟨h.content, h.handles, by simp [FS.remove], h.next, by intro i hi; cases hi⟩
  | create _ hp =>
    have hn := h.next
    refine ⟨?_, h.handles, ?_, by simp only [FS.create]; omega, ?_⟩
    · have : (0 : Nat) ≠ s.fs.next := by omega
      simp only [FS.create, this, if_false]; exact h.content
    · simp only [FS.create, ne_eq, Option.some.injEq]; omega
    · intro i hi; simp only [FS.create, Option.some.injEq] at hi; simp only [FS.create]; omega
  | noise _ => exact ⟨h.content, h.handles, h.away, h.next, h.pathLt⟩
  | dispatch _ e rest he =>
    rw [dispatch1_eq]
    exact ⟨h.content, h.handles, h.away, h.next, h.pathLt⟩
  | readSome _ x n hrd hf h1 hn =>
    exfalso
    have hh := h.handles
    rw [hf] at hh
    cases hhist : s.hist with
    | nil =>
      rw [hhist] at hh
      simp only [Option.toList_some, List.nil_append, List.cons.injEq, and_true] at hh
      subst hh
      simp only [unread, h.content, List.drop_length, List.length_nil] at hn
      omega
    | cons a l =>
      rw [hhist] at hh
      have := congrArg List.length hh
      simp at this
  | readEmpty _ x hrd hf hu => exact ⟨h.content, h.handles, h.away, h.next, h.pathLt⟩
  | readNil _ hrd hf => exact ⟨h.content, h.handles, h.away, h.next, h.pathLt⟩
  | recvW _ hrd hpw =>
    rw [onWrite_noop (s := { s with pw := s.pw - 1 }) (by simp [hre])]
    exact ⟨h.content, h.handles, h.away, h.next, h.pathLt⟩
  | recvD _ hrd hpd hre' => rw [hre] at hre'; cases hre'
  | recvDPlain _ hrd hpd _ =>
    exact ⟨h.content, by simpa [NSt.closeFile] using h.handles, h.away, h.next, h.pathLt⟩

theorem drained_reach (hre : cfg.reopen = false) {c : List β} {st0 : Nat} {s1 s2 : NSt β}
    (h : Drained c st0 s1) (hr : NReach cfg s1 s2) : Drained c st0 s2 := by
  induction hr with
  | refl => exact h
  | step _ hs ih => exact drained_step hre ih hs

theorem NReach.trans' {cfg : NCfg} {s0 s s' : NSt β} (h1 : NReach cfg s0 s) (h2 : NReach cfg s s') :
    NReach cfg s0 s' := by
  induction h2 with
  | refl => exact h1
  | step _ hs ih => exact .step ih hs

end Rare.Follow

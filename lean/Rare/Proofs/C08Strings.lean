import Rare.Proofs.C08Arith
import Rare.Proofs.C11
import Rare.Model.Expr.Funcs.Strings
/-!
C08 for the `Strings` family: len, like, prefix, suffix, substr, select, the join family
(`tab`, `$`, `@`), csv and hi are panic-free on safe arguments.  For `substr` this is the
statement that the slice expression `s[left:right]` can never be out of bounds (F4), via
`substrVal_spec`.  `upper` / `lower` (non-ASCII input) and `bytesize` / `bytesizesi` /
`downscale` (values that need float rounding) can answer `unmodelled` and are outside.
-/
namespace Rare.Expr.Funcs.Strings
open Rare.Expr

theorem kfLen_safe : SafeBuilder kfLen := by
  intro args h
  show SafeResult _
  unfold kfLen
  split
  · rename_i a
    exact SafeResult.ok (Safe.bind' (h a (by simp)) fun v => Safe.pure _)
  · exact SafeResult.errArgCount

theorem testHelper_safe (test : Bytes → Bytes → Bool) : SafeBuilder (testHelper test) := by
  intro args h
  show SafeResult _
  unfold testHelper
  split
  · rename_i a0 a1
    exact SafeResult.ok (Safe.bind' (h a0 (by simp)) fun v => Safe.bind' (h a1 (by simp)) fun c => Safe.pure _)
  · exact SafeResult.errArgCount

theorem liftExcept_safe {r : Except String Bytes} (h : ∃ v, r = .ok v) : Safe (liftExcept r) := by
  obtain ⟨v, e⟩ := h; subst e; exact .ret v

/-- The slice of `kfSubstr` is always in bounds. -/
theorem kfSubstr_safe : SafeBuilder kfSubstr := by
  intro args h
  show SafeResult _
  unfold kfSubstr
  split
  · rename_i a0 a1 a2
    refine SafeResult.ok (Safe.bind' (h a0 (by simp)) fun s => .ite (Safe.pure _) ?_)
    by_cases hlen : (s.length : Int) > maxInt64
    · rw [if_pos hlen]; exact Safe.pure _
    · rw [if_neg hlen]
      refine Safe.bind' (h a1 (by simp)) fun ls => Safe.bind' (h a2 (by simp)) fun ns => ?_
      cases h1 : atoi ls with
      | none => exact Safe.pure _
      | some left =>
        cases h2 : atoi ns with
        | none => exact Safe.pure _
        | some len =>
          exact liftExcept_safe ⟨_, Rare.C11.substrVal_spec s left len (by omega)
            (Rare.C11.atoi_inInt64 h1) (Rare.C11.atoi_inInt64 h2)⟩
  · exact SafeResult.errArgCount

theorem kfSelect_safe : SafeBuilder kfSelect := by
  intro args h
  show SafeResult _
  unfold kfSelect
  split
  · rename_i a0 a1
    apply SafeResult.ok
    apply Safe.bind' (h a0 (by simp))
    intro s
    apply Safe.bind' (h a1 (by simp))
    intro i
    cases atoi i <;> exact Safe.pure _
  · exact SafeResult.errArgCount

theorem joinRun_safe (delim : Bytes) : ∀ l : List Stage, (∀ a ∈ l, Safe a) → Safe (joinRun delim l)
  | [], _ => .ret _
  | a :: rest, h => by
    unfold joinRun
    exact Safe.bind' (h a (by simp)) fun v =>
      Safe.bind' (joinRun_safe delim rest fun x hx => h x (by simp [hx])) fun r => Safe.pure _

theorem kfJoin_safe (delim : Bytes) : SafeBuilder (kfJoin delim) := by
  intro args h
  show SafeResult _
  unfold kfJoin
  split
  · exact SafeResult.ok (Safe.lit _)
  · rename_i a
    exact SafeResult.ok (h a (by simp))
  · rename_i a rest _
    exact SafeResult.ok (Safe.bind' (h a (by simp)) fun v =>
      Safe.bind' (joinRun_safe delim rest fun x hx => h x (by simp [hx])) fun r => Safe.pure _)

theorem csvRun_safe : ∀ (l : List Stage) (acc : List Bytes), (∀ a ∈ l, Safe a) → Safe (csvRun l acc)
  | [], _, _ => .ret _
  | a :: rest, acc, h => by
    unfold csvRun
    exact Safe.bind' (h a (by simp)) fun v => csvRun_safe rest _ fun x hx => h x (by simp [hx])

theorem kfCsv_safe : SafeBuilder kfCsv := by
  intro args h
  show SafeResult _
  unfold kfCsv
  split
  · exact SafeResult.ok (Safe.lit _)
  · exact SafeResult.ok (csvRun_safe _ _ h)

theorem kfHumanizeInt_safe : SafeBuilder kfHumanizeInt := by
  intro args h
  show SafeResult _
  unfold kfHumanizeInt
  split
  · rename_i a
    apply SafeResult.ok
    apply Safe.bind' (h a (by simp))
    intro v
    cases atoi v <;> exact Safe.pure _
  · exact SafeResult.errArgCount

/-- Builders that can answer `unmodelled`: Unicode case mapping; unit scaling that needs float rounding. -/
def stringsUnmodelled : List String := ["upper", "lower", "bytesize", "bytesizesi", "downscale"]

theorem strings_safe : ∀ p ∈ table, p.1 ∉ stringsUnmodelled → SafeBuilder p.2 := by
  simp only [table, List.forall_mem_cons, List.not_mem_nil, false_imp_iff, implies_true, and_true]
  exact ⟨fun _ => kfLen_safe, fun _ => testHelper_safe _, fun _ => testHelper_safe _, fun _ => testHelper_safe _,
    fun h => absurd (by decide) h, fun h => absurd (by decide) h,
    fun _ => kfSubstr_safe, fun _ => kfSelect_safe, fun _ => kfJoin_safe _, fun _ => kfJoin_safe _, fun _ => kfJoin_safe _,
    fun _ => kfCsv_safe, fun _ => kfHumanizeInt_safe,
    fun h => absurd (by decide) h, fun h => absurd (by decide) h, fun h => absurd (by decide) h⟩

end Rare.Expr.Funcs.Strings

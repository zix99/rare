import Rare.Spec.C11
import Rare.Proofs.ExprCore
import Rare.Model.Expr.Funcs.Logic
import Rare.Model.Expr.Funcs.Arith
import Rare.Model.Expr.Funcs.Strings
import Rare.Model.Expr.Funcs.Misc
/-! Helper lemmas for the C11 property theorems (core Lean only). -/
namespace Rare.C11
open Rare Rare.Expr Rare.Expr.Funcs

/-- Linear arithmetic with the int64 bounds spelled out. -/
macro "i64" : tactic => `(tactic| (try simp only [minInt64, maxInt64] at *) <;> omega)

/-- `wrap64_id` with the bounds as numerals, the form `omega` can discharge. -/
theorem wrap64_lit (x : Int) (h1 : -9223372036854775808 ≤ x) (h2 : x ≤ 9223372036854775807) : wrap64 x = x :=
  wrap64_id h1 h2

theorem inInt64_iff {x : Int} : inInt64 x = true ↔ minInt64 ≤ x ∧ x ≤ maxInt64 := by
  simp [inInt64]

theorem neg_mul_ge (v s : Int) (hv : v ≤ 0) (hs : 1 ≤ s) : v * s ≤ v := by
  have : v * (s - 1) ≤ 0 := Int.mul_nonpos_of_nonpos_of_nonneg hv (by omega)
  rw [Int.mul_sub] at this; omega

theorem ediv_bounds_nonneg (v s : Int) (hv : 0 ≤ v) (hs : 0 < s) : 0 ≤ v / s ∧ v / s ≤ v :=
  ⟨(Int.ediv_nonneg_iff_of_pos hs).mpr hv, Int.ediv_le_self s hv⟩

theorem ediv_bounds_neg (v s : Int) (hv : v < 0) (hs : 0 < s) : v ≤ v / s ∧ v / s < 0 :=
  ⟨Int.le_ediv_of_mul_le hs (neg_mul_ge v s (by omega) (by omega)), Int.ediv_neg_of_neg_of_pos hv hs⟩

/-- Truncated division in terms of floor division, for a positive divisor. -/
theorem tdiv_pos (v s : Int) (hs : 0 < s) :
    v.tdiv s = if 0 ≤ v ∨ v % s = 0 then v / s else v / s + 1 := by
  rw [Int.tdiv_eq_ediv]
  have hd : (s ∣ v) ↔ v % s = 0 := Int.dvd_iff_emod_eq_zero
  have hsign : s.sign = 1 := Int.sign_eq_one_of_pos hs
  by_cases h : 0 ≤ v ∨ s ∣ v
  · have h' : 0 ≤ v ∨ v % s = 0 := h.imp id hd.mp
    simp [h, h']
  · have h' : ¬ (0 ≤ v ∨ v % s = 0) := fun x => h (x.imp id hd.mpr)
    simp [h, h', hsign]

theorem bucketVal_eq_floor (v s : Int) (hs : 0 < s) (hv : inInt64 v = true) (hs64 : s ≤ maxInt64)
    (hr : minInt64 ≤ Spec.floorBucket v s) : Arith.bucketVal v s = Spec.floorBucket v s := by
  rw [inInt64_iff] at hv
  unfold Spec.floorBucket at *
  have h1 := Int.mul_ediv_add_emod v s
  have h2 := Int.emod_nonneg v (Int.ne_of_gt hs)
  have h3 := Int.emod_lt_of_pos v hs
  rw [Int.mul_comm] at hr ⊢
  have hq : v < 0 → v ≤ v / s ∧ v / s < 0 := fun h => ediv_bounds_neg v s h hs
  have hq' : 0 ≤ v → 0 ≤ v / s ∧ v / s ≤ v := fun h => ediv_bounds_nonneg v s h hs
  unfold minInt64 maxInt64 at *
  unfold Arith.bucketVal goDiv
  rw [tdiv_pos v s hs]
  split
  · -- the truncated quotient is the floor: no correction
    rw [wrap64_lit (v / s) (by omega) (by omega), Int.mul_comm, wrap64_lit _ (by omega) (by omega),
      if_neg (by omega)]
  · -- negative and inexact: the truncated quotient is one more, the correction takes `s` off again
    rw [wrap64_lit (v / s + 1) (by omega) (by omega), Int.add_mul, Int.one_mul, Int.mul_comm,
      wrap64_lit _ (by omega) (by omega), if_pos (by omega), wrap64_lit _ (by omega) (by omega)]
    omega

theorem floorBucket_isBucket (v s : Int) (hs : 0 < s) : Spec.IsBucket v s (Spec.floorBucket v s) := by
  unfold Spec.IsBucket Spec.floorBucket
  have h1 := Int.mul_ediv_add_emod v s
  have h2 := Int.emod_nonneg v (Int.ne_of_gt hs)
  have h3 := Int.emod_lt_of_pos v hs
  have hc : v / s * s = s * (v / s) := Int.mul_comm _ _
  refine ⟨⟨v / s, hc⟩, ?_, ?_⟩ <;> rw [hc] <;> omega

/-- The bucket is unique: the specification determines the answer. -/
theorem isBucket_unique (v s b : Int) (hs : 0 < s) (h : Spec.IsBucket v s b) : b = Spec.floorBucket v s := by
  obtain ⟨⟨q, hq⟩, h1, h2⟩ := h
  unfold Spec.floorBucket
  subst hq
  have : v / s = q := ((Int.ediv_emod_unique hs (a := v) (r := v - s * q) (q := q)).mpr ⟨by omega, by omega, by omega⟩).1
  rw [this, Int.mul_comm]

theorem atoi_ne {a b : Bytes} {v : Int} (h : atoi a = some v) (hb : atoi b = none) : a ≠ b := by
  rintro rfl; rw [hb] at h; cases h

theorem clampVal_iff (a : Bytes) (v mn mx : Int) (h : atoi a = some v) :
    Arith.clampVal a v mn mx = a ↔ mn ≤ v ∧ v ≤ mx := by
  unfold Arith.clampVal
  have h1 : a ≠ ascii "min" := atoi_ne h (by decide +kernel)
  have h2 : a ≠ ascii "max" := atoi_ne h (by decide +kernel)
  split
  · exact ⟨fun e => absurd e.symm h1, fun ⟨_, _⟩ => by omega⟩
  · split
    · exact ⟨fun e => absurd e.symm h2, fun ⟨_, _⟩ => by omega⟩
    · exact ⟨fun _ => by omega, fun _ => rfl⟩

theorem expLoop_spec : ∀ (f : Nat) (v b : Int), 1 ≤ v → v < 10 ^ (f + 1) → 1 ≤ b → b * v ≤ maxInt64 →
    ∃ k : Nat, Arith.expLoop f v b = b * 10 ^ k ∧ (10 : Int) ^ k ≤ v ∧ v < 10 * 10 ^ k := by
  intro f
  induction f with
  | zero =>
    intro v b hv hlt _ _
    refine ⟨0, ?_, ?_, ?_⟩ <;> simp [Arith.expLoop] <;> omega
  | succ f ih =>
    intro v b hv hlt hb hmax
    unfold Arith.expLoop
    by_cases h10 : v ≥ 10
    · simp only [h10, if_true]
      have hb10 : b * 10 ≤ b * v := Int.mul_le_mul_of_nonneg_left h10 (by omega)
      have hbpos : b ≤ b * 10 := by omega
      have hvmax : v ≤ maxInt64 := by
        have : 1 * v ≤ b * v := Int.mul_le_mul_of_nonneg_right hb (by omega)
        omega
      have e1 : goDiv v 10 = v / 10 := by
        unfold goDiv
        rw [Int.tdiv_eq_ediv_of_nonneg (by omega)]
        apply wrap64_id <;> i64
      have e2 : wrap64 (b * 10) = b * 10 := by
        apply wrap64_id <;> i64
      rw [e1, e2]
      have hp : (10 : Int) ^ (f + 1 + 1) = 10 ^ (f + 1) * 10 := Int.pow_succ _ _
      have hle : b * 10 * (v / 10) ≤ b * v := by
        rw [Int.mul_assoc]
        exact Int.mul_le_mul_of_nonneg_left (by omega) (by omega)
      obtain ⟨k, hk1, hk2, hk3⟩ := ih (v / 10) (b * 10) (by omega) (by omega) (by omega) (by omega)
      refine ⟨k + 1, ?_, ?_, ?_⟩
      · rw [hk1, Int.pow_succ, Int.mul_assoc, Int.mul_comm 10]
      · rw [Int.pow_succ]; omega
      · rw [Int.pow_succ]; omega
    · simp only [h10, if_false]
      refine ⟨0, ?_, ?_, ?_⟩ <;> simp <;> omega

theorem expBucketVal_spec (v : Int) (h1 : 1 ≤ v) (h2 : v ≤ maxInt64) :
    Spec.IsExpBucket v (Arith.expBucketVal v) := by
  unfold Arith.expBucketVal
  have : v > 0 := by omega
  simp only [this, if_true]
  obtain ⟨k, hk1, hk2, hk3⟩ := expLoop_spec 19 v 1 h1 (by unfold maxInt64 at h2; omega) (by omega) (by omega)
  exact ⟨k, by rw [hk1, Int.one_mul], by rw [hk1, Int.one_mul]; exact hk2, by rw [hk1, Int.one_mul]; exact hk3⟩

theorem substrIdx_spec (n left len : Int) (hn0 : 0 ≤ n) (hn : n ≤ maxInt64)
    (hl : inInt64 left = true) (hlen : inInt64 len = true) :
    Strings.substrIdx n left len =
      ((if left < 0 then max (left + n) 0 else min left n),
       min ((if left < 0 then max (left + n) 0 else min left n) + max len 0) n) := by
  rw [inInt64_iff] at hl hlen
  unfold minInt64 maxInt64 at *
  generalize hL : (if left < 0 then max (left + n) 0 else min left n) = L
  have hL0 : 0 ≤ L ∧ L ≤ n := by subst hL; split <;> omega
  have e1 : (if left < 0 then (if wrap64 (left + n) < 0 then 0 else wrap64 (left + n))
      else if left > n then n else left) = L := by
    subst hL
    split
    · rw [wrap64_lit _ (by omega) (by omega)]; omega
    · omega
  unfold Strings.substrIdx
  simp only []
  rw [e1, wrap64_lit (n - L) (by omega) (by omega), show (if len < 0 then 0 else len) = max len 0 by omega]
  congr 1
  split
  · rw [wrap64_lit _ (by omega) (by omega)]; omega
  · omega

theorem take_min_drop (s : Bytes) (a len : Nat) (ha : a ≤ s.length) :
    (s.drop a).take (min (a + len) s.length - a) = (s.drop a).take len := by
  rw [List.take_eq_take_iff, List.length_drop]; omega

theorem substrVal_spec (s : Bytes) (left len : Int) (hs : (s.length : Int) ≤ maxInt64)
    (hl : inInt64 left = true) (hlen : inInt64 len = true) :
    Strings.substrVal s left len = .ok (Spec.substr s left len) := by
  unfold Strings.substrVal
  rw [substrIdx_spec s.length left len (by omega) hs hl hlen]
  simp only []
  unfold Strings.goSlice Spec.substr
  simp only []
  generalize hst : (if left < 0 then max (left + ↑s.length) 0 else min left ↑s.length) = start
  have h0 : 0 ≤ start ∧ start ≤ s.length := by
    subst hst; split <;> omega
  have hcond : 0 ≤ start ∧ start ≤ min (start + max len 0) ↑s.length ∧ min (start + max len 0) ↑s.length ≤ ↑s.length := by
    omega
  rw [if_pos hcond]
  congr 1
  have := take_min_drop s start.toNat (max len 0).toNat (by omega)
  rw [← this]
  congr 1
  omega

/-- An argument as the property quantifies over it: a constant in the template, or a value that
    arrives at run time from a match group / named key. -/
inductive Arg where
  | const (b : Bytes)
  | group (i : Int)
  | key (k : Bytes)

def Arg.stage : Arg → Stage
  | .const b => Stage.lit b
  | .group i => Comp.match_ i
  | .key k => Comp.key k

/-- The value the argument has in a context. -/
def Arg.val (c : Ctx) : Arg → Bytes
  | .const b => b
  | .group i => c.getMatch i
  | .key k => c.getKey k

/-- Build the helper with these arguments (as the compiler does) and evaluate the stage in `c`.
    `.error` = the real code would panic, at build time or at run time. -/
def callHelper (b : Builder) (as : List Arg) (c : Ctx) : Except String Bytes :=
  match b (as.map Arg.stage) with
  | .error m => .error m
  | .ok built =>
    match built.stage with
    | some st => st.run c
    | none => .ok []

theorem run_pure {α : Type} (c : Ctx) (a : α) : (pure a : Comp α).run c = .ok a := rfl

theorem Arg.run_stage (c : Ctx) (a : Arg) : a.stage.run c = .ok (a.val c) := by
  cases a <;> rfl

theorem Arg.probe_const (b : Bytes) : (Arg.const b).stage.probe = .ok (b, true) := rfl
theorem Arg.probe_group (i : Int) : (Arg.group i).stage.probe = .ok ([], false) := rfl
theorem Arg.probe_key (k : Bytes) : (Arg.key k).stage.probe = .ok ([], false) := rfl

/-- `evalTypedStage` on an argument: a constant is parsed now, anything else at run time. -/
theorem evalTyped_arg {α : Type} (parser : Bytes → Option α) (a : Arg) :
    evalTypedStage a.stage parser =
      match a with
      | .const b => (match parser b with
        | some p => .ok (some (.ret (some p)))
        | none => .ok none)
      | _ => .ok (some (do let v ← a.stage; pure (parser v))) := by
  cases a with
  | const b => simp only [evalTypedStage, Arg.probe_const]; cases parser b <;> rfl
  | group i => simp only [evalTypedStage, Arg.probe_group]
  | key k => simp only [evalTypedStage, Arg.probe_key]

/-- `evalTypedStage` on an argument either rejects it at build time (an unparsable constant) or yields
    a typed stage that evaluates to the parse of the argument's value. -/
theorem evalTyped_arg_run {α : Type} (parser : Bytes → Option α) (c : Ctx) (a : Arg) :
    (evalTypedStage a.stage parser = .ok none ∧ parser (a.val c) = none) ∨
    (∃ t, evalTypedStage a.stage parser = .ok (some t) ∧ t.run c = .ok (parser (a.val c))) := by
  rw [evalTyped_arg]
  cases a with
  | const b =>
    cases hb : parser b with
    | none => left; exact ⟨by simp only [hb], hb⟩
    | some p => right; exact ⟨.ret (some p), by simp only [hb], by simp [Comp.run, Arg.val, hb]⟩
  | group i => right; exact ⟨_, rfl, rfl⟩
  | key k => right; exact ⟨_, rfl, rfl⟩

/-- Pointwise relation between two lists. -/
inductive All2 {α β : Type} (R : α → β → Prop) : List α → List β → Prop
  | nil : All2 R [] []
  | cons {a b as bs} : R a b → All2 R as bs → All2 R (a :: as) (b :: bs)

/-- Every typed argument evaluates to the parse of the argument's value. -/
def TypedOk {α : Type} (parser : Bytes → Option α) (c : Ctx) (typed : List (Comp (Option α))) (as : List Arg) :
    Prop :=
  All2 (fun t a => t.run c = .ok (parser (Arg.val c a))) typed as

/-- `mapTypedArgs` either rejects (a constant that does not parse) or produces faithful typed
    stages; it never fails. -/
theorem mapTyped_args {α : Type} (parser : Bytes → Option α) (c : Ctx) : ∀ as : List Arg,
    (mapTypedArgs parser (as.map Arg.stage) = .ok none ∧ ∃ a ∈ as, parser (a.val c) = none) ∨
    (∃ typed, mapTypedArgs parser (as.map Arg.stage) = .ok (some typed) ∧ TypedOk parser c typed as)
  | [] => .inr ⟨[], rfl, All2.nil⟩
  | a :: rest => by
    simp only [List.map_cons, mapTypedArgs]
    rcases evalTyped_arg_run parser c a with ⟨e, hn⟩ | ⟨t, e, ht⟩
    · left; rw [e]; exact ⟨rfl, a, by simp, hn⟩
    · rw [e]
      rcases mapTyped_args parser c rest with ⟨h, a', ha', hp⟩ | ⟨typed, h, hts⟩
      · left; rw [h]; exact ⟨rfl, a', by simp [ha'], hp⟩
      · right; rw [h]; exact ⟨t :: typed, rfl, All2.cons ht hts⟩

/-- If every argument parses, the typed stages deliver exactly those values. -/
theorem typedOk_parsed {α : Type} (parser : Bytes → Option α) (c : Ctx) (typed : List (Comp (Option α)))
    (as : List Arg) (h : TypedOk parser c typed as) : ∀ xs : List α,
    as.map (fun a => parser (a.val c)) = xs.map some →
    All2 (fun t x => t.run c = .ok (some x)) typed xs := by
  induction h with
  | nil => intro xs hp; cases xs with
    | nil => exact All2.nil
    | cons _ _ => simp at hp
  | cons h1 _ ih =>
    intro xs hp
    cases xs with
    | nil => simp at hp
    | cons x xs =>
      simp only [List.map_cons, List.cons.injEq] at hp
      exact All2.cons (by rw [h1, hp.1]) (ih xs hp.2)

/-- An argument that does not parse, when the first one does, is among the others. -/
theorem bad_arg_tail {α : Type} {f : Arg → Option α} {a : Arg} {as : List Arg} {x : α}
    (h : ∃ b ∈ a :: as, f b = none) (ha : f a = some x) : ∃ b ∈ as, f b = none := by
  obtain ⟨b, hb, hnone⟩ := h
  rcases List.mem_cons.mp hb with e | e
  · subst e; rw [ha] at hnone; cases hnone
  · exact ⟨b, e, hnone⟩

/-- The left fold of a checked operation (`none` = rejected operands, e.g. division by zero). -/
def foldOp (op : Arith.IntOp) : Int → List Int → Option Int
  | acc, [] => some acc
  | acc, x :: r =>
    match op acc x with
    | none => none
    | some y => foldOp op y r

theorem foldRun_run (c : Ctx) (op : Arith.IntOp) (typed : List (Comp (Option Int))) (ns : List Int)
    (h : All2 (fun t n => t.run c = .ok (some n)) typed ns) : ∀ acc : Int,
    (Arith.foldRun op acc typed).run c = .ok (match foldOp op acc ns with
      | some r => itoa r
      | none => ErrorValue) := by
  induction h with
  | nil => intro acc; rfl
  | @cons t n ts ns' h1 _ ih =>
    intro acc
    simp only [Arith.foldRun, Comp.bind_eq, Comp.run_bind, h1, foldOp]
    cases hop : op acc n with
    | none => rfl
    | some r => exact ih r

theorem intRun_run (c : Ctx) (op : Arith.IntOp) (t : Comp (Option Int)) (typed : List (Comp (Option Int)))
    (n : Int) (ns : List Int) (h1 : t.run c = .ok (some n))
    (h2 : All2 (fun t n => t.run c = .ok (some n)) typed ns) :
    (Arith.intRun op (t :: typed)).run c = .ok (match foldOp op n ns with
      | some r => itoa r
      | none => ErrorValue) := by
  simp only [Arith.intRun, Comp.bind_eq, Comp.run_bind, h1]
  exact foldRun_run c op typed ns h2 n

/-- With two arguments or more, `arithmaticHelperi` answers `<BAD-TYPE>` for a constant that does not parse, and
    otherwise runs the fold over faithful typed stages. -/
theorem intHelper_call (op : Arith.IntOp) (c : Ctx) (as : List Arg) (hlen : 2 ≤ as.length) :
    (callHelper (Arith.intHelper op) as c = .ok ErrorNum ∧ ∃ a ∈ as, atoi (a.val c) = none) ∨
    ∃ typed, callHelper (Arith.intHelper op) as c = (Arith.intRun op typed).run c ∧ TypedOk atoi c typed as := by
  have hnot : ¬ ((as.map Arg.stage).length < 2) := by simp; omega
  unfold callHelper Arith.intHelper
  simp only [hnot, if_false]
  rcases mapTyped_args atoi c as with ⟨h, hbad⟩ | ⟨typed, h, ht⟩
  · left; rw [h]; exact ⟨rfl, hbad⟩
  · right; rw [h]; exact ⟨typed, rfl, ht⟩

/-- A value that does not parse never reaches the arithmetic: the result is a marker. -/
theorem foldRun_marker (c : Ctx) (op : Arith.IntOp) (typed : List (Comp (Option Int))) (as : List Arg)
    (h : TypedOk atoi c typed as) : ∀ acc : Int, (∃ a ∈ as, atoi (a.val c) = none) →
    (Arith.foldRun op acc typed).run c = .ok ErrorNum ∨
    ((Arith.foldRun op acc typed).run c = .ok ErrorValue ∧ ∃ x y, op x y = none) := by
  induction h with
  | nil => intro acc ⟨a, ha, _⟩; simp at ha
  | @cons t a ts as' h1 _ ih =>
    intro acc hbad
    simp only [Arith.foldRun, Comp.bind_eq, Comp.run_bind, h1]
    cases hp : atoi (a.val c) with
    | none => left; rfl
    | some x =>
      cases hop : op acc x with
      | none => right; simp only [hop]; exact ⟨rfl, acc, x, hop⟩
      | some r => simp only [hop]; exact ih r (bad_arg_tail hbad hp)

/-- Whatever `strconv.ParseInt(s, 10, 64)` returns is an int64. -/
theorem atoi_inInt64 {s : Bytes} {v : Int} (h : atoi s = some v) : inInt64 v = true := by
  unfold atoi at h
  split at h
  rename_i neg ds _
  simp only [] at h
  split at h
  · cases h
  · by_cases hin : inInt64 (if neg = true then -(digitsVal ds 0 : Int) else (digitsVal ds 0 : Int)) = true
    · rw [if_pos hin] at h; cases h; exact hin
    · rw [if_neg hin] at h; cases h

end Rare.C11

import Rare.Model.C19
import Rare.Model.C19F64
/-!
C19: the MEANING of the operator tables of ops.go.

`harness/extract/c19.go` regenerates, next to the keys, a description of what every entry of `ops` and
`uniOps` computes (`Gen.C19.opsDesc`, `Gen.C19.uniDesc`): the kind of function literal (plain float
arithmetic, comparison through `conditionalOp`, `truthy` combination, int64 operation with an optional
NaN guard, a function of package `math`), its Go operator and its guard, recognised on the AST with the
operands in the order `(left, right)`.  This file interprets such a description over the primitive
arithmetic `Prim α` of the model (`binInterp`, `unInterp`) – `Props/C19.lean` proves that the model's
`binOf` / `unOf` are the interpretation of the generated descriptions, entry by entry
(`ops_table_covered`, `uniops_table_covered`), so an entry that is added, dropped or changed in /repo
(`<` computing `<=`, a removed zero-divisor guard, `"floor": math.Ceil`) breaks a theorem.
-/
namespace Rare.C19

/-- What a description of an entry of `ops` means; `none` = a shape the model has no counterpart of. -/
def binInterp {α : Type} (P : Prim α) (kind op guard : String) : Option (α → α → α) :=
  if kind = "arith" ∧ guard = "" then
    (if op = "+" then some P.add else if op = "-" then some P.sub
     else if op = "*" then some P.mul else if op = "/" then some P.div else none)
  else if kind = "fn" ∧ guard = "" then
    (if op = "Pow" then some P.pow else none)
  else if kind = "cmp" ∧ guard = "" then
    (if op = "<" then some P.ltF else if op = "<=" then some P.leF
     else if op = ">" then some (fun l r => P.ltF r l) else if op = ">=" then some (fun l r => P.leF r l)
     else if op = "==" then some P.eqF else none)
  else if kind = "logic" ∧ guard = "" then
    (if op = "&&" then some P.andF else if op = "||" then some P.orF else none)
  else if kind = "int" then
    (if op = "%" ∧ guard = "==0" then some (P.intBin modI)          -- `r == 0` answers NaN
     else if op = "<<" ∧ guard = "<0" then some (P.intBin shlI)     -- `n < 0` answers NaN
     else if op = ">>" ∧ guard = "<0" then some (P.intBin shrI)
     else if op = "&" ∧ guard = "" then some (P.intBin andI)
     else if op = "|" ∧ guard = "" then some (P.intBin orI)
     else none)
  else none

/-- `math.<Name>` for a key of `uniOps`: the key with its first letter in upper case (`abs` ↦ `Abs`). -/
def goMathName (key : Bytes) : String :=
  match key with
  | [] => ""
  | c :: r => String.ofList (Char.ofNat (c.toNat - 32) :: r.map fun b => Char.ofNat b.toNat)

/-- What a description of an entry of `uniOps` means. -/
def unInterp {α : Type} (P : Prim α) (key : Bytes) (kind name : String) : Option (α → α) :=
  if kind = "neg" then some P.neg
  else if kind = "not" then some P.notF
  else if kind = "fn" ∧ name = goMathName key then some (P.fn key)
  else none

/-- The operand of every unary application (also inside groups) is an atom: a literal, a group or another
    unary application – never a binary node. -/
def Tree.unaryAtomic : Tree → Bool
  | .lit _ => true
  | .grp _ e => unaryAtomic e
  | .un _ e => e.isAtom && unaryAtomic e
  | .bin _ _ l r => unaryAtomic l && unaryAtomic r

theorem wp_unaryAtomic (table : List (List Bytes)) (t : Tree) (h : WellPrec table t) : t.unaryAtomic = true := by
  induction h with
  | lit v => rfl
  | grp s e _ ih => exact ih
  | un m e ha _ ih => simp only [Tree.unaryAtomic, ha, ih, Bool.and_self]
  | bin i op l r lv _ _ _ _ _ _ ihl ihr => simp only [Tree.unaryAtomic, ihl, ihr, Bool.and_self]

namespace IEEE
open Rare.F64

/-- The functions of Go's `math` package the model computes, by their Go name: those IEEE-754 determines,
    the logarithms as they run on amd64 (`Model/C11Log.lean`), the trigonometric functions and
    `Exp2` (pure Go on amd64, `Model/C19Trig.lean`, `IEEE.exp2`).  Only `Exp` is left to the parameter. -/
def goMathExact (name : String) : Option (F64 → F64) :=
  if name = "Abs" then some F64.abs
  else if name = "Sqrt" then some sqrt
  else if name = "Floor" then some F64.floor
  else if name = "Ceil" then some F64.ceil
  else if name = "Round" then some roundHalfAway
  else if name = "Log" then some Rare.C11.Log.logAsm
  else if name = "Log10" then some Rare.C11.Log.log10
  else if name = "Log2" then some Rare.C11.Log.log2
  else if name = "Sin" then some Rare.C19.Trig.sin
  else if name = "Cos" then some Rare.C19.Trig.cos
  else if name = "Tan" then some Rare.C19.Trig.tan
  else if name = "Asin" then some Rare.C19.Trig.asin
  else if name = "Acos" then some Rare.C19.Trig.acos
  else if name = "Atan" then some Rare.C19.Trig.atan
  else if name = "Exp2" then some exp2
  else none

end IEEE

end Rare.C19

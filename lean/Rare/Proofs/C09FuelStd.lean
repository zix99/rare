import Rare.Proofs.C09FuelOpt
import Rare.Model.Expr.Std
import Rare.Proofs.C19
/-!
C09: the hypothesis of `compile_never_out_of_fuel` (`NoMsgReg`: no builder, and no stage a builder
returns, fails with the model's out-of-fuel message when its argument stages cannot) holds for the
standard registry – every builder of `stdTable`, family by family, and `unmodelledBuilder`.
-/
namespace Rare.C09
open Rare Rare.Expr

/-- A builder result: not the error `m`, and the returned stage (if any) cannot panic with `m`. -/
def GoodB (m : String) (r : Except String Built) : Prop :=
  r ≠ .error m ∧ ∀ bt s, r = .ok bt → bt.stage = some s → NoMsg m s

def NoMsgBuilder (m : String) (b : Builder) : Prop := ∀ args, AllNoMsg m args → GoodB m (b args)

namespace GoodB
variable {m : String}

theorem built {s : Stage} {e : Option String} (h : NoMsg m s) : GoodB m (.ok ⟨some s, e⟩) := by
  refine ⟨by simp, fun bt s' h1 h2 => ?_⟩
  simp only [Except.ok.injEq] at h1
  subst h1; simp only [Option.some.injEq] at h2; subst h2; exact h

theorem ok {s : Stage} (h : NoMsg m s) : GoodB m (Rare.Expr.ok s) := built h

theorem stageErr (marker : Bytes) (tag : String) : GoodB m (Rare.Expr.stageErr marker tag) := built (.ret _)
theorem errArgCount : GoodB m Rare.Expr.errArgCount := stageErr _ _
theorem errNum : GoodB m Rare.Expr.errNum := stageErr _ _
theorem errConst : GoodB m Rare.Expr.errConst := stageErr _ _
theorem errEmpty : GoodB m Rare.Expr.errEmpty := stageErr _ _
theorem errEnum : GoodB m Rare.Expr.errEnum := stageErr _ _
theorem errValue : GoodB m Rare.Expr.errValue := stageErr _ _
theorem errFile : GoodB m Rare.Expr.errFile := stageErr _ _
theorem errParsing : GoodB m Rare.Expr.errParsing := stageErr _ _

theorem error {e : String} (h : e ≠ m) : GoodB m (.error e) :=
  ⟨by simpa using h, fun bt s h1 _ => by cases h1⟩

/-- The usual shape of a builder around a pre-evaluated integer argument `r`: its error passed on, `b` when it is static
    but does not parse, `k x` when it gave `x`. -/
theorem intArg {r : Except String (Option Int)} {b : Except String Built} {k : Int → Except String Built}
    (hr : ∀ e, r = .error e → e ≠ m) (hb : GoodB m b) (hk : ∀ x, GoodB m (k x)) :
    GoodB m (match (generalizing := false) r with | .error e => .error e | .ok none => b | .ok (some x) => k x) := by
  match r, hr with
  | .error e, hr => exact error (hr e rfl)
  | .ok none, _ => exact hb
  | .ok (some x), _ => exact hk x

end GoodB

/-! ### the probing helpers of `Build.lean` -/

section
variable {m : String}

theorem probe_ne {α : Type} {c : Comp α} (h : NoMsg m c) {e : String} (he : c.probe = .error e) : e ≠ m := by
  intro h'; subst h'; exact h.probe he

theorem evalStageIndexOrDefault_ne {args : List Stage} (h : AllNoMsg m args) (idx : Nat) (d : Bytes) {e : String}
    (he : evalStageIndexOrDefault args idx d = .error e) : e ≠ m := by
  unfold evalStageIndexOrDefault at he
  split at he
  · cases he
  · rename_i st hst
    have hs : NoMsg m st := h st (List.mem_of_getElem? hst)
    cases hp : st.probe with
    | error x => rw [hp] at he; simp only [Except.error.injEq] at he; subst he; exact probe_ne hs hp
    | ok p => obtain ⟨v, b⟩ := p; rw [hp] at he; cases b <;> cases he

theorem evalStageInt_ne {st : Stage} (h : NoMsg m st) {e : String} (he : evalStageInt st = .error e) : e ≠ m := by
  unfold evalStageInt at he
  cases hp : st.probe with
  | error x => rw [hp] at he; simp only [Except.error.injEq] at he; subst he; exact probe_ne h hp
  | ok p => obtain ⟨v, b⟩ := p; rw [hp] at he; cases b <;> cases he

theorem evalArgInt_ne {args : List Stage} (h : AllNoMsg m args) (idx : Nat) (d : Int) {e : String}
    (he : evalArgInt args idx d = .error e) : e ≠ m := by
  unfold evalArgInt at he
  split at he
  · cases he
  · rename_i st hst
    exact evalStageInt_ne (h st (List.mem_of_getElem? hst)) he

theorem evalTypedStage_good {α : Type} {st : Stage} (h : NoMsg m st) (parser : Bytes → Option α) :
    (∀ e, evalTypedStage st parser = .error e → e ≠ m) ∧
    (∀ t, evalTypedStage st parser = .ok (some t) → NoMsg m t) := by
  unfold evalTypedStage
  cases hp : st.probe with
  | error x => exact ⟨fun e he => (by simp only [Except.error.injEq] at he; subst he; exact probe_ne h hp),
      fun t ht => (by cases ht)⟩
  | ok p =>
    obtain ⟨v, b⟩ := p
    cases b with
    | true =>
      simp only []
      cases hpv : parser v with
      | none => exact ⟨fun e he => (by cases he), fun t ht => (by cases ht)⟩
      | some p =>
        refine ⟨fun e he => (by cases he), fun t ht => ?_⟩
        simp only [Except.ok.injEq, Option.some.injEq] at ht; subst ht; exact .ret _
    | false =>
      refine ⟨fun e he => (by cases he), fun t ht => ?_⟩
      simp only [Except.ok.injEq, Option.some.injEq] at ht; subst ht
      exact NoMsg.bind' h fun v => NoMsg.pure _

theorem mapTypedArgs_good {α : Type} (parser : Bytes → Option α) : ∀ {args : List Stage}, AllNoMsg m args →
    (∀ e, mapTypedArgs parser args = .error e → e ≠ m) ∧
    (∀ ts, mapTypedArgs parser args = .ok (some ts) → ∀ t ∈ ts, NoMsg m t)
  | [], _ => ⟨fun e he => (by cases he), fun ts h t ht => (by
      simp only [mapTypedArgs, Except.ok.injEq, Option.some.injEq] at h; subst h; cases ht)⟩
  | a :: rest, h => by
    have ha := evalTypedStage_good (h a (by simp)) parser
    have hr := mapTypedArgs_good parser (args := rest) (List.forall_mem_cons.mp h).2
    unfold mapTypedArgs
    cases h1 : evalTypedStage a parser with
    | error x => exact ⟨fun e he => (by simp only [Except.error.injEq] at he; subst he; exact ha.1 _ h1),
        fun ts h => (by cases h)⟩
    | ok o =>
      cases o with
      | none => exact ⟨fun e he => (by cases he), fun ts h => (by cases h)⟩
      | some t =>
        simp only []
        cases h2 : mapTypedArgs parser rest with
        | error x => exact ⟨fun e he => (by simp only [Except.error.injEq] at he; subst he; exact hr.1 _ h2),
            fun ts h => (by cases h)⟩
        | ok o2 =>
          cases o2 with
          | none => exact ⟨fun e he => (by cases he), fun ts h => (by cases h)⟩
          | some ts =>
            refine ⟨fun e he => (by cases he), fun ts' h x hx => ?_⟩
            simp only [Except.ok.injEq, Option.some.injEq] at h; subst h
            rcases List.mem_cons.mp hx with rfl | hx
            · exact ha.2 _ h1
            · exact hr.2 ts h2 x hx

end

theorem unmodelled_ne' (p w : String) (hp : p.toList.head? = some 'u') : (p ++ w) ≠ fuelMsg := by
  intro h
  have := congrArg (fun s => s.toList.head?) h
  simp only [String.toList_append] at this
  cases hl : p.toList with
  | nil => rw [hl] at hp; cases hp
  | cons c r =>
    rw [hl] at hp this
    simp only [List.head?_cons, Option.some.injEq] at hp
    subst hp
    simp [fuelMsg] at this

theorem unmodelled_ne (w : String) : ("unmodelled:" ++ w) ≠ fuelMsg := unmodelled_ne' _ w rfl

theorem unmodelledBuilder_ok (n : String) : NoMsgBuilder fuelMsg (unmodelledBuilder n) := by
  intro args _
  exact GoodB.built (.panic _ (unmodelled_ne n))

/-- Closes `NoMsg fuelMsg <stage>` goals for stages built from `bind`/`pure`/`if`/`match` over argument
    stages known from an `AllNoMsg` hypothesis `h`; `ih` is a lemma (often the induction hypothesis) for the
    stage of a recursive call. -/
syntax "nomsg " ident " using " ident : tactic
macro_rules
  | `(tactic| nomsg $h using $ih) => `(tactic|
    repeat' (first
      | intro _
      | refine NoMsg.bind' ?_ ?_
      | refine NoMsg.bind ?_ ?_
      | exact NoMsg.ret _
      | exact NoMsg.pure _
      | exact NoMsg.lit _
      | assumption
      | (apply $h; simp only [List.mem_cons, true_or, or_true]; done)
      | exact NoMsg.panic _ (by decide)
      | exact NoMsg.panic _ (unmodelled_ne _)
      | exact $ih
      | exact $ih _
      | exact $ih _ _
      | exact $ih _ _ _
      | exact $ih _ _ _ _
      | split))

/-- The same without such a lemma. -/
macro "nomsg " h:ident : tactic => `(tactic| nomsg $h using $h)

/-! ### Logic -/
namespace L
open Funcs.Logic

theorem coalesce_go {m : String} : ∀ l : List Stage, AllNoMsg m l → NoMsg m (kfCoalesce.go l)
  | [], _ => .ret _
  | a :: rest, h => by
    unfold kfCoalesce.go
    refine NoMsg.bind' (h a (by simp)) fun v => ?_
    split
    · exact NoMsg.pure _
    · exact coalesce_go rest (List.forall_mem_cons.mp h).2

theorem cmp_go {m : String} (eq : Bytes → Bytes → Bytes) : ∀ (l : List Stage) (v : Bytes), AllNoMsg m l →
    NoMsg m (stringComparator.go eq v l)
  | [], _, _ => .ret _
  | a :: rest, v, h => by
    unfold stringComparator.go
    exact NoMsg.bind' (h a (by simp)) fun w => cmp_go eq rest _ (List.forall_mem_cons.mp h).2

theorem and_go {m : String} : ∀ l : List Stage, AllNoMsg m l → NoMsg m (kfAnd.go l)
  | [], _ => .ret _
  | a :: rest, h => by
    unfold kfAnd.go
    refine NoMsg.bind' (h a (by simp)) fun v => ?_
    split
    · exact NoMsg.pure _
    · exact and_go rest (List.forall_mem_cons.mp h).2

theorem or_go {m : String} : ∀ l : List Stage, AllNoMsg m l → NoMsg m (kfOr.go l)
  | [], _ => .ret _
  | a :: rest, h => by
    unfold kfOr.go
    refine NoMsg.bind' (h a (by simp)) fun v => ?_
    split
    · exact NoMsg.pure _
    · exact or_go rest (List.forall_mem_cons.mp h).2

theorem switch_go {m : String} : ∀ l : List Stage, AllNoMsg m l → NoMsg m (kfSwitch.go l)
  | [], _ => .ret _
  | [d], h => by unfold kfSwitch.go; exact h d (by simp)
  | c :: v :: rest, h => by
    unfold kfSwitch.go
    refine NoMsg.bind' (h c (by simp)) fun x => ?_
    split
    · exact h v (by simp)
    · exact switch_go rest fun y hy => h y (by simp [hy])

theorem table_ok : ∀ p ∈ table, NoMsgBuilder fuelMsg p.2 := by
  intro p hp
  simp only [table, List.mem_cons, List.not_mem_nil, or_false] at hp
  rcases hp with e | e | e | e | e | e | e | e | e <;> subst e <;> intro args h
  · exact GoodB.ok (coalesce_go args h)
  iterate 2
    · show GoodB _ (stringComparator _ args)
      unfold stringComparator; split
      · exact GoodB.ok (NoMsg.bind' (h _ (by simp)) fun v => cmp_go _ _ _ (List.forall_mem_cons.mp h).2)
      · exact GoodB.errArgCount
  · show GoodB _ (kfNot args)
    unfold kfNot; split
    · apply GoodB.ok; nomsg h
    · exact GoodB.errArgCount
  · exact GoodB.ok (and_go args h)
  · exact GoodB.ok (or_go args h)
  · show GoodB _ (kfIf args)
    unfold kfIf; split
    · apply GoodB.ok; nomsg h
    · apply GoodB.ok; nomsg h
    · exact GoodB.errArgCount
  · show GoodB _ (kfUnless args)
    unfold kfUnless; split
    · apply GoodB.ok; nomsg h
    · exact GoodB.errArgCount
  · show GoodB _ (kfSwitch args)
    unfold kfSwitch; split
    · exact GoodB.errArgCount
    · exact GoodB.ok (switch_go args h)

end L

/-! ### Arith (integer helpers, bucketing) and Float -/
namespace A
open Funcs.Arith Funcs.Float

theorem foldRun_ok {m : String} (eq : IntOp) : ∀ (l : List (Comp (Option Int))) (acc : Int),
    (∀ t ∈ l, NoMsg m t) → NoMsg m (foldRun eq acc l)
  | [], _, _ => .ret _
  | t :: rest, acc, h => by
    have ih := fun acc => foldRun_ok eq rest acc (List.forall_mem_cons.mp h).2
    unfold foldRun
    nomsg h using ih

theorem intRun_ok {m : String} (eq : IntOp) (l : List (Comp (Option Int))) (h : ∀ t ∈ l, NoMsg m t) :
    NoMsg m (intRun eq l) := by
  cases l with
  | nil => exact .ret _
  | cons t rest =>
    have ih := fun acc => foldRun_ok eq rest acc (List.forall_mem_cons.mp h).2
    unfold intRun
    nomsg h using ih

theorem intHelper_ok (eq : IntOp) : NoMsgBuilder fuelMsg (intHelper eq) := by
  intro args h
  unfold intHelper
  split
  · exact GoodB.errArgCount
  · have hm := mapTypedArgs_good atoi h
    cases hc : mapTypedArgs atoi args with
    | error e => exact GoodB.error (hm.1 e hc)
    | ok o =>
      cases o with
      | none => exact GoodB.errNum
      | some typed => exact GoodB.ok (intRun_ok eq typed (hm.2 typed hc))

theorem bucketBuilder_ok (render : Int → Int → Bytes) : NoMsgBuilder fuelMsg (bucketBuilder render) := by
  intro args h
  unfold bucketBuilder
  split
  · rename_i a0 a1
    refine GoodB.intArg (fun e => evalStageInt_ne (h a1 (by simp))) GoodB.errNum fun size => ?_
    split
    · exact GoodB.errValue
    · apply GoodB.ok; nomsg h
  · exact GoodB.errArgCount

theorem kfClamp_ok : NoMsgBuilder fuelMsg kfClamp := by
  intro args h
  unfold kfClamp
  split
  · rename_i a0 a1 a2
    cases hc : evalStageInt a1 with
    | error e => exact GoodB.error (evalStageInt_ne (h a1 (by simp)) hc)
    | ok mn =>
      simp only []
      cases hc2 : evalStageInt a2 with
      | error e => exact GoodB.error (evalStageInt_ne (h a2 (by simp)) hc2)
      | ok mx =>
        simp only []
        split
        · exact GoodB.errNum
        · exact GoodB.errNum
        · apply GoodB.ok; nomsg h
  · exact GoodB.errArgCount

theorem intTable_ok : ∀ p ∈ intTable, NoMsgBuilder fuelMsg p.2 := by
  intro p hp
  simp only [intTable, List.mem_cons, List.not_mem_nil, or_false] at hp
  rcases hp with e | e | e | e | e | e | e | e | e | e | e | e <;> subst e
  iterate 7 exact intHelper_ok _
  · intro args h
    show GoodB _ (kfIsInt args)
    unfold kfIsInt; split
    · apply GoodB.ok; nomsg h
    · exact GoodB.errArgCount
  · exact bucketBuilder_ok _
  · exact bucketBuilder_ok _
  · exact kfClamp_ok
  · intro args h
    show GoodB _ (kfExpBucket args)
    unfold kfExpBucket; split
    · apply GoodB.ok; nomsg h
    · exact GoodB.errArgCount

theorem foldRunF_ok {m : String} (op : F64 → F64 → F64) : ∀ (l : List (Comp (Option F64))) (acc : F64),
    (∀ t ∈ l, NoMsg m t) → NoMsg m (foldRunF op acc l)
  | [], _, _ => .ret _
  | t :: rest, acc, h => by
    have ih := fun acc => foldRunF_ok op rest acc (List.forall_mem_cons.mp h).2
    unfold foldRunF
    nomsg h using ih

theorem floatHelper_ok (op : F64 → F64 → F64) : NoMsgBuilder fuelMsg (floatHelper op) := by
  intro args h
  unfold floatHelper
  split
  · exact GoodB.errArgCount
  · have hm := mapTypedArgs_good parseF h
    cases hc : mapTypedArgs parseF args with
    | error e => exact GoodB.error (hm.1 e hc)
    | ok o =>
      cases o with
      | none => exact GoodB.errNum
      | some typed =>
        apply GoodB.ok
        have ht := hm.2 typed hc
        cases typed with
        | nil => exact .ret _
        | cons t rest =>
          have ih := fun acc => foldRunF_ok (m := fuelMsg) op rest acc (List.forall_mem_cons.mp ht).2
          unfold floatRun
          nomsg ht using ih

theorem floatHelperU_ok (why : String) : NoMsgBuilder fuelMsg (floatHelperU why) := by
  intro args h
  unfold floatHelperU
  split
  · exact GoodB.errArgCount
  · have hm := mapTypedArgs_good parseF h
    cases hc : mapTypedArgs parseF args with
    | error e => exact GoodB.error (hm.1 e hc)
    | ok o =>
      cases o with
      | none => exact GoodB.errNum
      | some typed =>
        apply GoodB.ok
        have ht := hm.2 typed hc
        unfold floatRunU unmodelledStage
        nomsg ht

theorem unaryF_ok (f : F64 → Bytes) : NoMsgBuilder fuelMsg (unaryF f) := by
  intro args h
  unfold unaryF; split
  · apply GoodB.ok; nomsg h
  · exact GoodB.errArgCount

theorem unaryU_ok (why : String) : NoMsgBuilder fuelMsg (unaryU why) := by
  intro args h
  unfold unaryU unmodelledStage; split
  · apply GoodB.ok; nomsg h
  · exact GoodB.errArgCount

theorem cmpHelper_ok (test : F64 → F64 → Bool) : NoMsgBuilder fuelMsg (cmpHelper test) := by
  intro args h
  unfold cmpHelper; split
  · rename_i a0 a1
    have h0 := evalTypedStage_good (h a0 (by simp)) parseF
    have h1 := evalTypedStage_good (h a1 (by simp)) parseF
    cases hc0 : evalTypedStage a0 parseF with
    | error e => exact GoodB.error (h0.1 e hc0)
    | ok o0 =>
      cases o0 with
      | none => exact GoodB.errNum
      | some l =>
        simp only []
        cases hc1 : evalTypedStage a1 parseF with
        | error e => exact GoodB.error (h1.1 e hc1)
        | ok o1 =>
          cases o1 with
          | none => exact GoodB.errNum
          | some r =>
            have hl := h0.2 l hc0
            have hr := h1.2 r hc1
            apply GoodB.ok; nomsg h
  · exact GoodB.errArgCount

theorem kfRound_ok : NoMsgBuilder fuelMsg kfRound := by
  intro args h
  unfold kfRound; split
  · exact GoodB.errArgCount
  · refine GoodB.intArg (fun e => evalArgInt_ne h 1 0) GoodB.errConst fun precision => ?_
    split
    · exact GoodB.errValue
    · split
      · apply GoodB.ok; nomsg h
      · exact GoodB.errArgCount

theorem unitHelperF_ok (u : Bool) (step : Int) (d : Bytes) (units : List String) :
    NoMsgBuilder fuelMsg (Funcs.Float.unitHelper u step d units) := by
  intro args h
  unfold Funcs.Float.unitHelper; split
  · exact GoodB.errArgCount
  · refine GoodB.intArg (fun e => evalArgInt_ne h 1 0) GoodB.errNum fun precision => ?_
    simp only []
    split
    · exact GoodB.errValue
    · split
      · apply GoodB.ok; nomsg h
      · exact GoodB.errArgCount

theorem kfIsNum_ok : NoMsgBuilder fuelMsg kfIsNum := by
  intro args h
  unfold kfIsNum; split
  · apply GoodB.ok; nomsg h
  · exact GoodB.errArgCount

theorem typed_ne {m : String} {args : List Stage} (h : AllNoMsg m args) {st : Stage} {α : Type}
    {p : Bytes → Option α} {e : String} (he : evalTypedStage st p = .error e) (hs : st ∈ args) : e ≠ m :=
  (evalTypedStage_good (h st hs) p).1 _ he

theorem typed_ok {m : String} {args : List Stage} (h : AllNoMsg m args) {st : Stage} {α : Type}
    {p : Bytes → Option α} {t : Comp (Option α)} (he : evalTypedStage st p = .ok (some t)) (hs : st ∈ args) :
    NoMsg m t :=
  (evalTypedStage_good (h st hs) p).2 _ he

theorem kfPercent_ok : NoMsgBuilder fuelMsg kfPercent := by
  intro args h
  unfold kfPercent
  split
  · exact GoodB.errArgCount
  · refine GoodB.intArg (fun e => evalArgInt_ne h 1 1) GoodB.errConst fun decimals => ?_
    simp only []
    split
    · exact GoodB.errValue
    · split
      · rename_i m hm
        apply GoodB.error
        split at hm
        · split at hm
          · rename_i ht
            simp only [Except.error.injEq] at hm; subst hm
            exact typed_ne h ht (by simp)
          · cases hm
        · split at hm
          · rename_i ht
            simp only [Except.error.injEq] at hm; subst hm
            exact typed_ne h ht (by simp)
          · split at hm
            · rename_i ht
              simp only [Except.error.injEq] at hm; subst hm
              exact typed_ne h ht (by simp)
            · cases hm
        · cases hm
      · rename_i hm
        split at hm
        · rename_i hl
          simp only [List.cons.injEq] at hl
          obtain ⟨rfl, rfl⟩ := hl
          split at hm
          · cases hm
          · rename_i ht
            simp only [Except.ok.injEq, Prod.mk.injEq, Option.some.injEq] at hm
            obtain ⟨h1, h2⟩ := hm
            subst h1; subst h2
            have := typed_ok h ht (by simp)
            apply GoodB.ok; nomsg h
        · rename_i hl
          simp only [List.cons.injEq] at hl
          obtain ⟨rfl, rfl⟩ := hl
          split at hm
          · cases hm
          · rename_i ht1
            split at hm
            · cases hm
            · rename_i ht2
              simp only [Except.ok.injEq, Prod.mk.injEq] at hm
              obtain ⟨h1, h2⟩ := hm
              subst h1; subst h2
              have h1 := typed_ok h ht1 (by simp)
              have h2 := typed_ok h ht2 (by simp)
              apply GoodB.ok; nomsg h
        · simp only [Except.ok.injEq, Prod.mk.injEq, Option.some.injEq] at hm
          obtain ⟨h1, h2⟩ := hm
          subst h1; subst h2
          apply GoodB.ok; nomsg h
      · exact GoodB.errNum

theorem floatTable_ok : ∀ p ∈ Funcs.Float.table, NoMsgBuilder fuelMsg p.2 := by
  intro p hp
  simp only [Funcs.Float.table, List.mem_cons, List.not_mem_nil, or_false] at hp
  rcases hp with e | e | e | e | e | e | e | e | e | e | e | e | e | e | e | e | e | e | e | e | e | e <;> subst e
  · exact kfIsNum_ok
  iterate 4 exact cmpHelper_ok _
  iterate 4 exact floatHelper_ok _
  · exact floatHelperU_ok _
  iterate 2 exact unaryF_ok _
  iterate 3 exact unaryU_ok _
  · exact unaryF_ok _
  · exact kfRound_ok
  · exact unaryF_ok _
  · exact kfPercent_ok
  iterate 3 exact unitHelperF_ok _ _ _ _

theorem table_ok : ∀ p ∈ Funcs.Arith.table, NoMsgBuilder fuelMsg p.2 := by
  intro p hp
  rcases List.mem_append.mp hp with h | h
  · exact intTable_ok p h
  · exact floatTable_ok p h

end A

/-! ### Strings -/
namespace S
open Funcs.Strings

theorem joinRun_ok {m : String} (delim : Bytes) : ∀ l : List Stage, AllNoMsg m l → NoMsg m (joinRun delim l)
  | [], _ => .ret _
  | a :: rest, h => by
    have ih := joinRun_ok delim rest (List.forall_mem_cons.mp h).2
    unfold joinRun
    nomsg h using ih

theorem csvRun_ok {m : String} : ∀ (l : List Stage) (acc : List Bytes), AllNoMsg m l → NoMsg m (csvRun l acc)
  | [], _, _ => .ret _
  | a :: rest, acc, h => by
    have ih := fun acc => csvRun_ok rest acc (List.forall_mem_cons.mp h).2
    unfold csvRun
    nomsg h using ih

theorem liftExcept_ok (r : Except String Bytes) (h : r ≠ .error fuelMsg) : NoMsg fuelMsg (liftExcept r) := by
  cases r with
  | ok v => exact .ret _
  | error e => exact .panic _ (by simpa using h)

theorem substrVal_ne (s : Bytes) (l n : Int) : substrVal s l n ≠ .error fuelMsg := by
  unfold substrVal goSlice
  simp only []
  split
  · simp
  · simp [fuelMsg]

theorem kfSubstr_ok : NoMsgBuilder fuelMsg kfSubstr := by
  intro args h
  unfold kfSubstr; split
  · apply GoodB.ok
    have := fun s l n => liftExcept_ok _ (substrVal_ne s l n)
    nomsg h using this
  · exact GoodB.errArgCount

theorem kfJoin_ok (d : Bytes) : NoMsgBuilder fuelMsg (kfJoin d) := by
  intro args h
  unfold kfJoin; split
  · exact GoodB.ok (.ret _)
  · exact GoodB.ok (h _ (by simp))
  · rename_i a rest _
    have ih := joinRun_ok d rest (List.forall_mem_cons.mp h).2
    apply GoodB.ok; nomsg h using ih

theorem unitHelperS_ok (u : Bool) (step : Int) (d : Bytes) (units : List String) :
    NoMsgBuilder fuelMsg (Funcs.Strings.unitHelper u step d units) := by
  intro args h
  unfold Funcs.Strings.unitHelper; split
  · exact GoodB.errArgCount
  · refine GoodB.intArg (fun e => evalArgInt_ne h 1 0) GoodB.errNum fun precision => ?_
    simp only []
    split
    · exact GoodB.errValue
    · split
      · apply GoodB.ok; nomsg h
      · exact GoodB.errArgCount

theorem table_ok : ∀ p ∈ table, NoMsgBuilder fuelMsg p.2 := by
  intro p hp
  simp only [table, List.mem_cons, List.not_mem_nil, or_false] at hp
  rcases hp with e | e | e | e | e | e | e | e | e | e | e | e | e | e | e | e <;> subst e
  · intro args h
    show GoodB _ (kfLen args)
    unfold kfLen; split
    · apply GoodB.ok; nomsg h
    · exact GoodB.errArgCount
  iterate 3
    · intro args h
      show GoodB _ (testHelper _ args)
      unfold testHelper; split
      · apply GoodB.ok; nomsg h
      · exact GoodB.errArgCount
  iterate 2
    · intro args h
      show GoodB _ (caseHelper _ args)
      unfold caseHelper; split
      · apply GoodB.ok; nomsg h
      · exact GoodB.errArgCount
  · exact kfSubstr_ok
  · intro args h
    show GoodB _ (kfSelect args)
    unfold kfSelect; split
    · apply GoodB.ok; nomsg h
    · exact GoodB.errArgCount
  iterate 3 exact kfJoin_ok _
  · intro args h
    show GoodB _ (kfCsv args)
    unfold kfCsv; split
    · exact GoodB.ok (.ret _)
    · exact GoodB.ok (csvRun_ok _ _ h)
  · intro args h
    show GoodB _ (kfHumanizeInt args)
    unfold kfHumanizeInt; split
    · apply GoodB.ok; nomsg h
    · exact GoodB.errArgCount
  iterate 3 exact unitHelperS_ok _ _ _ _

end S

/-! ### Misc -/
namespace M
open Funcs.Misc

theorem lookupBuilder_ok (render : Option Bytes → Bytes) : NoMsgBuilder fuelMsg (lookupBuilder render) := by
  intro args h
  unfold lookupBuilder; split
  · exact GoodB.errArgCount
  · split
    · rename_i a0 a1 rest hlen
      cases hp : a1.probe with
      | error e => exact GoodB.error (probe_ne (h a1 (by simp)) hp)
      | ok pr =>
        obtain ⟨v, b⟩ := pr
        cases b with
        | false => exact GoodB.errConst
        | true =>
          simp only []
          cases hc : evalStageIndexOrDefault (a0 :: a1 :: rest) 2 [] with
          | error e => exact GoodB.error (evalStageIndexOrDefault_ne h 2 [] hc)
          | ok cp => apply GoodB.ok; nomsg h
    · exact GoodB.errArgCount

theorem kfRepeat_ok : NoMsgBuilder fuelMsg kfRepeat := by
  intro args h
  unfold kfRepeat; split
  · rename_i a0 a1
    cases hp : a0.probe with
    | error e => exact GoodB.error (probe_ne (h a0 (by simp)) hp)
    | ok pr =>
      obtain ⟨v, b⟩ := pr
      cases b with
      | false => exact GoodB.errConst
      | true => apply GoodB.ok; nomsg h
  · exact GoodB.errArgCount

theorem table_ok : ∀ p ∈ table, NoMsgBuilder fuelMsg p.2 := by
  intro p hp
  simp only [table, List.mem_cons, List.not_mem_nil, or_false] at hp
  rcases hp with e | e | e | e | e | e <;> subst e
  · exact lookupBuilder_ok (fun r => r.getD [])
  · exact lookupBuilder_ok (fun r => truthyStr r.isSome)
  · exact kfRepeat_ok
  iterate 3
    · intro args h
      show GoodB _ (pathHelper _ args)
      unfold pathHelper; split
      · apply GoodB.ok; nomsg h
      · exact GoodB.errArgCount

end M

/-! ### Range -/
namespace R
open Funcs.Range

theorem splitLoop_ok {σ : Type} : ∀ (fuel : Nat) (sp : Splitter) (st : σ) (guard : σ → Bool)
    (body : σ → Bytes → Comp σ), (∀ s x, NoMsg fuelMsg (body s x)) → NoMsg fuelMsg (splitLoop fuel sp st guard body)
  | 0, _, _, _, _, _ => .panic _ (by decide)
  | fuel + 1, sp, st, guard, body, h => by
    unfold splitLoop
    split
    · exact NoMsg.bind (h _ _) fun st' => splitLoop_ok fuel _ st' guard body h
    · exact .ret _

theorem arrayOperator_ok (arr delim joiner : Bytes) (mapper : Bytes → Stage) (h : ∀ x, NoMsg fuelMsg (mapper x)) :
    NoMsg fuelMsg (arrayOperator arr delim joiner mapper) := by
  unfold arrayOperator
  split
  · exact h _
  · refine NoMsg.bind (h _) fun mm => NoMsg.bind (splitLoop_ok _ _ _ _ _ fun s x => ?_) fun r => .ret _
    exact NoMsg.bind (h _) fun m' => .ret _

theorem joinArgsLoop_ok (d : UInt8) : ∀ (l : List Stage) (sb : Sb), AllNoMsg fuelMsg l → NoMsg fuelMsg (joinArgsLoop d l sb)
  | [], _, _ => .ret _
  | a :: rest, sb, h => by
    unfold joinArgsLoop
    exact NoMsg.bind (h a (by simp)) fun v => joinArgsLoop_ok d rest _ (List.forall_mem_cons.mp h).2

theorem rangeLoop_ne : ∀ (fuel : Nat) (i stop incr : Int) (count : Nat) (sb : Sb),
    rangeLoop fuel i stop incr count sb ≠ .error fuelMsg
  | 0, _, _, _, _, _ => by simp [rangeLoop, fuelMsg]
  | fuel + 1, i, stop, incr, count, sb => by
    unfold rangeLoop
    split
    · simp only []
      split
      · simp
      · split
        · simp
        · exact rangeLoop_ne fuel _ _ _ _ _
    · simp

theorem rangeBody_ok (a b c : Int) : NoMsg fuelMsg (rangeBody a b c) := by
  unfold rangeBody
  split
  · exact .ret _
  · split
    · exact .ret _
    · split
      · exact .ret _
      · have := rangeLoop_ne (Gen.maxIterations + 2) a b c 0 {}
        split
        · exact .ret _
        · exact .ret _
        · rename_i m hm
          exact .panic _ (fun e => this (by rw [hm, e]))

theorem rangeStage_ok (s1 s2 s3 : Stage) (h1 : NoMsg fuelMsg s1) (h2 : NoMsg fuelMsg s2) (h3 : NoMsg fuelMsg s3) :
    NoMsg fuelMsg (rangeStage s1 s2 s3) := by
  unfold rangeStage
  have := rangeBody_ok
  nomsg h1 using this

theorem forLoop_ok (cond incr : Stage) (hc : NoMsg fuelMsg cond) (hi : NoMsg fuelMsg incr) :
    ∀ (fuel : Nat) (val : Bytes) (idx : Nat) (sb : Sb), NoMsg fuelMsg (forLoop cond incr fuel val idx sb)
  | 0, _, _, _ => .panic _ (by decide)
  | fuel + 1, val, idx, sb => by
    unfold forLoop
    refine NoMsg.bind (hc.withSub _ _) fun c => ?_
    split
    · exact .ret _
    · refine NoMsg.bind (hi.withSub _ _) fun v' => ?_
      simp only []
      split
      · exact .ret _
      · exact forLoop_ok cond incr hc hi fuel _ _ _

theorem table_ok : ∀ p ∈ table, NoMsgBuilder fuelMsg p.2 := by
  intro p hp
  simp only [table, List.mem_cons, List.not_mem_nil, or_false] at hp
  rcases hp with e | e | e | e | e | e | e | e | e | e | e | e | e <;> subst e
  iterate 2
    · intro args h
      show GoodB _ (joinArgs _ args)
      unfold joinArgs; split
      · exact GoodB.ok (.ret _)
      · exact GoodB.ok (h _ (by simp))
      · rename_i a0 rest _
        apply GoodB.ok
        unfold joinArgsStage
        exact NoMsg.bind (h _ (by simp)) fun v0 =>
          NoMsg.bind (joinArgsLoop_ok _ rest _ (List.forall_mem_cons.mp h).2) fun sb => .ret _
  · intro args h
    show GoodB _ (kfArrayLen args)
    unfold kfArrayLen; split
    · apply GoodB.ok; unfold lenStage; nomsg h
    · exact GoodB.errArgCount
  · intro args h
    show GoodB _ (kfArrayMap args)
    unfold kfArrayMap; split
    · rename_i a0 a1
      apply GoodB.ok; unfold mapStage
      exact NoMsg.bind (h _ (by simp)) fun arr => arrayOperator_ok _ _ _ _ fun s => (h _ (by simp)).withSub _ _
    · exact GoodB.errArgCount
  · intro args h
    show GoodB _ (kfArraySplit args)
    unfold kfArraySplit; split
    · exact GoodB.errArgCount
    · cases hc : evalStageIndexOrDefault args 1 (ascii " ") with
      | error e => exact GoodB.error (evalStageIndexOrDefault_ne h 1 _ hc)
      | ok byVal =>
        simp only []
        split
        · exact GoodB.errEmpty
        · split
          · apply GoodB.ok; unfold splitStage
            exact NoMsg.bind (h _ (by simp)) fun v => arrayOperator_ok _ _ _ _ fun s => .ret _
          · exact GoodB.errArgCount
  · intro args h
    show GoodB _ (kfArraySelect args)
    unfold kfArraySelect; split
    · rename_i a0 a1
      refine GoodB.intArg (fun e => evalStageInt_ne (h a1 (by simp))) GoodB.errNum fun index => ?_
      apply GoodB.ok; unfold selectStage
      exact NoMsg.bind (h _ (by simp)) fun s =>
        NoMsg.bind (splitLoop_ok _ _ _ _ _ fun st x => .ret _) fun st => .ret _
    · exact GoodB.errArgCount
  · intro args h
    show GoodB _ (kfArrayJoin args)
    unfold kfArrayJoin; split
    · exact GoodB.errArgCount
    · cases hc : evalStageIndexOrDefault args 1 (ascii " ") with
      | error e => exact GoodB.error (evalStageIndexOrDefault_ne h 1 _ hc)
      | ok delim =>
        simp only []
        split
        · apply GoodB.ok; unfold joinStage
          exact NoMsg.bind (h _ (by simp)) fun v => arrayOperator_ok _ _ _ _ fun s => .ret _
        · exact GoodB.errArgCount
  · intro args h
    show GoodB _ (kfArrayReduce args)
    unfold kfArrayReduce; split
    · exact GoodB.errArgCount
    · cases hc : evalStageIndexOrDefault args 2 [] with
      | error e => exact GoodB.error (evalStageIndexOrDefault_ne h 2 _ hc)
      | ok initial =>
        simp only []
        split
        · apply GoodB.ok; unfold reduceStage
          exact NoMsg.bind (h _ (by simp)) fun s => splitLoop_ok _ _ _ _ _ fun memo x => (h _ (by simp)).withSub _ _
        · exact GoodB.errArgCount
  · intro args h
    show GoodB _ (kfArrayFilter args)
    unfold kfArrayFilter; split
    · rename_i a0 a1
      apply GoodB.ok; unfold filterStage
      refine NoMsg.bind (h _ (by simp)) fun s => NoMsg.bind (splitLoop_ok _ _ _ _ _ fun st item => ?_) fun st => .ret _
      refine NoMsg.bind ((h _ (by simp)).withSub _ _) fun c => ?_
      split <;> exact .ret _
    · exact GoodB.errArgCount
  · intro args h
    show GoodB _ (kfArraySlice args)
    unfold kfArraySlice; split
    · exact GoodB.errArgCount
    · split
      · rename_i a0 a1 rest _
        refine GoodB.intArg (fun e => evalStageInt_ne (h a1 (by simp))) GoodB.errConst fun start => ?_
        refine GoodB.intArg (fun e => evalArgInt_ne h 2 _) GoodB.errConst fun len => ?_
        apply GoodB.ok; unfold sliceStage
        exact NoMsg.bind (h _ (by simp)) fun s =>
          NoMsg.bind (splitLoop_ok _ _ _ _ _ fun st x => .ret _) fun st => .ret _
      · exact GoodB.errArgCount
  · intro args h
    show GoodB _ (kfArrayIn args)
    unfold kfArrayIn; split
    · rename_i a0 a1
      cases hp : a1.probe with
      | error e => exact GoodB.error (probe_ne (h _ (by simp)) hp)
      | ok pr =>
        obtain ⟨v, b⟩ := pr
        cases b with
        | false => exact GoodB.errConst
        | true => apply GoodB.ok; unfold inStage; nomsg h
    · exact GoodB.errArgCount
  · intro args h
    show GoodB _ (kfArrayRange args)
    unfold kfArrayRange; split
    · exact GoodB.ok (rangeStage_ok _ _ _ (.ret _) (h _ (by simp)) (.ret _))
    · exact GoodB.ok (rangeStage_ok _ _ _ (h _ (by simp)) (h _ (by simp)) (.ret _))
    · exact GoodB.ok (rangeStage_ok _ _ _ (h _ (by simp)) (h _ (by simp)) (h _ (by simp)))
    · exact GoodB.errArgCount
  · intro args h
    show GoodB _ (kfArrayFor args)
    unfold kfArrayFor; split
    · rename_i a0 a1 a2
      apply GoodB.ok; unfold forStage
      exact NoMsg.bind (h _ (by simp)) fun val => forLoop_ok a1 a2 (h _ (by simp)) (h _ (by simp)) _ _ _ _
    · exact GoodB.errArgCount

end R

/-! ### Math (`{! formula}`) -/
namespace Mth
open Funcs.Math

theorem collapse_ne : ∀ (l : List Stage) (acc : Bytes), AllNoMsg fuelMsg l → collapse l acc ≠ .error fuelMsg
  | [], _, _ => by simp [collapse]
  | a :: rest, acc, h => by
    unfold collapse
    cases hp : a.probe with
    | error e => simpa using probe_ne (h a (by simp)) hp
    | ok pr =>
      obtain ⟨v, b⟩ := pr
      cases b with
      | true => exact collapse_ne rest _ (List.forall_mem_cons.mp h).2
      | false => simp

theorem evalC_ok {V : Type} (I : MathInst V) : ∀ e : C19.Expr V, NoMsg fuelMsg (evalC I e)
  | .val v => .ret _
  | .named n => by unfold evalC; exact NoMsg.bind' (NoMsg.key _) fun s => NoMsg.pure _
  | .idx i => by unfold evalC; exact NoMsg.bind' (NoMsg.match_ _) fun s => NoMsg.pure _
  | .un mm e => by
    unfold evalC
    exact NoMsg.bind' (evalC_ok I e) fun p => NoMsg.pure _
  | .bin op l r => by
    unfold evalC
    exact NoMsg.bind' (evalC_ok I l) fun p => NoMsg.bind' (evalC_ok I r) fun q => NoMsg.pure _

theorem kfMath_ok : NoMsgBuilder fuelMsg kfMath := by
  intro args h
  unfold kfMath kfMathWith
  have hcol := collapse_ne args [] h
  cases hc : collapse args [] with
  | error e => rw [hc] at hcol; exact GoodB.error (by simpa using hcol)
  | ok o =>
    cases o with
    | none => exact GoodB.errConst
    | some src =>
      simp only []
      cases hcomp : C19.compile floatInst.arith src with
      | error err =>
        have hnp := Rare.C19.compileF_noPanic floatInst.arith _ src err hcomp
        cases err with
        | panic mm => exact absurd rfl (hnp mm)
        | fuel => exact GoodB.error (by decide)
        | unmodelled w => exact GoodB.built (.panic _ (unmodelled_ne' _ _ (by decide)))
        | _ => exact GoodB.errParsing
      | ok pe =>
        obtain ⟨t, e⟩ := pe
        apply GoodB.ok
        refine NoMsg.bind' (evalC_ok floatInst e) fun p => ?_
        obtain ⟨v, errs⟩ := p
        simp only []
        split
        · exact NoMsg.pure _
        · show NoMsg fuelMsg (floatInst.render v)
          simp only [floatInst]
          split
          · exact .panic _ (by decide)
          · exact NoMsg.pure _

end Mth

/-! ### the standard registry -/

theorem stdTable_ok : ∀ p ∈ stdTable, NoMsgBuilder fuelMsg p.2 := by
  intro p hp
  simp only [stdTable, List.mem_append] at hp
  rcases hp with (((((hp | hp) | hp) | hp) | hp) | hp) | hp
  · exact L.table_ok p hp
  · exact A.table_ok p hp
  · exact S.table_ok p hp
  · exact R.table_ok p hp
  · simp only [Funcs.Math.table, List.mem_cons, List.not_mem_nil, or_false] at hp
    subst hp; exact Mth.kfMath_ok
  · simp [Funcs.Time.table] at hp
  · exact M.table_ok p hp

theorem lookupTable_mem (t : Table) (n : String) (b : Builder) (h : lookupTable t n = some b) :
    ∃ p ∈ t, p.2 = b := by
  unfold lookupTable at h
  cases hf : t.find? (·.1 == n) with
  | none => rw [hf] at h; cases h
  | some p =>
    rw [hf] at h
    simp only [Option.map_some, Option.some.injEq] at h
    exact ⟨p, List.mem_of_find?_eq_some hf, h⟩

/-- **The standard registry satisfies the hypothesis of `compile_never_out_of_fuel`**, whatever names the
    Go side knows beyond the model (`known`: they get `unmodelledBuilder`). -/
theorem std_noMsgReg (known : List String) : NoMsgReg fuelMsg (mkRegistry stdTable known) := by
  intro name f args hreg hargs
  unfold mkRegistry at hreg
  simp only [] at hreg
  cases hl : lookupTable stdTable (String.ofList name) with
  | some b =>
    rw [hl] at hreg
    simp only [Option.some.injEq] at hreg; subst hreg
    obtain ⟨p, hp, rfl⟩ := lookupTable_mem _ _ _ hl
    exact stdTable_ok p hp args hargs
  | none =>
    rw [hl] at hreg
    simp only [] at hreg
    split at hreg
    · simp only [Option.some.injEq] at hreg; subst hreg
      exact unmodelledBuilder_ok _ args hargs
    · cases hreg

end Rare.C09

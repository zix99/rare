import Rare.Proofs.C09Utf8
import Rare.Proofs.C09Loop
/-! C09: UTF-8 glue at the `Char` level – the model's rune lists against Go's strings. -/
namespace Rare.C09
open Rare Rare.Expr
open Rare.C20 (decode1 encodeRune validScalar)

theorem char_validScalar (c : Char) : validScalar c.toNat := by
  have := c.valid
  unfold validScalar
  simp only [Char.toNat, UInt32.isValidChar, Nat.isValidChar] at *
  omega

/-- Lean's `String.utf8EncodeChar` (used by the expression model to turn runes into bytes) is Go's
    `utf8.AppendRune` on scalar values. -/
theorem utf8EncodeChar_eq (c : Char) : String.utf8EncodeChar c = encodeRune c.toNat := by
  have hv := char_validScalar c
  unfold validScalar at hv
  have hc : c.toNat = c.val.toNat := rfl
  rw [hc] at hv ⊢
  unfold String.utf8EncodeChar
  simp only []
  generalize c.val.toNat = v at *
  by_cases h1 : v ≤ 0x7f
  · rw [if_pos h1, enc1 v (by omega)]
  by_cases h2 : v ≤ 0x7ff
  · rw [if_neg h1, if_pos h2, encodeRune_2 v (by omega) (by omega),
      show v / 64 % 0x20 + 0xc0 = 0xC0 + v / 64 by omega, Nat.add_comm (v % 64)]
  by_cases h3 : v ≤ 0xffff
  · rw [if_neg h1, if_neg h2, if_pos h3, encodeRune_3 v (by omega) (by omega) (by omega),
      show v / 4096 % 0x10 + 0xe0 = 0xE0 + v / 4096 by omega, Nat.add_comm (v / 64 % 64), Nat.add_comm (v % 64)]
  · rw [if_neg h1, if_neg h2, if_neg h3, encodeRune_4 v (by omega) (by omega),
      show v / 262144 % 0x08 + 0xf0 = 0xF0 + v / 262144 by omega, Nat.add_comm (v / 4096 % 64),
      Nat.add_comm (v / 64 % 64), Nat.add_comm (v % 64)]

theorem encodeRunes_eq (cs : List Char) : encodeRunes cs = encodeUtf8 (cs.map Char.toNat) := by
  induction cs with
  | nil => rfl
  | cons c cs ih =>
    have : encodeRunes (c :: cs) = String.utf8EncodeChar c ++ encodeRunes cs := by simp [encodeRunes]
    rw [this, ih, utf8EncodeChar_eq, List.map_cons, encodeUtf8_cons]

theorem utf8_eq_encodeRunes (cs : List Char) : utf8 cs = encodeRunes cs := rfl

theorem map_ofNat_toNat (cs : List Char) : (cs.map Char.toNat).map Char.ofNat = cs := by
  induction cs with
  | nil => rfl
  | cons c cs ih => simp [ih]

/-- `[]rune(string(rs)) = rs`: what `strings.Builder.WriteRune` wrote is read back rune for rune.  This
    is why the model may hand the *rune list* of an argument to the nested `Compile` although the Go code
    passes a string. -/
theorem decodeRunes_encodeRunes (cs : List Char) : decodeRunes (encodeRunes cs) = cs := by
  unfold decodeRunes
  rw [encodeRunes_eq]
  show (Rare.C20.decodeUtf8 (Rare.C20.encodeUtf8 (cs.map Char.toNat))).map Char.ofNat = cs
  rw [Rare.C20.decodeUtf8_encodeUtf8 _ (by
    intro r hr
    obtain ⟨c, _, rfl⟩ := List.mem_map.mp hr
    exact char_validScalar c)]
  exact map_ofNat_toNat cs

theorem toNat_ofNat_valid (r : Nat) (h : validScalar r) : (Char.ofNat r).toNat = r := by
  unfold validScalar at h
  have hv : r.isValidChar := by unfold Nat.isValidChar; omega
  simp [Char.ofNat, hv, Char.ofNatAux, Char.toNat]

theorem map_toNat_ofNat (rs : List Nat) (h : ∀ r ∈ rs, validScalar r) : (rs.map Char.ofNat).map Char.toNat = rs := by
  induction rs with
  | nil => rfl
  | cons r rs ih =>
    simp only [List.map_cons, List.cons.injEq]
    exact ⟨toNat_ofNat_valid r (h r (by simp)), ih fun x hx => h x (by simp [hx])⟩

/-- `string([]rune(s))`: the runes of the model re-encode to what Go's round trip gives – every invalid
    byte has become EF BF BD, everything else is unchanged. -/
theorem encodeRunes_decodeRunes (b : Bytes) : encodeRunes (decodeRunes b) = encodeUtf8 (decodeUtf8 b) := by
  unfold decodeRunes
  rw [encodeRunes_eq, map_toNat_ofNat _ (Rare.C20.decodeUtf8_valid b)]

/-- … and for well-formed input that is the input itself. -/
theorem encodeRunes_decodeRunes_wf (b : Bytes) (h : wellFormed b = true) : encodeRunes (decodeRunes b) = b := by
  rw [encodeRunes_decodeRunes]; exact (wellFormed_iff b).mp h

theorem wellFormed_encodeRunes (cs : List Char) : wellFormed (encodeRunes cs) = true := by
  rw [wellFormed_iff, encodeRunes_eq]
  show Rare.C20.encodeUtf8 (Rare.C20.decodeUtf8 (Rare.C20.encodeUtf8 (cs.map Char.toNat))) = _
  rw [Rare.C20.decodeUtf8_encodeUtf8 _ (by
    intro r hr
    obtain ⟨c, _, rfl⟩ := List.mem_map.mp hr
    exact char_validScalar c)]

/-! ### string literals as byte lists

The kernel evaluates `ascii "…"` through `String.toUTF8` and `ByteArray.toList`; on a literal it is the encoding
of its runes, which is far cheaper to evaluate (used for the test vectors in `Props/C09.lean`). -/

theorem byteArray_toList_loop (bs : ByteArray) : ∀ (n i : Nat) (r : List UInt8), bs.data.size - i = n →
    ByteArray.toList.loop bs i r = r.reverse ++ bs.data.toList.drop i := by
  intro n
  induction n with
  | zero =>
    intro i r h
    rw [ByteArray.toList.loop, if_neg (show ¬ i < bs.size by show ¬ i < bs.data.size; omega),
      List.drop_eq_nil_of_le (by rw [Array.length_toList]; omega), List.append_nil]
  | succ n ih =>
    intro i r h
    have hlt : i < bs.data.size := by omega
    have hl : i < bs.data.toList.length := by rw [Array.length_toList]; exact hlt
    rw [ByteArray.toList.loop, if_pos (show i < bs.size from hlt), ih (i + 1) _ (by omega),
      show List.drop i bs.data.toList = bs.data.toList[i] :: List.drop (i + 1) bs.data.toList from
        List.drop_eq_getElem_cons hl, List.reverse_cons, List.append_assoc]
    congr 1
    show bs.data[i]! :: _ = _
    rw [getElem!_pos bs.data i hlt, Array.getElem_toList]
    rfl
theorem toByteArray_toList (l : List UInt8) : l.toByteArray.toList = l := by
  rw [ByteArray.toList, byteArray_toList_loop _ _ 0 [] rfl]; simp

theorem ascii_ofList (l : List Char) : ascii (String.ofList l) = l.flatMap String.utf8EncodeChar := by
  simp [ascii, String.ofList, List.utf8Encode, toByteArray_toList]

end Rare.C09

import Rare.Proofs.C07Trim
import Rare.Proofs.C07MinMax
/-! Tables built from samples satisfy the hypotheses of the Trim theorems. -/
namespace Rare.C07

/-- The cells of a table built from samples. -/
theorem cell_of_inv (t : Table) (hp : List Parsed) (h : TableInv t hp) (c r : Bytes) :
    t.cell c r = if present (selCell c r) hp then some (total (selCell c r) hp) else none := by
  unfold Table.cell
  cases hr : aget t.rows r with
  | none =>
    have : present (selRow r) hp = false := by have := h.rowsPresent r; rw [hr] at this; simpa using this.symm
    cases hc : present (selCell c r) hp with
    | false => simp
    | true => rw [present_cell_row hp c r hc] at this; exact Bool.noConfusion this
  | some row => simpa using (h.rows r row hr).cells c

theorem wf_of_inv (t : Table) (hp : List Parsed) (h : TableInv t hp) : t.WF := by
  constructor
  · intro r row hr hnil
    have hpr : present (selRow r) hp = true := by have := h.rowsPresent r; rw [hr] at this; simpa using this.symm
    obtain ⟨c, hc⟩ := present_row_cell hp r hpr
    have := (h.rows r row hr).cells c
    rw [hc, hnil] at this; simp at this
  · intro c
    simp only [h.cols c, cell_of_inv t hp h, Option.isSome_ite]
    exact ⟨present_col_cell hp c, fun ⟨r, hr⟩ => present_cell_col hp c r hr⟩

/-- Any enumeration of the key sets (e.g. Go's map iteration in any order) covers the table. -/
theorem covers_of_perm (t : Table) (colOrder : List Bytes) (rowOrder : Bytes → List Bytes)
    (hc : colOrder.Perm (akeys t.cols)) (hr : ∀ c, (rowOrder c).Perm (akeys t.rows)) : Covers t colOrder rowOrder := by
  constructor
  · intro c h; exact hc.mem_iff.mpr ((mem_akeys_iff _ _).mpr h)
  · intro c r h; exact (hr c).mem_iff.mpr ((mem_akeys_iff _ _).mpr h)

theorem sumVals_eq_sumBy (m : List (Bytes × Int)) : sumVals m = sumBy (·.2) m := by
  induction m with
  | nil => rfl
  | cons e m ih => obtain ⟨k, v⟩ := e; rw [sumVals_cons, ih]; rfl

theorem sumsOK_of_inv (t : Table) (hp : List Parsed) (h : TableInv t hp) : SumsOK t := by
  intro r row hr
  have ok := h.rows r row hr
  exact ⟨ok.nodup, by rw [sumVals_eq_sumBy]; exact ok.cellsSum.symm⟩

/-- `Sample` keeps a table well-formed whatever its history (so samples and trims can be interleaved). -/
theorem sampleItem_cell (t : Table) (ck rk : Bytes) (inc : Int) (c r : Bytes) :
    (t.sampleItem ck rk inc).cell c r =
      if rk = r then (if ck = c then some (wrap64 ((t.cell c r).getD 0 + inc)) else t.cell c r) else t.cell c r := by
  unfold Table.cell Table.sampleItem
  simp only [aget_aset]
  by_cases hr : rk = r
  · subst hr
    simp only [if_true, Option.bind_some, aget_aset]
    by_cases hc : ck = c
    · subst hc
      cases aget t.rows rk <;> simp
    · cases aget t.rows rk <;> simp [hc]
  · simp [hr]

theorem sampleItem_wf (t : Table) (ck rk : Bytes) (inc : Int) (h : t.WF) : (t.sampleItem ck rk inc).WF := by
  constructor
  · intro r row hr
    simp only [Table.sampleItem, aget_aset] at hr
    by_cases e : rk = r
    · simp only [e, if_true, Option.some.injEq] at hr
      subst hr
      intro hnil
      have := (eq_nil_iff_aget _).mp hnil ck
      simp [aget_aset] at this
    · simp only [e, if_false] at hr
      exact h.rows_nonempty r row hr
  · intro c
    have hcols : (aget (t.sampleItem ck rk inc).cols c).isSome = (decide (ck = c) || (aget t.cols c).isSome) := by
      simp only [Table.sampleItem, aget_aset]
      by_cases e : ck = c <;> simp [e]
    rw [hcols]
    constructor
    · intro hs
      by_cases e : ck = c
      · refine ⟨rk, ?_⟩
        rw [sampleItem_cell]; simp [e]
      · simp only [e, decide_false, Bool.false_or] at hs
        obtain ⟨r, hr⟩ := (h.cols_iff c).mp hs
        refine ⟨r, ?_⟩
        rw [sampleItem_cell]
        by_cases e2 : rk = r <;> simp [e, e2, hr]
    · rintro ⟨r, hr⟩
      rw [sampleItem_cell] at hr
      by_cases e : ck = c
      · simp [e]
      · have : (t.cell c r).isSome := by
          by_cases e2 : rk = r <;> simpa [e, e2] using hr
        simp [(h.cols_iff c).mpr ⟨r, this⟩]

theorem sample_wf (t : Table) (e : Bytes) (h : t.WF) : (t.sample e).WF := by
  unfold Table.sample
  simp only
  split
  · split
    · exact ⟨h.rows_nonempty, h.cols_iff⟩
    · exact sampleItem_wf _ _ _ _ h
  · split <;> exact sampleItem_wf _ _ _ _ h

/-- Tables reachable from `NewTable(d)` by any interleaving of `Sample` and `Trim`
(each `Trim` ranging over its maps in some covering order). -/
inductive Reach (d : Bytes) : Table → Prop
  | init : Reach d { delim := d }
  | sample (t : Table) (e : Bytes) : Reach d t → Reach d (t.sample e)
  | trim (t : Table) (p : Pred) (colOrder : List Bytes) (rowOrder : Bytes → List Bytes) :
      Reach d t → Covers t colOrder rowOrder → Reach d (t.trim p colOrder rowOrder).1

theorem wf_init (d : Bytes) : ({ delim := d } : Table).WF := by
  constructor
  · intro r row h; simp at h
  · intro c; simp [Table.cell]

theorem reach_wf {d : Bytes} {t : Table} (h : Reach d t) : t.WF := by
  induction h with
  | init => exact wf_init d
  | sample t e _ ih => exact sample_wf t e ih
  | trim t p co ro _ hcov ih => exact trim_wf t p co ro ih hcov

end Rare.C07

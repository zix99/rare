import Rare.Proofs.C11
import Rare.Proofs.F64Arith
import Rare.Proofs.F64Parse
import Rare.Proofs.F64Fmt
/-!
Helper lemmas for the float-valued C11 theorems: the run-time equations of the float builders of
`Funcs/Float.lean`, and folds of exact integer arithmetic in binary64.
-/
namespace Rare.C11
open Rare Rare.Expr Rare.Expr.Funcs

theorem foldRunF_run (c : Ctx) (op : F64 → F64 → F64) (typed : List (Comp (Option F64))) (xs : List F64)
    (h : All2 (fun t x => t.run c = .ok (some x)) typed xs) : ∀ acc : F64,
    (Float.foldRunF op acc typed).run c = .ok (Float.fmtF (xs.foldl op acc)) := by
  induction h with
  | nil => intro acc; rfl
  | @cons t x ts xs' h1 _ ih =>
    intro acc
    simp only [Float.foldRunF, Comp.bind_eq, Comp.run_bind, h1, List.foldl_cons]
    exact ih _

/-- With two arguments or more, `arithmaticHelperf` answers `<BAD-TYPE>` for a constant that does not parse, and
    otherwise runs the fold over faithful typed stages. -/
theorem floatHelper_call (op : F64 → F64 → F64) (c : Ctx) (as : List Arg) (hlen : 2 ≤ as.length) :
    (callHelper (Float.floatHelper op) as c = .ok ErrorNum ∧ ∃ a ∈ as, Float.parseF (a.val c) = none) ∨
    ∃ typed, callHelper (Float.floatHelper op) as c = (Float.floatRun op typed).run c ∧
      TypedOk Float.parseF c typed as := by
  have hnot : ¬ ((as.map Arg.stage).length < 2) := by simp; omega
  unfold callHelper Float.floatHelper
  simp only [hnot, if_false]
  rcases mapTyped_args Float.parseF c as with ⟨h, hbad⟩ | ⟨typed, h, ht⟩
  · left; rw [h]; exact ⟨rfl, hbad⟩
  · right; rw [h]; exact ⟨typed, rfl, ht⟩

theorem foldRunF_marker (c : Ctx) (op : F64 → F64 → F64) (typed : List (Comp (Option F64))) (as : List Arg)
    (h : TypedOk Float.parseF c typed as) : ∀ acc : F64, (∃ a ∈ as, Float.parseF (a.val c) = none) →
    (Float.foldRunF op acc typed).run c = .ok ErrorNum := by
  induction h with
  | nil => intro acc ⟨a, ha, _⟩; simp at ha
  | @cons t a ts as' h1 _ ih =>
    intro acc hbad
    simp only [Float.foldRunF, Comp.bind_eq, Comp.run_bind, h1]
    cases hp : Float.parseF (a.val c) with
    | none => rfl
    | some x => exact ih _ (bad_arg_tail hbad hp)

/-- An argument that is not a float never reaches the arithmetic: the result is `<BAD-TYPE>`. -/
theorem floatHelper_marker (op : F64 → F64 → F64) (c : Ctx) (as : List Arg) (hlen : 2 ≤ as.length)
    (hbad : ∃ a ∈ as, Float.parseF (a.val c) = none) :
    callHelper (Float.floatHelper op) as c = .ok ErrorNum := by
  rcases floatHelper_call op c as hlen with ⟨h, _⟩ | ⟨typed, h, ht⟩
  · exact h
  · rw [h]
    cases ht with
    | nil => simp at hlen
    | @cons t a ts as' h1 h2 =>
      simp only [Float.floatRun, Comp.bind_eq, Comp.run_bind, h1]
      cases hp : Float.parseF (a.val c) with
      | none => rfl
      | some x => exact foldRunF_marker c op ts as' h2 x (bad_arg_tail hbad hp)

theorem unaryF_call (f : F64 → Bytes) (c : Ctx) (a : Arg) :
    callHelper (Float.unaryF f) [a] c = .ok (match Float.parseF (a.val c) with
      | none => ErrorNum
      | some x => f x) := by
  unfold callHelper Float.unaryF
  simp only [List.map_cons, List.map_nil, ok, Comp.bind_eq, Comp.run_bind, Arg.run_stage]
  cases Float.parseF (a.val c) <;> rfl

theorem isnum_call (c : Ctx) (a : Arg) :
    callHelper Float.kfIsNum [a] c = .ok (if (Float.parseF (a.val c)).isSome then TruthyVal else FalsyVal) := by
  unfold callHelper Float.kfIsNum
  simp only [List.map_cons, List.map_nil, ok, Comp.bind_eq, Comp.run_bind, Arg.run_stage]
  rfl

/-- `{round a p}` with a constant precision `p ≤ 1024`. -/
theorem round_call (c : Ctx) (a : Arg) (pb : Bytes) (p : Int) (hp : atoi pb = some p) (hmax : p ≤ 1024) :
    callHelper Float.kfRound [a, .const pb] c = .ok (match Float.parseF (a.val c) with
      | none => ErrorNum
      | some x => F64.format x p) := by
  unfold callHelper Float.kfRound
  have : ¬ (p > Float.maxPrecision) := by unfold Float.maxPrecision; omega
  simp only [List.map_cons, List.map_nil, List.length_cons, List.length_nil, evalArgInt]
  simp [evalStageInt_const, hp, this, ok, Comp.bind_eq, Comp.run_bind, Arg.run_stage]
  cases Float.parseF (a.val c) <;> rfl

/-- `{round a}`: precision 0. -/
theorem round_call0 (c : Ctx) (a : Arg) :
    callHelper Float.kfRound [a] c = .ok (match Float.parseF (a.val c) with
      | none => ErrorNum
      | some x => F64.format x 0) := by
  unfold callHelper Float.kfRound
  simp only [List.map_cons, List.map_nil, List.length_cons, List.length_nil, evalArgInt]
  simp [Float.maxPrecision, ok, Comp.bind_eq, Comp.run_bind, Arg.run_stage]
  cases Float.parseF (a.val c) <;> rfl

theorem cmp_call (test : F64 → F64 → Bool) (c : Ctx) (a b : Arg) :
    callHelper (Float.cmpHelper test) [a, b] c = .ok (match Float.parseF (a.val c), Float.parseF (b.val c) with
      | some x, some y => truthyStr (test x y)
      | _, _ => ErrorNum) := by
  unfold callHelper Float.cmpHelper
  simp only [List.map_cons, List.map_nil]
  rcases evalTyped_arg_run Float.parseF c a with ⟨e, hn⟩ | ⟨t, e, ht⟩
  · rw [e, hn]; rfl
  · rw [e]
    rcases evalTyped_arg_run Float.parseF c b with ⟨e2, hn2⟩ | ⟨t2, e2, ht2⟩
    · rw [e2, hn2]
      cases Float.parseF (a.val c) <;> rfl
    · rw [e2]
      simp only [ok, Comp.bind_eq, Comp.run_bind, ht]
      cases Float.parseF (a.val c) with
      | none => rfl
      | some x =>
        simp only [Comp.run_bind, ht2]
        cases Float.parseF (b.val c) <;> rfl

/-- Partial sums `n₀, n₀+n₁, …` all have magnitude at most `2^53`. -/
def PartialSumsSmall : Int → List Int → Prop
  | _, [] => True
  | acc, n :: r => (acc + n).natAbs ≤ 9007199254740992 ∧ PartialSumsSmall (acc + n) r

/-- Summing integer-valued floats whose partial sums stay within `±2^53` is exact. -/
theorem foldl_add_exact : ∀ (xs : List F64) (ns : List Int) (acc : F64) (a : Int),
    acc.toRat? = some (a : Rat) →
    All2 (fun x n => x.toRat? = some ((n : Int) : Rat)) xs ns →
    PartialSumsSmall a ns →
    (xs.foldl F64.add acc).toRat? = some ((ns.foldl (· + ·) a : Int) : Rat)
  | [], [], acc, a, h, _, _ => h
  | x :: xs, n :: ns, acc, a, h, hall, hs => by
    cases hall with
    | cons h1 h2 =>
      simp only [List.foldl_cons]
      exact foldl_add_exact xs ns _ _ (F64.add_exact_int h h1 hs.1) h2 hs.2
  | [], _ :: _, _, _, _, hall, _ => by cases hall
  | _ :: _, [], _, _, _, hall, _ => by cases hall

/-- A finite float of value zero prints as `0` or `-0`. -/
theorem fmtF_zero {y : F64} (h0 : y.toRat = 0) :
    Float.fmtF y = ascii "0" ∨ Float.fmtF y = ascii "-0" := by
  have hm := (F64.toRat_eq_zero_iff y).mp h0
  have hy := F64.ofSM_sign_mag y
  rw [hm] at hy
  rw [← hy]
  cases y.sign
  · left; decide +kernel
  · right; decide +kernel

/-- Arguments that are integer spellings (`strconv.Atoi` accepts them) with `|nᵢ| ≤ 2^53` parse as
    floats with exactly those values. -/
theorem ints_parse_as_floats (c : Ctx) : ∀ (as : List Arg) (ns : List Int),
    as.map (fun a => atoi (a.val c)) = ns.map some → (∀ m ∈ ns, m.natAbs ≤ 9007199254740992) →
    ∃ xs : List F64, as.map (fun a => Float.parseF (a.val c)) = xs.map some ∧
      All2 (fun x n => x.toRat? = some ((n : Int) : Rat)) xs ns
  | [], [], _, _ => ⟨[], rfl, All2.nil⟩
  | [], _ :: _, h, _ => by simp at h
  | _ :: _, [], h, _ => by simp at h
  | a :: as, n :: ns, h, hs => by
    simp only [List.map_cons, List.cons.injEq] at h
    obtain ⟨y, hy, hv⟩ := F64.parseFloat_of_atoi_small h.1 (hs n (by simp))
    obtain ⟨xs, hx, hall⟩ := ints_parse_as_floats c as ns h.2 (fun m hm => hs m (by simp [hm]))
    exact ⟨y :: xs, by simp only [List.map_cons, Float.parseF, hy]; rw [← hx]; rfl, All2.cons hv hall⟩

/-- The scaling loop of `unitize` never runs past the last unit: `units[rank]` is in range. -/
theorem unitLoop_rank_le (sf : F64) (maxRank : Nat) : ∀ (fuel : Nat) (nf : F64) (rank : Nat),
    rank ≤ maxRank → (Float.unitLoop sf maxRank fuel nf rank).2 ≤ maxRank
  | 0, _, _, h => h
  | fuel + 1, nf, rank, h => by
    unfold Float.unitLoop
    split
    · rename_i hc
      simp only [Bool.and_eq_true, decide_eq_true_eq] at hc
      exact unitLoop_rank_le sf maxRank fuel _ _ (by omega)
    · exact h

end Rare.C11

import Rare.Proofs.Pipeline
/-!
C01: arrival order with ONE worker.  `order0 s` lists everything that is or will be on its way to the consumer in
pipeline order; with a single worker a step changes it only by dropping a line that is not matched, or by moving a
batch of one source in front of the unread lines of other sources – so its projection on the matched lines of any
ONE source never changes.
-/
namespace Rare.Pipeline
variable {α : Type}

/-- everything that is (or will be) on its way to the consumer, in pipeline order: what the consumer has, the match
    channel, the worker's match batch, the rest of the worker's input batch, the batch channel, the unread lines -/
def order0 (s : St α) : List α :=
  s.consumed ++ (s.rc.flatten ++ (wAcc s ++ (wTodo s ++ (s.c.flatten ++ srcLines s))))

/-- no line satisfying `p` is waiting in a source other than `i0` -/
def OthersClean (p : α → Bool) (i0 : Nat) (s : St α) : Prop :=
  ∀ j st, j ≠ i0 → s.srcs[j]? = some st → ∀ x ∈ st.lines, p x = false

theorem flatMap_eq_nil_of {γ β : Type} (g : γ → List β) : ∀ (l : List γ), (∀ (j : Nat) a, l[j]? = some a → g a = []) → l.flatMap g = []
  | [], _ => rfl
  | a :: l, h => by
    rw [List.flatMap_cons, h 0 a rfl, flatMap_eq_nil_of g l (fun j b hb => h (j + 1) b (by simpa using hb))]
    rfl

theorem flatMap_single {γ β : Type} (g : γ → List β) : ∀ (l : List γ) (i0 : Nat),
    (∀ (j : Nat) a, j ≠ i0 → l[j]? = some a → g a = []) → l.flatMap g = ((l[i0]?).map g).getD []
  | [], _, _ => by simp
  | a :: l, 0, h => by
    rw [List.flatMap_cons, flatMap_eq_nil_of g l (fun j b hb => h (j + 1) b (by omega) (by simpa using hb))]
    simp
  | a :: l, k + 1, h => by
    rw [List.flatMap_cons, h 0 a (by omega) rfl, flatMap_single g l k (fun j b hj hb => h (j + 1) b (by omega) (by simpa using hb))]
    simp

theorem srcLines_filter (p f : α → Bool) (hf : ∀ x, p x = false → f x = false) (i0 : Nat) (s : St α)
    (hc : OthersClean p i0 s) :
    (srcLines s).filter f = ((s.srcs[i0]?).map fun st => st.lines.filter f).getD [] := by
  unfold srcLines
  rw [List.filter_flatMap]
  apply flatMap_single
  intro j st hj hst
  apply List.filter_eq_nil_iff.mpr
  intro x hx
  simp [hf x (hc j st hj hst x hx)]

theorem othersClean_set {p : α → Bool} {i0 : Nat} {s : St α} (hc : OthersClean p i0 s) (i : Nat) (st st' : SrcSt α)
    (hi : s.srcs[i]? = some st) (hsub : ∀ x ∈ st'.lines, x ∈ st.lines) (s' : St α) (hs' : s'.srcs = s.srcs.set i st') :
    OthersClean p i0 s' := by
  intro j a hj ha x hx
  rw [hs'] at ha
  by_cases hij : i = j
  · subst hij
    rw [List.getElem?_set_self (List.getElem?_eq_some_iff.mp hi).1] at ha
    cases ha
    exact hc i st hj hi x (hsub x hx)
  · rw [List.getElem?_set_ne hij] at ha
    exact hc j a hj ha x hx

theorem single_worker {l : List (WSt α)} {j : Nat} {w : WSt α} (hw : l.length = 1) (h : l[j]? = some w) : l = [w] ∧ j = 0 := by
  match l, hw with
  | [a], _ =>
    cases j with
    | zero => simp at h; exact ⟨by rw [h], rfl⟩
    | succ k => simp at h

section
variable (cls : α → Cls) (p : α → Bool)

/-- the lines the order theorem speaks about: matched and selected by `p` -/
def sel (x : α) : Bool := isMatched cls x && p x

theorem sel_of_p_false (x : α) (h : p x = false) : sel cls p x = false := by simp [sel, h]

theorem order_step {R B K : Nat} {i0 : Nat} {s s' : St α} (h : Step cls R B K s s')
    (hw : s.workers.length = 1) (hc : OthersClean p i0 s) :
    OthersClean p i0 s' ∧ (order0 s').filter (sel cls p) = (order0 s).filter (sel cls p) := by
  have hsrc := fun (t : St α) (ht : OthersClean p i0 t) => srcLines_filter p (sel cls p) (sel_of_p_false cls p) i0 t ht
  cases h with
  | start i bs h1 h2 =>
    refine ⟨othersClean_set hc i _ (.active bs) h1 (fun x hx => hx) _ rfl, ?_⟩
    simp only [order0, wAcc, wTodo, srcLines, flatMap_set_eq SrcSt.lines (.active bs) h1 rfl]
  | send i b bs h1 h2 =>
    have hc' := othersClean_set hc i _ (.active bs) h1 (fun x hx => List.mem_append_right b hx)
      { s with srcs := s.srcs.set i (.active bs), c := s.c ++ [b] } rfl
    refine ⟨hc', ?_⟩
    simp only [order0, wAcc, wTodo, List.filter_append, hsrc _ hc', hsrc _ hc, List.flatten_append, List.flatten_cons,
      List.flatten_nil, List.append_nil]
    by_cases hi : i = i0
    · subst hi
      simp [List.getElem?_set_self (List.getElem?_eq_some_iff.mp h1).1, h1, SrcSt.lines, List.filter_append]
    · have hb : b.filter (sel cls p) = [] := by
        apply List.filter_eq_nil_iff.mpr
        intro x hx
        have := hc i _ hi h1 x (by simp [SrcSt.lines, hx])
        simp [sel, this]
      simp [List.getElem?_set_ne hi, hb]
  | finish i h1 =>
    refine ⟨othersClean_set hc i _ .done h1 (fun x hx => hx) _ rfl, ?_⟩
    simp only [order0, wAcc, wTodo, srcLines, flatMap_set_eq SrcSt.lines .done h1 rfl]
  | closeC h1 h2 => exact ⟨hc, rfl⟩
  | wrecv j b rest h1 h2 =>
    obtain ⟨hl, rfl⟩ := single_worker hw h1
    refine ⟨hc, ?_⟩
    simp [order0, wAcc, wTodo, srcLines, hl, h2, WSt.acc, WSt.todo]
  | wproc j x todo acc h1 =>
    obtain ⟨hl, rfl⟩ := single_worker hw h1
    refine ⟨hc, ?_⟩
    by_cases hx : cls x = .matched
    · simp [order0, wAcc, wTodo, srcLines, hl, WSt.acc, WSt.todo, hx]
    · have : sel cls p x = false := by simp [sel, isMatched, hx]
      simp [order0, wAcc, wTodo, srcLines, hl, WSt.acc, WSt.todo, hx, List.filter_append, this]
  | wsend j acc h1 h2 h3 =>
    obtain ⟨hl, rfl⟩ := single_worker hw h1
    refine ⟨hc, ?_⟩
    simp [order0, wAcc, wTodo, srcLines, hl, WSt.acc, WSt.todo]
  | wskip j h1 =>
    obtain ⟨hl, rfl⟩ := single_worker hw h1
    refine ⟨hc, ?_⟩
    simp [order0, wAcc, wTodo, srcLines, hl, WSt.acc, WSt.todo]
  | wexit j h1 h2 h3 =>
    obtain ⟨hl, rfl⟩ := single_worker hw h1
    refine ⟨hc, ?_⟩
    simp [order0, wAcc, wTodo, srcLines, hl, WSt.acc, WSt.todo]
  | closeRC h1 h2 => exact ⟨hc, rfl⟩
  | crecv m rest h1 h2 =>
    refine ⟨hc, ?_⟩
    simp [order0, wAcc, wTodo, srcLines, h1]
  | cdone h1 h2 h3 => exact ⟨hc, rfl⟩
end


theorem order_reach (cls : α → Cls) (p : α → Bool) {R B K : Nat} {i0 : Nat} {s0 s : St α} (hr : Reach cls R B K s0 s)
    (hw : s0.workers.length = 1) (hc : OthersClean p i0 s0) :
    OthersClean p i0 s ∧ s.workers.length = 1 ∧ (order0 s).filter (sel cls p) = (order0 s0).filter (sel cls p) := by
  induction hr with
  | refl => exact ⟨hc, hw, rfl⟩
  | step _ hs ih =>
    obtain ⟨h1, h2, h3⟩ := ih
    obtain ⟨g1, g2⟩ := order_step cls p hs h2 h1
    exact ⟨g1, by rw [step_workers_length hs, h2], by rw [g2, h3]⟩

theorem order0_init (inputs : List (List (List α))) (W : Nat) : order0 (init inputs W) = inputs.flatMap List.flatten := by
  rw [order0, srcLines_init, wTodo_init, wAcc_init]
  simp [init]

theorem othersClean_init (p : α → Bool) (i0 : Nat) (inputs : List (List (List α))) (W : Nat)
    (hp : ∀ (j : Nat) bs, j ≠ i0 → inputs[j]? = some bs → ∀ x ∈ bs.flatten, p x = false) :
    OthersClean p i0 (init inputs W) := by
  intro j st hj hst x hx
  simp only [init, List.getElem?_map, Option.map_eq_some_iff] at hst
  obtain ⟨bs, hbs, rfl⟩ := hst
  exact hp j bs hj hbs x (by simpa [SrcSt.lines] using hx)

end Rare.Pipeline

import Rare.Proofs.C13Main
import Rare.Model.C13Groups
/-! C13: `Groups(sort)` of `rare reduce` orders the groups whenever the sorter orders the sort keys. -/
namespace Rare.C13

/-- If `less` orders the (distinct) sort keys of the groups in `P`, `groupsSpecLess` orders the groups:
by sort key, groups with one sort key by their own text. -/
theorem groupsSpec_orderOn {P : Key → Prop} {less : Key → Key → Bool} (sortKey : Key → Key)
    (h : OrderOn (fun k => ∃ g, P g ∧ sortKey g = k) less) : OrderOn P (groupsSpecLess less sortKey) := by
  have hb := bytesLt_strictTotal
  refine ⟨?_, ?_, ?_⟩
  · intro a b ha hb' hne hab
    unfold groupsSpecLess at hab ⊢
    by_cases e : sortKey a = sortKey b
    · rw [if_pos e] at hab
      rw [if_pos e.symm]
      exact hb.asymm a b trivial trivial hab
    · rw [if_neg e] at hab
      rw [if_neg (fun x => e x.symm)]
      exact h.asymm _ _ ⟨a, ha, rfl⟩ ⟨b, hb', rfl⟩ e hab
  · intro a b ha hb' hne
    unfold groupsSpecLess
    by_cases e : sortKey a = sortKey b
    · rw [if_pos e, if_pos e.symm]
      exact hb.total a b trivial trivial hne
    · rw [if_neg e, if_neg (fun x => e x.symm)]
      exact h.total _ _ ⟨a, ha, rfl⟩ ⟨b, hb', rfl⟩ e
  · intro a b c ha hb' hc hab hbc hac lab lbc
    unfold groupsSpecLess at lab lbc ⊢
    by_cases e1 : sortKey a = sortKey b
    · rw [if_pos e1] at lab
      by_cases e2 : sortKey b = sortKey c
      · rw [if_pos e2] at lbc
        rw [if_pos (e1.trans e2)]
        exact hb.trans a b c trivial trivial trivial lab lbc
      · rw [if_neg e2] at lbc
        rw [if_neg (fun x => e2 (e1.symm.trans x)), e1]
        exact lbc
    · rw [if_neg e1] at lab
      by_cases e2 : sortKey b = sortKey c
      · rw [if_pos e2] at lbc
        rw [if_neg (fun x => e1 (x.trans e2.symm)), ← e2]
        exact lab
      · rw [if_neg e2] at lbc
        by_cases e3 : sortKey a = sortKey c
        · -- a < b < c in sort keys with key a = key c: impossible by asymmetry
          rw [e3] at lab
          have := h.asymm _ _ ⟨c, hc, rfl⟩ ⟨b, hb', rfl⟩ (fun x => e2 x.symm) lab
          rw [this] at lbc
          cases lbc
        · rw [if_neg e3]
          exact h.trans _ _ _ ⟨a, ha, rfl⟩ ⟨b, hb', rfl⟩ ⟨c, hc, rfl⟩ e1 e2 e3 lab lbc

/-- A faithful sorter on the sort keys makes the `sortExpr` comparator faithful on the groups. -/
theorem groupsCmpExpr_faithful {σ : Type} {sort : SCmp Key σ} {init : σ} {Q : Key → Prop} {less : Key → Key → Bool}
    (h : Faithful sort init Q less) (sortKey : Key → Key) (P : Key → Prop) (hPQ : ∀ g, P g → Q (sortKey g)) :
    Faithful (groupsCmpExpr sort sortKey) init P (groupsSpecLess less sortKey) := by
  obtain ⟨Inv, h0, hstep⟩ := h
  refine ⟨Inv, h0, ?_⟩
  intro s a b hs ha hb
  unfold groupsCmpExpr groupsSpecLess
  by_cases e : sortKey a = sortKey b
  · simp only [e, if_true]
    exact ⟨trivial, hs⟩
  · simp only [e, if_false]
    exact hstep s _ _ hs (hPQ a ha) (hPQ b hb)

/-- the sorter `cmd/reduce.go` builds is faithful to the contextual order of a uniform key set -/
theorem reduceSorter_faithful (o : Oracle) (sets : List SortSet) (rev : Bool) (keys : List Key)
    (hu : ctxUniform o sets keys = true) :
    Faithful (reduceSorter o sets rev) ({}, ()) (· ∈ keys)
      (if rev then revLess (contextualSpec o sets keys) else contextualSpec o sets keys) := by
  cases rev with
  | false => exact ctx_faithful o sets keys hu
  | true => exact (ctx_faithful o sets keys hu).reverse

theorem reduceLess_orderOn (o : Oracle) (sets : List SortSet) (rev : Bool) (keys : List Key) (P : Key → Prop) :
    OrderOn P (if rev then revLess (contextualSpec o sets keys) else contextualSpec o sets keys) := by
  have h : OrderOn (fun _ : Key => True) (contextualSpec o sets keys) :=
    (contextualSpec_strictTotal o sets keys).toOrderOn
  cases rev with
  | false => exact h.mono (fun _ _ => trivial)
  | true => exact h.rev.mono (fun _ _ => trivial)

/-- `Groups(sorter)` with a `--sort` expression, sort keys uniform: the comparator answers the rank
(sort key, group text) on the groups, and that rank orders them. -/
theorem groupsCmp_expr_spec (o : Oracle) (sets : List SortSet) (rev : Bool) (sortKey : Key → Key) (groups : List Key)
    (hu : ctxUniform o sets (groups.map sortKey) = true) :
    Faithful (groupsCmp o sets rev (some sortKey)) ({}, ()) (· ∈ groups)
        (groupsSpecLess (if rev then revLess (contextualSpec o sets (groups.map sortKey))
          else contextualSpec o sets (groups.map sortKey)) sortKey)
      ∧ OrderOn (· ∈ groups)
        (groupsSpecLess (if rev then revLess (contextualSpec o sets (groups.map sortKey))
          else contextualSpec o sets (groups.map sortKey)) sortKey) :=
  ⟨groupsCmpExpr_faithful (reduceSorter_faithful o sets rev (groups.map sortKey) hu) sortKey (· ∈ groups)
      (fun _ hg => List.mem_map_of_mem hg),
    groupsSpec_orderOn sortKey (reduceLess_orderOn o sets rev (groups.map sortKey) _)⟩

end Rare.C13

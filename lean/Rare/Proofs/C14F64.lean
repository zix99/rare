import Rare.Model.C14F64
import Rare.Proofs.F64Arith
import Rare.Proofs.C14Scale
/-!
# C14: the scalers on IEEE-754 binary64

`Scale`, `Bucket`, `LengthVal` of `pkg/multiterm/termscaler/scale.go` with the `float64` operations
instantiated by the software binary64 model (`f64Arith`, `Rare/Model/C14F64.lean`): every conversion,
subtraction, division and multiplication rounds to nearest even, exactly as the Go code computes.

* `round_mono`: rounding is monotone on the values;
* `scaleCore_unit/_mono`: the guard and the quotient `(x - minf) / (maxf - minf)` of two ROUNDED differences
  is a finite float in `[0,1]`, monotone in `x` – `minf`, `maxf` are integer-valued floats (`math.Floor/Ceil`),
  so a passed guard means `maxf - minf ≥ 1`, both differences are finite and the quotient of the rounded
  values is again between the floats 0 and 1;
* `scale_f64_unit`, `scale_f64_mono`: for EVERY int64 triple and every scaler (logarithms: `LogLikeF64`);
* `trunc_mul_f64(_mono)`: `int(u * float64(n))` for a unit float and `0 ≤ n ≤ 2^53`.
-/
namespace Rare.C14
open Rare Rare.F64

/-- `2^64` and `2^63` are floats -/
def f2p64 : F64 := ⟨0x43F0000000000000, by decide⟩
def f2p63 : F64 := ⟨0x43E0000000000000, by decide⟩

theorem rep_2p64 : Rep (18446744073709551616 : Rat) :=
  ⟨f2p64, by decide, by decide +kernel⟩

theorem rep_2p63 : Rep (9223372036854775808 : Rat) :=
  ⟨f2p63, by decide, by decide +kernel⟩

theorem rep_one : Rep (1 : Rat) := ⟨F64.one, by decide, by decide +kernel⟩

theorem ofInt_one : F64.ofInt 1 = F64.one := by decide +kernel
theorem ofInt_zero : F64.ofInt 0 = F64.zero false := by decide +kernel

/-- rounding is monotone on the values -/
theorem round_mono {q₁ q₂ : Rat} (h : q₁ ≤ q₂) (s₁ s₂ : Bool) (f1 : (ofRatS s₁ q₁).isFinite = true) (f2 : (ofRatS s₂ q₂).isFinite = true) :
    (ofRatS s₁ q₁).toRat ≤ (ofRatS s₂ q₂).toRat :=
  (le_iff_toRat_le f1 f2).mp (ofRatS_le_ofRatS s₁ s₂ h)

/-! ### the last step of `Scale`: guard, then the quotient of two rounded differences -/

/-- `if minf >= maxf { return 0 }; return (x - minf) / (maxf - minf)` -/
def scaleCore (X A B : F64) : F64 := if F64.le B A then F64.ofInt 0 else F64.div (F64.sub X A) (F64.sub B A)

theorem ofInt_zero_props : (F64.ofInt 0).isFinite = true ∧ (F64.ofInt 0).toRat = 0 := by
  have := isFinite_ofInt 0 (by decide)
  simpa using this

/-- what the two differences and the quotient are when the guard passes -/
theorem scaleCore_parts {X A B : F64} (hX : X.isFinite = true) (hA : A.isFinite = true) (hB : B.isFinite = true)
    {a b : Int} (ha : A.toRat = (a : Rat)) (hb : B.toRat = (b : Rat))
    (h1 : A.toRat ≤ X.toRat) (h2 : X.toRat ≤ B.toRat) (hlt : A.toRat < B.toRat)
    {hi : Rat} (hhi : Rep hi) (hbd : B.toRat - A.toRat ≤ hi) :
    (F64.sub X A).isFinite = true ∧ (F64.sub B A).isFinite = true ∧ 0 ≤ (F64.sub X A).toRat ∧
      (F64.sub X A).toRat ≤ (F64.sub B A).toRat ∧ 1 ≤ (F64.sub B A).toRat ∧ (F64.sub B A).mag ≠ 0 := by
  have hab : (1 : Rat) ≤ B.toRat - A.toRat := by
    rw [ha, hb] at hlt ⊢
    have : a + 1 ≤ b := Rat.intCast_lt_intCast.mp hlt
    have : ((a + 1 : Int) : Rat) ≤ (b : Rat) := Rat.intCast_le_intCast.mpr this
    rw [Rat.intCast_add] at this
    simp at this; grind
  rw [sub_finite hX hA, sub_finite hB hA]
  obtain ⟨fd, d1, _⟩ := round_between_rep (s := B.sign && !A.sign) rfl rep_one hhi hab hbd
  obtain ⟨fn, n0, _⟩ := round_between_rep (s := X.sign && !A.sign) rfl rep_zero hhi
    (show (0 : Rat) ≤ X.toRat - A.toRat by grind) (show X.toRat - A.toRat ≤ hi by grind)
  have hnd := round_mono (show X.toRat - A.toRat ≤ B.toRat - A.toRat by grind) (X.sign && !A.sign) (B.sign && !A.sign) fn fd
  refine ⟨fn, fd, n0, hnd, d1, ?_⟩
  intro h0
  rw [toRat_eq_zero_of_mag h0] at d1
  exact absurd d1 (by decide)

/-- the result of the last step is a finite float in `[0,1]` -/
theorem scaleCore_unit {X A B : F64} (hX : X.isFinite = true) (hA : A.isFinite = true) (hB : B.isFinite = true)
    {a b : Int} (ha : A.toRat = (a : Rat)) (hb : B.toRat = (b : Rat))
    (h1 : A.toRat ≤ X.toRat) (h2 : A.toRat < B.toRat → X.toRat ≤ B.toRat)
    {hi : Rat} (hhi : Rep hi) (hbd : B.toRat - A.toRat ≤ hi) :
    (scaleCore X A B).isFinite = true ∧ 0 ≤ (scaleCore X A B).toRat ∧ (scaleCore X A B).toRat ≤ 1 := by
  unfold scaleCore
  by_cases hg : F64.le B A = true
  · rw [if_pos hg]
    obtain ⟨f, v⟩ := ofInt_zero_props
    rw [v]; exact ⟨f, Rat.le_refl, by decide⟩
  · rw [if_neg hg]
    have hlt : A.toRat < B.toRat := by
      have : ¬ B.toRat ≤ A.toRat := fun h => hg ((le_iff_toRat_le hB hA).mpr h)
      grind
    obtain ⟨fn, fd, n0, nd, d1, dm⟩ := scaleCore_parts hX hA hB ha hb h1 (h2 hlt) hlt hhi hbd
    rw [div_finite fn fd dm]
    obtain ⟨q0, q1⟩ := rat_unit_div n0 nd (show (0 : Rat) < (F64.sub B A).toRat by grind)
    exact round_between_rep rfl rep_zero rep_one q0 q1

/-- the last step is monotone in the mapped value -/
theorem scaleCore_mono {X X' A B : F64} (hX : X.isFinite = true) (hX' : X'.isFinite = true) (hA : A.isFinite = true) (hB : B.isFinite = true)
    {a b : Int} (ha : A.toRat = (a : Rat)) (hb : B.toRat = (b : Rat))
    (h1 : A.toRat ≤ X.toRat) (hxx : X.toRat ≤ X'.toRat) (h2 : A.toRat < B.toRat → X'.toRat ≤ B.toRat)
    {hi : Rat} (hhi : Rep hi) (hbd : B.toRat - A.toRat ≤ hi) :
    (scaleCore X A B).toRat ≤ (scaleCore X' A B).toRat := by
  unfold scaleCore
  by_cases hg : F64.le B A = true
  · rw [if_pos hg, if_pos hg]; exact Rat.le_refl
  · rw [if_neg hg, if_neg hg]
    have hlt : A.toRat < B.toRat := by
      have : ¬ B.toRat ≤ A.toRat := fun h => hg ((le_iff_toRat_le hB hA).mpr h)
      grind
    have h2' := h2 hlt
    obtain ⟨fn, fd, n0, nd, d1, dm⟩ := scaleCore_parts hX hA hB ha hb h1 (by grind) hlt hhi hbd
    obtain ⟨fn', _, n0', nd', _, _⟩ := scaleCore_parts hX' hA hB ha hb (by grind) h2' hlt hhi hbd
    rw [div_finite fn fd dm, div_finite fn' fd dm]
    have hd : (0 : Rat) < (F64.sub B A).toRat := by grind
    obtain ⟨q0, q1⟩ := rat_unit_div n0 nd hd
    obtain ⟨q0', q1'⟩ := rat_unit_div n0' nd' hd
    obtain ⟨f1, _, _⟩ := round_between_rep (s := (F64.sub X A).sign != (F64.sub B A).sign) rfl rep_zero rep_one q0 q1
    obtain ⟨f2, _, _⟩ := round_between_rep (s := (F64.sub X' A).sign != (F64.sub B A).sign) rfl rep_zero rep_one q0' q1'
    apply round_mono _ _ _ f1 f2
    apply div_le_div_right_pos _ hd
    rw [sub_finite hX hA, sub_finite hX' hA] at *
    exact round_mono (by grind) _ _ fn fn'

/-! ### `float64(int64)` and the mapped values -/

/-- the value is an `int64` -/
def I64 (i : Int) : Prop := minInt64 ≤ i ∧ i ≤ maxInt64

theorem i64_wrap (x : Int) : I64 (wrap64 x) := by unfold I64 wrap64 minInt64 maxInt64; omega

theorem i64_cast {i : Int} (h : I64 i) : -(9223372036854775808 : Rat) ≤ (i : Rat) ∧ (i : Rat) ≤ 9223372036854775808 := by
  obtain ⟨a, b⟩ := h
  have a' : ((-9223372036854775808 : Int) : Rat) ≤ (i : Rat) := Rat.intCast_le_intCast.mpr a
  have b' : (i : Rat) ≤ ((9223372036854775808 : Int) : Rat) := Rat.intCast_le_intCast.mpr (by unfold maxInt64 at b; omega)
  constructor
  · have e : ((-9223372036854775808 : Int) : Rat) = -(9223372036854775808 : Rat) := by decide +kernel
    rwa [e] at a'
  · have e : ((9223372036854775808 : Int) : Rat) = (9223372036854775808 : Rat) := by decide +kernel
    rwa [e] at b'

/-- `float64(i)` of an int64 is finite and lies in `[-2^63, 2^63]` -/
theorem ofInt_i64 {i : Int} (h : I64 i) :
    (F64.ofInt i).isFinite = true ∧ -(9223372036854775808 : Rat) ≤ (F64.ofInt i).toRat ∧ (F64.ofInt i).toRat ≤ 9223372036854775808 := by
  obtain ⟨a, b⟩ := i64_cast h
  exact round_between_rep rfl (rep_neg rep_2p63) rep_2p63 a b

theorem ofInt_mono_val {i j : Int} (hi : I64 i) (hj : I64 j) (h : i ≤ j) : (F64.ofInt i).toRat ≤ (F64.ofInt j).toRat :=
  (le_iff_toRat_le (ofInt_i64 hi).1 (ofInt_i64 hj).1).mp (ofInt_mono h)

theorem ofInt_one_props : (F64.ofInt 1).isFinite = true ∧ (F64.ofInt 1).toRat = 1 := by
  have := isFinite_ofInt 1 (by decide)
  simpa using this

/-- what is assumed of `math.Log2` / `math.Log10` (a trusted library) on floats: on `[1, ∞)` they return
finite values, are monotone, and `log 1 = 0` -/
structure LogLikeF64 (L : F64 → F64) : Prop where
  finite : ∀ x, x.isFinite = true → 1 ≤ x.toRat → (L x).isFinite = true
  mono : ∀ x y, x.isFinite = true → y.isFinite = true → 1 ≤ x.toRat → x.toRat ≤ y.toRat → (L x).toRat ≤ (L y).toRat
  one : (L F64.one).toRat = 0

theorem LogLikeF64.nonneg {L : F64 → F64} (h : LogLikeF64 L) {x : F64} (hx : x.isFinite = true) (h1 : 1 ≤ x.toRat) : 0 ≤ (L x).toRat := by
  have h1' : F64.one.toRat = 1 := by decide +kernel
  have := h.mono F64.one x (by decide) hx (by rw [h1']; exact Rat.le_refl) (by rw [h1']; exact h1)
  rwa [h.one] at this

section
variable {L2 L10 P2 P10 : F64 → F64}

/-- `s.mapVal(float64(i))` -/
def mapF (L2 L10 P2 P10 : F64 → F64) (k : Scaler) (i : Int) : F64 := mapVal (f64Arith L2 L10 P2 P10) k (F64.ofInt i)

theorem mapF_linear (i : Int) : mapF L2 L10 P2 P10 .linear i = F64.ofInt i := rfl
theorem mapF_log2 (i : Int) : mapF L2 L10 P2 P10 .log2 i = if F64.le (F64.ofInt i) (F64.ofInt 1) then F64.ofInt 0 else L2 (F64.ofInt i) := by
  simp only [mapF, mapVal, f64Arith]
  rfl
theorem mapF_log10 (i : Int) : mapF L2 L10 P2 P10 .log10 i = if F64.le (F64.ofInt i) (F64.ofInt 1) then F64.ofInt 0 else L10 (F64.ofInt i) := by
  simp only [mapF, mapVal, f64Arith]
  rfl

theorem logMap_props {L : F64 → F64} (h : LogLikeF64 L) {i : Int} (hi : I64 i) :
    (if F64.le (F64.ofInt i) (F64.ofInt 1) then F64.ofInt 0 else L (F64.ofInt i)).isFinite = true ∧
    0 ≤ (if F64.le (F64.ofInt i) (F64.ofInt 1) then F64.ofInt 0 else L (F64.ofInt i)).toRat := by
  obtain ⟨fi, _, _⟩ := ofInt_i64 hi
  obtain ⟨f1, v1⟩ := ofInt_one_props
  split
  · obtain ⟨f, v⟩ := ofInt_zero_props
    rw [v]; exact ⟨f, Rat.le_refl⟩
  · rename_i hg
    have : ¬ (F64.ofInt i).toRat ≤ 1 := fun hh => hg ((le_iff_toRat_le fi f1).mpr (by rw [v1]; exact hh))
    have h1 : 1 ≤ (F64.ofInt i).toRat := by grind
    exact ⟨h.finite _ fi h1, h.nonneg fi h1⟩

theorem logMap_mono {L : F64 → F64} (h : LogLikeF64 L) {i j : Int} (hi : I64 i) (hj : I64 j) (hij : i ≤ j) :
    (if F64.le (F64.ofInt i) (F64.ofInt 1) then F64.ofInt 0 else L (F64.ofInt i)).toRat ≤
    (if F64.le (F64.ofInt j) (F64.ofInt 1) then F64.ofInt 0 else L (F64.ofInt j)).toRat := by
  obtain ⟨fi, _, _⟩ := ofInt_i64 hi
  obtain ⟨fj, _, _⟩ := ofInt_i64 hj
  obtain ⟨f1, v1⟩ := ofInt_one_props
  have hv := ofInt_mono_val hi hj hij
  have g : ∀ {x : F64}, x.isFinite = true → ¬ F64.le x (F64.ofInt 1) = true → 1 ≤ x.toRat := by
    intro x fx hg
    have : ¬ x.toRat ≤ 1 := fun hh => hg ((le_iff_toRat_le fx f1).mpr (by rw [v1]; exact hh))
    grind
  split <;> split
  · exact Rat.le_refl
  · rename_i _ hg
    rw [ofInt_zero_props.2]; exact h.nonneg fj (g fj hg)
  · rename_i hg hg'
    have a := (le_iff_toRat_le fj f1).mp hg'
    have b : (F64.ofInt i).toRat ≤ (F64.ofInt 1).toRat := by grind
    exact absurd ((le_iff_toRat_le fi f1).mpr b) hg
  · rename_i hg hg'
    exact h.mono _ _ fi fj (g fi hg) hv

theorem mapF_props (h2 : LogLikeF64 L2) (h10 : LogLikeF64 L10) (k : Scaler) {i : Int} (hi : I64 i) :
    (mapF L2 L10 P2 P10 k i).isFinite = true ∧
    (if k = .linear then -(9223372036854775808 : Rat) ≤ (mapF L2 L10 P2 P10 k i).toRat ∧ (mapF L2 L10 P2 P10 k i).toRat ≤ 9223372036854775808
      else 0 ≤ (mapF L2 L10 P2 P10 k i).toRat) := by
  cases k with
  | linear => rw [mapF_linear]; obtain ⟨a, b, c⟩ := ofInt_i64 hi; exact ⟨a, by simp; exact ⟨b, c⟩⟩
  | log2 => rw [mapF_log2]; obtain ⟨a, b⟩ := logMap_props h2 hi; exact ⟨a, by simp; exact b⟩
  | log10 => rw [mapF_log10]; obtain ⟨a, b⟩ := logMap_props h10 hi; exact ⟨a, by simp; exact b⟩

/-- the mapped value is monotone in the `int64` argument -/
theorem mapF_mono (h2 : LogLikeF64 L2) (h10 : LogLikeF64 L10) (k : Scaler) {i j : Int} (hi : I64 i) (hj : I64 j) (hij : i ≤ j) :
    (mapF L2 L10 P2 P10 k i).toRat ≤ (mapF L2 L10 P2 P10 k j).toRat := by
  cases k with
  | linear => rw [mapF_linear, mapF_linear]; exact ofInt_mono_val hi hj hij
  | log2 => rw [mapF_log2, mapF_log2]; exact logMap_mono h2 hi hj hij
  | log10 => rw [mapF_log10, mapF_log10]; exact logMap_mono h10 hi hj hij

/-- the upper end `remapMinMax` uses: `if max <= min { max = min + 1 }` (int64 arithmetic) -/
def upperEnd (mn mx : Int) : Int := if mx ≤ mn then wrap64 (mn + 1) else mx

theorem upperEnd_i64 {mn mx : Int} (h : I64 mx) : I64 (upperEnd mn mx) := by
  unfold upperEnd; split
  · exact i64_wrap _
  · exact h

/-- inside the range `Scale` is the last step applied to the mapped value and the two remapped ends -/
theorem scale_f64_in_range (k : Scaler) {v mn mx : Int} (h1 : mn ≤ v) (h2 : v ≤ mx) :
    scale (f64Arith L2 L10 P2 P10) k v mn mx =
      scaleCore (mapF L2 L10 P2 P10 k v) (F64.floor (mapF L2 L10 P2 P10 k mn)) (F64.ceil (mapF L2 L10 P2 P10 k (upperEnd mn mx))) := by
  unfold scale scaleCore mapF upperEnd remapMinMax
  rw [if_neg (by omega), if_neg (by omega), if_neg (by omega)]
  simp only [f64Arith]
  rfl

/-- the remapped ends: finite, integer-valued, around the mapped values, a representable span -/
theorem ends_props (h2 : LogLikeF64 L2) (h10 : LogLikeF64 L10) (k : Scaler) {mn mx' : Int} (hmn : I64 mn) (hmx : I64 mx') :
    let A := F64.floor (mapF L2 L10 P2 P10 k mn)
    let B := F64.ceil (mapF L2 L10 P2 P10 k mx')
    A.isFinite = true ∧ B.isFinite = true ∧
    A.toRat = (((mapF L2 L10 P2 P10 k mn).toRat.floor : Int) : Rat) ∧ B.toRat = (((mapF L2 L10 P2 P10 k mx').toRat.ceil : Int) : Rat) ∧
    ∃ hi, Rep hi ∧ B.toRat - A.toRat ≤ hi := by
  intro A B
  obtain ⟨fm, bm⟩ := mapF_props (P2 := P2) (P10 := P10) h2 h10 k hmn
  obtain ⟨fx, bx⟩ := mapF_props (P2 := P2) (P10 := P10) h2 h10 k hmx
  obtain ⟨fA, vA⟩ := toRat?_eq_some.mp (floor_spec fm)
  obtain ⟨fB, vB⟩ := toRat?_eq_some.mp (ceil_spec fx)
  refine ⟨fA, fB, vA, vB, ?_⟩
  have e63 : ((9223372036854775808 : Int) : Rat) = (9223372036854775808 : Rat) := by decide +kernel
  have e63n : ((-9223372036854775808 : Int) : Rat) = -(9223372036854775808 : Rat) := by decide +kernel
  by_cases hk : k = .linear
  · rw [if_pos hk] at bm bx
    refine ⟨18446744073709551616, rep_2p64, ?_⟩
    have l1 : (-9223372036854775808 : Int) ≤ (mapF L2 L10 P2 P10 k mn).toRat.floor := Rat.le_floor_iff.mpr (by rw [e63n]; exact bm.1)
    have l1' := Rat.intCast_le_intCast.mpr l1
    rw [e63n, ← vA] at l1'
    have l2 : (mapF L2 L10 P2 P10 k mx').toRat.ceil ≤ (9223372036854775808 : Int) := Rat.ceil_le_iff.mpr (by rw [e63]; exact bx.2)
    have l2' := Rat.intCast_le_intCast.mpr l2
    rw [e63, ← vB] at l2'
    grind
  · rw [if_neg hk] at bm bx
    have l1 : (0 : Int) ≤ (mapF L2 L10 P2 P10 k mn).toRat.floor := Rat.le_floor_iff.mpr (by simpa using bm)
    have l1' := Rat.intCast_le_intCast.mpr l1
    rw [← vA] at l1'
    exact ⟨B.toRat, ⟨B, fB, rfl⟩, by simp at l1'; grind⟩

/-- a finite float in `[0,1]` -/
def UnitF64 (u : F64) : Prop := u.isFinite = true ∧ 0 ≤ u.toRat ∧ u.toRat ≤ 1

theorem unit_zero : UnitF64 (F64.ofInt 0) := by
  obtain ⟨f, v⟩ := ofInt_zero_props
  exact ⟨f, by rw [v]; exact Rat.le_refl, by rw [v]; decide⟩

theorem unit_one : UnitF64 (F64.ofInt 1) := by
  obtain ⟨f, v⟩ := ofInt_one_props
  exact ⟨f, by rw [v]; decide, by rw [v]; exact Rat.le_refl⟩

/-- the hypotheses of the last step hold inside the range -/
theorem in_range_hyps (h2 : LogLikeF64 L2) (h10 : LogLikeF64 L10) (k : Scaler) {v mn mx : Int}
    (hv : I64 v) (hmn : I64 mn) (hmx : I64 mx) (h1 : mn ≤ v) (h2' : v ≤ mx) :
    let X := mapF L2 L10 P2 P10 k v
    let A := F64.floor (mapF L2 L10 P2 P10 k mn)
    let B := F64.ceil (mapF L2 L10 P2 P10 k (upperEnd mn mx))
    A.toRat ≤ X.toRat ∧ (A.toRat < B.toRat → X.toRat ≤ B.toRat) := by
  intro X A B
  obtain ⟨fA, fB, vA, vB, _⟩ := ends_props (P2 := P2) (P10 := P10) h2 h10 k hmn (upperEnd_i64 (mn := mn) hmx)
  constructor
  · have m := mapF_mono (P2 := P2) (P10 := P10) h2 h10 k hmn hv h1
    have f := Rat.floor_le (mapF L2 L10 P2 P10 k mn).toRat
    show (F64.floor (mapF L2 L10 P2 P10 k mn)).toRat ≤ _
    rw [vA]; grind
  · intro hlt
    show _ ≤ (F64.ceil (mapF L2 L10 P2 P10 k (upperEnd mn mx))).toRat
    rw [vB]
    by_cases hdeg : mx ≤ mn
    · have e : v = mn := by omega
      subst e
      apply floor_succ_le_of_lt
      have : A.toRat < B.toRat := hlt
      rwa [show A.toRat = _ from vA, show B.toRat = _ from vB] at this
    · have hu : upperEnd mn mx = mx := by unfold upperEnd; rw [if_neg hdeg]
      rw [hu]
      have m := mapF_mono (P2 := P2) (P10 := P10) h2 h10 k hv hmx h2'
      have c := Rat.le_ceil (x := (mapF L2 L10 P2 P10 k mx).toRat)
      grind

/-- `Scale(val, min, max)` on floats, every int64 triple, every scaler: a finite float in `[0,1]` -/
theorem scale_f64_unit (h2 : LogLikeF64 L2) (h10 : LogLikeF64 L10) (k : Scaler) {v mn mx : Int}
    (hv : I64 v) (hmn : I64 mn) (hmx : I64 mx) : UnitF64 (scale (f64Arith L2 L10 P2 P10) k v mn mx) := by
  by_cases g : mx < mn ∨ v < mn
  · rw [(scale_guards _ k).1 g]; exact unit_zero
  by_cases g3 : v > mx
  · rw [(scale_guards _ k).2 (by omega) (by omega) g3]; exact unit_one
  rw [scale_f64_in_range k (by omega) (by omega)]
  obtain ⟨fA, fB, vA, vB, hi, rhi, hbd⟩ := ends_props (P2 := P2) (P10 := P10) h2 h10 k hmn (upperEnd_i64 (mn := mn) hmx)
  obtain ⟨a1, a2⟩ := in_range_hyps (P2 := P2) (P10 := P10) h2 h10 k hv hmn hmx (show mn ≤ v by omega) (show v ≤ mx by omega)
  exact scaleCore_unit (mapF_props h2 h10 k hv).1 fA fB vA vB a1 a2 rhi hbd

/-- `Scale` on floats is monotone in the value -/
theorem scale_f64_mono (h2 : LogLikeF64 L2) (h10 : LogLikeF64 L10) (k : Scaler) {v v' mn mx : Int}
    (hv : I64 v) (hv' : I64 v') (hmn : I64 mn) (hmx : I64 mx) (hvv : v ≤ v') :
    (scale (f64Arith L2 L10 P2 P10) k v mn mx).toRat ≤ (scale (f64Arith L2 L10 P2 P10) k v' mn mx).toRat := by
  by_cases g : mx < mn ∨ v < mn
  · rw [(scale_guards _ k).1 g]
    show (F64.ofInt 0).toRat ≤ _
    rw [ofInt_zero_props.2]
    exact (scale_f64_unit h2 h10 k hv' hmn hmx).2.1
  by_cases g3 : v' > mx
  · rw [(scale_guards _ k (v := v')).2 (by omega) (by omega) g3]
    show _ ≤ (F64.ofInt 1).toRat
    rw [ofInt_one_props.2]
    exact (scale_f64_unit h2 h10 k hv hmn hmx).2.2
  rw [scale_f64_in_range k (by omega) (by omega), scale_f64_in_range k (by omega) (by omega)]
  obtain ⟨fA, fB, vA, vB, hi, rhi, hbd⟩ := ends_props (P2 := P2) (P10 := P10) h2 h10 k hmn (upperEnd_i64 (mn := mn) hmx)
  obtain ⟨a1, _⟩ := in_range_hyps (P2 := P2) (P10 := P10) h2 h10 k hv hmn hmx (show mn ≤ v by omega) (show v ≤ mx by omega)
  obtain ⟨_, a2'⟩ := in_range_hyps (P2 := P2) (P10 := P10) h2 h10 k hv' hmn hmx (show mn ≤ v' by omega) (show v' ≤ mx by omega)
  exact scaleCore_mono (mapF_props h2 h10 k hv).1 (mapF_props h2 h10 k hv').1 fA fB vA vB a1
    (mapF_mono h2 h10 k hv hv' hvv) a2' rhi hbd

end

/-! ### a stand-in logarithm (non-vacuity of `LogLikeF64`), and the linear scaler without any assumption -/

/-- `x ↦ x - 1` (rounded) satisfies `LogLikeF64` -/
theorem logLikeF64_sub_one : LogLikeF64 (fun x => F64.sub x F64.one) := by
  have f1 : F64.one.isFinite = true := by decide
  have v1 : F64.one.toRat = 1 := by decide +kernel
  refine ⟨?_, ?_, by decide +kernel⟩
  · intro x fx h1
    show (F64.sub x F64.one).isFinite = true
    rw [F64.sub_finite fx f1, v1]
    exact (round_between_rep rfl F64.rep_zero ⟨x, fx, rfl⟩ (by grind) (by grind)).1
  · intro x y fx fy h1 hxy
    show (F64.sub x F64.one).toRat ≤ (F64.sub y F64.one).toRat
    rw [F64.sub_finite fx f1, F64.sub_finite fy f1, v1]
    have a := (round_between_rep (s := x.sign && !F64.one.sign) (q := x.toRat - 1) rfl F64.rep_zero ⟨x, fx, rfl⟩ (by grind) (by grind)).1
    have b := (round_between_rep (s := y.sign && !F64.one.sign) (q := y.toRat - 1) rfl F64.rep_zero ⟨y, fy, rfl⟩ (by grind) (by grind)).1
    exact round_mono (by grind) _ _ a b

/-- the linear scaler never calls a logarithm: its `Scale` is the same function whatever `math.Log*`/`Pow` are -/
theorem scale_linear_indep (L2 L10 P2 P10 L2' L10' P2' P10' : F64 → F64) (v mn mx : Int) :
    scale (f64Arith L2 L10 P2 P10) .linear v mn mx = scale (f64Arith L2' L10' P2' P10') .linear v mn mx := rfl

theorem scale_linear_f64_unit {L2 L10 P2 P10 : F64 → F64} {v mn mx : Int} (hv : I64 v) (hmn : I64 mn) (hmx : I64 mx) :
    UnitF64 (scale (f64Arith L2 L10 P2 P10) .linear v mn mx) := by
  rw [scale_linear_indep L2 L10 P2 P10 (fun x => F64.sub x F64.one) (fun x => F64.sub x F64.one) P2 P10]
  exact scale_f64_unit logLikeF64_sub_one logLikeF64_sub_one .linear hv hmn hmx

theorem scale_linear_f64_mono {L2 L10 P2 P10 : F64 → F64} {v v' mn mx : Int} (hv : I64 v) (hv' : I64 v') (hmn : I64 mn) (hmx : I64 mx) (h : v ≤ v') :
    (scale (f64Arith L2 L10 P2 P10) .linear v mn mx).toRat ≤ (scale (f64Arith L2 L10 P2 P10) .linear v' mn mx).toRat := by
  rw [scale_linear_indep L2 L10 P2 P10 (fun x => F64.sub x F64.one) (fun x => F64.sub x F64.one) P2 P10,
    scale_linear_indep L2 L10 P2 P10 (fun x => F64.sub x F64.one) (fun x => F64.sub x F64.one) P2 P10 v']
  exact scale_f64_mono logLikeF64_sub_one logLikeF64_sub_one .linear hv hv' hmn hmx h

/-- a unit float in the IEEE order: not NaN, between `0.0` and `1.0` -/
theorem UnitF64.order {u : F64} (h : UnitF64 u) :
    u.isNaN = false ∧ F64.le (F64.ofInt 0) u = true ∧ F64.le u (F64.ofInt 1) = true := by
  obtain ⟨f, a, b⟩ := h
  refine ⟨not_nan_of_finite f, ?_, ?_⟩
  · rw [le_iff_toRat_le ofInt_zero_props.1 f, ofInt_zero_props.2]; exact a
  · rw [le_iff_toRat_le f ofInt_one_props.1, ofInt_one_props.2]; exact b

/-! ### `int(u * float64(n))` for a unit float -/

/-- the product `u * float64(n)` (one rounding) of a unit float and an integer `0 ≤ n ≤ 2^53`: finite, in `[0, n]` -/
theorem mul_unit_f64 {u : F64} (hu : UnitF64 u) {n : Int} (h0 : 0 ≤ n) (h1 : n ≤ 9007199254740992) :
    (F64.mul u (F64.ofInt n)).isFinite = true ∧ 0 ≤ (F64.mul u (F64.ofInt n)).toRat ∧ (F64.mul u (F64.ofInt n)).toRat ≤ (n : Rat) ∧
    F64.mul u (F64.ofInt n) = ofRatS (u.sign != (F64.ofInt n).sign) (u.toRat * (n : Rat)) := by
  obtain ⟨fu, u0, u1⟩ := hu
  obtain ⟨fn, vn⟩ := isFinite_ofInt n (by omega)
  have hn' : (0 : Rat) ≤ (n : Rat) := by
    have := Rat.intCast_le_intCast.mpr h0
    simpa using this
  have e : F64.mul u (F64.ofInt n) = ofRatS (u.sign != (F64.ofInt n).sign) (u.toRat * (n : Rat)) := by
    rw [mul_finite fu fn, vn]
  rw [e]
  have a : 0 ≤ u.toRat * (n : Rat) := Rat.mul_nonneg u0 hn'
  have b : u.toRat * (n : Rat) ≤ (n : Rat) := by
    have := Rat.mul_le_mul_of_nonneg_right u1 hn'
    simpa [Rat.one_mul] using this
  obtain ⟨f, l, r⟩ := round_between_rep (s := u.sign != (F64.ofInt n).sign) rfl rep_zero (rep_int (n := n) (by omega)) a b
  exact ⟨f, l, r, rfl⟩

theorem toInt64_nonneg_val {x : F64} (hx : x.isFinite = true) (h0 : 0 ≤ x.toRat) {n : Int} (hn : x.toRat ≤ (n : Rat)) (h1 : n ≤ 9007199254740992) :
    F64.toInt64 x = x.toRat.floor ∧ 0 ≤ x.toRat.floor ∧ x.toRat.floor ≤ n := by
  have f0 : (0 : Int) ≤ x.toRat.floor := Rat.le_floor_iff.mpr (by simpa using h0)
  have f1 : x.toRat.floor ≤ n := by
    have := Rat.floor_monotone hn
    rwa [Rat.floor_intCast] at this
  refine ⟨?_, f0, f1⟩
  unfold F64.toInt64
  rw [hx]
  have ht : truncRat x.toRat = x.toRat.floor := by
    unfold truncRat; rw [if_neg (by grind)]
  simp only [Bool.not_true, Bool.false_eq_true, if_false, ht]
  rw [if_neg]
  simp only [Bool.or_eq_true, decide_eq_true_eq]
  unfold minInt64 maxInt64; omega

/-- `int(u * float64(n))` lies in `[0, n]` for a unit float, `0 ≤ n ≤ 2^53`; it is `n` for exactly `1.0` -/
theorem trunc_mul_f64 {u : F64} (hu : UnitF64 u) {n : Int} (h0 : 0 ≤ n) (h1 : n ≤ 9007199254740992) :
    0 ≤ F64.toInt64 (F64.mul u (F64.ofInt n)) ∧ F64.toInt64 (F64.mul u (F64.ofInt n)) ≤ n ∧
    (u.toRat = 1 → F64.toInt64 (F64.mul u (F64.ofInt n)) = n) := by
  obtain ⟨f, l, r, e⟩ := mul_unit_f64 hu h0 h1
  obtain ⟨t, a, b⟩ := toInt64_nonneg_val f l r h1
  rw [t]
  refine ⟨a, b, ?_⟩
  intro h1'
  have : (F64.mul u (F64.ofInt n)).toRat = (n : Rat) := by
    rw [e, h1', Rat.one_mul]
    exact (ofRatS_rep _ (rep_int (n := n) (by omega))).2
  rw [this, Rat.floor_intCast]

/-- `int(u * float64(n))` is monotone in the unit float -/
theorem trunc_mul_f64_mono {u v : F64} (hu : UnitF64 u) (hv : UnitF64 v) (huv : u.toRat ≤ v.toRat) {n : Int} (h0 : 0 ≤ n) (h1 : n ≤ 9007199254740992) :
    F64.toInt64 (F64.mul u (F64.ofInt n)) ≤ F64.toInt64 (F64.mul v (F64.ofInt n)) := by
  obtain ⟨f, l, r, e⟩ := mul_unit_f64 hu h0 h1
  obtain ⟨f', l', r', e'⟩ := mul_unit_f64 hv h0 h1
  rw [(toInt64_nonneg_val f l r h1).1, (toInt64_nonneg_val f' l' r' h1).1]
  apply Rat.floor_monotone
  have hn' : (0 : Rat) ≤ (n : Rat) := by
    have := Rat.intCast_le_intCast.mpr h0
    simpa using this
  rw [e] at f ⊢
  rw [e'] at f' ⊢
  exact round_mono (Rat.mul_le_mul_of_nonneg_right huv hn') _ _ f f'

end Rare.C14

import Rare.Proofs.C16
/-! C16: a numeric capture and the JSON number emitted for it denote the same rational. -/
namespace Rare.C16

theorem digVal_foldl (b : Bytes) : ∀ acc : Nat,
    b.foldl (fun a c => a * 10 + (c.toNat - 48)) acc = acc * 10 ^ b.length + digVal b := by
  induction b with
  | nil => intro acc; simp [digVal]
  | cons c r ih =>
    intro acc
    simp only [List.foldl_cons, digVal, List.length_cons]
    rw [ih, ih (0 * 10 + (c.toNat - 48))]
    simp [Nat.pow_succ, Nat.add_mul, Nat.mul_assoc, Nat.mul_comm 10, Nat.add_assoc]

theorem digVal_append (a b : Bytes) : digVal (a ++ b) = digVal a * 10 ^ b.length + digVal b := by
  unfold digVal
  rw [List.foldl_append, digVal_foldl]
  rfl

theorem ten_pow_ne (n : Nat) : (10 : Rat) ^ n ≠ 0 := by
  have : (0 : Rat) < 10 ^ n := Rat.pow_pos (by decide)
  intro e; rw [e] at this; exact absurd this (by decide)

theorem ratOf_zero (m : Nat) : ratOf (m : Int) 0 = (m : Rat) := by
  simp [ratOf, Rat.intCast_natCast]

theorem ratOf_frac (a b n : Nat) :
    ratOf ((a * 10 ^ n + b : Nat) : Int) (-(n : Int)) = (a : Rat) + (b : Rat) / (10 : Rat) ^ n := by
  unfold ratOf
  rw [Rat.intCast_natCast, Rat.zpow_neg, Rat.zpow_natCast, Rat.natCast_add, Rat.natCast_mul, Rat.natCast_pow]
  have h := ten_pow_ne n
  have e : ((10 : Nat) : Rat) = 10 := rfl
  rw [e]
  grind

theorem ratOf_shift (m e k : Int) (h : k ≤ e) : ratOf m e = ratOf (m * 10 ^ (e - k).toNat) k := by
  unfold ratOf
  have e1 : e = ((e - k).toNat : Int) + k := by omega
  conv => lhs; rw [e1]
  rw [Rat.zpow_add (by decide), Rat.zpow_natCast, Rat.intCast_mul, Rat.intCast_pow]
  have : ((10 : Int) : Rat) = 10 := rfl
  rw [this]
  grind

theorem sameValue_rat (m1 e1 m2 e2 : Int) (h : sameValue m1 e1 m2 e2 = true) : ratOf m1 e1 = ratOf m2 e2 := by
  unfold sameValue at h
  simp only [beq_iff_eq] at h
  rw [ratOf_shift m1 e1 (min e1 e2) (by omega), ratOf_shift m2 e2 (min e1 e2) (by omega), h]

theorem decimalValue_rat (s : Bytes) (m e : Int) (h : decimalValue s = some (m, e)) :
    decimalRat s = some (ratOf m e) := by
  unfold decimalValue at h
  unfold decimalRat
  simp only [] at h ⊢
  split at h
  · cases h
  · rename_i hne
    rw [if_neg hne]
    split at h
    · simp only [Option.some.injEq, Prod.mk.injEq] at h
      rw [← h.1, ← h.2, ratOf_zero]
    · rename_i c fp hr
      split at h
      · rename_i hc
        rw [if_pos hc]
        simp only [Option.some.injEq, Prod.mk.injEq] at h
        rw [← h.1, ← h.2, digVal_append, ratOf_frac]
      · cases h

theorem isNumeric_rat (s t : Bytes) (h : isNumeric s = true) (ht : EndsNumber t) :
    ∃ v q, parseNumber (s ++ t) = some (v, t) ∧ v.toRat = some q ∧ decimalRat s = some q := by
  obtain ⟨m, e, hp, hd⟩ := isNumeric_parse s t h ht
  exact ⟨_, _, hp, rfl, decimalValue_rat s m e hd⟩

theorem decodesTo_num_rat (m e : Int) (capture : Bytes) (h : decodesTo (.num m e) capture = true) :
    decimalRat capture = some (ratOf m e) := by
  unfold decodesTo at h
  simp only [] at h
  split at h
  · rename_i m' e' hd
    rw [decimalValue_rat capture m' e' hd, sameValue_rat m e m' e' h]
  · cases h

end Rare.C16

import Rare.Proofs.C02Rx
/-! Counted repetition: what the parser's unfolding of `x{n}`, `x{n,}`, `x{n,m}` (`repeatRe`, the shape
`syntax.Simplify` produces) matches is exactly `k` matches of `x` in a row for some `k` in the interval. -/
namespace Rare.C02.Rx

theorem eps_derives (s : Bytes) (i j : Nat) : Derives s .eps i j ↔ i = j :=
  ⟨fun h => by cases h; rfl, fun h => h ▸ .eps i⟩

theorem cat_derives (s : Bytes) (a b : Re) (i k : Nat) :
    Derives s (.cat a b) i k ↔ ∃ j, Derives s a i j ∧ Derives s b j k :=
  ⟨fun h => by cases h with | cat h1 h2 => exact ⟨_, h1, h2⟩, fun ⟨_, h1, h2⟩ => .cat h1 h2⟩

theorem alt_derives (s : Bytes) (a b : Re) (i j : Nat) :
    Derives s (.alt a b) i j ↔ Derives s a i j ∨ Derives s b i j :=
  ⟨fun h => by cases h with | altL h => exact .inl h | altR h => exact .inr h, fun h => h.elim .altL .altR⟩

theorem Pow.le {s : Bytes} {a : Re} {k i j : Nat} (h : Pow s a k i j) : i ≤ j := by
  induction h with
  | zero => exact Nat.le_refl _
  | succ hd _ ih => exact Nat.le_trans hd.le ih

theorem pow_zero (s : Bytes) (a : Re) (i j : Nat) : Pow s a 0 i j ↔ i = j :=
  ⟨fun h => by cases h; rfl, fun h => h ▸ .zero i⟩

theorem pow_succ (s : Bytes) (a : Re) (k i j : Nat) :
    Pow s a (k + 1) i j ↔ ∃ m, Derives s a i m ∧ Pow s a k m j :=
  ⟨fun h => by cases h with | succ hd hp => exact ⟨_, hd, hp⟩, fun ⟨_, hd, hp⟩ => .succ hd hp⟩

/-- a row of `n + k` matches splits after the first `n` -/
theorem pow_add (s : Bytes) (a : Re) (k : Nat) : ∀ n i j,
    Pow s a (n + k) i j ↔ ∃ m, Pow s a n i m ∧ Pow s a k m j := by
  intro n
  induction n with
  | zero => intro i j; simp only [Nat.zero_add, pow_zero, exists_eq_left']
  | succ n ih =>
    intro i j
    simp only [Nat.add_right_comm n 1 k, pow_succ, ih]
    exact ⟨fun ⟨x, h1, m, h2, h3⟩ => ⟨m, ⟨x, h1, h2⟩, h3⟩, fun ⟨m, ⟨x, h1, h2⟩, h3⟩ => ⟨x, h1, m, h2, h3⟩⟩

theorem Pow.append {s : Bytes} {a : Re} {n k i m j : Nat} (h1 : Pow s a n i m) (h2 : Pow s a k m j) :
    Pow s a (n + k) i j :=
  (pow_add s a k n i j).mpr ⟨m, h1, h2⟩

/-- a loop matches `s[i:j]` iff some number of matches of its body in a row do (iterations that match the
empty text add nothing) -/
theorem star_derives (s : Bytes) (g : Bool) (a : Re) (i j : Nat) :
    Derives s (.star g a) i j ↔ ∃ n, Pow s a n i j := by
  constructor
  · intro h
    generalize hr : Re.star g a = r at h
    induction h with
    | eps | cls | look | cat | altL | altR | grp => cases hr
    | starNil g' a' i => exact ⟨0, .zero i⟩
    | starCons hlt h1 h2 _ ih2 =>
      cases hr
      obtain ⟨n, hn⟩ := ih2 rfl
      exact ⟨n + 1, .succ h1 hn⟩
  · rintro ⟨n, hp⟩
    induction hp with
    | zero i => exact .starNil g a i
    | @succ k i j l hd _ ih =>
      by_cases hlt : i < j
      · exact .starCons hlt hd ih
      · have : i = j := Nat.le_antisymm hd.le (Nat.le_of_not_lt hlt)
        subst this
        exact ih

theorem copies_derives (s : Bytes) (a t : Re) : ∀ n i j,
    Derives s (copies a n t) i j ↔ ∃ m, Pow s a n i m ∧ Derives s t m j := by
  intro n
  induction n with
  | zero => intro i j; simp only [copies, pow_zero, exists_eq_left']
  | succ n ih =>
    intro i j
    simp only [copies, cat_derives, ih, pow_succ]
    exact ⟨fun ⟨x, h1, m, h2, h3⟩ => ⟨m, ⟨x, h1, h2⟩, h3⟩, fun ⟨m, ⟨x, h1, h2⟩, h3⟩ => ⟨x, h1, m, h2, h3⟩⟩

theorem optNest_derives (s : Bytes) (g : Bool) (a : Re) : ∀ k i j,
    Derives s (optNest g a k) i j ↔ ∃ n, n ≤ k ∧ Pow s a n i j := by
  intro k
  induction k with
  | zero =>
    intro i j
    simp only [optNest, eps_derives, Nat.le_zero, exists_eq_left, pow_zero]
  | succ k ih =>
    intro i j
    -- at most `k + 1` matches: none, or one and then at most `k`
    have key : (∃ n, n ≤ k + 1 ∧ Pow s a n i j) ↔
        (∃ m, Derives s a i m ∧ ∃ n, n ≤ k ∧ Pow s a n m j) ∨ i = j := by
      constructor
      · rintro ⟨n, hn, hp⟩
        cases n with
        | zero => exact .inr ((pow_zero s a i j).mp hp)
        | succ n =>
          obtain ⟨m, h1, hp'⟩ := (pow_succ s a n i j).mp hp
          exact .inl ⟨m, h1, n, by omega, hp'⟩
      · rintro (⟨m, h1, n, hn, hp⟩ | rfl)
        · exact ⟨n + 1, by omega, .succ h1 hp⟩
        · exact ⟨0, by omega, .zero i⟩
    cases g
    · simp only [optNest, Bool.false_eq_true, if_false, alt_derives, cat_derives, eps_derives, ih, key, or_comm]
    · simp only [optNest, if_true, alt_derives, cat_derives, eps_derives, ih, key]

/-- `n` copies and then a tail that matches `d` more for exactly the `d` with `Q d`: `n + d` matches in all -/
theorem copies_tail (s : Bytes) (a t : Re) (Q : Nat → Prop) (n : Nat)
    (ht : ∀ m j, Derives s t m j ↔ ∃ d, Q d ∧ Pow s a d m j) (i j : Nat) :
    Derives s (copies a n t) i j ↔ ∃ d, Q d ∧ Pow s a (n + d) i j := by
  simp only [copies_derives, ht, pow_add]
  exact ⟨fun ⟨m, h1, d, hq, h2⟩ => ⟨d, hq, m, h1, h2⟩, fun ⟨d, hq, m, h1, h2⟩ => ⟨m, h1, d, hq, h2⟩⟩

/-- `x{n,m}` (`n ≤ m`) -/
theorem repeat_bounded_derives (s : Bytes) (g : Bool) (a : Re) (n m i j : Nat) (hnm : n ≤ m) :
    Derives s (repeatRe g a n (some m)) i j ↔ ∃ k, n ≤ k ∧ k ≤ m ∧ Pow s a k i j := by
  rw [repeatRe, copies_tail s a _ (· ≤ m - n) n (optNest_derives s g a (m - n))]
  constructor
  · rintro ⟨d, hd, hp⟩
    exact ⟨n + d, by omega, by omega, hp⟩
  · rintro ⟨k, h1, h2, hp⟩
    obtain ⟨d, rfl⟩ := Nat.exists_eq_add_of_le h1
    exact ⟨d, by omega, hp⟩

/-- `x{n,}` -/
theorem repeat_open_derives (s : Bytes) (g : Bool) (a : Re) (n i j : Nat) :
    Derives s (repeatRe g a n none) i j ↔ ∃ k, n ≤ k ∧ Pow s a k i j := by
  rw [repeatRe, copies_tail s a _ (fun _ => True) n (fun m j => by simp only [star_derives, true_and])]
  constructor
  · rintro ⟨d, _, hp⟩
    exact ⟨n + d, Nat.le_add_right n d, hp⟩
  · rintro ⟨k, h1, hp⟩
    obtain ⟨d, rfl⟩ := Nat.exists_eq_add_of_le h1
    exact ⟨d, trivial, hp⟩

end Rare.C02.Rx

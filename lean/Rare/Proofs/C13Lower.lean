import Rare.Model.C13Lower
import Rare.Proofs.C09Utf8
/-! C13: `foldLower` / `lowerK` are look-up equivalent to the modelled `strings.ToLower`
(`goToLower tl`, any `tl` meeting `RuneLower`) – for ALL byte strings, well-formed UTF-8 or not. -/
namespace Rare.C13
open Rare
open Rare.C20 (decodeUtf8 encodeRune decode1)
open Rare.C09 (decode1_good decode1_bad seqLen)

/-- some byte of the string is not ASCII -/
def HasHigh (l : Bytes) : Prop := ∃ b ∈ l, 128 ≤ b.toNat

theorem hasHigh_append_left {a : Bytes} (b : Bytes) (h : HasHigh a) : HasHigh (a ++ b) := by
  obtain ⟨x, hx, hb⟩ := h
  exact ⟨x, List.mem_append_left _ hx, hb⟩

theorem hasHigh_append_right (a : Bytes) {b : Bytes} (h : HasHigh b) : HasHigh (a ++ b) := by
  obtain ⟨x, hx, hb⟩ := h
  exact ⟨x, List.mem_append_right _ hx, hb⟩

theorem not_hasHigh_of_ascii {l : Bytes} (h : l.all (fun c => c < 128) = true) : ¬ HasHigh l := by
  intro ⟨b, hb, h128⟩
  rw [List.all_eq_true] at h
  have := h b hb
  simp only [decide_eq_true_eq, UInt8.lt_iff_toNat_lt] at this
  have e : (128 : UInt8).toNat = 128 := rfl
  omega

/-- `WriteRune` of a non-ASCII rune starts with a non-ASCII byte. -/
theorem encodeRune_hasHigh (r : Nat) (h : 128 ≤ r) : HasHigh (encodeRune r) := by
  unfold encodeRune
  have h1 : ¬ r < 0x80 := by omega
  rw [if_neg h1]
  split
  · refine ⟨_, List.mem_cons_self .., ?_⟩
    rw [UInt8.toNat_ofNat']; omega
  · split
    · exact ⟨0xEF, List.mem_cons_self .., by decide⟩
    · split
      · refine ⟨_, List.mem_cons_self .., ?_⟩
        rw [UInt8.toNat_ofNat']; omega
      · refine ⟨_, List.mem_cons_self .., ?_⟩
        rw [UInt8.toNat_ofNat']; omega

theorem encodeRune_small (r : Nat) (h : r < 128) : encodeRune r = [UInt8.ofNat r] := by
  simp [encodeRune, h]

theorem lowerB_toNat (c : UInt8) (h : c.toNat < 128) :
    UInt8.ofNat (if 65 ≤ c.toNat ∧ c.toNat ≤ 90 then c.toNat + 32 else c.toNat) = lowerB c := by
  unfold lowerB
  have e65 : (65 : UInt8).toNat = 65 := rfl
  have e90 : (90 : UInt8).toNat = 90 := rfl
  by_cases hc : 65 ≤ c.toNat ∧ c.toNat ≤ 90
  · have hc' : 65 ≤ c ∧ c ≤ 90 := by
      simp only [UInt8.le_iff_toNat_le]; omega
    rw [if_pos hc, if_pos hc']
    apply UInt8.toNat_inj.mp
    rw [UInt8.toNat_ofNat', UInt8.toNat_add]
    rfl
  · have hc' : ¬ (65 ≤ c ∧ c ≤ 90) := by
      simp only [UInt8.le_iff_toNat_le]; omega
    rw [if_neg hc, if_neg hc']
    simp

theorem goMap_cons (tl : Nat → Nat) (b0 : UInt8) (t : Bytes) :
    goMap tl (b0 :: t) = encodeRune (tl (decode1 (b0 :: t)).1) ++ goMap tl (t.drop ((decode1 (b0 :: t)).2 - 1)) := by
  unfold goMap
  rw [Rare.C20.decodeUtf8_cons, List.flatMap_cons]

theorem lt128_iff (c : UInt8) : c < 128 ↔ c.toNat < 128 := by
  rw [UInt8.lt_iff_toNat_lt]; rfl

theorem goMap_ascii {tl : Nat → Nat} (h : RuneLower tl) (c : UInt8) (r : Bytes) (hc : c < 128) :
    goMap tl (c :: r) = lowerB c :: goMap tl r := by
  rw [lt128_iff] at hc
  have hd : decode1 (c :: r) = (c.toNat, 1) := by simp [decode1, hc]
  rw [goMap_cons, hd, h.ascii _ hc, encodeRune_small _ (by split <;> omega), lowerB_toNat c hc]
  rfl

theorem goMap_dotI {tl : Nat → Nat} (h : RuneLower tl) (r : Bytes) :
    goMap tl (0xC4 :: 0xB0 :: r) = 105 :: goMap tl r := by
  have hd : decode1 (0xC4 :: 0xB0 :: r) = (0x130, 2) := rfl
  rw [goMap_cons, hd, h.dotI]
  rfl

theorem goMap_kelvin {tl : Nat → Nat} (h : RuneLower tl) (r : Bytes) :
    goMap tl (0xE2 :: 0x84 :: 0xAA :: r) = 107 :: goMap tl r := by
  have hd : decode1 (0xE2 :: 0x84 :: 0xAA :: r) = (0x212A, 3) := rfl
  rw [goMap_cons, hd, h.kelvin]
  rfl

/-- A non-ASCII lead byte is never read as an ASCII rune, and the two runes that lower-case into ASCII
are read from `C4 B0` and `E2 84 AA` only: a rune read from a well-formed sequence re-encodes to it. -/
theorem decode1_nonAscii (c : UInt8) (r : Bytes) (hc : ¬ c < 128) :
    128 ≤ (decode1 (c :: r)).1
    ∧ ((decode1 (c :: r)).1 = 0x130 → c = 0xC4 ∧ ∃ r', r = 0xB0 :: r')
    ∧ ((decode1 (c :: r)).1 = 0x212A → c = 0xE2 ∧ ∃ r', r = 0x84 :: 0xAA :: r') := by
  by_cases h0 : seqLen (c :: r) = 0
  · rw [decode1_bad c r h0]
    exact ⟨by decide, fun e => absurd e (by decide), fun e => absurd e (by decide)⟩
  · have hpre : c :: r = encodeRune (decode1 (c :: r)).1 ++ (c :: r).drop (seqLen (c :: r)) := by
      rw [(decode1_good c r h0).2.1, List.take_append_drop]
    refine ⟨Nat.le_of_not_lt fun hlt => hc ?_, fun e => ?_, fun e => ?_⟩
    · rw [encodeRune_small _ hlt] at hpre
      rw [(List.cons.inj hpre).1, lt128_iff, UInt8.toNat_ofNat']
      omega
    · have enc : encodeRune 0x130 = [0xC4, 0xB0] := by decide
      rw [e, enc] at hpre
      exact ⟨(List.cons.inj hpre).1, _, (List.cons.inj hpre).2⟩
    · have enc : encodeRune 0x212A = [0xE2, 0x84, 0xAA] := by decide
      rw [e, enc] at hpre
      exact ⟨(List.cons.inj hpre).1, _, (List.cons.inj hpre).2⟩

/-- Bytes that start with a non-ASCII byte other than `C4 B0` and `E2 84 AA`: the first rune written is not ASCII. -/
theorem goMap_hasHigh {tl : Nat → Nat} (h : RuneLower tl) (c : UInt8) (r : Bytes) (hc : ¬ c < 128)
    (hI : c = 0xC4 → ∀ r', r ≠ 0xB0 :: r') (hK : c = 0xE2 → ∀ r', r ≠ 0x84 :: 0xAA :: r') :
    HasHigh (goMap tl (c :: r)) := by
  obtain ⟨h128, h130, h212A⟩ := decode1_nonAscii c r hc
  rw [goMap_cons]
  refine hasHigh_append_left _ (encodeRune_hasHigh _ (h.other _ h128 (fun e => ?_) (fun e => ?_)))
  · obtain ⟨e0, r', e1⟩ := h130 e
    exact hI e0 r' e1
  · obtain ⟨e0, r', e1⟩ := h212A e
    exact hK e0 r' e1

theorem fold_cons (c : UInt8) (m : Bytes) : ∀ o : Option Bytes,
    (match o with
      | some l => m = l
      | none => HasHigh m) →
    match o.map (c :: ·) with
      | some l => c :: m = l
      | none => HasHigh (c :: m)
  | some _, ih => congrArg (c :: ·) ih
  | none, ih => hasHigh_append_right [c] ih

/-- What `foldLower` says about `strings.Map(unicode.ToLower, ·)`, for every byte string. -/
theorem goMap_fold (tl : Nat → Nat) (h : RuneLower tl) (k : Bytes) :
    match foldLower k with
    | some l => goMap tl k = l
    | none => HasHigh (goMap tl k) := by
  fun_induction foldLower k with
  | case1 => rfl
  | case2 c r hc ih => rw [goMap_ascii h c r hc]; exact fold_cons _ _ _ ih
  | case3 r _ ih => rw [goMap_dotI h]; exact fold_cons _ _ _ ih
  | case4 d r hd hc => exact goMap_hasHigh h _ _ hc (fun _ r' e => hd (List.cons.inj e).1) (fun e => absurd e (by decide))
  | case5 hc => exact goMap_hasHigh h _ _ hc (fun _ _ e => nomatch e) (fun e => absurd e (by decide))
  | case6 d e r hde _ _ ih => rw [hde.1, hde.2, goMap_kelvin h]; exact fold_cons _ _ _ ih
  | case7 d e r hde hc _ =>
    refine goMap_hasHigh h _ _ hc (fun e => absurd e (by decide)) (fun _ r' e' => hde ?_)
    exact ⟨(List.cons.inj e').1, (List.cons.inj (List.cons.inj e').2).1⟩
  | case8 r hr hc _ => exact goMap_hasHigh h _ _ hc (fun e => absurd e (by decide)) (fun _ r' e => hr _ _ _ e)
  | case9 c r hc h4 h2 => exact goMap_hasHigh h c r hc (fun e => absurd e h4) (fun e => absurd e h2)

theorem foldLower_ascii (k : Bytes) (h : k.all (fun c => c < 128) = true) : foldLower k = some (k.map lowerB) := by
  fun_induction foldLower k with
  | case1 => rfl
  | case2 c r _ ih =>
    simp only [List.all_cons, Bool.and_eq_true] at h
    rw [ih h.2]
    rfl
  | case9 c r hc => simp [hc] at h
  | case3 | case4 | case5 | case6 | case7 | case8 => simp at h

theorem map_lowerB_noUpper : ∀ k : Bytes, k.any (fun c => 65 ≤ c ∧ c ≤ 90) = false → k.map lowerB = k
  | [], _ => rfl
  | c :: r, h => by
    simp only [List.any_cons, Bool.or_eq_false_iff, decide_eq_false_iff_not] at h
    rw [List.map_cons, map_lowerB_noUpper r h.2, lowerB, if_neg h.1]

/-- How a `some` answer of `foldLower` arises. -/
theorem foldLower_some_view (c : UInt8) (r l : Bytes) (h : foldLower (c :: r) = some l) :
    (c < 128 ∧ ∃ l', foldLower r = some l' ∧ l = lowerB c :: l') ∨
    (∃ r' l', c = 0xC4 ∧ r = 0xB0 :: r' ∧ foldLower r' = some l' ∧ l = 105 :: l') ∨
    (∃ r' l', c = 0xE2 ∧ r = 0x84 :: 0xAA :: r' ∧ foldLower r' = some l' ∧ l = 107 :: l') := by
  generalize hk : c :: r = k at h
  revert h
  fun_cases foldLower k with
  | case1 => cases hk
  | case2 _ _ hc =>
    cases hk
    intro h
    obtain ⟨l', hr, e⟩ := Option.map_eq_some_iff.mp h
    exact Or.inl ⟨hc, l', hr, e.symm⟩
  | case3 r' =>
    cases hk
    intro h
    obtain ⟨l', hr, e⟩ := Option.map_eq_some_iff.mp h
    exact Or.inr (Or.inl ⟨r', l', rfl, rfl, hr, e.symm⟩)
  | case6 d e r' hde =>
    cases hk
    intro h
    obtain ⟨l', hr, e'⟩ := Option.map_eq_some_iff.mp h
    exact Or.inr (Or.inr ⟨r', l', rfl, by rw [hde.1, hde.2], hr, e'.symm⟩)
  | case4 | case5 | case7 | case8 | case9 => exact fun h => nomatch h

theorem lowerB_lt (c : UInt8) (hc : c < 128) : lowerB c < 128 := by
  unfold lowerB
  split
  · rename_i hh
    have h2 := hh.2
    rw [UInt8.le_iff_toNat_le] at h2
    have e90 : (90 : UInt8).toNat = 90 := rfl
    have e32 : (32 : UInt8).toNat = 32 := rfl
    rw [lt128_iff, UInt8.toNat_add]
    omega
  · exact hc

theorem foldLower_isAscii (k l : Bytes) (h : foldLower k = some l) : l.all (fun c => c < 128) = true := by
  fun_induction foldLower k generalizing l with
  | case1 => cases h; rfl
  | case2 c r hc ih =>
    obtain ⟨l', hr, rfl⟩ := Option.map_eq_some_iff.mp h
    simp [lowerB_lt c hc, ih l' hr]
  | case3 r _ ih =>
    obtain ⟨l', hr, rfl⟩ := Option.map_eq_some_iff.mp h
    simp [ih l' hr]
  | case6 d e r _ _ _ ih =>
    obtain ⟨l', hr, rfl⟩ := Option.map_eq_some_iff.mp h
    simp [ih l' hr]
  | case4 | case5 | case7 | case8 | case9 => cases h

/-- `strings.ToLower` against `foldLower`, for every byte string: either the result is the ASCII
string `foldLower` computes, or it contains a non-ASCII byte and `foldLower` says `none`. -/
theorem goToLower_fold (tl : Nat → Nat) (h : RuneLower tl) (k : Bytes) :
    match foldLower k with
    | some l => goToLower tl k = l
    | none => HasHigh (goToLower tl k) := by
  unfold goToLower
  simp only
  by_cases ha : k.all (fun c => c < 128) = true
  · rw [if_pos ha, foldLower_ascii k ha]
    simp only
    cases hu : k.any (fun c => 65 ≤ c ∧ c ≤ 90) with
    | false => simp [map_lowerB_noUpper k hu]
    | true => simp
  · rw [if_neg ha]
    exact goMap_fold tl h k

/-- **Look-up equivalence**: comparing `strings.ToLower(k)` with an ASCII constant is comparing
`lowerK k` with it. -/
theorem lower_lookup (tl : Nat → Nat) (h : RuneLower tl) (k c : Bytes) (hc : c.all (fun x => x < 128) = true) :
    goToLower tl k = c ↔ lowerK k = c := by
  have hf := goToLower_fold tl h k
  unfold lowerK
  cases hk : foldLower k with
  | some l =>
    rw [hk] at hf
    simp only at hf
    rw [hf]
    rfl
  | none =>
    rw [hk] at hf
    simp only at hf
    simp only [Option.getD_none]
    have hkhigh : ¬ k.all (fun c => c < 128) = true := by
      intro ha
      rw [foldLower_ascii k ha] at hk
      cases hk
    constructor
    · intro e; rw [e] at hf; exact absurd hf (not_hasHigh_of_ascii hc)
    · intro e; rw [e] at hkhigh; exact absurd hc hkhigh

end Rare.C13

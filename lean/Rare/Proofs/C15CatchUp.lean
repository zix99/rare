import Rare.Proofs.C15Replace
import Rare.Proofs.C15PollLive
/-!
C15 – catching up: with a silent writer the fsnotify goroutine and the reader reach a state in which the file
at the path is open and read to its end – in place (any mode) and, with re-open, after any rotation.
-/
namespace Rare.Follow
open Rare.C15.Spec

variable {β : Type} {cfg : NCfg} {ex : Bool} {st0 : Nat}

/-- the reader has the file at the path open and has read all of it -/
def caughtUp (s : NSt β) (j : Nat) : Prop := ∃ x, s.f = some x ∧ x.ino = j ∧ unread s.fs x = []

/-- Why the reader keeps the file it has open: re-open follow compares it with the path when a delete signal
    arrives; in place (file present at the start, nothing removed) no delete signal exists. -/
def Stays (cfg : NCfg) (ex : Bool) (s : NSt β) : Prop := cfg.reopen = true ∨ (ex = true ∧ s.removes = 0)

/-- With the file at the path open, every step of goroutine / reader keeps it open and decreases `nmuP`. -/
theorem onpath_step {w : Who} {s s' : NSt β} (h : NInv cfg ex st0 s) (hw : w ≠ .writer) (hs : NStep cfg w s s')
    (j : Nat) (hp : s.fs.path = some j) (hon : onPath s j) (hst : Stays cfg ex s) :
    onPath s' j ∧ nmuP s' < nmuP s := by
  rcases sys_step_nmuP hw hs with ⟨hlt, hkeep | ⟨hre, hpd⟩⟩ | ⟨_, hsf, _⟩
  · exact ⟨hkeep j hon, hlt⟩
  · exfalso
    rcases hst with h1 | ⟨h1, h2⟩
    · rw [h1] at hre; cases hre
    · rcases h.dSig (Or.inl hpd) with h3 | ⟨h3, _⟩
      · omega
      · rw [hre] at h3; cases h3
  · rw [(sameFile_iff_onPath hp).mpr hon] at hsf; cases hsf

theorem catch_up (hW : 1 ≤ cfg.capW) (hD : 1 ≤ cfg.capD) (j : Nat) {s : NSt β} (h : NInv cfg ex st0 s)
    (hp : s.fs.path = some j) (hon : onPath s j) (hst : Stays cfg ex s) :
    ∃ s', NSysReach cfg s s' ∧ NInv cfg ex st0 s' ∧ s'.fs = s.fs ∧ s'.removes = s.removes ∧ caughtUp s' j := by
  have := sys_descent hW hD (P := fun t => t.fs.path = some j ∧ onPath t j ∧ Stays cfg ex t)
    (G := fun t => caughtUp t j) nmuP ?_ h ⟨hp, hon, hst⟩
  · obtain ⟨s', hr', hi', hc⟩ := this
    obtain ⟨_, hfs, hrm⟩ := sysreach_inv hW hD hr' h
    exact ⟨s', hr', hi', hfs, hrm, hc⟩
  · rintro t ht ⟨htp, ⟨x, hfx, hxj⟩, htst⟩ hnc
    have hu : unread t.fs x ≠ [] := fun hu => hnc ⟨x, hfx, hxj, hu⟩
    have hne : t.rd ≠ .ended := by
      intro he
      have := ht.ended he
      rcases htst with h1 | ⟨_, h2⟩
      · rw [this.1] at h1; cases h1
      · omega
    obtain ⟨w, t', hw, hs⟩ := unread_progress ht x hfx hu hne
    obtain ⟨hon', hlt⟩ := onpath_step ht hw hs j htp ⟨x, hfx, hxj⟩ htst
    obtain ⟨hfs, hrm, _⟩ := sys_step_cases hw hs
    exact ⟨t', .step hw hs (.refl _), Or.inr ⟨⟨by rw [hfs]; exact htp, hon',
      htst.imp_right fun ⟨a, b⟩ => ⟨a, by rw [hrm]; exact b⟩⟩, hlt⟩⟩

/-- Re-open follow: from any state satisfying the invariant, the file at the path ends up open and read to its end. -/
theorem reopen_catch_up (hW : 1 ≤ cfg.capW) (hD : 1 ≤ cfg.capD) (hre : cfg.reopen = true) {s : NSt β}
    (h : NInv cfg ex st0 s) (j : Nat) (hp : s.fs.path = some j) :
    ∃ s', NSysReach cfg s s' ∧ NInv cfg ex st0 s' ∧ s'.fs = s.fs ∧ s'.removes = s.removes ∧ caughtUp s' j := by
  obtain ⟨s1, hr1, hon1⟩ := eventually_reopened hW hD hre j h hp
  obtain ⟨hi1, hfs1, hrm1⟩ := sysreach_inv hW hD hr1 h
  obtain ⟨s2, hr2, hi2, hfs2, hrm2, hc2⟩ := catch_up hW hD j hi1 (by rw [hfs1]; exact hp) hon1 (Or.inl hre)
  exact ⟨s2, hr1.trans hr2, hi2, by rw [hfs2, hfs1], by rw [hrm2, hrm1], hc2⟩

/-! ### the polling reader -/

/-- The polling reader, the file in place, the writer silent: the reader reads the file to its end. -/
theorem poll_catch_up {cfg : PCfg} (hA : 1 ≤ cfg.attempts) (he : ex = true) {s : PSt β} (h : PInv cfg ex st0 s)
    (hr : s.removes = 0) :
    ∃ s', PSysReach cfg s s' ∧ PInv cfg ex st0 s' ∧ s'.fs = s.fs ∧ s'.removes = 0 ∧
      s'.readBytes = (s.fs.content 0).length := by
  have := poll_descent (P := fun t => t.removes = 0 ∧ t.fs = s.fs)
    (G := fun t => t.readBytes = (s.fs.content 0).length) (fun t => (s.fs.content 0).length - t.readBytes) ?_ h
    ⟨hr, rfl⟩
  · obtain ⟨s', hr', hi', hg⟩ := this
    obtain ⟨_, hfs, hrm⟩ := psysreach_inv hr' h
    exact ⟨s', hr', hi', hfs, by rw [hrm]; exact hr, hg⟩
  · rintro t ht ⟨htr, htfs⟩ hng
    obtain ⟨hle, hlen, _⟩ := (ht.inPlaceOK he htr).2
    have hu : unread t.fs ⟨0, st0, t.readBytes⟩ ≠ [] := by
      simp only [unread, ne_eq, List.drop_eq_nil_iff]; rw [htfs] at hlen ⊢; omega
    obtain ⟨t', bs, hr1, hb, hd⟩ := poll_eventually_delivered hA he ht htr hu
    obtain ⟨hi1, hfs1, hrm1⟩ := psysreach_inv hr1 ht
    have htr' : t'.removes = 0 := by rw [hrm1]; exact htr
    refine ⟨t', hr1, Or.inr ⟨⟨htr', by rw [hfs1]; exact htfs⟩, ?_⟩⟩
    -- the offset is the start position plus the number of bytes delivered, and that number has grown
    have hl := (inplace_prefix _ _ _ _ (ht.inPlaceOK he htr).2).2
    have hl1 := (inplace_prefix _ _ _ _ (hi1.inPlaceOK he htr').2).2
    have hle1 := (hi1.inPlaceOK he htr').2.1
    have hbl : 0 < bs.length := List.length_pos_iff.mpr hb
    rw [hd, List.length_append] at hl1
    rw [htfs] at hlen
    omega

end Rare.Follow

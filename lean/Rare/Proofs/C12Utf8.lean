import Rare.Proofs.C12Ext
/-!
Dissect on UTF-8 text: when the line and the literals of the pattern are (structurally) valid UTF-8,
every offset of a result lies on a CHARACTER boundary of the line – no capture and no `{0}` ever
splits a multi-byte character – in both modes.

`Utf8 b` is STRUCTURAL validity: `b` is a sequence of characters, each a lead byte followed by exactly
the number of continuation bytes (`10xxxxxx`) the lead byte announces (`0xxxxxxx` 0, `110xxxxx` 1,
`1110xxxx` 2, `11110xxx` 3).  Real UTF-8 validity (no overlong forms, no surrogates, ≤ U+10FFFF) is
stronger, so every valid UTF-8 string satisfies `Utf8` and the theorems cover a larger class.
`Boundary b i`: position `i` splits `b` into two `Utf8` strings.

The reason is the self-synchronisation of UTF-8: a valid non-empty needle starts with a lead byte,
every byte inside a character of the hay is a continuation byte, so an occurrence can only start at a
character boundary – and then needle and hay decode in lock-step, so it also ends at one.  The
ASCII fold of ignore-case changes single-byte characters only, hence keeps structure and boundaries.
-/
namespace Rare.C12

/-- continuation byte `10xxxxxx` -/
def isCont (c : UInt8) : Prop := 128 ≤ c.toNat ∧ c.toNat < 192

instance (c : UInt8) : Decidable (isCont c) := by unfold isCont; exact inferInstance

/-- number of continuation bytes a lead byte announces; `none` for a byte that cannot start a character -/
def leadLen (c : UInt8) : Option Nat :=
  if c.toNat < 128 then some 0 else if c.toNat < 192 then none else if c.toNat < 224 then some 1
  else if c.toNat < 240 then some 2 else if c.toNat < 248 then some 3 else none

/-- structurally valid UTF-8: a sequence of (lead byte, announced number of continuation bytes) -/
inductive Utf8 : Bytes → Prop
  | nil : Utf8 []
  | char (c : UInt8) (k : Nat) (conts rest : Bytes) : leadLen c = some k → conts.length = k →
      (∀ x ∈ conts, isCont x) → Utf8 rest → Utf8 (c :: (conts ++ rest))

/-- position `i` is a character boundary of `b` -/
def Boundary (b : Bytes) (i : Nat) : Prop := i ≤ b.length ∧ Utf8 (b.take i) ∧ Utf8 (b.drop i)

theorem Utf8.append {a b : Bytes} (ha : Utf8 a) (hb : Utf8 b) : Utf8 (a ++ b) := by
  induction ha with
  | nil => simpa using hb
  | char c k conts rest h1 h2 h3 _ ih =>
    have : c :: (conts ++ rest) ++ b = c :: (conts ++ (rest ++ b)) := by simp
    rw [this]; exact Utf8.char c k conts (rest ++ b) h1 h2 h3 ih

theorem lead_not_cont {c : UInt8} {k : Nat} (h : leadLen c = some k) : ¬ isCont c := by
  unfold leadLen at h
  unfold isCont
  intro ⟨h1, h2⟩
  rw [if_neg (by omega), if_pos h2] at h
  cases h

theorem Boundary.zero {b : Bytes} (h : Utf8 b) : Boundary b 0 :=
  ⟨by omega, by simpa using Utf8.nil, by simpa using h⟩

theorem Boundary.len {b : Bytes} (h : Utf8 b) : Boundary b b.length :=
  ⟨Nat.le_refl _, by simpa using h, by simpa using Utf8.nil⟩

theorem Boundary.add {b : Bytes} {i m : Nat} (hi : Boundary b i) (hm : Boundary (b.drop i) m) :
    Boundary b (i + m) := by
  obtain ⟨h1, h2, _⟩ := hi
  obtain ⟨g1, g2, g3⟩ := hm
  refine ⟨by simp at g1; omega, ?_, ?_⟩
  · rw [List.take_add]; exact h2.append g2
  · rw [List.drop_drop] at g3; exact g3

theorem Boundary.cons_char {c : UInt8} {k : Nat} {conts rest : Bytes} (h1 : leadLen c = some k)
    (h2 : conts.length = k) (h3 : ∀ x ∈ conts, isCont x) {m : Nat} (hb : Boundary rest m) :
    Boundary (c :: (conts ++ rest)) (1 + conts.length + m) := by
  obtain ⟨g1, g2, g3⟩ := hb
  have e : 1 + conts.length + m = (conts.length + m) + 1 := by omega
  refine ⟨by simp; omega, ?_, ?_⟩
  · have : (c :: (conts ++ rest)).take (1 + conts.length + m) = c :: (conts ++ rest.take m) := by
      rw [e, List.take_succ_cons, List.take_length_add_append]
    rw [this]; exact Utf8.char c k conts _ h1 h2 h3 g2
  · have : (c :: (conts ++ rest)).drop (1 + conts.length + m) = rest.drop m := by
      rw [e, List.drop_succ_cons, List.drop_length_add_append]
    rw [this]; exact g3

/-- needle and hay decode in lock-step: what follows an occurrence at the start is valid again -/
theorem utf8_prefix_rest {needle : Bytes} (hn : Utf8 needle) :
    ∀ {hay : Bytes}, Utf8 hay → needle <+: hay → Utf8 (hay.drop needle.length) := by
  induction hn with
  | nil => intro hay hh _; simpa using hh
  | char c k conts rest h1 h2 h3 _ ih =>
    intro hay hh hp
    cases hh with
    | nil => simp at hp
    | char c' k' conts' rest' g1 g2 g3 g4 =>
      obtain ⟨t, ht⟩ := hp
      simp only [List.cons_append, List.cons.injEq] at ht
      obtain ⟨hc, ht⟩ := ht
      subst hc
      have hk : k = k' := by rw [h1] at g1; exact Option.some.inj g1
      have hl : conts.length = conts'.length := by omega
      rw [List.append_assoc] at ht
      obtain ⟨e1, e2⟩ := List.append_inj ht hl
      subst e1
      have hpre : rest <+: rest' := ⟨t, e2⟩
      have hr := ih g4 hpre
      have : (c :: (conts ++ rest')).drop (c :: (conts ++ rest)).length = rest'.drop rest.length := by
        simp only [List.length_cons, List.length_append, List.drop_succ_cons]
        rw [List.drop_length_add_append]
      rw [this]; exact hr

/-- **Self-synchronisation**: an occurrence of a valid non-empty needle in a valid hay starts and ends
on character boundaries of the hay. -/
theorem utf8_occurrence {hay : Bytes} (hh : Utf8 hay) {needle : Bytes} (hn : Utf8 needle) (hne : needle ≠ []) :
    ∀ i, needle <+: hay.drop i → Boundary hay i ∧ Boundary hay (i + needle.length) := by
  induction hh with
  | nil =>
    intro i hp
    simp only [List.drop_nil, List.prefix_nil] at hp
    exact absurd hp hne
  | char c k conts rest h1 h2 h3 h4 ih =>
    intro i hp
    have hall : Utf8 (c :: (conts ++ rest)) := Utf8.char c k conts rest h1 h2 h3 h4
    cases i with
    | zero =>
      refine ⟨Boundary.zero hall, ?_⟩
      simp only [List.drop_zero] at hp
      rw [Nat.zero_add]
      refine ⟨hp.length_le, ?_, utf8_prefix_rest hn hall hp⟩
      rw [← List.prefix_iff_eq_take.mp hp]; exact hn
    | succ j =>
      simp only [List.drop_succ_cons] at hp
      by_cases hj : j < conts.length
      · exfalso
        obtain ⟨n0, nt, rfl⟩ := List.exists_cons_of_ne_nil hne
        have hnc : ¬ isCont n0 := by
          cases hn with
          | char _ k' _ _ g1 _ _ _ => exact lead_not_cont g1
        obtain ⟨t, ht⟩ := hp
        have h0 : ((conts ++ rest).drop j)[0]? = some n0 := by rw [← ht]; simp
        rw [List.getElem?_drop, List.getElem?_append_left (by omega)] at h0
        exact hnc (h3 n0 (List.mem_of_getElem? h0))
      · have hd : (conts ++ rest).drop j = rest.drop (j - conts.length) := by
          rw [List.drop_append, List.drop_of_length_le (by omega)]; simp
        rw [hd] at hp
        obtain ⟨b1, b2⟩ := ih (j - conts.length) hp
        have e1 : j + 1 = 1 + conts.length + (j - conts.length) := by omega
        have e2 : j + 1 + needle.length = 1 + conts.length + (j - conts.length + needle.length) := by omega
        rw [e2, e1]
        exact ⟨Boundary.cons_char h1 h2 h3 b1, Boundary.cons_char h1 h2 h3 b2⟩

/-! ### the ASCII fold keeps structure -/

theorem leadLen_lowerByte (c : UInt8) : leadLen (lowerByte c) = leadLen c := by
  unfold leadLen
  rw [lowerByte_toNat]
  by_cases h : 65 ≤ c.toNat ∧ c.toNat ≤ 90
  · rw [if_pos h, if_pos (by omega), if_pos (by omega)]
  · rw [if_neg h]

theorem isCont_lowerByte (c : UInt8) : isCont (lowerByte c) ↔ isCont c := by
  unfold isCont
  rw [lowerByte_toNat]
  by_cases h : 65 ≤ c.toNat ∧ c.toNat ≤ 90
  · rw [if_pos h]; omega
  · rw [if_neg h]

/-! ### a checker: decides `Utf8`, and shows that only `leadLen` and `isCont` of the bytes matter -/

/-- one pass with the number of continuation bytes still owed -/
def utf8Chk : Nat → Bytes → Bool
  | 0, [] => true
  | _ + 1, [] => false
  | 0, c :: t => match leadLen c with | none => false | some k => utf8Chk k t
  | k + 1, c :: t => decide (isCont c) && utf8Chk k t

theorem utf8Chk_sound : ∀ (b : Bytes) (k : Nat), utf8Chk k b = true →
    ∃ conts rest, b = conts ++ rest ∧ conts.length = k ∧ (∀ x ∈ conts, isCont x) ∧ Utf8 rest := by
  intro b
  induction b with
  | nil =>
    intro k h
    cases k with
    | zero => exact ⟨[], [], rfl, rfl, by simp, Utf8.nil⟩
    | succ k => simp [utf8Chk] at h
  | cons c t ih =>
    intro k h
    cases k with
    | zero =>
      refine ⟨[], c :: t, rfl, rfl, by simp, ?_⟩
      simp only [utf8Chk] at h
      cases hl : leadLen c with
      | none => rw [hl] at h; cases h
      | some k' =>
        rw [hl] at h
        obtain ⟨conts, rest, e, h2, h3, h4⟩ := ih k' h
        rw [e]; exact Utf8.char c k' conts rest hl h2 h3 h4
    | succ k =>
      simp only [utf8Chk, Bool.and_eq_true, decide_eq_true_eq] at h
      obtain ⟨conts, rest, e, h2, h3, h4⟩ := ih k h.2
      refine ⟨c :: conts, rest, by rw [e]; rfl, by simp [h2], ?_, h4⟩
      intro x hx
      rcases List.mem_cons.mp hx with rfl | hx
      · exact h.1
      · exact h3 x hx

theorem utf8Chk_conts {conts : Bytes} (h : ∀ x ∈ conts, isCont x) (rest : Bytes) :
    utf8Chk conts.length (conts ++ rest) = utf8Chk 0 rest := by
  induction conts with
  | nil => rfl
  | cons x xs ih =>
    simp only [List.length_cons, List.cons_append, utf8Chk, h x (by simp), decide_true, Bool.true_and]
    exact ih fun y hy => h y (by simp [hy])

theorem utf8Chk_iff {b : Bytes} : utf8Chk 0 b = true ↔ Utf8 b := by
  constructor
  · intro h
    obtain ⟨conts, rest, e, h2, _, h4⟩ := utf8Chk_sound b 0 h
    have : conts = [] := List.length_eq_zero_iff.mp h2
    subst this; rw [e]; exact h4
  · intro h
    induction h with
    | nil => rfl
    | char c k conts rest h1 h2 h3 _ ih =>
      simp only [utf8Chk, h1]
      rw [← h2, utf8Chk_conts h3]; exact ih

theorem utf8_of_chk {b : Bytes} (h : utf8Chk 0 b = true) : Utf8 b := utf8Chk_iff.mp h

theorem utf8Chk_lower : ∀ (b : Bytes) (k : Nat), utf8Chk k (lower b) = utf8Chk k b := by
  intro b
  induction b with
  | nil => intro k; rfl
  | cons c t ih =>
    intro k
    have ih' : ∀ k, utf8Chk k (t.map lowerByte) = utf8Chk k t := ih
    cases k with
    | zero => simp only [lower, List.map_cons, utf8Chk, leadLen_lowerByte, ih']
    | succ k => simp only [lower, List.map_cons, utf8Chk, isCont_lowerByte, ih']

theorem utf8_lower_iff (b : Bytes) : Utf8 (lower b) ↔ Utf8 b := by
  rw [← utf8Chk_iff, ← utf8Chk_iff, utf8Chk_lower]

theorem boundary_lower_iff (b : Bytes) (i : Nat) : Boundary (lower b) i ↔ Boundary b i := by
  unfold Boundary
  rw [lower_length, ← lower_take, ← lower_drop, utf8_lower_iff, utf8_lower_iff]

/-! ### the specification on UTF-8 text -/

theorem specToks_boundaries {line : Bytes} :
    ∀ (toks : List Tok) (pos : Nat) (caps : List Nat) (e : Nat), (∀ t ∈ toks, Utf8 t.lit) →
      Boundary line pos → specToks line toks pos = some (caps, e) →
      Boundary line e ∧ ∀ x ∈ caps, Boundary line x := by
  intro toks
  induction toks with
  | nil =>
    intro pos caps e _ hb h
    simp only [specToks, Option.some.injEq, Prod.mk.injEq] at h
    obtain ⟨rfl, rfl⟩ := h
    exact ⟨hb, by simp⟩
  | cons t ts ih =>
    intro pos caps e hlit hb h
    obtain ⟨n, caps', hn, hrec, rfl⟩ := specToks_cons_some h
    have hline : Utf8 line := by
      have := hb.2.1.append hb.2.2
      rwa [List.take_append_drop] at this
    have hb2 : Boundary line (pos + n) ∧ Boundary line (pos + n + t.lit.length) := by
      by_cases hlit0 : t.lit = []
      · rw [tokLen_of_nil hlit0] at hn; cases hn
        rw [hlit0, List.length_nil, Nat.add_zero, show pos + (line.length - pos) = line.length by have := hb.1; omega]
        exact ⟨Boundary.len hline, Boundary.len hline⟩
      · rw [tokLen_of_ne hlit0] at hn
        obtain ⟨b1, b2⟩ := utf8_occurrence hb.2.2 (hlit t (by simp)) hlit0 n (firstIndex_some_prefix hn).1
        exact ⟨hb.add b1, by rw [Nat.add_assoc]; exact hb.add b2⟩
    obtain ⟨r1, r2⟩ := ih _ _ _ (fun t' ht' => hlit t' (by simp [ht'])) hb2.2 hrec
    refine ⟨r1, fun x hx => ?_⟩
    rcases List.mem_append.mp hx with hx | hx
    · by_cases hs : t.skip = true
      · rw [if_pos hs] at hx; cases hx
      · rw [if_neg hs] at hx
        simp only [List.mem_cons, List.not_mem_nil, or_false] at hx
        rcases hx with rfl | rfl
        · exact hb
        · exact hb2.1
    · exact r2 x hx

theorem specDissect_boundaries {p : Pat} {line : Bytes} {r : List Nat} (hl : Utf8 line)
    (hpre : Utf8 p.pre) (hlits : ∀ t ∈ p.toks, Utf8 t.lit) (h : specDissect p line = some r) :
    ∀ x ∈ r, Boundary line x := by
  obtain ⟨s, caps, e, hf, hrec, rfl⟩ := specDissect_some h
  obtain ⟨_, hp, hmin⟩ := (firstIndex_spec _ _ _).mp hf
  have hb : Boundary line s ∧ Boundary line (s + p.pre.length) := by
    by_cases h0 : p.pre = []
    · have hs0 : s = 0 := by
        rcases Nat.eq_zero_or_pos s with h' | h'
        · exact h'
        · exact absurd (by rw [h0]; exact List.nil_prefix) (hmin 0 h')
      rw [hs0, h0]; exact ⟨Boundary.zero hl, Boundary.zero hl⟩
    · exact utf8_occurrence hl hpre h0 s hp
  obtain ⟨r1, r2⟩ := specToks_boundaries p.toks _ _ _ hlits hb.2 hrec
  intro x hx
  rcases List.mem_cons.mp hx with rfl | hx
  · exact hb.1
  · rcases List.mem_cons.mp hx with rfl | hx
    · exact r1
    · exact r2 x hx

theorem specFor_boundaries {ic : Bool} {p : Pat} {line : Bytes} {r : List Nat} (hl : Utf8 line)
    (hpre : Utf8 p.pre) (hlits : ∀ t ∈ p.toks, Utf8 t.lit) (h : specFor ic p line = some r) :
    ∀ x ∈ r, Boundary line x := by
  cases ic with
  | false => exact specDissect_boundaries hl hpre hlits (by simpa [specFor] using h)
  | true =>
    have h' : specDissect p.lowerLits (lower line) = some r := by simpa [specFor, specDissectIC] using h
    intro x hx
    rw [← boundary_lower_iff]
    refine specDissect_boundaries ((utf8_lower_iff _).mpr hl) ((utf8_lower_iff _).mpr hpre) ?_ h' x hx
    intro t ht
    simp only [Pat.lowerLits, List.mem_map] at ht
    obtain ⟨t0, ht0, rfl⟩ := ht
    exact (utf8_lower_iff _).mpr (hlits t0 ht0)

/-- a lone lead byte is not a character: position 1 of `é` = `C3 A9` is not a boundary -/
theorem not_boundary_inside_char : ¬ Boundary [195, 169] 1 :=
  fun ⟨_, h, _⟩ => absurd (utf8Chk_iff.mpr h) (by decide)

end Rare.C12

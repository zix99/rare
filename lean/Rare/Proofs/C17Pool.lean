import Rare.Model.C17Pool
import Rare.Proofs.C17Loop
/-!
C17: the object pool (`pkg/slicepool/objpool.go`) under ANY order of `Get` and `Return`.

`World` = the pool plus the set of objects currently checked out.  A step is a `Get` by anybody or the `Return`
of an object that is checked out (clients return what they got, once – every helper does so by `defer`,
`Gen.C17.poolEvents`); the ORDER of returns is arbitrary: evaluations on several goroutines finish in any order,
nested helpers return innermost first.  `Reach n` = all worlds reachable from `NewObjectPool(n)`.
-/
namespace Rare.C17
open Rare Rare.Expr Rare.C17Pool

structure World where
  pool : Pool
  held : List Nat

def World.new (n : Nat) : World := ⟨Pool.new n, []⟩

inductive Step : World → World → Prop
  | get (w : World) : Step w ⟨w.pool.get.2, w.pool.get.1 :: w.held⟩
  | ret (w : World) (o : Nat) (h : o ∈ w.held) : Step w ⟨w.pool.ret o, w.held.erase o⟩

inductive Reach (n : Nat) : World → Prop
  | init : Reach n (World.new n)
  | step {w w' : World} : Reach n w → Step w w' → Reach n w'

/-- No object is in two places, and every object has a number below `next`. -/
def Inv (w : World) : Prop :=
  (w.pool.free ++ w.held).Nodup ∧ ∀ o ∈ w.pool.free ++ w.held, o < w.pool.next

theorem inv_new (n : Nat) : Inv (World.new n) := by
  constructor
  · simp [World.new, Pool.new, List.nodup_range]
  · intro o ho
    simpa [World.new, Pool.new] using ho

/-- `Get()` on a pool in order: the object handed out is no longer in the free list, everything else in the free
    list stays, and the objects that are in the free list or handed out afterwards are those that were free
    before plus the (at most one) freshly made. -/
theorem get_spec (p : Pool) (hn : p.free.Nodup) (hb : ∀ o ∈ p.free, o < p.next) :
    p.get.2.free.Nodup ∧ p.get.1 ∉ p.get.2.free ∧ (∀ x ∈ p.get.2.free, x ∈ p.free) ∧
    p.next ≤ p.get.2.next ∧ p.get.1 < p.get.2.next ∧
    (∀ x, x ∈ p.get.2.free ∨ x = p.get.1 ↔ x ∈ p.free ∨ (p.next ≤ x ∧ x < p.get.2.next)) := by
  cases hl : p.free.getLast? with
  | none =>
    have hf : p.free = [] := List.getLast?_eq_none_iff.mp hl
    have hg : p.get = (p.next, { p with next := p.next + 1 }) := by simp [Pool.get, hl]
    rw [hg, hf]
    exact ⟨List.nodup_nil, by simp, by simp, Nat.le_succ _, Nat.lt_succ_self _, fun x => by simp; omega⟩
  | some o =>
    obtain ⟨ys, hy⟩ := List.getLast?_eq_some_iff.mp hl
    have hg : p.get = (o, { p with free := ys }) := by simp [Pool.get, hy]
    have hnd := List.nodup_append.mp (hy ▸ hn)
    rw [hg, hy]
    refine ⟨hnd.1, fun hm => hnd.2.2 o hm o (by simp) rfl, fun x hx => by simp [hx], Nat.le_refl _,
      hb o (by rw [hy]; simp), fun x => ?_⟩
    simp only [List.mem_append, List.mem_singleton]
    exact ⟨Or.inl, fun e => e.elim id fun ⟨a, b⟩ => absurd b (Nat.not_lt.mpr a)⟩

theorem get_next_le (p : Pool) : p.next ≤ p.get.2.next := by
  unfold Pool.get
  split
  · exact Nat.le_succ _
  · exact Nat.le_refl _

/-- The object `Get` hands out is held by nobody. -/
theorem get_not_held {w : World} (hi : Inv w) : w.pool.get.1 ∉ w.held := by
  obtain ⟨hn, hb⟩ := hi
  have hna := List.nodup_append.mp hn
  intro hm
  rcases ((get_spec w.pool hna.1 (fun o ho => hb o (List.mem_append_left _ ho))).2.2.2.2.2 _).mp (Or.inr rfl) with
    hf | ⟨h1, _⟩
  · exact hna.2.2 _ hf _ hm rfl
  · exact absurd (hb _ (List.mem_append_right _ hm)) (Nat.not_lt.mpr h1)

theorem inv_step {w w' : World} (hi : Inv w) (hs : Step w w') : Inv w' := by
  obtain ⟨hn, hb⟩ := hi
  cases hs with
  | get =>
    have hna := List.nodup_append.mp hn
    obtain ⟨n1, ho, hsub, hle, hlt, _⟩ := get_spec w.pool hna.1 (fun o ho => hb o (List.mem_append_left _ ho))
    refine ⟨List.nodup_append.mpr ⟨n1, List.nodup_cons.mpr ⟨get_not_held ⟨hn, hb⟩, hna.2.1⟩, ?_⟩, fun x hx => ?_⟩
    · intro a ha b hb' e
      subst e
      rcases List.mem_cons.mp hb' with e | hm
      · exact ho (e ▸ ha)
      · exact hna.2.2 a (hsub a ha) a hm rfl
    · simp only [List.mem_append, List.mem_cons] at hx
      rcases hx with hx | rfl | hx
      · exact Nat.lt_of_lt_of_le (hb x (List.mem_append_left _ (hsub x hx))) hle
      · exact hlt
      · exact Nat.lt_of_lt_of_le (hb x (List.mem_append_right _ hx)) hle
  | ret o h =>
    have hp : (w.pool.free ++ [o] ++ w.held.erase o).Perm (w.pool.free ++ w.held) := by
      rw [List.append_assoc]
      exact List.Perm.append_left _ (List.perm_cons_erase h).symm
    constructor
    · exact hp.nodup_iff.mpr hn
    · intro x hx
      exact hb x (hp.subset hx)

theorem inv_reach {n : Nat} {w : World} (h : Reach n w) : Inv w := by
  induction h with
  | init => exact inv_new n
  | step _ hs ih => exact inv_step ih hs

/-- `Return(o)` followed by `Get()` hands `o` out again and leaves the pool as it was. -/
theorem ret_get (p : Pool) (o : Nat) : (p.ret o).get = (o, p) := by
  simp [Pool.ret, Pool.get]

/-- A `subContext` object as it lies in the pool: whatever its last user left in it. -/
structure SubObj where
  parent : Ctx
  v0 : Bytes
  v1 : Bytes

/-- `*obj = subContext{parent: context}` -/
def SubObj.reset (_stale : SubObj) (ctx : Ctx) : SubObj := ⟨ctx, [], []⟩

/-- `obj.Eval(stage, v0, v1)`: both values are stored, then the stage runs against the object. -/
def SubObj.eval (o : SubObj) (st : Stage) (a b : Bytes) : Except String Bytes × SubObj :=
  (st.run (subCtx o.parent a b), { o with v0 := a, v1 := b })

/-- The use a helper may make of the pool: nothing, or – inside the closure that is run per evaluation –
    `Get`, deferred `Return` of the same object, the overwrite `*obj = subContext{parent: context}` (every field
    not named is zeroed by Go), and then only `Eval` calls on that object. -/
def disciplined : List (String × String × String) → Bool
  | [] => true
  | (k1, v1, _) :: (k2, v2, _) :: (k3, v3, d3) :: evals =>
    k1 == "get" && k2 == "defer-return" && v2 == v1 && k3 == "reset" && v3 == v1 && d3 == "parent=context" &&
      !evals.isEmpty && evals.all fun e => e.1 == "eval" && e.2.1 == v1
  | _ => false

/-- `<ARGN>`: the builder rejected the number of arguments. -/
def isArgCountErr : Except String Built → Bool
  | .ok ⟨_, some "argcount"⟩ => true
  | _ => false

end Rare.C17

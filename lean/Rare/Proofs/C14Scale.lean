import Rare.Model.C14
import Rare.Spec.C14
/-!
Scaler laws over ℚ.  `ratArith L2 L10` is the exact-arithmetic instance of the `float64` operations:
`ofInt` is the exact cast (equal to the float64 conversion for |v| < 2^53), `+ - * /` are exact,
`floor/ceil` are the integer floor/ceiling, `int(f)` truncates toward zero, and the two logarithms
are abstract functions (math.Log2/Log10 are a trusted library) assumed monotone and non-negative
above 1 – the code itself maps everything `≤ 1` to 0.
-/
namespace Rare.C14
open Rare

/-- Go `int(f)` on exact values: truncation toward zero -/
def ratTrunc (q : Rat) : Int := if 0 ≤ q then q.floor else q.ceil

def ratArith (L2 L10 : Rat → Rat) : Arith Rat :=
  { ofInt := fun i => (i : Rat), add := (· + ·), sub := (· - ·), mul := (· * ·), div := (· / ·),
    floor := fun q => (q.floor : Rat), ceil := fun q => (q.ceil : Rat),
    le := fun a b => decide (a ≤ b), beq := fun a b => decide (a = b),
    trunc := ratTrunc, log2 := L2, log10 := L10, pow2 := id, pow10 := id }

/-- what is assumed of a logarithm: monotone and non-negative on `(1, ∞)` -/
structure LogLike (L : Rat → Rat) : Prop where
  mono : ∀ x y, 1 < x → x ≤ y → L x ≤ L y
  nonneg : ∀ x, 1 < x → 0 ≤ L x

/-- the guard chain of `Scale`, for every instance of the float operations: an inverted range and a value below the range
give `0`, a value above the range gives `1` -/
theorem scale_guards {α : Type} (A : Arith α) (k : Scaler) {v mn mx : Int} :
    (mx < mn ∨ v < mn → scale A k v mn mx = A.ofInt 0) ∧ (¬ mx < mn → ¬ v < mn → v > mx → scale A k v mn mx = A.ofInt 1) := by
  refine ⟨fun g => ?_, fun g1 g2 g3 => by simp [scale, g1, g2, g3]⟩
  by_cases g1 : mx < mn
  · simp [scale, g1]
  · simp [scale, g1, g.resolve_left g1]

theorem div_le_div_right_pos {a b c : Rat} (h : a ≤ b) (hc : 0 < c) : a / c ≤ b / c := by
  rw [Rat.div_def, Rat.div_def]
  exact Rat.mul_le_mul_of_nonneg_right h (Rat.le_of_lt (Rat.inv_pos.mpr hc))

theorem div_self_pos {c : Rat} (hc : 0 < c) : c / c = 1 := by
  rw [Rat.div_def]; exact Rat.mul_inv_cancel c (by intro h; rw [h] at hc; exact absurd hc (by decide))

theorem zero_div' (c : Rat) : (0 : Rat) / c = 0 := by rw [Rat.div_def, Rat.zero_mul]

theorem rat_unit_div {n d : Rat} (h0 : 0 ≤ n) (h1 : n ≤ d) (hd : 0 < d) : 0 ≤ n / d ∧ n / d ≤ 1 := by
  constructor
  · have := div_le_div_right_pos (a := 0) (b := n) (c := d) h0 hd
    rwa [zero_div'] at this
  · have := div_le_div_right_pos (a := n) (b := d) (c := d) h1 hd
    rwa [div_self_pos hd] at this

theorem unit_of_between {x a b : Rat} (h1 : a ≤ x) (h2 : x ≤ b) (hab : a < b) :
    0 ≤ (x - a) / (b - a) ∧ (x - a) / (b - a) ≤ 1 :=
  rat_unit_div (by grind) (by grind) (by grind)

section
variable {L2 L10 : Rat → Rat}

/-- the mapped value is monotone in the (integer) argument -/
theorem mapVal_mono (h2 : LogLike L2) (h10 : LogLike L10) (k : Scaler) {a b : Int} (hab : a ≤ b) :
    mapVal (ratArith L2 L10) k ((a : Int) : Rat) ≤ mapVal (ratArith L2 L10) k ((b : Int) : Rat) := by
  have hc : ((a : Int) : Rat) ≤ ((b : Int) : Rat) := Rat.intCast_le_intCast.mpr hab
  cases k with
  | linear => simpa [mapVal] using hc
  | log2 =>
    simp only [mapVal, ratArith, decide_eq_true_eq, Rat.intCast_one, Rat.intCast_zero]
    split <;> split
    · exact Rat.le_refl
    · exact h2.nonneg _ (by grind)
    · grind
    · exact h2.mono _ _ (by grind) hc
  | log10 =>
    simp only [mapVal, ratArith, decide_eq_true_eq, Rat.intCast_one, Rat.intCast_zero]
    split <;> split
    · exact Rat.le_refl
    · exact h10.nonneg _ (by grind)
    · grind
    · exact h10.mono _ _ (by grind) hc

theorem floor_succ_le_of_lt {x y : Rat} (h : ((x.floor : Int) : Rat) < ((y.ceil : Int) : Rat)) : x ≤ ((y.ceil : Int) : Rat) := by
  have h1 : x.floor < y.ceil := Rat.intCast_lt_intCast.mp h
  have h2 : x.floor + 1 ≤ y.ceil := h1
  have h3 : x < ((x.floor + 1 : Int) : Rat) := Rat.lt_floor_add_one x
  have h4 : ((x.floor + 1 : Int) : Rat) ≤ ((y.ceil : Int) : Rat) := Rat.intCast_le_intCast.mpr h2
  grind

/-- the shape of `scale` inside the range: the guard chain passed and the remapped range is increasing -/
theorem scale_in_range (k : Scaler) {val min max : Int} (h1 : min ≤ val) (h2 : val ≤ max) :
    scale (ratArith L2 L10) k val min max =
      let r := remapMinMax (ratArith L2 L10) k min max
      if r.2 ≤ r.1 then 0 else (mapVal (ratArith L2 L10) k (val : Rat) - r.1) / (r.2 - r.1) := by
  have h3 : ¬ max < min := by omega
  have h4 : ¬ val < min := by omega
  have h5 : ¬ val > max := by omega
  simp only [scale, h3, h4, h5, if_false]
  simp only [ratArith, decide_eq_true_eq]
  rfl

theorem scale_bounds (h2 : LogLike L2) (h10 : LogLike L10) (k : Scaler) (val min max : Int) :
    0 ≤ scale (ratArith L2 L10) k val min max ∧ scale (ratArith L2 L10) k val min max ≤ 1 := by
  have h01 : (0 : Rat) ≤ 1 := by decide
  by_cases g : max < min ∨ val < min
  · rw [(scale_guards _ k).1 g]; exact ⟨Rat.le_refl, h01⟩
  by_cases g3 : val > max
  · rw [(scale_guards _ k).2 (by omega) (by omega) g3]; exact ⟨h01, Rat.le_refl⟩
  rw [scale_in_range k (by omega) (by omega)]
  simp only
  split
  · simp [h01]
  · rename_i hlt
    have hlt' : (remapMinMax (ratArith L2 L10) k min max).1 < (remapMinMax (ratArith L2 L10) k min max).2 := by grind
    apply unit_of_between _ _ hlt'
    · -- floor (M min) ≤ M min ≤ M val
      have hm := mapVal_mono h2 h10 k (show min ≤ val by omega)
      have hf := Rat.floor_le (mapVal (ratArith L2 L10) k ((min : Int) : Rat))
      simp only [remapMinMax, ratArith] at hf ⊢
      simp only [ratArith] at hm
      grind
    · by_cases hdeg : max ≤ min
      · -- val = min = max: floor (M val) < ceil (…) forces M val ≤ ceil (…)
        have hv : val = min := by omega
        subst hv
        simp only [remapMinMax, ratArith, hdeg, if_true] at hlt' ⊢
        exact floor_succ_le_of_lt hlt'
      · have hm := mapVal_mono h2 h10 k (show val ≤ max by omega)
        have hc := Rat.le_ceil (x := mapVal (ratArith L2 L10) k ((max : Int) : Rat))
        simp only [remapMinMax, ratArith, hdeg, if_false] at hc ⊢
        simp only [ratArith] at hm
        grind

theorem scale_mono (h2 : LogLike L2) (h10 : LogLike L10) (k : Scaler) {val val' : Int} (min max : Int) (hv : val ≤ val') :
    scale (ratArith L2 L10) k val min max ≤ scale (ratArith L2 L10) k val' min max := by
  by_cases g : max < min ∨ val < min
  · rw [(scale_guards _ k).1 g]; exact (scale_bounds h2 h10 k val' min max).1
  by_cases g3 : val' > max
  · rw [(scale_guards _ k (v := val')).2 (by omega) (by omega) g3]; exact (scale_bounds h2 h10 k val min max).2
  rw [scale_in_range k (by omega) (by omega), scale_in_range k (by omega) (by omega)]
  simp only
  split
  · exact Rat.le_refl
  · rename_i hlt
    have hpos : 0 < (remapMinMax (ratArith L2 L10) k min max).2 - (remapMinMax (ratArith L2 L10) k min max).1 := by grind
    apply div_le_div_right_pos _ hpos
    have hm := mapVal_mono h2 h10 k hv
    simp only [ratArith] at hm ⊢
    grind

end
end Rare.C14

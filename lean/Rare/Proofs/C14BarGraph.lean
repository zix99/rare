import Rare.Proofs.C14Histo
/-!
# C14: the bar graph as a whole renderer – every row of a render is drawn at the current scale

`BarCfg` is what a drawn row depends on (stacked or grouped, first line, lines per row, the running maximum,
scaler, formatter, bar width).  `RowDrawn`: the line(s) of row `i` show its key and values drawn with the
CURRENT running maximum – the number is `Formatter(value, 0, maxLineVal)`, a grouped bar is
`BarWrite(Scale(value, 0, maxLineVal), BarSize)`, a stacked bar `BarWriteStacked(maxLineVal, BarSize, values)`.

`bars_render_inv`: from ANY state in which the running maximum covers the stored rows (`BarPre`; true of a new
graph, and after every render), one render – `SetKeys`, then `WriteBar(0…n-1)` as `cmd/bargraph.go` does – returns
and ALL rows of the render are drawn with the FINAL running maximum (bars of one graph are proportional to
each other), whatever redraws happened on the way; `BarPre` holds again (the model is of the code in which rows
keep snapshots, a20c03a).
Proved for every float instance satisfying `UnitLaws`.
-/
namespace Rare.C14
open Rare Rare.C20

section
variable {α : Type} {A : Arith α} {Dom : Int → Prop} {Unit : α → Prop} {le : α → α → Prop}

/-- what a drawn row depends on -/
structure BarCfg where
  stacked : Bool
  /-- first line of row 0 -/
  first : Nat
  /-- `len(subKeys)` -/
  nsub : Nat
  /-- the running maximum -/
  max : Int
  scaler : Scaler
  fmt : Fmt
  barSize : Int
  /-- the width of the key column (`maxKeyLength`) -/
  keyw : Int

def BarGraph.cfg (g : BarGraph) : BarCfg :=
  { stacked := g.stacked, first := g.prefixLines.toNat, nsub := g.subKeys.length, max := g.maxLineVal,
    scaler := g.scaler, fmt := g.fmt, barSize := g.barSize, keyw := g.maxKeyLength }

/-- the value the running maximum is compared with for a row -/
def rowMax (stacked : Bool) (vals : List Int) : Int := if stacked then sumPositive vals else maxi64 vals

/-- first line of row `i`, and the lines reserved for a row -/
def BarCfg.slot (c : BarCfg) : Nat := if c.stacked then 1 else c.nsub
def BarCfg.rowStart (c : BarCfg) (i : Nat) : Nat := c.first + i * c.slot

theorem BarCfg.rowStart_succ (c : BarCfg) (i : Nat) : c.rowStart (i + 1) = c.rowStart i + c.slot := by
  unfold BarCfg.rowStart; rw [Nat.add_mul]; omega

theorem BarCfg.rowStart_mono (c : BarCfg) {i j : Nat} (h : i < j) : c.rowStart i + c.slot ≤ c.rowStart j := by
  unfold BarCfg.rowStart
  have : (i + 1) * c.slot ≤ j * c.slot := Nat.mul_le_mul_right _ h
  rw [Nat.add_mul] at this; omega

/-- the text of a stacked row (key padded to `w`) -/
def BarCfg.stackedText (c : BarCfg) (env : Env) (w : Int) (key : Bytes) (vals : List Int) : Bytes :=
  wrap env cYellow (padVis env key w) ++ ascii "  " ++
    (match barWriteStacked env c.max c.barSize vals with | .ok b => b | .error _ => []) ++ ascii "  " ++
    c.fmt.apply (sumWrap vals) 0 c.max

/-- the bytes of the bar of one value of a grouped row -/
def BarCfg.barBytes (c : BarCfg) (A : Arith α) (env : Env) (v : Int) : Bytes :=
  match barWrite A env (scale A c.scaler v 0 c.max) c.barSize with
  | .ok b => b
  | .error _ => []

/-- line `j` of a grouped row (key padded to `w`; the lines below the first are indented by `w + 2`) -/
def BarCfg.groupedText (c : BarCfg) (A : Arith α) (env : Env) (w : Int) (key : Bytes) (j : Nat) (v : Int) : Bytes :=
  (if j > 0 then spaces (w + 2) else wrap env cYellow (padVis env key w) ++ ascii "  ") ++
    colorWrite env (groupColors.getD (j % groupColors.length) []) (c.barBytes A env v) ++ [32] ++ c.fmt.apply v 0 c.max

/-- row `i` is on the screen, drawn with the configuration `c` (in particular its running maximum and its key column width) -/
def RowDrawn (A : Arith α) (env : Env) (c : BarCfg) (vt : VirtualTerm) (i : Nat) (row : Bytes × List Int) : Prop :=
  if c.stacked then vt.lines[c.rowStart i]? = some (c.stackedText env c.keyw row.1 row.2)
  else ∀ (j : Nat) (v : Int), row.2[j]? = some v → vt.lines[c.rowStart i + j]? = some (c.groupedText A env c.keyw row.1 j v)

/-- the row fits its slot (always for a stacked row; a grouped row has at most one value per sub-key) -/
def RowFits (c : BarCfg) (row : Bytes × List Int) : Prop := c.stacked = true ∨ row.2.length ≤ c.nsub

/-- lines a row occupies -/
def rowLines (c : BarCfg) (row : Bytes × List Int) : Nat := if c.stacked then 1 else row.2.length

theorem rowLines_le_slot (c : BarCfg) (row : Bytes × List Int) (h : RowFits c row) : rowLines c row ≤ c.slot := by
  unfold rowLines BarCfg.slot
  rcases h with h | h
  · simp [h]
  · split <;> omega

/-- a row stays drawn when only lines outside it change -/
theorem RowDrawn.keep {env : Env} {c : BarCfg} {vt vt' : VirtualTerm} {i : Nat} {row : Bytes × List Int}
    (h : RowDrawn A env c vt i row)
    (hk : ∀ j x, c.rowStart i ≤ j → j < c.rowStart i + rowLines c row → vt.lines[j]? = some x → vt'.lines[j]? = some x) :
    RowDrawn A env c vt' i row := by
  unfold RowDrawn rowLines at *
  by_cases hs : c.stacked = true
  · rw [if_pos hs] at h hk ⊢
    exact hk _ _ (Nat.le_refl _) (by omega) h
  · rw [if_neg hs] at h hk ⊢
    intro j v hj
    have hw := h j v hj
    have hlt : j < row.2.length := (List.getElem?_eq_some_iff.mp hj).1
    exact hk _ _ (by omega) (by omega) hw

/-! ### one row -/

def BarGraph.withMaxRows (g : BarGraph) (m : Int) : BarGraph := { g with maxRows := m }

theorem ite_withMaxRows (g : BarGraph) (c : Prop) [Decidable c] (x : Int) :
    (if c then { g with maxRows := x } else g) = g.withMaxRows (if c then x else g.maxRows) := by
  split <;> rfl

/-- `writeBarStacked` of a row the running maximum covers: only `maxRows` changes, one line is written -/
theorem bars_stacked_row (env : Env) (g : BarGraph) (vt : VirtualTerm) (ho : vt.closed = false) (i : Nat) (key : Bytes) (vals : List Int)
    (hcov : sumPositive vals ≤ g.maxLineVal) (hp : 0 ≤ g.prefixLines) (hsm : i + g.prefixLines.toNat < 9223372036854775808) :
    ∃ m vt', g.writeBarStacked env vt (i : Int) key vals = .ok (g.withMaxRows m, vt') ∧ vt'.closed = false ∧
      vt'.lines[g.prefixLines.toNat + i]? = some (g.cfg.stackedText env g.maxKeyLength key vals) ∧
      (∀ j x, j ≠ g.prefixLines.toNat + i → vt.lines[j]? = some x → vt'.lines[j]? = some x) := by
  have hg1 : (if sumPositive vals > g.maxLineVal then { g with maxLineVal := sumPositive vals } else g) = g := by
    rw [if_neg (by omega)]
  unfold BarGraph.writeBarStacked
  simp only [hg1]
  obtain ⟨bar, hbar⟩ := barWriteStacked_ok env g.maxLineVal g.barSize vals
  have hwrap : wrap64 ((i : Int) + g.prefixLines) = ((g.prefixLines.toNat + i : Nat) : Int) := by
    rw [wrap64_small (by omega) (by omega)]; omega
  rw [hwrap, ite_withMaxRows]
  generalize (if ((g.prefixLines.toNat + i : Nat) : Int) + 1 > g.maxRows then ((g.prefixLines.toNat + i : Nat) : Int) + 1 else g.maxRows) = m
  obtain ⟨vt', hw, ho', hl, hk⟩ := vt_write_ok vt ho (g.prefixLines.toNat + i) (g.cfg.stackedText env g.maxKeyLength key vals)
  refine ⟨m, vt', ?_, ho', hl, hk⟩
  have ht : g.cfg.stackedText env g.maxKeyLength key vals =
      wrap env cYellow (padVis env key g.maxKeyLength) ++ ascii "  " ++ bar ++ ascii "  " ++ g.fmt.apply (sumWrap vals) 0 g.maxLineVal := by
    unfold BarCfg.stackedText BarGraph.cfg
    simp only [hbar]
  rw [ht] at hw
  simp only [BarGraph.withMaxRows, hbar, hw, bind, Except.bind]
  rfl

/-- `BarGraph.writeBarStacked` never panics; the line ends with the row total under the formatter and the
CURRENT running maximum (raised first when this row's drawn sum exceeds it) -/
theorem bars_stacked_line (env : Env) (g : BarGraph) (vt : VirtualTerm) (ho : vt.closed = false) (idx : Nat) (key : Bytes) (vals : List Int)
    (hp : 0 ≤ g.prefixLines) (hsm : g.prefixLines < 9223372036854775808 - idx) :
    ∃ g' vt' pre, g.writeBarStacked env vt (idx : Int) key vals = .ok (g', vt') ∧ vt'.closed = false ∧
      g'.maxLineVal = (if sumPositive vals > g.maxLineVal then sumPositive vals else g.maxLineVal) ∧
      vt'.lines[idx + g.prefixLines.toNat]? = some (pre ++ ascii "  " ++ g'.fmt.apply (sumWrap vals) 0 g'.maxLineVal) := by
  -- the call first raises the running maximum to the row's drawn sum; the rest is the call on that state
  generalize hg1 : (if sumPositive vals > g.maxLineVal then { g with maxLineVal := sumPositive vals } else g) = g1
  have hm : g1.maxLineVal = (if sumPositive vals > g.maxLineVal then sumPositive vals else g.maxLineVal) := by
    rw [← hg1]; split <;> rfl
  have hpl : g1.prefixLines = g.prefixLines := by rw [← hg1]; split <;> rfl
  have hcov : sumPositive vals ≤ g1.maxLineVal := by rw [hm]; split <;> omega
  have e : g.writeBarStacked env vt (idx : Int) key vals = g1.writeBarStacked env vt (idx : Int) key vals := by
    unfold BarGraph.writeBarStacked
    simp only [hg1, if_neg (show ¬ sumPositive vals > g1.maxLineVal by omega)]
  obtain ⟨m, vt', hw, ho', hl, _⟩ := bars_stacked_row env g1 vt ho idx key vals hcov (by omega) (by omega)
  refine ⟨g1.withMaxRows m, vt', wrap env cYellow (padVis env key g1.maxKeyLength) ++ ascii "  " ++
    (match barWriteStacked env g1.maxLineVal g1.barSize vals with | .ok b => b | .error _ => []), by rw [e, hw], ho', hm, ?_⟩
  rw [Nat.add_comm, ← hpl, hl]
  rfl

/-! ### a grouped row -/

theorem foldl_max_ge (vals : List Int) : ∀ m0 : Int,
    m0 ≤ vals.foldl (fun m v => if v > m then v else m) m0 ∧ ∀ v ∈ vals, v ≤ vals.foldl (fun m v => if v > m then v else m) m0 := by
  induction vals with
  | nil => intro m0; exact ⟨Int.le_refl _, by intro v hv; cases hv⟩
  | cons x rest ih =>
    intro m0
    simp only [List.foldl_cons]
    obtain ⟨a, b⟩ := ih (if x > m0 then x else m0)
    generalize List.foldl (fun m v => if v > m then v else m) (if x > m0 then x else m0) rest = r at a b
    refine ⟨by split at a <;> omega, ?_⟩
    intro v hv
    rcases List.mem_cons.mp hv with rfl | hv
    · split at a <;> omega
    · exact b v hv

theorem foldl_max_fix (vals : List Int) (m : Int) (h : ∀ v ∈ vals, v ≤ m) : vals.foldl (fun m v => if v > m then v else m) m = m := by
  induction vals with
  | nil => rfl
  | cons x rest ih =>
    simp only [List.foldl_cons]
    rw [if_neg (by have := h x (by simp); omega)]
    exact ih (fun v hv => h v (by simp [hv]))

theorem maxi64_ge (vals : List Int) : 0 ≤ maxi64 vals ∧ ∀ v ∈ vals, v ≤ maxi64 vals := foldl_max_ge vals 0

theorem repeatStr_blank (n : Int) (h : 0 ≤ n) : repeatStr [32] n = .ok (spaces n) := by
  unfold repeatStr spaces
  rw [if_neg (by omega), List.flatten_replicate_singleton]

/-- one iteration of the loop of `writeBarGrouped` -/
def groupedStep (A : Arith α) (env : Env) (g : BarGraph) (head : Bytes) (line : Int) (v : VirtualTerm) (vi : Int × Nat) : Res VirtualTerm := do
  let pre ← if vi.2 > 0 then repeatStr [32] (g.maxKeyLength + 2) else pure (if vi.2 = 0 then head else [])
  let c ← getIdx groupColors ((vi.2 : Int) % groupColors.length)
  let bar ← barWrite A env (scale A g.scaler vi.1 0 g.maxLineVal) g.barSize
  let s := pre ++ colorWrite env c bar ++ [32] ++ g.fmt.apply vi.1 0 g.maxLineVal
  v.writeForLine (line + vi.2) s

theorem groupedStep_ok (U : UnitLaws A Dom Unit le) (env : Env) (g : BarGraph) (key : Bytes) (start : Nat) (vt : VirtualTerm) (ho : vt.closed = false)
    (v : Int) (j : Nat) (hd : Dom v) (hm : Dom g.maxLineVal) (hk : 0 ≤ g.maxKeyLength) (hb : 0 ≤ g.barSize) (hb' : g.barSize ≤ 1000000000000000) :
    ∃ vt', groupedStep A env g (wrap env cYellow (padVis env key g.maxKeyLength) ++ ascii "  ") (start : Int) vt (v, j) = .ok vt' ∧ vt'.closed = false ∧
      vt'.lines[start + j]? = some (g.cfg.groupedText A env g.maxKeyLength key j v) ∧
      (∀ x y, x ≠ start + j → vt.lines[x]? = some y → vt'.lines[x]? = some y) := by
  obtain ⟨rs, _, hbar, _⟩ := U.barWrite_ok env (U.scale_unit g.scaler hd U.dom_zero hm) hb hb'
  generalize rs.flatMap encodeRune = bar at hbar
  have hcol : getIdx groupColors ((j : Int) % groupColors.length) = .ok (groupColors.getD (j % groupColors.length) []) := by
    rw [← Int.natCast_emod]
    exact getIdx_nat groupColors _ [] (Nat.mod_lt _ (by decide))
  have htext : g.cfg.groupedText A env g.maxKeyLength key j v =
      (if j > 0 then spaces (g.maxKeyLength + 2) else wrap env cYellow (padVis env key g.maxKeyLength) ++ ascii "  ") ++
        colorWrite env (groupColors.getD (j % groupColors.length) []) bar ++ [32] ++ g.fmt.apply v 0 g.maxLineVal := by
    unfold BarCfg.groupedText BarCfg.barBytes BarGraph.cfg
    simp only [hbar]
  obtain ⟨vt', hw, ho', hl, hkeep⟩ := vt_write_ok vt ho (start + j) (g.cfg.groupedText A env g.maxKeyLength key j v)
  refine ⟨vt', ?_, ho', hl, hkeep⟩
  rw [htext] at hw
  have e : (start : Int) + (j : Int) = ((start + j : Nat) : Int) := by omega
  unfold groupedStep
  by_cases hj : j > 0
  · rw [if_pos hj] at hw
    simp only [hj, if_true, repeatStr_blank _ (show 0 ≤ g.maxKeyLength + 2 by omega), hcol, hbar, bind, Except.bind]
    rw [e, hw]
  · rw [if_neg hj] at hw
    have hj0 : j = 0 := by omega
    subst hj0
    simp only [gt_iff_lt, Nat.lt_irrefl, ↓reduceIte, hcol, hbar, bind, Except.bind, pure, Except.pure]
    rw [e, hw]

theorem grouped_loop_ok (U : UnitLaws A Dom Unit le) (env : Env) (g : BarGraph) (key : Bytes) (start : Nat)
    (hm : Dom g.maxLineVal) (hk : 0 ≤ g.maxKeyLength) (hb : 0 ≤ g.barSize) (hb' : g.barSize ≤ 1000000000000000) :
    ∀ (l : List Int) (b : Nat) (vt : VirtualTerm), vt.closed = false → (∀ (j : Nat) (v : Int), l[j]? = some v → Dom v) →
    ∃ vt', (l.zipIdx b).foldlM (groupedStep A env g (wrap env cYellow (padVis env key g.maxKeyLength) ++ ascii "  ") (start : Int)) vt = .ok vt' ∧
      vt'.closed = false ∧
      (∀ (j : Nat) (v : Int), l[j]? = some v → vt'.lines[start + (b + j)]? = some (g.cfg.groupedText A env g.maxKeyLength key (b + j) v)) ∧
      (∀ x y, (x < start + b ∨ start + (b + l.length) ≤ x) → vt.lines[x]? = some y → vt'.lines[x]? = some y) :=
  foldlM_zipIdx_inv (I := fun vt : VirtualTerm => vt.closed = false) (P := fun _ => Dom)
    (Q := fun j v (vt : VirtualTerm) => vt.lines[start + j]? = some (g.cfg.groupedText A env g.maxKeyLength key j v))
    (K := fun a c (vt vt' : VirtualTerm) => ∀ x y, (x < start + a ∨ start + c ≤ x) → vt.lines[x]? = some y → vt'.lines[x]? = some y)
    (fun _ _ _ _ _ hy => hy)
    (fun a c _ _ _ hac h1 h2 x y hx hy => h2 x y (by omega) (h1 x y (by omega) hy))
    (fun i _ c _ _ hic hq hkeep => hkeep _ _ (Or.inl (by omega)) hq)
    (fun vt v j ho hd => by
      obtain ⟨vt', h1, h2, h3, h4⟩ := groupedStep_ok U env g key start vt ho v j hd hm hk hb hb'
      exact ⟨vt', h1, h2, h3, fun x y hx => h4 x y (by omega)⟩)

theorem writeBarGrouped_eq (env : Env) (g : BarGraph) (vt : VirtualTerm) (idx : Int) (key : Bytes) (vals : List Int) :
    g.writeBarGrouped A env vt idx key vals =
      (let g1 : BarGraph := { g with maxLineVal := vals.foldl (fun m v => if v > m then v else m) g.maxLineVal }
       let line := wrap64 (g1.prefixLines + wrap64 (idx * g1.subKeys.length))
       let g2 := g1.withMaxRows (if wrap64 (line + g1.subKeys.length) > g1.maxRows then wrap64 (line + g1.subKeys.length) else g1.maxRows)
       do let vt' ← vals.zipIdx.foldlM (groupedStep A env g2 (wrap env cYellow (padVis env key g1.maxKeyLength) ++ ascii "  ") line) vt
          pure (g2, vt')) := by
  unfold BarGraph.writeBarGrouped BarGraph.withMaxRows
  by_cases hc : wrap64 (wrap64 (g.prefixLines + wrap64 (idx * ↑g.subKeys.length)) + ↑g.subKeys.length) > g.maxRows
  · simp only [hc, if_true]; rfl
  · simp only [hc, if_false]; rfl

/-- `writeBarGrouped` when no value exceeds the running maximum: the state changes in `maxRows` only -/
theorem writeBarGrouped_covered (env : Env) (g : BarGraph) (vt : VirtualTerm) (idx : Int) (key : Bytes) (vals : List Int)
    (hfix : vals.foldl (fun m v => if v > m then v else m) g.maxLineVal = g.maxLineVal) :
    ∃ M, g.writeBarGrouped A env vt idx key vals = (do
      let vt' ← vals.zipIdx.foldlM (groupedStep A env (g.withMaxRows M) (wrap env cYellow (padVis env key g.maxKeyLength) ++ ascii "  ")
        (wrap64 (g.prefixLines + wrap64 (idx * g.subKeys.length)))) vt
      pure (g.withMaxRows M, vt')) := by
  rw [writeBarGrouped_eq]
  simp only [hfix]
  exact ⟨_, rfl⟩

/-- `writeBarGrouped` of a row the running maximum covers: only `maxRows` changes, one line per value is written -/
theorem bars_grouped_row (U : UnitLaws A Dom Unit le) (env : Env) (g : BarGraph) (vt : VirtualTerm) (ho : vt.closed = false) (i : Nat) (key : Bytes)
    (vals : List Int) (hcov : ∀ v ∈ vals, v ≤ g.maxLineVal) (hdom : ∀ v ∈ vals, Dom v) (hm : Dom g.maxLineVal) (hk : 0 ≤ g.maxKeyLength)
    (hb : 0 ≤ g.barSize) (hb' : g.barSize ≤ 1000000000000000) (hp : 0 ≤ g.prefixLines)
    (hsm : g.prefixLines.toNat + i * g.subKeys.length + g.subKeys.length < 4611686018427387904) :
    ∃ m vt', g.writeBarGrouped A env vt (i : Int) key vals = .ok (g.withMaxRows m, vt') ∧ vt'.closed = false ∧
      (∀ (j : Nat) (v : Int), vals[j]? = some v →
        vt'.lines[g.prefixLines.toNat + i * g.subKeys.length + j]? = some (g.cfg.groupedText A env g.maxKeyLength key j v)) ∧
      (∀ x y, (x < g.prefixLines.toNat + i * g.subKeys.length ∨ g.prefixLines.toNat + i * g.subKeys.length + vals.length ≤ x) →
        vt.lines[x]? = some y → vt'.lines[x]? = some y) := by
  have hfix : vals.foldl (fun m v => if v > m then v else m) g.maxLineVal = g.maxLineVal :=
    foldl_max_fix vals _ hcov
  have hline : wrap64 (g.prefixLines + wrap64 ((i : Int) * g.subKeys.length)) = ((g.prefixLines.toNat + i * g.subKeys.length : Nat) : Int) := by
    rw [← Int.natCast_mul]
    generalize i * g.subKeys.length = n at hsm ⊢
    rw [wrap64_small (x := (n : Int)) (by omega) (by omega), wrap64_small (by omega) (by omega)]; omega
  obtain ⟨M, hM⟩ := writeBarGrouped_covered (A := A) env g vt (i : Int) key vals hfix
  rw [hM, hline]
  obtain ⟨vt', hf, ho', hrows, hkeep⟩ := grouped_loop_ok U env (g.withMaxRows M) key (g.prefixLines.toNat + i * g.subKeys.length)
    hm hk hb hb' vals 0 vt ho (fun _ v hj => hdom v (List.mem_of_getElem? hj))
  refine ⟨M, vt', ?_, ho', ?_, ?_⟩
  · rw [show g.maxKeyLength = (g.withMaxRows M).maxKeyLength from rfl, hf]; rfl
  · intro j v hj
    have := hrows j v hj
    rw [Nat.zero_add] at this
    exact this
  · intro x y hx hy
    exact hkeep x y (by omega) hy

/-- `writeBar` of a row the running maximum covers: the state changes in `maxRows` only, the row is drawn
with the current configuration, nothing outside its lines changes -/
theorem bars_writeBar_row (U : UnitLaws A Dom Unit le) (env : Env) (g : BarGraph) (vt : VirtualTerm) (ho : vt.closed = false) (i : Nat) (key : Bytes)
    (vals : List Int) (hcov : rowMax g.stacked vals ≤ g.maxLineVal) (hdom : ∀ v ∈ vals, Dom v) (hm : Dom g.maxLineVal) (hk : 0 ≤ g.maxKeyLength)
    (hb : 0 ≤ g.barSize) (hb' : g.barSize ≤ 1000000000000000) (hp : 0 ≤ g.prefixLines)
    (hsm : g.cfg.rowStart i + g.cfg.slot < 4611686018427387904) :
    ∃ m vt', g.writeBar A env vt (i : Int) key vals = .ok (g.withMaxRows m, vt') ∧ vt'.closed = false ∧
      RowDrawn A env g.cfg vt' i (key, vals) ∧
      (∀ x y, (x < g.cfg.rowStart i ∨ g.cfg.rowStart i + rowLines g.cfg (key, vals) ≤ x) → vt.lines[x]? = some y → vt'.lines[x]? = some y) := by
  unfold BarGraph.writeBar
  have hslot : g.cfg.slot = if g.stacked = true then 1 else g.subKeys.length := rfl
  have hlines : rowLines g.cfg (key, vals) = if g.stacked = true then 1 else vals.length := rfl
  have hstart : g.cfg.rowStart i = g.prefixLines.toNat + i * g.cfg.slot := rfl
  unfold rowMax at hcov
  by_cases hs : g.stacked = true
  · have hst : g.cfg.stacked = true := hs
    rw [if_pos hs] at hslot hlines hcov ⊢
    rw [hslot, Nat.mul_one] at hstart
    obtain ⟨m, vt', hw, ho', hl, hkeep⟩ := bars_stacked_row env g vt ho i key vals hcov hp (by omega)
    refine ⟨m, vt', hw, ho', ?_, fun x y hx hy => hkeep x y (by omega) hy⟩
    unfold RowDrawn; rw [if_pos hst, hstart]; exact hl
  · have hst : ¬ g.cfg.stacked = true := hs
    rw [if_neg hs] at hslot hlines hcov ⊢
    rw [hslot] at hstart
    obtain ⟨m, vt', hw, ho', hl, hkeep⟩ := bars_grouped_row U env g vt ho i key vals
      (fun v hv => Int.le_trans ((maxi64_ge vals).2 v hv) hcov) hdom hm hk hb hb' hp (by omega)
    refine ⟨m, vt', hw, ho', ?_, fun x y hx hy => hkeep x y (by omega) hy⟩
    unfold RowDrawn; rw [if_neg hst, hstart]; exact hl

/-- the running maximum after the loop at the head of `writeBarGrouped` -/
def groupedMax (g : BarGraph) (vals : List Int) : Int := vals.foldl (fun m v => if v > m then v else m) g.maxLineVal

theorem dom_foldl_max (l : List Int) : ∀ (r : Int), Dom r → (∀ v ∈ l, Dom v) → Dom (l.foldl (fun r v => if v > r then v else r) r) := by
  induction l with
  | nil => intro r hr _; exact hr
  | cons v l ih =>
    intro r hr hl
    simp only [List.foldl_cons]
    apply ih _ _ (fun x hx => hl x (by simp [hx]))
    split
    · exact hl v (by simp)
    · exact hr

/-- `writeBarGrouped` first raises the running maximum to the row's largest value; the rest is the call on that state -/
theorem writeBarGrouped_raise (env : Env) (g : BarGraph) (vt : VirtualTerm) (idx : Int) (key : Bytes) (vals : List Int) :
    g.writeBarGrouped A env vt idx key vals = ({ g with maxLineVal := groupedMax g vals } : BarGraph).writeBarGrouped A env vt idx key vals := by
  have hfix : vals.foldl (fun m v => if v > m then v else m) (groupedMax g vals) = groupedMax g vals :=
    foldl_max_fix vals _ (foldl_max_ge vals g.maxLineVal).2
  rw [writeBarGrouped_eq, writeBarGrouped_eq]
  simp only [hfix]
  rfl

/-- THE GROUPED-BARS LINE THEOREM: `writeBarGrouped(idx, key, vals…)` on any state, any values: it returns; the running
maximum is raised to the largest value first; line `j` of the row is the key (first line) or the indentation, the bar
`BarWrite(Scale(vals[j], 0, maxLineVal'), BarSize)` in the group colour, a blank and `Formatter(vals[j], 0, maxLineVal')` for
the maximum AFTER raising; nothing outside the row's lines changes -/
theorem bars_grouped_line (U : UnitLaws A Dom Unit le) (env : Env) (g : BarGraph) (vt : VirtualTerm) (ho : vt.closed = false) (i : Nat) (key : Bytes)
    (vals : List Int) (hdom : ∀ v ∈ vals, Dom v) (hm : Dom g.maxLineVal) (hk : 0 ≤ g.maxKeyLength)
    (hb : 0 ≤ g.barSize) (hb' : g.barSize ≤ 1000000000000000) (hp : 0 ≤ g.prefixLines)
    (hsm : g.prefixLines.toNat + i * g.subKeys.length + g.subKeys.length < 4611686018427387904) :
    ∃ m vt', g.writeBarGrouped A env vt (i : Int) key vals = .ok (({ g with maxLineVal := groupedMax g vals } : BarGraph).withMaxRows m, vt') ∧
      vt'.closed = false ∧ g.maxLineVal ≤ groupedMax g vals ∧ (∀ v ∈ vals, v ≤ groupedMax g vals) ∧
      (∀ (j : Nat) (v : Int), vals[j]? = some v →
        vt'.lines[g.prefixLines.toNat + i * g.subKeys.length + j]? =
          some (({ g with maxLineVal := groupedMax g vals } : BarGraph).cfg.groupedText A env g.maxKeyLength key j v)) ∧
      (∀ x y, (x < g.prefixLines.toNat + i * g.subKeys.length ∨ g.prefixLines.toNat + i * g.subKeys.length + vals.length ≤ x) →
        vt.lines[x]? = some y → vt'.lines[x]? = some y) := by
  obtain ⟨ge0, gev⟩ := foldl_max_ge vals g.maxLineVal
  rw [writeBarGrouped_raise]
  obtain ⟨m, vt', hw, ho', hl, hkeep⟩ := bars_grouped_row U env ({ g with maxLineVal := groupedMax g vals } : BarGraph) vt ho i key vals
    gev hdom (dom_foldl_max vals g.maxLineVal hm hdom) hk hb hb' hp hsm
  exact ⟨m, vt', hw, ho', ge0, gev, hl, hkeep⟩

/-! ### the redraw loop -/

/-- `for idx, row := range s.rows { s.writeBar(idx, row.name, row.vals...) }` when the running maximum covers every
row: every row that fits its slot ends up drawn with the (unchanged) configuration, whatever was on the screen -/
theorem bars_redraw_ok (U : UnitLaws A Dom Unit le) (env : Env) (g : BarGraph) (hm : Dom g.maxLineVal) (hk : 0 ≤ g.maxKeyLength)
    (hb : 0 ≤ g.barSize) (hb' : g.barSize ≤ 1000000000000000) (hp : 0 ≤ g.prefixLines) :
    ∀ (l : List (Bytes × List Int)) (b : Nat) (m0 : Int) (vt : VirtualTerm), vt.closed = false →
    (∀ row ∈ l, rowMax g.stacked row.2 ≤ g.maxLineVal ∧ ∀ v ∈ row.2, Dom v) →
    g.cfg.rowStart (b + l.length) + g.cfg.slot < 4611686018427387904 →
    ∃ m vt', (l.zipIdx b).foldlM (fun (st : BarGraph × VirtualTerm) (ri : (Bytes × List Int) × Nat) =>
        st.1.writeBar A env st.2 ri.2 ri.1.1 ri.1.2) (g.withMaxRows m0, vt) = .ok (g.withMaxRows m, vt') ∧ vt'.closed = false ∧
      (∀ (i : Nat) (row : Bytes × List Int), l[i]? = some row → RowFits g.cfg row → RowDrawn A env g.cfg vt' (b + i) row) ∧
      (∀ x y, x < g.cfg.rowStart b → vt.lines[x]? = some y → vt'.lines[x]? = some y) := by
  intro l b m0 vt ho hrows hsm
  obtain ⟨⟨_, vt'⟩, hf, ⟨ho', m, rfl⟩, hdrawn, hkeep⟩ := foldlM_zipIdx_inv
    (step := fun (st : BarGraph × VirtualTerm) (ri : (Bytes × List Int) × Nat) => st.1.writeBar A env st.2 ri.2 ri.1.1 ri.1.2)
    (I := fun s => s.2.closed = false ∧ ∃ m, s.1 = g.withMaxRows m)
    (P := fun i row => (rowMax g.stacked row.2 ≤ g.maxLineVal ∧ ∀ v ∈ row.2, Dom v) ∧
      g.cfg.rowStart i + g.cfg.slot < 4611686018427387904)
    (Q := fun i row s => RowFits g.cfg row → RowDrawn A env g.cfg s.2 i row)
    (K := fun a _ s s' => ∀ x y, x < g.cfg.rowStart a → s.2.lines[x]? = some y → s'.2.lines[x]? = some y)
    (fun _ _ _ _ _ hy => hy)
    (fun a _ _ _ _ _ h1 h2 x y hx hy => h2 x y (by rw [g.cfg.rowStart_succ]; omega) (h1 x y hx hy))
    (fun i row _ _ _ _ hq hk hfit => (hq hfit).keep fun j x _ h2 hx =>
      hk j x (by have := rowLines_le_slot g.cfg row hfit; rw [g.cfg.rowStart_succ]; omega) hx)
    (fun s row i hI hP => by
      obtain ⟨g1, vt1⟩ := s
      obtain ⟨ho1, m1, rfl⟩ := hI
      obtain ⟨m2, vt2, hw, ho2, hdr, hk1⟩ := bars_writeBar_row U env (g.withMaxRows m1) vt1 ho1 i row.1 row.2
        hP.1.1 hP.1.2 hm hk hb hb' hp hP.2
      exact ⟨(g.withMaxRows m2, vt2), hw, ⟨ho2, m2, rfl⟩, fun _ => hdr, fun x y hx hy => hk1 x y (Or.inl hx) hy⟩)
    l b (g.withMaxRows m0, vt) ⟨ho, m0, rfl⟩
    (fun i row hi => ⟨hrows row (List.mem_of_getElem? hi), by
      have := g.cfg.rowStart_mono (i := b + i) (j := b + l.length) (by have := (List.getElem?_eq_some_iff.mp hi).1; omega)
      omega⟩)
  exact ⟨m, vt', hf, ho', hdrawn, hkeep⟩

/-! ### `WriteBar` -/

/-- the stored rows after `WriteBar(j, key, vals)` (`j ≤ len(rows)`: the commands write rows in order) -/
def rowsAfterBar (rows : List (Bytes × List Int)) (j : Nat) (row : Bytes × List Int) : List (Bytes × List Int) :=
  (rows ++ List.replicate ((j : Int) + 1 - rows.length).toNat (([] : Bytes), ([] : List Int))).set j row

theorem rowsAfterBar_get (rows : List (Bytes × List Int)) (j : Nat) (row : Bytes × List Int) (hj : j ≤ rows.length) :
    (rowsAfterBar rows j row)[j]? = some row ∧ (∀ i, i ≠ j → (rowsAfterBar rows j row)[i]? = rows[i]?) ∧
    j < (rowsAfterBar rows j row).length ∧ (rowsAfterBar rows j row).length ≤ rows.length + 1 := by
  unfold rowsAfterBar
  generalize hk : ((j : Int) + 1 - rows.length).toNat = k
  have hl : j < (rows ++ List.replicate k (([] : Bytes), ([] : List Int))).length := by simp; omega
  refine ⟨getElem?_set_self' _ _ _ hl, ?_, by simpa using hl, by simp; omega⟩
  intro i hi
  rw [getElem?_set_ne' _ _ _ _ hi, List.getElem?_append]
  split
  · rfl
  · rw [List.getElem?_replicate, if_neg (by omega), List.getElem?_eq_none (by omega)]

theorem rowsAfterBar_mem (rows : List (Bytes × List Int)) (j : Nat) (row : Bytes × List Int) (hj : j ≤ rows.length)
    (r : Bytes × List Int) (hr : r ∈ rowsAfterBar rows j row) : r = row ∨ r ∈ rows := by
  obtain ⟨i, hi⟩ := List.getElem?_of_mem hr
  obtain ⟨a, b, _, _⟩ := rowsAfterBar_get rows j row hj
  by_cases e : i = j
  · subst e; rw [a] at hi; cases hi; exact Or.inl rfl
  · rw [b i e] at hi; exact Or.inr (List.mem_of_getElem? hi)

/-- the state after `WriteBar(j, key, vals)`, up to `maxRows` -/
def BarGraph.afterBar (env : Env) (g : BarGraph) (j : Nat) (key : Bytes) (vals : List Int) : BarGraph :=
  { g with maxKeyLength := if strLen env key > g.maxKeyLength then strLen env key else g.maxKeyLength,
           rows := rowsAfterBar g.rows j (key, vals),
           maxLineVal := if rowMax g.stacked vals > g.maxLineVal then rowMax g.stacked vals else g.maxLineVal }

theorem writeBarTop_unfold (env : Env) (g : BarGraph) (vt : VirtualTerm) (j : Nat) (key : Bytes) (vals : List Int) :
    g.writeBarTop A env vt (j : Int) key vals =
      if strLen env key > g.maxKeyLength ∨ rowMax g.stacked vals > g.maxLineVal then
        (g.afterBar env j key vals).rows.zipIdx.foldlM (fun (st : BarGraph × VirtualTerm) (ri : (Bytes × List Int) × Nat) =>
          st.1.writeBar A env st.2 ri.2 ri.1.1 ri.1.2) (g.afterBar env j key vals, vt)
      else (g.afterBar env j key vals).writeBar A env vt (j : Int) key vals := by
  have hset : setIdx (g.rows ++ List.replicate ((j : Int) + 1 - g.rows.length).toNat (([] : Bytes), ([] : List Int))) (j : Int) (key, vals)
      = .ok (rowsAfterBar g.rows j (key, vals)) := by
    unfold setIdx rowsAfterBar
    rw [if_neg (by simp; omega)]; simp
  unfold BarGraph.writeBarTop BarGraph.afterBar rowMax
  by_cases h1 : strLen env key > g.maxKeyLength <;>
    by_cases h2 : (if g.stacked = true then sumPositive vals else maxi64 vals) > g.maxLineVal <;>
    simp only [h1, h2, hset, bind, Except.bind, if_true, if_false, decide_true, decide_false, Bool.or_true, Bool.or_false,
      Bool.or_self, or_true, or_false, or_self, Bool.false_eq_true]

/-- what every call leaves true: the running maximum covers every stored row -/
structure BarPre (Dom : Int → Prop) (g : BarGraph) (vt : VirtualTerm) : Prop where
  isOpen : vt.closed = false
  dom_max : Dom g.maxLineVal
  dom_rows : ∀ row ∈ g.rows, ∀ v ∈ row.2, Dom v
  covered : ∀ row ∈ g.rows, rowMax g.stacked row.2 ≤ g.maxLineVal
  key_nonneg : 0 ≤ g.maxKeyLength
  prefix_nonneg : 0 ≤ g.prefixLines
  bar_size : 0 ≤ g.barSize ∧ g.barSize ≤ 1000000000000000

/-- the rows `0 … j-1` fit their slots and are drawn with the current configuration -/
def DrawnBelow (A : Arith α) (env : Env) (g : BarGraph) (vt : VirtualTerm) (j : Nat) : Prop :=
  ∀ (i : Nat) (row : Bytes × List Int), i < j → g.rows[i]? = some row → RowFits g.cfg row ∧ RowDrawn A env g.cfg vt i row

theorem dom_sumPositive (U : UnitLaws A Dom Unit le) (vals : List Int) : Dom (sumPositive vals) := by
  unfold sumPositive
  have : ∀ (l : List Int) (r : Int), Dom r → Dom (l.foldl (fun r v => if v > 0 then wrap64 (r + v) else r) r) := by
    intro l
    induction l with
    | nil => intro r hr; exact hr
    | cons v l ih =>
      intro r hr
      simp only [List.foldl_cons]
      apply ih
      split
      · exact U.dom_wrap _
      · exact hr
  exact this vals 0 U.dom_zero

theorem dom_rowMax (U : UnitLaws A Dom Unit le) (st : Bool) (vals : List Int) (hd : ∀ v ∈ vals, Dom v) : Dom (rowMax st vals) := by
  unfold rowMax; split
  · exact dom_sumPositive U vals
  · exact dom_foldl_max vals 0 U.dom_zero hd

theorem afterBar_cfg (env : Env) (g : BarGraph) (j : Nat) (key : Bytes) (vals : List Int) :
    (g.afterBar env j key vals).cfg = { g.cfg with max := if rowMax g.stacked vals > g.maxLineVal then rowMax g.stacked vals else g.maxLineVal,
                                                    keyw := if strLen env key > g.maxKeyLength then strLen env key else g.maxKeyLength } := rfl

theorem afterBar_pre (U : UnitLaws A Dom Unit le) (env : Env) (g : BarGraph) (vt : VirtualTerm) (hpre : BarPre Dom g vt) (j : Nat) (key : Bytes)
    (vals : List Int) (hj : j ≤ g.rows.length) (hd : ∀ v ∈ vals, Dom v) (m : Int) (vt' : VirtualTerm) (ho : vt'.closed = false) :
    BarPre Dom ((g.afterBar env j key vals).withMaxRows m) vt' := by
  have hmax : g.maxLineVal ≤ (if rowMax g.stacked vals > g.maxLineVal then rowMax g.stacked vals else g.maxLineVal) ∧
      rowMax g.stacked vals ≤ (if rowMax g.stacked vals > g.maxLineVal then rowMax g.stacked vals else g.maxLineVal) := by
    split <;> omega
  refine ⟨ho, ?_, ?_, ?_, ?_, hpre.prefix_nonneg, hpre.bar_size⟩
  · show Dom (if rowMax g.stacked vals > g.maxLineVal then rowMax g.stacked vals else g.maxLineVal)
    split
    · exact dom_rowMax U _ vals hd
    · exact hpre.dom_max
  · intro row hr
    rcases rowsAfterBar_mem g.rows j (key, vals) hj row hr with rfl | hr'
    · exact hd
    · exact hpre.dom_rows row hr'
  · intro row hr
    show rowMax g.stacked row.2 ≤ (if rowMax g.stacked vals > g.maxLineVal then rowMax g.stacked vals else g.maxLineVal)
    rcases rowsAfterBar_mem g.rows j (key, vals) hj row hr with rfl | hr'
    · exact hmax.2
    · exact Int.le_trans (hpre.covered row hr') hmax.1
  · show 0 ≤ (if strLen env key > g.maxKeyLength then strLen env key else g.maxKeyLength)
    have := hpre.key_nonneg
    split <;> omega

/-- ONE `WriteBar(j, key, vals)` with the rows `0 … j-1` current: it returns, the rows `0 … j` are current – drawn with
the running maximum AFTER the call – and the running maximum covers every stored row again.  (`N` bounds the
number of rows: line numbers stay far below 2^62.) -/
theorem bars_writeBarTop_step (U : UnitLaws A Dom Unit le) (env : Env) (g : BarGraph) (vt : VirtualTerm) (hpre : BarPre Dom g vt) (j : Nat)
    (hdr : DrawnBelow A env g vt j) (key : Bytes) (vals : List Int) (hj : j ≤ g.rows.length) (hd : ∀ v ∈ vals, Dom v)
    (hfit : RowFits g.cfg (key, vals)) (N : Nat) (hN : g.rows.length + 1 ≤ N) (hgeo : g.cfg.rowStart N + g.cfg.slot < 4611686018427387904) :
    ∃ m vt', g.writeBarTop A env vt (j : Int) key vals = .ok ((g.afterBar env j key vals).withMaxRows m, vt') ∧
      BarPre Dom ((g.afterBar env j key vals).withMaxRows m) vt' ∧
      DrawnBelow A env ((g.afterBar env j key vals).withMaxRows m) vt' (j + 1) := by
  rw [writeBarTop_unfold]
  obtain ⟨rj, rne, rlen, rlen'⟩ := rowsAfterBar_get g.rows j (key, vals) hj
  have hpre1 := afterBar_pre U env g vt hpre j key vals hj hd g.maxRows vt hpre.isOpen
  -- a stored row below `j + 1` fits its slot; it is the new row, or a row that was drawn
  have hbelow : ∀ (i : Nat) (row : Bytes × List Int), i < j + 1 → (g.afterBar env j key vals).rows[i]? = some row →
      RowFits g.cfg row ∧ ((i = j ∧ row = (key, vals)) ∨ (i < j ∧ RowDrawn A env g.cfg vt i row)) := by
    intro i row hi hrow
    have hrow' : (rowsAfterBar g.rows j (key, vals))[i]? = some row := hrow
    by_cases e : i = j
    · subst e; rw [rj] at hrow'; cases hrow'; exact ⟨hfit, Or.inl ⟨rfl, rfl⟩⟩
    · rw [rne i e] at hrow'
      obtain ⟨f, d⟩ := hdr i row (by omega) hrow'
      exact ⟨f, Or.inr ⟨by omega, d⟩⟩
  by_cases hgt : strLen env key > g.maxKeyLength ∨ rowMax g.stacked vals > g.maxLineVal
  · -- the key column or the running maximum grows: everything is redrawn
    rw [if_pos hgt]
    obtain ⟨m, vt', hf, ho', hdrawn, _⟩ := bars_redraw_ok U env (g.afterBar env j key vals) hpre1.dom_max hpre1.key_nonneg
      hpre1.bar_size.1 hpre1.bar_size.2 hpre1.prefix_nonneg (g.afterBar env j key vals).rows 0 g.maxRows vt hpre.isOpen
      (fun row hr => ⟨hpre1.covered row hr, hpre1.dom_rows row hr⟩) (by
        have := Nat.mul_le_mul_right g.cfg.slot (show (rowsAfterBar g.rows j (key, vals)).length ≤ N by omega)
        show g.cfg.first + (0 + (rowsAfterBar g.rows j (key, vals)).length) * g.cfg.slot + g.cfg.slot < _
        unfold BarCfg.rowStart at hgeo
        rw [Nat.zero_add]; omega)
    refine ⟨m, vt', hf, afterBar_pre U env g vt hpre j key vals hj hd m vt' ho', ?_⟩
    intro i row hi hrow
    have hf := (hbelow i row hi hrow).1
    have := hdrawn i row hrow hf
    rw [Nat.zero_add] at this
    exact ⟨hf, this⟩
  · -- no new maximum: only this row is written
    rw [if_neg hgt]
    have hgt1 : ¬ strLen env key > g.maxKeyLength := fun h => hgt (Or.inl h)
    have hgt2 : ¬ rowMax g.stacked vals > g.maxLineVal := fun h => hgt (Or.inr h)
    have hcfg : (g.afterBar env j key vals).cfg = g.cfg := by
      rw [afterBar_cfg, if_neg hgt1, if_neg hgt2]; rfl
    have hstart : g.cfg.rowStart j + g.cfg.slot ≤ g.cfg.rowStart N := g.cfg.rowStart_mono (by omega)
    obtain ⟨m, vt', hw, ho', hdj, hkeep⟩ := bars_writeBar_row U env (g.afterBar env j key vals) vt hpre.isOpen j key vals
      (by show rowMax g.stacked vals ≤ (if rowMax g.stacked vals > g.maxLineVal then rowMax g.stacked vals else g.maxLineVal)
          rw [if_neg hgt2]; omega)
      hd hpre1.dom_max hpre1.key_nonneg hpre1.bar_size.1 hpre1.bar_size.2 hpre1.prefix_nonneg (by rw [hcfg]; omega)
    refine ⟨m, vt', hw, afterBar_pre U env g vt hpre j key vals hj hd m vt' ho', ?_⟩
    intro i row hi hrow
    show RowFits (g.afterBar env j key vals).cfg row ∧ RowDrawn A env (g.afterBar env j key vals).cfg vt' i row
    rw [hcfg] at hdj hkeep ⊢
    obtain ⟨f, h'⟩ := hbelow i row hi hrow
    refine ⟨f, ?_⟩
    rcases h' with ⟨rfl, rfl⟩ | ⟨hlt, d⟩
    · exact hdj
    · refine RowDrawn.keep d ?_
      intro x y h1 h2 hy
      have hle := rowLines_le_slot g.cfg row f
      have := g.cfg.rowStart_mono hlt
      exact hkeep x y (Or.inl (by omega)) hy

/-! ### a render: `SetKeys`, then `WriteBar(0 … n-1)` -/

/-- same layout and settings, possibly another running maximum -/
def BarCfg.SameLayout (c c' : BarCfg) : Prop := c' = { c with max := c'.max, keyw := c'.keyw }

theorem BarCfg.SameLayout.refl (c : BarCfg) : c.SameLayout c := rfl

theorem BarCfg.SameLayout.trans {a b c : BarCfg} (h1 : a.SameLayout b) (h2 : b.SameLayout c) : a.SameLayout c := by
  unfold BarCfg.SameLayout at *
  rw [h2, h1]

theorem BarCfg.SameLayout.fits {c c' : BarCfg} (h : c.SameLayout c') (row : Bytes × List Int) : RowFits c' row ↔ RowFits c row := by
  unfold BarCfg.SameLayout at h
  rw [h]; exact Iff.rfl

theorem BarCfg.SameLayout.geo {c c' : BarCfg} (h : c.SameLayout c') (N : Nat) : c'.rowStart N + c'.slot = c.rowStart N + c.slot := by
  unfold BarCfg.SameLayout at h
  rw [h]; rfl

theorem afterBar_layout (env : Env) (g : BarGraph) (j : Nat) (key : Bytes) (vals : List Int) (m : Int) :
    g.cfg.SameLayout ((g.afterBar env j key vals).withMaxRows m).cfg ∧ g.maxLineVal ≤ ((g.afterBar env j key vals).withMaxRows m).maxLineVal ∧
      g.maxKeyLength ≤ ((g.afterBar env j key vals).withMaxRows m).maxKeyLength ∧
      strLen env key ≤ ((g.afterBar env j key vals).withMaxRows m).maxKeyLength := by
  refine ⟨rfl, ?_, ?_, ?_⟩ <;> simp only [BarGraph.afterBar, BarGraph.withMaxRows] <;> split <;> omega

/-- the row loop of a render, from a state where the rows `0 … j-1` are current -/
theorem bars_loop_inv (U : UnitLaws A Dom Unit le) (env : Env) (N : Nat) : ∀ (l : List (Bytes × List Int)) (g : BarGraph) (vt : VirtualTerm) (j : Nat),
    BarPre Dom g vt → DrawnBelow A env g vt j → j ≤ g.rows.length →
    (∀ row ∈ l, (∀ v ∈ row.2, Dom v) ∧ RowFits g.cfg row) → g.rows.length + l.length ≤ N →
    g.cfg.rowStart N + g.cfg.slot < 4611686018427387904 →
    ∃ g' vt', l.foldlM (fun (s : BarGraph × VirtualTerm × Int) (row : Bytes × List Int) => do
        let (g, vt) ← s.1.writeBarTop A env s.2.1 s.2.2 row.1 row.2
        pure (g, vt, s.2.2 + 1)) (g, vt, (j : Int)) = .ok (g', vt', ((j + l.length : Nat) : Int)) ∧
      BarPre Dom g' vt' ∧ DrawnBelow A env g' vt' (j + l.length) ∧
      (∀ (i : Nat) (row : Bytes × List Int), l[i]? = some row → g'.rows[j + i]? = some row) ∧
      (∀ i, i < j → g'.rows[i]? = g.rows[i]?) ∧
      g.cfg.SameLayout g'.cfg ∧ g.maxLineVal ≤ g'.maxLineVal ∧
      g.maxKeyLength ≤ g'.maxKeyLength ∧ (∀ row ∈ l, strLen env row.1 ≤ g'.maxKeyLength) := by
  intro l
  induction l with
  | nil =>
    intro g vt j hpre hdr hj _ _ _
    exact ⟨g, vt, rfl, hpre, hdr, by intro i row h; simp at h, fun i _ => rfl, BarCfg.SameLayout.refl _, Int.le_refl _, Int.le_refl _,
      by intro row h; cases h⟩
  | cons row l ih =>
    intro g vt j hpre hdr hj hrows hN hgeo
    simp only [List.length_cons] at hN ⊢
    obtain ⟨hd, hfit⟩ := hrows row (by simp)
    obtain ⟨m, vt1, hw, hpre1, hdr1⟩ := bars_writeBarTop_step U env g vt hpre j hdr row.1 row.2 hj hd hfit N (by omega) hgeo
    obtain ⟨hlay, hmx, hkw1, hkc1⟩ := afterBar_layout env g j row.1 row.2 m
    obtain ⟨rj, rne, rlen, rlen'⟩ := rowsAfterBar_get g.rows j (row.1, row.2) hj
    generalize hg1 : (g.afterBar env j row.1 row.2).withMaxRows m = g1 at hw hpre1 hdr1 hlay hmx hkw1 hkc1
    have hrows1 : g1.rows = rowsAfterBar g.rows j (row.1, row.2) := by rw [← hg1]; rfl
    obtain ⟨g2, vt2, hf, hpre2, hdr2, hget, hlow, hlay2, hmx2, hkw2, hkc2⟩ := ih g1 vt1 (j + 1) hpre1 hdr1 (by rw [hrows1]; omega)
      (fun r hr => ⟨(hrows r (by simp [hr])).1, (hlay.fits r).mpr (hrows r (by simp [hr])).2⟩)
      (by rw [hrows1]; omega) (by rw [hlay.geo]; exact hgeo)
    refine ⟨g2, vt2, ?_, hpre2, ?_, ?_, ?_, hlay.trans hlay2, by omega, by omega, ?_⟩
    rotate_left 4
    · intro r hr
      rcases List.mem_cons.mp hr with rfl | hr'
      · omega
      · exact hkc2 r hr'
    · rw [List.foldlM_cons]
      simp only [hw, bind, Except.bind, pure, Except.pure]
      have e1 : ((j : Int) + 1) = ((j + 1 : Nat) : Int) := by omega
      have e2 : j + (l.length + 1) = j + 1 + l.length := by omega
      simp only [bind, Except.bind, pure, Except.pure] at hf
      rw [e1, e2]
      exact hf
    · rw [show j + (l.length + 1) = j + 1 + l.length by omega]; exact hdr2
    · intro i r hi
      cases i with
      | zero =>
        simp at hi; subst hi
        rw [Nat.add_zero, hlow j (by omega), hrows1]; exact rj
      | succ i =>
        have := hget i r (by simpa using hi)
        rwa [show j + 1 + i = j + (i + 1) by omega] at this
    · intro i hi
      rw [hlow i (by omega), hrows1]; exact rne i (by omega)

theorem barKey_ok (env : Env) (idx : Nat) : ∃ b, barKey env (idx : Int) = .ok b := by
  unfold barKey
  by_cases hc : env.color
  · obtain ⟨c, hcx⟩ := getIdx_ok groupColors (i := (idx : Int) % groupColors.length)
      (Int.emod_nonneg _ (by decide)) (Int.emod_lt_of_pos _ (by decide))
    exact ⟨wrap env c (encodeRune (if env.unicode = true then fullBlock else nonUnicodeBlock)), by simp [hc, hcx, bind, Except.bind, pure, Except.pure]⟩
  · obtain ⟨c, hcx⟩ := getIdx_ok barAscii (i := (idx : Int) % barAscii.length)
      (Int.emod_nonneg _ (by decide)) (Int.emod_lt_of_pos _ (by decide))
    exact ⟨encodeRune c, by simp [hc, hcx, bind, Except.bind, pure, Except.pure]⟩

/-- `SetKeys`: the sub-keys are stored, the first line becomes 1 when a legend is written; nothing else changes -/
theorem bars_setKeys_ok (env : Env) (g : BarGraph) (vt : VirtualTerm) (ho : vt.closed = false) (hk : 0 ≤ g.maxKeyLength) (keys : List Bytes) :
    ∃ p vt', g.setKeys env vt keys = .ok ({ g with subKeys := keys, prefixLines := p }, vt') ∧ vt'.closed = false ∧
      (p = g.prefixLines ∨ p = 1) := by
  unfold BarGraph.setKeys
  simp only
  split
  · obtain ⟨parts, hparts, _⟩ := mapM_ok (fun (x : Bytes × Nat) => match x with
        | (item, idx) => do
          let k ← barKey env idx
          (pure (ascii "  " ++ k ++ [32] ++ item) : Res Bytes)) keys.zipIdx
      (by
        intro x _
        obtain ⟨item, idx⟩ := x
        obtain ⟨k, hk'⟩ := barKey_ok env idx
        exact ⟨_, by simp only [hk', bind, Except.bind]; rfl⟩)
    obtain ⟨vt', hw, ho', _, _⟩ := vt_write_ok vt ho 0 (spaces (g.maxKeyLength + 2) ++ parts.flatten)
    refine ⟨1, vt', ?_, ho', Or.inr rfl⟩
    simp only [bind, Except.bind] at hparts ⊢
    rw [repeatStr_blank _ (show 0 ≤ g.maxKeyLength + 2 by omega)]
    simp only [hparts]
    simp only [Int.natCast_zero] at hw
    rw [hw]; rfl
  · exact ⟨g.prefixLines, vt, rfl, ho, Or.inl rfl⟩

/-- a new bar graph (`NewBarGraph`, then the settings the command sets) on an empty terminal -/
theorem bars_new_pre (U : UnitLaws A Dom Unit le) (stacked : Bool) (barSize : Int) (scaler : Scaler) (fmt : Fmt)
    (hb : 0 ≤ barSize) (hb' : barSize ≤ 1000000000000000) :
    BarPre Dom ({ stacked := stacked, barSize := barSize, scaler := scaler, fmt := fmt } : BarGraph) VirtualTerm.new :=
  ⟨rfl, U.dom_zero, (by intro row hr; cases hr), (by intro row hr; cases hr), (show (0 : Int) ≤ 4 by decide), (show (0 : Int) ≤ 0 by decide), hb, hb'⟩

/-- ONE RENDER of `rare bars` (`SetKeys(subKeys…)`, then `WriteBar(i, key_i, vals_i…)` for the rows in order) from ANY state in
which the running maximum covers the stored rows – a new graph, or the state after any number of earlier
renders: it returns; that property holds again; and EVERY row of this render is stored and drawn with the
FINAL running maximum, whichever calls redrew the graph on the way.  (`N` bounds the number of rows.) -/
theorem bars_render_inv (U : UnitLaws A Dom Unit le) (env : Env) (g : BarGraph) (vt : VirtualTerm) (hpre : BarPre Dom g vt)
    (subKeys : List Bytes) (rows : List (Bytes × List Int))
    (hrows : ∀ row ∈ rows, (∀ v ∈ row.2, Dom v) ∧ (g.stacked = true ∨ row.2.length ≤ subKeys.length))
    (N : Nat) (hN : g.rows.length + rows.length ≤ N)
    (hgeo : g.prefixLines.toNat + 1 + (N + 1) * (subKeys.length + 1) < 4611686018427387904) :
    ∃ g' vt', g.writeOutput A env vt subKeys rows = .ok (g', vt') ∧ BarPre Dom g' vt' ∧
      (∀ (i : Nat) (row : Bytes × List Int), rows[i]? = some row → g'.rows[i]? = some row ∧ RowDrawn A env g'.cfg vt' i row) ∧
      g'.cfg.stacked = g.stacked ∧ g'.cfg.nsub = subKeys.length ∧ g'.cfg.scaler = g.scaler ∧ g'.cfg.fmt = g.fmt ∧
      g'.cfg.barSize = g.barSize ∧ g'.cfg.max = g'.maxLineVal ∧ g.maxLineVal ≤ g'.maxLineVal ∧
      (g'.cfg.first = g.prefixLines.toNat ∨ g'.cfg.first = 1) ∧
      g'.cfg.keyw = g'.maxKeyLength ∧ g.maxKeyLength ≤ g'.maxKeyLength ∧ (∀ row ∈ rows, strLen env row.1 ≤ g'.maxKeyLength) := by
  obtain ⟨p, vt1, hs, ho1, hp⟩ := bars_setKeys_ok env g vt hpre.isOpen hpre.key_nonneg subKeys
  generalize hg1 : ({ g with subKeys := subKeys, prefixLines := p } : BarGraph) = g1 at hs
  have e_rows : g1.rows = g.rows := by rw [← hg1]
  have e_max : g1.maxLineVal = g.maxLineVal := by rw [← hg1]
  have e_cfg : g1.cfg = { g.cfg with first := p.toNat, nsub := subKeys.length } := by rw [← hg1]; rfl
  have hp0 : 0 ≤ p := by have := hpre.prefix_nonneg; rcases hp with h | h <;> omega
  have hpre1 : BarPre Dom g1 vt1 := by
    rw [← hg1]
    exact ⟨ho1, hpre.dom_max, hpre.dom_rows, hpre.covered, hpre.key_nonneg, hp0, hpre.bar_size⟩
  have hslot : g1.cfg.slot ≤ subKeys.length + 1 := by
    rw [e_cfg]; unfold BarCfg.slot; simp only; split <;> omega
  have hgeo1 : g1.cfg.rowStart N + g1.cfg.slot < 4611686018427387904 := by
    have hfirst : g1.cfg.first ≤ g.prefixLines.toNat + 1 := by
      rw [e_cfg]; simp only; have := hpre.prefix_nonneg; rcases hp with h | h <;> omega
    have h1 : N * g1.cfg.slot ≤ N * (subKeys.length + 1) := Nat.mul_le_mul_left _ hslot
    have h2 : (N + 1) * (subKeys.length + 1) = N * (subKeys.length + 1) + (subKeys.length + 1) := by rw [Nat.add_mul]; omega
    unfold BarCfg.rowStart
    omega
  have e_key : g1.maxKeyLength = g.maxKeyLength := by rw [← hg1]
  obtain ⟨g2, vt2, hf, hpre2, hdr2, hget, _, hlay, hmx, hkw, hkc⟩ := bars_loop_inv U env N rows g1 vt1 0 hpre1
    (by intro i row hi; omega) (by omega)
    (by
      intro row hr
      obtain ⟨a, b⟩ := hrows row hr
      refine ⟨a, ?_⟩
      show g1.cfg.stacked = true ∨ row.2.length ≤ g1.cfg.nsub
      rw [e_cfg]
      exact b)
    (by rw [e_rows]; exact hN) hgeo1
  have hcfg : g2.cfg = { g.cfg with first := p.toNat, nsub := subKeys.length, max := g2.cfg.max, keyw := g2.cfg.keyw } := by
    rw [show g2.cfg = { g1.cfg with max := g2.cfg.max, keyw := g2.cfg.keyw } from hlay, e_cfg]
  refine ⟨g2, vt2, ?_, hpre2, ?_, congrArg BarCfg.stacked hcfg, congrArg BarCfg.nsub hcfg, congrArg BarCfg.scaler hcfg,
    congrArg BarCfg.fmt hcfg, congrArg BarCfg.barSize hcfg, rfl, by omega, ?_, rfl, by omega, hkc⟩
  · unfold BarGraph.writeOutput
    simp only [Int.natCast_zero, bind, Except.bind, pure, Except.pure] at hf
    simp only [hs, bind, Except.bind, pure, Except.pure]
    rw [hf]
  · intro i row hi
    have h1 := hget i row hi
    rw [Nat.zero_add] at h1
    have hil : i < rows.length := (List.getElem?_eq_some_iff.mp hi).1
    exact ⟨h1, (hdr2 i row (by omega) h1).2⟩
  · rw [congrArg BarCfg.first hcfg]
    rcases hp with h | h
    · exact Or.inl (by rw [h])
    · exact Or.inr (by rw [h]; rfl)

/-- the bar of one value of a grouped row: the glyphs of `BarWrite(Scale(v, 0, max), BarSize)` – at most `BarSize` -/
theorem bars_bar_shape (U : UnitLaws A Dom Unit le) (env : Env) (c : BarCfg) (v : Int) (hd : Dom v) (hm : Dom c.max)
    (hb : 0 ≤ c.barSize) (hb' : c.barSize ≤ 1000000000000000) :
    ∃ rs, barWriteR A env (scale A c.scaler v 0 c.max) c.barSize = .ok rs ∧ c.barBytes A env v = rs.flatMap encodeRune ∧
      (rs.length : Int) = glyphCount A env c.barSize (scale A c.scaler v 0 c.max) ∧ (rs.length : Int) ≤ c.barSize := by
  obtain ⟨rs, hrs, hbar, hl, hle⟩ := U.barWrite_ok env (U.scale_unit c.scaler hd U.dom_zero hm) hb hb'
  exact ⟨rs, hrs, by unfold BarCfg.barBytes; rw [hbar], hl, hle⟩

end
end Rare.C14

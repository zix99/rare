import Rare.Spec.C12
/-! Facts about the specification functions of C12 (`firstIndex`, `specToks`, `specDissect`). -/
namespace Rare.C12

theorem firstIndex_nil (h : Bytes) : firstIndex [] h = some 0 := by
  cases h <;> simp [firstIndex]

/-- `firstIndex` finds an occurrence … -/
theorem firstIndex_some_prefix {n h : Bytes} {i : Nat} (hi : firstIndex n h = some i) :
    n <+: h.drop i ∧ i + n.length ≤ h.length := by
  induction h generalizing i with
  | nil =>
    simp only [firstIndex] at hi
    split at hi
    · subst_vars; cases hi; simp
    · cases hi
  | cons c cs ih =>
    simp only [firstIndex] at hi
    split at hi
    · rename_i hp
      cases hi
      have hp' := List.isPrefixOf_iff_prefix.mp hp
      exact ⟨by simpa using hp', by simpa using hp'.length_le⟩
    · cases hf : firstIndex n cs with
      | none => simp [hf] at hi
      | some k =>
        simp [hf] at hi
        subst hi
        have := ih hf
        exact ⟨by simpa using this.1, by simp; omega⟩

/-- … and it is the least one: any occurrence at `k` forces a result `≤ k`. -/
theorem firstIndex_le_of_prefix {n h : Bytes} {k : Nat} (hp : n <+: h.drop k) :
    ∃ i, firstIndex n h = some i ∧ i ≤ k := by
  induction h generalizing k with
  | nil =>
    have : n = [] := by simpa using hp
    subst this; exact ⟨0, by simp [firstIndex], by omega⟩
  | cons c cs ih =>
    simp only [firstIndex]
    split
    · exact ⟨0, rfl, by omega⟩
    · rename_i hnp
      cases k with
      | zero =>
        exfalso; apply hnp
        exact List.isPrefixOf_iff_prefix.mpr (by simpa using hp)
      | succ k =>
        obtain ⟨i, hi, hle⟩ := ih (k := k) (by simpa using hp)
        exact ⟨i + 1, by simp [hi], by omega⟩

theorem firstIndex_min {n h : Bytes} {i j : Nat} (hi : firstIndex n h = some i) (hj : j < i) :
    ¬ n <+: h.drop j := by
  intro hp
  obtain ⟨i', hi', hle⟩ := firstIndex_le_of_prefix hp
  rw [hi] at hi'; cases hi'; omega

/-- The defining property: least position where the needle is a prefix of the remainder. -/
theorem firstIndex_spec (n h : Bytes) (i : Nat) :
    firstIndex n h = some i ↔ (i ≤ h.length ∧ n <+: h.drop i ∧ ∀ j < i, ¬ n <+: h.drop j) := by
  constructor
  · intro hi
    have := firstIndex_some_prefix hi
    exact ⟨by omega, this.1, fun j hj => firstIndex_min hi hj⟩
  · rintro ⟨hle, hp, hmin⟩
    obtain ⟨i', hi', hle'⟩ := firstIndex_le_of_prefix hp
    rcases Nat.lt_or_ge i' i with h | h
    · exact absurd (firstIndex_some_prefix hi').1 (hmin i' h)
    · have : i' = i := by omega
      subst this; exact hi'

theorem firstIndex_none_iff (n h : Bytes) :
    firstIndex n h = none ↔ ∀ k ≤ h.length, ¬ n <+: h.drop k := by
  constructor
  · intro hn k hk hp
    obtain ⟨i, hi, _⟩ := firstIndex_le_of_prefix hp
    rw [hn] at hi; cases hi
  · intro hall
    cases hf : firstIndex n h with
    | none => rfl
    | some i =>
      have := firstIndex_some_prefix hf
      exact absurd this.1 (hall i (by omega))

theorem firstIndex_none_of_short {n h : Bytes} (hl : h.length < n.length) : firstIndex n h = none := by
  cases hf : firstIndex n h with
  | none => rfl
  | some i => have := (firstIndex_some_prefix hf).2; omega

/-- a needle that does not overlap itself is found right behind a text free of it -/
theorem firstIndex_append_at {u lead : Bytes} (X : Bytes) (hn : firstIndex u lead = none)
    (hb : ∀ m, 0 < m → m < u.length → u.drop m ≠ u.take (u.length - m)) :
    firstIndex u (lead ++ (u ++ X)) = some lead.length := by
  refine (firstIndex_spec _ _ _).mpr ⟨by simp, by simp, fun j hj hp => ?_⟩
  rw [List.drop_append_of_le_length (by omega)] at hp
  rcases Nat.lt_or_ge (lead.length - j) u.length with h | h
  · -- the occurrence would straddle the end of `lead`
    refine hb (lead.length - j) (by omega) h ?_
    have := congrArg (List.drop (lead.length - j)) (List.prefix_iff_eq_take.mp hp)
    rw [List.drop_take, List.drop_left' (by simp)] at this
    rw [this, List.take_append_of_le_length (by omega)]
  · have hin : u <+: lead.drop j :=
      List.prefix_of_prefix_length_le hp (List.prefix_append _ _) (by simpa using h)
    exact (firstIndex_none_iff _ _).mp hn j (by omega) hin

theorem firstIndex_split {u : Bytes} (hu : u ≠ []) (s : Bytes) :
    firstIndex u s = none ∨ ∃ l r, s = l ++ (u ++ r) ∧ firstIndex u l = none := by
  cases h : firstIndex u s with
  | none => exact Or.inl rfl
  | some i =>
    obtain ⟨hle, ⟨r, hr⟩, hmin⟩ := (firstIndex_spec u s i).mp h
    refine Or.inr ⟨s.take i, r, by rw [hr, List.take_append_drop], (firstIndex_none_iff _ _).mpr fun k hk hp => ?_⟩
    rw [List.drop_take] at hp
    rcases Nat.lt_or_ge k i with hlt | hge
    · exact hmin k hlt (hp.trans (List.take_prefix _ _))
    · rw [show i - k = 0 by omega, List.take_zero, List.prefix_nil] at hp
      exact hu hp

theorem firstIndex_singleton_none {c : UInt8} {l : Bytes} : firstIndex [c] l = none ↔ c ∉ l := by
  induction l with
  | nil => simp [firstIndex]
  | cons x l ih =>
    by_cases h : c = x
    · simp [firstIndex, List.isPrefixOf, h]
    · have h' : ¬ x = c := fun e => h e.symm
      simp [firstIndex, List.isPrefixOf, h, ih]

theorem lower_length (b : Bytes) : (lower b).length = b.length := by simp [lower]
theorem lower_eq_nil {b : Bytes} : lower b = [] ↔ b = [] := by simp [lower]
theorem lower_drop (b : Bytes) (k : Nat) : lower (b.drop k) = (lower b).drop k := by simp [lower, List.map_drop]
theorem lower_take (b : Bytes) (k : Nat) : lower (b.take k) = (lower b).take k := by simp [lower, List.map_take]
theorem lower_prefix {a b : Bytes} (h : a <+: b) : lower a <+: lower b := by
  obtain ⟨t, rfl⟩ := h; exact ⟨lower t, by simp [lower]⟩

theorem lowerByte_toNat (c : UInt8) :
    (lowerByte c).toNat = if 65 ≤ c.toNat ∧ c.toNat ≤ 90 then c.toNat + 32 else c.toNat := by
  simp only [lowerByte, UInt8.le_iff_toNat_le, UInt8.reduceToNat]
  split
  · simp only [UInt8.toNat_add, UInt8.reduceToNat]; omega
  · rfl

/-- Greedy-leftmost monotonicity: searching the lowered needle in the lowered line from an earlier
position finds an occurrence that ends no later. -/
theorem firstIndex_lower_le {u line : Bytes} {pos pos' n : Nat}
    (h : firstIndex u (line.drop pos) = some n) (hp : pos' ≤ pos) :
    ∃ n', firstIndex (lower u) ((lower line).drop pos') = some n' ∧ pos' + n' ≤ pos + n := by
  have hpre' : lower u <+: ((lower line).drop pos').drop (pos + n - pos') := by
    rw [List.drop_drop, show pos' + (pos + n - pos') = pos + n by omega, ← lower_drop, ← List.drop_drop]
    exact lower_prefix (firstIndex_some_prefix h).1
  obtain ⟨i, hi, hle⟩ := firstIndex_le_of_prefix hpre'
  exact ⟨i, hi, by omega⟩

theorem Tok.lowerLit_skip (t : Tok) : t.lowerLit.skip = t.skip := rfl
theorem Tok.lowerLit_lit (t : Tok) : t.lowerLit.lit = lower t.lit := rfl

/-! ### the scan, one token at a time -/

/-- length of the text of one token: up to the first occurrence of its trailing literal, the rest of
the line when it has none -/
def tokLen (line : Bytes) (k : Tok) (pos : Nat) : Option Nat :=
  if k.lit = [] then some (line.drop pos).length else firstIndex k.lit (line.drop pos)

theorem specToks_cons (line : Bytes) (k : Tok) (ks : List Tok) (pos : Nat) :
    specToks line (k :: ks) pos =
      match tokLen line k pos with
      | none => none
      | some n =>
        match specToks line ks (pos + n + k.lit.length) with
        | none => none
        | some (caps, e) => some ((if k.skip then [] else [pos, pos + n]) ++ caps, e) := by
  simp only [specToks, tokLen]; rfl

theorem specToks_cons_some {line : Bytes} {k : Tok} {ks : List Tok} {pos : Nat} {caps : List Nat} {e : Nat}
    (h : specToks line (k :: ks) pos = some (caps, e)) :
    ∃ n caps', tokLen line k pos = some n ∧ specToks line ks (pos + n + k.lit.length) = some (caps', e) ∧
      caps = (if k.skip then [] else [pos, pos + n]) ++ caps' := by
  rw [specToks_cons] at h
  cases hn : tokLen line k pos with
  | none => rw [hn] at h; cases h
  | some n =>
    simp only [hn] at h
    cases hr : specToks line ks (pos + n + k.lit.length) with
    | none => rw [hr] at h; cases h
    | some ce =>
      obtain ⟨caps', e'⟩ := ce
      rw [hr] at h; cases h
      exact ⟨n, caps', rfl, hr, rfl⟩

theorem specToks_cons_of {line : Bytes} {k : Tok} {ks : List Tok} {pos n : Nat} {caps : List Nat} {e : Nat}
    (hn : tokLen line k pos = some n) (hr : specToks line ks (pos + n + k.lit.length) = some (caps, e)) :
    specToks line (k :: ks) pos = some ((if k.skip then [] else [pos, pos + n]) ++ caps, e) := by
  simp only [specToks_cons, hn, hr]

theorem specDissect_some {p : Pat} {line : Bytes} {r : List Nat} (h : specDissect p line = some r) :
    ∃ s caps e, firstIndex p.pre line = some s ∧ specToks line p.toks (s + p.pre.length) = some (caps, e) ∧
      r = s :: e :: caps := by
  unfold specDissect at h
  cases hs : firstIndex p.pre line with
  | none => rw [hs] at h; cases h
  | some s =>
    simp only [hs] at h
    cases hr : specToks line p.toks (s + p.pre.length) with
    | none => rw [hr] at h; cases h
    | some ce =>
      obtain ⟨caps, e⟩ := ce
      rw [hr] at h; cases h
      exact ⟨s, caps, e, rfl, hr, rfl⟩

theorem specDissect_of {p : Pat} {line : Bytes} {s e : Nat} {caps : List Nat} (hs : firstIndex p.pre line = some s)
    (ht : specToks line p.toks (s + p.pre.length) = some (caps, e)) : specDissect p line = some (s :: e :: caps) := by
  simp only [specDissect, hs, ht]

theorem tokLen_of_nil {line : Bytes} {k : Tok} (hl : k.lit = []) (pos : Nat) :
    tokLen line k pos = some (line.length - pos) := by simp [tokLen, hl]

theorem tokLen_of_ne {line : Bytes} {k : Tok} (hl : k.lit ≠ []) (pos : Nat) :
    tokLen line k pos = firstIndex k.lit (line.drop pos) := by simp [tokLen, hl]

theorem tokLen_bound {line : Bytes} {k : Tok} {pos n : Nat} (h : tokLen line k pos = some n)
    (hp : pos ≤ line.length) : pos + n + k.lit.length ≤ line.length := by
  unfold tokLen at h
  split at h
  · rename_i hl; cases h; simp [hl]; omega
  · have := (firstIndex_some_prefix h).2
    simp only [List.length_drop] at this; omega

/-- the lowered trailing literal is found in the lowered line, from an earlier position, no later -/
theorem tokLen_lower_le {line : Bytes} {k : Tok} {pos pos' n : Nat} (h : tokLen line k pos = some n)
    (hp : pos' ≤ pos) : ∃ n', tokLen (lower line) k.lowerLit pos' = some n' ∧ pos' + n' ≤ pos + n := by
  by_cases hl : k.lit = []
  · rw [tokLen_of_nil hl] at h
    cases h
    exact ⟨_, tokLen_of_nil (by simp [Tok.lowerLit, lower, hl]) pos', by rw [lower_length]; omega⟩
  · rw [tokLen_of_ne hl] at h
    rw [tokLen_of_ne (by simpa [Tok.lowerLit, lower] using hl)]
    exact firstIndex_lower_le h hp

theorem specToks_ci_mono {line : Bytes} {ts : List Tok} {pos pos' : Nat} {caps : List Nat} {e : Nat}
    (h : specToks line ts pos = some (caps, e)) (hp : pos' ≤ pos) :
    ∃ caps' e', specToks (lower line) (ts.map Tok.lowerLit) pos' = some (caps', e') ∧ e' ≤ e := by
  induction ts generalizing pos pos' caps e with
  | nil =>
    simp only [specToks] at h; cases h
    exact ⟨[], pos', by simp [specToks], hp⟩
  | cons t ts ih =>
    obtain ⟨n, caps1, hn, hrec, _⟩ := specToks_cons_some h
    obtain ⟨n', hn', hle'⟩ := tokLen_lower_le hn hp
    obtain ⟨c', e', h', hle⟩ := ih (pos' := pos' + n' + t.lowerLit.lit.length) hrec
      (by simp [Tok.lowerLit, lower_length]; omega)
    exact ⟨_, e', specToks_cons_of hn' h', hle⟩

theorem pairwise_le_of_le_head {a b : Nat} {l : List Nat} (hab : a ≤ b) (h : (b :: l).Pairwise (· ≤ ·)) :
    (a :: l).Pairwise (· ≤ ·) :=
  List.pairwise_cons.mpr ⟨fun _ hx => Nat.le_trans hab (List.rel_of_pairwise_cons h hx), (List.pairwise_cons.mp h).2⟩

theorem pairwise_le_cons {a b : Nat} {l : List Nat} (hab : a ≤ b) (h : (b :: l).Pairwise (· ≤ ·)) :
    (a :: b :: l).Pairwise (· ≤ ·) :=
  List.pairwise_cons.mpr ⟨fun x hx => by
    rcases List.mem_cons.mp hx with rfl | hx
    · exact hab
    · exact Nat.le_trans hab (List.rel_of_pairwise_cons h hx), h⟩

theorem specToks_ordered {line : Bytes} {ts : List Tok} {pos : Nat} {caps : List Nat} {e : Nat}
    (h : specToks line ts pos = some (caps, e)) (hp : pos ≤ line.length) :
    (pos :: (caps ++ [e])).Pairwise (· ≤ ·) ∧ e ≤ line.length := by
  induction ts generalizing pos caps e with
  | nil =>
    simp only [specToks] at h; cases h
    simp [hp]
  | cons t ts ih =>
    obtain ⟨n, caps1, hn, hrec, rfl⟩ := specToks_cons_some h
    obtain ⟨hpw, hle⟩ := ih hrec (tokLen_bound hn hp)
    refine ⟨?_, hle⟩
    by_cases hs : t.skip
    · simp only [hs, if_true, List.nil_append]
      exact pairwise_le_of_le_head (by omega) hpw
    · simp only [hs, Bool.false_eq_true, if_false, List.cons_append, List.nil_append]
      exact pairwise_le_cons (Nat.le_refl _) (pairwise_le_cons (by omega) (pairwise_le_of_le_head (by omega) hpw))

/-- offsets of a spec result: `[s, e, c₁s, c₁e, …]` with `s ≤ c₁s ≤ c₁e ≤ … ≤ e ≤ len(line)` -/
theorem specDissect_ordered {p : Pat} {line : Bytes} {r : List Nat} (h : specDissect p line = some r) :
    ∃ s e caps, r = s :: e :: caps ∧ (s :: (caps ++ [e])).Pairwise (· ≤ ·) ∧ e ≤ line.length
      ∧ ∀ x ∈ caps, s + p.pre.length ≤ x := by
  obtain ⟨s, caps, e, hs, hrec, rfl⟩ := specDissect_some h
  obtain ⟨hpw, hle⟩ := specToks_ordered hrec (firstIndex_some_prefix hs).2
  exact ⟨s, e, caps, rfl, pairwise_le_of_le_head (by omega) hpw, hle,
    fun x hx => List.rel_of_pairwise_cons hpw (by simp [hx])⟩

end Rare.C12

import Rare.Proofs.C05HBChan
/-!
# Concrete executions for the channel edges (C05): the hand-shake abstracts to table rows; `close` races

* `hsDemo`: spawn · periodic render by the ticker · `outputDone <- true` (send begins, ticker receives and does nothing
  more, send completes) · final render by main.  It satisfies `AbstractsC` with the two `writeOutput` rows of the role
  table (shaped as the rows of `Gen.Access.aggLoop`), so the hypotheses of `roles_no_race` are
  satisfiable, and it has no race.
* `closeDemo` (seeded/C05-outputdone-close): spawn · the ticker locks `outputMutex` and renders · main CLOSES the
  channel and renders without the lock · the ticker unlocks and observes the closed channel.  An execution, the
  ticker holds the mutex during its render, the close→receive edge is there – and the two renders race.
-/
namespace Rare.Lockset.HBC
open Rare.Lockset.HB (forall_index)
open Rare.Lockset.HB2
open Rare.Gen.Access (Acc)

def cstatesOf (tr : List CEv) : Nat → Nat → ChSt
  | 0 => fun _ => .idle
  | k + 1 =>
    match tr[k]? with
    | some e => (cstep (cstatesOf tr k) e).getD (cstatesOf tr k)
    | none => cstatesOf tr k

def cstepsOk (tr : List CEv) : Bool :=
  (List.range tr.length).all fun k =>
    match tr[k]? with
    | some e => (cstep (cstatesOf tr k) e).isSome
    | none => true

theorem execC_of_checks (tr : List CEv) (h1 : stepsOk (tr.map proj) = true) (h2 : freshOk (tr.map proj) = true)
    (h3 : cstepsOk tr = true) : ExecC tr (statesOf (tr.map proj)) (cstatesOf tr) := by
  refine ⟨exec_of_checks _ h1 h2, fun _ => rfl, ?_⟩
  intro k e hk
  have hlt : k < tr.length := (List.getElem?_eq_some_iff.mp hk).1
  have := List.all_eq_true.mp h3 k (List.mem_range.mpr hlt)
  simp only [hk] at this
  simp only [cstatesOf, hk]
  cases hst : cstep (cstatesOf tr k) e with
  | none => rw [hst] at this; cases this
  | some s' => rfl

def hsDemo : List CEv :=
  [⟨1, .base (.spawn 2)⟩, ⟨2, .base (.acc 7 true false)⟩, ⟨1, .sendB 5⟩, ⟨2, .recv 5⟩, ⟨1, .sendE 5⟩,
   ⟨1, .base (.acc 7 true false)⟩]

def rowTick : Acc := ⟨"go1", "writeOutput", "aggstate", "ref", true, false, "", "", "", 0, "call:func", [], 36⟩
def rowFinal : Acc := ⟨"main", "writeOutput", "aggstate", "ref", true, false, "", "", "", 0, "call:func", ["go1"], 73⟩

def hsSite (k : Nat) : Option Acc := if k = 1 then some rowTick else if k = 5 then some rowFinal else none

theorem hsSite_cases {k : Nat} {r : Acc} (h : hsSite k = some r) : (k = 1 ∧ r = rowTick) ∨ (k = 5 ∧ r = rowFinal) := by
  unfold hsSite at h
  split at h
  · left; exact ⟨by assumption, (Option.some.inj h).symm⟩
  · split at h
    · right; exact ⟨by assumption, (Option.some.inj h).symm⟩
    · cases h

theorem hsDemo_exec : ExecC hsDemo (statesOf (hsDemo.map proj)) (cstatesOf hsDemo) :=
  execC_of_checks _ (by decide) (by decide) (by decide)

theorem hsDemo_handshake : Handshake hsDemo 5 ⟨2, .base (.acc 7 true false)⟩ ⟨1, .base (.acc 7 true false)⟩ := by
  refine ⟨4, ⟨1, .sendE 5⟩, 5, by decide, rfl, rfl, rfl, ?_, ?_⟩
  · exact forall_index (P := fun _ (er : CEv) => er.op = .recv 5 → er.tid = 2) (by decide)
  · intro r r' er e' hr hop hlt hr'
    obtain ⟨hlt', rfl⟩ := List.getElem?_eq_some_iff.mp hr'
    exact forall_index (l := hsDemo)
      (P := fun r (er : CEv) => er.op = .recv 5 → ∀ r' (h : r' < hsDemo.length), r < r' → hsDemo[r'].tid ≠ 2) (by decide)
      r er hr hop r' hlt' hlt

theorem hsDemo_abstracts :
    AbstractsC hsDemo (statesOf (hsDemo.map proj)) [rowTick, rowFinal] hsSite (fun _ => 0) where
  covered := by
    intro k e x w a hk hop
    rcases k with _ | _ | _ | _ | _ | _ | k <;> cases hk
    · cases hop
    · exact ⟨rowTick, rfl, by simp⟩
    · cases hop
    · cases hop
    · cases hop
    · exact ⟨rowFinal, rfl, by simp⟩
  conflicts := by
    intro i j a b ra rb x w1 a1 w2 a2 ha hb hsa hsb hoa hob hw
    rcases hsSite_cases hsa with ⟨rfl, rfl⟩ | ⟨rfl, rfl⟩ <;> rcases hsSite_cases hsb with ⟨rfl, rfl⟩ | ⟨rfl, rfl⟩ <;>
      decide
  roles := by
    intro i j a b ra rb ha hb hsa hsb hne
    rcases hsSite_cases hsa with ⟨rfl, rfl⟩ | ⟨rfl, rfl⟩ <;> rcases hsSite_cases hsb with ⟨rfl, rfl⟩ | ⟨rfl, rfl⟩
    · rw [ha] at hb; cases hb; exact absurd rfl hne
    · decide
    · decide
    · rw [ha] at hb; cases hb; exact absurd rfl hne
  atomic := by
    intro k e x w a r hk hop hs hat
    rcases hsSite_cases hs with ⟨rfl, rfl⟩ | ⟨rfl, rfl⟩ <;> cases hat
  excl := by
    intro k e r hk hs hl
    rcases hsSite_cases hs with ⟨rfl, rfl⟩ | ⟨rfl, rfl⟩ <;> exact absurd hl (by decide)
  shared := by
    intro k e r hk hs hl hnw
    rcases hsSite_cases hs with ⟨rfl, rfl⟩ | ⟨rfl, rfl⟩ <;> exact absurd rfl hl
  ordered := by
    intro i j a b ra rb hij ha hb hsa hsb hne hord
    rcases hsSite_cases hsa with ⟨rfl, rfl⟩ | ⟨rfl, rfl⟩ <;> rcases hsSite_cases hsb with ⟨rfl, rfl⟩ | ⟨rfl, rfl⟩
    · exact absurd hij (by omega)
    · cases ha; cases hb
      exact .inr hsDemo_handshake
    · exact absurd hij (by omega)
    · exact absurd hij (by omega)

/-- The two rows pass the role check, so the hand-shake execution is race free by `roles_no_race`. -/
theorem hsDemo_no_race : ¬ RaceC hsDemo :=
  roles_no_race hsDemo_exec hsDemo_abstracts (by decide)

def closeDemo : List CEv :=
  [⟨1, .base (.spawn 2)⟩, ⟨2, .base (.lock 0)⟩, ⟨2, .base (.acc 7 true false)⟩, ⟨1, .close 5⟩,
   ⟨1, .base (.acc 7 true false)⟩, ⟨2, .base (.unlock 0)⟩, ⟨2, .recvClosed 5⟩]

def tidAt (i : Nat) : Option Nat := (closeDemo[i]?).map (·.tid)

/-- Every happens-before edge of `closeDemo` stays inside a goroutine or leads from main (1) to the ticker (2). -/
def CInv (i j : Nat) : Prop := ∃ s t, tidAt i = some s ∧ tidAt j = some t ∧ (s = t ∨ (s = 1 ∧ t = 2))

theorem CInv.trans {i j k : Nat} (h1 : CInv i j) (h2 : CInv j k) : CInv i k := by
  obtain ⟨s, t, hs, ht, h1⟩ := h1
  obtain ⟨t', u, ht', hu, h2⟩ := h2
  rw [ht] at ht'; cases ht'
  refine ⟨s, u, hs, hu, ?_⟩
  rcases h1 with rfl | ⟨rfl, rfl⟩ <;> rcases h2 with rfl | ⟨h3, rfl⟩
  · exact .inl rfl
  · exact .inr ⟨h3, rfl⟩
  · exact .inr ⟨rfl, rfl⟩
  · cases h3

theorem tidAt_of {i : Nat} {a : CEv} (h : closeDemo[i]? = some a) : tidAt i = some a.tid := by
  simp [tidAt, h]

theorem tidAt_of_proj {i : Nat} {a : Ev} (h : (closeDemo.map proj)[i]? = some a) : tidAt i = some a.tid := by
  rw [List.getElem?_map] at h
  cases h' : closeDemo[i]? with
  | none => simp [h'] at h
  | some e =>
    simp [h'] at h
    subst h
    simp [tidAt, h', proj]

theorem mem_base {a : Ev} {i : Nat} (h : (closeDemo.map proj)[i]? = some a) :
    a = ⟨1, .spawn 2⟩ ∨ a = ⟨2, .lock 0⟩ ∨ a = ⟨2, .acc 7 true false⟩ ∨ a = ⟨1, .other⟩ ∨
    a = ⟨1, .acc 7 true false⟩ ∨ a = ⟨2, .unlock 0⟩ ∨ a = ⟨2, .other⟩ := by
  have := List.mem_of_getElem? h
  simp [closeDemo, proj] at this
  rcases this with h | h | h | h | h | h | h <;> simp [h]

theorem close_base_inv {i j : Nat} (h : HB (closeDemo.map proj) i j) : CInv i j := by
  induction h with
  | po _ ha hb ht => exact ⟨_, _, tidAt_of_proj ha, tidAt_of_proj hb, .inl ht⟩
  | swLock _ ha hb hop hop' =>
    refine ⟨_, _, tidAt_of_proj ha, tidAt_of_proj hb, .inl ?_⟩
    rcases mem_base hb with rfl | rfl | rfl | rfl | rfl | rfl | rfl <;> try (cases hop'; done)
    rcases mem_base ha with rfl | rfl | rfl | rfl | rfl | rfl | rfl <;> rcases hop with h | h <;> first | rfl | cases h
  | swRLock _ _ hb _ hop' =>
    rcases mem_base hb with rfl | rfl | rfl | rfl | rfl | rfl | rfl <;> cases hop'
  | go _ ha hb hop ht =>
    refine ⟨_, _, tidAt_of_proj ha, tidAt_of_proj hb, .inr ?_⟩
    rcases mem_base ha with rfl | rfl | rfl | rfl | rfl | rfl | rfl <;> try (cases hop; done)
    cases hop
    exact ⟨rfl, ht⟩
  | trans _ _ ih1 ih2 => exact ih1.trans ih2

theorem mem_close {a : CEv} {i : Nat} (h : closeDemo[i]? = some a) :
    a = ⟨1, .base (.spawn 2)⟩ ∨ a = ⟨2, .base (.lock 0)⟩ ∨ a = ⟨2, .base (.acc 7 true false)⟩ ∨ a = ⟨1, .close 5⟩ ∨
    a = ⟨1, .base (.acc 7 true false)⟩ ∨ a = ⟨2, .base (.unlock 0)⟩ ∨ a = ⟨2, .recvClosed 5⟩ := by
  have := List.mem_of_getElem? h
  simpa [closeDemo] using this

theorem close_inv {i j : Nat} (h : HBc closeDemo i j) : CInv i j := by
  induction h with
  | base h => exact close_base_inv h
  | chSend _ ha _ hop _ _ =>
    rcases mem_close ha with rfl | rfl | rfl | rfl | rfl | rfl | rfl <;> cases hop
  | chRecv _ ha _ hop _ _ =>
    rcases mem_close ha with rfl | rfl | rfl | rfl | rfl | rfl | rfl <;> cases hop
  | chClose _ ha hb hop hop' =>
    refine ⟨_, _, tidAt_of ha, tidAt_of hb, .inr ?_⟩
    rcases mem_close ha with rfl | rfl | rfl | rfl | rfl | rfl | rfl <;> try (cases hop; done)
    rcases mem_close hb with rfl | rfl | rfl | rfl | rfl | rfl | rfl <;> try (cases hop'; done)
    exact ⟨rfl, rfl⟩
  | trans _ _ ih1 ih2 => exact ih1.trans ih2

/-- **`close(outputDone)` does not order the periodic render before the final one.**  The run is an execution; the
    ticker holds `outputMutex` exclusively while it renders; the `close` is synchronised before the ticker's receive –
    and the ticker's render (event 2) and main's final render (event 4) form a data race. -/
theorem close_race : ExecC closeDemo (statesOf (closeDemo.map proj)) (cstatesOf closeDemo) ∧
    Holds (statesOf (closeDemo.map proj) 2) 0 2 true ∧ HBc closeDemo 3 6 ∧ RaceC closeDemo := by
  refine ⟨execC_of_checks _ (by decide) (by decide) (by decide), by decide,
    .chClose (by decide) (a := ⟨1, .close 5⟩) (b := ⟨2, .recvClosed 5⟩) rfl rfl rfl rfl, ?_⟩
  refine ⟨2, 4, ⟨2, .base (.acc 7 true false)⟩, ⟨1, .base (.acc 7 true false)⟩, by decide, rfl, rfl,
    ⟨7, true, false, true, false, rfl, rfl, .inl rfl, by simp⟩, by decide, ?_⟩
  intro h
  obtain ⟨s, t, hs, ht, h1⟩ := close_inv h
  simp [tidAt, closeDemo] at hs ht
  subst hs; subst ht
  rcases h1 with h1 | ⟨h1, _⟩ <;> cases h1

end Rare.Lockset.HBC

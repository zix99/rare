import Rare.Proofs.C04
import Rare.Proofs.C04Buf
/-!
Translator tie for C04 (helpers; nothing here mentions `Rare.Gen`).

`harness/extract/c04.go` translates every condition, integer update, slice expression and `make`
size of `ImmediateReadAhead.Scan`, `BufferedReadAhead.Scan` and `dropCR` into Lean functions over
`Int` (`Rare.Gen.C04`).  Here the two `Scan` bodies are *re-assembled* from such fragments,
following the control skeleton of the source (which `Props/C04.lean` checks with `rfl`):
`Imm.scanG F` / `Buf.scanG F` are programs parametric in a bundle `F` of fragments.  The theorems
of this file say that the hand model equals the re-assembled program instantiated with the
fragments the model was written against (`ImmFrags.hand`, `BufFrags.hand`) for every state with
`offset ≤ end`.  `Props/C04.lean` then proves that the *generated* fragments are those fragments.
-/
namespace Rare.C04

/-- A Go slice expression `base[lo:hi]` read on the list that abstracts the array contents. -/
def goSlice (base : Bytes) (lo hi : Int) : Bytes := (base.drop lo.toNat).take (hi.toNat - lo.toNat)

/-- `bytes.IndexByte(l, '\n')` -/
def goIndexByte (l : Bytes) : Int :=
  match idxNl l with
  | some k => (k : Int)
  | none => -1

/-- bounds of a slice expression; `cr` = wrapped in `dropCR( … )` (same shape as `Rare.Gen.C04.Sl`) -/
structure SlB where
  cr : Bool
  lo : Int
  hi : Int

def evalSl (base : Bytes) (sl : SlB) : Bytes :=
  if sl.cr then dropCR (goSlice base sl.lo sl.hi) else goSlice base sl.lo sl.hi

/-! ### ImmediateReadAhead.Scan re-assembled -/

/-- The fragments of `ImmediateReadAhead.Scan`, in source order. -/
structure ImmFrags where
  c0 : Int → Int → Bool           -- s.offset < s.end
  sl0 : Int → Int → SlB           -- s.buf[s.offset:s.end]                 (searched)
  c1 : Int → Bool                 -- eol >= 0
  sl1 : Int → Int → SlB           -- dropCR(s.buf[s.offset:s.offset+eol])  (token)
  set0 : Int → Int → Int          -- s.offset += eol + 1
  c2 : Bool → Bool                -- s.eof
  sl2 : Int → Int → SlB           -- s.buf[s.offset:s.end]                 (tail token)
  set1 : Int → Int                -- s.offset = s.end
  c3 : Bool → Bool                -- s.eof
  c4 : Int → Int → Bool           -- s.end >= len(s.buf)
  make0 : Int → Int → Int → Int   -- make([]byte, s.end-s.offset+s.bufSize)
  sl3 : Int → Int → SlB           -- old[s.offset:s.end]                   (copied)
  set2 : Int → Int → Int          -- s.end -= s.offset
  set3 : Int                      -- s.offset = 0
  sl4 : Int → Int → SlB           -- s.buf[s.end:]                         (Read target)
  set4 : Int → Int → Int          -- s.end += n
  c5 : Bool → Bool                -- err != nil
  c6 : Bool → Bool → Bool         -- err != io.EOF && s.onError != nil
  sl5 : Int → Int → SlB           -- s.buf[s.end-n:s.end]                  (searched)
  c7 : Int → Bool                 -- eol >= 0
  set5 : Int → Int → Int → Int    -- end := s.end - n + eol
  sl6 : Int → Int → SlB           -- dropCR(s.buf[s.offset:end])           (token)
  set6 : Int → Int                -- s.offset = end + 1

/-- What the hand model assumes the fragments to be. -/
def ImmFrags.hand : ImmFrags where
  c0 := fun offset end_ => decide (offset < end_)
  sl0 := fun offset end_ => ⟨false, offset, end_⟩
  c1 := fun eol => decide (eol ≥ 0)
  sl1 := fun offset eol => ⟨true, offset, offset + eol⟩
  set0 := fun offset eol => offset + (eol + 1)
  c2 := fun eof => eof
  sl2 := fun offset end_ => ⟨false, offset, end_⟩
  set1 := fun end_ => end_
  c3 := fun eof => eof
  c4 := fun end_ len_buf => decide (end_ ≥ len_buf)
  make0 := fun end_ offset bufSize => (end_ - offset) + bufSize
  sl3 := fun offset end_ => ⟨false, offset, end_⟩
  set2 := fun end_ offset => end_ - offset
  set3 := 0
  sl4 := fun end_ len_buf => ⟨false, end_, len_buf⟩
  set4 := fun end_ n => end_ + n
  c5 := fun err_nonnil => err_nonnil
  c6 := fun err_not_eof has_onError => (err_not_eof && has_onError)
  sl5 := fun end_ n => ⟨false, end_ - n, end_⟩
  c7 := fun eol => decide (eol ≥ 0)
  set5 := fun end_ n eol => (end_ - n) + eol
  sl6 := fun offset endL => ⟨true, offset, endL⟩
  set6 := fun endL => endL + 1

@[simp] theorem ImmFrags.hand_c0 {a b} : ImmFrags.hand.c0 a b = decide (a < b) := rfl
@[simp] theorem ImmFrags.hand_sl0 {a b} : ImmFrags.hand.sl0 a b = ⟨false, a, b⟩ := rfl
@[simp] theorem ImmFrags.hand_c1 {a} : ImmFrags.hand.c1 a = decide (a ≥ 0) := rfl
@[simp] theorem ImmFrags.hand_sl1 {a b} : ImmFrags.hand.sl1 a b = ⟨true, a, a + b⟩ := rfl
@[simp] theorem ImmFrags.hand_set0 {a b} : ImmFrags.hand.set0 a b = a + (b + 1) := rfl
@[simp] theorem ImmFrags.hand_c2 {a} : ImmFrags.hand.c2 a = a := rfl
@[simp] theorem ImmFrags.hand_sl2 {a b} : ImmFrags.hand.sl2 a b = ⟨false, a, b⟩ := rfl
@[simp] theorem ImmFrags.hand_set1 {a} : ImmFrags.hand.set1 a = a := rfl
@[simp] theorem ImmFrags.hand_c3 {a} : ImmFrags.hand.c3 a = a := rfl
@[simp] theorem ImmFrags.hand_c4 {a b} : ImmFrags.hand.c4 a b = decide (a ≥ b) := rfl
@[simp] theorem ImmFrags.hand_make0 {a b c} : ImmFrags.hand.make0 a b c = (a - b) + c := rfl
@[simp] theorem ImmFrags.hand_sl3 {a b} : ImmFrags.hand.sl3 a b = ⟨false, a, b⟩ := rfl
@[simp] theorem ImmFrags.hand_set2 {a b} : ImmFrags.hand.set2 a b = a - b := rfl
@[simp] theorem ImmFrags.hand_sl4 {a b} : ImmFrags.hand.sl4 a b = ⟨false, a, b⟩ := rfl
@[simp] theorem ImmFrags.hand_set4 {a b} : ImmFrags.hand.set4 a b = a + b := rfl
@[simp] theorem ImmFrags.hand_c5 {a} : ImmFrags.hand.c5 a = a := rfl
@[simp] theorem ImmFrags.hand_c6 {a b} : ImmFrags.hand.c6 a b = (a && b) := rfl
@[simp] theorem ImmFrags.hand_sl5 {a b} : ImmFrags.hand.sl5 a b = ⟨false, a - b, a⟩ := rfl
@[simp] theorem ImmFrags.hand_c7 {a} : ImmFrags.hand.c7 a = decide (a ≥ 0) := rfl
@[simp] theorem ImmFrags.hand_set5 {a b c} : ImmFrags.hand.set5 a b c = (a - b) + c := rfl
@[simp] theorem ImmFrags.hand_sl6 {a b} : ImmFrags.hand.sl6 a b = ⟨true, a, b⟩ := rfl
@[simp] theorem ImmFrags.hand_set6 {a} : ImmFrags.hand.set6 a = a + 1 := rfl
@[simp] theorem ImmFrags.hand_set3 : ImmFrags.hand.set3 = 0 := rfl

/-- `s.token = <slice>; s.offset = <newOff>; return true` -/
def Imm.emitG (s : Imm) (sl : SlB) (newOff : Int) : Res × Imm :=
  let line := evalSl s.buf sl
  (.tok ⟨s.arr, sl.lo.toNat, sl.lo.toNat + line.length⟩ line, { s with offset := newOff.toNat })

/-- from `RESTART:` to the read loop (`none` = fall through into the loop) -/
def Imm.topG (F : ImmFrags) (s : Imm) : Option (Res × Imm) :=
  let off : Int := s.offset
  let end_ : Int := s.buf.length
  if F.c0 off end_ then
    let eol := goIndexByte (evalSl s.buf (F.sl0 off end_))
    if F.c1 eol then some (s.emitG (F.sl1 off eol) (F.set0 off eol))
    else if F.c2 s.eof then some (s.emitG (F.sl2 off end_) (F.set1 end_))
    else none
  else if F.c3 s.eof then some (.done, s) else none

/-- `if s.end >= len(s.buf) { old := s.buf; s.buf = make(…); copy(s.buf, old[…]); s.end -= s.offset; s.offset = 0 }` -/
def Imm.grownG (F : ImmFrags) (s : Imm) : Imm :=
  let off : Int := s.offset
  let end_ : Int := s.buf.length
  if F.c4 end_ s.cap then
    { s with mem := s.mem ++ [s.buf], cap := (F.make0 end_ off s.bufSize).toNat,
             buf := evalSl s.buf (F.sl3 off end_), offset := F.set3.toNat }
  else s

def Imm.readLoopG (F : ImmFrags) : Nat → Imm → Res × Imm
  | 0, s => (.fuel, s)
  | f + 1, s =>
    let s0 := s.grownG F
    let tgt := F.sl4 s0.buf.length s0.cap
    let r := s0.rd.read (tgt.hi.toNat - tgt.lo.toNat)          -- n, err := s.r.Read(s.buf[s.end:])
    let s1 := s0.recv r.1 r.2.2                                 -- s.end += n
    let n : Int := r.1.length
    let end_ : Int := s1.buf.length
    if F.c5 r.2.1.isSome then
      let s2 := { s1 with eof := true,
                          errs := if F.c6 (decide (r.2.1 = some .fail)) true then s1.errs + 1 else s1.errs }
      match s2.topG F with                                      -- goto RESTART
      | some res => res
      | none => Imm.readLoopG F f s2
    else
      let eol := goIndexByte (evalSl s1.buf (F.sl5 end_ n))
      if F.c7 eol then
        let endL := F.set5 end_ n eol
        s1.emitG (F.sl6 s1.offset endL) (F.set6 endL)
      else Imm.readLoopG F f s1

def Imm.scanG (F : ImmFrags) (fuel : Nat) (s : Imm) : Res × Imm :=
  match s.topG F with
  | some r => r
  | none => s.readLoopG F fuel

/-! #### the hand model is the re-assembled program

The fragments compute with `Int`, the model with `Nat`.  Every integer that occurs is a sum or difference of lengths
and offsets: the casts are moved outwards (`← Int.natCast_add`, `Int.ofNat_sub`) until `Int.toNat_natCast` removes
them; the slice lemmas below are stated in that form. -/

theorem goSlice_nat (base : Bytes) (a b : Nat) :
    goSlice base (a : Int) (b : Int) = (base.drop a).take (b - a) := by
  simp [goSlice]

theorem evalSl_rest (base : Bytes) (a : Nat) : evalSl base ⟨false, (a : Int), (base.length : Int)⟩ = base.drop a := by
  simp only [evalSl, Bool.false_eq_true, if_false, goSlice_nat]
  exact List.take_of_length_le (by simp)

theorem goIndexByte_some {l : Bytes} {k : Nat} (h : idxNl l = some k) : goIndexByte l = k := by
  simp [goIndexByte, h]

theorem goIndexByte_none {l : Bytes} (h : idxNl l = none) : goIndexByte l = -1 := by
  simp [goIndexByte, h]

/-- a terminated line from `offset` up to the absolute index `hi` of its newline -/
theorem emitG_line (s : Imm) (hi : Nat) (h : s.offset ≤ hi) :
    s.emitG ⟨true, (s.offset : Int), (hi : Int)⟩ ((hi + 1 : Nat) : Int) = s.emitAt (hi - s.offset) := by
  simp only [Imm.emitG, Imm.emitAt, evalSl, if_true, goSlice_nat, Int.toNat_natCast, Nat.add_sub_cancel' h]

theorem emitG_emitTail (s : Imm) (h : s.offset ≤ s.buf.length) :
    s.emitG ⟨false, (s.offset : Int), (s.buf.length : Int)⟩ (s.buf.length : Int) = s.emitTail := by
  simp only [Imm.emitG, Imm.emitTail, evalSl_rest, Int.toNat_natCast, List.length_drop, Nat.add_sub_cancel' h]

theorem topG_hand (s : Imm) (h : s.offset ≤ s.buf.length) : s.topG ImmFrags.hand = s.top := by
  simp only [Imm.topG, Imm.top, ImmFrags.hand_c0, ImmFrags.hand_sl0, ImmFrags.hand_c1, ImmFrags.hand_sl1,
    ImmFrags.hand_set0, ImmFrags.hand_c2, ImmFrags.hand_sl2, ImmFrags.hand_set1, ImmFrags.hand_c3, evalSl_rest,
    Int.ofNat_lt, decide_eq_true_eq]
  split
  · cases hi : idxNl (s.buf.drop s.offset) with
    | some k =>
      simp only [goIndexByte_some hi, ge_iff_le, Int.natCast_nonneg, if_true, ← Int.natCast_one, ← Int.natCast_add,
        ← Nat.add_assoc, emitG_line s (s.offset + k) (Nat.le_add_right _ _), Nat.add_sub_cancel_left]
    | none =>
      simp only [goIndexByte_none hi, emitG_emitTail s h]
      rfl
  · rfl

theorem grownG_hand (s : Imm) (h : s.offset ≤ s.buf.length) : s.grownG ImmFrags.hand = s.grown := by
  simp only [Imm.grownG, Imm.grown, Imm.regrow, ImmFrags.hand_c4, ImmFrags.hand_make0, ImmFrags.hand_sl3,
    ImmFrags.hand_set3, evalSl_rest, ← Int.ofNat_sub h, ← Int.natCast_add, Int.toNat_natCast, ge_iff_le, Int.ofNat_le,
    decide_eq_true_eq]
  rfl

theorem grown_off (s : Imm) (h : s.offset ≤ s.buf.length) : s.grown.offset ≤ s.grown.buf.length := by
  unfold Imm.grown Imm.regrow
  split <;> simp [h]

theorem fail_eq (s1 : Imm) (e : RErr) :
    ({ s1 with eof := true,
               errs := if (decide (some e = some RErr.fail) && true) = true then s1.errs + 1 else s1.errs } : Imm)
      = s1.fail e := by
  cases e <;> simp [Imm.fail]

/-- the slice `s.buf[s.end-n:s.end]` searched after a `Read` of `n` bytes is what was read -/
theorem evalSl_read (buf bs : Bytes) :
    evalSl (buf ++ bs) ⟨false, ((buf ++ bs).length : Int) - (bs.length : Int), ((buf ++ bs).length : Int)⟩ = bs := by
  rw [List.length_append, Int.natCast_add, Int.add_sub_cancel, ← Int.natCast_add, ← List.length_append, evalSl_rest,
    List.drop_left]

theorem readLoopG_hand (f : Nat) : ∀ (s : Imm), s.offset ≤ s.buf.length →
    s.readLoopG ImmFrags.hand f = s.readLoop f := by
  induction f with
  | zero => intro s _; rfl
  | succ f ih =>
    intro s h
    simp only [Imm.readLoopG, Imm.readLoop, grownG_hand s h, ImmFrags.hand_sl4, ImmFrags.hand_c5,
      ImmFrags.hand_c6, ImmFrags.hand_sl5, ImmFrags.hand_c7, ImmFrags.hand_set5, ImmFrags.hand_sl6,
      ImmFrags.hand_set6, Int.toNat_natCast]
    have h0 := grown_off s h
    generalize s.grown = s0 at h0
    generalize s0.rd.read (s0.cap - s0.buf.length) = r
    obtain ⟨bs, err, rd'⟩ := r
    have h1 : (s0.recv bs rd').offset ≤ (s0.recv bs rd').buf.length :=
      Nat.le_trans h0 (by simp [Imm.recv])
    cases err with
    | some e =>
      simp only [Option.isSome_some, if_true, fail_eq]
      rw [topG_hand ((s0.recv bs rd').fail e) h1, topEof_eq_top _ rfl]
    | none =>
      simp only [Option.isSome_none, Bool.false_eq_true, if_false, Imm.recv, evalSl_read]
      cases hi : idxNl bs with
      | some k =>
        simp only [goIndexByte_some hi, ge_iff_le, Int.natCast_nonneg, decide_true, if_true, List.length_append,
          Int.natCast_add, Int.add_sub_cancel, ← Int.natCast_one]
        simp only [← Int.natCast_add]
        exact emitG_line (s0.recv bs rd') (s0.buf.length + k) (Nat.le_trans h0 (Nat.le_add_right _ _))
      | none =>
        simp only [goIndexByte_none hi, show ¬ ((-1 : Int) ≥ 0) by decide, decide_false, Bool.false_eq_true, if_false]
        exact ih _ h1

/-- The hand model of `ImmediateReadAhead.Scan` is the program re-assembled from the fragments. -/
theorem scanG_hand (f : Nat) (s : Imm) (h : s.offset ≤ s.buf.length) :
    s.scanG ImmFrags.hand f = s.scan f := by
  unfold Imm.scanG Imm.scan
  rw [topG_hand s h, readLoopG_hand f s h]
  rfl

/-! ### BufferedReadAhead.Scan re-assembled -/

/-- `maxi` of pkg/readahead/util.go -/
def goMaxi (a b : Int) : Int := if decide (a > b) then a else b

/-- The fragments of `BufferedReadAhead.Scan`, in source order. -/
structure BufFrags where
  sl0 : Int → Int → SlB   -- s.buf[s.offset:]                    (searched)
  c0 : Int → Bool   -- relIndex >= 0
  set0 : Int → Int   -- start := s.offset
  set1 : Int → Int → Int   -- s.offset += relIndex + 1
  sl1 : Int → Int → SlB   -- dropCR(s.buf[start:start+relIndex])  (token)
  c1 : Bool → Int → Int → Bool   -- s.eof && s.offset < len(s.buf)
  sl2 : Int → Int → SlB   -- s.buf[s.offset:]                    (tail token)
  set2 : Int → Int   -- s.offset = len(s.buf)
  c2 : Bool → Bool   -- !s.eof
  make0 : Int → Int → Int → Int   -- make([]byte, maxi(s.maxBufLen, len(oldbuf)-s.offset+s.maxBufLen/2))
  sl3 : Int → Int → SlB   -- oldbuf[s.offset:]                   (copied)
  set3 : Int → Int → Int   -- readOffset := len(oldbuf) - s.offset
  c3 : Int → Int → Bool   -- readOffset < len(s.buf)
  sl4 : Int → Int → SlB   -- s.buf[readOffset:]                  (Read target)
  set4 : Int → Int → Int   -- readOffset += n
  c4 : Bool → Bool   -- err != nil
  c5 : Bool → Bool → Bool   -- err != io.EOF && s.onError != nil
  sl5 : Int → SlB   -- s.buf[:readOffset]
  set5 : Int   -- s.offset = 0

/-- What the hand model assumes the fragments to be. -/
def BufFrags.hand : BufFrags where
  sl0 := fun a b => ⟨false, a, b⟩
  c0 := fun a => decide (a ≥ 0)
  set0 := fun a => a
  set1 := fun a b => a + (b + 1)
  sl1 := fun a b => ⟨true, a, a + b⟩
  c1 := fun e a b => (e && decide (a < b))
  sl2 := fun a b => ⟨false, a, b⟩
  set2 := fun a => a
  c2 := fun e => (!e)
  make0 := fun m l o => goMaxi m ((l - o) + Int.tdiv m 2)
  sl3 := fun a b => ⟨false, a, b⟩
  set3 := fun l o => l - o
  c3 := fun a b => decide (a < b)
  sl4 := fun a b => ⟨false, a, b⟩
  set4 := fun a n => a + n
  c4 := fun e => e
  c5 := fun a b => (a && b)
  sl5 := fun a => ⟨false, 0, a⟩
  set5 := 0

@[simp] theorem BufFrags.hand_sl0 {a b} : BufFrags.hand.sl0 a b = ⟨false, a, b⟩ := rfl
@[simp] theorem BufFrags.hand_c0 {a} : BufFrags.hand.c0 a = decide (a ≥ 0) := rfl
@[simp] theorem BufFrags.hand_set0 {a} : BufFrags.hand.set0 a = a := rfl
@[simp] theorem BufFrags.hand_set1 {a b} : BufFrags.hand.set1 a b = a + (b + 1) := rfl
@[simp] theorem BufFrags.hand_sl1 {a b} : BufFrags.hand.sl1 a b = ⟨true, a, a + b⟩ := rfl
@[simp] theorem BufFrags.hand_c1 {e a b} : BufFrags.hand.c1 e a b = (e && decide (a < b)) := rfl
@[simp] theorem BufFrags.hand_sl2 {a b} : BufFrags.hand.sl2 a b = ⟨false, a, b⟩ := rfl
@[simp] theorem BufFrags.hand_set2 {a} : BufFrags.hand.set2 a = a := rfl
@[simp] theorem BufFrags.hand_c2 {e} : BufFrags.hand.c2 e = (!e) := rfl
@[simp] theorem BufFrags.hand_make0 {m l o} : BufFrags.hand.make0 m l o = goMaxi m ((l - o) + Int.tdiv m 2) := rfl
@[simp] theorem BufFrags.hand_sl3 {a b} : BufFrags.hand.sl3 a b = ⟨false, a, b⟩ := rfl
@[simp] theorem BufFrags.hand_set3 {l o} : BufFrags.hand.set3 l o = l - o := rfl
@[simp] theorem BufFrags.hand_c3 {a b} : BufFrags.hand.c3 a b = decide (a < b) := rfl
@[simp] theorem BufFrags.hand_sl4 {a b} : BufFrags.hand.sl4 a b = ⟨false, a, b⟩ := rfl
@[simp] theorem BufFrags.hand_set4 {a n} : BufFrags.hand.set4 a n = a + n := rfl
@[simp] theorem BufFrags.hand_c4 {e} : BufFrags.hand.c4 e = e := rfl
@[simp] theorem BufFrags.hand_c5 {a b} : BufFrags.hand.c5 a b = (a && b) := rfl
@[simp] theorem BufFrags.hand_sl5 {a} : BufFrags.hand.sl5 a = ⟨false, 0, a⟩ := rfl
@[simp] theorem BufFrags.hand_set5 : BufFrags.hand.set5 = 0 := rfl

def Buf.emitG (s : Buf) (sl : SlB) (newOff : Int) : Res × Buf :=
  let line := evalSl s.buf sl
  (.tok ⟨s.mem.length, sl.lo.toNat, sl.lo.toNat + line.length⟩ line, { s with offset := newOff.toNat })

/-- the inner `for readOffset < len(s.buf)` loop; `acc.length` is `readOffset` -/
def Buf.fillG (F : BufFrags) : Nat → Nat → Bytes → Reader → Nat → Bytes → Option (Bytes × Reader × Bool × Nat × Bytes)
  | 0, _, _, _, _, _ => none
  | f + 1, cap, acc, rd, errs, dl =>
    if F.c3 acc.length cap then
      let tgt := F.sl4 acc.length cap
      let r := rd.read (tgt.hi.toNat - tgt.lo.toNat)           -- n, err := s.r.Read(s.buf[readOffset:])
      let acc' := acc ++ r.1                                    -- readOffset += n
      bif F.c4 r.2.1.isSome then
        some (acc', r.2.2, true, bif F.c5 (decide (r.2.1 = some .fail)) true then errs + 1 else errs, dl ++ r.1)
      else Buf.fillG F f cap acc' r.2.2 errs (dl ++ r.1)
    else some (acc, rd, false, errs, dl)

def Buf.scanG (F : BufFrags) : Nat → Buf → Res × Buf
  | 0, s => (.fuel, s)
  | f + 1, s =>
    let off : Int := s.offset
    let len : Int := s.buf.length
    let relIndex := goIndexByte (evalSl s.buf (F.sl0 off len))
    if F.c0 relIndex then
      let start := F.set0 off
      s.emitG (F.sl1 start relIndex) (F.set1 off relIndex)
    else if F.c1 s.eof off len then s.emitG (F.sl2 off len) (F.set2 len)
    else if F.c2 s.eof then
      let cap := (F.make0 s.maxBufLen len off).toNat
      let keep := evalSl s.buf (F.sl3 off len)
      match Buf.fillG F (s.rd.measure + 2) cap keep s.rd s.errs s.delivered with
      | none => (.fuel, s)
      | some (acc, rd', eof', errs', dl') =>
        Buf.scanG F f { s with mem := s.mem ++ [s.buf], buf := evalSl acc (F.sl5 acc.length),
                               offset := F.set5.toNat, rd := rd', eof := eof', errs := errs', delivered := dl' }
    else (.done, s)

theorem fillG_hand (f : Nat) : ∀ (cap : Nat) (acc : Bytes) (rd : Reader) (errs : Nat) (dl : Bytes),
    Buf.fillG BufFrags.hand f cap acc rd errs dl = Buf.fill f cap acc rd errs dl := by
  induction f with
  | zero => intros; rfl
  | succ f ih =>
    intro cap acc rd errs dl
    simp only [Buf.fillG, Buf.fill, BufFrags.hand_c3, BufFrags.hand_sl4, BufFrags.hand_c4, BufFrags.hand_c5,
      Int.toNat_natCast, Int.ofNat_lt, decide_eq_true_eq]
    split
    · split
      · rename_i e heq
        cases e <;> simp [heq]
      · rename_i heq
        simp [heq, ih]
    · rfl

/-- `maxi` on lengths is `max` -/
theorem goMaxi_cast (a b : Nat) : goMaxi (a : Int) (b : Int) = ((max a b : Nat) : Int) := by
  unfold goMaxi
  rw [Nat.max_def]
  by_cases h : b < a
  · simp [h, Nat.not_le.mpr h]
  · simp [h, Nat.not_lt.mp h]

theorem goMaxi_nat (m l o : Nat) (h : o ≤ l) :
    (goMaxi (m : Int) (((l : Int) - (o : Int)) + Int.tdiv (m : Int) 2)).toNat = max m (l - o + m / 2) := by
  rw [← Int.ofNat_sub h, show (2 : Int) = ((2 : Nat) : Int) from rfl, ← Int.ofNat_tdiv, ← Int.natCast_add, goMaxi_cast,
    Int.toNat_natCast]

theorem bemitG_line (s : Buf) (k : Nat) :
    s.emitG ⟨true, (s.offset : Int), (s.offset : Int) + (k : Int)⟩ ((s.offset : Int) + ((k : Int) + 1))
      = (.tok ⟨s.mem.length, s.offset, s.offset + (dropCR ((s.buf.drop s.offset).take k)).length⟩
            (dropCR ((s.buf.drop s.offset).take k)), { s with offset := s.offset + k + 1 }) := by
  simp only [Buf.emitG, evalSl, if_true, goSlice_nat, ← Int.natCast_one, ← Int.natCast_add, Int.toNat_natCast,
    Nat.add_sub_cancel_left, Nat.add_assoc]

theorem bemitG_tail (s : Buf) (h : s.offset ≤ s.buf.length) :
    s.emitG ⟨false, (s.offset : Int), (s.buf.length : Int)⟩ (s.buf.length : Int)
      = (.tok ⟨s.mem.length, s.offset, s.buf.length⟩ (s.buf.drop s.offset), { s with offset := s.buf.length }) := by
  simp only [Buf.emitG, evalSl_rest, Int.toNat_natCast, List.length_drop, Nat.add_sub_cancel' h]

/-- The hand model of `BufferedReadAhead.Scan` is the program re-assembled from the fragments. -/
theorem bscanG_hand (f : Nat) : ∀ (s : Buf), s.offset ≤ s.buf.length →
    s.scanG BufFrags.hand f = s.scan f := by
  induction f with
  | zero => intro s _; rfl
  | succ f ih =>
    intro s h
    simp only [Buf.scanG, Buf.scan, BufFrags.hand_sl0, BufFrags.hand_c0, BufFrags.hand_set0, BufFrags.hand_set1,
      BufFrags.hand_sl1, BufFrags.hand_c1, BufFrags.hand_sl2, BufFrags.hand_set2, BufFrags.hand_c2,
      BufFrags.hand_make0, BufFrags.hand_sl3, BufFrags.hand_sl5, BufFrags.hand_set5, evalSl_rest, fillG_hand,
      goMaxi_nat _ _ _ h]
    cases hi : idxNl (s.buf.drop s.offset) with
    | some k =>
      simp only [goIndexByte_some hi, ge_iff_le, Int.natCast_nonneg, decide_true, if_true, bemitG_line]
    | none =>
      simp only [goIndexByte_none hi, show ¬ ((-1 : Int) ≥ 0) by decide, decide_false, Bool.false_eq_true, if_false]
      cases he : s.eof
      · simp only [Bool.false_and, Bool.false_eq_true, if_false, Bool.not_false, if_true, List.length_drop]
        generalize Buf.fill (s.rd.measure + 2) _ _ s.rd s.errs s.delivered = fr
        cases fr with
        | none => rfl
        | some t =>
          obtain ⟨acc, rd', eof', errs', dl'⟩ := t
          simp only [show ((0 : Int)) = ((0 : Nat) : Int) from rfl, evalSl_rest, List.drop_zero]
          exact ih _ (Nat.zero_le _)
      · simp only [Int.ofNat_lt, Bool.true_and, bemitG_tail s h, Bool.not_true, Bool.false_eq_true, if_false]
        rw [he]

/-! ### the integer variables that the model keeps implicitly (`s.end`, `readOffset` = length of the valid part) -/

theorem imm_end_after_regrow (s : Imm) (h : s.offset ≤ s.buf.length) :
    (s.regrow.buf.length : Int) = ImmFrags.hand.set2 s.buf.length s.offset := by
  simp [Imm.regrow]; omega

theorem imm_end_after_read (s : Imm) (bs : Bytes) (rd' : Reader) :
    ((s.recv bs rd').buf.length : Int) = ImmFrags.hand.set4 s.buf.length bs.length := by
  simp [Imm.recv]

theorem buf_readOffset_init (s : Buf) (h : s.offset ≤ s.buf.length) :
    ((evalSl s.buf (BufFrags.hand.sl3 s.offset s.buf.length)).length : Int)
      = BufFrags.hand.set3 s.buf.length s.offset := by
  rw [BufFrags.hand_sl3, BufFrags.hand_set3, evalSl_rest, List.length_drop, Int.ofNat_sub h]

theorem buf_readOffset_after_read (acc bs : Bytes) :
    (((acc ++ bs).length : Nat) : Int) = BufFrags.hand.set4 acc.length bs.length := by
  simp

/-- `dropCR` of util.go, assembled from its condition and its slice, on the list abstraction. -/
def dropCRG (cond : Int → (Int → Int) → Bool) (sl : Int → SlB) (data : Bytes) : Bytes :=
  if cond data.length (fun i => ((data.getD i.toNat 0).toNat : Int)) then evalSl data (sl data.length) else data

theorem dropCRG_hand (data : Bytes) :
    dropCRG (fun len_data data_at => (decide (len_data > 0) && decide (data_at (len_data - 1) = 13)))
      (fun len_data => ⟨false, 0, len_data - 1⟩) data = dropCR data := by
  rcases List.eq_nil_or_concat data with rfl | ⟨l, b, rfl⟩
  · simp [dropCRG, dropCR]
  · have h1 : (((l ++ [b]).length : Nat) : Int) > 0 := by simp
    have h2 : ((((l ++ [b]).length : Nat) : Int) - 1).toNat = l.length := by simp
    have h3 : (l ++ [b]).getD l.length 0 = b := by simp
    have h4 : evalSl (l ++ [b]) ⟨false, 0, (((l ++ [b]).length : Nat) : Int) - 1⟩ = l := by
      simp only [evalSl, goSlice, Bool.false_eq_true, if_false, h2]
      simp
    simp only [dropCRG, dropCR, List.concat_eq_append]
    simp only [h1, decide_true, Bool.true_and, h2, h3, h4]
    by_cases hb : b = cr
    · subst hb
      simp [cr]
    · have : ¬ ((b.toNat : Int) = 13) := by
        intro h
        apply hb
        have : b.toNat = 13 := by omega
        exact UInt8.toNat_inj.mp (by simpa [cr] using this)
      simp [this, hb]

end Rare.C04

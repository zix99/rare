import Rare.Proofs.C08Range
import Rare.Proofs.C08Guards
import Rare.Model.Expr.Funcs.Misc
/-!
C08, output sizes: the helpers with a cap (`{repeat}` ≤ 1 MiB, `{@range}` ≤ MAX_ITERATIONS elements of at most
20 bytes each) cannot produce more than the cap, whatever their arguments are.
-/
namespace Rare.C08
open Rare Rare.Expr Rare.Expr.Funcs

/-- `strconv.Itoa` of an int64 is at most 20 bytes (a sign and 19 digits). -/
theorem itoa_length_le (v : Int) (h : inInt64 v = true) : (itoa v).length ≤ 20 := by
  rw [C11.inInt64_iff] at h
  have hd : (natDigits v.natAbs).length ≤ 19 := by
    simp only [natDigits, List.length_map]
    rw [Nat.length_toDigits_le_iff (by omega) (by omega)]
    unfold minInt64 maxInt64 at h
    omega
  unfold itoa
  split
  · simp only [List.length_cons]; omega
  · omega

theorem Sb.write_rev_length (sb : Range.Sb) (x : Bytes) : (sb.write x).rev.length = sb.rev.length + x.length := by
  simp [Range.Sb.write]; omega

/-- Every round of the `@range` loop appends at most a separator and 20 bytes, and there are at most
    `MAX_ITERATIONS` rounds that return a value. -/
theorem rangeLoop_length : ∀ (fuel : Nat) (i stop incr : Int) (count : Nat) (sb sb' : Range.Sb),
    inInt64 i = true → count ≤ Gen.maxIterations →
    Range.rangeLoop fuel i stop incr count sb = .ok (some sb') →
    sb'.rev.length + 21 * count ≤ sb.rev.length + 21 * Gen.maxIterations := by
  intro fuel
  induction fuel with
  | zero => intro i stop incr count sb sb' _ _ h; simp [Range.rangeLoop] at h
  | succ fuel ih =>
    intro i stop incr count sb sb' hi hc
    have hlen : ((if sb.len > 0 then sb.write Range.ArraySeparatorString else sb).write (itoa i)).rev.length
        ≤ sb.rev.length + 21 := by
      rw [Sb.write_rev_length]
      have := itoa_length_le i hi
      split
      · rw [Sb.write_rev_length]; simp [Range.ArraySeparatorString]; omega
      · omega
    rw [Range.rangeLoop]
    simp only []
    generalize (if sb.len > 0 then sb.write Range.ArraySeparatorString else sb).write (itoa i) = sbn at hlen
    let P : Except String (Option Range.Sb) → Prop := fun r =>
      r = .ok (some sb') → sb'.rev.length + 21 * count ≤ sb.rev.length + 21 * Gen.maxIterations
    refine ite_elim P (fun _ => ?_) (fun _ h => by cases h; omega)
    refine ite_elim P (fun _ h => by cases h) (fun hcnt => ?_)
    refine ite_elim P (fun _ h => by cases h; omega) (fun _ h => ?_)
    have := ih _ stop incr (count + 1) _ sb' (wrap64_inInt64 _) (by omega) h
    omega

theorem errorValue_length : ErrorValue.length = 7 := by decide +kernel
theorem errorNum_length : ErrorNum.length = 10 := by decide +kernel
theorem infMarker_length : Range.InfMarker.length = 5 := by decide +kernel

theorem rangeBody_length (c : Ctx) (start stop incr : Int) (hs : inInt64 start = true) (out : Bytes)
    (h : (Range.rangeBody start stop incr).run c = .ok out) : out.length ≤ 21 * Gen.maxIterations := by
  have hm : ErrorValue.length ≤ 21 * Gen.maxIterations := by rw [errorValue_length]; unfold Gen.maxIterations; omega
  unfold Range.rangeBody at h
  split at h
  · injection h with h; subst h; exact hm
  · split at h
    · injection h with h; subst h; exact hm
    · split at h
      · injection h with h; subst h; exact hm
      · split at h
        · rename_i sb hl
          injection h with h; subst h
          have := rangeLoop_length _ _ _ _ _ _ _ hs (Nat.zero_le _) hl
          simp only [Range.Sb.str, List.length_reverse]
          simp at this
          omega
        · injection h with h; subst h
          rw [infMarker_length]; unfold Gen.maxIterations; omega
        · cases h

/-- Whatever its three argument expressions evaluate to, `{@range}` answers at most `21 * MAX_ITERATIONS` bytes. -/
theorem rangeStage_length (c : Ctx) (s0 s1 s2 : Stage) (out : Bytes)
    (h : (Range.rangeStage s0 s1 s2).run c = .ok out) : out.length ≤ 21 * Gen.maxIterations := by
  have hm : ErrorNum.length ≤ 21 * Gen.maxIterations := by rw [errorNum_length]; unfold Gen.maxIterations; omega
  unfold Range.rangeStage at h
  rw [Comp.run_bind] at h
  split at h
  · rename_i a _
    split at h
    · injection h with h; subst h; exact hm
    · rename_i start hstart
      rw [Comp.run_bind] at h
      split at h
      · split at h
        · injection h with h; subst h; exact hm
        · rw [Comp.run_bind] at h
          split at h
          · split at h
            · injection h with h; subst h; exact hm
            · exact rangeBody_length c _ _ _ (C11.atoi_inInt64 hstart) out h
          · cases h
      · cases h
  · cases h

theorem repeatB_length (s : Bytes) (n : Nat) : (Misc.repeatB s n).length = s.length * n := by
  induction n with
  | zero => rfl
  | succ n ih => simp only [Misc.repeatB, List.length_append, ih, Nat.mul_succ]; omega

/-- `{@for}` with an increment expression whose values are at most `B` bytes: every round appends at most a
    separator and `B` bytes, and there are at most `MAX_ITERATIONS + 1` rounds. -/
theorem forLoop_length (c : Ctx) (cond incr : Stage) (B : Nat)
    (hB : ∀ v i out, (incr.withSub v i).run c = .ok out → out.length ≤ B) :
    ∀ (fuel : Nat) (val : Bytes) (idx : Nat) (sb : Range.Sb) (out : Bytes),
      val.length ≤ B → idx ≤ Gen.maxIterations + 1 →
      (Range.forLoop cond incr fuel val idx sb).run c = .ok out →
      out.length + (B + 1) * idx ≤ sb.rev.length + (B + 1) * (Gen.maxIterations + 1) + 5 := by
  intro fuel
  induction fuel with
  | zero => intro val idx sb out _ _ h; simp [Range.forLoop, Comp.run] at h
  | succ fuel ih =>
    intro val idx sb out hv hi h
    have hmono : (B + 1) * idx ≤ (B + 1) * (Gen.maxIterations + 1) := Nat.mul_le_mul_left _ hi
    rw [Range.forLoop] at h
    simp only at h
    rw [Comp.run_bind] at h
    split at h
    · split at h
      · injection h with h; subst h
        simp only [Range.Sb.str, List.length_reverse]; omega
      · rw [Comp.run_bind] at h
        split at h
        · rename_i val' hval'
          have hv' := hB _ _ _ hval'
          split at h
          · injection h with h; subst h
            rw [infMarker_length]; omega
          · rename_i hidx
            have hlen : ((if idx > 0 then sb.write Range.ArraySeparatorString else sb).write val).rev.length
                ≤ sb.rev.length + (B + 1) := by
              rw [Sb.write_rev_length]
              split
              · rw [Sb.write_rev_length]; simp [Range.ArraySeparatorString]; omega
              · omega
            have := ih val' (idx + 1) _ out hv' (by omega) h
            rw [Nat.mul_succ] at this
            omega
        · cases h
    · cases h

end Rare.C08

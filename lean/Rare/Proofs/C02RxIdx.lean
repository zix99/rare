import Rare.Proofs.C02Rx
import Rare.Proofs.C02Filter
/-! The `[]int` the regex model hands to the extractor is an engine-shaped index list (`EngineWF`), and
`GetMatch` on it reads the group spans of the reported match (either mode). -/
namespace Rare.C02.Rx
open Rare.C02

theorem lookup_mem {c : Caps} {n a b : Nat} (h : lookup c n = some (a, b)) : (n, a, b) ∈ c := by
  unfold lookup at h
  cases hf : c.find? (fun e => e.1 == n) with
  | none => rw [hf] at h; cases h
  | some e =>
    rw [hf] at h
    obtain ⟨e1, e2⟩ := e
    obtain rfl : e2 = (a, b) := Option.some.inj h
    obtain rfl : e1 = n := by simpa using List.find?_some hf
    exact List.mem_of_find?_eq_some hf

theorem groupPairs_length (c : Caps) : ∀ cnt n, (groupPairs c cnt n).length = 2 * cnt := by
  intro cnt
  induction cnt with
  | zero => intro n; rfl
  | succ cnt ih => intro n; simp only [groupPairs, List.length_cons, ih]; omega

theorem groupPairs_getD (c : Caps) : ∀ cnt n k, k < cnt →
    (groupPairs c cnt n).getD (2 * k) 0 = (spanOf c (n + k)).1 ∧
    (groupPairs c cnt n).getD (2 * k + 1) 0 = (spanOf c (n + k)).2 := by
  intro cnt
  induction cnt with
  | zero => intro n k h; omega
  | succ cnt ih =>
    intro n k h
    cases k with
    | zero => exact ⟨rfl, rfl⟩
    | succ k =>
      rw [show n + (k + 1) = n + 1 + k by omega]
      exact ih (n + 1) k (by omega)

theorem indicesOf_length (ng : Nat) (m : Nat × Res) : (indicesOf ng m).length = 2 * (ng + 1) := by
  simp only [indicesOf, List.length_append, groupPairs_length, List.length_cons, List.length_nil]
  omega

theorem indicesOf_ne_nil (ng : Nat) (m : Nat × Res) : indicesOf ng m ≠ [] :=
  fun e => nomatch e

theorem indicesOf_group (ng : Nat) (m : Nat × Res) (k : Nat) (h1 : 1 ≤ k) (h2 : k ≤ ng) :
    (indicesOf ng m).getD (2 * k) 0 = (spanOf m.2.2 k).1 ∧
    (indicesOf ng m).getD (2 * k + 1) 0 = (spanOf m.2.2 k).2 := by
  obtain ⟨k', rfl⟩ : ∃ k', k = k' + 1 := ⟨k - 1, by omega⟩
  have := groupPairs_getD m.2.2 ng 1 k' (by omega)
  rw [Nat.add_comm 1 k'] at this
  exact this

/-- capture log of a search result: every entry is a span inside the match -/
def CapsIn (p j : Nat) (c : Caps) : Prop :=
  ∀ e ∈ c, p ≤ e.2.1 ∧ e.2.1 ≤ e.2.2 ∧ e.2.2 ≤ j

theorem capsIn_of_entries {s : Bytes} {r : Re} {p j : Nat} {c : Caps} (h : ∀ e ∈ c, EntryOK s r p j e) :
    CapsIn p j c := fun e he => ⟨(h e he).1, (h e he).2.1, (h e he).2.2.1⟩

theorem spanOf_cases (s : Bytes) (p j : Nat) (c : Caps) (hc : CapsIn p j c) (hj : j ≤ s.length) (n : Nat) :
    ((spanOf c n).1 = -1 ∧ (spanOf c n).2 = -1) ∨
    (0 ≤ (spanOf c n).1 ∧ (spanOf c n).1 ≤ (spanOf c n).2 ∧ (spanOf c n).2 ≤ (s.length : Int)) := by
  unfold spanOf
  cases hl : lookup c n with
  | none => exact Or.inl ⟨rfl, rfl⟩
  | some ab =>
    obtain ⟨a, b⟩ := ab
    have := hc _ (lookup_mem hl)
    right
    simp only at this ⊢
    omega

theorem indicesOf_engineWF (s : Bytes) (ng p j : Nat) (c : Caps) (hpj : p ≤ j) (hj : j ≤ s.length)
    (hc : CapsIn p j c) : EngineWF s (indicesOf ng (p, j, c)) := by
  refine ⟨by rw [indicesOf_length]; omega, by rw [indicesOf_length]; exact Nat.mul_mod_right 2 _, ?_⟩
  intro k hk
  rw [indicesOf_length] at hk
  cases k with
  | zero => exact Or.inr ⟨Int.natCast_nonneg p, Int.ofNat_le.mpr hpj, Int.ofNat_le.mpr hj⟩
  | succ k =>
    have := indicesOf_group ng (p, j, c) (k + 1) (Nat.succ_pos k) (by omega)
    rw [this.1, this.2]
    exact spanOf_cases s p j c hc hj (k + 1)

theorem specGroup_zero (s : Bytes) (ng : Nat) (m : Nat × Res) :
    specGroup s (indicesOf ng m) 0 = (s.drop m.1).take (m.2.1 - m.1) := by
  rw [show (0 : Int) = ((0 : Nat) : Int) from rfl, specGroup_natCast s _ 0 (by rw [indicesOf_length]; omega)]
  show (if (m.1 : Int) < 0 ∨ (m.2.1 : Int) < 0 then []
    else (s.drop (m.1 : Int).toNat).take ((m.2.1 : Int).toNat - (m.1 : Int).toNat)) = _
  rw [if_neg (by omega), Int.toNat_natCast, Int.toNat_natCast]

theorem specGroup_group (s : Bytes) (ng : Nat) (m : Nat × Res) (n : Nat) (h1 : 1 ≤ n) (h2 : n ≤ ng) :
    specGroup s (indicesOf ng m) (n : Int) =
      match lookup m.2.2 n with
      | some (a, b) => (s.drop a).take (b - a)
      | none => [] := by
  have hg := indicesOf_group ng m n h1 h2
  rw [specGroup_natCast s _ n (by rw [indicesOf_length]; omega), hg.1, hg.2]
  unfold spanOf
  cases lookup m.2.2 n with
  | none => rfl
  | some ab =>
    obtain ⟨a, b⟩ := ab
    show (if (a : Int) < 0 ∨ (b : Int) < 0 then []
      else (s.drop (a : Int).toNat).take ((b : Int).toNat - (a : Int).toNat)) = _
    rw [if_neg (by omega), Int.toNat_natCast, Int.toNat_natCast]

/-- **`GetMatch` on the index list of a reported match** `(p, j, c)`, whichever mode found it: `{0}` is the
matched stretch, `{n}` the text of group `n`'s span, empty when the group did not participate. -/
theorem getMatch_indicesOf (s : Bytes) (ng p j : Nat) (c : Caps) (hpj : p ≤ j) (hj : j ≤ s.length)
    (hc : CapsIn p j c) (hng : (ng : Int) < 2305843009213693951) :
    getMatch s (indicesOf ng (p, j, c)) 0 = .ok ((s.drop p).take (j - p)) ∧
    ∀ n : Nat, 1 ≤ n → n ≤ ng →
      getMatch s (indicesOf ng (p, j, c)) (n : Int) =
        .ok (match lookup c n with
          | some (a, b) => (s.drop a).take (b - a)
          | none => []) := by
  have hwf := (indicesOf_engineWF s ng p j c hpj hj hc).wf
  have hlen : ((indicesOf ng (p, j, c)).length : Int) < 4611686018427387904 := by
    rw [indicesOf_length]; omega
  refine ⟨?_, fun n hn1 hn2 => ?_⟩
  · rw [getMatch_eq_spec s _ 0 hwf hlen (by unfold minInt64 maxInt64; omega), specGroup_zero]
  · rw [getMatch_eq_spec s _ n hwf hlen (by unfold minInt64 maxInt64; omega), specGroup_group s ng _ n hn1 hn2]

/-- `{@}` on the index list of a reported match: the texts of groups `1 … ng` joined by NUL -/
theorem array_indicesOf (s : Bytes) (ng p j : Nat) (c : Caps) (hpj : p ≤ j) (hj : j ≤ s.length)
    (hc : CapsIn p j c) (hng : (ng : Int) < 2305843009213693951) :
    array s (indicesOf ng (p, j, c)) =
      .ok (joinSep [0] ((List.range' 1 ng).map fun n =>
        match lookup c n with
        | some (a, b) => (s.drop a).take (b - a)
        | none => [])) := by
  have hlen : ((indicesOf ng (p, j, c)).length : Int) < 4611686018427387904 := by
    rw [indicesOf_length]; omega
  rw [array_eq s _ (indicesOf_engineWF s ng p j c hpj hj hc).wf hlen, indicesOf_length,
    Nat.mul_div_cancel_left _ Nat.two_pos, Nat.add_sub_cancel]
  congr 2
  apply List.map_congr_left
  intro n hn
  have := List.mem_range'_1.mp hn
  exact specGroup_group s ng _ n (by omega) (by omega)

/-- **the search result**: a derivation from the leftmost possible start, first in priority order there,
with a capture log whose entries are derivations of the groups' bodies inside the match -/
theorem search_some (s : Bytes) (r : Re) (p j : Nat) (c : Caps) (h : search s r = some (p, j, c)) :
    p ≤ j ∧ j ≤ s.length ∧ Derives s r p j ∧ (den s r p []).head? = some (j, c) ∧
    (∀ q, q < p → ∀ j', ¬ Derives s r q j') ∧ (∀ e ∈ c, EntryOK s r p j e) := by
  obtain ⟨_, hlt, hm, hnone⟩ := (scan_spec (m := matchAt s r) (fun _ => rfl) (fun _ _ => rfl) _ 0).1 p (j, c) h
  have hhead : (den s r p []).head? = some (j, c) := by rw [← matchAt_eq]; exact hm
  obtain ⟨h1, h2, h3, h4, h5⟩ := leftmost_of_mem s r p j c (by omega) (List.mem_of_head? hhead)
    (fun q hq => hnone q (Nat.zero_le _) hq)
  exact ⟨h1, h2, h3, hhead, h4, h5⟩

theorem search_eq_none_iff (s : Bytes) (r : Re) :
    search s r = none ↔ ∀ q, q ≤ s.length → ∀ j', ¬ Derives s r q j' := by
  refine ⟨fun h q hq => (matchAt_none_iff s r q hq).mp
    ((scan_spec (m := matchAt s r) (fun _ => rfl) (fun _ _ => rfl) _ 0).2 h q (Nat.zero_le _) (by omega)), fun h => ?_⟩
  cases hS : search s r with
  | none => rfl
  | some m =>
    obtain ⟨_, h2, h3, _⟩ := search_some s r m.1 m.2.1 m.2.2 hS
    exact absurd h3 (h m.1 (Nat.le_trans h3.le h2) m.2.1)

end Rare.C02.Rx

import Rare.Model.AggLoop
namespace Rare.AggLoop

variable {κ : Type}

/-- Inductive invariant; `stream` = all batches the extractor will ever send. -/
structure Inv (stream : List (List κ)) (s : St κ) : Prop where
  /-- mutex bookkeeping: the owner field says who is inside a critical section -/
  mainOwns : s.main.isSampling = true ↔ s.mutex = .main
  tickOwns : s.ticker = .rendering ↔ s.mutex = .ticker
  /-- nothing lost or reordered between the channel and the aggregator -/
  flow : s.received ++ s.rc.flatten ++ s.future.flatten = stream.flatten
  hand : s.sampled ++ s.main.inHand = s.received
  /-- the channel is closed only after the last batch was sent -/
  closed : s.rcClosed = true → s.future = []
  /-- once main has left the loop, everything has been sampled -/
  drained : (s.main = .sendDone ∨ s.main = .finalRender ∨ s.main = .finished) →
      s.sampled = stream.flatten ∧ s.rc = [] ∧ s.future = []
  /-- the ticker has stopped exactly when main got past the hand-shake -/
  stopped : s.ticker = .stopped ↔ (s.main = .finalRender ∨ s.main = .finished)
  /-- a running periodic render sees a frozen aggregator -/
  frozen : s.ticker = .rendering → s.snap = s.sampled
  /-- every completed render saw a prefix of the final sample history -/
  prefixes : ∀ r ∈ s.renders, r <+: stream.flatten
  /-- after the final render, the last render is complete -/
  last : s.main = .finished → s.renders.getLast? = some stream.flatten

/-! That `Inv` holds in every reachable state is `inv_reach` in `Proofs/C05Signal.lean`: the loop is the loop with the
signal path in which no signal arrives, and its invariant is that system's invariant at `signalled = false`.

Exclusion, the free mutex at the end and progress need only the clauses about who owns the mutex and when the ticker
stops; they are stated for those clauses, so that they serve the loop with the signal path too. -/

/-- The mutex bookkeeping alone excludes a render during a sample … -/
theorem exclusive_of {s : St κ} (hmo : s.main.isSampling = true ↔ s.mutex = .main)
    (hto : s.ticker = .rendering ↔ s.mutex = .ticker) : ¬ (s.ticker = .rendering ∧ s.main.isSampling = true) :=
  fun ⟨ht, hm⟩ => by have := hto.mp ht; rw [hmo.mp hm] at this; cases this

/-- … and leaves the mutex free once the ticker has stopped and main is not sampling. -/
theorem mutex_none_of {s : St κ} (hmo : s.main.isSampling = true ↔ s.mutex = .main)
    (hto : s.ticker = .rendering ↔ s.mutex = .ticker) (hst : s.ticker = .stopped) (hns : s.main.isSampling = false) :
    s.mutex = .none := by
  cases hmu : s.mutex with
  | none => rfl
  | main => rw [hmo.mpr hmu] at hns; cases hns
  | ticker => rw [hto.mpr hmu] at hst; cases hst

/-- Some goroutine can move as long as main has not finished; all that is needed is who owns the mutex and that the
    ticker stops only at the hand-shake. -/
theorem progress_of {s : St κ} (hmo : s.main.isSampling = true ↔ s.mutex = .main)
    (hto : s.ticker = .rendering ↔ s.mutex = .ticker)
    (hst : s.ticker = .stopped ↔ (s.main = .finalRender ∨ s.main = .finished)) (hf : s.main ≠ .finished) :
    ∃ s', Step s s' := by
  cases hm : s.main with
  | finished => exact absurd hm hf
  | finalRender => exact ⟨_, .final s hm⟩
  | sampling todo =>
    cases todo with
    | nil => exact ⟨_, .munlock s hm⟩
    | cons x xs => exact ⟨_, .sample s x xs hm⟩
  | wantLock b =>
    cases hmu : s.mutex with
    | none => exact ⟨_, .mlock s b hm hmu⟩
    | main => have := hmo.mpr hmu; rw [hm] at this; cases this
    | ticker => exact ⟨_, .tunlock s (hto.mpr hmu)⟩
  | sendDone =>
    cases ht : s.ticker with
    | idle => exact ⟨_, .handshake s hm ht⟩
    | rendering => exact ⟨_, .tunlock s ht⟩
    | stopped => have := hst.mp ht; rw [hm] at this; simp at this
    | wantLock =>
      cases hmu : s.mutex with
      | none => exact ⟨_, .tlock s ht hmu⟩
      | main => have := hmo.mpr hmu; rw [hm] at this; cases this
      | ticker => have := hto.mpr hmu; rw [ht] at this; cases this
  | loop =>
    cases hrc : s.rc with
    | cons b rest => exact ⟨_, .recv s b rest hm hrc⟩
    | nil =>
      cases hcl : s.rcClosed with
      | true => exact ⟨_, .eof s hm hrc hcl⟩
      | false =>
        cases hfu : s.future with
        | nil => exact ⟨_, .close s hfu hcl⟩
        | cons b rest => exact ⟨_, .arrive s b rest hfu⟩

theorem progress {stream : List (List κ)} {s : St κ} (h : Inv stream s) (hf : s.main ≠ .finished) :
    ∃ s', Step s s' :=
  progress_of h.mainOwns h.tickOwns h.stopped hf

def mainW : Main κ → Nat
  | .loop => 4
  | .wantLock b => 2 * b.length + 6
  | .sampling t => 2 * t.length + 5
  | .sendDone => 3
  | .finalRender => 2
  | .finished => 0

/-- Progress measure of everything except the ticker. -/
def measure (s : St κ) : Nat :=
  (s.future.map fun b => 2 * b.length + 8).sum + (s.rc.map fun b => 2 * b.length + 7).sum +
  (if s.rcClosed then 0 else 1) + mainW s.main

/-- Every step strictly decreases the measure, except the three ticker steps, which leave it unchanged. -/
theorem step_measure {s s' : St κ} (hs : Step s s') :
    measure s' < measure s ∨ (measure s' = measure s ∧ s'.main = s.main ∧ s'.sampled = s.sampled) := by
  cases hs with
  | arrive b rest hf => left; simp [measure, hf]; omega
  | close hf hc => left; simp [measure, hc]
  | recv b rest hm hrc => left; simp [measure, hm, hrc, mainW]; omega
  | mlock b hm hmu => left; simp [measure, hm, mainW]
  | sample x xs hm => left; simp [measure, hm, mainW]
  | munlock hm => left; simp [measure, hm, mainW]
  | eof hm hrc hcl => left; simp [measure, hm, mainW]
  | handshake hm ht => left; simp [measure, hm, mainW]
  | final hm => left; simp [measure, hm, mainW]
  | fire ht => right; exact ⟨rfl, rfl, rfl⟩
  | tlock ht hmu => right; exact ⟨rfl, rfl, rfl⟩
  | tunlock ht => right; exact ⟨rfl, rfl, rfl⟩

end Rare.AggLoop

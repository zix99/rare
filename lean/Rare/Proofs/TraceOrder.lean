import Rare.Model.C01C05TraceOrder
/-!
Soundness of the executable admissibility check and of the trusted `checkSchedule` wrapper
(generic part of the trace-inclusion tie of C01/C05).  Nothing is proved about the search
`linearize`: its result is only used through `checkSchedule`.
-/
namespace Rare.TraceOrder

theorem sortedLt_pairwise : ∀ (l : List Nat), sortedLt l = true → l.Pairwise (· < ·)
  | [], _ => List.Pairwise.nil
  | [a], _ => by simp
  | a :: b :: r, h => by
    simp only [sortedLt, Bool.and_eq_true, decide_eq_true_eq] at h
    have ih := sortedLt_pairwise (b :: r) h.2
    refine List.Pairwise.cons ?_ ih
    intro x hx
    rcases List.mem_cons.mp hx with rfl | hx
    · exact h.1
    · exact Nat.lt_trans h.1 ((List.pairwise_cons.mp ih).1 x hx)

theorem ins_perm (x : Nat) : ∀ l : List Nat, (ins x l).Perm (x :: l)
  | [] => List.Perm.refl _
  | y :: r => by
    unfold ins
    split
    · exact List.Perm.refl _
    · exact ((ins_perm x r).cons y).trans (List.Perm.swap x y r)

theorem isort_perm : ∀ l : List Nat, (isort l).Perm l
  | [] => List.Perm.refl _
  | x :: r => by
    show (ins x (isort r)).Perm (x :: r)
    exact (ins_perm x _).trans ((isort_perm r).cons x)

theorem permB_sound {tr : Array Ev} {sched : List Nat} (h : permB tr sched = true) :
    sched.Perm (List.range tr.size) := by
  unfold permB at h
  have h' := eq_of_beq h
  have := isort_perm sched
  rw [h'] at this
  exact this.symm

theorem gAt_mem_goroutines {tr : Array Ev} {i : Nat} (hi : i < tr.size) : gAt tr i ∈ goroutines tr := by
  unfold goroutines gAt
  rw [List.mem_eraseDups]
  simp only [Array.getElem?_eq_getElem hi]
  exact List.mem_map.mpr ⟨tr[i], by simp, rfl⟩

theorem progOrderB_sound {tr : Array Ev} {sched : List Nat} (hp : sched.Perm (List.range tr.size))
    (h : progOrderB tr sched = true) (g : Nat) :
    (sched.filter fun i => gAt tr i = g).Pairwise (· < ·) := by
  by_cases hg : g ∈ goroutines tr
  · unfold progOrderB at h
    rw [List.all_eq_true] at h
    exact sortedLt_pairwise _ (h g hg)
  · have : (sched.filter fun i => gAt tr i = g) = [] := by
      rw [List.filter_eq_nil_iff]
      intro i hi
      have hlt : i < tr.size := by
        have := (hp.mem_iff).mp hi
        simpa using this
      intro hgi
      apply hg
      have := gAt_mem_goroutines (tr := tr) hlt
      simp only [decide_eq_true_eq] at hgi
      rwa [hgi] at this
    rw [this]; exact List.Pairwise.nil

theorem greedyTimes_sound (tr : Array Ev) : ∀ (sched : List Nat) (t : Nat) (ts : List Nat),
    greedyTimes tr t sched = some ts →
    ts.length = sched.length ∧ ts.Pairwise (· ≤ ·) ∧ (∀ x ∈ ts, t ≤ x) ∧
    ∀ p ∈ sched.zip ts, lo tr p.1 ≤ p.2 ∧ p.2 ≤ hi tr p.1
  | [], t, ts, h => by
    simp only [greedyTimes, Option.some.injEq] at h
    subst h; simp
  | i :: rest, t, ts, h => by
    simp only [greedyTimes] at h
    split at h
    · rename_i hle
      cases hr : greedyTimes tr (max t (lo tr i)) rest with
      | none => rw [hr] at h; simp at h
      | some ts' =>
        rw [hr] at h
        simp only [Option.map_some, Option.some.injEq] at h
        subst h
        obtain ⟨h1, h2, h3, h4⟩ := greedyTimes_sound tr rest _ ts' hr
        refine ⟨by simp [h1], ?_, ?_, ?_⟩
        · exact List.Pairwise.cons h3 h2
        · intro x hx
          rcases List.mem_cons.mp hx with rfl | hx
          · exact Nat.le_max_left _ _
          · exact Nat.le_trans (Nat.le_max_left _ _) (h3 x hx)
        · intro p hp
          simp only [List.zip_cons_cons, List.mem_cons] at hp
          rcases hp with rfl | hp
          · exact ⟨Nat.le_max_right _ _, hle⟩
          · exact h4 p hp
    · simp at h

theorem admissibleB_sound {tr : Array Ev} {sched : List Nat} (h : admissibleB tr sched = true) :
    Admissible tr sched := by
  unfold admissibleB at h
  simp only [Bool.and_eq_true] at h
  obtain ⟨⟨h1, h2⟩, h3⟩ := h
  have hp := permB_sound h1
  refine ⟨hp, progOrderB_sound hp h2, ?_⟩
  cases hg : greedyTimes tr 0 sched with
  | none => rw [hg] at h3; simp at h3
  | some ts =>
    obtain ⟨a, b, _, d⟩ := greedyTimes_sound tr sched 0 ts hg
    exact ⟨ts, a, b, d⟩

theorem checkSchedule_sound {σ : Type} {m : Machine σ} {init s : σ} {tr : Array Ev} {sched : List Nat}
    (h : checkSchedule m init tr sched = some s) :
    Admissible tr sched ∧ replay m init (sched.map (evAt tr)) = some s ∧ m.final s = true := by
  unfold checkSchedule at h
  split at h
  · rename_i ha
    split at h
    · rename_i s' hr
      split at h
      · rename_i hf
        simp only [Option.some.injEq] at h
        subst h
        exact ⟨admissibleB_sound ha, hr, hf⟩
      · simp at h
    · simp at h
  · simp at h

/-- If the trace check accepts, the log is — up to an admissible reordering — a path of the machine
    from `init` to a final state. -/
theorem accepts_sound {σ : Type} {m : Machine σ} {L : Lin σ} {init : σ} {tr : Array Ev}
    (h : accepts m L init tr = true) :
    ∃ sched s, Admissible tr sched ∧ replay m init (sched.map (evAt tr)) = some s ∧ m.final s = true := by
  -- `rw`, not `unfold`: a definitional unfolding makes the kernel normalise the search `linearize`
  rw [accepts, verdict] at h
  generalize linearize m L init tr = f at h
  cases hs : f.sched with
  | none => simp [hs] at h
  | some sched =>
    cases hc : checkSchedule m init tr sched with
    | none => simp [hs, hc] at h
    | some s => exact ⟨_, _, checkSchedule_sound hc⟩

theorem replay_cons {σ : Type} {m : Machine σ} {s s' : σ} {e : Ev} {es : List Ev} :
    replay m s (e :: es) = some s' ↔ ∃ s₁, m.step s e = some s₁ ∧ replay m s₁ es = some s' := by
  simp [replay, Option.bind_eq_some_iff]

/-- Every prefix of a successful replay is a successful replay (so every visited state is reachable). -/
theorem replay_append {σ : Type} (m : Machine σ) : ∀ (evs₁ evs₂ : List Ev) (s s' : σ),
    replay m s (evs₁ ++ evs₂) = some s' → ∃ s₁, replay m s evs₁ = some s₁ ∧ replay m s₁ evs₂ = some s'
  | [], evs₂, s, s', h => ⟨s, rfl, h⟩
  | e :: r, evs₂, s, s', h => by
    obtain ⟨s₁, hs, h⟩ := replay_cons.mp h
    obtain ⟨s₂, h1, h2⟩ := replay_append m r evs₂ s₁ s' h
    exact ⟨s₂, replay_cons.mpr ⟨s₁, hs, h1⟩, h2⟩

/-- The reorderings `Admissible` allows are limited: an event whose hook sits AFTER its action and
    that is logged before an event whose hook sits BEFORE its action (e.g. "worker received batch b"
    logged before "reader is about to send batch c") keeps that order in every admissible schedule. -/
theorem admissible_after_before {tr : Array Ev} {sched : List Nat} (h : Admissible tr sched)
    {i j : Nat} (hij : i < j) (hia : beforeAt tr i = false) (hjb : beforeAt tr j = true)
    {p q : Nat} (hp : p < sched.length) (hq : q < sched.length) (hpi : sched[p] = i) (hqj : sched[q] = j) :
    p < q := by
  obtain ⟨ts, hlen, hpw, hb⟩ := h.timed
  have hat : ∀ k (hk : k < sched.length),
      lo tr sched[k] ≤ ts[k]'(hlen ▸ hk) ∧ ts[k]'(hlen ▸ hk) ≤ hi tr sched[k] := by
    intro k hk
    have hz : k < (sched.zip ts).length := by rw [List.length_zip, hlen, Nat.min_self]; exact hk
    have := hb _ (List.getElem_mem hz)
    rwa [List.getElem_zip] at this
  have hbp := (hat p hp).2
  have hbq := (hat q hq).1
  rw [hpi, hi, hia, if_neg Bool.false_ne_true] at hbp
  rw [hqj, lo, hjb, if_pos rfl] at hbq
  rcases Nat.lt_trichotomy p q with hlt | heq | hgt
  · exact hlt
  · subst heq; omega
  · have := List.pairwise_iff_getElem.mp hpw q p (hlen ▸ hq) (hlen ▸ hp) hgt
    omega

end Rare.TraceOrder

import Rare.Proofs.C15TailSpec
/-!
The batcher goroutine while the follow reader is still following (`Rare.C15.Tail.live`): after as many
trips as the delivered stream has newline bytes the loop is still running (it is blocked in the next
`Scan()`), the lines scanned are exactly the lines of the newline-terminated part of the stream, and
fewer than `batchSize` of them are waiting in `batch`.
-/
namespace Rare.C15.Tail
open Rare.C04 Rare.C15.Batch

/-! ### fewer than `batchSize` lines wait in `batch` -/

theorem push_len {α : Type} (s : St α) (x : α) : (s.push x).cur.len = s.cur.len + 1 := by
  unfold St.push; split <;> rfl

theorem step_curBound {α : Type} (src : String) (n : Nat) (s : St α) (x : α × Bool) :
    (step src n s x).cur.len < max n 1 := by
  unfold step
  dsimp only
  split
  · simp only [St.flush]; omega
  · rename_i h
    simp only [Bool.or_eq_true, decide_eq_true_eq, not_or] at h
    have := h.1
    omega

theorem iter_curBound (src : String) (n fuel : Nat) (timer : Nat → Bool) (s : TSt)
    (h : s.b.cur.len < max n 1) : (iter src n fuel timer s).b.cur.len < max n 1 := by
  unfold iter
  split
  · generalize s.imm.scan fuel = r
    obtain ⟨res, imm'⟩ := r
    cases res with
    | tok v b => simp only [advance_b]; exact step_curBound _ _ _ _
    | done =>
      simp only [advance_b]
      unfold finish; split
      · exact h
      · exact h
    | fuel => simpa using h
  · exact h

theorem iterN_curBound (src : String) (n fuel : Nat) (timer : Nat → Bool) (k : Nat) (s : TSt)
    (h : s.b.cur.len < max n 1) : (iterN src n fuel timer k s).b.cur.len < max n 1 :=
  iterN_ind (P := fun t => t.b.cur.len < max n 1) (iter_curBound src n fuel timer) k h

/-! ### the first `count nl data` trips find a newline each -/

/-- State of the loop after `k` complete lines of an error-free stream `data`. -/
structure Live (data : Bytes) (fuel : Nat) (s : TSt) (k : Nat) : Prop where
  run : s.status = .running
  stream : s.imm.delivered ++ s.imm.rd.rest = data
  drained : (∀ st ∈ s.imm.rd.script, st.err = none) ∧ (s.imm.eof = true → s.imm.rd.rest = [])
  measure : s.imm.rd.measure < fuel
  at_line : ∃ C, Inv s.imm C ∧ Boundary C (s.toks.map (·.2)) ∧ C.count nl = k ∧
    (C = [] ∨ C.getLast? = some nl)
  ntoks : s.toks.length = k

theorem count_nl_append_line (C a : Bytes) (h : nl ∉ a) : (C ++ a ++ [nl]).count nl = C.count nl + 1 := by
  simp [List.count_append, List.count_eq_zero_of_not_mem h]

theorem live_iter {source : String} {data : Bytes} (batchSize fuel : Nat) (timer : Nat → Bool) {s : TSt} {k : Nat}
    (h : Live data fuel s k) (hk : k < data.count nl) :
    Live data fuel (iter source batchSize fuel timer s) (k + 1) := by
  obtain ⟨C, hinv, hb, hc, _⟩ := h.at_line
  have hpost := scan_post fuel hinv
  have hnf := scan_nofuel fuel hinv h.measure
  have hst := scan_closed (closed_stream data) fuel hinv h.stream
  have hdr := scan_closed closed_drained fuel hinv h.drained
  have hmm := scan_closed (closed_measure s.imm.rd.measure) fuel hinv (Nat.le_refl _)
  rw [iter_running h.run]
  generalize s.imm.scan fuel = r at hpost hnf hst hdr hmm
  obtain ⟨res, imm'⟩ := r
  -- the stream ended at `C ++ b`: impossible while `data` has more newlines than `C`
  have hcontra : ∀ (b : Bytes), nl ∉ b → imm'.eof = true → imm'.pending = [] → Inv imm' (C ++ b) → False := by
    intro b hnb he hp hi
    have hrest := hdr.2 he
    have hd : imm'.delivered = C ++ b := by rw [hi.del, hp]; simp
    have : data = C ++ b := by
      have := hst; simp only at this hrest
      rw [hrest, hd] at this; simpa using this.symm
    rw [this, List.count_append, List.count_eq_zero_of_not_mem hnb] at hk
    omega
  cases res with
  | tok v b =>
    simp only [Post] at hpost
    rcases hpost with ⟨_, ⟨a, ha, rfl, hi⟩ | ⟨hnb, _, he, hp, hi⟩⟩
    · refine ⟨rfl, hst, hdr, by simp only [advance_imm]; simp only at hmm; have := h.measure; omega,
        ⟨C ++ a ++ [nl], hi, ?_, ?_, Or.inr (by simp)⟩, by simp [h.ntoks]⟩
      · simpa using hb.line a ha
      · rw [count_nl_append_line C a ha, hc]
    · exact (hcontra b hnb he hp hi).elim
  | done =>
    simp only [Post] at hpost
    exact (hcontra [] (by simp) hpost.1 hpost.2.1 (by simpa using hpost.2.2)).elim
  | fuel => simp at hnf

theorem live_iterN {source : String} {data : Bytes} (batchSize fuel : Nat) (timer : Nat → Bool) (m : Nat) :
    ∀ {s : TSt} {k : Nat}, Live data fuel s k → k + m ≤ data.count nl →
      Live data fuel (iterN source batchSize fuel timer m s) (k + m) := by
  induction m with
  | zero => intro s k h _; exact h
  | succ m ih =>
    intro s k h hk
    have h1 := live_iter (source := source) batchSize fuel timer h (by omega)
    have := ih h1 (by omega)
    simpa [iterN, Nat.add_assoc, Nat.add_comm 1 m] using this

theorem live_init (bufSize batchSize : Nat) (data : Bytes) (script : List Step) (hb : 1 ≤ bufSize)
    (hs : ∀ st ∈ script, st.err = none) :
    Live data (budget data script) (TSt.init bufSize batchSize ⟨data, script⟩) 0 where
  run := rfl
  stream := by simp [TSt.init, Imm.init]
  drained := ⟨by simpa [TSt.init, Imm.init] using hs, by simp [TSt.init, Imm.init]⟩
  measure := by simp [TSt.init, Imm.init, Reader.measure, budget]; omega
  at_line := ⟨[], ⟨by simp [TSt.init, Imm.init], by simp [TSt.init, Imm.init, Imm.pending], hb⟩,
    by simpa [TSt.init] using Boundary.nil, rfl, Or.inl rfl⟩
  ntoks := rfl

/-- **The live state.**  For an error-free follow stream `data`: after `count nl data` trips the loop is
    still running; `data` splits into its newline-terminated part `C` and an unterminated rest; the
    lines scanned so far are exactly the lines of `C`. -/
theorem live_spec (source : String) (bufSize batchSize : Nat) (timer : Nat → Bool) (data : Bytes)
    (script : List Step) (hb : 1 ≤ bufSize) (hs : ∀ st ∈ script, st.err = none) :
    (live source bufSize batchSize timer data script).status = .running ∧
    ∃ C r, data = C ++ r ∧ nl ∉ r ∧ (C = [] ∨ C.getLast? = some nl) ∧
      (live source bufSize batchSize timer data script).toks.map (·.2) = splitLines C := by
  have hl := live_iterN (source := source) batchSize (budget data script) timer (completeLines data)
    (live_init bufSize batchSize data script hb hs) (by simp [completeLines])
  simp only [Nat.zero_add] at hl
  change Live data (budget data script) (live source bufSize batchSize timer data script) (completeLines data) at hl
  refine ⟨hl.run, ?_⟩
  obtain ⟨C, hinv, hbd, hc, hend⟩ := hl.at_line
  refine ⟨C, (live source bufSize batchSize timer data script).imm.pending ++
    (live source bufSize batchSize timer data script).imm.rd.rest, ?_, ?_, hend, ?_⟩
  · have := hl.stream
    rw [hinv.del] at this
    simpa [List.append_assoc] using this.symm
  · have hd : data = C ++ ((live source bufSize batchSize timer data script).imm.pending ++
        (live source bufSize batchSize timer data script).imm.rd.rest) := by
      have := hl.stream
      rw [hinv.del] at this
      simpa [List.append_assoc] using this.symm
    have hcount := congrArg (List.count nl) hd
    rw [List.count_append, hc] at hcount
    simp only [completeLines] at hcount
    exact List.count_eq_zero.mp (by omega)
  · have := hbd []
    simpa [splitLines, splitGo] using this.symm

end Rare.C15.Tail

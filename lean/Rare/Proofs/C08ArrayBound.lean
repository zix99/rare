import Rare.Proofs.ExprSafe
import Rare.Proofs.C17Funcs
/-!
C08, output sizes of the array helpers that run a sub-expression per element: `{@filter}` never answers more bytes
than its array has, `{@map}` is linear in the number of elements times the size of one mapped value.  Both follow
from the functional descriptions of the two loops (C17's `arrayOperator_run` / `filter_fold`: the splitter loop is a
fold over the elements); the only family left without a bound is the one whose sub-expression returns its own
accumulator (`@reduce`, `@for`: `for_doubling_all`).
-/
namespace Rare.C08
open Rare Rare.Expr Rare.Expr.Funcs Rare.Expr.Funcs.Range Rare.C17

/-- bytes of the elements plus one separator each -/
def packSize : List Bytes → Nat
  | [] => 0
  | x :: r => x.length + 1 + packSize r

theorem pack_length (ys : List Bytes) (h : ys ≠ []) : (pack ys).length + 1 = packSize ys := by
  induction ys with
  | nil => exact absurd rfl h
  | cons x r ih =>
    cases r with
    | nil => simp [pack, join, packSize]
    | cons y r' =>
      have := ih (by simp)
      simp only [pack] at this ⊢
      simp only [join, List.length_append, packSize] at this ⊢
      simp only [List.length_cons, List.length_nil]
      omega

theorem pack_length_le (ys : List Bytes) : (pack ys).length ≤ packSize ys - 1 := by
  by_cases h : ys = []
  · subst h; simp [pack, join, packSize]
  · have := pack_length ys h; omega

theorem packSize_filter_le (p : Bytes → Bool) (ys : List Bytes) : packSize (ys.filter p) ≤ packSize ys := by
  induction ys with
  | nil => simp [packSize]
  | cons x r ih =>
    simp only [List.filter_cons]
    split
    · simp only [packSize]; omega
    · simp only [packSize]; omega

theorem packSize_map_le (m : Bytes → Bytes) (B : Nat) (ys : List Bytes) (h : ∀ x ∈ ys, (m x).length ≤ B) :
    packSize (ys.map m) ≤ ys.length * (B + 1) := by
  induction ys with
  | nil => simp [packSize]
  | cons x r ih =>
    have hx := h x (by simp)
    have hr := ih fun y hy => h y (by simp [hy])
    simp only [List.map_cons, packSize, List.length_cons, Nat.succ_mul]
    omega

theorem elems_length_le (arr : Bytes) : (elems arr).length ≤ arr.length + 1 := by
  have h := congrArg List.length (join_splitOn [NUL] (by simp) arr)
  have hne : elems arr ≠ [] := by unfold elems splitOn; exact splitGo_ne_nil _ _ _ _
  have hp := pack_length (elems arr) hne
  have e : (pack (elems arr)).length = arr.length := h
  have : (elems arr).length ≤ packSize (elems arr) := by
    generalize elems arr = ys
    induction ys with
    | nil => simp [packSize]
    | cons x r ih => simp only [packSize, List.length_cons]; omega
  omega

/-- what a sub-expression that cannot panic answers in the sub-context of an element -/
noncomputable def subVal (c : Ctx) (a1 : Stage) (h1 : Safe a1) (v0 v1 : Bytes) : Bytes :=
  Classical.choose (Safe.run h1 (subCtx c v0 v1))

theorem subVal_spec (c : Ctx) (a1 : Stage) (h1 : Safe a1) (v0 v1 : Bytes) :
    a1.run (subCtx c v0 v1) = .ok (subVal c a1 h1 v0 v1) :=
  Classical.choose_spec (Safe.run h1 (subCtx c v0 v1))

/-- `{@filter a sub}` answers at most as many bytes as the array has. -/
theorem filterStage_length (c : Ctx) (a0 a1 : Stage) (h0 : Safe a0) (h1 : Safe a1) :
    ∃ arr out, a0.run c = .ok arr ∧ (filterStage a0 a1).run c = .ok out ∧ out.length ≤ arr.length := by
  obtain ⟨arr, ha⟩ := Safe.run h0 c
  obtain ⟨f, hf⟩ : ∃ f : Bytes → Bytes → Bytes, ∀ v0 v1, a1.run (subCtx c v0 v1) = .ok (f v0 v1) :=
    ⟨subVal c a1 h1, subVal_spec c a1 h1⟩
  have hrun : (filterStage a0 a1).run c = .ok (pack ((elems arr).filter fun x => truthy (f x []))) := by
    unfold filterStage
    rw [Comp.run_bind_ok ha, Comp.run_bind]
    rw [splitLoop_run_init c _ _
      (fun st item => if truthy (f item []) then
          ⟨(if st.needSep then st.sb.write ArraySeparatorString else st.sb).write item, true⟩ else st)
      (by
        intro st x
        rw [Comp.run_bind_ok (by rw [withSub_run]; exact hf x [])]
        by_cases ht : truthy (f x []) = true <;> simp [ht, Comp.run])
      arr _ (by simp [ArraySeparatorString])]
    simp only [Comp.run, foldWhile_true]
    have := filter_fold (fun x => truthy (f x [])) (splitOn ArraySeparatorString arr) [] ⟨{}, false⟩
      ⟨rfl, rfl⟩
    simp only [List.nil_append] at this
    rw [this]; rfl
  refine ⟨arr, _, ha, hrun, ?_⟩
  have hne : elems arr ≠ [] := by unfold elems splitOn; exact splitGo_ne_nil _ _ _ _
  have e : (pack (elems arr)).length = arr.length := congrArg List.length (join_splitOn [NUL] (by simp) arr)
  have h1 := pack_length (elems arr) hne
  have h2 := pack_length_le ((elems arr).filter fun x => truthy (f x []))
  have h3 := packSize_filter_le (fun x => truthy (f x [])) (elems arr)
  omega

/-- `{@map a sub}` is linear: at most `(B + 1)` bytes per element when every value of `sub` has at most `B`. -/
theorem mapStage_length (c : Ctx) (a0 a1 : Stage) (h0 : Safe a0) (h1 : Safe a1) (B : Nat)
    (hB : ∀ v0 v1 o, a1.run (subCtx c v0 v1) = .ok o → o.length ≤ B) :
    ∃ arr out, a0.run c = .ok arr ∧ (mapStage a0 a1).run c = .ok out ∧
      out.length + 1 ≤ (elems arr).length * (B + 1) ∧ (elems arr).length ≤ arr.length + 1 := by
  obtain ⟨arr, ha⟩ := Safe.run h0 c
  obtain ⟨f, hf⟩ : ∃ f : Bytes → Bytes → Bytes, ∀ v0 v1, a1.run (subCtx c v0 v1) = .ok (f v0 v1) :=
    ⟨subVal c a1 h1, subVal_spec c a1 h1⟩
  have hrun : (mapStage a0 a1).run c = .ok (pack ((elems arr).map fun x => f x [])) := by
    unfold mapStage
    rw [Comp.run_bind_ok ha,
      arrayOperator_run c arr _ _ (by simp [ArraySeparatorString]) _ (fun x => f x [])
        (fun x => by rw [withSub_run]; exact hf x [])]
    simp [pack, elems, ArraySeparatorString, ArraySeparator, NUL]
  refine ⟨arr, _, ha, hrun, ?_, elems_length_le arr⟩
  have hne : (elems arr).map (fun x => f x []) ≠ [] := by
    simp only [ne_eq, List.map_eq_nil_iff]; unfold elems splitOn; exact splitGo_ne_nil _ _ _ _
  have h1' := pack_length _ hne
  have h2 := packSize_map_le (fun x => f x []) B (elems arr)
    (fun x _ => hB x [] _ (hf x []))
  omega

end Rare.C08

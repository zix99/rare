import Rare.Model.C05CloseProg
namespace Rare.C05Prog

/-- Invariant: executed ++ still-to-do is the program (nothing skipped, nothing reordered), and once the channel is
    closed every reader has executed its `wg.Done()`. -/
structure Inv (ps : List (List Act)) (s : St) : Prop where
  prog : s.rs.map (fun r => r.exec ++ r.todo) = ps
  done : s.closed = true → ∀ r ∈ s.rs, Act.done ∈ r.exec

theorem inv_init (ps : List (List Act)) : Inv ps (init ps) := by
  refine ⟨?_, fun h => by simp [init] at h⟩
  simp [init, List.map_map, Function.comp_def]

theorem inv_step {ps : List (List Act)} {s s' : St} (h : Inv ps s) (hs : Step s s') : Inv ps s' := by
  cases hs with
  | adv i hi a rest htodo =>
    refine ⟨?_, ?_⟩
    · have h1 := h.prog
      simp only [List.map_set]
      have : (s.rs[i].exec ++ [a]) ++ rest = (s.rs.map fun r => r.exec ++ r.todo)[i]'(by simpa using hi) := by
        simp [htodo]
      rw [this, List.set_getElem_self]; exact h1
    · intro hc r hr
      have hc' : s.closed = true := hc
      rcases List.mem_or_eq_of_mem_set hr with hr | rfl
      · exact h.done hc' r hr
      · have := h.done hc' s.rs[i] (List.getElem_mem hi)
        simp [this]
  | close hcl hall => exact ⟨h.prog, fun _ => hall⟩

theorem inv_reach {ps : List (List Act)} {s : St} (hr : Reach (init ps) s) : Inv ps s := by
  induction hr with
  | refl => exact inv_init ps
  | step _ hs ih => exact inv_step ih hs

/-- A program that ends with its only `wg.Done()`: once that is executed, everything is. -/
theorem todo_nil_of_done {exec todo q : List Act} (h : exec ++ todo = q ++ [Act.done]) (hq : Act.done ∉ q)
    (hd : Act.done ∈ exec) : todo = [] := by
  rcases List.append_eq_append_iff.mp h with ⟨a', h1, _⟩ | ⟨c', h1, h2⟩
  · exact absurd (by rw [h1]; exact List.mem_append_left _ hd) hq
  · cases c' with
    | nil => simp at h1; subst h1; exact absurd hd hq
    | cons x xs =>
      have : xs ++ todo = [] := by simpa using (List.cons.inj h2.symm).2
      exact (List.append_eq_nil_iff.mp this).2

/-- **Closed ⇒ every reader has run its whole program** when every program ends with its only `wg.Done()`. -/
theorem closed_all_executed {ps : List (List Act)} (hlast : ∀ p ∈ ps, ∃ q, p = q ++ [Act.done] ∧ Act.done ∉ q)
    {s : St} (hr : Reach (init ps) s) (hc : s.closed = true) :
    s.rs.map (·.exec) = ps ∧ ∀ r ∈ s.rs, r.todo = [] := by
  have h := inv_reach hr
  have htodo : ∀ r ∈ s.rs, r.todo = [] := by
    intro r hrm
    have hp : r.exec ++ r.todo ∈ ps := by
      rw [← h.prog]; exact List.mem_map.mpr ⟨r, hrm, rfl⟩
    obtain ⟨q, hq, hnq⟩ := hlast _ hp
    exact todo_nil_of_done hq hnq (h.done hc r hrm)
  refine ⟨?_, htodo⟩
  rw [← h.prog]
  apply List.map_congr_left
  intro r hrm; simp [htodo r hrm]

theorem foldl_batches (bs : List Nat) (t : RStat) :
    (bs.flatMap fun b => [Act.send b, Act.inc b]).foldl RStat.step t =
      { t with bytes := t.bytes + bs.sum, sent := t.sent + bs.sum } := by
  induction bs generalizing t with
  | nil => simp
  | cons b rest ih =>
    simp only [List.flatMap_cons, List.foldl_append, List.foldl_cons, List.foldl_nil, ih, RStat.step, List.sum_cons]
    simp [Nat.add_assoc]

theorem stat_prog (f : Src) :
    statOf (prog [Act.stop, Act.done] f) =
      { active := false, read := if f.isSome then 1 else 0, errs := if f.isNone then 1 else 0,
        bytes := bytesOfSrc f, sent := bytesOfSrc f } := by
  cases f with
  | none => simp [statOf, prog, body, RStat.step, bytesOfSrc]
  | some bs => simp [statOf, prog, body, List.foldl_append, foldl_batches, RStat.step, bytesOfSrc]

theorem sum_ite_eq_filter_length {α : Type} (p : α → Bool) (l : List α) :
    (l.map fun a => if p a then 1 else 0).sum = (l.filter p).length := by
  induction l with
  | nil => rfl
  | cons a r ih => by_cases h : p a <;> simp [h, ih] <;> omega

theorem sum_map_const {α : Type} (l : List α) (c : Nat) : (l.map fun _ => c).sum = l.length * c := by
  induction l with
  | nil => simp
  | cons a r ih => simp only [List.map_cons, List.sum_cons, List.length_cons, ih, Nat.succ_mul]; omega

/-- The observables of a state in which every reader has executed exactly the program `prog [stop, done] f`. -/
theorem totals_of_executed (fs : List Src) (s : St)
    (h : s.rs.map (·.exec) = fs.map (prog [Act.stop, Act.done])) :
    active s = 0 ∧ readCount s = present fs ∧ errors s = missing fs ∧ readBytes s = totalBytes fs ∧
      sentBytes s = totalBytes fs := by
  have key : ∀ {β : Type} (g : RStat → β),
      (s.rs.map fun r => g (statOf r.exec)) = fs.map fun f => g (statOf (prog [Act.stop, Act.done] f)) := by
    intro β g
    have := congrArg (List.map fun l => g (statOf l)) h
    simpa [List.map_map, Function.comp_def] using this
  refine ⟨?_, ?_, ?_, ?_, ?_⟩
  · simp only [active, List.length_eq_zero_iff, List.filter_eq_nil_iff]
    intro r hr
    have : (statOf r.exec).active ∈ fs.map fun f => (statOf (prog [Act.stop, Act.done] f)).active :=
      key (·.active) ▸ List.mem_map_of_mem hr
    simp only [stat_prog, List.mem_map] at this
    obtain ⟨_, _, hf⟩ := this
    simp [← hf]
  · simp only [readCount, key (·.read), stat_prog, present]
    exact sum_ite_eq_filter_length _ fs
  · simp only [errors, key (·.errs), stat_prog, missing]
    exact sum_ite_eq_filter_length _ fs
  · simp only [readBytes, key (·.bytes), stat_prog, totalBytes]
  · simp only [sentBytes, key (·.sent), stat_prog, totalBytes]

theorem prog_ends_with_done (f : Src) :
    ∃ q, prog [Act.stop, Act.done] f = q ++ [Act.done] ∧ Act.done ∉ q := by
  refine ⟨body f ++ [Act.stop], by simp [prog], ?_⟩
  cases f with
  | none => simp [body]
  | some bs => simp [body]

/-- **Closed ⇒ complete status**, all of it: no active file, every opened source counted as read, every failed open
    counted as an error, every byte counted and handed over. -/
theorem closed_status_complete (fs : List Src) {s : St}
    (hr : Reach (init (fs.map (prog [Act.stop, Act.done]))) s) (hc : s.closed = true) :
    active s = 0 ∧ readCount s = present fs ∧ errors s = missing fs ∧ readBytes s = totalBytes fs ∧
      sentBytes s = totalBytes fs := by
  have hl : ∀ p ∈ fs.map (prog [Act.stop, Act.done]), ∃ q, p = q ++ [Act.done] ∧ Act.done ∉ q := by
    intro p hp
    obtain ⟨f, _, rfl⟩ := List.mem_map.mp hp
    exact prog_ends_with_done f
  exact totals_of_executed fs s (closed_all_executed hl hr hc).1

/-! The order before /repo 7025f4b: exit block `[done, stop]`. -/

/-- Running a whole list of actions of reader `i`. -/
theorem reach_run {s0 : St} (pre post : List R) (e l rest : List Act) (c : Bool)
    (h : Reach s0 ⟨pre ++ ⟨e, l ++ rest⟩ :: post, c⟩) : Reach s0 ⟨pre ++ ⟨e ++ l, rest⟩ :: post, c⟩ := by
  induction l generalizing e with
  | nil => simpa using h
  | cons a l ih =>
    have hi : pre.length < (pre ++ (⟨e, (a :: l) ++ rest⟩ : R) :: post).length := by simp
    have hs := Step.adv ⟨pre ++ ⟨e, (a :: l) ++ rest⟩ :: post, c⟩ pre.length hi a (l ++ rest) (by simp)
    have := ih (e ++ [a]) (by simpa using Reach.step h hs)
    simpa using this

/-- With the old exit block every reader can run up to and including its `wg.Done()` and stop there. -/
theorem reach_all_before_stop (fs : List Src) (pre : List R) (s0 : St)
    (h : Reach s0 ⟨pre ++ fs.map (fun f => ⟨[], prog [Act.done, Act.stop] f⟩), false⟩) :
    Reach s0 ⟨pre ++ fs.map (fun f => ⟨body f ++ [Act.done], [Act.stop]⟩), false⟩ := by
  induction fs generalizing pre with
  | nil => simpa using h
  | cons f fs ih =>
    have h1 := reach_run pre (fs.map fun f => ⟨[], prog [Act.done, Act.stop] f⟩) [] (body f ++ [Act.done]) [Act.stop] false
      (by simpa [prog] using h)
    have := ih (pre ++ [⟨body f ++ [Act.done], [Act.stop]⟩]) (by simpa using h1)
    simpa using this

theorem statOf_body_done (f : Src) :
    statOf (body f ++ [Act.done]) =
      { active := f.isSome, errs := if f.isNone then 1 else 0, bytes := bytesOfSrc f, sent := bytesOfSrc f } := by
  cases f with
  | none => simp [statOf, body, RStat.step, bytesOfSrc]
  | some bs => simp [statOf, body, List.foldl_append, foldl_batches, RStat.step, bytesOfSrc]

/-- **The old order lags, for every set of sources**: there is a run that closes the channel while EVERY opened
    source is still listed as active and none is counted as read. -/
theorem old_order_lags (fs : List Src) :
    ∃ s, Reach (init (fs.map (prog [Act.done, Act.stop]))) s ∧ s.closed = true ∧
      active s = present fs ∧ readCount s = 0 := by
  have h0 : Reach (init (fs.map (prog [Act.done, Act.stop])))
      ⟨[] ++ fs.map (fun f => ⟨[], prog [Act.done, Act.stop] f⟩), false⟩ := by
    have : init (fs.map (prog [Act.done, Act.stop])) = ⟨[] ++ fs.map (fun f => ⟨[], prog [Act.done, Act.stop] f⟩), false⟩ := by
      simp [init, List.map_map, Function.comp_def]
    rw [← this]; exact .refl
  have h1 := reach_all_before_stop fs [] _ h0
  refine ⟨⟨fs.map (fun f => ⟨body f ++ [Act.done], [Act.stop]⟩), true⟩, ?_, rfl, ?_, ?_⟩
  · refine .step (by simpa using h1) (.close _ rfl ?_)
    intro r hr
    obtain ⟨f, _, rfl⟩ := List.mem_map.mp hr
    simp
  · simp only [active, present, List.filter_map, List.length_map, Function.comp_def, statOf_body_done]
  · simp only [readCount, List.map_map, Function.comp_def, statOf_body_done]
    exact (sum_map_const fs 0).trans (Nat.mul_zero _)

end Rare.C05Prog

import Rare.Proofs.C10
import Rare.Model.C10ConcG
/-! The invariant of the shared pool machine (`Model/C10ConcG.lean`) is kept by every atomic action of every worker, and
    a worker finishes after the actions of its own sequential run.  The call-site pool of `Model/C10Conc.lean` is the
    instance in which all workers install the same argument stages and run the same body (`Proofs/C10Conc.lean`). -/
namespace Rare.C10.Conc
open Rare.Expr Rare.C10

/-- One look-up through an object whose context is `s`: either the body goes on – with the same answer in the stateless
    model and one action less to do – or it has answered what the stateless model answers. -/
theorem resolve_spec (args : List Stage) (s : Ctx) (o : Nat) (c : Comp Bytes) :
    (∃ c', resolve args s o c = .run o c' ∧ (withArgs args c').run s = (withArgs args c).run s ∧
      stepsLeft args s c = stepsLeft args s c' + 1) ∨
    (∃ r, resolve args s o c = .fin o r ∧ r = (withArgs args c).run s ∧ stepsLeft args s c = 1) := by
  cases c with
  | ret v => exact .inr ⟨_, rfl, rfl, rfl⟩
  | panic m => exact .inr ⟨_, rfl, rfl, rfl⟩
  | getKey n k => exact .inl ⟨_, rfl, rfl, rfl⟩
  | getMatch i k =>
    simp only [resolve, stepsLeft, withArgs]
    split
    · exact .inl ⟨_, rfl, rfl, rfl⟩
    · split
      · exact .inl ⟨_, rfl, rfl, rfl⟩
      · rw [Comp.run_bind]
        cases (args.getD i.toNat (.ret [])).run s with
        | ok v => exact .inl ⟨_, rfl, rfl, rfl⟩
        | error m => exact .inr ⟨_, rfl, rfl, rfl⟩

theorem left_zero {args : List Stage} {body : Stage} {s : Ctx} {pc : Pc} (h : pc.left args body s = 0) : ∃ r, pc = .done r := by
  cases pc <;> simp [Pc.left] at h
  exact ⟨_, rfl⟩

end Rare.C10.Conc

namespace Rare.C10.ConcG
open Rare.Expr Rare.C10
open Rare.C10.Conc (Pc resolve stepsLeft resolve_spec left_zero)

@[simp] theorem setPc_self (st : St) (w : Nat) (pc : Pc) : (st.setPc w pc).pcs w = pc := by simp [St.setPc]
theorem setPc_ne (st : St) {v w : Nat} (pc : Pc) (h : v ≠ w) : (st.setPc w pc).pcs v = st.pcs v := by simp [St.setPc, h]
@[simp] theorem setPc_free (st : St) (w : Nat) (pc : Pc) : (st.setPc w pc).free = st.free := rfl
@[simp] theorem setPc_next (st : St) (w : Nat) (pc : Pc) : (st.setPc w pc).next = st.next := rfl
@[simp] theorem setPc_obj (st : St) (w : Nat) (pc : Pc) : (st.setPc w pc).obj = st.obj := rfl

section
variable {argsOf : Nat → List Stage} {bodyOf : Nat → Stage} {ctxs : Nat → Ctx} {st : St}

theorem start_inv (h : Start st) : Inv argsOf bodyOf ctxs st :=
  { nodup := h.nodup, lt := h.lt
    held := fun w o e => by rw [h.idle w] at e; cases e
    excl := fun w w' o e => by rw [h.idle w] at e; cases e
    run := fun w o c e => by rw [h.idle w] at e; cases e
    fin := fun w o r e => by rw [h.idle w] at e; cases e
    done := fun w r e => by rw [h.idle w] at e; cases e }

/-- An action of worker `w` keeps the invariant if the shared memory it leaves is a pool, the objects of the other
    workers are still theirs and untouched, and `w`'s new position satisfies its own clauses. -/
theorem inv_setPc (h : Inv argsOf bodyOf ctxs st) (w : Nat) (pc : Pc) (free' : List Nat) (next' : Nat)
    (obj' : Nat → Ctx × List Stage) (hnodup : free'.Nodup) (hlt : ∀ o ∈ free', o < next')
    (hothers : ∀ v o, v ≠ w → (st.pcs v).holds = some o →
      (o < next' ∧ o ∉ free') ∧ pc.holds ≠ some o ∧ obj' o = st.obj o)
    (hheld : ∀ o, pc.holds = some o → o < next' ∧ o ∉ free')
    (hrun : ∀ o c, pc = .run o c →
      obj' o = (ctxs w, argsOf w) ∧ (withArgs (argsOf w) c).run (ctxs w) = (withArgs (argsOf w) (bodyOf w)).run (ctxs w))
    (hfin : ∀ o r, pc = .fin o r → r = (withArgs (argsOf w) (bodyOf w)).run (ctxs w))
    (hdone : ∀ r, pc = .done r → r = (withArgs (argsOf w) (bodyOf w)).run (ctxs w)) :
    Inv argsOf bodyOf ctxs ((⟨free', next', obj', st.pcs⟩ : St).setPc w pc) := by
  refine ⟨hnodup, hlt, fun v o e => ?_, fun v v' o e e' => ?_, fun v o c e => ?_, fun v o r e => ?_, fun v r e => ?_⟩
  · by_cases hv : v = w
    · subst hv; rw [setPc_self] at e; exact hheld o e
    · rw [setPc_ne _ _ hv] at e; exact (hothers v o hv e).1
  · by_cases hv : v = w <;> by_cases hv' : v' = w
    · rw [hv, hv']
    · subst hv; rw [setPc_self] at e; rw [setPc_ne _ _ hv'] at e'
      exact absurd e (hothers v' o hv' e').2.1
    · subst hv'; rw [setPc_ne _ _ hv] at e; rw [setPc_self] at e'
      exact absurd e' (hothers v o hv e).2.1
    · rw [setPc_ne _ _ hv] at e; rw [setPc_ne _ _ hv'] at e'; exact h.excl v v' o e e'
  · by_cases hv : v = w
    · subst hv; rw [setPc_self] at e; exact hrun o c e
    · rw [setPc_ne _ _ hv] at e
      have := (hothers v o hv (by rw [e]; rfl)).2.2
      simpa only [setPc_obj, this] using h.run v o c e
  · by_cases hv : v = w
    · subst hv; rw [setPc_self] at e; exact hfin o r e
    · rw [setPc_ne _ _ hv] at e; exact h.fin v o r e
  · by_cases hv : v = w
    · subst hv; rw [setPc_self] at e; exact hdone r e
    · rw [setPc_ne _ _ hv] at e; exact h.done v r e

/-- The objects of two workers are different. -/
theorem Inv.ne (h : Inv argsOf bodyOf ctxs st) {v w x o : Nat} (hv : v ≠ w) (e : (st.pcs v).holds = some x)
    (hw : (st.pcs w).holds = some o) : x ≠ o :=
  fun hxo => hv (h.excl v w x e (hxo ▸ hw))

theorem step_inv (h : Inv argsOf bodyOf ctxs st) (w : Nat) : Inv argsOf bodyOf ctxs (step true argsOf bodyOf ctxs w st) := by
  unfold step
  split
  · next hpc =>
    split
    · -- `Get` when the pool is empty: the new object is `st.next`, beyond every allocated one
      exact inv_setPc h w _ st.free (st.next + 1) st.obj h.nodup (fun x hx => Nat.lt_succ_of_lt (h.lt x hx))
        (fun v x _ e => ⟨⟨Nat.lt_succ_of_lt (h.held v x e).1, (h.held v x e).2⟩,
          fun e' => by cases e'; exact Nat.lt_irrefl _ (h.held v _ e).1, rfl⟩)
        (fun x e => by cases e; exact ⟨Nat.lt_succ_self _, fun hm => Nat.lt_irrefl _ (h.lt _ hm)⟩)
        (fun _ _ e => by cases e) (fun _ _ e => by cases e) (fun _ e => by cases e)
    · next o hf =>
      -- `Get` takes the last free object
      obtain ⟨ys, hys⟩ := List.getLast?_eq_some_iff.mp hf
      have hmem : ∀ x, x ∈ st.free ↔ x ∈ ys ∨ x = o := fun x => by rw [hys]; simp
      have hnd := h.nodup
      rw [hys, List.nodup_append] at hnd
      rw [hys, List.dropLast_concat]
      exact inv_setPc h w _ ys st.next st.obj hnd.1 (fun x hx => h.lt x ((hmem x).mpr (.inl hx)))
        (fun v x _ e => ⟨⟨(h.held v x e).1, fun hx => (h.held v x e).2 ((hmem x).mpr (.inl hx))⟩,
          fun e' => by cases e'; exact (h.held v _ e).2 ((hmem _).mpr (.inr rfl)), rfl⟩)
        (fun x e => by
          cases e
          exact ⟨h.lt _ ((hmem _).mpr (.inr rfl)), fun hx => hnd.2.2 _ hx _ (List.mem_singleton_self _) rfl⟩)
        (fun _ _ e => by cases e) (fun _ _ e => by cases e) (fun _ e => by cases e)
  · next o hpc =>
    -- the object is overwritten: nobody else evaluates against it
    have hw : (st.pcs w).holds = some o := by rw [hpc]; rfl
    exact inv_setPc h w _ st.free st.next _ h.nodup h.lt
      (fun v x hv e => ⟨h.held v x e, fun e' => by cases e'; exact h.ne hv e hw rfl, if_neg (h.ne hv e hw)⟩)
      (fun x e => by cases e; exact h.held w _ hw)
      (fun x c e => by cases e; exact ⟨if_pos rfl, rfl⟩) (fun _ _ e => by cases e) (fun _ e => by cases e)
  · next o c hpc =>
    -- one look-up of the body, through an object that carries the worker's own context
    have hw : (st.pcs w).holds = some o := by rw [hpc]; rfl
    obtain ⟨hs, hr⟩ := h.run w o c hpc
    rw [hs]
    rcases resolve_spec (argsOf w) (ctxs w) o c with ⟨c', he, hc', _⟩ | ⟨r, he, hr', _⟩ <;> rw [he]
    · exact inv_setPc h w _ st.free st.next st.obj h.nodup h.lt
        (fun v x hv e => ⟨h.held v x e, fun e' => by cases e'; exact h.ne hv e hw rfl, rfl⟩)
        (fun x e => by cases e; exact h.held w _ hw)
        (fun x c e => by cases e; exact ⟨hs, hc'.trans hr⟩) (fun _ _ e => by cases e) (fun _ e => by cases e)
    · exact inv_setPc h w _ st.free st.next st.obj h.nodup h.lt
        (fun v x hv e => ⟨h.held v x e, fun e' => by cases e'; exact h.ne hv e hw rfl, rfl⟩)
        (fun x e => by cases e; exact h.held w _ hw)
        (fun _ _ e => by cases e) (fun _ _ e => by cases e; exact hr'.trans hr) (fun _ e => by cases e)
  · next o r hpc =>
    -- the deferred `Return`
    have hw : (st.pcs w).holds = some o := by rw [hpc]; rfl
    have ho := h.held w o hw
    have hmem : ∀ x, x ∈ st.free ++ [o] ↔ x ∈ st.free ∨ x = o := fun x => by simp
    exact inv_setPc h w _ (st.free ++ [o]) st.next st.obj
      (List.nodup_append.mpr ⟨h.nodup, by simp, fun a ha b hb hab => by
        rw [List.mem_singleton] at hb; exact ho.2 (hb ▸ hab ▸ ha)⟩)
      (fun x hx => ((hmem x).mp hx).elim (h.lt x) fun e => e ▸ ho.1)
      (fun v x hv e => ⟨⟨(h.held v x e).1, fun hx => ((hmem x).mp hx).elim (h.held v x e).2 (h.ne hv e hw)⟩,
        (fun e' => by cases e'), rfl⟩)
      (fun _ e => by cases e) (fun _ _ e => by cases e) (fun _ _ e => by cases e)
      (fun _ e => by cases e; exact h.fin w o _ hpc)
  · exact h

theorem exec_inv (sched : List Nat) :
    ∀ {st : St}, Inv argsOf bodyOf ctxs st → Inv argsOf bodyOf ctxs (exec true argsOf bodyOf ctxs sched st) := by
  induction sched with
  | nil => exact fun h => h
  | cons w rest ih => exact fun h => ih (step_inv h w)

theorem step_other (install : Bool) {v w : Nat} (h : v ≠ w) : (step install argsOf bodyOf ctxs w st).pcs v = st.pcs v := by
  unfold step
  split
  · split <;> exact setPc_ne _ _ h
  · rw [setPc_ne _ _ h]; cases install <;> rfl
  · exact setPc_ne _ _ h
  · exact setPc_ne _ _ h
  · rfl

/-- Every action of a worker is one of the actions of its sequential run. -/
theorem step_left (h : Inv argsOf bodyOf ctxs st) (w : Nat) :
    ((step true argsOf bodyOf ctxs w st).pcs w).left (argsOf w) (bodyOf w) (ctxs w)
      = (st.pcs w).left (argsOf w) (bodyOf w) (ctxs w) - 1 := by
  unfold step
  split
  · next hpc => rw [hpc]; split <;> rw [setPc_self] <;> rfl
  · next o hpc => rw [setPc_self, hpc]; rfl
  · next o c hpc =>
    rw [setPc_self, hpc, (h.run w o c hpc).1]
    rcases resolve_spec (argsOf w) (ctxs w) o c with ⟨c', he, _, hl⟩ | ⟨r, he, _, hl⟩ <;>
      simp only [he, Pc.left, hl, Nat.add_sub_cancel]
  · next o r hpc => rw [setPc_self, hpc]; rfl
  · next r hpc => rw [hpc]; rfl

theorem exec_left (w : Nat) (sched : List Nat) :
    ∀ {st : St}, Inv argsOf bodyOf ctxs st →
      ((exec true argsOf bodyOf ctxs sched st).pcs w).left (argsOf w) (bodyOf w) (ctxs w)
        = (st.pcs w).left (argsOf w) (bodyOf w) (ctxs w) - sched.count w := by
  induction sched with
  | nil => exact fun _ => rfl
  | cons x rest ih =>
    intro st h
    rw [exec, List.foldl_cons, ← exec, ih (step_inv h x)]
    by_cases hx : x = w
    · subst hx; rw [step_left h x, List.count_cons_self, Nat.sub_sub, Nat.add_comm]
    · rw [step_other true (Ne.symm hx), List.count_cons_of_ne hx]

/-- A worker that gets the turns of its own sequential run has returned, with the stateless model's answer. -/
theorem exec_returns (hs : Start st) (sched : List Nat) (w : Nat)
    (hw : stepsLeft (argsOf w) (ctxs w) (bodyOf w) + 3 ≤ sched.count w) :
    (exec true argsOf bodyOf ctxs sched st).pcs w = .done ((withArgs (argsOf w) (bodyOf w)).run (ctxs w)) := by
  have hl := exec_left w sched (start_inv (argsOf := argsOf) (bodyOf := bodyOf) (ctxs := ctxs) hs)
  rw [hs.idle w, Pc.left, Nat.sub_eq_zero_of_le hw] at hl
  obtain ⟨r, hr⟩ := left_zero hl
  rw [hr, (exec_inv sched (start_inv hs)).done w r hr]

end

/-- The pool never blocks: a worker that has not returned can always act, and its action moves it on. -/
theorem step_progress (install : Bool) (argsOf : Nat → List Stage) (bodyOf : Nat → Stage) (ctxs : Nat → Ctx) (w : Nat) (st : St)
    (h : ∀ r, st.pcs w ≠ .done r) :
    (step install argsOf bodyOf ctxs w st).pcs w ≠ st.pcs w := by
  unfold step
  split
  · next hpc => split <;> simp [hpc]
  · next o hpc => simp [hpc]
  · next o c hpc =>
    rw [setPc_self, hpc]
    -- a look-up leaves a strictly shorter body
    rcases resolve_spec (st.obj o).2 (st.obj o).1 o c with ⟨c', he, _, hl⟩ | ⟨r, he, _, _⟩ <;> rw [he] <;> intro e <;> cases e
    omega
  · next o r hpc => simp [hpc]
  · next r hpc => exact absurd hpc (h r)

/-- A binder's `subContext{parent, vals: [a, b]}` is the lazy object with two constant argument stages. -/
theorem withSub_eq_withArgs {α : Type} (a b : Bytes) (c : Comp α) : c.withSub a b = withArgs [.ret a, .ret b] c := by
  induction c with
  | ret v => rfl
  | panic m => rfl
  | getKey n k ih => exact congrArg _ (funext ih)
  | getMatch i k ih =>
    simp only [Comp.withSub, withArgs]
    by_cases h0 : i < 0
    · simp only [h0, if_true]; exact congrArg _ (funext ih)
    · simp only [h0, if_false]
      by_cases h1 : i = 0
      · subst h1; exact ih _
      · by_cases h2 : i = 1
        · subst h2; exact ih _
        · have : i ≥ ([Comp.ret a, Comp.ret b] : List Stage).length := by simp only [List.length_cons, List.length_nil]; omega
          simp only [h1, h2, if_false, this, if_true]; exact ih _

end Rare.C10.ConcG

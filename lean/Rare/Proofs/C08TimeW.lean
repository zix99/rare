import Rare.Proofs.C08Arith
import Rare.Model.Expr.Funcs.TimeW
/-!
C08 for the time helpers (`Funcs/TimeW.lean`): `time`, `timeformat`, `timeattr`, `buckettime`, `duration`,
`durationformat` are panic-free on safe arguments in EVERY time world whose oracles return – any zone
database (`lookup`, `zones`, `loadOk`), any `dateparse` behaviour, any wall clock.
-/
namespace Rare.Expr.Funcs.TimeW
open Rare Rare.Expr

/-- The calls into the world return (they may answer anything). -/
structure TimeWorld.Returns (w : TimeWorld) : Prop where
  lookup : ∀ l u, Safe (w.lookup l u)
  detect : ∀ s, Safe (w.detect s)
  parseAny : ∀ l s, Safe (w.parseAny l s)
  nowBuild : Safe w.nowBuild
  nowLive : Safe w.nowLive
  nowDelta : Safe w.nowDelta
  lib : ∀ r, Safe (w.lib r)

variable {w : TimeWorld}

theorem lookupL_safe (hw : w.Returns) (loc : C18.Loc) (sec : Int) : Safe (lookupL w loc sec) := by
  unfold lookupL
  split
  · exact .ret _
  · exact hw.lookup _ _

theorem lookupNameFirst_safe (hw : w.Returns) (loc : C18.Loc) (name : Bytes) (unix : Int) :
    ∀ zs, Safe (lookupNameFirst w loc name unix zs)
  | [] => .ret _
  | (_, _) :: rest =>
    .ite (Safe.bind' (lookupL_safe hw _ _) fun _ => .ite (Safe.pure _) (lookupNameFirst_safe hw loc name unix rest))
      (lookupNameFirst_safe hw loc name unix rest)

theorem lookupName_safe (hw : w.Returns) (loc : C18.Loc) (name : Bytes) (unix : Int) :
    Safe (lookupName w loc name unix) := by
  unfold lookupName
  refine Safe.bind' (lookupNameFirst_safe hw _ _ _ _) fun r => ?_
  split
  · exact Safe.pure _
  · split <;> exact Safe.pure _

theorem dateResolve_safe (hw : w.Returns) (loc : C18.Loc) (wall : Int) : Safe (dateResolve w loc wall) :=
  Safe.bind' (lookupL_safe hw _ _) fun _ =>
    .ite (.ite (Safe.bind' (lookupL_safe hw _ _) fun _ => Safe.pure _) (Safe.pure _)) (Safe.pure _)

theorem timeOfParsed_safe (hw : w.Returns) (loc : C18.Loc) (p : C18.Parsed) : Safe (timeOfParsed w loc p) := by
  unfold timeOfParsed
  simp only []
  split
  · exact .ret _
  · exact .ret _
  · refine Safe.bind' (lookupName_safe hw _ _ _) fun r => ?_
    split
    · exact Safe.bind' (lookupL_safe hw _ _) fun _ => Safe.pure _
    · exact Safe.pure _
  · exact Safe.bind' (dateResolve_safe hw _ _) fun _ => Safe.bind' (lookupL_safe hw _ _) fun _ => Safe.pure _

theorem formatR_safe (hw : w.Returns) (layout : Bytes) (t : TimeR) : Safe (formatR w layout t) :=
  .ite (.ret _) (hw.lib _)

theorem timeAt_safe (hw : w.Returns) (loc : C18.Loc) (unix : Int) : Safe (timeAt w loc unix) :=
  Safe.bind' (lookupL_safe hw _ _) fun _ => Safe.pure _

theorem parseThen_safe (hw : w.Returns) (loc : C18.Loc) (layout str : Bytes) (f : TimeR → Comp Bytes)
    (hf : ∀ t, Safe (f t)) : Safe (parseThen w loc layout str f) := by
  refine .ite (hw.lib _) ?_
  split
  · exact Safe.bind' (timeOfParsed_safe hw _ _) fun t => hf t
  · exact .ret _

theorem touchUnless_safe (c : Bool) (k : Comp Bytes) (h : Safe k) : Safe (touchUnless c k) :=
  .ite h (.getMatch _ _ fun _ => h)

theorem smartDateParse_safe (hw : w.Returns) (format : Bytes) (loc : C18.Loc) (dateStage : Stage)
    (f : TimeR → Comp Bytes) (hd : Safe dateStage) (hf : ∀ t, Safe (f t)) :
    ∃ st, smartDateParse w format loc dateStage f = .ok st ∧ Safe st := by
  unfold smartDateParse
  split
  · refine ⟨_, rfl, Safe.bind' hd fun s => Safe.bind' (hw.parseAny _ _) fun r => ?_⟩
    split
    · exact Safe.pure _
    · exact hf _
  · obtain ⟨v, b, hp⟩ := hd.probe
    rw [hp]
    refine ⟨_, rfl, Safe.bind' hd fun s =>
      .ite (Safe.pure _) (touchUnless_safe _ _ (Safe.bind' (hw.detect _) fun live => ?_))⟩
    split
    · exact Safe.pure _
    · exact parseThen_safe hw _ _ _ _ hf
  · exact ⟨_, rfl, Safe.bind' hd fun s => parseThen_safe hw _ _ _ _ hf⟩

theorem SafeResult.decline (hw : w.Returns) (why : String) : SafeResult (declineBuild w why) := by
  refine ⟨_, rfl, fun s hs => ?_⟩
  simp only [Option.some.injEq] at hs
  subst hs
  exact hw.lib _

/-- The tail shared by the builders with a zone argument: non-ASCII arguments and a zone the world does not know
    are declined, an unknown zone name is a parse error, and a location is handed on. -/
theorem SafeResult.withTz (hw : w.Returns) (asciiArgs : Bool) (tzf : Bytes) {k : C18.Loc → Except String Built}
    (hk : ∀ loc, SafeResult (k loc)) :
    SafeResult (if !asciiArgs then declineBuild w "non-ascii"
      else match parseTz w tzf with
        | none => declineBuild w "tz-oracle"
        | some (_, false) => errParsing
        | some (loc, true) => k loc) := by
  refine .ite (SafeResult.decline hw _) ?_
  split
  · exact SafeResult.decline hw _
  · exact Expr.SafeResult.errParsing
  · exact hk _

theorem kfTimeParse_safe (hw : w.Returns) : SafeBuilder (kfTimeParse w) := by
  intro args h
  show SafeResult _
  unfold kfTimeParse
  split
  · exact SafeResult.errArgCount
  · rename_i a0 rest
    have h0 : Safe a0 := h a0 (by simp)
    refine .ite SafeResult.errArgCount ?_
    obtain ⟨val, isStatic, hp⟩ := h0.probe
    rw [hp]
    refine .ite (SafeResult.decline hw _) <| .ite (SafeResult.ok hw.nowBuild) <|
      .ite (SafeResult.ok (.getMatch _ _ fun _ => hw.nowLive)) <|
      .ite (SafeResult.ok (.getMatch _ _ fun _ => hw.nowDelta)) ?_
    obtain ⟨f, hf⟩ := evalStageIndexOrDefault_safe h 1 []
    obtain ⟨tz, htz⟩ := evalStageIndexOrDefault_safe h 2 []
    rw [hf, htz]
    refine SafeResult.withTz hw _ _ fun loc => ?_
    obtain ⟨st, hst, hs⟩ := smartDateParse_safe hw f loc a0 (fun t => .ret (itoa t.unix)) h0 (fun _ => .ret _)
    rw [hst]
    exact SafeResult.ok hs

theorem kfTimeFormat_safe (hw : w.Returns) : SafeBuilder (kfTimeFormat w) := by
  intro args h
  show SafeResult _
  unfold kfTimeFormat
  split
  · exact SafeResult.errArgCount
  · rename_i a0 rest
    refine .ite SafeResult.errArgCount ?_
    obtain ⟨f, hf⟩ := evalStageIndexOrDefault_safe h 1 C18.rfc3339
    obtain ⟨tz, htz⟩ := evalStageIndexOrDefault_safe h 2 []
    rw [hf, htz]
    refine SafeResult.withTz hw _ _ fun loc => SafeResult.ok (Safe.bind' (h a0 (by simp)) fun s => ?_)
    split
    · exact Safe.pure _
    · exact Safe.bind' (timeAt_safe hw _ _) fun t => formatR_safe hw _ _

theorem kfDuration_safe (hw : w.Returns) : SafeBuilder (kfDuration w) := by
  intro args h
  show SafeResult _
  unfold kfDuration
  split
  · rename_i a0
    refine SafeResult.ok (Safe.bind' (h a0 (by simp)) fun s => ?_)
    split
    · exact Safe.pure _
    · exact hw.lib _
  · exact SafeResult.errArgCount

theorem kfDurationFormat_safe (hw : w.Returns) : SafeBuilder (kfDurationFormat w) := by
  intro args h
  show SafeResult _
  unfold kfDurationFormat
  split
  · rename_i a0
    refine SafeResult.ok (Safe.bind' (h a0 (by simp)) fun s => ?_)
    split
    · exact Safe.pure _
    · exact hw.lib _
  · exact SafeResult.errArgCount

theorem kfBucketTime_safe (hw : w.Returns) : SafeBuilder (kfBucketTime w) := by
  intro args h
  show SafeResult _
  unfold kfBucketTime
  split
  · rename_i a0 a1 rest
    have h0 : Safe a0 := h a0 (by simp)
    refine .ite SafeResult.errArgCount ?_
    obtain ⟨v, b, hp⟩ := (h a1 (by simp)).probe
    rw [hp]
    cases b with
    | false => exact SafeResult.errConst
    | true =>
      refine .ite (SafeResult.decline hw _) <| .ite SafeResult.errEnum ?_
      obtain ⟨f, hf⟩ := evalStageIndexOrDefault_safe h 2 []
      obtain ⟨tz, htz⟩ := evalStageIndexOrDefault_safe h 3 []
      rw [hf, htz]
      refine SafeResult.withTz hw _ _ fun loc => ?_
      obtain ⟨st, hst, hs⟩ := smartDateParse_safe hw f loc a0
        (fun t => formatR w (C18.timeBucketToFormat C18.bucketTable v) t) h0 (fun t => formatR_safe hw _ t)
      rw [hst]
      exact SafeResult.ok hs
  · exact SafeResult.errArgCount

theorem attrStage_safe (hw : w.Returns) (attr : Bytes) (loc : C18.Loc) {a0 : Stage} (h0 : Safe a0) :
    Safe (attrStage w attr loc a0) := by
  unfold attrStage
  refine Safe.bind' h0 fun s => ?_
  split
  · exact Safe.pure _
  · refine Safe.bind' (timeAt_safe hw _ _) fun t => .ite (hw.lib _) ?_
    split
    · exact Safe.pure _
    · exact hw.lib _

theorem kfTimeAttr_safe (hw : w.Returns) : SafeBuilder (kfTimeAttr w) := by
  intro args h
  show SafeResult _
  unfold kfTimeAttr
  split
  · rename_i a0 a1 rest
    refine .ite SafeResult.errArgCount ?_
    obtain ⟨v, b, hp⟩ := (h a1 (by simp)).probe
    rw [hp]
    cases b with
    | false => exact SafeResult.errConst
    | true =>
      obtain ⟨tz, htz⟩ := evalStageIndexOrDefault_safe h 2 []
      rw [htz]
      exact SafeResult.withTz hw _ _ fun loc =>
        .ite SafeResult.errEnum (SafeResult.ok (attrStage_safe hw _ _ (h a0 (by simp))))
  · exact SafeResult.errArgCount

/-- Every time helper is a safe builder in every world whose oracles return. -/
theorem time_safe (w : TimeWorld) (hw : w.Returns) : ∀ p ∈ table w, SafeBuilder p.2 := by
  simp only [table, List.forall_mem_cons, List.not_mem_nil, false_imp_iff, implies_true, and_true]
  exact ⟨kfTimeParse_safe hw, kfTimeFormat_safe hw, kfTimeAttr_safe hw, kfBucketTime_safe hw, kfDuration_safe hw,
    kfDurationFormat_safe hw⟩

end Rare.Expr.Funcs.TimeW

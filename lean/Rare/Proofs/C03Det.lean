import Rare.Proofs.C13Order
import Rare.Proofs.C13Algo
import Rare.Proofs.C07Base
import Rare.Model.C03
/-! Helper lemmas for `csv_of_state_deterministic`: the sorters of the CSV writers are strict total
orders on rows with distinct names, so `sort.Sort` returns one and the same sequence whatever order
the map handed the rows over in. -/
namespace Rare.C03
open Rare.C07 Rare.C13

theorem nvNameLess_eq (a b : NV) : nvNameLess a b = bytesLt a.name b.name := rfl

theorem nvValueLess_eq (a b : NV) :
    nvValueLess a b = if a.value = b.value then bytesLt a.name b.name else decide (b.value < a.value) := by
  simp only [nvValueLess, nvValueSorter, C13.reverse, valueSorterEx, pureCmp, byName]
  by_cases h : a.value = b.value
  · simp [h]
  · have : (a.value == b.value) = false := by simpa using h
    simp only [this, if_neg h]
    simp only [Bool.false_eq_true, if_false, Bool.not_eq_eq_eq_not]
    by_cases h2 : a.value < b.value
    · have : ¬ b.value < a.value := by omega
      simp [h2, this]
    · have : b.value < a.value := by omega
      simp [h2, this]

theorem nodup_map_inj {α β : Type} (f : α → β) : ∀ l : List α, (l.map f).Nodup →
    l.Nodup ∧ ∀ x ∈ l, ∀ y ∈ l, f x = f y → x = y := by
  intro l
  induction l with
  | nil => intro _; simp
  | cons a r ih =>
    intro h
    simp only [List.map_cons, List.nodup_cons, List.mem_map, not_exists, not_and] at h
    obtain ⟨h1, h2⟩ := h
    obtain ⟨i1, i2⟩ := ih h2
    refine ⟨List.nodup_cons.mpr ⟨fun hm => h1 a hm rfl, i1⟩, ?_⟩
    intro x hx y hy hxy
    rcases List.mem_cons.mp hx with rfl | hx' <;> rcases List.mem_cons.mp hy with rfl | hy'
    · rfl
    · exact absurd hxy.symm (h1 y hy')
    · exact absurd hxy (h1 x hx')
    · exact i2 x hx' y hy' hxy

theorem name_inj {items : List NV} (hnd : (items.map (·.name)).Nodup) {a b : NV} (ha : a ∈ items) (hb : b ∈ items)
    (hne : a ≠ b) : a.name ≠ b.name := fun h => hne ((nodup_map_inj _ items hnd).2 a ha b hb h)

theorem byName_order {lt : Bytes → Bytes → Bool} (hs : StrictTotal lt) {less : NV → NV → Bool}
    (hless : ∀ a b, less a b = lt a.name b.name) (items : List NV) (hnd : (items.map (·.name)).Nodup) :
    OrderOn (· ∈ items) less := by
  refine ⟨?_, ?_, ?_⟩
  · intro a b _ _ _ hab
    rw [hless] at hab ⊢; exact hs.asymm _ _ trivial trivial hab
  · intro a b ha hb hne
    rw [hless, hless]; exact hs.total _ _ trivial trivial (name_inj hnd ha hb hne)
  · intro a b c _ _ _ _ _ _ hab hbc
    rw [hless] at hab hbc ⊢; exact hs.trans _ _ _ trivial trivial trivial hab hbc

theorem byValueThenName_order {less : NV → NV → Bool} {r : Int → Int → Prop} [DecidableRel r]
    (hless : ∀ a b, less a b = if a.value = b.value then bytesLt a.name b.name else decide (r a.value b.value))
    (asymm : ∀ x y, r x y → ¬ r y x) (total : ∀ x y, x ≠ y → r x y ∨ r y x) (trans : ∀ x y z, r x y → r y z → r x z)
    (items : List NV) (hnd : (items.map (·.name)).Nodup) : OrderOn (· ∈ items) less := by
  refine ⟨?_, ?_, ?_⟩
  · intro a b _ _ _ hab
    rw [hless] at hab ⊢
    by_cases h : a.value = b.value
    · rw [if_pos h] at hab; rw [if_pos h.symm]; exact bytesLt_strictTotal.asymm _ _ trivial trivial hab
    · rw [if_neg h] at hab; rw [if_neg (Ne.symm h)]
      exact decide_eq_false (asymm _ _ (of_decide_eq_true hab))
  · intro a b ha hb hne
    rw [hless, hless]
    by_cases h : a.value = b.value
    · rw [if_pos h, if_pos h.symm]
      exact bytesLt_strictTotal.total a.name b.name trivial trivial (name_inj hnd ha hb hne)
    · rw [if_neg h, if_neg (Ne.symm h)]
      simpa only [decide_eq_true_eq] using total _ _ h
  · intro a b c _ _ _ _ _ _ hab hbc
    rw [hless] at hab hbc ⊢
    by_cases h1 : a.value = b.value <;> by_cases h2 : b.value = c.value
    · rw [if_pos h1] at hab; rw [if_pos h2] at hbc; rw [if_pos (h1.trans h2)]
      exact bytesLt_strictTotal.trans a.name b.name c.name trivial trivial trivial hab hbc
    · rw [if_neg h2] at hbc; rw [h1, if_neg h2]; exact hbc
    · rw [if_neg h1] at hab; rw [← h2, if_neg h1]; exact hab
    · rw [if_neg h1] at hab; rw [if_neg h2] at hbc
      have hac := trans _ _ _ (of_decide_eq_true hab) (of_decide_eq_true hbc)
      have : ¬ a.value = c.value := fun e => asymm _ _ (of_decide_eq_true hab) (e ▸ of_decide_eq_true hbc)
      rw [if_neg this]; exact decide_eq_true hac

theorem nvNameLess_order (items : List NV) (hnd : (items.map (·.name)).Nodup) : OrderOn (· ∈ items) nvNameLess :=
  byName_order bytesLt_strictTotal nvNameLess_eq items hnd

theorem nvValueLess_order (items : List NV) (hnd : (items.map (·.name)).Nodup) : OrderOn (· ∈ items) nvValueLess :=
  byValueThenName_order (r := fun x y => y < x) nvValueLess_eq (fun _ _ h => by omega) (fun _ _ h => by omega)
    (fun _ _ _ h1 h2 => by omega) items hnd

/-- `sort.Sort` as a sorting routine of the model -/
def sortOf (alg : List NV → Algo NV (List NV)) : SortFn := fun less l => (alg l).runPure less

/-- Whatever arrival order: a contract-abiding sort returns the reference arrangement. -/
theorem sort_det (alg : List NV → Algo NV (List NV)) (hc : SortContract alg) (less : NV → NV → Bool)
    (items a : List NV) (hnd : (items.map (·.name)).Nodup) (ho : OrderOn (· ∈ items) less) (ha : a.Perm items) :
    sortOf alg less a = isort less items := by
  have hni : items.Nodup := (nodup_map_inj _ items hnd).1
  have hna : a.Nodup := ha.nodup_iff.mpr hni
  have hoa : OrderOn (· ∈ a) less := ho.mono (fun x hx => ha.mem_iff.mp hx)
  have h1 := hc.sorted less a hna hoa
  have h1' : IsSorted less ((alg a).runPure less) items := ⟨h1.1.trans ha, h1.2⟩
  exact sorted_unique' ho h1' (isort_sorted hni ho)

/-- a possible result of ranging over a Go map: every key exactly once -/
def IsRangeOf {α : Type} (order : List Bytes) (m : List (Bytes × α)) : Prop :=
  order.Nodup ∧ ∀ k, k ∈ order ↔ (aget m k).isSome = true

theorem range_perm {α β : Type} {o1 o2 : List Bytes} {m1 : List (Bytes × α)} {m2 : List (Bytes × β)}
    (h1 : IsRangeOf o1 m1) (h2 : IsRangeOf o2 m2) (hm : ∀ k, (aget m1 k).isSome = (aget m2 k).isSome) : o1.Perm o2 :=
  (List.perm_ext_iff_of_nodup h1.1 h2.1).mpr fun k => by rw [h1.2, h2.2, hm]

theorem isRangeOf_akeys {α : Type} {m : List (Bytes × α)} (h : (akeys m).Nodup) : IsRangeOf (akeys m) m :=
  ⟨h, fun _ => mem_akeys_iff _ _⟩

theorem nv_names_nodup (order : List Bytes) (f : Bytes → Int) (h : order.Nodup) :
    ((order.map fun k => (⟨k, f k⟩ : NV)).map (·.name)).Nodup := by
  simpa [List.map_map, Function.comp_def] using h

theorem sorted_rows_eq (alg : List NV → Algo NV (List NV)) (hc : SortContract alg) (less : NV → NV → Bool)
    (hless : ∀ items : List NV, (items.map (·.name)).Nodup → OrderOn (· ∈ items) less)
    (o1 o2 : List Bytes) (f1 f2 : Bytes → Int) (hn : o1.Nodup) (hp : o2.Perm o1) (hf : ∀ k ∈ o1, f1 k = f2 k) :
    sortOf alg less (o2.map fun k => (⟨k, f2 k⟩ : NV)) = isort less (o1.map fun k => (⟨k, f1 k⟩ : NV)) := by
  have hnd := nv_names_nodup o1 f1 hn
  apply sort_det alg hc less _ _ hnd (hless _ hnd)
  have : (o1.map fun k => (⟨k, f1 k⟩ : NV)) = o1.map fun k => (⟨k, f2 k⟩ : NV) :=
    List.map_congr_left fun k hk => by rw [hf k hk]
  rw [this]
  exact hp.map _

theorem option_map_eq {α β : Type} {x y : Option α} (f : α → β) (hs : x.isSome = y.isSome)
    (h : ∀ a b, x = some a → y = some b → f a = f b) : x.map f = y.map f :=
  match x, y, hs, h with
  | none, none, _, _ => rfl
  | some a, some b, _, h => congrArg some (h a b rfl rfl)
  | none, some _, hs, _ => nomatch hs
  | some _, none, hs, _ => nomatch hs

/-! every record the CSV writers write has at least one field (the hypothesis of the CSV round trip) -/

theorem counterCsvRows_nonempty (srt : SortFn) (o : List Bytes) (c : Counter) : ∀ r ∈ counterCsvRows srt o c, r ≠ [] := by
  intro r hr
  simp [counterCsvRows, counterRows] at hr
  rcases hr with rfl | ⟨_, _, rfl⟩ <;> simp

theorem tableCsvRows_nonempty (srt : SortFn) (co ro : List Bytes) (t : Table) : ∀ r ∈ tableCsvRows srt co ro t, r ≠ [] := by
  intro r hr
  simp [tableCsvRows, tableRows] at hr
  rcases hr with rfl | ⟨_, _, rfl⟩ <;> simp

theorem subKeyCsvRows_nonempty (srt : SortFn) (o : List Bytes) (s : SubKeyCounter) : ∀ r ∈ subKeyCsvRows srt o s, r ≠ [] := by
  intro r hr
  simp [subKeyCsvRows, subCounterRows] at hr
  rcases hr with rfl | ⟨_, _, rfl⟩ <;> simp

end Rare.C03

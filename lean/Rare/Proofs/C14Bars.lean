import Rare.Proofs.C14Scale
/-!
`int(u * n)` over ℚ, palette lookups, stacked bars.
-/
namespace Rare.C14
open Rare

/-! ### `int(u * n)` for `u ∈ [0,1]` -/

theorem ratTrunc_nonneg {q : Rat} (h : 0 ≤ q) : ratTrunc q = q.floor := by simp [ratTrunc, h]

theorem mul_unit_bounds {u : Rat} (h0 : 0 ≤ u) (h1 : u ≤ 1) {n : Int} (hn : 0 ≤ n) :
    0 ≤ u * (n : Rat) ∧ u * (n : Rat) ≤ (n : Rat) := by
  have hn' : (0 : Rat) ≤ (n : Rat) := by
    have := Rat.intCast_le_intCast.mpr hn
    simpa using this
  constructor
  · exact Rat.mul_nonneg h0 hn'
  · have := Rat.mul_le_mul_of_nonneg_right h1 hn'
    simpa [Rat.one_mul] using this

/-- `int(u * n)` lies in `[0, n]` for a unit value -/
theorem trunc_mul_bounds {u : Rat} (h0 : 0 ≤ u) (h1 : u ≤ 1) {n : Int} (hn : 0 ≤ n) :
    0 ≤ ratTrunc (u * (n : Rat)) ∧ ratTrunc (u * (n : Rat)) ≤ n := by
  obtain ⟨a, b⟩ := mul_unit_bounds h0 h1 hn
  rw [ratTrunc_nonneg a]
  constructor
  · exact Rat.le_floor_iff.mpr (by simpa using a)
  · have := Rat.floor_monotone b
    rwa [Rat.floor_intCast] at this

/-- `int(u * n)` is monotone in `u ≥ 0` -/
theorem trunc_mul_mono {u v : Rat} (h0 : 0 ≤ u) (huv : u ≤ v) {n : Int} (hn : 0 ≤ n) :
    ratTrunc (u * (n : Rat)) ≤ ratTrunc (v * (n : Rat)) := by
  have hn' : (0 : Rat) ≤ (n : Rat) := by
    have := Rat.intCast_le_intCast.mpr hn
    simpa using this
  have a : 0 ≤ u * (n : Rat) := Rat.mul_nonneg h0 hn'
  have b : 0 ≤ v * (n : Rat) := Rat.mul_nonneg (Rat.le_trans h0 huv) hn'
  rw [ratTrunc_nonneg a, ratTrunc_nonneg b]
  exact Rat.floor_monotone (Rat.mul_le_mul_of_nonneg_right huv hn')

/-! ### palette lookups -/

theorem getIdx_ok {α : Type} (l : List α) {i : Int} (h0 : 0 ≤ i) (h1 : i < l.length) : ∃ x, getIdx l i = .ok x := by
  have hlt : i.toNat < l.length := by omega
  refine ⟨l[i.toNat], ?_⟩
  simp [getIdx, show ¬ i < 0 by omega, List.getElem?_eq_getElem hlt]

theorem wrap64_small {x : Int} (h0 : -9223372036854775808 ≤ x) (h1 : x < 9223372036854775808) : wrap64 x = x := by
  unfold wrap64; omega

/-! ### stacked bars (integer arithmetic) -/

/-- normal form of `barBlocks` -/
theorem barBlocks_nf (val maxVal maxLen : Int) :
    barBlocks val maxVal maxLen =
      if maxVal ≤ 0 ∨ min val maxVal ≤ 0 ∨ maxLen ≤ 0 then 0 else min val maxVal * maxLen / maxVal := by
  have hmin : (if val > maxVal then maxVal else val) = min val maxVal := by
    by_cases h : val > maxVal <;> simp [h] <;> omega
  simp only [barBlocks, hmin]
  by_cases h1 : maxVal ≤ 0 <;> simp [h1]

theorem barBlocks_eq_spec (val maxVal maxLen : Int) :
    barBlocks val maxVal maxLen = Spec.propBar val maxVal maxLen := by
  rw [barBlocks_nf]
  unfold Spec.propBar
  by_cases h1 : maxVal ≤ 0
  · simp [h1]
  · have : (min val maxVal ≤ 0) ↔ (val ≤ 0) := by omega
    simp [h1, this]

theorem barBlocks_nonneg (val maxVal maxLen : Int) : 0 ≤ barBlocks val maxVal maxLen := by
  rw [barBlocks_nf]
  split
  · omega
  · rename_i h
    apply Int.ediv_nonneg
    · apply Int.mul_nonneg <;> omega
    · omega

theorem barBlocks_le (val maxVal maxLen : Int) (hm : 0 ≤ maxLen) : barBlocks val maxVal maxLen ≤ maxLen := by
  rw [barBlocks_nf]
  split
  · omega
  · rename_i h
    have hpos : 0 < maxVal := by omega
    have hv' : min val maxVal ≤ maxVal := by omega
    have : min val maxVal * maxLen ≤ maxLen * maxVal := by
      rw [Int.mul_comm maxLen maxVal]
      exact Int.mul_le_mul_of_nonneg_right hv' hm
    exact Int.ediv_le_of_le_mul hpos this

theorem barBlocks_mono {val val' : Int} (maxVal maxLen : Int) (h : val ≤ val') :
    barBlocks val maxVal maxLen ≤ barBlocks val' maxVal maxLen := by
  rw [barBlocks_nf, barBlocks_nf]
  have hvv : min val maxVal ≤ min val' maxVal := by omega
  generalize min val maxVal = v at hvv
  generalize min val' maxVal = v' at hvv
  by_cases h1 : maxVal ≤ 0
  · simp [h1]
  by_cases hl : maxLen ≤ 0
  · simp [hl]
  by_cases h0 : v ≤ 0
  · simp only [h0, true_or, or_true, if_true]
    split
    · omega
    · apply Int.ediv_nonneg
      · apply Int.mul_nonneg <;> omega
      · omega
  · have h0' : ¬ v' ≤ 0 := by omega
    simp only [h1, h0, h0', hl, or_self, if_false]
    apply Int.ediv_le_ediv (by omega)
    exact Int.mul_le_mul_of_nonneg_right hvv (by omega)

/-- sum of the positive values, without wrap-around -/
def posSum (vals : List Int) : Int := (vals.map (fun v => if v > 0 then v else 0)).sum

/-- total length of a stacked bar -/
def stackedBlocks (maxVal maxLen : Int) (vals : List Int) : Int := (vals.map (fun v => barBlocks v maxVal maxLen)).sum

theorem barBlocks_mul_le (v maxVal maxLen : Int) (hpos : 0 < maxVal) (hm : 0 ≤ maxLen) :
    barBlocks v maxVal maxLen * maxVal ≤ (if v > 0 then v else 0) * maxLen := by
  rw [barBlocks_nf]
  have hw : min v maxVal ≤ (if v > 0 then v else 0) ∨ min v maxVal ≤ 0 := by split <;> omega
  have hp : 0 ≤ (if v > 0 then v else 0) := by split <;> omega
  generalize (if v > 0 then v else 0) = p at hw hp
  generalize min v maxVal = w at hw
  by_cases h0 : maxVal ≤ 0 ∨ w ≤ 0 ∨ maxLen ≤ 0
  · simp only [h0, if_true, Int.zero_mul]
    exact Int.mul_nonneg hp hm
  · simp only [h0, if_false]
    have hw' : w ≤ p := by omega
    calc w * maxLen / maxVal * maxVal ≤ w * maxLen := Int.ediv_mul_le _ (by omega)
      _ ≤ p * maxLen := Int.mul_le_mul_of_nonneg_right hw' hm

theorem stackedBlocks_mul_le (maxVal maxLen : Int) (hpos : 0 < maxVal) (hm : 0 ≤ maxLen) (vals : List Int) :
    stackedBlocks maxVal maxLen vals * maxVal ≤ posSum vals * maxLen := by
  induction vals with
  | nil => simp [stackedBlocks, posSum]
  | cons v rest ih =>
    have h := barBlocks_mul_le v maxVal maxLen hpos hm
    simp only [stackedBlocks, posSum, List.map_cons, List.sum_cons] at ih ⊢
    rw [Int.add_mul, Int.add_mul]
    omega

/-- a stacked bar is never longer than `maxLen` when the running maximum covers the drawn values -/
theorem stackedBlocks_le (maxVal maxLen : Int) (hm : 0 ≤ maxLen) (vals : List Int) (hcover : posSum vals ≤ maxVal) :
    stackedBlocks maxVal maxLen vals ≤ maxLen := by
  by_cases hpos : 0 < maxVal
  · have h1 := stackedBlocks_mul_le maxVal maxLen hpos hm vals
    have h2 : posSum vals * maxLen ≤ maxVal * maxLen := Int.mul_le_mul_of_nonneg_right hcover hm
    have h3 : stackedBlocks maxVal maxLen vals * maxVal ≤ maxLen * maxVal := by rw [Int.mul_comm maxLen]; omega
    exact Int.le_of_mul_le_mul_right h3 hpos
  · have : ∀ vs : List Int, stackedBlocks maxVal maxLen vs = 0 := by
      intro vs
      induction vs with
      | nil => rfl
      | cons v r ih =>
        simp only [stackedBlocks, List.map_cons, List.sum_cons] at ih ⊢
        rw [ih]; simp [barBlocks, show maxVal ≤ 0 by omega]
    rw [this]; exact hm

theorem mapM_ok {α β : Type} (f : α → Res β) (l : List α) (h : ∀ x ∈ l, ∃ y, f x = .ok y) :
    ∃ ys, l.mapM f = .ok ys ∧ ys.length = l.length := by
  induction l with
  | nil => exact ⟨[], rfl, rfl⟩
  | cons x r ih =>
    obtain ⟨y, hy⟩ := h x (by simp)
    obtain ⟨ys, hys, hl⟩ := ih (fun z hz => h z (by simp [hz]))
    exact ⟨y :: ys, by simp [List.mapM_cons, hy, hys, bind, Except.bind, pure, Except.pure], by simp [hl]⟩

theorem stackedSegment_ok (env : Env) (maxVal maxLen v : Int) (i : Nat) : ∃ b, stackedSegment env maxVal maxLen v i = .ok b := by
  unfold stackedSegment
  by_cases hc : env.color
  · obtain ⟨c, hcx⟩ := getIdx_ok groupColors (i := (i : Int) % groupColors.length)
      (Int.emod_nonneg _ (by decide)) (Int.emod_lt_of_pos _ (by decide))
    exact ⟨colorWrite env c (barWriteRunes (if env.unicode = true then fullBlock else nonUnicodeBlock) v maxVal maxLen),
      by simp [hc, hcx, bind, Except.bind, pure, Except.pure]⟩
  · obtain ⟨g, hgx⟩ := getIdx_ok barAscii (i := (i : Int) % barAscii.length)
      (Int.emod_nonneg _ (by decide)) (Int.emod_lt_of_pos _ (by decide))
    exact ⟨barWriteRunes g v maxVal maxLen, by simp [hc, hgx, bind, Except.bind, pure, Except.pure]⟩

/-- `BarWriteStacked` never panics (after b2c2a9f: also for a running maximum of 0) -/
theorem barWriteStacked_ok (env : Env) (maxVal maxLen : Int) (vals : List Int) :
    ∃ b, barWriteStacked env maxVal maxLen vals = .ok b := by
  unfold barWriteStacked
  obtain ⟨ps, hps, _⟩ := mapM_ok (fun (p : Int × Nat) => stackedSegment env maxVal maxLen p.1 p.2) vals.zipIdx
    (fun p _ => stackedSegment_ok env maxVal maxLen p.1 p.2)
  exact ⟨ps.flatten, by simp [hps, bind, Except.bind, pure, Except.pure]⟩

end Rare.C14

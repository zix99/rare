import Rare.Proofs.C20Close2
import Rare.Proofs.C20TrimAll
import Rare.Proofs.C20Items
/-! C20: glue between the invariant `Inv2` and the property theorems of `Props/C20`
(the writer's `maxLine` / `cursor` as functions of the history, histories with one more update,
what happens to an update that goes to a line that has scrolled off). -/
namespace Rare.C20

theorem runHistory_maxLine (c : Cfg) : ∀ (h : List (Int × Bytes)) (w : TermWriter),
    (w.runHistory c h).1.maxLine = h.foldl (fun m u => if u.1 > m then u.1 else m) w.maxLine := by
  intro h
  induction h with
  | nil => intro w; rfl
  | cons u rest ih =>
    intro w
    obtain ⟨l, t⟩ := u
    simp only [TermWriter.runHistory, List.foldl_cons, ih, writeForLine_maxLine]

theorem runHistory_new_maxLine (c : Cfg) (h : List (Int × Bytes)) :
    (TermWriter.new.runHistory c h).1.maxLine = maxLineOf h := runHistory_maxLine c h TermWriter.new

theorem writeForLine_cursor (c : Cfg) (w : TermWriter) (l : Int) (txt : Bytes) :
    (w.writeForLine c l txt).1.cursor = l := by
  rw [writeForLine_fst]

theorem runHistory_append (c : Cfg) : ∀ (a b : List (Int × Bytes)) (w : TermWriter),
    w.runHistory c (a ++ b) =
      (((w.runHistory c a).1.runHistory c b).1, (w.runHistory c a).2 ++ ((w.runHistory c a).1.runHistory c b).2) := by
  intro a
  induction a with
  | nil => intro b w; simp [TermWriter.runHistory]
  | cons u rest ih =>
    intro b w
    obtain ⟨l, t⟩ := u
    simp only [List.cons_append, TermWriter.runHistory, ih, List.append_assoc]

theorem runHistory_one (c : Cfg) (w : TermWriter) (l : Int) (t : Bytes) :
    w.runHistory c [(l, t)] = ((w.writeForLine c l t).1, (w.writeForLine c l t).2) := by
  simp [TermWriter.runHistory]

/-- the writer's cursor after a non-empty history is the line written last -/
theorem runHistory_cursor (c : Cfg) (h : List (Int × Bytes)) (u : Int × Bytes) (w : TermWriter) :
    (w.runHistory c (h ++ [u])).1.cursor = u.1 := by
  rw [runHistory_append]
  obtain ⟨l, t⟩ := u
  simp only [runHistory_one, writeForLine_cursor]

theorem castHist_append (a b : List (Nat × Bytes)) : castHist (a ++ b) = castHist a ++ castHist b := by
  simp [castHist]

/-- An update that goes to a line that has already scrolled off the top: cursor-up stops at the top
row, so the text lands on row 0 (which shows another line), and from then on the writer's belief
about the cursor row is wrong. -/
theorem write_scrolled_off {W H r0 : Nat} {trim : Bool} {t0 : Scr} {hist : List (Nat × Bytes)} {w : TermWriter} {t : Scr}
    (inv : Inv2 W H r0 trim t0 hist w t) (l : Nat) (txt : Bytes)
    (hoff : r0 + l < scrolled H r0 w.maxLine) (htxt : TextSafe t0.cw W trim txt) :
    Clean (w.writeForLine (cfg W trim) l txt).2 ∧
    (t.feedBytes (w.writeForLine (cfg W trim) l txt).2).row = 0 ∧
    (t.feedBytes (w.writeForLine (cfg W trim) l txt).2).rows 0 = shown W trim txt ∧
    (∀ j, j ≠ 0 → (t.feedBytes (w.writeForLine (cfg W trim) l txt).2).rows j = t.rows j) ∧
    (w.writeForLine (cfg W trim) l txt).1.cursor = l ∧
    (w.writeForLine (cfg W trim) l txt).1.maxLine = w.maxLine := by
  have hx : t.row + (l - w.cursor.toNat) - (w.cursor.toNat - l) = 0 := by
    have := inv.row; have := inv.cur0; have := inv.curLe
    unfold scrolled at *; omega
  obtain ⟨hclean, hfeed⟩ := write_feed_scr W trim w t l txt inv.ps inv.width inv.cur0 (inv.height ▸ inv.rowlt)
    inv.clear inv.hideC (inv.cw ▸ htxt) 0 hx.symm
  rw [hfeed, writeForLine_fst, Nat.zero_sub, shiftN_zero, Nat.zero_min]
  refine ⟨hclean, rfl, setRow_at t.rows 0 _, fun j hj => setRow_ne t.rows 0 j _ hj, rfl, ?_⟩
  have : ¬ (l : Int) > w.maxLine := by
    have := inv.cur0; have := inv.curLe
    unfold scrolled at hoff; omega
  simp [this]

/-- the running maximum of `goTo`: at least the start value and every line, and one of them -/
theorem foldl_max_spec (h : List (Nat × Bytes)) : ∀ m0 : Int,
    (∀ u ∈ h, (u.1 : Int) ≤ (castHist h).foldl (fun m u => if u.1 > m then u.1 else m) m0) ∧
    m0 ≤ (castHist h).foldl (fun m u => if u.1 > m then u.1 else m) m0 ∧
    ((castHist h).foldl (fun m u => if u.1 > m then u.1 else m) m0 = m0 ∨
      ∃ u ∈ h, (u.1 : Int) = (castHist h).foldl (fun m u => if u.1 > m then u.1 else m) m0) := by
  induction h with
  | nil => intro m0; exact ⟨fun _ hu => (List.not_mem_nil hu).elim, Int.le_refl _, Or.inl rfl⟩
  | cons u rest ih =>
    intro m0
    have hm1 : m0 ≤ (if (u.1 : Int) > m0 then (u.1 : Int) else m0) ∧
        (u.1 : Int) ≤ (if (u.1 : Int) > m0 then (u.1 : Int) else m0) := by split <;> omega
    obtain ⟨h1, h2, h3⟩ := ih (if (u.1 : Int) > m0 then (u.1 : Int) else m0)
    simp only [castHist, List.map_cons, List.foldl_cons] at h1 h2 h3 ⊢
    refine ⟨fun x hx => ?_, Int.le_trans hm1.1 h2, ?_⟩
    · rcases List.mem_cons.mp hx with hx | hx
      · subst hx; exact Int.le_trans hm1.2 h2
      · exact h1 x hx
    · rcases h3 with h3 | ⟨v, hv, hve⟩
      · rw [h3]
        by_cases hgt : (u.1 : Int) > m0
        · exact Or.inr ⟨u, List.mem_cons_self, by rw [if_pos hgt]⟩
        · exact Or.inl (if_neg hgt)
      · exact Or.inr ⟨v, List.mem_cons_of_mem _ hv, hve⟩

/-- the largest line of a history is 0 or one of its lines -/
theorem maxLineOf_mem (h : List (Nat × Bytes)) :
    maxLineOf (castHist h) = 0 ∨ ∃ u ∈ h, (u.1 : Int) = maxLineOf (castHist h) := (foldl_max_spec h 0).2.2

theorem maxLineOf_ge (h : List (Nat × Bytes)) : ∀ u ∈ h, (u.1 : Int) ≤ maxLineOf (castHist h) :=
  (foldl_max_spec h 0).1

theorem maxLineOf_le (h : List (Nat × Bytes)) (B : Nat) (hB : ∀ u ∈ h, u.1 ≤ B) : (maxLineOf (castHist h)).toNat ≤ B := by
  rcases maxLineOf_mem h with h0 | ⟨u, hu, hue⟩
  · rw [h0]; simp
  · have := hB u hu; omega

/-! ### concrete texts for the non-vacuity examples (cell-width table `eaWidth`) -/

/-- ESC[31m é z ESC[0m – colour codes and a multi-byte rune of width one -/
def exRed : Bytes := [0x1b, 0x5b, 0x33, 0x31, 0x6d, 0xc3, 0xa9, 0x7a, 0x1b, 0x5b, 0x30, 0x6d]
/-- "ab" followed by an unterminated colour sequence ESC[3 -/
def exTail : Bytes := [97, 98, 0x1b, 0x5b, 0x33]
/-- an invalid byte (decoded as U+FFFD) and "a" -/
def exBad : Bytes := [0xff, 97]

theorem exLong_safe (trim : Bool) (h : trim = true) : TextSafe eaWidth 4 trim exLong :=
  ⟨[.ch 97, .ch 98, .ch 99, .ch 100, .ch 101, .ch 102, .ch 103], [],
   by intro t ht; simp at ht; rcases ht with rfl | rfl | rfl | rfl | rfl | rfl | rfl <;> (show _ ∧ _ ∧ _; decide),
   Or.inl rfl, by decide, by intro h'; rw [h] at h'; cases h'⟩

theorem exShort_safe (trim : Bool) : TextSafe eaWidth 4 trim exShort :=
  ⟨[.ch 120, .ch 121], [], by intro t ht; simp at ht; rcases ht with rfl | rfl <;> (show _ ∧ _ ∧ _; decide),
   Or.inl rfl, by decide, by intro _; exact ⟨by decide, by unfold ValidUtf8; decide⟩⟩

theorem exRed_safe (trim : Bool) : TextSafe eaWidth 4 trim exRed :=
  ⟨[.sgr [91, 51, 49], .ch 233, .ch 122, .sgr [91, 48]], [],
   by
     intro t ht; simp at ht
     rcases ht with rfl | rfl | rfl | rfl
     · exact ⟨[51, 49], rfl, by decide⟩
     · show _ ∧ _ ∧ _; decide
     · show _ ∧ _ ∧ _; decide
     · exact ⟨[48], rfl, by decide⟩,
   Or.inl rfl, by decide, by intro _; exact ⟨by decide, by unfold ValidUtf8; decide⟩⟩

theorem exTail_safe (trim : Bool) : TextSafe eaWidth 4 trim exTail :=
  ⟨[.ch 97, .ch 98], [27, 91, 51], by intro t ht; simp at ht; rcases ht with rfl | rfl <;> (show _ ∧ _ ∧ _; decide),
   Or.inr (Or.inr ⟨[51], rfl, by decide⟩), by decide, by intro _; exact ⟨by decide, by unfold ValidUtf8; decide⟩⟩

/-- invalid UTF-8 is in the class when trimming is on (the writer re-encodes it as U+FFFD) -/
theorem exBad_safe : TextSafe eaWidth 4 true exBad :=
  ⟨[.ch 0xFFFD, .ch 97], [], by intro t ht; simp at ht; rcases ht with rfl | rfl <;> (show _ ∧ _ ∧ _; decide),
   Or.inl rfl, by decide, by intro h; cases h⟩

/-- a history that scrolls a 4-row screen (cursor on row 1): lines 0…4, line 2 rewritten after the scroll -/
def exScroll : List (Nat × Bytes) :=
  [(0, exLong), (1, exRed), (2, exLong), (4, exTail), (2, exShort), (3, exBad)]

/-! ### iteration (for the loops of the translated `goTo`) -/

/-- `f` applied `n` times, innermost first -/
def iter {α : Type} (f : α → α) : Nat → α → α
  | 0, a => a
  | n + 1, a => iter f n (f a)

theorem iter_add (d : Int) : ∀ (k : Nat) (i : Int), iter (fun i => i + d) k i = i + d * k := by
  intro k
  induction k with
  | zero => intro i; simp [iter]
  | succ k ih => intro i; simp only [iter, ih]; rw [Int.natCast_succ, Int.mul_add]; omega

end Rare.C20

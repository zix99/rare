import Rare.Model.C09
import Rare.Proofs.GoInt
/-! C09: the decimal spelling of a group number reads back as that number (`strconv.Atoi` model). -/
namespace Rare.C09
open Rare Rare.Expr

def decimalBytes (n : Nat) : Bytes :=
  if _h : n < 10 then [UInt8.ofNat (48 + n)] else decimalBytes (n / 10) ++ [UInt8.ofNat (48 + n % 10)]
decreasing_by omega

theorem utf8_digit : ∀ d, d < 10 → utf8 [digitChar d] = [UInt8.ofNat (48 + d)] := by decide

theorem utf8_append (a b : List Char) : utf8 (a ++ b) = utf8 a ++ utf8 b := by simp [utf8]

theorem utf8_decimal (n : Nat) : utf8 (decimal n) = decimalBytes n := by
  induction n using Nat.strongRecOn with
  | _ n ih =>
    rw [decimal, decimalBytes]
    by_cases h : n < 10
    · simp only [h, dif_pos]; exact utf8_digit n h
    · simp only [h, dif_neg, not_false_eq_true]
      rw [utf8_append, ih (n / 10) (by omega), utf8_digit (n % 10) (by omega)]

theorem ofNat_digit_toNat (d : Nat) (h : d < 10) : (UInt8.ofNat (48 + d)).toNat - 48 = d := by
  revert d; decide

theorem digitsVal_decimal (n : Nat) : digitsVal (decimalBytes n) 0 = n := by
  induction n using Nat.strongRecOn with
  | _ n ih =>
    rw [decimalBytes]
    by_cases h : n < 10
    · simp only [h, dif_pos]; simp [digitsVal]; omega
    · simp only [h, dif_neg, not_false_eq_true]
      rw [digitsVal_snoc, ih (n / 10) (by omega), ofNat_digit_toNat _ (by omega)]
      omega

theorem isDigit_ofNat (d : Nat) (h : d < 10) : isDigitB (UInt8.ofNat (48 + d)) = true := by
  revert d; decide

theorem all_digit_decimal (n : Nat) : (decimalBytes n).all isDigitB = true := by
  induction n using Nat.strongRecOn with
  | _ n ih =>
    rw [decimalBytes]
    by_cases h : n < 10
    · simp only [h, dif_pos, List.all_cons, List.all_nil, isDigit_ofNat n h, Bool.and_true]
    · simp only [h, dif_neg, not_false_eq_true]
      rw [List.all_append, ih (n / 10) (by omega)]
      simp only [List.all_cons, List.all_nil, isDigit_ofNat _ (show n % 10 < 10 by omega), Bool.and_true]

theorem decimalBytes_ne_nil (n : Nat) : decimalBytes n ≠ [] := by
  rw [decimalBytes]; by_cases h : n < 10 <;> simp [h]

theorem atoi_digits (l : Bytes) (hne : l ≠ []) (hall : l.all isDigitB = true)
    (hr : Int.ofNat (digitsVal l 0) ≤ maxInt64) : atoi l = some (Int.ofNat (digitsVal l 0)) := by
  cases l with
  | nil => exact absurd rfl hne
  | cons b r =>
    have hb : isDigitB b = true := by simp at hall; exact hall.1
    have h43 : b ≠ 43 := by intro h; subst h; revert hb; decide
    have h45 : b ≠ 45 := by intro h; subst h; revert hb; decide
    unfold atoi
    split
    next neg ds heq =>
      split at heq
      · next r' h => cases h; exact absurd rfl h43
      · next r' h => cases h; exact absurd rfl h45
      · cases heq
        have hin : inInt64 (Int.ofNat (digitsVal (b :: r) 0)) = true := by
          simp only [inInt64, Bool.and_eq_true, decide_eq_true_eq]
          refine ⟨?_, hr⟩
          have : (0 : Int) ≤ Int.ofNat (digitsVal (b :: r) 0) := Int.natCast_nonneg _
          simp only [minInt64]; omega
        simp only [hall, List.isEmpty_cons, Bool.false_eq_true, Bool.not_true, Bool.or_false, if_false]
        simp only [Int.ofNat_eq_natCast] at hin ⊢
        simp [hin]

theorem atoi_decimal (n : Nat) (h : (n : Int) ≤ maxInt64) : atoi (utf8 (decimal n)) = some (n : Int) := by
  rw [utf8_decimal]
  have := atoi_digits (decimalBytes n) (decimalBytes_ne_nil n) (all_digit_decimal n) (by rw [digitsVal_decimal]; exact h)
  rw [this, digitsVal_decimal]; rfl

end Rare.C09

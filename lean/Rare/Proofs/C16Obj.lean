import Rare.Proofs.C16
import Rare.Model.C16Cmd
/-! C16: the four branches of `WriteInferred`; members and the object text, generic in how a value is written; the
text parses back to the members. -/
namespace Rare.C16

/-- the text `WriteInferred` puts after the key -/
def valueText (val : Bytes) : Bytes :=
  if isNumeric val then val
  else if equalFoldLen val litTrue then litTrue
  else if equalFoldLen val litFalse then litFalse
  else [0x22] ++ escape val ++ [0x22]

/-- what that text denotes -/
def inferredVal (val : Bytes) : JVal :=
  if isNumeric val then
    match decimalValue val with
    | some (m, e) => .num m e
    | none => .null
  else if equalFoldLen val litTrue then .bool true
  else if equalFoldLen val litFalse then .bool false
  else .str val

/-- `t` is what follows a member value inside an object -/
def Delim (t : Bytes) : Prop := ∃ r, t = 0x2c :: r ∨ t = 0x7d :: r

theorem Delim.endsNumber {t : Bytes} (h : Delim t) : EndsNumber t := by
  obtain ⟨r, h | h⟩ := h <;> subst h <;> exact endsNumber_cons _ _ (by decide)

theorem isWs_of_isDig (a : UInt8) (h : isDig a = true) : isWs a = false := by
  simp only [isWs, Bool.or_eq_false_iff, decide_eq_false_iff_not]
  refine ⟨⟨⟨?_, ?_⟩, ?_⟩, ?_⟩ <;> (intro e; subst e; exact absurd h (by decide))

/-- a text that starts like a number is read by `parseNumber`, and has no leading white space -/
theorem parseValue_number (c : UInt8) (r : Bytes) (hc : c = 0x2d ∨ isDig c = true) :
    parseValue (c :: r) = parseNumber (c :: r) ∧ skipWs (c :: r) = c :: r := by
  have h : c ≠ 0x22 ∧ c ≠ 0x74 ∧ c ≠ 0x66 ∧ c ≠ 0x6e ∧ isWs c = false := by
    rcases hc with rfl | hc
    · decide
    · exact ⟨isDig_ne c _ hc (by decide), isDig_ne c _ hc (by decide), isDig_ne c _ hc (by decide),
        isDig_ne c _ hc (by decide), isWs_of_isDig c hc⟩
  exact ⟨by simp only [parseValue, h, if_false], by simp [skipWs, h.2.2.2.2]⟩

theorem lower_of_isDig (a : UInt8) (h : isDig a = true) : lower a = a := by
  simp only [isDig, Bool.and_eq_true, decide_eq_true_eq] at h
  have h2 := UInt8.le_iff_toNat_le.mp h.2
  unfold lower
  rw [if_neg]
  intro h'
  have := UInt8.le_iff_toNat_le.mp h'.1
  simp at h2 this; omega

/-- a numeric capture is not a spelling of a word -/
theorem equalFoldLen_of_numeric (v : Bytes) (c : UInt8) (r : Bytes) (hc : isDig c = false)
    (hn : isNumeric v = true) : equalFoldLen v (c :: r) = false := by
  obtain ⟨a, t, rfl, ha⟩ := isNumeric_head v hn
  have : a ≠ c := isDig_ne a c ha hc
  simp [equalFoldLen, lower_of_isDig a ha, this]

/-- The four branches of `WriteInferred` exclude one another; for each: the text written after the key, the
value it denotes, and the canonical form of the capture. -/
theorem writeInferred_cases (v : Bytes) :
    (isNumeric v = true ∧ equalFoldLen v litTrue = false ∧ equalFoldLen v litFalse = false ∧
      valueText v = v ∧ canonVal v = v ∧ ∃ m e, decimalValue v = some (m, e) ∧ inferredVal v = .num m e) ∨
    (isNumeric v = false ∧ equalFoldLen v litTrue = true ∧ equalFoldLen v litFalse = false ∧
      valueText v = litTrue ∧ canonVal v = litTrue ∧ inferredVal v = .bool true) ∨
    (isNumeric v = false ∧ equalFoldLen v litTrue = false ∧ equalFoldLen v litFalse = true ∧
      valueText v = litFalse ∧ canonVal v = litFalse ∧ inferredVal v = .bool false) ∨
    (isNumeric v = false ∧ equalFoldLen v litTrue = false ∧ equalFoldLen v litFalse = false ∧
      valueText v = 0x22 :: (escape v ++ [0x22]) ∧ canonVal v = v ∧ inferredVal v = .str v) := by
  unfold valueText inferredVal canonVal
  cases hn : isNumeric v with
  | true =>
    obtain ⟨m, e, _, hd⟩ := isNumeric_parse v [] hn endsNumber_nil
    have h1 : equalFoldLen v litTrue = false := equalFoldLen_of_numeric v _ _ (by decide) hn
    have h2 : equalFoldLen v litFalse = false := equalFoldLen_of_numeric v _ _ (by decide) hn
    exact .inl ⟨rfl, h1, h2, rfl, by rw [h1, h2]; rfl, m, e, hd, by rw [hd]; rfl⟩
  | false =>
    cases ht : equalFoldLen v litTrue with
    | true =>
      have h2 : equalFoldLen v litFalse = false := by
        simp only [equalFoldLen, Bool.and_eq_true, beq_iff_eq] at ht
        simp [equalFoldLen, ht.1, litTrue, litFalse]
      exact .inr (.inl ⟨rfl, rfl, h2, rfl, rfl, rfl⟩)
    | false =>
      cases hf : equalFoldLen v litFalse with
      | true => exact .inr (.inr (.inl ⟨rfl, rfl, rfl, rfl, rfl, rfl⟩))
      | false => exact .inr (.inr (.inr ⟨rfl, rfl, rfl, rfl, rfl, rfl⟩))
theorem parseValue_valueText (val t : Bytes) (ht : Delim t) :
    parseValue (valueText val ++ t) = some (inferredVal val, t) := by
  rcases writeInferred_cases val with ⟨hn, _, _, ht', _, m, e, hd, hv⟩ | ⟨_, _, _, ht', _, hv⟩ | ⟨_, _, _, ht', _, hv⟩ |
    ⟨_, _, _, ht', _, hv⟩ <;>
    rw [ht', hv]
  · obtain ⟨m', e', hp, hd'⟩ := isNumeric_parse val t hn ht.endsNumber
    obtain ⟨a, r, rfl, hda⟩ := isNumeric_head val hn
    cases hd.symm.trans hd'
    rw [List.cons_append, (parseValue_number a _ (.inr hda)).1]
    exact hp
  · simp [parseValue, parseLit, litTrue]
  · simp [parseValue, parseLit, litFalse]
  · simp [parseValue, strBody_escape]

theorem decodesTo_inferred (val : Bytes) : decodesTo (inferredVal val) val = true := by
  rcases writeInferred_cases val with ⟨_, _, _, _, _, m, e, hd, hv⟩ | ⟨_, h, _, _, _, hv⟩ | ⟨_, _, h, _, _, hv⟩ |
    ⟨_, _, _, _, _, hv⟩ <;>
    rw [hv]
  · simp [decodesTo, hd, sameValue_refl]
  · simp only [equalFoldLen, Bool.and_eq_true] at h
    simp [decodesTo, h.2]
  · simp only [equalFoldLen, Bool.and_eq_true] at h
    simp [decodesTo, h.2]
  · simp [decodesTo]

theorem skipWs_valueText (val t : Bytes) : skipWs (valueText val ++ t) = valueText val ++ t := by
  rcases writeInferred_cases val with ⟨hn, _, _, ht, _⟩ | ⟨_, _, _, ht, _⟩ | ⟨_, _, _, ht, _⟩ | ⟨_, _, _, ht, _⟩ <;> rw [ht]
  · obtain ⟨a, r, rfl, hda⟩ := isNumeric_head val hn
    exact (parseValue_number a _ (.inr hda)).2
  · simp [litTrue, skipWs, isWs]
  · simp [litFalse, skipWs, isWs]
  · simp [skipWs, isWs]
/-- A way of writing a member value: its text, what the text denotes, and the two facts the
object-level lemmas need. -/
structure ValR where
  text : Bytes → Bytes
  val : Bytes → JVal
  parse : ∀ v t, Delim t → parseValue (text v ++ t) = some (val v, t)
  skip : ∀ v t, skipWs (text v ++ t) = text v ++ t

/-- `WriteInferred` -/
def inferredR : ValR := ⟨valueText, inferredVal, parseValue_valueText, skipWs_valueText⟩

/-- `WriteString` -/
def stringR : ValR :=
  ⟨fun v => 0x22 :: (escape v ++ [0x22]), JVal.str,
   by intro v t _; simp [parseValue, strBody_escape],
   by intro v t; simp [skipWs, isWs]⟩

theorem decodesTo_string (v : Bytes) : decodesTo (stringR.val v) v = true := by simp [stringR, decodesTo]

variable (R : ValR)

def renderMember (m : Bytes × Bytes) : Bytes :=
  0x22 :: (escape m.1 ++ 0x22 :: 0x3a :: 0x20 :: R.text m.2)

def dec (m : Bytes × Bytes) : Bytes × JVal := (m.1, R.val m.2)

/-- members written with a renderer whose values decode to what was written decode member by member -/
theorem membersDecode_dec (hR : ∀ v, decodesTo (R.val v) v = true) (l : List (Bytes × Bytes)) :
    membersDecode (l.map (dec R)) l = true := by
  induction l with
  | nil => rfl
  | cons m l ih => simp [membersDecode, dec, hR m.2, ih]

theorem parseMember_render (m : Bytes × Bytes) (t : Bytes) (ht : Delim t) :
    parseMember (renderMember R m ++ t) = some (dec R m, t) := by
  have e : renderMember R m ++ t = 0x22 :: (escape m.1 ++ 0x22 :: (0x3a :: 0x20 :: (R.text m.2 ++ t))) := by
    simp [renderMember]
  have hs : skipWs (0x20 :: (R.text m.2 ++ t)) = R.text m.2 ++ t := by
    have := R.skip m.2 t
    simpa [skipWs, isWs] using this
  rw [e]
  simp only [parseMember, if_true, strBody_escape]
  have hs2 : skipWs (0x3a :: 0x20 :: (R.text m.2 ++ t)) = 0x3a :: 0x20 :: (R.text m.2 ++ t) := by
    simp [skipWs, isWs]
  rw [hs2]
  simp only [if_true, hs, R.parse m.2 t ht]
  rfl

def renderTail (ms : List (Bytes × Bytes)) : Bytes :=
  ms.flatMap fun m => 0x2c :: 0x20 :: renderMember R m

def renderList : List (Bytes × Bytes) → Bytes
  | [] => []
  | m :: r => renderMember R m ++ renderTail R r

theorem renderTail_cons (m : Bytes × Bytes) (ms : List (Bytes × Bytes)) :
    renderTail R (m :: ms) = 0x2c :: 0x20 :: (renderMember R m ++ renderTail R ms) := by
  simp [renderTail]

theorem parseMembers_render : ∀ (ms : List (Bytes × Bytes)) (m : Bytes × Bytes) (fuel : Nat) (t : Bytes),
    ms.length < fuel →
    parseMembers fuel (renderMember R m ++ (renderTail R ms ++ 0x7d :: t))
      = some ((m :: ms).map (dec R), 0x7d :: t) := by
  intro ms
  induction ms with
  | nil =>
    intro m fuel t hf
    cases fuel with
    | zero => omega
    | succ n =>
      have hp := parseMember_render R m (0x7d :: t) ⟨t, Or.inr rfl⟩
      simp [parseMembers, renderTail, hp, skipWs, isWs]
  | cons m2 ms ih =>
    intro m fuel t hf
    cases fuel with
    | zero => omega
    | succ n =>
      have hp := parseMember_render R m (0x2c :: 0x20 :: (renderMember R m2 ++ (renderTail R ms ++ 0x7d :: t)))
        ⟨_, Or.inl rfl⟩
      have ih' := ih m2 n t (by simp at hf; omega)
      have hs : skipWs (0x20 :: (renderMember R m2 ++ (renderTail R ms ++ 0x7d :: t)))
          = renderMember R m2 ++ (renderTail R ms ++ 0x7d :: t) := by
        simp [skipWs, isWs, renderMember]
      rw [renderTail_cons]
      simp only [List.cons_append, List.append_assoc]
      simp only [parseMembers, hp, skipWs]
      rw [List.dropWhile_cons]
      simp only [show isWs 0x2c = false by decide, Bool.false_eq_true, if_false, if_true]
      simp only [skipWs] at hs
      simp [hs, ih']

theorem length_le_renderTail (ms : List (Bytes × Bytes)) : ms.length ≤ (renderTail R ms).length := by
  induction ms with
  | nil => simp [renderTail]
  | cons m ms ih => rw [renderTail_cons]; simp; omega

/-- the text of an object with members `ms` -/
def objText (ms : List (Bytes × Bytes)) : Bytes := 0x7b :: (renderList R ms ++ [0x7d])

omit R in
theorem parseObj_eq (r : Bytes) (c1 : UInt8) (r1 : Bytes) (h : r = c1 :: r1) (hws : isWs c1 = false)
    (h7 : c1 ≠ 0x7d) :
    parseObj (0x7b :: r) =
      match parseMembers (r.length + 1) r with
      | some (ms, c2 :: r2) => if c2 = 0x7d ∧ skipWs r2 = [] then some ms else none
      | _ => none := by
  subst h
  have hd : List.dropWhile isWs (c1 :: r1) = c1 :: r1 := by simp [hws]
  have h0 : List.dropWhile isWs (0x7b :: c1 :: r1) = 0x7b :: c1 :: r1 := by
    rw [List.dropWhile_cons]; simp [show isWs 0x7b = false by decide]
  simp only [parseObj, skipWs, h0, hd, if_true, h7, if_false, List.length_cons]
  rfl

theorem parseObj_objText (ms : List (Bytes × Bytes)) :
    parseObj (objText R ms) = some (ms.map (dec R)) := by
  cases ms with
  | nil => simp [objText, renderList, parseObj, skipWs, isWs]
  | cons m ms =>
    have e : renderList R (m :: ms) ++ [0x7d] = renderMember R m ++ (renderTail R ms ++ [0x7d]) := by
      simp [renderList]
    have hlen : ms.length < (renderMember R m ++ (renderTail R ms ++ [0x7d])).length + 1 := by
      have := length_le_renderTail R ms
      simp; omega
    have hp := parseMembers_render R ms m _ [] hlen
    unfold objText
    rw [e, parseObj_eq _ 0x22 (escape m.1 ++ 0x22 :: 0x3a :: 0x20 :: R.text m.2 ++ (renderTail R ms ++ [0x7d]))
      (by simp [renderMember]) (by decide) (by decide), hp]
    simp [skipWs]

end Rare.C16

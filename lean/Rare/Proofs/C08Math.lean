import Rare.Proofs.ExprSafe
import Rare.Proofs.C19Fuel
import Rare.Proofs.C19Rat
import Rare.Model.Expr.Funcs.Math
/-!
Panic-freedom of the `!` builder (`kfMath`, funcsMath.go) for C08.

The builder is generic in a `MathInst` (arithmetic, conversion of capture text, rendering, handling
of literal spellings outside the modelled grammar).  Proved here:

* `kfMathWith_safe`: for EVERY instance whose rendering and unmodelled-literal fallback do not
  panic, `kfMathWith I` is a `SafeBuilder`: on safe (panic-free) argument stages the builder neither
  panics at compile time (the stdmath model never answers `.panic` – `compileF_noPanic`, i.e. the
  simplifier probe, `opCodeOrder` and the dangling-operator case are total after the F11/F12
  repairs – nor `.fuel` – `compile_noFuel`) nor returns a stage that can panic (formula evaluation
  is a total function of the look-ups; `%` by zero and negative shifts are values, not crashes).
* The registered float64 builder `kfMath = kfMathWith floatInst` differs from such an instance only
  in that its rendering answers the marker `unmodelled:!…` (a `Comp.panic` node the driver prints
  as `unmodelled`) for values that went through libm functions or inexact powers, and for
  literals like `1_000`/`0x1p4`.  `kfMath_safeMod`: it never fails at compile time, and every
  panic node of its stage carries such an `unmodelled:` marker – never a modelled Go panic.
  Hence `!`, the only entry of the family's table, is listed in `mathUnmodelled`.
-/
namespace Rare.Expr.Funcs.Math
open Rare.Expr

/-- Names of the family whose registered builder can emit a `.panic "unmodelled:…"` node. -/
def mathUnmodelled : List String := ["!"]

/-- The parts of an instance that could introduce a panic node do not. -/
def MathInst.SafeInst {V : Type} (I : MathInst V) : Prop :=
  (∀ v, Safe (I.render v)) ∧ (∀ w s, (I.unmodelledLit w).stage = some s → Safe s)

theorem evalC_safe {V : Type} (I : MathInst V) (e : C19.Expr V) : Safe (evalC I e) := by
  induction e with
  | val v => exact Safe.pure _
  | named n => exact Safe.bind' (Safe.key n) fun s => Safe.pure _
  | idx i => exact Safe.bind' (Safe.match_ i) fun s => Safe.pure _
  | un m e ih => exact Safe.bind' ih fun a => by obtain ⟨v, k⟩ := a; exact Safe.pure _
  | bin op l r ihl ihr =>
    exact Safe.bind' ihl fun a => by
      obtain ⟨v, k⟩ := a
      exact Safe.bind' ihr fun b => by obtain ⟨w, k2⟩ := b; exact Safe.pure _

theorem collapse_ok : ∀ (args : List Stage) (acc : Bytes), (∀ a ∈ args, Safe a) →
    ∃ r, collapse args acc = .ok r := by
  intro args
  induction args with
  | nil => intro acc _; exact ⟨_, rfl⟩
  | cons a rest ih =>
    intro acc h
    obtain ⟨v, b, hp⟩ := (h a List.mem_cons_self).probe
    simp only [collapse, hp]
    cases b with
    | true => exact ih _ fun x hx => h x (List.mem_cons_of_mem _ hx)
    | false => exact ⟨_, rfl⟩

/-- `{! …}` for any instance and any property of stages that literals have and that a safe computation passes on to
    what follows it: the builder does not fail on safe arguments (the stdmath model never answers `.panic` –
    `compileF_noPanic` – nor `.fuel` – `compile_noFuel`), and its stage has the property as soon as the instance's
    rendering and its fallback for unmodelled literals have it. -/
theorem kfMathWith_of {V : Type} (I : MathInst V) (P : Stage → Prop) (hlit : ∀ b, P (Stage.lit b))
    (hbind : ∀ {α : Type} {c : Comp α} {f : α → Stage}, Safe c → (∀ a, P (f a)) → P (c >>= f))
    (hrender : ∀ v, P (I.render v)) (hunm : ∀ w s, (I.unmodelledLit w).stage = some s → P s)
    (args : List Stage) (hargs : ∀ a ∈ args, Safe a) :
    ∃ built, kfMathWith I args = .ok built ∧ ∀ s, built.stage = some s → P s := by
  have hmark : ∀ (m : Bytes) (tag : String), ∃ built, stageErr m tag = .ok built ∧ ∀ s, built.stage = some s → P s :=
    fun m tag => ⟨_, rfl, fun s hs => by injection hs with hs; subst hs; exact hlit _⟩
  obtain ⟨r, hr⟩ := collapse_ok args [] hargs
  simp only [kfMathWith, hr]
  cases r with
  | none => exact hmark _ _
  | some src =>
    simp only
    cases hc : C19.compile I.arith src with
    | error err =>
      cases err with
      | panic m => exact absurd rfl (C19.compileF_noPanic I.arith _ src _ hc m)
      | fuel => exact absurd hc (C19.compile_noFuel I.arith src)
      | unmodelled w => exact ⟨_, rfl, hunm w⟩
      | _ => exact hmark _ _
    | ok r =>
      obtain ⟨t, e⟩ := r
      refine ⟨_, rfl, fun s hs => ?_⟩
      injection hs with hs
      subst hs
      exact hbind (evalC_safe I e) fun (v, errs) => by
        show P (if errs > 0 then pure ErrorNum else I.render v)
        split
        · exact hlit _
        · exact hrender v

/-- **Panic-freedom of `{! …}` for every panic-free instance.** -/
theorem kfMathWith_safe {V : Type} (I : MathInst V) (hI : I.SafeInst) : SafeBuilder (kfMathWith I) :=
  kfMathWith_of I Safe Safe.lit Safe.bind' hI.1 hI.2

/-- A panic-free instance exists (exact arithmetic `Option Rat` of `Rare/Proofs/C19Rat.lean`,
    constant rendering): the theorem above is not vacuous. -/
def exactInst : MathInst C19.QV where
  arith := C19.ratArith
  conv := fun s => match atoi s with
    | some i => (some (i : Rat), 0)
    | none => (some 0, 1)
  render := fun _ => Stage.lit []
  unmodelledLit := fun _ => ⟨some (Stage.lit ErrorParsing), some "parsing"⟩

theorem exactInst_safe : SafeBuilder (kfMathWith exactInst) :=
  kfMathWith_safe exactInst ⟨fun _ => Safe.lit _, fun _ s hs => by
    injection hs with hs; subst hs; exact Safe.lit _⟩

/-- No panic node other than an `unmodelled:!…` marker (which `Rare/Drv/Expr.lean` prints as
    `unmodelled …`, never as `panic`) is reachable. -/
inductive SafeMod {α : Type} : Comp α → Prop
  | ret (a : α) : SafeMod (.ret a)
  | getMatch (i : Int) (k : Bytes → Comp α) : (∀ b, SafeMod (k b)) → SafeMod (.getMatch i k)
  | getKey (s : Bytes) (k : Bytes → Comp α) : (∀ b, SafeMod (k b)) → SafeMod (.getKey s k)
  | marker (m : String) : (∃ w, m = "unmodelled:!" ++ w) → SafeMod (.panic m)

theorem SafeMod.ofSafe {α : Type} {c : Comp α} (h : Safe c) : SafeMod c := by
  induction h with
  | ret a => exact .ret a
  | getMatch i k _ ih => exact .getMatch _ _ ih
  | getKey s k _ ih => exact .getKey _ _ ih

theorem SafeMod.bind {α β : Type} {c : Comp α} {f : α → Comp β} (h : Safe c) (hf : ∀ a, SafeMod (f a)) :
    SafeMod (c >>= f) := by
  show SafeMod (c.bind f)
  induction h with
  | ret a => exact hf a
  | getMatch i k _ ih => exact .getMatch _ _ ih
  | getKey s k _ ih => exact .getKey _ _ ih

/-- The registered `!` builder never fails at compile time on safe arguments, and the stage it
    returns reaches no panic node except the `unmodelled:` markers of the float64 rendering. -/
theorem kfMath_safeMod (args : List Stage) (hargs : ∀ a ∈ args, Safe a) :
    ∃ built, kfMath args = .ok built ∧ ∀ s, built.stage = some s → SafeMod s :=
  kfMathWith_of floatInst SafeMod (fun _ => .ret _) SafeMod.bind
    (fun v => by
      cases v with
      | none => exact .marker _ ⟨"inexact", by decide⟩
      | some x => exact .ret _)
    (fun w s hs => by injection hs with hs; subst hs; exact .marker _ ⟨w, rfl⟩) args hargs

end Rare.Expr.Funcs.Math

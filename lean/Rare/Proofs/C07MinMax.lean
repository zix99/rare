import Rare.Proofs.C07Table
/-! ComputeMinMax and Sum of a table built from samples. -/
namespace Rare.C07

/-- What the body of the `ComputeMinMax` loops does with one cell value. -/
def mmStep (acc : Int × Int) (v : Int) : Int × Int :=
  (if v < acc.1 then v else acc.1, if v > acc.2 then v else acc.2)

/-- The nested loops fold over the cell values, row by row. -/
theorem computeMinMaxWith_eq (rs : List TableRow) (cs : List Bytes) :
    Table.computeMinMaxWith rs cs =
      if rs.length = 0 ∨ cs.length = 0 then (0, 0)
      else (rs.flatMap fun r => cs.map r.value).foldl mmStep (maxInt64, minInt64) := by
  unfold Table.computeMinMaxWith
  rw [List.foldl_flatMap]
  simp only [List.foldl_map]
  rfl

theorem foldl_mmStep (vs : List Int) (acc : Int × Int) :
    (vs.foldl mmStep acc).1 ≤ acc.1 ∧ (∀ v ∈ vs, (vs.foldl mmStep acc).1 ≤ v) ∧
    ((vs.foldl mmStep acc).1 = acc.1 ∨ (vs.foldl mmStep acc).1 ∈ vs) ∧
    acc.2 ≤ (vs.foldl mmStep acc).2 ∧ (∀ v ∈ vs, v ≤ (vs.foldl mmStep acc).2) ∧
    ((vs.foldl mmStep acc).2 = acc.2 ∨ (vs.foldl mmStep acc).2 ∈ vs) := by
  induction vs generalizing acc with
  | nil => simp
  | cons v vs ih =>
    have s1 : (mmStep acc v).1 ≤ acc.1 ∧ (mmStep acc v).1 ≤ v ∧
        ((mmStep acc v).1 = acc.1 ∨ (mmStep acc v).1 = v) := by
      simp only [mmStep]; split <;> omega
    have s2 : acc.2 ≤ (mmStep acc v).2 ∧ v ≤ (mmStep acc v).2 ∧
        ((mmStep acc v).2 = acc.2 ∨ (mmStep acc v).2 = v) := by
      simp only [mmStep]; split <;> omega
    rw [List.foldl_cons]
    obtain ⟨h1, h2, h3, h4, h5, h6⟩ := ih (mmStep acc v)
    simp only [List.mem_cons, forall_eq_or_imp]
    refine ⟨Int.le_trans h1 s1.1, ⟨Int.le_trans h1 s1.2.1, h2⟩, ?_,
      Int.le_trans s2.1 h4, ⟨Int.le_trans s2.2.1 h4, h5⟩, ?_⟩
    · rcases h3 with h3 | h3
      · exact s1.2.2.imp h3.trans fun s => Or.inl (h3.trans s)
      · exact Or.inr (Or.inr h3)
    · rcases h6 with h6 | h6
      · exact s2.2.2.imp h6.trans fun s => Or.inl (h6.trans s)
      · exact Or.inr (Or.inr h6)

theorem present_mono (sel sel' : Parsed → Bool) (hp : List Parsed) (h : ∀ p, sel p = true → sel' p = true)
    (hs : present sel hp = true) : present sel' hp = true := by
  simp only [present, List.any_eq_true, Bool.and_eq_true] at *
  obtain ⟨x, hx, h1, h2⟩ := hs
  exact ⟨x, hx, h1, h _ h2⟩

theorem total_inRange (sel : Parsed → Bool) (hp : List Parsed) :
    minInt64 ≤ total sel hp ∧ total sel hp ≤ maxInt64 := wrap64_inRange _

/-- In a table built from samples, a row's `Value(c)` is the cell total (0 for an absent cell). -/
theorem row_value (t : Table) (hp : List Parsed) (h : TableInv t hp) (r : Bytes) (row : TableRow)
    (hr : aget t.rows r = some row) (c : Bytes) : row.value c = total (selCell c r) hp := by
  have ok := h.rows r row hr
  unfold TableRow.value
  rw [ok.cells c]
  cases hc : present (selCell c r) hp with
  | true => simp
  | false => simp [total_of_not_present _ _ hc]

theorem minmax_spec (t : Table) (hp : List Parsed) (h : TableInv t hp) (rs : List TableRow) (cs : List Bytes)
    (hrs : rs.Perm (t.rows.map (·.2))) (hcs : cs.Perm (akeys t.cols)) :
    IsGridMin hp (Table.computeMinMaxWith rs cs).1 ∧ IsGridMax hp (Table.computeMinMaxWith rs cs).2 := by
  -- the values the loops visit are exactly the cells of the grid
  have cells : ∀ v, v ∈ (rs.flatMap fun r => cs.map r.value) ↔
      ∃ c r, present (selCol c) hp = true ∧ present (selRow r) hp = true ∧ total (selCell c r) hp = v := by
    intro v
    have memC : ∀ c, c ∈ cs ↔ present (selCol c) hp = true := by
      intro c
      rw [hcs.mem_iff, mem_akeys_iff, h.cols c]
      cases present (selCol c) hp <;> simp
    simp only [List.mem_flatMap, List.mem_map, hrs.mem_iff, memC]
    constructor
    · rintro ⟨row, ⟨⟨r, row'⟩, hm, rfl⟩, c, hc, rfl⟩
      have hr := (mem_iff_aget _ h.nodupRows r row').mp hm
      refine ⟨c, r, hc, ?_, (row_value t hp h r _ hr c).symm⟩
      rw [← h.rowsPresent r, hr]; rfl
    · rintro ⟨c, r, hc, hr, rfl⟩
      obtain ⟨row, hrow⟩ : ∃ row, aget t.rows r = some row := by
        have := h.rowsPresent r; rw [hr] at this; exact Option.isSome_iff_exists.mp this
      exact ⟨row, ⟨(r, row), (mem_iff_aget _ h.nodupRows r row).mpr hrow, rfl⟩, c, hc,
        row_value t hp h r row hrow c⟩
  rw [computeMinMaxWith_eq]
  unfold IsGridMin IsGridMax
  cases hall : present selAll hp with
  | false =>
    have hrows : t.rows = [] := by
      rw [eq_nil_iff_aget]; intro r
      have := h.rowsPresent r
      cases hpr : present (selRow r) hp with
      | true => rw [present_mono _ selAll hp (fun _ _ => rfl) hpr] at hall; exact Bool.noConfusion hall
      | false => rw [hpr] at this; simpa using this
    have : rs = [] := by simpa [hrows] using hrs
    simp [this]
  | true =>
    obtain ⟨p0, hp0, hv0⟩ : ∃ p ∈ hp, p.inc.isSome = true := by
      simp only [present, List.any_eq_true, Bool.and_eq_true] at hall
      obtain ⟨x, hx, h1, _⟩ := hall; exact ⟨x, hx, h1⟩
    have hc0 : present (selCol p0.k1) hp = true := by
      simp only [present, List.any_eq_true, Bool.and_eq_true]; exact ⟨p0, hp0, hv0, by simp [selCol]⟩
    have hr0 : present (selRow p0.k2) hp = true := by
      simp only [present, List.any_eq_true, Bool.and_eq_true]; exact ⟨p0, hp0, hv0, by simp [selRow]⟩
    have hv : total (selCell p0.k1 p0.k2) hp ∈ (rs.flatMap fun r => cs.map r.value) :=
      (cells _).mpr ⟨_, _, hc0, hr0, rfl⟩
    have hne : ¬ (rs.length = 0 ∨ cs.length = 0) := by
      rintro (hh | hh) <;> simp [List.length_eq_zero_iff.mp hh] at hv
    simp only [hne, if_false, if_true]
    generalize (rs.flatMap fun r => cs.map r.value) = vs at cells hv ⊢
    obtain ⟨-, m2, m3, -, m5, m6⟩ := foldl_mmStep vs (maxInt64, minInt64)
    generalize vs.foldl mmStep (maxInt64, minInt64) = m at m2 m3 m5 m6 ⊢
    have rng := total_inRange (selCell p0.k1 p0.k2) hp
    refine ⟨⟨(cells _).mp ?_, fun c r hc hr => m2 _ ((cells _).mpr ⟨c, r, hc, hr, rfl⟩)⟩,
      ⟨(cells _).mp ?_, fun c r hc hr => m5 _ ((cells _).mpr ⟨c, r, hc, hr, rfl⟩)⟩⟩
    · -- if the sentinel survived, every cell equals MaxInt64, so the extreme is a cell all the same
      rcases m3 with m3 | m3
      · have := m2 _ hv
        have e : m.1 = total (selCell p0.k1 p0.k2) hp := by simp only at m3; omega
        rw [e]; exact hv
      · exact m3
    · rcases m6 with m6 | m6
      · have := m5 _ hv
        have e : m.2 = total (selCell p0.k1 p0.k2) hp := by simp only at m6; omega
        rw [e]; exact hv
      · exact m6

/-- `Sum()` is the grand total. -/
theorem sum_spec (t : Table) (hp : List Parsed) (h : TableInv t hp) : t.sum = total selAll hp := by
  unfold Table.sum
  rw [foldl_wrap_sum]
  split
  · rename_i he
    rw [← h.grand, he]; simp [sumBy, wrap64_zero]
  · rw [← h.grand]; simp

end Rare.C07

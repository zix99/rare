import Rare.Proofs.C17Funcs
/-!
C17: the generators.  `@for` with sub-expressions that may panic is `forE`, without panics `iterateWhile`
(`forE_ok`); the loop of `@range` writes the terms of `progWhile` (`rangeLoop_run`).
-/
namespace Rare.C17
open Rare Rare.Expr Rare.Expr.Funcs.Range

/-- The loop of `@for` at value level: `Fc`, `Fn` are what the condition and the increment answer for the two bound
    values (a value or a panic), `acc` the values produced so far; `none` = `<INF>`. -/
def forE (Fc Fn : Bytes → Bytes → Except String Bytes) :
    Nat → Nat → Bytes → List Bytes → Except String (Option (List Bytes))
  | 0, _, _, _ => .error "hang: for does not terminate"
  | fuel + 1, idx, v, acc =>
    match Fc v (itoa (idx : Nat)) with
    | .error m => .error m
    | .ok c =>
      if !truthy c then .ok (some acc)
      else
        match Fn v (itoa (idx : Nat)) with
        | .error m => .error m
        | .ok v' => if idx + 1 > Gen.maxIterations then .ok none else forE Fc Fn fuel (idx + 1) v' (acc ++ [v])

def forOut : Option (List Bytes) → Bytes
  | some ys => pack ys
  | none => InfMarker

/-- Without panics the loop has fuel enough and is `iterateWhile`. -/
theorem forE_ok (Fc Fn : Bytes → Bytes → Bytes) : ∀ (fuel idx : Nat) (v : Bytes) (acc : List Bytes),
    idx ≤ Gen.maxIterations → Gen.maxIterations - idx < fuel →
    forE (fun a b => .ok (Fc a b)) (fun a b => .ok (Fn a b)) fuel idx v acc =
      .ok ((iterateWhile (fun v k => truthy (Fc v (itoa (k : Nat)))) (fun v k => Fn v (itoa (k : Nat)))
        (Gen.maxIterations - idx) idx v).map (acc ++ ·))
  | 0, idx, v, acc, _, hf => by omega
  | fuel + 1, idx, v, acc, hle, hf => by
    by_cases ht : truthy (Fc v (itoa (idx : Nat))) = true
    · by_cases hmax : idx + 1 > Gen.maxIterations
      · have e0 : Gen.maxIterations - idx = 0 := by omega
        simp only [forE, ht, Bool.not_true, Bool.false_eq_true, if_false, hmax, if_true, e0, iterateWhile,
          Option.map_none]
      · have es : Gen.maxIterations - idx = (Gen.maxIterations - (idx + 1)) + 1 := by omega
        simp only [forE, ht, Bool.not_true, Bool.false_eq_true, if_false, hmax]
        rw [forE_ok Fc Fn fuel (idx + 1) _ _ (by omega) (by omega), es]
        simp only [iterateWhile, ht, if_true, Option.map_map]
        have : (fun x => acc ++ [v] ++ x) = ((fun x => acc ++ x) ∘ fun x => v :: x) := by funext ys; simp
        rw [this]
    · have ht' : truthy (Fc v (itoa (idx : Nat))) = false := by simpa using ht
      simp only [forE, ht', Bool.not_false, if_true]
      cases hlim : Gen.maxIterations - idx <;> simp [iterateWhile, ht']

theorem forLoop_runE (ctx : Ctx) (cond incr : Stage) : ∀ (fuel : Nat) (val : Bytes) (idx : Nat) (sb : Sb) (acc : List Bytes),
    sb.str = pack acc → acc.length = idx →
    (forLoop cond incr fuel val idx sb).run ctx =
      (forE (fun v0 v1 => cond.run (subCtx ctx v0 v1)) (fun v0 v1 => incr.run (subCtx ctx v0 v1)) fuel idx val acc).map
        forOut
  | 0, _, _, _, _, _, _ => rfl
  | fuel + 1, val, idx, sb, acc, hsb, hlen => by
    unfold forLoop forE
    rw [Comp.run_bind, withSub_run]
    cases cond.run (subCtx ctx val (itoa (idx : Nat))) with
    | error m => rfl
    | ok c =>
      simp only []
      by_cases ht : truthy c = true
      · simp only [ht, Bool.not_true, Bool.false_eq_true, if_false]
        rw [Comp.run_bind, withSub_run]
        cases incr.run (subCtx ctx val (itoa (idx : Nat))) with
        | error m => rfl
        | ok v' =>
          simp only []
          by_cases hmax : idx + 1 > Gen.maxIterations
          · simp [hmax, Comp.run, Except.map, forOut]
          · simp only [hmax, if_false]
            refine forLoop_runE ctx cond incr fuel v' (idx + 1) _ (acc ++ [val]) ?_ (by simp [hlen])
            cases acc with
            | nil =>
              have : ¬ idx > 0 := by simp at hlen; omega
              simp [this, hsb, pack, join]
            | cons y r =>
              have : idx > 0 := by simp at hlen; omega
              have e : pack ((y :: r) ++ [val]) = pack (y :: r) ++ [NUL] ++ val := join_append_singleton _ _ _ (by simp)
              rw [e]
              simp [this, hsb, ArraySeparatorString, ArraySeparator, NUL]
      · have ht' : truthy c = false := by simpa using ht
        simp [ht', Comp.run, Except.map, forOut, hsb]

theorem forStage_runE (ctx : Ctx) (a0 a1 a2 : Stage) :
    (forStage a0 a1 a2).run ctx =
      match a0.run ctx with
      | .error m => .error m
      | .ok v =>
        (forE (fun v0 v1 => a1.run (subCtx ctx v0 v1)) (fun v0 v1 => a2.run (subCtx ctx v0 v1))
          (Gen.maxIterations + 2) 0 v []).map forOut := by
  unfold forStage
  rw [Comp.run_bind]
  cases a0.run ctx with
  | error m => rfl
  | ok v =>
    simp only []
    exact forLoop_runE ctx a1 a2 _ v 0 {} [] rfl rfl

theorem itoa_ne_nil (v : Int) : itoa v ≠ [] := by
  unfold itoa
  split
  · simp
  · simp [natDigits, Nat.toDigits_ne_nil]

theorem range_guard_eq (incr i stop : Int) :
    ((decide (incr > 0) && decide (i < stop)) || (decide (incr < 0) && decide (i > stop))) =
      before incr i stop := rfl

/-- One round's writes: a separator unless the builder is empty, then the term. -/
theorem range_write (sb : Sb) (k : Nat) (x : Bytes) (hx : x ≠ []) (hwf : SbWf sb) (hlen : sb.len > 0 ↔ k > 0) :
    SbWf ((if sb.len > 0 then sb.write ArraySeparatorString else sb).write x) ∧
    ((if sb.len > 0 then sb.write ArraySeparatorString else sb).write x).len > 0 ∧
    ((if sb.len > 0 then sb.write ArraySeparatorString else sb).write x).str =
      sb.str ++ (if k = 0 then x else [NUL] ++ x) := by
  have hne : x.length > 0 := List.length_pos_iff.mpr hx
  by_cases hl : sb.len > 0
  · have hk0 : k ≠ 0 := by have := hlen.mp hl; omega
    have hw := sbWf_write _ x (sbWf_write sb ArraySeparatorString hwf)
    simp only [hl, if_true]
    refine ⟨hw, ?_, ?_⟩
    · rw [sb_len_eq _ hw]; simp; omega
    · simp [hk0, ArraySeparatorString, ArraySeparator, NUL]
  · have hk0 : k = 0 := by
      cases k with
      | zero => rfl
      | succ k => exact absurd (hlen.mpr (by omega)) hl
    have hw := sbWf_write sb x hwf
    simp only [hl, if_false]
    refine ⟨hw, ?_, ?_⟩
    · rw [sb_len_eq _ hw]; simp; omega
    · simp [hk0]

/-- The guard against a counter overflow: when it fires the next term is beyond `stop`, and when it does not the
    next term is an int64 (so the wrapped counter is the term). -/
theorem range_guard (i stop incr : Int) (hi1 : minInt64 ≤ i) (hi2 : i ≤ maxInt64) (hs1 : minInt64 ≤ stop)
    (hs2 : stop ≤ maxInt64) (hn1 : minInt64 ≤ incr) (hn2 : incr ≤ maxInt64) :
    if ((decide (incr > 0) && decide (i > wrap64 (maxInt64 - incr))) ||
        (decide (incr < 0) && decide (i < wrap64 (minInt64 - incr)))) = true
    then before incr (i + incr) stop = false
    else minInt64 ≤ i + incr ∧ i + incr ≤ maxInt64 := by
  have e1 : wrap64 (maxInt64 - incr) = maxInt64 - incr ∨ ¬ incr > 0 := by
    by_cases hp : incr > 0
    · exact Or.inl (wrap64_id (by unfold minInt64 maxInt64 at *; omega) (by unfold maxInt64 at *; omega))
    · exact Or.inr hp
  have e2 : wrap64 (minInt64 - incr) = minInt64 - incr ∨ ¬ incr < 0 := by
    by_cases hp : incr < 0
    · exact Or.inl (wrap64_id (by unfold minInt64 maxInt64 at *; omega) (by unfold minInt64 maxInt64 at *; omega))
    · exact Or.inr hp
  split
  · rename_i hov
    simp only [Bool.or_eq_true, Bool.and_eq_true, decide_eq_true_eq] at hov
    simp only [before, Bool.or_eq_false_iff, Bool.and_eq_false_iff, decide_eq_false_iff_not]
    omega
  · rename_i hov
    simp only [Bool.or_eq_true, Bool.and_eq_true, decide_eq_true_eq, not_or, not_and] at hov
    omega

/-- What the loop of `@range` has written once the specification's remaining terms are added. -/
def rangeResult (sb : Sb) (k : Nat) (r : Option Sb) : Option (List Int) → Prop
  | none => r = none
  | some ys => ∃ sb', r = some sb' ∧
      sb'.str = sb.str ++ (if k = 0 then pack (ys.map itoa) else joinTail [NUL] (ys.map itoa))

theorem rangeLoop_run (start stop incr : Int) (hs1 : minInt64 ≤ stop) (hs2 : stop ≤ maxInt64)
    (hi1 : minInt64 ≤ incr) (hi2 : incr ≤ maxInt64) :
    ∀ (fuel k : Nat) (i : Int) (sb : Sb), i = start + (k : Int) * incr →
      minInt64 ≤ i → i ≤ maxInt64 → k ≤ Gen.maxIterations → Gen.maxIterations + 2 ≤ fuel + k →
      SbWf sb → (sb.len > 0 ↔ k > 0) →
      ∃ r, rangeLoop fuel i stop incr k sb = .ok r ∧
        rangeResult sb k r (progWhile start stop incr (Gen.maxIterations - k) k)
  | 0, k, i, sb, _, _, _, h1, h2, _, _ => by omega
  | fuel + 1, k, i, sb, hi, hlo, hhi, hk, hf, hwf, hlen => by
    subst hi
    unfold rangeLoop
    simp only [range_guard_eq]
    by_cases hb : before incr (start + (k : Int) * incr) stop = true
    · simp only [hb, if_true]
      obtain ⟨hw2, hl2, hs2'⟩ := range_write sb k _ (itoa_ne_nil (start + (k : Int) * incr)) hwf hlen
      by_cases hm : k + 1 > Gen.maxIterations
      · refine ⟨none, by simp [hm], ?_⟩
        have e : Gen.maxIterations - k = 0 := by omega
        simp [e, progWhile, hb, rangeResult]
      · have e : Gen.maxIterations - k = (Gen.maxIterations - (k + 1)) + 1 := by omega
        have hnext : start + ((k + 1 : Nat) : Int) * incr = start + (k : Int) * incr + incr := by
          simp [Int.add_mul]; omega
        have hg := range_guard _ stop incr hlo hhi hs1 hs2 hi1 hi2
        simp only [hm, if_false, e, progWhile, hb, if_true]
        split at hg
        · -- the next term is beyond the int64 range, hence beyond `stop`
          rename_i hov
          rw [← hnext] at hg
          have hp : progWhile start stop incr (Gen.maxIterations - (k + 1)) (k + 1) = some [] := by
            cases Gen.maxIterations - (k + 1) <;> simp only [progWhile, hg, Bool.false_eq_true, if_false]
          refine ⟨some _, by rw [if_pos hov], ?_⟩
          simp only [hp, Option.map_some, rangeResult]
          refine ⟨_, rfl, ?_⟩
          rw [hs2']
          by_cases hk0 : k = 0 <;> simp [hk0, pack, join, joinTail]
        · rename_i hov
          simp only [hov]
          rw [wrap64_id hg.1 hg.2]
          obtain ⟨r, hr1, hr2⟩ := rangeLoop_run start stop incr hs1 hs2 hi1 hi2 fuel (k + 1) _ _ hnext.symm hg.1 hg.2
            (by omega) (by omega) hw2 ⟨fun _ => by omega, fun _ => hl2⟩
          refine ⟨r, by simpa using hr1, ?_⟩
          cases hp : progWhile start stop incr (Gen.maxIterations - (k + 1)) (k + 1) with
          | none => rw [hp] at hr2; simpa [rangeResult] using hr2
          | some ys =>
            rw [hp] at hr2
            obtain ⟨sb', h1, h2⟩ := hr2
            refine ⟨sb', h1, ?_⟩
            rw [h2, hs2']
            by_cases hk0 : k = 0 <;> simp [hk0, pack, join_cons_tail, joinTail]
    · have hbf : before incr (start + (k : Int) * incr) stop = false := by simpa using hb
      refine ⟨some sb, by simp [hbf], ?_⟩
      have hp : progWhile start stop incr (Gen.maxIterations - k) k = some [] := by
        cases Gen.maxIterations - k <;> simp only [progWhile, hbf, Bool.false_eq_true, if_false]
      rw [hp]
      exact ⟨sb, rfl, by by_cases hk0 : k = 0 <;> simp [hk0, pack, join, joinTail]⟩

end Rare.C17

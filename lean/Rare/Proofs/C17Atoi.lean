import Rare.Model.Expr.Build
import Rare.Spec.C17Atoi
import Rare.Proofs.GoInt
/-!
C17: the modelled `strconv.Atoi` / `ParseInt(s, 10, 64)` (`Rare.atoi`,
`Rare/Base/GoInt.lean`).

* `atoi_range`: whenever it succeeds, the result is an int64.
* `atoi_iff`: it succeeds exactly on `[+-]?[0-9]+` whose decimal value (Horner, `decVal`) fits,
  and the result is that value.
* `atoi_itoa`, `itoa_nul_free`: `Itoa` output parses back to the same int64 and contains no NUL.
* `evalStageInt_range` / `evalArgInt_range`: the constant integer arguments of `@select`/`@slice`
  are int64 (they are `atoi` of a static stage, or the default).
-/
namespace Rare.C17
open Rare Rare.Expr

theorem digitsVal_foldl (ds : Bytes) (acc : Nat) :
    digitsVal ds acc = ds.foldl (fun a b => a * 10 + (b.toNat - 48)) acc := by
  induction ds generalizing acc with
  | nil => rfl
  | cons b r ih => simp [digitsVal, ih]

theorem digitsVal_decVal (ds : Bytes) : digitsVal ds 0 = decVal ds := digitsVal_foldl ds 0

theorem inInt64_iff (v : Int) : inInt64 v = true ↔ minInt64 ≤ v ∧ v ≤ maxInt64 := by
  simp [inInt64]

/-! ## `atoi` in two steps: split off the sign, then parse digits -/

def signSplit (s : Bytes) : Bool × Bytes :=
  match s with
  | 43 :: r => (false, r)
  | 45 :: r => (true, r)
  | r => (false, r)

def atoiCore (neg : Bool) (ds : Bytes) : Option Int :=
  if ds.isEmpty || !ds.all isDigitB then none
  else
    let v : Int := if neg then -((digitsVal ds 0 : Nat) : Int) else ((digitsVal ds 0 : Nat) : Int)
    if inInt64 v then some v else none

theorem atoi_eq (s : Bytes) : atoi s = atoiCore (signSplit s).1 (signSplit s).2 := by
  unfold atoi
  split
  rename_i heq
  split at heq
  · injection heq with h1 h2; subst h1 h2; rfl
  · injection heq with h1 h2; subst h1 h2; rfl
  · rename_i n1 n2
    injection heq with h1 h2; subst h1 h2
    have hs : signSplit s = (false, s) := by
      unfold signSplit
      split
      · exact (n1 _ rfl).elim
      · exact (n2 _ rfl).elim
      · rfl
    rw [hs]; rfl

theorem signSplit_spec (s : Bytes) :
    (s = 43 :: (signSplit s).2 ∧ (signSplit s).1 = false) ∨
    (s = 45 :: (signSplit s).2 ∧ (signSplit s).1 = true) ∨
    (s = (signSplit s).2 ∧ (signSplit s).1 = false) := by
  unfold signSplit
  split
  · exact Or.inl ⟨rfl, rfl⟩
  · exact Or.inr (Or.inl ⟨rfl, rfl⟩)
  · exact Or.inr (Or.inr ⟨rfl, rfl⟩)

theorem signSplit_digit (b : UInt8) (r : Bytes) (hb : isDigitB b = true) :
    signSplit (b :: r) = (false, b :: r) := by
  have h43 : b ≠ 43 := by intro h; subst h; revert hb; decide
  have h45 : b ≠ 45 := by intro h; subst h; revert hb; decide
  unfold signSplit
  split
  · rename_i heq; injection heq with h1 _; exact absurd h1 h43
  · rename_i heq; injection heq with h1 _; exact absurd h1 h45
  · rfl

theorem atoiCore_some {neg : Bool} {ds : Bytes} {v : Int} (h : atoiCore neg ds = some v) :
    ds ≠ [] ∧ ds.all isDigitB = true ∧
      v = (if neg then -(decVal ds : Int) else (decVal ds : Int)) ∧ minInt64 ≤ v ∧ v ≤ maxInt64 := by
  unfold atoiCore at h
  by_cases hg : (ds.isEmpty || !ds.all isDigitB) = true
  · rw [if_pos hg] at h; cases h
  · rw [if_neg hg] at h
    simp only [Bool.or_eq_true, Bool.not_eq_true', not_or, Bool.not_eq_true, Bool.not_eq_false] at hg
    have hne : ds ≠ [] := by intro e; subst e; simp at hg
    simp only [digitsVal_decVal] at h
    by_cases hin : inInt64 (if neg = true then -(decVal ds : Int) else (decVal ds : Int)) = true
    · rw [if_pos hin] at h
      injection h with h
      subst h
      exact ⟨hne, hg.2, rfl, (inInt64_iff _).mp hin⟩
    · rw [if_neg hin] at h; cases h

theorem atoiCore_digits (neg : Bool) (ds : Bytes) (hne : ds ≠ []) (hd : ds.all isDigitB = true) :
    atoiCore neg ds =
      (if minInt64 ≤ (if neg then -(decVal ds : Int) else (decVal ds : Int)) ∧
          (if neg then -(decVal ds : Int) else (decVal ds : Int)) ≤ maxInt64
       then some (if neg then -(decVal ds : Int) else (decVal ds : Int)) else none) := by
  have hemp : ds.isEmpty = false := by
    cases ds with
    | nil => exact absurd rfl hne
    | cons _ _ => rfl
  unfold atoiCore
  simp only [hemp, hd, Bool.not_true, Bool.or_self, Bool.false_eq_true, if_false, digitsVal_decVal]
  by_cases hin : inInt64 (if neg = true then -(decVal ds : Int) else (decVal ds : Int)) = true
  · rw [if_pos hin, if_pos ((inInt64_iff _).mp hin)]
  · rw [if_neg hin, if_neg (fun h => hin ((inInt64_iff _).mpr h))]

/-- **The range lemma**: a successfully parsed integer is an int64. -/
theorem atoi_range {s : Bytes} {v : Int} (h : atoi s = some v) : minInt64 ≤ v ∧ v ≤ maxInt64 := by
  rw [atoi_eq] at h
  exact (atoiCore_some h).2.2.2

/-- What `atoi` computes on a digit string with an optional sign in front. -/
theorem atoi_sign_digits (sign ds : Bytes) (hs : sign = [] ∨ sign = [43] ∨ sign = [45])
    (hne : ds ≠ []) (hd : ds.all isDigitB = true) :
    atoi (sign ++ ds) =
      (if minInt64 ≤ (if sign = [45] then -(decVal ds : Int) else (decVal ds : Int)) ∧
          (if sign = [45] then -(decVal ds : Int) else (decVal ds : Int)) ≤ maxInt64
       then some (if sign = [45] then -(decVal ds : Int) else (decVal ds : Int)) else none) := by
  rw [atoi_eq]
  rcases hs with rfl | rfl | rfl
  · cases ds with
    | nil => exact absurd rfl hne
    | cons b r =>
      have hb : isDigitB b = true := by simp at hd; exact hd.1
      simp only [List.nil_append, signSplit_digit b r hb]
      rw [atoiCore_digits false _ hne hd]
      simp
  · have e : signSplit ([43] ++ ds) = (false, ds) := rfl
    rw [e, atoiCore_digits false _ hne hd]
    simp
  · have e : signSplit ([45] ++ ds) = (true, ds) := rfl
    rw [e, atoiCore_digits true _ hne hd]
    simp

/-- Every successful parse is of that shape: optional sign, one or more digits, and the result is
    the (signed) decimal value. -/
theorem atoi_shape {s : Bytes} {v : Int} (h : atoi s = some v) :
    ∃ sign ds, s = sign ++ ds ∧ (sign = [] ∨ sign = [43] ∨ sign = [45]) ∧ ds ≠ [] ∧
      ds.all isDigitB = true ∧ v = (if sign = [45] then -(decVal ds : Int) else (decVal ds : Int)) := by
  rw [atoi_eq] at h
  obtain ⟨h1, h2, h3, _⟩ := atoiCore_some h
  rcases signSplit_spec s with ⟨e, hn⟩ | ⟨e, hn⟩ | ⟨e, hn⟩
  · exact ⟨[43], _, e, Or.inr (Or.inl rfl), h1, h2, by rw [h3, hn]; simp⟩
  · exact ⟨[45], _, e, Or.inr (Or.inr rfl), h1, h2, by rw [h3, hn]; simp⟩
  · exact ⟨[], _, e, Or.inl rfl, h1, h2, by rw [h3, hn]; simp⟩

/-- **`atoi` is decimal parsing into int64**: it answers `v` exactly when the text is an optional
    sign followed by one or more ASCII digits whose signed decimal value is `v` and fits int64. -/
theorem atoi_iff (s : Bytes) (v : Int) :
    atoi s = some v ↔
      ∃ sign ds, s = sign ++ ds ∧ (sign = [] ∨ sign = [43] ∨ sign = [45]) ∧ ds ≠ [] ∧
        ds.all isDigitB = true ∧ v = (if sign = [45] then -(decVal ds : Int) else (decVal ds : Int)) ∧
        minInt64 ≤ v ∧ v ≤ maxInt64 := by
  constructor
  · intro h
    obtain ⟨sign, ds, h1, h2, h3, h4, h5⟩ := atoi_shape h
    exact ⟨sign, ds, h1, h2, h3, h4, h5, atoi_range h⟩
  · rintro ⟨sign, ds, rfl, h2, h3, h4, h5, h6⟩
    rw [atoi_sign_digits sign ds h2 h3 h4, ← h5, if_pos h6]

/-! ## Constant integer arguments -/

theorem evalStageInt_atoi {st : Stage} {i : Int} (h : evalStageInt st = .ok (some i)) :
    ∃ v, st.probe = .ok (v, true) ∧ atoi v = some i := by
  unfold evalStageInt at h
  split at h
  · cases h
  · rename_i v hp
    injection h with h
    exact ⟨v, hp, h⟩
  · injection h with h; cases h

/-- `EvalStageInt` answers int64 values only. -/
theorem evalStageInt_range {st : Stage} {i : Int} (h : evalStageInt st = .ok (some i)) :
    minInt64 ≤ i ∧ i ≤ maxInt64 := by
  obtain ⟨v, _, hv⟩ := evalStageInt_atoi h
  exact atoi_range hv

/-- `EvalArgInt` answers int64 values only, provided the default is one. -/
theorem evalArgInt_range {args : List Stage} {idx : Nat} {dflt i : Int}
    (hd : minInt64 ≤ dflt ∧ dflt ≤ maxInt64) (h : evalArgInt args idx dflt = .ok (some i)) :
    minInt64 ≤ i ∧ i ≤ maxInt64 := by
  unfold evalArgInt at h
  split at h
  · injection h with h; injection h with h; subst h; exact hd
  · exact evalStageInt_range h

/-! ## `itoa`: digits only, parses back -/

theorem digit_char_toNat {c : Char} (h : c.isDigit = true) : 48 ≤ c.toNat ∧ c.toNat ≤ 57 := by
  simp only [Char.isDigit, Bool.and_eq_true, decide_eq_true_eq, ge_iff_le] at h
  have h1 := h.1
  have h2 := h.2
  rw [UInt32.le_iff_toNat_le] at h1 h2
  exact ⟨h1, h2⟩

theorem digit_byte {c : Char} (h : c.isDigit = true) :
    (UInt8.ofNat c.toNat).toNat = c.toNat ∧ isDigitB (UInt8.ofNat c.toNat) = true := by
  obtain ⟨h1, h2⟩ := digit_char_toNat h
  have e : (UInt8.ofNat c.toNat).toNat = c.toNat := by
    simp only [UInt8.toNat_ofNat']
    omega
  refine ⟨e, ?_⟩
  simp only [isDigitB, Bool.and_eq_true, decide_eq_true_eq]
  rw [UInt8.le_iff_toNat_le, UInt8.le_iff_toNat_le, e]
  exact ⟨h1, h2⟩

theorem decVal_map_chars (cs : List Char) (h : ∀ c ∈ cs, c.isDigit = true) (acc : Nat) :
    (cs.map fun c => UInt8.ofNat c.toNat).foldl (fun a b => a * 10 + (b.toNat - 48)) acc =
      Nat.ofDigitChars 10 cs acc := by
  induction cs generalizing acc with
  | nil => simp
  | cons c r ih =>
    have hc := (digit_byte (h c (by simp))).1
    simp only [List.map_cons, List.foldl_cons, Nat.ofDigitChars_cons, hc]
    rw [ih (fun x hx => h x (by simp [hx]))]
    have : acc * 10 = 10 * acc := Nat.mul_comm _ _
    simp [this]

theorem decVal_natDigits (n : Nat) : decVal (natDigits n) = n := by
  unfold decVal natDigits
  rw [decVal_map_chars _ (fun c hc => Nat.isDigit_of_mem_toDigits (by decide) (by decide) hc)]
  exact Nat.ofDigitChars_ten_toDigits

/-- `strconv.Atoi(strconv.Itoa(v)) = v` for every int64. -/
theorem atoi_itoa (v : Int) (h1 : minInt64 ≤ v) (h2 : v ≤ maxInt64) : atoi (itoa v) = some v := by
  unfold itoa
  by_cases hn : v < 0
  · simp only [hn, if_true]
    have := atoi_sign_digits [45] (natDigits v.natAbs) (Or.inr (Or.inr rfl)) (natDigits_ne_nil _) (natDigits_all _)
    simp only [List.cons_append, List.nil_append, if_true, decVal_natDigits] at this
    rw [this]
    have e : -((v.natAbs : Nat) : Int) = v := by omega
    rw [e, if_pos ⟨h1, h2⟩]
  · simp only [hn, if_false]
    have := atoi_sign_digits [] (natDigits v.natAbs) (Or.inl rfl) (natDigits_ne_nil _) (natDigits_all _)
    have hne : ¬ (([] : Bytes) = [45]) := by simp
    simp only [List.nil_append, hne, if_false, decVal_natDigits] at this
    rw [this]
    have e : ((v.natAbs : Nat) : Int) = v := by omega
    rw [e, if_pos ⟨h1, h2⟩]

/-- No decimal rendering contains the array separator. -/
theorem itoa_nul_free (v : Int) : (0 : UInt8) ∉ itoa v := by
  have hd : ∀ n, (0 : UInt8) ∉ natDigits n := by
    intro n hm
    have := List.all_eq_true.mp (natDigits_all n) 0 hm
    revert this; decide
  unfold itoa
  split
  · intro hm
    rcases List.mem_cons.mp hm with h | h
    · revert h; decide
    · exact hd _ h
  · exact hd _

end Rare.C17

import Rare.Model.C05Logger
namespace Rare.C05Logger

theorem printedBy_append (a b : List Msg) (i : Nat) : printedBy (a ++ b) i = printedBy a i ++ printedBy b i := by
  simp [printedBy]

theorem printedBy_single_self (i : Nat) (m : String) : printedBy [(i, m)] i = [m] := by
  simp [printedBy]

theorem printedBy_single_other {i j : Nat} (m : String) (h : j ≠ i) : printedBy [(i, m)] j = [] := by
  simp [printedBy, Ne.symm h]

structure Inv (script : Nat → List String) (s : St) : Prop where
  /-- RWMutex: while a controlling call holds the lock exclusively no printer is between RLock and RUnlock -/
  excl : s.writer.isSome = true → ∀ i, (s.pr i).pc = 0
  /-- stderr followed by the buffer is everything printed so far, in the order it was printed -/
  emit : s.err ++ s.buf = s.emitted
  /-- the buffer only holds something while logs are deferred -/
  bufNil : s.deferred = false → s.buf = []
  /-- per goroutine: what it has printed followed by what it still has to print is its script -/
  per : ∀ i, printedBy s.emitted i ++ (s.pr i).todo = script i

theorem inv_init (script : Nat → List String) (ctl : List Ctl) : Inv script (init script ctl) :=
  ⟨by simp [init], by simp [init], by simp [init], by simp [init, printedBy]⟩

theorem todo_setP_pc (f : Nat → P) (i c j : Nat) : (setP f i { f i with pc := c } j).todo = (f j).todo := by
  unfold setP; split
  · next h => rw [h]
  · rfl

/-- `DeferLogs` / `ImmediateLogs` move messages between stderr and the buffer at most; they print nothing. -/
theorem ctlBody_frame (s : St) (c : Ctl) :
    (ctlBody s c).err ++ (ctlBody s c).buf = s.err ++ s.buf ∧ (ctlBody s c).emitted = s.emitted ∧
    (ctlBody s c).pr = s.pr ∧ ((s.deferred = false → s.buf = []) → (ctlBody s c).deferred = false → (ctlBody s c).buf = []) := by
  cases c <;> cases hd : s.deferred <;> simp [ctlBody, hd]

theorem inv_step {script : Nat → List String} {s s' : St} (h : Inv script s) (hs : Step s s') : Inv script s' := by
  obtain ⟨l, rf, hrf, hst⟩ := hs
  -- a printer between `RLock` and `RUnlock` excludes the controlling call
  have hnw : ∀ i, (s.pr i).pc ≠ 0 → s.writer.isSome ≠ true := fun i hpc hw => hpc (h.excl hw i)
  cases l with
  | rlock i =>
    simp only [step] at hst
    split at hst
    · rename_i hw hpc htodo
      cases hst
      exact ⟨fun hw' => by simp [hw] at hw', h.emit, h.bufNil, fun j => by rw [todo_setP_pc]; exact h.per j⟩
    · cases hst
  | print i =>
    simp only [step] at hst
    split at hst
    · rename_i m rest hpc htodo
      have hper : ∀ j, printedBy (s.emitted ++ [(i, m)]) j ++ (setP s.pr i { pc := 2, todo := rest } j).todo = script j := by
        intro j
        have := h.per j
        by_cases hj : j = i
        · subst hj
          rw [htodo] at this
          simp [setP, printedBy_append, printedBy_single_self, ← this]
        · simp [setP, hj, printedBy_append, printedBy_single_other m hj, this]
      cases hd : s.deferred with
      | true =>
        simp [hd] at hst; cases hst
        exact ⟨fun hw => absurd hw (hnw i (by omega)), by simp [← h.emit], fun hf => by simp at hf, hper⟩
      | false =>
        simp [hd] at hst; cases hst
        have hb := h.bufNil hd
        exact ⟨fun hw => absurd hw (hnw i (by omega)), by simp [← h.emit, hb], fun _ => hb, hper⟩
    · cases hst
  | runlock i =>
    simp only [step] at hst
    split at hst
    · rename_i hpc
      cases hst
      exact ⟨fun hw => absurd hw (hnw i (by omega)), h.emit, h.bufNil, fun j => by rw [todo_setP_pc]; exact h.per j⟩
    · cases hst
  | wlock =>
    simp only [step] at hst
    split at hst
    · rename_i c rest hw hctl
      split at hst
      · rename_i hr
        cases hst
        exact ⟨fun _ => hrf hr, h.emit, h.bufNil, h.per⟩
      · cases hst
    · cases hst
  | wbody =>
    simp only [step] at hst
    split at hst
    · rename_i c hw
      cases hst
      obtain ⟨h1, h2, h3, h4⟩ := ctlBody_frame s c
      exact ⟨by simp, by simpa [h1, h2] using h.emit, h4 h.bufNil, by simpa [h2, h3] using h.per⟩
    · cases hst

theorem inv_reach {script : Nat → List String} {ctl : List Ctl} {s : St} (hr : Reach (init script ctl) s) : Inv script s := by
  induction hr with
  | refl => exact inv_init script ctl
  | step _ hs ih => exact inv_step ih hs

/-- The flush itself: `ImmediateLogs` moves the whole buffer to stderr in one piece and leaves immediate mode. -/
theorem ctlBody_immediate (s : St) :
    (ctlBody s .immediate).err ++ (ctlBody s .immediate).buf = s.err ++ s.buf ∧
    ((ctlBody s .immediate).deferred = false) ∧ (s.deferred = true → (ctlBody s .immediate).buf = []) := by
  cases hd : s.deferred <;> simp [ctlBody, hd]

namespace Demo
def sc : Nat → List String := fun i => if i = 0 then ["e1"] else []
def nx (s : St) (rf : Bool) (l : Label) : St := (step s rf l).getD s
def t0 := init sc [.defer, .immediate]
def t1 := nx t0 true .wlock
def t2 := nx t1 false .wbody
def t3 := nx t2 false (.rlock 0)
def t4 := nx t3 false (.print 0)
def t5 := nx t4 false (.runlock 0)
def t6 := nx t5 true .wlock
def t7 := nx t6 false .wbody

theorem demo : Reach t0 t7 ∧ (∀ i, (t7.pr i).todo = []) ∧ t7.deferred = false ∧
    t7.err = [(0, "e1")] ∧ t7.buf = [] ∧ t4.buf = [(0, "e1")] ∧ t4.err = [] := by
  have s1 : Step t0 t1 := .mk _ _ .wlock true (fun _ _ => rfl) rfl
  have s2 : Step t1 t2 := .mk _ _ .wbody false (by simp) rfl
  have s3 : Step t2 t3 := .mk _ _ (.rlock 0) false (by simp) rfl
  have s4 : Step t3 t4 := .mk _ _ (.print 0) false (by simp) rfl
  have s5 : Step t4 t5 := .mk _ _ (.runlock 0) false (by simp) rfl
  have s6 : Step t5 t6 := .mk _ _ .wlock true (by intro _ i; by_cases h : i = 0 <;> simp [t5, t4, t3, t2, t1, t0, nx, step, setP, init, sc, ctlBody, h]) rfl
  have s7 : Step t6 t7 := .mk _ _ .wbody false (by simp) rfl
  refine ⟨.step (.step (.step (.step (.step (.step (.step .refl s1) s2) s3) s4) s5) s6) s7, ?_, rfl, rfl, rfl, rfl, rfl⟩
  intro i; by_cases h : i = 0 <;> simp [t7, t6, t5, t4, t3, t2, t1, t0, nx, step, setP, init, sc, ctlBody, h]
end Demo

end Rare.C05Logger

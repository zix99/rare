import Rare.Proofs.C17Loop
/-!
C17: the stages of `@split`/`@join` (`arrayOperator`), `@map`, `@filter`, `@reduce` compute the list functions of the
specification – with sub-expressions that may panic (`…_runE`: the element loop `loopE`), and without
(`loopE_ok` and its instances).
-/
namespace Rare.C17
open Rare Rare.Expr Rare.Expr.Funcs.Range

def joinTail (j : Bytes) (ys : List Bytes) : Bytes := (ys.map fun y => j ++ y).flatten

theorem join_cons_tail (j y : Bytes) (ys : List Bytes) : join j (y :: ys) = y ++ joinTail j ys := by
  induction ys generalizing y with
  | nil => simp [join, joinTail]
  | cons z r ih =>
    have : join j (y :: z :: r) = y ++ j ++ join j (z :: r) := rfl
    rw [this, ih]; simp [joinTail]

theorem joinTail_append (j : Bytes) (ys zs : List Bytes) :
    joinTail j (ys ++ zs) = joinTail j ys ++ joinTail j zs := by
  simp [joinTail]

theorem join_append_singleton (j : Bytes) (ys : List Bytes) (x : Bytes) (h : ys ≠ []) :
    join j (ys ++ [x]) = join j ys ++ j ++ x := by
  cases ys with
  | nil => exact absurd rfl h
  | cons y r => simp [join_cons_tail, joinTail]

/-- For every element `x` the state `s` says which two values are bound (`args`), `F` is what the sub-expression
    answers for them – a value or a panic, which ends the loop – and the state takes the answer (`upd`). -/
def loopE {σ : Type} (F : Bytes → Bytes → Except String Bytes) (args : σ → Bytes → Bytes × Bytes)
    (upd : σ → Bytes → Bytes → σ) : List Bytes → σ → Except String σ
  | [], s => .ok s
  | x :: xs, s =>
    match F (args s x).1 (args s x).2 with
    | .error m => .error m
    | .ok y => loopE F args upd xs (upd s x y)

theorem loopE_ok {σ : Type} (F : Bytes → Bytes → Bytes) (args : σ → Bytes → Bytes × Bytes)
    (upd : σ → Bytes → Bytes → σ) : ∀ (xs : List Bytes) (s : σ),
    loopE (fun a b => .ok (F a b)) args upd xs s = .ok (xs.foldl (fun s x => upd s x (F (args s x).1 (args s x).2)) s)
  | [], _ => rfl
  | x :: xs, s => by simp only [loopE, List.foldl_cons]; exact loopE_ok F args upd xs _

theorem foldl_snoc_map (g : Bytes → Bytes) (xs : List Bytes) (init : List Bytes) :
    xs.foldl (fun s x => s ++ [g x]) init = init ++ xs.map g := by
  induction xs generalizing init with
  | nil => simp
  | cons x r ih => simp [ih]

theorem foldl_snoc_filter (p : Bytes → Bool) (xs : List Bytes) (init : List Bytes) :
    xs.foldl (fun s x => if p x then s ++ [x] else s) init = init ++ xs.filter p := by
  induction xs generalizing init with
  | nil => simp
  | cons x r ih =>
    by_cases hp : p x = true <;> simp [ih, hp]

theorem loopE_map_ok (F : Bytes → Bytes → Bytes) (xs : List Bytes) :
    loopE (fun a b => .ok (F a b)) (fun (_ : List Bytes) x => (x, [])) (fun s _ y => s ++ [y]) xs [] =
      .ok (xs.map fun x => F x []) := by
  rw [loopE_ok, foldl_snoc_map, List.nil_append]

theorem loopE_filter_ok (F : Bytes → Bytes → Bytes) (xs : List Bytes) :
    loopE (fun a b => .ok (F a b)) (fun (_ : List Bytes) x => (x, [])) (fun s x y => if truthy y then s ++ [x] else s)
        xs [] =
      .ok (xs.filter fun x => truthy (F x [])) := by
  rw [loopE_ok, foldl_snoc_filter (fun x => truthy (F x [])), List.nil_append]

theorem fold_sb (F : Bytes → Bytes → Except String Bytes) (j : Bytes) : ∀ (xs : List Bytes) (sb : Sb) (acc : List Bytes),
    sb.str = join j acc → acc ≠ [] →
    (foldWhileE (fun _ => true) (fun sb x => (F x []).map (fun m' => (sb.write j).write m')) xs sb).map Sb.str =
      (loopE F (fun (_ : List Bytes) x => (x, [])) (fun s _ y => s ++ [y]) xs acc).map (join j)
  | [], sb, acc, h, _ => by simp [foldWhileE, loopE, Except.map, h]
  | x :: xs, sb, acc, h, hne => by
    simp only [foldWhileE, loopE, if_true]
    cases F x [] with
    | error m => rfl
    | ok m' =>
      simp only [Except.map]
      exact fold_sb F j xs _ (acc ++ [m'])
        (by rw [Sb.str_write, Sb.str_write, h, join_append_singleton j acc m' hne]) (by simp)

/-- `arrayOperator(arr, delim, joiner, mapper)` = split at `delim`, map (up to the first panic), join with `joiner`. -/
theorem arrayOperator_runE (ctx : Ctx) (arr d j : Bytes) (hd : d ≠ []) (mapper : Bytes → Stage)
    (F : Bytes → Bytes → Except String Bytes) (hm : ∀ x, (mapper x).run ctx = F x []) :
    (arrayOperator arr d j mapper).run ctx =
      (loopE F (fun (_ : List Bytes) x => (x, [])) (fun s _ y => s ++ [y]) (splitOn d arr) []).map (join j) := by
  unfold arrayOperator
  by_cases ha : arr = []
  · subst ha
    have : splitOn d [] = [[]] := rfl
    simp only [if_true, this, loopE, hm]
    cases F [] [] with
    | error m => rfl
    | ok y => simp [Except.map, join]
  · obtain ⟨e1, e2, e3⟩ := first_next arr d hd
    simp only [ha, if_false]
    rw [Comp.run_bind, hm, e1]
    simp only [loopE]
    cases F (Splitter.Next { S := arr, Delim := d }).1 [] with
    | error m => rfl
    | ok m0 =>
      simp only []
      rw [Comp.run_bind, splitLoop_runE ctx _ _ (fun sb x => (F x []).map (fun m' => (sb.write j).write m'))
        (by
          intro st x
          rw [Comp.run_bind, hm]
          cases F x [] <;> rfl) _ _ _ (by rw [e2]; exact hd) (by simp only [loopFuel]; omega), e2]
      have := fold_sb F j (remaining d (view (Splitter.Next { S := arr, Delim := d }).2)) (Sb.write {} m0) [m0]
        (by simp [Sb.write, Sb.str, join]) (by simp)
      simp only [List.nil_append]
      rw [← this]
      cases foldWhileE (fun _ => true) (fun sb x => (F x []).map (fun m' => (sb.write j).write m'))
        (remaining d (view (Splitter.Next { S := arr, Delim := d }).2)) (Sb.write {} m0) <;> rfl

theorem arrayOperator_run (ctx : Ctx) (arr d j : Bytes) (hd : d ≠ []) (mapper : Bytes → Stage)
    (m : Bytes → Bytes) (hm : ∀ x, (mapper x).run ctx = .ok (m x)) :
    (arrayOperator arr d j mapper).run ctx = .ok (join j ((splitOn d arr).map m)) := by
  rw [arrayOperator_runE ctx arr d j hd mapper (fun x _ => .ok (m x)) hm, loopE_map_ok]
  rfl

theorem noop_run (ctx : Ctx) (x : Bytes) : (noopMapper x).run ctx = .ok x := rfl

theorem mapStage_runE (ctx : Ctx) (a0 a1 : Stage) :
    (mapStage a0 a1).run ctx =
      match a0.run ctx with
      | .error m => .error m
      | .ok arr =>
        (loopE (fun v0 v1 => a1.run (subCtx ctx v0 v1)) (fun (_ : List Bytes) x => (x, [])) (fun s _ y => s ++ [y])
          (elems arr) []).map pack := by
  unfold mapStage
  rw [Comp.run_bind]
  cases a0.run ctx with
  | error m => rfl
  | ok arr =>
    simp only []
    rw [arrayOperator_runE ctx arr _ _ (by simp [ArraySeparatorString]) _ (fun v0 v1 => a1.run (subCtx ctx v0 v1))
      (fun x => withSub_run ctx x [] a1)]
    rfl

theorem splitGo_single_length (b : UInt8) (s cur : Bytes) :
    (splitGo [b] s 0 cur).length = s.count b + 1 := by
  induction s generalizing cur with
  | nil => simp [splitGo]
  | cons c r ih =>
    simp only [splitGo, List.length_cons, List.length_nil, Nat.sub_self]
    by_cases h : c = b
    · subst h; simp [List.isPrefixOf, ih]
    · have h' : (b == c) = false := by simpa using fun e => h e.symm
      have h2 : (c == b) = false := by simpa using h
      simp [List.isPrefixOf, h', ih, List.count_cons, h2]

theorem elems_length (s : Bytes) : (elems s).length = s.count NUL + 1 :=
  splitGo_single_length NUL s []

theorem countSep_succ (s : Bytes) : countSep s + 1 = (((elems s).length : Nat) : Int) := by
  rw [elems_length]; simp [countSep, ArraySeparator, NUL]

/-- `{@len a}` on any array: `strings.Count(..)+1` is an `int`, so the count is reduced to int64. -/
theorem lenStage_run (ctx : Ctx) (a0 : Stage) (arr : Bytes) (h0 : a0.run ctx = .ok arr) :
    (lenStage a0).run ctx = .ok (if arr = [] then ascii "0" else itoa (wrap64 ((elems arr).length : Nat))) := by
  unfold lenStage
  rw [Comp.run_bind_ok h0, countSep_succ]
  rfl

theorem splitByte_eq (b : UInt8) (s cur : Bytes) : splitByte b s cur = splitGo [b] s 0 cur := by
  induction s generalizing cur with
  | nil => simp [splitByte, splitGo]
  | cons c r ih =>
    simp only [splitByte, splitGo, List.length_cons, List.length_nil, Nat.sub_self]
    by_cases h : c = b
    · subst h; simp [List.isPrefixOf, ih]
    · have h' : (b == c) = false := by simpa using fun e => h e.symm
      simp [List.isPrefixOf, h', h, ih]

structure FilterInv (st : FilterSt) (ys : List Bytes) : Prop where
  str : st.sb.str = pack ys
  sep : st.needSep = !ys.isEmpty

/-- One kept element. -/
theorem FilterInv.push {st : FilterSt} {ys : List Bytes} (h : FilterInv st ys) (x : Bytes) :
    FilterInv ⟨(if st.needSep then st.sb.write ArraySeparatorString else st.sb).write x, true⟩ (ys ++ [x]) := by
  refine ⟨?_, by simp⟩
  cases ys with
  | nil =>
    have := h.sep; simp at this
    simp [this, h.str, pack, join]
  | cons y r =>
    have := h.sep; simp at this
    have e : pack ((y :: r) ++ [x]) = pack (y :: r) ++ [NUL] ++ x := join_append_singleton _ _ _ (by simp)
    rw [e]
    simp [this, h.str, ArraySeparatorString, ArraySeparator, NUL]

theorem filter_fold (p : Bytes → Bool) (xs ys : List Bytes) (st : FilterSt)
    (h : FilterInv st ys) :
    (xs.foldl (fun st item =>
        if p item then
          ⟨(if st.needSep then st.sb.write ArraySeparatorString else st.sb).write item, true⟩
        else st) st).sb.str = pack (ys ++ xs.filter p) := by
  induction xs generalizing ys st with
  | nil => simp [h.str]
  | cons x xs ih =>
    simp only [List.foldl_cons, List.filter_cons]
    by_cases hp : p x = true
    · simp only [hp, if_true]
      rw [List.append_cons]
      exact ih _ _ (h.push x)
    · simp only [hp]
      exact ih ys st h

theorem fold_filter (F : Bytes → Bytes → Except String Bytes) : ∀ (xs : List Bytes) (st : FilterSt) (ys : List Bytes),
    FilterInv st ys →
    (foldWhileE (fun _ => true) (fun (st : FilterSt) item => (F item []).map (fun c =>
        if truthy c then ⟨(if st.needSep then st.sb.write ArraySeparatorString else st.sb).write item, true⟩ else st))
      xs st).map (fun st => st.sb.str) =
      (loopE F (fun (_ : List Bytes) x => (x, [])) (fun s x y => if truthy y then s ++ [x] else s) xs ys).map pack
  | [], st, ys, h => by simp [foldWhileE, loopE, Except.map, h.str]
  | x :: xs, st, ys, h => by
    simp only [foldWhileE, loopE, if_true]
    cases F x [] with
    | error m => rfl
    | ok c =>
      simp only [Except.map]
      by_cases ht : truthy c = true
      · simp only [ht, if_true]
        exact fold_filter F xs _ (ys ++ [x]) (h.push x)
      · have ht' : truthy c = false := by simpa using ht
        simp only [ht', Bool.false_eq_true, if_false]
        exact fold_filter F xs st ys h

theorem filterStage_runE (ctx : Ctx) (a0 a1 : Stage) :
    (filterStage a0 a1).run ctx =
      match a0.run ctx with
      | .error m => .error m
      | .ok arr =>
        (loopE (fun v0 v1 => a1.run (subCtx ctx v0 v1)) (fun (_ : List Bytes) x => (x, []))
          (fun s x y => if truthy y then s ++ [x] else s) (elems arr) []).map pack := by
  unfold filterStage
  rw [Comp.run_bind]
  cases a0.run ctx with
  | error m => rfl
  | ok arr =>
    simp only []
    rw [Comp.run_bind, splitLoop_runE ctx _ _ (fun (st : FilterSt) item => (a1.run (subCtx ctx item [])).map (fun c =>
        if truthy c then ⟨(if st.needSep then st.sb.write ArraySeparatorString else st.sb).write item, true⟩ else st))
      (by
        intro st x
        rw [Comp.run_bind, withSub_run]
        cases a1.run (subCtx ctx x []) with
        | error m => rfl
        | ok c => by_cases ht : truthy c = true <;> simp [ht, Except.map, Comp.run])
      _ _ _ (by simp [ArraySeparatorString]) (by simp [view_init, vlen, loopFuel])]
    have := fold_filter (fun v0 v1 => a1.run (subCtx ctx v0 v1)) (splitOn ArraySeparatorString arr) ⟨{}, false⟩ []
      ⟨rfl, rfl⟩
    simp only [view_init, remaining]
    have he : splitOn ArraySeparatorString arr = elems arr := rfl
    rw [he] at this ⊢
    rw [← this]
    cases foldWhileE _ _ (elems arr) (⟨{}, false⟩ : FilterSt) <;> rfl

theorem reduce_fold (f : Bytes → Bytes → Bytes) (xs : List Bytes) (memo : Bytes) :
    foldWhile (fun _ => true) f xs memo = xs.foldl f memo := foldWhile_true f xs memo

/-- Where the fold of `@reduce` starts: at the first element when there is no initial value. -/
def reduceStart (init : Bytes) (xs : List Bytes) : Bytes × List Bytes :=
  if init = [] then (xs.headD [], xs.tail) else (init, xs)

theorem foldl_reduceStart (f : Bytes → Bytes → Bytes) (init : Bytes) (xs : List Bytes) :
    (reduceStart init xs).2.foldl f (reduceStart init xs).1 = reduce f init xs := by
  unfold reduce reduceStart
  by_cases hi : init = []
  · simp only [hi, if_true]
    cases xs <;> rfl
  · simp only [hi, if_false]

theorem foldE_reduce (F : Bytes → Bytes → Except String Bytes) : ∀ (xs : List Bytes) (memo : Bytes),
    foldWhileE (fun _ => true) F xs memo = loopE F (fun (memo : Bytes) x => (memo, x)) (fun _ _ y => y) xs memo
  | [], _ => rfl
  | x :: xs, memo => by
    simp only [foldWhileE, loopE, if_true]
    cases F memo x with
    | error m => rfl
    | ok y => exact foldE_reduce F xs y

theorem reduceStage_runE (ctx : Ctx) (init : Bytes) (a0 a1 : Stage) :
    (reduceStage init a0 a1).run ctx =
      match a0.run ctx with
      | .error m => .error m
      | .ok arr =>
        loopE (fun v0 v1 => a1.run (subCtx ctx v0 v1)) (fun (memo : Bytes) x => (memo, x)) (fun _ _ y => y)
          (reduceStart init (elems arr)).2 (reduceStart init (elems arr)).1 := by
  unfold reduceStage
  rw [Comp.run_bind]
  cases a0.run ctx with
  | error m => rfl
  | ok arr =>
    simp only []
    have hb : ∀ memo x, (a1.withSub memo x).run ctx = a1.run (subCtx ctx memo x) := fun memo x => withSub_run ctx memo x a1
    have he : splitOn ArraySeparatorString arr = elems arr := rfl
    by_cases hi : init = []
    · obtain ⟨e1, e2, e3⟩ := first_next arr ArraySeparatorString (by simp [ArraySeparatorString])
      simp only [hi, if_true, reduceStart]
      rw [splitLoop_runE ctx _ _ (fun memo x => a1.run (subCtx ctx memo x)) hb _ _ _
        (by rw [e2]; simp [ArraySeparatorString]) (by simp only [loopFuel]; omega), e2, foldE_reduce]
      rw [he] at e1
      rw [e1]
      rfl
    · simp only [hi, if_false, reduceStart]
      rw [splitLoop_runE ctx _ _ (fun memo x => a1.run (subCtx ctx memo x)) hb _ _ _
        (by simp [ArraySeparatorString]) (by simp [view_init, vlen, loopFuel]), foldE_reduce]
      simp only [view_init, remaining, he]

end Rare.C17

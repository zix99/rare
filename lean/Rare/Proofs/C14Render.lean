import Rare.Proofs.C14TableInv
import Rare.Model.C14Format
/-!
The table-based renderers (data table, sparkline, reduce table) as `TableWriter` call sequences:
no panic, the invariant of `C14TableInv`, and what the rows contain.
-/
namespace Rare.C14
open Rare Rare.C20

/-! ### which cells a table remembers -/

/-- the cells of the last `WriteRow(n, …)` of a call sequence -/
def latestRow : List TableOp → Nat → Option (List Bytes)
  | [], _ => none
  | op :: rest, n =>
    match latestRow rest n with
    | some c => some c
    | none => match op with
      | .row m cols => if m = (n : Int) then some cols else none
      | .footer _ _ => none

/-- the `WriteRow(n, …)` of one call, if it is one -/
def TableOp.rowAt (op : TableOp) (n : Nat) : Option (List Bytes) :=
  match op with
  | .row m cols => if m = (n : Int) then some cols else none
  | .footer _ _ => none

theorem latestRow_cons (op : TableOp) (rest : List TableOp) (n : Nat) :
    latestRow (op :: rest) n = (latestRow rest n).orElse (fun _ => op.rowAt n) := by
  show (match latestRow rest n with | some c => some c | none => _) = _
  cases latestRow rest n with
  | some c => rfl
  | none => cases op <;> rfl

theorem rowsAfter_cons (mr : Int) (rows : List (List Bytes)) (op : TableOp) (rest : List TableOp) :
    rowsAfter mr rows (op :: rest) = rowsAfter mr (rowsAfter mr rows [op]) rest := rfl

theorem rowsAfter_length (mr : Int) : ∀ (ops : List TableOp) (rows : List (List Bytes)),
    (rowsAfter mr rows ops).length = rows.length := by
  intro ops
  induction ops with
  | nil => intro rows; rfl
  | cons op rest ih =>
    intro rows
    rw [rowsAfter_cons, ih]
    cases op with
    | row m cols =>
      show (if m ≥ mr then rows else rows.set m.toNat cols).length = _
      split <;> simp
    | footer _ _ => rfl

/-- after a call sequence, row `n < maxRows` holds the cells of the last `WriteRow(n, …)`, or what it held before -/
theorem rowsAfter_get (mr : Int) (n : Nat) (hn : (n : Int) < mr) : ∀ (ops : List TableOp) (rows : List (List Bytes)),
    n < rows.length → (∀ op ∈ ops, op.NonNeg) →
    (rowsAfter mr rows ops)[n]? = some ((latestRow ops n).getD (rows.getD n [])) := by
  intro ops
  induction ops with
  | nil =>
    intro rows hlt _
    simp [rowsAfter, latestRow, List.getD, List.getElem?_eq_getElem hlt]
  | cons op rest ih =>
    intro rows hlt hops
    have hop := hops op (by simp)
    rw [rowsAfter_cons]
    have hlen : n < (rowsAfter mr rows [op]).length := by rw [rowsAfter_length]; exact hlt
    rw [ih _ hlen (fun o ho => hops o (by simp [ho])), latestRow_cons]
    cases hl : latestRow rest n with
    | some c => simp
    | none =>
      simp only [Option.getD_none, Option.orElse]
      cases op with
      | footer idx line => rfl
      | row m cols =>
        have hm : 0 ≤ m := hop
        show some ((if m ≥ mr then rows else rows.set m.toNat cols).getD n []) = some ((if m = (n : Int) then some cols else none).getD _)
        by_cases hmn : m = (n : Int)
        · have hge : ¬ (m ≥ mr) := by omega
          have : m.toNat = n := by omega
          rw [if_neg hge, this, if_pos hmn]
          simp [List.getD, hlt]
        · rw [if_neg hmn]
          simp only [Option.getD_none]
          split
          · rfl
          · simp only [List.getD, List.getElem?_set]
            rw [if_neg (by omega)]

theorem latestRow_append (a b : List TableOp) (n : Nat) :
    latestRow (a ++ b) n = (latestRow b n).orElse (fun _ => latestRow a n) := by
  induction a with
  | nil => cases h : latestRow b n <;> simp [latestRow, h]
  | cons op a ih =>
    rw [List.cons_append, latestRow_cons, latestRow_cons, ih]
    cases hb : latestRow b n with
    | some c => simp
    | none => simp

theorem latestRow_seq_none {α : Type} (f : α → List Bytes) (n : Nat) : ∀ (l : List α) (b : Nat), n ≤ b →
    latestRow ((l.zipIdx b).map fun (p : α × Nat) => TableOp.row ((p.2 : Int) + 1) (f p.1)) n = none := by
  intro l
  induction l with
  | nil => intro b _; rfl
  | cons y l ih =>
    intro b hb
    rw [List.zipIdx_cons, List.map_cons, latestRow_cons, ih (b + 1) (by omega)]
    simp only [Option.orElse, TableOp.rowAt]
    rw [if_neg (by omega)]

/-- rows written at consecutive indices `base+1, base+2, …` -/
theorem latestRow_seq {α : Type} (f : α → List Bytes) : ∀ (l : List α) (base : Nat) (i : Nat) (x : α), l[i]? = some x →
    latestRow ((l.zipIdx base).map fun (p : α × Nat) => TableOp.row ((p.2 : Int) + 1) (f p.1)) (base + i + 1) = some (f x) := by
  intro l
  induction l with
  | nil => intro base i x h; simp at h
  | cons a l ih =>
    intro base i x h
    rw [List.zipIdx_cons, List.map_cons, latestRow_cons]
    cases i with
    | zero =>
      simp at h; subst h
      rw [latestRow_seq_none f (base + 0 + 1) l (base + 1) (by omega)]
      simp [TableOp.rowAt]
    | succ i =>
      have := ih (base + 1) i x (by simpa using h)
      rw [show base + (i + 1) + 1 = base + 1 + i + 1 by omega, this]
      rfl

/-! ### data table (`rare tabulate`) -/

theorem minColSlice_ok {α : Type} (count : Int) (h : 0 ≤ count) (cols : List α) :
    minColSlice count cols = .ok (cols.take count.toNat) := by
  unfold minColSlice
  split
  · rename_i hlt
    rw [List.take_of_length_le (by omega)]; rfl
  · rename_i hge
    unfold sliceTo
    rw [if_neg (by omega)]

theorem rowOps_nonneg {α : Type} (f : α → List Bytes) (l : List α) (b : Nat) :
    ∀ op ∈ (l.zipIdx b).map (fun (p : α × Nat) => TableOp.row ((p.2 : Int) + 1) (f p.1)), op.NonNeg := by
  intro op hop
  obtain ⟨p, _, rfl⟩ := List.mem_map.mp hop
  show (0 : Int) ≤ (p.2 : Int) + 1
  omega

theorem latestRow_single (m : Int) (cols : List Bytes) (n : Nat) :
    latestRow [TableOp.row m cols] n = if m = (n : Int) then some cols else none := rfl

/-- `DataTable.WriteTable` on any aggregated state: no panic, the table invariant (so the columns line
up), and the rows hold exactly the header, one row of formatted values per displayed row, and the totals -/
theorem datatable_render (env : Env) (d : DataTable) (vt : VirtualTerm) (hinv : TableInv env d.table vt)
    (hnc : 0 ≤ d.numCols) (hnr : 0 ≤ d.numRows) (hmr : d.table.maxRows = d.numRows + 2)
    (rkeys ckeys : List Bytes) (c : Cells) :
    ∃ d' vt', d.writeTable env vt rkeys ckeys c = .ok (d', vt') ∧ TableInv env d'.table vt' ∧
      d'.table.rows[0]? = some (d.headerCells env ckeys (c.cols.take d.numCols.toNat)) ∧
      (∀ (i : Nat) (r : Nat), (d.shownRows c)[i]? = some r →
        d'.table.rows[i + 1]? = some (d.rowCells env rkeys c (c.cols.take d.numCols.toNat) r)) ∧
      (d.showColTotals = true →
        d'.table.rows[(d.shownRows c).length + 1]? = some (d.totalCells env c (c.cols.take d.numCols.toNat))) := by
  have hlen : (d.shownRows c).length ≤ d.numRows.toNat := by
    unfold DataTable.shownRows; rw [List.length_take]; exact Nat.min_le_left _ _
  have hrl : d.table.rows.length = (d.numRows + 2).toNat := by rw [← hmr]; exact hinv.rows_len
  generalize hcols : c.cols.take d.numCols.toNat = cols
  generalize htot : (if d.showColTotals then [TableOp.row (((d.shownRows c).length : Int) + 1) (d.totalCells env c cols)] else []) = tot
  have hscript : d.script env rkeys ckeys c = .ok ([TableOp.row 0 (d.headerCells env ckeys cols)] ++
      ((d.shownRows c).zipIdx.map fun (ri : Nat × Nat) => TableOp.row ((ri.2 : Int) + 1) (d.rowCells env rkeys c cols ri.1)) ++ tot) := by
    unfold DataTable.script DataTable.shownCols
    rw [minColSlice_ok d.numCols hnc, hcols, ← htot]
    rfl
  -- the totals row, if any, comes after the data rows
  have htot0 : ∀ n : Nat, n ≤ (d.shownRows c).length → latestRow tot n = none := by
    intro n hn
    rw [← htot]
    split
    · rw [latestRow_single, if_neg (by omega)]
    · rfl
  generalize hops : [TableOp.row 0 (d.headerCells env ckeys cols)] ++
      ((d.shownRows c).zipIdx.map fun (ri : Nat × Nat) => TableOp.row ((ri.2 : Int) + 1) (d.rowCells env rkeys c cols ri.1)) ++ tot = ops at hscript
  have hnn : ∀ op ∈ ops, op.NonNeg := by
    rw [← hops]
    intro op hop
    simp only [List.mem_append, List.mem_singleton] at hop
    rcases hop with (rfl | hop) | hop
    · exact Int.le_refl 0
    · exact rowOps_nonneg _ _ _ op hop
    · rw [← htot] at hop
      split at hop
      · rw [List.mem_singleton] at hop; subst hop
        show (0 : Int) ≤ _; omega
      · cases hop
  obtain ⟨t', vt', hrun, hinv', _, _, _, _, hrows⟩ := runOps_inv env ops d.table vt hinv hnn
  have hget : ∀ n : Nat, n ≤ (d.shownRows c).length + 1 →
      t'.rows[n]? = some ((latestRow ops n).getD (d.table.rows.getD n [])) := by
    intro n hn
    rw [hrows]
    exact rowsAfter_get d.table.maxRows n (by omega) ops d.table.rows (by omega) hnn
  refine ⟨{ d with table := t' }, vt', ?_, hinv', ?_, ?_, ?_⟩
  · unfold DataTable.writeTable
    rw [hscript]
    show (do let r ← TableWriter.runOps env (d.table, vt) ops; (pure ({ d with table := r.1 }, r.2) : Res (DataTable × VirtualTerm))) = _
    rw [hrun]; rfl
  · show t'.rows[0]? = _
    rw [hget 0 (by omega), ← hops, latestRow_append, htot0 0 (by omega), latestRow_append,
      latestRow_seq_none _ 0 _ 0 (Nat.le_refl _)]
    rfl
  · intro i r hi
    have hil : i < (d.shownRows c).length := (List.getElem?_eq_some_iff.mp hi).1
    have h2 := latestRow_seq (d.rowCells env rkeys c cols) (d.shownRows c) 0 i r hi
    rw [Nat.zero_add] at h2
    show t'.rows[i + 1]? = _
    rw [hget (i + 1) (by omega), ← hops, latestRow_append, htot0 (i + 1) (by omega), latestRow_append, h2]
    rfl
  · intro ht
    show t'.rows[(d.shownRows c).length + 1]? = _
    rw [hget _ (Nat.le_refl _), ← hops, latestRow_append, ← htot, if_pos ht, latestRow_single, if_pos (Int.natCast_succ _).symm]
    rfl

/-- the numbers in a data row are the aggregated values under the chosen formatter and the CURRENT range -/
theorem datatable_cells (env : Env) (d : DataTable) (rkeys : List Bytes) (c : Cells) (cols : List Nat) (r : Nat) :
    (d.rowCells env rkeys c cols r).length = cols.length + 2 ∧
    (d.rowCells env rkeys c cols r)[0]? = some (wrap env cYellow (keyAt rkeys r)) ∧
    (∀ (j k : Nat), cols[j]? = some k →
      (d.rowCells env rkeys c cols r)[j + 1]? = some (d.fmt.apply (c.value r k) (d.range c).1 (d.range c).2)) ∧
    (d.showRowTotals = true → (d.rowCells env rkeys c cols r)[cols.length + 1]? =
      some (wrap env cBrightBlack (d.fmt.apply (c.rowSum r) (d.range c).1 (d.range c).2))) := by
  unfold DataTable.rowCells
  refine ⟨by simp, by simp, ?_, ?_⟩
  · intro j k hj
    have hjl : j < cols.length := (List.getElem?_eq_some_iff.mp hj).1
    have hk : cols[j] = k := by
      rw [List.getElem?_eq_getElem hjl] at hj; exact Option.some.inj hj
    simp [List.getElem?_append, hjl, hk]
  · intro ht
    simp [ht]

/-! ### reduce table (`rare reduce`, table output) -/

theorem reduce_rowCells_length (env : Env) (r : Reduce) (key : Bytes) (data : List Bytes) :
    (r.rowCells env key data).length = r.gnames.length + r.dnames.length := by
  unfold Reduce.rowCells
  simp only [List.length_append, List.length_map, List.length_replicate, List.length_take]
  omega

theorem getElem?_append_replicate {α : Type} (l : List α) (k : Nat) (d : α) (j : Nat) :
    (l ++ List.replicate k d)[j]? = if j < l.length + k then some (l[j]?.getD d) else none := by
  by_cases h : j < l.length
  · rw [List.getElem?_append_left h, if_pos (by omega), List.getElem?_eq_getElem h]; rfl
  · rw [List.getElem?_append_right (by omega), List.getElem?_replicate, List.getElem?_eq_none (by omega)]
    by_cases h2 : j - l.length < k
    · rw [if_pos h2, if_pos (by omega)]; rfl
    · rw [if_neg h2, if_neg (by omega)]

/-- cell `j` of `rowCells` -/
theorem rowCells_getElem? (env : Env) (r : Reduce) (key : Bytes) (data : List Bytes) (j : Nat) :
    (r.rowCells env key data)[j]? =
      if j < r.gnames.length then
        some (match ((groupParts key).take r.gnames.length)[j]? with | some p => wrap env cBrightWhite p | none => [])
      else if j < r.gnames.length + r.dnames.length then
        some (match data[j - r.gnames.length]? with | some x => x | none => [])
      else none := by
  unfold Reduce.rowCells
  simp only
  generalize hparts : (groupParts key).take r.gnames.length = parts
  have hpl : parts.length ≤ r.gnames.length := by rw [← hparts, List.length_take]; omega
  have e1 : (parts.map (wrap env cBrightWhite)).length + (r.gnames.length - parts.length) = r.gnames.length := by
    rw [List.length_map]; omega
  have e2 : (data.take r.dnames.length).length + (r.dnames.length - data.length) = r.dnames.length := by
    rw [List.length_take]; omega
  rw [List.getElem?_append]
  simp only [List.length_append, List.length_replicate, getElem?_append_replicate, e1, e2, List.getElem?_map, List.getElem?_take]
  by_cases hj : j < r.gnames.length
  · rw [if_pos hj, if_pos hj, if_pos hj]
    cases parts[j]? <;> rfl
  · rw [if_neg hj, if_neg hj]
    by_cases hd : j < r.gnames.length + r.dnames.length
    · rw [if_pos hd, if_pos (by omega), if_pos (by omega)]
      cases data[j - r.gnames.length]? <;> rfl
    · rw [if_neg hd, if_neg (by omega)]

/-- the first `GroupColCount` cells of a row are the first parts of the group key (the rest of an
over-long key is dropped, 73473fc), the others are the data columns -/
theorem reduce_rowCells_parts (env : Env) (r : Reduce) (key : Bytes) (data : List Bytes) (j : Nat) (part : Bytes)
    (hj : j < r.gnames.length) (hp : (groupParts key)[j]? = some part) :
    (r.rowCells env key data)[j]? = some (wrap env cBrightWhite part) := by
  rw [rowCells_getElem?, if_pos hj, List.getElem?_take, if_pos hj, hp]

theorem reduce_rowCells_data (env : Env) (r : Reduce) (key : Bytes) (data : List Bytes) (j : Nat) (x : Bytes)
    (hj : j < r.dnames.length) (hx : data[j]? = some x) :
    (r.rowCells env key data)[r.gnames.length + j]? = some x := by
  rw [rowCells_getElem?, if_neg (by omega), if_pos (by omega), Nat.add_sub_cancel_left, hx]

/-- one render callback of `rare reduce` (table path), for ANY group keys and data texts: no panic (also for a
key with more parts than group columns), the table invariant, and row `i + 1` holds the cells of group `i` -/
theorem reduce_render (env : Env) (r : Reduce) (vt : VirtualTerm) (hinv : TableInv env r.table vt)
    (groups : List (Bytes × List Bytes)) (f0 f1 : Bytes) :
    ∃ r' vt', r.render env vt groups f0 f1 = .ok (r', vt') ∧ TableInv env r'.table vt' ∧
      r'.gnames = r.gnames ∧ r'.dnames = r.dnames ∧ r'.table.maxRows = r.table.maxRows ∧
      (∀ (i : Nat) (g : Bytes × List Bytes), groups[i]? = some g → ((i : Int) + 1 < r.table.maxRows) →
        r'.table.rows[i + 1]? = some (r.rowCells env g.1 g.2)) := by
  have hnn : ∀ op ∈ r.script env groups f0 f1, op.NonNeg := by
    intro op hop
    unfold Reduce.script at hop
    simp only [List.mem_append, List.mem_cons, List.not_mem_nil, or_false] at hop
    rcases hop with hop | rfl | rfl
    · exact rowOps_nonneg (fun (g : Bytes × List Bytes) => r.rowCells env g.1 g.2) groups 0 op hop
    · exact Int.le_refl 0
    · show (0 : Int) ≤ 1; omega
  obtain ⟨t', vt', hrun, hinv', _, hmr', _, _, hrows⟩ := runOps_inv env _ r.table vt hinv hnn
  refine ⟨{ r with table := t' }, vt', ?_, hinv', rfl, rfl, hmr', ?_⟩
  · unfold Reduce.render
    show (do let x ← TableWriter.runOps env (r.table, vt) (r.script env groups f0 f1); (pure ({ r with table := x.1 }, x.2) : Res (Reduce × VirtualTerm))) = _
    rw [hrun]; rfl
  · intro i g hg hlt
    show t'.rows[i + 1]? = _
    have hrl := hinv.rows_len
    rw [hrows, rowsAfter_get r.table.maxRows (i + 1) (by omega) _ r.table.rows (by omega) hnn]
    congr 1
    unfold Reduce.script
    rw [latestRow_append]
    have h1 : latestRow [TableOp.footer 0 f0, TableOp.footer 1 f1] (i + 1) = none := by
      simp [latestRow]
    rw [h1]
    have h2 := latestRow_seq (fun (g : Bytes × List Bytes) => r.rowCells env g.1 g.2) groups 0 i g hg
    rw [show 0 + i + 1 = i + 1 by omega] at h2
    simp only [Option.orElse]
    rw [h2]; rfl

end Rare.C14

import Rare.Spec.C02Rx
/-! The regex fragment (`Model/C02Rx`, `Spec/C02Rx`): the backtracking matcher `mk` returns the first element of the
priority list `den` that the rest of the match accepts (`mk_eq`); every element of the list is a derivation whose logged
captures are sub-derivations (`den_sound`), every derivation is in the list (`den_complete`); a search loop over start
offsets returns the first offset that answers (`scan_spec`). -/
namespace Rare.C02.Rx

theorem findSome?_filter_flatMap {α β γ : Type} (l : List α) (p : α → Bool) (f : α → List β) (g : β → Option γ) :
    ((l.filter p).flatMap f).findSome? g = l.findSome? (fun x => if p x then (f x).findSome? g else none) := by
  induction l with
  | nil => rfl
  | cons x r ih =>
    by_cases hp : p x = true
    · simp only [List.filter_cons, hp, if_true, List.flatMap_cons, List.findSome?_append, List.findSome?_cons, ih]
      cases (f x).findSome? g <;> rfl
    · simp only [List.filter_cons, hp, Bool.false_eq_true, if_false, List.findSome?_cons, ih]

theorem findSome?_flatMap' {α β γ : Type} (l : List α) (f : α → List β) (g : β → Option γ) :
    (l.flatMap f).findSome? g = l.findSome? (fun x => (f x).findSome? g) := by
  induction l with
  | nil => rfl
  | cons x r ih =>
    simp only [List.flatMap_cons, List.findSome?_append, List.findSome?_cons, ih]
    cases (f x).findSome? g <;> rfl

theorem orElse_eq_match {γ : Type} (a b : Option γ) :
    (match a with | some x => some x | none => b) = a.or b := by
  cases a <;> rfl

theorem iterK_eq {β : Type} (stepK : Nat → Caps → (Nat → Caps → Option β) → Option β)
    (step : Nat → Caps → List Res)
    (h : ∀ i c k, stepK i c k = (step i c).findSome? fun r => k r.1 r.2) (g : Bool) :
    ∀ f i c k, iterK stepK g f i c k = (iter step g f i c).findSome? fun r => k r.1 r.2 := by
  intro f
  induction f with
  | zero => intro i c k; simp [iterK, iter]
  | succ f ih =>
    intro i c k
    have hmore : stepK i c (fun j c' => if i < j then iterK stepK g f j c' k else none) =
        (((step i c).filter fun r => decide (i < r.1)).flatMap fun r => iter step g f r.1 r.2).findSome?
          fun r => k r.1 r.2 := by
      rw [h, findSome?_filter_flatMap]
      congr 1
      funext r
      by_cases hr : i < r.1 <;> simp [hr, ih]
    cases g with
    | true =>
      simp only [iterK, iter, if_true, List.findSome?_append, hmore]
      cases (List.findSome? _ _) <;> simp
    | false =>
      simp only [iterK, iter, Bool.false_eq_true, if_false, List.findSome?_cons, hmore]
      cases k i c <;> simp

theorem mk_eq {β : Type} (s : Bytes) (r : Re) :
    ∀ i c (k : Nat → Caps → Option β), mk s r i c k = (den s r i c).findSome? fun x => k x.1 x.2 := by
  induction r with
  | eps => intro i c k; simp [mk, den]
  | cls neg rs =>
    intro i c k
    simp only [mk, den]
    cases s[i]? with
    | none => rfl
    | some b => by_cases hb : inCls neg rs b = true <;> simp [hb]
  | look l => intro i c k; by_cases h : holds s l i = true <;> simp [mk, den, h]
  | cat a b iha ihb =>
    intro i c k
    simp only [mk, den, findSome?_flatMap', iha, ihb]
  | alt a b iha ihb =>
    intro i c k
    simp only [mk, den, List.findSome?_append, iha, ihb]
    exact orElse_eq_match _ _
  | star g a iha =>
    intro i c k
    simp only [mk, den]
    exact iterK_eq (mk s a) (den s a) iha g _ i c k
  | grp n a iha =>
    intro i c k
    simp only [mk, den, iha, List.findSome?_map]
    rfl

theorem findSome?_some_eq_head? {α : Type} (l : List α) : l.findSome? (fun x => some x) = l.head? := by
  cases l <;> simp

theorem matchAt_eq (s : Bytes) (r : Re) (p : Nat) : matchAt s r p = (den s r p []).head? := by
  unfold matchAt
  rw [mk_eq]
  exact findSome?_some_eq_head? _


theorem Derives.le {s : Bytes} {r : Re} {i j : Nat} (h : Derives s r i j) : i ≤ j := by
  induction h with
  | eps => exact Nat.le_refl _
  | cls => exact Nat.le_succ _
  | look => exact Nat.le_refl _
  | cat _ _ h1 h2 => exact Nat.le_trans h1 h2
  | altL _ h => exact h
  | altR _ h => exact h
  | starNil => exact Nat.le_refl _
  | starCons hlt _ _ _ h2 => exact Nat.le_trans (Nat.le_of_lt hlt) h2
  | grp _ h => exact h

theorem Derives.le_length {s : Bytes} {r : Re} {i j : Nat} (h : Derives s r i j) (hi : i ≤ s.length) :
    j ≤ s.length := by
  induction h with
  | eps => exact hi
  | cls hb _ =>
    rename_i i b
    have := (List.getElem?_eq_some_iff.mp hb).1
    omega
  | look => exact hi
  | cat _ _ h1 h2 => exact h2 (h1 hi)
  | altL _ h => exact h hi
  | altR _ h => exact h hi
  | starNil => exact hi
  | starCons _ _ _ h1 h2 => exact h2 (h1 hi)
  | grp _ h => exact h hi

/-- what a capture-log entry must satisfy: produced inside `[i, j]` by a group of `r` whose body derives it -/
def EntryOK (s : Bytes) (r : Re) (i j : Nat) (e : Nat × Nat × Nat) : Prop :=
  i ≤ e.2.1 ∧ e.2.1 ≤ e.2.2 ∧ e.2.2 ≤ j ∧ ∃ body, Sub r e.1 body ∧ Derives s body e.2.1 e.2.2

/-- one element of `den s r i c` -/
def Good (s : Bytes) (r : Re) (i : Nat) (c : Caps) (res : Res) : Prop :=
  Derives s r i res.1 ∧ res.1 ≤ s.length ∧ ∃ new, res.2 = new ++ c ∧ ∀ e ∈ new, EntryOK s r i res.1 e

theorem EntryOK.mono {s : Bytes} {r r' : Re} {i j i' j' : Nat} {e : Nat × Nat × Nat}
    (h : EntryOK s r i j e) (hi : i' ≤ i) (hj : j ≤ j') (hsub : ∀ m x, Sub r m x → Sub r' m x) :
    EntryOK s r' i' j' e := by
  obtain ⟨h1, h2, h3, body, hs, hd⟩ := h
  exact ⟨Nat.le_trans hi h1, h2, Nat.le_trans h3 hj, body, hsub _ _ hs, hd⟩

/-- a match that logs nothing -/
theorem Good.here {s : Bytes} {r : Re} {i j : Nat} (c : Caps) (hd : Derives s r i j) (hj : j ≤ s.length) :
    Good s r i c (j, c) :=
  ⟨hd, hj, [], rfl, fun _ h => nomatch h⟩

/-- a match of a sub-expression that is a match of the whole -/
theorem Good.lift {s : Bytes} {a r : Re} {i : Nat} {c : Caps} {res : Res} (h : Good s a i c res)
    (hd : Derives s a i res.1 → Derives s r i res.1) (hs : ∀ m x, Sub a m x → Sub r m x) : Good s r i c res := by
  obtain ⟨hda, hl, new, e, hn⟩ := h
  exact ⟨hd hda, hl, new, e, fun x hx => (hn x hx).mono (Nat.le_refl _) (Nat.le_refl _) hs⟩

/-- a match of `a` followed by a match of `b` from where it ended, both parts of `r` -/
theorem Good.seq {s : Bytes} {a b r : Re} {i : Nat} {c : Caps} {x res : Res}
    (h1 : Good s a i c x) (h2 : Good s b x.1 x.2 res)
    (hd : Derives s a i x.1 → Derives s b x.1 res.1 → Derives s r i res.1)
    (ha : ∀ m y, Sub a m y → Sub r m y) (hb : ∀ m y, Sub b m y → Sub r m y) : Good s r i c res := by
  obtain ⟨hd1, hl1, new1, e1, hn1⟩ := h1
  obtain ⟨hd2, hl2, new2, e2, hn2⟩ := h2
  refine ⟨hd hd1 hd2, hl2, new2 ++ new1, by rw [e2, e1, List.append_assoc], fun e he => ?_⟩
  rcases List.mem_append.mp he with he | he
  · exact (hn2 e he).mono hd1.le (Nat.le_refl _) hb
  · exact (hn1 e he).mono (Nat.le_refl _) hd2.le ha

/-- one more round of a loop: stop here, or one advancing iteration and the loop again (the order depends on
greediness, membership does not) -/
theorem mem_iter_succ (step : Nat → Caps → List Res) (g : Bool) (f i : Nat) (c : Caps) (x : Res) :
    x ∈ iter step g (f + 1) i c ↔
      x = (i, c) ∨ x ∈ ((step i c).filter fun r => decide (i < r.1)).flatMap fun r => iter step g f r.1 r.2 := by
  cases g
  · simp only [iter, Bool.false_eq_true, if_false, List.mem_cons]
  · simp only [iter, if_true, List.mem_append, List.mem_singleton, or_comm]

theorem iter_sound (s : Bytes) (a : Re) (g : Bool) (step : Nat → Caps → List Res)
    (hstep : ∀ i c res, i ≤ s.length → res ∈ step i c → Good s a i c res) :
    ∀ f i c res, i ≤ s.length → res ∈ iter step g f i c → Good s (.star g a) i c res := by
  intro f
  induction f with
  | zero =>
    intro i c res hi hm
    obtain rfl := List.mem_singleton.mp hm
    exact .here c (.starNil g a i) hi
  | succ f ih =>
    intro i c res hi hm
    rcases (mem_iter_succ step g f i c res).mp hm with rfl | hm
    · exact .here c (.starNil g a i) hi
    · obtain ⟨x, hx, hres⟩ := List.mem_flatMap.mp hm
      obtain ⟨hx1, hx2⟩ := List.mem_filter.mp hx
      have h1 := hstep i c x hi hx1
      exact h1.seq (ih x.1 x.2 res h1.2.1 hres) (.starCons (of_decide_eq_true hx2)) (fun _ _ => .star) (fun _ _ h => h)

theorem den_sound (s : Bytes) (r : Re) :
    ∀ i c res, i ≤ s.length → res ∈ den s r i c → Good s r i c res := by
  induction r with
  | eps =>
    intro i c res hi hm
    obtain rfl := List.mem_singleton.mp hm
    exact .here c (.eps i) hi
  | cls neg rs =>
    intro i c res hi hm
    simp only [den] at hm
    cases hb : s[i]? with
    | none => simp [hb] at hm
    | some b =>
      rw [hb] at hm
      by_cases hc : inCls neg rs b = true
      · simp only [hc, if_true, List.mem_singleton] at hm
        subst hm
        exact .here c (.cls hb hc) (List.getElem?_eq_some_iff.mp hb).1
      · simp [hc] at hm
  | look l =>
    intro i c res hi hm
    by_cases h : holds s l i = true
    · simp only [den, h, if_true, List.mem_singleton] at hm
      subst hm
      exact .here c (.look h) hi
    · simp [den, h] at hm
  | cat a b iha ihb =>
    intro i c res hi hm
    obtain ⟨x, hx, hres⟩ := List.mem_flatMap.mp hm
    have h1 := iha i c x hi hx
    exact h1.seq (ihb x.1 x.2 res h1.2.1 hres) .cat (fun _ _ => .catL) (fun _ _ => .catR)
  | alt a b iha ihb =>
    intro i c res hi hm
    rcases List.mem_append.mp hm with hm | hm
    · exact (iha i c res hi hm).lift .altL (fun _ _ => .altL)
    · exact (ihb i c res hi hm).lift .altR (fun _ _ => .altR)
  | star g a iha =>
    intro i c res hi hm
    exact iter_sound s a g (den s a) iha _ i c res hi hm
  | grp n a iha =>
    intro i c res hi hm
    obtain ⟨x, hx, rfl⟩ := List.mem_map.mp hm
    -- the entry the group logs is derived by its own body
    obtain ⟨hd, hl, new, e, hn⟩ := (iha i c x hi hx).lift .grp (fun _ _ => .grp)
    refine ⟨hd, hl, (n, i, x.1) :: new, by rw [e]; rfl, fun y hy => ?_⟩
    rcases List.mem_cons.mp hy with rfl | hy
    · cases hd with
      | grp hda => exact ⟨Nat.le_refl _, hda.le, Nat.le_refl _, a, .here n a, hda⟩
    · exact hn y hy

theorem iter_complete (s : Bytes) (a : Re) (g : Bool) (step : Nat → Caps → List Res)
    (hstep : ∀ i j c, Derives s a i j → j ≤ s.length → ∃ c', (j, c') ∈ step i c) :
    ∀ f i k c, s.length ≤ f + i → Derives s (.star g a) i k → k ≤ s.length →
      ∃ c', (k, c') ∈ iter step g f i c := by
  intro f
  induction f with
  | zero =>
    intro i k c hf hd hk
    cases hd with
    | starNil => exact ⟨c, by simp [iter]⟩
    | starCons hlt h1 h2 => have := h2.le; omega
  | succ f ih =>
    intro i k c hf hd hk
    cases hd with
    | starNil => exact ⟨c, (mem_iter_succ step g f i c _).mpr (Or.inl rfl)⟩
    | starCons hlt h1 h2 =>
      rename_i j
      obtain ⟨c1, hc1⟩ := hstep i j c h1 (Nat.le_trans h2.le hk)
      obtain ⟨c2, hc2⟩ := ih j k c1 (by omega) h2 hk
      exact ⟨c2, (mem_iter_succ step g f i c _).mpr (Or.inr
        (List.mem_flatMap.mpr ⟨(j, c1), List.mem_filter.mpr ⟨hc1, decide_eq_true hlt⟩, hc2⟩))⟩

theorem den_complete (s : Bytes) (r : Re) :
    ∀ i j c, Derives s r i j → j ≤ s.length → ∃ c', (j, c') ∈ den s r i c := by
  induction r with
  | eps => intro i j c hd _; cases hd; exact ⟨c, by simp [den]⟩
  | cls neg rs =>
    intro i j c hd _
    cases hd with
    | cls hb hc => exact ⟨c, by simp [den, hb, hc]⟩
  | look l =>
    intro i j c hd _
    cases hd with
    | look h => exact ⟨c, by simp [den, h]⟩
  | cat a b iha ihb =>
    intro i k c hd hk
    cases hd with
    | cat h1 h2 =>
      rename_i j
      obtain ⟨c1, hc1⟩ := iha i j c h1 (Nat.le_trans h2.le hk)
      obtain ⟨c2, hc2⟩ := ihb j k c1 h2 hk
      exact ⟨c2, by simp only [den]; exact List.mem_flatMap.mpr ⟨(j, c1), hc1, hc2⟩⟩
  | alt a b iha ihb =>
    intro i j c hd hj
    cases hd with
    | altL h => obtain ⟨c1, h1⟩ := iha i j c h hj; exact ⟨c1, by simp only [den]; exact List.mem_append.mpr (Or.inl h1)⟩
    | altR h => obtain ⟨c1, h1⟩ := ihb i j c h hj; exact ⟨c1, by simp only [den]; exact List.mem_append.mpr (Or.inr h1)⟩
  | star g a iha =>
    intro i k c hd hk
    simp only [den]
    exact iter_complete s a g (den s a) iha s.length i k c (Nat.le_add_right _ _) hd hk
  | grp n a iha =>
    intro i j c hd hj
    cases hd with
    | grp h =>
      obtain ⟨c1, h1⟩ := iha i j c h hj
      exact ⟨(n, i, j) :: c1, by simp only [den]; exact List.mem_map.mpr ⟨(j, c1), h1, rfl⟩⟩

/-- no match anchored at `p` ⇔ nothing is derivable from `p` -/
theorem matchAt_none_iff (s : Bytes) (r : Re) (p : Nat) (hp : p ≤ s.length) :
    matchAt s r p = none ↔ ∀ j, ¬ Derives s r p j := by
  rw [matchAt_eq]
  constructor
  · intro h j hd
    obtain ⟨c', hc⟩ := den_complete s r p j [] hd (hd.le_length hp)
    have : den s r p [] = [] := by simpa using h
    rw [this] at hc
    cases hc
  · intro h
    cases hden : den s r p [] with
    | nil => rfl
    | cons x xs =>
      have := den_sound s r p [] x hp (by rw [hden]; exact List.mem_cons_self)
      exact absurd this.1 (h x.1)

/-- what is found at the leftmost start offset where anything matches -/
theorem leftmost_of_mem (s : Bytes) (r : Re) (p j : Nat) (c : Caps) (hp : p ≤ s.length)
    (hmem : (j, c) ∈ den s r p []) (hnone : ∀ q, q < p → matchAt s r q = none) :
    p ≤ j ∧ j ≤ s.length ∧ Derives s r p j ∧ (∀ q, q < p → ∀ j', ¬ Derives s r q j') ∧
    (∀ e ∈ c, EntryOK s r p j e) := by
  obtain ⟨hd, hl, new, e, hn⟩ := den_sound s r p [] (j, c) hp hmem
  rw [List.append_nil] at e
  subst e
  exact ⟨hd.le, hl, hd, fun q hq => (matchAt_none_iff s r q (by omega)).mp (hnone q hq), hn⟩

/-- A search over the start offsets `p, p+1, …` (`sf`, fuel many) that tries `m` at each of them returns the
first offset at which `m` answers, with that answer.  (`searchFrom` with `matchAt`, `searchFromL` with `matchAtL`.) -/
theorem scan_spec {m : Nat → Option Res} {sf : Nat → Nat → Option (Nat × Res)}
    (h0 : ∀ p, sf 0 p = none)
    (hs : ∀ f p, sf (f + 1) p = match m p with | some res => some (p, res) | none => sf f (p + 1)) :
    ∀ f p, (∀ q res, sf f p = some (q, res) →
        p ≤ q ∧ q < p + f ∧ m q = some res ∧ ∀ q', p ≤ q' → q' < q → m q' = none) ∧
      (sf f p = none → ∀ q, p ≤ q → q < p + f → m q = none) := by
  intro f
  induction f with
  | zero => intro p; rw [h0]; exact ⟨fun _ _ h => (nomatch h), fun _ q h1 h2 => by omega⟩
  | succ f ih =>
    intro p
    rw [hs]
    cases hm : m p with
    | some x =>
      refine ⟨fun q res h => ?_, fun h => (nomatch h)⟩
      obtain ⟨rfl, rfl⟩ := Prod.mk.inj (Option.some.inj h)
      exact ⟨Nat.le_refl _, by omega, hm, fun q' h1 h2 => by omega⟩
    | none =>
      refine ⟨fun q res h => ?_, fun h q h1 h2 => ?_⟩
      · obtain ⟨h1, h2, h3, h4⟩ := (ih (p + 1)).1 q res h
        refine ⟨by omega, by omega, h3, fun q' hq1 hq2 => ?_⟩
        by_cases he : q' = p
        · exact he ▸ hm
        · exact h4 q' (by omega) hq2
      · by_cases he : q = p
        · exact he ▸ hm
        · exact (ih (p + 1)).2 h q (by omega) (by omega)

end Rare.C02.Rx

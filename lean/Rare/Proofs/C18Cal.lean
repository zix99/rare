import Rare.Spec.C18
/-!
C18: facts about the reference calendar (`Rare/Spec/C18.lean`).  Everything is linear integer
arithmetic once the 400-year cycle is decomposed by hand into century `c`, 4-year block `q` and
year in block `k` (omega cannot find that decomposition itself).
-/
namespace Rare.C18

/-- Year of era from day of era (Hinnant). -/
def yoeOf (doe : Int) : Int := (doe - doe / 1460 + doe / 36524 - doe / 146096) / 365
/-- First day of era of a year of era. -/
def startOf (yoe : Int) : Int := 365 * yoe + yoe / 4 - yoe / 100

theorem yoe_char (doe : Int) (h0 : 0 ≤ doe) (h1 : doe < 146096) :
    ∃ c q k : Int, 0 ≤ c ∧ c ≤ 3 ∧ 0 ≤ q ∧ q ≤ 24 ∧ 0 ≤ k ∧ k ≤ 3 ∧
      yoeOf doe = 100 * c + 4 * q + k ∧
      0 ≤ doe - (36524 * c + 1461 * q + 365 * k) ∧
      (doe - (36524 * c + 1461 * q + 365 * k) ≤ 364 ∨
        (k = 3 ∧ doe - (36524 * c + 1461 * q + 365 * k) = 365 ∧ (q ≤ 23 ∨ c = 3))) := by
  let c := doe / 36524
  let d := doe % 36524
  let q := d / 1461
  let r := d % 1461
  have hc : doe / 36524 = c := rfl
  have hdoe : doe = 36524 * c + 1461 * q + r := by omega
  have hr0 : 0 ≤ r := by omega
  have hr1 : r ≤ 1460 := by omega
  have hq0 : 0 ≤ q := by omega
  have hq1 : q ≤ 24 := by omega
  have hc0 : 0 ≤ c := by omega
  have hc1 : c ≤ 3 := by omega
  have hq24 : q = 24 → r ≤ 1459 := by omega
  refine ⟨c, q, if r / 365 = 4 then 3 else r / 365, hc0, hc1, hq0, hq1, ?_, ?_, ?_, ?_, ?_⟩
  · split <;> omega
  · split <;> omega
  · unfold yoeOf
    have hg : doe / 146096 = 0 := by omega
    have he : doe / 1460 = 25 * c + q + (24 * c + q + r) / 1460 := by omega
    rw [hg, hc, he]
    split <;> omega
  · split <;> omega
  · split
    · right
      refine ⟨rfl, by omega, ?_⟩
      by_cases h24 : q = 24
      · have := hq24 h24
        omega
      · left; omega
    · left; omega

theorem startOf_char (c q k : Int) (_hc0 : 0 ≤ c) (_hc1 : c ≤ 3) (hq0 : 0 ≤ q) (hq1 : q ≤ 24) (hk0 : 0 ≤ k) (hk1 : k ≤ 3) :
    startOf (100 * c + 4 * q + k) = 36524 * c + 1461 * q + 365 * k := by
  unfold startOf; omega

/-- Day of year (March-based) is within the year: 0..364, or 365 in a (March-based) leap year. -/
theorem yoe_bounds (doe : Int) (h0 : 0 ≤ doe) (h1 : doe ≤ 146096) :
    0 ≤ yoeOf doe ∧ yoeOf doe ≤ 399 ∧ 0 ≤ doe - startOf (yoeOf doe) ∧
      (doe - startOf (yoeOf doe) ≤ 364 ∨
        (doe - startOf (yoeOf doe) = 365 ∧ (yoeOf doe + 1) % 4 = 0 ∧ ((yoeOf doe + 1) % 100 ≠ 0 ∨ yoeOf doe = 399))) := by
  by_cases hl : doe = 146096
  · subst hl; decide
  · obtain ⟨c, q, k, hc0, hc1, hq0, hq1, hk0, hk1, hy, hd0, hd1⟩ := yoe_char doe h0 (by omega)
    rw [hy, startOf_char c q k hc0 hc1 hq0 hq1 hk0 hk1]
    refine ⟨by omega, by omega, hd0, ?_⟩
    rcases hd1 with h | ⟨hk, h365, hq⟩
    · left; exact h
    · right
      refine ⟨h365, by omega, ?_⟩
      rcases hq with hq | hc3
      · left; omega
      · by_cases h24 : q = 24
        · right; omega
        · left; omega

/-- What `civilFromDays` computes, in terms of the cycle decomposition. -/
theorem cfd_spec (z : Int) :
    ∃ era yoe doy mp : Int, 0 ≤ yoe ∧ yoe ≤ 399 ∧ 0 ≤ doy ∧
      (doy ≤ 364 ∨ (doy = 365 ∧ (yoe + 1) % 4 = 0 ∧ ((yoe + 1) % 100 ≠ 0 ∨ yoe = 399))) ∧
      z + 719468 = era * 146097 + startOf yoe + doy ∧
      mp = (5 * doy + 2) / 153 ∧
      civilFromDays z = ⟨yoe + era * 400 + (if (if mp < 10 then mp + 3 else mp - 9) ≤ 2 then 1 else 0),
        (if mp < 10 then mp + 3 else mp - 9), doy - (153 * mp + 2) / 5 + 1⟩ := by
  let era := (z + 719468) / 146097
  let doe := (z + 719468) - era * 146097
  have hd0 : 0 ≤ doe := by omega
  have hd1 : doe ≤ 146096 := by omega
  obtain ⟨hy0, hy1, hdoy0, hdoy1⟩ := yoe_bounds doe hd0 hd1
  refine ⟨era, yoeOf doe, doe - startOf (yoeOf doe), (5 * (doe - startOf (yoeOf doe)) + 2) / 153,
    hy0, hy1, hdoy0, hdoy1, by omega, rfl, ?_⟩
  rfl

theorem isLeap_iff (y : Int) : isLeap y = true ↔ y % 4 = 0 ∧ (y % 100 ≠ 0 ∨ y % 400 = 0) := by
  simp only [isLeap, Bool.and_eq_true, Bool.or_eq_true, decide_eq_true_eq]

theorem civil_month_day (z : Int) :
    1 ≤ (civilFromDays z).m ∧ (civilFromDays z).m ≤ 12 ∧ 1 ≤ (civilFromDays z).d ∧
      (civilFromDays z).d ≤ daysIn (civilFromDays z).m (civilFromDays z).y := by
  obtain ⟨era, yoe, doy, mp, hy0, hy1, hd0, hd1, _, hmp, hc⟩ := cfd_spec z
  rw [hc]
  simp only
  have hmp0 : 0 ≤ mp := by omega
  have hmp1 : mp ≤ 11 := by omega
  refine ⟨by split <;> omega, by split <;> omega, by omega, ?_⟩
  unfold daysIn
  by_cases h10 : mp < 10
  · simp only [h10, if_true]
    have hm2 : ¬ (mp + 3 = 2) := by omega
    simp only [hm2, if_false]
    split <;> omega
  · simp only [h10, if_false]
    by_cases h11 : mp = 11
    · subst h11
      simp only [show (11 : Int) - 9 = 2 from rfl, if_true, show ((2 : Int) ≤ 2) = True from by simp]
      rcases hd1 with h | ⟨h365, h4, h100⟩
      · split <;> omega
      · rw [if_pos ((isLeap_iff _).mpr ⟨by omega, by omega⟩)]
        omega
    · have : mp = 10 := by omega
      subst this
      simp only [show (10 : Int) - 9 = 1 from rfl, show ¬ ((1 : Int) = 2) from by decide, if_false]
      split <;> omega

theorem civilOf_valid (unix off : Int) (hy : 0 ≤ (civilOf unix off).y ∧ (civilOf unix off).y ≤ 9999) :
    (civilOf unix off).valid := by
  have hs : 0 ≤ localSecs unix off ∧ localSecs unix off < 86400 := by unfold localSecs; omega
  have hc := civil_month_day (localDays unix off)
  simp only [civilOf, DateTime.valid] at hy ⊢
  refine ⟨hy.1, hy.2, hc.1, hc.2.1, hc.2.2.1, hc.2.2.2, ?_, ?_, ?_, ?_, ?_, ?_, by omega, by omega⟩ <;> omega

theorem civil_roundtrip' (z : Int) :
    daysFromCivil (civilFromDays z).y (civilFromDays z).m (civilFromDays z).d = z := by
  obtain ⟨era, yoe, doy, mp, hy0, hy1, hd0, hd1, hz, hmp, hc⟩ := cfd_spec z
  rw [hc]
  have hmp0 : 0 ≤ mp := by omega
  have hmp1 : mp ≤ 11 := by omega
  unfold daysFromCivil
  simp only
  unfold startOf at hz
  by_cases h10 : mp < 10
  · have e1 : ¬ (mp + 3 ≤ 2) := by omega
    have e2 : mp + 3 > 2 := by omega
    simp only [h10, if_true, e1, if_false, e2]
    omega
  · have e1 : mp - 9 ≤ 2 := by omega
    have e2 : ¬ (mp - 9 > 2) := by omega
    simp only [h10, if_false, e1, if_true, e2]
    omega

/-- The wall clock of an instant denotes that instant again, also when cut to whole seconds; cut to whole
minutes it denotes the start of the local minute. -/
theorem wall_trunc (unix off : Int) :
    wallSeconds (civilOf unix off) - off = unix
    ∧ wallSeconds (truncTo .second (civilOf unix off)) - off = unix
    ∧ wallSeconds (truncTo .minute (civilOf unix off)) - off = unix - (unix + off) % 60 := by
  have h := civil_roundtrip' (localDays unix off)
  simp only [wallSeconds, truncTo, civilOf, h]
  unfold localDays localSecs
  omega

theorem yearDay_range' (z : Int) : 0 ≤ yearDay z ∧ yearDay z ≤ 365 := by
  obtain ⟨era, yoe, doy, mp, hy0, hy1, hd0, hd1, hz, hmp, hc⟩ := cfd_spec z
  unfold yearDay
  rw [hc]
  have hmp0 : 0 ≤ mp := by omega
  have hmp1 : mp ≤ 11 := by omega
  unfold daysFromCivil
  simp only [show ((1 : Int) ≤ 2) = True from by simp, if_true, show ¬ ((1 : Int) > 2) from by decide, if_false]
  unfold startOf at hz
  by_cases h10 : mp < 10
  · have e1 : ¬ (mp + 3 ≤ 2) := by omega
    simp only [h10, if_true, e1, if_false]
    by_cases hy : yoe = 0
    · subst hy
      have hg : (0 + era * 400 + 0 - 1) / 400 = era - 1 := by omega
      rw [hg]; omega
    · have hg : (yoe + era * 400 + 0 - 1) / 400 = era := by omega
      rw [hg]; omega
  · have e1 : mp - 9 ≤ 2 := by omega
    simp only [h10, if_false, e1, if_true]
    have hg : (yoe + era * 400 + 1 - 1) / 400 = era := by omega
    have hs : yoe + era * 400 + 1 - 1 - era * 400 = yoe := by omega
    rw [hg, hs]; omega

theorem weekday_range' (d : Int) : 0 ≤ weekday d ∧ weekday d ≤ 6 := by
  unfold weekday; omega

theorem thursdayOf_facts (d : Int) :
    weekday (thursdayOf d) = 4 ∧ thursdayOf d - 3 ≤ d ∧ d ≤ thursdayOf d + 3 ∧
      weekday (thursdayOf d - 3) = 1 ∧ thursdayOf (thursdayOf d) = thursdayOf d := by
  unfold thursdayOf weekday; omega

/-- Day number of 1 January. -/
def yearStart (y : Int) : Int := daysFromCivil y 1 1

theorem yearStart_closed (y : Int) :
    yearStart y = 365 * (y - 1) + (y - 1) / 4 - (y - 1) / 100 + (y - 1) / 400 - 719162 := by
  unfold yearStart daysFromCivil
  simp only [show ((1 : Int) ≤ 2) = True from by simp, if_true, show ¬ ((1 : Int) > 2) from by decide, if_false]
  omega

theorem yearStart_mono (a b : Int) (h : a ≤ b) : yearStart a + 365 * (b - a) ≤ yearStart b := by
  rw [yearStart_closed, yearStart_closed]
  omega

theorem yearStart_succ (y : Int) : yearStart (y + 1) = yearStart y + (if isLeap y then 366 else 365) := by
  rw [yearStart_closed, yearStart_closed]
  split
  · next h => have := (isLeap_iff y).mp h; omega
  · next h => have := mt (isLeap_iff y).mpr h; omega

theorem year_bounds (z : Int) : yearStart (civilFromDays z).y ≤ z ∧ z < yearStart ((civilFromDays z).y + 1) := by
  constructor
  · have := (yearDay_range' z).1
    unfold yearDay at this; unfold yearStart; omega
  · obtain ⟨era, yoe, doy, mp, hy0, hy1, hd0, hd1, hz, hmp, hc⟩ := cfd_spec z
    rw [hc, yearStart_closed]
    have hmp0 : 0 ≤ mp := by omega
    have hmp1 : mp ≤ 11 := by omega
    unfold startOf at hz
    simp only
    by_cases h10 : mp < 10
    · have e1 : ¬ (mp + 3 ≤ 2) := by omega
      simp only [h10, if_true, e1, if_false]
      have g4 : (yoe + era * 400 + 0 + 1 - 1) / 4 = 100 * era + yoe / 4 := by omega
      have g100 : (yoe + era * 400 + 0 + 1 - 1) / 100 = 4 * era + yoe / 100 := by omega
      have g400 : (yoe + era * 400 + 0 + 1 - 1) / 400 = era := by omega
      rw [g4, g100, g400]
      omega
    · have e1 : mp - 9 ≤ 2 := by omega
      simp only [h10, if_false, e1, if_true]
      omega

theorem year_unique (z y : Int) (h0 : yearStart y ≤ z) (h1 : z < yearStart (y + 1)) : (civilFromDays z).y = y := by
  obtain ⟨b0, b1⟩ := year_bounds z
  by_cases hlt : (civilFromDays z).y < y
  · have := yearStart_mono ((civilFromDays z).y + 1) y (by omega)
    omega
  · by_cases hgt : y < (civilFromDays z).y
    · have := yearStart_mono (y + 1) (civilFromDays z).y (by omega)
      omega
    · omega

end Rare.C18

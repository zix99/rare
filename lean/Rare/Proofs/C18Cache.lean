import Rare.Model.C18
/-! C18: the `cache` stage of `smartDateParseWrapper` as a function of the history of texts it has seen. -/
namespace Rare.C18

abbrev Inp := Bytes × Option Bytes × (Parsed → Out)

/-- Answer for one text once the layout `L` is what the stage uses. -/
def answerWith (L : Bytes) (x : Inp) : Out := if x.1 = [] then .val errorParsing else parseThen L x.1 x.2.2

theorem cache_sticky' (e st : Bytes) (hst : st ≠ []) (xs : List Inp) :
    cacheState e st xs = st ∧ cacheRun e st xs = xs.map (answerWith st) := by
  induction xs with
  | nil => exact ⟨rfl, rfl⟩
  | cons x xs ih =>
    obtain ⟨str, det, f⟩ := x
    have h2 : (cacheStepE e st str det f).2 = st := by
      unfold cacheStepE; by_cases hs : str = [] <;> simp [hs, hst]
    have h1 : (cacheStepE e st str det f).1 = answerWith st (str, det, f) := by
      unfold cacheStepE answerWith; by_cases hs : str = [] <;> simp [hs, hst]
    simp only [cacheState, cacheRun, h2, h1, List.map_cons]
    exact ⟨ih.1, by rw [ih.2]⟩

/-- The first text of a history that is remembered: non-empty, not the value of the date expression
without input, and with a detectable format. -/
def firstRemembered (e : Bytes) (xs : List Inp) : Bytes :=
  match xs.find? (fun x => !(x.1 == []) && !(x.1 == e) && x.2.1.isSome) with
  | some x => x.2.1.getD []
  | none => []

theorem cache_state_first' (e : Bytes) (xs : List Inp) (hdet : ∀ x ∈ xs, x.2.1 ≠ some []) :
    cacheState e [] xs = firstRemembered e xs := by
  induction xs with
  | nil => rfl
  | cons x xs ih =>
    obtain ⟨str, det, f⟩ := x
    have ih' := ih (fun x hx => hdet x (List.mem_cons_of_mem _ hx))
    have hd := hdet (str, det, f) List.mem_cons_self
    simp only [cacheState, firstRemembered, List.find?_cons]
    by_cases hs : str = []
    · simp only [cacheStepE, hs, if_true, beq_self_eq_true, Bool.not_true, Bool.false_and]
      exact ih'
    · cases det with
      | none =>
        simp only [cacheStepE, hs, if_false, if_true, Option.isSome_none, Bool.and_false]
        exact ih'
      | some live =>
        have hl : live ≠ [] := fun h => hd (by rw [h])
        by_cases he : str = e
        · subst he
          simp only [cacheStepE, hs, if_false, if_true, beq_self_eq_true, Bool.not_true, Bool.and_false, Bool.false_and]
          exact ih'
        · have h1 : (str == []) = false := by simpa using hs
          have h2 : (str == e) = false := by simpa using he
          simp only [cacheStepE, hs, if_false, if_true, he, h1, h2, Bool.not_false, Bool.true_and, Option.isSome_some, Option.getD_some]
          exact (cache_sticky' e live hl xs).1

theorem cache_order_independent' (e L : Bytes) (hL : L ≠ []) (xs : List Inp)
    (h : ∀ x ∈ xs, x.1 ≠ e ∧ (x.1 ≠ [] → x.2.1 = some L)) (st : Bytes) (hst : st = [] ∨ st = L) :
    cacheRun e st xs = xs.map (answerWith L) := by
  induction xs generalizing st with
  | nil => rfl
  | cons x xs ih =>
    obtain ⟨str, det, f⟩ := x
    obtain ⟨hne, hd⟩ := h (str, det, f) List.mem_cons_self
    have ih' := ih (fun x hx => h x (List.mem_cons_of_mem _ hx))
    simp only [cacheRun, List.map_cons]
    by_cases hs : str = []
    · have h1 : (cacheStepE e st str det f) = (.val errorParsing, st) := by simp [cacheStepE, hs]
      rw [h1]
      simp only [answerWith, hs, if_true]
      rw [ih' st hst]
    · have hdet := hd hs
      simp only at hne hdet
      rcases hst with hst | hst
      · have h1 : (cacheStepE e st str det f) = (parseThen L str f, L) := by
          simp [cacheStepE, hs, hst, hdet, hne]
        rw [h1, ih' L (Or.inr rfl)]
        simp [answerWith, hs]
      · have h1 : (cacheStepE e st str det f) = (parseThen L str f, L) := by
          simp [cacheStepE, hs, hst, hL]
        rw [h1, ih' L (Or.inr rfl)]
        simp [answerWith, hs]

end Rare.C18

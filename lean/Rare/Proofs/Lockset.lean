import Rare.Model.Lockset
/-!
General facts about the lockset check (for every table, not only the generated ones).
-/
namespace Rare.Lockset
open Rare.Gen.Access

theorem sameLoc_iff (a b : Acc) : sameLoc a b = true ↔
    a.obj = b.obj ∧ (a.obj = "var" → a.field = b.field) ∧ (a.obj ≠ "var" → a.region = b.region) := by
  unfold sameLoc
  by_cases hv : a.obj = "var"
  · simp [hv]
  · simp [hv]

theorem sameLoc_symm (a b : Acc) : sameLoc a b = sameLoc b a := by
  rw [Bool.eq_iff_iff, sameLoc_iff, sameLoc_iff]
  constructor
  · rintro ⟨h1, h2, h3⟩
    exact ⟨h1.symm, fun h => (h2 (h1 ▸ h)).symm, fun h => (h3 (h1 ▸ h)).symm⟩
  · rintro ⟨h1, h2, h3⟩
    exact ⟨h1.symm, fun h => (h2 (h1 ▸ h)).symm, fun h => (h3 (h1 ▸ h)).symm⟩

theorem locked_symm (a b : Acc) : locked a b = locked b a := by
  unfold locked
  rw [Bool.beq_comm (a := a.mutex), Bool.or_comm (a.lock == "W")]
  cases (a.lock != "") <;> cases (b.lock != "") <;> simp

theorem ordered_symm (a b : Acc) : ordered a b = ordered b a := by
  unfold ordered; rw [Bool.or_comm]

theorem safePair_symm (a b : Acc) : safePair a b = safePair b a := by
  unfold safePair; rw [locked_symm, ordered_symm, Bool.and_comm]

theorem conflict_symm (a b : Acc) : conflict a b = conflict b a := by
  unfold conflict; rw [sameLoc_symm, Bool.or_comm]

/-- Pairing every write with every access is the same as looking at all conflicting pairs. -/
theorem pairsSafe_iff (s : List Acc) :
    pairsSafe s = true ↔ ∀ a ∈ s, ∀ b ∈ s, conflict a b = true → safePair a b = true := by
  simp only [pairsSafe, List.all_eq_true, List.mem_filter, Bool.or_eq_true, Bool.not_eq_true']
  constructor
  · intro h a ha b hb hc
    simp only [conflict, Bool.and_eq_true, Bool.or_eq_true] at hc
    obtain ⟨hl, hw⟩ := hc
    rcases hw with hw | hw
    · rcases h a ⟨ha, hw⟩ b hb with h' | h'
      · rw [hl] at h'; cases h'
      · exact h'
    · rcases h b ⟨hb, hw⟩ a ha with h' | h'
      · rw [sameLoc_symm, hl] at h'; cases h'
      · rw [safePair_symm]; exact h'
  · intro h a ha b hb
    cases hl : sameLoc a b
    · exact Or.inl rfl
    · exact Or.inr (h a ha.1 b hb (by simp [conflict, hl, ha.2]))

theorem raceFree_iff (cs : List String) (accs : List Acc) :
    raceFree cs accs = true ↔
      ∀ a ∈ shared cs accs, ∀ b ∈ shared cs accs, conflict a b = true → safePair a b = true :=
  pairsSafe_iff _

theorem raceFreeClosures_iff (accs : List Acc) :
    raceFreeClosures accs = true ↔
      ∀ a ∈ accs, a.depth ≠ 0 → ∀ b ∈ accs, b.depth ≠ 0 → conflict a b = true → safePair a b = true := by
  unfold raceFreeClosures
  rw [pairsSafe_iff]
  simp only [List.mem_filter, bne_iff_ne, ne_eq, and_imp]

theorem raceFreeRoles_iff (accs : List Acc) :
    raceFreeRoles accs = true ↔
      ∀ a ∈ accs, ∀ b ∈ accs, a.fn ≠ b.fn → conflict a b = true → safePair a b = true := by
  simp only [raceFreeRoles, List.all_eq_true, List.mem_filter, Bool.or_eq_true, Bool.not_eq_true', beq_iff_eq]
  constructor
  · intro h a ha b hb hne hc
    simp only [conflict, Bool.and_eq_true, Bool.or_eq_true] at hc
    obtain ⟨hl, hw⟩ := hc
    rcases hw with hw | hw
    · rcases h a ⟨ha, hw⟩ b hb with (h' | h') | h'
      · exact absurd h' hne
      · rw [hl] at h'; cases h'
      · exact h'
    · rcases h b ⟨hb, hw⟩ a ha with (h' | h') | h'
      · exact absurd h'.symm hne
      · rw [sameLoc_symm, hl] at h'; cases h'
      · rw [safePair_symm]; exact h'
  · intro h a ha b hb
    by_cases hfn : a.fn = b.fn
    · exact Or.inl (Or.inl hfn)
    · cases hl : sameLoc a b
      · exact Or.inl (Or.inr rfl)
      · exact Or.inr (h a ha.1 b hb hfn (by simp [conflict, hl, ha.2]))

theorem safePair_cases {a b : Acc} (h : safePair a b = true) :
    (a.atomic = true ∧ b.atomic = true) ∨
    (a.lock ≠ "" ∧ b.lock ≠ "" ∧ a.mutex = b.mutex ∧ (a.lock = "W" ∨ b.lock = "W")) ∨
    (b.fn ∈ a.ord ∨ a.fn ∈ b.ord) := by
  simp only [safePair, locked, ordered, Bool.or_eq_true, Bool.and_eq_true, bne_iff_ne, ne_eq, beq_iff_eq,
    List.contains_iff_mem] at h
  rcases h with (h | h) | h
  · exact Or.inl h
  · exact Or.inr (Or.inl ⟨h.1.1.1, h.1.1.2, h.1.2, h.2⟩)
  · exact Or.inr (Or.inr h)

/-- The reading of `raceFree` asked for in the property: every access to the CONTENTS of a reference-typed
    field (directly, through an alias, or by a reference that escaped) holds a mutex, or is atomic, or is
    ordered with every goroutine role that writes those contents, or nobody writes them once the object is
    shared (immutable after construction). -/
theorem raceFree_referentGuarded (cs : List String) (accs : List Acc) (h : raceFree cs accs = true) :
    referentGuarded cs accs = true := by
  rw [raceFree_iff] at h
  simp only [referentGuarded, List.all_eq_true, Bool.or_eq_true, bne_iff_ne, ne_eq, Bool.not_eq_true',
    Bool.and_eq_false_iff, beq_eq_false_iff_ne]
  intro a ha
  by_cases hobj : a.obj = "ref"
  · by_cases hlock : a.lock = ""
    · cases hat : a.atomic
      · refine Or.inr fun b hb => ?_
        by_cases hbo : b.obj = "ref"
        · by_cases hbr : b.region = a.region
          · cases hbw : b.write
            · exact Or.inl (Or.inr rfl)
            · have hc : conflict a b = true := by
                simp [conflict, sameLoc, hobj, hbo, hbr, hbw]
              have hs := h a ha b hb hc
              rcases safePair_cases hs with h1 | h1 | h1
              · rw [hat] at h1; cases h1.1
              · exact absurd hlock h1.1
              · refine Or.inr ?_
                simp only [ordered, Bool.or_eq_true, List.contains_iff_mem]
                exact h1
          · exact Or.inl (Or.inl (Or.inr hbr))
        · exact Or.inl (Or.inl (Or.inl hbo))
      · exact Or.inl (Or.inr rfl)
    · exact Or.inl (Or.inl (Or.inr hlock))
  · exact Or.inl (Or.inl (Or.inl hobj))

theorem classOfWrites_ne_mutable_iff (w : List Acc) (f : String) :
    classOfWrites w f ≠ "mutable" ↔ ((w.filter fun a => a.field == f).all (·.atomic)) = true := by
  unfold classOfWrites
  simp only []
  split
  · next h => simp [List.isEmpty_iff.mp h]
  · split
    · next h =>
      refine ⟨fun _ => ?_, fun _ => by decide⟩
      rw [List.all_eq_true] at h ⊢
      exact fun a ha => (Bool.and_eq_true_iff.mp (h a ha)).1
    · split
      · next h => simp [h]
      · next h => simp [h]

/-- `stageClass … ≠ "mutable"` unfolded: every write the evaluation-time code makes to the variable (or to what it
    refers to) is atomic / self-synchronised. -/
theorem stageClass_not_mutable_iff (accs : List Acc) (f : String) :
    stageClass accs f ≠ "mutable" ↔
      ∀ a ∈ accs, a.depth ≠ 0 → a.field = f → a.write = true → a.atomic = true := by
  rw [stageClass, classOfWrites_ne_mutable_iff]
  simp only [evalWrites, List.all_eq_true, List.mem_filter, Bool.and_eq_true, bne_iff_ne, ne_eq, beq_iff_eq, and_imp]
  exact ⟨fun h a ha hd hf hw => h a ha hd hw hf, fun h a ha hd hw hf => h a ha hd hf hw⟩

/-- A plain write made at evaluation time makes its variable `mutable` … -/
theorem stageClass_cons_plain_write {a : Acc} (accs : List Acc) (hd : a.depth ≠ 0) (hw : a.write = true)
    (hat : a.atomic = false) : stageClass (a :: accs) a.field = "mutable" :=
  Decidable.of_not_not fun h => by
    have := (stageClass_not_mutable_iff _ _).mp h a List.mem_cons_self hd rfl hw
    rw [hat] at this; cases this

/-- … and, holding no lock, fails the race check: every worker runs the literal that makes it, so the write
    conflicts with itself. -/
theorem raceFreeClosures_cons_plain_write {a : Acc} (accs : List Acc) (hd : a.depth ≠ 0) (hw : a.write = true)
    (hat : a.atomic = false) (hl : a.lock = "") (ho : a.fn ∉ a.ord) : raceFreeClosures (a :: accs) = false := by
  refine Bool.eq_false_iff.mpr fun h => ?_
  have hc : conflict a a = true := by simp [conflict, sameLoc, hw]
  rcases safePair_cases ((raceFreeClosures_iff _).mp h a List.mem_cons_self hd a List.mem_cons_self hd hc)
    with h1 | h1 | h1
  · rw [hat] at h1; cases h1.1
  · exact h1.1 hl
  · exact ho (h1.elim id id)

end Rare.Lockset

import Rare.Proofs.C19F64b
import Rare.Proofs.ExprCore
import Rare.Model.C19F64Math
/-!
C19, IEEE instance, part (c): `{! formula}` end to end (`kfMath`, funcsMath.go): the stage the builder
returns reads every variable through `strconv.ParseFloat`, evaluates the compiled formula in binary64
and prints the result with `strconv.FormatFloat(v, 'f', -1, 64)` – or `<BAD-TYPE>` if some look-up did
not parse.
-/
namespace Rare.C19.IEEE
open Rare Rare.F64 Rare.C19 Rare.Expr Rare.Expr.Funcs.Math

variable (L : Libm)

/-- `kfMath`'s parts for the arithmetic `arith L` (no taint: the libm behaviour is given). -/
def mathInstL : MathInst F64 where
  arith := arith L
  conv := conv
  render := fun v => Comp.ret (render v)
  unmodelledLit := fun _ => ⟨some (Comp.ret []), none⟩     -- never reached: this instance models every literal

/-- What `keyBuilderContextWrapper` makes of a context: every look-up through `ParseFloat`, 0 on failure. -/
def ctxBinding (ctx : Ctx) : Binding F64 :=
  ⟨fun i => (conv (ctx.getMatch i)).1, fun k => (conv (ctx.getKey k)).1⟩

/-- `mathCtx.errors` after the evaluation: the look-ups (with multiplicity) whose text did not parse. -/
def badLookups (ctx : Ctx) : C19.Expr F64 → Nat
  | .val _ => 0
  | .named n => (conv (ctx.getKey n)).2
  | .idx i => (conv (ctx.getMatch i)).2
  | .un _ e => badLookups ctx e
  | .bin _ l r => badLookups ctx l + badLookups ctx r

theorem evalC_run (ctx : Ctx) : ∀ e : C19.Expr F64,
    (evalC (mathInstL L) e).run ctx = .ok (e.eval (arith L) (ctxBinding ctx), badLookups ctx e) := by
  intro e
  induction e with
  | val v => rfl
  | named n => rfl
  | idx i => rfl
  | un m e ih =>
    show ((evalC (mathInstL L) e).bind _).run ctx = _
    rw [Comp.run_bind, ih]; rfl
  | bin op l r ihl ihr =>
    show ((evalC (mathInstL L) l).bind _).run ctx = _
    rw [Comp.run_bind, ihl]
    show ((evalC (mathInstL L) r).bind _).run ctx = _
    rw [Comp.run_bind, ihr]; rfl

theorem badLookups_zero (ctx : Ctx) (hm : ∀ i, (F64.parseFloat (ctx.getMatch i)).isSome = true)
    (hk : ∀ k, (F64.parseFloat (ctx.getKey k)).isSome = true) : ∀ e, badLookups ctx e = 0 := by
  have c0 : ∀ s, (F64.parseFloat s).isSome = true → (conv s).2 = 0 := by
    intro s h
    unfold conv
    cases hp : F64.parseFloat s with
    | none => rw [hp] at h; cases h
    | some v => rfl
  intro e
  induction e with
  | val v => rfl
  | named n => exact c0 _ (hk n)
  | idx i => exact c0 _ (hm i)
  | un m e ih => exact ih
  | bin op l r ihl ihr => simp only [badLookups, ihl, ihr]

/-- The stage `kfMath` returns for a constant formula text. -/
theorem kfMath_stage (s : Bytes) (t : Tree) (e : C19.Expr F64) (h : compile (arith L) s = .ok (t, e)) :
    kfMathWith (mathInstL L) [Stage.lit s] = .ok ⟨some (do
        let (v, errs) ← evalC (mathInstL L) e
        if errs > 0 then pure ErrorNum else (mathInstL L).render v), none⟩ := by
  have hc : collapse [Stage.lit s] [] = .ok (some s) := by
    simp [collapse, Stage.lit, Comp.probe, Comp.probeN]
  have h' : compile (mathInstL L).arith s = .ok (t, e) := h
  simp only [kfMathWith, hc, h']
  rfl

theorem kfMath_run (s : Bytes) (t : Tree) (e : C19.Expr F64) (h : compile (arith L) s = .ok (t, e)) (ctx : Ctx) :
    ∃ st, kfMathWith (mathInstL L) [Stage.lit s] = .ok ⟨some st, none⟩ ∧
      st.run ctx = .ok (if badLookups ctx e > 0 then ErrorNum
        else render (t.eval (arith L) (classify (arith L)) (ctxBinding ctx))) := by
  refine ⟨_, kfMath_stage L s t e h, ?_⟩
  show ((evalC (mathInstL L) e).bind _).run ctx = _
  rw [Comp.run_bind, evalC_run]
  simp only
  rw [← formula_value_aux]
  split <;> rfl
where
  formula_value_aux : e.eval (arith L) (ctxBinding ctx) = t.eval (arith L) (classify (arith L)) (ctxBinding ctx) :=
    (compileF_post (arith L) _ s t e h).2.ev _

end Rare.C19.IEEE

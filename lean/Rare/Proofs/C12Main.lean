import Rare.Proofs.C12Compile
/-! Putting compile + match + pool together: the observable `matchAll` equals the specification. -/
namespace Rare.C12

/-- the specification for either mode -/
def specFor (ic : Bool) (p : Pat) (line : Bytes) : Option (List Nat) :=
  if ic then specDissectIC p line else specDissect p line

/-- the compiled form of a well-formed pattern text -/
def compiled (ic : Bool) (p : Pat) : Dissect :=
  { tokens := p.toks.map (tokOf ic), pre := if ic then lower p.pre else p.pre, ic := ic,
    groupNames := nameTable p.toks, groupCount := capCount p.toks }

theorem compileEx_pat (ic : Bool) (p : Pat) (hp : p.Shape) :
    compileEx p.render ic =
      match specErrors false p.toks [] with
      | some e => .error (cerr e)
      | none => .ok (compiled ic p) := by
  have := compileEx_render ic p hp none (by intro j h; cases h)
  simp only [tailText, List.append_nil, Option.isSome_none] at this
  exact this

theorem compileEx_ok {ic : Bool} {p : Pat} (hp : p.Shape) {d : Dissect} (h : compileEx p.render ic = .ok d) :
    specErrors false p.toks [] = none ∧ d = compiled ic p := by
  rw [compileEx_pat ic p hp] at h
  cases he : specErrors false p.toks [] with
  | some e => rw [he] at h; cases h
  | none => rw [he] at h; cases h; exact ⟨rfl, rfl⟩

/-- the pattern a mode really searches for: the literals as written, or folded -/
def patFor (ic : Bool) (p : Pat) : Pat := if ic then p.lowerLits else p

/-- `id=%{v};` -/
def histPat : Pat := ⟨[105, 100, 61], [⟨[118], [59]⟩]⟩

theorem specFor_patFor (ic : Bool) (p : Pat) (line : Bytes) :
    specFor ic p line = specDissect (patFor ic p) (foldFor ic line) := by
  cases ic <;> simp [specFor, patFor, foldFor, specDissectIC]

theorem patFor_pre (ic : Bool) (p : Pat) : (patFor ic p).pre = foldFor ic p.pre := by
  cases ic <;> simp [patFor, Pat.lowerLits, foldFor]

theorem patFor_toks_length (ic : Bool) (p : Pat) : (patFor ic p).toks.length = p.toks.length := by
  cases ic <;> simp [patFor, Pat.lowerLits]

theorem patFor_lit_ne (ic : Bool) (p : Pat) (h : ∀ t ∈ p.toks, t.lit ≠ []) :
    ∀ t ∈ (patFor ic p).toks, t.lit ≠ [] := by
  cases ic
  · simpa [patFor] using h
  · intro t ht
    simp only [patFor, Pat.lowerLits, if_true, List.mem_map] at ht
    obtain ⟨t0, ht0, rfl⟩ := ht
    simp only [Tok.lowerLit, ne_eq, lower_eq_nil]
    exact h t0 ht0

theorem capCount_lowerLit (toks : List Tok) : capCount (toks.map Tok.lowerLit) = capCount toks := by
  simp [capCount, List.filter_map, Function.comp_def, Tok.lowerLit_skip]

/-- what `FindSubmatchIndex` sees of a compiled pattern: the tokens and the prefix of `patFor` -/
theorem compiled_eq_patFor (ic : Bool) (p : Pat) :
    (compiled ic p).tokens = (patFor ic p).toks.map (tokOf false) ∧ (compiled ic p).pre = (patFor ic p).pre ∧
    (compiled ic p).groupCount = capCount (patFor ic p).toks := by
  cases ic
  · exact ⟨rfl, rfl, rfl⟩
  · refine ⟨?_, rfl, (capCount_lowerLit p.toks).symm⟩
    simp only [compiled, patFor, Pat.lowerLits, if_true, List.map_map]
    rfl

/-- One instance of a compiled pattern over a sequence of lines: the returned slices, re-read after
the last call, hold the specification's answers, and they are pairwise disjoint. -/
theorem runLines_compiled (ic : Bool) (p : Pat) (lines : List Bytes) :
    ∃ vs s', runLines (compiled ic p).createInstance lines = .ok (vs, s') ∧
      vs.map (fun o => o.map s'.pool.read) = lines.map (fun l => (specFor ic p l).map (·.map Int.ofNat)) ∧
      (vs.filterMap id).Pairwise View.Disjoint := by
  obtain ⟨htok, hpre, hcount⟩ := compiled_eq_patFor ic p
  obtain ⟨vs, s', hr, _, _, hres, _, _, hpw⟩ :=
    runLines_spec (patFor ic p).toks lines (compiled ic p).createInstance htok hcount (Pool.new_wf _)
      (by simp only [Dissect.createInstance, Pool.new]; omega)
  refine ⟨vs, s', hr, ?_, hpw⟩
  rw [hres]
  apply List.map_congr_left
  intro l _
  rw [specFor_patFor]
  show (specDissect ⟨(compiled ic p).pre, (patFor ic p).toks⟩ _).map _ = _
  rw [hpre]
  rfl

/-- All results of one instance, re-read after the last call, are the specification's answers. -/
theorem matchAll_compiled (ic : Bool) (p : Pat) (lines : List Bytes) :
    matchAll (compiled ic p) lines = .ok (lines.map fun l => (specFor ic p l).map (·.map Int.ofNat)) := by
  obtain ⟨vs, s', hr, hres, _⟩ := runLines_compiled ic p lines
  simp only [matchAll, hr, hres]

theorem matchAll_eq {ic : Bool} {p : Pat} (hp : p.Shape) {d : Dissect}
    (hc : compileEx p.render ic = .ok d) (lines : List Bytes) :
    matchAll d lines = .ok (lines.map fun l => (specFor ic p l).map (·.map Int.ofNat)) := by
  rw [(compileEx_ok hp hc).2]; exact matchAll_compiled ic p lines

/-- single-line answer of a compiled pattern, read off `matchAll` -/
theorem matchAll_one {ic : Bool} {p : Pat} (hp : p.Shape) {d : Dissect}
    (hc : compileEx p.render ic = .ok d) (line : Bytes) (r : Option (List Int)) :
    matchAll d [line] = .ok [r] ↔ r = (specFor ic p line).map (·.map Int.ofNat) := by
  rw [matchAll_eq hp hc]
  simp only [List.map_cons, List.map_nil, Except.ok.injEq, List.cons.injEq, and_true]
  exact eq_comm

/-- a single-line match is a match of the specification, with the same offsets -/
theorem matchAll_some {ic : Bool} {p : Pat} (hp : p.Shape) {d : Dissect}
    (hc : compileEx p.render ic = .ok d) {line : Bytes} {r : List Int} (hr : matchAll d [line] = .ok [some r]) :
    ∃ r0, specFor ic p line = some r0 ∧ r = r0.map Int.ofNat := by
  have h := (matchAll_one hp hc line (some r)).mp hr
  cases hs : specFor ic p line with
  | none => rw [hs] at h; cases h
  | some r0 => rw [hs] at h; exact ⟨r0, rfl, Option.some.inj h⟩

/-! ### lower-casing keeps the grammar -/

theorem lowerByte_eq_iff (c x : UInt8) (hx : ¬ (97 ≤ x ∧ x ≤ 122)) (hx2 : ¬ (65 ≤ x ∧ x ≤ 90)) :
    lowerByte c = x ↔ c = x := by
  rw [← UInt8.toNat_inj, ← UInt8.toNat_inj (a := c), lowerByte_toNat]
  simp only [UInt8.le_iff_toNat_le, UInt8.reduceToNat] at hx hx2
  split <;> omega

theorem beq_lowerByte (x c : UInt8) (hx : ¬ (97 ≤ x ∧ x ≤ 122)) (hx2 : ¬ (65 ≤ x ∧ x ≤ 90)) :
    (x == lowerByte c) = (x == c) := by
  have := lowerByte_eq_iff c x hx hx2
  by_cases hc : c = x
  · have hl : lowerByte c = x := this.mpr hc
    rw [hl, hc]
  · have hn : ¬ x = lowerByte c := fun e => hc (this.mp e.symm)
    have hc' : ¬ x = c := fun e => hc e.symm
    rw [beq_eq_false_iff_ne.mpr hn, beq_eq_false_iff_ne.mpr hc']

theorem noTok_lower {l : Bytes} (h : NoTok l) : NoTok (lower l) := by
  induction l with
  | nil => simpa [lower] using h
  | cons c l ih =>
    obtain ⟨h1, h2⟩ := noTok_cons.mp h
    have ih' := ih h2
    simp only [lower, List.map_cons] at ih' ⊢
    refine noTok_cons.mpr ⟨?_, ih'⟩
    have e1 := beq_lowerByte pct c (by decide) (by decide)
    cases l with
    | nil => simp [List.isPrefixOf]
    | cons d l' =>
      have e2 := beq_lowerByte lbrace d (by decide) (by decide)
      simp only [List.isPrefixOf, List.map_cons, e1, e2] at h1 ⊢
      exact h1

theorem shape_lowerLits {p : Pat} (hp : p.Shape) : p.lowerLits.Shape := by
  refine ⟨noTok_lower hp.1, ?_⟩
  intro t ht
  simp only [Pat.lowerLits, List.mem_map] at ht
  obtain ⟨t0, ht0, rfl⟩ := ht
  exact ⟨(hp.2 t0 ht0).1, noTok_lower (hp.2 t0 ht0).2⟩

theorem specErrors_lowerLit (u : Bool) (toks : List Tok) (seen : List Bytes) :
    specErrors u (toks.map Tok.lowerLit) seen = specErrors u toks seen := by
  induction toks generalizing seen with
  | nil => rfl
  | cons t ts ih =>
    simp only [List.map_cons, specErrors, Tok.lowerLit_lit, lower_eq_nil, Tok.lowerLit_skip, ih]
    have : t.lowerLit.name = t.name := rfl
    simp [this]

end Rare.C12

import Rare.Proofs.C07NumF64Err
import Rare.Proofs.C07Num
/-!
C07 – the ACCUMULATED rounding error of the running mean (Welford's update in binary64).

For samples `x_1 … x_n` (finite, `|x_i| ≤ M ≤ 2^1021`, `n ≤ 2^53`) let `m_k` be the float mean after `k` samples and
`S_k` the exact sum of the first `k` sample values.  One step satisfies `m_k = m_{k-1} + (x_k − m_{k-1})/k + δ_k` with
`|δ_k| ≤ B_k` (`mean_step_error_full`), hence – multiplying by `k` –

    k·m_k − S_k  =  ((k−1)·m_{k-1} − S_{k-1})  +  k·δ_k ,

a LINEAR recurrence (the factor `1 − 1/k` of the usual presentation disappears).  With `|m_k| ≤ M` (the mean stays
between the samples), `|x_k − m_{k-1}| ≤ 2M` and `|d| ≤ 2M(1+u) + η` the step term is `k·B_k ≤ (k+5)·M·u + (2k+2)·η`,
and the sum of these over `2 … n` (the first sample is exact) is at most `(n(n+1)/2 + 5n)·M·u + (n(n+1) + 2n)·η`.
Dividing by `n`:   `|m_n − S_n/n| ≤ (n+11)/2 · u · M + (n+3) · η`.
-/
namespace Rare.C07
open Rare Rare.F64

theorem absRat_div_pos (q : Rat) {k : Rat} (hk : 0 < k) : absRat (q / k) = absRat q / k := by
  unfold absRat
  by_cases h : q < 0
  · have : q / k < 0 := by
      have := rat_div_pos (a := -q) (c := k) (by grind) hk
      rw [Rat.div_def] at this ⊢; grind
    rw [if_pos h, if_pos this, Rat.div_def, Rat.div_def]; grind
  · have : ¬ q / k < 0 := Rat.not_lt.mpr (div_nonneg' (Rat.not_lt.mp h) hk)
    rw [if_neg h, if_neg this]

theorem nonneg_of_sym {a M : Rat} (h1 : -M ≤ a) (h2 : a ≤ M) : 0 ≤ M := by grind

theorem sub_sym_bound {x m M : Rat} (x1 : -M ≤ x) (x2 : x ≤ M) (m1 : -M ≤ m) (m2 : m ≤ M) :
    -(2 * M) ≤ x - m ∧ x - m ≤ 2 * M := by
  constructor <;> grind

/-- `K` times the exact Welford update of the mean: `K·(m + (x − m)/K) = (K−1)·m + x`. -/
theorem mul_mean_update {k m x : Rat} (hk : k + 1 ≠ 0) : (k + 1) * (m + (x - m) / (k + 1)) = k * m + x := by
  have := Rat.mul_inv_cancel _ hk
  rw [Rat.div_def]; grind

theorem uF_le_half : uF ≤ 1 / 2 := by decide +kernel

/-- `k · B_k ≤ (k+5)·M·u + (2k+2)·η`: the scaled step bound in terms of the magnitude bound `M`. -/
theorem scaled_step_bound (M K am' ad axm : Rat) (hK : 1 ≤ K) (hM : 0 ≤ M)
    (h1 : 0 ≤ am' ∧ am' ≤ M) (h3 : 0 ≤ axm ∧ axm ≤ 2 * M) (h2 : 0 ≤ ad ∧ ad ≤ axm + (axm * uF + etaF)) :
    K * ((am' * uF + etaF) + (ad / K * uF + etaF) + (axm * uF + etaF) / K) ≤
      (K + 5) * (M * uF) + (2 * K + 2) * etaF := by
  have hu := uF_pos
  have hu2 := uF_le_half
  have he := etaF_pos
  have hK0 : K ≠ 0 := by grind
  have e1 : K * (ad / K * uF) = ad * uF := by
    rw [Rat.div_def]
    have : K * K⁻¹ = 1 := Rat.mul_inv_cancel K hK0
    grind
  have e2 : K * ((axm * uF + etaF) / K) = axm * uF + etaF := by
    rw [Rat.div_def]
    have : K * K⁻¹ = 1 := Rat.mul_inv_cancel K hK0
    grind
  have e0 : K * ((am' * uF + etaF) + (ad / K * uF + etaF) + (axm * uF + etaF) / K) =
      K * (am' * uF) + 2 * K * etaF + K * (ad / K * uF) + K * ((axm * uF + etaF) / K) := by grind
  rw [e0, e1, e2]
  -- the products, as atoms
  have p1 : am' * uF ≤ M * uF := Rat.mul_le_mul_of_nonneg_right h1.2 (Rat.le_of_lt hu)
  have p1' : K * (am' * uF) ≤ K * (M * uF) := Rat.mul_le_mul_of_nonneg_left p1 (by grind)
  have p3 : axm * uF ≤ (2 * M) * uF := Rat.mul_le_mul_of_nonneg_right h3.2 (Rat.le_of_lt hu)
  have p2 : ad * uF ≤ (axm + (axm * uF + etaF)) * uF := Rat.mul_le_mul_of_nonneg_right h2.2 (Rat.le_of_lt hu)
  have q0 : 0 ≤ M * uF := Rat.mul_nonneg hM (Rat.le_of_lt hu)
  have p4 : (axm * uF) * uF ≤ (axm * uF) * (1 / 2) :=
    Rat.mul_le_mul_of_nonneg_left hu2 (Rat.mul_nonneg h3.1 (Rat.le_of_lt hu))
  have p5 : etaF * uF ≤ etaF * (1 / 2) := Rat.mul_le_mul_of_nonneg_left hu2 (Rat.le_of_lt he)
  grind

/-- Invariant of the run: `k = samples ≥ 1`, finite mean within `[-M, M]`, and `|k·mean − S| ≤ A(k)·M·u + C(k)·η`
for the exact sum `S` of the sample values so far. -/
structure MeanAcc (M : Rat) (s : NumF) (S : Rat) : Prop where
  meanF : s.mean.isFinite = true
  lo : -M ≤ s.mean.toRat
  hi : s.mean.toRat ≤ M
  err : Near (((s.samples : Rat) * ((s.samples : Rat) + 1) / 2 + 5 * (s.samples : Rat)) * (M * uF) +
    ((s.samples : Rat) * ((s.samples : Rat) + 1) + 2 * (s.samples : Rat)) * etaF) ((s.samples : Rat) * s.mean.toRat) S

theorem meanAcc_step (keep : Bool) (M : Rat) (hM : M ≤ bigB) (s : NumF) (S : Rat) (x : F64)
    (hk : 1 ≤ s.samples) (hn : s.samples + 1 ≤ P53) (h : MeanAcc M s S)
    (xf : x.isFinite = true) (xl : -M ≤ x.toRat) (xh : x.toRat ≤ M) :
    MeanAcc M (NumF.samplef keep s x) (S + x.toRat) := by
  have hM0 : 0 ≤ M := nonneg_of_sym h.lo h.hi
  have hB := Rat.neg_le_neg hM
  obtain ⟨mf, df, e⟩ := mean_step_error_full keep s x hk hn h.meanF xf
    ⟨Rat.le_trans hB h.lo, Rat.le_trans h.hi hM⟩ ⟨Rat.le_trans hB xl, Rat.le_trans xh hM⟩
  obtain ⟨_, lo', hi'⟩ := mean_step_inside (k := s.samples + 1) (by omega) hn h.meanF xf hB hM h.lo h.hi xl xh
  rw [← samplefF_mean keep] at lo' hi'
  have E1 := (near_ofRatS (sub_finite xf h.meanF) df).1
  have hKc : ((s.samples + 1 : Nat) : Rat) = (s.samples : Rat) + 1 := by simp [Rat.natCast_add]
  have hk1 : (1 : Rat) ≤ (s.samples : Rat) := Rat.natCast_le_natCast.mpr hk
  have hK0 : (0 : Rat) < (s.samples : Rat) + 1 := by grind
  rw [hKc, absRat_div_pos _ hK0] at e
  have xm := sub_sym_bound xl xh h.lo h.hi
  have sb := scaled_step_bound M ((s.samples : Rat) + 1) _ _ _ (by grind) hM0
    ⟨absRat_nonneg _, absRat_le lo' hi'⟩ ⟨absRat_nonneg _, absRat_le xm.1 xm.2⟩
    ⟨absRat_nonneg _, absRat_le (E1.bounds (absRat_ge _)).1 (E1.bounds (absRat_ge _)).2⟩
  -- scaled by the new count the recurrence is additive: `K·m' ≈ K·exact = k·m + x ≈ S + x`
  have acc := (e.mul_left (Rat.le_of_lt hK0)).trans
    ((mul_mean_update (m := s.mean.toRat) (x := x.toRat) (Rat.ne_of_gt hK0)) ▸ h.err.add_right x.toRat)
  have hsK : ((NumF.samplef keep s x).samples : Rat) = (s.samples : Rat) + 1 := hKc
  refine ⟨mf, lo', hi', ?_⟩
  rw [hsK]
  exact acc.mono (by grind)

theorem meanAcc_run (keep : Bool) (M : Rat) (hM : M ≤ bigB) (l : List F64) (hne : l ≠ []) (hn : l.length ≤ P53)
    (hl : ∀ x ∈ l, x.isFinite = true ∧ -M ≤ x.toRat ∧ x.toRat ≤ M) :
    MeanAcc M (runFv keep l) (ratSum (l.map F64.toRat)) := by
  refine runFv_induction keep (P := fun l s => MeanAcc M s (ratSum (l.map F64.toRat))) ?_ ?_ l hne hn hl
  · intro x ⟨xf, xa, xb⟩
    obtain ⟨s1, s2, s3, _, _⟩ := first_step keep x xf
    have q0 : 0 ≤ M * uF := Rat.mul_nonneg (nonneg_of_sym xa xb) (Rat.le_of_lt uF_pos)
    have he := etaF_pos
    refine ⟨s2, s3 ▸ xa, s3 ▸ xb, ?_⟩
    rw [s1, s3, show ((1 : Nat) : Rat) = 1 from rfl]
    simp only [List.map, ratSum]
    constructor <;> grind
  · intro l x hne hn ⟨xf, xa, xb⟩ h
    have hs := runFv_samples keep l
    have hpos := List.length_pos_iff.mpr hne
    have := meanAcc_step keep M hM _ _ x (by omega) (by omega) h xf xa xb
    rwa [List.map_append, ratSum_append, List.map, List.map, ratSum, ratSum, Rat.add_zero]

/-- **Accumulated error of the running mean.**  For a non-empty list of at most `2^53` finite samples of magnitude at
most `M ≤ 2^1021`: the float mean is finite and differs from the exact mean of the sample values by at most
`(n+11)/2 · u · M + (n+3) · η`. -/
theorem mean_acc_error (keep : Bool) (M : Rat) (hM : M ≤ bigB) (l : List F64) (hne : l ≠ []) (hn : l.length ≤ P53)
    (hl : ∀ x ∈ l, x.isFinite = true ∧ -M ≤ x.toRat ∧ x.toRat ≤ M) :
    let r := runFv keep l
    let n : Rat := (l.length : Rat)
    r.mean.isFinite = true ∧ -M ≤ r.mean.toRat ∧ r.mean.toRat ≤ M ∧
    Near ((n + 11) / 2 * (M * uF) + (n + 3) * etaF) r.mean.toRat (mean (l.map F64.toRat)) := by
  intro r n
  have hf := meanAcc_run keep M hM l hne hn hl
  have hn1 : (1 : Rat) ≤ n := Rat.natCast_le_natCast.mpr (List.length_pos_iff.mpr hne)
  have hn0 : (0 : Rat) < n := by grind
  have err := hf.err.div hn0
  rw [runFv_samples] at err
  have hinv : n * n⁻¹ = 1 := Rat.mul_inv_cancel n (Rat.ne_of_gt hn0)
  have hm : n * r.mean.toRat / n = r.mean.toRat := by rw [Rat.div_def]; grind
  have hR : ((n * (n + 1) / 2 + 5 * n) * (M * uF) + (n * (n + 1) + 2 * n) * etaF) / n =
      (n + 11) / 2 * (M * uF) + (n + 3) * etaF := by rw [Rat.div_def]; grind
  rw [hm, hR] at err
  refine ⟨hf.meanF, hf.lo, hf.hi, ?_⟩
  unfold mean; rw [List.length_map]
  exact err

end Rare.C07

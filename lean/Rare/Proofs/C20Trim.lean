import Rare.Model.C20
import Rare.Spec.C20Screen
/-! C20 helper lemmas: the trimming scanner on texts made of tokens (plain runes and terminated escape
sequences), possibly followed by an unterminated escape sequence at the very end. -/
namespace Rare.C20

/-- spec of trimming on tokens: keep whole tokens while fewer than `cols` visible runes were kept -/
def trimToks (cols : Int) : Int → List Tok → List Tok
  | _, [] => []
  | vis, t :: ts =>
    if vis < cols then
      match t with
      | .ch r => .ch r :: trimToks cols (vis + 1) ts
      | .sgr b => .sgr b :: trimToks cols vis ts
    else []

/-- what the scanner keeps of the unterminated sequence at the end -/
def keptTail (cols : Int) : Int → List Tok → List Rune → List Rune
  | vis, [], tail => if vis < cols then tail else []
  | vis, t :: ts, tail =>
    if vis < cols then
      match t with
      | .ch _ => keptTail cols (vis + 1) ts tail
      | .sgr _ => keptTail cols vis ts tail
    else []

theorem renderToks_cons (t : Tok) (ts : List Tok) : renderToks (t :: ts) = t.render ++ renderToks ts := by
  simp [renderToks]

theorem visToks_cons (t : Tok) (ts : List Tok) : visToks (t :: ts) = t.vis ++ visToks ts := by
  simp [visToks]

theorem visibleRunes_esc (X : List Rune) : visibleRunes (27 :: X) = visibleRunes.skipSgr X := by
  simp [visibleRunes, ESC]

theorem visibleRunes_ch (r : Rune) (h : r ≠ 27) (X : List Rune) : visibleRunes (r :: X) = r :: visibleRunes X := by
  have : r ≠ ESC := h
  simp [visibleRunes, this]

theorem skipSgr_m (X : List Rune) : visibleRunes.skipSgr (109 :: X) = visibleRunes X := by
  simp [visibleRunes.skipSgr]

theorem skipSgr_ch (r : Rune) (h : r ≠ 109) (X : List Rune) : visibleRunes.skipSgr (r :: X) = visibleRunes.skipSgr X := by
  simp [visibleRunes.skipSgr, h]

/-- an escape body without `m`, then `m` -/
theorem skipSgr_body (q R : List Rune) (hq : (109 : Nat) ∉ q) :
    visibleRunes.skipSgr (q ++ 109 :: R) = visibleRunes R := by
  induction q with
  | nil => exact skipSgr_m R
  | cons c q ih =>
    rw [List.cons_append, skipSgr_ch c (fun h => hq (by simp [h])), ih (fun h => hq (by simp [h]))]

/-- an escape body without `m` up to the end of the text -/
theorem skipSgr_no_m (q : List Rune) (hq : (109 : Nat) ∉ q) : visibleRunes.skipSgr q = [] := by
  induction q with
  | nil => rfl
  | cons c q ih => rw [skipSgr_ch c (fun h => hq (by simp [h])), ih (fun h => hq (by simp [h]))]

/-- a token as the scanner sees it (with the scanner's own two rune literals) -/
def rtok (E : Esc) : Tok → List Rune
  | .ch r => [r]
  | .sgr b => E.trimEsc :: b ++ [E.trimEnd]

def rtoks (E : Esc) (ts : List Tok) : List Rune := ts.flatMap (rtok E)

theorem rtoks_nil (E : Esc) : rtoks E [] = [] := rfl
theorem rtoks_cons (E : Esc) (t : Tok) (ts : List Tok) : rtoks E (t :: ts) = rtok E t ++ rtoks E ts := by
  simp [rtoks]
theorem rtoks_append (E : Esc) (a b : List Tok) : rtoks E (a ++ b) = rtoks E a ++ rtoks E b := by
  simp [rtoks]

/-- inner loop: an escape body without `m`, then `m` -/
theorem trimGo_inner (E : Esc) (cols vis : Int) (b R : List Rune) (hb : E.trimEnd ∉ b) :
    trimGo E cols true vis (b ++ E.trimEnd :: R) = b.length + 1 + trimGo E cols false vis R := by
  induction b with
  | nil => simp [trimGo]
  | cons x b ih =>
    have hx : x ≠ E.trimEnd := fun h => hb (by simp [h])
    have hb' : E.trimEnd ∉ b := fun h => hb (by simp [h])
    simp [trimGo, hx, ih hb']; omega

/-- inner loop on an escape body without `m` that runs to the end of the text: everything is consumed -/
theorem trimGo_inner_end (E : Esc) (cols vis : Int) (b : List Rune) (hb : E.trimEnd ∉ b) :
    trimGo E cols true vis b = b.length := by
  induction b with
  | nil => simp [trimGo]
  | cons x b ih =>
    have hx : x ≠ E.trimEnd := fun h => hb (by simp [h])
    have hb' : E.trimEnd ∉ b := fun h => hb (by simp [h])
    by_cases hn : b = []
    · subst hn; simp [trimGo]
    · simp [trimGo, hx, hn, ih hb']; omega

def TokScannable (E : Esc) : Tok → Prop
  | .ch r => r ≠ E.trimEsc
  | .sgr b => E.trimEnd ∉ b

/-- a scanner tail: nothing, or the scanner's escape rune and a body without the end rune -/
def ScanTail (E : Esc) (tail : List Rune) : Prop := tail = [] ∨ ∃ b, tail = E.trimEsc :: b ∧ E.trimEnd ∉ b

theorem trimGo_toks_tail (E : Esc) (hE : E.trimEsc ≠ E.trimEnd) (cols : Int) (toks : List Tok) (tail : List Rune)
    (htail : ScanTail E tail) :
    ∀ vis : Int, (∀ t ∈ toks, TokScannable E t) →
    trimGo E cols false vis (rtoks E toks ++ tail) =
      (rtoks E (trimToks cols vis toks)).length + (keptTail cols vis toks tail).length := by
  induction toks with
  | nil =>
    intro vis _
    simp only [rtoks_nil, List.nil_append, trimToks, keptTail, List.length_nil, Nat.zero_add]
    rcases htail with h | ⟨b, h, hb⟩
    · subst h; simp [trimGo]
    · subst h
      by_cases hv : vis < cols
      · simp only [hv, if_true]
        by_cases hn : b = []
        · subst hn; simp [trimGo, hv, hE]
        · simp only [trimGo, hv, if_true, hE, ne_eq, not_false_eq_true, hn, and_self,
            trimGo_inner_end E cols vis b hb, List.length_cons]
          omega
      · simp [trimGo, hv]
  | cons t ts ih =>
    intro vis h
    have hts := fun t ht => h t (List.mem_cons_of_mem _ ht)
    have ht := h t (List.mem_cons_self)
    by_cases hv : vis < cols
    · cases t with
      | ch r =>
        have ht' : r ≠ E.trimEsc := ht
        have e1 : rtoks E (Tok.ch r :: ts) ++ tail = r :: (rtoks E ts ++ tail) := by simp [rtoks_cons, rtok]
        have e2 : trimToks cols vis (Tok.ch r :: ts) = Tok.ch r :: trimToks cols (vis + 1) ts := by
          simp [trimToks, hv]
        have e3 : keptTail cols vis (Tok.ch r :: ts) tail = keptTail cols (vis + 1) ts tail := by
          simp [keptTail, hv]
        rw [e1, e2, e3, rtoks_cons]
        simp only [trimGo, hv, if_true, ht', if_false, ih (vis + 1) hts, rtok, List.length_append, List.length_cons, List.length_nil]
        omega
      | sgr b =>
        have ht' : E.trimEnd ∉ b := ht
        have e1 : rtoks E (Tok.sgr b :: ts) ++ tail = E.trimEsc :: (b ++ E.trimEnd :: (rtoks E ts ++ tail)) := by
          simp [rtoks_cons, rtok]
        have e2 : trimToks cols vis (Tok.sgr b :: ts) = Tok.sgr b :: trimToks cols vis ts := by
          simp [trimToks, hv]
        have e3 : keptTail cols vis (Tok.sgr b :: ts) tail = keptTail cols vis ts tail := by
          simp [keptTail, hv]
        have hne : b ++ E.trimEnd :: (rtoks E ts ++ tail) ≠ [] := by simp
        rw [e1, e2, e3, rtoks_cons]
        simp only [trimGo, hv, if_true, hE, ne_eq, not_false_eq_true, hne, and_self, trimGo_inner E cols vis b _ ht',
          ih vis hts, rtok, List.length_append, List.length_cons, List.length_nil]
        omega
    · have e2 : trimToks cols vis (t :: ts) = [] := by simp [trimToks, hv]
      have e3 : keptTail cols vis (t :: ts) tail = [] := by simp [keptTail, hv]
      have : ∃ r R, rtoks E (t :: ts) ++ tail = r :: R := by
        cases t with
        | ch r => exact ⟨r, rtoks E ts ++ tail, by simp [rtoks_cons, rtok]⟩
        | sgr b => exact ⟨E.trimEsc, b ++ E.trimEnd :: (rtoks E ts ++ tail), by simp [rtoks_cons, rtok]⟩
      obtain ⟨r, R, hr⟩ := this
      rw [e2, e3, hr]; simp [trimGo, hv, rtoks_nil]

/-- the tail is kept whole (and then every token was kept), or not at all -/
theorem keptTail_cases (cols : Int) (toks : List Tok) (tail : List Rune) :
    ∀ vis, (keptTail cols vis toks tail = tail ∧ trimToks cols vis toks = toks) ∨ keptTail cols vis toks tail = [] := by
  induction toks with
  | nil => intro vis; by_cases hv : vis < cols <;> simp [keptTail, trimToks, hv]
  | cons t ts ih =>
    intro vis
    by_cases hv : vis < cols
    · cases t with
      | ch r =>
        rcases ih (vis + 1) with h | h
        · left; simp [keptTail, trimToks, hv, h.1, h.2]
        · right; simp [keptTail, hv, h]
      | sgr b =>
        rcases ih vis with h | h
        · left; simp [keptTail, trimToks, hv, h.1, h.2]
        · right; simp [keptTail, hv, h]
    · right; simp [keptTail, hv]

theorem trimToks_prefix (cols : Int) (toks : List Tok) : ∀ vis, ∃ rest, toks = trimToks cols vis toks ++ rest := by
  induction toks with
  | nil => intro _; exact ⟨[], by simp [trimToks]⟩
  | cons t ts ih =>
    intro vis
    by_cases hv : vis < cols
    · cases t with
      | ch r => obtain ⟨rest, hr⟩ := ih (vis + 1); exact ⟨rest, by simp [trimToks, hv]; exact hr⟩
      | sgr b => obtain ⟨rest, hr⟩ := ih vis; exact ⟨rest, by simp [trimToks, hv]; exact hr⟩
    · exact ⟨t :: ts, by simp [trimToks, hv]⟩

theorem keptTail_nil (cols : Int) (toks : List Tok) (vis : Int) : keptTail cols vis toks [] = [] :=
  (keptTail_cases cols toks [] vis).elim And.left id

/-- number of visible runes kept: never more than the room that was left -/
theorem trimToks_vis_le (cols : Int) (toks : List Tok) :
    ∀ vis, vis + ((visToks (trimToks cols vis toks)).length : Int) ≤ max cols vis := by
  induction toks with
  | nil => intro vis; simp [trimToks, visToks]; omega
  | cons t ts ih =>
    intro vis
    by_cases hv : vis < cols
    · cases t with
      | ch r =>
        have := ih (vis + 1)
        simp [trimToks, hv, visToks_cons, Tok.vis]; omega
      | sgr b =>
        have := ih vis
        simp [trimToks, hv, visToks_cons, Tok.vis]; omega
    · simp [trimToks, hv, visToks]; omega

/-- if something was cut off, the line is full -/
theorem trimToks_full (cols : Int) (toks : List Tok) :
    ∀ vis, trimToks cols vis toks = toks ∨ vis + ((visToks (trimToks cols vis toks)).length : Int) = max cols vis := by
  induction toks with
  | nil => intro vis; left; simp [trimToks]
  | cons t ts ih =>
    intro vis
    by_cases hv : vis < cols
    · cases t with
      | ch r =>
        rcases ih (vis + 1) with h1 | h1
        · left; simp [trimToks, hv, h1]
        · right; simp [trimToks, hv, visToks_cons, Tok.vis]; omega
      | sgr b =>
        rcases ih vis with h1 | h1
        · left; simp [trimToks, hv, h1]
        · right; simp [trimToks, hv, visToks_cons, Tok.vis]; omega
    · right; simp [trimToks, hv, visToks]; omega

/-- the visible part of a trimmed token list is the visible part cut to the room left -/
theorem visToks_trimToks (cols : Int) (toks : List Tok) :
    ∀ vis, visToks (trimToks cols vis toks) = (visToks toks).take (cols - vis).toNat := by
  induction toks with
  | nil => intro vis; simp [trimToks, visToks]
  | cons t ts ih =>
    intro vis
    by_cases hv : vis < cols
    · cases t with
      | ch r =>
        have e : (cols - vis).toNat = (cols - (vis + 1)).toNat + 1 := by omega
        simp [trimToks, hv, visToks_cons, Tok.vis, ih (vis + 1), e]
      | sgr b =>
        simp [trimToks, hv, visToks_cons, Tok.vis, ih vis]
    · have e : (cols - vis).toNat = 0 := by omega
      simp [trimToks, hv, visToks, e]

end Rare.C20

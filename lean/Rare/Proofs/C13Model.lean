import Rare.Model.C13
import Rare.Proofs.C13Order
/-! The closures of `Model/C13.lean` against the orders of `Spec/C13.lean`: what one comparison does to the
captured variables, when a closure answers a pure order whatever was compared before (`Faithful`), and that
`ByContextual` / `ByDate` do so on uniform key sets. -/
namespace Rare.C13

/-- On a literal the kernel reads the characters off `String.ofList` instead of decoding UTF-8. -/
theorem asc_ofList (l : List Char) : asc (String.ofList l) = l.map (fun c => UInt8.ofNat c.toNat) := by
  unfold asc; rw [String.toList_ofList]

theorem byNameSmart_eq_numeric (num : Key → PF) : byNameSmart num = numericLess (fun k => (num k).mag) := by
  funext a b
  have core : ∀ pa pb : PF,
      (if (pa.isNum && pb.isNum) = true then
          if pa.ord ≠ pb.ord then decide (pa.ord < pb.ord) else bytesLt a b
        else if (pa.isNum != pb.isNum) = true then pa.isNum else bytesLt a b)
      = (optLt pa.mag pb.mag || (decide (pa.mag = pb.mag) && bytesLt a b)) := by
    intro pa pb
    cases pa <;> cases pb <;> simp [PF.isNum, PF.mag, PF.ord, optLt]
    rename_i x y
    by_cases h : x = y
    · simp [h]
    · simp [h]
      exact decide_eq_decide.mpr Iff.rfl
  exact core (num a) (num b)

theorem valueSorterEx_byName : valueSorterEx (pureCmp byName) = pureCmp valueLess := by
  funext s a b
  simp only [valueSorterEx, valueLess, byRank, lexLt, pureCmp, byName, intLt]
  by_cases h : a.value = b.value
  · simp [h]
  · simp [h]

/-! ### one comparison of `ByContextualEx` / `ByDate`, by what the closure has captured

The captured variables are in one of three conditions: fresh, settled on a table (a layout), fallen back.
A fresh closure settles on what it infers from its first argument and then answers as the settled one. -/

section
variable {σ : Type} (sets : List SortSet) (lower : Key → Key) (fb : SCmp Key σ)

theorem byContextualEx_fallback (st : CtxState) (h : st.fallback = true) (t : σ) (a b : Key) :
    byContextualEx sets lower fb (st, t) a b = ((fb t a b).1, (st, (fb t a b).2)) := by
  simp [byContextualEx, h]

theorem byContextualEx_set (T : SortSet) (t : σ) (a b : Key) :
    byContextualEx sets lower fb ({ set := some T, fallback := false }, t) a b =
      match T.get (lower a), T.get (lower b) with
      | some v0, some v1 =>
        (if v0 ≠ v1 then decide (v0 < v1) else bytesLt a b, ({ set := some T, fallback := false }, t))
      | _, _ => ((fb t a b).1, ({ set := some T, fallback := true }, (fb t a b).2)) := by
  simp only [byContextualEx]
  rfl

theorem byContextualEx_fresh (t : σ) (a b : Key) :
    byContextualEx sets lower fb ({}, t) a b =
      byContextualEx sets lower fb
        (match inferSortSetByValue sets lower a with
          | some T => { set := some T, fallback := false }
          | none => { set := none, fallback := true }, t) a b := by
  cases h : inferSortSetByValue sets lower a with
  | none => simp [byContextualEx, h]
  | some T => simp [byContextualEx, h]

end

theorem byContextual_fallback (o : Oracle) (sets : List SortSet) (s : CtxState × Unit) (h : s.1.fallback = true)
    (a b : Key) : byContextual o sets s a b = (byNameSmart o.num a b, s) :=
  byContextualEx_fallback sets o.lower _ s.1 h s.2 a b

section
variable {σ : Type} (o : Oracle) (fb : SCmp Key σ)

theorem byDate_fallback (st : DateState) (h : st.fallback = true) (t : σ) (a b : Key) :
    byDate o fb (st, t) a b = ((fb t a b).1, (st, (fb t a b).2)) := by
  simp [byDate, h]

theorem byDate_layout (f : Nat) (t : σ) (a b : Key) :
    byDate o fb ({ format := some f, fallback := false }, t) a b =
      match o.dparse f a, o.dparse f b with
      | some d0, some d1 =>
        (if d0 = d1 then bytesLt a b else decide (d0 < d1), ({ format := some f, fallback := false }, t))
      | _, _ => ((fb t a b).1, ({ format := some f, fallback := true }, (fb t a b).2)) := by
  simp only [byDate]
  rfl

theorem byDate_fresh (t : σ) (a b : Key) :
    byDate o fb ({}, t) a b =
      byDate o fb
        (match o.dfmt a with
          | some f => { format := some f, fallback := false }
          | none => { format := none, fallback := true }, t) a b := by
  cases h : o.dfmt a with
  | none => simp [byDate, h]
  | some f => simp [byDate, h]

end

/-- From `init`, on elements of `P`, the closure `cmp` always answers `less` (whatever happened before). -/
def Faithful {α σ : Type} (cmp : SCmp α σ) (init : σ) (P : α → Prop) (less : α → α → Bool) : Prop :=
  ∃ Inv : σ → Prop, Inv init ∧
    ∀ s a b, Inv s → P a → P b → (cmp s a b).1 = less a b ∧ Inv (cmp s a b).2

theorem Faithful.run_eq {α σ ρ : Type} {cmp : SCmp α σ} {init : σ} {P : α → Prop} {less : α → α → Bool}
    (h : Faithful cmp init P less) (alg : Algo α ρ) (hw : Algo.Within P alg) :
    (Algo.run cmp init alg).1 = Algo.runPure less alg := by
  obtain ⟨Inv, h0, hstep⟩ := h
  exact (Algo.run_eq_runPure cmp less Inv P hstep alg hw init h0).1

theorem Faithful.runSeq_eq {α σ : Type} {cmp : SCmp α σ} {init : σ} {P : α → Prop} {less : α → α → Bool}
    (h : Faithful cmp init P less) (pairs : List (α × α)) (hp : ∀ p ∈ pairs, P p.1 ∧ P p.2) :
    runSeq cmp init pairs = pairs.map (fun p => less p.1 p.2) := by
  obtain ⟨Inv, h0, hstep⟩ := h
  induction pairs generalizing init with
  | nil => rfl
  | cons p rest ih =>
    have hab := hp p (List.mem_cons_self ..)
    have st := hstep init p.1 p.2 h0 hab.1 hab.2
    simp only [runSeq, List.map_cons]
    rw [st.1, ih (fun q hq => hp q (List.mem_cons_of_mem _ hq)) st.2]

theorem faithful_pure {α : Type} (f : α → α → Bool) (P : α → Prop) : Faithful (pureCmp f) () P f :=
  ⟨fun _ => True, trivial, fun _ _ _ _ _ _ => ⟨rfl, trivial⟩⟩

theorem Faithful.reverse {α σ : Type} {cmp : SCmp α σ} {init : σ} {P : α → Prop} {less : α → α → Bool}
    (h : Faithful cmp init P less) : Faithful (reverse cmp) init P (revLess less) := by
  obtain ⟨Inv, h0, hstep⟩ := h
  refine ⟨Inv, h0, fun s a b hs ha hb => ?_⟩
  have := hstep s a b hs ha hb
  exact ⟨by simp [Rare.C13.reverse, revLess, this.1], this.2⟩

theorem Faithful.valueNil {σ : Type} {cmp : SCmp Key σ} {init : σ} {P : Key → Prop} {less : Key → Key → Bool}
    (h : Faithful cmp init P less) :
    Faithful (valueNilSorter cmp) init (fun r : NV => P r.name) (fun a b => less a.name b.name) := by
  obtain ⟨Inv, h0, hstep⟩ := h
  exact ⟨Inv, h0, fun s a b hs ha hb => hstep s a.name b.name hs ha hb⟩

theorem Faithful.mono {α σ : Type} {cmp : SCmp α σ} {init : σ} {P Q : α → Prop} {less : α → α → Bool}
    (h : Faithful cmp init P less) (hq : ∀ a, Q a → P a) : Faithful cmp init Q less := by
  obtain ⟨Inv, h0, hstep⟩ := h
  exact ⟨Inv, h0, fun s a b hs ha hb => hstep s a b hs (hq a ha) (hq b hb)⟩

/-- `sort.Sort` (any algorithm meeting the contract) with a closure that is faithful to an order of the
distinct items returns the unique sorted arrangement, whatever the arrival order. -/
theorem sort_faithful_result {α σ : Type} {cmp : SCmp α σ} {init : σ} {less : α → α → Bool}
    (alg : List α → Algo α (List α)) (hc : SortContract alg) (items arrival : List α)
    (hnd : items.Nodup) (hp : arrival.Perm items)
    (hf : Faithful cmp init (· ∈ items) less) (ho : OrderOn (· ∈ items) less) :
    (Algo.run cmp init (alg arrival)).1 = isort less items := by
  have hf' := hf.mono (Q := (· ∈ arrival)) (fun a h => hp.mem_iff.mp h)
  rw [hf'.run_eq (alg arrival) (hc.within arrival)]
  have hnda : arrival.Nodup := hp.nodup_iff.mpr hnd
  have hoa : OrderOn (· ∈ arrival) less := ho.mono (fun a h => hp.mem_iff.mp h)
  rw [hc.result hnda hoa]
  exact isort_perm_invariant hnda hoa hp

/-- The calendar order of one table, as the closure computes it. -/
theorem calendar_answer (v0 v1 : Nat) (a b : Key) :
    (if v0 ≠ v1 then decide (v0 < v1) else bytesLt a b)
      = (natLt v0 v1 || (decide (v0 = v1) && bytesLt a b)) := by
  by_cases h : v0 = v1
  · simp [h, natLt]
  · simp [h, natLt]

theorem infer_some_get {sets : List SortSet} {lower : Key → Key} {k : Key} {set : SortSet}
    (h : inferSortSetByValue sets lower k = some set) : (set.get (lower k)).isSome = true := by
  exact List.find?_some (p := fun s : SortSet => (s.get (lower k)).isSome) h

/-- Every key infers `some set`: the closure answers the calendar order of `set`. -/
theorem ctx_faithful_set (o : Oracle) (sets : List SortSet) (P : Key → Prop) (set : SortSet)
    (hall : ∀ k, P k → inferSortSetByValue sets o.lower k = some set) :
    Faithful (byContextual o sets) ({}, ()) P
      (calendarLess (fun k => (set.get (o.lower k)).getD 0)) := by
  refine ⟨fun s => s = ({}, ()) ∨ s = ({ set := some set, fallback := false }, ()), Or.inl rfl, ?_⟩
  intro s a b hs ha hb
  obtain ⟨v0, hv0⟩ := Option.isSome_iff_exists.mp (infer_some_get (hall a ha))
  obtain ⟨v1, hv1⟩ := Option.isSome_iff_exists.mp (infer_some_get (hall b hb))
  have settled : byContextual o sets ({ set := some set, fallback := false }, ()) a b
      = (calendarLess (fun k => (set.get (o.lower k)).getD 0) a b, ({ set := some set, fallback := false }, ())) := by
    rw [byContextual, byContextualEx_set, hv0, hv1]
    simp only [calendarLess, byRank, lexLt, hv0, hv1, Option.getD_some, calendar_answer]
  have step : byContextual o sets s a b = byContextual o sets ({ set := some set, fallback := false }, ()) a b := by
    rcases hs with rfl | rfl
    · rw [byContextual, byContextualEx_fresh, hall a ha]
    · rfl
  rw [step, settled]
  exact ⟨rfl, Or.inr rfl⟩

/-- No key is in any table: the closure answers its fallback. -/
theorem ctx_faithful_none (o : Oracle) (sets : List SortSet) (P : Key → Prop)
    (hall : ∀ k, P k → inferSortSetByValue sets o.lower k = none) :
    Faithful (byContextual o sets) ({}, ()) P (byNameSmart o.num) := by
  refine ⟨fun s => s = ({}, ()) ∨ s = ({ set := none, fallback := true }, ()), Or.inl rfl, ?_⟩
  intro s a b hs ha _
  have step : byContextual o sets s a b = byContextual o sets ({ set := none, fallback := true }, ()) a b := by
    rcases hs with rfl | rfl
    · rw [byContextual, byContextualEx_fresh, hall a ha]
    · rfl
  rw [step, byContextual_fallback o sets _ rfl]
  exact ⟨rfl, Or.inr rfl⟩

theorem find?_strengthen {α : Type} (p q : α → Bool) (x : α) (l : List α) (h : l.find? p = some x)
    (hq : q x = true) (himp : ∀ y, q y = true → p y = true) : l.find? q = some x := by
  rw [List.find?_eq_some_iff_append] at h ⊢
  obtain ⟨_, as, bs, e, hn⟩ := h
  refine ⟨hq, as, bs, e, fun a ha => ?_⟩
  cases hqa : q a with
  | false => rfl
  | true => have := hn a ha; rw [himp a hqa] at this; exact this

theorem tablesOf_find (o : Oracle) (sets : List SortSet) (keys : List Key) :
    (tablesOf o sets).find? (fun t => keys.all (fun k => (t k).isSome))
      = (sets.find? (fun set => keys.all (fun k => (set.get (o.lower k)).isSome))).map
          (fun set k => set.get (o.lower k)) := by
  unfold tablesOf
  rw [List.find?_map]
  rfl

/-- What `contextual` denotes on a key set: the calendar order of the first table that holds every key,
the numeric order if there is none. -/
theorem contextualSpec_eq (o : Oracle) (sets : List SortSet) (keys : List Key) :
    contextualSpec o sets keys =
      match sets.find? (fun set => keys.all (fun k => (set.get (o.lower k)).isSome)) with
      | some set => calendarLess (fun k => (set.get (o.lower k)).getD 0)
      | none => numericSpec o := by
  unfold contextualSpec contextualSpecLess
  rw [tablesOf_find]
  cases sets.find? (fun set => keys.all (fun k => (set.get (o.lower k)).isSome)) <;> rfl

theorem ctxUniform_cases {o : Oracle} {sets : List SortSet} {k0 : Key} {rest : List Key}
    (hu : ctxUniform o sets (k0 :: rest) = true) :
    ∀ k ∈ k0 :: rest, inferSortSetByValue sets o.lower k = inferSortSetByValue sets o.lower k0 := by
  intro k hk
  simp only [ctxUniform, List.all_eq_true] at hu
  exact eq_of_beq (hu k hk)

/-- `contextual`: on a uniform key set the stateful closure answers the specified order. -/
theorem ctx_faithful (o : Oracle) (sets : List SortSet) (keys : List Key)
    (hu : ctxUniform o sets keys = true) :
    Faithful (byContextual o sets) ({}, ()) (· ∈ keys) (contextualSpec o sets keys) := by
  cases keys with
  | nil => exact ⟨fun _ => True, trivial, fun _ a _ _ ha _ => absurd ha (by simp)⟩
  | cons k0 rest =>
    have hall := ctxUniform_cases hu
    have hk0 : ∀ {set : SortSet}, (k0 :: rest).all (fun k => (set.get (o.lower k)).isSome) = true →
        (set.get (o.lower k0)).isSome = true :=
      fun h => List.all_eq_true.mp h k0 (List.mem_cons_self ..)
    rw [contextualSpec_eq]
    -- the first table that holds `k0` is the first that holds every key, or none holds `k0`
    cases h0 : inferSortSetByValue sets o.lower k0 with
    | some set =>
      have hall' : ∀ k, k ∈ k0 :: rest → inferSortSetByValue sets o.lower k = some set :=
        fun k hk => (hall k hk).trans h0
      rw [find?_strengthen _ _ set sets h0 (List.all_eq_true.mpr fun k hk => infer_some_get (hall' k hk))
        (fun _ => hk0)]
      exact ctx_faithful_set o sets _ set hall'
    | none =>
      rw [List.find?_eq_none.mpr fun set hset h => List.find?_eq_none.mp h0 set hset (hk0 h),
        numericSpec, ← byNameSmart_eq_numeric]
      exact ctx_faithful_none o sets _ fun k hk => (hall k hk).trans h0

theorem chrono_answer (d0 d1 : Int) (a b : Key) :
    (if d0 = d1 then bytesLt a b else decide (d0 < d1))
      = (intLt d0 d1 || (decide (d0 = d1) && bytesLt a b)) := by
  by_cases h : d0 = d1
  · simp [h, intLt]
  · simp [h, intLt]

/-- Every key has layout `f` and parses with it: the closure answers chronological order. -/
theorem date_faithful_layout {σ : Type} (o : Oracle) (fb : SCmp Key σ) (init : σ) (P : Key → Prop) (f : Nat)
    (hf : ∀ k, P k → o.dfmt k = some f) (hp : ∀ k, P k → (o.dparse f k).isSome = true) :
    Faithful (byDate o fb) ({}, init) P (chronoLess (fun k => (o.dparse f k).getD 0)) := by
  refine ⟨fun s => s = ({}, init) ∨ s = ({ format := some f, fallback := false }, init), Or.inl rfl, ?_⟩
  intro s a b hs ha hb
  obtain ⟨d0, hd0⟩ := Option.isSome_iff_exists.mp (hp a ha)
  obtain ⟨d1, hd1⟩ := Option.isSome_iff_exists.mp (hp b hb)
  have settled : byDate o fb ({ format := some f, fallback := false }, init) a b
      = (chronoLess (fun k => (o.dparse f k).getD 0) a b, ({ format := some f, fallback := false }, init)) := by
    rw [byDate_layout, hd0, hd1]
    simp only [chronoLess, byRank, lexLt, hd0, hd1, Option.getD_some, chrono_answer]
  have step : byDate o fb s a b = byDate o fb ({ format := some f, fallback := false }, init) a b := by
    rcases hs with rfl | rfl
    · rw [byDate_fresh, hf a ha]
    · rfl
  rw [step, settled]
  exact ⟨rfl, Or.inr rfl⟩

/-- No key has a layout: the closure answers whatever its fallback closure answers. -/
theorem date_faithful_none {σ : Type} (o : Oracle) (fb : SCmp Key σ) (init : σ) (P : Key → Prop)
    (less : Key → Key → Bool) (hfb : Faithful fb init P less) (hf : ∀ k, P k → o.dfmt k = none) :
    Faithful (byDate o fb) ({}, init) P less := by
  obtain ⟨InvF, hF0, hstepF⟩ := hfb
  refine ⟨fun s => (s.1 = {} ∨ s.1 = { format := none, fallback := true }) ∧ InvF s.2, ⟨Or.inl rfl, hF0⟩, ?_⟩
  intro (st, t) a b ⟨hs, ht⟩ ha hb
  have step : byDate o fb (st, t) a b = byDate o fb ({ format := none, fallback := true }, t) a b := by
    rcases hs with rfl | rfl
    · rw [byDate_fresh, hf a ha]
    · rfl
  rw [step, byDate_fallback _ _ _ rfl]
  exact ⟨(hstepF t a b ht ha hb).1, Or.inr rfl, (hstepF t a b ht ha hb).2⟩

theorem date_faithful (o : Oracle) (sets : List SortSet) (keys : List Key)
    (hu : dateUniform o sets keys = true) :
    Faithful (byDateWithContextual o sets) ({}, {}, ()) (· ∈ keys) (dateSpec o sets keys) := by
  cases keys with
  | nil => exact ⟨fun _ => True, trivial, fun _ a _ _ ha _ => absurd ha (by simp)⟩
  | cons k0 rest =>
    simp only [dateUniform] at hu
    cases h0 : o.dfmt k0 with
    | some f =>
      rw [h0] at hu
      simp only [List.all_eq_true, Bool.and_eq_true, beq_iff_eq] at hu
      have hspec : dateSpec o sets (k0 :: rest) = chronoLess (fun k => (o.dparse f k).getD 0) := by
        unfold dateSpec dateSpecLess
        simp only [h0]
        rw [if_pos]
        simp only [List.all_eq_true, Bool.and_eq_true, beq_iff_eq]
        exact hu
      rw [hspec]
      exact date_faithful_layout o _ _ _ f (fun k hk => (hu k hk).1) (fun k hk => (hu k hk).2)
    | none =>
      rw [h0] at hu
      simp only [Bool.and_eq_true, List.all_eq_true, Option.isNone_iff_eq_none] at hu
      have hspec : dateSpec o sets (k0 :: rest) = contextualSpec o sets (k0 :: rest) := by
        unfold dateSpec dateSpecLess
        simp only [h0]
      rw [hspec]
      exact date_faithful_none o _ _ _ _ (ctx_faithful o sets _ hu.2) hu.1

theorem numericLess_strictTotal (mag : Key → Option Int) : StrictTotal (numericLess mag) :=
  byRank_key_strictTotal _ optLt_strictTotal

theorem calendarLess_strictTotal (pos : Key → Nat) : StrictTotal (calendarLess pos) :=
  byRank_key_strictTotal _ natLt_strictTotal

theorem chronoLess_strictTotal (inst : Key → Int) : StrictTotal (chronoLess inst) :=
  byRank_key_strictTotal _ intLt_strictTotal

theorem contextualSpecLess_strictTotal (tables : List (Key → Option Nat)) (fb : Key → Key → Bool)
    (hfb : StrictTotal fb) (keys : List Key) : StrictTotal (contextualSpecLess tables fb keys) := by
  unfold contextualSpecLess
  split
  · exact calendarLess_strictTotal _
  · exact hfb

theorem dateSpecLess_strictTotal (layoutOf : Key → Option Nat) (inst : Nat → Key → Option Int)
    (fb : Key → Key → Bool) (hfb : StrictTotal fb) (keys : List Key) :
    StrictTotal (dateSpecLess layoutOf inst fb keys) := by
  unfold dateSpecLess
  split
  · exact hfb
  · split
    · split
      · exact chronoLess_strictTotal _
      · exact hfb
    · exact hfb

theorem valueLess_strictTotal : StrictTotal valueLess :=
  byRank_strictTotalOn (lexLt_strictTotal intLt_strictTotal bytesLt_strictTotal)
    (fun a b _ _ e => by
      cases a; cases b
      simp only [Prod.mk.injEq] at e
      simp [e.1, e.2])

end Rare.C13

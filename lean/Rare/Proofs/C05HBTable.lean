import Rare.Proofs.C05HB
import Rare.Proofs.Lockset
/-!
# From the race check on a table to data-race freedom of an execution (C05)

`lockset_ok` (Props/C05) is a statement about TABLES of access sites; `Proofs/C05HB.lean` is a statement about
EXECUTIONS.  What connects the two is what the extractor's syntactic analysis is trusted for.  `Abstracts` writes that
trust down as a hypothesis – every access of the execution is made at a site of the table; two accesses to the same
location are sites the table calls conflicting; a site marked atomic is an atomic access; a site marked "W"/"R" is
executed while the thread holds that mutex exclusively / as a reader; a site the table orders with another role is
ordered with it by happens-before – and `table_no_race` proves: a table that passes the check + an execution it
abstracts ⇒ the execution has no data race.
-/
namespace Rare.Lockset.HB2
open Rare.Gen.Access (Acc)

structure Abstracts (tr : List Ev) (hs : Nat → Locks) (rows : List Acc) (site : Nat → Option Acc)
    (mid : String → Nat) : Prop where
  covered : ∀ (k : Nat) (e : Ev) (x : Nat) (w a : Bool), tr[k]? = some e → e.op = Op.acc x w a →
    ∃ r, site k = some r ∧ r ∈ rows
  conflicts : ∀ (i j : Nat) (a b : Ev) (ra rb : Acc) (x : Nat) (w1 a1 w2 a2 : Bool),
    tr[i]? = some a → tr[j]? = some b → site i = some ra → site j = some rb →
    a.op = Op.acc x w1 a1 → b.op = Op.acc x w2 a2 → (w1 = true ∨ w2 = true) → Lockset.conflict ra rb = true
  atomic : ∀ (k : Nat) (e : Ev) (x : Nat) (w a : Bool) (r : Acc), tr[k]? = some e → e.op = Op.acc x w a →
    site k = some r → r.atomic = true → a = true
  excl : ∀ (k : Nat) (e : Ev) (r : Acc), tr[k]? = some e → site k = some r → r.lock = "W" →
    Holds (hs k) (mid r.mutex) e.tid true
  shared : ∀ (k : Nat) (e : Ev) (r : Acc), tr[k]? = some e → site k = some r → r.lock ≠ "" → r.lock ≠ "W" →
    Holds (hs k) (mid r.mutex) e.tid false
  ordered : ∀ (i j : Nat) (a b : Ev) (ra rb : Acc), i < j → tr[i]? = some a → tr[j]? = some b →
    site i = some ra → site j = some rb → a.tid ≠ b.tid → (rb.fn ∈ ra.ord ∨ ra.fn ∈ rb.ord) → HB tr i j

/-- A site's lock mark as a `Holds` fact: "W" is exclusive, any other mark shared. -/
theorem holds_of_mark {h : Locks} {m t : Nat} {lock : String} (he : lock = "W" → Holds h m t true)
    (hs : lock ≠ "" → lock ≠ "W" → Holds h m t false) (hl : lock ≠ "") : Holds h m t (decide (lock = "W")) := by
  by_cases hw : lock = "W"
  · simpa [hw] using he hw
  · simpa [hw] using hs hl hw

/-- **A table that passes the pairwise check + an execution it abstracts ⇒ no data race.** -/
theorem table_no_race {tr : List Ev} {hs : Nat → Locks} {rows : List Acc} {site : Nat → Option Acc}
    {mid : String → Nat} (hex : Exec tr hs) (habs : Abstracts tr hs rows site mid)
    (hsafe : ∀ a ∈ rows, ∀ b ∈ rows, Lockset.conflict a b = true → Lockset.safePair a b = true) : ¬ Race tr := by
  rintro ⟨i, j, a, b, hij, ha, hb, ⟨x, w1, a1, w2, a2, hoa, hob, hw, hat⟩, hne, hnhb⟩
  obtain ⟨ra, hsa, hra⟩ := habs.covered i a x w1 a1 ha hoa
  obtain ⟨rb, hsb, hrb⟩ := habs.covered j b x w2 a2 hb hob
  have hc := habs.conflicts i j a b ra rb x w1 a1 w2 a2 ha hb hsa hsb hoa hob hw
  rcases Lockset.safePair_cases (hsafe ra hra rb hrb hc) with ⟨h1, h2⟩ | ⟨hla, hlb, hm, hx⟩ | hord
  · exact hat ⟨habs.atomic i a x w1 a1 ra ha hoa hsa h1, habs.atomic j b x w2 a2 rb hb hob hsb h2⟩
  · have hA := holds_of_mark (habs.excl i a ra ha hsa) (habs.shared i a ra ha hsa) hla
    have hB := holds_of_mark (habs.excl j b rb hb hsb) (habs.shared j b rb hb hsb) hlb
    rw [← hm] at hB
    exact hnhb (rw_mutex_orders hex hij ha hb hA hB (by rcases hx with h | h <;> simp [h]))
  · exact hnhb (habs.ordered i j a b ra rb hij ha hb hsa hsb hne hord)

/-! ### The hypothesis is satisfiable: a logger-shaped execution and the two table rows it abstracts to -/

def tblDemo : List Ev :=
  [⟨1, .lock 0⟩, ⟨1, .acc 7 true false⟩, ⟨1, .unlock 0⟩, ⟨2, .rlock 0⟩, ⟨2, .acc 7 false false⟩, ⟨2, .runlock 0⟩]

def rowW : Acc := ⟨"DeferLogs", "buf", "buf", "var", true, false, "W", "mux", "", 0, "direct", [], 1⟩
def rowR : Acc := ⟨"Print", "buf", "buf", "var", false, false, "R", "mux", "", 0, "direct", [], 2⟩

def tblSite (k : Nat) : Option Acc := if k = 1 then some rowW else if k = 4 then some rowR else none

theorem tblSite_cases {k : Nat} {r : Acc} (h : tblSite k = some r) : (k = 1 ∧ r = rowW) ∨ (k = 4 ∧ r = rowR) := by
  unfold tblSite at h
  split at h
  · left; exact ⟨by assumption, (Option.some.inj h).symm⟩
  · split at h
    · right; exact ⟨by assumption, (Option.some.inj h).symm⟩
    · cases h

theorem tblDemo_abstracts : Abstracts tblDemo (statesOf tblDemo) [rowW, rowR] tblSite (fun _ => 0) where
  covered := by
    intro k e x w a hk hop
    rcases k with _ | _ | _ | _ | _ | _ | k <;> cases hk
    · cases hop
    · exact ⟨rowW, rfl, by simp⟩
    · cases hop
    · cases hop
    · exact ⟨rowR, rfl, by simp⟩
    · cases hop
  conflicts := by
    intro i j a b ra rb x w1 a1 w2 a2 ha hb hsa hsb hoa hob hw
    rcases tblSite_cases hsa with ⟨rfl, rfl⟩ | ⟨rfl, rfl⟩ <;> rcases tblSite_cases hsb with ⟨rfl, rfl⟩ | ⟨rfl, rfl⟩
    · decide
    · decide
    · decide
    · cases ha; cases hb; cases hoa; cases hob
      rcases hw with h | h <;> cases h
  atomic := by
    intro k e x w a r hk hop hs hat
    rcases tblSite_cases hs with ⟨rfl, rfl⟩ | ⟨rfl, rfl⟩ <;> cases hat
  excl := by
    intro k e r hk hs hl
    rcases tblSite_cases hs with ⟨rfl, rfl⟩ | ⟨rfl, rfl⟩
    · cases hk; decide
    · exact absurd hl (by decide)
  shared := by
    intro k e r hk hs hl hnw
    rcases tblSite_cases hs with ⟨rfl, rfl⟩ | ⟨rfl, rfl⟩
    · exact absurd rfl hnw
    · cases hk; decide
  ordered := by
    intro i j a b ra rb hij ha hb hsa hsb hne hord
    rcases tblSite_cases hsa with ⟨rfl, rfl⟩ | ⟨rfl, rfl⟩ <;> rcases tblSite_cases hsb with ⟨rfl, rfl⟩ | ⟨rfl, rfl⟩ <;>
      simp [rowW, rowR] at hord

/-- … and the two rows pass the pairwise check, so the execution is race free by `table_no_race`. -/
theorem tblDemo_no_race : ¬ Race tblDemo :=
  table_no_race (exec_of_checks _ (by decide) (by decide)) tblDemo_abstracts (by decide)

end Rare.Lockset.HB2

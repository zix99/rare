import Rare.Model.C18Zone
import Rare.Proofs.C18Dur
/-! C18: one compiled stage over a history of arguments; the 86400-second window that
starts at the wall clock's midnight against the local day. -/
namespace Rare.C18

/-- A stage whose step ignores and keeps its memory answers every argument on its own. -/
theorem run_stateless {σ : Type} (f : Bytes → Out) (s : σ) (xs : List Bytes) :
    (StageM.mk fun (s : σ) a => (f a, s)).run s xs = xs.map f := by
  induction xs with
  | nil => rfl
  | cons a r ih => simp only [StageM.run, List.map_cons, ih]

theorem run_getElem? {σ : Type} (f : Bytes → Out) (s : σ) (xs : List Bytes) (i : Nat) :
    ((StageM.mk fun (s : σ) a => (f a, s)).run s xs)[i]? = xs[i]?.map f := by
  rw [run_stateless]; simp

theorem run_last {σ : Type} (f : Bytes → Out) (s : σ) (pre : List Bytes) (a : Bytes) :
    ((StageM.mk fun (s : σ) a => (f a, s)).run s (pre ++ [a])).getLast? = some (f a) := by
  rw [run_stateless]; simp

/-- The attribute functions read the local DAY only. -/
theorem timeAttr_of_localDays (name : Bytes) (u v o o' : Int) (h : localDays v o' = localDays u o) :
    timeAttr name v o' = timeAttr name u o := by
  simp only [timeAttr, h]

theorem dayWindow_iff (u v o : Int) :
    (u - localSecs u o ≤ v ∧ v < u - localSecs u o + 86400) ↔ localDays v o = localDays u o := by
  unfold localSecs localDays
  omega

theorem timeAttrStageIn_num (z : ZoneTab) (attr : Bytes) (u : Int) (hu : inInt64 u = true)
    (hy : yearInRange u (z.lookup u).off = true) (b : Bytes) (hb : timeAttrIn z attr u = some b) :
    timeAttrStageIn z attr (itoa u) = .val b := by
  simp only [timeAttrStageIn, atoi_itoa u hu, hy, Bool.not_true, Bool.false_eq_true, if_false, hb]

theorem timeFormatStageIn_num (z : ZoneTab) (layout : Bytes) (u : Int) (hu : inInt64 u = true)
    (hy : yearInRange u (z.lookup u).off = true) :
    timeFormatStageIn z layout (itoa u) = .val (formatLayout layout (timeVIn z u)) := by
  simp only [timeFormatStageIn, atoi_itoa u hu, hy, Bool.not_true, Bool.false_eq_true, if_false]

end Rare.C18

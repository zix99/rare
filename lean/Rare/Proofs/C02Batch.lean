import Rare.Model.C02Batch
/-!
Proofs for `Model/C02Batch`: the slice-level loops of the source refine the list-level loops of
`Rare.Batcher` – a batch that was sent reads, at any later time, what it held when it was sent.
-/
namespace Rare.C02.BatchH
open Rare.Batcher

theorem take_set_succ {β : Type} (l : List β) (n : Nat) (v : β) (h : n < l.length) :
    (l.set n v).take (n + 1) = l.take n ++ [v] := by
  induction l generalizing n with
  | nil => simp at h
  | cons a t ih =>
    cases n with
    | zero => simp
    | succ k =>
      simp only [List.length_cons] at h
      simp [ih k (by omega)]

theorem arrayOf_set_eq {α : Type} (heap : List (List (Option α))) (a : Nat) (v : List (Option α))
    (h : a < heap.length) : arrayOf (heap.set a v) a = v := by
  simp [arrayOf, List.getD, h]

theorem arrayOf_set_ne {α : Type} (heap : List (List (Option α))) (a q : Nat) (v : List (Option α))
    (h : q ≠ a) : arrayOf (heap.set a v) q = arrayOf heap q := by
  simp [arrayOf, List.getD, List.getElem?_set_ne (Ne.symm h)]

theorem arrayOf_append_lt {α : Type} (heap l : List (List (Option α))) (q : Nat)
    (h : q < heap.length) : arrayOf (heap ++ l) q = arrayOf heap q := by
  simp [arrayOf, List.getD, List.getElem?_append_left h]

theorem arrayOf_append_len {α : Type} (heap : List (List (Option α))) (v : List (Option α)) :
    arrayOf (heap ++ [v]) heap.length = v := by
  simp [arrayOf, List.getD]

theorem readSent_congr {α : Type} (heap heap' : List (List (Option α))) (sent : List (Sl × Nat))
    (h : ∀ p ∈ sent, arrayOf heap' p.1.arr = arrayOf heap p.1.arr) : readSent heap' sent = readSent heap sent := by
  unfold readSent
  apply List.map_congr_left
  intro p hp
  rw [h p hp]

theorem readSent_append {α : Type} (heap : List (List (Option α))) (a b : List (Sl × Nat)) :
    readSent heap (a ++ b) = readSent heap a ++ readSent heap b := by
  simp [readSent]

/-- the flush body of both source loops, composed -/
def flushC {α : Type} (bs : Nat) (s : HSt α) : HSt α :=
  { heap := s.heap ++ [List.replicate bs none], cur := ⟨s.heap.length, 0, bs⟩,
    start := s.start + s.cur.len, sent := s.sent ++ [(s.cur, s.start)] }

def stepC {α : Type} (timed : Bool) (bs : Nat) (s : HSt α) (x : α × Bool) : HSt α :=
  let s1 := appendOp x.1 s
  if decide (s1.cur.len ≥ bs) || (timed && x.2) then flushC bs s1 else s1

def finishC {α : Type} (s : HSt α) : HSt α :=
  if s.cur.len > 0 then { s with sent := s.sent ++ [(s.cur, s.start)] } else s

/-- the loop of the source with (`true`) or without the flush timer -/
def sourceLoop (timed : Bool) : BLoop := if timed then timedLoop else plainLoop

theorem stepH_source {α : Type} (timed : Bool) (bs : Nat) :
    (stepH (sourceLoop timed) bs : HSt α → α × Bool → HSt α) = stepC timed bs := by
  funext s x
  cases timed
  · simp only [stepH, sourceLoop, plainLoop, execs, List.foldl, exec, condHolds, stepC, flushC, Bool.false_and,
      Bool.or_false, Bool.false_eq_true, if_false]
  · simp only [stepH, sourceLoop, timedLoop, execs, List.foldl, exec, condHolds, stepC, flushC, Bool.true_and, if_true]

theorem finishH_source {α : Type} (timed : Bool) (bs : Nat) (s : HSt α) :
    finishH (sourceLoop timed) bs s = finishC s := by
  cases timed <;> rfl

theorem initH_source {α : Type} (timed : Bool) (bs : Nat) :
    (initH (sourceLoop timed) bs : HSt α) = ⟨[List.replicate bs none], ⟨0, 0, bs⟩, 1, []⟩ := by
  cases timed <;> rfl

/-- the simulation relation between the heap machine and the list-level loop state: `batch` is a prefix of an
array of its own with `batchSize` cells, no sent batch lives in that array, and every sent batch still reads
what the list-level loop sent -/
structure Sim {α : Type} (bs : Nat) (h : HSt α) (a : LoopSt α) : Prop where
  start : h.start = a.start
  arr : h.cur.arr < h.heap.length
  len : h.cur.len = a.cur.length
  cap : h.cur.cap = bs
  alen : (arrayOf h.heap h.cur.arr).length = bs
  cur : (arrayOf h.heap h.cur.arr).take h.cur.len = a.cur.map some
  sentArr : ∀ p ∈ h.sent, p.1.arr < h.heap.length ∧ p.1.arr ≠ h.cur.arr
  sent : readSent h.heap h.sent = a.out.map fun b => (b.lines.map some, b.start)

theorem sim_init {α : Type} (bs : Nat) :
    Sim bs (⟨[List.replicate bs none], ⟨0, 0, bs⟩, 1, []⟩ : HSt α) ⟨[], [], 1⟩ :=
  ⟨rfl, Nat.zero_lt_one, rfl, rfl, List.length_replicate, rfl, fun _ h => (nomatch h), rfl⟩

/-- while there is room the append writes in place, into a cell no sent batch can see -/
theorem sim_append {α : Type} {bs : Nat} {h : HSt α} {a : LoopSt α} (hs : Sim bs h a) (hlt : h.cur.len < bs)
    (x : α) : Sim bs (appendOp x h) { a with cur := a.cur ++ [x] } := by
  obtain ⟨h1, h2, h3, h5, h6, h7, h8, h9⟩ := hs
  unfold appendOp
  rw [if_pos (by omega)]
  refine ⟨h1, by simpa using h2, by simp [h3], h5, ?_, ?_, fun p hp => ⟨by simpa using (h8 p hp).1, (h8 p hp).2⟩, ?_⟩
  · rw [arrayOf_set_eq _ _ _ h2, List.length_set, h6]
  · rw [arrayOf_set_eq _ _ _ h2, take_set_succ _ _ _ (by omega), h7, List.map_append]
    rfl
  · rw [readSent_congr h.heap _ h.sent (fun p hp => arrayOf_set_ne _ _ _ _ (h8 p hp).2), h9]

/-- the flush sends `batch` and moves on to a NEW array: what was sent is out of reach of later appends -/
theorem sim_flush {α : Type} {bs : Nat} {h : HSt α} {a : LoopSt α} (hs : Sim bs h a) :
    Sim bs (flushC bs h) ⟨a.out ++ [⟨a.cur, a.start⟩], [], a.start + a.cur.length⟩ := by
  obtain ⟨h1, h2, h3, h5, h6, h7, h8, h9⟩ := hs
  have hlen : (h.heap ++ [List.replicate bs (none : Option α)]).length = h.heap.length + 1 := by simp
  -- an array of the old heap is still there and is not the new one
  have hold : ∀ q, q < h.heap.length → q < (h.heap ++ [List.replicate bs (none : Option α)]).length ∧ q ≠ h.heap.length :=
    fun q hq => ⟨hlen ▸ Nat.lt_succ_of_lt hq, Nat.ne_of_lt hq⟩
  unfold flushC
  refine ⟨by rw [← h1, ← h3], hlen ▸ Nat.lt_succ_self _, rfl, rfl, ?_, rfl, fun p hp => ?_, ?_⟩
  · dsimp only
    rw [arrayOf_append_len, List.length_replicate]
  · rcases List.mem_append.mp hp with hp | hp
    · exact hold _ (h8 p hp).1
    · obtain rfl := List.mem_singleton.mp hp
      exact hold _ h2
  · dsimp only
    rw [readSent_append, List.map_append,
      readSent_congr _ _ h.sent (fun p hp => arrayOf_append_lt _ _ _ (h8 p hp).1), h9]
    congr 1
    show [((arrayOf _ h.cur.arr).take h.cur.len, h.start)] = _
    rw [arrayOf_append_lt _ _ _ h2, h7, h1]
    rfl

/-- one scanned line; at the loop head there is room in `batch` -/
theorem sim_step {α : Type} (timed : Bool) (bs : Nat) (h : HSt α) (a : LoopSt α) (x : α × Bool)
    (hs : Sim bs h a ∧ h.cur.len < bs) :
    Sim bs (stepC timed bs h x) (step bs a (x.1, timed && x.2)) ∧ (stepC timed bs h x).cur.len < bs := by
  have h1 := sim_append hs.1 hs.2 x.1
  have hlen : (a.cur ++ [x.1]).length = (appendOp x.1 h).cur.len := h1.len.symm
  unfold stepC step
  dsimp only
  rw [hlen]
  split
  · exact ⟨hlen ▸ sim_flush h1, Nat.lt_of_le_of_lt (Nat.zero_le _) hs.2⟩
  · rename_i hc
    simp only [Bool.or_eq_true, decide_eq_true_eq, not_or] at hc
    exact ⟨h1, by omega⟩

theorem sim_foldl {α : Type} (timed : Bool) (bs : Nat) (ls : List (α × Bool)) (h : HSt α) (a : LoopSt α)
    (hs : Sim bs h a ∧ h.cur.len < bs) :
    Sim bs (ls.foldl (stepC timed bs) h) ((ls.map fun x => (x.1, timed && x.2)).foldl (step bs) a) := by
  induction ls generalizing h a with
  | nil => exact hs.1
  | cons x t ih => exact ih _ _ (sim_step timed bs h a x hs)

theorem sim_finish {α : Type} (bs : Nat) (h : HSt α) (a : LoopSt α) (hs : Sim bs h a) :
    readSent (finishC h).heap (finishC h).sent = (finish a).map fun b => (b.lines.map some, b.start) := by
  unfold finishC finish
  rw [← hs.len]
  split
  · simp only [readSent_append, List.map_append, hs.sent]
    simp [readSent, hs.cur, hs.start]
  · exact hs.sent

/-- the slice-level run of either source loop: what the sent batches read after any number of scanned lines
is what the list-level loop had sent by then … -/
theorem midRead_source {α : Type} (timed : Bool) (bs : Nat) (hbs : 1 ≤ bs) (ls : List (α × Bool)) :
    let s := ls.foldl (stepH (sourceLoop timed) bs) (initH (sourceLoop timed) bs)
    readSent s.heap s.sent =
      (((ls.map fun x => (x.1, timed && x.2)).foldl (step bs) ⟨[], [], 1⟩).out.map fun b => (b.lines.map some, b.start)) := by
  rw [stepH_source, initH_source]
  exact (sim_foldl timed bs ls _ _ ⟨sim_init bs, hbs⟩).sent

/-- … and read at the very end, the list-level run -/
theorem lateRead_source {α : Type} (timed : Bool) (bs : Nat) (hbs : 1 ≤ bs) (ls : List (α × Bool)) :
    lateRead (runH (sourceLoop timed) bs ls) =
      (run bs (ls.map fun x => (x.1, timed && x.2))).map fun b => (b.lines.map some, b.start) := by
  unfold lateRead runH run
  rw [finishH_source, stepH_source, initH_source]
  exact sim_finish bs _ _ (sim_foldl timed bs ls _ _ ⟨sim_init bs, hbs⟩)

theorem numbered_map {α : Type} (bs : List (Batch α)) :
    numbered (bs.map fun b => (b.lines.map some, b.start)) = (bs.flatMap lineNumbers).map fun p => (some p.1, p.2) := by
  induction bs with
  | nil => rfl
  | cons b t ih =>
    simp only [numbered, List.map_cons, List.flatMap_cons, List.map_append] at ih ⊢
    rw [ih]
    congr 1
    simp [lineNumbers, List.zipIdx_map, Prod.map]

end Rare.C02.BatchH

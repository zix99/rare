import Rare.Proofs.C16
/-!
C16, numbers: the exact relation between `isNumeric` and the RFC 8259 number grammar (`parseNumber`):
`isNumeric s` iff `s` is a complete JSON number written with digits and the decimal point only (no sign,
no exponent).
-/
namespace Rare.C16

/-- written with digits and the decimal point only -/
def plainChars (s : Bytes) : Bool := s.all fun c => isDig c || c == 0x2e

theorem plainChars_append (a b : Bytes) : plainChars (a ++ b) = (plainChars a && plainChars b) := by
  simp [plainChars]

/-- a text of digits and points cannot start an exponent -/
theorem parseExp_plain (b : Bytes) (hb : plainChars b = true) : parseExp b = some (0, b) := by
  cases b with
  | nil => simp [parseExp]
  | cons c r =>
    have hc : isDig c = true ∨ c = 0x2e := by
      simp only [plainChars, List.all_cons, Bool.and_eq_true, Bool.or_eq_true, beq_iff_eq] at hb
      exact hb.1
    have h : c ≠ 0x65 ∧ c ≠ 0x45 := by
      rcases hc with h | rfl
      · exact ⟨isDig_ne c _ h (by decide), isDig_ne c _ h (by decide)⟩
      · decide
    simp [parseExp, h]

theorem shape_of_plain_number (s : Bytes) (v : JVal) (hp : plainChars s = true) (h : parseNumber s = some (v, [])) :
    ∃ ip fp, ip ≠ [] ∧ ip.all isDig = true ∧ fp.all isDig = true ∧ ¬ (1 < ip.length ∧ ip.head? = some 0x30) ∧
      ((s = ip ∧ fp = []) ∨ (s = ip ++ 0x2e :: fp ∧ fp ≠ [])) := by
  have hneg : ¬ (s.head? = some 0x2d) := by
    rintro e
    cases s with
    | nil => cases e
    | cons a r => cases e; simp [plainChars, isDig] at hp
  obtain ⟨ip, rest, hsp, rfl, hall, hhead⟩ := span_spec isDig s
  unfold parseNumber at h
  simp only [hneg, if_false, hsp] at h
  by_cases hip : ip = []
  · simp [hip] at h
  rw [if_neg hip] at h
  by_cases hnz : 1 < ip.length ∧ ip.head? = some 0x30
  · rw [if_pos hnz] at h; cases h
  rw [if_neg hnz] at h
  rw [plainChars_append, Bool.and_eq_true] at hp
  cases rest with
  | nil => exact ⟨ip, [], hip, hall, rfl, hnz, .inl ⟨List.append_nil _, rfl⟩⟩
  | cons c r =>
    -- the rest is plain and does not start with a digit: it starts with the point
    have hpr := hp.2
    simp only [plainChars, List.all_cons, Bool.and_eq_true, Bool.or_eq_true, beq_iff_eq, hhead c r rfl] at hpr
    have hc : c = 0x2e := by simpa using hpr.1
    subst hc
    obtain ⟨fp, rest2, hsp2, rfl, hfall, _⟩ := span_spec isDig r
    have hp2 : plainChars rest2 = true := by
      have := hpr.2
      rw [List.all_append, Bool.and_eq_true] at this
      exact this.2
    simp only [parseFrac, if_true, hsp2] at h
    by_cases hfp : fp = []
    · simp [hfp] at h
    rw [if_neg hfp] at h
    simp only [parseExp_plain _ hp2, Option.some.injEq, Prod.mk.injEq] at h
    rw [h.2, List.append_nil]
    exact ⟨ip, fp, hip, hall, hfall, hnz, .inr ⟨rfl, hfp⟩⟩

theorem isNumeric_iff_plain_number (s : Bytes) :
    isNumeric s = true ↔ (∃ v, parseNumber s = some (v, [])) ∧ plainChars s = true := by
  constructor
  · intro h
    obtain ⟨m, e, hp, _⟩ := isNumeric_parse s [] h endsNumber_nil
    refine ⟨⟨_, by simpa using hp⟩, ?_⟩
    obtain ⟨ip, fp, _, hall, hfall, _, hc⟩ := isNumeric_shape s h
    have hi : plainChars ip = true := by
      simp only [plainChars, List.all_eq_true, Bool.or_eq_true] at hall ⊢
      intro x hx; exact Or.inl (hall x hx)
    have hf : plainChars fp = true := by
      simp only [plainChars, List.all_eq_true, Bool.or_eq_true] at hfall ⊢
      intro x hx; exact Or.inl (hfall x hx)
    rcases hc with ⟨e1, _⟩ | ⟨e1, _⟩
    · rw [e1]; exact hi
    · rw [e1]
      simp only [plainChars, List.all_append, List.all_cons, Bool.and_eq_true] at hi hf ⊢
      exact ⟨hi, by decide, hf⟩
  · rintro ⟨⟨v, hv⟩, hp⟩
    exact (isNumeric_iff_shape s).mpr (shape_of_plain_number s v hp hv)

end Rare.C16

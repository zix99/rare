import Rare.Proofs.C16Sort
/-! C16: the name tables as the matchers build them – distinct names, group numbers in range. -/
namespace Rare.C16

variable {β : Type}

theorem mapSet_keys (m : List (Bytes × β)) (k : Bytes) (v : β) :
    (mapSet m k v).map (·.1) = if m.any (fun p => p.1 == k) then m.map (·.1) else m.map (·.1) ++ [k] := by
  unfold mapSet
  split
  · rw [List.map_map]
    apply List.map_congr_left
    intro p _
    by_cases h : p.1 = k
    · simp [h]
    · simp [h]
  · simp

theorem mapSet_nodup (m : List (Bytes × β)) (k : Bytes) (v : β) (h : (m.map (·.1)).Nodup) :
    ((mapSet m k v).map (·.1)).Nodup := by
  rw [mapSet_keys]
  split
  · exact h
  · rename_i hn
    rw [List.nodup_append]
    refine ⟨h, by simp, ?_⟩
    intro a ha b hb
    simp at hb; subst hb
    intro e; subst e
    apply hn
    obtain ⟨p, hp, e⟩ := List.mem_map.mp ha
    exact List.any_eq_true.mpr ⟨p, hp, by simp [e]⟩

/-- the entries after `m[k] = v`: the other keys' entries, and `(k, v)` -/
theorem mapSet_mem_iff (m : List (Bytes × β)) (k : Bytes) (v : β) (q : Bytes × β) :
    q ∈ mapSet m k v ↔ (q ∈ m ∧ q.1 ≠ k) ∨ q = (k, v) := by
  unfold mapSet
  by_cases hany : m.any (fun p => p.1 == k) = true
  · rw [if_pos hany, List.mem_map]
    constructor
    · rintro ⟨p, hp, e⟩
      by_cases h : p.1 = k
      · simp [h] at e; exact .inr e.symm
      · simp [h] at e; subst e; exact .inl ⟨hp, h⟩
    · rintro (⟨hq, hne⟩ | rfl)
      · exact ⟨q, hq, by simp [hne]⟩
      · obtain ⟨p, hp, e⟩ := List.any_eq_true.mp hany
        exact ⟨p, hp, by simp [e]⟩
  · rw [if_neg hany, List.mem_append, List.mem_singleton]
    refine or_congr_left ⟨fun hq => ⟨hq, fun e => hany (List.any_eq_true.mpr ⟨q, hq, by simp [e]⟩)⟩, And.left⟩

theorem mapSet_keeps_key (m : List (Bytes × β)) (k : Bytes) (v : β) (n : Bytes) (h : n ∈ m.map (·.1)) :
    n ∈ (mapSet m k v).map (·.1) := by
  rw [mapSet_keys]; split
  · exact h
  · simp only [List.mem_append]; exact Or.inl h

theorem regexTableGo_nodup : ∀ (names : List Bytes) (m : List (Bytes × Int)) (i : Nat),
    (m.map (·.1)).Nodup → ((regexTableGo m i names).map (·.1)).Nodup := by
  intro names
  induction names with
  | nil => intro m i h; exact h
  | cons n r ih =>
    intro m i h
    unfold regexTableGo
    apply ih
    split
    · exact mapSet_nodup m n _ h
    · exact h

/-- every entry of the table is a group of the expression: entry `(name, k)` means that the `k`-th
element of `SubexpNames()` is the non-empty `name` -/
theorem regexTableGo_entry (all : List Bytes) : ∀ (names pre : List Bytes) (m : List (Bytes × Int)),
    all = pre ++ names →
    (∀ p ∈ m, 0 ≤ p.2 ∧ all[p.2.toNat]? = some p.1 ∧ p.1 ≠ []) →
    ∀ p ∈ regexTableGo m pre.length names, 0 ≤ p.2 ∧ all[p.2.toNat]? = some p.1 ∧ p.1 ≠ [] := by
  intro names
  induction names with
  | nil => intro pre m _ h; exact h
  | cons n r ih =>
    intro pre m hall h
    unfold regexTableGo
    have hlen : (pre ++ [n]).length = pre.length + 1 := by simp
    rw [← hlen]
    apply ih (pre ++ [n]) _ (by simp [hall])
    intro p hp
    split at hp
    · rename_i hne
      rcases (mapSet_mem_iff m n _ p).mp hp with ⟨hp, _⟩ | hp
      · exact h p hp
      · subst hp
        refine ⟨by simp, ?_, hne⟩
        simp [hall]
    · exact h p hp

theorem regexTableGo_covers : ∀ (names : List Bytes) (m : List (Bytes × Int)) (i : Nat) (n : Bytes),
    (n ∈ m.map (·.1) ∨ (n ∈ names ∧ n ≠ [])) → n ∈ (regexTableGo m i names).map (·.1) := by
  intro names
  induction names with
  | nil => intro m i n h; rcases h with h | h; exact h; simp at h
  | cons a r ih =>
    intro m i n h
    unfold regexTableGo
    apply ih
    rcases h with h | ⟨h, hne⟩
    · left; split
      · exact mapSet_keeps_key m a _ n h
      · exact h
    · rcases List.mem_cons.mp h with e | h
      · subst e; left; rw [if_pos hne]
        exact List.mem_map.mpr ⟨_, (mapSet_mem_iff m n _ _).mpr (.inr rfl), rfl⟩
      · exact Or.inr ⟨h, hne⟩

/-- "last wins": after an entry's group no later group carries the same name -/
theorem regexTableGo_last (all : List Bytes) : ∀ (names pre : List Bytes) (m : List (Bytes × Int)),
    all = pre ++ names →
    (∀ p ∈ m, p.1 ≠ [] ∧ ∀ j, p.2.toNat < j → j < pre.length → all[j]? ≠ some p.1) →
    ∀ p ∈ regexTableGo m pre.length names, p.1 ≠ [] ∧ ∀ j, p.2.toNat < j → j < all.length → all[j]? ≠ some p.1 := by
  intro names
  induction names with
  | nil =>
    intro pre m hall h p hp
    simp at hall; subst hall
    exact h p hp
  | cons n r ih =>
    intro pre m hall h
    unfold regexTableGo
    have hlen : (pre ++ [n]).length = pre.length + 1 := by simp
    rw [← hlen]
    apply ih (pre ++ [n]) _ (by simp [hall])
    have hat : all[pre.length]? = some n := by simp [hall]
    intro p hp
    split at hp
    · rename_i hne
      rcases (mapSet_mem_iff m n _ p).mp hp with ⟨hpm, hk⟩ | e
      · refine ⟨(h p hpm).1, ?_⟩
        intro j h1 h2
        by_cases hj : j < pre.length
        · exact (h p hpm).2 j h1 hj
        · have : j = pre.length := by simp at h2; omega
          subst this
          rw [hat]; intro e; exact hk (by simpa using e.symm)
      · subst e
        refine ⟨hne, ?_⟩
        intro j h1 h2
        simp at h1 h2; omega
    · rename_i hne
      have hn : n = [] := by simpa using hne
      refine ⟨(h p hp).1, ?_⟩
      intro j h1 h2
      by_cases hj : j < pre.length
      · exact (h p hp).2 j h1 hj
      · have : j = pre.length := by simp at h2; omega
        subst this
        rw [hat, hn]; intro e; exact (h p hp).1 (by simpa using e.symm)

theorem regexNameTable_last (names : List Bytes) (p : Bytes × Int) (hp : p ∈ regexNameTable names) :
    ∀ j, p.2.toNat < j → j < names.length → names[j]? ≠ some p.1 :=
  (regexTableGo_last names names [] [] (by simp) (by simp) p hp).2

theorem find?_of_nodup {β : Type} : ∀ (o : List (Bytes × β)) (p : Bytes × β),
    (o.map (·.1)).Nodup → p ∈ o → o.find? (fun q => q.1 == p.1) = some p := by
  intro o
  induction o with
  | nil => intro p _ h; cases h
  | cons q o ih =>
    intro p hn hp
    simp only [List.map_cons, List.nodup_cons] at hn
    rcases List.mem_cons.mp hp with e | hp
    · subst e; simp
    · have hne : ¬ (q.1 == p.1) = true := by
        intro e
        have e' : q.1 = p.1 := by simpa using e
        exact hn.1 (e' ▸ List.mem_map_of_mem (f := (·.1)) hp)
      simp only [List.find?_cons, hne]
      exact ih p hn.2 hp

theorem regexNameTable_nodup (names : List Bytes) : ((regexNameTable names).map (·.1)).Nodup :=
  regexTableGo_nodup names [] 0 (by simp)

theorem regexNameTable_entry (names : List Bytes) (p : Bytes × Int) (hp : p ∈ regexNameTable names) :
    0 ≤ p.2 ∧ p.2 < names.length ∧ names[p.2.toNat]? = some p.1 ∧ p.1 ≠ [] := by
  have := regexTableGo_entry names names [] [] (by simp) (by simp) p hp
  refine ⟨this.1, ?_, this.2⟩
  have h2 := this.2.1
  have : p.2.toNat < names.length := by
    by_cases h : p.2.toNat < names.length
    · exact h
    · rw [List.getElem?_eq_none (by omega)] at h2; cases h2
  omega

theorem dissectTableGo_inv : ∀ (tokens : List (Bytes × Bool)) (m : List (Bytes × Int)) (g : Nat)
    (out : List (Bytes × Int)),
    (m.map (·.1)).Nodup → (∀ p ∈ m, 1 ≤ p.2 ∧ p.2 ≤ g) →
    dissectTableGo m g tokens = .ok out →
    (out.map (·.1)).Nodup ∧ ∀ p ∈ out, 1 ≤ p.2 ∧ p.2 ≤ g + tokens.length := by
  intro tokens
  induction tokens with
  | nil => intro m g out hn hr h; simp [dissectTableGo] at h; subst h; exact ⟨hn, by simpa using hr⟩
  | cons t r ih =>
    intro m g out hn hr h
    obtain ⟨name, skipped⟩ := t
    unfold dissectTableGo at h
    split at h
    · have := ih m g out hn hr h
      exact ⟨this.1, fun p hp => by have := this.2 p hp; simp; omega⟩
    · split at h
      · cases h
      · have := ih _ (g + 1) out (mapSet_nodup m name _ hn) (by
          intro p hp
          rcases (mapSet_mem_iff m name _ p).mp hp with ⟨hp, _⟩ | hp
          · have := hr p hp; omega
          · subst hp; simp; omega) h
        exact ⟨this.1, fun p hp => by have := this.2 p hp; simp; omega⟩

theorem dissectNameTable_inv (tokens : List (Bytes × Bool)) (out : List (Bytes × Int))
    (h : dissectNameTable tokens = .ok out) :
    (out.map (·.1)).Nodup ∧ ∀ p ∈ out, 1 ≤ p.2 ∧ p.2 ≤ tokens.length := by
  have := dissectTableGo_inv tokens [] 0 out (by simp) (by simp) h
  exact ⟨this.1, fun p hp => by have := this.2 p hp; omega⟩

end Rare.C16

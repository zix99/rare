import Rare.Model.C15Tail
import Rare.Proofs.C15Batch
import Rare.Proofs.C04
/-!
Invariant of the composed loop `Rare.C15.Tail.iter` (scanner of C04 + heap-explicit batching loop):

* the scanner state is `Good` for the bytes of the tokens handed out so far (C04);
* every token's view still reads as the bytes it had when it was handed out;
* the batch heap obeys `Batch.WF` and the loop state refines `Rare.Batcher` (`Batcher.Inv`);
* **`sentAt = out.map readBatch`**: every batch on the channel reads NOW exactly as it read when it
  was sent.
-/
namespace Rare.C15.Tail
open Rare.C04 Rare.C15.Batch

/-! ### value-level facts about `Rare.Batcher.Inv` -/

theorem inv_flat {α : Type} {s : Batcher.LoopSt α} {pre : List α} (h : Batcher.Inv s pre) :
    s.out.flatMap (·.lines) ++ s.cur = pre := by
  have := congrArg (List.map Prod.fst) h.nums
  simpa [List.map_flatMap, Batcher.lineNumbers, List.zipIdx_map_fst] using this

/-! ### projections of `advance` -/

@[simp] theorem advance_imm (s : TSt) (i : Imm) (b : St View) (l : Nat) (st : Status) (t : List (View × Bytes)) :
    (s.advance i b l st t).imm = i := rfl
@[simp] theorem advance_b (s : TSt) (i : Imm) (b : St View) (l : Nat) (st : Status) (t : List (View × Bytes)) :
    (s.advance i b l st t).b = b := rfl
@[simp] theorem advance_lines (s : TSt) (i : Imm) (b : St View) (l : Nat) (st : Status) (t : List (View × Bytes)) :
    (s.advance i b l st t).lines = l := rfl
@[simp] theorem advance_status (s : TSt) (i : Imm) (b : St View) (l : Nat) (st : Status) (t : List (View × Bytes)) :
    (s.advance i b l st t).status = st := rfl
@[simp] theorem advance_toks (s : TSt) (i : Imm) (b : St View) (l : Nat) (st : Status) (t : List (View × Bytes)) :
    (s.advance i b l st t).toks = t := rfl

theorem readBatch_advance (s : TSt) (i : Imm) (b : St View) (l : Nat) (st : Status) (t : List (View × Bytes))
    (sl : Slice) : (s.advance i b l st t).readBatch sl = (readSlice b.heap sl).map (readView i.arrays) := rfl

theorem advance_sentAt (s : TSt) (i : Imm) (b : St View) (l : Nat) (st : Status) (t : List (View × Bytes)) :
    (s.advance i b l st t).sentAt =
      s.sentAt ++ (b.out.drop s.b.out.length).map fun x => (readSlice b.heap x.batch).map (readView i.arrays) := rfl

/-! ### `iter` by cases -/

theorem iter_running {source : String} {batchSize fuel : Nat} {timer : Nat → Bool} {s : TSt}
    (h : s.status = .running) :
    iter source batchSize fuel timer s =
      match s.imm.scan fuel with
      | (.tok v bytes, imm') =>
        s.advance imm' (step source batchSize s.b (v, timer s.lines)) (s.lines + 1) .running (s.toks ++ [(v, bytes)])
      | (.done, imm') => s.advance imm' (finish source s.b) s.lines .closed s.toks
      | (.fuel, imm') => s.advance imm' s.b s.lines .stuck s.toks := by
  unfold iter; rw [h]; rfl

theorem iter_not_running {source : String} {batchSize fuel : Nat} {timer : Nat → Bool} {s : TSt}
    (h : s.status ≠ .running) : iter source batchSize fuel timer s = s := by
  unfold iter; split
  · rename_i hr; exact absurd hr h
  · rfl

/-- what every trip preserves holds after any number of trips -/
theorem iterN_ind {source : String} {batchSize fuel : Nat} {timer : Nat → Bool} {P : TSt → Prop}
    (step : ∀ s, P s → P (iter source batchSize fuel timer s)) :
    ∀ (k : Nat) {s : TSt}, P s → P (iterN source batchSize fuel timer k s) := by
  intro k
  induction k with
  | zero => intro s h; exact h
  | succ k ih => intro s h; exact ih (step s h)

/-! ### the invariant -/

structure J (source : String) (s : TSt) : Prop where
  good : s.status ≠ .stuck → Good s.imm (s.toks.map (·.2))
  views : ∀ vb ∈ s.toks, ViewOK s.imm.arrays vb.1 ∧ readView s.imm.arrays vb.1 = vb.2
  lines : s.lines = s.toks.length
  /-- while the loop runs: heap discipline + refinement of the value-level loop -/
  loop : s.status ≠ .closed → WF s.b ∧ Batcher.Inv s.b.abs (s.toks.map (·.1))
  /-- after the loop: the batches are a numbered partition of ALL tokens, which are the lines of the stream -/
  fin : s.status = .closed →
    (s.b.out.map s.b.read).flatMap Batcher.lineNumbers = (s.toks.map (·.1)).zipIdx 1 ∧
    (∀ b ∈ s.b.out.map s.b.read, b.lines ≠ []) ∧
    splitLines s.imm.delivered = s.toks.map (·.2) ∧ s.imm.eof = true
  /-- every line of every sent batch is one of the tokens -/
  mem : ∀ b ∈ s.b.out, ∀ v ∈ readSlice s.b.heap b.batch, v ∈ s.toks.map (·.1)
  /-- **stability**: what was recorded at the moment of each send is what the batch reads as now -/
  sent : s.sentAt = s.b.out.map fun b => s.readBatch b.batch
  src : ∀ b ∈ s.b.out, b.source = source

theorem j_init (source : String) (bufSize batchSize : Nat) (rd : Reader) (h : 1 ≤ bufSize) :
    J source (TSt.init bufSize batchSize rd) where
  good := fun _ => good_init bufSize rd h
  views := by simp [TSt.init]
  lines := rfl
  loop := fun _ => ⟨wf_init batchSize, by simpa [TSt.init, St.abs, St.init, readSlice, cells] using Batcher.inv_init⟩
  fin := by simp [TSt.init]
  mem := by simp [TSt.init, St.init]
  sent := by simp [TSt.init, St.init]
  src := by simp [TSt.init, St.init]

/-- Re-reading a list of tokens' views after the scanner's arrays were extended. -/
theorem map_readView_ext {A B : List Bytes} (hext : Ext A B) (vs : List View) (h : ∀ v ∈ vs, ViewOK A v) :
    vs.map (readView B) = vs.map (readView A) :=
  List.map_congr_left fun v hv => (readView_ext hext (h v hv)).1

theorem scan_ext (f : Nat) {s : Imm} {C : Bytes} (hinv : Inv s C) : Ext s.arrays (s.scan f).2.arrays :=
  scan_closed (closed_ext s.arrays) f hinv (Ext.refl _)

/-- the recorded reads are updated consistently by `advance` when old batches read the same -/
theorem advance_sent {s : TSt} {i : Imm} {b : St View} {l : Nat} {st : Status} {t : List (View × Bytes)}
    (hs : s.sentAt = s.b.out.map fun x => s.readBatch x.batch) (hp : s.b.out <+: b.out)
    (hold : ∀ x ∈ s.b.out, (readSlice b.heap x.batch).map (readView i.arrays) = s.readBatch x.batch) :
    (s.advance i b l st t).sentAt = (s.advance i b l st t).b.out.map fun x => (s.advance i b l st t).readBatch x.batch := by
  rw [advance_sentAt, hs]
  have hb : b.out = s.b.out ++ b.out.drop s.b.out.length := (List.prefix_iff_eq_append.mp hp).symm
  show _ = b.out.map fun x => (readSlice b.heap x.batch).map (readView i.arrays)
  conv => rhs; rw [hb]
  rw [List.map_append]
  congr 1
  exact (List.map_congr_left hold).symm

theorem j_iter {source : String} (batchSize fuel : Nat) (timer : Nat → Bool) {s : TSt} (h : J source s) :
    J source (iter source batchSize fuel timer s) := by
  unfold iter
  split
  · rename_i hrun
    have hgood := h.good (by rw [hrun]; decide)
    obtain ⟨C, hinv, _⟩ := id hgood
    have hsg := scan_good fuel hgood
    have hpost := scan_post fuel hinv
    have hext := scan_ext fuel hinv
    obtain ⟨hwf, hbinv⟩ := h.loop (by rw [hrun]; decide)
    -- old views stay valid and keep their contents
    have hviews : ∀ vb ∈ s.toks, ViewOK (s.imm.scan fuel).2.arrays vb.1 ∧
        readView (s.imm.scan fuel).2.arrays vb.1 = vb.2 := by
      intro vb hvb
      obtain ⟨h1, h2⟩ := h.views vb hvb
      obtain ⟨h3, h4⟩ := readView_ext hext h1
      exact ⟨h4, by rw [h3, h2]⟩
    have hok : ∀ x ∈ s.b.out, ∀ v ∈ readSlice s.b.heap x.batch, ViewOK s.imm.arrays v := by
      intro x hx v hv
      have := h.mem x hx v hv
      simp only [List.mem_map] at this
      obtain ⟨vb, hvb, rfl⟩ := this
      exact (h.views vb hvb).1
    generalize hsc : s.imm.scan fuel = r at hsg hpost hext hviews
    obtain ⟨res, imm'⟩ := r
    cases res with
    | tok v bytes =>
      simp only at hsg hpost hext hviews ⊢
      obtain ⟨hwf', habs⟩ := step_abs hwf source batchSize (v, timer s.lines)
      obtain ⟨hfro, hpre, _⟩ := step_frozen hwf source batchSize (v, timer s.lines)
      have hbinv' := Batcher.inv_step batchSize hbinv (v, timer s.lines)
      rw [← habs] at hbinv'
      have hflat := inv_flat hbinv'
      refine ⟨fun _ => by simpa using hsg, ?_, by simp [h.lines], ?_, by simp, ?_, ?_, ?_⟩
      · intro vb hvb
        simp only [advance_toks, List.mem_append, List.mem_singleton] at hvb
        rcases hvb with hvb | rfl
        · exact hviews vb hvb
        · exact hpost.1
      · intro _
        exact ⟨hwf', by simpa using hbinv'⟩
      · intro x hx u hu
        simp only [advance_b, advance_toks, List.map_append, List.map_cons, List.map_nil] at hx hu ⊢
        rw [← hflat]
        simp only [St.abs, List.flatMap_map, St.read, List.mem_append, List.mem_flatMap]
        exact Or.inl ⟨x, hx, hu⟩
      · apply advance_sent h.sent hpre
        intro x hx
        have h1 : readSlice (step source batchSize s.b (v, timer s.lines)).heap x.batch = readSlice s.b.heap x.batch := by
          have := hfro x hx
          simp only [St.read, Batcher.Batch.mk.injEq] at this
          exact this.1
        rw [h1]
        exact map_readView_ext hext _ (hok x hx)
      · intro x hx
        simp only [advance_b] at hx
        exact step_src source batchSize _ h.src x hx
    | done =>
      simp only at hsg hpost hext hviews ⊢
      have hfa := finish_abs hwf source
      have hfs := Batcher.finish_spec hbinv
      have hheap := finish_heap source s.b
      have hflat := inv_flat hbinv
      refine ⟨fun _ => by simpa using hsg.2, by simpa using hviews, by simpa using h.lines, by simp, ?_, ?_, ?_, ?_⟩
      · intro _
        simp only [advance_b, advance_toks, advance_imm]
        rw [hfa]
        exact ⟨hfs.1, hfs.2, hsg.1, hpost.1⟩
      · intro x hx u hu
        simp only [advance_b, advance_toks, hheap] at hx hu ⊢
        rcases finish_out source s.b with ho | ho <;> rw [ho] at hx
        · exact h.mem x hx u hu
        · simp only [List.mem_append, List.mem_singleton] at hx
          rcases hx with hx | rfl
          · exact h.mem x hx u hu
          · rw [← hflat]
            simp only [St.abs, List.mem_append]
            exact Or.inr hu
      · apply advance_sent h.sent (finish_prefix source s.b)
        intro x hx
        rw [hheap]
        exact map_readView_ext hext _ (hok x hx)
      · intro x hx
        simp only [advance_b] at hx
        exact finish_src source h.src x hx
    | fuel =>
      simp only at hext hviews ⊢
      refine ⟨by simp, by simpa using hviews, by simpa using h.lines, ?_, by simp, ?_, ?_, ?_⟩
      · intro _; exact ⟨hwf, by simpa using hbinv⟩
      · intro x hx u hu
        simp only [advance_b, advance_toks] at hx hu ⊢
        exact h.mem x hx u hu
      · apply advance_sent h.sent (List.prefix_refl _)
        intro x hx
        exact map_readView_ext hext _ (hok x hx)
      · intro x hx
        simp only [advance_b] at hx
        exact h.src x hx
  · exact h

theorem j_iterN {source : String} (batchSize fuel : Nat) (timer : Nat → Bool) (k : Nat) {s : TSt}
    (h : J source s) : J source (iterN source batchSize fuel timer k s) :=
  iterN_ind (P := J source) (fun _ => j_iter batchSize fuel timer) k h

/-! ### monotonicity: the channel and the record of sends only grow -/

theorem iter_mono {source : String} (batchSize fuel : Nat) (timer : Nat → Bool) {s : TSt} (h : J source s) :
    s.b.out <+: (iter source batchSize fuel timer s).b.out ∧
    s.sentAt <+: (iter source batchSize fuel timer s).sentAt := by
  unfold iter
  split
  · rename_i hrun
    obtain ⟨hwf, _⟩ := h.loop (by rw [hrun]; decide)
    generalize s.imm.scan fuel = r
    obtain ⟨res, imm'⟩ := r
    cases res with
    | tok v bytes =>
      exact ⟨(step_frozen hwf source batchSize (v, timer s.lines)).2.1, by rw [advance_sentAt]; exact List.prefix_append _ _⟩
    | done => exact ⟨finish_prefix source s.b, by rw [advance_sentAt]; exact List.prefix_append _ _⟩
    | fuel => exact ⟨List.prefix_refl _, by rw [advance_sentAt]; exact List.prefix_append _ _⟩
  · exact ⟨List.prefix_refl _, List.prefix_refl _⟩

theorem iterN_mono {source : String} (batchSize fuel : Nat) (timer : Nat → Bool) (k : Nat) {s : TSt}
    (h : J source s) :
    s.b.out <+: (iterN source batchSize fuel timer k s).b.out ∧
    s.sentAt <+: (iterN source batchSize fuel timer k s).sentAt :=
  (iterN_ind (P := fun t => J source t ∧ s.b.out <+: t.b.out ∧ s.sentAt <+: t.sentAt)
    (fun _ ⟨hj, h1, h2⟩ =>
      have hm := iter_mono batchSize fuel timer hj
      ⟨j_iter batchSize fuel timer hj, h1.trans hm.1, h2.trans hm.2⟩)
    k ⟨h, List.prefix_refl _, List.prefix_refl _⟩).2

/-- **Stability across any number of further trips**: a batch that is on the channel in state `s`
    reads in every later state exactly as it reads in `s`. -/
theorem iterN_stable {source : String} (batchSize fuel : Nat) (timer : Nat → Bool) (k : Nat) {s : TSt}
    (h : J source s) :
    ∀ x ∈ s.b.out, (iterN source batchSize fuel timer k s).readBatch x.batch = s.readBatch x.batch := by
  have h' := j_iterN batchSize fuel timer k h
  obtain ⟨hout, hsent⟩ := iterN_mono batchSize fuel timer k h
  generalize iterN source batchSize fuel timer k s = s' at h' hout hsent
  obtain ⟨t, ht⟩ := hout
  have h1 := h'.sent
  rw [← ht, List.map_append] at h1
  have h2 := h.sent
  -- `s.sentAt` is the prefix of `s'.sentAt` of length `|s.b.out|`, and so is `s.b.out.map (readBatch s')`
  have h3 : s.sentAt = s.b.out.map fun b => s'.readBatch b.batch := by
    have hl : s.sentAt.length = (s.b.out.map fun b => s'.readBatch b.batch).length := by rw [h2]; simp
    have := List.prefix_iff_eq_take.mp hsent
    rw [this, h1, hl, List.take_left']
    rfl
  rw [h2] at h3
  intro x hx
  exact ((List.map_inj_left.mp h3) x hx).symm

/-! ### termination and the scanner's share -/

theorem iterN_not_running (source : String) (batchSize fuel : Nat) (timer : Nat → Bool) (k : Nat) :
    ∀ {s : TSt}, s.status ≠ .running → iterN source batchSize fuel timer k s = s := by
  induction k with
  | zero => intro s _; rfl
  | succ k ih =>
    intro s h
    simp only [iterN, iter_not_running h]; exact ih h

/-- The composed loop reaches the end exactly when "call `Scan()` until it answers false" does, with
    the same final scanner state. -/
theorem iterN_scanAll (source : String) (batchSize fuel : Nat) (timer : Nat → Bool) (k : Nat) :
    ∀ {s : TSt}, s.status = .running → (s.imm.scanAll fuel k).2.1 = true →
      (iterN source batchSize fuel timer k s).status = .closed ∧
      (iterN source batchSize fuel timer k s).imm = (s.imm.scanAll fuel k).2.2 ∧
      (iterN source batchSize fuel timer k s).toks = s.toks ++ (s.imm.scanAll fuel k).1 := by
  induction k with
  | zero => intro s _ h; simp [Imm.scanAll] at h
  | succ k ih =>
    intro s hrun hdone
    simp only [Imm.scanAll] at hdone ⊢
    simp only [iterN]
    rw [iter_running hrun]
    generalize s.imm.scan fuel = r at hdone
    obtain ⟨res, imm'⟩ := r
    cases res with
    | tok v bytes =>
      simp only at hdone ⊢
      have := ih (s := s.advance imm' (step source batchSize s.b (v, timer s.lines)) (s.lines + 1) .running
        (s.toks ++ [(v, bytes)])) rfl hdone
      simpa using this
    | done =>
      simp only
      rw [iterN_not_running _ _ _ _ _ (by simp)]
      simp
    | fuel => simp at hdone

/-- Predicates of the scanner state that every step of `Scan()` preserves carry over to the loop. -/
theorem iterN_pred {P : Imm → Prop} (hP : Closed P) {source : String} (batchSize fuel : Nat) (timer : Nat → Bool)
    (k : Nat) {s : TSt} (hj : J source s) (hp : P s.imm) : P (iterN source batchSize fuel timer k s).imm := by
  refine (iterN_ind (P := fun t => J source t ∧ P t.imm) (fun t ⟨hj, hp⟩ => ⟨j_iter batchSize fuel timer hj, ?_⟩)
    k ⟨hj, hp⟩).2
  unfold iter
  split
  · rename_i hrun
    obtain ⟨C, hinv, _⟩ := id (hj.good (by rw [hrun]; decide))
    have := scan_closed hP fuel hinv hp
    generalize t.imm.scan fuel = r at this
    obtain ⟨res, imm'⟩ := r
    cases res <;> exact this
  · exact hp

/-- With fuel above the reader's progress measure no `Scan()` of the loop ever runs out of fuel. -/
theorem iterN_nostuck {source : String} (batchSize fuel : Nat) (timer : Nat → Bool) (k : Nat) {s : TSt}
    (hj : J source s) (hs : s.status ≠ .stuck) (hm : s.imm.rd.measure < fuel) :
    (iterN source batchSize fuel timer k s).status ≠ .stuck := by
  refine (iterN_ind (P := fun t => J source t ∧ t.status ≠ .stuck ∧ t.imm.rd.measure < fuel)
    (fun t ⟨hj, hs, hm⟩ => ⟨j_iter batchSize fuel timer hj, ?_⟩) k ⟨hj, hs, hm⟩).2.1
  unfold iter
  split
  · rename_i hrun
    obtain ⟨C, hinv, _⟩ := id (hj.good (by rw [hrun]; decide))
    have hnf := scan_nofuel fuel hinv hm
    have hmm := scan_closed (closed_measure t.imm.rd.measure) fuel hinv (Nat.le_refl _)
    generalize t.imm.scan fuel = r at hnf hmm
    obtain ⟨res, imm'⟩ := r
    cases res with
    | tok v b => exact ⟨by simp, by simp only [advance_imm]; simp only at hmm; omega⟩
    | done => exact ⟨by simp, by simp only [advance_imm]; simp only at hmm; omega⟩
    | fuel => simp at hnf
  · exact ⟨hs, hm⟩

end Rare.C15.Tail

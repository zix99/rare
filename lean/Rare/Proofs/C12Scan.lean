import Rare.Proofs.C12Parse
import Rare.Spec.C12Grammar
/-! The one-pass recogniser `scanPattern` of `Spec/C12Grammar.lean` on the text of a pattern. -/
namespace Rare.C12

theorem scan_lit_nil (a e : Bool) (seen : List Bytes) : scanPattern (.lit a e) seen [] = true := by
  simp [scanPattern]

/-- scanning a literal (no `%{` in it) in front of the end of the text or of a token opener -/
theorem scan_lit (seen : List Bytes) (rest : Bytes) (hr : RestOK rest) : ∀ (lead : Bytes) (a e : Bool),
    NoTok lead →
    scanPattern (.lit a e) seen (lead ++ rest) = scanPattern (.lit a (e && lead.isEmpty)) seen rest := by
  intro lead
  induction lead with
  | nil => intro a e _; simp
  | cons c l ih =>
    intro a e hl
    obtain ⟨h1, h2⟩ := noTok_cons.mp hl
    simp only [List.isEmpty_cons, Bool.and_false]
    cases hlr : l ++ rest with
    | nil =>
      have hl0 : l = [] := (List.append_eq_nil_iff.mp hlr).1
      have hr0 : rest = [] := (List.append_eq_nil_iff.mp hlr).2
      subst hl0 hr0
      simp [scanPattern]
    | cons d r =>
      have hno : ¬ (c = pct ∧ d = lbrace) := by
        rintro ⟨rfl, rfl⟩
        cases l with
        | nil =>
          simp only [List.nil_append] at hlr
          rcases hr with h | ⟨Y, h⟩
          · rw [h] at hlr; cases hlr
          · rw [h] at hlr
            have : pct = lbrace := by simpa using (List.cons.inj hlr).1
            exact absurd this (by decide)
        | cons d' l' =>
          have : d' = lbrace := by simpa using (List.cons.inj hlr).1
          subst this
          simp [List.isPrefixOf] at h1
      have := ih a false h2
      rw [hlr] at this
      show scanPattern (.lit a e) seen (c :: (l ++ rest)) = _
      rw [hlr]
      simp only [scanPattern, if_neg hno]
      rw [this]
      simp

/-- the action at the closing `}` of a token whose key is `k` -/
def closeKey (k : Bytes) (seen : List Bytes) (r : Bytes) : Bool :=
  let t : Tok := ⟨k, []⟩
  if t.skip then scanPattern (.lit true true) seen r
  else if t.name ∈ seen then false
  else scanPattern (.lit true true) (t.name :: seen) r

theorem scan_key (seen : List Bytes) (r : Bytes) : ∀ (key acc : Bytes), rbrace ∉ key →
    scanPattern (.key acc) seen (key ++ rbrace :: r) = closeKey (acc ++ key) seen r := by
  intro key
  induction key with
  | nil => intro acc _; simp [scanPattern, closeKey]
  | cons c l ih =>
    intro acc h
    have hc : ¬ c = rbrace := by intro e; apply h; simp [e]
    have hl : rbrace ∉ l := by intro e; apply h; simp [e]
    simp only [List.cons_append, scanPattern, if_neg hc]
    rw [ih (acc ++ [c]) hl]
    simp

theorem scan_key_unclosed (seen : List Bytes) : ∀ (junk acc : Bytes), rbrace ∉ junk →
    scanPattern (.key acc) seen junk = false := by
  intro junk
  induction junk with
  | nil => intro acc _; simp [scanPattern]
  | cons c l ih =>
    intro acc h
    have hc : ¬ c = rbrace := by intro e; apply h; simp [e]
    have hl : rbrace ∉ l := by intro e; apply h; simp [e]
    simp only [scanPattern, if_neg hc]
    exact ih _ hl

/-- a token opener in literal state -/
theorem scan_open (a e : Bool) (seen : List Bytes) (X : Bytes) :
    scanPattern (.lit a e) seen ([pct, lbrace] ++ X) = (if a && e then false else scanPattern (.key []) seen X) := by
  simp [scanPattern]

/-- the recogniser on the tokens of a pattern text: it rejects exactly when `specErrors` reports an
error (the adjacency test is made one token later: at the opener that follows an empty delimiter) -/
theorem scan_toks (tail : Option Bytes) (htail : ∀ j, tail = some j → rbrace ∉ j) :
    ∀ (toks : List Tok) (a e : Bool) (seen : List Bytes),
    (∀ t ∈ toks, rbrace ∉ t.key ∧ NoTok t.lit) →
    scanPattern (.lit a e) seen (restText toks tail) =
      (!(a && e && (!toks.isEmpty || tail.isSome)) && (specErrors tail.isSome toks seen).isNone) := by
  intro toks
  induction toks with
  | nil =>
    intro a e seen _
    cases tail with
    | none => simp [restText, tailText, scanPattern, specErrors]
    | some j =>
      simp only [restText, tailText, List.map_nil, List.flatten_nil, List.nil_append, scan_open,
        scan_key_unclosed seen j [] (htail j rfl), specErrors]
      simp
  | cons t ts ih =>
    intro a e seen hts
    have ht := hts t (by simp)
    have hts' : ∀ t ∈ ts, rbrace ∉ t.key ∧ NoTok t.lit := fun x hx => hts x (by simp [hx])
    have e0 : restText (t :: ts) tail = [pct, lbrace] ++ (t.key ++ rbrace :: (t.lit ++ restText ts tail)) := by
      simp [restText_cons, Tok.render]
    rw [e0, scan_open]
    by_cases hae : (a && e) = true
    · simp [hae]
    · simp only [hae, Bool.false_eq_true, if_false]
      have hae' : (a && e) = false := by simpa using hae
      rw [scan_key seen _ t.key [] ht.1]
      simp only [List.nil_append, closeKey]
      have hskip : Tok.skip ⟨t.key, []⟩ = t.skip := rfl
      have hname : Tok.name ⟨t.key, []⟩ = t.name := rfl
      rw [hskip, hname]
      have hscan : ∀ seen', scanPattern (.lit true true) seen' (t.lit ++ restText ts tail) =
          (!(t.lit.isEmpty && (!ts.isEmpty || tail.isSome)) && (specErrors tail.isSome ts seen').isNone) := by
        intro seen'
        rw [scan_lit seen' _ (restText_ok ts tail) t.lit true true ht.2, ih true _ seen' hts']
        simp
      simp only [specErrors, List.isEmpty_cons, Bool.not_false, Bool.true_or, Bool.and_true,
        Bool.true_and]
      have hseqB : (t.lit = [] ∧ (ts ≠ [] ∨ tail.isSome = true)) ↔
          (t.lit.isEmpty && (!ts.isEmpty || tail.isSome)) = true := by
        simp [List.isEmpty_iff]
      simp only [hscan]
      by_cases hseq : t.lit = [] ∧ (ts ≠ [] ∨ tail.isSome = true)
      · rw [hseqB.mp hseq]
        simp [hseq]
      · have hb : (t.lit.isEmpty && (!ts.isEmpty || tail.isSome)) = false := by
          rw [Bool.eq_false_iff]; exact fun h => hseq (hseqB.mpr h)
        rw [hb]
        by_cases hsk : t.skip = true
        · simp [hseq, hsk]
        · by_cases hc : t.name ∈ seen <;> simp [hseq, hsk, hc]

/-- the recogniser on an arbitrary text, through its (total) parse -/
theorem accepts_render (p : Pat) (hp : p.Shape) (tail : Option Bytes) (htail : ∀ j, tail = some j → rbrace ∉ j) :
    acceptsPattern (p.render ++ tailText tail) = (specErrors tail.isSome p.toks []).isNone := by
  have he : p.render ++ tailText tail = p.pre ++ restText p.toks tail := by
    simp [Pat.render, restText]
  unfold acceptsPattern
  rw [he, scan_lit [] _ (restText_ok p.toks tail) p.pre false true hp.1, scan_toks tail htail p.toks _ _ [] hp.2]
  simp

/-- **the recogniser agrees with `CompileEx`** (either mode) -/
theorem accepts_iff_compiles (s : Bytes) (ic : Bool) :
    acceptsPattern s = true ↔ ∃ d, compileEx s ic = .ok d := by
  obtain ⟨p, tail, hp, ht, hs⟩ := parse_total s
  rw [hs, accepts_render p hp tail ht, compileEx_render ic p hp tail ht]
  cases specErrors tail.isSome p.toks [] with
  | none => simp
  | some e => simp

end Rare.C12

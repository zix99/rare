import Rare.Model.C07
/-! Basic lemmas for C07: int64 wrapping, association lists, spec folds. -/
namespace Rare.C07

theorem wrap64_add_left (a b : Int) : wrap64 (wrap64 a + b) = wrap64 (a + b) := by
  unfold wrap64
  have e : ∀ x : Int, x - 9223372036854775808 + b + 9223372036854775808 = x + b := fun x => by omega
  rw [e, Int.emod_add_emod, Int.add_right_comm]
theorem wrap64_idem (a : Int) : wrap64 (wrap64 a) = wrap64 a := by simpa using wrap64_add_left a 0
theorem wrap64_add_right (a b : Int) : wrap64 (a + wrap64 b) = wrap64 (a + b) := by
  rw [Int.add_comm, wrap64_add_left, Int.add_comm]
theorem wrap64_sub_left (a b : Int) : wrap64 (wrap64 a - b) = wrap64 (a - b) := by
  rw [Int.sub_eq_add_neg, wrap64_add_left, ← Int.sub_eq_add_neg]
theorem wrap64_zero : wrap64 0 = 0 := by decide
theorem wrap64_of_inRange (a : Int) (h : inInt64 a = true) : wrap64 a = a := by
  unfold inInt64 minInt64 maxInt64 at h
  have h1 : -9223372036854775808 ≤ a := by have := (Bool.and_eq_true _ _ ▸ h).1; exact of_decide_eq_true this
  have h2 : a ≤ 9223372036854775807 := by have := (Bool.and_eq_true _ _ ▸ h).2; exact of_decide_eq_true this
  unfold wrap64; omega
theorem wrap64_inRange (a : Int) : minInt64 ≤ wrap64 a ∧ wrap64 a ≤ maxInt64 := by
  simp only [wrap64, minInt64, maxInt64]; constructor <;> omega

section AList
variable {α : Type}

@[simp] theorem aget_nil (k : Bytes) : aget ([] : List (Bytes × α)) k = none := rfl

theorem aget_aset (m : List (Bytes × α)) (k k' : Bytes) (v : α) :
    aget (aset m k v) k' = if k = k' then some v else aget m k' := by
  induction m with
  | nil => simp [aset, aget]
  | cons e m ih =>
    obtain ⟨k0, v0⟩ := e
    by_cases h : k0 = k
    · subst h; by_cases h' : k0 = k' <;> simp [aset, aget, h']
    · by_cases h' : k0 = k'
      · subst h'; simp [aset, aget, h]; intro h2; exact absurd h2.symm h
      · simp [aset, aget, h, h', ih]

theorem aget_aset_self (m : List (Bytes × α)) (k : Bytes) (v : α) : aget (aset m k v) k = some v := by
  simp [aget_aset]

theorem aget_aset_ne (m : List (Bytes × α)) (k k' : Bytes) (v : α) (h : k ≠ k') :
    aget (aset m k v) k' = aget m k' := by simp [aget_aset, h]

theorem aget_adel (m : List (Bytes × α)) (k k' : Bytes) :
    aget (adel m k) k' = if k = k' then none else aget m k' := by
  induction m with
  | nil => simp [adel, aget]
  | cons e m ih =>
    obtain ⟨k0, v0⟩ := e
    by_cases h : k0 = k
    · subst h; by_cases h' : k0 = k'
      · subst h'; simp [adel, ih]
      · simp [adel, aget, h', ih]
    · by_cases h' : k0 = k'
      · subst h'; simp [adel, aget, h]; intro h2; exact absurd h2.symm h
      · simp [adel, aget, h, h', ih]

/-- An association list is empty iff every look-up fails. -/
theorem eq_nil_iff_aget (m : List (Bytes × α)) : m = [] ↔ ∀ k, aget m k = none := by
  cases m with
  | nil => simp
  | cons e m =>
    obtain ⟨k0, v0⟩ := e
    simp only [reduceCtorEq, false_iff]
    intro h; have := h k0; simp [aget] at this

theorem mem_akeys_iff (m : List (Bytes × α)) (k : Bytes) : k ∈ akeys m ↔ (aget m k).isSome := by
  induction m with
  | nil => simp [akeys]
  | cons e m ih =>
    obtain ⟨k0, v0⟩ := e
    by_cases h : k0 = k
    · subst h; simp [akeys, aget]
    · have hne : k ≠ k0 := fun e => h e.symm
      simp only [akeys, List.map_cons, List.mem_cons, aget, h, if_false, hne, false_or]
      exact ih

theorem aget_of_mem (m : List (Bytes × α)) (k : Bytes) (v : α) (h : (k, v) ∈ m) : (aget m k).isSome := by
  rw [← mem_akeys_iff]; exact List.mem_map.mpr ⟨(k, v), h, rfl⟩

end AList

theorem sumBy_append {α : Type} (f : α → Int) (a b : List α) : sumBy f (a ++ b) = sumBy f a + sumBy f b := by
  induction a with
  | nil => simp [sumBy]
  | cons x a ih => simp [sumBy, ih]; omega

theorem sumBy_perm {α : Type} (f : α → Int) {a b : List α} (h : a.Perm b) : sumBy f a = sumBy f b := by
  induction h with
  | nil => rfl
  | cons x _ ih => simp [sumBy, ih]
  | swap x y l => simp [sumBy]; omega
  | trans _ _ ih1 ih2 => exact ih1.trans ih2

theorem total_perm (sel : Parsed → Bool) {a b : List Parsed} (h : a.Perm b) : total sel a = total sel b := by
  unfold total; rw [sumBy_perm _ h]

theorem present_perm (sel : Parsed → Bool) {a b : List Parsed} (h : a.Perm b) : present sel a = present sel b := by
  unfold present
  rw [Bool.eq_iff_iff]; simp only [List.any_eq_true]
  constructor
  · rintro ⟨x, hx, hp⟩; exact ⟨x, h.mem_iff.mp hx, hp⟩
  · rintro ⟨x, hx, hp⟩; exact ⟨x, h.mem_iff.mpr hx, hp⟩

theorem errorCount_perm {a b : List Parsed} (h : a.Perm b) : errorCount a = errorCount b := by
  unfold errorCount; exact h.countP_eq _

theorem total_snoc (sel : Parsed → Bool) (h : List Parsed) (p : Parsed) :
    total sel (h ++ [p]) = wrap64 (total sel h + incIf sel p) := by
  unfold total; rw [sumBy_append]; simp [sumBy, wrap64_add_left]

theorem present_snoc (sel : Parsed → Bool) (h : List Parsed) (p : Parsed) :
    present sel (h ++ [p]) = (present sel h || (p.inc.isSome && sel p)) := by
  unfold present; simp

theorem errorCount_snoc (h : List Parsed) (p : Parsed) :
    errorCount (h ++ [p]) = errorCount h + (if p.inc.isNone then 1 else 0) := by
  unfold errorCount; simp [List.countP_append, List.countP_cons]

theorem total_nil (sel : Parsed → Bool) : total sel [] = 0 := by simp [total, sumBy, wrap64_zero]

/-- A sum over nothing selected is 0 (absent cells count as 0). -/
theorem total_of_not_present (sel : Parsed → Bool) (h : List Parsed) (hp : present sel h = false) : total sel h = 0 := by
  have : sumBy (incIf sel) h = 0 := by
    induction h with
    | nil => rfl
    | cons p h ih =>
      simp only [present, List.any_cons, Bool.or_eq_false_iff] at hp
      have ih' := ih (by simpa [present] using hp.2)
      simp only [sumBy, ih', Int.add_zero]
      unfold incIf
      cases hi : p.inc with
      | none => rfl
      | some v => simp [hi] at hp; simp [hp.1]
  simp [total, this, wrap64_zero]

end Rare.C07

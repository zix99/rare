import Rare.Model.Pipeline
/-! Invariants, progress and termination of the pipeline LTS. -/
namespace Rare.Pipeline

variable {α : Type}

theorem set_split {γ : Type} : ∀ {l : List γ} {i : Nat} {a : γ}, l[i]? = some a → ∀ b : γ,
    ∃ l1 l2, l = l1 ++ a :: l2 ∧ l.set i b = l1 ++ b :: l2
  | x :: xs, 0, a, h, b => ⟨[], xs, by simp at h; simp [h], rfl⟩
  | x :: xs, i + 1, a, h, b => by
    obtain ⟨l1, l2, h1, h2⟩ := set_split (l := xs) (i := i) (a := a) (by simpa using h) b
    exact ⟨x :: l1, l2, by simp [← h1], by simp [h2]⟩

theorem count_flatMap_set {γ β : Type} [DecidableEq β] (g : γ → List β) :
    ∀ {l : List γ} {i : Nat} {a : γ} (b : γ), l[i]? = some a → ∀ y,
    ((l.set i b).flatMap g).count y + (g a).count y = (l.flatMap g).count y + (g b).count y := by
  intro l i a b h y
  obtain ⟨l1, l2, rfl, hs⟩ := set_split h b
  rw [hs]
  simp only [List.flatMap_append, List.flatMap_cons, List.count_append]
  omega

theorem flatMap_set_eq {γ β : Type} (g : γ → List β) {l : List γ} {i : Nat} {a : γ} (b : γ) (h : l[i]? = some a)
    (hg : g b = g a) : (l.set i b).flatMap g = l.flatMap g := by
  obtain ⟨l1, l2, rfl, hs⟩ := set_split h b
  rw [hs, List.flatMap_append, List.flatMap_append, List.flatMap_cons, List.flatMap_cons, hg]

theorem all_set_of {γ : Type} (p : γ → Bool) {l : List γ} {i : Nat} {b : γ}
    (hall : l.all p = true) (hb : p b = true) : (l.set i b).all p = true := by
  rw [List.all_eq_true] at *
  intro x hx
  rcases List.mem_or_eq_of_mem_set hx with h | h
  · exact hall x h
  · rw [h]; exact hb

theorem not_all_of_getElem {γ : Type} (p : γ → Bool) {l : List γ} {i : Nat} {a : γ}
    (h : l[i]? = some a) (ha : p a = false) : l.all p = false := by
  cases hall : l.all p with
  | false => rfl
  | true =>
    rw [List.all_eq_true] at hall
    have := hall a (List.mem_of_getElem? h)
    rw [ha] at this; cases this

theorem length_eq_class_counts (cls : α → Cls) (all : List α) :
    all.length = (all.filter (isMatched cls)).length + (all.filter (isIgnored cls)).length +
      (all.filter fun x => cls x = .unmatched).length := by
  induction all with
  | nil => rfl
  | cons x xs ih =>
    simp only [List.length_cons, List.filter_cons]
    cases h : cls x <;> simp [isMatched, isIgnored, h] <;> omega

theorem any_set_nonexited {l : List (WSt α)} {i : Nat} {b : WSt α} (hb : b.isExited = false)
    (h : (l.set i b).any WSt.isExited = true) : l.any WSt.isExited = true := by
  rw [List.any_eq_true] at *
  obtain ⟨x, hx, hp⟩ := h
  rcases List.mem_or_eq_of_mem_set hx with h | h
  · exact ⟨x, h, hp⟩
  · rw [h, hb] at hp; cases hp

theorem any_exited_of_getElem {l : List (WSt α)} {i : Nat} (h : l[i]? = some .exited) :
    l.any WSt.isExited = true := by
  rw [List.any_eq_true]; exact ⟨_, List.mem_of_getElem? h, rfl⟩

theorem srcLines_init (inputs : List (List (List α))) (W : Nat) :
    srcLines (init inputs W) = inputs.flatMap List.flatten := by
  simp [srcLines, init, List.flatMap_map, SrcSt.lines]

theorem wTodo_init (inputs : List (List (List α))) (W : Nat) : wTodo (init inputs W) = [] := by
  simp [wTodo, init, WSt.todo]

theorem wAcc_init (inputs : List (List (List α))) (W : Nat) : wAcc (init inputs W) = [] := by
  simp [wAcc, init, WSt.acc]

/-! ### termination: a strictly decreasing measure -/

theorem sum_map_set {γ : Type} (f : γ → Nat) {l : List γ} {i : Nat} {a : γ} (b : γ) (h : l[i]? = some a) :
    ((l.set i b).map f).sum + f a = (l.map f).sum + f b := by
  obtain ⟨l1, l2, rfl, hs⟩ := set_split h b
  rw [hs]
  simp only [List.map_append, List.map_cons, List.sum_append, List.sum_cons]
  omega

def batchW (b : List α) : Nat := 2 * b.length + 4

def srcW : SrcSt α → Nat
  | .waiting bs => 2 + (bs.map batchW).sum
  | .active bs => 1 + (bs.map batchW).sum
  | .done => 0

def wW : WSt α → Nat
  | .idle => 1
  | .busy todo _ => 2 * todo.length + 3
  | .exited => 0

def flag (b : Bool) : Nat := if b then 0 else 1

/-- Number of steps any execution can still take from `s` is at most `measure s`. -/
def measure (s : St α) : Nat :=
  (s.srcs.map srcW).sum + (s.c.map fun b => 2 * b.length + 3).sum + (s.workers.map wW).sum +
  s.rc.length + flag s.cClosed + flag s.rcClosed + flag s.consDone

theorem step_measure {cls : α → Cls} {R B K : Nat} {s s' : St α} (hs : Step cls R B K s s') :
    measure s' < measure s := by
  cases hs with
  | start i bs h hr =>
    have := sum_map_set srcW (.active bs) h
    simp only [measure, srcW] at *; omega
  | send i b bs h hcap =>
    have := sum_map_set srcW (.active bs) h
    simp only [measure, srcW, List.map_cons, List.sum_cons, batchW, List.map_append, List.sum_append,
      List.map_nil, List.sum_nil] at *
    omega
  | finish i h =>
    have := sum_map_set srcW .done h
    simp only [measure, srcW, List.map_nil, List.sum_nil] at *; omega
  | closeC hall hc => simp [measure, flag, hc]
  | wrecv j b rest h hc =>
    have := sum_map_set wW (.busy b []) h
    simp only [measure, wW, hc, List.map_cons, List.sum_cons] at *; omega
  | wproc j x todo acc h =>
    have := sum_map_set wW (.busy todo (if cls x = .matched then acc ++ [x] else acc)) h
    simp only [measure, wW, List.length_cons] at *; omega
  | wsend j acc h hne hcap =>
    have := sum_map_set wW .idle h
    simp only [measure, wW, List.length_nil, List.length_append, List.length_cons] at *; omega
  | wskip j h =>
    have := sum_map_set wW .idle h
    simp only [measure, wW, List.length_nil] at *; omega
  | wexit j h hc hcl =>
    have := sum_map_set wW .exited h
    simp only [measure, wW] at *; omega
  | closeRC hall hc => simp [measure, flag, hc]
  | crecv m rest hrc hd => simp only [measure, hrc, List.length_cons]; omega
  | cdone hrc hcl hd => simp [measure, flag, hd]

/-! ### progress: while the consumer has not finished, some goroutine can move -/

theorem exists_of_all_false {γ : Type} (p : γ → Bool) {l : List γ} (h : l.all p = false) :
    ∃ (i : Nat) (a : γ), l[i]? = some a ∧ p a = false := by
  rw [List.all_eq_false] at h
  obtain ⟨x, hx, hp⟩ := h
  obtain ⟨i, hi⟩ := List.getElem?_of_mem hx
  exact ⟨i, x, hi, by simpa using hp⟩

theorem step_mono {cls : α → Cls} {R B K : Nat} {s s' : St α} (h : Step cls R 0 K s s') : Step cls R B K s s' := by
  cases h with
  | start i bs h hr => exact .start s i bs h hr
  | send i b bs h hcap => exact absurd hcap (Nat.not_lt_zero _)
  | finish i h => exact .finish s i h
  | closeC h1 h2 => exact .closeC s h1 h2
  | wrecv j b rest h hc => exact .wrecv s j b rest h hc
  | wproc j x todo acc h => exact .wproc s j x todo acc h
  | wsend j acc h hne hcap => exact .wsend s j acc h hne hcap
  | wskip j h => exact .wskip s j h
  | wexit j h hc hcl => exact .wexit s j h hc hcl
  | closeRC h1 h2 => exact .closeRC s h1 h2
  | crecv m rest h hd => exact .crecv s m rest h hd
  | cdone h1 h2 h3 => exact .cdone s h1 h2 h3

/-- While the consumer has not finished, either some goroutine can move without sending on the batch channel, or
    the channel is empty with a reader ready to send a batch and an idle worker ready to take it. -/
theorem progress_or_handoff {cls : α → Cls} {R K : Nat} {s : St α}
    (hR : 1 ≤ R) (hK : 1 ≤ K) (hd : s.consDone = false) :
    (∃ s', Step cls R 0 K s s') ∨
    ∃ (i j : Nat) (b : List α) (bs : List (List α)),
      s.srcs[i]? = some (.active (b :: bs)) ∧ s.workers[j]? = some .idle ∧ s.c = [] := by
  -- consumer side first
  cases hrc : s.rc with
  | cons m rest => exact .inl ⟨_, .crecv s m rest hrc hd⟩
  | nil =>
  cases hrcl : s.rcClosed with
  | true => exact .inl ⟨_, .cdone s hrc hrcl hd⟩
  | false =>
  cases hwall : s.workers.all WSt.isExited with
  | true => exact .inl ⟨_, .closeRC s hwall hrcl⟩
  | false =>
  obtain ⟨j, w, hj, hw⟩ := exists_of_all_false _ hwall
  cases w with
  | exited => simp [WSt.isExited] at hw
  | busy todo acc =>
    cases todo with
    | cons x todo => exact .inl ⟨_, .wproc s j x todo acc hj⟩
    | nil =>
      cases acc with
      | nil => exact .inl ⟨_, .wskip s j hj⟩
      | cons a acc => exact .inl ⟨_, .wsend s j (a :: acc) hj (by simp) (by rw [hrc]; simp; omega)⟩
  | idle =>
  cases hc : s.c with
  | cons b rest => exact .inl ⟨_, .wrecv s j b rest hj hc⟩
  | nil =>
  cases hcl : s.cClosed with
  | true => exact .inl ⟨_, .wexit s j hj hc hcl⟩
  | false =>
  cases hsall : s.srcs.all SrcSt.isDone with
  | true => exact .inl ⟨_, .closeC s hsall hcl⟩
  | false =>
  obtain ⟨i, src, hi, hsrc⟩ := exists_of_all_false _ hsall
  -- is some source active?
  cases hact : (s.srcs.filter SrcSt.isActive) with
  | nil =>
    cases src with
    | done => simp [SrcSt.isDone] at hsrc
    | active bs =>
      have : SrcSt.active bs ∈ s.srcs.filter SrcSt.isActive :=
        List.mem_filter.mpr ⟨List.mem_of_getElem? hi, rfl⟩
      rw [hact] at this; simp at this
    | waiting bs =>
      exact .inl ⟨_, .start s i bs hi (by simp [activeCount, hact]; omega)⟩
  | cons a as =>
    have ha : a ∈ s.srcs.filter SrcSt.isActive := by rw [hact]; simp
    obtain ⟨hmem, hisa⟩ := List.mem_filter.mp ha
    obtain ⟨k, hk⟩ := List.getElem?_of_mem hmem
    cases a with
    | done => simp [SrcSt.isActive] at hisa
    | waiting bs => simp [SrcSt.isActive] at hisa
    | active bs =>
      cases bs with
      | nil => exact .inl ⟨_, .finish s k hk⟩
      | cons b bs => exact .inr ⟨k, j, b, bs, hk, hj, rfl⟩

theorem progress {cls : α → Cls} {R B K : Nat} {s : St α}
    (hR : 1 ≤ R) (hB : 1 ≤ B) (hK : 1 ≤ K) (hd : s.consDone = false) : ∃ s', Step cls R B K s s' := by
  rcases progress_or_handoff (cls := cls) hR hK hd with ⟨s', hs⟩ | ⟨i, _, b, bs, hi, _, hc⟩
  · exact ⟨s', step_mono hs⟩
  · exact ⟨_, .send s i b bs hi (by rw [hc]; exact hB)⟩

theorem exists_done {σ : Type} (m : σ → Nat) (done : σ → Bool) (P : σ → Prop)
    (hstep : ∀ s, P s → done s = false → ∃ s', P s' ∧ m s' < m s) :
    ∀ (n : Nat) (s : σ), P s → m s ≤ n → ∃ s', P s' ∧ done s' = true
  | n, s, hp, hm => by
    cases hd : done s with
    | true => exact ⟨s, hp, hd⟩
    | false =>
      obtain ⟨s', hp', hlt⟩ := hstep s hp hd
      match n with
      | 0 => omega
      | n + 1 => exact exists_done m done P hstep n s' hp' (by omega)

theorem step_workers_length {cls : α → Cls} {R B K : Nat} {s s' : St α} (hs : Step cls R B K s s') :
    s'.workers.length = s.workers.length := by
  cases hs <;> simp

theorem reach_workers_length {cls : α → Cls} {R B K : Nat} {s0 s : St α} (hr : Reach cls R B K s0 s) :
    s.workers.length = s0.workers.length := by
  induction hr with
  | refl => rfl
  | step _ hs ih => rw [step_workers_length hs, ih]

variable [DecidableEq α]

/-- The inductive invariant.  `all` = every input line (of every source). -/
structure Inv (cls : α → Cls) (B K : Nat) (all : List α) (s : St α) : Prop where
  lines : ∀ y, (srcLines s).count y + s.c.flatten.count y + (wTodo s).count y + s.processed.count y = all.count y
  mats : ∀ y, (wAcc s).count y + s.rc.flatten.count y + s.consumed.count y
      = (s.processed.filter (isMatched cls)).count y
  nread : s.nRead = s.processed.length
  nmatched : s.nMatched = (s.processed.filter (isMatched cls)).length
  nignored : s.nIgnored = (s.processed.filter (isIgnored cls)).length
  cclosed : s.cClosed = true → s.srcs.all SrcSt.isDone = true
  rcclosed : s.rcClosed = true → s.workers.all WSt.isExited = true
  consdone : s.consDone = true → s.rcClosed = true ∧ s.rc = []
  exited : s.workers.any WSt.isExited = true → s.cClosed = true ∧ s.c = []
  capC : s.c.length ≤ B
  capRC : s.rc.length ≤ K

theorem inv_init (cls : α → Cls) (B K : Nat) (inputs : List (List (List α))) (W : Nat) :
    Inv cls B K (inputs.flatMap List.flatten) (init inputs W) := by
  refine ⟨?_, ?_, rfl, rfl, rfl, by simp [init], by simp [init], by simp [init], ?_, by simp [init], by simp [init]⟩
  · intro y
    rw [srcLines_init, wTodo_init]; simp [init]
  · intro y
    rw [wAcc_init]; simp [init]
  · intro h
    simp [init, WSt.isExited] at h

/-- While some reader goroutine has not returned the batch channel is open. -/
theorem Inv.cOpen {cls : α → Cls} {B K : Nat} {all : List α} {s : St α} (hinv : Inv cls B K all s)
    {i : Nat} {a : SrcSt α} (h : s.srcs[i]? = some a) (ha : a.isDone = false) {P : Prop}
    (hc : s.cClosed = true) : P := by
  have := hinv.cclosed hc
  rw [not_all_of_getElem _ h ha] at this; cases this

/-- While some worker has not returned the match channel is open. -/
theorem Inv.rcOpen {cls : α → Cls} {B K : Nat} {all : List α} {s : St α} (hinv : Inv cls B K all s)
    {j : Nat} {w : WSt α} (h : s.workers[j]? = some w) (hw : w.isExited = false) {P : Prop}
    (hc : s.rcClosed = true) : P := by
  have := hinv.rcclosed hc
  rw [not_all_of_getElem _ h hw] at this; cases this

theorem inv_step {cls : α → Cls} {R B K : Nat} {all : List α} {s s' : St α}
    (hinv : Inv cls B K all s) (hs : Step cls R B K s s') : Inv cls B K all s' := by
  cases hs with
  | start i bs h hr =>
    refine ⟨?_, hinv.mats, hinv.nread, hinv.nmatched, hinv.nignored, hinv.cOpen h rfl, hinv.rcclosed,
      hinv.consdone, hinv.exited, hinv.capC, hinv.capRC⟩
    intro y
    have := count_flatMap_set SrcSt.lines (.active bs) h y
    have h0 := hinv.lines y
    simp only [srcLines, wTodo, SrcSt.lines] at *
    omega
  | send i b bs h hcap =>
    refine ⟨?_, hinv.mats, hinv.nread, hinv.nmatched, hinv.nignored, hinv.cOpen h rfl, hinv.rcclosed,
      hinv.consdone, fun he => hinv.cOpen h rfl (hinv.exited he).1, (by simp; omega), hinv.capRC⟩
    intro y
    have := count_flatMap_set SrcSt.lines (.active bs) h y
    have h0 := hinv.lines y
    simp only [srcLines, wTodo, SrcSt.lines, List.flatten_cons, List.count_append, List.flatten_append,
      List.flatten_nil, List.append_nil] at *
    omega
  | finish i h =>
    refine ⟨?_, hinv.mats, hinv.nread, hinv.nmatched, hinv.nignored, hinv.cOpen h rfl, hinv.rcclosed,
      hinv.consdone, hinv.exited, hinv.capC, hinv.capRC⟩
    intro y
    have := count_flatMap_set SrcSt.lines .done h y
    have h0 := hinv.lines y
    simp only [srcLines, wTodo, SrcSt.lines, List.flatten_nil, List.count_nil] at *
    omega
  | closeC hall hc =>
    exact ⟨hinv.lines, hinv.mats, hinv.nread, hinv.nmatched, hinv.nignored, fun _ => hall, hinv.rcclosed,
      hinv.consdone, (fun he => by have := (hinv.exited he).1; rw [hc] at this; cases this), hinv.capC, hinv.capRC⟩
  | wrecv j b rest h hc =>
    refine ⟨?_, ?_, hinv.nread, hinv.nmatched, hinv.nignored, hinv.cclosed, hinv.rcOpen h rfl, hinv.consdone,
      ?_, (by have := hinv.capC; rw [hc] at this; simp at this; simp; omega), hinv.capRC⟩
    · intro y
      have := count_flatMap_set WSt.todo (.busy b []) h y
      have h0 := hinv.lines y
      rw [hc] at h0
      simp only [srcLines, wTodo, WSt.todo, List.flatten_cons, List.count_append, List.count_nil] at *
      omega
    · intro y
      have := count_flatMap_set WSt.acc (.busy b []) h y
      have h0 := hinv.mats y
      simp only [wAcc, WSt.acc, List.count_nil] at *
      omega
    · intro he
      have := hinv.exited (any_set_nonexited rfl he)
      rw [hc] at this; simp at this
  | wproc j x todo acc h =>
    -- the line joins the worker's match batch and the processed matches together, or neither
    have hacc : (if cls x = .matched then acc ++ [x] else acc) = acc ++ if cls x = .matched then [x] else [] := by
      split <;> simp
    have hproc : (s.processed ++ [x]).filter (isMatched cls)
        = s.processed.filter (isMatched cls) ++ if cls x = .matched then [x] else [] := by
      simp [List.filter_append, List.filter_cons, isMatched]
    refine ⟨?_, ?_, by simp [hinv.nread], ?_, ?_, hinv.cclosed, hinv.rcOpen h rfl, hinv.consdone,
      fun he => hinv.exited (any_set_nonexited rfl he), hinv.capC, hinv.capRC⟩
    · intro y
      have := count_flatMap_set WSt.todo (.busy todo (if cls x = .matched then acc ++ [x] else acc)) h y
      have h0 := hinv.lines y
      simp only [srcLines, wTodo, WSt.todo, List.count_cons, List.count_append, List.count_nil] at *
      omega
    · intro y
      have := count_flatMap_set WSt.acc (.busy todo (if cls x = .matched then acc ++ [x] else acc)) h y
      have h0 := hinv.mats y
      rw [hproc]
      simp only [wAcc, WSt.acc, hacc, List.count_append] at *
      omega
    · rw [hproc, List.length_append, ← hinv.nmatched]
      split <;> rfl
    · by_cases hm : cls x = .ignored <;> simp [List.filter_append, isIgnored, hm, hinv.nignored]
  | wsend j acc h hne hcap =>
    refine ⟨?_, ?_, hinv.nread, hinv.nmatched, hinv.nignored, hinv.cclosed, hinv.rcOpen h rfl,
      fun hd => hinv.rcOpen h rfl (hinv.consdone hd).1, fun he => hinv.exited (any_set_nonexited rfl he),
      hinv.capC, (by simp; omega)⟩
    · intro y
      have := count_flatMap_set WSt.todo .idle h y
      have h0 := hinv.lines y
      simp only [srcLines, wTodo, WSt.todo, List.count_nil] at *
      omega
    · intro y
      have := count_flatMap_set WSt.acc .idle h y
      have h0 := hinv.mats y
      simp only [wAcc, WSt.acc, List.count_nil, List.flatten_append, List.flatten_cons, List.flatten_nil,
        List.append_nil, List.count_append] at *
      omega
  | wskip j h =>
    refine ⟨?_, ?_, hinv.nread, hinv.nmatched, hinv.nignored, hinv.cclosed, hinv.rcOpen h rfl, hinv.consdone,
      fun he => hinv.exited (any_set_nonexited rfl he), hinv.capC, hinv.capRC⟩
    · intro y
      have := count_flatMap_set WSt.todo .idle h y
      have h0 := hinv.lines y
      simp only [srcLines, wTodo, WSt.todo, List.count_nil] at *
      omega
    · intro y
      have := count_flatMap_set WSt.acc .idle h y
      have h0 := hinv.mats y
      simp only [wAcc, WSt.acc, List.count_nil] at *
      omega
  | wexit j h hc hcl =>
    refine ⟨?_, ?_, hinv.nread, hinv.nmatched, hinv.nignored, hinv.cclosed, hinv.rcOpen h rfl, hinv.consdone,
      fun _ => ⟨hcl, hc⟩, hinv.capC, hinv.capRC⟩
    · intro y
      have := count_flatMap_set WSt.todo .exited h y
      have h0 := hinv.lines y
      simp only [srcLines, wTodo, WSt.todo, List.count_nil] at *
      omega
    · intro y
      have := count_flatMap_set WSt.acc .exited h y
      have h0 := hinv.mats y
      simp only [wAcc, WSt.acc, List.count_nil] at *
      omega
  | closeRC hall hc =>
    exact ⟨hinv.lines, hinv.mats, hinv.nread, hinv.nmatched, hinv.nignored, hinv.cclosed, fun _ => hall,
      (fun hd => by have := (hinv.consdone hd).1; rw [hc] at this; cases this), hinv.exited, hinv.capC, hinv.capRC⟩
  | crecv m rest hrc hd =>
    refine ⟨hinv.lines, ?_, hinv.nread, hinv.nmatched, hinv.nignored, hinv.cclosed, hinv.rcclosed,
      (fun h => by simp at h; rw [hd] at h; cases h), hinv.exited, hinv.capC,
      (by have := hinv.capRC; rw [hrc] at this; simp at this; simp; omega)⟩
    intro y
    have h0 := hinv.mats y
    rw [hrc] at h0
    simp only [wAcc, List.flatten_cons, List.count_append] at *
    omega
  | cdone hrc hcl hd =>
    exact ⟨hinv.lines, hinv.mats, hinv.nread, hinv.nmatched, hinv.nignored, hinv.cclosed, hinv.rcclosed,
      fun _ => ⟨hcl, hrc⟩, hinv.exited, hinv.capC, hinv.capRC⟩

theorem inv_reach {cls : α → Cls} {R B K : Nat} {all : List α} {s0 s : St α}
    (h0 : Inv cls B K all s0) (hr : Reach cls R B K s0 s) : Inv cls B K all s := by
  induction hr with
  | refl => exact h0
  | step _ hs ih => exact inv_step ih hs

/-! ### what holds once the consumer has finished -/

theorem final_state {cls : α → Cls} {B K : Nat} {all : List α} {s : St α} (hinv : Inv cls B K all s)
    (hW : s.workers ≠ []) (hd : s.consDone = true) :
    (∀ y, s.consumed.count y = (all.filter (isMatched cls)).count y) ∧
    s.nRead = all.length ∧
    s.nMatched = (all.filter (isMatched cls)).length ∧
    s.nIgnored = (all.filter (isIgnored cls)).length := by
  obtain ⟨hrcl, hrc⟩ := hinv.consdone hd
  -- every worker has returned: none holds a line
  have hwall := List.all_eq_true.mp (hinv.rcclosed hrcl)
  have hwT : wTodo s = [] := List.flatMap_eq_nil_iff.mpr fun w hw => by
    cases w with
    | exited => rfl
    | idle => rfl
    | busy _ _ => cases hwall _ hw
  have hwA : wAcc s = [] := List.flatMap_eq_nil_iff.mpr fun w hw => by
    cases w with
    | exited => rfl
    | idle => rfl
    | busy _ _ => cases hwall _ hw
  -- some worker has returned: the batch channel is closed and drained, every reader has returned
  obtain ⟨w, hw⟩ := List.exists_mem_of_ne_nil _ hW
  obtain ⟨hcl, hc⟩ := hinv.exited (List.any_eq_true.mpr ⟨w, hw, hwall w hw⟩)
  have hsall := List.all_eq_true.mp (hinv.cclosed hcl)
  have hsl : srcLines s = [] := List.flatMap_eq_nil_iff.mpr fun x hx => by
    cases x with
    | done => rfl
    | waiting _ => cases hsall _ hx
    | active _ => cases hsall _ hx
  have hperm : s.processed.Perm all := by
    rw [List.perm_iff_count]
    intro y
    have := hinv.lines y
    rw [hsl, hc, hwT] at this
    simpa using this
  refine ⟨fun y => ?_, ?_, ?_, ?_⟩
  · have := hinv.mats y
    rw [hwA, hrc] at this
    simp at this
    rw [this]
    exact (hperm.filter _).count_eq y
  · rw [hinv.nread]; exact hperm.length_eq
  · rw [hinv.nmatched]; exact (hperm.filter _).length_eq
  · rw [hinv.nignored]; exact (hperm.filter _).length_eq

/-- At every reachable state the matched counter covers everything the consumer has received
    (so a render never shows more matches than the status line reports). -/
theorem matched_ge_consumed {cls : α → Cls} {B K : Nat} {all : List α} {s : St α} (hinv : Inv cls B K all s) :
    s.consumed.length ≤ s.nMatched := by
  have hp : (wAcc s ++ s.rc.flatten ++ s.consumed).Perm (s.processed.filter (isMatched cls)) := by
    rw [List.perm_iff_count]
    intro y
    have := hinv.mats y
    simp only [List.count_append]; omega
  have := hp.length_eq
  rw [hinv.nmatched, ← this]
  simp only [List.length_append]; omega

/-- Every match the consumer ever receives is one of the matched input lines, no more often than it occurs. -/
theorem consumed_le_final {cls : α → Cls} {B K : Nat} {all : List α} {s : St α} (hinv : Inv cls B K all s) (y : α) :
    s.consumed.count y ≤ (all.filter (isMatched cls)).count y := by
  have h1 := hinv.mats y
  have h2 := hinv.lines y
  have h3 : (s.processed.filter (isMatched cls)).count y ≤ (all.filter (isMatched cls)).count y := by
    by_cases hm : isMatched cls y = true
    · rw [List.count_filter hm, List.count_filter hm]; omega
    · have : ∀ l : List α, (l.filter (isMatched cls)).count y = 0 := by
        intro l
        rw [List.count_eq_zero]
        intro hmem
        exact hm (List.mem_filter.mp hmem).2
      rw [this, this]; exact Nat.le_refl _
  omega

end Rare.Pipeline

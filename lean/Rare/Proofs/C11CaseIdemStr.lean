import Rare.Proofs.C11Case
import Rare.Proofs.C20Utf8
/-!
C11: string-level idempotence of `strings.ToUpper` / `strings.ToLower` – every byte string, ill-formed
UTF-8 included – from the rune-level theorem `toRune_idem` and the UTF-8 round trip of `Proofs/C20Utf8`.
-/
namespace Rare.C11.Case
open Rare.C20

/-- what `utf8.AppendRune` writes for `r`: `r` itself, U+FFFD for surrogates and values past `MaxRune` -/
def normR (r : Nat) : Nat := if validScalar r then r else 0xFFFD

theorem normR_valid (r : Nat) : validScalar (normR r) := by
  unfold normR; split
  · assumption
  · unfold validScalar; omega

theorem encodeRune_normR (r : Nat) : encodeRune (normR r) = encodeRune r := by
  unfold normR; split
  · rfl
  · rename_i h
    have h' : (0xD800 ≤ r ∧ r < 0xE000) ∨ 0x110000 ≤ r := by unfold validScalar at h; omega
    have h80 : ¬ r < 0x80 := by omega
    have h800 : ¬ r < 0x800 := by omega
    conv => rhs; unfold encodeRune
    rw [if_neg h80, if_neg h800, if_pos h']
    decide

theorem toRune_fffd (lower : Bool) : toRune lower 0xFFFD = 0xFFFD := by
  cases lower <;> decide +kernel

theorem goMap_eq (f : Nat → Nat) (s : Bytes) : goMap f s = encodeUtf8 ((decodeUtf8 s).map (fun r => normR (f r))) := by
  unfold goMap encodeUtf8
  rw [List.flatMap_map]
  congr 1; funext r; exact (encodeRune_normR _).symm

/-- **`strings.Map(unicode.ToUpper, ·)` / `strings.Map(unicode.ToLower, ·)` are idempotent on every byte string**
    (ill-formed input, surrogate and out-of-range results included). -/
theorem goMap_case_idem (lower : Bool) (s : Bytes) :
    goMap (toRune lower) (goMap (toRune lower) s) = goMap (toRune lower) s := by
  rw [goMap_eq (toRune lower) s]
  unfold goMap
  rw [decodeUtf8_encodeUtf8 _ (by
    intro r hr
    rcases List.mem_map.mp hr with ⟨x, _, rfl⟩
    exact normR_valid _)]
  unfold encodeUtf8
  rw [List.flatMap_map, List.flatMap_map]
  congr 1; funext r
  show encodeRune (toRune lower (normR (toRune lower r))) = encodeRune (normR (toRune lower r))
  rw [encodeRune_normR]
  unfold normR
  split
  · rw [toRune_idem]
  · rename_i h
    rw [toRune_fffd]
    have := encodeRune_normR (toRune lower r)
    unfold normR at this; rw [if_neg h] at this; exact this


theorem isAscii_of_all (t : Bytes) (h : t.all (fun c => c < 128) = true) : IsAscii t := by
  intro x hx
  have := List.all_eq_true.mp h x hx
  simpa [UInt8.lt_iff_toNat_lt] using this

/-- On ASCII text `strings.Map` works byte by byte. -/
theorem goMap_of_ascii (f : Nat → Nat) (g : UInt8 → UInt8)
    (hfg : ∀ b : UInt8, b < 128 → encodeRune (f b.toNat) = [g b]) (t : Bytes)
    (h : t.all (fun c => c < 128) = true) : goMap f t = t.map g := by
  unfold goMap
  rw [decodeUtf8_of_ascii t (isAscii_of_all t h), List.flatMap_map]
  induction t with
  | nil => rfl
  | cons b tl ih =>
    simp only [List.all_cons, Bool.and_eq_true, decide_eq_true_eq] at h
    rw [List.flatMap_cons, hfg b h.1, ih h.2]; rfl

/-- On ASCII runes the table and the byte shift write the same byte. -/
theorem caseByte_table (b : UInt8) (hb : b < 128) :
    encodeRune (toUpperR b.toNat) = [upperB b] ∧ encodeRune (toLowerR b.toNat) = [lowerB b] := by
  have key : ∀ n, n < 128 →
      encodeRune (if 97 ≤ n ∧ n ≤ 122 then n - 32 else n) = [upperB (UInt8.ofNat n)] ∧
      encodeRune (if 65 ≤ n ∧ n ≤ 90 then n + 32 else n) = [lowerB (UInt8.ofNat n)] := by decide +kernel
  have hn := UInt8.lt_iff_toNat_lt.mp hb
  rw [(toRune_ascii _ hn).1, (toRune_ascii _ hn).2]
  simpa using key b.toNat hn

theorem goMap_ascii (t : Bytes) (h : t.all (fun c => c < 128) = true) :
    goMap toUpperR t = t.map upperB ∧ goMap toLowerR t = t.map lowerB :=
  ⟨goMap_of_ascii _ _ (fun b hb => (caseByte_table b hb).1) t h,
   goMap_of_ascii _ _ (fun b hb => (caseByte_table b hb).2) t h⟩

/-- whatever the mapping, `strings.Map` writes well-formed UTF-8 (ill-formed input bytes come out as U+FFFD) -/
theorem goMap_valid (f : Nat → Nat) (s : Bytes) : ValidUtf8 (goMap f s) := by
  unfold ValidUtf8
  rw [goMap_eq f s, decodeUtf8_encodeUtf8 _ (by
    intro r hr
    rcases List.mem_map.mp hr with ⟨x, _, rfl⟩
    exact normR_valid _)]

theorem ascii_valid (a : Bytes) (h : a.all (fun c => c < 128) = true) : ValidUtf8 a := by
  have := goMap_of_ascii id id (fun b hb => by
    show encodeRune b.toNat = [b]
    unfold encodeRune; rw [if_pos (by exact UInt8.lt_iff_toNat_lt.mp hb)]; simp) a h
  rwa [List.map_id] at this

section
variable {letter : UInt8 → Bool} {shift : UInt8 → UInt8} {f : Nat → Nat}
  (hfix : ∀ b, ¬ letter b = true → shift b = b) (hascii : ∀ b, b < 128 → shift b < 128)
include hfix hascii

/-- Idempotence of the rune mapping through `strings.Map`, of the byte shift, and their agreement on ASCII text
    (the result of the `strings.Map` path can be ASCII: `ſıx` ↦ `SIX`) make the whole function idempotent. -/
theorem goCase_idem (hshift : ∀ b, shift (shift b) = shift b)
    (hmap : ∀ t : Bytes, t.all (fun c => c < 128) = true → goMap f t = t.map shift)
    (hidem : ∀ s, goMap f (goMap f s) = goMap f s) (s : Bytes) :
    goCase letter shift f (goCase letter shift f s) = goCase letter shift f s := by
  cases hs : s.all (fun c => c < 128) with
  | true =>
    rw [goCase_ascii f hfix s hs, goCase_ascii f hfix _ (all_ascii_map shift hascii s hs), List.map_map]
    exact List.map_congr_left fun b _ => hshift b
  | false =>
    rw [goCase_not_ascii _ _ _ s hs]
    cases ht : (goMap f s).all (fun c => c < 128) with
    | true => rw [goCase_ascii f hfix _ ht, ← hmap _ ht]; exact hidem s
    | false => rw [goCase_not_ascii _ _ _ _ ht]; exact hidem s

theorem goCase_valid (s : Bytes) : ValidUtf8 (goCase letter shift f s) := by
  cases hs : s.all (fun c => c < 128) with
  | true => rw [goCase_ascii f hfix s hs]; exact ascii_valid _ (all_ascii_map shift hascii s hs)
  | false => rw [goCase_not_ascii _ _ _ s hs]; exact goMap_valid f s

end

/-- **`strings.ToUpper` / `strings.ToLower` are idempotent on every byte string.** -/
theorem goToUpper_idem (s : Bytes) : goToUpper (goToUpper s) = goToUpper s :=
  goCase_idem upperB_of_not_lower upperB_ascii upperB_idem (fun t h => (goMap_ascii t h).1) (goMap_case_idem false) s

theorem goToLower_idem (s : Bytes) : goToLower (goToLower s) = goToLower s :=
  goCase_idem lowerB_of_not_upper lowerB_ascii lowerB_idem (fun t h => (goMap_ascii t h).2) (goMap_case_idem true) s

theorem goToUpper_valid (s : Bytes) : ValidUtf8 (goToUpper s) := goCase_valid upperB_of_not_lower upperB_ascii s

theorem goToLower_valid (s : Bytes) : ValidUtf8 (goToLower s) := goCase_valid lowerB_of_not_upper lowerB_ascii s

end Rare.C11.Case

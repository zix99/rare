import Rare.Model.C15Api
import Rare.Proofs.C15Core
/-!
C15 – the sequential `Read`/`Drain`/`Close` model (`Rare.C15.Api`): the bytes returned since the last `Drain`
are the bytes of the file between the drain position and the offset, whatever the calls; a closed reader
stays closed and answers EOF.
-/
namespace Rare.C15.Api
open Rare.C15.Spec Rare.Follow

theorem take_min_length {α : Type} (l : List α) (n : Nat) : l.take (l.take n).length = l.take n := by
  rw [List.length_take]
  by_cases h : n ≤ l.length
  · rw [Nat.min_eq_left h]
  · have h' : l.length ≤ n := by omega
    rw [Nat.min_eq_right h', List.take_of_length_le (Nat.le_refl _), List.take_of_length_le h']

/-- the three outcomes of a `Read`: EOF, would block, or the next (at most `n`) unread bytes -/
theorem read_cases (s : St) (n : Nat) :
    step s (.read n) = (s, .eof) ∨ step s (.read n) = (s, .block) ∨
    step s (.read n) = ({ s with pos := s.pos + ((s.content.drop s.pos).take n).length,
                                 readBytes := s.readBytes + ((s.content.drop s.pos).take n).length,
                                 delivered := s.delivered ++ (s.content.drop s.pos).take n },
                        .bytes ((s.content.drop s.pos).take n)) := by
  simp only [step]
  split
  · exact Or.inl rfl
  · split
    · exact Or.inr (Or.inl rfl)
    · split
      · exact Or.inr (Or.inl rfl)
      · exact Or.inr (Or.inr rfl)

/-- the ghost bookkeeping is right: offsets are ordered and `delivered` is the slice between them -/
def Inv (s : St) : Prop := InPlaceOK s.content s.delivered s.start s.pos

theorem inv_init (c : Bytes) : Inv (init c) := by
  refine ⟨Nat.le_refl _, Nat.zero_le _, ?_⟩
  simp [init, extract]

theorem inv_step {s : St} (h : Inv s) (c : Call) : Inv (step s c).1 := by
  obtain ⟨h1, h2, h3⟩ := h
  cases c with
  | read n =>
    rcases read_cases s n with hr | hr | hr <;> rw [hr]
    · exact ⟨h1, h2, h3⟩
    · exact ⟨h1, h2, h3⟩
    · refine ⟨by simp only; omega, ?_, ?_⟩
      · simp only [List.length_take, List.length_drop]; omega
      · simp only
        rw [extract_read s.content s.start s.pos _ h1, h3, take_min_length]
  | drain =>
    simp only [step]
    split
    · exact ⟨Nat.le_refl _, Nat.le_refl _, by simp [extract]⟩
    · exact ⟨h1, h2, h3⟩
  | close => exact ⟨h1, h2, h3⟩
  | append b =>
    refine ⟨h1, by simp only [step, List.length_append]; omega, ?_⟩
    simp only [step]
    rw [extract_append_stable _ _ _ _ (Or.inl h2)]; exact h3

theorem inv_run : ∀ (cs : List Call) (s : St), Inv s → Inv (run s cs).1 := by
  intro cs
  induction cs with
  | nil => intro s h; exact h
  | cons c cs ih =>
    intro s h
    have hs := inv_step h c
    simp only [run]
    cases hst : step s c with
    | mk s' r =>
      rw [hst] at hs
      cases r <;> first | exact ih s' hs | exact hs

/-- the bytes of all successful `Read`s, in order -/
def bytesOf : List Res → Bytes
  | [] => []
  | .bytes b :: rs => b ++ bytesOf rs
  | _ :: rs => bytesOf rs

def noDrain : Call → Bool
  | .drain => false
  | _ => true

/-- without a `Drain` the ghost stream is what the `Read`s returned, and the start position does not move -/
theorem delivered_run : ∀ (cs : List Call) (s : St), cs.all noDrain = true →
    (run s cs).1.delivered = s.delivered ++ bytesOf (run s cs).2 ∧ (run s cs).1.start = s.start := by
  intro cs
  induction cs with
  | nil => intro s _; simp [run, bytesOf]
  | cons c cs ih =>
    intro s hnd
    simp only [List.all_cons, Bool.and_eq_true] at hnd
    have ih' := fun s' => ih s' hnd.2
    cases c with
    | drain => simp [noDrain] at hnd
    | close =>
      simp only [run, step]
      rw [(ih' _).1, (ih' _).2]; simp [bytesOf]
    | append b =>
      simp only [run, step]
      rw [(ih' _).1, (ih' _).2]; simp [bytesOf]
    | read n =>
      rcases read_cases s n with h | h | h
      · simp only [run, h]; rw [(ih' _).1, (ih' _).2]; simp [bytesOf]
      · simp only [run, h]; simp [bytesOf]
      · simp only [run, h]; rw [(ih' _).1, (ih' _).2]; simp [bytesOf]

/-- a closed reader stays closed, and no call blocks: `Read` answers EOF, everything else nil -/
theorem closed_step {s : St} (h : s.closed = true) (c : Call) :
    (step s c).1.closed = true ∧ ((step s c).2 = .eof ∨ (step s c).2 = .ok) := by
  cases c with
  | read n => simp [step, h]
  | drain => simp only [step]; split <;> exact ⟨h, Or.inr rfl⟩
  | close => exact ⟨rfl, Or.inr rfl⟩
  | append b => exact ⟨h, Or.inr rfl⟩

theorem closed_run : ∀ (cs : List Call) (s : St), s.closed = true → (run s cs).1.closed = true ∧
    ∀ r ∈ (run s cs).2, r = .eof ∨ r = .ok := by
  intro cs
  induction cs with
  | nil => intro s h; exact ⟨h, by simp [run]⟩
  | cons c cs ih =>
    intro s h
    obtain ⟨hc, hr⟩ := closed_step h c
    simp only [run]
    cases hst : step s c with
    | mk s' r =>
      rw [hst] at hc hr
      obtain ⟨a, b⟩ := ih s' hc
      rcases hr with rfl | rfl
      · exact ⟨a, List.forall_mem_cons.mpr ⟨Or.inl rfl, b⟩⟩
      · exact ⟨a, List.forall_mem_cons.mpr ⟨Or.inr rfl, b⟩⟩

end Rare.C15.Api

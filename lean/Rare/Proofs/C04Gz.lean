import Rare.Proofs.C04
import Rare.Model.C06Read
/-!
The seam with C06 (file open / gzip): when the first `Read` that reports an error reports a failure,
the callback has fired exactly once by the end of the scan.
-/
namespace Rare.C04

theorem closed_firstFailure_seen :
    Closed (fun s => (s.eof = false ∧ failsFirst s.rd.script = true ∧ s.errs = 0) ∨ (s.errs = 1 ∧ s.eof = true)) :=
  Closed.of_read (fun rd eof errs _ => (eof = false ∧ failsFirst rd.script = true ∧ errs = 0) ∨ (errs = 1 ∧ eof = true))
    fun s h he _ => by
    dsimp only
    rcases h with ⟨_, hf, h0⟩ | ⟨_, h1⟩
    · cases hsc : s.rd.script with
      | nil => rw [hsc] at hf; simp [failsFirst] at hf
      | cons st ss =>
        rw [hsc] at hf
        simp only [failsFirst] at hf
        cases hst : st.err with
        | none =>
          rw [hst] at hf
          simp only [Reader.read, hsc, hst, Imm.recv]
          exact Or.inl ⟨he, hf, h0⟩
        | some e =>
          rw [hst] at hf
          simp only [Reader.read, hsc, hst, Imm.recv, Imm.fail]
          have : e = .fail := by simpa using hf
          exact Or.inr (by simp [this, h0])
    · rw [he] at h1; cases h1

/-! ### a failing stream that is handed over completely: one byte per `Read`, then the failure -/

def byteScript (k w : Nat) : List Step := List.replicate k ⟨1, none⟩ ++ [⟨w, some .fail⟩]

theorem failsFirst_byteScript (k w : Nat) : failsFirst (byteScript k w) = true := by
  induction k with
  | zero => rfl
  | succ k ih => simpa [byteScript, List.replicate_succ, failsFirst] using ih

theorem closed_byteScript (w : Nat) :
    Closed (fun s => (s.eof = false ∧ ∃ k, s.rd.script = byteScript k w ∧ s.rd.rest.length ≤ k) ∨ s.rd.rest = []) :=
  Closed.of_read (fun rd eof _ _ => (eof = false ∧ ∃ k, rd.script = byteScript k w ∧ rd.rest.length ≤ k) ∨ rd.rest = [])
    fun s h he hroom => by
    dsimp only
    rcases h with ⟨_, k, hsc, hle⟩ | hr
    · cases k with
      | zero =>
        have hr : s.rd.rest = [] := List.eq_nil_of_length_eq_zero (by omega)
        simp only [Reader.read, hsc, byteScript, List.replicate_zero, List.nil_append, Imm.recv, Imm.fail, hr]
        exact Or.inr (by simp)
      | succ k =>
        have hsc' : s.rd.script = ⟨1, none⟩ :: byteScript k w := by
          rw [hsc]; simp [byteScript, List.replicate_succ]
        simp only [Reader.read, hsc', Imm.recv]
        refine Or.inl ⟨he, k, rfl, ?_⟩
        have : min 1 (s.cap - s.buf.length) = 1 := by omega
        simp only [this, List.length_drop]
        omega
    · have e1 : (s.rd.read (s.cap - s.buf.length)).2.2.rest = [] := by
        have := read_take_drop s.rd (s.cap - s.buf.length)
        rw [hr] at this
        exact (List.append_eq_nil_iff.mp this).2
      split <;> exact Or.inr e1

end Rare.C04

import Rare.Proofs.C04Buf
/-!
Fuel irrelevance: the fuel parameters of the model (the recursion fuel of `readLoop` / `scan`, the number of `Scan()`
calls of `scanAll`) are artefacts of totality - once a run did not stop for lack of fuel, more fuel changes nothing.
-/
namespace Rare.C04

theorem readLoop_fuel_mono (f g : Nat) : ∀ s : Imm, (s.readLoop f).1 ≠ .fuel → s.readLoop (f + g) = s.readLoop f := by
  induction f with
  | zero => intro s h; simp [Imm.readLoop] at h
  | succ f ih =>
    intro s h
    rw [Nat.add_right_comm]
    simp only [Imm.readLoop] at h ⊢
    generalize s.grown.rd.read (s.grown.cap - s.grown.buf.length) = r at h ⊢
    cases h1 : r.2.1 with
    | some e => rfl
    | none =>
      rw [h1] at h
      cases h2 : idxNl r.1 with
      | some eol => rfl
      | none =>
        rw [h2] at h
        exact ih _ h

theorem scan_fuel_mono (f g : Nat) (s : Imm) (h : (s.scan f).1 ≠ .fuel) : s.scan (f + g) = s.scan f := by
  unfold Imm.scan at h ⊢
  split
  · rfl
  · rename_i ht
    simp only [ht] at h
    exact readLoop_fuel_mono f g s h

theorem fill_fuel_mono (f g : Nat) : ∀ (cap : Nat) (acc : Bytes) (rd : Reader) (errs : Nat) (dl : Bytes) x,
    Buf.fill f cap acc rd errs dl = some x → Buf.fill (f + g) cap acc rd errs dl = some x := by
  induction f with
  | zero => intro cap acc rd errs dl x h; simp [Buf.fill] at h
  | succ f ih =>
    intro cap acc rd errs dl x h
    rw [Nat.add_right_comm]
    simp only [Buf.fill] at h ⊢
    split
    · rename_i hlt
      simp only [hlt, if_true] at h
      generalize rd.read (cap - acc.length) = r at h ⊢
      split
      · rename_i h1
        simp only [h1] at h
        exact h
      · rename_i h1
        simp only [h1] at h
        exact ih _ _ _ _ _ _ h
    · rename_i hlt
      simp only [hlt, if_false] at h
      exact h

theorem bscan_fuel_mono (f g : Nat) : ∀ s : Buf, (s.scan f).1 ≠ .fuel → s.scan (f + g) = s.scan f := by
  induction f with
  | zero => intro s h; simp [Buf.scan] at h
  | succ f ih =>
    intro s h
    rw [Nat.add_right_comm]
    simp only [Buf.scan] at h ⊢
    split
    · rfl
    · rename_i h0
      simp only [h0] at h
      split
      · rfl
      · rename_i h1
        simp only [h1] at h
        split
        · rename_i h2
          simp only [h2, if_true] at h
          split
          · rfl
          · rename_i h3
            simp only [h3] at h
            exact ih _ h
        · rfl

/-- A `Scan()` that agrees with `scan` wherever the reader's measure is below `m` gives the same calls from there. -/
theorem Scans.calls_fuel {σ : Type} {win : σ → Imm} {scan scan' : σ → Res × σ} (h : Scans win scan) {m : Nat}
    (heq : ∀ {s C}, Inv (win s) C → (win s).rd.measure < m → scan' s = scan s) (n : Nat) {s : σ} {E : List Bytes}
    (hg : Good (win s) E) (hm : (win s).rd.measure < m) : calls scan' n s = calls scan n s := by
  refine calls_congr (I := fun t => (∃ E, Good (win t) E) ∧ (win t).rd.measure < m) (fun t ⟨⟨E, hgt⟩, hmt⟩ => ?_)
    (fun t ⟨⟨E, C, hinv, _⟩, hmt⟩ => heq hinv hmt) n s ⟨⟨E, hg⟩, hm⟩
  obtain ⟨C, hinv, _⟩ := id hgt
  exact ⟨⟨_, h.good_toks hgt⟩,
    Nat.lt_of_le_of_lt (h.closed (closed_measure _) (fun _ _ hw => hw) hinv (Nat.le_refl _)) hmt⟩

/-- more recursion fuel changes nothing once the fuel exceeds the reader's progress measure -/
theorem scanAll_fuel_mono {f F : Nat} (hF : f ≤ F) (n : Nat) {s : Imm} {E : List Bytes} (hg : Good s E)
    (hm : s.rd.measure < f) : s.scanAll F n = s.scanAll f n := by
  obtain ⟨g, rfl⟩ := Nat.exists_eq_add_of_le hF
  rw [Imm.scanAll_eq, Imm.scanAll_eq]
  exact (Imm.scans f).calls_fuel (fun {t _} hinv hlt => scan_fuel_mono f g t (scan_nofuel f hinv hlt)) n hg hm

theorem bscanAll_fuel_mono {f F : Nat} (hF : f ≤ F) (n : Nat) {s : Buf} {E : List Bytes} (hg : Good s.win E)
    (hm : s.rd.measure + 1 < f) : s.scanAll F n = s.scanAll f n := by
  obtain ⟨g, rfl⟩ := Nat.exists_eq_add_of_le hF
  rw [Buf.scanAll_eq, Buf.scanAll_eq]
  exact (Buf.scans (by omega)).calls_fuel (m := f - 1)
    (fun {t _} hinv (hlt : t.rd.measure < f - 1) => bscan_fuel_mono f g t (bscan_nofuel f hinv (by omega))) n hg
    (show s.rd.measure < f - 1 by omega)

/-- more calls after the call that answered false change nothing -/
theorem scanAll_calls_mono (f : Nat) {n N : Nat} (hN : n ≤ N) (s : Imm) (h : (s.scanAll f n).2.1 = true) :
    s.scanAll f N = s.scanAll f n := by
  obtain ⟨k, rfl⟩ := Nat.exists_eq_add_of_le hN
  rw [Imm.scanAll_eq] at h ⊢
  rw [Imm.scanAll_eq]
  exact calls_more _ n k s h

theorem bscanAll_calls_mono (f : Nat) {n N : Nat} (hN : n ≤ N) (s : Buf) (h : (s.scanAll f n).2.1 = true) :
    s.scanAll f N = s.scanAll f n := by
  obtain ⟨k, rfl⟩ := Nat.exists_eq_add_of_le hN
  rw [Buf.scanAll_eq] at h ⊢
  rw [Buf.scanAll_eq]
  exact calls_more _ n k s h

end Rare.C04

import Rare.Model.Expr.Funcs.TimeW
import Rare.Model.C18Zone
import Rare.Proofs.C18Layout
/-!
C08 / C18 seam: the tail of `time.parse` as the expression model has it (`Funcs/TimeW.lean` `timeOfParsed`,
written against the oracles of a time world) and as the zone-table model of C18 has it
(`Rare/Model/C18Zone.lean` `instantInN`, written against a transition table) are two hand mirrors of the same Go
code.  Here a table is made a time world (`tabWorld`) and the two are proved to name the SAME instant for every
table, every zone list and every parsed text – the numeric offset, the abbreviation the location knows (both loops
of `Location.lookupName`), the fabricated zone of an abbreviation it does not know (`GMT+3` included: the instant
is NOT shifted), and no zone at all (`time.Date`'s two look-ups).
-/
namespace Rare.Expr.Funcs.TimeW
open Rare Rare.Expr

/-- A `Seg` of the table as what `Location.lookup` returns (`alpha` / `omega` for the open ends). -/
def segInfo (s : C18.Seg) : ZoneInfo := ⟨s.abbr, s.off, s.start.getD alpha, s.stop.getD omega⟩

/-- A transition table and a zone list as a time world: every location except `time.UTC` answers from the table;
    nothing else is known (no dateparse, no wall clock). -/
def tabWorld (z : C18.ZoneTab) (zones : List (Bytes × Int)) : TimeWorld :=
  { loadOk := fun _ => some true,
    zones := fun _ => zones,
    lookup := fun _ u => .ret (segInfo (z.lookup u)),
    detect := fun _ => .ret none,
    parseAny := fun _ _ => .ret none,
    nowBuild := .ret [], nowLive := .ret [], nowDelta := .ret [],
    lib := fun _ => .ret [] }

variable (z : C18.ZoneTab) (zones : List (Bytes × Int))

theorem lookupL_tab {loc : C18.Loc} (hl : loc ≠ .utc) (u : Int) :
    lookupL (tabWorld z zones) loc u = .ret (segInfo (z.lookup u)) := by
  cases loc with
  | utc => exact absurd rfl hl
  | «local» => rfl
  | named n => rfl

theorem zonesL_tab {loc : C18.Loc} (hl : loc ≠ .utc) : zonesL (tabWorld z zones) loc = zones := by
  cases loc with
  | utc => exact absurd rfl hl
  | «local» => rfl
  | named n => rfl

theorem lookupNameFirst_tab {loc : C18.Loc} (hl : loc ≠ .utc) (name : Bytes) (unix : Int) (zs : List (Bytes × Int)) :
    lookupNameFirst (tabWorld z zones) loc name unix zs = .ret (C18.lookupNameFirst z name unix zs) := by
  induction zs with
  | nil => rfl
  | cons e rest ih =>
    obtain ⟨zn, zoff⟩ := e
    simp only [lookupNameFirst, C18.lookupNameFirst]
    by_cases hn : zn = name
    · simp only [hn, if_true, lookupL_tab z zones hl]
      show (if (segInfo (z.lookup (unix - zoff))).name = name then _ else _) = _
      by_cases ha : (z.lookup (unix - zoff)).abbr = name
      · have : (segInfo (z.lookup (unix - zoff))).name = name := ha
        simp only [this, ha, if_true]; rfl
      · have : ¬ (segInfo (z.lookup (unix - zoff))).name = name := ha
        simp only [this, ha, if_false]
        rw [← hn] at ih ⊢
        simpa [hn] using ih
    · simp only [hn, if_false]; exact ih

theorem lookupName_tab {loc : C18.Loc} (hl : loc ≠ .utc) (name : Bytes) (unix : Int) :
    lookupName (tabWorld z zones) loc name unix = .ret (C18.lookupNameIn z zones name unix) := by
  unfold lookupName C18.lookupNameIn
  rw [zonesL_tab z zones hl, lookupNameFirst_tab z zones hl]
  show (match C18.lookupNameFirst z name unix zones with
    | some off => (pure (some off) : Comp (Option Int))
    | none => _) = _
  cases C18.lookupNameFirst z name unix zones with
  | some o => rfl
  | none =>
    simp only []
    cases zones.find? (fun e => e.1 == name) <;> rfl

/-- The wall clock minus the offset found for it is an `int64` below `MaxInt64` – what makes Go's `alpha` / `omega`
    stand for "no bound" (`utc < alpha`, `utc ≥ omega` never hold).  True for every text `time.Parse` accepts (years
    0…9999) in every zone whose offsets are below 2^61 seconds (`wallInRange_of_bounds`). -/
def WallInRange (w : Int) : Prop := alpha ≤ w - (z.lookup w).off ∧ w - (z.lookup w).off < omega

theorem dateResolve_tab {loc : C18.Loc} (hl : loc ≠ .utc) (w : Int) (hr : WallInRange z w) :
    dateResolve (tabWorld z zones) loc w = .ret (C18.dateIn z w) := by
  unfold dateResolve C18.dateIn
  rw [lookupL_tab z zones hl]
  show (if (segInfo (z.lookup w)).off ≠ 0 then _ else _) = _
  have hoff : (segInfo (z.lookup w)).off = (z.lookup w).off := rfl
  by_cases h0 : (z.lookup w).off = 0
  · simp [hoff, h0]; rfl
  · have hcond : ((w - (z.lookup w).off < (segInfo (z.lookup w)).start ∨ w - (z.lookup w).off ≥ (segInfo (z.lookup w)).stop))
        ↔ (!C18.inSeg (z.lookup w) (w - (z.lookup w).off)) = true := by
      obtain ⟨ha, ho⟩ := hr
      simp only [segInfo, C18.inSeg, C18.geStart, C18.ltStop]
      cases hs : (z.lookup w).start <;> cases he : (z.lookup w).stop <;>
        simp [Option.getD] <;> omega
    simp only [hoff, ne_eq, h0, not_false_eq_true, if_true]
    by_cases hc : (!C18.inSeg (z.lookup w) (w - (z.lookup w).off)) = true
    · have := hcond.mpr hc
      simp only [hc, if_true]
      rw [if_pos this, lookupL_tab z zones hl]; rfl
    · have := mt hcond.mp hc
      simp only [hc]
      rw [if_neg this]; rfl

/-- **The seam.**  In the world of a table, the tail of `time.parse` of the expression model lands on the instant the
    zone-table model of C18 computes, for every parsed text. -/
theorem timeOfParsed_tab {loc : C18.Loc} (hl : loc ≠ .utc) (p : C18.Parsed)
    (hr : p.zone = .default → WallInRange z (C18.wallSeconds p.dt)) :
    ∃ t, timeOfParsed (tabWorld z zones) loc p = .ret t ∧ t.unix = C18.instantInN z zones p ∧ t.nsec = p.dt.ns := by
  unfold timeOfParsed C18.instantInN
  cases hz : p.zone with
  | utc => exact ⟨_, rfl, rfl, rfl⟩
  | offset o => exact ⟨_, rfl, rfl, rfl⟩
  | name n =>
    simp only []
    rw [lookupName_tab z zones hl]
    show ∃ t, (match C18.lookupNameIn z zones n (C18.wallSeconds p.dt) with
      | some off => _
      | none => _) = Comp.ret t ∧ _
    cases C18.lookupNameIn z zones n (C18.wallSeconds p.dt) with
    | some off =>
      simp only []
      rw [lookupL_tab z zones hl]
      exact ⟨_, rfl, rfl, rfl⟩
    | none => exact ⟨_, rfl, rfl, rfl⟩
  | default =>
    simp only []
    rw [dateResolve_tab z zones hl _ (hr hz)]
    show ∃ t, (do let zz ← lookupL (tabWorld z zones) loc (C18.dateIn z (C18.wallSeconds p.dt)); pure _) = Comp.ret t ∧ _
    rw [lookupL_tab z zones hl]
    exact ⟨_, rfl, rfl, rfl⟩

/-- `WallInRange` from plain bounds: a wall clock and offsets up to 2^61 in size. -/
theorem wallInRange_of_bounds (w : Int) (hw : -2305843009213693952 ≤ w ∧ w ≤ 2305843009213693952)
    (ho : -2305843009213693952 ≤ (z.lookup w).off ∧ (z.lookup w).off ≤ 2305843009213693952) : WallInRange z w := by
  unfold WallInRange alpha omega
  simp only [minInt64, maxInt64]
  omega

/-- `time.UTC` as a table: one segment, no zone list (`utcLoc` has no zones; `lookup` answers `"UTC", 0`). -/
def utcTab : C18.ZoneTab := ⟨(0, C18.asc "UTC"), []⟩

/-- The seam for `time.UTC`, in EVERY time world (the world is not consulted). -/
theorem timeOfParsed_utc (w : TimeWorld) (p : C18.Parsed) :
    ∃ t, timeOfParsed w .utc p = .ret t ∧ t.unix = C18.instantInN utcTab [] p ∧ t.nsec = p.dt.ns := by
  unfold timeOfParsed C18.instantInN
  cases hz : p.zone with
  | utc => exact ⟨_, rfl, rfl, rfl⟩
  | offset o => exact ⟨_, rfl, rfl, rfl⟩
  | name n => exact ⟨_, rfl, rfl, rfl⟩
  | default => exact ⟨_, rfl, rfl, rfl⟩

/-- An abbreviation the location does not know – `GMT+3` included – leaves the instant where the wall clock read as
    UTC puts it, in every world: Go only does `t.setLoc(FixedZone(name, offset))`. -/
theorem timeOfParsed_unknown_abbr (w : TimeWorld) (loc : C18.Loc) (p : C18.Parsed) (n : Bytes) (hz : p.zone = .name n)
    (hn : lookupName w loc n (C18.wallSeconds p.dt) = .ret none) :
    ∃ t, timeOfParsed w loc p = .ret t ∧ t.unix = C18.wallSeconds p.dt ∧ t.abbr = n := by
  unfold timeOfParsed
  simp only [hz, hn]
  exact ⟨_, rfl, rfl, rfl⟩

theorem eq_ok_of_toOption {ε α : Type} {e : Except ε α} {a : α} (h : e.toOption = some a) : e = .ok a := by
  cases e with
  | ok b => exact congrArg Except.ok (Option.some.inj h)
  | error m => cases h

/-- A witness: `time.ParseInLocation(RFC1123, "Thu, 14 Apr 2016 17:12:25 GMT+3", UTC)`
    is 17:12:25 UTC (1460653945), shown in a zone of +3 h. -/
theorem gmt_plus3_witness :
    ∃ p, C18.parseLayout (C18.asc "Mon, 02 Jan 2006 15:04:05 MST") (C18.asc "Thu, 14 Apr 2016 17:12:25 GMT+3") = .ok p ∧
      p.zone = .name (C18.asc "GMT+3") ∧ C18.wallSeconds p.dt = 1460653945 ∧
      ∀ w, timeOfParsed w .utc p = .ret ⟨1460653945, 0, 10800, C18.asc "GMT+3"⟩ := by
  simp -index only [C18.asc_ofList]
  refine ⟨⟨⟨2016, 4, 14, 17, 12, 25, 0⟩, .name (C18.asc "GMT+3")⟩, eq_ok_of_toOption (by decide +kernel), rfl,
    by decide +kernel, fun w => by rfl⟩

end Rare.Expr.Funcs.TimeW

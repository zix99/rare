import Rare.Model.C14Log
import Rare.Proofs.C14LegendF64
import Rare.Proofs.F64Fast
/-!
# C14: exact cases of the log scalers on binary64 with Go's `math.Log2` / `math.Log10` (`Model/C14Log.lean`)

The values of the two logarithms at every power of two and every power of ten an `int64` can hold are finite tables,
enumerated by kernel evaluation of the definitions.  `Scale` on a range that starts at 0 or 1 follows from them by
reasoning: the lower end maps to `0.0`, so the last step is the single division `mapVal(v) / Ceil(mapVal(max))`.
-/
namespace Rare.C14
open Rare Rare.F64

/-! ### a range whose lower end maps to `0.0` -/

theorem sub_zero {x : F64} (hx : x.isFinite = true) : F64.sub x (F64.ofInt 0) = x := by
  have hs : (F64.ofInt 0).sign = false := by decide +kernel
  have e : x.toRat - 0 = x.toRat := by grind
  rw [sub_finite hx ofInt_zero_props.1, ofInt_zero_props.2, hs, e, Bool.not_false, Bool.and_true]
  exact ofRatS_toRat x hx

theorem le_trans {x y z : F64} (h1 : F64.le x y = true) (h2 : F64.le y z = true) : F64.le x z = true := by
  simp only [F64.le, Bool.and_eq_true, Bool.not_eq_true', decide_eq_true_eq] at *
  exact ⟨⟨h1.1.1, h2.1.2⟩, by omega⟩

/-- `float64(a) <= float64(b)` decides `a ≤ b` when `b` is small enough for `b + 1` to be a float -/
theorem ofInt_le_iff {a b : Int} (hb : b.natAbs < P53) : F64.le (F64.ofInt a) (F64.ofInt b) = true ↔ a ≤ b := by
  refine ⟨fun h => ?_, ofInt_mono⟩
  false_or_by_contra
  rename_i hab
  obtain ⟨fb, vb⟩ := isFinite_ofInt b (by omega)
  obtain ⟨fb1, vb1⟩ := isFinite_ofInt (b + 1) (by omega)
  have h1 := (le_iff_toRat_le fb1 fb).mp (le_trans (ofInt_mono (show b + 1 ≤ a by omega)) h)
  rw [vb, vb1] at h1
  have := Rat.intCast_le_intCast.mp h1
  omega

theorem ceil_ofInt_eq {n : Int} (h0 : n ≠ 0) (h : n.natAbs ≤ P53) : F64.ceil (F64.ofInt n) = F64.ofInt n := by
  obtain ⟨fc, vc⟩ := toRat?_eq_some.mp (ceil_ofInt h)
  obtain ⟨fn, vn⟩ := isFinite_ofInt n h
  exact eq_of_toRat_eq fc fn (by rw [vc, vn]) (by rw [vc]; exact_mod_cast h0)

theorem floor_zero : F64.floor (F64.ofInt 0) = F64.ofInt 0 := by decide +kernel

section
variable {L2 L10 P2 P10 : F64 → F64}

theorem mapF_log_of_le_one {k : Scaler} (hk : k ≠ .linear) {i : Int} (hi : i ≤ 1) : mapF L2 L10 P2 P10 k i = F64.ofInt 0 := by
  cases k with
  | linear => exact absurd rfl hk
  | log2 => rw [mapF_log2, if_pos (ofInt_mono hi)]
  | log10 => rw [mapF_log10, if_pos (ofInt_mono hi)]

theorem mapF_log2_of_one_lt {i : Int} (hi : 1 < i) : mapF L2 L10 P2 P10 .log2 i = L2 (F64.ofInt i) := by
  rw [mapF_log2, if_neg (fun h => absurd ((ofInt_le_iff (by decide)).mp h) (by omega))]

theorem mapF_log10_of_one_lt {i : Int} (hi : 1 < i) : mapF L2 L10 P2 P10 .log10 i = L10 (F64.ofInt i) := by
  rw [mapF_log10, if_neg (fun h => absurd ((ofInt_le_iff (by decide)).mp h) (by omega))]

/-- a log scale on a range `[0 or 1, mx]` whose upper end maps to the integer `b ≥ 1`: the lower end maps to `0.0`, both
subtractions of the last step are exact, and `Scale` is the mapped value divided by `b` (one rounding) -/
theorem scale_f64_from_one {k : Scaler} (hk : k ≠ .linear) {v mn mx b : Int} (hmn : mn ≤ 1) (h1 : mn ≤ v) (h2 : v ≤ mx) (hmx : 1 < mx)
    (hX : (mapF L2 L10 P2 P10 k v).isFinite = true) (hB : F64.ceil (mapF L2 L10 P2 P10 k mx) = F64.ofInt b)
    (hb0 : 0 < b) (hb : b < 9007199254740992) :
    scale (f64Arith L2 L10 P2 P10) k v mn mx = F64.div (mapF L2 L10 P2 P10 k v) (F64.ofInt b) := by
  have hu : upperEnd mn mx = mx := if_neg (by omega)
  have hg : ¬ F64.le (F64.ofInt b) (F64.ofInt 0) = true :=
    fun h => absurd ((ofInt_le_iff (by decide)).mp h) (by omega)
  rw [scale_f64_in_range k h1 h2, hu, mapF_log_of_le_one hk hmn, floor_zero, hB, scaleCore, if_neg hg,
    sub_zero hX, sub_zero (isFinite_ofInt b (by omega)).1]

end

/-! ### `math.Log2` at the powers of two, `math.Log10` at the powers of ten -/

/-- `Frexp(2^k) = (0.5, k + 1)` for every power of two up to `2^63 = float64(MaxInt64)` -/
theorem frexp_pow2 : ∀ k : Nat, k < 64 → frexpF (F64.ofInt ((2 : Int) ^ k)) = (fHalf, (k : Int) + 1) := by
  simp only [F64.Fast.ops]
  decide +kernel

theorem goLog2F_pow2 {k : Nat} (hk : k < 64) : goLog2F (F64.ofInt ((2 : Int) ^ k)) = F64.ofInt (k : Int) := by
  have e : F64.eq fHalf fHalf = true := by decide
  simp only [goLog2F, frexp_pow2 k hk, e, if_true, Int.add_sub_cancel]

/-- `math.Log10(10^k)` is the exponent, exactly, but for `Log10(1e15) = 15 - 2^-49` -/
theorem goLog10F_pow10 : ∀ k : Nat, k < 19 → goLog10F (F64.ofInt ((10 : Int) ^ k)) =
    if k = 15 then fb64 0x402dffffffffffff else F64.ofInt (k : Int) := by
  unfold goLog10F goLogF
  simp (config := { zeta := false }) only [F64.Fast.ops]
  decide +kernel

theorem goLog10F_pow10_props {k : Nat} (hk : k < 19) :
    (goLog10F (F64.ofInt ((10 : Int) ^ k))).isFinite = true ∧ F64.ceil (goLog10F (F64.ofInt ((10 : Int) ^ k))) = F64.ofInt (k : Int) := by
  rw [goLog10F_pow10 k hk]
  by_cases h15 : k = 15
  · subst h15; exact ⟨by decide, by decide +kernel⟩
  by_cases h0 : k = 0
  · subst h0; exact ⟨by decide +kernel, by decide +kernel⟩
  rw [if_neg h15]
  exact ⟨(isFinite_ofInt _ (by omega)).1, ceil_ofInt_eq (by omega) (by omega)⟩

/-! ### `Scale` of a power on a range of powers -/

theorem int_pow_mono {b : Int} (hb : 1 < b) {k j : Nat} (h : k ≤ j) : b ^ k ≤ b ^ j := by
  rcases Nat.eq_or_lt_of_le h with rfl | h
  · exact Int.le_refl _
  · exact Int.le_of_lt (Int.pow_lt_pow_of_lt hb h)

theorem mapF_log2_pow2 (P2 P10 : F64 → F64) {k : Nat} (hk : k < 64) :
    mapF goLog2F goLog10F P2 P10 .log2 ((2 : Int) ^ k) = F64.ofInt (k : Int) := by
  by_cases h0 : k = 0
  · subst h0; exact mapF_log_of_le_one (by decide) (by decide)
  · have := int_pow_mono (b := 2) (by decide) (show 1 ≤ k by omega)
    rw [mapF_log2_of_one_lt (by omega), goLog2F_pow2 hk]

theorem mapF_log10_pow10 (P2 P10 : F64 → F64) {k : Nat} (hk : k < 19) :
    mapF goLog2F goLog10F P2 P10 .log10 ((10 : Int) ^ k) = goLog10F (F64.ofInt ((10 : Int) ^ k)) := by
  by_cases h0 : k = 0
  · subst h0; rw [goLog10F_pow10 0 hk]; exact mapF_log_of_le_one (by decide) (by decide)
  · have := int_pow_mono (b := 10) (by decide) (show 1 ≤ k by omega)
    exact mapF_log10_of_one_lt (by omega)

/-- on a power-of-two range `[0 or 1, 2^j]` the log2 scale of `2^k` is `k/j`, correctly rounded (`math.Pow` is irrelevant to
`Scale`: any `P2 P10`) -/
theorem scale_log2_pow2 (P2 P10 : F64 → F64) {k j : Nat} (hkj : k ≤ j) (hj0 : 0 < j) (hj : j < 63) {mn : Int} (hmn : mn = 0 ∨ mn = 1) :
    scale (f64Arith goLog2F goLog10F P2 P10) .log2 ((2 : Int) ^ k) mn ((2 : Int) ^ j) = F64.div (F64.ofInt (k : Int)) (F64.ofInt (j : Int)) := by
  have k0 := int_pow_mono (b := 2) (by decide) (Nat.zero_le k)
  have j1 := int_pow_mono (b := 2) (by decide) (show 1 ≤ j from hj0)
  have hX := mapF_log2_pow2 P2 P10 (show k < 64 by omega)
  rw [scale_f64_from_one (b := j) (by decide) (by omega) (by omega) (int_pow_mono (by decide) hkj) (by omega)
    (by rw [hX]; exact (isFinite_ofInt _ (by omega)).1)
    (by rw [mapF_log2_pow2 P2 P10 (show j < 64 by omega), ceil_ofInt_eq (by omega) (by omega)]) (by omega) (by omega), hX]

/-- on a power-of-ten range `[0 or 1, 10^j]` the log10 scale of `10^k` is `Log10(10^k)/j` -/
theorem scale_log10_pow10 (P2 P10 : F64 → F64) {k j : Nat} (hkj : k ≤ j) (hj0 : 0 < j) (hj : j < 19) {mn : Int} (hmn : mn = 0 ∨ mn = 1) :
    scale (f64Arith goLog2F goLog10F P2 P10) .log10 ((10 : Int) ^ k) mn ((10 : Int) ^ j) =
      F64.div (goLog10F (F64.ofInt ((10 : Int) ^ k))) (F64.ofInt (j : Int)) := by
  have k0 := int_pow_mono (b := 10) (by decide) (Nat.zero_le k)
  have j1 := int_pow_mono (b := 10) (by decide) (show 1 ≤ j from hj0)
  have hX := mapF_log10_pow10 P2 P10 (show k < 19 by omega)
  rw [scale_f64_from_one (b := j) (by decide) (by omega) (by omega) (int_pow_mono (by decide) hkj) (by omega)
    (by rw [hX]; exact (goLog10F_pow10_props (by omega)).1)
    (by rw [mapF_log10_pow10 P2 P10 hj]; exact (goLog10F_pow10_props hj).2) (by omega) (by omega), hX]

end Rare.C14

import Rare.Proofs.C07NumF64
import Rare.Proofs.C07Mode
/-!
C07 – `Mode()` on sorted float samples that contain NaN.

`sort.Float64s` puts the NaN samples first (last when `Reverse` is set); the scan compares neighbours with the IEEE
`!=`, which is true for every NaN, so every NaN is a run of length one.
* ascending: the scan reaches the numbers in the state `maxObserved = 1, maxValue = first NaN`; a number replaces it
  only when its run reaches length 2.  Proof: map the NaN prefix to ONE fresh key `w` below all float keys and reuse the
  invariant of the exact scan (`ModeInv`) on `w :: keys`;
* descending: the numbers come first; afterwards `maxObserved ≥ 1` and no NaN can replace the result.
-/
namespace Rare.C07
open Rare Rare.F64

theorem eq_nan_left {v x : F64} (hv : v.isNaN = true) : F64.eq v x = false := by
  cases h : F64.eq v x
  · rfl
  · have := ((eq_iff_key v x).mp h).1; rw [hv] at this; cases this

theorem eq_nan_right {v x : F64} (hv : v.isNaN = true) : F64.eq x v = false := by
  cases h : F64.eq x v
  · rfl
  · have := ((eq_iff_key x v).mp h).2.1; rw [hv] at this; cases this

/-- A NaN sample: a new run of length one. -/
theorem modeStepG_nan (st : ModeState F64) (v : F64) (hv : v.isNaN = true) :
    modeStepG F64.eq st v =
      if 1 > st.maxObserved then ⟨1, v, 1, v⟩ else ⟨st.maxObserved, st.maxValue, 1, v⟩ := by
  unfold modeStepG
  rw [eq_nan_left hv]
  simp only [Bool.not_false, if_true, Nat.zero_add]

/-- NaN samples after something was counted: the result does not change. -/
theorem fold_nans (ns : List F64) (hns : ∀ x ∈ ns, x.isNaN = true) : ∀ st : ModeState F64, 1 ≤ st.maxObserved →
    (ns.foldl (modeStepG F64.eq) st).maxValue = st.maxValue ∧
    (ns.foldl (modeStepG F64.eq) st).maxObserved = st.maxObserved ∧
    (ns ≠ [] → (ns.foldl (modeStepG F64.eq) st).currObserved = 1 ∧
      (ns.foldl (modeStepG F64.eq) st).currValue.isNaN = true) := by
  induction ns with
  | nil => intro st _; exact ⟨rfl, rfl, fun h => absurd rfl h⟩
  | cons v ns ih =>
    intro st h1
    rw [List.foldl_cons, modeStepG_nan st v (hns v (by simp)), if_neg (by omega)]
    obtain ⟨a, b, c⟩ := ih (fun x hx => hns x (by simp [hx])) ⟨st.maxObserved, st.maxValue, 1, v⟩ h1
    refine ⟨a, b, fun _ => ?_⟩
    by_cases hn : ns = []
    · subst hn; exact ⟨rfl, hns v (by simp)⟩
    · exact c hn

/-- The state after a non-empty NaN prefix `n0 :: ns`. -/
theorem fold_nan_prefix (n0 : F64) (ns : List F64) (hns : ∀ x ∈ n0 :: ns, x.isNaN = true) (z : F64) :
    let st := (n0 :: ns).foldl (modeStepG F64.eq) ⟨0, z, 0, z⟩
    st.maxValue = n0 ∧ st.maxObserved = 1 ∧ st.currObserved = 1 ∧ st.currValue.isNaN = true := by
  intro st
  have h0 := hns n0 (by simp)
  have e : st = ns.foldl (modeStepG F64.eq) ⟨1, n0, 1, n0⟩ := by
    show (n0 :: ns).foldl (modeStepG F64.eq) ⟨0, z, 0, z⟩ = _
    rw [List.foldl_cons, modeStepG_nan _ n0 h0, if_pos (by show 1 > 0; omega)]
  obtain ⟨a, b, c⟩ := fold_nans ns (fun x hx => hns x (by simp [hx])) ⟨1, n0, 1, n0⟩ (by show 1 ≤ 1; omega)
  rw [e]
  refine ⟨a, b, ?_⟩
  by_cases hn : ns = []
  · subst hn; exact ⟨rfl, h0⟩
  · exact c hn

/-- Sorted lists split at the boundary of a predicate that cannot become true again. -/
theorem dropWhile_none {α : Type} (p : α → Bool) (s : List α)
    (h : s.Pairwise (fun a b => p b = true → p a = true)) : ∀ x ∈ s.dropWhile p, p x = false := by
  induction s with
  | nil => intro x hx; simp at hx
  | cons a t ih =>
    obtain ⟨h1, h2⟩ := List.pairwise_cons.mp h
    cases hp : p a
    · intro x hx
      rw [List.dropWhile_cons_of_neg (by simp [hp])] at hx
      rcases List.mem_cons.mp hx with e | e
      · rw [e]; exact hp
      · cases hx' : p x
        · rfl
        · have := h1 x e hx'; rw [hp] at this; cases this
    · intro x hx
      rw [List.dropWhile_cons_of_pos hp] at hx
      exact ih h2 x hx

theorem modeStepG_rat : modeStepG (fun (a b : Rat) => decide (a = b)) = modeStep := rfl

/-- The fresh key of the NaN prefix: below the key of every non-NaN float. -/
def wKey : Rat := ((-9218868437227405313 : Int) : Rat)

def fKey (x : F64) : Rat := if x.isNaN then wKey else keyQ x

theorem keyQ_gt_w {x : F64} (h : x.isNaN = false) : wKey < keyQ x := by
  have := (not_nan_key_bounds h).1
  unfold wKey keyQ
  exact Rat.intCast_lt_intCast.mpr (by omega)

theorem countP_eq_append_nans (ns rest : List F64) (hns : ∀ x ∈ ns, x.isNaN = true) (y : F64) :
    (ns ++ rest).countP (fun x => F64.eq y x) = rest.countP (fun x => F64.eq y x) := by
  rw [List.countP_append]
  have : ns.countP (fun x => F64.eq y x) = 0 := by
    rw [List.countP_eq_zero]; intro a ha; simp [eq_nan_right (hns a ha)]
  omega

theorem countP_eq_nans_append (ns rest : List F64) (hns : ∀ x ∈ ns, x.isNaN = true) (y : F64) :
    (rest ++ ns).countP (fun x => F64.eq y x) = rest.countP (fun x => F64.eq y x) := by
  rw [List.countP_append]
  have : ns.countP (fun x => F64.eq y x) = 0 := by
    rw [List.countP_eq_zero]; intro a ha; simp [eq_nan_right (hns a ha)]
  omega

/-- Ascending, at least one NaN: `s = (n0 :: ns) ++ rest`. -/
theorem modeF_nan_asc (n0 : F64) (ns rest : List F64) (hns : ∀ x ∈ n0 :: ns, x.isNaN = true)
    (hrest : ∀ x ∈ rest, x.isNaN = false)
    (hsorted : rest.Pairwise (fun a b => goLess b a = false)) :
    let s := (n0 :: ns) ++ rest
    let m := modeF s
    (m.isNaN = true → m = n0 ∧ ∀ y, s.countP (fun x => F64.eq y x) ≤ 1) ∧
    (m.isNaN = false → 2 ≤ s.countP (fun x => F64.eq m x) ∧ ModeOK false s m) := by
  intro s m
  obtain ⟨p1, p2, p3, p4⟩ := fold_nan_prefix n0 ns hns (F64.zero false)
  generalize hst1 : (n0 :: ns).foldl (modeStepG F64.eq) ⟨0, F64.zero false, 0, F64.zero false⟩ = st1 at p1 p2 p3 p4
  have hm : m = (rest.foldl (modeStepG F64.eq) st1).maxValue := by
    show modeF ((n0 :: ns) ++ rest) = _
    unfold modeF
    rw [mode_eq_foldG, List.foldl_append, hst1]
  have hn0 : n0.isNaN = true := hns n0 (by simp)
  -- transfer to keys
  have hmapst : mapState fKey st1 = ⟨1, wKey, 1, wKey⟩ := by
    unfold mapState fKey
    rw [p1, p2, p3, p4, hn0]; rfl
  have hfm := mode_fold_map fKey F64.eq (fun a b => decide (a = b)) rest st1.currValue (by
      intro a ha b hb
      have han := hrest a ha
      rcases hb with hb | hb
      · have hbn := hrest b hb
        unfold fKey; rw [han, hbn]
        exact decide_keyQ_eq han hbn
      · rw [hb, eq_nan_right p4]
        unfold fKey; rw [han, p4]
        have := keyQ_gt_w han
        simp only [Bool.false_eq_true, if_false, if_true, decide_eq_false_iff_not]
        intro e; rw [e] at this; exact absurd this (Rat.lt_irrefl)) rest st1 (fun a ha => ha) (Or.inr rfl)
  rw [hmapst] at hfm
  have hmapk : rest.map fKey = rest.map keyQ := by
    apply List.map_congr_left
    intro a ha; unfold fKey; rw [hrest a ha]; rfl
  rw [hmapk, modeStepG_rat] at hfm
  -- the invariant of the exact scan on `w :: keys`
  have hanti : ∀ a b : Rat, a ≤ b → b ≤ a → a = b := fun a b h1 h2 => Rat.le_antisymm h1 h2
  have hks : ([wKey] ++ rest.map keyQ).Pairwise (fun a b => a ≤ b) := by
    rw [List.singleton_append, List.pairwise_cons]
    refine ⟨?_, ?_⟩
    · intro k hk
      obtain ⟨x, hx, rfl⟩ := List.mem_map.mp hk
      exact Rat.le_of_lt (keyQ_gt_w (hrest x hx))
    · rw [List.pairwise_map]
      have := List.Pairwise.and_mem.mp hsorted
      refine this.imp ?_
      intro a b ⟨ha, hb, hh⟩
      rw [goLess_false_iff, skey_of_not_nan (hrest a ha), skey_of_not_nan (hrest b hb)] at hh
      exact (keyQ_le_iff _ _).mpr hh
  have inv := modeInv_foldl (fun a b => a ≤ b) hanti (rest.map keyQ) [wKey] _ (modeInv_first _ wKey) hks
  rw [← hfm] at inv
  have hfmv : (mapState fKey (rest.foldl (modeStepG F64.eq) st1)).maxValue = fKey m := by rw [hm]; rfl
  have hfmo : (mapState fKey (rest.foldl (modeStepG F64.eq) st1)).maxObserved =
      (rest.foldl (modeStepG F64.eq) st1).maxObserved := rfl
  have maxm := inv.maxm
  have maxc := inv.maxc
  have bound := inv.bound
  have tie := inv.tie
  rw [hfmv] at maxm maxc tie
  generalize (mapState fKey (rest.foldl (modeStepG F64.eq) st1)).maxObserved = mo at maxc bound tie
  have hwnot : wKey ∉ rest.map keyQ := by
    intro h
    obtain ⟨x, hx, e⟩ := List.mem_map.mp h
    have := keyQ_gt_w (hrest x hx)
    rw [e] at this; exact absurd this Rat.lt_irrefl
  have hcw : ([wKey] ++ rest.map keyQ).count wKey = 1 := by
    rw [List.count_append, List.count_singleton_self, List.count_eq_zero.mpr hwnot]
  have hck : ∀ y : F64, y.isNaN = false →
      ([wKey] ++ rest.map keyQ).count (keyQ y) = s.countP (fun x => F64.eq y x) := by
    intro y hy
    have hne : ¬ wKey = keyQ y := by
      intro e; have := keyQ_gt_w hy; rw [e] at this; exact absurd this Rat.lt_irrefl
    rw [List.count_append, List.count_singleton, count_map_keyQ rest hrest y hy]
    show _ = ((n0 :: ns) ++ rest).countP _
    rw [countP_eq_append_nans _ _ hns]
    simp [hne]
  have hcnan : ∀ y : F64, y.isNaN = true → s.countP (fun x => F64.eq y x) = 0 := by
    intro y hy
    rw [List.countP_eq_zero]; intro a _; simp [eq_nan_left hy]
  constructor
  · intro hnan
    have hfw : fKey m = wKey := by unfold fKey; rw [hnan]; rfl
    rw [hfw, hcw] at maxc
    refine ⟨?_, ?_⟩
    · -- the result is still the first NaN: a NaN among `rest` is impossible, so `m` is the untouched maxValue
      have : ∀ (q : List F64) (st : ModeState F64), (∀ a ∈ q, a.isNaN = false) →
          (q.foldl (modeStepG F64.eq) st).maxValue = st.maxValue ∨
          (q.foldl (modeStepG F64.eq) st).maxValue.isNaN = false := by
        intro q
        induction q with
        | nil => intro st _; exact Or.inl rfl
        | cons v q ih =>
          intro st hq
          rw [List.foldl_cons]
          have hv := hq v (by simp)
          rcases ih (modeStepG F64.eq st v) (fun a ha => hq a (by simp [ha])) with e | e
          · rw [e]
            unfold modeStepG
            by_cases hc : F64.eq v st.currValue = true
            · have hcn := ((eq_iff_key _ _).mp hc).2.1
              simp only [hc, Bool.not_true, Bool.false_eq_true, if_false]
              split
              · exact Or.inr hcn
              · exact Or.inl rfl
            · have hc' : F64.eq v st.currValue = false := by
                cases h : F64.eq v st.currValue
                · rfl
                · exact absurd h hc
              simp only [hc', Bool.not_false, if_true]
              split
              · exact Or.inr hv
              · exact Or.inl rfl
          · exact Or.inr e
      rcases this rest st1 hrest with e | e
      · rw [hm, e, p1]
      · rw [← hm, hnan] at e; cases e
    · intro y
      cases hy : y.isNaN
      · rw [← hck y hy, ← maxc]; exact bound _
      · rw [hcnan y hy]; omega
  · intro hnn
    have hfk : fKey m = keyQ m := by unfold fKey; rw [hnn]; rfl
    rw [hfk] at maxm maxc tie
    have hmo : mo = s.countP (fun x => F64.eq m x) := by rw [maxc, hck m hnn]
    have hmem : keyQ m ∈ rest.map keyQ := by
      rcases List.mem_append.mp maxm with h | h
      · have := keyQ_gt_w hnn
        rw [List.mem_singleton] at h
        rw [h] at this; exact absurd this Rat.lt_irrefl
      · exact h
    obtain ⟨x, hxr, hxk⟩ := List.mem_map.mp hmem
    refine ⟨?_, (modeOK_of_keys (rev := false) (List.mem_append_right _ hxr) (hrest x hxr) hxk hck
      (fun k => maxc ▸ bound k) (fun k hk hne => tie k (maxc ▸ hk) hne)).2⟩
    -- a number wins only with a run of length ≥ 2
    have hb := bound wKey
    rw [hcw] at hb
    by_cases h1 : mo = 1
    · have := tie wKey (by rw [hcw, h1]) (by
        intro e; have := keyQ_gt_w hnn; rw [e] at this; exact absurd this Rat.lt_irrefl)
      exact absurd (keyQ_gt_w hnn) (Rat.not_lt.mpr this)
    · rw [← hmo]; omega

theorem mem_takeWhile_p {α : Type} (p : α → Bool) (s : List α) (x : α) (hx : x ∈ s.takeWhile p) : p x = true :=
  List.all_eq_true.mp List.all_takeWhile x hx

theorem modeStepG_maxObs {α : Type} (eq : α → α → Bool) (st : ModeState α) (v : α) :
    1 ≤ (modeStepG eq st v).maxObserved ∧ st.maxObserved ≤ (modeStepG eq st v).maxObserved := by
  unfold modeStepG
  cases eq v st.currValue <;> simp <;> split <;> simp <;> omega

theorem fold_maxObs {α : Type} (eq : α → α → Bool) (q : List α) : ∀ st : ModeState α, 1 ≤ st.maxObserved →
    1 ≤ (q.foldl (modeStepG eq) st).maxObserved := by
  induction q with
  | nil => intro st h; exact h
  | cons v q ih => intro st _; rw [List.foldl_cons]; exact ih _ (modeStepG_maxObs eq st v).1

theorem goLess_nan_num {x y : F64} (hx : x.isNaN = true) (hy : y.isNaN = false) : goLess x y = true := by
  unfold goLess; rw [hx, hy]; simp

theorem modeOK_perm {rev : Bool} {s l : List F64} (h : s.Perm l) {m : F64} (ok : ModeOK rev s m) : ModeOK rev l m := by
  obtain ⟨⟨x, hx, hxe⟩, b, c⟩ := ok
  refine ⟨⟨x, h.mem_iff.mp hx, hxe⟩, ?_, ?_⟩
  · intro y; rw [← h.countP_eq, ← h.countP_eq]; exact b y
  · intro y hy; rw [← h.countP_eq, ← h.countP_eq]; exact c y (h.mem_iff.mpr hy)

/-- **`Mode()` for ANY samples (NaN included)** and any sorted arrangement `s` of them. -/
theorem modeF_general (rev : Bool) (s l : List F64) (hs : IsSortedF rev s l) (hne : l ≠ []) :
    let m := modeF s
    (m.isNaN = true ↔ (if rev then ∀ x ∈ l, x.isNaN = true
        else (∃ x ∈ l, x.isNaN = true) ∧ ∀ y, l.countP (fun x => F64.eq y x) ≤ 1)) ∧
    (m.isNaN = true → m ∈ l) ∧ (m.isNaN = false → ModeOK rev l m) := by
  intro m
  have hsne : s ≠ [] := by intro e; rw [e] at hs; exact hne hs.1.symm.eq_nil
  cases rev with
  | false =>
    have hpw : s.Pairwise (fun a b => goLess b a = false) := by
      have := hs.2; simpa using this
    have hsplit : s = s.takeWhile F64.isNaN ++ s.dropWhile F64.isNaN := (List.takeWhile_append_dropWhile).symm
    have hnsN : ∀ x ∈ s.takeWhile F64.isNaN, x.isNaN = true := fun x hx => mem_takeWhile_p _ _ x hx
    have hrestN : ∀ x ∈ s.dropWhile F64.isNaN, x.isNaN = false := by
      apply dropWhile_none
      refine hpw.imp ?_
      intro a b hab hb
      cases ha : a.isNaN
      · rw [goLess_nan_num hb ha] at hab; cases hab
      · rfl
    have hrestS : (s.dropWhile F64.isNaN).Pairwise (fun a b => goLess b a = false) :=
      hpw.sublist (List.dropWhile_sublist _)
    generalize s.takeWhile F64.isNaN = ns at hsplit hnsN
    generalize s.dropWhile F64.isNaN = rest at hsplit hrestN hrestS
    cases ns with
    | nil =>
      simp only [List.nil_append] at hsplit
      have hn : ∀ x ∈ l, x.isNaN = false := fun x hx => hrestN x (by rw [← hsplit]; exact hs.1.mem_iff.mpr hx)
      obtain ⟨a, b, c, d⟩ := modeF_scan false s l hs hne hn
      simp only [Bool.false_eq_true, if_false]
      refine ⟨⟨fun h => ?_, fun ⟨⟨x, hx, hxn⟩, _⟩ => ?_⟩, fun h => ?_, fun _ => ⟨b, c, d⟩⟩
      · rw [a] at h; cases h
      · rw [hn x hx] at hxn; cases hxn
      · rw [a] at h; cases h
    | cons n0 ns =>
      obtain ⟨A, B⟩ := modeF_nan_asc n0 ns rest hnsN hrestN hrestS
      rw [← hsplit] at A B
      have hmdef : modeF s = m := rfl
      rw [hmdef] at A B
      simp only [Bool.false_eq_true, if_false]
      have hn0 : n0 ∈ l := hs.1.mem_iff.mp (by rw [hsplit]; simp)
      refine ⟨⟨fun h => ?_, fun ⟨_, hc⟩ => ?_⟩, fun h => ?_, fun h => modeOK_perm hs.1 (B h).2⟩
      · obtain ⟨_, a2⟩ := A h
        exact ⟨⟨n0, hn0, hnsN n0 (by simp)⟩, fun y => by rw [← hs.1.countP_eq]; exact a2 y⟩
      · cases hm : m.isNaN
        · have := (B hm).1
          have h1 := hc m
          rw [← hs.1.countP_eq] at h1
          omega
        · rfl
      · rw [(A h).1]; exact hn0
  | true =>
    have hpw : s.Pairwise (fun a b => goLess a b = false) := by
      have := hs.2; simpa using this
    have hsplit : s = s.takeWhile (fun x => !x.isNaN) ++ s.dropWhile (fun x => !x.isNaN) :=
      (List.takeWhile_append_dropWhile).symm
    have hrestN : ∀ x ∈ s.takeWhile (fun x => !x.isNaN), x.isNaN = false := by
      intro x hx
      have := mem_takeWhile_p _ _ x hx
      simpa using this
    have hnsN : ∀ x ∈ s.dropWhile (fun x => !x.isNaN), x.isNaN = true := by
      intro x hx
      have := dropWhile_none (fun x : F64 => !x.isNaN) s (by
        refine hpw.imp ?_
        intro a b hab hb
        cases ha : a.isNaN
        · rfl
        · have hb' : b.isNaN = false := by simpa using hb
          rw [goLess_nan_num ha hb'] at hab; cases hab) x hx
      simpa using this
    have hrestS : (s.takeWhile (fun x => !x.isNaN)).Pairwise (fun a b => goLess a b = false) :=
      hpw.sublist (List.takeWhile_sublist _)
    generalize s.takeWhile (fun x => !x.isNaN) = rest at hsplit hrestN hrestS
    generalize s.dropWhile (fun x => !x.isNaN) = ns at hsplit hnsN
    simp only [if_true]
    cases rest with
    | nil =>
      simp only [List.nil_append] at hsplit
      obtain ⟨n0, ns', hns'⟩ := List.exists_cons_of_ne_nil (by rw [← hsplit]; exact hsne : ns ≠ [])
      rw [hns'] at hnsN hsplit
      obtain ⟨p1, _, _, _⟩ := fold_nan_prefix n0 ns' hnsN (F64.zero false)
      have hm : m = n0 := by
        show modeF s = n0
        unfold modeF; rw [mode_eq_foldG, hsplit]; exact p1
      have hall : ∀ x ∈ l, x.isNaN = true := fun x hx => hnsN x (by rw [← hsplit]; exact hs.1.mem_iff.mpr hx)
      have hmn : m.isNaN = true := by rw [hm]; exact hnsN n0 (by simp)
      refine ⟨⟨fun _ => hall, fun _ => hmn⟩, fun _ => ?_, fun h => ?_⟩
      · rw [hm]; exact hs.1.mem_iff.mp (by rw [hsplit]; simp)
      · rw [hmn] at h; cases h
    | cons r0 rest' =>
      have hm : m = modeF (r0 :: rest') := by
        show modeF s = _
        unfold modeF
        rw [mode_eq_foldG, mode_eq_foldG, hsplit, List.foldl_append]
        have h1 : 1 ≤ ((r0 :: rest').foldl (modeStepG F64.eq) ⟨0, F64.zero false, 0, F64.zero false⟩).maxObserved := by
          rw [List.foldl_cons]; exact fold_maxObs _ _ _ (modeStepG_maxObs _ _ _).1
        exact (fold_nans ns hnsN _ h1).1
      obtain ⟨a, ⟨x, hx, hxe⟩, c, d⟩ := modeF_scan true (r0 :: rest') (r0 :: rest') ⟨List.Perm.refl _, by simpa using hrestS⟩
        (by simp) hrestN
      rw [← hm] at a hxe c d
      have hr0 : r0 ∈ l := hs.1.mem_iff.mp (by rw [hsplit]; simp)
      have okS : ModeOK true s m := by
        refine ⟨⟨x, by rw [hsplit]; exact List.mem_append_left _ hx, hxe⟩, ?_, ?_⟩
        · intro y; rw [hsplit, countP_eq_nans_append _ _ hnsN, countP_eq_nans_append _ _ hnsN]; exact c y
        · intro y hy
          rw [hsplit, countP_eq_nans_append _ _ hnsN, countP_eq_nans_append _ _ hnsN]
          intro hc hne2
          rw [hsplit] at hy
          rcases List.mem_append.mp hy with hy | hy
          · exact d y hy hc hne2
          · exfalso
            have h0 : (r0 :: rest').countP (fun x => F64.eq y x) = 0 := by
              rw [List.countP_eq_zero]; intro a _; simp [eq_nan_left (hnsN y hy)]
            have h1 : 0 < (r0 :: rest').countP (fun x => F64.eq m x) :=
              List.countP_pos_iff.mpr ⟨x, hx, hxe⟩
            omega
      refine ⟨⟨fun h => ?_, fun hall => ?_⟩, fun h => ?_, fun _ => modeOK_perm hs.1 okS⟩
      · rw [a] at h; cases h
      · have := hall r0 hr0
        rw [hrestN r0 (by simp)] at this; cases this
      · rw [a] at h; cases h

end Rare.C07

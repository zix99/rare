import Rare.Proofs.C18Offset
import Rare.Proofs.F64Arith
/-!
C18: the fractional part of a `ParseDuration` group.

Go computes it in binary64: `uint64(float64(f) * (float64(unit) / scale))` (`fracTerm`, over the shared
bit-exact model `Rare/Base/F64.lean`).  When the fraction has no more digits than the unit has decimal
places (`10^k ∣ unit`: 9 for `s`, 10 for `m`, 11 for `h`) both roundings are exact and the term is
the exact integer `f · (unit / 10^k)` – `fracTerm_exact`; `parseDurLoop_group` carries this
through one `digits [. digits] unit` group of the loop.
-/
namespace Rare.C18
open Rare.F64

theorem ofInt_nat (n : Nat) (h : n ≤ 9007199254740992) :
    (F64.ofInt ((n : Nat) : Int)).toRat? = some ((((n : Nat) : Int)) : Rat) := by
  obtain ⟨a, b⟩ := isFinite_ofInt (n : Int) (by simpa using h)
  exact toRat?_eq_some.mpr ⟨a, b⟩

theorem intCast_mul_div (c p : Int) (hp : p ≠ 0) : ((c * p : Int) : Rat) / ((p : Int) : Rat) = (c : Rat) := by
  have : ((p : Int) : Rat) ≠ 0 := fun h => hp (Rat.intCast_eq_zero_iff.mp h)
  rw [Rat.intCast_mul, Rat.mul_div_cancel this]

/-- The float term of a fraction whose scale divides the unit is the exact integer. -/
theorem fracTerm_exact (f unit k : Nat) (hdiv : 10 ^ k ∣ unit) (hf : f < 10 ^ k)
    (hu0 : 0 < unit) (hu : unit ≤ 3600000000000) : fracTerm f unit k = f * (unit / 10 ^ k) := by
  obtain ⟨c, hc⟩ := hdiv
  have hp : 0 < 10 ^ k := Nat.pow_pos (by decide)
  have hck : unit / 10 ^ k = c := by rw [hc]; exact Nat.mul_div_cancel_left c hp
  have hc1 : 1 ≤ c := by
    rcases Nat.eq_zero_or_pos c with h | h
    · subst h; simp at hc; omega
    · exact h
  have hple : 10 ^ k ≤ unit := by rw [hc]; exact Nat.le_mul_of_pos_right _ hc1
  have hcle : c ≤ unit := by rw [hc]; exact Nat.le_mul_of_pos_left c hp
  have hfc : f * c ≤ unit := by
    rw [hc, Nat.mul_comm (10 ^ k) c, Nat.mul_comm f c]
    exact Nat.mul_le_mul_left c (Nat.le_of_lt hf)
  have hx := ofInt_nat f (by omega)
  obtain ⟨uf, uv⟩ := toRat?_eq_some.mp (ofInt_nat unit (by omega))
  obtain ⟨sf, sv⟩ := toRat?_eq_some.mp (ofInt_nat (10 ^ k) (by omega))
  have smag : (F64.ofInt ((10 ^ k : Nat) : Int)).mag ≠ 0 := by
    intro h
    have := (toRat_eq_zero_iff _).mpr h
    rw [sv] at this
    have := Rat.intCast_eq_zero_iff.mp this
    omega
  -- the quotient is the exact integer c
  have hq : (F64.div (F64.ofInt ((unit : Nat) : Int)) (F64.ofInt ((10 ^ k : Nat) : Int))).toRat? = some (((c : Nat) : Int) : Rat) := by
    rw [div_finite uf sf smag, uv, sv]
    have e : ((unit : Nat) : Int) = ((c : Nat) : Int) * ((10 ^ k : Nat) : Int) := by
      rw [hc]; push_cast; rw [Int.mul_comm]
    rw [e, intCast_mul_div _ _ (by omega)]
    obtain ⟨a, b⟩ := ofRatS_rep (F64.sign (F64.ofInt (((c : Nat) : Int) * ((10 ^ k : Nat) : Int)))
        != F64.sign (F64.ofInt ((10 ^ k : Nat) : Int))) (rep_int (n := ((c : Nat) : Int)) (by simp; omega))
    exact toRat?_eq_some.mpr ⟨a, b⟩
  have hm := mul_exact_int hx hq (by
    have : (((f : Nat) : Int) * ((c : Nat) : Int)).natAbs = f * c := by
      rw [Int.natAbs_mul]; simp
    rw [this]; omega)
  unfold fracTerm
  rw [toInt64_of_int hm (by unfold minInt64; omega) (by
    unfold maxInt64
    have : ((f : Nat) : Int) * ((c : Nat) : Int) = ((f * c : Nat) : Int) := by push_cast; rfl
    rw [this]; omega), hck]
  have : ((f : Nat) : Int) * ((c : Nat) : Int) = ((f * c : Nat) : Int) := by push_cast; rfl
  rw [this]; rfl

theorem digitsVal_lt_pow (ds : Bytes) (hd : ds.all isDigitB = true) (x : Nat) :
    digitsVal ds x < (x + 1) * 10 ^ ds.length := by
  induction ds generalizing x with
  | nil => simp [digitsVal]
  | cons c r ih =>
    simp only [List.all_cons, Bool.and_eq_true] at hd
    have hc : c.toNat - 48 ≤ 9 := by
      have := hd.1; unfold isDigitB at this
      simp only [Bool.and_eq_true, decide_eq_true_eq] at this
      have h2 : c.toNat ≤ 57 := by simpa [UInt8.le_iff_toNat_le] using this.2
      omega
    simp only [digitsVal, List.length_cons]
    refine Nat.lt_of_lt_of_le (ih hd.2 _) ?_
    rw [Nat.pow_succ, Nat.mul_comm (10 ^ r.length) 10, ← Nat.mul_assoc]
    exact Nat.mul_le_mul_right _ (by omega)

theorem leadingFraction_digits (ds : Bytes) (hd : ds.all isDigitB = true) (x k : Nat)
    (hb : digitsVal ds x ≤ 922337203685477580) :
    leadingFraction ds x k = (digitsVal ds x, k + ds.length) := by
  induction ds generalizing x k with
  | nil => rfl
  | cons c r ih =>
    simp only [List.all_cons, Bool.and_eq_true] at hd
    simp only [digitsVal] at hb
    have hx' : x * 10 + (c.toNat - 48) ≤ 922337203685477580 := Nat.le_trans (digitsVal_mono r _) hb
    have h1 : ¬ (x > 9223372036854775807 / 10) := by omega
    have h2 : ¬ (x * 10 + (c.toNat - 48) > 9223372036854775808) := by omega
    simp only [leadingFraction, h1, h2, if_false, digitsVal, List.length_cons]
    rw [ih hd.2 _ _ hb]
    congr 1; omega

theorem takeWhile_digits (ds : Bytes) (hd : ds.all isDigitB = true) (u : UInt8) (rest : Bytes)
    (hu : isDigitB u = false) :
    (ds ++ u :: rest).takeWhile isDigitB = ds ∧ (ds ++ u :: rest).dropWhile isDigitB = u :: rest := by
  induction ds with
  | nil => simp [hu]
  | cons c r ih =>
    simp only [List.all_cons, Bool.and_eq_true] at hd
    simp [hd.1, ih hd.2]

/-- The unit texts `Duration.String` prints, with their length in nanoseconds. -/
def UnitTxt (ut : Bytes) (unit : Nat) : Prop :=
  (ut = [104] ∧ unit = 3600000000000) ∨ (ut = [109] ∧ unit = 60000000000) ∨ (ut = [115] ∧ unit = 1000000000)
  ∨ (ut = [109, 115] ∧ unit = 1000000) ∨ (ut = [0xC2, 0xB5, 115] ∧ unit = 1000) ∨ (ut = [110, 115] ∧ unit = 1)

theorem unitTxt_facts (ut : Bytes) (unit : Nat) (hu : UnitTxt ut unit) :
    unitOf ut = some unit ∧ 0 < unit ∧ unit ≤ 3600000000000
    ∧ (∃ u0 ut', ut = u0 :: ut' ∧ isDigitB u0 = false ∧ u0 ≠ 46)
    ∧ ∀ rest, GroupTail rest → (ut ++ rest).takeWhile (fun c => !isNumChar c) = ut ∧ (ut ++ rest).dropWhile (fun c => !isNumChar c) = rest := by
  have tw : ∀ rest, GroupTail rest → rest.takeWhile (fun c => !isNumChar c) = [] ∧ rest.dropWhile (fun c => !isNumChar c) = rest := by
    intro rest ht
    rcases ht with h | ⟨c', r', h, hc'⟩
    · subst h; simp
    · subst h; have := isDigit_numChar hc'; simp [List.takeWhile, List.dropWhile, this]
  have n104 : isNumChar 104 = false := by decide
  have n109 : isNumChar 109 = false := by decide
  have n115 : isNumChar 115 = false := by decide
  have n110 : isNumChar 110 = false := by decide
  have nC2 : isNumChar 0xC2 = false := by decide
  have nB5 : isNumChar 0xB5 = false := by decide
  rcases hu with ⟨h, h'⟩ | ⟨h, h'⟩ | ⟨h, h'⟩ | ⟨h, h'⟩ | ⟨h, h'⟩ | ⟨h, h'⟩ <;> subst h <;> subst h' <;>
    refine ⟨by decide, by decide, by decide, ⟨_, _, rfl, by decide, by decide⟩, ?_⟩ <;>
    intro rest ht <;> obtain ⟨a, b⟩ := tw rest ht <;>
    simp [List.takeWhile, List.dropWhile, n104, n109, n115, n110, nC2, nB5, a, b]

/-- One group `digits [. digits] unit` of the loop (`pt`: the text has a decimal point) whose fraction is
not finer than the unit's decimal places: the loop adds the exact decimal value. -/
theorem parseDurLoop_group (fuel v d : Nat) (pt : Bool) (ds ut : Bytes) (unit : Nat) (rest : Bytes)
    (hu : UnitTxt ut unit) (hds : ds.all isDigitB = true) (hpt : pt = false → ds = []) (hk : 10 ^ ds.length ∣ unit)
    (hv : v * unit ≤ 9223372036854775808)
    (hd : d + (v * unit + digitsVal ds 0 * (unit / 10 ^ ds.length)) ≤ 9223372036854775808) (ht : GroupTail rest) :
    parseDurLoop (fuel + 1) (natDigits v ++ ((if pt then 46 :: ds else []) ++ (ut ++ rest))) d
      = parseDurLoop fuel rest (d + (v * unit + digitsVal ds 0 * (unit / 10 ^ ds.length))) := by
  obtain ⟨hunit, hu0, hule, ⟨u0, ut', hut, hu0d, hu046⟩, htw⟩ := unitTxt_facts ut unit hu
  obtain ⟨htw1, htw2⟩ := htw rest ht
  obtain ⟨c, r, hcr, hc⟩ := natDigits_head v
  have hvle : v ≤ 9223372036854775808 := Nat.le_trans (Nat.le_mul_of_pos_right v hu0) hv
  have hov : ¬ (v > 9223372036854775808 / unit) := by
    have := (Nat.le_div_iff_mul_le hu0).mpr hv; omega
  generalize htail : (if pt then 46 :: ds else []) ++ (ut ++ rest) = tail
  have hsplit : splitFrac tail = (ds, ut ++ rest, pt) ∧ NoDigitHead tail := by
    rw [← htail]
    cases pt
    · rw [hpt rfl, hut]
      exact ⟨splitFrac_nodot u0 _ hu046, Or.inr ⟨u0, _, rfl, hu0d⟩⟩
    · obtain ⟨a, b⟩ := takeWhile_digits ds hds u0 (ut' ++ rest) hu0d
      rw [hut]
      exact ⟨by simp only [if_true, List.cons_append, splitFrac, a, b], Or.inr ⟨46, _, rfl, by decide⟩⟩
  have hlead : leadingInt (natDigits v ++ tail) 0 = some (v, tail) := by
    rw [leadingInt_exact _ (natDigits_all v) 0 tail hsplit.2 (by omega), digitsVal_natDigits]
    simp only [hvle, if_true]
  have hfirst : isNumChar c = true := isDigit_numChar hc
  have hlen : (tail.length != (natDigits v ++ tail).length) = true := by
    simp only [List.length_append, bne_iff_ne, ne_eq]
    have := List.length_pos_iff.mpr (natDigits_ne_nil v)
    omega
  have hple : 10 ^ ds.length ≤ unit := Nat.le_of_dvd hu0 hk
  have hflt : digitsVal ds 0 < 10 ^ ds.length := by
    have := digitsVal_lt_pow ds hds 0; simpa using this
  have hlf : leadingFraction ds 0 0 = (digitsVal ds 0, ds.length) := by
    rw [leadingFraction_digits ds hds 0 0 (by omega)]; simp
  have hne : ut.isEmpty = false := by rw [hut]; rfl
  have hs : natDigits v ++ tail = c :: (r ++ tail) := by rw [hcr]; rfl
  conv => lhs; unfold parseDurLoop
  rw [hs] at hlead hlen ⊢
  simp only [hfirst, Bool.not_true, Bool.false_eq_true, if_false, hlead, hsplit.1, hlen,
    htw1, htw2, hunit, hov, hlf, hne, Bool.false_and]
  by_cases hf0 : digitsVal ds 0 > 0
  · have hex := fracTerm_exact (digitsVal ds 0) unit ds.length hk hflt hu0 hule
    have h3 : ¬ (v * unit + digitsVal ds 0 * (unit / 10 ^ ds.length) > 9223372036854775808) := by omega
    have h4 : ¬ (d + (v * unit + digitsVal ds 0 * (unit / 10 ^ ds.length)) > 9223372036854775808) := by omega
    have hmod : (d + (v * unit + digitsVal ds 0 * (unit / 10 ^ ds.length))) % 18446744073709551616
        = d + (v * unit + digitsVal ds 0 * (unit / 10 ^ ds.length)) := Nat.mod_eq_of_lt (by omega)
    simp [hf0, hex, h3, h4, hmod]
  · have hz : digitsVal ds 0 = 0 := by omega
    have h3 : ¬ (v * unit > 9223372036854775808) := by omega
    have h4 : ¬ (d + v * unit > 9223372036854775808) := by omega
    have hmod : (d + v * unit) % 18446744073709551616 = d + v * unit := Nat.mod_eq_of_lt (by omega)
    simp [hz, h3, h4, hmod]

theorem parseDurLoop_whole (fuel v d : Nat) (ut : Bytes) (unit : Nat) (rest : Bytes) (hu : UnitTxt ut unit)
    (hd : d + v * unit ≤ 9223372036854775808) (ht : GroupTail rest) :
    parseDurLoop (fuel + 1) (natDigits v ++ (ut ++ rest)) d = parseDurLoop fuel rest (d + v * unit) := by
  have := parseDurLoop_group fuel v d false [] ut unit rest hu rfl (fun _ => rfl) (by simp) (by omega)
    (by simpa [digitsVal] using hd) ht
  simpa [digitsVal] using this

/-- The float64 sum `duration.Seconds()` that `kfDuration` used before 7d50a89: whole seconds plus
`float64(nsec)/1e9`, converted with `int64(·)`. -/
def secondsViaFloat (d : Int) : Int :=
  F64.toInt64 (F64.add (F64.ofInt (Int.tdiv d 1000000000))
    (F64.div (F64.ofInt (Int.tmod d 1000000000)) (F64.ofInt 1000000000)))

/-- The loop returns its accumulator, which passed the range check of the last group. -/
theorem parseDurLoop_le (fuel : Nat) : ∀ (s : Bytes) (d r : Nat), d ≤ 9223372036854775808 →
    parseDurLoop fuel s d = some r → r ≤ 9223372036854775808 := by
  induction fuel with
  | zero => intro s d r _ h; cases h
  | succ n ih =>
    intro s d r hd h
    unfold parseDurLoop at h
    split at h
    · cases h; exact hd
    · rw [Option.ite_none_left_eq_some] at h
      obtain ⟨_, h⟩ := h
      split at h
      · cases h
      · simp only [Option.ite_none_left_eq_some] at h
        obtain ⟨_, _, h⟩ := h
        split at h
        · cases h
        · simp only [Option.ite_none_left_eq_some] at h
          obtain ⟨_, _, hle, h⟩ := h
          exact ih _ _ _ (by omega) h

theorem parseDuration_range (s : Bytes) (d : Int) (h : parseDuration s = .ok d) :
    -9223372036854775808 ≤ d ∧ d ≤ 9223372036854775807 := by
  unfold parseDuration at h
  split at h
  next neg s1 _ =>
    split at h
    · cases h; omega
    · split at h
      · cases h
      · split at h
        · cases h
        · next r hr =>
          have := parseDurLoop_le _ _ _ _ (by omega) hr
          split at h
          · cases h; omega
          · split at h
            · cases h
            · cases h; omega

/-- `ParseDuration` after the sign has been consumed. -/
def durCore (neg : Bool) (s1 : Bytes) : DurRes :=
  if s1 = [48] then .ok 0
  else if s1 = [] then .err
  else match parseDurLoop (s1.length + 1) s1 0 with
    | none => .err
    | some d =>
      if neg then .ok (-(d : Int))
      else if d > 9223372036854775807 then .err else .ok d

theorem parseDuration_minus (r : Bytes) : parseDuration (45 :: r) = durCore true r := rfl
theorem parseDuration_plus (r : Bytes) : parseDuration (43 :: r) = durCore false r := rfl
theorem parseDuration_nosign (c : UInt8) (r : Bytes) (hc : c ≠ 43 ∧ c ≠ 45) :
    parseDuration (c :: r) = durCore false (c :: r) := by
  unfold parseDuration durCore
  split
  next neg s1 heq =>
    split at heq
    · next r' h' => exact absurd (List.cons.inj h').1 hc.2
    · next r' h' => exact absurd (List.cons.inj h').1 hc.1
    · cases heq; rfl

/-- A text beginning with a digit, at least two bytes long, that the loop reads as `m` ns: `ParseDuration` of
it, and of it behind a minus sign. -/
theorem parseDuration_of_loop (s : Bytes) (m : Nat) (hs : ∃ c r, s = c :: r ∧ isDigitB c = true ∧ 2 ≤ s.length)
    (hl : parseDurLoop (s.length + 1) s 0 = some m) :
    parseDuration (45 :: s) = .ok (-(m : Int)) ∧ (m ≤ 9223372036854775807 → parseDuration s = .ok m) := by
  obtain ⟨c, r, hcr, hc, hlen⟩ := hs
  have hne0 : s ≠ [48] := by intro h; rw [h] at hlen; simp at hlen
  have hnil : s ≠ [] := by intro h; rw [h] at hlen; simp at hlen
  refine ⟨?_, fun hm => ?_⟩
  · rw [parseDuration_minus]; unfold durCore
    simp only [hne0, hnil, if_false, hl, if_true]
  · have : ¬ (m > 9223372036854775807) := by omega
    rw [hcr, parseDuration_nosign c r (isDigitB_ne_sign hc), ← hcr]; unfold durCore
    simp only [hne0, hnil, if_false, hl, Bool.false_eq_true, this]

theorem frac_lt_unit (ds : Bytes) (hds : ds.all isDigitB = true) (unit : Nat) (hu0 : 0 < unit) (hk : 10 ^ ds.length ∣ unit) :
    digitsVal ds 0 * (unit / 10 ^ ds.length) < unit := by
  obtain ⟨q, hq⟩ := hk
  have hp : 0 < 10 ^ ds.length := Nat.pow_pos (by decide)
  have hflt : digitsVal ds 0 < 10 ^ ds.length := by
    have := digitsVal_lt_pow ds hds 0; simpa using this
  have hq0 : 0 < q := Nat.pos_of_ne_zero fun h => by subst h; omega
  rw [hq, Nat.mul_div_cancel_left q hp]
  exact Nat.mul_lt_mul_of_pos_right hflt hq0

theorem parseDuration_sign (c : UInt8) (r : Bytes) (d : Int) (hc : c ≠ 43 ∧ c ≠ 45)
    (h : parseDuration (c :: r) = .ok d) :
    parseDuration (45 :: c :: r) = .ok (-d) ∧ parseDuration (43 :: c :: r) = .ok d := by
  rw [parseDuration_nosign c r hc] at h
  rw [parseDuration_minus, parseDuration_plus]
  refine ⟨?_, h⟩
  unfold durCore at h ⊢
  split at h
  · next h0 => cases h; simp [h0]
  · next h0 =>
    split at h
    · cases h
    · next h1 =>
      simp only [h0, h1, if_false]
      split at h
      · cases h
      · next v hv =>
        simp only [Bool.false_eq_true, if_false] at h
        split at h
        · cases h
        · cases h; simp

end Rare.C18

import Rare.Proofs.C17Funcs
import Rare.Spec.C17Wrap
/-!
C17: the `@select` / `@slice` loops on lists of ANY length (64-bit counter mirrored by `Spec/C17Wrap.lean`),
and the agreement of the wrapped specification with the documented list functions below 2^63 elements.
-/
namespace Rare.C17
open Rare Rare.Expr Rare.Expr.Funcs.Range

theorem counter_zero : counter 0 = 0 := by decide

theorem counter_succ (p : Nat) : wrap64 (counter p + 1) = counter (p + 1) := by
  simp only [counter, Int.natCast_add, Int.cast_ofNat_Int]
  unfold wrap64; omega

theorem counter_range (p : Nat) : minInt64 ≤ counter p ∧ counter p ≤ maxInt64 := by
  unfold counter wrap64 minInt64 maxInt64; omega

theorem counter_id (p : Nat) (h : (p : Int) ≤ maxInt64) : counter p = p :=
  wrap64_id (by unfold minInt64; omega) h

/-- The first position whose counter is `idx`. -/
theorem counter_eq_iff (idx : Int) (h1 : minInt64 ≤ idx) (h2 : idx ≤ maxInt64) (p : Nat)
    (hp : p ≤ (idx % 18446744073709551616).toNat) :
    counter p = idx ↔ p = (idx % 18446744073709551616).toNat := by
  unfold counter wrap64; unfold minInt64 at h1; unfold maxInt64 at h2; omega

/-- A negative index plus the element count, when neither 64-bit addition wraps. -/
theorem wrap64_add_length (i : Int) (n : Nat) (hn : (n : Int) ≤ maxInt64) (h1 : minInt64 ≤ i) (h2 : i < 0) :
    wrap64 (i + wrap64 (n : Int)) = i + n := by
  rw [wrap64_id (by unfold minInt64; omega) hn]
  exact wrap64_id (by unfold minInt64 at *; omega) (by omega)

/-! ## @select -/

def selG : SelSt → Bool := fun st => st.found.isNone
def selPhi (idx : Int) : SelSt → Bytes → SelSt := fun st val =>
  if st.i = idx then ⟨st.i, some val⟩ else ⟨wrap64 (st.i + 1), none⟩

/-- The loop of `@select` started at position `p`, not beyond the first position `t` whose counter is `idx`:
    it returns the element at `t`. -/
theorem select_fold_wrapped (idx : Int) (t : Nat) (ht : ∀ p ≤ t, counter p = idx ↔ p = t)
    (xs : List Bytes) (p : Nat) (hp : p ≤ t) :
    (foldWhile selG (selPhi idx) xs ⟨counter p, none⟩).found.getD [] = xs.getD (t - p) [] := by
  induction xs generalizing p with
  | nil => simp [foldWhile]
  | cons x xs ih =>
    simp only [foldWhile, selG, Option.isNone_none, if_true, selPhi]
    by_cases he : counter p = idx
    · rw [if_pos he, foldWhile_false _ _ _ _ (by simp [selG]), (ht p hp).mp he, Nat.sub_self]
      rfl
    · have hlt : p < t := Nat.lt_of_le_of_ne hp (fun e => he ((ht p hp).mpr e))
      have e : t - p = (t - (p + 1)) + 1 := by omega
      rw [if_neg he, counter_succ, ih (p + 1) hlt, e, List.getD_cons_succ]

theorem selectTarget_range (n : Nat) (index : Int) (h1 : minInt64 ≤ index) (h2 : index ≤ maxInt64) :
    minInt64 ≤ selectTarget n index ∧ selectTarget n index ≤ maxInt64 := by
  unfold selectTarget
  split
  · unfold wrap64 minInt64 maxInt64; omega
  · exact ⟨h1, h2⟩

theorem selectIndex_eq (index : Int) (arr : Bytes) :
    selectIndex index arr = selectTarget (elems arr).length index := by
  simp only [selectIndex, selectTarget, countSep_succ]

/-- `{@select a i}` on any array, for an int64 index. -/
theorem selectStage_run (ctx : Ctx) (a0 : Stage) (arr : Bytes) (index : Int) (h1 : minInt64 ≤ index)
    (h2 : index ≤ maxInt64) (h0 : a0.run ctx = .ok arr) :
    (selectStage index a0).run ctx = .ok (selectW (elems arr) index) := by
  unfold selectStage
  rw [Comp.run_bind_ok h0, Comp.run_bind]
  rw [splitLoop_run_init ctx _ _ (selPhi (selectIndex index arr))
    (by intro st x; simp only [selPhi]; split <;> rfl) arr _ (by simp [ArraySeparatorString])]
  simp only [Comp.run]
  have hg : (fun st : SelSt => st.found.isNone) = selG := rfl
  have he : splitOn ArraySeparatorString arr = elems arr := rfl
  obtain ⟨r1, r2⟩ := selectTarget_range (elems arr).length index h1 h2
  have hf := select_fold_wrapped _ _ (counter_eq_iff _ r1 r2) (elems arr) 0 (Nat.zero_le _)
  rw [counter_zero] at hf
  rw [hg, he, selectIndex_eq, hf]
  rfl

theorem selectTarget_eq (n : Nat) (index : Int) (hn : (n : Int) ≤ maxInt64) (h1 : minInt64 ≤ index) :
    selectTarget n index = if index < 0 then index + n else index := by
  unfold selectTarget
  split
  · exact wrap64_add_length index n hn h1 ‹_›
  · rfl

/-- Below 2^63 elements the wrapped `@select` is the documented one. -/
theorem selectW_eq_select (xs : List Bytes) (index : Int) (hl : (xs.length : Int) ≤ maxInt64)
    (h1 : minInt64 ≤ index) (h2 : index ≤ maxInt64) : selectW xs index = select xs index := by
  unfold selectW select
  rw [selectTarget_eq _ _ hl h1]
  generalize hj : (if index < 0 then index + (xs.length : Int) else index) = j
  have hjb : minInt64 ≤ j ∧ j ≤ maxInt64 := by subst hj; split <;> omega
  unfold minInt64 maxInt64 at *
  dsimp only
  split
  · -- a negative target is found at position `j + 2^64`, beyond the end of the list
    rw [Int.emod_eq_add_self_emod, Int.emod_eq_of_lt (by omega) (by omega), List.getD_eq_getElem?_getD,
      List.getElem?_eq_none (by omega)]
    rfl
  · rw [Int.emod_eq_of_lt (by omega) (by omega)]

/-! ## @slice -/

def sliG (rs len : Int) : SliceSt → Bool := fun st =>
  decide (len < 0) || decide (wrap64 (st.i - rs) < len)
def sliPhi (rs : Int) : SliceSt → Bytes → SliceSt := fun st val =>
  ⟨wrap64 (st.i + 1),
    if st.i ≥ rs then (if st.i > rs then st.ret.write ArraySeparatorString else st.ret).write val
    else st.ret⟩

/-- The loop of `@slice` from position `p` on, for any list. -/
theorem slice_fold_wrapped (rs len : Int) (xs : List Bytes) (p : Nat) (sb : Sb) :
    (foldWhile (sliG rs len) (sliPhi rs) xs ⟨counter p, sb⟩).ret.str = sb.str ++ sliceWalk rs len p xs := by
  induction xs generalizing p sb with
  | nil => simp [foldWhile, sliceWalk]
  | cons x xs ih =>
    by_cases hg : sliG rs len ⟨counter p, sb⟩ = true
    · have hg' : len < 0 ∨ wrap64 (counter p - rs) < len := by
        simpa [sliG] using hg
      simp only [foldWhile, hg, if_true, sliPhi, counter_succ, sliceWalk, hg']
      rw [ih]
      by_cases h1 : counter p ≥ rs
      · by_cases h2 : counter p > rs
        · simp [h1, h2, ArraySeparatorString, ArraySeparator, NUL]
        · simp [h1, h2]
      · simp [h1]
    · have hg0 : sliG rs len ⟨counter p, sb⟩ = false := by simpa using hg
      have hg' : ¬ (len < 0 ∨ wrap64 (counter p - rs) < len) := by
        simpa [sliG] using hg0
      rw [foldWhile_false _ _ _ _ hg0]
      simp [sliceWalk, hg']

theorem sliceStart_eq (start : Int) (arr : Bytes) :
    sliceStart start arr = sliceTarget (elems arr).length start := by
  simp only [sliceStart, sliceTarget, countSep_succ]

/-- `{@slice a start [len]}` on any array. -/
theorem sliceStage_run (ctx : Ctx) (a0 : Stage) (arr : Bytes) (start len : Int) (h0 : a0.run ctx = .ok arr) :
    (sliceStage start len a0).run ctx = .ok (sliceW (elems arr) start len) := by
  unfold sliceStage
  rw [Comp.run_bind_ok h0, Comp.run_bind]
  rw [splitLoop_run_init ctx _ _ (sliPhi (sliceStart start arr))
    (by intro st x; rfl) arr _ (by simp [ArraySeparatorString])]
  have he : splitOn ArraySeparatorString arr = elems arr := rfl
  have hg : (fun st : SliceSt => decide (len < 0) || decide (wrap64 (st.i - sliceStart start arr) < len)) =
      sliG (sliceStart start arr) len := rfl
  have hf := slice_fold_wrapped (sliceStart start arr) len (elems arr) 0 {}
  rw [counter_zero] at hf
  simp only [Comp.run]
  rw [hg, he, hf, sliceStart_eq]
  simp [sliceW]

/-- `len` elements, or all of them when `len < 0`. -/
def takeL (len : Int) (l : List Bytes) : List Bytes := if len < 0 then l else l.take len.toNat

theorem takeL_cons (n : Int) (x : Bytes) (xs : List Bytes) :
    takeL n (x :: xs) = if n = 0 then [] else x :: takeL (n - 1) xs := by
  unfold takeL
  by_cases h : n < 0
  · rw [if_pos h, if_neg (by omega), if_pos (by omega)]
  · by_cases h0 : n = 0
    · subst h0; rfl
    · have e : n.toNat = (n - 1).toNat + 1 := by omega
      rw [if_neg h, if_neg h0, if_neg (by omega), e, List.take_succ_cons]

/-- Where nothing wraps, past the start: every further element is written with a separator in front. -/
theorem sliceWalk_after (rs len : Int) (hrs : 0 ≤ rs) (xs : List Bytes) (p : Nat) (hp : rs < p)
    (hb : (p : Int) + xs.length ≤ maxInt64) (hle : len < 0 ∨ p - rs ≤ len) :
    sliceWalk rs len p xs = joinTail [NUL] (takeL (len - (p - rs)) xs) := by
  induction xs generalizing p with
  | nil => simp [sliceWalk, takeL, joinTail]
  | cons x xs ih =>
    simp only [List.length_cons, Int.natCast_add, Int.cast_ofNat_Int] at hb
    rw [sliceWalk, counter_id p (by omega),
      wrap64_id (x := p - rs) (by unfold minInt64; omega) (by omega), takeL_cons]
    by_cases hg : len < 0 ∨ (p : Int) - rs < len
    · have e : len - ((p : Int) - rs) - 1 = len - (((p + 1 : Nat) : Int) - rs) := by omega
      rw [if_pos hg, if_pos (by omega), if_pos (by omega), if_neg (by omega), e,
        ih (p + 1) (by omega) (by omega) (by omega)]
      simp [joinTail]
    · rw [if_neg hg, if_pos (by omega)]
      rfl

/-- Where nothing wraps, before (or at) the start: skip up to the start, then write the first element bare. -/
theorem sliceWalk_before (rs len : Int) (hrm : rs ≤ maxInt64) (xs : List Bytes) (p : Nat) (hp : (p : Int) ≤ rs)
    (hb : (p : Int) + xs.length ≤ maxInt64) :
    sliceWalk rs len p xs = pack (takeL len (xs.drop (rs - p).toNat)) := by
  induction xs generalizing p with
  | nil => simp [sliceWalk, takeL, pack, join]
  | cons x xs ih =>
    simp only [List.length_cons, Int.natCast_add, Int.cast_ofNat_Int] at hb
    rw [sliceWalk, counter_id p (by omega),
      wrap64_id (x := p - rs) (by unfold minInt64 maxInt64 at *; omega) (by unfold maxInt64; omega)]
    by_cases hlt : (p : Int) < rs
    · have e : (rs - p).toNat = (rs - ((p + 1 : Nat) : Int)).toNat + 1 := by omega
      rw [if_pos (by omega), if_neg (by omega), ih (p + 1) (by omega) (by omega), e, List.drop_succ_cons]
      rfl
    · have he : rs = p := by omega
      subst he
      rw [Int.sub_self, Int.toNat_zero, List.drop_zero, takeL_cons]
      by_cases hg : len = 0
      · rw [if_neg (by omega), if_pos hg]
        rfl
      · have e : len - 1 = len - (((p + 1 : Nat) : Int) - p) := by omega
        rw [if_pos (by omega), if_pos (Int.le_refl _), if_neg (Int.lt_irrefl _), if_neg hg,
          sliceWalk_after p len (by omega) xs (p + 1) (by omega) (by omega) (by omega), ← e, pack,
          join_cons_tail]
        rfl

theorem sliceTarget_eq (n : Nat) (start : Int) (hn : (n : Int) ≤ maxInt64) (h1 : minInt64 ≤ start) :
    sliceTarget n start = if start < 0 then max 0 (start + n) else start := by
  unfold sliceTarget
  split
  · rw [wrap64_add_length start n hn h1 ‹_›]
    dsimp only
    split <;> omega
  · rfl

/-- Below 2^63 elements the wrapped `@slice` is the packing of the documented slice. -/
theorem sliceW_eq_slice (xs : List Bytes) (start len : Int) (hl : (xs.length : Int) ≤ maxInt64)
    (h1 : minInt64 ≤ start) (h2 : start ≤ maxInt64) : sliceW xs start len = pack (slice xs start len) := by
  have ht := sliceTarget_eq xs.length start hl h1
  have hr : 0 ≤ sliceTarget xs.length start ∧ sliceTarget xs.length start ≤ maxInt64 := by
    rw [ht]; unfold maxInt64 at *; split <;> omega
  unfold sliceW
  rw [sliceWalk_before _ len hr.2 xs 0 hr.1 (by simpa using hl), ht]
  simp [slice, takeL]

end Rare.C17

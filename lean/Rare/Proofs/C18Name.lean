import Rare.Model.C18Zone
import Rare.Proofs.C18RT
import Rare.Proofs.C18Zone
/-! C18: `Location.lookupName` on the table for the abbreviation in force. -/
namespace Rare.C18

/-- The first loop of `lookupName` for the abbreviation in force at `u`, asked at the wall clock of
`u`: when every zone of that name in the list has the offset in force (names determine offsets), the
first such entry looks up `u` itself and answers its offset. -/
theorem lookupNameFirst_in_force (z : ZoneTab) (u : Int) (zones : List (Bytes × Int))
    (hall : ∀ e ∈ zones, e.1 = (z.lookup u).abbr → e.2 = (z.lookup u).off)
    (hex : ∃ e ∈ zones, e.1 = (z.lookup u).abbr) :
    lookupNameFirst z (z.lookup u).abbr (z.wall u) zones = some (z.lookup u).off := by
  induction zones with
  | nil => obtain ⟨e, he, _⟩ := hex; cases he
  | cons e r ih =>
    obtain ⟨zn, zoff⟩ := e
    simp only [lookupNameFirst]
    by_cases hn : zn = (z.lookup u).abbr
    · have ho : zoff = (z.lookup u).off := hall (zn, zoff) (List.mem_cons_self ..) hn
      have hw : z.wall u - zoff = u := by unfold ZoneTab.wall; omega
      simp only [hn, if_true, hw]
    · simp only [hn, if_false]
      apply ih (fun e he => hall e (List.mem_cons_of_mem _ he))
      obtain ⟨e, he, hen⟩ := hex
      rcases List.mem_cons.mp he with h | h
      · subst h; exact absurd hen hn
      · exact ⟨e, h, hen⟩

theorem lookupNameIn_unknown (z : ZoneTab) (zones : List (Bytes × Int)) (n : Bytes) (w : Int)
    (h : ∀ e ∈ zones, e.1 ≠ n) : lookupNameIn z zones n w = none := by
  have h1 : lookupNameFirst z n w zones = none := by
    induction zones with
    | nil => rfl
    | cons e r ih =>
      obtain ⟨zn, zoff⟩ := e
      have : zn ≠ n := h (zn, zoff) (List.mem_cons_self ..)
      simp only [lookupNameFirst, this, if_false]
      exact ih (fun e he => h e (List.mem_cons_of_mem _ he))
  have h2 : zones.find? (fun e => e.1 == n) = none := by
    rw [List.find?_eq_none]
    intro e he
    simpa using h e he
  simp only [lookupNameIn, h1, h2, Option.map_none]

end Rare.C18

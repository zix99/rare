import Rare.Model.C12Go
import Rare.Proofs.C12Spec
/-! `stringslite.Index` as Go runs it (`Model/C12Go.lean`) computes the contract `stringsIndex`. -/
namespace Rare.C12

theorem stringsIndex_of_least {s sub : Bytes} {i : Nat} (hle : i ≤ s.length) (hp : sub <+: s.drop i)
    (hmin : ∀ j < i, ¬ sub <+: s.drop j) : stringsIndex s sub = (i : Int) := by
  simp [stringsIndex, (firstIndex_spec sub s i).mpr ⟨hle, hp, hmin⟩]

theorem stringsIndex_of_none {s sub : Bytes} (h : ∀ k ≤ s.length, ¬ sub <+: s.drop k) :
    stringsIndex s sub = -1 := by
  simp [stringsIndex, (firstIndex_none_iff sub s).mpr h]

theorem stringsIndex_ge (s sub : Bytes) : -1 ≤ stringsIndex s sub := by
  unfold stringsIndex; split <;> omega

theorem firstIndex_drop {s sub : Bytes} : ∀ {k : Nat}, k ≤ s.length → (∀ j < k, ¬ sub <+: s.drop j) →
    firstIndex sub s = (firstIndex sub (s.drop k)).map (k + ·) := by
  induction s with
  | nil => intro k hk _; simp at hk; subst hk; simp
  | cons c cs ih =>
    intro k hk hmin
    cases k with
    | zero => simp
    | succ k =>
      have h0 : sub.isPrefixOf (c :: cs) = false := by
        rw [Bool.eq_false_iff, ne_eq, List.isPrefixOf_iff_prefix]; exact hmin 0 (by omega)
      rw [firstIndex, h0, ih (by simpa using hk) fun j hj => hmin (j + 1) (by omega), List.drop_succ_cons]
      cases firstIndex sub (cs.drop k) <;> simp <;> omega

/-- searching the rest `s[k:]` when nothing occurs before `k` -/
theorem stringsIndex_drop {s sub : Bytes} {k : Nat} (hk : k ≤ s.length)
    (hmin : ∀ j < k, ¬ sub <+: s.drop j) :
    stringsIndex s sub =
      (if stringsIndex (s.drop k) sub < 0 then -1 else (k : Int) + stringsIndex (s.drop k) sub) := by
  have h := firstIndex_drop hk hmin
  cases hf : firstIndex sub (s.drop k) <;> simp [stringsIndex, h, hf] <;> omega

/-- `IndexByte`: -1 iff the byte does not occur, else the least position holding it -/
theorem goIndexByte_spec (l : Bytes) (c : UInt8) :
    (goIndexByte l c = -1 ∧ c ∉ l) ∨
    (∃ o : Nat, goIndexByte l c = (o : Int) ∧ l[o]? = some c ∧ ∀ k < o, l[k]? ≠ some c) := by
  induction l with
  | nil => left; simp [goIndexByte]
  | cons x xs ih =>
    by_cases hx : x = c
    · right; exact ⟨0, by simp [goIndexByte, hx], by simp [hx], by omega⟩
    · rcases ih with ⟨h1, h2⟩ | ⟨o, h1, h2, h3⟩
      · left
        refine ⟨by simp [goIndexByte, hx, h1], ?_⟩
        simp only [List.mem_cons, not_or]
        exact ⟨fun h => hx h.symm, h2⟩
      · right
        refine ⟨o + 1, ?_, by simpa using h2, ?_⟩
        · have : ¬ ((o : Int) < 0) := by omega
          simp [goIndexByte, hx, h1, this]
        · intro k hk
          cases k with
          | zero => simp [hx]
          | succ k => simpa using h3 k (by omega)

/-- `IndexByte` on the slice `s[a:t]`, in positions of `s` -/
theorem goIndexByte_slice (s : Bytes) (c : UInt8) (a t : Nat) :
    (goIndexByte ((s.take t).drop a) c = -1 ∧ ∀ j, a ≤ j → j < t → s[j]? ≠ some c) ∨
    (∃ o : Nat, goIndexByte ((s.take t).drop a) c = (o : Int) ∧ a + o < t ∧
      ∀ j, a ≤ j → j < a + o → s[j]? ≠ some c) := by
  have hslice : ∀ k, ((s.take t).drop a)[k]? = if a + k < t then s[a + k]? else none := by
    intro k; rw [List.getElem?_drop, List.getElem?_take]
  rcases goIndexByte_spec ((s.take t).drop a) c with ⟨h1, h2⟩ | ⟨o, h1, h2, h3⟩
  · refine Or.inl ⟨h1, fun j haj hjt hj => h2 (List.mem_iff_getElem?.mpr ⟨j - a, ?_⟩)⟩
    rw [hslice, show a + (j - a) = j by omega, if_pos hjt]; exact hj
  · rw [hslice] at h2
    have hot : a + o < t := by
      by_cases hh : a + o < t
      · exact hh
      · rw [if_neg hh] at h2; cases h2
    refine Or.inr ⟨o, h1, hot, fun j haj hjo hj => h3 (j - a) (by omega) ?_⟩
    rw [hslice, show a + (j - a) = j by omega, if_pos (by omega)]; exact hj

theorem windowEq_iff (s : Bytes) (i : Nat) (sub : Bytes) : windowEq s i sub = true ↔ sub <+: s.drop i := by
  unfold windowEq
  rw [List.prefix_iff_eq_take]
  simp only [beq_iff_eq]
  exact eq_comm

/-- an occurrence of `c0 :: c1 :: rest` at `j`: the two leading bytes and the room it needs -/
theorem occ_heads {s rest : Bytes} {c0 c1 : UInt8} {j : Nat} (h : (c0 :: c1 :: rest) <+: s.drop j) :
    s[j]? = some c0 ∧ s[j + 1]? = some c1 ∧ j + (rest.length + 2) ≤ s.length := by
  obtain ⟨tl, htl⟩ := h
  have hlen : (s.drop j).length = (c0 :: c1 :: rest ++ tl).length := by rw [← htl]
  simp only [List.length_drop, List.length_cons, List.length_append] at hlen
  have h0 : (s.drop j)[0]? = some c0 := by rw [← htl]; simp
  have h1 : (s.drop j)[1]? = some c1 := by rw [← htl]; simp
  rw [List.getElem?_drop] at h0 h1
  exact ⟨by simpa using h0, h1, by omega⟩

/-- the arm `n == 1` of the `switch` -/
theorem goIndexByte_eq (s : Bytes) (c : UInt8) : goIndexByte s c = stringsIndex s [c] := by
  rcases goIndexByte_spec s c with ⟨h1, h2⟩ | ⟨o, h1, h2, h3⟩
  · rw [h1]; symm
    apply stringsIndex_of_none
    intro k _ hp
    obtain ⟨tl, htl⟩ := hp
    apply h2
    have : c ∈ s.drop k := by rw [← htl]; simp
    exact List.mem_of_mem_drop this
  · rw [h1]; symm
    have hol : o < s.length := by
      rcases Nat.lt_or_ge o s.length with h | h
      · exact h
      · rw [List.getElem?_eq_none h] at h2; cases h2
    apply stringsIndex_of_least (by omega)
    · refine ⟨s.drop (o + 1), ?_⟩
      rw [List.getElem?_eq_getElem hol] at h2
      have := Option.some.inj h2
      rw [← this]; simp
    · intro j hj hp
      obtain ⟨tl, htl⟩ := hp
      have h0 : (s.drop j)[0]? = some c := by rw [← htl]; simp
      rw [List.getElem?_drop] at h0
      exact h3 j hj (by simpa using h0)

/-- the arms `n == len(s)` and `n > len(s)` of the `switch`; `search` is what the remaining arms do -/
theorem goIndex_arms (s rest : Bytes) (c0 c1 : UInt8) (search : Int)
    (h : rest.length + 2 < s.length → search = stringsIndex s (c0 :: c1 :: rest)) :
    (if rest.length + 2 = s.length then (if c0 :: c1 :: rest = s then 0 else -1)
     else if rest.length + 2 > s.length then -1 else search) = stringsIndex s (c0 :: c1 :: rest) := by
  by_cases h1 : rest.length + 2 = s.length
  · rw [if_pos h1]
    by_cases h2 : c0 :: c1 :: rest = s
    · rw [if_pos h2]; symm
      exact stringsIndex_of_least (i := 0) (by omega) (by simp [h2]) (by omega)
    · rw [if_neg h2]; symm
      apply stringsIndex_of_none
      intro k _ hp
      have hk := (occ_heads hp).2.2
      have : k = 0 := by omega
      subst this
      apply h2
      simp only [List.drop_zero] at hp
      exact hp.eq_of_length (by simp; omega)
  · rw [if_neg h1]
    by_cases h2 : rest.length + 2 > s.length
    · rw [if_pos h2]; symm
      apply stringsIndex_of_none
      intro k _ hp
      have := (occ_heads hp).2.2
      omega
    · rw [if_neg h2]; exact h (by omega)

/-- The body shared by the two search loops of `stringslite.Index` (`goIndexLoop`, `goIndexLoopAsm`):
skip to the next `c0`, test the window there; `next i` is what the loop does after the test failed at
`i - 1` (count the failure, then hand over to the fall-back or go round again). -/
def skipStep (s sub : Bytes) (c0 c1 : UInt8) (t i : Nat) (next : Nat → Int) : Int :=
  if ¬ i < t then -1
  else
    match s[i]? with
    | none => -3
    | some si =>
      let i' : Option Nat :=
        if si ≠ c0 then
          let o := goIndexByte ((s.take t).drop (i + 1)) c0
          if o < 0 then none else some (i + (o.toNat + 1))
        else some i
      match i' with
      | none => -1
      | some i =>
        match s[i + 1]? with
        | none => -3
        | some s1 => if s1 = c1 ∧ windowEq s i sub = true then (i : Int) else next (i + 1)

/-- With nothing found below `i`, the body answers the contract as soon as `next` does so at every
later position below which nothing was found. -/
theorem skipStep_eq {s rest : Bytes} {c0 c1 : UInt8} {t i : Nat} {next : Nat → Int}
    (ht : t + rest.length + 1 = s.length) (hmin : ∀ j < i, ¬ (c0 :: c1 :: rest) <+: s.drop j)
    (hnext : ∀ i', i < i' → i' ≤ t →
      (∀ j < i', ¬ (c0 :: c1 :: rest) <+: s.drop j) → next i' = stringsIndex s (c0 :: c1 :: rest)) :
    skipStep s (c0 :: c1 :: rest) c0 c1 t i next = stringsIndex s (c0 :: c1 :: rest) := by
  -- an occurrence lies below `t`, so "nothing below `t`" is "nothing at all"
  have none_below : (∀ j < t, ¬ (c0 :: c1 :: rest) <+: s.drop j) → stringsIndex s (c0 :: c1 :: rest) = -1 :=
    fun h => stringsIndex_of_none fun j _ hp => h j (by have := (occ_heads hp).2.2; omega) hp
  -- an occurrence starts with `c0`: no `c0` in `[i, m)` extends `hmin` to `m`
  have extend : ∀ m, (∀ j, i ≤ j → j < m → s[j]? ≠ some c0) → ∀ j < m, ¬ (c0 :: c1 :: rest) <+: s.drop j := by
    intro m hm j hj hp
    rcases Nat.lt_or_ge j i with h | h
    · exact hmin j h hp
    · exact hm j h hj (occ_heads hp).1
  unfold skipStep
  by_cases hlt : i < t
  · have hil : i < s.length := by omega
    rw [if_neg (by omega), List.getElem?_eq_getElem hil]
    simp only
    -- the window test at a position `i'` below which nothing occurs
    have test : ∀ i', i ≤ i' → i' < t → (∀ j < i', ¬ (c0 :: c1 :: rest) <+: s.drop j) →
        (match s[i' + 1]? with
         | none => (-3 : Int)
         | some s1 => if s1 = c1 ∧ windowEq s i' (c0 :: c1 :: rest) = true then (i' : Int) else next (i' + 1)) =
          stringsIndex s (c0 :: c1 :: rest) := by
      intro i' hii' hi't hmin'
      have h1l : i' + 1 < s.length := by omega
      rw [List.getElem?_eq_getElem h1l]
      simp only
      by_cases hw : s[i' + 1] = c1 ∧ windowEq s i' (c0 :: c1 :: rest) = true
      · rw [if_pos hw]
        exact (stringsIndex_of_least (by omega) ((windowEq_iff _ _ _).mp hw.2) hmin').symm
      · rw [if_neg hw]
        refine hnext (i' + 1) (by omega) (by omega) fun j hj hp => ?_
        rcases Nat.lt_or_ge j i' with h | h
        · exact hmin' j h hp
        · have : j = i' := by omega
          subst this
          have := (occ_heads hp).2.1
          rw [List.getElem?_eq_getElem h1l] at this
          exact hw ⟨Option.some.inj this, (windowEq_iff _ _ _).mpr hp⟩
    by_cases hc : s[i] = c0
    · simp only [hc, ne_eq, not_true_eq_false, if_false]
      exact test i (Nat.le_refl _) hlt hmin
    · simp only [ne_eq, hc, not_false_eq_true, if_true]
      -- no `c0` in `[i+1, m)` is no `c0` in `[i, m)`
      have from_i : ∀ m, (∀ j, i + 1 ≤ j → j < m → s[j]? ≠ some c0) → ∀ j, i ≤ j → j < m → s[j]? ≠ some c0 := by
        intro m hm j hij hjm hj
        rcases Nat.eq_or_lt_of_le hij with h | h
        · subst h
          rw [List.getElem?_eq_getElem hil] at hj
          exact hc (Option.some.inj hj)
        · exact hm j h hjm hj
      rcases goIndexByte_slice s c0 (i + 1) t with ⟨h1, h2⟩ | ⟨o, h1, hot, h3⟩
      · rw [h1]
        simp only [show ((-1 : Int) < 0) from by omega, if_true]
        exact (none_below (extend t (from_i t h2))).symm
      · rw [h1]
        have hnn : ¬ ((o : Int) < 0) := by omega
        simp only [hnn, if_false, Int.toNat_natCast]
        rw [show i + (o + 1) = i + 1 + o by omega]
        exact test (i + 1 + o) (by omega) hot (extend _ (from_i _ h3))
  · rw [if_pos hlt]
    exact (none_below fun j hj => hmin j (by omega)).symm

theorem goIndexLoop_succ (fb : Bytes → Bytes → Int) (s sub : Bytes) (c0 c1 : UInt8) (t fuel i fails : Nat) :
    goIndexLoop fb s sub c0 c1 t (fuel + 1) i fails =
      skipStep s sub c0 c1 t i fun i =>
        if fails + 1 ≥ 4 + i >>> 4 ∧ i < t then
          (if fb (s.drop i) sub < 0 then -1 else (i : Int) + fb (s.drop i) sub)
        else goIndexLoop fb s sub c0 c1 t fuel i (fails + 1) := rfl

section Loop
variable (fb : Bytes → Bytes → Int)
  (hfb : ∀ s' u : Bytes, u.length ≤ s'.length → fb s' u = stringsIndex s' u)
include hfb

theorem goIndexLoop_eq (s rest : Bytes) (c0 c1 : UInt8) (t : Nat) (ht : t + rest.length + 1 = s.length) :
    ∀ (fuel i fails : Nat), t - i < fuel → (∀ j < i, ¬ (c0 :: c1 :: rest) <+: s.drop j) →
      goIndexLoop fb s (c0 :: c1 :: rest) c0 c1 t fuel i fails = stringsIndex s (c0 :: c1 :: rest) := by
  intro fuel
  induction fuel with
  | zero => intro i fails h; omega
  | succ fuel ih =>
    intro i fails hfuel hmin
    rw [goIndexLoop_succ]
    refine skipStep_eq ht hmin fun i' hi hit hmin' => ?_
    have hfuel' : t - i' < fuel := by omega
    split
    · rename_i hfall
      rw [hfb _ _ (by simp; omega)]
      exact (stringsIndex_drop (by omega) hmin').symm
    · exact ih i' (fails + 1) hfuel' hmin'

/-- `stringslite.Index` with any correct fall-back search computes the contract. -/
theorem goIndexWith_eq (s sub : Bytes) : goIndexWith fb s sub = stringsIndex s sub := by
  unfold goIndexWith
  split
  · simp [stringsIndex, firstIndex_nil]
  · exact goIndexByte_eq s _
  · exact goIndex_arms _ _ _ _ _ fun h =>
      goIndexLoop_eq fb hfb s _ _ _ _ (by omega) _ 0 0 (by omega) (by omega)

end Loop

/-! ### `lowerASCII` -/

theorem lowerASCIILoop_eq : ∀ (fuel : Nat) (done todo : Bytes), todo.length ≤ fuel →
    lowerASCIILoop (lower done ++ todo) done.length fuel = lower done ++ lower todo := by
  intro fuel
  induction fuel with
  | zero =>
    intro done todo h
    have : todo = [] := List.eq_nil_of_length_eq_zero (by omega)
    subst this; simp [lowerASCIILoop, lower]
  | succ fuel ih =>
    intro done todo h
    cases todo with
    | nil =>
      simp [lowerASCIILoop, lower]
    | cons c cs =>
      have hl : (lower done).length = done.length := lower_length done
      have hget : (lower done ++ c :: cs)[done.length]? = some c := by
        rw [List.getElem?_append_right (by omega)]; simp [hl]
      simp only [lowerASCIILoop, hget]
      have hset : (lower done ++ c :: cs).set done.length (lowerByte c) = lower (done ++ [c]) ++ cs := by
        rw [List.set_append_right _ _ (by omega)]
        simp [lower]
      rw [hset]
      have := ih (done ++ [c]) cs (by simpa using h)
      simp only [List.length_append, List.length_cons, List.length_nil] at this
      rw [this]
      simp [lower]

theorem lowerASCII_eq (s : Bytes) : lowerASCII s = lower s := by
  have := lowerASCIILoop_eq s.length [] s (Nat.le_refl _)
  simpa [lowerASCII, lower] using this

/-! ### Rabin–Karp -/

theorem sq_pow (a : UInt32) (n : Nat) : (a * a) ^ n = a ^ (2 * n) := by
  induction n with
  | zero => simp
  | succ n ih =>
    have : 2 * (n + 1) = 2 * n + 1 + 1 := by omega
    rw [this]; grind

theorem powLoop_eq : ∀ (fuel i : Nat) (pow sq : UInt32), i ≤ fuel → powLoop fuel i pow sq = pow * sq ^ i := by
  intro fuel
  induction fuel with
  | zero => intro i pow sq h; have : i = 0 := by omega
            subst this; simp [powLoop]
  | succ fuel ih =>
    intro i pow sq h
    unfold powLoop
    by_cases hi : i > 0
    · have hsh : i >>> 1 = i / 2 := by rw [Nat.shiftRight_eq_div_pow]
      rw [if_pos hi, hsh, ih _ _ _ (by omega), sq_pow]
      have hmod : i &&& 1 = i % 2 := Nat.and_one_is_mod i
      rw [hmod]
      rcases Nat.mod_two_eq_zero_or_one i with h0 | h1
      · have : 2 * (i / 2) = i := by omega
        simp [h0, this]
      · have : i = 2 * (i / 2) + 1 := by omega
        simp only [h1]
        generalize i / 2 = m at *
        subst this
        grind
    · have : i = 0 := by omega
      subst this; simp

theorem hashPow_eq (n : Nat) : hashPow n = primeRK ^ n := by
  unfold hashPow
  rw [powLoop_eq _ _ _ _ (by omega)]
  grind

def hashFrom (h : UInt32) (l : Bytes) : UInt32 := l.foldl (fun h c => h * primeRK + c.toUInt32) h

theorem hashFrom_eq (l : Bytes) : ∀ h, hashFrom h l = h * primeRK ^ l.length + hashBytes l := by
  induction l with
  | nil => intro h; simp [hashFrom, hashBytes]
  | cons c l ih =>
    intro h
    have e1 : hashFrom h (c :: l) = hashFrom (h * primeRK + c.toUInt32) l := by simp [hashFrom]
    have e2 : hashBytes (c :: l) = hashFrom (0 * primeRK + c.toUInt32) l := by simp [hashBytes, hashFrom]
    rw [e1, e2, ih, ih]
    simp only [List.length_cons]
    grind

theorem hashBytes_snoc (l : Bytes) (c : UInt8) : hashBytes (l ++ [c]) = hashBytes l * primeRK + c.toUInt32 := by
  simp [hashBytes, List.foldl_append]

theorem hashBytes_cons (o : UInt8) (w : Bytes) : hashBytes (o :: w) = o.toUInt32 * primeRK ^ w.length + hashBytes w := by
  have : hashBytes (o :: w) = hashFrom (0 * primeRK + o.toUInt32) w := by simp [hashBytes, hashFrom]
  rw [this, hashFrom_eq]; grind

/-- the rolling step: drop `o` in front, append `c` behind -/
theorem hash_roll (o c : UInt8) (w : Bytes) :
    hashBytes (o :: w) * primeRK + c.toUInt32 - primeRK ^ (w.length + 1) * o.toUInt32 = hashBytes (w ++ [c]) := by
  rw [hashBytes_cons, hashBytes_snoc]; grind


theorem prefix_window {sub w x : Bytes} (hl : w.length = sub.length) : sub <+: w ++ x ↔ w = sub := by
  rw [List.prefix_iff_eq_take, ← hl, List.take_left' rfl]; exact eq_comm

/-- `w` is the window `s[i-n:i]` whose hash the loop carries, `new` = `s[i:]`, `k` = `i - n` -/
theorem rkLoop_eq (sub : Bytes) : ∀ (new w : Bytes) (k : Nat), w.length = sub.length → w ≠ sub →
    rkLoop sub (hashBytes sub) (primeRK ^ sub.length) (w ++ new) new (hashBytes w) k =
      (if stringsIndex (w ++ new) sub < 0 then -1 else (k : Int) + stringsIndex (w ++ new) sub) := by
  intro new
  induction new with
  | nil =>
    intro w k hl hw
    have hnone : stringsIndex (w ++ []) sub = -1 := by
      apply stringsIndex_of_none
      intro j hj hp
      have hjl := hp.length_le
      simp only [List.length_drop, List.length_append, List.length_nil] at hj hjl
      have : j = 0 := by omega
      subst this
      exact hw ((prefix_window hl).mp hp)
    rw [hnone]
    cases w <;> simp [rkLoop]
  | cons c new ih =>
    intro w k hl hw
    cases w with
    | nil => exact absurd (List.eq_nil_of_length_eq_zero hl.symm).symm hw
    | cons o w =>
      have hno : ¬ sub <+: (o :: w) ++ c :: new := mt (prefix_window hl).mp hw
      have hidx := stringsIndex_drop (s := (o :: w) ++ c :: new) (sub := sub) (k := 1) (by simp)
        (by intro j hj
            have : j = 0 := by omega
            subst this; simpa using hno)
      have hl' : (w ++ [c]).length = sub.length := by simpa using hl
      simp only [List.cons_append, List.drop_succ_cons, List.drop_zero, List.append_cons w c new] at hidx
      simp only [List.cons_append, rkLoop]
      rw [show hashBytes (o :: w) * primeRK + c.toUInt32 - primeRK ^ sub.length * o.toUInt32 =
          hashBytes (w ++ [c]) by rw [← hl]; exact hash_roll o c w, List.append_cons w c new, List.take_left' hl']
      by_cases hw' : w ++ [c] = sub
      · have h0 : stringsIndex (w ++ [c] ++ new) sub = 0 :=
          stringsIndex_of_least (i := 0) (by omega) ((prefix_window hl').mpr hw') (by omega)
        rw [hidx, h0]
        simp [hw']
      · have hb : (w ++ [c] == sub) = false := by simpa using hw'
        simp only [hb, Bool.and_false, Bool.false_eq_true, if_false]
        rw [ih (w ++ [c]) (k + 1) hl' hw', hidx]
        generalize stringsIndex (w ++ [c] ++ new) sub = r
        split <;> simp <;> omega

/-- `bytealg.IndexRabinKarp` computes the contract whenever Go may call it (`len(s) ≥ len(sep)`) -/
theorem indexRabinKarp_eq (s sub : Bytes) (h : sub.length ≤ s.length) :
    indexRabinKarp s sub = stringsIndex s sub := by
  unfold indexRabinKarp
  simp only [show ¬ s.length < sub.length from by omega, if_false, hashPow_eq]
  have hl : (s.take sub.length).length = sub.length := by simp; omega
  have hpre := prefix_window (x := s.drop sub.length) hl
  by_cases hw : s.take sub.length = sub
  · simp only [hw, beq_self_eq_true, Bool.and_self, if_true]
    rw [List.take_append_drop] at hpre
    exact (stringsIndex_of_least (i := 0) (by omega) (hpre.mpr hw) (by omega)).symm
  · have hb : (s.take sub.length == sub) = false := by simpa using hw
    simp only [hb, Bool.and_false, Bool.false_eq_true, if_false]
    have := rkLoop_eq sub (s.drop sub.length) (s.take sub.length) 0 hl hw
    rw [List.take_append_drop] at this
    rw [this]
    have := stringsIndex_ge s sub
    split <;> omega

theorem goIndex_eq (s sub : Bytes) : goIndex s sub = stringsIndex s sub :=
  goIndexWith_eq indexRabinKarp indexRabinKarp_eq s sub

end Rare.C12

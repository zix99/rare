import Rare.Proofs.C04Buf
/-!
More about C04: the specification is the unique solution of the property text's equations, the immediate scanner
stalls with a stalling reader, and no array either scanner allocates is longer than an unterminated fragment of the
input plus the buffer size.
-/
namespace Rare.C04

/-! ### the specification is the unique solution of its three defining equations -/

theorem splitLines_nil : splitLines [] = [] := by simp [splitLines, splitGo]

theorem splitLines_line (a rest : Bytes) (h : nl ∉ a) :
    splitLines (a ++ nl :: rest) = dropCR a :: splitLines rest := by
  have := splitGo_line [] a rest h
  simpa [splitLines] using this

theorem splitLines_tail (a : Bytes) (h : nl ∉ a) (hne : a ≠ []) : splitLines a = [a] := by
  simpa [hne] using Boundary.nil.tail a h

/-- every byte string is newline-free or has a first newline -/
theorem nl_cases (d : Bytes) : nl ∉ d ∨ ∃ a rest, nl ∉ a ∧ d = a ++ nl :: rest := by
  cases h : idxNl d with
  | none => exact Or.inl (idxNl_none.mp h)
  | some k =>
    obtain ⟨a, r, ha, hd, _⟩ := idxNl_some h
    exact Or.inr ⟨a, r, ha, hd⟩

theorem splitLines_unique_aux (f : Bytes → List Bytes) (h0 : f [] = [])
    (h1 : ∀ a rest, nl ∉ a → f (a ++ nl :: rest) = dropCR a :: f rest)
    (h2 : ∀ a, nl ∉ a → a ≠ [] → f a = [a]) :
    ∀ (n : Nat) (d : Bytes), d.length ≤ n → f d = splitLines d := by
  intro n
  induction n with
  | zero =>
    intro d hd
    have : d = [] := List.eq_nil_of_length_eq_zero (by omega)
    subst this
    rw [h0, splitLines_nil]
  | succ n ih =>
    intro d hd
    rcases nl_cases d with hn | ⟨a, rest, ha, rfl⟩
    · by_cases hne : d = []
      · subst hne; rw [h0, splitLines_nil]
      · rw [h2 d hn hne, splitLines_tail d hn hne]
    · rw [h1 a rest ha, splitLines_line a rest ha, ih rest (by simp at hd; omega)]

theorem splitGo_append_terminated (cur p x : Bytes) :
    splitGo cur (p ++ nl :: x) = splitGo cur (p ++ [nl]) ++ splitGo [] x := by
  induction p generalizing cur with
  | nil => simp [splitGo]
  | cons b p ih => by_cases hb : b = nl <;> simp [splitGo, hb, ih]

/-- compositionality: a stream cut right after a newline splits into the lines of both halves -/
theorem splitLines_append_terminated (p x : Bytes) :
    splitLines (p ++ [nl] ++ x) = splitLines (p ++ [nl]) ++ splitLines x := by
  simpa [splitLines] using splitGo_append_terminated [] p x

/-! ### stalls: the immediate scanner has no bound on consecutive `(0, nil)` reads -/

theorem zero_read (rest : Bytes) (ss : List Step) (room : Nat) :
    (Reader.read ⟨rest, ⟨0, none⟩ :: ss⟩ room) = ([], none, ⟨rest, ss⟩) := by
  simp [Reader.read]

theorem readLoop_stalls (N : Nat) : ∀ (s : Imm) (ss : List Step), s.buf.length < s.cap → 1 ≤ s.bufSize →
    s.rd.script = List.replicate N ⟨0, none⟩ ++ ss →
    s.readLoop N = (.fuel, { s with rd := ⟨s.rd.rest, ss⟩ }) := by
  induction N with
  | zero =>
    intro s ss _ _ hs
    simp only [List.replicate, List.nil_append] at hs
    simp only [Imm.readLoop]
    have : s.rd = ⟨s.rd.rest, ss⟩ := by rw [← hs]
    rw [← this]
  | succ N ih =>
    intro s ss hcap hb hs
    have hg : s.grown = s := by simp [Imm.grown]; omega
    have hrd : s.rd = ⟨s.rd.rest, ⟨0, none⟩ :: (List.replicate N ⟨0, none⟩ ++ ss)⟩ := by
      rw [← List.cons_append, ← List.replicate_succ, ← hs]
    simp only [Imm.readLoop, hg]
    rw [hrd, zero_read]
    simp only [idxNl]
    have := ih (s.recv [] ⟨s.rd.rest, List.replicate N ⟨0, none⟩ ++ ss⟩) ss
      (by simpa [Imm.recv] using hcap) hb rfl
    rw [this]
    simp [Imm.recv]

/-! ### allocation sizes of the immediate scanner -/

/-- the valid part never exceeds the array (`end ≤ len(buf)`): no `Read` is handed a negative-length slice
    and no write lands outside the allocation -/
theorem closed_end_le_cap : Closed (fun s => s.buf.length ≤ s.cap) where
  emitAt := fun _ _ h => h
  emitTail := fun _ h => h
  grown := fun s h => by
    unfold Imm.grown
    split
    · simp [Imm.regrow]
    · exact h
  read := fun s h _ hlt => by
    intro r
    have : r.1.length ≤ s.cap - s.buf.length := read_len s.rd (s.cap - s.buf.length)
    split
    · simp [Imm.recv]; omega
    · simp [Imm.recv, Imm.fail]; omega

theorem closed_bufSize (b : Nat) : Closed (fun s => s.bufSize = b) where
  emitAt := fun _ _ h => h
  emitTail := fun _ h => h
  grown := fun s h => by rw [grown_bufSize]; exact h
  read := fun s h _ _ => by
    intro r
    split <;> exact h

/-- The current backing array has the initial size, or the size "an unterminated fragment of the input
    plus `bufSize`". -/
def AllocOK (s : Imm) : Prop :=
  s.cap = s.bufSize ∨ ∃ w, w <:+: s.delivered ∧ nl ∉ w ∧ s.cap = w.length + s.bufSize

/-- every archived array is at most "an unterminated fragment of the delivered bytes + bufSize" long
    (`w = []` is the initial size) -/
def MemOK (s : Imm) : Prop :=
  ∀ a ∈ s.mem, ∃ w, w <:+: s.delivered ∧ nl ∉ w ∧ a.length ≤ w.length + s.bufSize

/-- the three facts carried together: `end ≤ len(buf)`, the current size, the archived sizes -/
def AllOK (s : Imm) : Prop := s.buf.length ≤ s.cap ∧ AllocOK s ∧ MemOK s

theorem infix_append_right {w d : Bytes} (bs : Bytes) (h : w <:+: d) : w <:+: d ++ bs := by
  obtain ⟨p, q, hpq⟩ := h
  exact ⟨p, q ++ bs, by rw [← hpq]; simp⟩

/-- a step that leaves sizes and archive alone and only delivers more keeps the bounds -/
theorem allOK_of_eq {s s' : Imm} (h : AllOK s) (hc : s'.cap = s.cap) (hb : s'.bufSize = s.bufSize)
    (hm : s'.mem = s.mem) (hl : s'.buf.length ≤ s'.cap)
    (hd : ∃ bs, s'.delivered = s.delivered ++ bs) : AllOK s' := by
  obtain ⟨bs, hd⟩ := hd
  refine ⟨hl, ?_, fun a ha => ?_⟩
  · rcases h.2.1 with h | ⟨w, hw, hn, hcap⟩
    · exact Or.inl (by rw [hc, hb, h])
    · exact Or.inr ⟨w, by rw [hd]; exact infix_append_right bs hw, hn, by rw [hc, hb, hcap]⟩
  · rw [hm] at ha
    obtain ⟨w, hw, hn, hl⟩ := h.2.2 a ha
    exact ⟨w, by rw [hd]; exact infix_append_right bs hw, hn, by rw [hb]; exact hl⟩

/-- the valid part of the current array is bounded like the archived ones -/
theorem AllOK.current {s : Imm} (h : AllOK s) :
    ∃ w, w <:+: s.delivered ∧ nl ∉ w ∧ s.buf.length ≤ w.length + s.bufSize := by
  rcases h.2.1 with hc | ⟨w, hw, hnw, hc⟩
  · exact ⟨[], List.nil_infix, by simp, by have := h.1; simp; omega⟩
  · exact ⟨w, hw, hnw, by have := h.1; omega⟩

theorem AllOK.arrays {s : Imm} (h : AllOK s) :
    ∀ a ∈ s.arrays, ∃ w, w <:+: s.delivered ∧ nl ∉ w ∧ a.length ≤ w.length + s.bufSize := by
  intro a ha
  rcases List.mem_append.mp ha with ha | ha
  · exact h.2.2 a ha
  · rw [List.mem_singleton.mp ha]; exact h.current

/-- The regrow inside the read loop: the window holds no newline, so the fresh array has the size of an unterminated
    fragment plus `bufSize`, and the array it archives was bounded by `AllocOK`. -/
theorem grown_allOK (s : Imm) (C : Bytes) (hinv : Inv s C) (hn : nl ∉ s.pending) (h : AllOK s) : AllOK s.grown := by
  refine ⟨Nat.le_of_lt (grown_room s hinv.bs), ?_, ?_⟩ <;> unfold Imm.grown <;> split
  · refine Or.inr ⟨s.pending, ?_, hn, by simp [Imm.regrow, Imm.pending]⟩
    show s.pending <:+: s.delivered
    rw [hinv.del]; exact (List.suffix_append _ _).isInfix
  · exact h.2.1
  · intro a ha
    simp only [Imm.regrow, List.mem_append, List.mem_singleton] at ha
    rcases ha with ha | rfl
    · exact h.2.2 a ha
    · exact h.current
  · exact h.2.2

theorem scan_allOK (f : Nat) {s : Imm} {C : Bytes} (hinv : Inv s C) (h : AllOK s) : AllOK (s.scan f).2 := by
  refine scan_preserved (fun s k h => allOK_of_eq h rfl rfl rfl h.1 ⟨[], by simp [Imm.emitAt]⟩)
    (fun s h => allOK_of_eq h rfl rfl rfl h.1 ⟨[], by simp [Imm.emitTail]⟩) grown_allOK
    (fun s h _ hlt => ?_) f hinv h
  intro r
  have hlen : r.1.length ≤ s.cap - s.buf.length := read_len _ _
  have hra : AllOK (s.recv r.1 r.2.2) :=
    allOK_of_eq h rfl rfl rfl (by simp [Imm.recv]; omega) ⟨r.1, rfl⟩
  split
  · exact hra
  · exact allOK_of_eq hra rfl rfl rfl hra.1 ⟨[], by simp [Imm.fail]⟩

theorem scanAll_allOK (f n : Nat) {s : Imm} {E : List Bytes} (hg : Good s E) (h : AllOK s) :
    AllOK (s.scanAll f n).2.2 := by
  rw [Imm.scanAll_eq]
  exact ((Imm.scans f).trace (J := fun _ t => AllOK t) (fun hinv hj => scan_allOK f hinv hj) hg h n).2

theorem allOK_init (b : Nat) (rd : Reader) : AllOK (Imm.init b rd) :=
  ⟨by simp [Imm.init], Or.inl rfl, by intro a ha; simp [Imm.init] at ha⟩

/-! ### allocation sizes of the buffered scanner -/

/-- Every array of the buffered scanner (`maxBufLen = m`) is at most `max(m, |w| + m/2)` long for an
    unterminated fragment `w` of the input. -/
def BAllocOK (m : Nat) (s : Buf) : Prop :=
  s.maxBufLen = m ∧ ∀ a ∈ s.arrays, ∃ w, w <:+: s.delivered ∧ nl ∉ w ∧ a.length ≤ max m (w.length + m / 2)

/-- what was delivered stays delivered -/
theorem closed_delivered (d : Bytes) : Closed (fun s => d <+: s.delivered) :=
  Closed.of_read (fun _ _ _ dl => d <+: dl) fun s h _ _ => by
    intro r
    split <;> exact h.trans (List.prefix_append _ _)

theorem bscan_alloc (m f : Nat) : ∀ {s : Buf} {C : Bytes}, Inv s.win C → BAllocOK m s → BAllocOK m (s.scan f).2 := by
  induction f with
  | zero => intro s C _ h; exact h
  | succ f ih =>
    intro s C hinv h
    simp only [Buf.scan]
    split
    · exact h
    · rename_i heq
      split
      · exact h
      · split
        · rename_i hne
          split
          · exact h
          · rename_i acc rd' eof' errs' dl' hfill
            have he : s.eof = false := by simpa using hne
            obtain ⟨new, hdl⟩ : s.delivered <+: dl' := refill_preserved (closed_delivered _).grown
              (closed_delivered _).read (fun _ _ hw => hw) he hfill (List.prefix_refl _)
            have hlen : acc.length ≤ max s.maxBufLen ((s.buf.drop s.offset).length + s.maxBufLen / 2) :=
              fill_preserved closed_end_le_cap.read
                { s.win with cap := max s.maxBufLen ((s.buf.drop s.offset).length + s.maxBufLen / 2) } _ _ _ _ _ hfill
                (show (s.buf.drop s.offset).length ≤ max s.maxBufLen ((s.buf.drop s.offset).length + s.maxBufLen / 2) by omega)
            rw [h.1] at hlen
            refine ih (refill_inv hinv he hfill) ⟨h.1, fun a ha => ?_⟩
            simp only [Buf.arrays, List.mem_append, List.mem_singleton] at ha
            rcases ha with ha | rfl
            · obtain ⟨w, hw, hnw, hl⟩ := h.2 a (by simpa [Buf.arrays] using ha)
              exact ⟨w, by show w <:+: dl'; rw [← hdl]; exact infix_append_right new hw, hnw, hl⟩
            · -- the fresh array: its size was computed from the kept window, which holds no newline
              refine ⟨s.win.pending, ?_, idxNl_none.mp heq, hlen⟩
              show s.win.pending <:+: dl'
              rw [← hdl, show s.delivered = C ++ s.win.pending from hinv.del]
              exact infix_append_right new (List.suffix_append _ _).isInfix
        · exact h

theorem bscanAll_alloc (m : Nat) {f : Nat} (hf : 0 < f) (n : Nat) {s : Buf} {E : List Bytes} (hg : Good s.win E)
    (h : BAllocOK m s) : BAllocOK m (s.scanAll f n).2.2 := by
  rw [Buf.scanAll_eq]
  exact ((Buf.scans hf).trace (J := fun _ t => BAllocOK m t) (fun hinv hj => bscan_alloc m f hinv hj) hg h n).2

end Rare.C04

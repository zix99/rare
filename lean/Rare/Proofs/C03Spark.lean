import Rare.Proofs.C07TrimLink
import Rare.Proofs.C03Det
/-!
`rare spark`: the trim step inside every render (`cmd/spark.go`) does not make the final table depend on WHERE the
renders fall among the samples – for a column order that looks at the names only (after b216f7d the trim runs for
those orders only).

`renderStep n t s co ro`: one execution of the trim step on table `t`, where `s` is what `OrderedColumns(colSorter)`
returned (any arrangement of the column names that is sorted by the strict total name order `lt`) and `co`, `ro` are
the map iteration orders of `Trim`.  `SparkReach`: all tables reachable by interleaving samples and render steps.
Main result `spark_final`: a final render step after any such interleaving leaves the same cells, rows, columns and
error count as one render step on the sequentially sampled, never trimmed table.
-/
namespace Rare.C03
open Rare.C07 Rare.C13

structure NameOrder (lt : Bytes → Bytes → Bool) : Prop where
  irrefl : ∀ a, lt a a = false
  trans : ∀ a b c, lt a b = true → lt b c = true → lt a c = true
  total : ∀ a b, a ≠ b → lt a b = true ∨ lt b a = true

theorem NameOrder.asymm {lt : Bytes → Bytes → Bool} (ho : NameOrder lt) {a b : Bytes} (h : lt a b = true) : lt b a = false := by
  cases hba : lt b a with
  | false => rfl
  | true => have := ho.trans a b a h hba; rw [ho.irrefl] at this; cases this

/-- how many of `S` are ranked after `c` -/
def above (lt : Bytes → Bytes → Bool) (S : List Bytes) (c : Bytes) : Nat := S.countP fun x => lt c x

theorem above_cons (lt : Bytes → Bytes → Bool) (a : Bytes) (S : List Bytes) (c : Bytes) :
    above lt (a :: S) c = above lt S c + if lt c a then 1 else 0 := by
  simp [above, List.countP_cons]

theorem above_le_length (lt : Bytes → Bytes → Bool) (S : List Bytes) (c : Bytes) : above lt S c ≤ S.length :=
  List.countP_le_length

theorem above_perm (lt : Bytes → Bytes → Bool) {S T : List Bytes} (h : S.Perm T) (c : Bytes) : above lt S c = above lt T c :=
  h.countP_eq _

theorem above_mono (lt : Bytes → Bytes → Bool) {S T : List Bytes} (hnd : S.Nodup) (hsub : ∀ x ∈ S, x ∈ T) (c : Bytes) :
    above lt S c ≤ above lt T c := by
  unfold above
  rw [List.countP_eq_length_filter, List.countP_eq_length_filter]
  apply List.Nodup.length_le_of_subset (hnd.sublist List.filter_sublist)
  intro x hx
  simp only [List.mem_filter] at hx ⊢
  exact ⟨hsub x hx.1, hx.2⟩

abbrev SortedBy (lt : Bytes → Bytes → Bool) (s : List Bytes) : Prop := s.Pairwise fun a b => lt a b = true

theorem SortedBy.nodup {lt : Bytes → Bytes → Bool} (ho : NameOrder lt) {s : List Bytes} (h : SortedBy lt s) : s.Nodup := by
  refine List.Pairwise.imp ?_ h
  intro a b hab e
  subst e
  rw [ho.irrefl] at hab; cases hab

/-- The last `n` of a sorted list are the elements with fewer than `n` elements after them. -/
theorem mem_lastN {lt : Bytes → Bytes → Bool} (ho : NameOrder lt) (n : Nat) : ∀ s : List Bytes, SortedBy lt s →
    ∀ c, c ∈ s.drop (s.length - n) ↔ c ∈ s ∧ above lt s c < n := by
  intro s
  induction s with
  | nil => intro _ c; simp
  | cons a s' ih =>
    intro hs c
    have hs' := List.pairwise_cons.mp hs
    have ha : above lt s' a = s'.length := by
      unfold above
      rw [List.countP_eq_length]
      intro x hx; exact hs'.1 x hx
    have hca : ∀ x ∈ s', lt x a = false := fun x hx => ho.asymm (hs'.1 x hx)
    by_cases hn : n ≤ s'.length
    · have e : (a :: s').length - n = (s'.length - n) + 1 := by simp only [List.length_cons]; omega
      rw [e, List.drop_succ_cons, ih hs'.2 c]
      constructor
      · rintro ⟨hm, hab⟩
        refine ⟨List.mem_cons_of_mem _ hm, ?_⟩
        rw [above_cons, hca c hm]; simpa using hab
      · rintro ⟨hm, hab⟩
        rcases List.mem_cons.mp hm with rfl | hm'
        · rw [above_cons, ho.irrefl, ha] at hab; simp at hab; omega
        · rw [above_cons, hca c hm'] at hab
          exact ⟨hm', by simpa using hab⟩
    · have e : (a :: s').length - n = 0 := by simp only [List.length_cons]; omega
      rw [e, List.drop_zero]
      constructor
      · intro hm
        refine ⟨hm, ?_⟩
        rcases List.mem_cons.mp hm with rfl | hm'
        · rw [above_cons, ho.irrefl, ha]; simp; omega
        · rw [above_cons, hca c hm']
          have := above_le_length lt s' c
          simp; omega
      · exact fun h => h.1

/-- `func(col, row, val) bool { _, ok := keepLookup[col]; return !ok }` -/
def renderPred (keep : List Bytes) : Pred := fun c _ _ => !keep.contains c

/-- The trim step of the render callback, given the result `s` of `OrderedColumns(colSorter)`. -/
def renderStep (n : Nat) (t : Table) (s co : List Bytes) (ro : Bytes → List Bytes) : Table :=
  if s.length > n then (t.trim (renderPred (s.drop (s.length - n))) co ro).1 else t

/-- `s` is a possible result of `OrderedColumns(colSorter)` on `t` -/
def IsSortedCols (lt : Bytes → Bytes → Bool) (t : Table) (s : List Bytes) : Prop :=
  s.Perm (akeys t.cols) ∧ SortedBy lt s

theorem foldl_keeps {σ β : Type} (f : σ → β → σ) (P : σ → Prop) (h : ∀ s b, P s → P (f s b)) :
    ∀ (l : List β) (s : σ), P s → P (l.foldl f s) := by
  intro l
  induction l with
  | nil => intro s hs; exact hs
  | cons b l ih => intro s hs; exact ih _ (h s b hs)

/-- `Trim` touches only the row and the column map, and those only by `aset` and `adel`: a property of tables that
such updates keep is kept by the whole call. -/
theorem trim_keeps (P : Table → Prop)
    (hrs : ∀ t k v, P t → P { t with rows := aset t.rows k v }) (hrd : ∀ t k, P t → P { t with rows := adel t.rows k })
    (hcs : ∀ t k v, P t → P { t with cols := aset t.cols k v }) (hcd : ∀ t k, P t → P { t with cols := adel t.cols k })
    (t : Table) (p : Pred) (co : List Bytes) (ro : Bytes → List Bytes) (h : P t) : P (t.trim p co ro).1 := by
  have cell : ∀ (c : Bytes) (st : Table × Nat × Bool) (rn : Bytes), P st.1 → P (Table.trimCell p c st rn).1 := by
    intro c ⟨t, n, ra⟩ rn h
    unfold Table.trimCell
    simp only
    split
    · exact h
    · split
      · split
        · split
          · exact hcs _ _ _ (hrd _ _ h)
          · exact hcs _ _ _ (hrs _ _ _ h)
        · split
          · exact hrd _ _ h
          · exact hrs _ _ _ h
      · split
        · exact hrd _ _ h
        · exact hrs _ _ _ h
  have col : ∀ (L : List Bytes) (st : Table × Nat) (c : Bytes), P st.1 → P (Table.trimCol p L st c).1 := by
    intro L st c h
    unfold Table.trimCol
    split
    · exact h
    · have := foldl_keeps (Table.trimCell p c) (fun s => P s.1) (fun s rn hs => cell c s rn hs) L (st.1, st.2, true) h
      simp only
      split
      · exact hcd _ _ this
      · exact this
  exact foldl_keeps (fun st c => Table.trimCol p (ro c) st c) (fun s => P s.1) (fun s c hs => col (ro c) s c hs) co (t, 0) h

theorem trim_delim_errors (t : Table) (p : Pred) (co : List Bytes) (ro : Bytes → List Bytes) :
    (t.trim p co ro).1.delim = t.delim ∧ (t.trim p co ro).1.errors = t.errors :=
  trim_keeps (fun s => s.delim = t.delim ∧ s.errors = t.errors) (fun _ _ _ h => h) (fun _ _ h => h) (fun _ _ _ h => h)
    (fun _ _ h => h) t p co ro ⟨rfl, rfl⟩

/-- the cells of a well-formed table name existing columns -/
theorem cell_col_mem {t : Table} (hwf : t.WF) {c r : Bytes} (h : (t.cell c r).isSome) : c ∈ akeys t.cols :=
  (mem_akeys_iff _ _).mpr ((hwf.cols_iff c).mpr ⟨r, h⟩)

/-- What a render step leaves: the cells of the columns with fewer than `n` columns after them. -/
theorem render_cells {lt : Bytes → Bytes → Bool} (ho : NameOrder lt) (n : Nat) (t : Table) (s co : List Bytes)
    (ro : Bytes → List Bytes) (hwf : t.WF) (hs : IsSortedCols lt t s) (hcov : Covers t co ro) (c r : Bytes) :
    (renderStep n t s co ro).cell c r = if above lt (akeys t.cols) c < n then t.cell c r else none := by
  have hkey : ∀ v, t.cell c r = some v → (c ∈ s.drop (s.length - n) ↔ above lt (akeys t.cols) c < n) := by
    intro v hv
    have hm : c ∈ s := hs.1.mem_iff.mpr (cell_col_mem hwf (by rw [hv]; rfl))
    rw [mem_lastN ho n s hs.2 c, above_perm lt hs.1 c]
    exact ⟨fun h => h.2, fun h => ⟨hm, h⟩⟩
  unfold renderStep
  split
  · rw [trim_cells t _ co ro hwf hcov]
    cases hv : t.cell c r with
    | none => simp [trimmedCell]
    | some v =>
      have := hkey v hv
      by_cases ht : above lt (akeys t.cols) c < n
      · have hm := this.mpr ht
        simp [trimmedCell, renderPred, ht, hm]
      · have hm : ¬ c ∈ s.drop (s.length - n) := fun h => ht (this.mp h)
        simp [trimmedCell, renderPred, ht, hm]
  · rename_i hlen
    cases hv : t.cell c r with
    | none => simp
    | some v =>
      have := hkey v hv
      have e : s.length - n = 0 := by omega
      rw [e, List.drop_zero] at this
      have hm : c ∈ s := hs.1.mem_iff.mpr (cell_col_mem hwf (by rw [hv]; rfl))
      simp [this.mp hm]

theorem render_wf (n : Nat) (t : Table) (s co : List Bytes) (ro : Bytes → List Bytes) (hwf : t.WF) (hcov : Covers t co ro) :
    (renderStep n t s co ro).WF := by
  unfold renderStep; split
  · exact trim_wf t _ co ro hwf hcov
  · exact hwf

theorem render_delim_errors (n : Nat) (t : Table) (s co : List Bytes) (ro : Bytes → List Bytes) :
    (renderStep n t s co ro).delim = t.delim ∧ (renderStep n t s co ro).errors = t.errors := by
  unfold renderStep; split
  · exact trim_delim_errors t _ co ro
  · exact ⟨rfl, rfl⟩

/-! ### the invariant between the trimmed table `t` and the never trimmed one `F` -/

structure SparkInv (lt : Bytes → Bytes → Bool) (n : Nat) (F t : Table) : Prop where
  wf : t.WF
  delim : t.delim = F.delim
  errors : t.errors = F.errors
  sub : ∀ c r, (t.cell c r).isSome → (F.cell c r).isSome
  top : ∀ c, above lt (akeys F.cols) c < n → ∀ r, t.cell c r = F.cell c r

theorem SparkInv.cols_sub {lt : Bytes → Bytes → Bool} {n : Nat} {F t : Table} (h : SparkInv lt n F t) (hF : F.WF) :
    ∀ x ∈ akeys t.cols, x ∈ akeys F.cols := by
  intro x hx
  obtain ⟨r, hr⟩ := (h.wf.cols_iff x).mp ((mem_akeys_iff _ _).mp hx)
  exact cell_col_mem hF (h.sub x r hr)

theorem sample_errors_cell (t : Table) (c r : Bytes) : ({ t with errors := t.errors + 1 } : Table).cell c r = t.cell c r := rfl

theorem akeys_aset_sub {α : Type} (m : List (Bytes × α)) (k : Bytes) (v : α) : ∀ x ∈ akeys m, x ∈ akeys (aset m k v) := by
  intro x hx
  rw [mem_akeys_iff] at hx ⊢
  rw [aget_aset]
  split
  · rfl
  · exact hx

theorem inv_sample {lt : Bytes → Bytes → Bool} {n : Nat} {F t : Table} (h : SparkInv lt n F t)
    (hnd : (akeys F.cols).Nodup) (hd : F.delim ≠ []) (e : Bytes) : SparkInv lt n (F.sample e) (t.sample e) := by
  have hdt : t.delim ≠ [] := by rw [h.delim]; exact hd
  have hp : parseTable t.delim e = parseTable F.delim e := by rw [h.delim]
  rw [Table.sample_eq F e hd, Table.sample_eq t e hdt, hp]
  cases (parseTable F.delim e).inc with
  | none =>
    exact ⟨⟨h.wf.rows_nonempty, h.wf.cols_iff⟩, h.delim, by simp [h.errors], h.sub, h.top⟩
  | some inc =>
    simp only
    generalize (parseTable F.delim e).k1 = ck
    generalize (parseTable F.delim e).k2 = rk
    refine ⟨sampleItem_wf _ _ _ _ h.wf, h.delim, h.errors, ?_, ?_⟩
    · intro c r hc
      rw [sampleItem_cell] at hc ⊢
      by_cases e1 : rk = r <;> by_cases e2 : ck = c
      · simp [e1, e2]
      · simp only [e1, e2, if_true, if_false] at hc ⊢; exact h.sub c r hc
      · simp only [e1, if_false] at hc ⊢; exact h.sub c r hc
      · simp only [e1, if_false] at hc ⊢; exact h.sub c r hc
    · intro c hc r
      have hc' : above lt (akeys F.cols) c < n := by
        have := above_mono lt hnd (akeys_aset_sub F.cols ck (wrap64 ((aget F.cols ck).getD 0 + inc))) c
        have e : (F.sampleItem ck rk inc).cols = aset F.cols ck (wrap64 ((aget F.cols ck).getD 0 + inc)) := rfl
        rw [e] at hc
        omega
      rw [sampleItem_cell, sampleItem_cell, h.top c hc' r]

theorem inv_render {lt : Bytes → Bytes → Bool} (ho : NameOrder lt) {n : Nat} {F t : Table} (h : SparkInv lt n F t) (hF : F.WF)
    (s co : List Bytes) (ro : Bytes → List Bytes) (hs : IsSortedCols lt t s) (hcov : Covers t co ro) :
    SparkInv lt n F (renderStep n t s co ro) := by
  have hde := render_delim_errors n t s co ro
  refine ⟨render_wf n t s co ro h.wf hcov, hde.1.trans h.delim, hde.2.trans h.errors, ?_, ?_⟩
  · intro c r hc
    rw [render_cells ho n t s co ro h.wf hs hcov] at hc
    split at hc
    · exact h.sub c r hc
    · cases hc
  · intro c hc r
    rw [render_cells ho n t s co ro h.wf hs hcov, ← h.top c hc r]
    cases hv : t.cell c r with
    | none => simp
    | some v =>
      have hnd : (akeys t.cols).Nodup := hs.1.nodup_iff.mp (hs.2.nodup ho)
      have := above_mono lt hnd (h.cols_sub hF) c
      have : above lt (akeys t.cols) c < n := by omega
      simp [this]

/-- Tables a `spark` run can hold: any interleaving of samples (history `h`) and render steps. -/
inductive SparkReach (lt : Bytes → Bytes → Bool) (n : Nat) (d : Bytes) : List Bytes → Table → Prop
  | init : SparkReach lt n d [] { delim := d }
  | sample (h : List Bytes) (t : Table) (e : Bytes) : SparkReach lt n d h t → SparkReach lt n d (h ++ [e]) (t.sample e)
  | render (h : List Bytes) (t : Table) (s co : List Bytes) (ro : Bytes → List Bytes) :
      SparkReach lt n d h t → IsSortedCols lt t s → Covers t co ro → SparkReach lt n d h (renderStep n t s co ro)

theorem run_snoc (d : Bytes) (h : List Bytes) (e : Bytes) : Table.run d (h ++ [e]) = (Table.run d h).sample e := by
  simp [Table.run, List.foldl_append]

theorem run_delim (d : Bytes) (hd : d ≠ []) (h : List Bytes) : (Table.run d h).delim = d :=
  (tableInv_foldl h { delim := d } [] hd (tableInv_init d)).2

theorem run_wf (d : Bytes) (hd : d ≠ []) (h : List Bytes) : (Table.run d h).WF :=
  wf_of_inv _ _ (tableInv_run d hd h)

theorem reach_inv {lt : Bytes → Bytes → Bool} (ho : NameOrder lt) {n : Nat} {d : Bytes} (hd : d ≠ []) {h : List Bytes} {t : Table}
    (hr : SparkReach lt n d h t) : SparkInv lt n (Table.run d h) t := by
  induction hr with
  | init => exact ⟨wf_init d, rfl, rfl, fun _ _ x => x, fun _ _ _ => rfl⟩
  | sample h t e _ ih =>
    rw [run_snoc]
    exact inv_sample ih (tableInv_run d hd h).nodupCols (by rw [run_delim d hd h]; exact hd) e
  | render h t s co ro _ hs hcov ih => exact inv_render ho ih (run_wf d hd h) s co ro hs hcov

/-- a column with at least `n` columns after it in the full table also has `n` after it in the trimmed one: the
last `n` columns of the full table are all still there -/
theorem above_trimmed {lt : Bytes → Bytes → Bool} (ho : NameOrder lt) {n : Nat} {F t : Table} (h : SparkInv lt n F t) (hF : F.WF)
    (sF : List Bytes) (hsF : IsSortedCols lt F sF) (c : Bytes) (hc : c ∈ akeys F.cols) (hab : ¬ above lt (akeys F.cols) c < n) :
    ¬ above lt (akeys t.cols) c < n := by
  have hab' : n ≤ above lt sF c := by rw [above_perm lt hsF.1 c]; omega
  have hlen : n ≤ sF.length := Nat.le_trans hab' (above_le_length lt sF c)
  have hcs : c ∈ sF := hsF.1.mem_iff.mpr hc
  have hnk : ¬ c ∈ sF.drop (sF.length - n) := by
    rw [mem_lastN ho n sF hsF.2 c]; intro hx; omega
  have hct : c ∈ sF.take (sF.length - n) := by
    have := List.take_append_drop (sF.length - n) sF
    rw [← this] at hcs
    rcases List.mem_append.mp hcs with h1 | h1
    · exact h1
    · exact absurd h1 hnk
  have hpw : SortedBy lt (sF.take (sF.length - n) ++ sF.drop (sF.length - n)) := by
    rw [List.take_append_drop]; exact hsF.2
  have hall : ∀ x ∈ sF.drop (sF.length - n), lt c x = true := fun x hx => (List.pairwise_append.mp hpw).2.2 c hct x hx
  have hin : ∀ x ∈ sF.drop (sF.length - n), x ∈ (akeys t.cols).filter fun x => lt c x := by
    intro x hx
    have hx' := (mem_lastN ho n sF hsF.2 x).mp hx
    have hxF : x ∈ akeys F.cols := hsF.1.mem_iff.mp hx'.1
    obtain ⟨r, hr⟩ := (hF.cols_iff x).mp ((mem_akeys_iff _ _).mp hxF)
    have htop := h.top x (by rw [← above_perm lt hsF.1 x]; exact hx'.2) r
    rw [List.mem_filter]
    exact ⟨cell_col_mem h.wf (by rw [htop]; exact hr), hall x hx⟩
  have hnd : (sF.drop (sF.length - n)).Nodup := (hsF.2.nodup ho).sublist (List.drop_sublist _ _)
  have hle := List.Nodup.length_le_of_subset hnd hin
  have hl : (sF.drop (sF.length - n)).length = n := by rw [List.length_drop]; omega
  unfold above
  rw [List.countP_eq_length_filter]
  omega

/-- **Where the renders fall does not matter.**  After ANY interleaving of the samples `h` with render steps, a final
render step leaves a table with the same cells, rows, columns and parse-error count as a single render step on the
sequentially sampled table `Table.run d h`, whatever map iteration orders and whatever (correct) sorting routine the
render steps used. -/
theorem spark_final {lt : Bytes → Bytes → Bool} (ho : NameOrder lt) (n : Nat) (d : Bytes) (hd : d ≠ []) (h : List Bytes) (t : Table)
    (hr : SparkReach lt n d h t) (st co : List Bytes) (ro : Bytes → List Bytes) (hst : IsSortedCols lt t st) (hcov : Covers t co ro)
    (sF coF : List Bytes) (roF : Bytes → List Bytes) (hsF : IsSortedCols lt (Table.run d h) sF)
    (hcovF : Covers (Table.run d h) coF roF) :
    (∀ c r, (renderStep n t st co ro).cell c r = (renderStep n (Table.run d h) sF coF roF).cell c r) ∧
    (∀ r, (aget (renderStep n t st co ro).rows r).isSome = (aget (renderStep n (Table.run d h) sF coF roF).rows r).isSome) ∧
    (∀ c, (aget (renderStep n t st co ro).cols c).isSome = (aget (renderStep n (Table.run d h) sF coF roF).cols c).isSome) ∧
    (renderStep n t st co ro).errors = (renderStep n (Table.run d h) sF coF roF).errors ∧
    (renderStep n t st co ro).WF ∧ (renderStep n (Table.run d h) sF coF roF).WF := by
  have inv := reach_inv ho hd hr
  have hF := run_wf d hd h
  have w1 := render_wf n t st co ro inv.wf hcov
  have w2 := render_wf n (Table.run d h) sF coF roF hF hcovF
  have cells : ∀ c r, (renderStep n t st co ro).cell c r = (renderStep n (Table.run d h) sF coF roF).cell c r := by
    intro c r
    rw [render_cells ho n t st co ro inv.wf hst hcov, render_cells ho n _ sF coF roF hF hsF hcovF]
    by_cases hc : above lt (akeys (Table.run d h).cols) c < n
    · rw [if_pos hc, inv.top c hc r]
      cases hv : (Table.run d h).cell c r with
      | none => simp
      | some v =>
        have hv' : t.cell c r = some v := by rw [inv.top c hc r, hv]
        have hnd : (akeys t.cols).Nodup := hst.1.nodup_iff.mp (hst.2.nodup ho)
        have := above_mono lt hnd (inv.cols_sub hF) c
        have : above lt (akeys t.cols) c < n := by omega
        simp [this]
    · rw [if_neg hc]
      cases hv : t.cell c r with
      | none => simp
      | some v =>
        have hcF : c ∈ akeys (Table.run d h).cols := cell_col_mem hF (inv.sub c r (by rw [hv]; rfl))
        rw [if_neg (above_trimmed ho inv hF sF hsF c hcF hc)]
  refine ⟨cells, ?_, ?_, ?_, w1, w2⟩
  · intro r
    have a := WF.rows_iff w1 r
    have b := WF.rows_iff w2 r
    simp only [cells] at a
    exact Bool.eq_iff_iff.mpr (a.trans b.symm)
  · intro c
    have a := w1.cols_iff c
    have b := w2.cols_iff c
    simp only [cells] at a
    exact Bool.eq_iff_iff.mpr (a.trans b.symm)
  · rw [(render_delim_errors n t st co ro).2, (render_delim_errors n _ sF coF roF).2, inv.errors]

theorem bytesLt_nameOrder : NameOrder bytesLt := ⟨bytesLt_irrefl, bytesLt_trans, bytesLt_total⟩

theorem covers_self (t : Table) : Covers t (akeys t.cols) (fun _ => akeys t.rows) :=
  covers_of_perm t _ _ (List.Perm.refl _) (fun _ => List.Perm.refl _)

end Rare.C03

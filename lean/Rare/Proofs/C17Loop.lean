import Rare.Proofs.C17
import Rare.Proofs.ExprCore
/-!
C17: running stages (`Comp.run`), sub-contexts, the splitter, and the `for !splitter.Done()` loop as a fold over
the remaining elements (`splitLoop_runE`; a body that panics ends the fold).
-/
namespace Rare.C17
open Rare Rare.Expr Rare.Expr.Funcs.Range

theorem bind_ret_map {α β : Type} (e : Except String α) (g : α → β) :
    (e.bind fun a => Except.ok (g a)) = e.map g := by cases e <;> rfl

/-- The context a sub-expression of `@map`, `@filter`, `@reduce`, `@for` is evaluated in:
    `{0}` and `{1}` are the two bound values, every larger index is empty, a negative index (not an
    element index; used by `{time live}` to touch the context) and every named key is whatever the
    enclosing match says. -/
def subCtx (ctx : Ctx) (v0 v1 : Bytes) : Ctx :=
  { getMatch := fun i => if i < 0 then ctx.getMatch i else if i = 0 then v0 else if i = 1 then v1 else [],
    getKey := ctx.getKey }

theorem withSub_run {α : Type} (ctx : Ctx) (v0 v1 : Bytes) (c : Comp α) :
    (c.withSub v0 v1).run ctx = c.run (subCtx ctx v0 v1) := by
  induction c with
  | ret a => rfl
  | getMatch i k ih =>
    simp only [Comp.withSub]
    split
    · rename_i h; simp only [Comp.run, ih, subCtx, h, if_true]
    · rename_i h; simp only [Comp.run, ih, subCtx, h, if_false]
  | getKey s k ih => simp only [Comp.withSub, Comp.run, ih, subCtx]
  | panic m => rfl

@[simp] theorem Sb.str_write (sb : Sb) (x : Bytes) : (sb.write x).str = sb.str ++ x := by
  simp [Sb.write, Sb.str]

@[simp] theorem Sb.str_empty : ({} : Sb).str = [] := rfl

/-- `Len()` is the length of the content. -/
def SbWf (sb : Sb) : Prop := sb.n = sb.rev.length

theorem sbWf_empty : SbWf {} := rfl

theorem sbWf_write (sb : Sb) (x : Bytes) (h : SbWf sb) : SbWf (sb.write x) := by
  simp only [SbWf, Sb.write, List.length_append, List.length_reverse] at *; omega

theorem sb_len_eq (sb : Sb) (h : SbWf sb) : sb.len = sb.str.length := by
  simp only [SbWf] at h
  simp [Sb.len, Sb.str, h]

/-- What is left to split: `none` when `Done()`. -/
def view (sp : Splitter) : Option Bytes :=
  if sp.next < 0 then none else some (sp.S.drop sp.next.toNat)

def remaining (d : Bytes) : Option Bytes → List Bytes
  | none => []
  | some r => splitOn d r

def vlen : Option Bytes → Nat
  | none => 0
  | some r => r.length + 1

theorem view_init (s d : Bytes) : view { S := s, Delim := d } = some s := by
  simp [view]

theorem done_iff (sp : Splitter) : sp.Done = true ↔ view sp = none := by
  simp [Splitter.Done, view]

/-- One `Next()`: it hands out the first remaining element and leaves the rest. -/
theorem next_view (sp : Splitter) (hd : sp.Delim ≠ []) (r : Bytes) (hv : view sp = some r) :
    remaining sp.Delim (view sp) = sp.Next.1 :: remaining sp.Delim (view sp.Next.2) ∧
    sp.Next.2.Delim = sp.Delim ∧ vlen (view sp.Next.2) < vlen (view sp) := by
  have hn : ¬ sp.next < 0 := by
    intro h; simp [view, h] at hv
  have hr : sp.S.drop sp.next.toNat = r := by
    simpa [view, hn] using hv
  rw [hv]
  unfold Splitter.Next
  simp only [hn, if_false, hr]
  cases hi : indexOf sp.Delim r with
  | none =>
    simp only [remaining, view]
    rw [splitOn_index _ hd, hi]
    simp [vlen]
  | some i =>
    have hnn : ¬ ((i : Int) + sp.next + (sp.Delim.length : Int) < 0) := by omega
    have ht : ((i : Int) + sp.next + (sp.Delim.length : Int)).toNat = sp.next.toNat + (i + sp.Delim.length) := by
      omega
    simp only [remaining, view, hnn, if_false, ht]
    rw [← List.drop_drop, hr]
    refine ⟨?_, ?_, ?_⟩
    · rw [splitOn_index _ hd r, hi]
    · first | rfl | trivial
    · have := indexOf_some_lt sp.Delim r i hd hi
      simp only [vlen]; omega

/-- `for guard(st) && more { st = step(st, x) }` over a list. -/
def foldWhile {σ : Type} (g : σ → Bool) (φ : σ → Bytes → σ) : List Bytes → σ → σ
  | [], st => st
  | x :: xs, st => if g st then foldWhile g φ xs (φ st x) else st

theorem foldWhile_false {σ : Type} (g : σ → Bool) (φ : σ → Bytes → σ) (xs : List Bytes) (st : σ)
    (h : g st = false) : foldWhile g φ xs st = st := by
  cases xs <;> simp [foldWhile, h]

theorem foldWhile_true {σ : Type} (φ : σ → Bytes → σ) (xs : List Bytes) (st : σ) :
    foldWhile (fun _ => true) φ xs st = xs.foldl φ st := by
  induction xs generalizing st with
  | nil => rfl
  | cons x xs ih => simp [foldWhile, ih]

/-- `foldWhile` with a step that may panic: the first panic ends the loop. -/
def foldWhileE {σ : Type} (g : σ → Bool) (φ : σ → Bytes → Except String σ) : List Bytes → σ → Except String σ
  | [], st => .ok st
  | x :: xs, st =>
    if g st then
      match φ st x with
      | .error m => .error m
      | .ok st' => foldWhileE g φ xs st'
    else .ok st

theorem foldWhileE_ok {σ : Type} (g : σ → Bool) (φ : σ → Bytes → σ) : ∀ (xs : List Bytes) (st : σ),
    foldWhileE g (fun st x => .ok (φ st x)) xs st = .ok (foldWhile g φ xs st)
  | [], _ => rfl
  | x :: xs, st => by
    simp only [foldWhileE, foldWhile, foldWhileE_ok g φ xs]
    split <;> rfl

/-- The splitter loop never runs out of fuel: it is the fold over the remaining elements, up to the first
    panic of the body. -/
theorem splitLoop_runE {σ : Type} (ctx : Ctx) (g : σ → Bool) (body : σ → Bytes → Comp σ)
    (φ : σ → Bytes → Except String σ) (hb : ∀ st x, (body st x).run ctx = φ st x) :
    ∀ (fuel : Nat) (sp : Splitter) (st : σ), sp.Delim ≠ [] → vlen (view sp) < fuel →
      (splitLoop fuel sp st g body).run ctx = foldWhileE g φ (remaining sp.Delim (view sp)) st := by
  intro fuel
  induction fuel with
  | zero => intro sp st _ h; omega
  | succ fuel ih =>
    intro sp st hd hf
    unfold splitLoop
    by_cases hg : g st = true
    · cases hv : view sp with
      | none =>
        have : sp.Done = true := (done_iff sp).mpr hv
        simp [hg, this, remaining, foldWhileE, Comp.run]
      | some r =>
        have hnd : sp.Done = false := by
          cases h : sp.Done
          · rfl
          · rw [(done_iff sp).mp h] at hv; cases hv
        obtain ⟨h1, h2, h3⟩ := next_view sp hd r hv
        simp only [hg, hnd, Bool.not_false, Bool.and_self, if_true]
        rw [Comp.run_bind, hb, ← hv, h1]
        simp only [foldWhileE, hg, if_true]
        cases φ st sp.Next.1 with
        | error m => rfl
        | ok st' =>
          simp only []
          rw [ih sp.Next.2 st' (by rw [h2]; exact hd) (by omega), h2]
    · have hg' : g st = false := by simpa using hg
      cases remaining sp.Delim (view sp) <;> simp [hg', foldWhileE, Comp.run]

/-- The loop with a body that (in the given context) always returns. -/
theorem splitLoop_run {σ : Type} (ctx : Ctx) (g : σ → Bool) (body : σ → Bytes → Comp σ)
    (φ : σ → Bytes → σ) (hb : ∀ st x, (body st x).run ctx = .ok (φ st x)) (fuel : Nat) (sp : Splitter) (st : σ)
    (hd : sp.Delim ≠ []) (hf : vlen (view sp) < fuel) :
    (splitLoop fuel sp st g body).run ctx = .ok (foldWhile g φ (remaining sp.Delim (view sp)) st) := by
  rw [splitLoop_runE ctx g body _ hb fuel sp st hd hf, foldWhileE_ok]

/-- The loop started on a fresh splitter over `s`. -/
theorem splitLoop_run_init {σ : Type} (ctx : Ctx) (g : σ → Bool) (body : σ → Bytes → Comp σ)
    (φ : σ → Bytes → σ) (hb : ∀ st x, (body st x).run ctx = .ok (φ st x))
    (s d : Bytes) (hd : d ≠ []) (st : σ) :
    (splitLoop (loopFuel s) { S := s, Delim := d } st g body).run ctx =
      .ok (foldWhile g φ (splitOn d s) st) := by
  rw [splitLoop_run ctx g body φ hb _ _ _ hd]
  · simp [view_init, remaining]
  · simp [view_init, vlen, loopFuel]

/-- After the first `Next()` on a fresh splitter. -/
theorem first_next (s d : Bytes) (hd : d ≠ []) :
    splitOn d s = (Splitter.Next { S := s, Delim := d }).1 ::
      remaining d (view (Splitter.Next { S := s, Delim := d }).2) ∧
    (Splitter.Next { S := s, Delim := d }).2.Delim = d ∧
    vlen (view (Splitter.Next { S := s, Delim := d }).2) < s.length + 1 := by
  have := next_view { S := s, Delim := d } hd s (view_init s d)
  simpa [view_init, remaining, vlen] using this

end Rare.C17

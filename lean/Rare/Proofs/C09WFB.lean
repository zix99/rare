import Rare.Proofs.C09WF
import Rare.Spec.C09WFB
/-! C09: `wfB` decides `WellFormed`. -/
namespace Rare.C09
open Rare Rare.Expr

theorem bodiesGo_length (esc : Bool) (d : Nat) (cur rest b : List Char) (h : b ∈ bodiesGo esc d cur rest) :
    b.length + 1 ≤ cur.length + rest.length := by
  fun_induction bodiesGo esc d cur rest with
  | case1 => cases h
  | case7 cur rest _ _ _ ih =>
    rcases List.mem_cons.mp h with rfl | h
    · simp only [List.length_cons]; omega
    · have := ih h; simp only [List.length_cons, List.length_nil] at this ⊢; omega
  | _ =>
    rename_i ih
    have := ih h
    simp only [List.length_cons, List.length_append, List.length_nil] at this ⊢
    omega

theorem bodies_length {t b : List Char} (h : b ∈ bodies t) : b.length < t.length := by
  have := bodiesGo_length false 0 [] t b h
  simp at this; omega

theorem wfB_iff (split : List Char → List (List Char)) (known : List Char → Bool)
    (hsplit : ∀ b a, a ∈ split b → a.length ≤ b.length) :
    ∀ (f : Nat) (t : List Char), t.length < f → (wfB split known f t = true ↔ WellFormed split known t) := by
  intro f
  induction f with
  | zero => intro t h; omega
  | succ f ih =>
    intro t ht
    rw [wfTemplate_iff, wfB]
    simp only [Bool.and_eq_true, beq_iff_eq, List.all_eq_true]
    refine and_congr Iff.rfl (forall_congr' fun b => imp_congr_right fun hb => ?_)
    have hbl := bodies_length hb
    match hs : split b with
    | [] =>
      simp only []
      constructor
      · intro h; cases h
      · intro h
        cases h with
        | lone _ a h => rw [hs] at h; cases h
        | call _ n x xs h => rw [hs] at h; cases h
    | [a] => exact ⟨fun _ => .lone _ a hs, fun _ => rfl⟩
    | name :: x :: xs =>
      simp only [Bool.and_eq_true, List.all_eq_true]
      have hargs : ∀ a ∈ x :: xs, (wfB split known f a = true ↔ WellFormed split known a) := fun a ha =>
        ih a (by have := hsplit b a (by rw [hs]; exact List.mem_cons_of_mem _ ha); omega)
      constructor
      · rintro ⟨hk, hall⟩
        exact .call _ name x xs hs hk fun a ha => (hargs a ha).mp (hall a ha)
      · intro h
        cases h with
        | lone _ a h => rw [hs] at h; cases h
        | call _ n x' xs' h hk hall =>
          rw [hs] at h; cases h
          exact ⟨hk, fun a ha => (hargs a ha).mpr (hall a ha)⟩

/-- the instance the driver runs -/
theorem wfB_splitArgs (known : List Char → Bool) (t : List Char) :
    wfB splitArgs known (t.length + 1) t = true ↔ WellFormed splitArgs known t :=
  wfB_iff splitArgs known (fun _ _ h => splitArgs_len h) _ t (by omega)

end Rare.C09

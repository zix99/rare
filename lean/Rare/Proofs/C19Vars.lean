import Rare.Proofs.C19Pool
/-!
C19: the look-ups of the COMPILED expression are the variable occurrences of the PARSE TREE.

`kfmath_badtype_iff` speaks about `Pool.lookups e`, the look-ups of the expression the code built
(after compile-time folding).  Here: folding removes only sub-formulas without any variable (`simplify`
keeps the expression whenever its probe counted a look-up), so `Pool.lookups e` is exactly the list of
variable occurrences of the ghost parse tree – in the order of the formula text, groups entered, nothing
dropped by `0 * x`, `0 && x` or `1 || x` (no algebraic simplification, no short circuit).
-/
namespace Rare.C19
open Rare.C19.Pool

variable {α : Type} (A : Arith α)

/- `Atom.vars`, `Tree.vars`, `Expr.vars` are defined in `Model/C19Pool.lean` (the driver's `look` op prints them). -/

theorem lookups_eq_vars (e : Expr F64) : lookups e = e.vars := by
  induction e with
  | val v => rfl
  | named n => rfl
  | idx i => rfl
  | un m e ih => simp only [lookups, Expr.vars, ih]
  | bin op l r ihl ihr => simp only [lookups, Expr.vars, ihl, ihr]

/-- The simplifier's probe counts exactly the look-ups. -/
theorem probe_hits (e : Expr α) : (e.probe A).2 = e.vars.length := by
  induction e with
  | val v => rfl
  | named n => rfl
  | idx i => rfl
  | un m e ih => simp only [Expr.probe, Expr.vars, ih]
  | bin op l r ihl ihr => simp only [Expr.probe, Expr.vars, ihl, ihr, List.length_append]

/-- `simplify` keeps every look-up: it folds only what has none. -/
theorem simplify_vars (e : Expr α) : (simplify A e).vars = e.vars := by
  unfold simplify
  by_cases h : (e.probe A).2 = 0
  · simp only [h, if_true, Expr.vars]
    rw [probe_hits] at h
    exact (List.eq_nil_of_length_eq_zero h).symm
  · simp only [h, if_false]

theorem ofAtom_vars (a : Atom α) : (Expr.ofAtom a).vars = a.vars := by
  cases a <;> rfl

/-- Hypothesis on the group compiler. -/
def HcgV (cg : Bytes → Except Err (Parsed α)) : Prop :=
  ∀ s t e, cg s = .ok (t, e) → e.vars = t.vars (classify A)

theorem getNextExpr_vars {cg : Bytes → Except Err (Parsed α)} (hcg : HcgV A cg) (toks : List Token)
    (r : Parsed α) (rest : List Token) (h : getNextExpr A cg toks = .ok (r, rest)) :
    r.2.vars = r.1.vars (classify A) := by
  fun_induction getNextExpr A cg toks generalizing r rest with
  | case1 | case3 | case5 | case7 | case8 => cases h
  | case2 tk _ _ a hc => cases h; simp only [Tree.vars, classify, hc, ofAtom_vars]
  | case4 tk _ _ t e hc => cases h; exact hcg tk.val t e hc
  | case6 tk _ _ t e _ hne ih => cases h; exact ih (t, e) _ hne

theorem climb_vars {cg : Bytes → Except Err (Parsed α)} (hcg : HcgV A cg) (f : Nat) (last : Bytes)
    (ret : Parsed α) (toks : List Token) (r : Parsed α) (rest' : List Token)
    (h : climb A cg f last ret toks = .ok (r, rest')) (g : ret.2.vars = ret.1.vars (classify A)) :
    r.2.vars = r.1.vars (classify A) := by
  fun_induction climb A cg f last ret toks generalizing r rest' with
  | case1 | case3 | case4 | case5 | case6 => cases h
  | case2 => cases h; rw [simplify_vars]; exact g
  | case8 => cases h; exact g
  | case7 f last ret tk rest op c hop toks0 first toks1 hne rhs toks2 hc1 hord ih1 ih2 =>
    have g2 := ih1 _ _ hc1 (getNextExpr_vars A hcg _ _ _ hne)
    exact ih2 _ _ h (by simp only [Expr.vars, Tree.vars, simplify_vars, g, g2])

theorem compileF_vars (f : Nat) (s : Bytes) (t : Tree) (e : Expr α) (h : compileF A f s = .ok (t, e)) :
    e.vars = t.vars (classify A) := by
  induction f generalizing s t e with
  | zero => cases h
  | succ f ih =>
    unfold compileF at h
    split at h
    · cases h
    · obtain ⟨first, rest, rest', hne, hc⟩ := compileTokens_ok A h
      exact climb_vars A ih _ _ _ _ _ _ hc (getNextExpr_vars A ih _ _ _ hne)

/-- The variable occurrences of a tree, read off its TOKENS: the literal tokens of the flattening that
    denote a variable, and recursively those of every group's parse. -/
theorem compile_vars (s : Bytes) (t : Tree) (e : Expr α) (h : compile A s = .ok (t, e)) :
    e.vars = t.vars (classify A) := compileF_vars A _ s t e h

end Rare.C19

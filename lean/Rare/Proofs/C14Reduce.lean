import Rare.Model.C14Reduce
import Rare.Proofs.C14Render
/-!
C14, reduce table: the row buffer.  `Reduce.fillRow` on a fresh buffer is `Reduce.rowCells` (what the model of the
render callback writes); the group cells of a row are determined by the row's OWN key (blank where the key has no
part); on a shared buffer they are not.
-/
namespace Rare.C14
open Rare Rare.C20

/-- cell `j` of `fillRow` -/
theorem fillRow_getElem? (env : Env) (r : Reduce) (buf : List Bytes) (key : Bytes) (data : List Bytes) (j : Nat) :
    (r.fillRow env buf key data)[j]? = buf[j]?.map fun old =>
      if j < r.gnames.length then
        (match ((groupParts key).take r.gnames.length)[j]? with | some p => wrap env cBrightWhite p | none => old)
      else match data[j - r.gnames.length]? with | some x => x | none => old := by
  unfold Reduce.fillRow
  simp only [List.getElem?_map, List.getElem?_zipIdx, Option.map_map, Nat.zero_add]
  rfl

theorem fillRow_length (env : Env) (r : Reduce) (buf : List Bytes) (key : Bytes) (data : List Bytes) :
    (r.fillRow env buf key data).length = buf.length := by
  unfold Reduce.fillRow
  simp only [List.length_map, List.length_zipIdx]

/-- the loop's `rowBuf := make([]string, aggr.ColCount())` per group is what makes a row depend on its own group only:
one iteration on a FRESH buffer writes exactly `rowCells` -/
theorem fillRow_fresh (env : Env) (r : Reduce) (key : Bytes) (data : List Bytes) :
    r.fillRow env (List.replicate (r.gnames.length + r.dnames.length) []) key data = r.rowCells env key data := by
  apply List.ext_getElem?
  intro j
  rw [fillRow_getElem?, rowCells_getElem?, List.getElem?_replicate]
  by_cases hj : j < r.gnames.length
  · rw [if_pos (by omega), if_pos hj]
    simp only [Option.map_some, if_pos hj]
    rfl
  · by_cases hd : j < r.gnames.length + r.dnames.length
    · rw [if_pos hd, if_neg hj, if_pos hd]
      simp only [Option.map_some, if_neg hj]
      rfl
    · rw [if_neg hd, if_neg hj, if_neg hd]
      rfl

/-- the group cells of a row: the first parts of the row's own key, blank for every group column the key has no part for
(all of them for the empty key) -/
theorem rowCells_group_cells (env : Env) (r : Reduce) (key : Bytes) (data : List Bytes) :
    (r.rowCells env key data).take r.gnames.length =
      ((groupParts key).take r.gnames.length).map (wrap env cBrightWhite) ++
        List.replicate (r.gnames.length - ((groupParts key).take r.gnames.length).length) [] := by
  unfold Reduce.rowCells
  simp only
  rw [List.append_assoc, ← List.append_assoc]
  apply List.take_left'
  simp only [List.length_append, List.length_map, List.length_replicate, List.length_take]
  omega

/-! ### several frames -/

/-- the render callback run once per frame, in order (`helpers.RunAggregationLoop`: every 100 ms tick and once at the end),
each frame with the groups (sorted, with their data) of its moment -/
def Reduce.renderAll (env : Env) (f0 f1 : Bytes) : Reduce × VirtualTerm → List (List (Bytes × List Bytes)) → Res (Reduce × VirtualTerm)
  | st, [] => .ok st
  | st, frame :: rest =>
    match st.1.render env st.2 frame f0 f1 with
    | .ok st' => Reduce.renderAll env f0 f1 st' rest
    | .error e => .error e

/-- any number of frames: no panic, the invariant, and the rows show the LAST frame – row `i + 1` is `rowCells` of group `i`
of the last frame, whatever the earlier frames drew -/
theorem reduce_renderAll (env : Env) (f0 f1 : Bytes) (frames : List (List (Bytes × List Bytes))) (last : List (Bytes × List Bytes))
    (r : Reduce) (vt : VirtualTerm) (hinv : TableInv env r.table vt) :
    ∃ r' vt', Reduce.renderAll env f0 f1 (r, vt) (frames ++ [last]) = .ok (r', vt') ∧ TableInv env r'.table vt' ∧
      r'.gnames = r.gnames ∧ r'.dnames = r.dnames ∧ r'.table.maxRows = r.table.maxRows ∧
      (∀ (i : Nat) (g : Bytes × List Bytes), last[i]? = some g → ((i : Int) + 1 < r.table.maxRows) →
        r'.table.rows[i + 1]? = some (r.rowCells env g.1 g.2)) := by
  induction frames generalizing r vt with
  | nil =>
    obtain ⟨r', vt', h1, h2, h3, h4, h5, h6⟩ := reduce_render env r vt hinv last f0 f1
    refine ⟨r', vt', ?_, h2, h3, h4, h5, h6⟩
    show Reduce.renderAll env f0 f1 (r, vt) [last] = _
    unfold Reduce.renderAll
    simp only [h1]
    rfl
  | cons frame rest ih =>
    obtain ⟨r1, vt1, h1, h2, h3, h4, h5, _⟩ := reduce_render env r vt hinv frame f0 f1
    obtain ⟨r', vt', k1, k2, k3, k4, k5, k6⟩ := ih r1 vt1 h2
    refine ⟨r', vt', ?_, k2, k3.trans h3, k4.trans h4, k5.trans h5, ?_⟩
    · show Reduce.renderAll env f0 f1 (r, vt) (frame :: (rest ++ [last])) = _
      unfold Reduce.renderAll
      simp only [h1]
      exact k1
    · intro i g hg hlt
      have := k6 i g hg (by rw [h5]; exact hlt)
      rw [this]
      unfold Reduce.rowCells
      rw [h3, h4]

end Rare.C14

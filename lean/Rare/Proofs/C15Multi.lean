import Rare.Model.C15Multi
/-!
Invariant of the transition system of `TailFilesToChan` (`Rare.C15.Multi`): per follower, the batches
of that follower in the channel history are exactly the first `sent` batches of its own sequence; the
channel is closed only when every follower has ended; the consumer sees the end only after the close.
-/
namespace Rare.C15.Multi

theorem ofSource_append (a b : List Item) (i : Nat) : ofSource (a ++ b) i = ofSource a i ++ ofSource b i := by
  simp [ofSource]

theorem ofSource_single_self (i : Nat) (b : Batcher.Batch Bytes) : ofSource [(i, b)] i = [b] := by
  simp [ofSource]

theorem ofSource_single_ne {i j : Nat} (b : Batcher.Batch Bytes) (h : i ≠ j) : ofSource [(i, b)] j = [] := by
  simp [ofSource, h]

theorem take_succ_get {α : Type} (l : List α) (k : Nat) (b : α) (h : l[k]? = some b) :
    l.take (k + 1) = l.take k ++ [b] := by
  rw [List.take_add_one, h]; rfl

structure Inv (fs : List Follower) (s : MSt) : Prop where
  len : s.ph.length = fs.length
  part : ∀ i f p, fs[i]? = some f → s.ph[i]? = some p → ofSource s.hist i = f.batches.take (sentOf f p)
  closedDone : s.closed = true → s.ph.all Phase.isDone = true
  doneEnds : ∀ (i : Nat) (f : Follower), fs[i]? = some f → s.ph[i]? = some Phase.done → f.ends = true
  idx : ∀ x ∈ s.hist, x.1 < fs.length
  consClosed : s.consDone = true → s.closed = true ∧ s.q = []

theorem inv_init (fs : List Follower) : Inv fs (init fs) where
  len := by simp [init]
  part := by
    intro i f p _ hp
    simp only [init, List.getElem?_map] at hp
    cases hfi : fs[i]? with
    | none => rw [hfi] at hp; simp at hp
    | some g =>
      rw [hfi] at hp
      simp only [Option.map_some, Option.some.injEq] at hp
      subst hp
      simp [init, MSt.hist, ofSource, sentOf]
  closedDone := by simp [init]
  doneEnds := by
    intro i f _ hp
    simp only [init, List.getElem?_map] at hp
    cases hfi : fs[i]? with
    | none => rw [hfi] at hp; simp at hp
    | some g => rw [hfi] at hp; simp at hp
  idx := by simp [init, MSt.hist]
  consClosed := by simp [init]

theorem all_done_set_not {ph : List Phase} {i : Nat} {p : Phase} (hi : i < ph.length) (hp : p.isDone = false) :
    (ph.set i p).all Phase.isDone = false := by
  rw [Bool.eq_false_iff]
  intro h
  rw [List.all_eq_true] at h
  have := h p (List.mem_iff_getElem?.mpr ⟨i, by simp [hi]⟩)
  rw [hp] at this; cases this

theorem all_done_get {ph : List Phase} (h : ph.all Phase.isDone = true) {i : Nat} {p : Phase} (hp : ph[i]? = some p) :
    p = .done := by
  rw [List.all_eq_true] at h
  have := h p (List.mem_iff_getElem?.mpr ⟨i, hp⟩)
  cases p <;> simp [Phase.isDone] at this ⊢

/-- a follower that is running keeps the channel open -/
theorem running_not_closed {fs : List Follower} {s : MSt} (h : Inv fs s) {i k : Nat}
    (hp : s.ph[i]? = some (.running k)) : s.closed = false := by
  cases hc : s.closed with
  | false => rfl
  | true => have := all_done_get (h.closedDone hc) hp; cases this

theorem lt_of_get {α : Type} {l : List α} {i : Nat} {a : α} (h : l[i]? = some a) : i < l.length := by
  rcases Nat.lt_or_ge i l.length with h1 | h1
  · exact h1
  · rw [List.getElem?_eq_none h1] at h; cases h

/-- changing the phase of follower `i` to one that is not `done` – or to `done` when its stream ends – keeps `doneEnds` -/
theorem doneEnds_set {fs : List Follower} {s : MSt} (h : Inv fs s) {i : Nat} {p : Phase}
    (hp : p = .done → ∀ f, fs[i]? = some f → f.ends = true) :
    ∀ (j : Nat) (g : Follower), fs[j]? = some g → (s.ph.set i p)[j]? = some Phase.done → g.ends = true := by
  intro j g hg hpj
  by_cases hij : i = j
  · subst hij
    have hi : i < s.ph.length := by simpa using lt_of_get hpj
    simp only [List.getElem?_set, hi, if_true] at hpj
    exact hp (Option.some.inj hpj) g hg
  · rw [List.getElem?_set_ne hij] at hpj
    exact h.doneEnds j g hg hpj

/-- a running follower has neither seen the channel closed nor has the consumer seen the end -/
theorem running_consumer_open {fs : List Follower} {s : MSt} (h : Inv fs s) {i k : Nat}
    (hp : s.ph[i]? = some (.running k)) : s.closed = false ∧ s.consDone = false := by
  have hc := running_not_closed h hp
  refine ⟨hc, ?_⟩
  cases hd : s.consDone with
  | false => rfl
  | true => have := (h.consClosed hd).1; rw [hc] at this; cases this

/-- Follower `i` completes the send of its next batch `b = batches[k]` (into the buffer or straight to the
    consumer): `b` enters the history at its end. -/
theorem inv_advance {fs : List Follower} {s s' : MSt} (h : Inv fs s) {i k : Nat} {f : Follower}
    {b : Batcher.Batch Bytes} (hp : s.ph[i]? = some (.running k)) (hf : fs[i]? = some f)
    (hb : f.batches[k]? = some b) (hph : s'.ph = s.ph.set i (.running (k + 1)))
    (hh : s'.hist = s.hist ++ [(i, b)]) (hcl : s'.closed = s.closed) (hcd : s'.consDone = s.consDone) :
    Inv fs s' := by
  obtain ⟨hopen, hwait⟩ := running_consumer_open h hp
  refine ⟨by simp [hph, h.len], ?_, ?_, ?_, ?_, ?_⟩
  · intro j g p hg hpj
    rw [hph] at hpj
    rw [hh, ofSource_append]
    by_cases hij : i = j
    · subst hij
      rw [hf] at hg; cases hg
      simp only [List.getElem?_set, lt_of_get hp, if_true] at hpj
      cases hpj
      rw [h.part i f _ hf hp, ofSource_single_self]
      simp only [sentOf]
      exact (take_succ_get _ _ _ hb).symm
    · rw [List.getElem?_set_ne hij] at hpj
      rw [h.part j g p hg hpj, ofSource_single_ne b hij]; simp
  · intro hc; rw [hcl, hopen] at hc; cases hc
  · rw [hph]; exact doneEnds_set h (fun hd => nomatch hd)
  · intro x hx
    rw [hh, List.mem_append, List.mem_singleton] at hx
    rcases hx with hx | rfl
    · exact h.idx x hx
    · exact lt_of_get hf
  · intro hc; rw [hcd, hwait] at hc; cases hc

theorem inv_step {fs : List Follower} {B : Nat} {s s' : MSt} (h : Inv fs s) (l : Label)
    (hs : apply fs B s l = some s') : Inv fs s' := by
  -- a follower that is running keeps the channel open and the consumer waiting
  have open_ : ∀ {i k : Nat}, s.ph[i]? = some (Phase.running k) → s.closed = true → False := by
    intro i k hp hc
    rw [running_not_closed h hp] at hc; cases hc
  cases l with
  | spawn i =>
    simp only [apply] at hs
    split at hs
    · rename_i hp
      cases hs
      refine ⟨by simp [h.len], ?_, ?_, doneEnds_set h (fun hd => nomatch hd), h.idx, h.consClosed⟩
      · intro j g p hg hpj
        by_cases hij : i = j
        · subst hij
          simp only [List.getElem?_set, lt_of_get hp, if_true] at hpj
          cases hpj
          exact h.part i g .waiting hg hp
        · rw [List.getElem?_set_ne hij] at hpj
          exact h.part j g p hg hpj
      · intro hc
        have := all_done_get (h.closedDone hc) hp
        cases this
    · cases hs
  | send i =>
    simp only [apply] at hs
    split at hs
    · rename_i k f hp hf
      split at hs
      · rename_i b hb
        split at hs
        · cases hs
          exact inv_advance h hp hf hb rfl (by simp [MSt.hist]) rfl rfl
        · cases hs
      · cases hs
    · cases hs
  | handoff i =>
    simp only [apply] at hs
    split at hs
    · rename_i k f hp hf
      split at hs
      · rename_i b hb
        split at hs
        · rename_i hq
          cases hs
          exact inv_advance h hp hf hb rfl (by simp [MSt.hist, hq.1]) rfl rfl
        · cases hs
      · cases hs
    · cases hs
  | finish i =>
    simp only [apply] at hs
    split at hs
    · rename_i k f hp hf
      split at hs
      · rename_i hk
        cases hs
        refine ⟨by simp [h.len], ?_, fun hc => (open_ hp hc).elim, doneEnds_set h ?_, h.idx, h.consClosed⟩
        · intro j g p hg hpj
          by_cases hij : i = j
          · subst hij
            rw [hf] at hg; cases hg
            simp only [List.getElem?_set, lt_of_get hp, if_true] at hpj
            cases hpj
            have := h.part i f _ hf hp
            simpa [sentOf, hk.1, MSt.hist] using this
          · rw [List.getElem?_set_ne hij] at hpj
            exact h.part j g p hg hpj
        · intro _ g hg
          rw [hf] at hg; cases hg
          exact hk.2
      · cases hs
    · cases hs
  | close =>
    simp only [apply] at hs
    split at hs
    · rename_i hc
      cases hs
      refine ⟨h.len, h.part, fun _ => hc.1, h.doneEnds, h.idx, ?_⟩
      intro hcd
      have := (h.consClosed hcd).1
      rw [hc.2] at this; cases this
    · cases hs
  | recv =>
    simp only [apply] at hs
    split at hs
    · rename_i x rest hq
      split at hs
      · rename_i hcd
        cases hs
        have hh : (s.recvd ++ [x]) ++ rest = s.hist := by simp [MSt.hist, hq]
        refine ⟨h.len, ?_, h.closedDone, h.doneEnds, ?_, ?_⟩
        · intro j g p hg hpj
          simp only [MSt.hist]
          rw [hh]; exact h.part j g p hg hpj
        · intro y hy
          simp only [MSt.hist] at hy
          rw [hh] at hy; exact h.idx y hy
        · intro hc
          have hc' : s.consDone = true := hc
          rw [hcd] at hc'; cases hc'
      · cases hs
    · cases hs
  | cdone =>
    simp only [apply] at hs
    split at hs
    · rename_i hc
      cases hs
      exact ⟨h.len, h.part, h.closedDone, h.doneEnds, h.idx, fun _ => ⟨hc.2.1, hc.1⟩⟩
    · cases hs

theorem inv_reach {fs : List Follower} {B : Nat} {s : MSt} (hr : Reach fs B s) : Inv fs s := by
  induction hr with
  | init => exact inv_init fs
  | step l _ hs ih => exact inv_step ih l hs

theorem LPath.reach {fs : List Follower} {B : Nat} {s s' : MSt} {ls : List Label}
    (hp : LPath fs B s ls s') (hr : Reach fs B s) : Reach fs B s' := by
  induction hp with
  | nil _ => exact hr
  | cons h _ ih => exact ih (.step _ hr h)

theorem applyAll_lpath {fs : List Follower} {B : Nat} : ∀ (ls : List Label) (s s' : MSt),
    applyAll fs B s ls = some s' → LPath fs B s ls s'
  | [], s, s', h => by simp only [applyAll, Option.some.injEq] at h; subst h; exact .nil _
  | l :: ls, s, s', h => by
    simp only [applyAll] at h
    cases ha : apply fs B s l with
    | none => rw [ha] at h; simp at h
    | some s1 =>
      rw [ha] at h
      simp only [Option.bind_some] at h
      exact .cons ha (applyAll_lpath ls s1 s' h)

theorem LPath.append {fs : List Follower} {B : Nat} {s s' s'' : MSt} {l1 l2 : List Label}
    (h1 : LPath fs B s l1 s') (h2 : LPath fs B s' l2 s'') : LPath fs B s (l1 ++ l2) s'' := by
  induction h1 with
  | nil _ => exact h2
  | cons h _ ih => exact .cons h (ih h2)

/-! ### by source NAME (what the consumer can tell apart) -/

/-- With pairwise different file names, selecting by `InputBatch.Source` is selecting by follower. -/
theorem ofName_eq_ofSource {fs : List Follower} (hnd : (fs.map (·.src)).Nodup) {items : List Item}
    (hidx : ∀ x ∈ items, x.1 < fs.length) {i : Nat} {f : Follower} (hf : fs[i]? = some f) :
    ofName fs items f.src = ofSource items i := by
  unfold ofName ofSource
  congr 1
  apply List.filter_congr
  intro x hx
  have hx1 := hidx x hx
  have hi := lt_of_get hf
  have hfi : fs[i] = f := by
    have := List.getElem?_eq_getElem hi
    rw [this] at hf; exact Option.some.inj hf
  rw [List.getElem?_eq_getElem hx1]
  simp only [Option.map_some]
  rw [Bool.eq_iff_iff]
  simp only [beq_iff_eq, Option.some.injEq]
  constructor
  · intro he
    have h1 : (fs.map (·.src))[x.1]'(by simpa using hx1) = (fs.map (·.src))[i]'(by simpa using hi) := by
      simp [he, hfi]
    exact (List.getElem_inj hnd).mp h1
  · intro he
    subst he
    rw [hfi]

end Rare.C15.Multi

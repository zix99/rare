import Rare.Proofs.C11Float
import Rare.Proofs.C17Atoi
import Rare.Spec.C11Hf
/-!
C11, `{hf}`: the sign of the rendering.  `humanizeFloat` keeps the sign of every finite value and of
`+Inf`; it drops the sign of `-Inf` (known finding).
-/
namespace Rare.C11
open Rare Rare.Expr Rare.Expr.Funcs

theorem natDigits_head' (n : Nat) : ∃ c r, natDigits n = c :: r ∧ isDigitB c = true := by
  have hne := natDigits_ne_nil n
  have hall := natDigits_all n
  cases h : natDigits n with
  | nil => exact absurd h hne
  | cons c r => rw [h] at hall; simp at hall; exact ⟨c, r, rfl, hall.1⟩

/-- The fixed rendering of a magnitude starts with a digit. -/
theorem placePoint_head (n fr : Nat) : ∃ c r, F64.placePoint (natDigits n) fr = c :: r ∧ isDigitB c = true := by
  obtain ⟨c, r, hcr, hc⟩ := natDigits_head' n
  unfold F64.placePoint
  split
  · exact ⟨c, r, hcr, hc⟩
  · split
    · rename_i h
      rw [hcr] at h ⊢
      simp only [List.length_cons] at h ⊢
      have : r.length + 1 - fr = (r.length - fr) + 1 := by omega
      rw [this, List.take_succ_cons]
      exact ⟨c, _, rfl, hc⟩
    · exact ⟨48, _, rfl, by decide⟩

theorem digit_ne_minus {c : UInt8} (h : isDigitB c = true) : c ≠ 45 ∧ c ≠ 46 := by
  constructor <;> (intro e; subst e; revert h; decide)

/-- `humanizeFloat` keeps the sign of every value that is not `-Inf` (and not NaN). -/
theorem humanizeFloat_sign (x : F64) (decimals : Int) (hd : 0 ≤ decimals) (hn : x.isNaN = false)
    (hi : ¬ (x.isInf = true ∧ x.sign = true)) :
    Spec.startsMinus (Float.humanizeFloat x decimals) = x.sign := by
  unfold Float.humanizeFloat
  simp only [hn, Bool.false_eq_true, if_false]
  by_cases hinf : x.isInf = true
  · simp only [hinf, if_true]
    have : x.sign = false := by
      cases hs : x.sign with
      | false => rfl
      | true => exact absurd ⟨hinf, hs⟩ hi
    rw [this]
    decide +kernel
  · simp only [hinf, Bool.false_eq_true, if_false]
    have hfmt : F64.format x decimals =
        if x.sign then 45 :: F64.fixedBody x.mag decimals.toNat else F64.fixedBody x.mag decimals.toNat := by
      unfold F64.format
      have : ¬ decimals < 0 := by omega
      simp [hn, hinf, this]
    obtain ⟨c, r, hcr, hc⟩ := placePoint_head (F64.roundNE (F64.magVal x.mag * F64.pow10 decimals.toNat)).toNat decimals.toNat
    have hbody : F64.fixedBody x.mag decimals.toNat = c :: r := hcr
    obtain ⟨hc45, hc46⟩ := digit_ne_minus hc
    split
    · -- no separators: the text of FormatFloat
      rw [hfmt, hbody]
      cases hs : x.sign with
      | true => simp [Spec.startsMinus]
      | false => simp [Spec.startsMinus, hc45]
    · rw [hfmt, hbody]
      cases hs : x.sign with
      | true => simp [Spec.startsMinus]
      | false =>
        simp only [Bool.false_eq_true, if_false, List.head?_cons, hc, if_true]
        have hneg : (some c == some (45 : UInt8)) = false := by simp [hc45]
        simp only [hneg, Bool.false_eq_true, if_false, List.nil_append]
        have htw : (c :: r).takeWhile (· != 46) = c :: r.takeWhile (· != 46) := by
          have : (c != 46) = true := by simp [hc46]
          simp only [List.takeWhile, this]
        rw [htw]
        unfold Float.commaLoop
        split <;> simp [Spec.startsMinus, hc45]

end Rare.C11

import Rare.Proofs.C07Base
/-!
`TableAggregator.Trim` (model `Table.trim`): for every well-formed table, every predicate and every pair of
covering map-iteration orders (duplicates allowed),

* `trim_cells`  – the remaining cells are exactly the unselected ones, values unchanged;
* `trim_wf`, `trim_rows`, `trim_cols` – a row / column survives iff it still has a cell;
* `trim_order_independent` – cells, row key set and column key set do not depend on the orders;
* `trim_count`, `trim_count_order_independent` – the returned number is the number of selected cells
  (orders duplicate-free, as Go's `range` yields each key once);
* `trim_sums`, `trim_colTotals` – row sums and column totals stay the wrapped sums of the remaining cells.
-/
namespace Rare.C07

def Table.cell (t : Table) (c r : Bytes) : Option Int := (aget t.rows r).bind fun row => aget row.cols c

def trimmedCell (p : Pred) (c r : Bytes) : Option Int → Option Int
  | some v => if p c r v then none else some v
  | none => none

def RowsNonempty (t : Table) : Prop := ∀ r row, aget t.rows r = some row → row.cols ≠ []

/-- The cell is removed by `Trim`. -/
def selected (p : Pred) (c r : Bytes) : Option Int → Bool
  | some v => p c r v
  | none => false

theorem trimmedCell_idem (p : Pred) (c r : Bytes) (x : Option Int) :
    trimmedCell p c r (trimmedCell p c r x) = trimmedCell p c r x := by
  cases x with
  | none => rfl
  | some v => by_cases h : p c r v <;> simp [trimmedCell, h]

theorem trimmedCell_isSome (p : Pred) (c r : Bytes) (x : Option Int) (h : (trimmedCell p c r x).isSome) : x.isSome := by
  cases x with
  | none => simp [trimmedCell] at h
  | some v => rfl

theorem trimmedCell_of_not_selected (p : Pred) (c r : Bytes) (x : Option Int) (h : selected p c r x = false) :
    trimmedCell p c r x = x := by
  cases x with
  | none => rfl
  | some v => simp [selected] at h; simp [trimmedCell, h]

theorem trimmedCell_of_selected (p : Pred) (c r : Bytes) (x : Option Int) (h : selected p c r x = true) :
    trimmedCell p c r x = none := by
  cases x with
  | none => rfl
  | some v => simp [selected] at h; simp [trimmedCell, h]

theorem selected_trimmed (p : Pred) (c r : Bytes) (x : Option Int) : selected p c r (trimmedCell p c r x) = false := by
  cases x with
  | none => rfl
  | some v => by_cases h : p c r v <;> simp [trimmedCell, selected, h]

theorem selected_isSome {p : Pred} {c r : Bytes} {x : Option Int} (h : selected p c r x = true) : x.isSome := by
  cases x with
  | none => simp [selected] at h
  | some _ => rfl

/-- The row write-back at the end of the loop body. -/
def putRow (t : Table) (rn : Bytes) (row : TableRow) (tcols : List (Bytes × Int)) : Table :=
  { t with rows := if row.cols.length = 0 then adel t.rows rn else aset t.rows rn row, cols := tcols }

theorem putRow_rows (t : Table) (rn : Bytes) (row : TableRow) (tcols : List (Bytes × Int)) (r : Bytes) :
    aget (putRow t rn row tcols).rows r
      = if rn = r then (if row.cols = [] then none else some row) else aget t.rows r := by
  unfold putRow
  by_cases h0 : row.cols = []
  · simp [h0, aget_adel]
  · simp [h0, aget_aset]

theorem putRow_cell (t : Table) (rn : Bytes) (row : TableRow) (tcols : List (Bytes × Int)) (c' r' : Bytes) :
    (putRow t rn row tcols).cell c' r' = if r' = rn then aget row.cols c' else t.cell c' r' := by
  unfold Table.cell
  rw [putRow_rows]
  by_cases hr : rn = r'
  · subst hr; by_cases h0 : row.cols = [] <;> simp [h0]
  · simp [hr, Ne.symm hr]

/-- What holds of every row still holds after the write-back if it holds of the written row
(which is dropped when it has become empty). -/
theorem putRow_forall {P : TableRow → Prop} {t : Table} (rn : Bytes) {row : TableRow} (tcols : List (Bytes × Int))
    (h : ∀ r rw, aget t.rows r = some rw → P rw) (hrow : row.cols ≠ [] → P row) :
    ∀ r rw, aget (putRow t rn row tcols).rows r = some rw → P rw := by
  intro r rw hr
  rw [putRow_rows] at hr
  by_cases e : rn = r
  · by_cases h0 : row.cols = []
    · simp [e, h0] at hr
    · simp only [e, h0, if_true, if_false, Option.some.injEq] at hr
      exact hr ▸ hrow h0
  · simp only [e, if_false] at hr; exact h r rw hr

theorem putRow_cols (t : Table) (rn : Bytes) (row : TableRow) (tcols : List (Bytes × Int)) :
    (putRow t rn row tcols).cols = tcols := rfl

/-- The row named `rn` after the inner-loop body for column `c`. -/
def trimRow (p : Pred) (c rn : Bytes) (row : TableRow) : TableRow :=
  if selected p c rn (aget row.cols c) then
    { row with cols := adel row.cols c, sum := wrap64 (row.sum - (aget row.cols c).getD 0) }
  else row

theorem trimRow_cols (p : Pred) (c rn : Bytes) (row : TableRow) (c' : Bytes) :
    aget (trimRow p c rn row).cols c' = if c' = c then trimmedCell p c rn (aget row.cols c) else aget row.cols c' := by
  unfold trimRow
  by_cases hs : selected p c rn (aget row.cols c) = true
  · rw [if_pos hs, trimmedCell_of_selected p c rn _ hs, aget_adel]
    by_cases e : c' = c
    · simp [e]
    · simp [e, Ne.symm e]
  · rw [if_neg hs, trimmedCell_of_not_selected p c rn _ (by simpa using hs)]
    by_cases e : c' = c <;> simp [e]

theorem trimCell_none (p : Pred) (c : Bytes) (t : Table) (n : Nat) (ra : Bool) (rn : Bytes)
    (h : aget t.rows rn = none) : Table.trimCell p c (t, n, ra) rn = (t, n, ra) := by
  simp [Table.trimCell, h]

/-- One inner-loop step in normal form. -/
theorem trimCell_some (p : Pred) (c : Bytes) (t : Table) (n : Nat) (ra : Bool) (rn : Bytes) (row : TableRow)
    (h : aget t.rows rn = some row) :
    Table.trimCell p c (t, n, ra) rn
      = (putRow t rn (trimRow p c rn row)
          (if selected p c rn (aget row.cols c)
            then aset t.cols c (wrap64 ((aget t.cols c).getD 0 - (aget row.cols c).getD 0)) else t.cols),
         n + (if selected p c rn (aget row.cols c) then 1 else 0),
         ra && (trimmedCell p c rn (aget row.cols c)).isNone) := by
  cases h2 : aget row.cols c with
  | none => simp [Table.trimCell, h, h2, putRow, trimRow, selected, trimmedCell]
  | some val =>
    by_cases hp : p c rn val <;> simp [Table.trimCell, h, h2, hp, putRow, trimRow, selected, trimmedCell]

/-- Specification of a run of inner-loop steps for column `c` over the row names `L`, from `(t, _, ra)` to `st`. -/
structure InnerSpec (p : Pred) (c : Bytes) (L : List Bytes) (t : Table) (ra : Bool) (st : Table × Nat × Bool) : Prop where
  cell : ∀ c' r', st.1.cell c' r' = if c' = c ∧ r' ∈ L then trimmedCell p c r' (t.cell c r') else t.cell c' r'
  nonempty : RowsNonempty t → RowsNonempty st.1
  cols : (aget t.cols c).isSome → ∀ c', (aget st.1.cols c').isSome = (aget t.cols c').isSome
  flag : st.2.2 = (ra && L.all fun r => (trimmedCell p c r (t.cell c r)).isNone)

theorem trimCell_step (p : Pred) (c : Bytes) (t : Table) (n : Nat) (ra : Bool) (rn : Bytes) :
    InnerSpec p c [rn] t ra (Table.trimCell p c (t, n, ra) rn) := by
  cases h : aget t.rows rn with
  | none =>
    have hc : t.cell c rn = none := by simp [Table.cell, h]
    rw [trimCell_none p c t n ra rn h]
    refine ⟨?_, fun x => x, fun _ _ => rfl, ?_⟩
    · intro c' r'
      by_cases e : c' = c ∧ r' ∈ [rn]
      · obtain ⟨e1, e2⟩ := e
        have e2 : r' = rn := by simpa using e2
        subst e1; subst e2; simp [hc, trimmedCell]
      · simp only [e, if_false]
    · simp [hc, trimmedCell]
  | some row =>
    have hc : t.cell c rn = aget row.cols c := by simp [Table.cell, h]
    rw [trimCell_some p c t n ra rn row h]
    refine ⟨?_, fun hne => putRow_forall (P := fun row => row.cols ≠ []) rn _ hne id, ?_, ?_⟩
    · intro c' r'
      simp only [putRow_cell, trimRow_cols, List.mem_singleton]
      by_cases e2 : r' = rn
      · subst e2
        by_cases e1 : c' = c
        · subst e1; simp [hc]
        · simp [e1, Table.cell, h]
      · simp [e2]
    · intro hs c'
      simp only [putRow_cols]
      split
      · rw [aget_aset]
        by_cases e : c = c'
        · subst e; simp [hs]
        · simp [e]
      · rfl
    · simp [hc]

theorem InnerSpec.nil (p : Pred) (c : Bytes) (t : Table) (n : Nat) (ra : Bool) : InnerSpec p c [] t ra (t, n, ra) :=
  ⟨by simp, fun x => x, fun _ _ => rfl, by simp⟩

/-- A column-`c` cell after a step re-trims to the same value (idempotence). -/
theorem InnerSpec.retrim {p : Pred} {c : Bytes} {L : List Bytes} {t : Table} {ra : Bool} {st : Table × Nat × Bool}
    (h : InnerSpec p c L t ra st) (r : Bytes) :
    trimmedCell p c r (st.1.cell c r) = trimmedCell p c r (t.cell c r) := by
  rw [h.cell c r]
  by_cases e : r ∈ L
  · simp [e, trimmedCell_idem]
  · simp [e]

theorem InnerSpec.cells_sub {p : Pred} {c : Bytes} {L : List Bytes} {t : Table} {ra : Bool} {st : Table × Nat × Bool}
    (h : InnerSpec p c L t ra st) (c' r' : Bytes) (hs : (st.1.cell c' r').isSome) : (t.cell c' r').isSome := by
  rw [h.cell] at hs
  by_cases e : c' = c ∧ r' ∈ L
  · simp only [e, and_self, if_true] at hs
    rw [e.1]; exact trimmedCell_isSome p c r' _ hs
  · simpa only [e, if_false] using hs

theorem InnerSpec.cons {p : Pred} {c : Bytes} {rn : Bytes} {L : List Bytes} {t : Table} {ra : Bool}
    {st1 st : Table × Nat × Bool}
    (h1 : InnerSpec p c [rn] t ra st1) (h2 : InnerSpec p c L st1.1 st1.2.2 st) :
    InnerSpec p c (rn :: L) t ra st := by
  refine ⟨?_, fun x => h2.nonempty (h1.nonempty x), ?_, ?_⟩
  · intro c' r'
    rw [h2.cell c' r']
    by_cases ec : c' = c
    · subst ec
      by_cases eL : r' ∈ L
      · simp [eL, h1.retrim]
      · simp [eL, h1.cell]
    · simp [ec, h1.cell]
  · intro hs c'
    have := h1.cols hs
    rw [h2.cols (by rw [this c]; exact hs) c', this c']
  · rw [h2.flag, h1.flag]
    simp only [List.all_cons, List.all_nil, Bool.and_true, h1.retrim, Bool.and_assoc]

theorem inner_fold (p : Pred) (c : Bytes) (L : List Bytes) : ∀ (t : Table) (n : Nat) (ra : Bool),
    InnerSpec p c L t ra (L.foldl (Table.trimCell p c) (t, n, ra)) := by
  induction L with
  | nil => intro t n ra; exact InnerSpec.nil p c t n ra
  | cons rn L ih =>
    intro t n ra
    simp only [List.foldl_cons]
    have h1 := trimCell_step p c t n ra rn
    generalize Table.trimCell p c (t, n, ra) rn = st1 at h1 ⊢
    obtain ⟨t1, n1, ra1⟩ := st1
    exact InnerSpec.cons h1 (ih t1 n1 ra1)

structure Table.WF (t : Table) : Prop where
  rows_nonempty : ∀ r row, aget t.rows r = some row → row.cols ≠ []
  cols_iff : ∀ c, (aget t.cols c).isSome ↔ ∃ r, (t.cell c r).isSome

def Covers (t : Table) (colOrder : List Bytes) (rowOrder : Bytes → List Bytes) : Prop :=
  (∀ c, (aget t.cols c).isSome → c ∈ colOrder) ∧ (∀ c r, (aget t.rows r).isSome → r ∈ rowOrder c)

theorem cell_isSome_row {t : Table} {c r : Bytes} (h : (t.cell c r).isSome) : (aget t.rows r).isSome := by
  unfold Table.cell at h
  cases h' : aget t.rows r with
  | none => simp [h'] at h
  | some _ => rfl

theorem Table.WF.cell_none {t : Table} (hwf : t.WF) {c : Bytes} (h : aget t.cols c = none) (r : Bytes) :
    t.cell c r = none :=
  Option.not_isSome_iff_eq_none.mp fun hx => by simpa [h] using (hwf.cols_iff c).mpr ⟨r, hx⟩

theorem cell_withCols (t : Table) (cs : List (Bytes × Int)) (c r : Bytes) :
    ({ t with cols := cs } : Table).cell c r = t.cell c r := rfl

/-- The table after the end of one outer-loop iteration, from the inner loop's final state. -/
def finishCol (c : Bytes) (st : Table × Nat × Bool) : Table :=
  if st.2.2 then { st.1 with cols := adel st.1.cols c } else st.1

theorem trimCol_none (p : Pred) (L : List Bytes) (t : Table) (n : Nat) (c : Bytes) (h : aget t.cols c = none) :
    Table.trimCol p L (t, n) c = (t, n) := by
  simp [Table.trimCol, h]

theorem trimCol_some (p : Pred) (L : List Bytes) (t : Table) (n : Nat) (c : Bytes) (v : Int) (h : aget t.cols c = some v) :
    Table.trimCol p L (t, n) c =
      (finishCol c (L.foldl (Table.trimCell p c) (t, n, true)), (L.foldl (Table.trimCell p c) (t, n, true)).2.1) := by
  simp [Table.trimCol, h, finishCol]

theorem finishCol_cell (c : Bytes) (st : Table × Nat × Bool) (c' r' : Bytes) :
    (finishCol c st).cell c' r' = st.1.cell c' r' := by
  unfold finishCol; split <;> rfl

theorem finishCol_rows (c : Bytes) (st : Table × Nat × Bool) : (finishCol c st).rows = st.1.rows := by
  unfold finishCol; split <;> rfl

theorem finishCol_cols_ne (c : Bytes) (st : Table × Nat × Bool) (c' : Bytes) (h : c ≠ c') :
    aget (finishCol c st).cols c' = aget st.1.cols c' := by
  unfold finishCol; split
  · simp [aget_adel, h]
  · rfl

theorem finishCol_cols_self (c : Bytes) (st : Table × Nat × Bool) :
    aget (finishCol c st).cols c = if st.2.2 then none else aget st.1.cols c := by
  unfold finishCol; split <;> simp [aget_adel]

theorem trimCol_cells_sub (p : Pred) (L : List Bytes) (t : Table) (n : Nat) (c : Bytes) (c' r' : Bytes)
    (hs : ((Table.trimCol p L (t, n) c).1.cell c' r').isSome) : (t.cell c' r').isSome := by
  cases h : aget t.cols c with
  | none => rw [trimCol_none p L t n c h] at hs; exact hs
  | some v =>
    rw [trimCol_some p L t n c v h, finishCol_cell] at hs
    exact (inner_fold p c L t n true).cells_sub c' r' hs

section
variable {p : Pred} {c : Bytes} {L : List Bytes} {t : Table} {st : Table × Nat × Bool}

theorem finishCol_cells (hs : InnerSpec p c L t true st)
    (hcov : ∀ r, (t.cell c r).isSome → r ∈ L) (c' r' : Bytes) :
    (finishCol c st).cell c' r' = if c' = c then trimmedCell p c r' (t.cell c r') else t.cell c' r' := by
  rw [finishCol_cell, hs.cell]
  by_cases ec : c' = c
  · subst ec
    by_cases eL : r' ∈ L
    · simp [eL]
    · have : t.cell c' r' = none := Option.not_isSome_iff_eq_none.mp fun h => eL (hcov r' h)
      simp [eL, this, trimmedCell]
  · simp [ec]

theorem finishCol_wf (hs : InnerSpec p c L t true st) (hwf : t.WF) (hc : (aget t.cols c).isSome)
    (hcov : ∀ r, (t.cell c r).isSome → r ∈ L) : (finishCol c st).WF := by
  have hcells := finishCol_cells hs hcov
  constructor
  · rw [finishCol_rows]; exact hs.nonempty hwf.rows_nonempty
  · intro c'
    by_cases ec : c = c'
    · subst ec
      rw [finishCol_cols_self, hs.flag]
      simp only [hcells, if_true, Bool.true_and]
      by_cases hall : (L.all fun r => (trimmedCell p c r (t.cell c r)).isNone) = true
      · simp only [hall, if_true, Option.isSome_none, Bool.false_eq_true, false_iff]
        rintro ⟨r, hr⟩
        by_cases eL : r ∈ L
        · have := List.all_eq_true.mp hall r eL
          simp [Option.isNone_iff_eq_none.mp this] at hr
        · have : t.cell c r = none := Option.not_isSome_iff_eq_none.mp fun h => eL (hcov r h)
          simp [this, trimmedCell] at hr
      · simp only [hall, Bool.false_eq_true, if_false, hs.cols hc c, hc, true_iff]
        have : ∃ r, r ∈ L ∧ ¬ (trimmedCell p c r (t.cell c r)).isNone = true := by
          simpa [List.all_eq_true] using hall
        obtain ⟨r, _, hr⟩ := this
        refine ⟨r, ?_⟩
        cases hx : trimmedCell p c r (t.cell c r) with
        | none => simp [hx] at hr
        | some _ => rfl
    · rw [finishCol_cols_ne c st c' ec, hs.cols hc c', hwf.cols_iff c']
      have ec' : ¬ c' = c := fun e => ec e.symm
      simp only [hcells, ec', if_false]
end

/-- One outer-loop iteration: only column `c` changes, each of its cells is trimmed, and the table stays
well-formed. -/
theorem trimCol_spec (p : Pred) (L : List Bytes) (t : Table) (n : Nat) (c : Bytes) (hwf : t.WF)
    (hcov : ∀ r, (t.cell c r).isSome → r ∈ L) :
    (Table.trimCol p L (t, n) c).1.WF ∧
    ∀ c' r', (Table.trimCol p L (t, n) c).1.cell c' r'
      = if c' = c then trimmedCell p c r' (t.cell c r') else t.cell c' r' := by
  cases h : aget t.cols c with
  | none =>
    rw [trimCol_none p L t n c h]
    refine ⟨hwf, fun c' r' => ?_⟩
    by_cases ec : c' = c
    · subst ec; simp [hwf.cell_none h, trimmedCell]
    · simp [ec]
  | some v =>
    rw [trimCol_some p L t n c v h]
    have hs := inner_fold p c L t n true
    exact ⟨finishCol_wf hs hwf (by simp [h]) hcov, finishCol_cells hs hcov⟩

/-- The outer loop over any list of columns, from any well-formed state whose column-`c` cells lie in rows
listed by `rowOrder c`. -/
theorem outer_fold (p : Pred) (rowOrder : Bytes → List Bytes) (cs : List Bytes) :
    ∀ (t : Table) (n : Nat), t.WF → (∀ c r, (t.cell c r).isSome → r ∈ rowOrder c) →
      (cs.foldl (fun st c => Table.trimCol p (rowOrder c) st c) (t, n)).1.WF ∧
      ∀ c' r', (cs.foldl (fun st c => Table.trimCol p (rowOrder c) st c) (t, n)).1.cell c' r'
        = if c' ∈ cs then trimmedCell p c' r' (t.cell c' r') else t.cell c' r' := by
  induction cs with
  | nil => intro t n hwf _; exact ⟨hwf, by simp⟩
  | cons c cs ih =>
    intro t n hwf hcov
    simp only [List.foldl_cons]
    obtain ⟨hwf1, hcell1⟩ := trimCol_spec p (rowOrder c) t n c hwf (hcov c)
    have hsub := trimCol_cells_sub p (rowOrder c) t n c
    generalize Table.trimCol p (rowOrder c) (t, n) c = st1 at hwf1 hcell1 hsub ⊢
    obtain ⟨t1, n1⟩ := st1
    obtain ⟨hwf2, hcell2⟩ := ih t1 n1 hwf1 fun c' r h => hcov c' r (hsub c' r h)
    refine ⟨hwf2, ?_⟩
    intro c' r'
    rw [hcell2, hcell1]
    by_cases ec : c' = c
    · subst ec
      by_cases em : c' ∈ cs
      · simp [em, trimmedCell_idem]
      · simp [em]
    · simp [ec]

section Main
variable (t : Table) (p : Pred) (colOrder : List Bytes) (rowOrder : Bytes → List Bytes)

theorem covers_rows {t : Table} {colOrder : List Bytes} {rowOrder : Bytes → List Bytes}
    (hcov : Covers t colOrder rowOrder) : ∀ c r, (t.cell c r).isSome → r ∈ rowOrder c :=
  fun c r h => hcov.2 c r (cell_isSome_row h)

/-- `Trim` keeps the table well-formed. -/
theorem trim_wf (hwf : t.WF) (hcov : Covers t colOrder rowOrder) : (t.trim p colOrder rowOrder).1.WF :=
  (outer_fold p rowOrder colOrder t 0 hwf (covers_rows hcov)).1

/-- (a) The remaining cells are exactly the unselected ones, with unchanged values. -/
theorem trim_cells (hwf : t.WF) (hcov : Covers t colOrder rowOrder) (c r : Bytes) :
    (t.trim p colOrder rowOrder).1.cell c r = trimmedCell p c r (t.cell c r) := by
  have h := (outer_fold p rowOrder colOrder t 0 hwf (covers_rows hcov)).2 c r
  unfold Table.trim
  rw [h]
  by_cases em : c ∈ colOrder
  · simp [em]
  · have hc : aget t.cols c = none := Option.not_isSome_iff_eq_none.mp fun hx => em (hcov.1 c hx)
    simp [em, hwf.cell_none hc, trimmedCell]

/-- In a well-formed table a row exists iff it has a cell. -/
theorem WF.rows_iff {t : Table} (hwf : t.WF) (r : Bytes) : (aget t.rows r).isSome ↔ ∃ c, (t.cell c r).isSome := by
  constructor
  · intro h
    cases hr : aget t.rows r with
    | none => simp [hr] at h
    | some row =>
      have hne := hwf.rows_nonempty r row hr
      have : ¬ ∀ k, aget row.cols k = none := fun hall => hne ((eq_nil_iff_aget row.cols).mpr hall)
      have : ∃ k, ¬ aget row.cols k = none := Classical.not_forall.mp this
      obtain ⟨k, hk⟩ := this
      refine ⟨k, ?_⟩
      simp only [Table.cell, hr, Option.bind_some]
      cases hx : aget row.cols k with
      | none => exact absurd hx hk
      | some _ => rfl
  · rintro ⟨c, hc⟩; exact cell_isSome_row hc

/-- (b) A row survives iff it still has a cell. -/
theorem trim_rows (hwf : t.WF) (hcov : Covers t colOrder rowOrder) (r : Bytes) :
    (aget (t.trim p colOrder rowOrder).1.rows r).isSome ↔ ∃ c, ((t.trim p colOrder rowOrder).1.cell c r).isSome :=
  WF.rows_iff (trim_wf t p colOrder rowOrder hwf hcov) r

/-- (c) A column survives iff it still has a cell. -/
theorem trim_cols (hwf : t.WF) (hcov : Covers t colOrder rowOrder) (c : Bytes) :
    (aget (t.trim p colOrder rowOrder).1.cols c).isSome ↔ ∃ r, ((t.trim p colOrder rowOrder).1.cell c r).isSome :=
  (trim_wf t p colOrder rowOrder hwf hcov).cols_iff c

/-- (b'), (c') in terms of the original table. -/
theorem trim_rows_orig (hwf : t.WF) (hcov : Covers t colOrder rowOrder) (r : Bytes) :
    (aget (t.trim p colOrder rowOrder).1.rows r).isSome ↔ ∃ c, (trimmedCell p c r (t.cell c r)).isSome := by
  rw [trim_rows t p colOrder rowOrder hwf hcov]
  simp only [trim_cells t p colOrder rowOrder hwf hcov]

theorem trim_cols_orig (hwf : t.WF) (hcov : Covers t colOrder rowOrder) (c : Bytes) :
    (aget (t.trim p colOrder rowOrder).1.cols c).isSome ↔ ∃ r, (trimmedCell p c r (t.cell c r)).isSome := by
  rw [trim_cols t p colOrder rowOrder hwf hcov]
  simp only [trim_cells t p colOrder rowOrder hwf hcov]

/-- (d) The result does not depend on the map iteration orders. -/
theorem trim_order_independent (colOrder' : List Bytes) (rowOrder' : Bytes → List Bytes)
    (hwf : t.WF) (hcov : Covers t colOrder rowOrder) (hcov' : Covers t colOrder' rowOrder') :
    (∀ c r, (t.trim p colOrder rowOrder).1.cell c r = (t.trim p colOrder' rowOrder').1.cell c r) ∧
    (∀ r, (aget (t.trim p colOrder rowOrder).1.rows r).isSome = (aget (t.trim p colOrder' rowOrder').1.rows r).isSome) ∧
    (∀ c, (aget (t.trim p colOrder rowOrder).1.cols c).isSome = (aget (t.trim p colOrder' rowOrder').1.cols c).isSome) := by
  refine ⟨?_, ?_, ?_⟩
  · intro c r; rw [trim_cells t p colOrder rowOrder hwf hcov, trim_cells t p colOrder' rowOrder' hwf hcov']
  · intro r
    rw [Bool.eq_iff_iff, trim_rows_orig t p colOrder rowOrder hwf hcov, trim_rows_orig t p colOrder' rowOrder' hwf hcov']
  · intro c
    rw [Bool.eq_iff_iff, trim_cols_orig t p colOrder rowOrder hwf hcov, trim_cols_orig t p colOrder' rowOrder' hwf hcov']
end Main

def sumVals (m : List (Bytes × Int)) : Int := m.foldl (fun a kv => a + kv.2) 0

/-- A row's keys are distinct and its `sum` field is the (wrapped) sum of its cells. -/
def RowSumOK (row : TableRow) : Prop := (akeys row.cols).Nodup ∧ row.sum = wrap64 (sumVals row.cols)

def SumsOK (t : Table) : Prop := ∀ r row, aget t.rows r = some row → RowSumOK row

theorem foldl_add_init (m : List (Bytes × Int)) : ∀ a : Int,
    m.foldl (fun a kv => a + kv.2) a = a + m.foldl (fun a kv => a + kv.2) 0 := by
  induction m with
  | nil => intro a; simp
  | cons e m ih => intro a; simp only [List.foldl_cons]; rw [ih (a + e.2), ih (0 + e.2)]; omega

theorem sumVals_cons (k : Bytes) (v : Int) (m : List (Bytes × Int)) : sumVals ((k, v) :: m) = v + sumVals m := by
  unfold sumVals; simp only [List.foldl_cons]; rw [foldl_add_init]; omega

theorem adel_of_aget_none {α : Type} (m : List (Bytes × α)) (c : Bytes) (h : aget m c = none) : adel m c = m := by
  induction m with
  | nil => rfl
  | cons e m ih =>
    obtain ⟨k0, v0⟩ := e
    by_cases e : k0 = c
    · simp [aget, e] at h
    · simp only [aget, e, if_false] at h
      simp [adel, e, ih h]

theorem sumVals_adel (m : List (Bytes × Int)) (c : Bytes) (val : Int) (hnd : (akeys m).Nodup)
    (h : aget m c = some val) : sumVals (adel m c) = sumVals m - val := by
  induction m with
  | nil => simp at h
  | cons e m ih =>
    obtain ⟨k0, v0⟩ := e
    have hnd' : k0 ∉ akeys m ∧ (akeys m).Nodup := List.nodup_cons.mp hnd
    by_cases e : k0 = c
    · subst e
      simp only [aget, if_true, Option.some.injEq] at h
      have hn : aget m k0 = none :=
        Option.not_isSome_iff_eq_none.mp fun hs => hnd'.1 ((mem_akeys_iff m k0).mpr hs)
      simp only [adel, if_true, adel_of_aget_none m k0 hn, sumVals_cons]; omega
    · simp only [aget, e, if_false] at h
      simp only [adel, e, if_false, sumVals_cons, ih hnd'.2 h]; omega

theorem adel_sublist {α : Type} (m : List (Bytes × α)) (c : Bytes) : (adel m c).Sublist m := by
  induction m with
  | nil => exact List.Sublist.refl _
  | cons e m ih =>
    obtain ⟨k0, v0⟩ := e
    simp only [adel]
    split
    · exact ih.cons _
    · exact ih.cons_cons _

theorem akeys_adel_nodup {α : Type} (m : List (Bytes × α)) (c : Bytes) (hnd : (akeys m).Nodup) :
    (akeys (adel m c)).Nodup :=
  List.Nodup.sublist ((adel_sublist m c).map _) hnd

theorem trimRow_sumOK (p : Pred) (c rn : Bytes) {row : TableRow} (h : RowSumOK row) : RowSumOK (trimRow p c rn row) := by
  unfold trimRow
  split
  · rename_i hs
    obtain ⟨val, h2⟩ := Option.isSome_iff_exists.mp (selected_isSome hs)
    obtain ⟨hnd, hsum⟩ := h
    refine ⟨akeys_adel_nodup row.cols c hnd, ?_⟩
    simp only [h2, Option.getD_some, sumVals_adel row.cols c val hnd h2, hsum, wrap64_sub_left]
  · exact h

/-- One inner-loop step: the counter, the column totals and the row sums. -/
theorem trimCell_acc (p : Pred) (c : Bytes) (t : Table) (n : Nat) (ra : Bool) (rn : Bytes) :
    (Table.trimCell p c (t, n, ra) rn).2.1 = n + (if selected p c rn (t.cell c rn) then 1 else 0) ∧
    (Table.trimCell p c (t, n, ra) rn).1.cols
      = (if selected p c rn (t.cell c rn)
          then aset t.cols c (wrap64 ((aget t.cols c).getD 0 - (t.cell c rn).getD 0)) else t.cols) ∧
    (SumsOK t → SumsOK (Table.trimCell p c (t, n, ra) rn).1) := by
  cases h : aget t.rows rn with
  | none =>
    have hc : t.cell c rn = none := by simp [Table.cell, h]
    rw [trimCell_none p c t n ra rn h]
    simp [hc, selected]
  | some row =>
    have hc : t.cell c rn = aget row.cols c := by simp [Table.cell, h]
    rw [trimCell_some p c t n ra rn row h, hc]
    exact ⟨rfl, rfl, fun hs => putRow_forall rn _ hs fun _ => trimRow_sumOK p c rn (hs rn row h)⟩

/-- Sum of column `c` over the row names `R`. -/
def colSum (R : List Bytes) (t : Table) (c : Bytes) : Int := sumBy (fun r => (t.cell c r).getD 0) R

/-- All cells lie in rows named in `R`. -/
def CellsIn (R : List Bytes) (t : Table) : Prop := ∀ c r, (t.cell c r).isSome → r ∈ R

/-- Every recorded column total is the (wrapped) sum of the column's cells. -/
def ColsOK (R : List Bytes) (t : Table) : Prop := ∀ c v, aget t.cols c = some v → v = wrap64 (colSum R t c)

theorem sumBy_congr_of_not_mem (f g : Bytes → Int) (rn : Bytes) (hfg : ∀ r, r ≠ rn → g r = f r) :
    ∀ R : List Bytes, rn ∉ R → sumBy g R = sumBy f R := by
  intro R
  induction R with
  | nil => intro _; rfl
  | cons x R ih =>
    intro hn
    have h1 : x ≠ rn := fun e => hn (by simp [e])
    have h2 : rn ∉ R := fun e => hn (by simp [e])
    simp only [sumBy, hfg x h1, ih h2]

theorem sumBy_update (f g : Bytes → Int) (rn : Bytes) (hfg : ∀ r, r ≠ rn → g r = f r) :
    ∀ R : List Bytes, R.Nodup → rn ∈ R → sumBy g R = sumBy f R - f rn + g rn := by
  intro R
  induction R with
  | nil => intro _ h; simp at h
  | cons x R ih =>
    intro hnd hm
    have hnd' : x ∉ R ∧ R.Nodup := List.nodup_cons.mp hnd
    by_cases e : x = rn
    · subst e
      simp only [sumBy, sumBy_congr_of_not_mem f g x hfg R hnd'.1]; omega
    · have hm' : rn ∈ R := by
        rcases List.mem_cons.mp hm with h | h
        · exact absurd h.symm e
        · exact h
      simp only [sumBy, hfg x e, ih hnd'.2 hm']; omega

theorem colSum_congr (R : List Bytes) (t t1 : Table) (c : Bytes) (h : ∀ r, t1.cell c r = t.cell c r) :
    colSum R t1 c = colSum R t c := by
  unfold colSum
  have : (fun r => (t1.cell c r).getD 0) = (fun r => (t.cell c r).getD 0) := by funext r; rw [h r]
  rw [this]

theorem colSum_step {p : Pred} {c rn : Bytes} {t : Table} {ra : Bool} {st : Table × Nat × Bool} {R : List Bytes}
    (hs : InnerSpec p c [rn] t ra st) (hnd : R.Nodup) (hin : CellsIn R t) (c' : Bytes) :
    colSum R st.1 c'
      = colSum R t c' - (if c = c' ∧ selected p c rn (t.cell c rn) then (t.cell c rn).getD 0 else 0) := by
  by_cases e : c = c' ∧ selected p c rn (t.cell c rn) = true
  · obtain ⟨rfl, hsel⟩ := e
    have hrn : rn ∈ R := hin c rn (selected_isSome hsel)
    simp only [hsel, and_self, if_true]
    unfold colSum
    rw [sumBy_update (fun r => (t.cell c r).getD 0) (fun r => (st.1.cell c r).getD 0) rn ?_ R hnd hrn]
    · simp [hs.cell, trimmedCell_of_selected p c rn _ hsel]
    · intro r hr; simp only [hs.cell, List.mem_singleton, hr, and_false, if_false]
  · rw [if_neg e, Int.sub_zero]
    apply colSum_congr
    intro r
    rw [hs.cell]
    by_cases e2 : c' = c ∧ r ∈ [rn]
    · obtain ⟨rfl, e3⟩ := e2
      have e3 : r = rn := by simpa using e3
      subst e3
      have : selected p c' r (t.cell c' r) = false := by simpa using e
      simp [trimmedCell_of_not_selected _ _ _ _ this]
    · simp only [e2, if_false]

theorem trimCell_colsOK (p : Pred) (c : Bytes) (t : Table) (n : Nat) (ra : Bool) (rn : Bytes) (R : List Bytes)
    (hnd : R.Nodup) (hc : (aget t.cols c).isSome) (hin : CellsIn R t) (hok : ColsOK R t) :
    ColsOK R (Table.trimCell p c (t, n, ra) rn).1 := by
  have hs := trimCell_step p c t n ra rn
  have hcols := (trimCell_acc p c t n ra rn).2.1
  generalize Table.trimCell p c (t, n, ra) rn = st1 at hs hcols ⊢
  intro c' v' hv'
  rw [colSum_step hs hnd hin c']
  rw [hcols] at hv'
  by_cases hsel : selected p c rn (t.cell c rn) = true
  · simp only [hsel, if_true, and_true] at hv' ⊢
    rw [aget_aset] at hv'
    by_cases ec : c = c'
    · subst ec
      obtain ⟨old, ho⟩ := Option.isSome_iff_exists.mp hc
      simp only [if_true, Option.some.injEq, ho, Option.getD_some] at hv' ⊢
      rw [← hv', hok c old ho, wrap64_sub_left]
    · simp only [ec, if_false] at hv' ⊢
      rw [Int.sub_zero]; exact hok c' v' hv'
  · rw [if_neg hsel] at hv'
    rw [if_neg fun h => hsel h.2, Int.sub_zero]; exact hok c' v' hv'

theorem CellsIn.mono {R : List Bytes} {t t1 : Table} (h : CellsIn R t)
    (hsub : ∀ c r, (t1.cell c r).isSome → (t.cell c r).isSome) : CellsIn R t1 :=
  fun c r hs => h c r (hsub c r hs)

/-- Counter, row sums and column totals over a run of inner-loop steps. -/
theorem inner_acc (p : Pred) (c : Bytes) (L : List Bytes) : ∀ (t : Table) (n : Nat) (ra : Bool),
    (L.Nodup → (L.foldl (Table.trimCell p c) (t, n, ra)).2.1
        = n + L.countP (fun r => selected p c r (t.cell c r))) ∧
    (SumsOK t → SumsOK (L.foldl (Table.trimCell p c) (t, n, ra)).1) ∧
    (∀ R : List Bytes, R.Nodup → (aget t.cols c).isSome → CellsIn R t → ColsOK R t →
        ColsOK R (L.foldl (Table.trimCell p c) (t, n, ra)).1) := by
  induction L with
  | nil => intro t n ra; exact ⟨fun _ => by simp, fun x => x, fun _ _ _ _ x => x⟩
  | cons rn L ih =>
    intro t n ra
    simp only [List.foldl_cons]
    have h1 := trimCell_step p c t n ra rn
    have ha := trimCell_acc p c t n ra rn
    have hk := fun R hnd hc hin hok => trimCell_colsOK p c t n ra rn R hnd hc hin hok
    generalize Table.trimCell p c (t, n, ra) rn = st1 at h1 ha hk ⊢
    obtain ⟨t1, n1, ra1⟩ := st1
    obtain ⟨ih1, ih2, ih3⟩ := ih t1 n1 ra1
    simp only at ha hk
    refine ⟨?_, fun hs => ih2 (ha.2.2 hs), ?_⟩
    · intro hnd
      have hnd' : rn ∉ L ∧ L.Nodup := List.nodup_cons.mp hnd
      rw [ih1 hnd'.2, ha.1, List.countP_cons]
      have : L.countP (fun r => selected p c r (t1.cell c r)) = L.countP (fun r => selected p c r (t.cell c r)) := by
        apply List.countP_congr
        intro r hr
        have hne : r ≠ rn := fun e => hnd'.1 (e ▸ hr)
        have := h1.cell c r
        simp only [List.mem_singleton, hne, and_false, if_false] at this
        rw [this]
      rw [this]; omega
    · intro R hnd hc hin hok
      have hc1 : (aget t1.cols c).isSome := by rw [h1.cols hc c]; exact hc
      exact ih3 R hnd hc1 (hin.mono h1.cells_sub) (hk R hnd hc hin hok)

theorem finishCol_colsOK (c : Bytes) (st : Table × Nat × Bool) (R : List Bytes) (h : ColsOK R st.1) :
    ColsOK R (finishCol c st) := by
  intro c' v' hv'
  have hsum : colSum R (finishCol c st) c' = colSum R st.1 c' :=
    colSum_congr R st.1 (finishCol c st) c' (fun r => finishCol_cell c st c' r)
  rw [hsum]
  by_cases e : c = c'
  · subst e
    rw [finishCol_cols_self] at hv'
    split at hv'
    · simp at hv'
    · exact h c v' hv'
  · rw [finishCol_cols_ne c st c' e] at hv'
    exact h c' v' hv'

/-- One outer-loop iteration: row sums and column totals stay right. -/
theorem trimCol_acc (p : Pred) (L : List Bytes) (t : Table) (n : Nat) (c : Bytes) :
    (SumsOK t → SumsOK (Table.trimCol p L (t, n) c).1) ∧
    (∀ R : List Bytes, R.Nodup → CellsIn R t → ColsOK R t → ColsOK R (Table.trimCol p L (t, n) c).1) := by
  cases h : aget t.cols c with
  | none => rw [trimCol_none p L t n c h]; exact ⟨fun x => x, fun _ _ _ x => x⟩
  | some v =>
    rw [trimCol_some p L t n c v h]
    obtain ⟨_, h2, h3⟩ := inner_acc p c L t n true
    refine ⟨fun hs r row hr => ?_, fun R hnd hin hok => finishCol_colsOK c _ R (h3 R hnd (by simp [h]) hin hok)⟩
    rw [finishCol_rows] at hr
    exact h2 hs r row hr

/-- One outer-loop iteration: the counter grows by the number of selected cells of the column. -/
theorem trimCol_count (p : Pred) (L : List Bytes) (t : Table) (n : Nat) (c : Bytes) (hwf : t.WF) (hnd : L.Nodup) :
    (Table.trimCol p L (t, n) c).2 = n + L.countP (fun r => selected p c r (t.cell c r)) := by
  cases h : aget t.cols c with
  | none =>
    rw [trimCol_none p L t n c h]
    simp [hwf.cell_none h, selected]
  | some v =>
    rw [trimCol_some p L t n c v h]
    exact (inner_acc p c L t n true).1 hnd

/-- The outer loop keeps row sums and column totals right, and never creates a cell. -/
theorem outer_acc (p : Pred) (rowOrder : Bytes → List Bytes) (cs : List Bytes) : ∀ (t : Table) (n : Nat),
    (∀ c r, ((cs.foldl (fun st c => Table.trimCol p (rowOrder c) st c) (t, n)).1.cell c r).isSome → (t.cell c r).isSome) ∧
    (SumsOK t → SumsOK (cs.foldl (fun st c => Table.trimCol p (rowOrder c) st c) (t, n)).1) ∧
    (∀ R : List Bytes, R.Nodup → CellsIn R t → ColsOK R t →
      ColsOK R (cs.foldl (fun st c => Table.trimCol p (rowOrder c) st c) (t, n)).1) := by
  induction cs with
  | nil => intro t n; exact ⟨fun _ _ x => x, fun x => x, fun _ _ _ x => x⟩
  | cons c cs ih =>
    intro t n
    simp only [List.foldl_cons]
    have hsub := trimCol_cells_sub p (rowOrder c) t n c
    obtain ⟨hs1, hk1⟩ := trimCol_acc p (rowOrder c) t n c
    generalize Table.trimCol p (rowOrder c) (t, n) c = st1 at hsub hs1 hk1 ⊢
    obtain ⟨t1, n1⟩ := st1
    obtain ⟨ih1, ih2, ih3⟩ := ih t1 n1
    refine ⟨fun c' r h => hsub c' r (ih1 c' r h), fun hs => ih2 (hs1 hs), ?_⟩
    intro R hnd hin hok
    exact ih3 R hnd (hin.mono hsub) (hk1 R hnd hin hok)

theorem outer_count (p : Pred) (rowOrder : Bytes → List Bytes) (hrnd : ∀ c, (rowOrder c).Nodup) (cs : List Bytes) :
    ∀ (t : Table) (n : Nat), t.WF → (∀ c r, (t.cell c r).isSome → r ∈ rowOrder c) → cs.Nodup →
      (cs.foldl (fun st c => Table.trimCol p (rowOrder c) st c) (t, n)).2
        = n + (cs.map fun c => (rowOrder c).countP fun r => selected p c r (t.cell c r)).sum := by
  induction cs with
  | nil => intro t n _ _ _; simp
  | cons c cs ih =>
    intro t n hwf hcov hnd
    have hnd' : c ∉ cs ∧ cs.Nodup := List.nodup_cons.mp hnd
    simp only [List.foldl_cons]
    obtain ⟨hwf1, hcell1⟩ := trimCol_spec p (rowOrder c) t n c hwf (hcov c)
    have hcnt := trimCol_count p (rowOrder c) t n c hwf (hrnd c)
    have hsub := trimCol_cells_sub p (rowOrder c) t n c
    generalize Table.trimCol p (rowOrder c) (t, n) c = st1 at hwf1 hcell1 hcnt hsub ⊢
    obtain ⟨t1, n1⟩ := st1
    simp only at hcell1 hcnt
    rw [ih t1 n1 hwf1 (fun c' r h => hcov c' r (hsub c' r h)) hnd'.2, hcnt, List.map_cons, List.sum_cons]
    have : (cs.map fun c => (rowOrder c).countP fun r => selected p c r (t1.cell c r))
         = (cs.map fun c => (rowOrder c).countP fun r => selected p c r (t.cell c r)) := by
      apply List.map_congr_left
      intro c' hc'
      have ec : ¬ c' = c := fun e => hnd'.1 (e ▸ hc')
      simp only [hcell1, ec, if_false]
    rw [this]; omega

section MainE
variable (t : Table) (p : Pred) (colOrder : List Bytes) (rowOrder : Bytes → List Bytes)

/-- (e1) The number returned by `Trim` is the number of selected cells (each Go `range` yields a key once). -/
theorem trim_count (hwf : t.WF) (hcov : Covers t colOrder rowOrder)
    (hcnd : colOrder.Nodup) (hrnd : ∀ c, (rowOrder c).Nodup) :
    (t.trim p colOrder rowOrder).2
      = (colOrder.map fun c => (rowOrder c).countP fun r => selected p c r (t.cell c r)).sum := by
  have := outer_count p rowOrder hrnd colOrder t 0 hwf (covers_rows hcov) hcnd
  unfold Table.trim
  rw [this]; omega

/-- (e2) `Trim` keeps every row's `sum` equal to the wrapped sum of its remaining cells. -/
theorem trim_sums (hs : SumsOK t) : SumsOK (t.trim p colOrder rowOrder).1 :=
  (outer_acc p rowOrder colOrder t 0).2.1 hs

/-- (e3) `Trim` keeps every remaining column total equal to the wrapped sum of the column's remaining cells
(`R` is any duplicate-free list naming all rows that have a cell). -/
theorem trim_colTotals (R : List Bytes) (hnd : R.Nodup) (hin : CellsIn R t) (hok : ColsOK R t) :
    ColsOK R (t.trim p colOrder rowOrder).1 :=
  (outer_acc p rowOrder colOrder t 0).2.2 R hnd hin hok

/-- `Trim` never creates a cell. -/
theorem trim_cells_sub (c r : Bytes) (h : ((t.trim p colOrder rowOrder).1.cell c r).isSome) : (t.cell c r).isSome :=
  (outer_acc p rowOrder colOrder t 0).1 c r h
end MainE

theorem filter_perm_of_nodup_support (q : Bytes → Bool) {L L' : List Bytes} (hnd : L.Nodup) (hnd' : L'.Nodup)
    (h : ∀ r, q r = true → r ∈ L) (h' : ∀ r, q r = true → r ∈ L') : (L.filter q).Perm (L'.filter q) := by
  rw [List.perm_ext_iff_of_nodup (List.Pairwise.filter q hnd) (List.Pairwise.filter q hnd')]
  intro a
  simp only [List.mem_filter]
  exact ⟨fun ⟨_, hq⟩ => ⟨h' a hq, hq⟩, fun ⟨_, hq⟩ => ⟨h a hq, hq⟩⟩

theorem countP_eq_of_nodup_support (q : Bytes → Bool) (L L' : List Bytes) (hnd : L.Nodup) (hnd' : L'.Nodup)
    (h : ∀ r, q r = true → r ∈ L) (h' : ∀ r, q r = true → r ∈ L') : L.countP q = L'.countP q := by
  rw [List.countP_eq_length_filter, List.countP_eq_length_filter]
  exact (filter_perm_of_nodup_support q hnd hnd' h h').length_eq

theorem sum_map_filter_ne_zero (F : Bytes → Nat) (L : List Bytes) :
    ((L.filter fun c => F c != 0).map F).sum = (L.map F).sum := by
  induction L with
  | nil => rfl
  | cons x L ih => by_cases e : F x = 0 <;> simp [e, ih]

theorem sum_map_eq_of_nodup_support (F : Bytes → Nat) (L L' : List Bytes) (hnd : L.Nodup) (hnd' : L'.Nodup)
    (h : ∀ c, F c ≠ 0 → c ∈ L) (h' : ∀ c, F c ≠ 0 → c ∈ L') : (L.map F).sum = (L'.map F).sum := by
  rw [← sum_map_filter_ne_zero F L, ← sum_map_filter_ne_zero F L']
  exact ((filter_perm_of_nodup_support _ hnd hnd' (by simpa using h) (by simpa using h')).map F).sum_nat

/-- A column in which some listed row has a selected cell is listed by every covering order. -/
theorem covers_col_of_count_ne_zero {t : Table} {p : Pred} {colOrder : List Bytes} {rowOrder : Bytes → List Bytes}
    (hwf : t.WF) (hcov : Covers t colOrder rowOrder) (L : Bytes → List Bytes) (c : Bytes)
    (hc : ((L c).countP fun r => selected p c r (t.cell c r)) ≠ 0) : c ∈ colOrder := by
  obtain ⟨r, _, hr⟩ := List.countP_pos_iff.mp (Nat.pos_of_ne_zero hc)
  exact hcov.1 c ((hwf.cols_iff c).mpr ⟨r, selected_isSome hr⟩)

/-- (e1') The returned count is the same for any two duplicate-free covering iteration orders. -/
theorem trim_count_order_independent (t : Table) (p : Pred) (colOrder colOrder' : List Bytes)
    (rowOrder rowOrder' : Bytes → List Bytes) (hwf : t.WF)
    (hcov : Covers t colOrder rowOrder) (hcov' : Covers t colOrder' rowOrder')
    (hcnd : colOrder.Nodup) (hrnd : ∀ c, (rowOrder c).Nodup)
    (hcnd' : colOrder'.Nodup) (hrnd' : ∀ c, (rowOrder' c).Nodup) :
    (t.trim p colOrder rowOrder).2 = (t.trim p colOrder' rowOrder').2 := by
  rw [trim_count t p colOrder rowOrder hwf hcov hcnd hrnd, trim_count t p colOrder' rowOrder' hwf hcov' hcnd' hrnd']
  have hrow : ∀ c, ((rowOrder' c).countP fun r => selected p c r (t.cell c r))
      = ((rowOrder c).countP fun r => selected p c r (t.cell c r)) := fun c =>
    countP_eq_of_nodup_support _ _ _ (hrnd' c) (hrnd c)
      (fun r hr => hcov'.2 c r (cell_isSome_row (selected_isSome hr)))
      (fun r hr => hcov.2 c r (cell_isSome_row (selected_isSome hr)))
  simp only [hrow]
  exact sum_map_eq_of_nodup_support _ _ _ hcnd hcnd'
    (covers_col_of_count_ne_zero hwf hcov rowOrder) (covers_col_of_count_ne_zero hwf hcov' rowOrder)
end Rare.C07

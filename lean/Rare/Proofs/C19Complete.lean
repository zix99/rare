import Rare.Proofs.C19
/-!
Completeness of the precedence-climbing parser: the flattening of every well-precedenced parse
tree compiles, to that very tree; the parse depends on the arithmetic only through the accepted literals
(`compile_transfer`, `LitSubst`).
-/
namespace Rare.C19

variable {α : Type} (A : Arith α)

/-! ### lengths and fuel -/

theorem getNextExpr_len {cg : Bytes → Except Err (Parsed α)} (toks : List Token) (r : Parsed α)
    (rest : List Token) (h : getNextExpr A cg toks = .ok (r, rest)) : rest.length < toks.length := by
  rw [(getNextExpr_flat A _ _ _ h).2, List.length_append]
  have := flatten_pos r.1
  omega

theorem climb_len {cg : Bytes → Except Err (Parsed α)} (f : Nat) (last : Bytes) (ret : Parsed α)
    (toks : List Token) (r : Parsed α) (rest' : List Token) (h : climb A cg f last ret toks = .ok (r, rest')) :
    rest'.length ≤ toks.length := by
  obtain ⟨mid, hm, _⟩ := climb_flat A _ _ _ _ _ _ h
  rw [hm, List.length_append]
  omega

/-- Fuel beyond the number of tokens changes nothing. -/
theorem climb_suff {cg : Bytes → Except Err (Parsed α)} (g f : Nat) (last : Bytes) (ret : Parsed α)
    (toks : List Token) (r : Parsed α × List Token) (h : climb A cg f last ret toks = .ok r)
    (hl : toks.length < g) : climb A cg g last ret toks = .ok r := by
  fun_induction climb A cg f last ret toks generalizing g r with
  | case1 | case3 | case4 | case5 | case6 => cases h
  | case2 => cases g with
    | zero => omega
    | succ g => exact h
  | case8 f last ret tk rest op c hop ord hord h1 =>
    cases g with
    | zero => omega
    | succ g => simp only [climb, hop, hord, h1, if_false]; exact h
  | case7 f last ret tk rest op c hop toks0 first toks1 hne rhs toks2 hc1 hord ih1 ih2 =>
    cases g with
    | zero => omega
    | succ g =>
      have l0 : toks1.length < toks0.length := getNextExpr_len A _ _ _ hne
      have l1 := climb_len A _ _ _ _ _ _ hc1
      have l2 : toks0.length ≤ (tk :: rest).length := by
        simp only [toks0]; split <;> simp
      simp only [climb, hop, hord, if_true, toks0, hne] at hne ⊢
      rw [ih1 g _ hc1 (by omega)]
      exact ih2 g _ h (by omega)

/-- The tree component of the loop's result does not depend on the expression component of the
    accumulated operand. -/
theorem climb_tree_indep {cg : Bytes → Except Err (Parsed α)} (f : Nat) (last : Bytes) (t : Tree) (e1 : Expr α)
    (toks : List Token) (r : Parsed α) (rest' : List Token)
    (h : climb A cg f last (t, e1) toks = .ok (r, rest')) (e2 : Expr α) :
    ∃ e2', climb A cg f last (t, e2) toks = .ok ((r.1, e2'), rest') := by
  generalize hret : (t, e1) = ret at h
  fun_induction climb A cg f last ret toks generalizing t e1 e2 r rest' with
  | case1 | case3 | case4 | case5 | case6 => cases h
  | case2 => cases h; cases hret; exact ⟨_, rfl⟩
  | case8 f last ret tk rest op c hop ord hord h1 =>
    cases h; cases hret
    exact ⟨e2, by simp only [climb, hop, hord, h1, if_false]⟩
  | case7 f last ret tk rest op c hop toks0 first toks1 hne rhs toks2 hc1 hord ih1 ih2 =>
    cases hret
    simp only [climb, hop, hord, if_true, toks0, hne, hc1] at hne ⊢
    exact ih2 _ _ _ _ _ rfl h

/-! ### the operators of the table are the keys of `ops` -/

theorem level_some_in {t : List (List Bytes)} {op : Bytes} {l : Nat} (h : level t op = some l) :
    ∃ set, set ∈ t ∧ set.contains op = true := by
  induction t generalizing l with
  | nil => cases h
  | cons set rest ih =>
    unfold level at h
    split at h
    · exact ⟨set, List.mem_cons_self, ‹_›⟩
    · cases hr : level rest op with
      | none => rw [hr] at h; cases h
      | some x =>
        obtain ⟨s', hs', hc⟩ := ih hr
        exact ⟨s', List.mem_cons_of_mem _ hs', hc⟩

theorem sets_in_keys : (orderOfOps.all fun set => set.all fun op => opKeys.contains op) = true := by
  decide +kernel

theorem level_some_mem {op : Bytes} {l : Nat} (h : level orderOfOps op = some l) :
    opKeys.contains op = true := by
  obtain ⟨set, hs, hc⟩ := level_some_in h
  exact List.all_eq_true.mp (List.all_eq_true.mp sets_in_keys set hs) op (List.contains_iff_mem.mp hc)

/-! ### completeness -/

def Lits (t : Tree) : Prop := t.allLits (fun v => (classify A v).isSome) = true

/-- the group compiler succeeds on every well-formed group shorter than `N` -/
def HcgC (cg : Bytes → Except Err (Parsed α)) (N : Nat) : Prop :=
  ∀ s0 e0, s0.length < N → tok s0 = some e0.flatten → WellPrec orderOfOps e0 → Deep tok e0 → Lits A e0 →
    ∃ ex, cg s0 = .ok (e0, ex)

theorem grpLt_bin {N : Nat} {i : Bool} {op : Bytes} {l r : Tree} (h : GrpLt N (Tree.bin i op l r).flatten) :
    GrpLt N l.flatten ∧ GrpLt N r.flatten :=
  ⟨(grpLt_append.mp (grpLt_append.mp h).1).1, (grpLt_append.mp h).2⟩

theorem lits_bin {i : Bool} {op : Bytes} {l r : Tree} : Lits A (.bin i op l r) ↔ Lits A l ∧ Lits A r := by
  simp only [Lits, Tree.allLits, Bool.and_eq_true]

theorem atom_complete {cg : Bytes → Except Err (Parsed α)} {N : Nat} (hcgc : HcgC A cg N) :
    ∀ t : Tree, t.isAtom = true → WellPrec orderOfOps t → Deep tok t → Lits A t → GrpLt N t.flatten →
      ∀ rest, ∃ e, getNextExpr A cg (t.flatten ++ rest) = .ok ((t, e), rest) := by
  intro t
  induction t with
  | lit v =>
    intro _ _ _ hl _ rest
    simp only [Lits, Tree.allLits, classify] at hl
    simp only [Tree.flatten, List.cons_append, List.nil_append, getNextExpr]
    cases hc : classifyE A v with
    | error err => rw [hc] at hl; cases hl
    | ok a => exact ⟨_, rfl⟩
  | grp s e0 _ =>
    intro _ hwp hd hl hg rest
    cases hwp with
    | grp _ _ hwp0 =>
      cases hd with
      | grp _ _ htok hd0 =>
        obtain ⟨ex, hex⟩ := hcgc s e0 (hg ⟨s, .group⟩ List.mem_cons_self rfl) htok hwp0 hd0 hl
        simp only [Tree.flatten, List.cons_append, List.nil_append, getNextExpr, hex]
        exact ⟨_, rfl⟩
  | un m e0 ih =>
    intro _ hwp hd hl hg rest
    cases hwp with
    | un _ _ hat hwp0 =>
      cases hd with
      | un _ _ hd0 =>
        obtain ⟨e, he⟩ := ih hat hwp0 hd0 hl (fun tk hm => hg tk (List.mem_cons_of_mem _ hm)) rest
        simp only [Tree.flatten, List.cons_append, getNextExpr, he]
        exact ⟨_, rfl⟩
  | bin i op l r _ _ => intro h; cases h

theorem swg_flatten : ∀ t : Tree, t.startsWithGroup = true → ∃ s tl, t.flatten = ⟨s, .group⟩ :: tl := by
  intro t
  induction t with
  | lit v => intro h; cases h
  | grp s e _ => intro _; exact ⟨s, [], rfl⟩
  | un m e _ => intro h; cases h
  | bin i op l r ihl _ =>
    intro h
    obtain ⟨s, tl, hs⟩ := ihl h
    exact ⟨s, tl ++ ((if i = true then [] else [⟨op, .op⟩]) ++ r.flatten), by simp [Tree.flatten, hs]⟩

/-- What the loop sees where the flattening of a binary node continues after its left operand: the
    node's operator, written or implied. -/
theorem bin_head {i : Bool} {op : Bytes} {r : Tree} {lv : Nat} (hlv : level orderOfOps op = some lv)
    (himp : i = true → op = starOp ∧ r.startsWithGroup = true) (rest : List Token) :
    ∃ tk tl, (if i = true then [] else [⟨op, .op⟩]) ++ r.flatten ++ rest = tk :: tl ∧
      getNextOp tk = .ok (op, !i) ∧ (if (!i) = true then tl else tk :: tl) = r.flatten ++ rest := by
  cases i with
  | false =>
    exact ⟨_, _, rfl, by simp only [getNextOp, level_some_mem hlv, if_true]; rfl, rfl⟩
  | true =>
    obtain ⟨rfl, hswg⟩ := himp rfl
    obtain ⟨s, tl, hfl⟩ := swg_flatten r hswg
    exact ⟨_, _, by simp only [if_true, List.nil_append, hfl, List.cons_append]; rfl, rfl, by simp [hfl]⟩

/-- the loop stops at once when the next operator is not tighter than the frame's -/
theorem climb_stops {cg : Bytes → Except Err (Parsed α)} (op : Bytes) (lv : Nat)
    (hlv : level orderOfOps op = some lv) (t : Tree) (e : Expr α) (rest : List Token)
    (hnext : rest = [] ∨ ∃ tk tl op2 c2, rest = tk :: tl ∧ getNextOp tk = .ok (op2, c2) ∧
      ∀ y, level orderOfOps op2 = some y → lv ≤ y) :
    ∃ e', climb A cg 1 op (t, e) rest = .ok ((t, e'), rest) := by
  rcases hnext with rfl | ⟨tk, tl, op2, c2, rfl, hop, hle⟩
  · exact ⟨_, rfl⟩
  · obtain ⟨r, hr, hne⟩ := order_not_one.mpr ⟨lv, hlv, hle⟩
    have hr' : opCodeOrder op op2 = .ok r := hr
    exact ⟨e, by simp only [climb, hop, hr', hne, if_false]⟩

/-- Continuing the loop from an accumulated operand `t` is what parsing the tokens of `t` afresh arrives at. -/
theorem climb_complete {cg : Bytes → Except Err (Parsed α)} {N : Nat} (hcgc : HcgC A cg N) :
    ∀ t : Tree, WellPrec orderOfOps t → Deep tok t → Lits A t → GrpLt N t.flatten →
      ∀ (last : Bytes) (rest : List Token) (t' : Tree) (rest' : List Token) (f : Nat) (e e' : Expr α),
        climb A cg f last (t, e) rest = .ok ((t', e'), rest') →
        (∀ x, t.rootLvl orderOfOps = some x → ∀ l, level orderOfOps last = some l → x < l) →
        (∀ x y, t.rootLvl orderOfOps = some x → headLvl rest = some y → x ≤ y) →
        ∃ a ea toksA f2 e2', getNextExpr A cg (t.flatten ++ rest) = .ok ((a, ea), toksA) ∧
          climb A cg f2 last (a, ea) toksA = .ok ((t', e2'), rest') := by
  intro t
  induction t with
  | bin imp op l r ihl ihr =>
    intro hwp hd hl hg last rest t' rest' f e e' h htight hstop
    cases hwp with
    | bin _ _ _ _ lv hwl hwr hlv hleft hright himp =>
    cases hd with
    | bin _ _ _ _ hdl hdr =>
    obtain ⟨hll, hlr⟩ := (lits_bin A).mp hl
    obtain ⟨hgl, hgr⟩ := grpLt_bin hg
    have hroot : (Tree.bin imp op l r).rootLvl orderOfOps = some lv := hlv
    -- what follows the whole node does not bind tighter than `op`
    have hnext : rest = [] ∨ ∃ tk tl op2 c2, rest = tk :: tl ∧ getNextOp tk = .ok (op2, c2) ∧
        ∀ y, level orderOfOps op2 = some y → lv ≤ y := by
      cases rest with
      | nil => exact .inl rfl
      | cons tk tl =>
        cases f with
        | zero => cases h
        | succ f =>
          simp only [climb] at h
          cases hop : getNextOp tk with
          | error err => rw [hop] at h; cases h
          | ok oc =>
            exact .inr ⟨tk, tl, oc.1, oc.2, rfl, hop, fun y hy =>
              hstop lv y hroot (by simp only [headLvl, hop, hy])⟩
    -- the right operand, parsed in the frame of `op`
    obtain ⟨er0, hstopR⟩ := climb_stops A (cg := cg) op lv hlv r (.val A.zero) rest hnext
    obtain ⟨a1, ea1, toksA1, f2, er2, hne1, hcl1⟩ := ihr hwr hdr hlr hgr op rest r rest 1 _ _ hstopR
      (by intro x hx l' hl'; rw [hlv] at hl'; cases hl'; exact hright x hx)
      (by
        intro x y hx hy
        have hxl := hright x hx
        rcases hnext with rfl | ⟨tk, tl, op2, c2, rfl, hop, hle⟩
        · cases hy
        · simp only [headLvl, hop] at hy
          have := hle y hy
          omega)
    -- the loop over `l` takes the operator and the right operand
    have hopOrd : opCodeOrder last op = .ok 1 :=
      order_one.mpr ⟨lv, hlv, fun la hla => htight lv hroot la hla⟩
    obtain ⟨tk, tl, hcons, hop, htl⟩ := bin_head hlv himp rest
    let g := (r.flatten ++ rest).length + 1
    have lenA1 : toksA1.length < (r.flatten ++ rest).length := getNextExpr_len A _ _ _ hne1
    have hcl1g : climb A cg g op (a1, ea1) toksA1 = .ok ((r, er2), rest) :=
      climb_suff A g _ _ _ _ _ hcl1 (by omega)
    obtain ⟨e3, h3⟩ := climb_tree_indep A _ _ _ _ _ _ _ h
      (Expr.bin op (simplify A (.val A.zero)) (simplify A er2))
    have hC : climb A cg (g + 1) last (l, .val A.zero) (tk :: tl) = .ok ((t', e3), rest') := by
      simp only [climb, hop, hopOrd, if_true, htl, hne1, hcl1g, Bool.not_not]
      exact climb_suff A g _ _ _ _ _ h3 (by simp only [g, List.length_append]; omega)
    obtain ⟨a, ea, toksA, f3, e3', hne, hcl⟩ := ihl hwl hdl hll hgl last _ t' rest' _ _ _ hC
      (by intro x hx l' hl'; have := hleft x hx; have := htight lv hroot l' hl'; omega)
      (by
        intro x y hx hy
        simp only [headLvl, hop, hlv, Option.some.injEq] at hy
        subst hy; exact hleft x hx)
    exact ⟨a, ea, toksA, f3, e3', by rw [← hne, ← hcons]; simp only [Tree.flatten, List.append_assoc], hcl⟩
  | _ =>
    intro hwp hd hl hg last rest t' rest' f e e' h _ _
    obtain ⟨ea, hea⟩ := atom_complete A hcgc _ rfl hwp hd hl hg rest
    obtain ⟨e2', h2⟩ := climb_tree_indep A _ _ _ _ _ _ _ h ea
    exact ⟨_, ea, rest, f, e2', hea, h2⟩

theorem compileTokens_complete {cg : Bytes → Except Err (Parsed α)} {N : Nat} (hcgc : HcgC A cg N)
    (t : Tree) (hwp : WellPrec orderOfOps t) (hd : Deep tok t) (hl : Lits A t) (hg : GrpLt N t.flatten) :
    ∃ e, compileTokens A cg t.flatten = .ok (t, e) := by
  have h0 : climb A cg 1 [] (t, Expr.val A.zero) [] = .ok ((t, simplify A (Expr.val A.zero)), []) := rfl
  obtain ⟨a, ea, toksA, f2, e2', hne, hcl⟩ := climb_complete A hcgc t hwp hd hl hg [] [] t [] 1 _ _ h0
    (by intro x _ l hl'; rw [level_empty] at hl'; cases hl')
    (by intro x y _ hy; cases hy)
  rw [List.append_nil] at hne
  have := climb_suff A (toksA.length + 1) _ _ _ _ _ hcl (Nat.lt_succ_self _)
  exact ⟨e2', by simp only [compileTokens, hne, this]⟩

theorem compileF_complete (f : Nat) (s : Bytes) (t : Tree) (hlen : s.length < f) (htok : tok s = some t.flatten)
    (hwp : WellPrec orderOfOps t) (hd : Deep tok t) (hl : Lits A t) : ∃ e, compileF A f s = .ok (t, e) := by
  induction f generalizing s t with
  | zero => omega
  | succ f ih =>
    obtain ⟨e, he⟩ := compileTokens_complete A (cg := compileF A f) (N := s.length)
      (fun s0 e0 hl0 => ih s0 e0 (by omega)) t hwp hd hl (tok_group_len htok)
    unfold tok at htok
    split at htok <;> cases htok
    exact ⟨e, by simp only [compileF, ‹tokenize s = _›, he]⟩

/-- The parse depends on the arithmetic only through the literals it accepts. -/
theorem compile_transfer {β : Type} (B : Arith β) (hcl : ∀ v, (classify B v).isSome = (classify A v).isSome)
    (s : Bytes) (t : Tree) (e : Expr α) (h : compile A s = .ok (t, e)) : ∃ e', compile B s = .ok (t, e') := by
  obtain ⟨htok, g⟩ := compileF_post A _ s t e h
  exact compileF_complete B _ s t (Nat.lt_succ_self _) htok g.wp g.deep (by unfold Lits; rw [funext hcl]; exact g.lits)

/-! ### replacing constants by variables bound to the same value (and back) -/

/-- `t'` is `t` with literal leaves replaced (anywhere, also inside groups, whose text then
    changes too) by literals that denote, under `b'`, the value the old ones denote under `b`. -/
inductive LitSubst (b b' : Binding α) : Tree → Tree → Prop
  | lit (v v' : Bytes) (a a' : Atom α) : classify A v = some a → classify A v' = some a' →
      a.eval b = a'.eval b' → LitSubst b b' (.lit v) (.lit v')
  | grp (s s' : Bytes) (e e' : Tree) : LitSubst b b' e e' → LitSubst b b' (.grp s e) (.grp s' e')
  | un (m : Bytes) (e e' : Tree) : LitSubst b b' e e' → LitSubst b b' (.un m e) (.un m e')
  | bin (i : Bool) (op : Bytes) (l l' r r' : Tree) : LitSubst b b' l l' → LitSubst b b' r r' →
      LitSubst b b' (.bin i op l r) (.bin i op l' r')

variable {A}

theorem LitSubst.eval_eq {b b' : Binding α} {t t' : Tree} (h : LitSubst A b b' t t') :
    t.eval A (classify A) b = t'.eval A (classify A) b' := by
  induction h with
  | lit v v' a a' h1 h2 h3 => simp only [Tree.eval, h1, h2, h3]
  | grp s s' e e' _ ih => simp only [Tree.eval, ih]
  | un m e e' _ ih => simp only [Tree.eval, ih]
  | bin i op l l' r r' _ _ ihl ihr => simp only [Tree.eval, ihl, ihr]

theorem LitSubst.shape {b b' : Binding α} {t t' : Tree} (h : LitSubst A b b' t t') :
    t'.isAtom = t.isAtom ∧ t'.rootLvl orderOfOps = t.rootLvl orderOfOps ∧
    t'.startsWithGroup = t.startsWithGroup := by
  induction h with
  | lit v v' a a' _ _ _ => exact ⟨rfl, rfl, rfl⟩
  | grp s s' e e' _ _ => exact ⟨rfl, rfl, rfl⟩
  | un m e e' _ _ => exact ⟨rfl, rfl, rfl⟩
  | bin i op l l' r r' _ _ ihl _ => exact ⟨rfl, rfl, by simp only [Tree.startsWithGroup, ihl.2.2]⟩

theorem LitSubst.wp {b b' : Binding α} {t t' : Tree} (h : LitSubst A b b' t t')
    (hwp : WellPrec orderOfOps t) : WellPrec orderOfOps t' := by
  induction h with
  | lit v v' a a' _ _ _ => exact WellPrec.lit _
  | grp s s' e e' _ ih => cases hwp with | grp _ _ h0 => exact WellPrec.grp _ _ (ih h0)
  | un m e e' hs ih =>
    cases hwp with
    | un _ _ hat h0 => exact WellPrec.un _ _ (by rw [hs.shape.1]; exact hat) (ih h0)
  | bin i op l l' r r' hl hr ihl ihr =>
    cases hwp with
    | bin _ _ _ _ lv hwl hwr hlv hleft hright himp =>
      refine WellPrec.bin _ _ _ _ lv (ihl hwl) (ihr hwr) hlv ?_ ?_ ?_
      · intro x hx; rw [hl.shape.2.1] at hx; exact hleft x hx
      · intro x hx; rw [hr.shape.2.1] at hx; exact hright x hx
      · intro hi; rw [hr.shape.2.2]; exact himp hi

theorem LitSubst.lits {b b' : Binding α} {t t' : Tree} (h : LitSubst A b b' t t') : Lits A t' := by
  induction h with
  | lit v v' a a' _ h2 _ => simp only [Lits, Tree.allLits, h2]; rfl
  | grp s s' e e' _ ih => exact ih
  | un m e e' _ ih => exact ih
  | bin i op l l' r r' _ _ ihl ihr =>
    simp only [Lits, Tree.allLits, Bool.and_eq_true]
    exact ⟨ihl, ihr⟩

end Rare.C19

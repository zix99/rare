import Rare.Proofs.C15Notify
/-!
C15 – progress and measures for the notify system: with a silent writer the kernel goroutine and
the reader (a) deliver a byte after finitely many steps whenever unread bytes exist in the file in
place, (b) end the stream after finitely many steps once the file was removed (plain follow),
(c) open the file at the path after finitely many steps (re-open follow).

`sys_step_cases` says what one step of goroutine or reader does to the open handle and to the work
measure `nmu`; the measure lemmas are read off it.  The "eventually" theorems are instances of `descent`.
-/
namespace Rare.Follow
open Rare.C15.Spec

variable {β : Type} {cfg : NCfg} {ex : Bool} {st0 : Nat}

def rdW : NRd → Nat
  | .reading => 1
  | _ => 0

/-- Work left for kernel goroutine and reader before the reader blocks (one dispatched event leaves at most
    two tokens: a Create raises both signals in re-open mode). -/
def nmu (s : NSt β) : Nat := 5 * s.evq.length + 2 * (s.pw + s.pd) + rdW s.rd

def unreadLen (s : NSt β) : Nat :=
  match s.f with
  | some h => (unread s.fs h).length
  | none => 0

/-- Total work left, counting the unread bytes of the open file. -/
def nmuP (s : NSt β) : Nat := nmu s + unreadLen s

def onPath (s : NSt β) (j : Nat) : Prop := ∃ x, s.f = some x ∧ x.ino = j

theorem sendNB_le_succ (cap n : Nat) : sendNB cap n ≤ n + 1 := by
  unfold sendNB; split <;> omega

theorem dispatch1_pw_pd (cfg : NCfg) (s : NSt β) (e : Ev) :
    (dispatch1 cfg s e).pw + (dispatch1 cfg s e).pd ≤ s.pw + s.pd + 2 := by
  cases e <;> simp only [dispatch1]
  · have := sendNB_le_succ cfg.capW s.pw; omega
  · have := sendNB_le_succ cfg.capD s.pd; omega
  · have := sendNB_le_succ cfg.capW s.pw
    have := sendNB_le_succ cfg.capD s.pd
    split <;> omega
  · omega

theorem sameFile_iff_onPath {s : NSt β} {j : Nat} (hp : s.fs.path = some j) : sameFile s = true ↔ onPath s j := by
  rw [sameFile_iff, hp]
  simp only [Option.some.injEq, onPath, eq_comm]

/-- **What one step of the fsnotify goroutine or the reader does.**  The file system is not touched.  Either the
    step is a `Read` that returns bytes, or nothing is delivered, `nmu` drops, and the open handle is kept,
    replaced by a fresh one on the path (re-open follow, the path does not hold the open file) or closed for
    good (plain follow, on a delete signal). -/
theorem sys_step_cases {w : Who} {s s' : NSt β} (hw : w ≠ .writer) (hs : NStep cfg w s s') :
    s'.fs = s.fs ∧ s'.removes = s.removes ∧
    ((∃ x n, s.rd = .reading ∧ s.f = some x ∧ 1 ≤ n ∧ n ≤ (unread s.fs x).length ∧
        s' = { s with f := some { x with pos := x.pos + n }, delivered := s.delivered ++ (unread s.fs x).take n }) ∨
     (s'.delivered = s.delivered ∧ nmu s' < nmu s ∧
      ((s'.f = s.f ∧ (s'.rd = .ended → s.rd = .ended)) ∨
       (cfg.reopen = true ∧ sameFile s = false ∧ s'.f = openAt s.fs 0 ∧ s'.rd = .reading) ∨
       (cfg.reopen = false ∧ 0 < s.pd ∧ s'.f = none)))) := by
  cases hs with
  | dispatch _ e rest he =>
    rw [dispatch1_eq]
    refine ⟨rfl, rfl, Or.inr ⟨rfl, ?_, Or.inl ⟨rfl, id⟩⟩⟩
    have := dispatch1_pw_pd cfg { s with evq := rest } e
    simp only [nmu, he, List.length_cons] at this ⊢
    omega
  | readSome _ x n hrd hf h1 hn => exact ⟨rfl, rfl, Or.inl ⟨x, n, hrd, hf, h1, hn, rfl⟩⟩
  | readEmpty _ x hrd hf hu =>
    exact ⟨rfl, rfl, Or.inr ⟨rfl, by simp [nmu, hrd, rdW], Or.inl ⟨rfl, by simp⟩⟩⟩
  | readNil _ hrd hf =>
    exact ⟨rfl, rfl, Or.inr ⟨rfl, by simp [nmu, hrd, rdW], Or.inl ⟨rfl, by simp⟩⟩⟩
  | recvW _ hrd hpw =>
    cases hopen : (s.f.isNone && cfg.reopen) with
    | true =>
      simp only [Bool.and_eq_true, Option.isNone_iff_eq_none] at hopen
      rw [onWrite_open (s := { s with pw := s.pw - 1 }) hopen.1 hopen.2]
      refine ⟨rfl, rfl, Or.inr ⟨rfl, ?_, Or.inr (Or.inl ⟨hopen.2, by simp [sameFile, hopen.1], rfl, rfl⟩)⟩⟩
      simp only [nmu, hrd, rdW]; omega
    | false =>
      rw [onWrite_noop (s := { s with pw := s.pw - 1 }) hopen]
      refine ⟨rfl, rfl, Or.inr ⟨rfl, ?_, Or.inl ⟨rfl, by simp⟩⟩⟩
      simp only [nmu, hrd, rdW]; omega
  | recvD _ hrd hpd hre =>
    cases hsame : sameFile s with
    | true =>
      rw [reopenIfReplaced_same (s := { s with pd := s.pd - 1 }) hsame]
      refine ⟨rfl, rfl, Or.inr ⟨rfl, ?_, Or.inl ⟨rfl, by simp⟩⟩⟩
      simp only [nmu, hrd, rdW]; omega
    | false =>
      rw [reopenIfReplaced_other (s := { s with pd := s.pd - 1 }) hsame]
      refine ⟨rfl, rfl, Or.inr ⟨rfl, ?_, Or.inr (Or.inl ⟨hre, rfl, rfl, rfl⟩)⟩⟩
      simp only [nmu, hrd, rdW]; omega
  | recvDPlain _ hrd hpd hre =>
    refine ⟨rfl, rfl, Or.inr ⟨rfl, ?_, Or.inr (Or.inr ⟨hre, hpd, rfl⟩)⟩⟩
    simp only [nmu, NSt.closeFile, hrd, rdW]; omega
  | _ => exact absurd rfl hw

/-- Every step of the kernel goroutine or the reader either delivers at least one byte or strictly
    decreases `nmu`. -/
theorem nstep_measure {w : Who} {s s' : NSt β} (hw : w ≠ .writer) (hs : NStep cfg w s s') :
    (∃ bs, bs ≠ [] ∧ s'.delivered = s.delivered ++ bs) ∨ nmu s' < nmu s := by
  obtain ⟨_, _, ⟨x, n, _, _, h1, hn, rfl⟩ | ⟨_, hlt, _⟩⟩ := sys_step_cases hw hs
  · exact Or.inl ⟨_, take_ne_nil h1 hn, rfl⟩
  · exact Or.inr hlt

/-- In terms of `nmuP`: a step that does not re-open decreases it, and unless it closes the file for good it
    leaves the reader with a handle on the same inode. -/
theorem sys_step_nmuP {w : Who} {s s' : NSt β} (hw : w ≠ .writer) (hs : NStep cfg w s s') :
    (nmuP s' < nmuP s ∧ ((∀ j, onPath s j → onPath s' j) ∨ (cfg.reopen = false ∧ 0 < s.pd))) ∨
    (cfg.reopen = true ∧ sameFile s = false ∧ s'.f = openAt s.fs 0) := by
  obtain ⟨hfs, _, ⟨x, n, _, hf, h1, hn, rfl⟩ | ⟨_, hlt, ⟨hf, _⟩ | ⟨hre, hsf, hf, _⟩ | ⟨hre, hpd, hf⟩⟩⟩ :=
    sys_step_cases hw hs
  · refine Or.inl ⟨?_, Or.inl ?_⟩
    · simp only [nmuP, nmu, unreadLen, hf, unread, List.length_drop] at hn ⊢
      omega
    · rintro j ⟨y, hy, hj⟩
      rw [hf] at hy; cases hy
      exact ⟨_, rfl, hj⟩
  · refine Or.inl ⟨?_, Or.inl fun j hj => by rw [onPath, hf]; exact hj⟩
    simp only [nmuP, unreadLen, hf, hfs]; omega
  · exact Or.inr ⟨hre, hsf, hf⟩
  · refine Or.inl ⟨?_, Or.inr ⟨hre, hpd⟩⟩
    simp only [nmuP, unreadLen, hf]; omega

/-- A step of kernel goroutine / reader either leaves the reader with the file at the path open (a re-open), or
    strictly decreases `nmuP`. -/
theorem reopen_step_measure {w : Who} {s s' : NSt β} (hw : w ≠ .writer) (hs : NStep cfg w s s') (j : Nat)
    (hp : s.fs.path = some j) : onPath s' j ∨ nmuP s' < nmuP s := by
  rcases sys_step_nmuP hw hs with ⟨hlt, _⟩ | ⟨_, _, hf⟩
  · exact Or.inr hlt
  · exact Or.inl ⟨⟨j, 0, 0⟩, by rw [hf]; simp [openAt, hp], rfl⟩

/-- Plain follow: every step of kernel goroutine / reader strictly decreases `nmuP`. -/
theorem plain_step_measure {w : Who} {s s' : NSt β} (hw : w ≠ .writer) (hs : NStep cfg w s s')
    (hre : cfg.reopen = false) : nmuP s' < nmuP s := by
  rcases sys_step_nmuP hw hs with ⟨hlt, _⟩ | ⟨hre', _⟩
  · exact hlt
  · rw [hre] at hre'; cases hre'

/-! ### some step is enabled -/

/-- at the top of its loop the reader can always do its `Read` -/
theorem reading_enabled {s : NSt β} (hrd : s.rd = .reading) : ∃ w s', w ≠ Who.writer ∧ NStep cfg w s s' := by
  cases hf : s.f with
  | none => exact ⟨.reader, _, by simp, .readNil s hrd hf⟩
  | some x =>
    cases hu : unread s.fs x with
    | nil => exact ⟨.reader, _, by simp, .readEmpty s x hrd hf hu⟩
    | cons a l => exact ⟨.reader, _, by simp, .readSome s x 1 hrd hf (Nat.le_refl 1) (by rw [hu]; simp)⟩

/-- a queued event can be dispatched -/
theorem dispatch_enabled {s : NSt β} {e : Ev} (he : e ∈ s.evq) : ∃ w s', w ≠ Who.writer ∧ NStep cfg w s s' := by
  cases hev : s.evq with
  | nil => rw [hev] at he; cases he
  | cons e' rest => exact ⟨.kernel, _, by simp, .dispatch s e' rest hev⟩

/-- No lost wake-up, operational form: unread bytes in the open file ⇒ some non-writer step is enabled. -/
theorem unread_progress {s : NSt β} (h : NInv cfg ex st0 s) (x : Handle) (hf : s.f = some x)
    (hu : unread s.fs x ≠ []) (hne : s.rd ≠ .ended) : ∃ w s', w ≠ Who.writer ∧ NStep cfg w s s' := by
  cases hrd : s.rd with
  | ended => exact absurd hrd hne
  | reading => exact reading_enabled hrd
  | selecting =>
    rcases h.wake x hf hu with h1 | h1 | h1
    · exact ⟨.reader, _, by simp, .recvW s hrd h1⟩
    · exact dispatch_enabled h1
    · exact absurd hrd h1

/-- No lost re-open: in re-open mode, when a file is at the path, the reader has it open or a signal that
    makes it look is pending. -/
theorem reopen_pending {s : NSt β} (h : NInv cfg ex st0 s) (hre : cfg.reopen = true) (j : Nat)
    (hp : s.fs.path = some j) :
    onPath s j ∨ 0 < s.pw ∨ Ev.create ∈ s.evq ∨ 0 < s.pd ∨ Ev.remove ∈ s.evq := by
  cases hf : s.f with
  | none => exact Or.inr (h.fresh hre hf j hp)
  | some x =>
    by_cases hx : x.ino = j
    · exact Or.inl ⟨x, hf, hx⟩
    · have hne : s.fs.path ≠ some x.ino := by
        intro he; rw [hp] at he; exact hx (Option.some.inj he).symm
      rcases h.gone x hf hne with h1 | h1 | ⟨_, h1⟩
      · exact Or.inr (Or.inr (Or.inr (Or.inl h1)))
      · exact Or.inr (Or.inr (Or.inr (Or.inr h1)))
      · exact Or.inr (Or.inr (Or.inl h1))

/-- …so while the reader does not have that file open, some step of kernel goroutine or reader is enabled. -/
theorem reopen_progress {s : NSt β} (h : NInv cfg ex st0 s) (hre : cfg.reopen = true) (j : Nat)
    (hp : s.fs.path = some j) (hno : ¬ onPath s j) : ∃ w s', w ≠ Who.writer ∧ NStep cfg w s s' := by
  cases hrd : s.rd with
  | ended => have := (h.ended hrd).1; rw [hre] at this; cases this
  | reading => exact reading_enabled hrd
  | selecting =>
    rcases (reopen_pending h hre j hp).resolve_left hno with h1 | h1 | h1 | h1
    · exact ⟨.reader, _, by simp, .recvW s hrd h1⟩
    · exact dispatch_enabled h1
    · exact ⟨.reader, _, by simp, .recvD s hrd h1 hre⟩
    · exact dispatch_enabled h1

/-- Plain follow after a removal: until the stream has ended some step of kernel goroutine / reader is enabled. -/
theorem plain_progress {s : NSt β} (h : NInv cfg ex st0 s) (hre : cfg.reopen = false) (hrm : 0 < s.removes)
    (hne : s.rd ≠ .ended) : ∃ w s', w ≠ Who.writer ∧ NStep cfg w s s' := by
  cases hrd : s.rd with
  | ended => exact absurd hrd hne
  | reading => exact reading_enabled hrd
  | selecting =>
    rcases h.latch hre hrm with h1 | h1 | h1
    · exact absurd h1 hne
    · exact ⟨.reader, _, by simp, .recvDPlain s hrd h1 hre⟩
    · exact dispatch_enabled h1

/-! ### runs of goroutine and reader -/

theorem NSysReach.trans {s s' s'' : NSt β} (h1 : NSysReach cfg s s') (h2 : NSysReach cfg s' s'') :
    NSysReach cfg s s'' := by
  induction h1 with
  | refl => exact h2
  | step hw hs _ ih => exact .step hw hs (ih h2)

/-- runs of goroutine + reader keep the invariant and never touch the file system -/
theorem sysreach_inv (hW : 1 ≤ cfg.capW) (hD : 1 ≤ cfg.capD) {s s' : NSt β} (hr : NSysReach cfg s s')
    (h : NInv cfg ex st0 s) : NInv cfg ex st0 s' ∧ s'.fs = s.fs ∧ s'.removes = s.removes := by
  induction hr with
  | refl => exact ⟨h, rfl, rfl⟩
  | step hw hs _ ih =>
    obtain ⟨h1, h2, h3⟩ := ih (ninv_step hW hD h hs)
    obtain ⟨hfs, hrm, _⟩ := sys_step_cases hw hs
    exact ⟨h1, by rw [h2, hfs], by rw [h3, hrm]⟩

/-- `descent` for runs of goroutine + reader from a state satisfying the invariant -/
theorem sys_descent (hW : 1 ≤ cfg.capW) (hD : 1 ≤ cfg.capD) {P G : NSt β → Prop} (μ : NSt β → Nat)
    (run : ∀ s, NInv cfg ex st0 s → P s → ¬ G s → ∃ s', NSysReach cfg s s' ∧ (G s' ∨ (P s' ∧ μ s' < μ s)))
    {s : NSt β} (h : NInv cfg ex st0 s) (hP : P s) : ∃ s', NSysReach cfg s s' ∧ NInv cfg ex st0 s' ∧ G s' :=
  descent NSysReach.refl NSysReach.trans (fun hr hi => (sysreach_inv hW hD hr hi).1) μ run s h hP

/-- Under a silent writer, unread bytes of the file in place are delivered after finitely many steps
    of kernel goroutine and reader: the reader cannot block for ever in front of unread data. -/
theorem eventually_delivered (hW : 1 ≤ cfg.capW) (hD : 1 ≤ cfg.capD) {s : NSt β} (h : NInv cfg ex st0 s)
    (hex : ex = true) (hr : s.removes = 0) (x : Handle) (hf : s.f = some x) (hu : unread s.fs x ≠ []) (hne : s.rd ≠ .ended) :
    ∃ s' bs, NSysReach cfg s s' ∧ bs ≠ [] ∧ s'.delivered = s.delivered ++ bs := by
  -- until a byte is delivered nothing but the signals and the reader's place in its loop changes
  have := sys_descent hW hD
    (P := fun t => t.removes = 0 ∧ t.f = some x ∧ t.fs = s.fs ∧ t.delivered = s.delivered ∧ t.rd ≠ .ended)
    (G := fun t => ∃ bs, bs ≠ [] ∧ t.delivered = s.delivered ++ bs) nmu ?_ h ⟨hr, hf, rfl, rfl, hne⟩
  · obtain ⟨s', hr', _, bs, hb, hd⟩ := this
    exact ⟨s', bs, hr', hb, hd⟩
  · rintro t ht ⟨htr, htf, htfs, htd, htne⟩ -
    obtain ⟨w, t', hw, hs⟩ := unread_progress ht x htf (by rw [htfs]; exact hu) htne
    refine ⟨t', .step hw hs (.refl _), ?_⟩
    obtain ⟨_, hp0, p, hf0⟩ := ht.inPlace hex htr
    obtain ⟨hfs, hrm, ⟨y, n, _, _, h1, hn, rfl⟩ | ⟨hd, hlt, ⟨hf', hend⟩ | ⟨_, hsf, _⟩ | ⟨_, hpd, _⟩⟩⟩ :=
      sys_step_cases hw hs
    · exact Or.inl ⟨_, take_ne_nil h1 hn, by rw [htd]⟩
    · exact Or.inr ⟨⟨by rw [hrm, htr], by rw [hf', htf], by rw [hfs, htfs], by rw [hd, htd],
        fun he => htne (hend he)⟩, hlt⟩
    · rw [(sameFile_iff t).mpr ⟨_, hf0, hp0⟩] at hsf; cases hsf
    · rcases ht.dSig (Or.inl hpd) with h1 | ⟨_, h2⟩
      · omega
      · rw [h2] at hex; cases hex

/-- Re-open follow: with a silent writer the file at the path ends up open. -/
theorem eventually_reopened (hW : 1 ≤ cfg.capW) (hD : 1 ≤ cfg.capD) (hre : cfg.reopen = true) (j : Nat)
    {s : NSt β} (h : NInv cfg ex st0 s) (hp : s.fs.path = some j) :
    ∃ s', NSysReach cfg s s' ∧ onPath s' j := by
  have := sys_descent hW hD (P := fun t => t.fs.path = some j) (G := fun t => onPath t j) nmuP ?_ h hp
  · obtain ⟨s', hr', _, ho⟩ := this
    exact ⟨s', hr', ho⟩
  intro t ht htp hno
  obtain ⟨w, t', hw, hs⟩ := reopen_progress ht hre j htp hno
  refine ⟨t', .step hw hs (.refl _), (reopen_step_measure hw hs j htp).imp_right fun hlt => ⟨?_, hlt⟩⟩
  rw [(sys_step_cases hw hs).1]; exact htp

/-- Plain follow: once the file was removed, with a silent writer the stream ends. -/
theorem plain_ends (hW : 1 ≤ cfg.capW) (hD : 1 ≤ cfg.capD) (hre : cfg.reopen = false) {s : NSt β}
    (h : NInv cfg ex st0 s) (hrm : 0 < s.removes) : ∃ s', NSysReach cfg s s' ∧ s'.rd = .ended := by
  have := sys_descent hW hD (P := fun t => 0 < t.removes) (G := fun t => t.rd = .ended) nmuP ?_ h hrm
  · obtain ⟨s', hr', _, he⟩ := this
    exact ⟨s', hr', he⟩
  · intro t ht htr hne
    obtain ⟨w, t', hw, hs⟩ := plain_progress ht hre htr hne
    refine ⟨t', .step hw hs (.refl _), Or.inr ⟨?_, plain_step_measure hw hs hre⟩⟩
    rw [(sys_step_cases hw hs).2.1]; exact htr

end Rare.Follow

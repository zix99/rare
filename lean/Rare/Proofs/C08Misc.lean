import Rare.Proofs.C08Arith
import Rare.Model.Expr.Funcs.Misc
/-!
C08 for the `Misc` family: `lookup`, `haskey` (table built at compile time from a constant, for any
table text) and the path helpers `basename`, `dirname`, `extname` are panic-free on safe
arguments, and so is `repeat` (negative counts and outputs above 1 MiB yield `<VALUE>`).  No builder
of this family answers `unmodelled`.
-/
namespace Rare.Expr.Funcs.Misc
open Rare.Expr

theorem lookupBuilder_safe (render : Option Bytes → Bytes) : SafeBuilder (lookupBuilder render) := by
  intro args h
  show SafeResult _
  refine .ite SafeResult.errArgCount ?_
  split
  · rename_i a0 a1 rest
    obtain ⟨v, b, hp⟩ := (h a1 (by simp)).probe
    rw [hp]
    cases b with
    | false => exact SafeResult.errConst
    | true =>
      simp only []
      obtain ⟨cp, hcp⟩ := evalStageIndexOrDefault_safe h 2 []
      rw [hcp]
      exact SafeResult.ok (Safe.bind' (h a0 (by simp)) fun key => Safe.pure _)
  · exact SafeResult.errArgCount

theorem pathHelper_safe (f : Bytes → Bytes) : SafeBuilder (pathHelper f) := by
  intro args h
  show SafeResult _
  unfold pathHelper
  split
  · rename_i a
    exact SafeResult.ok (Safe.bind' (h a (by simp)) fun v => Safe.pure _)
  · exact SafeResult.errArgCount

theorem kfRepeat_safe : SafeBuilder kfRepeat := by
  intro args h
  show SafeResult _
  unfold kfRepeat
  split
  · rename_i a0 a1
    obtain ⟨v, b, hp⟩ := (h a0 (by simp)).probe
    rw [hp]
    cases b with
    | false => exact SafeResult.errConst
    | true =>
      apply SafeResult.ok
      apply Safe.bind' (h a1 (by simp))
      intro c
      cases atoi c with
      | none => exact Safe.pure _
      | some count => exact .ite (Safe.pure _) (.ite (Safe.pure _) (Safe.pure _))
  · exact SafeResult.errArgCount

/-- Builders that can answer `unmodelled`: none in this family. -/
def miscUnmodelled : List String := []

theorem misc_safe : ∀ p ∈ table, SafeBuilder p.2 := by
  simp only [table, List.forall_mem_cons, List.not_mem_nil, false_imp_iff, implies_true, and_true]
  exact ⟨lookupBuilder_safe _, lookupBuilder_safe _, kfRepeat_safe, pathHelper_safe _, pathHelper_safe _, pathHelper_safe _⟩

end Rare.Expr.Funcs.Misc

import Rare.Proofs.C09Errors
import Rare.Proofs.C09Digits
/-! C09: a printed expression tree as a layout of pieces; what the splitter returns for a printed statement.
    (The compile half – optimiser on or off – is `printTop_denV` in `Rare/Proofs/C09DenV.lean`.) -/
namespace Rare.C09
open Rare Rare.Expr

/-! ### the printed text as a layout of pieces -/

/-- What the splitter hands to the nested `Compile` for an argument. -/
def argString (σ : Style) : C09.Expr → List Char
  | .lit s => s
  | .group n => printArg σ (.group n)
  | .key k => printArg σ (.key k)
  | .call f args => printArg σ (.call f args)

def argStrings (σ : Style) : Nat → List C09.Expr → List (List Char)
  | _, [] => []
  | i, a :: rest => argString (σ.child i) a :: argStrings σ (i + 1) rest

def stmtBody (σ : Style) : C09.Expr → List Char
  | .lit _ => []
  | .group n => ws (σ []).lead ++ decimal n ++ ws (σ []).trail
  | .key k => ws (σ []).lead ++ k ++ ws (σ []).trail
  | .call f args => ws (σ []).lead ++ f ++ printArgs σ 0 args ++ ws (σ []).trail

def argPiece (σ : Style) : C09.Expr → Piece
  | .lit s => if (σ []).quote || !bare s then .quoted s else .bare s
  | e => .braced (stmtBody σ e)

def argLayout (σ : Style) : Nat → List C09.Expr → List (List Char × Piece)
  | _, [] => []
  | i, a :: rest => (sepWs ((σ []).sep i), argPiece (σ.child i) a) :: argLayout σ (i + 1) rest

theorem argPiece_text (σ : Style) (e : C09.Expr) : (argPiece σ e).text = printArg σ e := by
  cases e with
  | lit s => simp only [argPiece, printArg]; split <;> rfl
  | group n => simp [argPiece, stmtBody, printArg, Piece.text]
  | key k => simp [argPiece, stmtBody, printArg, Piece.text]
  | call f args => simp [argPiece, stmtBody, printArg, Piece.text]

theorem argPiece_value (σ : Style) (e : C09.Expr) : (argPiece σ e).value = argString σ e := by
  cases e with
  | lit s => simp only [argPiece, argString]; split <;> rfl
  | group n => simp [argPiece, stmtBody, printArg, Piece.value, argString]
  | key k => simp [argPiece, stmtBody, printArg, Piece.value, argString]
  | call f args => simp [argPiece, stmtBody, printArg, Piece.value, argString]

theorem printArgs_layout (σ : Style) : ∀ (l : List C09.Expr) (i : Nat), printArgs σ i l = layout (argLayout σ i l)
  | [], i => by simp [printArgs, argLayout, layout]
  | a :: rest, i => by
    simp only [printArgs, argLayout, layout, argPiece_text]
    rw [printArgs_layout σ rest (i + 1)]

theorem argLayout_values (σ : Style) : ∀ (l : List C09.Expr) (i : Nat),
    (argLayout σ i l).map (·.2.value) = argStrings σ i l
  | [], i => by simp [argLayout, argStrings]
  | a :: rest, i => by
    simp only [argLayout, argStrings, List.map_cons, argPiece_value]
    rw [argLayout_values σ rest (i + 1)]

theorem isSpace_wsChar (n : Nat) : isSpace (wsChar n) = true := by
  have h : ∀ k, k < 25 → isSpace (spaceRunes.getD k ' ') = true := by decide +kernel
  exact h (n % 25) (Nat.mod_lt _ (by decide))

theorem allSpace_ws (l : WsRun) : allSpace (ws l) = true := by
  simp only [allSpace, ws, List.all_map, List.all_eq_true]
  intro b _
  exact isSpace_wsChar b

/-- Every `White_Space` rune is one of the 25 a style can name. -/
theorem wsChar_complete (c : Char) (h : isSpace c = true) : ∃ n, wsChar n = c := by
  have hc : c = Char.ofNat c.toNat := by simp
  have hn : c.toNat ∈ [0x20, 9, 10, 11, 12, 13, 0x85, 0xA0, 0x1680, 0x2000, 0x2001, 0x2002, 0x2003, 0x2004, 0x2005,
      0x2006, 0x2007, 0x2008, 0x2009, 0x200a, 0x2028, 0x2029, 0x202f, 0x205f, 0x3000] := by
    simp only [isSpace, Bool.or_eq_true, Bool.and_eq_true, decide_eq_true_eq, beq_iff_eq] at h
    simp only [List.mem_cons, List.not_mem_nil, or_false]
    rcases h with (((((((((h | h) | h) | h) | h) | h) | h) | h) | h) | h) | h <;> omega
  have key : ∀ k ∈ [0x20, 9, 10, 11, 12, 13, 0x85, 0xA0, 0x1680, 0x2000, 0x2001, 0x2002, 0x2003, 0x2004, 0x2005,
      0x2006, 0x2007, 0x2008, 0x2009, 0x200a, 0x2028, 0x2029, 0x202f, 0x205f, 0x3000],
      ∃ n, n < 25 ∧ wsChar n = Char.ofNat k := by decide +kernel
  obtain ⟨n, _, hn'⟩ := key _ hn
  exact ⟨n, by rw [hn', ← hc]⟩

theorem bare_decimal (n : Nat) : bare (decimal n) = true := by
  have hd : ∀ d, d < 10 → (!special (digitChar d) && !isSpace (digitChar d)) = true := by decide +kernel
  induction n using Nat.strongRecOn with
  | _ n ih =>
    rw [decimal]
    by_cases h : n < 10
    · simp only [h, dif_pos, bare, List.isEmpty_cons, Bool.not_false, List.all_cons, List.all_nil, Bool.and_true,
        Bool.true_and]
      exact hd n h
    · simp only [h, dif_neg, not_false_eq_true]
      have := ih (n / 10) (by omega)
      simp only [bare, Bool.and_eq_true] at this ⊢
      refine ⟨by simp, ?_⟩
      rw [List.all_append, this.2]
      simp only [List.all_cons, List.all_nil, Bool.and_true, Bool.true_and]
      exact hd (n % 10) (by omega)

mutual
theorem argPiece_ok : ∀ (e : C09.Expr) (σ : Style), Admissible e → (argPiece σ e).ok
  | .lit s, σ, h => by
    simp only [Admissible] at h
    simp only [argPiece]
    split
    · exact h
    · next hq =>
      simp only [Bool.or_eq_true, Bool.not_eq_true', not_or, Bool.not_eq_true, Bool.not_eq_false] at hq
      exact hq.2
  | .group n, σ, _ => by
    have hl : LayoutOk true [(ws (σ []).lead, Piece.bare (decimal n))] :=
      ⟨allSpace_ws _, Or.inl rfl, bare_decimal n, trivial⟩
    have := inner_append (inner_layout _ true hl) (inner_of_plain (plain_of_space (allSpace_ws (σ []).trail)))
    simpa [argPiece, stmtBody, Piece.ok, layout, Piece.text] using this
  | .key k, σ, h => by
    simp only [Admissible] at h
    have hl : LayoutOk true [(ws (σ []).lead, Piece.bare k)] := ⟨allSpace_ws _, Or.inl rfl, h.1, trivial⟩
    have := inner_append (inner_layout _ true hl) (inner_of_plain (plain_of_space (allSpace_ws (σ []).trail)))
    simpa [argPiece, stmtBody, Piece.ok, layout, Piece.text] using this
  | .call f args, σ, h => by
    simp only [Admissible] at h
    have hl : LayoutOk true ((ws (σ []).lead, Piece.bare f) :: argLayout σ 0 args) :=
      ⟨allSpace_ws _, Or.inl rfl, h.1, argLayout_ok args σ 0 h.2.2⟩
    have := inner_append (inner_layout _ true hl) (inner_of_plain (plain_of_space (allSpace_ws (σ []).trail)))
    simpa [argPiece, stmtBody, Piece.ok, layout, Piece.text, printArgs_layout] using this
theorem argLayout_ok : ∀ (l : List C09.Expr) (σ : Style) (i : Nat), AdmissibleArgs l → LayoutOk false (argLayout σ i l)
  | [], _, _, _ => trivial
  | a :: rest, σ, i, h => by
    simp only [AdmissibleArgs] at h
    exact ⟨allSpace_ws _, Or.inr (by simp [sepWs, ws]), argPiece_ok a (σ.child i) h.1, argLayout_ok rest σ (i + 1) h.2⟩
end

/-! ### what the splitter returns for a printed statement body -/

theorem split_call (σ : Style) (f : List Char) (args : List C09.Expr) (h : Admissible (.call f args)) :
    splitArgs (stmtBody σ (.call f args)) = f :: argStrings σ 0 args := by
  simp only [Admissible] at h
  have hl : LayoutOk true ((ws (σ []).lead, Piece.bare f) :: argLayout σ 0 args) :=
    ⟨allSpace_ws _, Or.inl rfl, h.1, argLayout_ok args σ 0 h.2.2⟩
  have := splitArgs_layout _ (ws (σ []).trail) hl (allSpace_ws _)
  simp only [List.map_cons, argLayout_values] at this
  have this' : splitArgs (layout ((ws (σ []).lead, Piece.bare f) :: argLayout σ 0 args) ++ ws (σ []).trail) =
      f :: argStrings σ 0 args := this
  rw [← this']
  simp [stmtBody, layout, Piece.text, printArgs_layout]

theorem split_word (σ : Style) (w : List Char) (h : bare w = true) :
    splitArgs (ws (σ []).lead ++ w ++ ws (σ []).trail) = [w] := by
  have hl : LayoutOk true [(ws (σ []).lead, Piece.bare w)] := ⟨allSpace_ws _, Or.inl rfl, h, trivial⟩
  have := splitArgs_layout _ (ws (σ []).trail) hl (allSpace_ws _)
  simpa [layout, Piece.text, Piece.value] using this

theorem printArg_stmt (σ : Style) (e : C09.Expr) (h : ∀ s, e ≠ .lit s) :
    printArg σ e = '{' :: (stmtBody σ e ++ ['}']) := by
  cases e with
  | lit s => exact absurd rfl (h s)
  | group n => simp [printArg, stmtBody]
  | key k => simp [printArg, stmtBody]
  | call f args => simp [printArg, stmtBody]

/-! ### compiling the pieces -/

mutual
def depth : C09.Expr → Nat
  | .call _ args => depthArgs args + 1
  | .lit _ => 1
  | .group _ => 1
  | .key _ => 1
def depthArgs : List C09.Expr → Nat
  | [] => 0
  | a :: rest => max (depth a) (depthArgs rest)
end

theorem depth_pos (e : C09.Expr) : 1 ≤ depth e := by cases e <;> simp [depth]

section
variable (reg : Registry) (fn : List Char → List Bytes → Bytes)

theorem run_seq_nil (ctx : Ctx) : (seqStages []).run ctx = .ok [] := rfl

theorem run_seq_cons (s : Stage) (r : List Stage) (ctx : Ctx) (a : Bytes) (b : List Bytes)
    (ha : s.run ctx = .ok a) (hb : (seqStages r).run ctx = .ok b) :
    (seqStages (s :: r)).run ctx = .ok (a :: b) := by
  simp only [seqStages]
  rw [Comp.run_bind, ha]
  simp only []
  rw [Comp.run_bind, hb]
  rfl

end


end Rare.C09

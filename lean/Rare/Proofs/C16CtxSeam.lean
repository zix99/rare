import Rare.Proofs.C16Seam
import Rare.Proofs.C16Ctx
/-! C16's model of the whole `GetKey` (`Ctx.getKey`) and C02's (`C02.getKey`) are one function. -/
namespace Rare.C16

theorem arrayGo_done (half i : Nat) (get : Nat → Except String Bytes) (hlt : ¬ i < half) (n : Nat) :
    C02.arrayGo get half n i = .ok [] := by
  cases n with
  | zero => simp [C02.arrayGo]
  | succ n => simp [C02.arrayGo, hlt]

/-- the left fold of `Ctx.array` and the fuelled loop of C02's `array`, over an abstract `GetMatch` -/
theorem arrayStep_fold (c : Ctx) (get : Nat → Except String Bytes)
    (hget : ∀ i : Nat, c.getMatch (i : Nat) = get i) (half : Nat) :
    ∀ (k i : Nat) (sb : Bytes) (n : Nat), k ≤ n → i + k = half →
      (List.range' i k).foldlM (arrayStep c) sb = (C02.arrayGo get half n i).map (sb ++ ·) := by
  intro k
  induction k with
  | zero =>
    intro i sb n _ hik
    rw [arrayGo_done half i get (by omega) n]
    simp [Except.map, pure, Except.pure]
  | succ k ih =>
    intro i sb n hn hik
    obtain ⟨n', rfl⟩ : ∃ n', n = n' + 1 := ⟨n - 1, by omega⟩
    have hlt : i < half := by omega
    have hstep : arrayStep c sb i = (get i).map (fun v => (if 1 < i then sb ++ [0] else sb) ++ v) := by
      unfold arrayStep
      rw [hget]
      cases get i <;> rfl
    rw [List.range'_succ, List.foldlM_cons, hstep, C02.arrayGo, if_pos hlt]
    cases hg : get i with
    | error e => simp only [Except.map, bind, Except.bind]
    | ok v =>
      simp only [Except.map, bind, Except.bind]
      rw [ih (i + 1) _ n' (by omega) (by omega)]
      cases C02.arrayGo get half n' (i + 1) with
      | error e => simp only [Except.map]
      | ok rest =>
        simp only [Except.map]
        by_cases h1 : 1 < i
        · simp [h1]
        · simp [h1]

theorem ctx_array_eq_c02 (c : Ctx) : c.array = C02.array c.linePtr c.indices := by
  unfold Ctx.array C02.array
  rw [List.range_eq_range', List.drop_range']
  have hget : ∀ i : Nat, c.getMatch (i : Nat) = (fun i : Nat => C02.getMatch c.linePtr c.indices (i : Nat)) i :=
    fun i => getMatch_eq_c02 c.indices c.linePtr i
  generalize (fun i : Nat => C02.getMatch c.linePtr c.indices (i : Nat)) = get at hget
  by_cases h0 : c.indices.length / 2 = 0
  · rw [h0]; simp [C02.arrayGo, pure, Except.pure]
  · have := arrayStep_fold c get hget (c.indices.length / 2) (c.indices.length / 2 - 1) 1 []
      (c.indices.length / 2) (by omega) (by omega)
    simp only [Nat.zero_add] at this ⊢
    rw [this]
    cases C02.arrayGo get (c.indices.length / 2) (c.indices.length / 2) 1 <;> simp [Except.map]

/-- C02's `getKey`, on the fields of a context, answers its placeholder `.json` exactly on the view keys
and on every other key what `Ctx.getKey` answers -/
theorem c02_getKey_eq (c : Ctx) (key : Bytes) :
    C02.getKey ⟨c.linePtr, c.indices, c.nameTable, c.source, c.lineNum⟩ key =
      if (viewFlags key).isSome then .ok .json else (c.getKey key).map C02.KeyAns.val := by
  have e1 : ascii "." = [0x2e] := by decide +kernel
  have e2 : ascii "#" = [0x23] := by decide +kernel
  have e3 : ascii ".#" = [0x2e, 0x23] := by decide +kernel
  have e4 : ascii "#." = [0x23, 0x2e] := by decide +kernel
  have e5 : ascii "src" = keySrc := by decide +kernel
  have e6 : ascii "line" = keyLine := by decide +kernel
  have e7 : ascii "@" = [0x40] := by decide +kernel
  have e8 : Expr.ErrorArgName = errorArgName := by decide +kernel
  have hn : itoa (c.lineNum : Nat) = natAscii c.lineNum := by
    unfold itoa natAscii; simp
  unfold C02.getKey Ctx.getKey
  rw [e1, e2, e3, e4, e5, e6, e7, e8, getKeyJson_eq_map]
  by_cases h5 : key = keySrc
  · subst h5; rfl
  by_cases h6 : key = keyLine
  · subst h6; simp [viewFlags, keySrc, keyLine, Except.map, hn]
  rw [if_neg h5, if_neg h6, if_neg h5, if_neg h6]
  by_cases hv : (viewFlags key).isSome = true
  · rw [if_pos ((viewFlags_isSome_iff key).mp hv), if_pos hv]
  · rw [if_neg (fun h => hv ((viewFlags_isSome_iff key).mpr h)), if_neg hv]
    rw [Option.not_isSome_iff_eq_none.mp hv]
    simp only [Option.map_none]
    by_cases h7 : key = [0x40]
    · rw [if_pos h7, if_pos h7, ctx_array_eq_c02]
    · rw [if_neg h7, if_neg h7]
      cases c.nameTable.find? (fun p => p.1 == key) with
      | none => rfl
      | some p => simp only [Ctx.getMatch, getMatch_eq_c02]

end Rare.C16

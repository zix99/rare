import Rare.Proofs.C20Inv
/-! C20: helper lemmas for the buffered writer, and the concrete history used by the non-vacuity
examples of `Props/C20`. -/
namespace Rare.C20

theorem getD_set_pad (lines : List Bytes) (n i : Nat) (t : Bytes) :
    ((lines ++ List.replicate (n + 1 - lines.length) []).set n t).getD i [] =
      if i = n then t else lines.getD i [] := by
  have hlen : n < (lines ++ List.replicate (n + 1 - lines.length) ([] : Bytes)).length := by simp; omega
  by_cases h : i = n
  · subst h
    rw [List.getD_eq_getElem?_getD, List.getElem?_set_self hlen]; simp
  · simp only [h, if_false, List.getD_eq_getElem?_getD]
    rw [List.getElem?_set_ne (by omega)]
    by_cases hi : i < lines.length
    · rw [List.getElem?_append_left hi]
    · rw [List.getElem?_append_right (by omega)]
      have : lines[i]? = none := List.getElem?_eq_none (by omega)
      rw [this]
      by_cases hi2 : i - lines.length < n + 1 - lines.length
      · simp [hi2]
      · simp [hi2]

/-- the line store agrees with the history: latest text per line, empty for gaps, and as many lines as
the largest line written needs -/
structure VInv (hist : List (Nat × Bytes)) (v : VirtualTerm) : Prop where
  isOpen : v.closed = false
  get : ∀ i : Nat, v.lines.getD i [] = (latest hist i).getD []
  lt : ∀ u ∈ hist, u.1 < v.lines.length
  none : ∀ i : Nat, v.lines.length ≤ i → latest hist i = none
  last : v.lines.length = 0 ∨ ∃ u ∈ hist, u.1 + 1 = v.lines.length

theorem vrun : ∀ (rest hist : List (Nat × Bytes)) (v : VirtualTerm), VInv hist v →
    ∃ v', v.runHistory (castHist rest) = .ok v' ∧ VInv (hist ++ rest) v' := by
  intro rest
  induction rest with
  | nil => intro hist v h; exact ⟨v, rfl, by simpa using h⟩
  | cons u rest ih =>
    intro hist v ⟨hcl, hget, hlen, hnone, hlast⟩
    let v1 : VirtualTerm := { v with lines := (v.lines ++ List.replicate (u.1 + 1 - v.lines.length) []).set u.1 u.2 }
    have hstep : v.writeForLine (u.1 : Int) u.2 = .ok v1 := by
      simp [VirtualTerm.writeForLine, hcl, v1]
    have hl1 : v1.lines.length = max v.lines.length (u.1 + 1) := by simp [v1]; omega
    have inv1 : VInv (hist ++ [u]) v1 := by
      refine ⟨hcl, ?_, ?_, ?_, ?_⟩
      · intro i
        show ((v.lines ++ List.replicate (u.1 + 1 - v.lines.length) []).set u.1 u.2).getD i [] = _
        rw [getD_set_pad, latest_snoc]
        by_cases h : i = u.1
        · subst h; simp
        · have h' : ¬ u.1 = i := fun e => h e.symm
          simp only [h, h', if_false]; exact hget i
      · intro x hx
        simp only [List.mem_append, List.mem_singleton] at hx
        rcases hx with hx | hx
        · have := hlen x hx; omega
        · subst hx; omega
      · intro i hi
        rw [latest_snoc]
        have h' : ¬ u.1 = i := by omega
        simp only [h', if_false]
        exact hnone i (by omega)
      · by_cases hge : u.1 + 1 ≤ v.lines.length
        · rcases hlast with h0 | ⟨x, hx, hxe⟩
          · omega
          · exact Or.inr ⟨x, by simp [hx], by omega⟩
        · exact Or.inr ⟨u, by simp, by omega⟩
    obtain ⟨v', hrun, inv'⟩ := ih (hist ++ [u]) v1 inv1
    refine ⟨v', ?_, by simpa using inv'⟩
    simp only [castHist, List.map_cons, VirtualTerm.runHistory, hstep]
    exact hrun

theorem vrun_new (hist : List (Nat × Bytes)) :
    ∃ v, VirtualTerm.new.runHistory (castHist hist) = .ok v ∧ VInv hist v :=
  vrun hist [] VirtualTerm.new
    ⟨rfl, by intro i; simp [VirtualTerm.new, latest], by simp, by intro i _; simp [latest], Or.inl rfl⟩

theorem list_eq_range_getD (l : List Bytes) : l = (List.range l.length).map (fun i => l.getD i []) := by
  apply List.ext_getElem
  · simp
  · intro i h1 h2
    simp [List.getD_eq_getElem?_getD, h1]

/-- `WriteToOutput` prints the latest text of every line of the store, top to bottom -/
theorem VInv.output {hist : List (Nat × Bytes)} {v : VirtualTerm} (h : VInv hist v) (c : Cfg) :
    v.writeToOutput c =
      (List.range v.lines.length).flatMap
        (fun i => writeLineNoWrap c.E c.autoTrim c.cols ((latest hist i).getD []) ++ [10]) := by
  unfold VirtualTerm.writeToOutput
  conv => lhs; rw [list_eq_range_getD v.lines]
  rw [List.flatMap_map]
  congr 1
  funext i
  rw [h.get i]

/-- "abcdefg" (wider than 4 columns) -/
def exLong : Bytes := [97, 98, 99, 100, 101, 102, 103]
/-- ESC[31m é 世 ESC[0m – colour codes and multi-byte runes -/
def exColour : Bytes := [0x1b, 0x5b, 0x33, 0x31, 0x6d, 0xc3, 0xa9, 0xe4, 0xb8, 0x96, 0x1b, 0x5b, 0x30, 0x6d]
/-- "xy" -/
def exShort : Bytes := [120, 121]

/-- line 1 long, line 0 coloured (jump up), line 1 rewritten shorter (jump down), gap at line 2, line 3 -/
def exHist : List (Nat × Bytes) := [(1, exLong), (0, exColour), (1, exShort), (3, exShort)]

theorem exLong_ok (trim : Bool) (h : trim = true) : TextOK 4 trim exLong :=
  ⟨[.ch 97, .ch 98, .ch 99, .ch 100, .ch 101, .ch 102, .ch 103],
   by intro t ht; simp at ht; rcases ht with rfl | rfl | rfl | rfl | rfl | rfl | rfl <;> (show _ ∧ _; omega),
   by decide, by intro h'; rw [h] at h'; cases h'⟩

theorem exColour_ok (trim : Bool) : TextOK 4 trim exColour :=
  ⟨[.sgr [91, 51, 49], .ch 233, .ch 0x4e16, .sgr [91, 48]],
   by
     intro t ht; simp at ht
     rcases ht with rfl | rfl | rfl | rfl
     · exact ⟨[51, 49], rfl, by decide⟩
     · show _ ∧ _; omega
     · show _ ∧ _; omega
     · exact ⟨[48], rfl, by decide⟩,
   by decide, by intro _; exact ⟨by decide, by unfold ValidUtf8; decide⟩⟩

theorem exShort_ok (trim : Bool) : TextOK 4 trim exShort :=
  ⟨[.ch 120, .ch 121], by intro t ht; simp at ht; rcases ht with rfl | rfl <;> (show _ ∧ _; omega),
   by decide, by intro _; exact ⟨by decide, by unfold ValidUtf8; decide⟩⟩

end Rare.C20

import Rare.Proofs.C12Parse
import Rare.Proofs.C16Table
/-!
Seam C16 ↔ C12: the name table the C16 model assumes for dissect (`C16.dissectNameTable`, a hand
copy of the `groupNames` part of `dissect.CompileEx`) is the table C12's model of `CompileEx`
(`C12.compileEx … .groupNames`) builds, and it rejects (`key conflict`) exactly where `CompileEx`
answers `ErrorKeyConflict`.
-/
namespace Rare.C16
open Rare.C12

/-- what C16 looks at of a compiled token: `(keyName, skipped)` -/
def tokenView (t : C12.Token) : Bytes × Bool := (t.name, t.skip)

/-- the same of a token of the pattern grammar -/
def tokView (t : C12.Tok) : Bytes × Bool := (t.name, t.skip)

/-- `map[string]int` entries of C12 (`Nat`) as C16 carries them (`Int`) -/
def castTable (m : List (Bytes × Nat)) : List (Bytes × Int) := m.map fun e => (e.1, (e.2 : Int))

theorem tokenView_tokOf (ic : Bool) (toks : List Tok) :
    (toks.map (tokOf ic)).map tokenView = toks.map tokView := by
  simp [tokenView, tokView, tokOf, Function.comp_def]

theorem mapSet_fresh {β : Type} (m : List (Bytes × β)) (k : Bytes) (v : β)
    (h : m.any (fun p => p.1 == k) = false) : mapSet m k v = m ++ [(k, v)] := by
  simp [mapSet, h]

theorem castTable_append (a b : List (Bytes × Nat)) : castTable (a ++ b) = castTable a ++ castTable b := by
  simp [castTable]

/-- The C16 loop follows C12's `specErrors`: without a compile error it succeeds with the table of C12 (names in
order, numbered `g+1, g+2, …`) appended to what the map already held; on `ErrorKeyConflict` it answers `key conflict`. -/
theorem dissectTableGo_specErrors (u : Bool) : ∀ (toks : List Tok) (m : List (Bytes × Int)) (g : Nat)
    (seen : List Bytes), (∀ n, n ∈ seen ↔ m.any (fun p => p.1 == n) = true) →
    (specErrors u toks seen = none →
      dissectTableGo m g (toks.map tokView) =
        .ok (m ++ castTable (((toks.filter (fun t => !t.skip)).map Tok.name).zipIdx (g + 1)))) ∧
    (specErrors u toks seen = some .conflict → dissectTableGo m g (toks.map tokView) = .error "key conflict") := by
  intro toks
  induction toks with
  | nil =>
    intro m g seen _
    refine ⟨fun _ => by simp [dissectTableGo, castTable], fun h => ?_⟩
    simp only [specErrors] at h
    split at h <;> cases h
  | cons t ts ih =>
    intro m g seen hseen
    simp only [specErrors, List.map_cons, tokView, dissectTableGo]
    by_cases hseq : t.lit = [] ∧ (ts ≠ [] ∨ u = true)
    · rw [if_pos hseq]; exact ⟨nofun, nofun⟩
    rw [if_neg hseq]
    by_cases hconf : (!t.skip) = true ∧ t.name ∈ seen
    · have hsk : t.skip = false := by simpa using hconf.1
      rw [if_pos hconf]
      simp only [hsk, Bool.false_eq_true, if_false, if_pos ((hseen t.name).mp hconf.2)]
      exact ⟨nofun, fun _ => trivial⟩
    rw [if_neg hconf]
    cases hsk : t.skip with
    | true => simpa [hsk] using ih m g seen hseen
    | false =>
      have hfresh : m.any (fun p => p.1 == t.name) = false :=
        Bool.eq_false_iff.mpr fun h => hconf ⟨by simp [hsk], (hseen t.name).mpr h⟩
      simp only [Bool.false_eq_true, if_false, hfresh, mapSet_fresh m t.name _ hfresh]
      have := ih (m ++ [(t.name, ((g + 1 : Nat) : Int))]) (g + 1) (t.name :: seen) (by
        intro n
        simp only [List.mem_cons, List.any_append, List.any_cons, List.any_nil, Bool.or_false, Bool.or_eq_true,
          beq_iff_eq, hseen n]
        exact ⟨fun h => h.symm.imp_right Eq.symm, fun h => h.symm.imp_left Eq.symm⟩)
      exact ⟨fun h => by rw [this.1 h]; simp [hsk, List.zipIdx_cons, castTable], this.2⟩

theorem dissectNameTable_compiled {p : Pat} (h : specErrors false p.toks [] = none) :
    dissectNameTable (p.toks.map tokView) = .ok (castTable (nameTable p.toks)) := by
  simpa [dissectNameTable, nameTable] using (dissectTableGo_specErrors false p.toks [] 0 [] (by simp)).1 h

/-- numbers of the C12 table: 1, 2, …, count -/
theorem nameTable_numbers (toks : List Tok) :
    (nameTable toks).map (·.2) = List.range' 1 (capCount toks) ∧
    (nameTable toks).map (·.1) = (toks.filter (fun t => !t.skip)).map Tok.name := by
  simp [nameTable, capCount, List.zipIdx_map_snd, List.zipIdx_map_fst]

end Rare.C16

import Rare.Proofs.C02
import Rare.Proofs.C16Table
/-! C02: `{name}` through the name table the regex wrapper builds (`C16.regexNameTable`). -/
namespace Rare.C02

/-- keys `GetKey` answers itself before it consults the name table -/
def reservedKeys : List Bytes := [ascii "src", ascii "line", ascii ".", ascii "#", ascii ".#", ascii "#.", ascii "@"]

theorem getKey_src (c : MatchCtx) : getKey c (ascii "src") = .ok (.val c.source) := by
  unfold getKey
  rw [if_pos rfl]

theorem getKey_line (c : MatchCtx) : getKey c (ascii "line") = .ok (.val (itoa c.lineNum)) := by
  unfold getKey
  rw [if_neg (by decide +kernel), if_pos rfl]

theorem getKey_array (c : MatchCtx) : getKey c (ascii "@") = (array c.line c.indices).map .val := by
  unfold getKey
  rw [if_neg (by decide +kernel), if_neg (by decide +kernel), if_neg (by decide +kernel), if_pos rfl]

theorem getKey_named (c : MatchCtx) (key : Bytes) (hres : key ∉ reservedKeys) :
    getKey c key = match c.names.find? (·.1 == key) with
      | some p => (getMatch c.line c.indices p.2).map .val
      | none => .ok (.val Expr.ErrorArgName) := by
  simp only [reservedKeys, List.mem_cons, List.not_mem_nil, or_false, not_or] at hres
  obtain ⟨h1, h2, h3, h4, h5, h6, h7⟩ := hres
  unfold getKey
  rw [if_neg h1, if_neg h2, if_neg (by simp [h3, h4, h5, h6]), if_neg h7]
  rfl

/-- the table's entry for a name is the LAST group carrying it -/
theorem regexTable_entry_last (names : List Bytes) (key : Bytes) (k : Nat)
    (hk : names[k]? = some key) (hne : key ≠ []) (hlast : ∀ j, k < j → names[j]? ≠ some key) :
    (key, (k : Int)) ∈ C16.regexNameTable names := by
  have hmem : key ∈ names := List.mem_of_getElem? hk
  have hcov := C16.regexTableGo_covers names [] 0 key (Or.inr ⟨hmem, hne⟩)
  obtain ⟨p, hp, e⟩ := List.mem_map.mp hcov
  have hent := C16.regexNameTable_entry names p hp
  have hl := C16.regexNameTable_last names p hp
  have hklt : k < names.length := by
    by_cases h : k < names.length
    · exact h
    · rw [List.getElem?_eq_none (by omega)] at hk; cases hk
  have : p.2.toNat = k := by
    rcases Nat.lt_trichotomy p.2.toNat k with h | h | h
    · exact absurd (e ▸ hk) (hl k h hklt)
    · exact h
    · exact absurd (e ▸ hent.2.2.1) (hlast _ h)
  have e2 : p.2 = (k : Int) := by have := hent.1; omega
  have : p = (key, (k : Int)) := by rw [← e, ← e2]
  rw [← this]; exact hp

theorem getKey_regex_name (c : MatchCtx) (names : List Bytes) (key : Bytes) (k : Nat)
    (hσ : c.names.Perm (C16.regexNameTable names)) (hres : key ∉ reservedKeys)
    (hk : names[k]? = some key) (hne : key ≠ []) (hlast : ∀ j, k < j → names[j]? ≠ some key) :
    getKey c key = (getMatch c.line c.indices (k : Int)).map .val := by
  have hin : (key, (k : Int)) ∈ c.names := hσ.mem_iff.mpr (regexTable_entry_last names key k hk hne hlast)
  have hnd : (c.names.map (·.1)).Nodup := (hσ.map (·.1)).nodup_iff.mpr (C16.regexNameTable_nodup names)
  have hf := C16.find?_of_nodup c.names (key, (k : Int)) hnd hin
  rw [getKey_named c key hres]
  have : c.names.find? (fun x => x.1 == key) = some (key, (k : Int)) := hf
  rw [this]

theorem getKey_regex_missing (c : MatchCtx) (names : List Bytes) (key : Bytes)
    (hσ : c.names.Perm (C16.regexNameTable names)) (hres : key ∉ reservedKeys) (hno : key ∉ names) :
    getKey c key = .ok (.val Expr.ErrorArgName) := by
  rw [getKey_named c key hres]
  have : c.names.find? (fun x => x.1 == key) = none := by
    rw [List.find?_eq_none]
    intro p hp e
    have e' : p.1 = key := by simpa using e
    have hent := C16.regexNameTable_entry names p (hσ.mem_iff.mp hp)
    exact hno (e' ▸ List.mem_of_getElem? hent.2.2.1)
  rw [this]

end Rare.C02

import Rare.Spec.C17
/-!
C17: the term-by-term progression `progWhile` of the specification is the
closed form `range` (`rangeCount` terms `start + k·incr`).
-/
namespace Rare.C17
open Rare

/-- The `k`-th term lies before `stop` exactly when `k` is below the closed-form count. -/
theorem before_iff_lt_count (start stop incr : Int) (h0 : incr ≠ 0) (k : Nat) :
    before incr (start + (k : Int) * incr) stop = true ↔ k < rangeCount start stop incr := by
  unfold before rangeCount
  by_cases hp : incr > 0
  · have hn : ¬ incr < 0 := by omega
    simp only [hp, hn, decide_true, decide_false, Bool.true_and, Bool.false_and, Bool.or_false,
      decide_eq_true_eq, if_true]
    rw [Int.lt_toNat, Int.lt_iff_add_one_le (a := (k : Int)), Int.le_ediv_iff_mul_le hp, Int.add_mul, Int.one_mul]
    omega
  · have hn : incr < 0 := by omega
    simp only [hp, hn, decide_true, decide_false, Bool.true_and, Bool.false_and, Bool.false_or,
      decide_eq_true_eq, if_false]
    rw [Int.lt_toNat, Int.lt_iff_add_one_le (a := (k : Int)), Int.le_ediv_iff_mul_le (by omega), Int.add_mul, Int.one_mul,
      Int.mul_neg]
    omega

theorem progWhile_closed (start stop incr : Int) (h0 : incr ≠ 0) :
    ∀ (limit k : Nat), progWhile start stop incr limit k =
      if rangeCount start stop incr - k ≤ limit then
        some ((List.range' k (rangeCount start stop incr - k)).map fun (j : Nat) => start + (j : Int) * incr)
      else none := by
  intro limit
  induction limit with
  | zero =>
    intro k
    simp only [progWhile]
    by_cases hb : before incr (start + (k : Int) * incr) stop = true
    · have := (before_iff_lt_count start stop incr h0 k).mp hb
      have hgt : ¬ rangeCount start stop incr - k ≤ 0 := by omega
      simp [hb, hgt]
    · have hlt : ¬ k < rangeCount start stop incr := fun h => hb ((before_iff_lt_count start stop incr h0 k).mpr h)
      have e : rangeCount start stop incr - k = 0 := by omega
      simp [hb, e]
  | succ limit ih =>
    intro k
    simp only [progWhile]
    by_cases hb : before incr (start + (k : Int) * incr) stop = true
    · have hk := (before_iff_lt_count start stop incr h0 k).mp hb
      have e : rangeCount start stop incr - k = (rangeCount start stop incr - (k + 1)) + 1 := by omega
      rw [if_pos hb, ih (k + 1), e]
      by_cases hl : rangeCount start stop incr - (k + 1) ≤ limit
      · have hl' : rangeCount start stop incr - (k + 1) + 1 ≤ limit + 1 := by omega
        simp [hl, hl', List.range'_succ]
      · have hl' : ¬ rangeCount start stop incr - (k + 1) + 1 ≤ limit + 1 := by omega
        simp [hl, hl']
    · have hlt : ¬ k < rangeCount start stop incr := fun h => hb ((before_iff_lt_count start stop incr h0 k).mpr h)
      have e : rangeCount start stop incr - k = 0 := by omega
      simp [hb, e]

/-- The term-by-term progression is the closed form: `rangeCount` terms, or "too many". -/
theorem progWhile_eq_range (start stop incr : Int) (h0 : incr ≠ 0) (limit : Nat) :
    progWhile start stop incr limit 0 =
      if rangeCount start stop incr ≤ limit then some (range start stop incr) else none := by
  rw [progWhile_closed start stop incr h0 limit 0]
  simp only [Nat.sub_zero, range, List.range_eq_range']

end Rare.C17

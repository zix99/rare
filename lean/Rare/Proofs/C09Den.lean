import Rare.Proofs.C09DenV
/-!
C09 × C10: the print/compile theorem of `C09DenV.lean` for the tree semantics of `Spec/C09.lean`, whose
function environment may depend on the context beyond the argument values (`Sem = Ctx → …`: user-defined
functions read named keys and negative indices of the caller's match).  `Den sem D` is `DenV (semVal sem) D`
(`den_iff`), the registry hypothesis `RegDen` is `RegDenV` at that denotation.
-/
namespace Rare.C09
open Rare Rare.Expr

theorem join_single (s : Stage) : joinStages [s] = s := rfl

theorem envC_const (fn : List Char → List Bytes → Bytes) (ctx : Ctx) : envC (fun _ => fn) ctx = envOf ctx fn := rfl

/-- `stage` denotes the tree `e`. -/
structure Den (sem : Sem) (D : C09.Expr → Bool) (stage : Stage) (e : C09.Expr) : Prop where
  /-- in every context the stage evaluates (no panic) to the tree's value -/
  run : ∀ ctx, stage.run ctx = .ok (evalTree (envC sem ctx) e)
  /-- a tree the certificate calls dynamic is not mistaken for a constant by `EvalStaticStage` -/
  dyn : D e = true → ∃ v, stage.probe = .ok (v, false)
  /-- a literal is the constant stage -/
  lit : ∀ s, e = .lit s → stage = .ret (utf8 s)

def DenArgs (sem : Sem) (D : C09.Expr → Bool) : List Stage → List C09.Expr → Prop
  | [], [] => True
  | s :: ss, e :: es => Den sem D s e ∧ DenArgs sem D ss es
  | _, _ => False

theorem den_iff {sem : Sem} {D : C09.Expr → Bool} {s : Stage} {e : C09.Expr} : Den sem D s e ↔ DenV (semVal sem) D s e :=
  ⟨fun h => ⟨h.run, h.dyn, h.lit⟩, fun h => ⟨h.run, h.dyn, h.lit⟩⟩

theorem denArgs_iff {sem : Sem} {D : C09.Expr → Bool} : ∀ {cargs : List Stage} {args : List C09.Expr},
    DenArgs sem D cargs args ↔ DenArgsV (semVal sem) D cargs args
  | [], [] => Iff.rfl
  | _ :: ss, _ :: es => by
    simp only [DenArgs, DenArgsV]
    exact and_congr den_iff (denArgs_iff (cargs := ss) (args := es))
  | [], _ :: _ => Iff.rfl
  | _ :: _, [] => Iff.rfl

theorem DenArgs.length {sem : Sem} {D : C09.Expr → Bool} : ∀ {cargs : List Stage} {args : List C09.Expr},
    DenArgs sem D cargs args → cargs.length = args.length :=
  fun h => (denArgs_iff.mp h).length

theorem DenArgs.runs {sem : Sem} {D : C09.Expr → Bool} (ctx : Ctx) : ∀ {cargs : List Stage} {args : List C09.Expr},
    DenArgs sem D cargs args → cargs.map (·.run ctx) = (evalArgs (envC sem ctx) args).map .ok :=
  fun h => valArgs_sem sem ctx _ ▸ (denArgs_iff.mp h).runs ctx

theorem DenArgs.total {sem : Sem} {D : C09.Expr → Bool} : ∀ {cargs : List Stage} {args : List C09.Expr},
    DenArgs sem D cargs args → ∀ a ∈ cargs, Total a :=
  fun h => (denArgs_iff.mp h).total

mutual
/-- Every function called in the tree is registered with a builder that, *at this call site* – for argument
    stages denoting the argument trees – returns without compile error a stage denoting the call. -/
def RegDen (reg : Registry) (sem : Sem) (D : C09.Expr → Bool) : C09.Expr → Prop
  | .call f args =>
    (∃ b, reg f = some b ∧ ∀ cargs, DenArgs sem D cargs args →
      ∃ stage, b cargs = .ok ⟨some stage, none⟩ ∧ Den sem D stage (.call f args)) ∧
    RegDenArgs reg sem D args
  | .lit _ => True
  | .group _ => True
  | .key _ => True
def RegDenArgs (reg : Registry) (sem : Sem) (D : C09.Expr → Bool) : List C09.Expr → Prop
  | [] => True
  | a :: rest => RegDen reg sem D a ∧ RegDenArgs reg sem D rest
end

mutual
theorem RegDen.toV {reg : Registry} {sem : Sem} {D : C09.Expr → Bool} : ∀ e : C09.Expr, RegDen reg sem D e →
    RegDenV reg (semVal sem) D e
  | .lit _, _ => trivial
  | .group _, _ => trivial
  | .key _, _ => trivial
  | .call _ args, ⟨⟨b, hb, h⟩, hargs⟩ =>
    ⟨⟨b, hb, fun cargs hden =>
      let ⟨stage, h1, h2⟩ := h cargs (denArgs_iff.mpr hden)
      ⟨stage, h1, den_iff.mp h2⟩⟩, RegDenArgs.toV args hargs⟩
theorem RegDenArgs.toV {reg : Registry} {sem : Sem} {D : C09.Expr → Bool} : ∀ l : List C09.Expr, RegDenArgs reg sem D l →
    RegDenArgsV reg (semVal sem) D l
  | [], _ => trivial
  | a :: rest, ⟨h, hrest⟩ => ⟨RegDen.toV a h, RegDenArgs.toV rest hrest⟩
end

section
variable (reg : Registry) (sem : Sem) (D : C09.Expr → Bool) (opt : Bool)

variable (hD : ∀ s, D (.lit s) = false)
include hD

theorem args_den : ∀ (l : List C09.Expr) (σ : Style) (i fuel : Nat), AdmissibleArgs l → RegDenArgs reg sem D l →
    depthArgs l ≤ fuel →
    ∃ cargs, compileArgs fuel reg opt (argStrings σ i l) = .ok (cargs, []) ∧ DenArgs sem D cargs l :=
  fun l σ i fuel ha hreg hd =>
    let ⟨cargs, h1, h2⟩ := args_denV reg (semVal sem) D opt hD (semVal_ok sem) l σ i fuel ha (RegDenArgs.toV l hreg) hd
    ⟨cargs, h1, denArgs_iff.mpr h2⟩

/-- **A printed tree, optimiser on or off, general registry hypothesis.** -/
theorem printTop_den (σ : Style) (e : C09.Expr) (ha : AdmissibleTop e) (hreg : RegDen reg sem D e) :
    ∃ stages, compile reg opt (printTop σ e) = .ok (stages, []) ∧
      ∀ ctx, (buildKey stages).run ctx = .ok (evalTree (envC sem ctx) e) :=
  printTop_denV reg (semVal sem) D opt hD (semVal_ok sem) σ e ha (RegDen.toV e hreg)

end

end Rare.C09

import Rare.Model.C18Zone
/-! C18: facts about zone tables: `lookup` finds the segment of the instant; on a sorted table every
instant of that segment gets the same answer. -/
namespace Rare.C18

theorem lookupFrom_inSeg (off : Int) (abbr : Bytes) (start : Option Int) (tr : List (Int × Int × Bytes)) (sec : Int)
    (hs : geStart start sec = true) : inSeg (lookupFrom off abbr start tr sec) sec = true := by
  induction tr generalizing off abbr start with
  | nil => simp [lookupFrom, inSeg, hs, ltStop]
  | cons e r ih =>
    obtain ⟨t, o, a⟩ := e
    simp only [lookupFrom]
    split
    · next h => simp [inSeg, hs, ltStop, h]
    · next h => exact ih o a (some t) (by simp [geStart]; omega)

theorem lookupFrom_start (off : Int) (abbr : Bytes) (t0 : Int) (tr : List (Int × Int × Bytes)) (sec : Int)
    (hsorted : sortedTrans ((t0, off, abbr) :: tr) = true) :
    ∃ t1, (lookupFrom off abbr (some t0) tr sec).start = some t1 ∧ t0 ≤ t1 := by
  induction tr generalizing off abbr t0 with
  | nil => exact ⟨t0, rfl, Int.le_refl _⟩
  | cons e r ih =>
    obtain ⟨t, o, a⟩ := e
    simp only [sortedTrans, Bool.and_eq_true, decide_eq_true_eq] at hsorted
    simp only [lookupFrom]
    split
    · exact ⟨t0, rfl, Int.le_refl _⟩
    · obtain ⟨t1, h1, h2⟩ := ih o a t hsorted.2
      exact ⟨t1, h1, by omega⟩

theorem lookupFrom_same (off : Int) (abbr : Bytes) (start : Option Int) (tr : List (Int × Int × Bytes)) (u v : Int)
    (hsorted : sortedTrans tr = true) (hv : inSeg (lookupFrom off abbr start tr u) v = true) :
    lookupFrom off abbr start tr v = lookupFrom off abbr start tr u := by
  induction tr generalizing off abbr start with
  | nil => rfl
  | cons e r ih =>
    obtain ⟨t, o, a⟩ := e
    have hs' : sortedTrans r = true := by
      cases r with
      | nil => rfl
      | cons e' r' => obtain ⟨t', x⟩ := e'; simp only [sortedTrans, Bool.and_eq_true] at hsorted; exact hsorted.2
    simp only [lookupFrom] at hv ⊢
    by_cases hu : u < t
    · simp only [hu, if_true] at hv ⊢
      have : v < t := by
        have := hv; simp only [inSeg, ltStop, Bool.and_eq_true, decide_eq_true_eq] at this; exact this.2
      simp [this]
    · simp only [hu, if_false] at hv ⊢
      obtain ⟨t1, h1, h2⟩ := lookupFrom_start o a t r u hsorted
      have hvt : ¬ (v < t) := by
        simp only [inSeg, h1, geStart, Bool.and_eq_true, decide_eq_true_eq] at hv
        omega
      simp only [hvt, if_false]
      exact ih o a (some t) hs' hv

theorem lookup_inSeg (z : ZoneTab) (u : Int) : inSeg (z.lookup u) u = true :=
  lookupFrom_inSeg _ _ _ _ _ rfl

theorem lookup_same (z : ZoneTab) (hs : sortedTrans z.trans = true) (u v : Int) (hv : inSeg (z.lookup u) v = true) :
    z.lookup v = z.lookup u :=
  lookupFrom_same _ _ _ _ _ _ hs hv

end Rare.C18

import Rare.Proofs.C11
/-! Helper lemmas for the C11 string / formatting theorems: `hi`, `csv`, `select`, lookup tables, logic. -/
namespace Rare.C11
open Rare Rare.Expr Rare.Expr.Funcs

/-- `hiLoop` on the magnitude. -/
def hiLoopN : Nat → Nat → Nat → Bytes → Bytes
  | 0, _, _, acc => acc
  | f + 1, n, ci, acc =>
    if n = 0 then acc
    else
      let acc := if ci = 3 then 44 :: acc else acc
      let ci := if ci = 3 then 0 else ci
      hiLoopN f (n / 10) (ci + 1) (UInt8.ofNat (48 + n % 10) :: acc)

theorem hi_step (v : Int) (h1 : minInt64 ≤ v) (h2 : v ≤ maxInt64) :
    (goDiv v 10).natAbs = v.natAbs / 10 ∧
    (if goMod v 10 < 0 then - goMod v 10 else goMod v 10).toNat = v.natAbs % 10 ∧
    minInt64 ≤ goDiv v 10 ∧ goDiv v 10 ≤ maxInt64 := by
  unfold minInt64 maxInt64 at *
  have hq : (v.tdiv 10).natAbs = v.natAbs / 10 := Int.natAbs_tdiv v 10
  have hr : (v.tmod 10).natAbs = v.natAbs % 10 := Int.natAbs_tmod v 10
  unfold goDiv goMod
  rw [wrap64_lit _ (by omega) (by omega)]
  refine ⟨hq, ?_, by omega, by omega⟩
  rw [← hr]; split <;> omega

theorem hiLoop_eq_N : ∀ (f : Nat) (v : Int) (ci : Nat) (acc : Bytes), minInt64 ≤ v → v ≤ maxInt64 →
    Strings.hiLoop f v ci acc = hiLoopN f v.natAbs ci acc
  | 0, _, _, _, _, _ => rfl
  | f + 1, v, ci, acc, h1, h2 => by
    obtain ⟨e1, e2, e3, e4⟩ := hi_step v h1 h2
    unfold Strings.hiLoop hiLoopN
    by_cases hv : v = 0
    · subst hv; simp
    · have hn : ¬ (v.natAbs = 0) := by omega
      simp only [hv, hn, if_false]
      rw [hiLoop_eq_N f (goDiv v 10) _ _ e3 e4, e1, e2]

/-- Digits of a positive number, nothing for zero (the loop writes no digit for 0). -/
def digitsPos (n : Nat) : Bytes := if n = 0 then [] else natDigits n

theorem digit_ne_comma : ∀ d : Nat, d < 10 → UInt8.ofNat (48 + d) ≠ 44 := by decide

theorem natDigits_step (n : Nat) (hn : n ≠ 0) :
    natDigits n = digitsPos (n / 10) ++ [UInt8.ofNat (48 + n % 10)] := by
  unfold digitsPos natDigits
  by_cases h : n < 10
  · have h0 : n / 10 = 0 := by omega
    have hm : n % 10 = n := by omega
    rw [Nat.toDigits_of_lt_base h, h0, hm]
    simp [digitChar_byte n h]
  · have h0 : ¬ (n / 10 = 0) := by omega
    rw [Nat.toDigits_of_base_le (by omega) (by omega)]
    simp [h0, digitChar_byte (n % 10) (by omega)]

theorem div10_lt {n f : Nat} (h : n < 10 ^ (f + 1)) : n / 10 < 10 ^ f := by
  rw [Nat.pow_succ] at h; omega

theorem stripCommas_cons_digit (d : Nat) (hd : d < 10) (s : Bytes) :
    Spec.stripCommas (UInt8.ofNat (48 + d) :: s) = UInt8.ofNat (48 + d) :: Spec.stripCommas s := by
  unfold Spec.stripCommas
  rw [List.filter_cons_of_pos]
  simpa using digit_ne_comma d hd

theorem stripCommas_append (a b : Bytes) : Spec.stripCommas (a ++ b) = Spec.stripCommas a ++ Spec.stripCommas b := by
  simp [Spec.stripCommas]

/-- Removing the separators from what the loop wrote leaves the decimal digits. -/
theorem hiLoopN_strip : ∀ (f n ci : Nat) (acc : Bytes), n < 10 ^ f →
    Spec.stripCommas (hiLoopN f n ci acc) = digitsPos n ++ Spec.stripCommas acc
  | 0, n, ci, acc, h => by
    have : n = 0 := by simpa using h
    subst this; simp [hiLoopN, digitsPos]
  | f + 1, n, ci, acc, h => by
    unfold hiLoopN
    by_cases hn : n = 0
    · subst hn; simp [digitsPos]
    · simp only [hn, if_false]
      have hlt := div10_lt h
      rw [hiLoopN_strip f (n / 10) _ _ hlt, stripCommas_cons_digit _ (by omega)]
      have hd : digitsPos n = natDigits n := by simp [digitsPos, hn]
      rw [hd, natDigits_step n hn]
      by_cases hc : ci = 3
      · simp [hc, Spec.stripCommas]
      · simp [hc]

/-- The decimal digits contain no separator. -/
theorem stripCommas_natDigits : ∀ (f n : Nat), n < 10 ^ f → Spec.stripCommas (digitsPos n) = digitsPos n
  | 0, n, h => by
    have : n = 0 := by simpa using h
    subst this; simp [digitsPos, Spec.stripCommas]
  | f + 1, n, h => by
    by_cases hn : n = 0
    · subst hn; simp [digitsPos, Spec.stripCommas]
    · have hd : digitsPos n = natDigits n := by simp [digitsPos, hn]
      have hlt := div10_lt h
      rw [hd, natDigits_step n hn, stripCommas_append, stripCommas_natDigits f _ hlt,
        stripCommas_cons_digit _ (by omega)]
      simp [Spec.stripCommas]

theorem groupLengths_shift : ∀ (s : Bytes) (n : Nat),
    Spec.groupLengths s n = match Spec.groupLengths s 0 with
      | g :: r => (g + n) :: r
      | [] => []
  | [], n => by simp [Spec.groupLengths]
  | c :: r, n => by
    unfold Spec.groupLengths
    by_cases hc : c = 44
    · simp [hc]
    · simp only [hc, if_false]
      rw [groupLengths_shift r (n + 1), groupLengths_shift r (0 + 1)]
      cases Spec.groupLengths r 0 with
      | nil => rfl
      | cons g t => simp; omega

/-- Invariant of the loop: the group being written has `ci ≤ 3` digits, finished groups have 3. -/
def GroupInv (ci : Nat) (acc : Bytes) : Prop :=
  ∃ rest, Spec.groupLengths acc 0 = ci :: rest ∧ ci ≤ 3 ∧ ∀ x ∈ rest, x = 3

theorem hiLoopN_groups : ∀ (f n ci : Nat) (acc : Bytes), n < 10 ^ f → GroupInv ci acc → (n = 0 → 1 ≤ ci) →
    ∃ g rest, Spec.groupLengths (hiLoopN f n ci acc) 0 = g :: rest ∧ 1 ≤ g ∧ g ≤ 3 ∧ ∀ x ∈ rest, x = 3
  | 0, n, ci, acc, h, ⟨rest, hg, h3, hr⟩, h0 => by
    have : n = 0 := by simpa using h
    exact ⟨ci, rest, by simpa [hiLoopN] using hg, h0 this, h3, hr⟩
  | f + 1, n, ci, acc, h, ⟨rest, hg, h3, hr⟩, h0 => by
    unfold hiLoopN
    by_cases hn : n = 0
    · simp only [hn, if_true]
      exact ⟨ci, rest, hg, h0 hn, h3, hr⟩
    · simp only [hn, if_false]
      have hlt := div10_lt h
      apply hiLoopN_groups f (n / 10) _ _ hlt
      · have hdig : UInt8.ofNat (48 + n % 10) ≠ 44 := digit_ne_comma _ (by omega)
        by_cases hc : ci = 3
        · subst hc
          refine ⟨3 :: rest, ?_, by simp, ?_⟩
          · simp only [if_true]
            unfold Spec.groupLengths
            simp only [hdig, if_false]
            rw [groupLengths_shift]
            simp [Spec.groupLengths, hg]
          · intro x hx
            rcases List.mem_cons.mp hx with e | e
            · exact e
            · exact hr x e
        · refine ⟨rest, ?_, by simp [hc]; omega, hr⟩
          simp only [hc, if_false]
          unfold Spec.groupLengths
          simp only [hdig, if_false]
          rw [groupLengths_shift]
          simp [hg]
      · intro _; split <;> omega

theorem small_grouped : ∀ n : Nat, n < 100 →
    Spec.stripCommas (natDigits n) = natDigits n ∧ Spec.groupedInThrees (natDigits n) = true := by
  decide +kernel

theorem groupInv_nil : GroupInv 0 [] := ⟨[], rfl, by omega, by simp⟩

/-- `humanizeInt`: an optional sign, then a body that (a) is the decimal digits of `|v|` once the
    separators are removed and (b) is grouped in threes from the right. -/
theorem humanizeInt_spec (v : Int) (h1 : minInt64 ≤ v) (h2 : v ≤ maxInt64) :
    ∃ body, Strings.humanizeInt v = (if v < 0 then [45] else []) ++ body ∧
      Spec.stripCommas body = natDigits v.natAbs ∧ Spec.groupedInThrees body = true := by
  unfold Strings.humanizeInt
  by_cases hs : 0 ≤ v ∧ v < 100
  · simp only [hs, and_self, if_true]
    have hneg : ¬ (v < 0) := by omega
    have hi : itoa v = natDigits v.natAbs := by simp [itoa, hneg]
    refine ⟨natDigits v.natAbs, by simp [hneg, hi], ?_⟩
    exact small_grouped v.natAbs (by omega)
  · simp only [hs, if_false]
    have hv0 : v.natAbs ≠ 0 := by omega
    have hlt : v.natAbs < 10 ^ 20 := by unfold minInt64 at h1; unfold maxInt64 at h2; omega
    refine ⟨Strings.hiLoop 20 v 0 [], ?_, ?_, ?_⟩
    · by_cases hneg : v < 0 <;> simp [hneg]
    · rw [hiLoop_eq_N 20 v 0 [] h1 h2, hiLoopN_strip 20 _ 0 [] hlt]
      simp [digitsPos, hv0, Spec.stripCommas]
    · rw [hiLoop_eq_N 20 v 0 [] h1 h2]
      obtain ⟨g, rest, hg, hg1, hg3, hr⟩ := hiLoopN_groups 20 v.natAbs 0 [] hlt groupInv_nil (fun h => absurd h hv0)
      unfold Spec.groupedInThrees
      rw [hg]
      simp only [Bool.and_eq_true, decide_eq_true_eq, List.all_eq_true, beq_iff_eq]
      exact ⟨⟨hg1, hg3⟩, hr⟩

def CleanB (c : UInt8) : Prop := c ≠ 34 ∧ c ≠ 44 ∧ c ≠ 13 ∧ c ≠ 10

theorem csv_unq_run : ∀ (x tail cur : Bytes) (acc : List Bytes), (∀ c ∈ x, CleanB c) →
    Spec.parseCsvGo (x ++ tail) .unq cur acc = Spec.parseCsvGo tail .unq (cur ++ x) acc
  | [], tail, cur, acc, _ => by simp
  | c :: r, tail, cur, acc, h => by
    have hc : CleanB c := h c (by simp)
    obtain ⟨h1, h2, h3, h4⟩ := hc
    have := csv_unq_run r tail (cur ++ [c]) acc (fun d hd => h d (by simp [hd]))
    simp [Spec.parseCsvGo, h1, h2, h3, h4, this]

theorem csv_start_run (x tail : Bytes) (acc : List Bytes) (h : ∀ c ∈ x, CleanB c) (hx : x ≠ []) :
    Spec.parseCsvGo (x ++ tail) .start [] acc = Spec.parseCsvGo tail .unq x acc := by
  cases x with
  | nil => exact absurd rfl hx
  | cons c r =>
    obtain ⟨h1, h2, h3, h4⟩ := h c (by simp)
    have := csv_unq_run r tail [c] acc (fun d hd => h d (by simp [hd]))
    simp [Spec.parseCsvGo, h1, h2, h3, h4, this]

theorem rq_ne (c : UInt8) (r : Bytes) (hc : c ≠ 34) :
    Strings.replaceQuotes (c :: r) = c :: Strings.replaceQuotes r := by
  rw [Strings.replaceQuotes.eq_3]; intro h; exact hc h

theorem csv_inq_run (tail : Bytes) (acc : List Bytes) : ∀ (x cur : Bytes),
    Spec.parseCsvGo (Strings.replaceQuotes x ++ 34 :: tail) .inq cur acc = Spec.parseCsvGo tail .qq (cur ++ x) acc
  | [], cur => by simp [Strings.replaceQuotes, Spec.parseCsvGo]
  | c :: r, cur => by
    by_cases hc : c = 34
    · subst hc
      have := csv_inq_run tail acc r (cur ++ [34])
      simp [Strings.replaceQuotes.eq_2, Spec.parseCsvGo, this]
    · have := csv_inq_run tail acc r (cur ++ [c])
      simp [rq_ne c r hc, Spec.parseCsvGo, hc, this]

theorem replaceQuotes_clean : ∀ x : Bytes, (∀ c ∈ x, c ≠ 34) → Strings.replaceQuotes x = x
  | [], _ => rfl
  | c :: r, h => by
    have hc : c ≠ 34 := h c (by simp)
    have ih := replaceQuotes_clean r (fun d hd => h d (by simp [hd]))
    rw [rq_ne c r hc, ih]

/-- What the parser does when a field ends (end of input or a comma). -/
def afterField (tail : Bytes) (x : Bytes) (acc : List Bytes) : Option (List Bytes) :=
  match tail with
  | [] => some (acc ++ [x])
  | 44 :: r => Spec.parseCsvGo r .start [] (acc ++ [x])
  | _ => none

/-- A field written between quotes, its own quotes doubled, is read back as it was. -/
theorem csv_quoted (x tail : Bytes) (acc : List Bytes) (ht : tail = [] ∨ ∃ r, tail = 44 :: r) :
    Spec.parseCsvGo ([34] ++ Strings.replaceQuotes x ++ [34] ++ tail) .start [] acc = afterField tail x acc := by
  have : Spec.parseCsvGo ([34] ++ Strings.replaceQuotes x ++ [34] ++ tail) .start [] acc
      = Spec.parseCsvGo (Strings.replaceQuotes x ++ 34 :: tail) .inq [] acc := by
    simp [Spec.parseCsvGo]
  rw [this, csv_inq_run]
  rcases ht with e | ⟨r, e⟩ <;> subst e <;> simp [afterField, Spec.parseCsvGo]

theorem csv_item (x tail : Bytes) (acc : List Bytes) (ht : tail = [] ∨ ∃ r, tail = 44 :: r) :
    Spec.parseCsvGo (Strings.csvItemEncode x ++ tail) .start [] acc = afterField tail x acc := by
  unfold Strings.csvItemEncode
  by_cases hq : x.any (fun c => c == 34 || c == 13 || c == 10) = true
  · rw [if_pos hq]; exact csv_quoted x tail acc ht
  · rw [if_neg hq]
    have hnq : ∀ c ∈ x, c ≠ 34 ∧ c ≠ 13 ∧ c ≠ 10 := by
      intro c hc
      have : ¬ ((c == 34 || c == 13 || c == 10) = true) := fun hh => hq (List.any_eq_true.mpr ⟨c, hc, hh⟩)
      simpa [and_assoc] using this
    by_cases hcm : x.contains 44 = true
    · rw [if_pos hcm]
      have := csv_quoted x tail acc ht
      rwa [replaceQuotes_clean x (fun c hc => (hnq c hc).1)] at this
    · rw [if_neg hcm]
      have hclean : ∀ c ∈ x, CleanB c := by
        intro c hc
        obtain ⟨a, b, d⟩ := hnq c hc
        refine ⟨a, ?_, b, d⟩
        intro e; subst e; exact hcm (List.contains_iff_mem.mpr hc)
      by_cases hx : x = []
      · subst hx
        rcases ht with e | ⟨r, e⟩ <;> subst e <;> simp [afterField, Spec.parseCsvGo]
      · rw [csv_start_run x tail acc hclean hx]
        rcases ht with e | ⟨r, e⟩ <;> subst e <;> simp [afterField, Spec.parseCsvGo]

theorem csv_record : ∀ (args : List Bytes) (acc : List Bytes), args ≠ [] →
    Spec.parseCsvGo (Strings.csvRecord args) .start [] acc = some (acc ++ args)
  | [], _, h => absurd rfl h
  | [x], acc, _ => by
    have := csv_item x [] acc (.inl rfl)
    simpa [Strings.csvRecord, afterField] using this
  | x :: y :: rest, acc, _ => by
    have := csv_item x (44 :: Strings.csvRecord (y :: rest)) acc (.inr ⟨_, rfl⟩)
    have ih := csv_record (y :: rest) (acc ++ [x]) (by simp)
    simp only [Strings.csvRecord, List.append_assoc, List.singleton_append]
    rw [this]
    simp [afterField, ih]

theorem csvRun_run (c : Ctx) : ∀ (as : List Arg) (acc : List Bytes),
    (Strings.csvRun (as.map Arg.stage) acc).run c = .ok (Strings.csvRecord (acc ++ as.map (Arg.val c)))
  | [], acc => by simp [Strings.csvRun, Comp.run]
  | a :: rest, acc => by
    simp only [List.map_cons, Strings.csvRun, Comp.bind_eq, Comp.run_bind, Arg.run_stage]
    rw [csvRun_run c rest (acc ++ [a.val c])]
    simp

theorem kfCsv_call (c : Ctx) (as : List Arg) (h : as ≠ []) :
    callHelper Strings.kfCsv as c = .ok (Strings.csvRecord (as.map (Arg.val c))) := by
  cases as with
  | nil => exact absurd rfl h
  | cons a rest =>
    unfold callHelper Strings.kfCsv
    simp only [List.map_cons]
    have := csvRun_run c (a :: rest) []
    simpa [ok] using this

theorem hi_call (c : Ctx) (a : Arg) :
    callHelper Strings.kfHumanizeInt [a] c = .ok (match atoi (a.val c) with
      | none => ErrorNum
      | some n => Strings.humanizeInt n) := by
  simp only [callHelper, Strings.kfHumanizeInt, List.map, ok, Comp.bind_eq, Comp.run_bind, Arg.run_stage]
  cases atoi (a.val c) <;> rfl

theorem expbucket_call (c : Ctx) (a : Arg) :
    callHelper Arith.kfExpBucket [a] c = .ok (match atoi (a.val c) with
      | none => ErrorNum
      | some n => itoa (Arith.expBucketVal n)) := by
  simp only [callHelper, Arith.kfExpBucket, List.map, ok, Comp.bind_eq, Comp.run_bind, Arg.run_stage]
  cases atoi (a.val c) <;> rfl

theorem evalStageInt_const (b : Bytes) : evalStageInt (Arg.const b).stage = .ok (atoi b) := rfl

theorem bucket_call (render : Int → Int → Bytes) (c : Ctx) (a : Arg) (sz : Bytes) (s : Int)
    (hs : atoi sz = some s) (hpos : 0 < s) :
    callHelper (Arith.bucketBuilder render) [a, .const sz] c = .ok (match atoi (a.val c) with
      | none => ErrorNum
      | some v => render v s) := by
  have hn : ¬ (s ≤ 0) := by omega
  simp only [callHelper, Arith.bucketBuilder, List.map, evalStageInt_const, hs, hn, if_false, ok, Comp.bind_eq, Comp.run_bind,
    Arg.run_stage]
  cases atoi (a.val c) <;> rfl

theorem clamp_call (c : Ctx) (a : Arg) (lo hi : Bytes) (mn mx : Int)
    (h1 : atoi lo = some mn) (h2 : atoi hi = some mx) :
    callHelper Arith.kfClamp [a, .const lo, .const hi] c = .ok (match atoi (a.val c) with
      | none => ErrorNum
      | some v => Arith.clampVal (a.val c) v mn mx) := by
  simp only [callHelper, Arith.kfClamp, List.map, evalStageInt_const, h1, h2, ok, Comp.bind_eq, Comp.run_bind, Arg.run_stage]
  cases atoi (a.val c) <;> rfl

theorem substr_call (c : Ctx) (a l n : Arg) (hs : ((a.val c).length : Int) ≤ maxInt64) :
    callHelper Strings.kfSubstr [a, l, n] c =
      if (a.val c).isEmpty then .ok []
      else match atoi (l.val c), atoi (n.val c) with
        | some left, some len => Strings.substrVal (a.val c) left len
        | _, _ => .ok ErrorNum := by
  simp only [callHelper, Strings.kfSubstr, List.map, ok, Comp.bind_eq, Comp.run_bind, Arg.run_stage]
  by_cases he : (a.val c).isEmpty = true
  · simp [he, Comp.run_ret]
  · have hg : ¬ (((a.val c).length : Int) > maxInt64) := by omega
    simp only [he]
    rw [if_neg (by simp), if_neg hg, if_neg (by simp)]
    simp only [Comp.run_bind, Arg.run_stage]
    cases atoi (l.val c) <;> cases atoi (n.val c) <;> try rfl
    simp only []
    cases Strings.substrVal (a.val c) _ _ <;> rfl

theorem not_call (c : Ctx) (a : Arg) :
    callHelper Logic.kfNot [a] c = .ok (truthyStr (!truthy (a.val c))) := by
  simp only [callHelper, Logic.kfNot, List.map, ok, Comp.bind_eq, Comp.run_bind, Arg.run_stage]
  cases truthy (a.val c) <;> rfl

theorem and_go_run (c : Ctx) : ∀ as : List Arg,
    (Logic.kfAnd.go (as.map Arg.stage)).run c = .ok (truthyStr (as.all fun a => a.val c != []))
  | [] => rfl
  | a :: rest => by
    simp only [List.map_cons, Logic.kfAnd.go, Comp.bind_eq, Comp.run_bind, Arg.run_stage, List.all_cons]
    by_cases h : a.val c = [] <;> simp [h, FalsyVal, Comp.run_ret, truthyStr, and_go_run c rest]

theorem and_call (c : Ctx) (as : List Arg) :
    callHelper Logic.kfAnd as c = .ok (truthyStr (as.all fun a => a.val c != [])) := by
  simp only [callHelper, Logic.kfAnd, ok]
  exact and_go_run c as

theorem or_go_run (c : Ctx) : ∀ as : List Arg,
    (Logic.kfOr.go (as.map Arg.stage)).run c = .ok (truthyStr (as.any fun a => a.val c != []))
  | [] => rfl
  | a :: rest => by
    simp only [List.map_cons, Logic.kfOr.go, Comp.bind_eq, Comp.run_bind, Arg.run_stage, List.any_cons]
    by_cases h : a.val c = [] <;> simp [h, FalsyVal, Comp.run_ret, truthyStr, or_go_run c rest]

theorem or_call (c : Ctx) (as : List Arg) :
    callHelper Logic.kfOr as c = .ok (truthyStr (as.any fun a => a.val c != [])) := by
  simp only [callHelper, Logic.kfOr, ok]
  exact or_go_run c as

theorem if_call (c : Ctx) (a t e : Arg) :
    callHelper Logic.kfIf [a, t, e] c = .ok (if truthy (a.val c) then t.val c else e.val c) := by
  simp only [callHelper, Logic.kfIf, List.map, ok, Comp.bind_eq, Comp.run_bind, Arg.run_stage]
  cases truthy (a.val c) <;> simp [Arg.run_stage]

theorem if2_call (c : Ctx) (a t : Arg) :
    callHelper Logic.kfIf [a, t] c = .ok (if truthy (a.val c) then t.val c else []) := by
  simp only [callHelper, Logic.kfIf, List.map, ok, Comp.bind_eq, Comp.run_bind, Arg.run_stage]
  cases truthy (a.val c) <;> simp [Arg.run_stage, Comp.run_ret, FalsyVal]

theorem unless_call (c : Ctx) (a t : Arg) :
    callHelper Logic.kfUnless [a, t] c = .ok (if truthy (a.val c) then [] else t.val c) := by
  simp only [callHelper, Logic.kfUnless, List.map, ok, Comp.bind_eq, Comp.run_bind, Arg.run_stage]
  cases truthy (a.val c) <;> simp [Arg.run_stage, Comp.run_ret]

/-- `{eq a b}`, `{neq a b}` and any other two-argument `stringComparator`: the comparison of the two values. -/
theorem strcmp_call (f : Bytes → Bytes → Bytes) (c : Ctx) (a b : Arg) :
    callHelper (Logic.stringComparator f) [a, b] c = .ok (f (a.val c) (b.val c)) := by
  simp only [callHelper, Logic.stringComparator, List.map, ok, Comp.bind_eq, Comp.run_bind, Arg.run_stage,
    Logic.stringComparator.go, Comp.run]

theorem eq_call (c : Ctx) (a b : Arg) :
    callHelper (Logic.stringComparator fun x y => if x = y then TruthyVal else FalsyVal) [a, b] c =
      .ok (truthyStr (decide (a.val c = b.val c))) := by
  rw [strcmp_call]; by_cases h : a.val c = b.val c <;> simp [h, truthyStr]

theorem neq_call (c : Ctx) (a b : Arg) :
    callHelper (Logic.stringComparator fun x y => if x ≠ y then TruthyVal else FalsyVal) [a, b] c =
      .ok (truthyStr (decide (a.val c ≠ b.val c))) := by
  rw [strcmp_call]; by_cases h : a.val c = b.val c <;> simp [h, truthyStr]

/-- What one line of the table text contributes: nothing for a comment line or a line with 0 or
    more than 2 fields, `(key, "")` for one field, `(key, value)` for two. -/
def lineEntry (commentPrefix line : Bytes) : Option (Bytes × Bytes) :=
  if !commentPrefix.isEmpty && commentPrefix.isPrefixOf line then none
  else match Misc.fieldsGo line [] 0 with
    | [k] => some (k, [])
    | [k, v] => some (k, v)
    | _ => none

theorem lookupStep_eq (p : Bytes) (tbl : List (Bytes × Bytes)) (line : Bytes) :
    Misc.lookupStep p tbl line = tbl ++ (lineEntry p line).toList := by
  unfold Misc.lookupStep lineEntry
  split
  · simp
  · generalize Misc.fieldsGo line [] 0 = fs
    match fs with
    | [] => simp
    | [_] => simp
    | [_, _] => simp
    | _ :: _ :: _ :: _ => simp

theorem table_eq_filterMap (p : Bytes) : ∀ (lines : List Bytes) (tbl : List (Bytes × Bytes)),
    lines.foldl (Misc.lookupStep p) tbl = tbl ++ lines.filterMap (lineEntry p)
  | [], tbl => by simp
  | l :: rest, tbl => by
    rw [List.foldl_cons, table_eq_filterMap p rest, lookupStep_eq]
    cases h : lineEntry p l <;> simp [h]

theorem tableGet_none_iff (tbl : List (Bytes × Bytes)) (k : Bytes) :
    Misc.tableGet tbl k = none ↔ ∀ e ∈ tbl, e.1 ≠ k := by
  unfold Misc.tableGet
  simp [List.find?_eq_none]

theorem tableGet_hit (pre post : List (Bytes × Bytes)) (k v : Bytes) (h : ∀ e ∈ post, e.1 ≠ k) :
    Misc.tableGet (pre ++ [(k, v)] ++ post) k = some v := by
  unfold Misc.tableGet
  have hpost : post.reverse.find? (fun e => e.1 == k) = none := by
    simp [List.find?_eq_none]; exact fun a b hab => h (a, b) hab
  simp [List.reverse_append, List.find?_append, hpost]

theorem lookup_call (c : Ctx) (render : Option Bytes → Bytes) (key : Arg) (content : Bytes) :
    callHelper (Misc.lookupBuilder render) [key, .const content] c =
      .ok (render (Misc.tableGet (Misc.buildLookupTable content []) (key.val c))) := by
  simp only [callHelper, Misc.lookupBuilder, List.map, List.length_cons, List.length_nil]
  simp [Arg.probe_const, evalStageIndexOrDefault, ok, Comp.bind_eq, Comp.run_bind, Arg.run_stage, Comp.run_ret]

def WordB (c : UInt8) : Prop := c ≠ 32 ∧ c ≠ 9 ∧ c ≠ 10 ∧ c ≠ 0 ∧ c ≠ 34

theorem wordB_facts {c : UInt8} (h : WordB c) : Strings.isSelDelim c = false ∧ (c == 34) = false := by
  obtain ⟨h1, h2, h3, h4, h5⟩ := h
  simp [Strings.isSelDelim, h1, h2, h3, h4, h5]

/-- Inside a word nothing happens. -/
theorem sel_word (s : Bytes) (idx : Int) : ∀ (u tail : Bytes) (i : Nat) (st : Strings.SelSt),
    (∀ c ∈ u, WordB c) → st.quoted = false → st.inDelim = false →
    Strings.selLoop s idx (u ++ tail) i st = Strings.selLoop s idx tail (i + u.length) st
  | [], tail, i, st, _, _, _ => by simp
  | c :: u, tail, i, st, h, hq, hd => by
    obtain ⟨f1, f2⟩ := wordB_facts (h c (by simp))
    have ih := sel_word s idx u tail (i + 1) st (fun d hd' => h d (by simp [hd'])) hq hd
    simp only [List.cons_append, Strings.selLoop, hq, hd, f1, f2]
    simp only [Bool.false_and, Bool.not_false, Bool.true_and, Bool.or_self, Bool.false_eq_true, if_false]
    rw [ih]; congr 1; simp only [List.length_cons]; omega

theorem joinWords_cons2 (w w' : Bytes) (rest : List Bytes) :
    Spec.joinWords (w :: w' :: rest) = w ++ 32 :: Spec.joinWords (w' :: rest) := by
  simp [Spec.joinWords]

theorem joinWords_head (w : Bytes) (rest : List Bytes) (hw : w ≠ []) :
    ∃ c u, w = c :: u ∧ ∃ t, Spec.joinWords (w :: rest) = c :: u ++ t := by
  cases w with
  | nil => exact absurd rfl hw
  | cons c u =>
    refine ⟨c, u, rfl, ?_⟩
    cases rest with
    | nil => exact ⟨[], by simp [Spec.joinWords]⟩
    | cons w' r => exact ⟨32 :: Spec.joinWords (w' :: r), by rw [joinWords_cons2]⟩

theorem sel_words (idx : Int) : ∀ (ws : List Bytes) (pre : Bytes) (j : Int), ws ≠ [] →
    (∀ w ∈ ws, Spec.IsWord w) →
    Strings.selLoop (pre ++ Spec.joinWords ws) idx (Spec.joinWords ws) pre.length
        { currIdx := j, wordStart := pre.length, inDelim := false, quoted := false } =
      (if j ≤ idx then ws.getD (idx - j).toNat [] else [])
  | [], _, _, h, _ => absurd rfl h
  | [w], pre, j, _, hw => by
    have hclean : ∀ c ∈ w, WordB c := (hw w (by simp)).2
    have := sel_word (pre ++ w) idx w [] pre.length
      { currIdx := j, wordStart := pre.length, inDelim := false, quoted := false } hclean rfl rfl
    simp only [List.append_nil] at this
    simp only [Spec.joinWords, this, Strings.selLoop]
    by_cases hj : j = idx
    · subst hj; simp
    · simp only [hj, if_false]
      by_cases hle : j ≤ idx
      · have : (idx - j).toNat ≠ 0 := by omega
        simp only [hle, if_true]
        cases hn : (idx - j).toNat with
        | zero => exact absurd hn this
        | succ n => simp [List.getD]
      · simp [hle]
  | w :: w' :: rest, pre, j, _, hw => by
    have hclean : ∀ c ∈ w, WordB c := (hw w (by simp)).2
    have hw'ne : w' ≠ [] := (hw w' (by simp)).1
    rw [joinWords_cons2]
    have hW := sel_word (pre ++ (w ++ 32 :: Spec.joinWords (w' :: rest))) idx w
      (32 :: Spec.joinWords (w' :: rest)) pre.length
      { currIdx := j, wordStart := pre.length, inDelim := false, quoted := false } hclean rfl rfl
    rw [hW]
    by_cases hj : j = idx
    · subst hj
      have d32 : Strings.isSelDelim 32 = true := by decide
      simp [Strings.selLoop, d32]
    · obtain ⟨c, u, hcu, t, ht⟩ := joinWords_head w' rest hw'ne
      have hcB : WordB c := (hw w' (by simp)).2 c (by simp [hcu])
      obtain ⟨f1, f2⟩ := wordB_facts hcB
      have ih := sel_words idx (w' :: rest) (pre ++ w ++ [32]) (j + 1) (by simp)
        (fun x hx => hw x (by simp at hx ⊢; rcases hx with e | e <;> simp [e]))
      have hs : pre ++ (w ++ 32 :: Spec.joinWords (w' :: rest)) = pre ++ w ++ [32] ++ Spec.joinWords (w' :: rest) := by
        simp
      rw [hs]
      rw [ht] at ih ⊢
      have d32 : Strings.isSelDelim 32 = true := by decide
      have q32 : ((32 : UInt8) == 34) = false := by decide
      simp only [Strings.selLoop, d32, q32, hj, f1, f2, List.cons_append] at ih ⊢
      simp only [Bool.false_and, Bool.not_false, Bool.true_and, Bool.or_self, Bool.false_eq_true, if_false,
        Bool.or_true, if_true] at ih ⊢
      have hl : (pre ++ w ++ [32]).length = pre.length + w.length + 1 := by simp; omega
      rw [hl] at ih
      rw [ih]
      by_cases hle : j ≤ idx
      · have h1 : j + 1 ≤ idx := by omega
        have h2 : (idx - j).toNat = (idx - (j + 1)).toNat + 1 := by omega
        simp [hle, h1, h2, List.getD]
      · have h1 : ¬ (j + 1 ≤ idx) := by omega
        simp [hle, h1]

end Rare.C11

import Rare.Proofs.C07Counter
/-! Sub-key counter, part A: byte order, ordered insert, index regeneration. -/
namespace Rare.C07

/-! ### `bLt` is a strict total order -/

theorem bLt_irrefl (a : Bytes) : bLt a a = false := by
  induction a with
  | nil => rfl
  | cons x a ih => simp [bLt, ih]

theorem bLt_trans {a b c : Bytes} (h1 : bLt a b = true) (h2 : bLt b c = true) : bLt a c = true := by
  induction a generalizing b c with
  | nil =>
    cases b with
    | nil => simp [bLt] at h1
    | cons y b => cases c with
      | nil => simp [bLt] at h2
      | cons z c => rfl
  | cons x a ih =>
    cases b with
    | nil => simp [bLt] at h1
    | cons y b => cases c with
      | nil => simp [bLt] at h2
      | cons z c =>
        simp only [bLt, Bool.or_eq_true, decide_eq_true_eq, Bool.and_eq_true, beq_iff_eq] at *
        rcases h1 with h1 | ⟨e1, h1⟩ <;> rcases h2 with h2 | ⟨e2, h2⟩
        · left; omega
        · subst e2; left; exact h1
        · subst e1; left; exact h2
        · subst e1; subst e2; right; exact ⟨rfl, ih h1 h2⟩

theorem bLt_total {a b : Bytes} (h : a ≠ b) (h1 : bLt a b = false) : bLt b a = true := by
  induction a generalizing b with
  | nil => cases b with
    | nil => exact absurd rfl h
    | cons y b => simp [bLt] at h1
  | cons x a ih => cases b with
    | nil => rfl
    | cons y b =>
      simp only [bLt, Bool.or_eq_false_iff, decide_eq_false_iff_not, Bool.and_eq_false_iff, Bool.or_eq_true,
        decide_eq_true_eq, Bool.and_eq_true, beq_iff_eq] at *
      by_cases hxy : x = y
      · subst hxy
        right; refine ⟨rfl, ih (fun e => h (by rw [e])) ?_⟩
        rcases h1.2 with h2 | h2
        · simp at h2
        · exact h2
      · left
        have : x.toNat ≠ y.toNat := fun e => hxy (UInt8.toNat_inj.mp e)
        omega

abbrev Sorted (l : List Bytes) : Prop := l.Pairwise (fun a b => bLt a b = true)

theorem sorted_nodup {l : List Bytes} (h : Sorted l) : l.Nodup := by
  refine List.Pairwise.imp ?_ h
  intro a b hab e; subst e; rw [bLt_irrefl] at hab; exact Bool.noConfusion hab

/-! ### insertAlphanumeric -/

theorem insertAt_nil_zero {α : Type} (x : α) : insertAt ([] : List α) 0 x = [x] := rfl

theorem insAlpha_eq (l : List Bytes) (x : Bytes) :
    (insertAlphanumeric l x).1 = insertAt l (insertAlphanumeric l x).2 x ∧ (insertAlphanumeric l x).2 ≤ l.length := by
  induction l with
  | nil => simp [insertAlphanumeric, insertAt]
  | cons v r ih =>
    unfold insertAlphanumeric
    split
    · simp [insertAt]
    · simp only [insertAt, List.take_succ_cons, List.drop_succ_cons, List.cons_append, List.length_cons]
      exact ⟨by rw [ih.1]; rfl, by omega⟩

theorem mem_insertAt {α : Type} (l : List α) (i : Nat) (x y : α) : y ∈ insertAt l i x ↔ y = x ∨ y ∈ l := by
  rw [insertAt, ← List.mem_cons]
  conv => rhs; rw [← List.take_append_drop i l]
  exact List.perm_middle.mem_iff

theorem mem_insAlpha (l : List Bytes) (x y : Bytes) : y ∈ (insertAlphanumeric l x).1 ↔ y = x ∨ y ∈ l := by
  rw [(insAlpha_eq l x).1, mem_insertAt]

theorem insAlpha_sorted (l : List Bytes) (x : Bytes) (hs : Sorted l) (hx : x ∉ l) :
    Sorted (insertAlphanumeric l x).1 := by
  induction l with
  | nil => simp [insertAlphanumeric, Sorted]
  | cons v r ih =>
    have hs' := List.pairwise_cons.mp hs
    unfold insertAlphanumeric
    split
    · rename_i hlt
      refine List.pairwise_cons.mpr ⟨?_, hs⟩
      intro y hy
      rcases List.mem_cons.mp hy with rfl | hy
      · exact hlt
      · exact bLt_trans hlt (hs'.1 y hy)
    · rename_i hlt
      have hne : x ≠ v := fun e => hx (by rw [e]; exact List.mem_cons_self)
      have hvx : bLt v x = true := bLt_total hne (by simpa using hlt)
      refine List.pairwise_cons.mpr ⟨?_, ih hs'.2 (fun h => hx (List.mem_cons_of_mem _ h))⟩
      intro y hy
      rcases (mem_insAlpha r x y).mp hy with rfl | hy
      · exact hvx
      · exact hs'.1 y hy

theorem getElem?_insertAt_self {α : Type} (l : List α) (i : Nat) (x : α) (h : i ≤ l.length) :
    (insertAt l i x)[i]? = some x := by
  unfold insertAt
  rw [List.getElem?_append_right (by simp; omega)]
  simp [Nat.min_eq_left h]

/-! ### regenIdx -/

theorem regenIdx_spec (keys : List Bytes) (m : List (Bytes × Nat)) (start : Nat) (hn : keys.Nodup) (x : Bytes) :
    (∀ j, keys[j]? = some x → aget (regenIdx m keys start) x = some (start + j)) ∧
    (x ∉ keys → aget (regenIdx m keys start) x = aget m x) := by
  induction keys generalizing m start with
  | nil => simp [regenIdx]
  | cons k r ih =>
    have hn' := List.nodup_cons.mp hn
    have := ih (aset m k start) (start + 1) hn'.2
    unfold regenIdx
    constructor
    · intro j hj
      cases j with
      | zero =>
        simp only [List.getElem?_cons_zero, Option.some.injEq] at hj
        subst hj
        rw [this.2 hn'.1, aget_aset_self]; rfl
      | succ j =>
        simp only [List.getElem?_cons_succ] at hj
        rw [this.1 j hj]; congr 1; omega
    · intro hx
      have hx' : x ≠ k ∧ x ∉ r := ⟨fun e => hx (e ▸ List.mem_cons_self), fun h => hx (List.mem_cons_of_mem _ h)⟩
      rw [this.2 hx'.2, aget_aset_ne _ _ _ _ (fun e => hx'.1 e.symm)]

/-! ### lists of per-sub-key values -/

theorem replicate_eq_map {α : Type} (l : List α) (f : α → Int) (h : ∀ x ∈ l, f x = 0) :
    List.replicate l.length (0 : Int) = l.map f := by
  induction l with
  | nil => rfl
  | cons a l ih =>
    simp only [List.length_cons, List.replicate_succ, List.map_cons]
    rw [h a List.mem_cons_self, ih (fun x hx => h x (List.mem_cons_of_mem _ hx))]

theorem insertAt_map {α β : Type} (l : List α) (i : Nat) (x : α) (f : α → β) :
    insertAt (l.map f) i (f x) = (insertAt l i x).map f := by
  simp [insertAt, List.map_take, List.map_drop]

theorem map_set_nodup {α : Type} (l : List α) (f f' : α → Int) (i : Nat) (a : α) (hn : l.Nodup)
    (hi : l[i]? = some a) (hf : ∀ x, x ≠ a → f' x = f x) : (l.map f).set i (f' a) = l.map f' := by
  induction l generalizing i with
  | nil => simp at hi
  | cons b l ih =>
    have hn' := List.nodup_cons.mp hn
    cases i with
    | zero =>
      simp only [List.getElem?_cons_zero, Option.some.injEq] at hi
      subst hi
      simp only [List.map_cons, List.set_cons_zero, List.cons.injEq, true_and]
      apply List.map_congr_left
      intro x hx
      exact (hf x (fun e => hn'.1 (e ▸ hx))).symm
    | succ i =>
      simp only [List.getElem?_cons_succ] at hi
      simp only [List.map_cons, List.set_cons_succ, List.cons.injEq]
      refine ⟨?_, ih i hn'.2 hi⟩
      have : b ≠ a := fun e => hn'.1 (e ▸ List.mem_of_getElem? hi)
      exact (hf b this).symm

theorem aget_map_val {α β : Type} (m : List (Bytes × α)) (g : α → β) (k : Bytes) :
    aget (m.map fun (kv : Bytes × α) => (kv.1, g kv.2)) k = (aget m k).map g := by
  induction m with
  | nil => rfl
  | cons e m ih =>
    obtain ⟨k0, v0⟩ := e
    by_cases h : k0 = k <;> simp [aget, h, ih]

end Rare.C07

import Rare.Proofs.C15Trace
import Rare.Proofs.C15TailSpec
/-!
The batch state of the composed loop `Rare.C15.Tail.iterN` IS the heap-explicit batching loop
`Rare.C15.Batch` folded over the tokens scanned so far, each paired with the timer's answer at its index;
hence the starts and sizes of the batches of `tailToChan` are those of the flush log `flushLog` under the
oracle `timer 0, timer 1, …` (one answer per line of the delivered stream).
-/
namespace Rare.C15.Tail
open Rare.C04 Rare.C15.Batch Rare.C15.Trace

/-- the scanned tokens paired with the timer's answer at their index -/
def flagged {α : Type} (timer : Nat → Bool) (vs : List α) : List (α × Bool) := vs.zipIdx.map fun p => (p.1, timer p.2)

theorem flagged_snoc {α : Type} (timer : Nat → Bool) (vs : List α) (v : α) :
    flagged timer (vs ++ [v]) = flagged timer vs ++ [(v, timer vs.length)] := by
  simp [flagged, List.zipIdx_append]

theorem flagged_snd {α : Type} (timer : Nat → Bool) (vs : List α) :
    (flagged timer vs).map (·.2) = (List.range vs.length).map timer := by
  simp only [flagged, List.map_map, Function.comp_def]
  rw [List.range_eq_range', ← List.zipIdx_map_snd 0 vs, List.map_map]
  rfl

structure K (source : String) (batchSize : Nat) (timer : Nat → Bool) (s : TSt) : Prop where
  lines : s.lines = s.toks.length
  run : s.status ≠ .closed →
    s.b = (flagged timer (s.toks.map (·.1))).foldl (step source batchSize) (St.init batchSize)
  fin : s.status = .closed → s.b = Batch.run source batchSize (flagged timer (s.toks.map (·.1)))

theorem k_iter {source : String} (batchSize fuel : Nat) (timer : Nat → Bool) {s : TSt}
    (h : K source batchSize timer s) : K source batchSize timer (iter source batchSize fuel timer s) := by
  unfold iter
  split
  · rename_i hrun
    have hb := h.run (by rw [hrun]; decide)
    generalize s.imm.scan fuel = r
    obtain ⟨res, imm'⟩ := r
    cases res with
    | tok v bytes =>
      refine ⟨by simp [h.lines], fun _ => ?_, fun hc => by simp at hc⟩
      simp only [advance_b, advance_toks, List.map_append, List.map_cons, List.map_nil]
      rw [flagged_snoc, List.foldl_append, ← hb, h.lines]
      simp
    | done =>
      refine ⟨by simpa using h.lines, fun hc => by simp at hc, fun _ => ?_⟩
      simp only [advance_b, advance_toks, Batch.run]
      rw [hb]
    | fuel =>
      refine ⟨by simpa using h.lines, fun _ => by simpa using hb, fun hc => by simp at hc⟩
  · exact h

theorem k_iterN {source : String} (batchSize fuel : Nat) (timer : Nat → Bool) (k : Nat) {s : TSt}
    (h : K source batchSize timer s) : K source batchSize timer (iterN source batchSize fuel timer k s) :=
  iterN_ind (P := K source batchSize timer) (fun _ => k_iter batchSize fuel timer) k h

theorem k_init (source : String) (bufSize batchSize : Nat) (timer : Nat → Bool) (rd : Reader) :
    K source batchSize timer (TSt.init bufSize batchSize rd) :=
  ⟨rfl, fun _ => rfl, fun h => by simp [TSt.init] at h⟩

/-- **The loop of `tailToChan` is `Batch.run`** over the scanned tokens with the timer's answers. -/
theorem tail_b_eq_run (source : String) (bufSize batchSize : Nat) (timer : Nat → Bool) (data : Bytes)
    (script : List Step) (hb : 1 ≤ bufSize) :
    (tailToChan source bufSize batchSize timer data script).b =
      Batch.run source batchSize (flagged timer ((tailToChan source bufSize batchSize timer data script).toks.map (·.1))) :=
  (k_iterN batchSize _ timer _ (k_init source bufSize batchSize timer ⟨data, script⟩)).fin
    (tail_closed source bufSize batchSize timer data script hb)

theorem numbered_shape (s : TSt) : s.numbered.map shape = (s.b.out.map s.b.read).map shape := by
  simp [TSt.numbered, TSt.readBatch, St.read, shape, List.map_map, Function.comp_def]

/-- The starts and sizes of the batches of `tailToChan` are those of the flush log under the oracle
    `timer 0 … timer (L-1)`, `L` = number of lines of the delivered stream. -/
theorem tail_shapes_eq_flushLog (source : String) (bufSize batchSize : Nat) (timer : Nat → Bool) (data : Bytes)
    (script : List Step) (hb : 1 ≤ bufSize) :
    let t := tailToChan source bufSize batchSize timer data script
    t.numbered.map shape =
      (flushLog batchSize ((List.range (splitLines t.imm.delivered).length).map timer) true).map fshape := by
  intro t
  have hj : J source t := j_after source bufSize batchSize timer data script hb _
  have hc := tail_closed source bufSize batchSize timer data script hb
  obtain ⟨_, _, h3, _⟩ := hj.fin hc
  have hlen : (splitLines t.imm.delivered).length = (t.toks.map (·.1)).length := by rw [h3]; simp
  rw [numbered_shape, tail_b_eq_run source bufSize batchSize timer data script hb, run_refines, hlen,
    ← flagged_snd timer, flushLog_run]

end Rare.C15.Tail

import Rare.Proofs.C01Summary
/-!
C01: the colour codes of the summary line are transparent – what a terminal displays of the coloured line
(`color.Enabled`) is the uncoloured line.
-/
namespace Rare.C01
open Rare

theorem stripAnsiGo_plain : ∀ (a b : Bytes), (27 : UInt8) ∉ a → stripAnsiGo false (a ++ b) = a ++ stripAnsiGo false b
  | [], _, _ => rfl
  | c :: r, b, h => by
    have hc : c ≠ 27 := fun e => h (by simp [e])
    have hr : (27 : UInt8) ∉ r := fun e => h (by simp [e])
    simp only [List.cons_append, stripAnsiGo, hc, if_false, stripAnsiGo_plain r b hr]

theorem stripAnsi_plain (a : Bytes) (h : (27 : UInt8) ∉ a) : stripAnsi a = a := by
  have := stripAnsiGo_plain a [] h
  simpa [stripAnsi, stripAnsiGo] using this

theorem stripAnsiGo_reset (b : Bytes) : stripAnsiGo false (cReset ++ b) = stripAnsiGo false b := by
  have : cReset = [27, 91, 48, 109] := by decide +kernel
  simp [this, stripAnsiGo]

theorem stripAnsiGo_green (b : Bytes) : stripAnsiGo false (cBrightGreen ++ b) = stripAnsiGo false b := by
  have : cBrightGreen = [27, 91, 51, 50, 59, 49, 109] := by decide +kernel
  simp [this, stripAnsiGo]

theorem stripAnsiGo_white (b : Bytes) : stripAnsiGo false (cBrightWhite ++ b) = stripAnsiGo false b := by
  have : cBrightWhite = [27, 91, 51, 55, 59, 49, 109] := by decide +kernel
  simp [this, stripAnsiGo]

theorem stripAnsiGo_red (b : Bytes) : stripAnsiGo false (cRed ++ b) = stripAnsiGo false b := by
  have : cRed = [27, 91, 51, 49, 109] := by decide +kernel
  simp [this, stripAnsiGo]

theorem esc_not_num {s : Bytes} (h : s.all isNumB = true) : (27 : UInt8) ∉ s := by
  intro hm
  have := List.all_eq_true.mp h 27 hm
  revert this; decide

/-- a text without `ESC` does not end with `Reset`: `color.Wrap` appends it -/
theorem wrap_true_of_noEsc (code s : Bytes) (h : (27 : UInt8) ∉ s) : wrap true code s = code ++ s ++ cReset := by
  unfold wrap
  simp only [Bool.not_true, Bool.false_eq_true, if_false]
  have hc : (s.length < cReset.length || s.drop (s.length - cReset.length) != cReset) = true := by
    by_cases hl : s.length < cReset.length
    · simp [hl]
    · simp only [hl, decide_false, Bool.false_or, bne_iff_ne, ne_eq]
      intro he
      apply h
      have : (27 : UInt8) ∈ s.drop (s.length - cReset.length) := by rw [he]; decide +kernel
      exact List.mem_of_mem_drop this
  rw [if_pos hc]

theorem lit_noEsc_matched : (27 : UInt8) ∉ ascii "Matched: " := by decide +kernel
theorem lit_noEsc_slash : (27 : UInt8) ∉ ascii " / " := by decide +kernel
theorem lit_noEsc_ignored : (27 : UInt8) ∉ ascii " (Ignored: " := by decide +kernel
theorem lit_noEsc_paren : (27 : UInt8) ∉ ascii ")" := by decide +kernel
theorem lit_noEsc_errors : (27 : UInt8) ∉ ascii "(Errors: " := by decide +kernel

theorem parts_noEsc : ∀ (parts : List Bytes), (∀ p ∈ parts, (27 : UInt8) ∉ p) → (27 : UInt8) ∉ parts.flatMap fun p => 32 :: p
  | [], _ => by simp
  | p :: r, h => by
    simp only [List.flatMap_cons, List.mem_append, List.mem_cons, not_or]
    exact ⟨⟨by decide, h p (by simp)⟩, parts_noEsc r fun q hq => h q (by simp [hq])⟩

/-- a text without `ESC`, wrapped in a colour code that is not displayed, is displayed as itself -/
theorem strip_wrap (code s b : Bytes) (hcode : ∀ b, stripAnsiGo false (code ++ b) = stripAnsiGo false b)
    (h : (27 : UInt8) ∉ s) : stripAnsiGo false (wrap true code s ++ b) = s ++ stripAnsiGo false b := by
  rw [wrap_true_of_noEsc _ _ h, List.append_assoc, List.append_assoc, hcode, stripAnsiGo_plain _ _ h, stripAnsiGo_reset]

theorem wrap_false (c s : Bytes) : wrap false c s = s := by simp [wrap]

theorem strip_ignoredPart (fmt : Bool) (i : Nat) (b : Bytes) :
    stripAnsiGo false ((if i > 0 then ascii " (Ignored: " ++ wrap true cRed (hui fmt i) ++ ascii ")" else []) ++ b) =
      (if i > 0 then ascii " (Ignored: " ++ wrap false cRed (hui fmt i) ++ ascii ")" else []) ++ stripAnsiGo false b := by
  split
  · rw [wrap_false, List.append_assoc, List.append_assoc, stripAnsiGo_plain _ _ lit_noEsc_ignored,
      strip_wrap _ _ _ stripAnsiGo_red (esc_not_num (hui_allNum fmt i)), stripAnsiGo_plain _ _ lit_noEsc_paren]
    simp only [List.append_assoc]
  · rfl

theorem strip_errorsPart (fmt : Bool) (e : Nat) (b : Bytes) :
    stripAnsiGo false ((if e > 0 then 32 :: wrap true cRed (ascii "(Errors: " ++ hui fmt e ++ ascii ")") else []) ++ b) =
      (if e > 0 then 32 :: wrap false cRed (ascii "(Errors: " ++ hui fmt e ++ ascii ")") else []) ++ stripAnsiGo false b := by
  have he : (27 : UInt8) ∉ ascii "(Errors: " ++ hui fmt e ++ ascii ")" := by
    simp only [List.mem_append, not_or]
    exact ⟨⟨lit_noEsc_errors, esc_not_num (hui_allNum fmt e)⟩, lit_noEsc_paren⟩
  split
  · rw [wrap_false, List.cons_append]
    simp only [stripAnsiGo, show ((32 : UInt8) = 27) = False by decide, if_false]
    rw [strip_wrap _ _ _ stripAnsiGo_red he]
    simp
  · rfl

/-- the displayed text of the coloured summary is the uncoloured summary -/
theorem stripAnsi_extractorSummary (fmt : Bool) (m r i e : Nat) (parts : List Bytes) (hp : ∀ p ∈ parts, (27 : UInt8) ∉ p) :
    stripAnsi (extractorSummary fmt true m r i e parts) = extractorSummary fmt false m r i e parts := by
  have hm := esc_not_num (hui_allNum fmt m)
  have hr := esc_not_num (hui_allNum fmt r)
  have hparts := parts_noEsc parts hp
  unfold stripAnsi extractorSummary matchSummary
  rw [← List.append_nil (_ ++ (if e > 0 then _ else []))]
  simp only [List.append_assoc]
  rw [stripAnsiGo_plain _ _ lit_noEsc_matched, strip_wrap _ _ _ stripAnsiGo_green hm, stripAnsiGo_plain _ _ lit_noEsc_slash,
    strip_wrap _ _ _ stripAnsiGo_white hr, stripAnsiGo_plain _ _ hparts]
  have h1 := strip_ignoredPart fmt i
  have h2 := strip_errorsPart fmt e []
  simp only [List.append_assoc] at h1 h2
  rw [h1, h2]
  simp [wrap_false, stripAnsiGo]

/-- … and the uncoloured summary has nothing to strip -/
theorem stripAnsi_extractorSummary_plain (fmt : Bool) (m r i e : Nat) (parts : List Bytes) (hp : ∀ p ∈ parts, (27 : UInt8) ∉ p) :
    stripAnsi (extractorSummary fmt false m r i e parts) = extractorSummary fmt false m r i e parts := by
  apply stripAnsi_plain
  simp only [extractorSummary, matchSummary, wrap_false, List.mem_append, not_or]
  refine ⟨⟨⟨⟨⟨⟨lit_noEsc_matched, esc_not_num (hui_allNum fmt m)⟩, lit_noEsc_slash⟩, esc_not_num (hui_allNum fmt r)⟩,
    parts_noEsc parts hp⟩, ?_⟩, ?_⟩
  · split
    · simp only [List.mem_append, not_or]
      exact ⟨⟨lit_noEsc_ignored, esc_not_num (hui_allNum fmt i)⟩, lit_noEsc_paren⟩
    · simp
  · split
    · simp only [List.mem_cons, List.mem_append, not_or]
      exact ⟨by decide, ⟨lit_noEsc_errors, esc_not_num (hui_allNum fmt e)⟩, lit_noEsc_paren⟩
    · simp

end Rare.C01

import Rare.Proofs.C07NumF64Acc
/-!
C07 – the ACCUMULATED rounding error of `M2` (the `variance` field of `MatchNumerical`) and of `Variance()` in binary64.

Per step (`K` = the new count) the float update is `V' = fl(V + fl(fl(x − m)·fl(x − m')))`, the exact one
`W' = W + (x − μ)(x − μ')` (`μ`, `μ'` the exact means).  With samples of magnitude at most `M = 2^e`, `a = M·u`:
* `|m − μ| ≤ (3K+14)/2 · a`, `|m' − μ'| ≤ (3K+17)/2 · a` (`meanAcc_err`; `η ≤ a`),
* `|fl(x − m) − (x − m)| ≤ 3a`, `|fl(x − m)| ≤ 9/4·M` (`diff_round`),
* the product error is `≤ 9/4·M·(3a + |m' − μ'|) + 2M·(3a + |m − μ|)` (`Near.mul`), its rounding `≤ 81/16·M·a + η`,
* `|V'| ≤ 8K·M²` by monotone rounding (`8K·M²` is a float), so the rounding of the sum is `≤ 8K·M·a + η`.
These compose by the triangle inequality (`m2_step_arith`) to `|V' − W'| ≤ |V − W| + (15K + 55)·M·a + 2η`, hence
`|V_n − W_n| ≤ (15n(n+1)/2 + 55n)·u·M² + 2n·η`.
-/
namespace Rare.C07
open Rare Rare.F64

theorem mul_abs_le {p q P Q : Rat} (hp1 : -P ≤ p) (hp2 : p ≤ P) (hq1 : -Q ≤ q) (hq2 : q ≤ Q) :
    -(P * Q) ≤ p * q ∧ p * q ≤ P * Q := by
  have a1 := Rat.mul_nonneg (a := P - p) (b := Q - q) (by grind) (by grind)
  have a2 := Rat.mul_nonneg (a := P + p) (b := Q + q) (by grind) (by grind)
  have a3 := Rat.mul_nonneg (a := P - p) (b := Q + q) (by grind) (by grind)
  have a4 := Rat.mul_nonneg (a := P + p) (b := Q - q) (by grind) (by grind)
  constructor <;> grind

/-- Error of a product: `d·d2 − A·B = d·(d2 − B) + B·(d − A)`. -/
theorem Near.mul {d d2 A B D Bb al be : Rat} (hd : -D ≤ d ∧ d ≤ D) (hB : -Bb ≤ B ∧ B ≤ Bb)
    (h2 : Near be d2 B) (h1 : Near al d A) : Near (D * be + Bb * al) (d * d2) (A * B) := by
  have e : d * d2 - A * B = d * (d2 - B) + B * (d - A) := by grind
  obtain ⟨x1, x2⟩ := mul_abs_le hd.1 hd.2 (Rat.neg_le_iff.mp (by rw [Rat.neg_sub]; exact h2.2)) h2.1
  obtain ⟨y1, y2⟩ := mul_abs_le hB.1 hB.2 (Rat.neg_le_iff.mp (by rw [Rat.neg_sub]; exact h1.2)) h1.1
  constructor <;> grind

/-- A rounded difference `d = fl(x − m)` of two values of magnitude at most `M`: the error is at most `3a`
(`a = M·u ≥ η`) and `|d| ≤ 9/4·M`. -/
theorem diff_round {M u η x m d : Rat} (hM : 0 ≤ M) (hu : 0 < u) (hu2 : u ≤ 1 / 12) (hη : η ≤ M * u)
    (bx : -M ≤ x ∧ x ≤ M) (bm : -M ≤ m ∧ m ≤ M) (E : Near (absRat (x - m) * u + η) d (x - m)) :
    Near (3 * (M * u)) d (x - m) ∧ (-(9 / 4 * M) ≤ d ∧ d ≤ 9 / 4 * M) := by
  have xm := sub_sym_bound bx.1 bx.2 bm.1 bm.2
  have n : Near (3 * (M * u)) d (x - m) := (E.of_abs_le hu xm).mono (by grind)
  have := Rat.mul_le_mul_of_nonneg_left hu2 hM
  obtain ⟨b1, b2⟩ := n.bounds xm
  exact ⟨n, by grind, by grind⟩

theorem add_sym_bound {k T V p : Rat} (hV : -(k * T) ≤ V ∧ V ≤ k * T) (hp : -T ≤ p ∧ p ≤ T) :
    -((k + 1) * T) ≤ V + p ∧ V + p ≤ (k + 1) * T := by
  constructor <;> grind

/-- The arithmetic of one `M2` update (`k` samples before it).  `V' ≈ V + p ≈ V + d·d2 ≈ V + (x − μ)(x − μ') ≈ W + …`:
the rounding of the sum, of the product, the errors of the two differences (each also carries the accumulated
error of its mean), and the error so far. -/
theorem m2_step_arith {M u η k x m m' μ μ' d d2 p V V' W : Rat}
    (hM : 0 ≤ M) (hu : 0 < u) (hk : 1 ≤ k) (bx : -M ≤ x ∧ x ≤ M) (bμ' : -M ≤ μ' ∧ μ' ≤ M)
    (em : Near ((3 * k + 17) / 2 * (M * u)) m μ) (em' : Near ((3 * (k + 1) + 17) / 2 * (M * u)) m' μ')
    (ed : Near (3 * (M * u)) d (x - m)) (ed2 : Near (3 * (M * u)) d2 (x - m'))
    (bd : -(9 / 4 * M) ≤ d ∧ d ≤ 9 / 4 * M)
    (ep : Near (9 / 4 * M * (9 / 4 * M) * u + η) p (d * d2))
    (eV : Near ((k + 1) * (8 * M * M) * u + η) V' (V + p))
    (inv : Near ((15 * (k * (k + 1)) / 2 + 55 * k) * (M * (M * u)) + 2 * k * η) V W) :
    Near ((15 * ((k + 1) * (k + 1 + 1)) / 2 + 55 * (k + 1)) * (M * (M * u)) + 2 * (k + 1) * η) V'
      (W + (x - μ) * (x - μ')) := by
  have n4 := Near.mul bd (sub_sym_bound bx.1 bx.2 bμ'.1 bμ'.2) (ed2.trans (em'.sub_left x)) (ed.trans (em.sub_left x))
  have n := eV.trans (((ep.trans n4).add_left V).trans (inv.add_right ((x - μ) * (x - μ'))))
  have hMMu : 0 ≤ M * (M * u) := Rat.mul_nonneg hM (Rat.mul_nonneg hM (Rat.le_of_lt hu))
  have hkMMu : 0 ≤ k * (M * (M * u)) := Rat.mul_nonneg (by grind) hMMu
  exact n.mono (by grind)

/-! ### representable bounds -/

theorem rep_count_pow (K j : Nat) (hK : K ≤ P53) (hj : j + 53 < 2098) :
    Rep (((K * 2 ^ j : Nat) : Rat) / two1074) := by
  have hp : 0 < 2 ^ j := Nat.pow_pos (by decide)
  have h2 : (P53 : Nat) * 2 ^ j = 2 ^ (j + 53) := by rw [Nat.pow_add]; omega
  have h3 : 2 ^ (j + 53) < 2 ^ 2098 := Nat.pow_lt_pow_right (by decide) hj
  by_cases h : K < P53
  · exact rep_of_dyadic K j h (by
      have := Nat.mul_lt_mul_of_pos_right h hp
      omega)
  · have hK' : K = P53 := by omega
    have : K * 2 ^ j = 1 * 2 ^ (j + 53) := by rw [hK']; omega
    rw [this]
    exact rep_of_dyadic 1 (j + 53) (by decide) (by omega)

/-- `K · 8 · M²` is a float for `M = 2^e`, `e ≤ 480`, `K ≤ 2^53`. -/
theorem rep_count_8MM (K e : Nat) (hK : K ≤ P53) (he : e ≤ 480) :
    Rep ((K : Rat) * (8 * ((2 ^ e : Nat) : Rat) * ((2 ^ e : Nat) : Rat))) := by
  have h := rep_count_pow K (e + e + 3 + 1074) hK (by omega)
  have e1 : (2 : Nat) ^ (e + e + 3 + 1074) = 2 ^ e * 2 ^ e * 8 * 2 ^ 1074 := by
    rw [Nat.pow_add, Nat.pow_add, Nat.pow_add]
  have e2 : ((K * 2 ^ (e + e + 3 + 1074) : Nat) : Rat) / two1074 =
      (K : Rat) * (8 * ((2 ^ e : Nat) : Rat) * ((2 ^ e : Nat) : Rat)) := by
    rw [e1, two1074_eq]
    simp only [Rat.natCast_mul]
    have h1 : ((2 ^ 1074 : Nat) : Rat) ≠ 0 := Rat.ne_of_gt (pow2_cast_pos _)
    have h8 : ((8 : Nat) : Rat) = 8 := rfl
    rw [h8, Rat.div_def]
    have : ((2 ^ 1074 : Nat) : Rat) * ((2 ^ 1074 : Nat) : Rat)⁻¹ = 1 := Rat.mul_inv_cancel _ h1
    grind
  rwa [e2] at h

theorem sub_bounded_finite {x y : F64} {M : Rat} (hx : x.isFinite = true) (hy : y.isFinite = true) (hM : M ≤ bigB)
    (bx : -M ≤ x.toRat ∧ x.toRat ≤ M) (by' : -M ≤ y.toRat ∧ y.toRat ≤ M) : (F64.sub x y).isFinite = true := by
  obtain ⟨h1, h2⟩ := sub_sym_bound bx.1 bx.2 by'.1 by'.2
  exact (round_between_rep (sub_finite hx hy) (rep_neg rep_two_bigB) rep_two_bigB (by grind) (by grind)).1

theorem etaF_le_uF : etaF ≤ uF := by decide +kernel
theorem uF_le_12 : uF ≤ 1 / 12 := by decide +kernel

/-- The magnitude classes for which the `M2` analysis goes through: `0 ≤ M ≤ 2^1021`, `η ≤ M·u` (`M ≥ 2^-1022`), and
`K·8·M²` is a float for every count `K ≤ 2^53` (a power of two `M` with `2^-538 ≤ M ≤ 2^480`). -/
structure MagClass (M : Rat) : Prop where
  nonneg : 0 ≤ M
  le : M ≤ bigB
  eta : etaF ≤ M * uF
  rep : ∀ K : Nat, K ≤ P53 → Rep ((K : Rat) * (8 * M * M))

theorem magClass_pow2 (e : Nat) (he : e ≤ 480) : MagClass ((2 ^ e : Nat) : Rat) := by
  have hM1 : (1 : Rat) ≤ ((2 ^ e : Nat) : Rat) := by
    have : 1 ≤ 2 ^ e := Nat.pow_pos (by decide)
    have := Rat.natCast_le_natCast.mpr this
    exact this
  refine ⟨by grind, ?_, ?_, fun K hK => rep_count_8MM K e hK he⟩
  · rw [bigB_eq]
    exact Rat.natCast_le_natCast.mpr (Nat.pow_le_pow_right (by decide) (by omega))
  · have := Rat.mul_le_mul_of_nonneg_right hM1 (Rat.le_of_lt uF_pos)
    have := etaF_le_uF
    grind

theorem etaF_eq_scaled : etaF = ((2 ^ 52 : Nat) : Rat) / two1074 * uF := by decide +kernel

/-- Scaled powers of two `M = 2^j / 2^1074 = 2^(j−1074)`, `536 ≤ j ≤ 1554`: `2^-538 ≤ M ≤ 2^480`. -/
theorem magClass_scaled (j : Nat) (h1 : 536 ≤ j) (h2 : j ≤ 1554) : MagClass (((2 ^ j : Nat) : Rat) / two1074) := by
  have ht := two1074_pos
  have hp : (0 : Rat) < ((2 ^ j : Nat) : Rat) := pow2_cast_pos _
  refine ⟨Rat.le_of_lt (rat_div_pos hp ht), ?_, ?_, ?_⟩
  · unfold bigB
    exact rat_div_le_div_right ht (Rat.natCast_le_natCast.mpr (Nat.pow_le_pow_right (by decide) (by omega)))
  · rw [etaF_eq_scaled]
    apply Rat.mul_le_mul_of_nonneg_right _ (Rat.le_of_lt uF_pos)
    exact rat_div_le_div_right ht (Rat.natCast_le_natCast.mpr (Nat.pow_le_pow_right (by decide) (by omega)))
  · intro K hK
    have h := rep_count_pow K (j + j + 3 - 1074) hK (by omega)
    have e1 : (2 : Nat) ^ (j + j + 3 - 1074) * 2 ^ 1074 = 2 ^ j * 2 ^ j * 8 := by
      rw [← Nat.pow_add, show j + j + 3 - 1074 + 1074 = j + j + 3 by omega, Nat.pow_add, Nat.pow_add]
    have e2 : ((K * 2 ^ (j + j + 3 - 1074) : Nat) : Rat) / two1074 =
        (K : Rat) * (8 * (((2 ^ j : Nat) : Rat) / two1074) * (((2 ^ j : Nat) : Rat) / two1074)) := by
      have c : ((2 ^ (j + j + 3 - 1074) : Nat) : Rat) * two1074 = ((2 ^ j : Nat) : Rat) * ((2 ^ j : Nat) : Rat) * 8 := by
        rw [two1074_eq, ← Rat.natCast_mul, e1, Rat.natCast_mul, Rat.natCast_mul]; rfl
      have hinv : two1074 * two1074⁻¹ = 1 := Rat.mul_inv_cancel _ (Rat.ne_of_gt ht)
      rw [Rat.natCast_mul, Rat.div_def, Rat.div_def]
      have c2 : ((2 ^ (j + j + 3 - 1074) : Nat) : Rat) =
          ((2 ^ j : Nat) : Rat) * ((2 ^ j : Nat) : Rat) * 8 * two1074⁻¹ := by
        have h3 : ((2 ^ (j + j + 3 - 1074) : Nat) : Rat) * two1074 * two1074⁻¹ =
            ((2 ^ j : Nat) : Rat) * ((2 ^ j : Nat) : Rat) * 8 * two1074⁻¹ := by rw [c]
        grind
      rw [c2]; grind
    rwa [e2] at h

/-! ### the run invariant -/

/-- The error bound of the mean in the form used here: `(3k+17)/2 · a` with `a = M·u ≥ η`. -/
theorem meanAcc_err {M : Rat} {s : NumF} {S μ : Rat} (h : MeanAcc M s S) (hk : 1 ≤ s.samples)
    (hμ : (s.samples : Rat) * μ = S) (hη : etaF ≤ M * uF) :
    Near ((3 * (s.samples : Rat) + 17) / 2 * (M * uF)) s.mean.toRat μ := by
  have hk1 : (1 : Rat) ≤ (s.samples : Rat) := Rat.natCast_le_natCast.mpr hk
  have hk0 : (0 : Rat) < (s.samples : Rat) := by grind
  obtain ⟨up, dn⟩ := h.err
  rw [← hμ] at up dn
  have he : ((s.samples : Rat) + 3) * etaF ≤ ((s.samples : Rat) + 3) * (M * uF) :=
    Rat.mul_le_mul_of_nonneg_left hη (by grind)
  have he' : (s.samples : Rat) * (((s.samples : Rat) + 3) * etaF) ≤ (s.samples : Rat) * (((s.samples : Rat) + 3) * (M * uF)) :=
    Rat.mul_le_mul_of_nonneg_left he (Rat.le_of_lt hk0)
  have hkk : 0 ≤ (s.samples : Rat) * ((s.samples : Rat) * (M * uF)) :=
    Rat.mul_nonneg (Rat.le_of_lt hk0) (Rat.mul_nonneg (Rat.le_of_lt hk0)
      (Rat.le_trans (Rat.le_of_lt etaF_pos) hη))
  constructor
  · have : (s.samples : Rat) * (s.mean.toRat - μ) ≤
        (s.samples : Rat) * ((3 * (s.samples : Rat) + 17) / 2 * (M * uF)) := by grind
    exact Rat.le_of_mul_le_mul_left this hk0
  · have : (s.samples : Rat) * (μ - s.mean.toRat) ≤
        (s.samples : Rat) * ((3 * (s.samples : Rat) + 17) / 2 * (M * uF)) := by grind
    exact Rat.le_of_mul_le_mul_left this hk0

/-- The exact mean of values within `±M` stays within `±M`. -/
theorem mean_update_bound {k μ x M μ' : Rat} (hk : 0 ≤ k) (h : (k + 1) * μ' = k * μ + x)
    (bμ : -M ≤ μ ∧ μ ≤ M) (bx : -M ≤ x ∧ x ≤ M) : -M ≤ μ' ∧ μ' ≤ M := by
  have k1 := Rat.mul_le_mul_of_nonneg_left bμ.2 hk
  have k2 := Rat.mul_le_mul_of_nonneg_left bμ.1 hk
  have hK0 : 0 < k + 1 := by grind
  constructor
  · have : (k + 1) * (-M) ≤ (k + 1) * μ' := by rw [h]; grind
    exact Rat.le_of_mul_le_mul_left this hK0
  · have : (k + 1) * μ' ≤ (k + 1) * M := by rw [h]; grind
    exact Rat.le_of_mul_le_mul_left this hK0

/-- Invariant of the run: the float state `sf` against the exact (rational) Welford state `sq` of the same samples. -/
structure VarAcc (M : Rat) (sf : NumF) (sq : Numerical Rat) : Prop where
  cnt : sq.samples = sf.samples
  acc : MeanAcc M sf ((sf.samples : Rat) * sq.mean)
  qlo : -M ≤ sq.mean
  qhi : sq.mean ≤ M
  varF : sf.variance.isFinite = true
  vlo : -((sf.samples : Rat) * (8 * M * M)) ≤ sf.variance.toRat
  vhi : sf.variance.toRat ≤ (sf.samples : Rat) * (8 * M * M)
  err : Near ((15 * ((sf.samples : Rat) * ((sf.samples : Rat) + 1)) / 2 + 55 * (sf.samples : Rat)) * (M * (M * uF)) +
    2 * (sf.samples : Rat) * etaF) sf.variance.toRat sq.variance

theorem varAcc_step (keep : Bool) (M : Rat) (hcls : MagClass M) (sf : NumF) (sq : Numerical Rat) (x : F64)
    (hk : 1 ≤ sf.samples) (hn : sf.samples + 1 ≤ P53) (h : VarAcc M sf sq)
    (xf : x.isFinite = true) (xl : -M ≤ x.toRat) (xh : x.toRat ≤ M) :
    VarAcc M (NumF.samplef keep sf x) (Numerical.samplef ratOps false sq x.toRat) := by
  have hM0 := hcls.nonneg
  have hηa := hcls.eta
  have hu := uF_pos
  have hk1 : (1 : Rat) ≤ (sf.samples : Rat) := Rat.natCast_le_natCast.mpr hk
  have hKc : ((sf.samples + 1 : Nat) : Rat) = (sf.samples : Rat) + 1 := by simp [Rat.natCast_add]
  have hK0 : (0 : Rat) < (sf.samples : Rat) + 1 := by grind
  have hsK : ((NumF.samplef keep sf x).samples : Rat) = (sf.samples : Rat) + 1 := hKc
  -- the exact state
  have hKμ' : ((sf.samples : Rat) + 1) * (Numerical.samplef ratOps false sq x.toRat).mean =
      (sf.samples : Rat) * sq.mean + x.toRat := by
    rw [samplefQ_mean, h.cnt, hKc]; exact mul_mean_update (Rat.ne_of_gt hK0)
  have hW' : (Numerical.samplef ratOps false sq x.toRat).variance =
      sq.variance + (x.toRat - sq.mean) * (x.toRat - (Numerical.samplef ratOps false sq x.toRat).mean) := by
    rw [samplefQ_var, samplefQ_mean]
  generalize hμ' : (Numerical.samplef ratOps false sq x.toRat).mean = μ' at hKμ' hW'
  have bμ' := mean_update_bound (Rat.le_trans (by decide) hk1) hKμ' ⟨h.qlo, h.qhi⟩ ⟨xl, xh⟩
  -- the mean
  have acc' := meanAcc_step keep M hcls.le sf _ x hk hn h.acc xf xl xh
  rw [← hKμ', ← hsK] at acc'
  have em := meanAcc_err h.acc hk rfl hηa
  have em' := meanAcc_err acc' (Nat.le_add_left 1 _) rfl hηa
  rw [hsK] at em'
  -- the two differences
  have df := sub_bounded_finite xf h.acc.meanF hcls.le ⟨xl, xh⟩ ⟨h.acc.lo, h.acc.hi⟩
  have d2f := sub_bounded_finite xf acc'.meanF hcls.le ⟨xl, xh⟩ ⟨acc'.lo, acc'.hi⟩
  obtain ⟨ed, bd⟩ := diff_round hM0 hu uF_le_12 hηa ⟨xl, xh⟩ ⟨h.acc.lo, h.acc.hi⟩
    (near_ofRatS (sub_finite xf h.acc.meanF) df).1
  obtain ⟨ed2, bd2⟩ := diff_round hM0 hu uF_le_12 hηa ⟨xl, xh⟩ ⟨acc'.lo, acc'.hi⟩
    (near_ofRatS (sub_finite xf acc'.meanF) d2f).1
  generalize hd : F64.sub x sf.mean = d at df ed bd
  generalize hd2 : F64.sub x (NumF.samplef keep sf x).mean = d2 at d2f ed2 bd2
  -- the product: `|d·d2| ≤ 81/16·M² ≤ 8·M²`, a float
  have q := mul_abs_le bd.1 bd.2 bd2.1 bd2.2
  have q8 : 9 / 4 * M * (9 / 4 * M) ≤ 8 * M * M := by
    have := Rat.mul_nonneg hM0 hM0
    grind
  have r8 : Rep (8 * M * M) := by
    have := hcls.rep 1 (by decide)
    rwa [show ((1 : Nat) : Rat) = 1 from rfl, Rat.one_mul] at this
  have pb := round_between_rep (mul_finite df d2f) (rep_neg r8) r8
    (Rat.le_trans (Rat.neg_le_neg q8) q.1) (Rat.le_trans q.2 q8)
  have ep := (near_ofRatS (mul_finite df d2f) pb.1).1.of_abs_le hu q
  generalize hp : F64.mul d d2 = p at pb ep
  -- the sum: `|V + p| ≤ (k+1)·8·M²`, a float
  have rK := hcls.rep (sf.samples + 1) hn
  rw [hKc] at rK
  have sb := add_sym_bound ⟨h.vlo, h.vhi⟩ pb.2
  have vb := round_between_rep (add_finite h.varF pb.1) (rep_neg rK) rK sb.1 sb.2
  have eV := (near_ofRatS (add_finite h.varF pb.1) vb.1).2.of_abs_le hu vb.2
  have hV' : (NumF.samplef keep sf x).variance = F64.add sf.variance p := by
    rw [samplefF_var, hd, hd2, hp]
  rw [← hV'] at vb eV
  have st := m2_step_arith hM0 hu hk1 ⟨xl, xh⟩ bμ' em em' ed ed2 bd ep eV h.err
  rw [← hW', ← hsK] at st
  subst hμ'
  refine ⟨by rw [samplefQ_samples, samplef_samples, h.cnt], acc', bμ'.1, bμ'.2, vb.1, ?_, ?_, st⟩
  · rw [hsK]; exact vb.2.1
  · rw [hsK]; exact vb.2.2

theorem varAcc_run (keep : Bool) (M : Rat) (hcls : MagClass M) (l : List F64) (hne : l ≠ []) (hn : l.length ≤ P53)
    (hl : ∀ x ∈ l, x.isFinite = true ∧ -M ≤ x.toRat ∧ x.toRat ≤ M) :
    VarAcc M (runFv keep l) (runQ false (l.map F64.toRat)) := by
  refine runFv_induction keep (P := fun l s => VarAcc M s (runQ false (l.map F64.toRat))) ?_ ?_ l hne hn hl
  · -- after the first sample both states hold the sample and `M2 = 0`
    intro x ⟨xf, xa, xb⟩
    obtain ⟨s1, s2, s3, s4, s5⟩ := first_step keep x xf
    have hM0 := hcls.nonneg
    have he := etaF_pos
    have q0 : 0 ≤ M * uF := Rat.mul_nonneg hM0 (Rat.le_of_lt uF_pos)
    have q1 : 0 ≤ M * (M * uF) := Rat.mul_nonneg hM0 q0
    have q2 : 0 ≤ M * M := Rat.mul_nonneg hM0 hM0
    have one : ((1 : Nat) : Rat) = 1 := rfl
    have hqm : (runQ false [x.toRat]).mean = x.toRat := by
      show (0 : Rat) + (x.toRat - 0) / ((0 + 1 : Nat) : Rat) = x.toRat
      rw [show ((0 + 1 : Nat) : Rat) = 1 from rfl, Rat.div_def]; grind
    have hqv : (runQ false [x.toRat]).variance = 0 := by
      show (0 : Rat) + (x.toRat - 0) * (x.toRat - (0 + (x.toRat - 0) / ((0 + 1 : Nat) : Rat))) = 0
      rw [show ((0 + 1 : Nat) : Rat) = 1 from rfl, Rat.div_def]; grind
    show VarAcc M _ (runQ false [x.toRat])
    refine ⟨rfl, ⟨s2, s3 ▸ xa, s3 ▸ xb, ⟨?_, ?_⟩⟩, by rw [hqm]; exact xa, by rw [hqm]; exact xb, s4, ?_, ?_, ⟨?_, ?_⟩⟩
    · rw [s1, s3, hqm, one]; grind
    · rw [s1, s3, hqm, one]; grind
    · rw [s1, s5, one]; grind
    · rw [s1, s5, one]; grind
    · rw [s1, s5, hqv, one]; grind
    · rw [s1, s5, hqv, one]; grind
  · intro l x hne hn ⟨xf, xa, xb⟩ h
    have hs := runFv_samples keep l
    have hpos := List.length_pos_iff.mpr hne
    have : runQ false ((l ++ [x]).map F64.toRat) =
        Numerical.samplef ratOps false (runQ false (l.map F64.toRat)) x.toRat := by
      unfold runQ; rw [List.map_append, List.foldl_append]; rfl
    rw [this]
    exact varAcc_step keep M hcls _ _ x (by omega) (by omega) h xf xa xb

/-- **Accumulated error of `M2`**, for any magnitude class.  For a non-empty list of at most `2^53` finite samples of
magnitude at most `M`: the float `M2` is finite, at most `8n·M²` in magnitude, and differs from the exact
`Σ (x − mean)²` of the sample values by at most `(15n(n+1)/2 + 55n)·u·M² + 2n·η`. -/
theorem var_acc_error_gen (keep : Bool) (M : Rat) (hcls : MagClass M) (l : List F64) (hne : l ≠ []) (hn : l.length ≤ P53)
    (hl : ∀ x ∈ l, x.isFinite = true ∧ -M ≤ x.toRat ∧ x.toRat ≤ M) :
    let r := runFv keep l
    let n : Rat := (l.length : Rat)
    let G := (15 * (n * (n + 1)) / 2 + 55 * n) * (M * (M * uF)) + 2 * n * etaF
    r.variance.isFinite = true ∧ -(n * (8 * M * M)) ≤ r.variance.toRat ∧ r.variance.toRat ≤ n * (8 * M * M) ∧
    r.variance.toRat - m2 (l.map F64.toRat) ≤ G ∧ m2 (l.map F64.toRat) - r.variance.toRat ≤ G := by
  intro r n G
  have hf := varAcc_run keep M hcls l hne hn hl
  have vlo := hf.vlo
  have vhi := hf.vhi
  have err := hf.err
  rw [welford_m2, runFv_samples] at err
  rw [runFv_samples] at vlo vhi
  exact ⟨hf.varF, vlo, vhi, err.1, err.2⟩

/-- **Accumulated error of `Variance()`.**  Under the hypotheses of `var_acc_error_gen` and with at least two samples:
`Variance()` is finite and differs from the exact sample variance of the sample values by at most
`G/(n−1) + 16·u·M² + η` (`G` the bound of `var_acc_error_gen`): `Variance() = fl(M2/(n−1)) ≈ M2/(n−1) ≈ exact/(n−1)`. -/
theorem variance_acc_error_gen (keep : Bool) (M : Rat) (hcls : MagClass M) (l : List F64) (h2 : 2 ≤ l.length) (hn : l.length ≤ P53)
    (hl : ∀ x ∈ l, x.isFinite = true ∧ -M ≤ x.toRat ∧ x.toRat ≤ M) :
    let r := runFv keep l
    let n : Rat := (l.length : Rat)
    let G := (15 * (n * (n + 1)) / 2 + 55 * n) * (M * (M * uF)) + 2 * n * etaF
    let T := G / (n - 1) + 16 * (M * M * uF) + etaF
    r.varianceF.isFinite = true ∧
    r.varianceF.toRat - sampleVariance (l.map F64.toRat) ≤ T ∧ sampleVariance (l.map F64.toRat) - r.varianceF.toRat ≤ T := by
  intro r n G T
  have hne : l ≠ [] := by intro h; rw [h] at h2; simp at h2
  obtain ⟨vf, vlo, vhi, up, dn⟩ := var_acc_error_gen keep M hcls l hne hn hl
  have hv : r.varianceF = F64.div r.variance (F64.ofInt ((l.length - 1 : Nat) : Int)) := by
    rw [runFv_varianceF, if_pos (by omega)]
  obtain ⟨kf, kv, kz⟩ := ofInt_count (l.length - 1) (by omega) (by omega)
  have hfin := div_count_finite r.variance (l.length - 1) (by omega) (by omega) vf
  have hc : ((l.length - 1 : Nat) : Rat) = n - 1 := natCast_pred (by omega)
  have hN : (1 : Rat) ≤ n - 1 := by
    rw [← hc]; exact Rat.natCast_le_natCast.mpr (show 1 ≤ l.length - 1 by omega)
  have hN0 : 0 < n - 1 := by grind
  have hdiv : F64.div r.variance (F64.ofInt ((l.length - 1 : Nat) : Int)) =
      ofRatS (r.variance.sign != (F64.ofInt ((l.length - 1 : Nat) : Int)).sign) (r.variance.toRat / (n - 1)) := by
    rw [div_finite vf kf kz, kv, hc]
  -- `|M2/(n−1)| ≤ 16·M²`, since `|M2| ≤ 8n·M²` and `n ≤ 2(n−1)`
  have hMM := Rat.mul_nonneg hcls.nonneg hcls.nonneg
  have h8 := Rat.mul_le_mul_of_nonneg_right hN hMM
  have t : -(16 * (M * M)) ≤ r.variance.toRat / (n - 1) ∧ r.variance.toRat / (n - 1) ≤ 16 * (M * M) := by
    rw [rat_le_div_iff hN0, rat_div_le_iff hN0]; constructor <;> grind
  have := ((near_ofRatS hdiv hfin).1.of_abs_le uF_pos t).trans (Near.div ⟨up, dn⟩ hN0)
  have hsv : sampleVariance (l.map F64.toRat) = m2 (l.map F64.toRat) / (n - 1) := by
    unfold sampleVariance
    rw [List.length_map, if_pos (by omega)]
  rw [hv, hsv]
  exact ⟨hfin, this.mono (by grind)⟩

end Rare.C07

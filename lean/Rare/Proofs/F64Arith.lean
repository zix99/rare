import Rare.Proofs.F64Val
import Rare.Base.F64Str
/-!
Arithmetic of the software binary64 model on finite operands:

* `add/sub/mul/div_finite`: the operation is the correctly rounded exact rational result;
* `add/sub/mul_exact(_int)`: when the exact result is a float (e.g. integers up to `2^53`) it is returned;
* `le_iff_toRat_le`, `lt_iff_toRat_lt`: the float order is the order of the exact values;
* `div_mono_left`, `add_mono_left`: monotonicity inherited from `ofRat_mono`;
* `round_between(_rep)`: monotone rounding squeezes a rounded value between two floats that bracket the exact one;
* `floor/ceil/trunc/roundHalfAway_spec`: the integral roundings return exactly `⌊v⌋`, `⌈v⌉`, … .
-/
namespace Rare.F64

/-! ### finite operands -/

theorem not_nan_of_finite {x : F64} (h : x.isFinite = true) : x.isNaN = false := by
  simp [isFinite, isNaN] at *; omega

theorem not_inf_of_finite {x : F64} (h : x.isFinite = true) : x.isInf = false := by
  simp [isFinite, isInf] at *; omega

theorem isZero_iff (x : F64) : x.isZero = true ↔ x.mag = 0 := by simp [isZero]

/-- `add` of finite operands is the correctly rounded exact sum. -/
theorem add_finite {x y : F64} (hx : x.isFinite = true) (hy : y.isFinite = true) :
    add x y = ofRatS (x.sign && y.sign) (x.toRat + y.toRat) := by
  unfold add
  simp [not_nan_of_finite hx, not_nan_of_finite hy, not_inf_of_finite hx, not_inf_of_finite hy]

theorem sub_finite {x y : F64} (hx : x.isFinite = true) (hy : y.isFinite = true) :
    sub x y = ofRatS (x.sign && !y.sign) (x.toRat - y.toRat) := by
  unfold sub
  rw [add_finite hx (by rw [isFinite_neg]; exact hy), toRat_neg, sign_neg, Rat.sub_eq_add_neg]

theorem mul_finite {x y : F64} (hx : x.isFinite = true) (hy : y.isFinite = true) :
    mul x y = ofRatS (x.sign != y.sign) (x.toRat * y.toRat) := by
  unfold mul
  simp [not_nan_of_finite hx, not_nan_of_finite hy, not_inf_of_finite hx, not_inf_of_finite hy]

theorem div_finite {x y : F64} (hx : x.isFinite = true) (hy : y.isFinite = true) (hz : y.mag ≠ 0) :
    div x y = ofRatS (x.sign != y.sign) (x.toRat / y.toRat) := by
  unfold div
  have : y.isZero = false := by simp [isZero, hz]
  simp [not_nan_of_finite hx, not_nan_of_finite hy, not_inf_of_finite hx, not_inf_of_finite hy, this]

/-! ### (d) exact operations -/

/-- If the exact sum of two finite floats is a float, `add` returns it. -/
theorem add_exact {x y : F64} (hx : x.isFinite = true) (hy : y.isFinite = true)
    (hr : Rep (x.toRat + y.toRat)) :
    (add x y).toRat? = some (x.toRat + y.toRat) := by
  rw [add_finite hx hy]
  obtain ⟨a, b⟩ := ofRatS_rep (x.sign && y.sign) hr
  unfold toRat?; rw [a, b]; rfl

theorem sub_exact {x y : F64} (hx : x.isFinite = true) (hy : y.isFinite = true)
    (hr : Rep (x.toRat - y.toRat)) :
    (sub x y).toRat? = some (x.toRat - y.toRat) := by
  rw [sub_finite hx hy]
  obtain ⟨a, b⟩ := ofRatS_rep (x.sign && !y.sign) hr
  unfold toRat?; rw [a, b]; rfl

theorem mul_exact {x y : F64} (hx : x.isFinite = true) (hy : y.isFinite = true)
    (hr : Rep (x.toRat * y.toRat)) :
    (mul x y).toRat? = some (x.toRat * y.toRat) := by
  rw [mul_finite hx hy]
  obtain ⟨a, b⟩ := ofRatS_rep (x.sign != y.sign) hr
  unfold toRat?; rw [a, b]; rfl

theorem toRat?_eq_some {x : F64} {q : Rat} : x.toRat? = some q ↔ (x.isFinite = true ∧ x.toRat = q) := by
  unfold toRat?
  split <;> simp [*]

/-- Integer-valued operands whose exact sum has magnitude at most `2^53`: the sum is exact. -/
theorem add_exact_int {x y : F64} {a b : Int} (hx : x.toRat? = some (a : Rat)) (hy : y.toRat? = some (b : Rat))
    (h : (a + b).natAbs ≤ P53) : (add x y).toRat? = some ((a + b : Int) : Rat) := by
  obtain ⟨fx, vx⟩ := toRat?_eq_some.mp hx
  obtain ⟨fy, vy⟩ := toRat?_eq_some.mp hy
  have := add_exact fx fy (by rw [vx, vy, ← Rat.intCast_add]; exact rep_int h)
  rw [this, vx, vy, Rat.intCast_add]

theorem sub_exact_int {x y : F64} {a b : Int} (hx : x.toRat? = some (a : Rat)) (hy : y.toRat? = some (b : Rat))
    (h : (a - b).natAbs ≤ P53) : (sub x y).toRat? = some ((a - b : Int) : Rat) := by
  obtain ⟨fx, vx⟩ := toRat?_eq_some.mp hx
  obtain ⟨fy, vy⟩ := toRat?_eq_some.mp hy
  have := sub_exact fx fy (by rw [vx, vy, ← Rat.intCast_sub]; exact rep_int h)
  rw [this, vx, vy, Rat.intCast_sub]

theorem mul_exact_int {x y : F64} {a b : Int} (hx : x.toRat? = some (a : Rat)) (hy : y.toRat? = some (b : Rat))
    (h : (a * b).natAbs ≤ P53) : (mul x y).toRat? = some ((a * b : Int) : Rat) := by
  obtain ⟨fx, vx⟩ := toRat?_eq_some.mp hx
  obtain ⟨fy, vy⟩ := toRat?_eq_some.mp hy
  have := mul_exact fx fy (by rw [vx, vy, ← Rat.intCast_mul]; exact rep_int h)
  rw [this, vx, vy, Rat.intCast_mul]

/-! ### the float order is the order of the values -/

/-- The value as a function of the key. -/
def keyVal (k : Int) : Rat := if k < 0 then -(magVal k.natAbs) else magVal k.natAbs

theorem toRat_eq_keyVal (x : F64) : x.toRat = keyVal x.key := by
  unfold keyVal key toRat
  cases hs : x.sign
  · have : ¬ ((x.mag : Int) < 0) := by omega
    simp [this]
  · simp only [if_true]
    by_cases hm : x.mag = 0
    · simp [hm, magVal_zero]
    · have : -(x.mag : Int) < 0 := by omega
      simp [hm]

/-- For finite floats `le` is `≤` on the exact values. -/
theorem le_iff_toRat_le {x y : F64} (hx : x.isFinite = true) (hy : y.isFinite = true) :
    le x y = true ↔ x.toRat ≤ y.toRat := by
  constructor
  · intro h
    apply Classical.byContradiction
    intro hn
    have hlt : y.toRat ≤ x.toRat := by grind
    have h2 := ofRatS_le_ofRatS y.sign x.sign hlt
    rw [ofRatS_toRat y hy, ofRatS_toRat x hx] at h2
    have k1 : x.key ≤ y.key := by
      unfold le at h; simp at h; exact h.2
    have k2 : y.key ≤ x.key := by
      unfold le at h2; simp at h2; exact h2.2
    have : x.key = y.key := by omega
    rw [toRat_eq_keyVal x, toRat_eq_keyVal y, this] at hn
    exact hn Rat.le_refl
  · intro h
    have h2 := ofRatS_le_ofRatS x.sign y.sign h
    rwa [ofRatS_toRat x hx, ofRatS_toRat y hy] at h2

theorem lt_iff_toRat_lt {x y : F64} (hx : x.isFinite = true) (hy : y.isFinite = true) :
    lt x y = true ↔ x.toRat < y.toRat := by
  have h := le_iff_toRat_le hy hx
  have nx := not_nan_of_finite hx
  have ny := not_nan_of_finite hy
  have e : lt x y = !(le y x) := by
    unfold lt le; simp [nx, ny]
    by_cases hk : x.key < y.key <;> simp [hk] <;> omega
  rw [e]
  constructor
  · intro hl
    have : ¬ (le y x = true) := by simpa using hl
    rw [h] at this; grind
  · intro hl
    have : ¬ (le y x = true) := by rw [h]; grind
    simpa using this

/-- **(d)** Division by a positive finite float is monotone in the dividend. -/
theorem div_mono_left {x x' d : F64} (hx : x.isFinite = true) (hx' : x'.isFinite = true)
    (hd : d.isFinite = true) (hpos : 0 < d.toRat) (h : x.toRat ≤ x'.toRat) :
    le (div x d) (div x' d) = true := by
  have hz : d.mag ≠ 0 := by
    intro h0; rw [toRat_eq_zero_of_mag h0] at hpos; grind
  rw [div_finite hx hd hz, div_finite hx' hd hz]
  exact ofRatS_le_ofRatS _ _ (rat_div_le_div_right hpos h)

/-- Addition is monotone in each finite operand. -/
theorem add_mono_left {x x' y : F64} (hx : x.isFinite = true) (hx' : x'.isFinite = true)
    (hy : y.isFinite = true) (h : x.toRat ≤ x'.toRat) : le (add x y) (add x' y) = true := by
  rw [add_finite hx hy, add_finite hx' hy]
  exact ofRatS_le_ofRatS _ _ (Rat.add_le_add_right.mpr h)

/-! ### rounding to integral values -/

/-- A finite magnitude is either an integer or below `2^52`. -/
theorem magVal_int_or_small (m : Nat) :
    (∃ n : Nat, magVal m = (n : Rat)) ∨ magVal m < ((P52 : Nat) : Rat) := by
  obtain ⟨_, _, h3⟩ := mag_decomp m
  by_cases hE : 1074 ≤ magScale m
  · left
    refine ⟨magSig m * 2 ^ (magScale m - 1074), ?_⟩
    unfold magVal
    have : magSig m * 2 ^ magScale m = magSig m * 2 ^ (magScale m - 1074) * 2 ^ 1074 := by
      rw [Nat.mul_assoc, ← Nat.pow_add, show magScale m - 1074 + 1074 = magScale m by omega]
    rw [this, Rat.natCast_mul _ (2 ^ 1074), ← two1074_eq]
    exact Rat.mul_div_cancel two1074_ne
  · right
    unfold magVal
    rw [Rat.div_lt_iff two1074_pos, two1074_eq, ← Rat.natCast_mul, Rat.natCast_lt_natCast]
    have h1 : 2 ^ magScale m ≤ 2 ^ 1073 := Nat.pow_le_pow_right (by decide) (by omega)
    have h2 : magSig m * 2 ^ magScale m < P53 * 2 ^ 1073 :=
      Nat.lt_of_le_of_lt (Nat.mul_le_mul_left _ h1) (Nat.mul_lt_mul_of_pos_right h3 (Nat.pow_pos (by decide)))
    have h3 : P53 * 2 ^ 1073 = P52 * 2 ^ 1074 := by
      rw [show (1074 : Nat) = 1 + 1073 by rfl, Nat.pow_add]; omega
    omega

theorem toRat_int_or_small (x : F64) :
    (∃ n : Int, x.toRat = (n : Rat)) ∨ (-((P52 : Nat) : Rat) < x.toRat ∧ x.toRat < ((P52 : Nat) : Rat)) := by
  have hn := magVal_nonneg x.mag
  rcases magVal_int_or_small x.mag with ⟨n, hn'⟩ | hs
  · left
    unfold toRat
    cases x.sign
    · exact ⟨(n : Int), by simp [hn']; rfl⟩
    · exact ⟨-(n : Int), by simp [hn', Rat.intCast_neg]; rfl⟩
  · right
    unfold toRat
    cases x.sign <;> simp <;> constructor <;> grind

/-- An integer-valued rounding `f` that fixes integers and maps `(-2^52, 2^52)` into `[-2^53, 2^53]`
    is computed exactly by `integral f` on every finite float. -/
theorem integral_spec (f : Rat → Int) (h1 : ∀ n : Int, f (n : Rat) = n)
    (h2 : ∀ v : Rat, -((P52 : Nat) : Rat) < v → v < ((P52 : Nat) : Rat) → (f v).natAbs ≤ P53)
    {x : F64} (hx : x.isFinite = true) :
    (integral f x).toRat? = some ((f x.toRat : Int) : Rat) := by
  unfold integral
  rw [not_nan_of_finite hx, not_inf_of_finite hx]
  simp only [Bool.false_eq_true, if_false]
  have hrep : Rep ((f x.toRat : Int) : Rat) := by
    rcases toRat_int_or_small x with ⟨n, hn⟩ | ⟨a, b⟩
    · rw [hn, h1, ← hn]; exact ⟨x, hx, rfl⟩
    · exact rep_int (h2 _ a b)
  obtain ⟨a, b⟩ := ofRatS_rep x.sign hrep
  unfold toRat?; rw [a, b]; rfl

theorem natCast_P52 : ((P52 : Nat) : Rat) = (((P52 : Nat) : Int) : Rat) := rfl

theorem floor_spec {x : F64} (hx : x.isFinite = true) :
    (floor x).toRat? = some ((x.toRat.floor : Int) : Rat) := by
  apply integral_spec Rat.floor Rat.floor_intCast _ hx
  intro v a b
  have l1 : -((P52 : Nat) : Int) ≤ v.floor := Rat.le_floor_iff.mpr (by
    rw [Rat.intCast_neg]; exact Rat.le_of_lt a)
  have l2 : v.floor < ((P52 : Nat) : Int) := Rat.floor_lt_iff.mpr b
  omega

theorem ceil_spec {x : F64} (hx : x.isFinite = true) :
    (ceil x).toRat? = some ((x.toRat.ceil : Int) : Rat) := by
  apply integral_spec Rat.ceil Rat.ceil_intCast _ hx
  intro v a b
  have l1 : -((P52 : Nat) : Int) < v.ceil := Rat.lt_ceil_iff.mpr (by
    rw [Rat.intCast_neg]; exact a)
  have l2 : v.ceil ≤ ((P52 : Nat) : Int) := Rat.ceil_le_iff.mpr (Rat.le_of_lt b)
  omega

theorem truncRat_intCast (n : Int) : truncRat (n : Rat) = n := by
  unfold truncRat
  split
  · rw [← Rat.intCast_neg, Rat.floor_intCast]; omega
  · exact Rat.floor_intCast n

theorem trunc_spec {x : F64} (hx : x.isFinite = true) :
    (trunc x).toRat? = some ((truncRat x.toRat : Int) : Rat) := by
  apply integral_spec truncRat truncRat_intCast _ hx
  intro v a b
  unfold truncRat
  split
  · have l1 : (0 : Int) ≤ (-v).floor := Rat.le_floor_iff.mpr (by simp; grind)
    have l2 : (-v).floor < ((P52 : Nat) : Int) := Rat.floor_lt_iff.mpr (by grind)
    omega
  · have l1 : (0 : Int) ≤ v.floor := Rat.le_floor_iff.mpr (by simp; grind)
    have l2 : v.floor < ((P52 : Nat) : Int) := Rat.floor_lt_iff.mpr b
    omega

theorem roundAwayRat_intCast (n : Int) : roundAwayRat (n : Rat) = n := by
  unfold roundAwayRat
  split
  · have : (-(n : Rat) + 1 / 2).floor = -n := floor_eq_of (by rw [Rat.intCast_neg]; grind) (by rw [Rat.intCast_neg]; grind)
    omega
  · exact floor_eq_of (by grind) (by grind)

theorem roundHalfAway_spec {x : F64} (hx : x.isFinite = true) :
    (roundHalfAway x).toRat? = some ((roundAwayRat x.toRat : Int) : Rat) := by
  apply integral_spec roundAwayRat roundAwayRat_intCast _ hx
  intro v a b
  unfold roundAwayRat
  split
  · have l1 : (0 : Int) ≤ (-v + 1 / 2).floor := Rat.le_floor_iff.mpr (by simp; grind)
    have l2 : (-v + 1 / 2).floor < ((P52 : Nat) : Int) + 1 := Rat.floor_lt_iff.mpr (by
      rw [Rat.intCast_add]; simp; grind)
    omega
  · have l1 : (0 : Int) ≤ (v + 1 / 2).floor := Rat.le_floor_iff.mpr (by simp; grind)
    have l2 : (v + 1 / 2).floor < ((P52 : Nat) : Int) + 1 := Rat.floor_lt_iff.mpr (by
      rw [Rat.intCast_add]; simp; grind)
    omega

/-! ### further facts used by the C11 theorems -/

/-- Finite floats with the same non-zero value are the same float. -/
theorem eq_of_toRat_eq {x y : F64} (hx : x.isFinite = true) (hy : y.isFinite = true)
    (h : x.toRat = y.toRat) (hne : x.toRat ≠ 0) : x = y := by
  have a := ofRatS_toRat x hx
  have b := ofRatS_toRat y hy
  rw [← h] at b
  unfold ofRatS at a b
  rw [if_neg hne] at a b
  rw [← a, ← b]

theorem isFinite_ofInt (n : Int) (h : n.natAbs ≤ P53) :
    (ofInt n).isFinite = true ∧ (ofInt n).toRat = (n : Rat) :=
  ofRatS_rep false (rep_int h)

/-- `int64(x)` of an integer-valued finite float inside the int64 range is that integer. -/
theorem toInt64_of_int {x : F64} {n : Int} (h : x.toRat? = some (n : Rat))
    (h1 : minInt64 ≤ n) (h2 : n ≤ maxInt64) : toInt64 x = n := by
  obtain ⟨hf, hv⟩ := toRat?_eq_some.mp h
  unfold toInt64
  rw [hf, hv, truncRat_intCast]
  have : ¬ (n < minInt64 ∨ maxInt64 < n) := by omega
  simp [this]

theorem toInt64_not_finite {x : F64} (h : x.isFinite = false) : toInt64 x = minInt64 := by
  unfold toInt64; simp [h]

theorem integral_not_finite (f : Rat → Int) {x : F64} (h : x.isFinite = false) :
    (integral f x).isFinite = false := by
  unfold integral
  by_cases hn : x.isNaN = true
  · rw [if_pos hn]; decide
  · have hi : x.isInf = true := by
      simp [isFinite, isNaN, isInf] at *; omega
    rw [if_neg hn, if_pos hi]; exact h

/-! ### `FormatFloat` of the special values -/

theorem format_nan (p : Int) : format nan p = ascii "NaN" := by
  unfold format; rw [if_pos (by decide)]

theorem format_inf (s : Bool) (p : Int) : format (inf s) p = if s then ascii "-Inf" else ascii "+Inf" := by
  cases s
  · unfold format; rw [if_neg (by decide), if_pos (by decide)]; rfl
  · unfold format; rw [if_neg (by decide), if_pos (by decide)]; rfl

/-- Division of a finite float by a zero, as IEEE-754 has it. -/
theorem div_by_zero {x z : F64} (hx : x.isFinite = true) (hz : z.mag = 0) :
    div x z = if x.mag = 0 then nan else inf (x.sign != z.sign) := by
  unfold div
  have hzf : z.isFinite = true := by simp [isFinite, hz]
  have hzz : z.isZero = true := by simp [isZero, hz]
  have hxz : x.isZero = decide (x.mag = 0) := rfl
  simp [not_nan_of_finite hx, not_nan_of_finite hzf, not_inf_of_finite hx, not_inf_of_finite hzf, hzz, hxz]

/-! ### digits printed by the fixed-precision format -/

/-- The integer `N` whose digits `FormatFloat(x, 'f', p)` prints (with the point `p` places from the
    right) is within one half of `|x|·10^p`: the rendering is correctly rounded. -/
theorem fixedBody_eq (m p : Nat) :
    fixedBody m p = placePoint (natDigits (roundNE (magVal m * pow10 p)).toNat) p := rfl

theorem fixed_digits_err (m p : Nat) :
    magVal m * pow10 p - 1/2 ≤ ((roundNE (magVal m * pow10 p) : Int) : Rat) ∧
    ((roundNE (magVal m * pow10 p) : Int) : Rat) ≤ magVal m * pow10 p + 1/2 :=
  roundNE_err _

/-- Multiplication by a non-negative finite float is monotone. -/
theorem mul_mono_left {x x' y : F64} (hx : x.isFinite = true) (hx' : x'.isFinite = true)
    (hy : y.isFinite = true) (hpos : 0 ≤ y.toRat) (h : x.toRat ≤ x'.toRat) :
    le (mul x y) (mul x' y) = true := by
  rw [mul_finite hx hy, mul_finite hx' hy]
  exact ofRatS_le_ofRatS _ _ (Rat.mul_le_mul_of_nonneg_right h hpos)

/-- Subtraction is monotone in the minuend and antitone in the subtrahend. -/
theorem sub_mono {x x' y y' : F64} (hx : x.isFinite = true) (hx' : x'.isFinite = true)
    (hy : y.isFinite = true) (hy' : y'.isFinite = true) (h : x.toRat ≤ x'.toRat) (h2 : y'.toRat ≤ y.toRat) :
    le (sub x y) (sub x' y') = true := by
  rw [sub_finite hx hy, sub_finite hx' hy']
  exact ofRatS_le_ofRatS _ _ (by grind)

/-- `float64(·)` of integers is monotone. -/
theorem ofInt_mono {a b : Int} (h : a ≤ b) : le (ofInt a) (ofInt b) = true :=
  ofRat_mono (Rat.intCast_le_intCast.mpr h)

/-! ### rounding between two floats -/

theorem finite_of_not_nan_inf {x : F64} (hn : x.isNaN = false) (hi : x.isInf = false) : x.isFinite = true := by
  simp only [isNaN, isInf, isFinite, decide_eq_false_iff_not, decide_eq_true_eq] at *
  omega

/-- a float between two finite floats (in the IEEE order) is finite -/
theorem finite_of_between {z x y : F64} (hz : z.isFinite = true) (hy : y.isFinite = true)
    (h1 : le z x = true) (h2 : le x y = true) : x.isFinite = true := by
  unfold le at h1 h2
  simp only [Bool.and_eq_true, Bool.not_eq_true', decide_eq_true_eq] at h1 h2
  obtain ⟨⟨_, _⟩, k1⟩ := h1
  obtain ⟨⟨_, _⟩, k2⟩ := h2
  rw [isFinite_iff] at *
  unfold key at k1 k2
  have := mag_lt x
  cases hxs : x.sign <;> cases hys : y.sign <;> cases hzs : z.sign <;> simp only [hxs, hys, hzs, if_true, Bool.false_eq_true, if_false] at k1 k2 <;> omega

/-- rounding a value between two floats gives a finite float between them -/
theorem round_between {r a b : F64} {s : Bool} {q : Rat} (hr : r = ofRatS s q) (ha : a.isFinite = true)
    (hb : b.isFinite = true) (h1 : a.toRat ≤ q) (h2 : q ≤ b.toRat) :
    r.isFinite = true ∧ a.toRat ≤ r.toRat ∧ r.toRat ≤ b.toRat := by
  subst hr
  have l1 : le a (ofRatS s q) = true := by
    have := ofRatS_le_ofRatS a.sign s h1; rwa [ofRatS_toRat a ha] at this
  have l2 : le (ofRatS s q) b = true := by
    have := ofRatS_le_ofRatS s b.sign h2; rwa [ofRatS_toRat b hb] at this
  have f := finite_of_between ha hb l1 l2
  exact ⟨f, (le_iff_toRat_le ha f).mp l1, (le_iff_toRat_le f hb).mp l2⟩

theorem round_between_rep {r : F64} {s : Bool} {qa qb q : Rat} (hr : r = ofRatS s q) (ha : Rep qa) (hb : Rep qb)
    (h1 : qa ≤ q) (h2 : q ≤ qb) : r.isFinite = true ∧ qa ≤ r.toRat ∧ r.toRat ≤ qb := by
  obtain ⟨a, fa, va⟩ := ha
  obtain ⟨b, fb, vb⟩ := hb
  have := round_between hr fa fb (by rw [va]; exact h1) (by rw [vb]; exact h2)
  rwa [va, vb] at this

end Rare.F64

import Rare.Proofs.C03Spark
import Rare.Proofs.C03Cmd
/-! The CSV text (and the whole command result) of `rare spark` as a function of the CELLS of the final table: the
name-ordered sorters of `csv.WriteTable` never look at the row sums / column totals they are handed, so two tables with
the same cells, row set and column set export the same text – which turns `spark_final` (same cells after any
interleaving of samples and render-trims) into a statement about the `--csv` file. -/
namespace Rare.C03
open Rare.C07 Rare.C13

/-! ### the row and column maps keep duplicate-free keys under `Sample` and `Trim` -/

theorem trim_nd (t : Table) (p : Pred) (co : List Bytes) (ro : Bytes → List Bytes) (h : KeysNodup t) :
    KeysNodup (t.trim p co ro).1 :=
  trim_keeps KeysNodup (fun _ _ _ h => ⟨nodup_aset _ _ _ h.1, h.2⟩) (fun _ _ h => ⟨akeys_adel_nodup _ _ h.1, h.2⟩)
    (fun _ _ _ h => ⟨h.1, nodup_aset _ _ _ h.2⟩) (fun _ _ h => ⟨h.1, akeys_adel_nodup _ _ h.2⟩) t p co ro h

theorem sample_nd (t : Table) (e : Bytes) (h : KeysNodup t) : KeysNodup (t.sample e) := by
  have item : ∀ c r inc, KeysNodup (t.sampleItem c r inc) := fun c r inc => ⟨nodup_aset _ _ _ h.1, nodup_aset _ _ _ h.2⟩
  unfold Table.sample
  simp only
  split
  · split
    · exact h
    · exact item _ _ _
  · split <;> exact item _ _ _

theorem renderStep_nd (n : Nat) (t : Table) (s co : List Bytes) (ro : Bytes → List Bytes) (h : KeysNodup t) :
    KeysNodup (renderStep n t s co ro) := by
  unfold renderStep; split
  · exact trim_nd _ _ _ _ h
  · exact h

/-- every table a `spark` run can hold – any interleaving of samples and render steps with any sorted column lists and
map iteration orders – has duplicate-free row and column keys -/
theorem reach_nd {lt : Bytes → Bytes → Bool} {n : Nat} {d : Bytes} {h : List Bytes} {t : Table}
    (hr : SparkReach lt n d h t) : KeysNodup t := by
  induction hr with
  | init => simp [KeysNodup, akeys]
  | sample h t e _ ih => exact sample_nd t e ih
  | render h t s co ro _ _ _ ih => exact renderStep_nd n t s co ro ih

/-! ### `csv.WriteTable` looks at names and cells only -/

theorem ins_name (x : Bytes) (v : Int) : ∀ l : List NV,
    (ins nvNameLess (⟨x, v⟩ : NV) l).map (·.name) = ins bytesLt x (l.map (·.name))
  | [] => rfl
  | y :: ys => by
    unfold ins
    rw [nvNameLess_eq]
    simp only [List.map_cons]
    split
    · rfl
    · simp only [List.map_cons, ins_name x v ys]

/-- sorting rows by name and reading the names off is sorting the names – whatever values the rows carry -/
theorem isort_names (f : Bytes → Int) : ∀ o : List Bytes,
    (isort nvNameLess (o.map fun k => (⟨k, f k⟩ : NV))).map (·.name) = isort bytesLt o
  | [] => rfl
  | x :: xs => by
    simp only [List.map_cons, isort]
    rw [ins_name, isort_names f xs]

theorem bytesLt_orderOn (P : Bytes → Prop) : OrderOn P bytesLt :=
  (bytesLt_strictTotal.mono (fun _ _ => trivial)).toOrderOn

/-- the cell `WriteTable` prints: `row.Value(col)` of an existing row, 0 otherwise -/
theorem cellD_eq (t : Table) (r c : Bytes) :
    ((aget t.rows r).map (·.value c)).getD 0 = (t.cell c r).getD 0 := by
  unfold Table.cell TableRow.value
  cases aget t.rows r with
  | none => rfl
  | some row => rfl

/-- `WriteTable` with the reference sort, spelled with names and cells only. -/
theorem tableCsvRows_names (co ro : List Bytes) (t : Table) :
    tableCsvRows isortFn co ro t =
      ([] :: isort bytesLt co) ::
        (isort bytesLt ro).map fun r => r :: (isort bytesLt co).map fun c => itoa ((t.cell c r).getD 0) := by
  unfold tableCsvRows tableRows isortFn
  simp only [isort_names]
  rw [← isort_names (fun r => ((aget t.rows r).map (·.sum)).getD 0) ro, List.map_map]
  simp only [cellD_eq]
  rfl

/-- The CSV rows of a table are a function of its cells, its row set and its column set, whatever the map iteration
orders.  (Row sums and column totals – which a `Trim` may leave behind differently – are handed to the name sorters but
never looked at.) -/
theorem tableCsvRows_of_cells_ref (t₁ t₂ : Table)
    (hcell : ∀ c r, t₁.cell c r = t₂.cell c r)
    (hrows : ∀ r, (aget t₁.rows r).isSome = (aget t₂.rows r).isSome)
    (hcols : ∀ c, (aget t₁.cols c).isSome = (aget t₂.cols c).isSome)
    (co₁ co₂ ro₁ ro₂ : List Bytes) (hco₁ : IsRangeOf co₁ t₁.cols) (hco₂ : IsRangeOf co₂ t₂.cols)
    (hro₁ : IsRangeOf ro₁ t₁.rows) (hro₂ : IsRangeOf ro₂ t₂.rows) :
    tableCsvRows isortFn co₁ ro₁ t₁ = tableCsvRows isortFn co₂ ro₂ t₂ := by
  rw [tableCsvRows_names, tableCsvRows_names]
  have pc : co₁.Perm co₂ := range_perm hco₁ hco₂ hcols
  have pr : ro₁.Perm ro₂ := range_perm hro₁ hro₂ hrows
  rw [isort_perm_invariant hco₁.1 (bytesLt_orderOn _) pc, isort_perm_invariant hro₁.1 (bytesLt_orderOn _) pr]
  simp only [hcell]

/-- … and for every contract-abiding `sort.Sort`. -/
theorem tableCsvRows_of_cells (alg : List NV → Algo NV (List NV)) (hc : SortContract alg) (t₁ t₂ : Table)
    (hcell : ∀ c r, t₁.cell c r = t₂.cell c r)
    (hrows : ∀ r, (aget t₁.rows r).isSome = (aget t₂.rows r).isSome)
    (hcols : ∀ c, (aget t₁.cols c).isSome = (aget t₂.cols c).isSome)
    (co₁ co₂ ro₁ ro₂ : List Bytes) (hco₁ : IsRangeOf co₁ t₁.cols) (hco₂ : IsRangeOf co₂ t₂.cols)
    (hro₁ : IsRangeOf ro₁ t₁.rows) (hro₂ : IsRangeOf ro₂ t₂.rows) :
    tableCsvRows (sortOf alg) co₁ ro₁ t₁ = tableCsvRows isortFn co₂ ro₂ t₂ := by
  have own : tableCsvRows (sortOf alg) co₁ ro₁ t₁ = tableCsvRows isortFn co₁ ro₁ t₁ := by
    have c1 := sorted_rows_eq alg hc nvNameLess nvNameLess_order co₁ co₁ t₁.colTotal t₁.colTotal hco₁.1 (List.Perm.refl _) (fun _ _ => rfl)
    have w1 := sorted_rows_eq alg hc nvNameLess nvNameLess_order ro₁ ro₁ (fun r => ((aget t₁.rows r).map (·.sum)).getD 0)
      (fun r => ((aget t₁.rows r).map (·.sum)).getD 0) hro₁.1 (List.Perm.refl _) (fun _ _ => rfl)
    simp only [tableCsvRows, tableRows, c1, w1, isortFn]
  rw [own]
  exact tableCsvRows_of_cells_ref t₁ t₂ hcell hrows hcols co₁ co₂ ro₁ ro₂ hco₁ hco₂ hro₁ hro₂

end Rare.C03

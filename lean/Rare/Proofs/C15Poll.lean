import Rare.Proofs.C15Notify
/-!
C15 – the inductive invariant of the polling transition system and its consequences.
-/
namespace Rare.Follow
open Rare.C15.Spec

variable {β : Type}

/-- Inductive invariant of the polling system. -/
structure PInv (cfg : PCfg) (ex : Bool) (st0 : Nat) (s : PSt β) : Prop where
  core : Core s.fs s.f s.hist s.delivered
  /-- the descriptor's offset is `readBytes` -/
  rb : ∀ h, s.f = some h → h.pos = s.readBytes
  ended : s.rd = .ended → cfg.reopen = false ∧ (ex = true → 0 < s.removes)
  inPlace : ex = true → s.removes = 0 → s.hist = [] ∧ s.fs.path = some 0 ∧ s.f = some ⟨0, st0, s.readBytes⟩ ∧
      s.readBytes ≤ (s.fs.content 0).length ∧ ∀ sz, s.rd = .opening sz → s.readBytes ≤ sz
  starts : s.skips = 0 → ∀ h ∈ s.hist ++ s.f.toList, h.start = 0 ∨ (h.ino = 0 ∧ h.start = st0)
  att : ∀ i, s.rd = .attempt i → i ≤ cfg.attempts
  noOpenPlain : cfg.reopen = false → ∀ sz, s.rd ≠ .opening sz

/-- While the file stays in place the delivered stream is its content between the start position and `readBytes`. -/
theorem PInv.inPlaceOK {cfg : PCfg} {ex : Bool} {st0 : Nat} {s : PSt β} (h : PInv cfg ex st0 s) (he : ex = true)
    (hr : s.removes = 0) :
    s.f = some ⟨0, st0, s.readBytes⟩ ∧ InPlaceOK (s.fs.content 0) s.delivered st0 s.readBytes := by
  obtain ⟨h1, _, h3, h4, _⟩ := h.inPlace he hr
  refine ⟨h3, (h.core.bounds ⟨0, st0, s.readBytes⟩ (by simp [h3])).1, h4, ?_⟩
  have := h.core.deliv
  rw [h1, h3] at this
  simpa [segments] using this

theorem pinv_init (cfg : PCfg) (c0 : Option (List β)) (tail : Bool) :
    PInv cfg c0.isSome (start0 c0 tail) (pinit c0 tail) := by
  cases c0 with
  | none => refine ⟨⟨?_, ?_, ?_⟩, ?_, ?_, ?_, ?_, ?_, ?_⟩ <;> simp [pinit, segments]
  | some c =>
    refine ⟨⟨?_, ?_, ?_⟩, ?_, ?_, ?_, ?_, ?_, ?_⟩ <;> simp [pinit, start0, segments, extract]
    split <;> simp

variable {cfg : PCfg} {ex : Bool} {st0 : Nat}

theorem pinv_writer {s s' : PSt β} (h : PInv cfg ex st0 s) (hs : PStep cfg .writer s s') :
    PInv cfg ex st0 s' := by
  cases hs with
  | append _ i bs hp hbs =>
    refine ⟨h.core.append i bs, h.rb, h.ended, ?_, h.starts, h.att, h.noOpenPlain⟩
    intro he hr
    obtain ⟨h1, h2, h3, h4, h5⟩ := h.inPlace he hr
    exact ⟨h1, h2, h3, Nat.le_trans h4 (len_append_ge _ _ _ _), h5⟩
  | remove _ i hp =>
    refine ⟨h.core.remove, h.rb, ?_, ?_, h.starts, h.att, h.noOpenPlain⟩
    · intro hr; exact ⟨(h.ended hr).1, fun _ => Nat.succ_pos _⟩
    · intro _ hr; simp at hr
  | create _ hp =>
    refine ⟨h.core.create, h.rb, h.ended, ?_, h.starts, h.att, h.noOpenPlain⟩
    intro he hr
    have := (h.inPlace he hr).2.1
    rw [hp] at this; cases this

theorem merges_true {s : PSt β} {sz : Nat} (hm : merges s sz = true) :
    ∃ x, s.f = some x ∧ s.fs.path = some x.ino ∧ s.readBytes ≤ sz ∧ x.pos = s.readBytes := by
  simp only [merges] at hm
  cases hf : s.f with
  | none => simp [hf] at hm
  | some x =>
    cases hp : s.fs.path with
    | none => simp [hf, hp] at hm
    | some j =>
      simp only [hf, hp, Bool.and_eq_true, beq_iff_eq, decide_eq_true_eq] at hm
      exact ⟨x, rfl, by rw [hm.1.1], hm.1.2, hm.2⟩

/-- A `Stat` that reported a size below the offset: the path is opened from its beginning and no skip is counted. -/
theorem openStep_of_lt {s : PSt β} {sz : Nat} (hlt : sz < s.readBytes) :
    openStep s sz = { s with f := openAt s.fs 0, readBytes := 0, hist := s.pushOld, rd := .attempt 0 } := by
  have hn : ¬ s.readBytes ≤ sz := by omega
  have hm : merges s sz = false := by
    unfold merges
    cases s.f with
    | none => rfl
    | some h =>
      cases s.fs.path with
      | none => rfl
      | some j => simp [hn]
  simp [openStep, hm, openNew, hn]

/-- Moving on in the `Read` loop without touching file, handle or offset keeps the invariant; a move to
    `opening sz` needs re-open mode and, while the file is in place, a size that is not below the offset. -/
theorem PInv.set_rd {s : PSt β} (h : PInv cfg ex st0 s) (r : PRd) (hne : r ≠ .ended)
    (hatt : ∀ i, r = .attempt i → i ≤ cfg.attempts)
    (hop : ∀ sz, r = .opening sz → cfg.reopen = true ∧ (ex = true → s.removes = 0 → s.readBytes ≤ sz)) :
    PInv cfg ex st0 { s with rd := r } := by
  refine ⟨h.core, h.rb, fun he => absurd he hne, ?_, h.starts, hatt, ?_⟩
  · intro he hr
    obtain ⟨h1, h2, h3, h4, _⟩ := h.inPlace he hr
    exact ⟨h1, h2, h3, h4, fun sz hsz => (hop sz hsz).2 he hr⟩
  · intro hre sz hsz
    have := (hop sz hsz).1
    rw [hre] at this; cases this

theorem pinv_reader {s s' : PSt β} (h : PInv cfg ex st0 s) (hs : PStep cfg .reader s s') :
    PInv cfg ex st0 s' := by
  have again := h.set_rd (.attempt 0) (by simp) (fun j hj => by cases hj; exact Nat.zero_le _) (fun _ hsz => nomatch hsz)
  have check := h.set_rd .check (by simp) (fun _ hj => nomatch hj) (fun _ hsz => nomatch hsz)
  cases hs with
  | readSome _ x i n hrd hi hf h1 hn =>
    have hc : Core s.fs (some x) s.hist s.delivered := by have := h.core; rwa [hf] at this
    have hxm : x ∈ s.hist ++ s.f.toList := by simp [hf]
    have hrb := h.rb x hf
    refine ⟨hc.read n hn h1, ?_, by simp, ?_, ?_, ?_, ?_⟩
    · intro y hy; simp only [Option.some.injEq] at hy; subst hy; simp [hrb]
    · intro he hr
      obtain ⟨h1', h2, h3, h4, _⟩ := h.inPlace he hr
      rw [hf] at h3; simp only [Option.some.injEq] at h3; subst h3
      simp only [unread, List.length_drop] at hn
      refine ⟨h1', h2, rfl, ?_, by simp⟩
      show s.readBytes + n ≤ (s.fs.content 0).length
      omega
    · intro hsk y hy
      have hy' : y ∈ s.hist ∨ y = { x with pos := x.pos + n } := by simpa using hy
      rcases hy' with hy' | rfl
      · exact h.starts hsk y (by simp [hy'])
      · exact h.starts hsk x hxm
    · intro j hj; simp only [PRd.attempt.injEq] at hj; omega
    · intro hr sz; simp
  | readEmpty _ x i hrd hi hf hu =>
    exact h.set_rd _ (by simp) (fun j hj => by cases hj; exact hi) (fun _ hsz => nomatch hsz)
  | loopDone _ x hrd hf => exact check
  | nilSleep _ i hrd hf => exact check
  | statGone _ hrd hre hp =>
    have hnip : ex = true → s.removes = 0 → False := by
      intro he hr
      have := (h.inPlace he hr).2.1; rw [hp] at this; cases this
    refine ⟨h.core.closeOpt, by simp, ?_, fun he hr => (hnip he hr).elim, ?_, by simp, by intro _ sz; simp⟩
    · intro _
      exact ⟨hre, fun he => Nat.pos_of_ne_zero (hnip he)⟩
    · intro hsk y hy; exact h.starts hsk y (by simpa [PSt.pushOld] using hy)
  | statThere _ j hrd hre hp => exact again
  | statNil _ hrd hre hp => exact again
  | statSame _ j hrd hre hp hsz => exact again
  | statDiff _ j hrd hre hp hsz =>
    refine h.set_rd _ (by simp) (fun _ hj => nomatch hj) (fun sz hsz' => ⟨hre, fun he hr => ?_⟩)
    obtain ⟨_, h2, _, h4, _⟩ := h.inPlace he hr
    rw [hp] at h2
    cases h2; cases hsz'
    exact h4
  | reopen _ sz hrd =>
    by_cases hm : merges s sz = true
    · have heq : openStep s sz = { s with rd := .attempt 0 } := by simp only [openStep]; rw [if_pos hm]
      rw [heq]
      exact again
    · have heq : openStep s sz = openNew s sz := by simp only [openStep]; rw [if_neg hm]
      rw [heq]
      simp only [openNew]
      have hc : Core s.fs none (s.hist ++ s.f.toList) s.delivered := h.core.closeOpt
      refine ⟨hc.openAt _, ?_, by simp, ?_, ?_, by simp, by intro _ sz; simp⟩
      · intro y hy; exact (openAt_some _ _ _ hy).2.2
      · intro he hr
        exfalso
        obtain ⟨h1, h2, h3, h4, h5⟩ := h.inPlace he hr
        apply hm
        simp [merges, h3, h2, h5 sz hrd]
      · intro hsk y hy
        simp only at hsk
        have hnoskip : ¬ (s.readBytes ≤ sz ∧ 0 < s.readBytes ∧ s.fs.path.isSome = true) := by
          intro hc'; rw [if_pos hc'] at hsk; omega
        rw [if_neg hnoskip] at hsk
        have hy' : y ∈ s.hist ++ s.f.toList ∨ y ∈ (openAt s.fs (if s.readBytes ≤ sz then s.readBytes else 0)).toList := by
          simp only [PSt.pushOld] at hy
          exact List.mem_append.mp hy
        rcases hy' with hy' | hy'
        · exact h.starts hsk y hy'
        · have ho := openAt_some _ _ _ (by simpa using hy')
          left
          rw [ho.2.1]
          by_cases hle : s.readBytes ≤ sz
          · rw [if_pos hle]
            have : ¬ (0 < s.readBytes) := by
              intro hpos; exact hnoskip ⟨hle, hpos, by rw [ho.1]; rfl⟩
            omega
          · rw [if_neg hle]

theorem pinv_step {w : Who} {s s' : PSt β} (h : PInv cfg ex st0 s) (hs : PStep cfg w s s') : PInv cfg ex st0 s' := by
  cases w with
  | writer => exact pinv_writer h hs
  | kernel => cases hs
  | reader => exact pinv_reader h hs

theorem pinv_reach (c0 : Option (List β)) (tail : Bool) {s : PSt β}
    (hr : PReach cfg (pinit c0 tail) s) : PInv cfg c0.isSome (start0 c0 tail) s := by
  induction hr with
  | refl => exact pinv_init cfg c0 tail
  | step _ hs ih => exact pinv_step ih hs

end Rare.Follow

import Rare.Proofs.C11
import Rare.Proofs.C14Utf8
import Rare.Proofs.C08Format
/-!
C11 for `{format}`: what a call computes (`format_call`), literal text and `%%`, `%s`, and the width field
(`%<w>s`, `%-<w>s`) of the model of `fmt.Sprintf` on string operands (`Funcs/Format.lean`).
-/
namespace Rare.C11
open Rare Rare.Expr Rare.Expr.Funcs Rare.Expr.Funcs.Format

theorem evalAll_run (c : Ctx) : ∀ as : List Arg, (evalAll (as.map Arg.stage)).run c = .ok (as.map (Arg.val c))
  | [] => rfl
  | a :: rest => by
    simp only [List.map_cons, evalAll, Comp.bind_eq, Comp.run_bind, Arg.run_stage]
    rw [evalAll_run c rest]
    rfl

/-- `{format f a₁ … aₙ}` is `fmt.Sprintf` of the values of its arguments. -/
theorem format_call (isPrint : Nat → Bool) (c : Ctx) (f : Arg) (as : List Arg) :
    callHelper (kfFormat isPrint) (f :: as) c = sprintf isPrint (f.val c) (as.map (Arg.val c)) := by
  obtain ⟨out, ho⟩ := sprintf_total isPrint (f.val c) (as.map (Arg.val c))
  simp only [callHelper, kfFormat, List.map_cons, ok, Comp.bind_eq, Comp.run_bind, Arg.run_stage, evalAll_run, ho]
  rfl

/-- Text without `%` is copied. -/
theorem formatLoop_literal (isPrint : Nat → Bool) (a : List Bytes) :
    ∀ (l : Bytes) (fuel : Nat) (rest : Bytes) (st : St), (∀ b ∈ l, b ≠ 37) →
      formatLoop isPrint a (fuel + l.length) (l ++ rest) st =
        formatLoop isPrint a fuel rest { st with out := st.out ++ l } := by
  intro l
  induction l with
  | nil => intro fuel rest st _; simp
  | cons b l ih =>
    intro fuel rest st h
    have hb : b ≠ 37 := h b (by simp)
    rw [show fuel + (b :: l).length = (fuel + l.length) + 1 by simp; omega]
    simp only [List.cons_append, formatLoop, hb, ne_eq, not_false_eq_true, if_true]
    rw [ih fuel rest _ (fun x hx => h x (by simp [hx]))]
    simp

theorem runeCount_spaces_append (n : Nat) (x : Bytes) :
    runeCount (List.replicate n 32 ++ x) = n + runeCount x := by
  unfold runeCount C09.decodeUtf8
  induction n with
  | zero => simp
  | succ n ih =>
    rw [List.replicate_succ, List.cons_append]
    have := C14.decodeUtf8_before_ascii [] 32 (by decide) (List.replicate n 32 ++ x)
    simp only [List.nil_append] at this
    rw [this]
    simp [C20.decodeUtf8_nil, ih]; omega

theorem runeCount_append_spaces (n : Nat) (x : Bytes) :
    runeCount (x ++ List.replicate n 32) = runeCount x + n := by
  unfold runeCount C09.decodeUtf8
  induction n generalizing x with
  | zero => simp
  | succ n ih =>
    rw [List.replicate_succ]
    rw [C14.decodeUtf8_before_ascii x 32 (by decide) (List.replicate n 32)]
    have := ih []
    simp only [List.nil_append, C20.decodeUtf8_nil, List.length_nil, Nat.zero_add] at this
    simp [this]

theorem digitsVal_ge : ∀ (ds : Bytes) (acc : Nat), acc ≤ digitsVal ds acc := by
  intro ds
  induction ds with
  | nil => intro acc; exact Nat.le_refl _
  | cons c r ih =>
    intro acc
    simp only [digitsVal]
    have := ih (acc * 10 + (c.toNat - 48))
    omega

/-- `parsenum` reads a decimal numeral of value `≤ 9 999 999` completely. -/
theorem parsenumGo_digits : ∀ (ds : Bytes) (acc : Nat) (b : Bool) (rest : Bytes),
    ds.all isDigitB = true → digitsVal ds acc ≤ 9999999 →
    (∀ c r, rest = c :: r → ¬ (48 ≤ c ∧ c ≤ 57)) →
    parsenumGo (ds ++ rest) acc b = (digitsVal ds acc, b || !ds.isEmpty, rest) := by
  intro ds
  induction ds with
  | nil =>
    intro acc b rest _ _ hr
    cases rest with
    | nil => simp [parsenumGo, digitsVal]
    | cons c r => simp [parsenumGo, digitsVal, hr c r rfl]
  | cons c ds ih =>
    intro acc b rest hall hval hr
    simp only [List.all_cons, Bool.and_eq_true] at hall
    have hc : 48 ≤ c ∧ c ≤ 57 := by
      have := hall.1; simp only [isDigitB, Bool.and_eq_true, decide_eq_true_eq] at this; exact this
    simp only [digitsVal] at hval ⊢
    have hacc : ¬ acc > 1000000 := by
      have := digitsVal_ge ds (acc * 10 + (c.toNat - 48)); omega
    simp only [List.cons_append, parsenumGo, hc, and_self, if_true, hacc, if_false]
    rw [ih _ true rest hall.2 hval hr]
    simp

/-- `fmt.Sprintf("%s", x)` is `x`. -/
theorem sprintf_s (isPrint : Nat → Bool) (x : Bytes) : sprintf isPrint [37, 115] [x] = .ok x := by
  simp [sprintf, formatLoop, verbStep, flagLoop, argAt, printArg, fmtS, truncateString, padString]

/-- `%%` writes one `%`, consumes no operand; the text around it is copied. -/
theorem sprintf_percent (isPrint : Nat → Bool) (l1 l2 : Bytes) (h1 : ∀ b ∈ l1, b ≠ 37) (h2 : ∀ b ∈ l2, b ≠ 37) :
    sprintf isPrint (l1 ++ 37 :: 37 :: l2) [] = .ok (l1 ++ 37 :: l2) := by
  unfold sprintf
  rw [show (l1 ++ 37 :: 37 :: l2).length + 1 = (l2.length + 3) + l1.length by simp; omega]
  rw [formatLoop_literal isPrint [] l1 _ _ _ h1]
  have hstep : ∀ st : St, verbStep isPrint [] (37 :: l2) st = .ok ({ st with out := st.out ++ [37] }, l2, false) := by
    intro st
    simp [verbStep, flagLoop, slowPath, argNumber, widthPart, parsenum, parsenumGo, precPart, indexPart, verbPart,
      verbSwitch]
  simp only [formatLoop, ne_eq, not_true_eq_false, if_false, hstep]
  have := formatLoop_literal isPrint [] l2 2 [] { out := [] ++ l1 ++ [37], argNum := 0, reordered := false } h2
  simp only [List.append_nil] at this
  rw [show l2.length + 2 = 2 + l2.length by omega]
  simp only [Bool.false_eq_true, if_false]
  rw [this]
  simp [formatLoop]

/-- The width field: `%<w>s` with `w` a decimal numeral `d ds` (first digit not 0, value ≤ 9 999 999)
    pads on the left with blanks to `w` runes; `%-<w>s` pads on the right. -/
theorem sprintf_width (isPrint : Nat → Bool) (d : UInt8) (ds x : Bytes) (hd : 49 ≤ d ∧ d ≤ 57)
    (hds : ds.all isDigitB = true) (hw : digitsVal (d :: ds) 0 ≤ 9999999) :
    sprintf isPrint (37 :: d :: ds ++ [115]) [x] =
      .ok (List.replicate (digitsVal (d :: ds) 0 - runeCount x) 32 ++ x) ∧
    sprintf isPrint (37 :: 45 :: d :: ds ++ [115]) [x] =
      .ok (x ++ List.replicate (digitsVal (d :: ds) 0 - runeCount x) 32) := by
  have hall : (d :: ds).all isDigitB = true := by
    simp only [List.all_cons, hds, Bool.and_true, isDigitB, Bool.and_eq_true, decide_eq_true_eq]
    exact ⟨UInt8.le_trans (by decide) hd.1, hd.2⟩
  have hp : parsenum (d :: (ds ++ [115])) = (digitsVal (d :: ds) 0, true, [115]) := by
    have := parsenumGo_digits (d :: ds) 0 false [115] hall hw (by
      intro c r h; simp only [List.cons.injEq] at h; rw [← h.1]; decide)
    simpa [parsenum] using this
  have hpos : digitsVal (d :: ds) 0 ≠ 0 := by
    show digitsVal ds (0 * 10 + (d.toNat - 48)) ≠ 0
    have h1 := digitsVal_ge ds (0 * 10 + (d.toNat - 48))
    have h2 : 49 ≤ d.toNat := by have := UInt8.le_iff_toNat_le.mp hd.1; simpa using this
    generalize d.toNat = n at h1 h2 ⊢
    generalize digitsVal ds (0 * 10 + (n - 48)) = v at h1 ⊢
    omega
  have hne : ∀ k : UInt8, ¬ (49 ≤ k ∧ k ≤ 57) → d ≠ k := fun k hk e => hk (e ▸ hd)
  have hflag : ∀ f : Fl, flagLoop (d :: ds ++ [115]) f = (f, d :: ds ++ [115]) := by
    intro f
    simp [flagLoop, hne 35 (by decide), hne 48 (by decide), hne 43 (by decide), hne 45 (by decide),
      hne 32 (by decide)]
  have hfast : ¬ (97 ≤ d ∧ d ≤ 122 ∧ (0 : Nat) < 1) := by
    intro h
    have a := UInt8.le_iff_toNat_le.mp h.1
    have b := UInt8.le_iff_toNat_le.mp hd.2
    simp at a b; omega
  have e91 : d ≠ 91 := hne 91 (by decide)
  have e42 : d ≠ 42 := hne 42 (by decide)
  have hslow : ∀ (f : Fl) (st : St), st.argNum = 0 → st.reordered = false →
      slowPath isPrint [x] f (d :: ds ++ [115]) st =
        .ok ({ out := st.out ++ fmtS { f with wid := digitsVal (d :: ds) 0, widPresent := true } x, argNum := 1,
               reordered := false }, [], false) := by
    intro f st h0 hr
    have hn : argNumber st.argNum (d :: ds ++ [115]) 1 st.reordered true =
        ⟨0, d :: ds ++ [115], false, false, true⟩ := by
      unfold argNumber
      split
      · rename_i after heq
        simp only [List.cons_append, List.cons.injEq] at heq
        exact absurd heq.1 e91
      · rw [h0, hr]
    simp only [slowPath, List.length_singleton, hn]
    have hwd : widthPart [x] f st.out ⟨0, d :: ds ++ [115], false, false, true⟩ =
        ⟨{ f with wid := digitsVal (d :: ds) 0, widPresent := true }, st.out, 0, [115], false, true, false⟩ := by
      unfold widthPart
      split
      · rename_i r heq
        simp only [List.cons_append, List.cons.injEq] at heq
        exact absurd heq.1 e42
      · simp [hp]
    rw [hwd]
    simp [precPart, indexPart, argNumber, verbPart, verbSwitch, argAt, printArg]
  -- `fmt` is what follows the `%`: flags `f`, then the width and the verb
  have hfmt : ∀ (fmt : Bytes) (f : Fl), flagLoop fmt {} = (f, d :: ds ++ [115]) →
      sprintf isPrint (37 :: fmt) [x] =
        .ok (fmtS { f with wid := digitsVal (d :: ds) 0, widPresent := true } x) := by
    intro fmt f hf
    have hvs : verbStep isPrint [x] fmt {} =
        .ok ({ out := fmtS { f with wid := digitsVal (d :: ds) 0, widPresent := true } x, argNum := 1,
               reordered := false }, [], false) := by
      unfold verbStep
      simp only [hf]
      have := hslow f {} rfl rfl
      simp only [List.cons_append] at this ⊢
      simp only [List.length_singleton, hfast, if_false]
      simpa using this
    unfold sprintf
    rw [List.length_cons, formatLoop]
    simp only [ne_eq, not_true_eq_false, if_false, hvs]
    simp [formatLoop]
  constructor
  · have := hfmt (d :: ds ++ [115]) {} (hflag {})
    simpa [fmtS, truncateString, padString, hpos, padding] using this
  · have := hfmt (45 :: d :: ds ++ [115]) { minus := true } (by
      have := hflag { minus := true }
      simp only [List.cons_append] at this ⊢
      rw [flagLoop]
      simp [this])
    simpa [fmtS, truncateString, padString, hpos, padding] using this

end Rare.C11

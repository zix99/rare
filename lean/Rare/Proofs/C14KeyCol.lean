import Rare.Proofs.C14RenderU
/-!
# C14: the key column of the histogram and the bar graph (after f0d0278, cde79bf)

`padVisible(key, w)` pads in VISIBLE characters (`color.StrLen`), the unit in which the writers track the width of
the key column.  So for every key that does not end inside a colour sequence and is at most `w` wide, the
coloured, padded key is exactly `w` cells wide – multi-byte keys, keys with colour sequences (`{color red {1}}`),
truncated UTF-8 – and what follows it (the count of a histogram line, the bar of a bar graph line) starts at
the same visible offset in every row.
-/
namespace Rare.C14
open Rare Rare.C20

/-- blanks after a text that does not end inside a colour sequence: still not inside one -/
theorem terminated_blanks (env : Env) (c : Bytes) (k : Nat) (ht : Terminated env c) :
    Terminated env (c ++ List.replicate k (32 : UInt8)) := by
  cases k with
  | zero => simpa using ht
  | succ m =>
    intro hc
    have := decodeUtf8_fill 32 (by decide) c m []
    rw [List.append_nil, decodeUtf8_nil, List.append_nil] at this
    rw [this, codeState_append, ht hc]
    exact codeState_fill 32 (by decide) _

/-- … and each blank is one visible cell -/
theorem strLen_blanks_after (env : Env) (c : Bytes) (k : Nat) (ht : Terminated env c) :
    strLen env (c ++ List.replicate k (32 : UInt8)) = strLen env c + k := by
  cases k with
  | zero => simp
  | succ m =>
    have := strLen_fill_append env 32 (by decide) (by decide) c m [] ht
    rw [List.append_nil, strLen_nil] at this
    rw [this]; omega

theorem spaces_eq (n : Int) : spaces n = List.replicate n.toNat (32 : UInt8) := rfl

/-- `padVisible(key, w)`: `max(w, StrLen(key))` cells wide, and it does not end inside a colour sequence -/
theorem padVis_props (env : Env) (key : Bytes) (w : Int) (ht : Terminated env key) :
    strLen env (padVis env key w) = (if strLen env key ≤ w then w else strLen env key) ∧ Terminated env (padVis env key w) := by
  unfold padVis
  rw [spaces_eq]
  refine ⟨?_, terminated_blanks env key _ ht⟩
  rw [strLen_blanks_after env key _ ht]
  split <;> omega

/-- THE KEY CELL: the coloured padded key followed by `gap ≥ 1` blanks is exactly `w + gap` cells wide, for every key at most
`w` wide that does not end inside a colour sequence; what follows starts at visible offset `w + gap` -/
theorem keyCell_width (env : Env) (key : Bytes) (w : Int) (gap : Nat) (ht : Terminated env key) (hw : strLen env key ≤ w) :
    strLen env (wrap env cYellow (padVis env key w) ++ List.replicate (gap + 1) (32 : UInt8)) = w + (gap + 1 : Nat) ∧
    Terminated env (wrap env cYellow (padVis env key w) ++ List.replicate (gap + 1) (32 : UInt8)) := by
  obtain ⟨p1, p2⟩ := padVis_props env key w ht
  obtain ⟨w1, w2⟩ := wrap_props env sgr_yellow (padVis env key w) p2
  refine ⟨?_, terminated_blanks env _ _ w2⟩
  rw [strLen_blanks_after env _ _ w2, w1, p1, if_pos hw]

/-- the indentation of the lower lines of a grouped row is as wide as the key cell -/
theorem indent_width (env : Env) (w : Int) (h0 : 0 ≤ w) : strLen env (spaces (w + 2)) = w + 2 := by
  have := strLen_blanks_after env [] (w + 2).toNat (by intro _; rfl)
  rw [List.nil_append, strLen_nil] at this
  rw [spaces_eq, this]; omega

/-- outside the class: a key that ENDS INSIDE a colour sequence swallows the padding blanks in `StrLen`'s own scan –
the padded key `ESC [ 3` + 13 blanks is 0 cells wide, not 16 -/
theorem keyCell_unterminated_counterexample :
    strLen ⟨true, true⟩ (27 :: ascii "[3") = 0 ∧ ¬ Terminated ⟨true, true⟩ (27 :: ascii "[3") ∧
    strLen ⟨true, true⟩ (wrap ⟨true, true⟩ cYellow (padVis ⟨true, true⟩ (27 :: ascii "[3") 16) ++ ascii "    ") ≠ 16 + 4 := by
  refine ⟨by decide +kernel, fun h => absurd (h rfl) (by decide +kernel), by decide +kernel⟩

/-! ### histogram -/

/-- a histogram line is the key cell (`textSpacing + 4` cells), then the number -/
theorem histo_line_key_cell (env : Env) (h : Histo) (key : Bytes) (val : Int) {α : Type} (A : Arith α) :
    ∃ tail, h.lineText A env key val =
      (wrap env cYellow (padVis env key h.textSpacing) ++ List.replicate 4 (32 : UInt8)) ++ (h.fmt.apply val 0 h.maxVal ++ tail) := by
  obtain ⟨tail, ht, _⟩ := histo_lineText_shape (A := A) env h key val
  refine ⟨spaces (10 - (decodeUtf8 (h.fmt.apply val 0 h.maxVal)).length) ++ tail, ?_⟩
  rw [ht]
  unfold Histo.lineHead padRight
  have : ascii "    " = List.replicate 4 (32 : UInt8) := by decide +kernel
  rw [this]
  simp [List.append_assoc]

/-- `rest` is on `line` from visible offset `off` on: `line = pre ++ rest` where `pre` is exactly `off` cells wide and does not
end inside a colour sequence -/
def StartsAt (env : Env) (line : Bytes) (off : Int) (rest : Bytes) : Prop :=
  ∃ pre, line = pre ++ rest ∧ strLen env pre = off ∧ Terminated env pre

/-- in a histogram that covers the key (`StrLen(key) ≤ textSpacing`, what `HistoInv` maintains), the number of the line
starts at visible offset `textSpacing + 4` -/
theorem histo_line_number_at (env : Env) (h : Histo) (key : Bytes) (val : Int) {α : Type} (A : Arith α)
    (ht : Terminated env key) (hw : strLen env key ≤ h.textSpacing) :
    ∃ tail, StartsAt env (h.lineText A env key val) (h.textSpacing + 4) (h.fmt.apply val 0 h.maxVal ++ tail) := by
  obtain ⟨tail, e⟩ := histo_line_key_cell env h key val A
  obtain ⟨k1, k2⟩ := keyCell_width env key h.textSpacing 3 ht hw
  exact ⟨tail, _, e, by rw [k1]; rfl, k2⟩

/-! ### bar graph -/

section
variable {α : Type} {A : Arith α}

/-- what follows the key cell on a stacked line: the bar, two blanks, the formatted total -/
def BarCfg.stackedRest (c : BarCfg) (env : Env) (vals : List Int) : Bytes :=
  (match barWriteStacked env c.max c.barSize vals with | .ok b => b | .error _ => []) ++ ascii "  " ++ c.fmt.apply (sumWrap vals) 0 c.max

/-- what follows the key cell (or the indentation) on line `j` of a grouped row: the coloured bar, a blank, the formatted value -/
def BarCfg.groupedRest (c : BarCfg) (A : Arith α) (env : Env) (j : Nat) (v : Int) : Bytes :=
  colorWrite env (groupColors.getD (j % groupColors.length) []) (c.barBytes A env v) ++ [32] ++ c.fmt.apply v 0 c.max

theorem ascii_two_blanks : ascii "  " = List.replicate 2 (32 : UInt8) := by decide +kernel

/-- every line of a drawn row whose key the key column covers: the bar starts at visible offset `keyw + 2` -/
theorem bars_row_key_column (env : Env) (c : BarCfg) (vt : VirtualTerm) (i : Nat) (row : Bytes × List Int)
    (h : RowDrawn A env c vt i row) (ht : Terminated env row.1) (hw : strLen env row.1 ≤ c.keyw) (h0 : 0 ≤ c.keyw) :
    (c.stacked = true → ∃ line, vt.lines[c.rowStart i]? = some line ∧ StartsAt env line (c.keyw + 2) (c.stackedRest env row.2)) ∧
    (c.stacked = false → ∀ (j : Nat) (v : Int), row.2[j]? = some v →
      ∃ line, vt.lines[c.rowStart i + j]? = some line ∧ StartsAt env line (c.keyw + 2) (c.groupedRest A env j v)) := by
  obtain ⟨k1, k2⟩ := keyCell_width env row.1 c.keyw 1 ht hw
  unfold RowDrawn at h
  constructor
  · intro hs
    rw [if_pos hs] at h
    refine ⟨_, h, wrap env cYellow (padVis env row.1 c.keyw) ++ List.replicate 2 (32 : UInt8), ?_, by rw [k1]; rfl, k2⟩
    unfold BarCfg.stackedText BarCfg.stackedRest
    rw [ascii_two_blanks]
    simp only [List.append_assoc]
    generalize barWriteStacked env c.max c.barSize row.2 = r
    cases r <;> rfl
  · intro hs j v hj
    rw [if_neg (by simp [hs])] at h
    refine ⟨_, h j v hj, (if j > 0 then spaces (c.keyw + 2) else wrap env cYellow (padVis env row.1 c.keyw) ++ List.replicate 2 (32 : UInt8)), ?_, ?_, ?_⟩
    · unfold BarCfg.groupedText BarCfg.groupedRest
      rw [ascii_two_blanks]
      simp [List.append_assoc]
    · split
      · exact indent_width env c.keyw h0
      · rw [k1]; rfl
    · split
      · have := terminated_blanks env [] (c.keyw + 2).toNat (by intro _; rfl)
        rwa [List.nil_append] at this
      · exact k2

end

end Rare.C14

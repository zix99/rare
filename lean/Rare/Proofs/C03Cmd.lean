import Rare.Proofs.C03Det
import Rare.Proofs.C03Run
import Rare.Proofs.C07Sorted
import Rare.Proofs.C07Table
import Rare.Model.C03Cmd
/-! Helper lemmas for the command-function theorems of C03 (`Model/C03Cmd.lean`): the sorters a `--sort` name can
denote without hidden state are strict total orders on rows with distinct names; the rows the histogram shows, the
footers, the CSV and the exit status are functions of the aggregator's observable state. -/
namespace Rare.C03
open Rare.C07 Rare.C13

/-- `ValueSorterEx(ByName)`: ascending by value, ties by name -/
def nvValueAscLess (a b : NV) : Bool := (valueSorterEx (pureCmp byName) () a b).1

theorem nvValueAscLess_eq (a b : NV) :
    nvValueAscLess a b = if a.value = b.value then bytesLt a.name b.name else decide (a.value < b.value) := by
  simp only [nvValueAscLess, valueSorterEx, pureCmp, byName]
  by_cases h : a.value = b.value
  · simp [h]
  · have : (a.value == b.value) = false := by simpa using h
    simp [this, if_neg h]

theorem nvValueAscLess_order (items : List NV) (hnd : (items.map (·.name)).Nodup) : OrderOn (· ∈ items) nvValueAscLess :=
  byValueThenName_order (r := fun x y => x < y) nvValueAscLess_eq (fun _ _ h => by omega) (fun _ _ h => by omega)
    (fun _ _ _ h1 h2 => by omega) items hnd

/-- `ValueNilSorter(ByNameSmart)`: numbers by magnitude ahead of text (`--sort numeric`) -/
def nvSmartLess (a b : NV) : Bool := (valueNilSorter (pureCmp byNameSmartF) () a b).1

theorem nvSmartLess_order (hs : StrictTotalOn (fun _ => True) byNameSmartF) (items : List NV)
    (hnd : (items.map (·.name)).Nodup) : OrderOn (· ∈ items) nvSmartLess :=
  byName_order hs (fun _ _ => rfl) items hnd

/-- The mode and the direction `BuildSorter` reads off a flag text (`none` = an error): `parseSort`, then `lookupMode`. -/
def sortKind (fullName : Bytes) : Option (Mode × Bool) :=
  match parseSort lowerK fullName with
  | .error _ => none
  | .ok (name, rev) => (lookupMode lowerK name).map (·, rev)

/-- The comparator of a mode and a direction when it is a pure function of the two rows. -/
def kindLess : Mode × Bool → Option (NV → NV → Bool)
  | (.text, rev) => some (bif rev then revLess nvNameLess else nvNameLess)
  | (.value, rev) => some (bif rev then revLess nvValueAscLess else nvValueAscLess)
  | (.numeric, rev) => some (bif rev then revLess nvSmartLess else nvSmartLess)
  | _ => none

/-- `pureSortLess` through `sortKind`: the flag text is evaluated (by the kernel, `lowerK` being defined by well-founded
recursion) to a mode and a direction, and the comparator is read off. -/
theorem pureSortLess_of_kind {fullName : Bytes} {k : Option (Mode × Bool)} (h : sortKind fullName = k) :
    pureSortLess fullName = k.bind kindLess := by
  subst h
  unfold pureSortLess sortKind
  cases parseSort lowerK fullName with
  | error e => rfl
  | ok p =>
    obtain ⟨name, rev⟩ := p
    dsimp only
    cases lookupMode lowerK name with
    | none => rfl
    | some m => cases m <;> cases rev <;> rfl

/-- Every sorter a `text` / `value` / `numeric` name (any spelling, any modifier) denotes is a strict total order on rows
with distinct names: the hypothesis of `sorted_rows_eq`.  `hs` is C13's `numeric_real_strict_total`. -/
theorem pureSortLess_order (hs : StrictTotalOn (fun _ => True) byNameSmartF) (fullName : Bytes) (less : NV → NV → Bool)
    (h : pureSortLess fullName = some less)
    (items : List NV) (hnd : (items.map (·.name)).Nodup) : OrderOn (· ∈ items) less := by
  rw [pureSortLess_of_kind rfl] at h
  obtain ⟨⟨m, rev⟩, -, hk⟩ := Option.bind_eq_some_iff.mp h
  have dir : ∀ l, OrderOn (· ∈ items) l → OrderOn (· ∈ items) (bif rev then revLess l else l) := by
    intro l hl; cases rev
    · exact hl
    · exact hl.rev
  cases m with
  | text => cases hk; exact dir _ (nvNameLess_order items hnd)
  | value => cases hk; exact dir _ (nvValueAscLess_order items hnd)
  | numeric => cases hk; exact dir _ (nvSmartLess_order hs items hnd)
  | contextual => cases hk
  | date => cases hk

theorem length_eq_of_same_keys {α β : Type} (m₁ : List (Bytes × α)) (m₂ : List (Bytes × β)) (h₁ : (akeys m₁).Nodup)
    (h₂ : (akeys m₂).Nodup) (hk : ∀ k, (aget m₁ k).isSome = (aget m₂ k).isSome) : m₁.length = m₂.length := by
  have := (range_perm (isRangeOf_akeys h₁) (isRangeOf_akeys h₂) hk).length_eq
  simpa [akeys] using this

/-- The rows `writeHistoOutput` puts on the screen: one answer for every contract-abiding `sort.Sort`, every map
iteration order and every counter with the same look-ups. -/
theorem histoShown_det (alg : List NV → Algo NV (List NV)) (hc : SortContract alg) (less : NV → NV → Bool)
    (hless : ∀ items : List NV, (items.map (·.name)).Nodup → OrderOn (· ∈ items) less)
    (c₁ c₂ : Counter) (hobs : ∀ k, aget c₁.items k = aget c₂.items k)
    (o₁ o₂ : List Bytes) (r₁ : IsRangeOf o₁ c₁.items) (r₂ : IsRangeOf o₂ c₂.items) (count : Nat) (atLeast : Int) :
    histoShown (sortOf alg) less o₂ c₂ count atLeast = histoShown isortFn less o₁ c₁ count atLeast := by
  have hp : o₂.Perm o₁ := range_perm r₂ r₁ (fun k => by rw [hobs])
  have e := sorted_rows_eq alg hc less hless o₁ o₂ (fun k => (aget c₁.items k).getD 0)
    (fun k => (aget c₂.items k).getD 0) r₁.1 hp (fun k _ => by rw [hobs])
  simp only [histoShown, e, isortFn]

/-- `histoFunction`'s complete result is a function of the counter's observable state and the extractor counters. -/
theorem histoCmd_det (alg : List NV → Algo NV (List NV)) (hc : SortContract alg) (less : NV → NV → Bool)
    (hless : ∀ items : List NV, (items.map (·.name)).Nodup → OrderOn (· ∈ items) less)
    (c₁ c₂ : Counter) (hobs : ∀ k, aget c₁.items k = aget c₂.items k) (herr : c₁.errors = c₂.errors)
    (hn₁ : (akeys c₁.items).Nodup) (hn₂ : (akeys c₂.items).Nodup)
    (o₁ o₂ : List Bytes) (r₁ : IsRangeOf o₁ c₁.items) (r₂ : IsRangeOf o₂ c₂.items)
    (num : Nat) (atLeast : Int) (all : Bool) (k : Counters) (readErrors : Int) :
    histoCmd (sortOf alg) less o₂ num atLeast all c₂ k readErrors = histoCmd isortFn less o₁ num atLeast all c₁ k readErrors := by
  have hlen : c₁.items.length = c₂.items.length :=
    length_eq_of_same_keys _ _ hn₁ hn₂ (fun k => by rw [hobs])
  have hs := fun n => histoShown_det alg hc less hless c₁ c₂ hobs o₁ o₂ r₁ r₂ n atLeast
  have hp : o₂.Perm o₁ := range_perm r₂ r₁ (fun k => by rw [hobs])
  have e2 := sorted_rows_eq alg hc nvValueLess nvValueLess_order o₁ o₂ (fun k => (aget c₁.items k).getD 0)
    (fun k => (aget c₂.items k).getD 0) r₁.1 hp (fun k _ => by rw [hobs])
  have hcsv : counterCsvRows (sortOf alg) o₂ c₂ = counterCsvRows isortFn o₁ c₁ := by
    simp only [counterCsvRows, counterRows, e2, isortFn]
  simp only [histoCmd, hs, hcsv, herr, hlen]

/-- the keys of both maps of a table are duplicate-free (they are Go maps) -/
def KeysNodup (t : Table) : Prop := (akeys t.rows).Nodup ∧ (akeys t.cols).Nodup

/-- `tabulateFunction` / `heatmapFunction` / `sparkFunction`: two tables with the same row names, column names and parse-error
count whose CSV rows agree give the same complete result. -/
theorem tableCmd_det {srt : SortFn} {co₁ co₂ ro₁ ro₂ : List Bytes} (t₁ t₂ : Table)
    (hrows : ∀ r, (aget t₁.rows r).isSome = (aget t₂.rows r).isSome)
    (hcols : ∀ c, (aget t₁.cols c).isSome = (aget t₂.cols c).isSome) (herr : t₁.errors = t₂.errors)
    (hn₁ : KeysNodup t₁) (hn₂ : KeysNodup t₂)
    (hcsv : tableCsvRows srt co₁ ro₁ t₁ = tableCsvRows isortFn co₂ ro₂ t₂) (k : Counters) (readErrors : Int) :
    tableCmd srt co₁ ro₁ t₁ k readErrors = tableCmd isortFn co₂ ro₂ t₂ k readErrors := by
  have hr := length_eq_of_same_keys _ _ hn₁.1 hn₂.1 hrows
  have hcl := length_eq_of_same_keys _ _ hn₁.2 hn₂.2 hcols
  simp only [tableCmd, hcsv, herr, hr, hcl]

end Rare.C03

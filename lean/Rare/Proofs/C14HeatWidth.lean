import Rare.Proofs.C14BarGraph
/-!
# C14: the visible width of a whole heatmap row

A drawn heatmap row (`IsHeatRow`: the coloured key, at least one blank, one cell per displayed column) is
exactly `StrLen(key) + blanks + columns` cells wide – colour on or off, unicode or ASCII, multi-byte keys,
keys with (terminated) colour sequences.
-/
namespace Rare.C14
open Rare Rare.C20

/-- visible widths add up after a self-delimiting text that does not end inside a colour sequence -/
theorem strLen_append_clean (env : Env) (a b : Bytes) (ha : Clean a) (ht : Terminated env a) :
    strLen env (a ++ b) = strLen env a + strLen env b := by
  unfold strLen
  rw [ha b]
  by_cases hcol : env.color
  · simp only [hcol, Bool.not_true, Bool.false_eq_true, if_false]
    rw [strLenGo_append, ht hcol, strLenGo_acc]
    omega
  · simp only [hcol, Bool.not_false, if_true, List.length_append]
    omega

theorem terminated_append (env : Env) (a b : Bytes) (ha : Clean a) (hta : Terminated env a) (htb : Terminated env b) :
    Terminated env (a ++ b) := by
  intro hc
  rw [ha b, codeState_append, hta hc, htb hc]

theorem clean_ite (c : Prop) [Decidable c] (a b : Bytes) (ha : Clean a) (hb : Clean b) : Clean (if c then a else b) := by
  split <;> assumption

theorem clean_encodeRune (r : Nat) (h : validScalar r) : Clean (encodeRune r) := by
  have := Clean.encode [r] (by intro x hx; simp at hx; subst hx; exact h)
  simpa [encodeUtf8] using this

/-- a text followed by nothing or by the reset sequence decodes separately, whatever the text ends with -/
theorem decode_append_reset (key tail : Bytes) (h : tail = [] ∨ tail = cReset) :
    decodeUtf8 (key ++ tail) = decodeUtf8 key ++ decodeUtf8 tail := by
  rcases h with rfl | rfl
  · simp [decodeUtf8_nil]
  · have e : cReset = 27 :: ascii "[0m" := rfl
    rw [e, decodeUtf8_before_ascii key 27 (by decide), decodeUtf8_ascii 27 (by decide)]

/-- a colour code as `color.Wrap` is given: ASCII, no visible cell, and the scanner is outside a sequence after it -/
def IsSgr (col : Bytes) : Prop :=
  (∀ x ∈ col, x.toNat < 0x80) ∧ codeState false (col.map (·.toNat)) = false ∧ strLenGo false (col.map (·.toNat)) 0 = 0

/-- `color.Wrap(col, text)`: as wide as the text, and it does not end inside a colour sequence – for every text that
does not -/
theorem wrap_props (env : Env) {col : Bytes} (hcol : IsSgr col) (key : Bytes) (ht : Terminated env key) :
    strLen env (wrap env col key) = strLen env key ∧ Terminated env (wrap env col key) := by
  obtain ⟨hy, y1, y0⟩ := hcol
  by_cases hc : env.color
  · have hw : ∃ tail, (tail = [] ∨ tail = cReset) ∧ wrap env col key = col ++ (key ++ tail) := by
      unfold wrap
      simp only [hc, Bool.not_true, Bool.false_eq_true, if_false]
      split
      · exact ⟨cReset, Or.inr rfl, by simp [List.append_assoc]⟩
      · exact ⟨[], Or.inl rfl, by simp⟩
    obtain ⟨tail, htail, hw⟩ := hw
    have hd : decodeUtf8 (wrap env col key) = col.map (·.toNat) ++ (decodeUtf8 key ++ decodeUtf8 tail) := by
      rw [hw, decodeUtf8_asciiList col hy, decode_append_reset key tail htail]
    have y2 : ∀ n, strLenGo false (col.map (·.toNat)) n = n := by
      intro n; rw [strLenGo_acc]; omega
    have t1 : codeState false (decodeUtf8 tail) = false := by
      rcases htail with rfl | rfl
      · rfl
      · decide +kernel
    have t2 : ∀ n, strLenGo false (decodeUtf8 tail) n = n := by
      intro n; rw [strLenGo_acc]
      have : strLenGo false (decodeUtf8 tail) 0 = 0 := by
        rcases htail with rfl | rfl
        · rfl
        · decide +kernel
      omega
    have hk := ht hc
    constructor
    · unfold strLen
      simp only [hc, Bool.not_true, Bool.false_eq_true, if_false]
      rw [hd, strLenGo_append, y1, y2, strLenGo_append, hk, t2]
    · intro _
      rw [hd, codeState_append, y1, codeState_append, hk, t1]
  · have : wrap env col key = key := by unfold wrap; simp [hc]
    rw [this]; exact ⟨rfl, ht⟩

theorem sgr_yellow : IsSgr cYellow := by unfold IsSgr; decide +kernel

/-- a heat cell is self-delimiting, does not end inside a colour sequence, and is one cell wide -/
theorem heatCell_props (env : Env) (c : Bytes) (h : IsHeatCell env c) : Clean c ∧ Terminated env c ∧ strLen env c = 1 := by
  rcases h with h | ⟨hc, hhc, rfl⟩
  · have : ∀ c ∈ heatmapAscii, (∀ x ∈ c, x.toNat < 0x80) ∧ codeState false (decodeUtf8 c) = false ∧ strLen env c = 1 := by
      obtain ⟨col, uni⟩ := env
      cases col <;> cases uni <;> decide +kernel
    obtain ⟨a, t, w⟩ := this c h
    exact ⟨Clean.asciiList c a, fun _ => t, w⟩
  · have hsgr : ∀ hc ∈ heatmapColors, IsSgr hc := by unfold IsSgr; decide +kernel
    have hblk : validScalar (if env.unicode then fullBlock else heatmapNonUnicode) ∧
        Terminated env (encodeRune (if env.unicode then fullBlock else heatmapNonUnicode)) ∧
        strLen env (encodeRune (if env.unicode then fullBlock else heatmapNonUnicode)) = 1 := by
      obtain ⟨col, uni⟩ := env
      cases col <;> cases uni <;> exact ⟨by decide, fun _ => by decide +kernel, by decide +kernel⟩
    obtain ⟨w, t⟩ := wrap_props env (hsgr hc hhc) _ hblk.2.1
    refine ⟨?_, t, by rw [w, hblk.2.2]⟩
    unfold wrap
    by_cases hcol : env.color
    · simp only [hcol, Bool.not_true, Bool.false_eq_true, if_false]
      apply Clean.append (Clean.append (Clean.asciiList hc (hsgr hc hhc).1) (clean_encodeRune _ hblk.1))
      have hr : IsAscii cReset := by
        have : ∀ x ∈ cReset, x.toNat < 0x80 := by decide +kernel
        exact this
      exact clean_ite _ _ _ (Clean.asciiList cReset hr) Clean.nil
    · simp only [hcol, Bool.not_false, if_true]
      exact clean_encodeRune _ hblk.1

theorem strLen_cells (env : Env) : ∀ cells : List Bytes, (∀ c ∈ cells, IsHeatCell env c) → strLen env cells.flatten = cells.length := by
  intro cells
  induction cells with
  | nil => intro _; simp [strLen_nil]
  | cons c rest ih =>
    intro h
    obtain ⟨hc, ht, hw⟩ := heatCell_props env c (h c (by simp))
    rw [List.flatten_cons, strLen_append_clean env c _ hc ht, hw, ih (fun x hx => h x (by simp [hx]))]
    simp; omega

/-- THE ROW: key, `pad ≥ 1` blanks, one heat cell per displayed column – `StrLen(key) + pad + columns` cells wide -/
theorem heatRow_width (env : Env) (key : Bytes) (pad : Nat) (cells : List Bytes) (ht : Terminated env key)
    (hcells : ∀ c ∈ cells, IsHeatCell env c) :
    strLen env (wrap env cYellow key ++ writeRepeat 32 ((pad + 1 : Nat) : Int) ++ cells.flatten) = strLen env key + (pad + 1 : Nat) + cells.length := by
  obtain ⟨w, t⟩ := wrap_props env sgr_yellow key ht
  rw [writeRepeat_byte (x := 32) (by decide), strLen_fill_append env 32 (by decide) (by decide) _ pad _ t, w, strLen_cells env cells hcells]

end Rare.C14

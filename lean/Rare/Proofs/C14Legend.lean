import Rare.Proofs.C14Unit
/-!
# C14 – the legend line of the heatmap (`Heatmap.UpdateMinMax`, `Scaler.ScaleKeys`)

Line 0 of a heatmap is the key for reading it: up to six `cell number` pairs, the numbers being `ScaleKeys(6, min, max)` –
six equidistant points of the MAPPED range mapped back (`unmapVal`) and truncated to int64, consecutive duplicates dropped.

* `scaleKeys` as a structural recursion (`dedupFrom`), its length, "no two neighbours equal", what the first and last key are;
* the legend line for every float instance satisfying `UnitLaws` (`heat_legend_line_u`);
* over exact rationals, linear scale (the default): the keys are strictly increasing from `min` to `max`.
-/
namespace Rare.C14
open Rare Rare.C20

/-- the loop of `ScaleKeys` seen from the last kept value: `if i == 0 || ret[len(ret)-1] != val { ret = append(ret, val) }` -/
def dedupFrom : Option Int → List Int → List Int
  | _, [] => []
  | last, v :: l => if last = some v then dedupFrom last l else v :: dedupFrom (some v) l

/-- the six raw values of the legend before duplicates are dropped -/
def rawKeys {α : Type} (A : Arith α) (k : Scaler) (buckets min max : Int) : List Int :=
  (List.range buckets.toNat).map fun (i : Nat) =>
    A.trunc (unmapVal A k (A.add (A.div (A.mul (A.sub (remapMinMax A k min max).2 (remapMinMax A k min max).1) (A.ofInt i)) (A.ofInt (buckets - 1)))
      (remapMinMax A k min max).1))

theorem getLast?_append_one (acc : List Int) (v : Int) : (acc ++ [v]).getLast? = some v := by simp

theorem dedup_fold (l : List Int) : ∀ (acc : List Int),
    l.foldl (fun acc v => if acc.isEmpty || acc.getLast? != some v then acc ++ [v] else acc) acc = acc ++ dedupFrom acc.getLast? l := by
  induction l with
  | nil => intro acc; simp [dedupFrom]
  | cons v l ih =>
    intro acc
    simp only [List.foldl_cons]
    by_cases hl : acc.getLast? = some v
    · have hne : acc.isEmpty = false := by
        cases acc with
        | nil => simp at hl
        | cons a t => rfl
      rw [show (if (acc.isEmpty || acc.getLast? != some v) = true then acc ++ [v] else acc) = acc by simp [hne, hl]]
      rw [ih acc]
      simp [dedupFrom, hl]
    · rw [show (if (acc.isEmpty || acc.getLast? != some v) = true then acc ++ [v] else acc) = acc ++ [v] by simp [hl]]
      rw [ih (acc ++ [v]), getLast?_append_one]
      simp [dedupFrom, hl]

/-- `ScaleKeys` is the raw values with consecutive duplicates dropped -/
theorem scaleKeys_eq {α : Type} (A : Arith α) (k : Scaler) (buckets min max : Int) :
    scaleKeys A k buckets min max = dedupFrom none (rawKeys A k buckets min max) := by
  have := dedup_fold (rawKeys A k buckets min max) []
  simp only [List.getLast?_nil, List.nil_append] at this
  rw [← this]
  rfl

theorem dedupFrom_length (l : List Int) : ∀ last, (dedupFrom last l).length ≤ l.length := by
  induction l with
  | nil => intro _; simp [dedupFrom]
  | cons v l ih =>
    intro last
    unfold dedupFrom
    split
    · have := ih last; simp; omega
    · have := ih (some v); simp; omega

theorem dedupFrom_head (l : List Int) : ∀ last x, (dedupFrom last l).head? = some x → last ≠ some x := by
  induction l with
  | nil => intro _ _ h; simp [dedupFrom] at h
  | cons v l ih =>
    intro last x h
    unfold dedupFrom at h
    split at h
    · exact ih last x h
    · rename_i hne
      simp at h; subst h; exact hne

/-- no two neighbours of the result are equal -/
theorem dedupFrom_adjacent (l : List Int) : ∀ last (i : Nat) (a b : Int),
    (dedupFrom last l)[i]? = some a → (dedupFrom last l)[i + 1]? = some b → a ≠ b := by
  induction l with
  | nil => intro _ _ _ _ h; simp [dedupFrom] at h
  | cons v l ih =>
    intro last i a b ha hb
    unfold dedupFrom at ha hb
    split at ha
    · rename_i he
      rw [if_pos he] at hb
      exact ih last i a b ha hb
    · rename_i hne
      rw [if_neg hne] at hb
      cases i with
      | zero =>
        simp at ha hb
        intro e
        have hb' : (dedupFrom (some v) l).head? = some b := by rw [List.head?_eq_getElem?]; exact hb
        exact dedupFrom_head l (some v) b hb' (by rw [ha, e])
      | succ i =>
        simp only [List.getElem?_cons_succ] at ha hb
        exact ih (some v) i a b ha hb

/-- every kept value is one of the raw values -/
theorem dedupFrom_mem (l : List Int) : ∀ last x, x ∈ dedupFrom last l → x ∈ l := by
  induction l with
  | nil => intro _ _ h; simp [dedupFrom] at h
  | cons v l ih =>
    intro last x h
    unfold dedupFrom at h
    split at h
    · exact List.mem_cons_of_mem _ (ih last x h)
    · rcases List.mem_cons.mp h with rfl | h
      · simp
      · exact List.mem_cons_of_mem _ (ih _ x h)

/-- from nothing, the first raw value is kept -/
theorem dedupFrom_none_head (v : Int) (l : List Int) : (dedupFrom none (v :: l)).head? = some v := by
  simp [dedupFrom]

/-- the last raw value is always the last key (it is either appended or equal to the key before it) -/
theorem dedupFrom_getLast (l : List Int) : ∀ last, l ≠ [] → (last.toList ++ dedupFrom last l).getLast? = l.getLast? := by
  induction l with
  | nil => intro _ h; exact absurd rfl h
  | cons v l ih =>
    intro last _
    unfold dedupFrom
    by_cases he : last = some v
    · rw [if_pos he]
      cases l with
      | nil => subst he; simp [dedupFrom]
      | cons w t => rw [ih last (by simp)]; simp
    · rw [if_neg he]
      cases l with
      | nil => simp [dedupFrom]
      | cons w t =>
        have := ih (some v) (by simp)
        simp only [Option.toList_some, List.singleton_append] at this
        have e : (last.toList ++ v :: dedupFrom (some v) (w :: t)).getLast? = (v :: dedupFrom (some v) (w :: t)).getLast? := by
          rw [List.getLast?_append, List.getLast?_cons]
          rfl
        rw [e, this]
        simp

/-- a non-decreasing list comes out strictly increasing, above the last kept value -/
theorem dedupFrom_sorted (l : List Int) : ∀ (last : Option Int), l.Pairwise (· ≤ ·) → (∀ a, last = some a → ∀ x ∈ l, a ≤ x) →
    (dedupFrom last l).Pairwise (· < ·) ∧ (∀ a, last = some a → ∀ x ∈ dedupFrom last l, a < x) := by
  induction l with
  | nil => intro _ _ _; simp [dedupFrom]
  | cons v l ih =>
    intro last hs hl
    have hs' := List.pairwise_cons.mp hs
    unfold dedupFrom
    by_cases he : last = some v
    · rw [if_pos he]
      exact ih last hs'.2 (fun a ha x hx => hl a ha x (List.mem_cons_of_mem _ hx))
    · rw [if_neg he]
      obtain ⟨p1, p2⟩ := ih (some v) hs'.2 (fun a ha x hx => by cases ha; exact hs'.1 x hx)
      refine ⟨List.pairwise_cons.mpr ⟨fun x hx => p2 v rfl x hx, p1⟩, ?_⟩
      intro a ha x hx
      have hav : a < v := by
        have := hl a ha v (by simp)
        have hne : a ≠ v := fun e => he (by rw [ha, e])
        omega
      rcases List.mem_cons.mp hx with rfl | hx
      · exact hav
      · have := p2 v rfl x hx; omega

/-! ### `ScaleKeys` for any instance -/

theorem rawKeys_length {α : Type} (A : Arith α) (k : Scaler) (buckets min max : Int) : (rawKeys A k buckets min max).length = buckets.toNat := by
  simp [rawKeys]

/-- `ScaleKeys(buckets ≥ 1, …)`: at least one key, at most `buckets`, no two neighbours equal -/
theorem scaleKeys_shape {α : Type} (A : Arith α) (k : Scaler) (buckets min max : Int) (hb : 1 ≤ buckets) :
    1 ≤ (scaleKeys A k buckets min max).length ∧ ((scaleKeys A k buckets min max).length : Int) ≤ buckets ∧
    (∀ (i : Nat) (a b : Int), (scaleKeys A k buckets min max)[i]? = some a → (scaleKeys A k buckets min max)[i + 1]? = some b → a ≠ b) ∧
    (scaleKeys A k buckets min max).head? = (rawKeys A k buckets min max).head? ∧
    (scaleKeys A k buckets min max).getLast? = (rawKeys A k buckets min max).getLast? := by
  rw [scaleKeys_eq]
  have hlen := rawKeys_length A k buckets min max
  have hne : rawKeys A k buckets min max ≠ [] := by
    intro e; rw [e] at hlen; simp at hlen; omega
  have hlast := dedupFrom_getLast (rawKeys A k buckets min max) none hne
  simp only [Option.toList_none, List.nil_append] at hlast
  refine ⟨?_, ?_, dedupFrom_adjacent _ none, ?_, hlast⟩
  · cases hr : rawKeys A k buckets min max with
    | nil => exact absurd hr hne
    | cons v l => simp [dedupFrom]
  · have := dedupFrom_length (rawKeys A k buckets min max) none
    omega
  · cases hr : rawKeys A k buckets min max with
    | nil => exact absurd hr hne
    | cons v l => simp [dedupFrom]

/-- a legend whose six raw values are non-decreasing: the keys are strictly increasing, from the first raw value to the last -/
theorem scaleKeys_of_mono {α : Type} {A : Arith α} {k : Scaler} {mn mx : Int} {f : Nat → Int}
    (hraw : rawKeys A k 6 mn mx = (List.range 6).map f) (hmono : ∀ {i j : Nat}, i ≤ j → j ≤ 5 → f i ≤ f j) :
    (scaleKeys A k 6 mn mx).Pairwise (· < ·) ∧ (scaleKeys A k 6 mn mx).head? = some (f 0) ∧
    (scaleKeys A k 6 mn mx).getLast? = some (f 5) ∧ ∀ x ∈ scaleKeys A k 6 mn mx, f 0 ≤ x ∧ x ≤ f 5 := by
  obtain ⟨_, _, _, hh, hl⟩ := scaleKeys_shape A k 6 mn mx (by decide)
  have hr6 : List.range 6 = [0, 1, 2, 3, 4, 5] := by decide
  have hsorted : (rawKeys A k 6 mn mx).Pairwise (· ≤ ·) := by
    rw [hraw, List.pairwise_map]
    have hp : (List.range 6).Pairwise (fun a b => a < b ∧ b < 6) := by rw [hr6]; decide
    exact List.Pairwise.imp (fun {a b} hab => hmono (Nat.le_of_lt hab.1) (by omega)) hp
  refine ⟨?_, ?_, ?_, ?_⟩
  · rw [scaleKeys_eq]
    exact (dedupFrom_sorted _ none hsorted (by intro a ha; cases ha)).1
  · rw [hh, hraw, hr6]; rfl
  · rw [hl, hraw, hr6]; rfl
  · intro x hx
    rw [scaleKeys_eq] at hx
    have := dedupFrom_mem _ none x hx
    rw [hraw] at this
    obtain ⟨i, hi, rfl⟩ := List.mem_map.mp this
    have hi' : i < 6 := List.mem_range.mp hi
    exact ⟨hmono (Nat.zero_le i) (by omega), hmono (show i ≤ 5 by omega) (Nat.le_refl 5)⟩

/-! ### the legend line -/

theorem mapM_ok_get {α β : Type} (f : α → Res β) (l : List α) (h : ∀ x ∈ l, ∃ y, f x = .ok y) :
    ∃ ys, l.mapM f = .ok ys ∧ ys.length = l.length ∧ ∀ (i : Nat) (x : α), l[i]? = some x → ∃ y, ys[i]? = some y ∧ f x = .ok y := by
  induction l with
  | nil => exact ⟨[], rfl, rfl, by intro i x h; simp at h⟩
  | cons x r ih =>
    obtain ⟨y, hy⟩ := h x (by simp)
    obtain ⟨ys, hys, hl, hget⟩ := ih (fun z hz => h z (by simp [hz]))
    refine ⟨y :: ys, by simp [List.mapM_cons, hy, hys, bind, Except.bind, pure, Except.pure], by simp [hl], ?_⟩
    intro i z hz
    cases i with
    | zero => simp at hz; subst hz; exact ⟨y, by simp, hy⟩
    | succ i => simpa using hget i z (by simpa using hz)

variable {α : Type} {A : Arith α} {Dom : Int → Prop} {Unit : α → Prop} {le : α → α → Prop}

/-- every legend key of `ScaleKeys` is an `int64(…)` result, hence in the domain -/
theorem dom_scaleKeys (U : UnitLaws A Dom Unit le) (k : Scaler) (buckets mn mx : Int) (x : Int) (hx : x ∈ scaleKeys A k buckets mn mx) : Dom x := by
  rw [scaleKeys_eq] at hx
  obtain ⟨i, _, rfl⟩ := List.mem_map.mp (dedupFrom_mem _ none x hx)
  exact U.dom_trunc _

/-- THE LEGEND LINE.  `Heatmap.UpdateMinMax(min, max)` (the first step of every `WriteTable`) returns and writes line 0:
the indentation of the row-key column, then for the `i`-th key `k` of `ScaleKeys(6, min, max)` – four blanks between
entries – ONE heat cell, the one `HeatWrite(Scale(k, min, max))` draws for a data cell of value `k`, a blank and
`Formatter(k, min, max)`.  Every key is a value of the domain (an `int64(…)` result). -/
theorem heat_legend_line_u (U : UnitLaws A Dom Unit le) (env : Env) (h : Heatmap) (vt : VirtualTerm) (ho : vt.closed = false)
    (mn mx : Int) (hmn : Dom mn) (hmx : Dom mx) :
    ∃ (vt' : VirtualTerm) (parts : List Bytes), h.updateMinMax A env vt mn mx = .ok ({ h with minVal := mn, maxVal := mx }, vt') ∧ vt'.closed = false ∧
      vt'.lines[0]? = some (writeRepeat 32 (h.maxRowKeyWidth + 1) ++ parts.flatten) ∧
      parts.length = (scaleKeys A h.scaler 6 mn mx).length ∧
      (∀ (i : Nat) (k : Int), (scaleKeys A h.scaler 6 mn mx)[i]? = some k →
        Dom k ∧ ∃ cell, heatWrite A env (scale A h.scaler k mn mx) = .ok cell ∧ IsHeatCell env cell ∧
          parts[i]? = some ((if i > 0 then ascii "    " else []) ++ cell ++ [32] ++ h.fmt.apply k mn mx)) ∧
      (∀ j x, j ≠ 0 → vt.lines[j]? = some x → vt'.lines[j]? = some x) := by
  unfold Heatmap.updateMinMax
  have hdomk : ∀ item ∈ scaleKeys A h.scaler 6 mn mx, Dom item := fun item hm => dom_scaleKeys U h.scaler 6 mn mx item hm
  obtain ⟨parts, hparts, hlen, hget⟩ := mapM_ok_get
    (fun (x : Int × Nat) =>
      match x with
      | (item, idx) => do
        let cell ← heatWrite A env (scale A h.scaler item mn mx)
        (pure ((if idx > 0 then ascii "    " else []) ++ cell ++ [32] ++ h.fmt.apply item mn mx) : Res Bytes))
    (scaleKeys A h.scaler 6 mn mx).zipIdx
    (by
      intro x hx
      obtain ⟨item, idx⟩ := x
      have hitem : Dom item := by
        have := List.mem_zipIdx hx
        obtain ⟨_, _, e⟩ := this
        exact hdomk item (by rw [e]; exact List.getElem_mem _)
      obtain ⟨cell, hcell, _⟩ := U.heatWrite_cell env (U.scale_unit h.scaler hitem hmn hmx)
      exact ⟨_, by simp only [hcell, bind, Except.bind]; rfl⟩)
  obtain ⟨vt', hw, ho', hline, hkeep⟩ := vt_write_ok vt ho 0 (writeRepeat 32 (h.maxRowKeyWidth + 1) ++ parts.flatten)
  refine ⟨vt', parts, ?_, ho', hline, by rw [hlen, List.length_zipIdx], ?_, hkeep⟩
  · simp only [bind, Except.bind] at hparts ⊢
    rw [hparts]
    simp only [Int.natCast_zero] at hw
    simp only [hw]
    rfl
  · intro i k hk
    have hz : (scaleKeys A h.scaler 6 mn mx).zipIdx[i]? = some (k, i) := by
      rw [List.getElem?_zipIdx, hk]; simp
    obtain ⟨y, hy, hf⟩ := hget i (k, i) hz
    have hdk := hdomk k (List.mem_of_getElem? hk)
    obtain ⟨cell, hcell, hic⟩ := U.heatWrite_cell env (U.scale_unit h.scaler hdk hmn hmx)
    refine ⟨hdk, cell, hcell, hic, ?_⟩
    simp only [hcell, bind, Except.bind, pure, Except.pure] at hf
    cases hf
    exact hy

/-! ### exact rationals, linear scale: the keys run from `min` to `max` -/

theorem ratTrunc_intCast (i : Int) : ratTrunc (i : Rat) = i := by
  unfold ratTrunc
  split
  · exact Rat.floor_intCast i
  · exact Rat.ceil_intCast i

theorem ratTrunc_mono {p q : Rat} (h : p ≤ q) : ratTrunc p ≤ ratTrunc q := by
  unfold ratTrunc
  by_cases hp : 0 ≤ p
  · have hq : 0 ≤ q := Rat.le_trans hp h
    rw [if_pos hp, if_pos hq]
    exact Rat.floor_monotone h
  · rw [if_neg hp]
    by_cases hq : 0 ≤ q
    · rw [if_pos hq]
      -- ceil p ≤ 0 ≤ floor q
      have h1 : p.ceil ≤ 0 := Rat.ceil_le_iff.mpr (by simpa using Rat.le_of_lt (Rat.not_le.mp hp))
      have h2 : 0 ≤ q.floor := Rat.le_floor_iff.mpr (by simpa using hq)
      omega
    · rw [if_neg hq]
      exact Rat.ceil_le_iff.mpr (Rat.le_trans h Rat.le_ceil)

/-- the `i`-th raw legend value over ℚ on the linear scale, `min < max` -/
theorem rawKeys_linear_rat (L2 L10 : Rat → Rat) (mn mx : Int) (hlt : mn < mx) :
    rawKeys (ratArith L2 L10) .linear 6 mn mx = (List.range 6).map fun (i : Nat) => ratTrunc ((((mx : Rat) - (mn : Rat)) * ((i : Int) : Rat)) / ((6 - 1 : Int) : Rat) + (mn : Rat)) := by
  have hr : remapMinMax (ratArith L2 L10) .linear mn mx = ((mn : Rat), (mx : Rat)) := by
    unfold remapMinMax
    have : ¬ mx ≤ mn := by omega
    simp only [this, if_false, mapVal, ratArith, Rat.floor_intCast, Rat.ceil_intCast]
  unfold rawKeys
  rw [hr]
  rfl

/-- the raw value number `i` of the linear legend over ℚ -/
def linKey (mn mx : Int) (i : Nat) : Int := ratTrunc ((((mx : Rat) - (mn : Rat)) * ((i : Int) : Rat)) / 5 + (mn : Rat))

theorem linKey_mono (mn mx : Int) (hlt : mn < mx) {i j : Nat} (h : i ≤ j) : linKey mn mx i ≤ linKey mn mx j := by
  unfold linKey
  apply ratTrunc_mono
  have hd : (0 : Rat) ≤ (mx : Rat) - (mn : Rat) := by
    have : (mn : Rat) ≤ (mx : Rat) := Rat.intCast_le_intCast.mpr (by omega)
    grind
  have hij : (((i : Int) : Rat)) ≤ (((j : Int) : Rat)) := Rat.intCast_le_intCast.mpr (by omega)
  have h1 := Rat.mul_le_mul_of_nonneg_left hij hd
  have h2 := div_le_div_right_pos h1 (c := 5) (by decide)
  grind

theorem linKey_zero (mn mx : Int) : linKey mn mx 0 = mn := by
  unfold linKey
  have : (((mx : Rat) - (mn : Rat)) * (((0 : Nat) : Int) : Rat)) / 5 + (mn : Rat) = (mn : Rat) := by
    simp [zero_div', Rat.zero_add]
  rw [this, ratTrunc_intCast]

theorem linKey_five (mn mx : Int) : linKey mn mx 5 = mx := by
  unfold linKey
  have : (((mx : Rat) - (mn : Rat)) * (((5 : Nat) : Int) : Rat)) / 5 + (mn : Rat) = (mx : Rat) := by
    have e : (((5 : Nat) : Int) : Rat) = 5 := by decide +kernel
    rw [e, Rat.div_def, Rat.mul_assoc, Rat.mul_inv_cancel 5 (by decide), Rat.mul_one]
    grind
  rw [this, ratTrunc_intCast]

/-- THE LINEAR LEGEND over exact rationals (`min < max`): the keys are STRICTLY INCREASING, the first is `min`, the last is
`max`, so every key lies in the range the heatmap is drawn with (its cell is a cell of the heatmap's own scale, coldest
first, hottest last) -/
theorem scaleKeys_linear_rat (L2 L10 : Rat → Rat) (mn mx : Int) (hlt : mn < mx) :
    (scaleKeys (ratArith L2 L10) .linear 6 mn mx).Pairwise (· < ·) ∧
    (scaleKeys (ratArith L2 L10) .linear 6 mn mx).head? = some mn ∧
    (scaleKeys (ratArith L2 L10) .linear 6 mn mx).getLast? = some mx ∧
    (∀ k ∈ scaleKeys (ratArith L2 L10) .linear 6 mn mx, mn ≤ k ∧ k ≤ mx) := by
  have h := scaleKeys_of_mono (f := linKey mn mx) (rawKeys_linear_rat L2 L10 mn mx hlt) fun hij _ => linKey_mono mn mx hlt hij
  rwa [linKey_zero, linKey_five] at h

/-- the legend text for a range: what `heat_legend_line_u` says line 0 is -/
def IsLegendLine (A : Arith α) (env : Env) (h : Heatmap) (mn mx : Int) (line : Bytes) : Prop :=
  ∃ parts : List Bytes, line = writeRepeat 32 (h.maxRowKeyWidth + 1) ++ parts.flatten ∧
    parts.length = (scaleKeys A h.scaler 6 mn mx).length ∧
    ∀ (i : Nat) (k : Int), (scaleKeys A h.scaler 6 mn mx)[i]? = some k →
      ∃ cell, heatWrite A env (scale A h.scaler k mn mx) = .ok cell ∧ IsHeatCell env cell ∧
        parts[i]? = some ((if i > 0 then ascii "    " else []) ++ cell ++ [32] ++ h.fmt.apply k mn mx)

end Rare.C14

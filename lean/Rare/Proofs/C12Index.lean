import Rare.Model.C12
import Rare.Proofs.C12Spec
/-! `indexIgnoreCase s low` (mirrored loops) is `strings.Index` on the byte-wise lowered `s`. -/
namespace Rare.C12

theorem firstIndex_of_length_le {n h : Bytes} (hl : h.length ≤ n.length) :
    firstIndex n h = if n.isPrefixOf h then some 0 else none := by
  cases h with
  | nil => cases n <;> simp [firstIndex]
  | cons c cs =>
    rw [firstIndex, firstIndex_none_of_short (show cs.length < n.length from hl)]
    rfl

theorem foldEq_eq (s low : Bytes) : foldEq s low = low.isPrefixOf (lower s) := by
  induction s generalizing low with
  | nil => cases low <;> simp [foldEq, lower]
  | cons c cs ih =>
    cases low with
    | nil => simp [foldEq]
    | cons l ls =>
      simp only [foldEq, lower, List.map_cons, List.isPrefixOf]
      have := ih ls
      simp only [lower] at this
      rw [this]
      by_cases h : lowerByte c = l
      · simp [h]
      · have h' : ¬ l = lowerByte c := fun e => h e.symm
        simp [h, h']

theorem icLoop_eq (low : Bytes) (rest : Bytes) (i : Nat) :
    icLoop low low.length rest i =
      match firstIndex low (lower rest) with
      | some k => ((i + k : Nat) : Int)
      | none => -1 := by
  induction rest generalizing i with
  | nil =>
    simp only [icLoop, lower, List.map_nil, firstIndex]
    cases low with
    | nil => simp [foldEq]
    | cons l ls => simp
  | cons c cs ih =>
    simp only [icLoop]
    split
    · rename_i hlt
      rw [firstIndex_none_of_short (by simpa [lower_length] using hlt)]
    · rw [foldEq_eq]
      simp only [lower, List.map_cons, firstIndex]
      split
      · simp
      · rw [ih (i + 1)]
        simp only [lower]
        cases firstIndex low (List.map lowerByte cs) with
        | none => simp
        | some k => simp only [Option.map_some]; congr 1; omega

theorem indexIgnoreCase_eq (s low : Bytes) : indexIgnoreCase s low = stringsIndex (lower s) low := by
  simp only [indexIgnoreCase, stringsIndex]
  split
  · rename_i h0
    have : low = [] := List.length_eq_zero_iff.mp h0
    subst this; simp [firstIndex_nil]
  · split
    · rename_i hlt
      rw [firstIndex_none_of_short (by simpa [lower_length] using hlt)]
    · split
      · rename_i heq
        rw [foldEq_eq, firstIndex_of_length_le (by rw [lower_length]; omega)]
        split <;> rfl
      · rw [icLoop_eq]
        cases firstIndex low (lower s) <;> simp

/-- the fold a mode applies to both sides before bytes are compared -/
def foldFor (ic : Bool) (b : Bytes) : Bytes := if ic then lower b else b

theorem foldFor_length (ic : Bool) (b : Bytes) : (foldFor ic b).length = b.length := by
  cases ic <;> simp [foldFor, lower_length]

theorem foldFor_take (ic : Bool) (b : Bytes) (k : Nat) : foldFor ic (b.take k) = (foldFor ic b).take k := by
  cases ic <;> simp [foldFor, lower_take]

theorem foldFor_drop (ic : Bool) (b : Bytes) (k : Nat) : foldFor ic (b.drop k) = (foldFor ic b).drop k := by
  cases ic <;> simp [foldFor, lower_drop]

theorem foldFor_append (ic : Bool) (a b : Bytes) : foldFor ic (a ++ b) = foldFor ic a ++ foldFor ic b := by
  cases ic <;> simp [foldFor, lower]

/-- the installed search function, uniformly: search the line as the mode compares it -/
theorem indexOf_eq (d : Dissect) (src of_ : Bytes) :
    d.indexOf src of_ = stringsIndex (foldFor d.ic src) of_ := by
  simp only [Dissect.indexOf, foldFor]
  split <;> simp [indexIgnoreCase_eq]

end Rare.C12

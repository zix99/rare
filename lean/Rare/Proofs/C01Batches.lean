import Rare.Proofs.Pipeline
/-!
C01: what travels on the match channel.  For ANY number of workers, every batch of matches a worker hands to the
consumer is the in-order list of the matched lines of ONE input batch (the worker collects `matchBatch` while it
walks one `InputBatch` and sends it iff it is not empty) – workers may overtake each other (Proofs/C01Order), but
inside a delivered batch the order of the source is kept and no line of another batch is mixed in.
-/
namespace Rare.Pipeline
variable {α : Type}

def SrcSt.batches : SrcSt α → List (List α)
  | .waiting bs => bs
  | .active bs => bs
  | .done => []

/-- invariant: every batch in flight is an input batch (`A`), a busy worker is somewhere inside one, every match
    batch on `rc` is the non-empty matched sublist of one -/
structure BatchInv (cls : α → Cls) (A : List (List α)) (s : St α) : Prop where
  srcs : ∀ (i : Nat) (st : SrcSt α), s.srcs[i]? = some st → ∀ b ∈ st.batches, b ∈ A
  c : ∀ b ∈ s.c, b ∈ A
  workers : ∀ (j : Nat) (todo acc : List α), s.workers[j]? = some (WSt.busy todo acc) →
    ∃ b ∈ A, acc ++ todo.filter (isMatched cls) = b.filter (isMatched cls)
  rc : ∀ mb ∈ s.rc, mb ≠ [] ∧ ∃ b ∈ A, mb = b.filter (isMatched cls)

theorem getElem?_set_cases {β : Type} {l : List β} {i j : Nat} {a b : β} (h : (l.set i a)[j]? = some b) :
    (i = j ∧ b = a) ∨ (i ≠ j ∧ l[j]? = some b) := by
  by_cases hij : i = j
  · subst hij
    rw [List.getElem?_set] at h
    split at h
    · split at h
      · left; exact ⟨rfl, by cases h; rfl⟩
      · cases h
    · exact absurd rfl ‹_›
  · right; rw [List.getElem?_set_ne hij] at h; exact ⟨hij, h⟩

theorem BatchInv.srcs_set {cls : α → Cls} {A : List (List α)} {s : St α} (hi : BatchInv cls A s) (i : Nat)
    (st' : SrcSt α) (h : ∀ b ∈ st'.batches, b ∈ A) :
    ∀ (k : Nat) (st : SrcSt α), (s.srcs.set i st')[k]? = some st → ∀ b ∈ st.batches, b ∈ A := by
  intro k st hk
  rcases getElem?_set_cases hk with ⟨_, rfl⟩ | ⟨_, hk'⟩
  · exact h
  · exact hi.srcs k st hk'

theorem BatchInv.workers_set {cls : α → Cls} {A : List (List α)} {s : St α} (hi : BatchInv cls A s) (j : Nat)
    (w : WSt α) (h : ∀ todo acc, w = .busy todo acc →
      ∃ b ∈ A, acc ++ todo.filter (isMatched cls) = b.filter (isMatched cls)) :
    ∀ (k : Nat) (todo acc : List α), (s.workers.set j w)[k]? = some (WSt.busy todo acc) →
      ∃ b ∈ A, acc ++ todo.filter (isMatched cls) = b.filter (isMatched cls) := by
  intro k todo acc hk
  rcases getElem?_set_cases hk with ⟨_, he⟩ | ⟨_, hk'⟩
  · exact h todo acc he.symm
  · exact hi.workers k todo acc hk'

theorem batchInv_step (cls : α → Cls) (A : List (List α)) {R B K : Nat} {s s' : St α} (h : Step cls R B K s s')
    (hi : BatchInv cls A s) : BatchInv cls A s' := by
  cases h with
  | start i bs h1 h2 => exact ⟨hi.srcs_set i _ (hi.srcs i (.waiting bs) h1), hi.c, hi.workers, hi.rc⟩
  | send i b bs h1 h2 =>
    refine ⟨hi.srcs_set i _ fun b' hb' => hi.srcs i _ h1 b' (List.mem_cons_of_mem _ hb'), ?_, hi.workers, hi.rc⟩
    intro b' hb'
    rcases List.mem_append.mp hb' with hb' | hb'
    · exact hi.c b' hb'
    · rw [List.mem_singleton.mp hb']
      exact hi.srcs i _ h1 b List.mem_cons_self
  | finish i h1 => exact ⟨hi.srcs_set i .done (fun _ hb => nomatch hb), hi.c, hi.workers, hi.rc⟩
  | closeC h1 h2 => exact ⟨hi.srcs, hi.c, hi.workers, hi.rc⟩
  | wrecv j b rest h1 h2 =>
    refine ⟨hi.srcs, fun b' hb' => hi.c b' (by rw [h2]; exact List.mem_cons_of_mem _ hb'), ?_, hi.rc⟩
    refine hi.workers_set j _ fun todo acc he => ?_
    cases he
    exact ⟨b, hi.c b (by rw [h2]; exact List.mem_cons_self), rfl⟩
  | wproc j x todo acc h1 =>
    refine ⟨hi.srcs, hi.c, hi.workers_set j _ fun todo' acc' he => ?_, hi.rc⟩
    cases he
    obtain ⟨b, hb, he⟩ := hi.workers j _ _ h1
    refine ⟨b, hb, ?_⟩
    rw [← he]
    by_cases hx : cls x = .matched <;> simp [hx, isMatched]
  | wsend j acc h1 h2 h3 =>
    refine ⟨hi.srcs, hi.c, hi.workers_set j _ (fun _ _ he => nomatch he), ?_⟩
    intro mb hmb
    rcases List.mem_append.mp hmb with hmb | hmb
    · exact hi.rc mb hmb
    · obtain ⟨b, hb, he⟩ := hi.workers j _ _ h1
      rw [List.mem_singleton.mp hmb]
      exact ⟨h2, b, hb, by simpa using he⟩
  | wskip j h1 => exact ⟨hi.srcs, hi.c, hi.workers_set j _ (fun _ _ he => nomatch he), hi.rc⟩
  | wexit j h1 h2 h3 => exact ⟨hi.srcs, hi.c, hi.workers_set j _ (fun _ _ he => nomatch he), hi.rc⟩
  | closeRC h1 h2 => exact ⟨hi.srcs, hi.c, hi.workers, hi.rc⟩
  | crecv m rest h1 h2 =>
    exact ⟨hi.srcs, hi.c, hi.workers, fun mb hmb => hi.rc mb (by rw [h1]; exact List.mem_cons_of_mem _ hmb)⟩
  | cdone h1 h2 h3 => exact ⟨hi.srcs, hi.c, hi.workers, hi.rc⟩

theorem batchInv_init (cls : α → Cls) (inputs : List (List (List α))) (W : Nat) :
    BatchInv cls inputs.flatten (init inputs W) := by
  refine ⟨?_, by simp [init], ?_, by simp [init]⟩
  · intro i st hst b hb
    simp only [init, List.getElem?_map, Option.map_eq_some_iff] at hst
    obtain ⟨bs, hbs, rfl⟩ := hst
    exact List.mem_flatten.mpr ⟨bs, List.mem_of_getElem? hbs, hb⟩
  · intro j todo acc hj
    simp only [init] at hj
    rw [List.getElem?_replicate] at hj
    split at hj <;> cases hj

theorem batchInv_reach (cls : α → Cls) {R B K : Nat} (inputs : List (List (List α))) (W : Nat) {s : St α}
    (hr : Reach cls R B K (init inputs W) s) : BatchInv cls inputs.flatten s := by
  induction hr with
  | refl => exact batchInv_init cls inputs W
  | step _ hs ih => exact batchInv_step cls _ hs ih

end Rare.Pipeline
